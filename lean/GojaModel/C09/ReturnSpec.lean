/-
  C09 — the selectors of Link.lean against the spec machine: a frame `specThrowHandler` passes over is popped by one step, and a
  throw for which it finds no handler unwinds the whole continuation.  The latter is the spec side of "return(v) closes an
  iterator whose return() throws": the error replaces the return completion (§7.4.11 IteratorClose) and, if no handler of the
  body takes it, the driver call throws it and the generator completes.  That the machine reaches the continuation
  `specAfterThrow` names when a handler is found is not proved.
-/
import GojaModel.C09.Lemmas
import GojaModel.C09.Link

namespace GojaModel.C09
open Link

/-- Sanity link of the selector to the machine, for frames that are neither try frames nor hold an iterator: what
`specThrowHandler` passes over, `stepAbrupt` pops. -/
theorem Link.specThrowHandler_pops (v : Val) (env : List Val) (f : Frame) (k : List Frame)
    (hf : ¬ tryish f = true) (hfo : ¬ isForOf f = true) :
    specThrowHandler (f :: k) = specThrowHandler k ∧
    ∃ ev, step { ctl := .abrupt (.thr v), env := env, k := f :: k } = .cont { ctl := .abrupt (.thr v), env := env, k := k } ev := by
  cases f <;> first | exact ⟨rfl, _, rfl⟩ | exact absurd rfl hf | exact absurd rfl hfo

/-- The log an UNCAUGHT throw produces while it leaves the generator.  `.1` only: an error of an iterator's `return()` does not
replace a throw. -/
def thrLogs : List Frame → List Event
  | [] => []
  | .forOfK _ _ it _ :: k => (iterClose it).1 ++ thrLogs k
  | _ :: k => thrLogs k

theorem unwind_thr_uncaught (e : Val) (k : List Frame) (env : List Val) (h : specThrowHandler k = none) :
    Reach { ctl := .abrupt (.thr e), env := env, k := k } (thrLogs k) { ctl := .abrupt (.thr e), env := env, k := [] } := by
  induction k with
  | nil => exact Reach.refl _
  | cons f k ih =>
    cases f with
    | tryK cc fin =>
      cases cc with
      | some c => cases h
      | none =>
        cases fin with
        | some fb => cases h
        | none => exact Reach.cons (ev := []) rfl (ih h)
    | catchK fin =>
      cases fin with
      | some fb => cases h
      | none => exact Reach.cons (ev := []) rfl (ih h)
    | forOfK l x it body =>
      refine Reach.cons ?_ (ih h)
      rw [abrupt_forOfK_leave (by nofun)]
      cases (iterClose it).2 <;> rfl
    | _ => exact Reach.cons (ev := []) rfl (ih h)

end GojaModel.C09
