/-
  C09 — async functions: model of goja's `asyncRunner` (func.go:692-765) over a promise job queue and the spec generator `genCall`, and the
  theorem that it is the generator state machine driven by promise reactions.

  `await e` suspends the body exactly like `yield e` (`resultAwait`); `asyncRunner.step` (func.go:721) resolves the
  awaited value to a promise and registers two reactions: fulfilled → `onFulfilled` → `gen.next(value)`,
  rejected → `onRejected` → `gen.nextThrow(reason)`.  A reaction becomes a JOB (FIFO queue) when its promise is
  settled: at once if the promise is already settled, later (when the host settles it) otherwise.
  Model: `ARun` = generator state + promise capability + job queue + reactions parked on pending promises +
  the script of what each awaited promise will do.  Core Lean only.
-/
import GojaModel.C09.Model

namespace GojaModel.C09.Async
open GojaModel.C09

inductive Settle where
  | now      -- the awaited promise is already settled (or a non-promise / thenable resolved in a job of its own)
  | later    -- settled by the host after the job queue has drained
deriving DecidableEq, Repr, Inhabited

/-- What the promise awaited at one `await` does. -/
structure Awaited where
  reject : Bool
  payload : Val
  settle : Settle
deriving DecidableEq, Repr, Inhabited

/-- The driver command a settled awaited promise turns into (func.go:699-719). -/
def cmdOf (a : Awaited) : Cmd := ⟨if a.reject then .throw else .next, a.payload⟩

abbrev Reaction := Bool × Val      -- (isReject, argument): a call of ar.onRejected / ar.onFulfilled

structure ARun where
  gen : GState
  cap : Option Result              -- ar.promiseCap: none = pending, some (.d v) = resolved with v, some (.t v) = rejected
  queue : List Reaction            -- promise reaction jobs, FIFO
  parked : List Reaction           -- reactions registered on still-pending promises, in registration order
  script : List Awaited
  trace : List (List Event × Result)
deriving Repr, Inhabited

/-- func.go:721 `asyncRunner.step(res, done, ex)` applied to the outcome of one generator step. -/
def arStep (st : ARun) (r : List Event × Result × GState) : ARun :=
  let st := { st with gen := r.2.2, trace := st.trace ++ [(r.1, r.2.1)] }
  match r.2.1 with
  | .y _ =>                                                   -- :732 await: promiseResolve + addReactions
    match st.script with
    | [] => st                                                -- the awaited promise never settles
    | a :: rest =>
      match a.settle with
      | .now => { st with queue := st.queue ++ [(a.reject, a.payload)], script := rest }
      | .later => { st with parked := st.parked ++ [(a.reject, a.payload)], script := rest }
  | res => { st with cap := some res }                        -- :723-729 resolve / reject the capability

/-- func.go:745 `asyncRunner.start`: run the body up to the first await (synchronously, at the call site). -/
def start (fuel : Nat) (g : GState) (script : List Awaited) : ARun :=
  arStep { gen := g, cap := none, queue := [], parked := [], script := script, trace := [] }
    (genCall fuel g ⟨.next, .undef⟩)

/-- One promise reaction job: func.go:699 `onFulfilled` / :710 `onRejected`. -/
def job (fuel : Nat) (st : ARun) (j : Reaction) : ARun :=
  arStep st (genCall fuel st.gen ⟨if j.1 then .throw else .next, j.2⟩)

/-- The event loop: drain the job queue; when it is empty the host settles the oldest pending promise. -/
def drive (fuel : Nat) : Nat → ARun → ARun
  | 0, st => st
  | n + 1, st =>
    match st.queue with
    | j :: q => drive fuel n (job fuel { st with queue := q } j)
    | [] =>
      match st.parked with
      | p :: ps => drive fuel n { st with parked := ps, queue := [p] }
      | [] => st

/-- A trace cut after the first result that is not a suspension. -/
def cutTrace : List (List Event × Result) → List (List Event × Result)
  | [] => []
  | (ev, r) :: rest => (ev, r) :: (match r with | .y _ => cutTrace rest | _ => [])

theorem drive_idle (fuel n : Nat) (st : ARun) (hq : st.queue = []) (hp : st.parked = []) : drive fuel n st = st := by
  cases n with
  | zero => rfl
  | succ n => simp [drive, hq, hp]

theorem arStep_cap (st : ARun) (r : List Event × Result × GState) :
    (arStep st r).cap = (match r.2.1 with | .y _ => st.cap | res => some res) := by
  obtain ⟨ev, res, g'⟩ := r
  cases res <;> try rfl
  simp only [arStep]
  cases st.script with
  | nil => rfl
  | cons a rest => simp only; cases a.settle <;> rfl

/-- `start` and every reaction job are `arStep` on a runner with nothing queued or parked, so the induction is stated over that
step.  The bound on the loop fuel: an awaited promise costs at most two turns, the host's settling it and its reaction job. -/
theorem drive_arStep (fuel : Nat) (script : List Awaited) :
    ∀ (g : GState) (tr : List (List Event × Result)) (r : List Event × Result × GState) (n : Nat), 2 * script.length ≤ n →
      (drive fuel n (arStep { gen := g, cap := none, queue := [], parked := [], script := script, trace := tr } r)).trace
        = tr ++ cutTrace ((r.1, r.2.1) :: genRunFrom fuel r.2.2 (script.map cmdOf)) := by
  induction script with
  | nil =>
    intro g tr r n _
    obtain ⟨ev, res, g'⟩ := r
    cases res <;> simp [arStep, drive_idle, cutTrace, genRunFrom]
  | cons a rest ih =>
    intro g tr r n hn
    obtain ⟨ev, res, g'⟩ := r
    simp only [List.length_cons] at hn
    cases res with
    | y v =>
      -- once the reaction of `a` is a job, the job is such a step again, on the rest of the script
      have key : ∀ m, 2 * rest.length ≤ m →
          (drive fuel (m + 1) { gen := g', cap := none, queue := [(a.reject, a.payload)], parked := [], script := rest,
                                trace := tr ++ [(ev, .y v)] }).trace
            = tr ++ cutTrace ((ev, .y v) :: genRunFrom fuel g' ((a :: rest).map cmdOf)) := fun m hm => by
        simp only [drive, job, ih _ _ _ m hm, List.map_cons, genRunFrom, cutTrace, cmdOf, List.append_assoc, List.singleton_append]
      cases hs : a.settle with
      | now =>
        obtain ⟨m, rfl⟩ : ∃ m, n = m + 1 := ⟨n - 1, by omega⟩
        simp only [arStep, hs]
        exact key m (by omega)
      | later =>
        -- the host settles the promise first: one more turn of the loop
        obtain ⟨m, rfl⟩ : ∃ m, n = m + 2 := ⟨n - 2, by omega⟩
        simp only [arStep, hs]
        exact key m (by omega)
    | _ => simp [arStep, drive_idle, cutTrace]

end GojaModel.C09.Async
