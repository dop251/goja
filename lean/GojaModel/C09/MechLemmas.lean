/-
  C09 — lemmas about the mechanism model (Mech.lean): `suspend` as one equation; `handleThrow` as "pop the dead frames, then
  unwind to the last live frame and deliver" (`unwindTo`, `deliver`, `liveStep`); `rebase lo g`, the generator-owned part `g`
  of a vm standing on a caller `lo`, with which every one of these steps commutes; `enterNextFinallyFrame` at its top frame.
-/
import GojaModel.C09.Mech

namespace GojaModel.C09.Mech

/-- Frames pushed while the generator runs record lengths at or above the generator's bases
(`pushTryFrame` records the current lengths, which only grow above `storeLengths`' snapshot). -/
def FramesAbove (fs : List TryFrame) (I R S : Nat) : Prop := ∀ tf ∈ fs, I ≤ tf.iterLen ∧ R ≤ tf.refLen ∧ S ≤ tf.sp

/-- The guards `len > n` of vm.go:75/86/90 only avoid an empty slice expression: either branch is `(drop n, take n)`. -/
theorem cut_guard {α β : Type} (g : List α → List β) (hg : g [] = []) (l : List α) (n : Nat) :
    (if l.length > n then (g (l.drop n), l.take n) else ([], l)) = (g (l.drop n), l.take n) := by
  split
  · rfl
  · next h => rw [List.drop_of_length_le (Nat.le_of_not_lt h), List.take_of_length_le (Nat.le_of_not_lt h), hg]

theorem suspend_eq (vm : VM) (T I R : Nat) :
    suspend vm T I R =
      ({ ctx := vm.cur, stack := vm.stack.drop (vm.cur.sb - 1).toNat,
         tryStack := (vm.tryStack.drop T).map (fun tf => tf.toRel I R (vm.cur.sb - 1).toNat),
         iterStack := vm.iterStack.drop I, refStack := vm.refStack.drop R },
       { vm with tryStack := vm.tryStack.take T, iterStack := vm.iterStack.take I, refStack := vm.refStack.take R }) := by
  simp only [suspend, cut_guard (List.map _) rfl, cut_guard (fun l => l) rfl]

/-- The frame a suspended-then-resumed try frame becomes (the statement of `resume_suspend_shift`). -/
def shifted (tf : TryFrame) (I R S : Nat) (vm2 : VM) : TryFrame :=
  { tf with callStackLen := vm2.callStack.length,
            iterLen := tf.iterLen - I + vm2.iterStack.length,
            refLen := tf.refLen - R + vm2.refStack.length,
            sp := tf.sp - S + vm2.stack.length }

theorem toAbs_toRel (tf : TryFrame) (I R S : Nat) (vm2 : VM) :
    (tf.toRel I R S).toAbs vm2.callStack.length vm2.iterStack.length vm2.refStack.length vm2.stack.length
      = shifted tf I R S vm2 := by
  simp [TryFrame.toRel, TryFrame.toAbs, shifted]

/-- Truncated subtraction is on both sides, so no frame discipline is needed. -/
theorem relView_shifted (tf : TryFrame) (I R S : Nat) (vm2 : VM) :
    relView (shifted tf I R S vm2) vm2.iterStack.length vm2.refStack.length vm2.stack.length = relView tf I R S := by
  simp only [relView, shifted, TryFrame.toRel, Nat.add_sub_cancel]

/-- What `handleThrow` decides at a live frame depends only on its handler positions (vm.go:862-880). -/
def outcomeOf (tf : TryFrame) : Outcome :=
  if tf.catchPos = tryPanicMarker then .uncaught
  else if tf.catchPos ≥ 0 then .caught tf.catchPos
  else if tf.finallyPos ≥ 0 then .toFinally tf.finallyPos
  else .stuck

theorem outcomeOf_congr {a b : TryFrame} (hc : b.catchPos = a.catchPos) (hf : b.finallyPos = a.finallyPos) :
    outcomeOf b = outcomeOf a := by simp [outcomeOf, hc, hf]

def TryFrame.dead (tf : TryFrame) : Prop := tf.catchPos = -1 ∧ tf.finallyPos = -1

instance (tf : TryFrame) : Decidable tf.dead := by unfold TryFrame.dead; exact inferInstance

theorem TryFrame.dead_congr {a b : TryFrame} (hc : b.catchPos = a.catchPos) (hf : b.finallyPos = a.finallyPos) :
    b.dead ↔ a.dead := by rw [TryFrame.dead, TryFrame.dead, hc, hf]

/-- vm.go:849-856: the context of the call depth recorded in `tf` is restored (keeping the current scope until `tf.stash`
replaces it) and the operand stack cut back to `tf.sp`. -/
def unwindTo (vm : VM) (tf : TryFrame) : VM :=
  let vm1 : VM :=
    if tf.callStackLen < vm.callStack.length then
      let c := vm.callStack.getD tf.callStackLen default
      { vm with cur := { c with stash := vm.cur.stash }, callStack := vm.callStack.take tf.callStackLen }
    else vm
  { vm1 with stack := vm1.stack.take tf.sp, cur := { vm1.cur with stash := tf.stash } }

/-- vm.go:862-880: what is done to the unwound vm for the handler `outcomeOf tf` names. -/
def deliver (ex : Nat) (tf : TryFrame) (vm : VM) : VM :=
  if tf.catchPos = tryPanicMarker then vm
  else if tf.catchPos ≥ 0 then
    { vm with stack := vm.stack ++ [ex], cur := { vm.cur with pc := tf.catchPos },
              tryStack := vm.tryStack.dropLast ++ [{ tf with catchPos := -1 }] }
  else if tf.finallyPos ≥ 0 then
    { vm with cur := { vm.cur with pc := tf.finallyPos },
              tryStack := vm.tryStack.dropLast ++ [{ tf with exc := some ex, finallyPos := -1, finallyRet := -1 }] }
  else vm

/-- One loop iteration of `handleThrow` at a live top frame `tf` (vm.go:849-880). -/
def liveStep (ex : Nat) (vm : VM) (tf : TryFrame) : Outcome × List Nat × VM :=
  let r := restoreStacks (unwindTo vm tf) tf.iterLen tf.refLen
  (outcomeOf tf, r.1, deliver ex tf r.2)

theorem liveStep_keeps_frames (vm : VM) (tf : TryFrame) :
    (restoreStacks (unwindTo vm tf) tf.iterLen tf.refLen).2.tryStack = vm.tryStack := by
  unfold unwindTo; split <;> rfl

theorem handleThrow_live_top (ex : Nat) (vm : VM) (fs : List TryFrame) (tf : TryFrame)
    (h : vm.tryStack = fs ++ [tf]) (hlive : ¬ tf.dead) : handleThrow ex vm = liveStep ex vm tf := by
  have hgl : vm.tryStack.getLast? = some tf := by rw [h]; exact List.getLast?_concat
  have hlen : vm.tryStack.length = fs.length + 1 := by rw [h, List.length_append]; rfl
  rw [handleThrow, hlen, handleThrowLoop]
  simp -zeta only [hgl]
  rw [if_neg (show ¬ (tf.catchPos = -1 ∧ tf.finallyPos = -1) from hlive)]
  -- the three tests of vm.go:862/866/873, made once for outcome and state
  unfold liveStep outcomeOf deliver
  by_cases h1 : tf.catchPos = tryPanicMarker
  · simp only [if_pos h1]; rfl
  · by_cases h2 : tf.catchPos ≥ 0
    · simp only [if_neg h1, if_pos h2]; rfl
    · by_cases h3 : tf.finallyPos ≥ 0
      · simp only [if_neg h1, if_neg h2, if_pos h3]; rfl
      · simp only [if_neg h1, if_neg h2, if_neg h3]; rfl

theorem handleThrow_caught (ex : Nat) (vm : VM) (fs : List TryFrame) (tf : TryFrame) (h : vm.tryStack = fs ++ [tf])
    (h1 : tf.catchPos ≠ tryPanicMarker) (h2 : tf.catchPos ≥ 0) :
    (handleThrow ex vm).1 = .caught tf.catchPos ∧
    (handleThrow ex vm).2.2.tryStack = fs ++ [{ tf with catchPos := -1 }] := by
  have hl : ¬ tf.dead := fun hd => by rw [hd.1] at h2; exact absurd h2 (by decide)
  rw [handleThrow_live_top ex vm fs tf h hl]
  simp only [liveStep, outcomeOf, deliver, if_neg h1, if_pos h2, liveStep_keeps_frames, h, List.dropLast_concat, and_self]

theorem handleThrow_toFinally (ex : Nat) (vm : VM) (fs : List TryFrame) (tf : TryFrame) (h : vm.tryStack = fs ++ [tf])
    (h1 : tf.catchPos = -1) (h2 : tf.finallyPos ≥ 0) :
    (handleThrow ex vm).1 = .toFinally tf.finallyPos ∧
    (handleThrow ex vm).2.2.tryStack = fs ++ [{ tf with exc := some ex, finallyPos := -1, finallyRet := -1 }] := by
  have hm : tf.catchPos ≠ tryPanicMarker := by rw [h1]; decide
  have hn : ¬ tf.catchPos ≥ 0 := by rw [h1]; decide
  have hl : ¬ tf.dead := fun hd => by rw [hd.2] at h2; exact absurd h2 (by decide)
  rw [handleThrow_live_top ex vm fs tf h hl]
  simp only [liveStep, outcomeOf, deliver, if_neg hm, if_neg hn, if_pos h2, liveStep_keeps_frames, h, List.dropLast_concat, and_self]

/-- vm.go:844-848. -/
theorem handleThrow_dead_pops (ex : Nat) (vm : VM) (fs : List TryFrame) (tf : TryFrame)
    (h : vm.tryStack = fs ++ [tf]) (hdead : tf.dead) :
    handleThrow ex vm = handleThrow ex { vm with tryStack := fs } := by
  unfold handleThrow
  rw [h]
  simp only [List.length_append, List.length_cons, List.length_nil, Nat.zero_add]
  conv => lhs; unfold handleThrowLoop
  unfold TryFrame.dead at hdead
  simp [h, hdead]

theorem handleThrow_dead_run (ex : Nat) (d : List TryFrame) :
    ∀ (vm : VM) (fs : List TryFrame), vm.tryStack = fs ++ d → (∀ tf ∈ d, tf.dead) →
      handleThrow ex vm = handleThrow ex { vm with tryStack := fs } := by
  induction d with
  | nil => intro vm fs h _; rw [List.append_nil] at h; rw [← h]
  | cons t d ih =>
    intro vm fs h hd
    rw [ih vm (fs ++ [t]) (by rw [h, List.append_assoc]; rfl) (fun x hx => hd x (List.mem_cons_of_mem _ hx)),
        handleThrow_dead_pops ex _ fs t rfl (hd t List.mem_cons_self)]

theorem handleThrow_last_live (ex : Nat) (vm : VM) (fs : List TryFrame) (tf : TryFrame) (d : List TryFrame)
    (h : vm.tryStack = fs ++ tf :: d) (hl : ¬ tf.dead) (hd : ∀ t ∈ d, t.dead) :
    handleThrow ex vm = liveStep ex { vm with tryStack := fs ++ [tf] } tf := by
  rw [handleThrow_dead_run ex d vm (fs ++ [tf]) (by rw [h, List.append_assoc]; rfl) hd]
  exact handleThrow_live_top ex _ fs tf rfl hl

theorem split_last_live : ∀ l : List TryFrame, (∃ tf ∈ l, ¬ tf.dead) →
    ∃ fs tf d, l = fs ++ tf :: d ∧ ¬ tf.dead ∧ ∀ t ∈ d, t.dead
  | [], h => by obtain ⟨_, hm, _⟩ := h; cases hm
  | x :: l, h => by
    by_cases hl : ∃ tf ∈ l, ¬ tf.dead
    · obtain ⟨fs, tf, d, rfl, h1, h2⟩ := split_last_live l hl
      exact ⟨x :: fs, tf, d, rfl, h1, h2⟩
    · refine ⟨[], x, l, rfl, ?_, fun t ht => Decidable.not_not.1 fun hn => hl ⟨t, ht, hn⟩⟩
      obtain ⟨tf, hm, hn⟩ := h
      cases hm with
      | head => exact hn
      | tail _ hm' => exact absurd ⟨tf, hm', hn⟩ hl

theorem handleThrow_outcome_segment (ex : Nat) (f : TryFrame → TryFrame)
    (hf : ∀ tf, (f tf).catchPos = tf.catchPos ∧ (f tf).finallyPos = tf.finallyPos)
    (vm1 vm2 : VM) (lo1 lo2 seg : List TryFrame) (h1 : vm1.tryStack = lo1 ++ seg) (h2 : vm2.tryStack = lo2 ++ seg.map f)
    (hlive : ∃ tf ∈ seg, ¬ tf.dead) : (handleThrow ex vm1).1 = (handleThrow ex vm2).1 := by
  have hdead : ∀ tf, (f tf).dead ↔ tf.dead := fun tf => TryFrame.dead_congr (hf tf).1 (hf tf).2
  obtain ⟨fs, tf, d, rfl, hl, hd⟩ := split_last_live seg hlive
  rw [handleThrow_last_live ex vm1 (lo1 ++ fs) tf d (by rw [h1, List.append_assoc]) hl hd,
      handleThrow_last_live ex vm2 (lo2 ++ fs.map f) (f tf) (d.map f) (by simp [h2]) (mt (hdead tf).1 hl)
        (by simpa [hdead] using hd)]
  exact (outcomeOf_congr (hf tf).1 (hf tf).2).symm

/-! `g` describes the generator-owned part of a vm with all offsets relative to its own bottom (no caller below); `rebase lo g`
puts it on top of the caller's vm `lo`. -/

def shiftCtx (d : Nat) (c : Ctx) : Ctx := { c with sb := c.sb + d }

def shiftFrame (lo : VM) (tf : TryFrame) : TryFrame :=
  { tf with callStackLen := tf.callStackLen + lo.callStack.length, iterLen := tf.iterLen + lo.iterStack.length,
            refLen := tf.refLen + lo.refStack.length, sp := tf.sp + lo.stack.length }

def rebase (lo g : VM) : VM :=
  { cur := shiftCtx lo.stack.length g.cur
    stack := lo.stack ++ g.stack
    callStack := lo.callStack ++ g.callStack.map (shiftCtx lo.stack.length)
    iterStack := lo.iterStack ++ g.iterStack
    refStack := lo.refStack ++ g.refStack
    tryStack := lo.tryStack ++ g.tryStack.map (shiftFrame lo) }

def rebaseRes (lo : VM) (r : Outcome × List Nat × VM) : Outcome × List Nat × VM := (r.1, r.2.1, rebase lo r.2.2)

theorem shiftFrame_dead (lo : VM) (tf : TryFrame) : (shiftFrame lo tf).dead ↔ tf.dead := TryFrame.dead_congr rfl rfl

theorem take_add_length {α : Type} (l : List α) (n : Nat) : List.take (n + l.length) l = l :=
  List.take_of_length_le (by omega)

theorem drop_add_length {α : Type} (l : List α) (n : Nat) : List.drop (n + l.length) l = [] :=
  List.drop_of_length_le (by omega)

theorem getD_append_map_shift (a b : List Ctx) (d i : Nat) (h : i < b.length) :
    (a ++ b.map (shiftCtx d)).getD (i + a.length) default = shiftCtx d (b.getD i default) := by
  simp [List.getD_eq_getElem?_getD, List.getElem?_append_right, h]

theorem pushTryFrame_rebase (lo g : VM) (cp fp : Int) :
    pushTryFrame (rebase lo g) cp fp = rebase lo (pushTryFrame g cp fp) := by
  simp [pushTryFrame, rebase, shiftFrame, shiftCtx, Nat.add_comm]

theorem popTryFrame_rebase (lo g : VM) (h : g.tryStack ≠ []) :
    popTryFrame (rebase lo g) = rebase lo (popTryFrame g) := by
  simp only [popTryFrame, rebase]
  congr 1
  rw [List.dropLast_append_of_ne_nil (by simpa using h)]
  simp [List.map_dropLast]

theorem restoreStacks_rebase (lo g : VM) (i r : Nat) :
    restoreStacks (rebase lo g) (i + lo.iterStack.length) (r + lo.refStack.length)
      = ((restoreStacks g i r).1, rebase lo (restoreStacks g i r).2) := by
  simp [restoreStacks, rebase, List.drop_append, List.take_append, take_add_length, drop_add_length]

theorem unwindTo_rebase (lo g : VM) (tf : TryFrame) :
    unwindTo (rebase lo g) (shiftFrame lo tf) = rebase lo (unwindTo g tf) := by
  have hlt : (tf.callStackLen + lo.callStack.length < (lo.callStack ++ g.callStack.map (shiftCtx lo.stack.length)).length) ↔
      (tf.callStackLen < g.callStack.length) := by rw [List.length_append, List.length_map]; omega
  simp only [unwindTo, shiftFrame, rebase, hlt]
  split
  next hc =>
    rw [getD_append_map_shift _ _ _ _ hc]
    simp [shiftCtx, List.take_append, take_add_length, List.map_take]
  next => simp [shiftCtx, List.take_append, take_add_length]

theorem deliver_rebase (ex : Nat) (lo g : VM) (tf : TryFrame) (fs : List TryFrame) (hg : g.tryStack = fs ++ [tf]) :
    deliver ex (shiftFrame lo tf) (rebase lo g) = rebase lo (deliver ex tf g) := by
  -- the tests read handler positions only, so they come out alike on both sides; in the two cases that rewrite the top
  -- frame, `dropLast ++ [·]` acts on the generator-owned part
  have top : ∀ tf' : TryFrame, (rebase lo g).tryStack.dropLast ++ [shiftFrame lo tf']
      = lo.tryStack ++ (g.tryStack.dropLast ++ [tf']).map (shiftFrame lo) := fun tf' => by
    simp only [rebase, hg, List.map_append, List.map_cons, List.map_nil, ← List.append_assoc, List.dropLast_concat]
  show (if tf.catchPos = tryPanicMarker then _ else if tf.catchPos ≥ 0 then _ else if tf.finallyPos ≥ 0 then _ else _) = _
  unfold deliver
  by_cases h1 : tf.catchPos = tryPanicMarker
  · rw [if_pos h1, if_pos h1]
  · by_cases h2 : tf.catchPos ≥ 0
    · rw [if_neg h1, if_pos h2, if_neg h1, if_pos h2, rebase, rebase, List.append_assoc, ← top]; rfl
    · by_cases h3 : tf.finallyPos ≥ 0
      · rw [if_neg h1, if_neg h2, if_pos h3, if_neg h1, if_neg h2, if_pos h3, rebase, rebase, ← top]; rfl
      · rw [if_neg h1, if_neg h2, if_neg h3, if_neg h1, if_neg h2, if_neg h3]

theorem liveStep_rebase (ex : Nat) (lo g : VM) (tf : TryFrame) (fs : List TryFrame) (hg : g.tryStack = fs ++ [tf]) :
    liveStep ex (rebase lo g) (shiftFrame lo tf) = rebaseRes lo (liveStep ex g tf) := by
  have ht := (liveStep_keeps_frames g tf).trans hg
  simp only [liveStep, rebaseRes, unwindTo_rebase]
  rw [show (shiftFrame lo tf).iterLen = tf.iterLen + lo.iterStack.length from rfl,
      show (shiftFrame lo tf).refLen = tf.refLen + lo.refStack.length from rfl, restoreStacks_rebase,
      deliver_rebase ex lo _ tf fs ht, outcomeOf_congr (a := tf) (b := shiftFrame lo tf) rfl rfl]

theorem handleThrow_rebase (ex : Nat) (lo g : VM) (hlive : ∃ tf ∈ g.tryStack, ¬ tf.dead) :
    handleThrow ex (rebase lo g) = rebaseRes lo (handleThrow ex g) := by
  obtain ⟨fs, tf, d, hg, hl, hd⟩ := split_last_live _ hlive
  rw [handleThrow_last_live ex g fs tf d hg hl hd,
      handleThrow_last_live ex (rebase lo g) (lo.tryStack ++ fs.map (shiftFrame lo)) (shiftFrame lo tf) (d.map (shiftFrame lo))
        (by simp [rebase, hg]) (mt (shiftFrame_dead lo tf).1 hl) (by simpa [shiftFrame_dead] using hd),
      ← liveStep_rebase ex lo { g with tryStack := fs ++ [tf] } tf fs rfl]
  simp [rebase]

/-- A generator-owned part as it stands at a yield: running in the generator's own frame (no call frames above it,
relative `sb` = 1: slot 0 of its stack segment is the callee) and every try frame pushed at that call depth. -/
def AtYield (g : VM) : Prop := g.callStack = [] ∧ g.cur.sb = 1 ∧ ∀ tf ∈ g.tryStack, tf.callStackLen = 0

theorem enf_top_fin (n : Nat) (vm : VM) (fs : List TryFrame) (tf : TryFrame) (cl : List Nat)
    (h : vm.tryStack = fs ++ [tf]) (hc : tf.callStackLen = vm.callStack.length) (hfin : tf.finallyPos ≥ 0) :
    enterNextFinallyFrameLoop [] (n + 1) vm cl =
      (true, cl ++ (restoreStacks vm tf.iterLen tf.refLen).1,
       { (restoreStacks vm tf.iterLen tf.refLen).2 with
           stack := vm.stack.take tf.sp,
           cur := { vm.cur with stash := tf.stash, pc := tf.finallyPos },
           tryStack := fs ++ [{ tf with catchPos := -1, finallyPos := -1, finallyRet := -2 }] }) := by
  unfold enterNextFinallyFrameLoop
  simp [h, hc, hfin, restoreStacks]

theorem enf_top_skip (n : Nat) (vm : VM) (fs : List TryFrame) (tf : TryFrame) (cl : List Nat)
    (h : vm.tryStack = fs ++ [tf]) (hc : tf.callStackLen = vm.callStack.length) (hfin : ¬ tf.finallyPos ≥ 0) :
    enterNextFinallyFrameLoop [] (n + 1) vm cl =
      enterNextFinallyFrameLoop [] n { (restoreStacks vm tf.iterLen tf.refLen).2 with tryStack := fs }
        (cl ++ (restoreStacks vm tf.iterLen tf.refLen).1) := by
  conv => lhs; unfold enterNextFinallyFrameLoop
  simp [h, hc, hfin, restoreStacks]

/-- The frame whose finally block return(v) enters is left DEAD for `handleThrow` (catchPos = finallyPos = -1): an
exception raised inside that finally block is dispatched to the enclosing handlers, exactly as if the frame had
been popped — the content of repair 8004794. -/
theorem return_finally_frame_is_dead (ex : Nat) (vm : VM) (fs : List TryFrame) (tf : TryFrame)
    (h : vm.tryStack = fs ++ [tf]) (hc : tf.callStackLen = vm.callStack.length) (hfin : tf.finallyPos ≥ 0) :
    (enterNextFinallyFrame [] vm).1 = true ∧
    handleThrow ex (enterNextFinallyFrame [] vm).2.2
      = handleThrow ex { (enterNextFinallyFrame [] vm).2.2 with tryStack := fs } := by
  have e : enterNextFinallyFrame [] vm = enterNextFinallyFrameLoop [] (fs.length + 1) vm [] := by
    simp [enterNextFinallyFrame, h]
  rw [e, enf_top_fin fs.length vm fs tf [] h hc hfin]
  refine ⟨rfl, ?_⟩
  exact handleThrow_dead_pops ex _ fs _ rfl (by simp [TryFrame.dead])

/-- Regression lemma about the OLD marking (catchPos = tryPanicMarker, before 8004794): `handleThrow` stopped at that
frame and reported the exception as leaving the generator, whatever handlers enclosed it. -/
theorem old_marking_escapes_prefix_witness (ex : Nat) (vm : VM) (fs : List TryFrame) (tf : TryFrame)
    (h : vm.tryStack = fs ++ [{ tf with catchPos := tryPanicMarker, finallyPos := -1, finallyRet := -2 }]) :
    (handleThrow ex vm).1 = .uncaught := by
  rw [handleThrow_live_top ex vm fs _ h (by simp [TryFrame.dead, tryPanicMarker])]
  simp [liveStep, outcomeOf]

/-- The prologue is `enterNext`'s: the caller's saved context on the call stack, the marker frame `M` on the try stack. -/
theorem nextEpilogue_undoes_prologue (vm0 : VM) (c : Ctx) (M : TryFrame) :
    nextEpilogue { vm0 with cur := c, callStack := vm0.callStack ++ [vm0.cur], tryStack := vm0.tryStack ++ [M] } = vm0 := by
  simp [nextEpilogue, popTryFrame, popCtx]

/-! Every well-formed vm is a re-based generator part: its lower part and its generator part in relative offsets.  `T I R S C`:
the lengths of the caller's try / iterator / reference / operand / call stacks, where the vm is cut. -/

theorem take_append_map_drop {α : Type} (f : α → α) (l : List α) (n : Nat) (h : ∀ x ∈ l.drop n, f x = x) :
    l.take n ++ (l.drop n).map f = l := by
  rw [List.map_congr_left h, List.map_id', List.take_append_drop]

def lowerOf (vm : VM) (T I R S C : Nat) : VM :=
  { cur := default, stack := vm.stack.take S, callStack := vm.callStack.take C, iterStack := vm.iterStack.take I,
    refStack := vm.refStack.take R, tryStack := vm.tryStack.take T }

def genOf (vm : VM) (T I R S C : Nat) : VM :=
  { cur := { vm.cur with sb := vm.cur.sb - S }
    stack := vm.stack.drop S
    callStack := (vm.callStack.drop C).map (fun c => { c with sb := c.sb - S })
    iterStack := vm.iterStack.drop I
    refStack := vm.refStack.drop R
    tryStack := (vm.tryStack.drop T).map (fun tf =>
      { tf with callStackLen := tf.callStackLen - C, iterLen := tf.iterLen - I, refLen := tf.refLen - R, sp := tf.sp - S }) }

end GojaModel.C09.Mech
