/-
  C09 — lemmas about the spec model (Model.lean): the history fold, the reachability relation of the CEK machine and its link
  to the fuelled `run`, the equations of one abrupt step, and the unwinding of a return / break / continue completion through
  pending finally blocks.
-/
import GojaModel.C09.Model

namespace GojaModel.C09

theorem stateAfter_append (fuel : Nat) (g : GState) (h1 h2 : List Cmd) :
    stateAfter fuel g (h1 ++ h2) = stateAfter fuel (stateAfter fuel g h1) h2 := by
  induction h1 generalizing g with
  | nil => simp [stateAfter]
  | cons c cs ih => simp [stateAfter, ih]

theorem genRunFrom_length (fuel : Nat) (g : GState) (h : List Cmd) : (genRunFrom fuel g h).length = h.length := by
  induction h generalizing g with
  | nil => simp [genRunFrom]
  | cons c cs ih => simp [genRunFrom, ih]

/-- `Reach c evs c'`: the machine goes from `c` to `c'` by `cont` steps only, emitting `evs`. -/
inductive Reach : Conf → List Event → Conf → Prop where
  | refl (c : Conf) : Reach c [] c
  | cons {c c' c'' : Conf} {ev evs : List Event} : step c = .cont c' ev → Reach c' evs c'' → Reach c (ev ++ evs) c''

theorem Reach.trans {a b c : Conf} {e1 e2 : List Event} (h1 : Reach a e1 b) (h2 : Reach b e2 c) :
    Reach a (e1 ++ e2) c := by
  induction h1 with
  | refl _ => simpa using h2
  | cons hs _ ih => rw [List.append_assoc]; exact Reach.cons hs (ih h2)

theorem Reach.one {c c' : Conf} {ev : List Event} (h : step c = .cont c' ev) : Reach c ev c' := by
  have := Reach.cons h (Reach.refl c')
  simpa using this

theorem run_of_reach {c c' : Conf} {evs : List Event} (h : Reach c evs c') :
    ∃ m, ∀ n acc, run (n + m) c acc = run n c' (acc ++ evs) := by
  induction h with
  | refl _ => exact ⟨0, by intro n acc; simp⟩
  | @cons c c' c'' ev evs hs _ ih =>
    obtain ⟨m, hm⟩ := ih
    refine ⟨m + 1, ?_⟩
    intro n acc
    have : n + (m + 1) = (n + m) + 1 := by omega
    rw [this, run, hs]
    simp only
    rw [hm, List.append_assoc]

theorem genCall_of_reach {c c' : Conf} {cmd : Cmd} {evs ev : List Event} {r : Result}
    (h : Reach { c with ctl := resumeCtl cmd } evs c') (hf : step c' = .finished r ev) :
    ∃ m, ∀ n, genCall (n + m) (.susp c none) cmd = (evs ++ ev, r, .completed) := by
  obtain ⟨m, hm⟩ := run_of_reach h
  refine ⟨m + 1, fun n => ?_⟩
  have h1 : n + (m + 1) = (n + 1) + m := by omega
  simp only [genCall, genPre, GState.tag]
  rw [h1, hm, run, hf]; rfl

def litLogs (vs : List Val) : List Stmt := vs.map (fun v => .log (.lit v))

theorem reach_litLogs (vs : List Val) (env : List Val) (k : List Frame) :
    Reach { ctl := .exec (litLogs vs), env := env, k := k } (vs.map showVal) { ctl := .val .undef, env := env, k := k } := by
  induction vs with
  | nil => exact Reach.one (by rfl)
  | cons v vs ih =>
    -- `exec (log v; rest)` ↦ `evalE v` ↦ `val v` ↦ `val undefined` (logging `v`) ↦ `exec rest`
    have : Reach { ctl := .exec (litLogs (v :: vs)), env := env, k := k } ([] ++ ([] ++ ([showVal v] ++ ([] ++ vs.map showVal))))
        { ctl := .val .undef, env := env, k := k } :=
      Reach.cons rfl (Reach.cons rfl (Reach.cons rfl (Reach.cons rfl ih)))
    simpa using this

theorem reach_finK (vs : List Val) (cp : Completion) (env : List Val) (k : List Frame) :
    Reach { ctl := .exec (litLogs vs), env := env, k := .finK (some cp) :: k } (vs.map showVal)
      { ctl := .abrupt cp, env := env, k := k } := by
  simpa using Reach.trans (reach_litLogs vs env (.finK (some cp) :: k)) (Reach.one (c' := ⟨.abrupt cp, env, k⟩) rfl)

def SimpleFins : List Frame → Prop
  | [] => True
  | .tryK _ (some fb) :: k => (∃ vs, fb = litLogs vs) ∧ SimpleFins k
  | .catchK (some fb) :: k => (∃ vs, fb = litLogs vs) ∧ SimpleFins k
  | .forOfK _ _ it _ :: k => (iterClose it).2 = none ∧ SimpleFins k   -- the iterator's return() does not throw
  | _ :: k => SimpleFins k

def blockLogs : List Stmt → List Event
  | [] => []
  | .log (.lit v) :: ss => showVal v :: blockLogs ss
  | _ :: ss => blockLogs ss

theorem blockLogs_litLogs (vs : List Val) : blockLogs (litLogs vs) = vs.map showVal := by
  induction vs with
  | nil => rfl
  | cons v vs ih => simp [litLogs, blockLogs] at *; exact ih

/-- The log a non-throw unwinding through `k` must produce: every pending finally block once, innermost (head of the
continuation) first, iterators of enclosing for-of loops closed at their nesting position. -/
def finLogs : List Frame → List Event
  | [] => []
  | .tryK _ (some fb) :: k => blockLogs fb ++ finLogs k
  | .catchK (some fb) :: k => blockLogs fb ++ finLogs k
  | .forOfK _ _ it _ :: k => (iterClose it).1 ++ finLogs k
  | _ :: k => finLogs k

def pendingFins : List Frame → Nat
  | [] => 0
  | .tryK _ (some _) :: k => pendingFins k + 1
  | .catchK (some _) :: k => pendingFins k + 1
  | _ :: k => pendingFins k

theorem step_abrupt (cp : Completion) (env : List Val) (k : List Frame) :
    step { ctl := .abrupt cp, env := env, k := k } = stepAbrupt { ctl := .abrupt cp, env := env, k := k } cp := rfl

theorem abrupt_tryK_nonthrow {cp : Completion} (hcp : isThr cp = false) (cc : Option (Nat × List Stmt))
    (fo : Option (List Stmt)) (env : List Val) (k : List Frame) :
    step { ctl := .abrupt cp, env := env, k := .tryK cc fo :: k }
      = step { ctl := .abrupt cp, env := env, k := .catchK fo :: k } := by
  cases cp with
  | thr v => cases hcp
  | _ => cases cc <;> rfl

/-- §7.4.11 IteratorClose; `h`: anything but a `continue` aimed at this loop. -/
theorem abrupt_forOfK_leave {cp : Completion} {lf : Label} (h : loopAction lf cp ≠ some false) (x : Nat) (it : IterState)
    (body : List Stmt) (env : List Val) (k : List Frame) :
    step { ctl := .abrupt cp, env := env, k := .forOfK lf x it body :: k } =
      .cont { ctl := (match (iterClose it).2 with
                      | some e => .abrupt (if isThr cp then cp else .thr e)
                      | none => if (loopAction lf cp).isSome then .val .undef else .abrupt cp),
              env := env, k := k } (iterClose it).1 := by
  rw [step_abrupt]
  simp only [stepAbrupt]
  generalize iterClose it = cl
  obtain ⟨ev, err⟩ := cl
  cases err <;> dsimp only <;> split <;> simp only [*]

/-- No loop frame of the list consumes the completion `cp` (it is aimed at a loop further out, or is a return). -/
def Passes (cp : Completion) : List Frame → Prop
  | [] => True
  | .forOfK l _ _ _ :: k => loopAction l cp = none ∧ Passes cp k
  | .whileBodyK l _ _ :: k => loopAction l cp = none ∧ Passes cp k
  | .forBodyK l _ _ _ :: k => loopAction l cp = none ∧ Passes cp k
  | .forArrK l _ _ _ :: k => loopAction l cp = none ∧ Passes cp k
  | _ :: k => Passes cp k

theorem unwind_nonthrow (cp : Completion) (hcp : isThr cp = false) (pre rest : List Frame) (env : List Val)
    (hk : SimpleFins pre) (hp : Passes cp pre) :
    Reach { ctl := .abrupt cp, env := env, k := pre ++ rest } (finLogs pre) { ctl := .abrupt cp, env := env, k := rest } := by
  induction pre with
  | nil => exact Reach.refl _
  | cons f k ih =>
    show Reach { ctl := .abrupt cp, env := env, k := f :: (k ++ rest) } _ _
    -- a frame with a pending finally block: the block runs with the completion parked in a `finK` frame, which then releases it
    have fin : ∀ vs : List Val,
        step { ctl := .abrupt cp, env := env, k := f :: (k ++ rest) }
          = .cont { ctl := .exec (litLogs vs), env := env, k := .finK (some cp) :: (k ++ rest) } [] →
        SimpleFins k → Passes cp k →
        Reach { ctl := .abrupt cp, env := env, k := f :: (k ++ rest) } (blockLogs (litLogs vs) ++ finLogs k)
          { ctl := .abrupt cp, env := env, k := rest } := by
      intro vs hs hk' hp'
      rw [blockLogs_litLogs]
      simpa using Reach.cons hs (Reach.trans (reach_finK vs cp env _) (ih hk' hp'))
    cases f with
    | tryK cc fo =>
      cases fo with
      | none => exact Reach.cons (ev := []) (abrupt_tryK_nonthrow hcp cc none env _) (ih hk hp)
      | some fb =>
        obtain ⟨⟨vs, rfl⟩, hk'⟩ := hk
        exact fin vs (abrupt_tryK_nonthrow hcp cc _ env _) hk' hp
    | catchK fo =>
      cases fo with
      | none => exact Reach.cons (ev := []) rfl (ih hk hp)
      | some fb =>
        obtain ⟨⟨vs, rfl⟩, hk'⟩ := hk
        exact fin vs rfl hk' hp
    | forOfK l x it body =>
      refine Reach.cons ?_ (ih hk.2 hp.2)
      rw [abrupt_forOfK_leave (by rw [hp.1]; nofun), hk.1, hp.1]; rfl
    | whileBodyK l cd body | forBodyK l x n body | forArrK l x r body =>
      exact Reach.cons (ev := []) (by rw [step_abrupt]; simp only [stepAbrupt, hp.1]) (ih hk hp.2)
    | _ => exact Reach.cons (ev := []) rfl (ih hk hp)

theorem passes_ret (v : Val) : ∀ k, Passes (.ret v) k
  | [] => trivial
  | f :: k => by cases f <;> first | exact passes_ret v k | exact ⟨rfl, passes_ret v k⟩

theorem unwind_ret (v : Val) (k : List Frame) (env : List Val) (hk : SimpleFins k) :
    Reach { ctl := .abrupt (.ret v), env := env, k := k } (finLogs k) { ctl := .abrupt (.ret v), env := env, k := [] } := by
  simpa using unwind_nonthrow (.ret v) rfl k [] env hk (passes_ret v k)

end GojaModel.C09
