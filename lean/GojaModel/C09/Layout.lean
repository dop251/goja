/-
  C09 — compiler layout: the try-stack layout `Link.encode` of the spec continuation is CLOSED under every machine
  step, and each change of it is the effect of one goja instruction (or `handleThrow` case) on the top try frame.

  compiler_stmt.go:105 `compileTryStatement` emits, for `try B catch C finally F`:
      try{catchOffset, finallyOffset}  B  [jump over C]  C  enterFinally  F  leaveFinally        (with finally)
      try{catchOffset, 0}              B  [jump over C]  C  leaveTry                             (without)
  and `emitBlockExitCode` emits `leaveTry` for every `blockTry` a break / continue / return leaves.
  vm.go: try.exec :4805 (pushTryFrame), leaveTry.exec :4823, enterFinally.exec :4840 (379f30d), leaveFinally.exec :4849,
  handleThrow :828 (dead frame popped :844, caught :866, to finally :873); func.go:790 enterNextFinallyFrame.
-/
import GojaModel.C09.Lemmas
import GojaModel.C09.Link

namespace GojaModel.C09.Link
open GojaModel.C09 GojaModel.C09.Mech

/-- The ways compiled code changes the generator-owned part of the try stack. -/
inductive LayoutOp : List TryFrame → List TryFrame → Prop where
  | same (a : List TryFrame) : LayoutOp a a
  /-- `try` instruction: pushTryFrame(catchPos, finallyPos). -/
  | push (a : List TryFrame) (tf : TryFrame) : LayoutOp a (a ++ [tf])
  /-- `leaveTry` of a frame without (armed) finally, `leaveFinally`, or a dead frame popped by `handleThrow`. -/
  | pop (a : List TryFrame) (tf : TryFrame) : LayoutOp (a ++ [tf]) a
  /-- `handleThrow` delivering the exception to the catch clause: `tf.catchPos = -1`. -/
  | disarmCatch (a : List TryFrame) (tf tf' : TryFrame) (h : tf' = { tf with catchPos := -1 }) : LayoutOp (a ++ [tf]) (a ++ [tf'])
  /-- `enterFinally` (normal completion of the try or catch block), `leaveTry` with an armed finally (break / continue /
  return leaving the block), `handleThrow` entering the finally with a pending exception, `enterNextFinallyFrame`:
  `tf.catchPos = -1; tf.finallyPos = -1`. -/
  | disarmBoth (a : List TryFrame) (tf tf' : TryFrame) (h : tf' = { tf with catchPos := -1, finallyPos := -1 }) :
      LayoutOp (a ++ [tf]) (a ++ [tf'])

theorem encode_dropWhile (spOf : Nat → Nat) (k : List Frame) : encode spOf (k.dropWhile (!tryish ·)) = encode spOf k := by
  induction k with
  | nil => rfl
  | cons f k ih =>
    cases h : tryish f
    · rw [List.dropWhile_cons_of_pos (by simp [h]), ih, encode_cons_nontry spOf f k h]
    · rw [List.dropWhile_cons_of_neg (by simp [h])]

/-- What one machine step may do to the layout: a `cont` step changes it by one try-frame instruction effect, a suspension
not at all. -/
def LayoutOk (spOf : Nat → Nat) (k : List Frame) : StepOut → Prop
  | .cont c' _ => LayoutOp (encode spOf k) (encode spOf c'.k)
  | .yielded _ c' _ _ => encode spOf c'.k = encode spOf k
  | .finished _ _ => True

theorem LayoutOp.of_nontry {spOf : Nat → Nat} {a b : List Frame} (h : a.dropWhile (!tryish ·) = b.dropWhile (!tryish ·)) :
    LayoutOp (encode spOf a) (encode spOf b) := by
  rw [← encode_dropWhile spOf a, h, encode_dropWhile]; exact .same _

/-- The shape of the `try` statement's step: `tryK` pushed over a `seqK`. -/
theorem LayoutOp.push_over {spOf : Nat → Nat} (f g : Frame) (k : List Frame) (hg : tryish g = false) :
    LayoutOp (encode spOf k) (encode spOf (f :: g :: k)) := by
  rw [encode, encode_cons_nontry spOf g k hg]
  cases frameOf spOf (countTryish (g :: k)) (countForOf (g :: k)) (countBlk (g :: k)) f with
  | none => rw [Option.toList, List.append_nil]; exact .same _
  | some tf => exact .push _ tf

theorem delegCmd_layout (spOf : Nat → Nat) (it : IterState) (cmd : Cmd) (c : Conf) : LayoutOk spOf c.k (delegCmd it cmd c) := by
  unfold delegCmd
  repeat' split
  all_goals first | exact LayoutOp.same _ | exact rfl

/-- Steps that neither start at a try frame nor enter a `try` statement only move frames that are no try frames
(`LayoutOp.of_nontry`); the others are named. -/
theorem step_layout (spOf : Nat → Nat) (c : Conf) : LayoutOk spOf c.k (step c) := by
  obtain ⟨ctl, env, k⟩ := c
  cases ctl with
  | evalE e =>
    cases e with
    | yldStar s => exact delegCmd_layout spOf (IterState.init s) ⟨.next, .undef⟩ ⟨.evalE (.yldStar s), env, k⟩
    | reent kd => cases kd <;> exact LayoutOp.of_nontry rfl
    | _ => exact LayoutOp.of_nontry rfl
  | evalC cd => cases cd; exact LayoutOp.of_nontry rfl
  | args done rest th =>
    cases rest with
    | nil => cases th <;> exact LayoutOp.of_nontry rfl
    | cons a rest' => exact LayoutOp.of_nontry rfl
  | tmplGo acc rest | forArrGo l x rest body => cases rest <;> exact LayoutOp.of_nontry rfl
  | letArrGo vals ts =>
    cases ts with
    | nil => exact LayoutOp.of_nontry rfl
    | cons t ts' => simp only [step]; split <;> exact LayoutOp.of_nontry rfl
  | forGo l x n body | forOfGo l x it body => simp only [step]; split <;> exact LayoutOp.of_nontry rfl
  | exec ss =>
    cases ss with
    | nil => exact LayoutOp.of_nontry rfl
    | cons s rest =>
      cases s with
      | tryS b cc fin => exact LayoutOp.push_over _ _ k rfl           -- `try` instruction
      | _ => exact LayoutOp.of_nontry rfl
  | val v =>
    cases k with
    | nil => trivial
    | cons f k' =>
      cases f with
      | tryK cc fin =>
        cases fin with
        | none => cases cc <;> exact LayoutOp.pop _ _                 -- `leaveTry`
        | some fb => cases cc <;> exact LayoutOp.disarmBoth _ _ _ rfl  -- `enterFinally`
      | catchK fin =>
        cases fin with
        | none => exact LayoutOp.pop _ _
        | some fb => exact LayoutOp.disarmBoth _ _ _ rfl
      | finK p => cases p <;> exact LayoutOp.pop _ _                  -- `leaveFinally`
      | yldK => exact (encode_cons_nontry spOf _ _ rfl).symm
      | argsK done sp rest th => simp only [step]; (repeat' split) <;> exact LayoutOp.of_nontry rfl
      | whileK l cd body => simp only [step]; split <;> exact LayoutOp.of_nontry rfl
      | _ => exact LayoutOp.of_nontry rfl
  | abrupt cp =>
    cases k with
    | nil => cases cp <;> trivial
    | cons f k' =>
      cases f with
      | tryK cc fin =>
        -- a throw meeting a catch clause: `handleThrow` disarms the catch; everything else enters the finally block
        -- (`handleThrow` / `leaveTry`: both handlers disarmed) or, without one, pops the frame
        cases fin with
        | none =>
          cases cc with
          | none => cases cp <;> exact LayoutOp.pop _ _
          | some c =>
            cases cp with
            | thr v => exact LayoutOp.disarmCatch _ _ _ rfl
            | _ => exact LayoutOp.pop _ _
        | some fb =>
          cases cc with
          | none => cases cp <;> exact LayoutOp.disarmBoth _ _ _ rfl
          | some c =>
            cases cp with
            | thr v => exact LayoutOp.disarmCatch _ _ _ rfl
            | _ => exact LayoutOp.disarmBoth _ _ _ rfl
      | catchK fin =>
        cases fin with
        | none => exact LayoutOp.pop _ _
        | some fb => exact LayoutOp.disarmBoth _ _ _ rfl
      | finK p => exact LayoutOp.pop _ _
      | forOfK l x it body =>
        by_cases h : loopAction l cp = some false
        · simp only [step_abrupt, stepAbrupt, h]; exact LayoutOp.of_nontry rfl
        · rw [abrupt_forOfK_leave h]; exact LayoutOp.of_nontry rfl
      | whileBodyK l cd body | forBodyK l x n body | forArrK l x r body =>
        simp only [step_abrupt, stepAbrupt]; split <;> exact LayoutOp.of_nontry rfl
      | _ => exact LayoutOp.of_nontry rfl

inductive LayoutOps : List TryFrame → List TryFrame → Prop where
  | refl (a : List TryFrame) : LayoutOps a a
  | cons {a b c : List TryFrame} : LayoutOp a b → LayoutOps b c → LayoutOps a c

theorem LayoutOps.trans {a b c : List TryFrame} (h1 : LayoutOps a b) (h2 : LayoutOps b c) : LayoutOps a c := by
  induction h1 with
  | refl _ => exact h2
  | cons h _ ih => exact LayoutOps.cons h (ih h2)

theorem LayoutOps.to_nil (a : List TryFrame) : LayoutOps a [] := by
  suffices ∀ r : List TryFrame, LayoutOps r.reverse [] by simpa using this a.reverse
  intro r
  induction r with
  | nil => exact .refl _
  | cons tf r ih => rw [List.reverse_cons]; exact .cons (.pop _ tf) ih

theorem LayoutOps.of_nil (b : List TryFrame) : LayoutOps [] b := by
  suffices ∀ (r a : List TryFrame), LayoutOps a (a ++ r) by simpa using this b []
  intro r
  induction r with
  | nil => intro a; rw [List.append_nil]; exact .refl _
  | cons tf r ih => intro a; exact .cons (.push a tf) (by simpa using ih (a ++ [tf]))

/-- A sequence of effects leads from any try stack to any other: `LayoutOps` keeps no trace of the path taken. What a single
machine step may do to the layout is `step_layout`. -/
theorem LayoutOps.total (a b : List TryFrame) : LayoutOps a b := (LayoutOps.to_nil a).trans (LayoutOps.of_nil b)

def kOf : GState → List Frame
  | .start c => c.k
  | .susp c _ => c.k
  | _ => []

theorem genCall_executing (fuel : Nat) (cmd : Cmd) : (genCall fuel .executing cmd).2.2 = .executing := rfl

end GojaModel.C09.Link
