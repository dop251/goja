/-
  C09 — dispatch on a layout: on the try-stack layout `Link.encode` of ANY spec continuation, placed anywhere in a vm, the
  mechanism's exception dispatch (`handleThrow`) and return dispatch (`enterNextFinallyFrame`) take, frame by frame, the turn the
  selectors of Link.lean name, and leave the layout of the continuation those selectors give.  One induction on the continuation
  per dispatcher (`handleThrow_on_layout`, `enterNextFinallyFrame_on_layout`), over one lemma per turn.
-/
import GojaModel.C09.Link
import GojaModel.C09.MechLemmas

namespace GojaModel.C09.Link
open GojaModel.C09 GojaModel.C09.Mech

theorem layout_top {spOf : Nat → Nat} {f : TryFrame → TryFrame} {vm : VM} {lo : List TryFrame} {fr : Frame} {k : List Frame}
    {tf : TryFrame} (hvm : vm.tryStack = lo ++ (encode spOf (fr :: k)).map f)
    (htf : frameOf spOf (countTryish k) (countForOf k) (countBlk k) fr = some tf) :
    vm.tryStack = (lo ++ (encode spOf k).map f) ++ [f tf] := by
  rw [hvm, encode_cons_try htf]; simp

theorem layout_skip {spOf : Nat → Nat} {f : TryFrame → TryFrame} {vm : VM} {lo : List TryFrame} {fr : Frame} {k : List Frame}
    (hvm : vm.tryStack = lo ++ (encode spOf (fr :: k)).map f) (hfr : tryish fr = false) :
    vm.tryStack = lo ++ (encode spOf k).map f := by
  rw [hvm, encode_cons_nontry spOf fr k hfr]

theorem arming_of_top {lo T S : List TryFrame} {t t' : TryFrame} (hS : S = (lo ++ T) ++ [t]) (ha : arming t = arming t') :
    S.take lo.length = lo ∧ (S.drop lo.length).map arming = (T ++ [t']).map arming := by
  subst hS; simp [ha]

section
variable (ex : Nat) (f : TryFrame → TryFrame)
  (hf : ∀ tf, (f tf).catchPos = tf.catchPos ∧ (f tf).finallyPos = tf.finallyPos)
include hf

theorem handleThrow_caught_layout (vm : VM) (lo T : List TryFrame) (tf : TryFrame)
    (h : vm.tryStack = (lo ++ T.map f) ++ [f tf]) (h1 : tf.catchPos ≠ tryPanicMarker) (h2 : tf.catchPos ≥ 0) :
    (handleThrow ex vm).1 = .caught tf.catchPos ∧
    (handleThrow ex vm).2.2.tryStack.take lo.length = lo ∧
    ((handleThrow ex vm).2.2.tryStack.drop lo.length).map arming = ((T ++ [{ tf with catchPos := -1 }]).map f).map arming := by
  obtain ⟨ho, ht⟩ := handleThrow_caught ex vm _ _ h (by rwa [(hf tf).1]) (by rwa [(hf tf).1])
  rw [ho, ht, (hf tf).1, List.map_append]
  exact ⟨rfl, arming_of_top rfl (by simp [arming, (hf _).1, (hf _).2])⟩

theorem handleThrow_toFinally_layout (vm : VM) (lo T : List TryFrame) (tf : TryFrame)
    (h : vm.tryStack = (lo ++ T.map f) ++ [f tf]) (h1 : tf.catchPos = -1) (h2 : tf.finallyPos ≥ 0) :
    (handleThrow ex vm).1 = .toFinally tf.finallyPos ∧
    (handleThrow ex vm).2.2.tryStack.take lo.length = lo ∧
    ((handleThrow ex vm).2.2.tryStack.drop lo.length).map arming = ((T ++ [{ tf with finallyPos := -1 }]).map f).map arming := by
  obtain ⟨ho, ht⟩ := handleThrow_toFinally ex vm _ _ h (by rwa [(hf tf).1]) (by rwa [(hf tf).2])
  rw [ho, ht, (hf tf).2, List.map_append]
  exact ⟨rfl, arming_of_top rfl (by simp [arming, (hf _).1, (hf _).2, h1])⟩

theorem handleThrow_dead_layout (vm : VM) (fs : List TryFrame) (tf : TryFrame) (h : vm.tryStack = fs ++ [f tf]) (hd : tf.dead) :
    handleThrow ex vm = handleThrow ex { vm with tryStack := fs } :=
  handleThrow_dead_pops ex vm fs (f tf) h ((TryFrame.dead_congr (hf tf).1 (hf tf).2).2 hd)

/-- `f` places the layout anywhere: any map of frames that keeps the handler positions, e.g. the shift of suspend/resume or
`shiftFrame lo`.  At each frame the spec and the mechanism take the same one of four turns: caught here, finally entered
here, dead frame popped, no try frame. -/
theorem handleThrow_on_layout (spOf : Nat → Nat) (k : List Frame) :
    ∀ (vm : VM) (lo : List TryFrame), vm.tryStack = lo ++ (encode spOf k).map f →
      (∀ h, specThrowHandler k = some h → (handleThrow ex vm).1 = outcomeOfSpec (some h)) ∧
      (∀ v k', specAfterThrow v k = some k' →
        (handleThrow ex vm).2.2.tryStack.take lo.length = lo ∧
        ((handleThrow ex vm).2.2.tryStack.drop lo.length).map arming = ((encode spOf k').map f).map arming) := by
  induction k with
  | nil => intro _ _ _; exact ⟨nofun, nofun⟩
  | cons fr k ih =>
    intro vm lo hvm
    have i0 : (2 * (countTryish k : Int) ≠ tryPanicMarker) ∧ (2 * (countTryish k : Int) ≥ 0) ∧ (2 * (countTryish k : Int) + 1 ≥ 0) :=
      ⟨by show _ ≠ (-2 : Int); omega, by omega, by omega⟩
    cases fr with
    | tryK cc fin =>
      cases cc with
      | some c =>
        cases fin <;> exact
          have := handleThrow_caught_layout ex f hf vm lo _ _ (layout_top hvm rfl) i0.1 i0.2.1
          ⟨fun h hs => by cases hs; exact this.1, fun v k' hs => by cases hs; exact this.2⟩
      | none =>
        cases fin with
        | some fb =>
          have := handleThrow_toFinally_layout ex f hf vm lo _ _ (layout_top hvm rfl) rfl i0.2.2
          exact ⟨fun h hs => by cases hs; exact this.1, fun v k' hs => by cases hs; exact this.2⟩
        | none =>
          rw [handleThrow_dead_layout ex f hf vm _ _ (layout_top hvm rfl) ⟨rfl, rfl⟩]
          exact ih _ lo rfl
    | catchK fin =>
      cases fin with
      | some fb =>
        have := handleThrow_toFinally_layout ex f hf vm lo _ _ (layout_top hvm rfl) rfl i0.2.2
        exact ⟨fun h hs => by cases hs; exact this.1, fun v k' hs => by cases hs; exact this.2⟩
      | none =>
        rw [handleThrow_dead_layout ex f hf vm _ _ (layout_top hvm rfl) ⟨rfl, rfl⟩]
        exact ih _ lo rfl
    | finK p =>
      rw [handleThrow_dead_layout ex f hf vm _ _ (layout_top hvm rfl) ⟨rfl, rfl⟩]
      exact ih _ lo rfl
    | _ => exact ih vm lo (layout_skip hvm rfl)

end

section
variable (f : TryFrame → TryFrame) (C : Nat) (hf : ∀ tf, (f tf).finallyPos = tf.finallyPos ∧ (f tf).callStackLen = C)
include hf

theorem enf_entered_layout (vm : VM) (lo T : List TryFrame) (tf : TryFrame) (cl : List Nat) (hC : vm.callStack.length = C)
    (h : vm.tryStack = (lo ++ T.map f) ++ [f tf]) (h2 : tf.finallyPos ≥ 0) :
    (enterNextFinallyFrameLoop [] vm.tryStack.length vm cl).1 = true ∧
    (enterNextFinallyFrameLoop [] vm.tryStack.length vm cl).2.2.cur.pc = tf.finallyPos ∧
    (enterNextFinallyFrameLoop [] vm.tryStack.length vm cl).2.2.cur.stash = (f tf).stash ∧
    ((∀ tf, (f tf).catchPos = tf.catchPos) →
      (enterNextFinallyFrameLoop [] vm.tryStack.length vm cl).2.2.tryStack.map arming
        = (lo ++ (T ++ [{ tf with catchPos := -1, finallyPos := -1 }]).map f).map arming) := by
  have hl : vm.tryStack.length = (lo ++ T.map f).length + 1 := by rw [h, List.length_append]; rfl
  rw [hl, enf_top_fin _ vm _ (f tf) cl h (by rw [(hf tf).2, hC]) (by rwa [(hf tf).1])]
  exact ⟨rfl, (hf tf).1, rfl, fun hcp => by simp [arming, hcp, (hf _).1]⟩

theorem enf_skipped_layout (vm : VM) (fs : List TryFrame) (tf : TryFrame) (cl : List Nat) (hC : vm.callStack.length = C)
    (h : vm.tryStack = fs ++ [f tf]) (h2 : tf.finallyPos = -1) :
    enterNextFinallyFrameLoop [] vm.tryStack.length vm cl =
      enterNextFinallyFrameLoop [] fs.length { (restoreStacks vm (f tf).iterLen (f tf).refLen).2 with tryStack := fs }
        (cl ++ (restoreStacks vm (f tf).iterLen (f tf).refLen).1) := by
  have hl : vm.tryStack.length = fs.length + 1 := by rw [h, List.length_append]; rfl
  rw [hl, enf_top_skip _ vm _ (f tf) cl h (by rw [(hf tf).2, hC]) (by rw [(hf tf).1, h2]; decide)]

/-- All frames of the layout are pushed in the generator's own function frame, call depth `C`. -/
theorem enterNextFinallyFrame_on_layout (spOf : Nat → Nat) (k : List Frame) :
    ∀ (vm : VM) (lo : List TryFrame) (cl : List Nat), vm.callStack.length = C → vm.tryStack = lo ++ (encode spOf k).map f →
      (∀ i, specReturnHandler k = some i →
        (enterNextFinallyFrameLoop [] vm.tryStack.length vm cl).1 = true ∧
        (enterNextFinallyFrameLoop [] vm.tryStack.length vm cl).2.2.cur.pc = 2 * (i : Int) + 1) ∧
      ((∀ tf, (f tf).stash = tf.stash) → ∀ sc, specReturnScope k = some sc →
        (enterNextFinallyFrameLoop [] vm.tryStack.length vm cl).2.2.cur.stash = sc) ∧
      ((∀ tf, (f tf).catchPos = tf.catchPos) → ∀ v k', specAfterReturn v k = some k' →
        (enterNextFinallyFrameLoop [] vm.tryStack.length vm cl).2.2.tryStack.map arming
          = (lo ++ (encode spOf k').map f).map arming) := by
  induction k with
  | nil => intro _ _ _ _ _; exact ⟨nofun, fun _ => nofun, fun _ => nofun⟩
  | cons fr k ih =>
    intro vm lo cl hC hvm
    have i0 : 2 * (countTryish k : Int) + 1 ≥ 0 := by omega
    cases fr with
    | tryK cc fin =>
      cases fin with
      | some fb =>
        cases cc <;> exact
          have := enf_entered_layout f C hf vm lo _ _ cl hC (layout_top hvm rfl) i0
          ⟨fun i hs => by cases hs; exact ⟨this.1, this.2.1⟩, fun hst sc hs => by cases hs; rw [this.2.2.1, hst]; rfl,
            fun hcp v k' hs => by cases hs; exact this.2.2.2 hcp⟩
      | none =>
        cases cc <;>
        · rw [enf_skipped_layout f C hf vm _ _ cl hC (layout_top hvm rfl) rfl]
          exact ih { (restoreStacks vm _ _).2 with tryStack := _ } lo _ hC rfl
    | catchK fin =>
      cases fin with
      | some fb =>
        have := enf_entered_layout f C hf vm lo _ _ cl hC (layout_top hvm rfl) i0
        exact ⟨fun i hs => by cases hs; exact ⟨this.1, this.2.1⟩, fun hst sc hs => by cases hs; rw [this.2.2.1, hst]; rfl,
          fun hcp v k' hs => by cases hs; exact this.2.2.2 hcp⟩
      | none =>
        rw [enf_skipped_layout f C hf vm _ _ cl hC (layout_top hvm rfl) rfl]
        exact ih { (restoreStacks vm _ _).2 with tryStack := _ } lo _ hC rfl
    | finK p =>
      rw [enf_skipped_layout f C hf vm _ _ cl hC (layout_top hvm rfl) rfl]
      exact ih { (restoreStacks vm _ _).2 with tryStack := _ } lo _ hC rfl
    | _ => exact ih vm lo cl hC (layout_skip hvm rfl)

end

end GojaModel.C09.Link
