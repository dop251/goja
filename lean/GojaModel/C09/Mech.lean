/-
  C09 — mechanism model `GenCtx`: generator context suspension / resumption of goja.

  Transcribes, function by function:
    /repo/vm.go:37    context            → `Ctx`
    /repo/vm.go:47    tryFrame           → `TryFrame`
    /repo/vm.go:64    execCtx            → `ExecCtx`
    /repo/vm.go:72    (*vm).suspend      → `suspend`
    /repo/vm.go:96    (*vm).resume       → `resume`
    /repo/vm.go:764   pushTryFrame / 778 popTryFrame / 782 restoreStacks / 828 handleThrow
    /repo/vm.go:948   saveCtx / 953 pushCtx / 964 restoreCtx / 969 popCtx
    /repo/func.go:926 enterNext (779 generator.enter, the first activation, is not transcribed) / 910-922 the yield epilogue of generator.step1 /
                      940 generator.next epilogue (popTryFrame; popCtx) / 790 enterNextFinallyFrame (as repaired by 8004794)

  Abstractions (recorded in design/C09.md):
    * the operand stack is the list `vm.stack[0:sp]` (so `sp = stack.length`); slots above `sp` are dead;
    * JS values, stashes, programs, iterator records and refs are opaque `Nat` identities;
    * `uint32` lengths and the `int32` `tf.sp` are `Nat` (no wrap-around: stack lengths < 2^31); `tf.iterLen -= iterStackLen`,
      `tf.sp -= sp` are truncated subtraction, exact for frames pushed above the generator's bases (`FramesAbove`; no proof uses it);
    * `handleThrow` works on a list, so the re-taking of the frame pointer after `restoreStacks` (fix eae3f2a) is implicit;
    * only the catchable case of `handleThrow` (`ex != nil`) is modelled.
  Core Lean only (linked into the model driver).
-/
namespace GojaModel.C09.Mech

/-- vm.go:19 -/
def tryPanicMarker : Int := -2

/-- vm.go:37 `context` (newTarget/result/privEnv omitted: copied verbatim alongside `prg`). -/
structure Ctx where
  prg : Option Nat := none
  stash : Nat := 0
  pc : Int := 0
  sb : Int := 0
  args : Nat := 0
deriving DecidableEq, Repr, Inhabited

/-- vm.go:47 `tryFrame`. -/
structure TryFrame where
  callStackLen : Nat
  iterLen : Nat
  refLen : Nat
  sp : Nat
  stash : Nat
  catchPos : Int
  finallyPos : Int
  finallyRet : Int := -1
  exc : Option Nat := none
deriving DecidableEq, Repr, Inhabited

/-- The control part of vm.go:363 `vm`. `cur` = (vm.prg, vm.stash, vm.pc, vm.sb, vm.args). -/
structure VM where
  cur : Ctx
  stack : List Nat          -- vm.stack[0:vm.sp]
  callStack : List Ctx
  iterStack : List Nat      -- iterator record ids; 0 = entry whose `iter` is nil
  refStack : List Nat
  tryStack : List TryFrame
deriving DecidableEq, Repr, Inhabited

/-- vm.go:64 `execCtx`. -/
structure ExecCtx where
  ctx : Ctx
  stack : List Nat
  tryStack : List TryFrame
  iterStack : List Nat
  refStack : List Nat
deriving DecidableEq, Repr, Inhabited

def VM.sp (vm : VM) : Int := vm.stack.length

/-- vm.go:78-84: the rebasing applied to one saved try frame by `suspend`. -/
def TryFrame.toRel (tf : TryFrame) (iterStackLen refStackLen : Nat) (sp : Nat) : TryFrame :=
  { tf with iterLen := tf.iterLen - iterStackLen, refLen := tf.refLen - refStackLen, sp := tf.sp - sp }

/-- vm.go:103-109: the rebasing applied to one saved try frame by `resume`. -/
def TryFrame.toAbs (tf : TryFrame) (callLen iterLen refLen : Nat) (sp : Nat) : TryFrame :=
  { tf with callStackLen := callLen, iterLen := tf.iterLen + iterLen, refLen := tf.refLen + refLen,
            sp := tf.sp + sp }

/-- vm.go:72 `suspend(ectx, tryStackLen, iterStackLen, refStackLen)` with `*ectx` zero on entry
(func.go:912 `g.ctx = execCtx{}`). Returns the filled execCtx and the vm afterwards. -/
def suspend (vm : VM) (tryStackLen iterStackLen refStackLen : Nat) : ExecCtx × VM :=
  let seg := vm.stack.drop (vm.cur.sb - 1).toNat                       -- :74 vm.stack[vm.sb-1:vm.sp]
  let (etry, vtry) :=
    if vm.tryStack.length > tryStackLen then                           -- :75
      ((vm.tryStack.drop tryStackLen).map                              -- :76, :79-84
          (fun tf => tf.toRel iterStackLen refStackLen (vm.cur.sb - 1).toNat),
       vm.tryStack.take tryStackLen)                                   -- :77
    else ([], vm.tryStack)
  let (eiter, viter) :=
    if vm.iterStack.length > iterStackLen then                         -- :86
      (vm.iterStack.drop iterStackLen, vm.iterStack.take iterStackLen)
    else ([], vm.iterStack)
  let (eref, vref) :=
    if vm.refStack.length > refStackLen then                           -- :90
      (vm.refStack.drop refStackLen, vm.refStack.take refStackLen)
    else ([], vm.refStack)
  ({ ctx := vm.cur, stack := seg, tryStack := etry, iterStack := eiter, refStack := eref },
   { vm with tryStack := vtry, iterStack := viter, refStack := vref })

/-- vm.go:96 `resume(ctx)`. -/
def resume (vm : VM) (e : ExecCtx) : VM :=
  let sp : Nat := vm.stack.length                                      -- :98
  { cur := { e.ctx with sb := (sp : Int) + 1 }                         -- :97, :99
    stack := vm.stack ++ e.stack                                       -- :100-102
    callStack := vm.callStack
    tryStack := vm.tryStack ++ e.tryStack.map                          -- :103-110
      (fun tf => tf.toAbs vm.callStack.length vm.iterStack.length vm.refStack.length sp)
    iterStack := vm.iterStack ++ e.iterStack                           -- :111
    refStack := vm.refStack ++ e.refStack }                            -- :112

/-- vm.go:953 `pushCtx` (stack-overflow check omitted). -/
def pushCtx (vm : VM) : VM := { vm with callStack := vm.callStack ++ [vm.cur] }

/-- vm.go:969 `popCtx`. -/
def popCtx (vm : VM) : VM :=
  match vm.callStack.getLast? with
  | none => vm
  | some c => { vm with cur := c, callStack := vm.callStack.dropLast }

/-- vm.go:764 `pushTryFrame`. -/
def pushTryFrame (vm : VM) (catchPos finallyPos : Int) : VM :=
  { vm with tryStack := vm.tryStack ++ [{
      callStackLen := vm.callStack.length, iterLen := vm.iterStack.length, refLen := vm.refStack.length,
      sp := vm.stack.length, stash := vm.cur.stash, catchPos := catchPos, finallyPos := finallyPos,
      finallyRet := -1 }] }

/-- vm.go:778 `popTryFrame`. -/
def popTryFrame (vm : VM) : VM := { vm with tryStack := vm.tryStack.dropLast }

/-- vm.go:782 `restoreStacks(iterLen, refLen)`: returns the iterator records closed (`returnIter`), in the
order they are closed (top of the iter stack first; entries with nil `iter`, id 0, are skipped). -/
def restoreStacks (vm : VM) (iterLen refLen : Nat) : List Nat × VM :=
  (((vm.iterStack.drop iterLen).reverse).filter (· ≠ 0),
   { vm with iterStack := vm.iterStack.take iterLen, refStack := vm.refStack.take refLen })

inductive Outcome where
  | caught (pc : Int)        -- :866 exception pushed, pc = catchPos
  | toFinally (pc : Int)     -- :873 pending exception stored in the frame, pc = finallyPos
  | uncaught                 -- :862 stopped at a tryPanicMarker frame (or no frame): `return ex`
  | stuck                    -- a frame shape the Go loop would spin on (never produced by the compiler)
deriving DecidableEq, Repr, Inhabited

/-- vm.go:828 `handleThrow` for a catchable exception `ex` (an opaque value id).  Fuel = number of try frames. -/
def handleThrowLoop (ex : Nat) : Nat → VM → List Nat → Outcome × List Nat × VM
  | 0, vm, closed => (.uncaught, closed, vm)
  | n + 1, vm, closed =>
    match vm.tryStack.getLast? with
    | none => (.uncaught, closed, vm)                                            -- :842 loop exit, :885
    | some tf =>
      if tf.catchPos = -1 ∧ tf.finallyPos = -1 then                              -- :844
        handleThrowLoop ex n { vm with tryStack := vm.tryStack.dropLast } closed -- :845-847
      else
        let vm1 : VM :=                                                          -- :849-854
          if tf.callStackLen < vm.callStack.length then
            let c := vm.callStack.getD tf.callStackLen default
            { vm with cur := { c with stash := vm.cur.stash }, callStack := vm.callStack.take tf.callStackLen }
          else vm
        let vm2 : VM := { vm1 with stack := vm1.stack.take tf.sp,          -- :855
                                   cur := { vm1.cur with stash := tf.stash } }   -- :856
        let (cl, vm3) := restoreStacks vm2 tf.iterLen tf.refLen                  -- :858
        let closed := closed ++ cl
        if tf.catchPos = tryPanicMarker then (.uncaught, closed, vm3)            -- :862
        else if tf.catchPos ≥ 0 then                                             -- :866
          (.caught tf.catchPos, closed,
           { vm3 with stack := vm3.stack ++ [ex], cur := { vm3.cur with pc := tf.catchPos },
                      tryStack := vm3.tryStack.dropLast ++ [{ tf with catchPos := -1 }] })
        else if tf.finallyPos ≥ 0 then                                           -- :873
          (.toFinally tf.finallyPos, closed,
           { vm3 with cur := { vm3.cur with pc := tf.finallyPos },
                      tryStack := vm3.tryStack.dropLast ++
                        [{ tf with exc := some ex, finallyPos := -1, finallyRet := -1 }] })
        else (.stuck, closed, vm3)

def handleThrow (ex : Nat) (vm : VM) : Outcome × List Nat × VM :=
  handleThrowLoop ex vm.tryStack.length vm []

/-- The generator record of func.go:767 (control part). -/
structure Gen where
  ctx : ExecCtx
  tryStackLen : Nat
  iterStackLen : Nat
  refStackLen : Nat
deriving DecidableEq, Repr, Inhabited

/-- func.go:775 `storeLengths`. -/
def storeLengths (g : Gen) (vm : VM) : Gen :=
  { g with tryStackLen := vm.tryStack.length, iterStackLen := vm.iterStack.length, refStackLen := vm.refStack.length }

/-- func.go:926 `enterNext`. -/
def enterNext (g : Gen) (vm : VM) : Gen × VM :=
  let vm1 := pushCtx vm                                                -- :927
  let vm2 := pushTryFrame vm1 tryPanicMarker (-1)                      -- :928
  let vm3 := { vm2 with callStack := vm2.callStack ++ [{ pc := -2 }] } -- :929
  let g' := storeLengths g vm3                                         -- :930
  (g', resume vm3 g'.ctx)                                              -- :931

/-- func.go:910-922: the vm stands just after `yieldMarker.exec` (marker on top of the yielded value, pc negated;
`hasValue = false` for `yieldEmpty`).  -/
def yieldEpilogue (g : Gen) (vm : VM) (hasValue : Bool) : Gen × VM :=
  let vm1 : VM := { vm with cur := { vm.cur with pc := -vm.cur.pc + 1 },                 -- :913
                            stack := vm.stack.dropLast }                                 -- :865/:902 pop marker
  let vm2 : VM := if hasValue then { vm1 with stack := vm1.stack.dropLast } else vm1     -- :914-918
  let (e, vm3) := suspend vm2 g.tryStackLen g.iterStackLen g.refStackLen                 -- :919
  ({ g with ctx := e },
   { vm3 with stack := vm3.stack.take (vm3.cur.sb - 1).toNat,                            -- :920
              callStack := vm3.callStack.dropLast })                                     -- :921

/-- func.go:940-941 the epilogue of `generator.next`. -/
def nextEpilogue (vm : VM) : VM := popCtx (popTryFrame vm)


/-- func.go:790 `generator.enterNextFinallyFrame` as repaired by 8004794 (the frame of the finally block that
return(v) enters is marked as an ordinary finally-only frame: catchPos = -1, not tryPanicMarker).  Returns
`(canContinue, closed iterators, vm)`; the `restoreStacks` error branch (:800-806, an iterator's return() threw) is
the `throwing` argument: an id in it stops the loop there with answer `true` and the frames as they are — the branch is only
marked; its `handleThrow` and the answer `(false, ex)` are in `enfLoop2` (MechReturn.lean). Fuel = number of try frames. -/
def enterNextFinallyFrameLoop (throwing : List Nat) : Nat → VM → List Nat → Bool × List Nat × VM
  | 0, vm, closed => (false, closed, vm)
  | n + 1, vm, closed =>
    match vm.tryStack.getLast? with
    | none => (false, closed, vm)
    | some tf =>
      if tf.callStackLen ≠ vm.callStack.length then (false, closed, vm)             -- :796 function boundary
      else
        let (cl, vm1) := restoreStacks vm tf.iterLen tf.refLen                      -- :799
        let closed := closed ++ cl
        if cl.any (throwing.contains ·) then (true, closed, vm1)                    -- :800-805 closing threw
        else if tf.finallyPos ≥ 0 then                                              -- :808
          (true, closed,
           { vm1 with stack := vm1.stack.take tf.sp,                                -- :809
                      cur := { vm1.cur with stash := tf.stash, pc := tf.finallyPos },   -- :810-812
                      tryStack := vm1.tryStack.dropLast ++
                        [{ tf with catchPos := -1, finallyPos := -1, finallyRet := -2 }] })   -- :813-815 (8004794)
        else enterNextFinallyFrameLoop throwing n { vm1 with tryStack := vm1.tryStack.dropLast } closed   -- :818

def enterNextFinallyFrame (throwing : List Nat) (vm : VM) : Bool × List Nat × VM :=
  enterNextFinallyFrameLoop throwing vm.tryStack.length vm []

/-! ### `generator.step1`, branch `g.returning != nil` (func.go:866-908, as repaired by 5eca78e)

The body's execution (`vm.runTryInner`) is opaque here: an oracle supplies, per invocation, how it came back and the
vm it left. -/
inductive RunBack where
  | threw          -- ex != nil: not caught by any handler of the generator
  | caught         -- ex == nil but the code has not halted: a Go-panic-raised exception was caught inside the generator
  | finallyExit    -- halted with prg != nil ∧ pc == -2: a return-triggered finally block ran to its end (leaveFinally)
  | returned       -- halted by `ret` into the extra frame (prg == nil): the body returned a value of its own
  | yielded        -- halted by a yield marker
deriving DecidableEq, Repr, Inhabited

inductive Step1Out where
  | exThrown | returnCompleted | bodyReturned | yielded | oracleExhausted
deriving DecidableEq, Repr, Inhabited

/-- :866-908.  `.caught` ⇒ `continue` is the test `!vm.halted()` added by 5eca78e. -/
def step1Returning (g : Gen) (throwing : List Nat) : List (RunBack × VM) → Step1Out × Option VM
  | [] => (.oracleExhausted, none)
  | (ev, vm) :: rest =>
    match ev with
    | .threw => (.exThrown, some vm)                                              -- :869-873
    | .caught => step1Returning g throwing rest                                   -- :874-879 (5eca78e)
    | .finallyExit =>                                                             -- :881
      let (c, _, vm1) := enterNextFinallyFrame throwing vm                        -- :882
      if c then step1Returning g throwing rest                                    -- :886 continue
      else
        let (_, vm2) := restoreStacks vm1 g.iterStackLen g.refStackLen            -- :891
        (.returnCompleted,
         some { vm2 with stack := vm2.stack.take (vm2.cur.sb - 1).toNat,          -- :894
                         callStack := vm2.callStack.dropLast })                   -- :895
    | .returned => (.bodyReturned, some vm)                                       -- :902-905
    | .yielded => (.yielded, some vm)                                             -- :906 break → yield epilogue

/-- The loop BEFORE 5eca78e: a `.caught` come-back fell through to `res = vm.pop()` and was taken for a return / yield. -/
def step1ReturningOld (g : Gen) (throwing : List Nat) : List (RunBack × VM) → Step1Out × Option VM
  | [] => (.oracleExhausted, none)
  | (ev, vm) :: rest =>
    match ev with
    | .threw => (.exThrown, some vm)
    | .caught => (if vm.cur.prg.isNone then .bodyReturned else .yielded, some { vm with stack := vm.stack.dropLast })
    | .finallyExit =>
      let (c, _, vm1) := enterNextFinallyFrame throwing vm
      if c then step1ReturningOld g throwing rest
      else
        let (_, vm2) := restoreStacks vm1 g.iterStackLen g.refStackLen
        (.returnCompleted, some { vm2 with stack := vm2.stack.take (vm2.cur.sb - 1).toNat, callStack := vm2.callStack.dropLast })
    | .returned => (.bodyReturned, some vm)
    | .yielded => (.yielded, some vm)

/-- The generator-relative view of a try frame: what `suspend` stores (callStackLen is overwritten by `resume`,
so it is not part of the view). -/
def relView (tf : TryFrame) (iterBase refBase : Nat) (spBase : Nat) : TryFrame :=
  { (tf.toRel iterBase refBase spBase) with callStackLen := 0 }

end GojaModel.C09.Mech
