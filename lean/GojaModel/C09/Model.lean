/-
  C09 — spec model `GenReplay`: a generator body is literally a state machine.

  A small generator-body language (locals, integer/string expressions with `yield` allowed in every
  expression position, log, if/while/for, try/catch/finally, for-of over arrays and over scripted
  iterators / other generators, a closure that updates a captured local, return, throw, break/continue (optionally labelled), `yield*`
  delegation to scripted iterators incl. ones missing `throw`/`return` or whose `return` throws) is given meaning by a
  defunctionalised CEK machine: `step` is a NON-recursive transition function on configurations
  (control, environment, continuation stack), `run` iterates it (fuel), and a suspended generator is
  just a stored configuration.  `genCall` is the generatorObject state machine of /repo/func.go:982-1177
  (validate / next / throw / _return, states suspendedStart / suspendedYield / executing / completed),
  `genRun` folds it over a driver history.

  Spec references: ECMA-262 §27.5.3 (GeneratorResume / GeneratorResumeAbrupt / GeneratorValidate),
  §15.5.5 (yield, yield*), §14.15.3 (try), §14.7.5.7 (for-of, IteratorClose).
  Core Lean only (linked into the model driver).
-/
namespace GojaModel.C09

inductive Val where
  | undef | num (n : Nat) | nan | str (s : String) | terr
deriving DecidableEq, Repr, Inhabited

inductive CmdKind where | next | throw | ret
deriving DecidableEq, Repr, Inhabited

structure Cmd where
  kind : CmdKind
  payload : Val
deriving DecidableEq, Repr, Inhabited

/-- A scripted iterator / inner generator (see design/C09.md for the JavaScript each one denotes).
`ret`: 0 = no `return` method, 1 = `return(v)` answers `{value: v, done: true}`, 2 = `return` throws the string "X<id>",
3 = `return` answers a non-object (the number 5).
`thr`: 0 = no `throw` method, 1 = rethrows, 2 = returns `{done:true}`, 3 = returns `{done:false}`, 4 = returns a non-object.
`10 ≤ id < 40` (object kind): the iterator's SECOND `next()` call makes a re-entrant call on the generator under test
(`id / 10 - 1` = 0 next / 1 throw / 2 return), catches what it throws and logs it.
`id ≥ 40` (object kind): the iterator's SECOND `next()` call throws the string "N<id>". -/
structure IterSpec where
  id : Nat
  isGen : Bool
  ret : Nat
  thr : Nat
  items : List Val
deriving DecidableEq, Repr, Inhabited

structure IterState where
  spec : IterSpec
  pos : Nat
  started : Bool
deriving DecidableEq, Repr, Inhabited

inductive Expr where
  | lit (v : Val)
  | var (x : Nat)
  | add (a b : Expr)
  | yld (e : Expr)
  | yldStar (it : IterSpec)
  | call (args : List (Bool × Expr))                 -- J(a, ...b, c)
  | tmpl (lit0 : String) (rest : List (Expr × String))
  | asg (x : Nat) (e : Expr)
  | bump (x : Nat) (e : Expr)                        -- closure call: Bx(e), Bx = d => (x = x + d)
  | reent (k : CmdKind)                              -- G.next()/G.throw()/G.return() from inside the body
deriving Repr, Inhabited

inductive Cond where
  | cmp (neg : Bool) (a b : Expr)                    -- a === b / a !== b
deriving Repr, Inhabited

/-- Loop label (`Lk: for …`), `none` = unlabelled; in `break`/`continue`, `none` = innermost loop. -/
abbrev Label := Option Nat

inductive Stmt where
  | expr (e : Expr)
  | log (e : Expr)
  | letArr (targets : List (Nat × Option Expr)) (src : List (Bool × Expr))
  | ite (c : Cond) (t e : List Stmt)
  | forS (l : Label) (x : Nat) (n : Nat) (body : List Stmt)     -- for (x = 0; x !== n; x = x + 1)
  | whileS (l : Label) (c : Cond) (body : List Stmt)
  | tryS (b : List Stmt) (c : Option (Nat × List Stmt)) (f : Option (List Stmt))
  | forOfArr (l : Label) (x : Nat) (src : List (Bool × Expr)) (body : List Stmt)
  | forOfIter (l : Label) (x : Nat) (it : IterSpec) (body : List Stmt)
  | ret (e : Expr)
  | thr (e : Expr)
  | brk (l : Label)
  | cont (l : Label)
  | blk (x : Nat) (init : Val) (body : List Stmt)   -- { let s = init; …closures capturing s…; body }: a block scope whose
                                                    -- binding (slot x, a fresh one per nesting depth: shadowing) lives in its own scope object
deriving Repr, Inhabited

inductive Completion where
  | thr (v : Val)
  | ret (v : Val)
  | brk (l : Label)
  | cont (l : Label)
deriving Repr, Inhabited

inductive ArgsThen where
  | callJ
  | forArr (l : Label) (x : Nat) (body : List Stmt)
  | letArr (targets : List (Nat × Option Expr))
deriving Repr, Inhabited

inductive Frame where
  | addL (b : Expr) | addR (a : Val)
  | yldK
  | argsK (done : List Val) (spread : Bool) (rest : List (Bool × Expr)) (th : ArgsThen)
  | tmplK (acc : String) (lit : String) (rest : List (Expr × String))
  | asgK (x : Nat) | bumpK (x : Nat) | logK | retK | thrK
  | condL (neg : Bool) (b : Expr) | condR (neg : Bool) (a : Val)
  | iteK (t e : List Stmt)
  | seqK (rest : List Stmt)
  | whileK (l : Label) (c : Cond) (body : List Stmt)         -- the condition is being evaluated
  | whileBodyK (l : Label) (c : Cond) (body : List Stmt)     -- the body is running
  | forBodyK (l : Label) (x : Nat) (n : Nat) (body : List Stmt)
  | tryK (c : Option (Nat × List Stmt)) (f : Option (List Stmt))
  | catchK (f : Option (List Stmt))
  | finK (pending : Option Completion)
  | forOfK (l : Label) (x : Nat) (it : IterState) (body : List Stmt)
  | forArrK (l : Label) (x : Nat) (rest : List Val) (body : List Stmt)
  | letArrK (x : Nat) (vals : List Val) (targets : List (Nat × Option Expr))
  | blkK                                            -- a block scope is open (lexical scope marker; transparent)
deriving Repr, Inhabited

inductive Ctl where
  | evalE (e : Expr)
  | evalC (c : Cond)
  | val (v : Val)
  | exec (ss : List Stmt)
  | abrupt (c : Completion)
  | args (done : List Val) (rest : List (Bool × Expr)) (th : ArgsThen)
  | tmplGo (acc : String) (rest : List (Expr × String))
  | letArrGo (vals : List Val) (targets : List (Nat × Option Expr))
  | forGo (l : Label) (x : Nat) (n : Nat) (body : List Stmt)
  | forOfGo (l : Label) (x : Nat) (it : IterState) (body : List Stmt)
  | forArrGo (l : Label) (x : Nat) (rest : List Val) (body : List Stmt)
deriving Repr, Inhabited

structure Conf where
  ctl : Ctl
  env : List Val
  k : List Frame
deriving Repr, Inhabited

inductive Result where
  | y (v : Val)        -- {value: v, done: false}
  | d (v : Val)        -- {value: v, done: true}
  | t (v : Val)        -- the call threw v
  | fuel               -- model ran out of fuel (never expected; reported as a generator bug)
deriving DecidableEq, Repr, Inhabited

abbrev Event := String

/-! ## Values -/

def natStr (n : Nat) : String := toString n

/-- Canonical printing used by `log`, `J` and the trace (the harness prints JS values the same way). -/
def showVal : Val → String
  | .undef => "u" | .num n => "i" ++ natStr n | .nan => "N" | .str s => "s" ++ s | .terr => "E"

/-- JS ToString on the value universe. -/
def toStr : Val → String
  | .undef => "undefined" | .num n => natStr n | .nan => "NaN" | .str s => s | .terr => "TE"

def isStr : Val → Bool | .str _ => true | _ => false

/-- JS `+` on the value universe. -/
def addV (a b : Val) : Val :=
  match a, b with
  | .num x, .num y => .num (x + y)
  | _, _ => if isStr a || isStr b then .str (toStr a ++ toStr b) else .nan

/-- JS `===`. -/
def eqV (a b : Val) : Bool := a == b && a != .nan

def jOf (vs : List Val) : Val := .str (vs.foldl (fun s v => s ++ "_" ++ showVal v) "J")

/-- `catch (e) { x = C(e) … }`: the harness canonicalises a caught TypeError object to the string "TE". -/
def canonErr : Val → Val | .terr => .str "TE" | v => v

def spreadOf : Val → Option (List Val)
  | .str s => some (s.toList.map (fun c => .str (String.singleton c)))
  | _ => none

/-! ## The generator object's decision before any body code runs (func.go:982 validate, 1059 next, 1081 throw,
1112 _return) — non-recursive so that the body's re-entrant calls can use it. -/

inductive GTag where | start | susp | executing | completed
deriving DecidableEq, Repr, Inhabited

inductive Pre where
  | reject                                   -- TypeError "Illegal generator state", state unchanged
  | answer (r : Result)                      -- answered without running the body; state becomes completed
  | resume                                   -- resume the body (or the delegate)
deriving DecidableEq, Repr, Inhabited

def genPre (tag : GTag) (cmd : Cmd) : Pre :=
  match tag with
  | .executing => .reject                                            -- func.go:983
  | .completed =>
    match cmd.kind with
    | .next => .answer (.d .undef)                                   -- :1061
    | .throw => .answer (.t cmd.payload)                             -- :1087
    | .ret => .answer (.d cmd.payload)                               -- :1119
  | .start =>
    match cmd.kind with
    | .next => .resume
    | .throw => .answer (.t cmd.payload)                             -- :1083-1088
    | .ret => .answer (.d cmd.payload)                               -- :1114-1120
  | .susp => .resume

/-! ## Scripted iterators -/

def IterSpec.tag (s : IterSpec) : String := "I" ++ natStr s.id
def IterSpec.hasThrow (s : IterSpec) : Bool := s.isGen || s.thr != 0
def IterSpec.hasReturn (s : IterSpec) : Bool := s.isGen || s.ret != 0
def IterState.init (s : IterSpec) : IterState := ⟨s, 0, false⟩

inductive IterOut where
  | yielded (v : Val) (st : IterState)
  | done (v : Val)
  | threw (v : Val)
deriving Repr, Inhabited

/-- What a re-entrant driver call made from inside one of the iterator's methods evaluates to: the generator that is
delegating to (or iterating over) this iterator is RUNNING, so GeneratorValidate rejects the call (§27.5.3.2). -/
def reentOutcome (kd : CmdKind) : Val :=
  match genPre .executing ⟨kd, .num 9⟩ with
  | .reject => .terr
  | _ => .undef

def IterSpec.reentKind (s : IterSpec) : Option CmdKind :=
  if s.isGen || s.id < 10 || s.id ≥ 40 then none
  else match s.id / 10 - 1 with
    | 0 => some .next
    | 1 => some .throw
    | _ => some .ret

def IterSpec.nextThrows (s : IterSpec) : Bool := !s.isGen && s.id ≥ 40

def iterNext (st : IterState) (v : Val) : List Event × IterOut :=
  let s := st.spec
  let ev : List Event := if s.isGen && !st.started then [] else [s.tag ++ "n" ++ showVal v]
  let ev : List Event :=
    match s.reentKind with
    | some kd => if st.pos == 1 && 1 < s.items.length then ev ++ [s.tag ++ "x" ++ showVal (reentOutcome kd)] else ev
    | none => ev
  if s.nextThrows && st.pos == 1 && 1 < s.items.length then (ev, .threw (.str ("N" ++ natStr s.id)))
  else
  match s.items[st.pos]? with
  | some it => (ev, .yielded it { st with pos := st.pos + 1, started := true })
  | none => (if s.isGen then ev ++ [s.tag ++ "f"] else ev, .done (.str ("R" ++ natStr s.id)))

/-- Only called when `hasThrow`. -/
def iterThrow (st : IterState) (e : Val) : List Event × IterOut :=
  let s := st.spec
  if s.isGen then ([s.tag ++ "f"], .threw e)
  else
    let ev := [s.tag ++ "t" ++ showVal e]
    if s.thr == 2 then (ev, .done (.str ("T" ++ natStr s.id)))
    else if s.thr == 3 then (ev, .yielded (.str ("C" ++ natStr s.id)) st)
    else if s.thr == 4 then (ev, .threw .terr)        -- result is not an object: TypeError (§15.5.5 7.b.iii)
    else (ev, .threw e)

/-- Only called when `hasReturn`. -/
def iterReturn (st : IterState) (v : Val) : List Event × IterOut :=
  let s := st.spec
  if s.isGen then ([s.tag ++ "f"], .done v)
  else if s.ret == 2 then ([s.tag ++ "r" ++ showVal v], .threw (.str ("X" ++ natStr s.id)))
  else if s.ret == 3 then ([s.tag ++ "r" ++ showVal v], .threw .terr)   -- result is not an object: TypeError
  else ([s.tag ++ "r" ++ showVal v], .done v)

/-- IteratorClose (§7.4.11) / `returnIter` (runtime.go): calls `return()` without arguments if present; the second
component is the error `return()` threw, if any (the caller decides whether it replaces the completion). -/
def iterClose (st : IterState) : List Event × Option Val :=
  if st.spec.hasReturn then
    match iterReturn st .undef with
    | (ev, .threw e) => (ev, some e)
    | (ev, _) => (ev, none)
  else ([], none)

/-! ## The machine -/

inductive StepOut where
  | cont (c : Conf) (ev : List Event)
  | yielded (v : Val) (c : Conf) (deleg : Option IterState) (ev : List Event)
  | finished (r : Result) (ev : List Event)
deriving Repr, Inhabited

def envGet (env : List Val) (x : Nat) : Val := env.getD x .undef

/-- One command delivered to a delegate (`yield*`): §15.5.5 step 7 / func.go:1064-1073, 1089-1107, 1122-1136. -/
def delegCmd (it : IterState) (cmd : Cmd) (c : Conf) : StepOut :=
  match cmd.kind with
  | .next =>
    match iterNext it cmd.payload with
    | (ev, .yielded v it') => .yielded v c (some it') ev
    | (ev, .done v) => .cont { c with ctl := .val v } ev
    | (ev, .threw e) => .cont { c with ctl := .abrupt (.thr e) } ev
  | .throw =>
    if it.spec.hasThrow then
      match iterThrow it cmd.payload with
      | (ev, .yielded v it') => .yielded v c (some it') ev
      | (ev, .done v) => .cont { c with ctl := .val v } ev
      | (ev, .threw e) => .cont { c with ctl := .abrupt (.thr e) } ev
    else
      match iterClose it with                                                   -- func.go:1095-1097
      | (ev, some e) => .cont { c with ctl := .abrupt (.thr e) } ev              -- return() threw: that error wins
      | (ev, none) => .cont { c with ctl := .abrupt (.thr .terr) } ev
  | .ret =>
    if it.spec.hasReturn then
      match iterReturn it cmd.payload with
      | (ev, .yielded v it') => .yielded v c (some it') ev
      | (ev, .done v) => .cont { c with ctl := .abrupt (.ret v) } ev
      | (ev, .threw e) => .cont { c with ctl := .abrupt (.thr e) } ev
    else .cont { c with ctl := .abrupt (.ret cmd.payload) } []                   -- func.go:1128-1129

/-- Does a loop labelled `lf` consume `break l` / `continue l`? -/
def loopCatches (lf l : Label) : Bool := l.isNone || l == lf

/-- What a loop frame does with an abrupt completion: `some true` = break out of it, `some false` = continue it,
`none` = not for this loop. -/
def loopAction (lf : Label) : Completion → Option Bool
  | .brk l => if loopCatches lf l then some true else none
  | .cont l => if loopCatches lf l then some false else none
  | _ => none

def isThr : Completion → Bool | .thr _ => true | _ => false


/-- Unwinding: one step of an abrupt completion `cp` against the top continuation frame. -/
def stepAbrupt (c : Conf) (cp : Completion) : StepOut :=
  let env := c.env
  match c.k with
  | [] =>
    match cp with
    | .thr v => .finished (.t v) []
    | .ret v => .finished (.d v) []
    | .brk _ => .finished (.d .undef) []
    | .cont _ => .finished (.d .undef) []
  | f :: k' =>
    match f with
    | .tryK cc fin =>
      match cp, cc with
      | .thr v, some (x, cb) => .cont { ctl := .exec cb, env := env.set x (canonErr v), k := .catchK fin :: k' } []
      | _, _ =>
        match fin with
        | some fb => .cont { c with ctl := .exec fb, k := .finK (some cp) :: k' } []
        | none => .cont { c with k := k' } []
    | .catchK fin =>
      match fin with
      | some fb => .cont { c with ctl := .exec fb, k := .finK (some cp) :: k' } []
      | none => .cont { c with k := k' } []
    | .forOfK lf x it body =>
      match loopAction lf cp with
      | some false => .cont { c with ctl := .forOfGo lf x it body, k := k' } []          -- continue: next iteration
      | act =>
        -- leaving the loop: IteratorClose; an error from return() replaces every completion but a throw
        match iterClose it with
        | (ev, some e) =>
          if isThr cp then .cont { c with k := k' } ev else .cont { c with ctl := .abrupt (.thr e), k := k' } ev
        | (ev, none) =>
          if act.isSome then .cont { c with ctl := .val .undef, k := k' } ev else .cont { c with k := k' } ev
    | .whileBodyK lf cd body =>
      match loopAction lf cp with
      | some true => .cont { c with ctl := .val .undef, k := k' } []
      | some false => .cont { c with ctl := .evalC cd, k := .whileK lf cd body :: k' } []
      | none => .cont { c with k := k' } []
    | .forBodyK lf x n body =>
      match loopAction lf cp with
      | some true => .cont { c with ctl := .val .undef, k := k' } []
      | some false => .cont { ctl := .forGo lf x n body, env := env.set x (addV (envGet env x) (.num 1)), k := k' } []
      | none => .cont { c with k := k' } []
    | .forArrK lf x rest body =>
      match loopAction lf cp with
      | some true => .cont { c with ctl := .val .undef, k := k' } []
      | some false => .cont { c with ctl := .forArrGo lf x rest body, k := k' } []
      | none => .cont { c with k := k' } []
    | _ => .cont { c with k := k' } []

/-- The transition function.  Non-recursive: every case is one machine step. -/
def step (c : Conf) : StepOut :=
  let env := c.env
  let k := c.k
  match c.ctl with
  | .evalE e =>
    match e with
    | .lit v => .cont { c with ctl := .val v } []
    | .var x => .cont { c with ctl := .val (envGet env x) } []
    | .add a b => .cont { c with ctl := .evalE a, k := .addL b :: k } []
    | .yld e => .cont { c with ctl := .evalE e, k := .yldK :: k } []
    | .yldStar s => delegCmd (IterState.init s) ⟨.next, .undef⟩ c
    | .call args => .cont { c with ctl := .args [] args .callJ } []
    | .tmpl l0 rest => .cont { c with ctl := .tmplGo l0 rest } []
    | .asg x e => .cont { c with ctl := .evalE e, k := .asgK x :: k } []
    | .bump x e => .cont { c with ctl := .evalE e, k := .bumpK x :: k } []
    | .reent kd =>
      -- the body only ever runs while the object is `executing`
      match genPre .executing ⟨kd, .num 1⟩ with
      | .reject => .cont { c with ctl := .abrupt (.thr .terr) } []
      | _ => .cont { c with ctl := .abrupt (.thr .terr) } []
  | .evalC (.cmp neg a b) => .cont { c with ctl := .evalE a, k := .condL neg b :: k } []
  | .args done rest th =>
    match rest with
    | (sp, e) :: rest' => .cont { c with ctl := .evalE e, k := .argsK done sp rest' th :: k } []
    | [] =>
      match th with
      | .callJ => .cont { c with ctl := .val (jOf done) } []
      | .forArr l x body => .cont { c with ctl := .forArrGo l x done body } []
      | .letArr ts => .cont { c with ctl := .letArrGo done ts } []
  | .tmplGo acc rest =>
    match rest with
    | [] => .cont { c with ctl := .val (.str acc) } []
    | (e, l) :: rest' => .cont { c with ctl := .evalE e, k := .tmplK acc l rest' :: k } []
  | .letArrGo vals ts =>
    match ts with
    | [] => .cont { c with ctl := .val .undef } []
    | (x, d) :: ts' =>
      let v := vals.headD .undef
      match v, d with
      | .undef, some e => .cont { c with ctl := .evalE e, k := .letArrK x vals.tail ts' :: k } []
      | _, _ => .cont { c with ctl := .letArrGo vals.tail ts', env := env.set x v } []
  | .forGo l x n body =>
    if eqV (envGet env x) (.num n) then .cont { c with ctl := .val .undef } []
    else .cont { c with ctl := .exec body, k := .forBodyK l x n body :: k } []
  | .forOfGo l x it body =>
    match iterNext it .undef with
    | (ev, .yielded v it') => .cont { ctl := .exec body, env := env.set x v, k := .forOfK l x it' body :: k } ev
    | (ev, .done _) => .cont { c with ctl := .val .undef } ev
    | (ev, .threw e) => .cont { c with ctl := .abrupt (.thr e) } ev
  | .forArrGo l x rest body =>
    match rest with
    | [] => .cont { c with ctl := .val .undef } []
    | v :: r => .cont { ctl := .exec body, env := env.set x v, k := .forArrK l x r body :: k } []
  | .exec ss =>
    match ss with
    | [] => .cont { c with ctl := .val .undef } []
    | s :: rest =>
      let k1 := Frame.seqK rest :: k
      match s with
      | .expr e => .cont { c with ctl := .evalE e, k := k1 } []
      | .log e => .cont { c with ctl := .evalE e, k := .logK :: k1 } []
      | .letArr ts src => .cont { c with ctl := .args [] src (.letArr ts), k := k1 } []
      | .ite cd t e => .cont { c with ctl := .evalC cd, k := .iteK t e :: k1 } []
      | .forS l x n body => .cont { ctl := .forGo l x n body, env := env.set x (.num 0), k := k1 } []
      | .whileS l cd body => .cont { c with ctl := .evalC cd, k := .whileK l cd body :: k1 } []
      | .tryS b cc f => .cont { c with ctl := .exec b, k := .tryK cc f :: k1 } []
      | .forOfArr l x src body => .cont { c with ctl := .args [] src (.forArr l x body), k := k1 } []
      | .forOfIter l x s body => .cont { c with ctl := .forOfGo l x (IterState.init s) body, k := k1 } []
      | .ret e => .cont { c with ctl := .evalE e, k := .retK :: k1 } []
      | .thr e => .cont { c with ctl := .evalE e, k := .thrK :: k1 } []
      | .brk l => .cont { c with ctl := .abrupt (.brk l), k := k1 } []
      | .cont l => .cont { c with ctl := .abrupt (.cont l), k := k1 } []
      | .blk x v body => .cont { ctl := .exec body, env := env.set x v, k := .blkK :: k1 } []
  | .val v =>
    match k with
    | [] => .finished (.d .undef) []
    | f :: k' =>
      match f with
      | .addL b => .cont { c with ctl := .evalE b, k := .addR v :: k' } []
      | .addR a => .cont { c with ctl := .val (addV a v), k := k' } []
      | .yldK => .yielded v { c with ctl := .val .undef, k := k' } none []
      | .argsK done sp rest th =>
        if sp then
          match spreadOf v with
          | some vs => .cont { c with ctl := .args (done ++ vs) rest th, k := k' } []
          | none => .cont { c with ctl := .abrupt (.thr .terr), k := k' } []
        else .cont { c with ctl := .args (done ++ [v]) rest th, k := k' } []
      | .tmplK acc l rest => .cont { c with ctl := .tmplGo (acc ++ toStr v ++ l) rest, k := k' } []
      | .asgK x => .cont { ctl := .val v, env := env.set x v, k := k' } []
      | .bumpK x =>
        let nv := addV (envGet env x) v
        .cont { ctl := .val nv, env := env.set x nv, k := k' } []
      | .logK => .cont { c with ctl := .val .undef, k := k' } [showVal v]
      | .retK => .cont { c with ctl := .abrupt (.ret v), k := k' } []
      | .thrK => .cont { c with ctl := .abrupt (.thr v), k := k' } []
      | .condL neg b => .cont { c with ctl := .evalE b, k := .condR neg v :: k' } []
      | .condR neg a => .cont { c with ctl := .val (.num (if (eqV a v) != neg then 1 else 0)), k := k' } []
      | .iteK t e => .cont { c with ctl := .exec (if v = .num 1 then t else e), k := k' } []
      | .seqK rest => .cont { c with ctl := .exec rest, k := k' } []
      | .whileK l cd body =>
        if v = .num 1 then .cont { c with ctl := .exec body, k := .whileBodyK l cd body :: k' } []
        else .cont { c with ctl := .val .undef, k := k' } []
      | .whileBodyK l cd body => .cont { c with ctl := .evalC cd, k := .whileK l cd body :: k' } []
      | .forBodyK l x n body =>
        .cont { ctl := .forGo l x n body, env := env.set x (addV (envGet env x) (.num 1)), k := k' } []
      | .tryK _ fin | .catchK fin =>
        match fin with
        | some fb => .cont { c with ctl := .exec fb, k := .finK none :: k' } []
        | none => .cont { c with ctl := .val .undef, k := k' } []
      | .finK pending =>
        match pending with
        | none => .cont { c with ctl := .val .undef, k := k' } []
        | some cp => .cont { c with ctl := .abrupt cp, k := k' } []
      | .forOfK l x it body => .cont { c with ctl := .forOfGo l x it body, k := k' } []
      | .forArrK l x rest body => .cont { c with ctl := .forArrGo l x rest body, k := k' } []
      | .letArrK x vals ts => .cont { ctl := .letArrGo vals ts, env := env.set x v, k := k' } []
      | .blkK => .cont { c with ctl := .val v, k := k' } []
  | .abrupt cp => stepAbrupt c cp

inductive RunOut where
  | yielded (v : Val) (c : Conf) (deleg : Option IterState) (ev : List Event)
  | finished (r : Result) (ev : List Event)
  | fuelOut (ev : List Event)
deriving Repr, Inhabited

/-- Iterate `step` until the body suspends or finishes; `ev` accumulates the log. -/
def run : Nat → Conf → List Event → RunOut
  | 0, _, ev => .fuelOut ev
  | n + 1, c, ev =>
    match step c with
    | .cont c' e => run n c' (ev ++ e)
    | .yielded v c' d e => .yielded v c' d (ev ++ e)
    | .finished r e => .finished r (ev ++ e)

/-! ## The generator object -/

inductive GState where
  | start (c : Conf)                               -- genStateSuspendedStart
  | susp (c : Conf) (deleg : Option IterState)     -- genStateSuspendedYield(Res) (+ g.delegated)
  | executing                                      -- genStateExecuting
  | completed                                      -- genStateCompleted
deriving Repr, Inhabited

def GState.tag : GState → GTag
  | .start _ => .start | .susp _ _ => .susp | .executing => .executing | .completed => .completed

def ofRun : RunOut → List Event × Result × GState
  | .yielded v c d ev => (ev, .y v, .susp c d)
  | .finished r ev => (ev, r, .completed)
  | .fuelOut ev => (ev, .fuel, .completed)

/-- How a command enters a suspended body (no delegate): GeneratorResume / GeneratorResumeAbrupt. -/
def resumeCtl (cmd : Cmd) : Ctl :=
  match cmd.kind with
  | .next => .val cmd.payload
  | .throw => .abrupt (.thr cmd.payload)
  | .ret => .abrupt (.ret cmd.payload)

/-- One driver call on the generator object: (log events, result, next state). -/
def genCall (fuel : Nat) (g : GState) (cmd : Cmd) : List Event × Result × GState :=
  match genPre g.tag cmd with
  | .reject => ([], .t .terr, g)
  | .answer r => ([], r, .completed)
  | .resume =>
    match g with
    | .start c => ofRun (run fuel c [])                       -- the first next's argument is ignored
    | .susp c none => ofRun (run fuel { c with ctl := resumeCtl cmd } [])
    | .susp c (some it) =>
      match delegCmd it cmd c with
      | .yielded v c' d ev => (ev, .y v, .susp c' d)
      | .cont c' ev => ofRun (run fuel c' ev)
      | .finished r ev => (ev, r, .completed)
    | _ => ([], .t .terr, g)

def numVars : Nat := 10

def GState.init (body : List Stmt) : GState :=
  .start { ctl := .exec body, env := List.replicate numVars .undef, k := [] }

/-- Drive a generator object through a history: per command its log events and result. -/
def genRunFrom (fuel : Nat) : GState → List Cmd → List (List Event × Result)
  | _, [] => []
  | g, c :: cs =>
    let r := genCall fuel g c
    (r.1, r.2.1) :: genRunFrom fuel r.2.2 cs

def stateAfter (fuel : Nat) : GState → List Cmd → GState
  | g, [] => g
  | g, c :: cs => stateAfter fuel (genCall fuel g c).2.2 cs

/-- `genRun : Body → List Cmd → List Result × Log`. -/
def genRun (fuel : Nat) (body : List Stmt) (cmds : List Cmd) : List Result × List Event :=
  let tr := genRunFrom fuel (GState.init body) cmds
  (tr.map (·.2), (tr.map (·.1)).flatten)

end GojaModel.C09
