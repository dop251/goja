/-
  C09 — Tie: decision facts REGENERATED from /repo's current source on every run (extract/c09.go →
  GojaModel/Generated/C09_Decisions.lean) are interpreted here and proved EQUAL to the functions of the models — the
  rebasing of `toRel` / `toAbs`, the finally-entry assignments, `genPre` — not merely compared with a stored copy; four
  facts the extractor decides by itself arrive as Booleans and are only checked to be `true`: a change of the rebasing arithmetic of vm.suspend / vm.resume, of the
  assignments generator.enterNextFinallyFrame makes when it enters a finally block, of the halted() test in
  generator.step1's returning loop or of the start/completed prelude of generatorObject.throw / _return breaks a theorem.

  Codes (extract/c09.go): field 0 tf.iterLen, 1 tf.refLen, 2 tf.sp, 3 tf.callStackLen; operator 0 `=`, 1 `+=`, 2 `-=`;
  operand 0 iterStackLen, 1 refStackLen, 2 sp, 3 len(vm.callStack), 4 len(vm.iterStack), 5 len(vm.refStack).
  enterNextFinallyFrame: lhs 0 vm.sp, 1 vm.stash, 2 vm.privEnv, 3 vm.pc, 4 tf.catchPos, 5 tf.finallyPos, 6 tf.finallyRet;
  rhs 0 tf.sp, 1 tf.stash, 2 tf.privEnv, 3 tf.finallyPos, 4 `-1`, 5 `-2`.
  prelude: state 1 suspendedStart, 5 completed; action 0 `g.state = completed`, 1 `panic(v)`, 2 `return {v, done: true}`, 3 `return {undefined, done: true}`.
-/
import GojaModel.Generated.C09_Decisions
import GojaModel.C09.Model
import GojaModel.C09.Mech

namespace GojaModel.C09.Tie
open GojaModel.C09 GojaModel.C09.Mech GojaModel.Generated.C09

structure Operands where
  iterStackLen : Nat := 0
  refStackLen : Nat := 0
  sp : Nat := 0
  callLen : Nat := 0
  iterLen : Nat := 0
  refLen : Nat := 0

def Operands.get (o : Operands) : Nat → Nat
  | 0 => o.iterStackLen | 1 => o.refStackLen | 2 => o.sp | 3 => o.callLen | 4 => o.iterLen | _ => o.refLen

def applyOp (old x : Nat) : Nat → Nat
  | 0 => x | 1 => old + x | _ => old - x

def applyRebase1 (o : Operands) (tf : TryFrame) (s : Nat × Nat × Nat) : TryFrame :=
  match s.1 with
  | 0 => { tf with iterLen := applyOp tf.iterLen (o.get s.2.2) s.2.1 }
  | 1 => { tf with refLen := applyOp tf.refLen (o.get s.2.2) s.2.1 }
  | 2 => { tf with sp := applyOp tf.sp (o.get s.2.2) s.2.1 }
  | _ => { tf with callStackLen := applyOp tf.callStackLen (o.get s.2.2) s.2.1 }

def applyRebase (ops : List (Nat × Nat × Nat)) (o : Operands) (tf : TryFrame) : TryFrame :=
  ops.foldl (applyRebase1 o) tf

/-- The loop body of `vm.suspend` (vm.go:79-84), as extracted from /repo on this run, IS `TryFrame.toRel`. -/
theorem suspend_rebase_tie (tf : TryFrame) (I R S : Nat) :
    applyRebase suspendRebase { iterStackLen := I, refStackLen := R, sp := S } tf = tf.toRel I R S := by
  rfl

/-- The loop body of `vm.resume` (vm.go:103-109), as extracted from /repo on this run, IS `TryFrame.toAbs`. -/
theorem resume_rebase_tie (tf : TryFrame) (cl il rl sp : Nat) :
    applyRebase resumeRebase { sp := sp, callLen := cl, iterLen := il, refLen := rl } tf = tf.toAbs cl il rl sp := by
  rfl

def applyEnf1 (s : VM × TryFrame) (a : Nat × Nat) : VM × TryFrame :=
  let (vm, tf) := s
  match a.1, a.2 with
  | 0, 0 => ({ vm with stack := vm.stack.take tf.sp }, tf)
  | 1, 1 => ({ vm with cur := { vm.cur with stash := tf.stash } }, tf)
  | 2, 2 => (vm, tf)                                             -- privEnv: not part of the model
  | 3, 3 => ({ vm with cur := { vm.cur with pc := tf.finallyPos } }, tf)
  | 4, 4 => (vm, { tf with catchPos := -1 })
  | 5, 4 => (vm, { tf with finallyPos := -1 })
  | 6, 5 => (vm, { tf with finallyRet := -2 })
  | _, _ => (vm, { tf with exc := some 0, catchPos := 12345 })   -- an assignment the model does not know: poison

/-- The finally-entry block of `generator.enterNextFinallyFrame` (func.go:808-816), as extracted from /repo on this run, IS what
`Mech.enterNextFinallyFrameLoop` does there — incl. `vm.stash = tf.stash` (seeded change C09-m3 drops it) and the
dead-frame marking of 8004794. -/
theorem enterNextFinallyFrame_entry_tie (vm : VM) (tf : TryFrame) :
    enfEntry.foldl applyEnf1 (vm, tf) =
      ({ vm with stack := vm.stack.take tf.sp, cur := { vm.cur with stash := tf.stash, pc := tf.finallyPos } },
       { tf with catchPos := -1, finallyPos := -1, finallyRet := -2 }) := by
  rfl

/-- 4bb92ea: the frame pointer is re-taken after `restoreStacks` — the list semantics of `Mech.enterNextFinallyFrame`. -/
theorem enterNextFinallyFrame_retakes_pointer_tie : enfRetakesPointer = true := by decide

/-- 5eca78e: the returning loop continues when the body came back without having halted — `Mech.step1Returning`'s
`.caught` case. -/
theorem step1_continues_when_not_halted_tie : step1ContinuesWhenNotHalted = true := by decide

/-- Run the prelude on a state code: `some 1` = throws v, `some 2` = answers {v, done: true}, `none` = goes on to resume. -/
def runPrelude : List (Nat × Nat) → Nat → Option Nat
  | [], _ => none
  | (st, act) :: rest, s =>
    if s = st then
      match act with
      | 0 => runPrelude rest 5          -- g.state = genStateCompleted
      | a => some a
    else runPrelude rest s

def tagCode : GTag → Nat
  | .start => 1 | .executing => 2 | .susp => 3 | .completed => 5

/-- The prelude of `generatorObject.throw` (func.go), as extracted from /repo on this run, answers exactly when and how `genPre`
does (seeded change C09-m4 merges the two tests). -/
theorem throw_prelude_tie (tag : GTag) (e : Val) (h : tag ≠ .executing) :
    (match runPrelude throwPrelude (tagCode tag) with
     | some 1 => Pre.answer (.t e) | some _ => Pre.answer (.d e) | none => Pre.resume) = genPre tag ⟨.throw, e⟩ := by
  cases tag with
  | executing => exact absurd rfl h
  | _ => rfl

theorem return_prelude_tie (tag : GTag) (v : Val) (h : tag ≠ .executing) :
    (match runPrelude returnPrelude (tagCode tag) with
     | some 1 => Pre.answer (.t v) | some _ => Pre.answer (.d v) | none => Pre.resume) = genPre tag ⟨.ret, v⟩ := by
  cases tag with
  | executing => exact absurd rfl h
  | _ => rfl

/-- The prelude of `generatorObject.next`: a completed generator answers `{undefined, done: true}`, every other state goes
on (a not-started one to run the body). -/
theorem next_prelude_tie (tag : GTag) (v : Val) (h : tag ≠ .executing) :
    (match runPrelude nextPrelude (tagCode tag) with
     | some 3 => Pre.answer (.d .undef) | some _ => Pre.answer (.t v) | none => Pre.resume) = genPre tag ⟨.next, v⟩ := by
  cases tag with
  | executing => exact absurd rfl h
  | _ => rfl

/-- bf2a7fb: the `restoreStacks`-error branch of `enterNextFinallyFrame` dispatches with `handleThrow` and RETURNS the
uncaught exception (no `vm.throw`, which would panic outside the run loop) — `Mech.enfLoop2`'s `.handled` / `.uncaught`. -/
theorem enterNextFinallyFrame_close_error_tie : enfCloseErrorUsesHandleThrow = true := by decide

/-- bf2a7fb: `step1` unwinds the activation right after the final `restoreStacks`, before reporting its error —
`Mech.step1Returning2`'s `.closeErrorAtEnd` carries the unwound vm. -/
theorem step1_unwinds_before_close_error_tie : step1UnwindsBeforeReportingCloseError = true := by decide

end GojaModel.C09.Tie
