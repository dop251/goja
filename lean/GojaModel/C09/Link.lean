/-
  C09 — link between the spec model (continuations of Model.lean) and the mechanism model (try frames of Mech.lean): the definitions.

  There is no model of the compiler, so the link is the LAYOUT: which try frames / iterator-stack entries a spec
  continuation occupies in goja's vm (one try frame per `tryK` / `catchK` / `finK` frame, one iterator entry per
  `forOfK` frame, in nesting order; handler positions chosen injectively from the nesting index; operand-stack
  offsets left arbitrary; `stash` = the scope object current at the try statement = number of enclosing block scopes),
  and, beside it, what the spec's unwinding (`stepAbrupt`) does with a throw / return completion, as selectors on the
  continuation.  Core Lean only; it imports the two models and no proof module (linked into the model driver).
-/
import GojaModel.C09.Model
import GojaModel.C09.Mech

namespace GojaModel.C09.Link
open GojaModel.C09 GojaModel.C09.Mech

def tryish : Frame → Bool
  | .tryK _ _ | .catchK _ | .finK _ => true
  | _ => false

/-- Frames that hold an open iterator on goja's iterStack: for-of over an iterator or an array literal, and an array
destructuring pattern whose default is being evaluated. -/
def isForOf : Frame → Bool
  | .forOfK _ _ _ _ => true
  | .forArrK _ _ _ _ => true
  | .letArrK _ _ _ => true
  | _ => false

def isBlk : Frame → Bool
  | .blkK => true
  | _ => false

def countTryish (k : List Frame) : Nat := (k.filter tryish).length
def countBlk (k : List Frame) : Nat := (k.filter isBlk).length
def countForOf (k : List Frame) : Nat := (k.filter isForOf).length

def mkTF (spOf : Nat → Nat) (i iters sc : Nat) (catchPos finallyPos : Int) : TryFrame :=
  { callStackLen := 0, iterLen := iters, refLen := 0, sp := spOf i, stash := sc, catchPos := catchPos, finallyPos := finallyPos }

/-- The try frame (generator-relative offsets) that continuation frame `f` occupies, `i` try frames and `iters` open
for-of iterators being outside it.  `spOf i` is its operand-stack offset (arbitrary).  Handler positions: catch of
frame i at pc 2i, finally at pc 2i+1.  A `catchK` frame is a try frame whose catch has been consumed; a `finK` frame
one whose both handlers have been consumed (after 379f30d `enterFinally` and after 8004794 `enterNextFinallyFrame`
both leave catchPos = finallyPos = -1 while the finally block runs). -/
def frameOf (spOf : Nat → Nat) (i iters sc : Nat) : Frame → Option TryFrame
  | .tryK (some _) (some _) => some (mkTF spOf i iters sc (2 * (i : Int)) (2 * (i : Int) + 1))
  | .tryK (some _) none => some (mkTF spOf i iters sc (2 * (i : Int)) (-1))
  | .tryK none (some _) => some (mkTF spOf i iters sc (-1) (2 * (i : Int) + 1))
  | .tryK none none => some (mkTF spOf i iters sc (-1) (-1))
  | .catchK (some _) => some (mkTF spOf i iters sc (-1) (2 * (i : Int) + 1))
  | .catchK none => some (mkTF spOf i iters sc (-1) (-1))
  | .finK _ => some (mkTF spOf i iters sc (-1) (-1))
  | _ => none

/-- Try-stack layout of a continuation (innermost frame first) as a Go slice (outermost frame first). -/
def encode (spOf : Nat → Nat) : List Frame → List TryFrame
  | [] => []
  | f :: k => encode spOf k ++ (frameOf spOf (countTryish k) (countForOf k) (countBlk k) f).toList

theorem encode_cons_nontry (spOf : Nat → Nat) (f : Frame) (k : List Frame) (h : tryish f = false) :
    encode spOf (f :: k) = encode spOf k := by
  cases f <;> simp_all [encode, frameOf, tryish]

theorem encode_cons_try {spOf : Nat → Nat} {f : Frame} {k : List Frame} {tf : TryFrame}
    (h : frameOf spOf (countTryish k) (countForOf k) (countBlk k) f = some tf) : encode spOf (f :: k) = encode spOf k ++ [tf] := by
  rw [encode, h]; rfl

/-- What the spec's unwinding of a throw completion does next (`stepAbrupt`): the innermost frame that catches it or
whose finally block it enters — `(nesting index, isCatch)` — or `none` if it leaves the generator.  This and the four selectors
below are transcriptions of `stepAbrupt` as recursions on the continuation, not derived from `step`: what ties them to the
machine is `specThrowHandler_pops` (a frame that is popped), `unwind_thr_uncaught` (the `none` case: the machine does unwind
all of `k`) and an `example` in Props.lean (a catching frame on top). -/
def specThrowHandler : List Frame → Option (Nat × Bool)
  | [] => none
  | f :: k =>
    match f with
    | .tryK (some _) _ => some (countTryish k, true)
    | .tryK none (some _) => some (countTryish k, false)
    | .catchK (some _) => some (countTryish k, false)
    | _ => specThrowHandler k

def specReturnHandler : List Frame → Option Nat
  | [] => none
  | f :: k =>
    match f with
    | .tryK _ (some _) => some (countTryish k)
    | .catchK (some _) => some (countTryish k)
    | _ => specReturnHandler k

/-- The scope (number of enclosing block scopes) in which that finally block's code lives: the scope of its try
statement, NOT the inner scope the body was suspended in. -/
def specReturnScope : List Frame → Option Nat
  | [] => none
  | f :: k =>
    match f with
    | .tryK _ (some _) => some (countBlk k)
    | .catchK (some _) => some (countBlk k)
    | _ => specReturnScope k

def outcomeOfSpec : Option (Nat × Bool) → Outcome
  | none => .uncaught
  | some (i, true) => .caught (2 * (i : Int))
  | some (i, false) => .toFinally (2 * (i : Int) + 1)

def arming (tf : TryFrame) : Int × Int := (tf.catchPos, tf.finallyPos)

/-- The spec continuation right after a throw completion has been delivered (by `stepAbrupt`, possibly several pops):
the catching frame became `catchK`, or the frame whose finally the exception enters became `finK`. -/
def specAfterThrow (v : Val) : List Frame → Option (List Frame)
  | [] => none
  | f :: k =>
    match f with
    | .tryK (some _) fin => some (.catchK fin :: k)
    | .tryK none (some _) => some (.finK (some (.thr v)) :: k)
    | .catchK (some _) => some (.finK (some (.thr v)) :: k)
    | _ => specAfterThrow v k

/-- The spec continuation right after a return completion entered the innermost pending finally block. -/
def specAfterReturn (v : Val) : List Frame → Option (List Frame)
  | [] => none
  | f :: k =>
    match f with
    | .tryK _ (some _) => some (.finK (some (.ret v)) :: k)
    | .catchK (some _) => some (.finK (some (.ret v)) :: k)
    | _ => specAfterReturn v k

end GojaModel.C09.Link
