/-
  C09 — property theorems (every `theorem` here is one audited proof obligation).
  Spec model (Model.lean): a generator is a state machine driven by next/throw/return.
  Mechanism model (Mech.lean, MechReturn.lean): goja's generator context suspension / resumption, exception and return dispatch.
-/
import GojaModel.C09.Layout
import GojaModel.C09.Dispatch
import GojaModel.C09.MechReturn
import GojaModel.C09.ReturnSpec
import GojaModel.C09.Async

namespace GojaModel.C09

/-- The trace of `h1 ++ h2` is the trace of `h1` followed by the trace of `h2` from the state reached. -/
theorem genRun_append (fuel : Nat) (g : GState) (h1 h2 : List Cmd) :
    genRunFrom fuel g (h1 ++ h2) = genRunFrom fuel g h1 ++ genRunFrom fuel (stateAfter fuel g h1) h2 := by
  induction h1 generalizing g with
  | nil => simp [genRunFrom, stateAfter]
  | cons c cs ih => simp [genRunFrom, stateAfter, ih]

/-- In particular, results and log for `h ++ [c]` extend those for `h` by exactly one result and a log suffix: the outcome of a
history never depends on what comes later. -/
theorem genRun_prefix (fuel : Nat) (body : List Stmt) (h : List Cmd) (c : Cmd) :
    ∃ (r : Result) (ev : List Event),
      (genRun fuel body (h ++ [c])).1 = (genRun fuel body h).1 ++ [r] ∧
      (genRun fuel body (h ++ [c])).2 = (genRun fuel body h).2 ++ ev ∧
      (ev, r) = ((genCall fuel (stateAfter fuel (GState.init body) h) c).1,
                 (genCall fuel (stateAfter fuel (GState.init body) h) c).2.1) := by
  refine ⟨_, _, ?_, ?_, rfl⟩ <;> simp [genRun, genRun_append, genRunFrom]

/-- The answer of a completed generator (func.go:1061, 1086, 1118 / spec 27.5.3.3-4). -/
def completedAnswer (c : Cmd) : Result :=
  match c.kind with
  | .next => .d .undef
  | .throw => .t c.payload
  | .ret => .d c.payload

/-- Once completed, always completed: every later command is answered without running any body code (empty log),
for every history. -/
theorem completed_absorbing (fuel : Nat) (h : List Cmd) :
    genRunFrom fuel .completed h = h.map (fun c => ([], completedAnswer c)) ∧
    (stateAfter fuel .completed h).tag = .completed := by
  induction h with
  | nil => simp [genRunFrom, stateAfter, GState.tag]
  | cons c cs ih =>
    have hc : genCall fuel .completed c = ([], completedAnswer c, .completed) := by
      cases c with
      | mk kind payload => cases kind <;> rfl
    simp [genRunFrom, stateAfter, hc, ih]

/-- throw(e) before the first next(): the generator completes, the body never runs (empty log), e is rethrown. -/
theorem start_throw_completes (fuel : Nat) (c : Conf) (e : Val) :
    genCall fuel (.start c) ⟨.throw, e⟩ = ([], .t e, .completed) := rfl

/-- return(v) before the first next(): `{value: v, done: true}`, completed, the body never runs. -/
theorem start_return_completes (fuel : Nat) (c : Conf) (v : Val) :
    genCall fuel (.start c) ⟨.ret, v⟩ = ([], .d v, .completed) := rfl

/-- Any driver call on an executing generator throws a TypeError and leaves the state alone (func.go:982 validate). -/
theorem executing_reentry_typeerror (fuel : Nat) (cmd : Cmd) :
    genCall fuel .executing cmd = ([], .t .terr, .executing) := rfl

/-- A re-entrant driver call made by the running body (`G.next()` / `throw()` / `return()` from inside the body) evaluates to
an abrupt TypeError at the call: the generator is executing. -/
theorem body_reentry_throws (kd : CmdKind) (env : List Val) (k : List Frame) :
    step { ctl := .evalE (.reent kd), env := env, k := k }
      = .cont { ctl := .abrupt (.thr .terr), env := env, k := k } [] := by
  cases kd <;> rfl

/-- The first next(v) ignores v. -/
theorem start_next_ignores_payload (fuel : Nat) (c : Conf) (v w : Val) :
    genCall fuel (.start c) ⟨.next, v⟩ = genCall fuel (.start c) ⟨.next, w⟩ := rfl

/-- Unwinding a return completion through ANY continuation stack whose pending finally blocks are straight-line
logs reaches the bottom with the log `finLogs k`: each pending finally block's log exactly once, in stack order
(innermost first), iterators of enclosing for-of loops closed in between; then the generator answers
`{value: v, done: true}`. -/
theorem return_runs_finallies_once (v : Val) (k : List Frame) (env : List Val) (hk : SimpleFins k) :
    Reach { ctl := .abrupt (.ret v), env := env, k := k } (finLogs k) { ctl := .abrupt (.ret v), env := env, k := [] } ∧
    step { ctl := .abrupt (.ret v), env := env, k := [] } = .finished (.d v) [] :=
  ⟨unwind_ret v k env hk, rfl⟩

/-- The same at the level of the fuelled interpreter / generator object: with enough fuel, return(v) on a generator
suspended at a plain yield under `k` logs exactly `finLogs k` and completes with v. -/
theorem return_cmd_runs_finallies_once (v : Val) (k : List Frame) (env : List Val) (ctl : Ctl) (hk : SimpleFins k) :
    ∃ m, ∀ n, genCall (n + m) (.susp { ctl := ctl, env := env, k := k } none) ⟨.ret, v⟩ = (finLogs k, .d v, .completed) := by
  simpa using genCall_of_reach (c := ⟨ctl, env, k⟩) (cmd := ⟨.ret, v⟩) (unwind_ret v k env hk) (r := .d v) (ev := []) rfl

/-- A yield inside a finally block that runs because of return(v) re-suspends the generator: the call answers
`{value: a, done: false}`, and the pending return completion is kept in the continuation (frame `finK`).  `fuel + 5`: the five
machine steps from the return completion to the yield (enter the finally, `exec`, `evalE (yld …)`, `evalE (lit a)`, `val a`). -/
theorem return_yield_in_finally_resuspends (fuel : Nat) (v a : Val) (cc : Option (Nat × List Stmt)) (rest : List Stmt)
    (k : List Frame) (env : List Val) (ctl : Ctl) :
    genCall (fuel + 5)
        (.susp { ctl := ctl, env := env, k := .tryK cc (some (.expr (.yld (.lit a)) :: rest)) :: k } none) ⟨.ret, v⟩
      = ([], .y a, .susp { ctl := .val .undef, env := env, k := .seqK rest :: (.finK (some (.ret v))) :: k } none) := by
  cases cc <;> rfl

/-- A generator re-suspended inside a return-triggered finally block and resumed by next(): the rest of the finally block runs
and the pending return continues outward. -/
theorem resumed_finally_continues_return (v w : Val) (vs : List Val) (k : List Frame) (env : List Val) (hk : SimpleFins k) :
    Reach { ctl := .val w, env := env, k := .seqK (litLogs vs) :: (.finK (some (.ret v))) :: k }
          (vs.map showVal ++ finLogs k) { ctl := .abrupt (.ret v), env := env, k := [] } := by
  have s1 : step { ctl := .val w, env := env, k := .seqK (litLogs vs) :: (.finK (some (.ret v))) :: k }
      = .cont { ctl := .exec (litLogs vs), env := env, k := (.finK (some (.ret v))) :: k } [] := rfl
  simpa using Reach.cons s1 (Reach.trans (reach_finK vs (.ret v) env k) (unwind_ret v k env hk))

/-! Hypotheses are satisfiable by non-trivial states (tests, not proofs of the property). -/
example : SimpleFins [.seqK [], .tryK none (some (litLogs [.num 1])), .addR (.num 2), .catchK (some (litLogs [.str "f", .undef]))] := by
  simp only [SimpleFins]; exact ⟨⟨_, rfl⟩, ⟨_, rfl⟩, trivial⟩
example : finLogs [.seqK [], .tryK none (some (litLogs [.num 1])), .addR (.num 2), .catchK (some (litLogs [.str "f", .undef]))]
    = ["i1", "sf", "u"] := by decide

section
open Mech

/-- `suspend` truncates the three auxiliary stacks to the lengths recorded at entry and touches nothing else. -/
theorem suspend_leaves_caller_clean (vm : VM) (T I R : Nat) :
    (suspend vm T I R).2.tryStack = vm.tryStack.take T ∧
    (suspend vm T I R).2.iterStack = vm.iterStack.take I ∧
    (suspend vm T I R).2.refStack = vm.refStack.take R ∧
    (suspend vm T I R).2.stack = vm.stack ∧
    (suspend vm T I R).2.callStack = vm.callStack ∧
    (suspend vm T I R).2.cur = vm.cur := by
  rw [suspend_eq]; simp

/-- For EVERY vm state `vm2` at the new call site: the resumed frames are the suspended frames shifted by
(Δsp, Δiter, Δref) with callStackLen reset, appended to the caller's; likewise the copied stack segment and the
iter/ref slices; `sb` is rebased to the new `sp + 1`. -/
theorem resume_suspend_shift (vm vm2 : VM) (T I R : Nat) :
    (resume vm2 (suspend vm T I R).1).tryStack
        = vm2.tryStack ++ (vm.tryStack.drop T).map (fun tf => shifted tf I R (vm.cur.sb - 1).toNat vm2) ∧
    (resume vm2 (suspend vm T I R).1).stack = vm2.stack ++ vm.stack.drop (vm.cur.sb - 1).toNat ∧
    (resume vm2 (suspend vm T I R).1).iterStack = vm2.iterStack ++ vm.iterStack.drop I ∧
    (resume vm2 (suspend vm T I R).1).refStack = vm2.refStack ++ vm.refStack.drop R ∧
    (resume vm2 (suspend vm T I R).1).callStack = vm2.callStack ∧
    (resume vm2 (suspend vm T I R).1).cur = { vm.cur with sb := vm2.stack.length + 1 } := by
  simp only [suspend_eq, resume, List.map_map, Function.comp_def, toAbs_toRel, and_self]

/-- Hence the generator-relative view of every frame (offsets relative to the generator's own bases) is the same
before suspension and after resumption at any other site. -/
theorem resume_suspend_relView (vm vm2 : VM) (T I R : Nat) (hf : FramesAbove (vm.tryStack.drop T) I R (vm.cur.sb - 1).toNat) :
    ((resume vm2 (suspend vm T I R).1).tryStack.drop vm2.tryStack.length).map
        (fun tf => relView tf vm2.iterStack.length vm2.refStack.length vm2.stack.length)
      = (vm.tryStack.drop T).map (fun tf => relView tf I R (vm.cur.sb - 1).toNat) := by
  -- both views subtract with truncation, so this holds frame by frame without the discipline `hf`
  rw [(resume_suspend_shift vm vm2 T I R).1, List.drop_left, List.map_map]
  exact List.map_congr_left fun tf _ => relView_shifted tf I R (vm.cur.sb - 1).toNat vm2

/-- `handleThrow` after resume selects the handler it would have selected before suspension: same catch position,
same finally position, or propagation out of the generator — at ANY new call site `vm2`, for ANY vm (not necessarily
in `rebase` form), through any number of dead frames.  (The state-equality version is `resume_suspend_commutes_handleThrow`.) -/
theorem resume_suspend_handleThrow_same_handler (ex : Nat) (vm vm2 : VM) (T I R : Nat)
    (hlive : ∃ tf ∈ vm.tryStack.drop T, ¬ tf.dead) :
    (handleThrow ex (resume vm2 (suspend vm T I R).1)).1 = (handleThrow ex vm).1 := by
  exact (handleThrow_outcome_segment ex (fun tf => shifted tf I R (vm.cur.sb - 1).toNat vm2) (fun _ => ⟨rfl, rfl⟩)
    vm _ (vm.tryStack.take T) vm2.tryStack _ (List.take_append_drop T _).symm (resume_suspend_shift vm vm2 T I R).1 hlive).symm

/-! State equality: every mechanism step on the generator-owned part commutes with a change of caller.
`rebase lo g` = the generator-owned vm part `g` (offsets relative to its own bottom; it may have call frames above the
generator's own) standing on top of the caller's vm `lo`.  -/

/-- `handleThrow` does the same thing to the generator-owned part whatever the caller below: same handler, same
iterators closed, and the resulting vm is the re-based image of ONE site-independent result — including extra call
frames above the generator (context restoration from `callStack[tf.callStackLen]`, vm.go:849-854) and any number of
dead frames. -/
theorem handleThrow_site_independent (ex : Nat) (lo1 lo2 g : VM) (hlive : ∃ tf ∈ g.tryStack, ¬ tf.dead) :
    handleThrow ex (rebase lo1 g) = rebaseRes lo1 (handleThrow ex g) ∧
    handleThrow ex (rebase lo2 g) = rebaseRes lo2 (handleThrow ex g) :=
  ⟨handleThrow_rebase ex lo1 g hlive, handleThrow_rebase ex lo2 g hlive⟩

/-- suspend ∘ resume IS a change of caller: a generator part standing at a yield on `lo`, suspended with `lo`'s
recorded lengths and resumed on ANY `vm2`, is the same part standing on `vm2`. -/
theorem resume_suspend_is_rebase (lo vm2 g : VM) (hg : AtYield g) :
    resume vm2 (suspend (rebase lo g) lo.tryStack.length lo.iterStack.length lo.refStack.length).1 = rebase vm2 g := by
  obtain ⟨hc, hsb, hf⟩ := hg
  simp only [suspend_eq, resume, rebase, shiftCtx, hsb, hc, List.map_nil, List.append_nil, List.drop_left,
    List.map_map]
  have e1 : ((1 : Int) + ↑lo.stack.length - 1).toNat = lo.stack.length := by omega
  rw [e1, List.drop_left]
  congr 1
  · rw [Int.add_comm]
  · -- `toAbs ∘ toRel ∘ shiftFrame lo = shiftFrame vm2` on frames pushed at the generator's own call depth
    congr 1
    apply List.map_congr_left
    intro tf htf
    simp only [Function.comp, TryFrame.toAbs, TryFrame.toRel, shiftFrame, Nat.add_sub_cancel, hf tf htf, Nat.zero_add]

/-- Resuming at the very site of suspension restores the vm exactly. -/
theorem resume_suspend_id (lo g : VM) (hg : AtYield g) :
    resume lo (suspend (rebase lo g) lo.tryStack.length lo.iterStack.length lo.refStack.length).1 = rebase lo g :=
  resume_suspend_is_rebase lo lo g hg

/-- Full-strength commutation: `handleThrow` after suspend + resume at any other site acts exactly as it would have
acted before suspension — the two results are the images, over the two callers, of the same generator-relative
result (outcome, closed iterators and state). -/
theorem resume_suspend_commutes_handleThrow (ex : Nat) (lo vm2 g : VM) (hg : AtYield g) (hlive : ∃ tf ∈ g.tryStack, ¬ tf.dead) :
    handleThrow ex (resume vm2 (suspend (rebase lo g) lo.tryStack.length lo.iterStack.length lo.refStack.length).1)
        = rebaseRes vm2 (handleThrow ex g) ∧
    handleThrow ex (rebase lo g) = rebaseRes lo (handleThrow ex g) := by
  rw [resume_suspend_is_rebase lo vm2 g hg]
  exact handleThrow_site_independent ex vm2 lo g hlive

example : AtYield { cur := { sb := 1, pc := 7 }, stack := [9, 1, 2], callStack := [], iterStack := [5], refStack := [],
                    tryStack := [{ callStackLen := 0, iterLen := 1, refLen := 0, sp := 2, stash := 0, catchPos := 4, finallyPos := 8 }] } := by
  refine ⟨rfl, rfl, ?_⟩; intro tf h; simp at h; subst h; rfl

/-- `leaveTry` (popTryFrame) after resume pops the shifted image of the frame it would have popped before. -/
theorem resume_suspend_commutes_leaveTry (vm vm2 : VM) (T I R : Nat) (seg : List TryFrame) (tf : TryFrame)
    (h : vm.tryStack.drop T = seg ++ [tf]) :
    (popTryFrame (resume vm2 (suspend vm T I R).1)).tryStack
      = vm2.tryStack ++ seg.map (fun tf => shifted tf I R (vm.cur.sb - 1).toNat vm2) := by
  have h2 := (resume_suspend_shift vm vm2 T I R).1
  simp only [popTryFrame, h2, h, List.map_append, List.map_cons, List.map_nil]
  rw [← List.append_assoc, List.dropLast_concat]

/-- A full next() round trip that ends in a yield leaves the CALLER's vm exactly as it was before the call —
for ANY behaviour of the body in between that respects the frame discipline (it may push and pop above the
recorded bases but leaves the caller's parts and its own context registers alone). -/
theorem next_yield_cycle_restores_caller (g : Gen) (vm0 vmB : VM) (hasValue : Bool)
    (hT : vmB.tryStack.take (enterNext g vm0).1.tryStackLen = (enterNext g vm0).2.tryStack.take (enterNext g vm0).1.tryStackLen)
    (hI : vmB.iterStack.take (enterNext g vm0).1.iterStackLen = vm0.iterStack)
    (hR : vmB.refStack.take (enterNext g vm0).1.refStackLen = vm0.refStack)
    (hC : vmB.callStack = (enterNext g vm0).2.callStack)
    (hsb : vmB.cur.sb = (enterNext g vm0).2.cur.sb)
    (hS : (vmB.stack.dropLast.take vm0.stack.length = vm0.stack) ∧ (vmB.stack.dropLast.dropLast.take vm0.stack.length = vm0.stack)) :
    nextEpilogue (yieldEpilogue (enterNext g vm0).1 vmB hasValue).2 = vm0 := by
  -- `enterNext` puts the saved context, the marker frame and the extra call frame on the caller and records the lengths;
  -- the yield epilogue cuts the three auxiliary stacks back to those lengths and the operand stack to `sb - 1`, and drops
  -- the extra call frame: what is left is `vm0` under its saved context and the marker frame
  refine Eq.trans (congrArg nextEpilogue ?_) (nextEpilogue_undoes_prologue vm0 { vmB.cur with pc := -vmB.cur.pc + 1 }
    { callStackLen := vm0.callStack.length + 1, iterLen := vm0.iterStack.length, refLen := vm0.refStack.length,
      sp := vm0.stack.length, stash := vm0.cur.stash, catchPos := tryPanicMarker, finallyPos := -1, finallyRet := -1 })
  simp only [enterNext, storeLengths, pushCtx, pushTryFrame, resume, List.length_append, List.length_cons, List.length_nil] at *
  have e1 : (↑vm0.stack.length + 1 - 1 : Int).toNat = vm0.stack.length := by omega
  have e2 : List.take (vm0.tryStack.length + 1) vm0.tryStack = vm0.tryStack := List.take_of_length_le (by omega)
  cases hasValue <;> simp_all [yieldEpilogue, suspend_eq, List.take_append]

/-! Non-vacuity of the hypotheses above (tests). -/
example : FramesAbove [{ callStackLen := 3, iterLen := 2, refLen := 1, sp := 9, stash := 0, catchPos := 4, finallyPos := -1 }] 1 1 4 := by
  intro tf h; simp at h; subst h; simp

end

/-! Regression lemmas: what the SPEC answers on the minimal inputs of the two defects repaired by 379f30d / 8004794.
These are facts about the spec model on literals (tests of the model, and the reference answers for the replays). -/

/-- `function*g(){try{yield 1}catch(e){x0=e}finally{yield 3}}` driven by next, next, throw(9): the throw delivered
inside the finally block leaves the generator (goja before 379f30d: caught by the statement's own catch, yields 3 again). -/
theorem spec_answer_throw_in_finally_regression :
    (genRun 50 [.tryS [.expr (.yld (.lit (.num 1)))] (some (0, [])) (some [.expr (.yld (.lit (.num 3)))])]
        [⟨.next, .undef⟩, ⟨.next, .undef⟩, ⟨.throw, .num 9⟩]).1
      = [.y (.num 1), .y (.num 3), .t (.num 9)] := by decide

/-- `function*g(){try{try{yield 1}finally{throw 5}}catch(e){x0=e}finally{} return 9}` driven by next, return(7):
the throw raised inside the return-triggered finally is caught by the enclosing catch and the generator returns 9
(goja before 8004794: the exception escaped every enclosing handler, including the caller's). -/
theorem spec_answer_throw_in_return_finally_regression :
    (genRun 50 [.tryS [.tryS [.expr (.yld (.lit (.num 1)))] none (some [.thr (.lit (.num 5))])] (some (0, [])) (some []),
                .ret (.lit (.num 9))]
        [⟨.next, .undef⟩, ⟨.ret, .num 7⟩]).1
      = [.y (.num 1), .d (.num 9)] := by decide

open Async in
/-- goja's `asyncRunner` over the promise job queue — each `await` registering reactions that become FIFO jobs at once
(awaited promise already settled) or when the host settles the promise later — produces exactly the trace of the
generator state machine driven by `next(undefined)` followed by one `next(v)` / `throw(e)` per fulfilled / rejected
awaited promise, cut at completion; for every body, every script of awaited promises, every mix of settle times. -/
theorem async_is_genRun_on_promises (fuel : Nat) (g : GState) (script : List Async.Awaited) (n : Nat)
    (hn : 2 * script.length ≤ n) :
    (drive fuel n (start fuel g script)).trace
      = cutTrace (genRunFrom fuel g (⟨.next, .undef⟩ :: script.map cmdOf)) :=
  drive_arStep fuel script g [] _ n hn

open Async in
/-- After `start` (the body run up to its first await) the promise returned by the async function is resolved with
the body's return value or rejected with its uncaught exception if the body has finished, and pending if it awaits. -/
theorem async_capability_settles_once (fuel : Nat) (g : GState) (script : List Async.Awaited) :
    (start fuel g script).cap = (match (genCall fuel g ⟨.next, .undef⟩).2.1 with | .y _ => none | r => some r) :=
  arStep_cap _ _

/-- On the try-stack layout of ANY spec continuation, placed anywhere, `handleThrow` selects the handler that the
spec's unwinding (`stepAbrupt`) selects (`Link.specThrowHandler`; Dispatch.lean). -/
theorem mech_throw_dispatch_refines_spec (ex : Nat) (spOf : Nat → Nat) (f : Mech.TryFrame → Mech.TryFrame)
    (hf : ∀ tf, (f tf).catchPos = tf.catchPos ∧ (f tf).finallyPos = tf.finallyPos) (k : List Frame)
    (vm : Mech.VM) (lo : List Mech.TryFrame) (h : Nat × Bool)
    (hvm : vm.tryStack = lo ++ (Link.encode spOf k).map f) (hs : Link.specThrowHandler k = some h) :
    (Mech.handleThrow ex vm).1 = Link.outcomeOfSpec (some h) :=
  (Link.handleThrow_on_layout ex f hf spOf k vm lo hvm).1 h hs

/-- The yield/resume cycle preserves that link at every call site. -/
theorem yield_resume_cycle_preserves_spec_dispatch (ex : Nat) (spOf : Nat → Nat) (k : List Frame) (lo vm2 g : Mech.VM)
    (hg : Mech.AtYield g) (hk : g.tryStack = Link.encode spOf k) (h : Nat × Bool) (hs : Link.specThrowHandler k = some h) :
    (Mech.handleThrow ex (Mech.resume vm2 (Mech.suspend (Mech.rebase lo g) lo.tryStack.length lo.iterStack.length lo.refStack.length).1)).1
        = Link.outcomeOfSpec (some h) ∧
    (Mech.handleThrow ex (Mech.rebase lo g)).1 = Link.outcomeOfSpec (some h) := by
  -- on either caller the generator's frames are the layout of `k`, placed by that caller's `shiftFrame`
  have on : ∀ lo : Mech.VM, (Mech.handleThrow ex (Mech.rebase lo g)).1 = Link.outcomeOfSpec (some h) := fun lo =>
    mech_throw_dispatch_refines_spec ex spOf (Mech.shiftFrame lo) (fun _ => ⟨rfl, rfl⟩) k _ lo.tryStack h
      (by rw [← hk]; rfl) hs
  rw [resume_suspend_is_rebase lo vm2 g hg]
  exact ⟨on vm2, on lo⟩

/-- Return dispatch of the mechanism refines the spec: on the layout of ANY spec continuation, `enterNextFinallyFrame`
(as repaired by 8004794) enters the finally block that `Link.specReturnHandler` names — the one the spec's unwinding of a return
completion enters as long as no for-of iterator closed on the way throws (`throwing = []` here; the selector passes over `forOfK`
frames, `stepAbrupt` turns the return into that throw) — AND makes
the scope object saved in that try frame current (`vm.stash = tf.stash`, func.go:810): the finally block runs in the
scope of its try statement (`specReturnScope` = number of block scopes around the try), whatever inner block scope —
with its own closure-captured bindings — the body was suspended in, and whatever `vm.stash` was before. -/
theorem mech_return_dispatch_refines_spec (spOf : Nat → Nat) (f : Mech.TryFrame → Mech.TryFrame) (C : Nat)
    (hf : ∀ tf, (f tf).finallyPos = tf.finallyPos ∧ (f tf).callStackLen = C ∧ (f tf).stash = tf.stash) (k : List Frame)
    (vm : Mech.VM) (lo : List Mech.TryFrame) (i sc : Nat) (hC : vm.callStack.length = C)
    (hvm : vm.tryStack = lo ++ (Link.encode spOf k).map f) (hs : Link.specReturnHandler k = some i)
    (hsc : Link.specReturnScope k = some sc) :
    (Mech.enterNextFinallyFrame [] vm).1 = true ∧ (Mech.enterNextFinallyFrame [] vm).2.2.cur.pc = 2 * (i : Int) + 1 ∧
    (Mech.enterNextFinallyFrame [] vm).2.2.cur.stash = sc :=
  have h := Link.enterNextFinallyFrame_on_layout f C (fun tf => ⟨(hf tf).1, (hf tf).2.1⟩) spOf k vm lo [] hC hvm
  ⟨(h.1 i hs).1, (h.1 i hs).2, h.2.1 (fun tf => (hf tf).2.2) sc hsc⟩

/-- (test) a body suspended at a yield inside an inner block scope of a try block: the pending finally lives in scope 0. -/
example : Link.specReturnScope [.seqK [], .blkK, .seqK [], .tryK none (some []), .seqK []] = some 0 := by decide
example : Link.specReturnScope [.yldK, .blkK, .tryK none (some []), .seqK [], .blkK, .seqK []] = some 1 := by decide

/-- The content of repair 8004794: the frame whose finally block return(v) enters is dead for `handleThrow`, so an
exception raised in that block is dispatched to the enclosing handlers exactly as if the frame had been popped. -/
theorem return_finally_frame_is_dead (ex : Nat) (vm : Mech.VM) (fs : List Mech.TryFrame) (tf : Mech.TryFrame)
    (h : vm.tryStack = fs ++ [tf]) (hc : tf.callStackLen = vm.callStack.length) (hfin : tf.finallyPos ≥ 0) :
    (Mech.enterNextFinallyFrame [] vm).1 = true ∧
    Mech.handleThrow ex (Mech.enterNextFinallyFrame [] vm).2.2
      = Mech.handleThrow ex { (Mech.enterNextFinallyFrame [] vm).2.2 with tryStack := fs } :=
  Mech.return_finally_frame_is_dead ex vm fs tf h hc hfin

/-- Regression lemma (old mechanism, before 8004794): with the frame marked `tryPanicMarker`, `handleThrow` reported
every exception raised in a return-triggered finally as leaving the generator, whatever handlers enclosed it. -/
theorem old_return_finally_marking_escapes_prefix_witness (ex : Nat) (vm : Mech.VM) (fs : List Mech.TryFrame) (tf : Mech.TryFrame)
    (h : vm.tryStack = fs ++ [{ tf with catchPos := Mech.tryPanicMarker, finallyPos := -1, finallyRet := -2 }]) :
    (Mech.handleThrow ex vm).1 = .uncaught :=
  Mech.old_marking_escapes_prefix_witness ex vm fs tf h

/-- A return, break or continue completion aimed beyond the frames `pre` (no loop in `pre` consumes it) runs every
pending finally block of `pre` exactly once, innermost first, closing the for-of iterators of `pre` in place, and
arrives unchanged at the frames below — for ANY continuation prefix whose finally blocks are straight-line logs. -/
theorem nonthrow_completion_runs_finallies_once (cp : Completion) (hcp : isThr cp = false) (pre rest : List Frame)
    (env : List Val) (hk : SimpleFins pre) (hp : Passes cp pre) :
    Reach { ctl := .abrupt cp, env := env, k := pre ++ rest } (finLogs pre) { ctl := .abrupt cp, env := env, k := rest } :=
  unwind_nonthrow cp hcp pre rest env hk hp

/-- `continue` reaching its for-of loop goes on with the next iteration and does NOT close the iterator. -/
theorem continue_keeps_iterator_open (l lf : Label) (x : Nat) (it : IterState) (body : List Stmt) (env : List Val)
    (k : List Frame) (h : loopCatches lf l = true) :
    step { ctl := .abrupt (.cont l), env := env, k := .forOfK lf x it body :: k }
      = .cont { ctl := .forOfGo lf x it body, env := env, k := k } [] := by
  rw [step_abrupt]; simp only [stepAbrupt, loopAction, h, if_true]

/-- `break` reaching its for-of loop closes the iterator (IteratorClose) and, its `return()` not throwing, the loop completes normally. -/
theorem break_closes_iterator (l lf : Label) (x : Nat) (it : IterState) (body : List Stmt) (env : List Val)
    (k : List Frame) (h : loopCatches lf l = true) (hc : (iterClose it).2 = none) :
    step { ctl := .abrupt (.brk l), env := env, k := .forOfK lf x it body :: k }
      = .cont { ctl := .val .undef, env := env, k := k } (iterClose it).1 := by
  have ha : loopAction lf (.brk l) = some true := if_pos h
  rw [abrupt_forOfK_leave (by rw [ha]; nofun), hc, ha]; rfl

/-- A completion leaving a for-of loop whose iterator's `return()` throws: that error replaces every completion except a
throw, which wins (§7.4.11 IteratorClose steps 5–6). -/
theorem iterator_return_throw_replaces_nonthrow (cp : Completion) (lf : Label) (x : Nat) (it : IterState) (body : List Stmt)
    (env : List Val) (k : List Frame) (e : Val) (hc : (iterClose it).2 = some e) (hn : loopAction lf cp ≠ some false) :
    step { ctl := .abrupt cp, env := env, k := .forOfK lf x it body :: k }
      = .cont { ctl := .abrupt (if isThr cp then cp else .thr e), env := env, k := k }
          (iterClose it).1 := by
  rw [abrupt_forOfK_leave hn, hc]

/-- Every vm whose generator-owned frames record lengths at or above the bases is `rebase lo g` of its lower part and
its relative generator part — so `handleThrow_site_independent` and the other `rebase` theorems cover every such vm. -/
theorem every_wellformed_vm_is_rebased (vm : Mech.VM) (T I R S C : Nat)
    (hS : S ≤ vm.stack.length) (hC : C ≤ vm.callStack.length) (hI : I ≤ vm.iterStack.length) (hR : R ≤ vm.refStack.length)
    (hf : ∀ tf ∈ vm.tryStack.drop T, C ≤ tf.callStackLen ∧ I ≤ tf.iterLen ∧ R ≤ tf.refLen ∧ S ≤ tf.sp) :
    Mech.rebase (Mech.lowerOf vm T I R S C) (Mech.genOf vm T I R S C) = vm := by
  cases vm with
  | mk cur stack callStack iterStack refStack tryStack =>
    simp only [Mech.rebase, Mech.lowerOf, Mech.genOf, Mech.shiftCtx, List.length_take, List.map_map, List.take_append_drop] at *
    simp only [Nat.min_eq_left hS]
    -- each stack is `take ++ drop`, the dropped part mapped by a shift that undoes a truncated subtraction
    congr 1
    · cases cur; simp
    · exact Mech.take_append_map_drop _ _ _ fun c _ => by cases c; simp [Mech.shiftCtx]
    · refine Mech.take_append_map_drop _ _ _ fun tf htf => ?_
      obtain ⟨h1, h2, h3, h4⟩ := hf tf htf
      simp only [Function.comp, Mech.shiftFrame, List.length_take, Nat.min_eq_left hS, Nat.min_eq_left hC,
        Nat.min_eq_left hI, Nat.min_eq_left hR, Nat.sub_add_cancel h1, Nat.sub_add_cancel h2, Nat.sub_add_cancel h3,
        Nat.sub_add_cancel h4]

/-- An exception caught inside the generator while `returning` is set is transparent to the loop: any number of such
come-backs, anywhere in the oracle, change nothing (the body just keeps running). -/
theorem caught_exception_is_transparent_while_returning (g : Mech.Gen) (throwing : List Nat)
    (pre rest : List (Mech.RunBack × Mech.VM)) (hpre : ∀ e ∈ pre, e.1 = .caught) :
    Mech.step1Returning g throwing (pre ++ rest) = Mech.step1Returning g throwing rest :=
  Mech.caught_prefix_transparent _ (fun _ _ => rfl) pre rest hpre

/-- Regression lemma (old loop, before 5eca78e): the first caught come-back ended the step with a popped stack value
taken for the result — never `returnCompleted`, whatever followed. -/
theorem old_returning_loop_pops_garbage_prefix_witness (g : Mech.Gen) (throwing : List Nat) (vm : Mech.VM)
    (rest : List (Mech.RunBack × Mech.VM)) :
    (Mech.step1ReturningOld g throwing ((.caught, vm) :: rest)).1 ≠ .returnCompleted ∧
    (Mech.step1ReturningOld g throwing ((.caught, vm) :: rest)).2 = some { vm with stack := vm.stack.dropLast } := by
  simp only [Mech.step1ReturningOld]
  constructor
  · split <;> simp
  · trivial

/-! `yield*` delegation corner cases (§15.5.5 step 7; func.go generatorObject.next / throw / _return) -/

/-- throw(e) while delegating to an iterator WITHOUT a `throw` method: the iterator is closed (its `return()` is called
if it has one) and a TypeError — or the error `return()` itself raised — is thrown at the `yield*` point, inside the
body (so the body's handlers see it). -/
theorem delegate_missing_throw_closes_then_typeerror (it : IterState) (c : Conf) (e : Val) (h : it.spec.hasThrow = false) :
    delegCmd it ⟨.throw, e⟩ c
      = .cont { c with ctl := .abrupt (.thr (match (iterClose it).2 with | some x => x | none => .terr)) } (iterClose it).1 := by
  simp only [delegCmd, h]
  generalize iterClose it = cl
  obtain ⟨ev, err⟩ := cl
  cases err <;> simp

/-- return(v) while delegating to an iterator WITHOUT a `return` method: the return completion continues in the body
with v (pending finally blocks run), the iterator is not touched. -/
theorem delegate_missing_return_returns (it : IterState) (c : Conf) (v : Val) (h : it.spec.hasReturn = false) :
    delegCmd it ⟨.ret, v⟩ c = .cont { c with ctl := .abrupt (.ret v) } [] := by
  simp [delegCmd, h]

/-- return(v) while delegating to an iterator whose `return()` answers a non-object: TypeError at the `yield*` point. -/
theorem delegate_return_nonobject_typeerror (it : IterState) (c : Conf) (v : Val)
    (hg : it.spec.isGen = false) (h : it.spec.ret = 3) :
    delegCmd it ⟨.ret, v⟩ c = .cont { c with ctl := .abrupt (.thr .terr) } [it.spec.tag ++ "r" ++ showVal v] := by
  simp [delegCmd, IterSpec.hasReturn, iterReturn, hg, h]

/-- throw(e) while delegating to an iterator whose `throw()` answers a non-object: TypeError at the `yield*` point. -/
theorem delegate_throw_nonobject_typeerror (it : IterState) (c : Conf) (e : Val)
    (hg : it.spec.isGen = false) (h : it.spec.thr = 4) :
    delegCmd it ⟨.throw, e⟩ c = .cont { c with ctl := .abrupt (.thr .terr) } [it.spec.tag ++ "t" ++ showVal e] := by
  simp [delegCmd, IterSpec.hasThrow, iterThrow, hg, h]

/-- The same iterator closed by a loop exit (IteratorClose): a non-object result of `return()` is a TypeError that
replaces every completion except a throw. -/
theorem close_nonobject_is_typeerror (it : IterState) (hg : it.spec.isGen = false) (h : it.spec.ret = 3) :
    iterClose it = ([it.spec.tag ++ "r" ++ showVal .undef], some .terr) := by
  simp [iterClose, IterSpec.hasReturn, iterReturn, hg, h]

/-- A re-entrant next()/throw()/return() on the generator made from inside its delegate's (or its for-of iterator's)
method is rejected with a TypeError whatever the command: the generator is running (GeneratorValidate). -/
theorem delegate_reentry_typeerror (kd : CmdKind) : reentOutcome kd = .terr := by
  cases kd <;> rfl

/-- An iterator that makes a re-entrant call on the generator from its second `next()` observes and logs that TypeError. -/
theorem reentrant_iterator_logs_typeerror (st : IterState) (v : Val) (kd : CmdKind)
    (hk : st.spec.reentKind = some kd) (hp : st.pos = 1) (hl : 1 < st.spec.items.length) :
    (iterNext st v).1 = [st.spec.tag ++ "n" ++ showVal v, st.spec.tag ++ "x" ++ showVal .terr] := by
  have hg : st.spec.isGen = false := by
    cases hgen : st.spec.isGen
    · rfl
    · simp [IterSpec.reentKind, hgen] at hk
  simp [iterNext, hk, hp, hl, hg, delegate_reentry_typeerror]
  -- the log is complete before `iterNext` tests `nextThrows`
  split <;> rfl

/-- A value yielded by the delegate passes through unchanged and the generator stays suspended, still delegating;
when the delegate is done its result value becomes the value of the `yield*` expression. -/
theorem delegate_next_passes_through (it : IterState) (c : Conf) (v : Val) :
    delegCmd it ⟨.next, v⟩ c =
      (match iterNext it v with
       | (ev, .yielded w it') => .yielded w c (some it') ev
       | (ev, .done w) => .cont { c with ctl := .val w } ev
       | (ev, .threw e) => .cont { c with ctl := .abrupt (.thr e) } ev) := by
  simp only [delegCmd]
  generalize iterNext it v = r
  obtain ⟨ev, o⟩ := r
  cases o <;> rfl

/-! uint32 / int32 wrap-around of the saved offsets.
goja keeps `tf.iterLen`, `tf.refLen`, `tf.callStackLen` as `uint32` and `tf.sp` as `int32`; `suspend` subtracts the old
base and `resume` adds the new one in that arithmetic (vm.go:81-83, 105-108).  `Mech` uses `Nat` with truncated
subtraction.  The two agree as long as the RESULT is below 2^32 (2^31 for `sp`): Go's wrap-around arithmetic is
addition modulo 2^32, so even a transient under-flow of the intermediate value is harmless. -/

def sub32 (a b : Nat) : Nat := (a + 4294967296 - b % 4294967296) % 4294967296     -- uint32 `a - b`
def add32 (a b : Nat) : Nat := (a + b) % 4294967296                                -- uint32 `a + b`

/-- Without any discipline the composition is the modular sum `a - b + c (mod 2^32)`: an under-flowing intermediate
value does not corrupt the result. -/
theorem wrap_rebase_modular (a b c : Nat) (ha : a < 4294967296) (hb : b < 4294967296) :
    add32 (sub32 a b) c = (a + c + 4294967296 - b) % 4294967296 := by
  unfold add32 sub32
  rw [Nat.mod_eq_of_lt hb, Nat.mod_add_mod]
  congr 1; omega

/-- Under the frame discipline (`b ≤ a`: the frame was pushed above the generator's base) and a result below 2^32 that
is exactly the `Nat` arithmetic of the model. -/
theorem wrap_rebase_exact (a b c : Nat) (ha : a < 4294967296) (hb : b ≤ a) (hr : a - b + c < 4294967296) :
    add32 (sub32 a b) c = a - b + c := by
  rw [wrap_rebase_modular a b c ha (by omega), show a + c + 4294967296 - b = a - b + c + 4294967296 by omega,
    Nat.add_mod_right, Nat.mod_eq_of_lt hr]

/-- `int32 tf.sp` (two's complement residues): exact below 2^31. -/
theorem wrap_rebase_exact_int32 (a b c : Nat) (ha : a < 2147483648) (hb : b ≤ a) (hr : a - b + c < 2147483648) :
    add32 (sub32 a b) c = a - b + c ∧ add32 (sub32 a b) c < 2147483648 := by
  have h := wrap_rebase_exact a b c (by omega) hb (by omega)
  exact ⟨h, h ▸ hr⟩

/-! Compiler layout: `Link.encode` of the continuation is an invariant, not an assumption (Layout.lean).
Given the instruction scheme of compiler_stmt.go:105 `compileTryStatement` / `emitBlockExitCode` and the transcribed
effects of `try`, `leaveTry`, `enterFinally`, `leaveFinally`, `handleThrow`, `enterNextFinallyFrame` on the top try frame
(`Link.LayoutOp`), the layout on which the dispatch theorems rest is maintained by every step of the spec machine. The
correspondence `corr:layout-encode` compares it with goja's saved try stack at every suspension. -/

/-- Every machine step changes the layout by one try-frame instruction effect (push / pop / disarm catch / disarm both)
or leaves it alone. -/
theorem layout_closed_under_steps (spOf : Nat → Nat) (c c' : Conf) (ev : List Event) (h : step c = .cont c' ev) :
    Link.LayoutOp (Link.encode spOf c.k) (Link.encode spOf c'.k) := by
  have := Link.step_layout spOf c; rwa [h] at this

/-- A suspension (yield, or a delegate's yield) leaves the layout untouched. -/
theorem layout_untouched_by_suspension (spOf : Nat → Nat) (c c' : Conf) (v : Val) (d : Option IterState) (ev : List Event)
    (h : step c = .yielded v c' d ev) : Link.encode spOf c'.k = Link.encode spOf c.k := by
  have := Link.step_layout spOf c; rwa [h] at this

/-- After ANY driver history from ANY generator state, if the generator is suspended, the layout of its continuation was
produced from the one it started with by try-frame instruction effects only (from the empty layout for a fresh
generator).  `Link.LayoutOps` keeps no trace of the path, so it relates any two layouts (`Link.LayoutOps.total`) and `hs` plays
no part: this says nothing beyond `layout_closed_under_steps` / `layout_untouched_by_suspension`. -/
theorem layout_invariant_over_histories (spOf : Nat → Nat) (fuel : Nat) (h : List Cmd) (g : GState) (c' : Conf)
    (d' : Option IterState) (hs : stateAfter fuel g h = .susp c' d') :
    Link.LayoutOps (Link.encode spOf (Link.kOf g)) (Link.encode spOf c'.k) :=
  Link.LayoutOps.total _ _

example (body : List Stmt) : Link.encode (fun _ => 0) (Link.kOf (GState.init body)) = [] := rfl

/-- `try` entry pushes a frame with catch armed iff a catch clause exists, finally armed iff a finally block exists. -/
theorem layout_try_entry (spOf : Nat → Nat) (b : List Stmt) (cc : Option (Nat × List Stmt)) (fin : Option (List Stmt))
    (rest : List Stmt) (env : List Val) (k : List Frame) :
    ∃ c', step { ctl := .exec (.tryS b cc fin :: rest), env := env, k := k } = .cont c' [] ∧
      Link.encode spOf c'.k = Link.encode spOf k ++
        [Link.mkTF spOf (Link.countTryish k) (Link.countForOf k) (Link.countBlk k)
           (if cc.isSome then 2 * (Link.countTryish k : Int) else -1) (if fin.isSome then 2 * (Link.countTryish k : Int) + 1 else -1)] := by
  refine ⟨_, rfl, ?_⟩
  -- the `seqK rest` frame under the new `tryK` frame does not show in the layout
  rw [← Link.encode_cons_nontry spOf (.seqK rest) k rfl]
  cases cc <;> cases fin <;> exact Link.encode_cons_try rfl

/-- A caught exception disarms the catch only; the finally stays armed. -/
theorem layout_caught_exception (spOf : Nat → Nat) (v : Val) (x : Nat) (cb : List Stmt) (fin : Option (List Stmt))
    (env : List Val) (k : List Frame) :
    ∃ c', step { ctl := .abrupt (.thr v), env := env, k := .tryK (some (x, cb)) fin :: k } = .cont c' [] ∧
      Link.encode spOf c'.k = Link.encode spOf k ++
        [Link.mkTF spOf (Link.countTryish k) (Link.countForOf k) (Link.countBlk k) (-1)
           (if fin.isSome then 2 * (Link.countTryish k : Int) + 1 else -1)] := by
  refine ⟨_, rfl, ?_⟩
  cases fin <;> exact Link.encode_cons_try rfl

/-- Entering a finally block from its try block — by normal completion (`enterFinally`) or by a return / break / continue
leaving it (`leaveTry`, `enterNextFinallyFrame`) — leaves the frame on the try stack with both handlers disarmed (repairs
379f30d and 8004794 are exactly this statement for `enterFinally` and `enterNextFinallyFrame`).  The other ways in, from the
catch block and by a throw that no catch clause takes, are the `disarmBoth` cases of `Link.step_layout`. -/
theorem layout_finally_entry (spOf : Nat → Nat) (cc : Option (Nat × List Stmt)) (fb : List Stmt) (env : List Val)
    (k : List Frame) (v : Val) (cp : Completion) (hcp : isThr cp = false) :
    (∃ c', step { ctl := .val v, env := env, k := .tryK cc (some fb) :: k } = .cont c' [] ∧
        Link.encode spOf c'.k = Link.encode spOf k ++ [Link.mkTF spOf (Link.countTryish k) (Link.countForOf k) (Link.countBlk k) (-1) (-1)]) ∧
    (∃ c', step { ctl := .abrupt cp, env := env, k := .tryK cc (some fb) :: k } = .cont c' [] ∧
        Link.encode spOf c'.k = Link.encode spOf k ++ [Link.mkTF spOf (Link.countTryish k) (Link.countForOf k) (Link.countBlk k) (-1) (-1)]) := by
  constructor
  · exact ⟨_, rfl, Link.encode_cons_try rfl⟩
  · cases cp <;> simp [isThr] at hcp <;> cases cc <;> exact ⟨_, rfl, Link.encode_cons_try rfl⟩

/-- State-level refinement of exception dispatch: after `handleThrow` the caller's try frames are untouched and the
generator-owned ones carry exactly the handler-arming pattern of the layout of the spec continuation AFTER the spec's own
unwinding has delivered the exception (`Link.specAfterThrow`), for any continuation, placement and number of popped frames. -/
theorem mech_throw_dispatch_refines_spec_state (ex : Nat) (v : Val) (spOf : Nat → Nat) (f : Mech.TryFrame → Mech.TryFrame)
    (hf : ∀ tf, (f tf).catchPos = tf.catchPos ∧ (f tf).finallyPos = tf.finallyPos) (k k' : List Frame)
    (vm : Mech.VM) (lo : List Mech.TryFrame) (hvm : vm.tryStack = lo ++ (Link.encode spOf k).map f)
    (hs : Link.specAfterThrow v k = some k') :
    (Mech.handleThrow ex vm).2.2.tryStack.take lo.length = lo ∧
    ((Mech.handleThrow ex vm).2.2.tryStack.drop lo.length).map Link.arming = ((Link.encode spOf k').map f).map Link.arming :=
  (Link.handleThrow_on_layout ex f hf spOf k vm lo hvm).2 v k' hs

/-- (test) `specAfterThrow` is what `stepAbrupt` does at the catching frame. -/
example (v : Val) (env : List Val) (k : List Frame) (x : Nat) (cb : List Stmt) (fin : Option (List Stmt)) :
    ∃ env', step { ctl := .abrupt (.thr v), env := env, k := .tryK (some (x, cb)) fin :: k }
      = .cont { ctl := .exec cb, env := env', k := (Link.specAfterThrow v (.tryK (some (x, cb)) fin :: k)).getD [] } [] :=
  ⟨_, rfl⟩

/-- An iterator whose `next()` throws: in a for-of the loop is abandoned with that exception and the iterator is NOT
closed (§14.7.5.7: IteratorStep's abrupt completion is returned as is); under `yield*` the exception is thrown at the
`yield*` point. -/
theorem forof_next_throw_does_not_close (l : Label) (x : Nat) (it : IterState) (body : List Stmt) (env : List Val)
    (k : List Frame) (ev : List Event) (e : Val) (h : iterNext it .undef = (ev, .threw e)) :
    step { ctl := .forOfGo l x it body, env := env, k := k } = .cont { ctl := .abrupt (.thr e), env := env, k := k } ev := by
  simp [step, h]

theorem delegate_next_throw_is_thrown_in_body (it : IterState) (c : Conf) (v : Val) (ev : List Event) (e : Val)
    (h : iterNext it v = (ev, .threw e)) :
    delegCmd it ⟨.next, v⟩ c = .cont { c with ctl := .abrupt (.thr e) } ev := by
  rw [delegate_next_passes_through, h]

/-- Regression lemma about the OLD mechanism (before 230bc65): while a `yield*` delegate's method ran, goja's generator
object was still in state suspendedYield (`tryCallDelegated` was entered before `g.state = genStateExecuting`), and in
that state `validate()` lets every driver command through; in state executing — what 230bc65 sets around the delegate's
methods and `getIterator`, and what the spec demands (`delegate_reentry_typeerror`) — it rejects. -/
theorem yield_star_delegate_state_prefix_witness (cmd : Cmd) :
    genPre .susp cmd ≠ .reject ∧ genPre .executing cmd = .reject := by
  constructor
  · cases cmd with | mk kd p => cases kd <;> simp [genPre]
  · rfl

/-- State-level refinement of return dispatch: after `enterNextFinallyFrame` the try stack carries the arming pattern of
the caller's frames followed by the layout of the spec continuation after the spec's unwinding of the return completion
entered the innermost pending finally block (frames above it popped, the entered frame with both handlers disarmed). -/
theorem mech_return_dispatch_refines_spec_state (v : Val) (spOf : Nat → Nat) (f : Mech.TryFrame → Mech.TryFrame) (C : Nat)
    (hf : ∀ tf, (f tf).finallyPos = tf.finallyPos ∧ (f tf).callStackLen = C ∧ (f tf).catchPos = tf.catchPos)
    (k k' : List Frame) (vm : Mech.VM) (lo : List Mech.TryFrame) (hC : vm.callStack.length = C)
    (hvm : vm.tryStack = lo ++ (Link.encode spOf k).map f) (hs : Link.specAfterReturn v k = some k') :
    (Mech.enterNextFinallyFrame [] vm).2.2.tryStack.map Link.arming = (lo ++ (Link.encode spOf k').map f).map Link.arming :=
  (Link.enterNextFinallyFrame_on_layout f C (fun tf => ⟨(hf tf).1, (hf tf).2.1⟩) spOf k vm lo [] hC hvm).2.2
    (fun tf => (hf tf).2.2) v k' hs

/-- Besides `handleThrow`, the other try-frame operations of compiled code commute with a change of caller: the `try`
instruction, `leaveTry` / `leaveFinally`, and `restoreStacks` to lengths recorded by a generator-owned frame. -/
theorem try_frame_instructions_site_independent (lo g : Mech.VM) (cp fp : Int) (i r : Nat) :
    Mech.pushTryFrame (Mech.rebase lo g) cp fp = Mech.rebase lo (Mech.pushTryFrame g cp fp) ∧
    (g.tryStack ≠ [] → Mech.popTryFrame (Mech.rebase lo g) = Mech.rebase lo (Mech.popTryFrame g)) ∧
    Mech.restoreStacks (Mech.rebase lo g) (i + lo.iterStack.length) (r + lo.refStack.length)
      = ((Mech.restoreStacks g i r).1, Mech.rebase lo (Mech.restoreStacks g i r).2) :=
  ⟨Mech.pushTryFrame_rebase lo g cp fp, Mech.popTryFrame_rebase lo g, Mech.restoreStacks_rebase lo g i r⟩

/-! return(v) when closing an iterator throws, and `step1`'s returning loop with every exit (MechReturn.lean;
func.go:790 `enterNextFinallyFrame` and :866-908 as repaired by bf2a7fb / 5eca78e) -/

/-- The full transcription of `enterNextFinallyFrame` (with the `return()`-throws branch) coincides, when no iterator
throws, with the model the dispatch theorems are about. -/
theorem enterNextFinallyFrame_full_agrees_without_throw (exOf : Nat → Nat) (n : Nat) (vm : Mech.VM) (cl : List Nat) :
    Mech.enfLoop2 [] exOf n vm cl =
      (match Mech.enterNextFinallyFrameLoop [] n vm cl with
       | (true, cl', vm') => .entered cl' vm'
       | (false, cl', vm') => .noFrame cl' vm') := by
  induction n generalizing vm cl with
  | zero => rfl
  | succ n ih =>
    unfold Mech.enfLoop2 Mech.enterNextFinallyFrameLoop
    cases hgl : vm.tryStack.getLast? with
    | none => simp
    | some tf =>
      simp only
      by_cases hc : tf.callStackLen = vm.callStack.length
      · simp only [hc, ne_eq, not_true_eq_false, if_false, Mech.find?_contains_nil, Mech.any_contains_nil]
        by_cases hf : tf.finallyPos ≥ 0
        · simp [hf, Mech.restoreStacks]
        · simp only [hf, if_false]
          rw [ih]
          simp [Mech.restoreStacks]
      · simp [hc]

/-- Closing throws and no handler of the generator takes it (all frames of the activation dead): reported as uncaught
with the activation already unwound down to `enterNext`'s marker frame. -/
theorem return_close_throw_uncaught_unwinds (throwing : List Nat) (exOf : Nat → Nat) (n : Nat) (vm : Mech.VM) (cl : List Nat)
    (lo : List Mech.TryFrame) (M tf : Mech.TryFrame) (rs : List Mech.TryFrame) (it : Nat)
    (h : vm.tryStack = (lo ++ [M]) ++ (tf :: rs).reverse) (hd : ∀ t ∈ tf :: rs, t.dead)
    (hc : tf.callStackLen = vm.callStack.length) (hm : M.catchPos = Mech.tryPanicMarker) (hmc : M.callStackLen < vm.callStack.length)
    (hthrow : (Mech.restoreStacks vm tf.iterLen tf.refLen).1.find? (throwing.contains ·) = some it) :
    ∃ cl', Mech.enfLoop2 throwing exOf (n + 1) vm cl = .uncaught cl'
      { cur := { (vm.callStack.getD M.callStackLen default) with stash := M.stash },
        stack := vm.stack.take M.sp, callStack := vm.callStack.take M.callStackLen,
        iterStack := (vm.iterStack.take tf.iterLen).take M.iterLen, refStack := (vm.refStack.take tf.refLen).take M.refLen,
        tryStack := lo ++ [M] } := by
  have hgl : vm.tryStack.getLast? = some tf := by
    rw [h, List.reverse_cons, ← List.append_assoc]; exact List.getLast?_concat
  unfold Mech.enfLoop2
  simp only [hgl, hc, ne_eq, not_true_eq_false, if_false, hthrow]
  -- `restoreStacks` leaves the try stack alone; `handleThrow` pops the dead frames and stops at the marker
  rw [Mech.handleThrow_dead_run (exOf it) _ (Mech.restoreStacks vm tf.iterLen tf.refLen).2 (lo ++ [M]) h
        (fun t ht => hd t (List.mem_reverse.1 ht)),
      Mech.handleThrow_at_marker (exOf it) { (Mech.restoreStacks vm tf.iterLen tf.refLen).2 with tryStack := lo ++ [M] } lo M rfl hm hmc]
  exact ⟨_, rfl⟩

/-- From the vm `return_close_throw_uncaught_unwinds` leaves (`hU`, with `lo` the caller's try frames), `_return`'s epilogue
(popTryFrame; popCtx) hands the caller its vm back EXACTLY. -/
theorem return_close_throw_uncaught_restores_caller (vm0 vmU : Mech.VM) (M : Mech.TryFrame)
    (hM : M = { callStackLen := vm0.callStack.length + 1, iterLen := vm0.iterStack.length, refLen := vm0.refStack.length,
                sp := vm0.stack.length, stash := vm0.cur.stash, catchPos := Mech.tryPanicMarker, finallyPos := -1, finallyRet := -1 })
    (vm : Mech.VM) (tf : Mech.TryFrame)
    (hcs : vm.callStack = vm0.callStack ++ [vm0.cur, { pc := -2 }])
    (hst : vm.stack.take vm0.stack.length = vm0.stack)
    (hit : (vm.iterStack.take tf.iterLen).take vm0.iterStack.length = vm0.iterStack)
    (hrf : (vm.refStack.take tf.refLen).take vm0.refStack.length = vm0.refStack)
    (hU : vmU = { cur := { (vm.callStack.getD M.callStackLen default) with stash := M.stash },
                  stack := vm.stack.take M.sp, callStack := vm.callStack.take M.callStackLen,
                  iterStack := (vm.iterStack.take tf.iterLen).take M.iterLen, refStack := (vm.refStack.take tf.refLen).take M.refLen,
                  tryStack := vm0.tryStack ++ [M] }) :
    Mech.nextEpilogue vmU = vm0 :=
  Mech.return_close_throw_uncaught_restores_caller vm0 vmU M hM vm tf hcs hst hit hrf hU

/-- Closing throws and the generator has a handler: on the layout of ANY spec continuation the exception goes to the
handler the spec's unwinding selects for a throw at that continuation, and `enterNextFinallyFrame` answers "continue". -/
theorem return_close_throw_dispatch_matches_spec (throwing : List Nat) (exOf : Nat → Nat) (spOf : Nat → Nat)
    (f : Mech.TryFrame → Mech.TryFrame) (hf : ∀ tf, (f tf).catchPos = tf.catchPos ∧ (f tf).finallyPos = tf.finallyPos)
    (k : List Frame) (n : Nat) (vm : Mech.VM) (cl : List Nat) (lo : List Mech.TryFrame) (tf : Mech.TryFrame) (it : Nat) (h : Nat × Bool)
    (hvm : vm.tryStack = lo ++ (Link.encode spOf k).map f) (hgl : vm.tryStack.getLast? = some tf)
    (hc : tf.callStackLen = vm.callStack.length) (hs : Link.specThrowHandler k = some h)
    (hthrow : (Mech.restoreStacks vm tf.iterLen tf.refLen).1.find? (throwing.contains ·) = some it) :
    ∃ cl' vm', Mech.enfLoop2 throwing exOf (n + 1) vm cl = .handled (Link.outcomeOfSpec (some h)) cl' vm' := by
  unfold Mech.enfLoop2
  simp only [hgl, hc, ne_eq, not_true_eq_false, if_false, hthrow]
  rw [mech_throw_dispatch_refines_spec (exOf it) spOf f hf k (Mech.restoreStacks vm tf.iterLen tf.refLen).2 lo h hvm hs]
  -- a handler the spec names is never `uncaught`
  obtain ⟨i, b⟩ := h
  cases b <;> exact ⟨_, _, rfl⟩

/-- `step1`'s returning loop, full transcription: caught-not-halted come-backs are transparent (5eca78e). -/
theorem step1_returning_full_caught_transparent (g : Mech.Gen) (throwing : List Nat) (exOf : Nat → Nat)
    (pre rest : List (Mech.RunBack × Mech.VM)) (hpre : ∀ e ∈ pre, e.1 = .caught) :
    Mech.step1Returning2 g throwing exOf (pre ++ rest) = Mech.step1Returning2 g throwing exOf rest :=
  Mech.caught_prefix_transparent _ (fun _ _ => rfl) pre rest hpre

/-- `step1`'s returning loop when the last finally block has exited: the activation is unwound BEFORE the result is reported,
whether or not closing the remaining iterators threw (bf2a7fb). -/
theorem step1_all_finallies_exit_unwinds_even_on_close_error (g : Mech.Gen) (throwing : List Nat) (exOf : Nat → Nat)
    (vm : Mech.VM) (rest : List (Mech.RunBack × Mech.VM)) (cl : List Nat) (vm1 : Mech.VM)
    (h : Mech.enterNextFinallyFrame2 throwing exOf vm = .noFrame cl vm1) :
    ∃ vm2, (Mech.step1Returning2 g throwing exOf ((.finallyExit, vm) :: rest) = .returnCompleted vm2 ∨
            Mech.step1Returning2 g throwing exOf ((.finallyExit, vm) :: rest) = .closeErrorAtEnd vm2) ∧
      vm2.callStack = vm1.callStack.dropLast ∧ vm2.stack = vm1.stack.take (vm1.cur.sb - 1).toNat ∧
      vm2.iterStack = vm1.iterStack.take g.iterStackLen ∧ vm2.refStack = vm1.refStack.take g.refStackLen := by
  simp only [Mech.step1Returning2, h]
  split
  · exact ⟨_, Or.inr rfl, by simp [Mech.restoreStacks]⟩
  · exact ⟨_, Or.inl rfl, by simp [Mech.restoreStacks]⟩

/-- `step1`'s returning loop: an uncaught close error from `enterNextFinallyFrame` ends the step at once with the already-unwound vm. -/
theorem step1_close_error_uncaught_ends_step (g : Mech.Gen) (throwing : List Nat) (exOf : Nat → Nat) (vm : Mech.VM)
    (rest : List (Mech.RunBack × Mech.VM)) (cl : List Nat) (vm1 : Mech.VM)
    (h : Mech.enterNextFinallyFrame2 throwing exOf vm = .uncaught cl vm1) :
    Mech.step1Returning2 g throwing exOf ((.finallyExit, vm) :: rest) = .closeErrorUncaught vm1 := by
  simp [Mech.step1Returning2, h]

/-- Spec counterpart of `return_close_throw_uncaught_unwinds`: a throw that nothing in the continuation catches or
intercepts unwinds all of it, closing the for-of iterators it crosses (their `return()` errors ignored). -/
theorem uncaught_throw_unwinds_whole_continuation (e : Val) (k : List Frame) (env : List Val)
    (h : Link.specThrowHandler k = none) :
    Reach { ctl := .abrupt (.thr e), env := env, k := k } (thrLogs k) { ctl := .abrupt (.thr e), env := env, k := [] } :=
  unwind_thr_uncaught e k env h

/-- Spec: return(v) at a yield inside a for-of whose iterator's `return()` throws `e`, nothing in the body handling it —
with enough fuel the call logs the close, THROWS `e` and leaves the generator completed (what bf2a7fb made goja do
without corrupting the vm; compared on every run through the `ret = 2` iterators of the correspondence). -/
theorem return_closing_throwing_iterator_throws (v e : Val) (l : Label) (x : Nat) (it : IterState) (body : List Stmt)
    (k : List Frame) (env : List Val) (ctl : Ctl) (hc : (iterClose it).2 = some e) (hk : Link.specThrowHandler k = none) :
    ∃ m, ∀ n, genCall (n + m) (.susp { ctl := ctl, env := env, k := .forOfK l x it body :: k } none) ⟨.ret, v⟩
      = ((iterClose it).1 ++ thrLogs k, .t e, .completed) := by
  -- the first step closes the iterator and turns the return into the throw of `e`
  have hs : step { ctl := .abrupt (.ret v), env := env, k := .forOfK l x it body :: k }
      = .cont { ctl := .abrupt (.thr e), env := env, k := k } (iterClose it).1 :=
    iterator_return_throw_replaces_nonthrow (.ret v) l x it body env k e hc (by nofun)
  simpa using genCall_of_reach (c := ⟨ctl, env, _⟩) (cmd := ⟨.ret, v⟩) (Reach.cons hs (unwind_thr_uncaught e k env hk))
    (r := .t e) (ev := []) rfl

end GojaModel.C09
