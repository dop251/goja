/-
  C09 — mechanism of return(v) when closing an iterator THROWS (repair bf2a7fb) and the returning loop of
  `generator.step1` with every exit (repairs 5eca78e, bf2a7fb): the transcriptions, and what the theorems of Props.lean
  about them rest on — `handleThrow` at the marker frame of `enterNext`, `_return`'s epilogue from there, the skipping of
  caught-not-halted come-backs.

  /repo/func.go:790 `generator.enterNextFinallyFrame`:
      ex := vm.restoreStacks(tf.iterLen, tf.refLen)
      if ex != nil { if ex = vm.handleThrow(ex); ex != nil { return false, ex }; return true, nil }
  /repo/func.go:866-908 the `g.returning != nil` branch of `generator.step1`; func.go `_return` (uncaught path:
  popTryFrame; popCtx; step(nil, resultNormal, uncaught)).
-/
import GojaModel.C09.MechLemmas

namespace GojaModel.C09.Mech

/-- Outcome of `enterNextFinallyFrame` (func.go:790-821). -/
inductive EnfOut where
  | entered (closed : List Nat) (vm : VM)                 -- :808-816 a finally block entered; (true, nil)
  | handled (o : Outcome) (closed : List Nat) (vm : VM)   -- :801-804 closing threw, a handler of the generator took it; (true, nil)
  | uncaught (closed : List Nat) (vm : VM)                -- :802 closing threw, no handler: (false, ex)
  | noFrame (closed : List Nat) (vm : VM)                 -- :820 no (more) try frame of this activation; (false, nil)
deriving DecidableEq, Repr, Inhabited

/-- func.go:790 `enterNextFinallyFrame` (with the repairs bf2a7fb, 4bb92ea, 8004794).  `throwing` = the iterator records whose
`return()` throws, `exOf` the exception each throws; `restoreStacks` keeps the FIRST error (vm.go `if ex1 != nil && ex == nil`). -/
def enfLoop2 (throwing : List Nat) (exOf : Nat → Nat) : Nat → VM → List Nat → EnfOut
  | 0, vm, cl => .noFrame cl vm
  | n + 1, vm, cl =>
    match vm.tryStack.getLast? with
    | none => .noFrame cl vm
    | some tf =>
      if tf.callStackLen ≠ vm.callStack.length then .noFrame cl vm                        -- :796
      else
        let r := restoreStacks vm tf.iterLen tf.refLen                                    -- :799
        match r.1.find? (throwing.contains ·) with
        | some it =>                                                                      -- :800
          let h := handleThrow (exOf it) r.2                                              -- :801
          if h.1 = .uncaught then .uncaught (cl ++ r.1 ++ h.2.1) h.2.2                    -- :802
          else .handled h.1 (cl ++ r.1 ++ h.2.1) h.2.2                                    -- :804
        | none =>
          if tf.finallyPos ≥ 0 then                                                       -- :808
            .entered (cl ++ r.1)
              { r.2 with stack := r.2.stack.take tf.sp,
                         cur := { r.2.cur with stash := tf.stash, pc := tf.finallyPos },
                         tryStack := r.2.tryStack.dropLast ++ [{ tf with catchPos := -1, finallyPos := -1, finallyRet := -2 }] }
          else enfLoop2 throwing exOf n { r.2 with tryStack := r.2.tryStack.dropLast } (cl ++ r.1)   -- :818

def enterNextFinallyFrame2 (throwing : List Nat) (exOf : Nat → Nat) (vm : VM) : EnfOut :=
  enfLoop2 throwing exOf vm.tryStack.length vm []

theorem find?_contains_nil (l : List Nat) : l.find? (fun x => ([] : List Nat).contains x) = none := by simp

theorem any_contains_nil (l : List Nat) : l.any (fun x => ([] : List Nat).contains x) = false := by simp

/-- `M`: the marker frame pushed by `enterNext`. -/
theorem handleThrow_at_marker (ex : Nat) (vm : VM) (fs : List TryFrame) (M : TryFrame)
    (h : vm.tryStack = fs ++ [M]) (hm : M.catchPos = tryPanicMarker) (hc : M.callStackLen < vm.callStack.length) :
    handleThrow ex vm =
      (.uncaught, ((vm.iterStack.drop M.iterLen).reverse).filter (· ≠ 0),
       { cur := { (vm.callStack.getD M.callStackLen default) with stash := M.stash },
         stack := vm.stack.take M.sp, callStack := vm.callStack.take M.callStackLen,
         iterStack := vm.iterStack.take M.iterLen, refStack := vm.refStack.take M.refLen, tryStack := vm.tryStack }) := by
  have hlive : ¬ M.dead := by unfold TryFrame.dead; rw [hm]; simp [tryPanicMarker]
  rw [handleThrow_live_top ex vm fs M h hlive]
  -- the marker is a live frame with an extra call frame above it (`hc`): `unwindTo` takes the restoring branch, and at
  -- `catchPos = tryPanicMarker` both `outcomeOf` and `deliver` take their first branch (uncaught, vm unchanged)
  simp [liveStep, unwindTo, deliver, outcomeOf, restoreStacks, hm, hc]

/-- The epilogue of `_return`'s uncaught path (popTryFrame; popCtx) gives the caller its vm back EXACTLY from the vm
`handleThrow` leaves at the marker, when the marker is the one `enterNext` pushed over caller `vm0` (its recorded lengths are
`vm0`'s, the context saved at its depth is the extra `{pc: -2}` frame on top of `vm0`'s own). -/
theorem return_close_throw_uncaught_restores_caller (vm0 : VM) (vmU : VM) (M : TryFrame)
    (hM : M = { callStackLen := vm0.callStack.length + 1, iterLen := vm0.iterStack.length, refLen := vm0.refStack.length,
                sp := vm0.stack.length, stash := vm0.cur.stash, catchPos := tryPanicMarker, finallyPos := -1, finallyRet := -1 })
    (vm : VM) (tf : TryFrame)
    (hcs : vm.callStack = vm0.callStack ++ [vm0.cur, { pc := -2 }])
    (hst : vm.stack.take vm0.stack.length = vm0.stack)
    (hit : (vm.iterStack.take tf.iterLen).take vm0.iterStack.length = vm0.iterStack)
    (hrf : (vm.refStack.take tf.refLen).take vm0.refStack.length = vm0.refStack)
    (hU : vmU = { cur := { (vm.callStack.getD M.callStackLen default) with stash := M.stash },
                  stack := vm.stack.take M.sp, callStack := vm.callStack.take M.callStackLen,
                  iterStack := (vm.iterStack.take tf.iterLen).take M.iterLen, refStack := (vm.refStack.take tf.refLen).take M.refLen,
                  tryStack := vm0.tryStack ++ [M] }) :
    nextEpilogue vmU = vm0 := by
  subst hU hM
  -- the call stack cut at `M`'s depth is `vm0`'s plus its saved context; the other stacks are `vm0`'s by `hst`, `hit`, `hrf`
  have e : vm.callStack.take (vm0.callStack.length + 1) = vm0.callStack ++ [vm0.cur] := by
    rw [hcs, show vm0.callStack ++ [vm0.cur, { pc := -2 }] = (vm0.callStack ++ [vm0.cur]) ++ [{ pc := -2 }] by simp]
    exact List.take_left' (by simp)
  simp only [hst, hit, hrf, e]
  exact nextEpilogue_undoes_prologue vm0 _ _

/-! The `g.returning != nil` loop of `generator.step1` with every exit (func.go:866-908). -/

inductive Step1Out2 where
  | exThrown (vm : VM)              -- :869-873 the body came back with an exception no handler of the generator took
  | closeErrorUncaught (vm : VM)    -- :882-884 enterNextFinallyFrame: closing an iterator threw, uncaught
  | returnCompleted (vm : VM)       -- :889-900 all finally blocks done, res = returning
  | closeErrorAtEnd (vm : VM)       -- :891-898 … but closing the remaining iterators threw: ex, res = nil
  | bodyReturned (vm : VM)          -- :902-905
  | yielded (vm : VM)               -- :906 → yield epilogue
  | oracleExhausted
deriving Repr, Inhabited

def step1Returning2 (g : Gen) (throwing : List Nat) (exOf : Nat → Nat) : List (RunBack × VM) → Step1Out2
  | [] => .oracleExhausted
  | (ev, vm) :: rest =>
    match ev with
    | .threw => .exThrown vm
    | .caught => step1Returning2 g throwing exOf rest                               -- :874-879 (5eca78e)
    | .finallyExit =>                                                               -- :881
      match enterNextFinallyFrame2 throwing exOf vm with
      | .uncaught _ vm1 => .closeErrorUncaught vm1                                  -- :882-884 (bf2a7fb)
      | .entered _ _ => step1Returning2 g throwing exOf rest                        -- :885-886
      | .handled _ _ _ => step1Returning2 g throwing exOf rest
      | .noFrame _ vm1 =>
        let r := restoreStacks vm1 g.iterStackLen g.refStackLen                     -- :891
        let vm2 : VM := { r.2 with stack := r.2.stack.take (r.2.cur.sb - 1).toNat,  -- :894
                                   callStack := r.2.callStack.dropLast }            -- :895
        if r.1.any (throwing.contains ·) then .closeErrorAtEnd vm2 else .returnCompleted vm2   -- :896-900
    | .returned => .bodyReturned vm
    | .yielded => .yielded vm

/-- `hskip`: the `!vm.halted()` test of 5eca78e (func.go:874). -/
theorem caught_prefix_transparent {α : Type} (loop : List (RunBack × VM) → α)
    (hskip : ∀ vm rest, loop ((.caught, vm) :: rest) = loop rest)
    (pre rest : List (RunBack × VM)) (hpre : ∀ e ∈ pre, e.1 = .caught) : loop (pre ++ rest) = loop rest := by
  induction pre with
  | nil => rfl
  | cons e pre ih =>
    obtain ⟨ev, vm⟩ := e
    obtain rfl : ev = .caught := hpre (ev, vm) List.mem_cons_self
    exact (hskip vm _).trans (ih fun e he => hpre e (List.mem_cons_of_mem _ he))

/-! (tests) the hypotheses of `return_close_throw_uncaught_unwinds` on a concrete vm: caller with one try frame, `enterNext`'s
marker, one dead generator frame (a finally block being run) over an open iterator 7 whose `return()` throws exception 99. -/
def exVM : VM :=
  { cur := { prg := some 1, sb := 3, pc := 40 }, stack := [1, 2, 10, 11, 12],
    callStack := [{ prg := some 0, sb := 1, pc := 5 }, { pc := -2 }], iterStack := [7], refStack := [],
    tryStack := [{ callStackLen := 0, iterLen := 0, refLen := 0, sp := 1, stash := 0, catchPos := 9, finallyPos := -1 },
                 { callStackLen := 1, iterLen := 0, refLen := 0, sp := 2, stash := 0, catchPos := tryPanicMarker, finallyPos := -1 },
                 { callStackLen := 2, iterLen := 0, refLen := 0, sp := 3, stash := 0, catchPos := -1, finallyPos := -1 }] }

def exChk : EnfOut → Bool
  | .uncaught _ vm' => vm'.tryStack.length == 2 && vm'.callStack.length == 1 && vm'.stack == [1, 2] && vm'.iterStack == [] && vm'.cur.pc == -2
  | _ => false

example : exChk (enterNextFinallyFrame2 [7] (fun _ => 99) exVM) = true := by decide

example : enterNextFinallyFrame2 [] (fun _ => 99) exVM = .noFrame [7] { exVM with iterStack := [], tryStack := exVM.tryStack.dropLast } := by
  decide

end GojaModel.C09.Mech
