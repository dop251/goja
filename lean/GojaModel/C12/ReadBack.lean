/-
  C12: what `scanDec` and `readDigits` return on the texts the layout functions produce.  Such a text (digits, `.`, digits,
  the exponent suffix) is a literal of the grammar, `digText`, so the scanner's completeness on literals (`scanDec_text`)
  reads it back: `scanDec_digText`, `read_digText`, and the three shapes `read_plain`, `read_point`, `read_small` shared by
  `ecmaFormat_read` and `precFormat_read` (Props.lean).  Core Lean only.
-/
import GojaModel.C12.Digits
import GojaModel.C12.Grammar

namespace GojaModel.C12

/-- The exponent part of the grammar whose text is `expSuffix e` (definitionally). -/
def expPartOf (e : Int) : ExpPart := ⟨'e', [if e < 0 then '-' else '+'], digitsStr (natDigits e.natAbs)⟩

theorem expPartOf_wf (e : Int) : (expPartOf e).WF := by
  refine ⟨Or.inl rfl, ?_, fun h => decDigitsAux_ne _ _ _ (List.map_eq_nil_iff.mp h), digitVal_digitsStr (natDigits_lt _)⟩
  unfold expPartOf; split <;> simp

theorem expPartOf_value (e : Int) : (expPartOf e).value = e := by
  unfold ExpPart.value expPartOf
  simp only [map_digitVal_digitsStr _ (natDigits_lt _), natDigits_value]
  by_cases h : e < 0 <;> simp [h] <;> omega

/-- What the layout functions print is a literal of the grammar: the digits `A`, with `dot` a point and the digits `B`, with
`e = some x` the exponent suffix of `x`. -/
def digText (A B : List Nat) (dot : Bool) (e : Option Int) : DecText := ⟨digitsStr A, digitsStr B, dot, e.map expPartOf⟩

theorem digText_text (A B : List Nat) (dot : Bool) :
    (digText A B dot none).text = if dot then digitsStr A ++ '.' :: digitsStr B else digitsStr A := by
  cases dot <;> simp [digText, DecText.text, DecText.exText]

theorem scanDec_digText (A B : List Nat) (dot : Bool) (e : Option Int) (hA : ∀ d ∈ A, d < 10) (hB : ∀ d ∈ B, d < 10)
    (hne : A ≠ []) (hdot : dot = false → B = []) :
    scanDec (digText A B dot e).text = some ⟨A, B, dot, e.getD 0, e.isSome, []⟩ := by
  have hw : (digText A B dot e).WF :=
    ⟨digitVal_digitsStr hA, digitVal_digitsStr hB, Or.inl fun h => hne (List.map_eq_nil_iff.mp h),
      fun h => by rw [hdot h]; rfl, match e with | none => trivial | some x => expPartOf_wf x⟩
  have hv : (digText A B dot e).expValue = e.getD 0 := match e with | none => rfl | some x => expPartOf_value x
  rw [scanDec_text _ hw, hv]
  show some (⟨(digitsStr A).map digitVal, (digitsStr B).map digitVal, dot, _, (e.map expPartOf).isSome, []⟩ : DecLit) = _
  rw [map_digitVal_digitsStr A hA, map_digitVal_digitsStr B hB, Option.isSome_map]

/-- Here and below the point position is a parameter `n` with an equation as side condition, so that callers discharge it
by `omega` instead of rewriting inside `some (_, _)`. -/
theorem readDigits_of {body : List Char} {l : DecLit} (h : scanDec body = some l) (hr : l.rest = [])
    {x : Nat} {xs : List Nat} (hs : dropZeros (l.int ++ l.frac) = x :: xs) {n : Int}
    (hn : ((x :: xs).length : Nat) + l.exp - (l.frac.length : Nat) = n) :
    readDigits body = some (x :: xs, n) := by
  unfold readDigits
  simp only [h, hr, hs, ← hn, List.isEmpty_nil, List.isEmpty_cons, Bool.not_true, Bool.false_eq_true, if_false]

theorem read_digText (A B : List Nat) (dot : Bool) (e : Option Int) (hA : ∀ d ∈ A, d < 10) (hB : ∀ d ∈ B, d < 10)
    (hne : A ≠ []) (hdot : dot = false → B = []) {x : Nat} {xs : List Nat} (hs : dropZeros (A ++ B) = x :: xs) {n : Int}
    (hn : ((x :: xs).length : Nat) + e.getD 0 - (B.length : Nat) = n) :
    readDigits (digText A B dot e).text = some (x :: xs, n) :=
  readDigits_of (scanDec_digText A B dot e hA hB hne hdot) rfl hs hn

theorem read_plain (x : Nat) (xs : List Nat) (m : Nat) (hx : x ≠ 0) (hd : ∀ d ∈ x :: xs, d < 10) {n : Int}
    (hn : (((x :: xs).length + m : Nat) : Int) = n) :
    readDigits (digitsStr (x :: xs) ++ zeros m) = some ((x :: xs) ++ List.replicate m 0, n) := by
  have := read_digText ((x :: xs) ++ List.replicate m 0) [] false none
    (List.forall_mem_append.mpr ⟨hd, all_lt_replicate m⟩) (by simp) (List.cons_ne_nil _ _) (fun _ => rfl)
    (show dropZeros ((x :: xs) ++ List.replicate m 0 ++ []) = x :: (xs ++ List.replicate m 0) by
      rw [List.append_nil]; exact dropZeros_cons _ hx)
    (n := n) (by simp only [List.length_append, List.length_replicate, List.length_cons, List.length_nil, Option.getD_none] at hn ⊢; omega)
  rwa [digText_text, if_neg Bool.false_ne_true, digitsStr_append, ← zeros_eq] at this

theorem read_point (x : Nat) (xs : List Nat) (i : Nat) (hx : x ≠ 0) (hd : ∀ d ∈ x :: xs, d < 10)
    (hi : 0 < i) (hik : i ≤ (x :: xs).length) {n : Int} (hn : (i : Int) = n) :
    readDigits (digitsStr ((x :: xs).take i) ++ '.' :: digitsStr ((x :: xs).drop i)) = some (x :: xs, n) := by
  have := read_digText ((x :: xs).take i) ((x :: xs).drop i) true none (fun d hm => hd d (List.mem_of_mem_take hm))
    (fun d hm => hd d (List.mem_of_mem_drop hm)) (take_ne_nil hi (Nat.succ_pos _))
    (fun h => Bool.noConfusion h) (by rw [List.take_append_drop]; exact dropZeros_cons _ hx) (n := n)
    (by simp only [List.length_drop, List.length_cons, Option.getD_none] at hik ⊢; omega)
  rwa [digText_text, if_pos rfl] at this

theorem read_small (x : Nat) (xs : List Nat) (z : Nat) (hx : x ≠ 0) (hd : ∀ d ∈ x :: xs, d < 10) {n : Int}
    (hn : -(z : Int) = n) :
    readDigits ('0' :: '.' :: (zeros z ++ digitsStr (x :: xs))) = some (x :: xs, n) := by
  have := read_digText [0] (List.replicate z 0 ++ (x :: xs)) true none (by simp)
    (List.forall_mem_append.mpr ⟨all_lt_replicate z, hd⟩) (List.cons_ne_nil _ _) (fun h => Bool.noConfusion h)
    (by
      show dropZeros (List.replicate (z + 1) 0 ++ (x :: xs)) = x :: xs
      rw [dropZeros_replicate]; exact dropZeros_cons _ hx) (n := n)
    (by simp only [List.length_append, List.length_replicate, List.length_cons, Option.getD_none]; omega)
  rwa [digText_text, if_pos rfl, digitsStr_append, ← zeros_eq] at this

end GojaModel.C12
