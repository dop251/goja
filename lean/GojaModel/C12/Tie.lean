/-
  C12 Tie: the decision structure of goja's number formatting, REGENERATED from /repo on every run by extract/c12.go
  (`GojaModel/Generated/C12_Layout.lean`), must equal what the Lean layout functions transcribe.

  Pinned: the ModeFixed → ModeStandard guard (|x| ≥ 1e21), the per-mode switch that decides exponential notation and
  the minimum digit count (thresholds −5 / 21 / precision), the conditions of the final layout, and the argument
  range checks and (mode, precision) arguments of the four Number.prototype front-ends; of `FToBaseStr` every condition
  in source order, the statements setting `s2` / `mlo` / `mhi` and the constants `bias`, `p`, `log2P`.  Not pinned: buffer
  manipulation, decimal digit generation (tied by the correspondence run only).
  The second half proves that the Lean layout functions use exactly these constants (goja's `decPt` is the point
  position `n`).
-/
import GojaModel.Generated.C12_Layout
import GojaModel.C12.Driver

namespace GojaModel.C12.Tie
open GojaModel.C12

def expectedFixedGuard : List String := ["mode==ModeFixed&&(d>=1e21||d<=-1e21)", "mode=ModeStandard"]

def expectedLayoutSwitch : List (String × List String) :=
  [("ModeStandard", ["if decPt<-5||decPt>21", "exponentialNotation=true", "else", "minNDigits=decPt", "end"]),
   ("ModeFixed", ["if precision>=0", "minNDigits=decPt+precision", "else", "minNDigits=decPt", "end"]),
   ("ModeExponential", ["minNDigits=precision", "fallthrough"]),
   ("ModeStandardExponential", ["exponentialNotation=true"]),
   ("ModePrecision", ["minNDigits=precision", "if decPt<-5||decPt>precision", "exponentialNotation=true", "end"])]

def expectedTailConds : List String :=
  ["exponentialNotation", "nDigits!=1", "decPt-1>=0", "decPt!=nDigits", "decPt>0"]

def expectedFrontEnds : List (String × List String × List String) :=
  [("toString", ["radix<2||radix>36", "radix==10"], ["fToStr(num,ftoa.ModeStandard,0)", "ftoa.FToBaseStr(num,radix)"]),
   ("toFixed", ["prec<0||prec>100"], ["fToStr(num,ftoa.ModeFixed,int(prec))"]),
   ("toExponential", ["prec<0||prec>100"],
     ["fToStr(num,ftoa.ModeStandardExponential,0)", "fToStr(num,ftoa.ModeExponential,int(prec+1))"]),
   ("toPrecision", ["prec<1||prec>100"], ["fToStr(num,ftoa.ModePrecision,int(prec))"])]

theorem fixedGuard_ok : Generated.C12.fixedGuard = expectedFixedGuard := rfl
theorem layoutSwitch_ok : Generated.C12.layoutSwitch = expectedLayoutSwitch := rfl
theorem tailConds_ok : Generated.C12.tailConds = expectedTailConds := rfl
theorem frontEnds_ok : Generated.C12.frontEnds = expectedFrontEnds := rfl

/-! ### skeleton of `FToBaseStr` (toString(radix)), transcribed by Radix.lean and proved correct in RadixProps.lean

`fracStep` mirrors the three exit branches (`j1==0&&even`, `j<0||(j==0&&even)`, `j1>0`) and their inner tests in
this order; `fracInit` mirrors `s2 = −E` (`−1` for `E = 0`) `+ bias + p` = `1076 − E` resp. `1075`, `mlo = mhi = 1`,
and in the power-of-two case `s2 += log2P`, `mhi = 1<<log2P = 2`. -/

def expectedRadixConds : List String :=
  ["num<0", "dfloor==float64(ldfloor)", "negative", "negative&&ldfloor==0", "exp==0", "negative", "exp>0", "exp<0",
   "num==dfloor", "s2==0", "-s2>=e",
   "(word1==0)&&((word0&bndry_mask)==0)&&((word0&(exp_mask&(exp_mask<<1)))!=0)", "mlo!=mhi", "delta.Sign()<=0",
   "j1==0&&(word1&1)==0", "j>0", "j<0||(j==0&&((word1&1)==0))", "j1>0", "j1>0", "j1>0"]

def expectedRadixInit : List String :=
  ["s2:=-int((word0>>exp_shift1)&(exp_mask>>exp_shift1))", "s2=-1", "s2+=bias+p", "mlo:=big.NewInt(1)", "mhi:=mlo",
   "s2+=log2P", "mhi=big.NewInt(1<<log2P)"]

def expectedRadixConsts : List String := ["bias=1023", "p=53", "log2P=1"]

theorem radixConds_ok : Generated.C12.radixConds = expectedRadixConds := rfl
theorem radixInit_ok : Generated.C12.radixInit = expectedRadixInit := rfl
theorem radixConsts_ok : Generated.C12.radixConsts = expectedRadixConsts := rfl

/-- ModeStandard: exponential notation iff `decPt < -5 || decPt > 21`. -/
theorem ecmaFormat_thresholds (ds : List Nat) (n : Int) :
    ((n < -5 ∨ n > 21) → ecmaFormat ds n = expFormat ds n) ∧
    (¬ (n < -5 ∨ n > 21) → ecmaFormat ds n =
      if ((ds.length : Nat) : Int) ≤ n then digitsStr ds ++ zeros (n - ((ds.length : Nat) : Int)).toNat
      else if 0 < n then digitsStr (ds.take n.toNat) ++ '.' :: digitsStr (ds.drop n.toNat)
      else '0' :: '.' :: (zeros (-n).toNat ++ digitsStr ds)) := by
  constructor
  · intro h
    unfold ecmaFormat
    simp only []
    rw [if_neg (by omega), if_neg (by omega), if_neg (by omega)]
  · intro h
    unfold ecmaFormat
    simp only []
    by_cases c1 : ((ds.length : Nat) : Int) ≤ n
    · rw [if_pos ⟨c1, by omega⟩, if_pos c1]
    · rw [if_neg (fun hh => c1 hh.1), if_neg c1]
      by_cases c2 : 0 < n
      · rw [if_pos ⟨c2, by omega⟩, if_pos c2]
      · rw [if_neg (fun hh => c2 hh.1), if_neg c2, if_pos ⟨by omega, by omega⟩]

/-- ModePrecision: exponential notation iff `decPt < -5 || decPt > precision`, with `decPt = e + 1`. -/
theorem precFormat_thresholds (ds : List Nat) (e : Int) (p : Nat) :
    ((e + 1 < -5 ∨ e + 1 > (p : Int)) → precFormat ds e p = expFormat ds (e + 1)) ∧
    (¬ (e + 1 < -5 ∨ e + 1 > (p : Int)) → precFormat ds e p =
      if e = (p : Int) - 1 then digitsStr ds
      else if e ≥ 0 then digitsStr (ds.take (e.toNat + 1)) ++ '.' :: digitsStr (ds.drop (e.toNat + 1))
      else '0' :: '.' :: (zeros (-(e + 1)).toNat ++ digitsStr ds)) := by
  constructor
  · intro h
    unfold precFormat
    have : e < -6 ∨ e ≥ (p : Int) := by omega
    simp only [this, if_true]
  · intro h
    unfold precFormat
    have : ¬ (e < -6 ∨ e ≥ (p : Int)) := by omega
    simp only [this, if_false]

/-- ModeFixed falls back to Number::toString from 10^21 on (the checker's limit is the same constant). -/
theorem fixed_limit : Driver.tenTo21Scaled = 10 ^ 21 * scale := rfl

end GojaModel.C12.Tie
