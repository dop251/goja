/-
  C12 grammar layer: the declarative ECMA-262 grammar of StrUnsignedDecimalLiteral (`DecText`), and theorems that tie
  the executable scanners of Model.lean (`takeDigits`, `scanFrac`, `scanExp`, `scanDec`) to it: soundness
  (what is consumed is a literal with exactly the returned components) and maximal munch / completeness.
  Core Lean only; not imported by the driver.
-/
import GojaModel.C12.Model
namespace GojaModel.C12

/-- A character list at which a radix-`r` digit scan stops. -/
def StopsR (r : Nat) : List Char → Prop
  | [] => True
  | c :: _ => ¬ digitVal c < r

theorem takeDigits_stopR {r : Nat} {rest : List Char} (h : StopsR r rest) : takeDigits r rest = ([], rest) := by
  cases rest with
  | nil => rfl
  | cons c cs =>
    have : ¬ digitVal c < r := h
    simp [takeDigits, this]

theorem takeDigits_append (r : Nat) (pre rest : List Char) (h : ∀ c ∈ pre, digitVal c < r) :
    takeDigits r (pre ++ rest) = (pre.map digitVal ++ (takeDigits r rest).1, (takeDigits r rest).2) := by
  induction pre with
  | nil => simp
  | cons c cs ih =>
    have hc : digitVal c < r := h c List.mem_cons_self
    have ih' := ih (fun d hm => h d (List.mem_cons_of_mem _ hm))
    simp only [List.cons_append, takeDigits, hc, if_true, ih', List.map_cons]

theorem takeDigits_spec (r : Nat) (cs : List Char) :
    ∃ pre, cs = pre ++ (takeDigits r cs).2 ∧ (takeDigits r cs).1 = pre.map digitVal ∧
      (∀ c ∈ pre, digitVal c < r) ∧ StopsR r (takeDigits r cs).2 := by
  induction cs with
  | nil => exact ⟨[], rfl, rfl, by simp, trivial⟩
  | cons c cs ih =>
    by_cases hc : digitVal c < r
    · obtain ⟨pre, h1, h2, h3, h4⟩ := ih
      refine ⟨c :: pre, ?_, ?_, ?_, ?_⟩
      · simp only [takeDigits, hc, if_true, List.cons_append]; rw [← h1]
      · simp only [takeDigits, hc, if_true, List.map_cons, h2]
      · exact List.forall_mem_cons.mpr ⟨hc, h3⟩
      · simpa only [takeDigits, hc, if_true] using h4
    · refine ⟨[], ?_, ?_, by simp, ?_⟩
      · simp [takeDigits, hc]
      · simp [takeDigits, hc]
      · simp only [takeDigits, hc, if_false]; exact hc

theorem takeDigits_len (r : Nat) (cs : List Char) : (takeDigits r cs).2.length ≤ cs.length := by
  obtain ⟨pre, h1, _, _, _⟩ := takeDigits_spec r cs
  have := congrArg List.length h1
  simp only [List.length_append] at this
  omega

/-- ExponentPart ::: (e|E) (+|-)? DecimalDigits -/
structure ExpPart where
  eChar : Char
  sign : List Char
  digits : List Char

def ExpPart.text (x : ExpPart) : List Char := x.eChar :: (x.sign ++ x.digits)

def ExpPart.WF (x : ExpPart) : Prop :=
  (x.eChar = 'e' ∨ x.eChar = 'E') ∧ (x.sign = [] ∨ x.sign = ['+'] ∨ x.sign = ['-']) ∧
  x.digits ≠ [] ∧ ∀ c ∈ x.digits, digitVal c < 10

def ExpPart.value (x : ExpPart) : Int :=
  (if x.sign = ['-'] then -1 else 1) * ((natOfDigits 10 (x.digits.map digitVal) : Nat) : Int)

/-- StrUnsignedDecimalLiteral ::: DecimalDigits . DecimalDigits? ExponentPart? | . DecimalDigits ExponentPart? |
DecimalDigits ExponentPart?   (the `Infinity` alternative is handled separately by the parsers). -/
structure DecText where
  I : List Char
  F : List Char
  dot : Bool
  ex : Option ExpPart

def DecText.exText (t : DecText) : List Char :=
  match t.ex with
  | none => []
  | some x => x.text

def DecText.text (t : DecText) : List Char :=
  t.I ++ ((if t.dot then '.' :: t.F else []) ++ t.exText)

def DecText.WF (t : DecText) : Prop :=
  (∀ c ∈ t.I, digitVal c < 10) ∧ (∀ c ∈ t.F, digitVal c < 10) ∧ (t.I ≠ [] ∨ t.F ≠ []) ∧
  (t.dot = false → t.F = []) ∧ (match t.ex with | none => True | some x => x.WF)

def DecText.expValue (t : DecText) : Int :=
  match t.ex with
  | none => 0
  | some x => x.value

def DecLit.Matches (l : DecLit) (t : DecText) : Prop :=
  l.int = t.I.map digitVal ∧ l.frac = t.F.map digitVal ∧ l.hasDot = t.dot ∧ l.exp = t.expValue ∧
  l.hasExp = t.ex.isSome

theorem scanFrac_spec (r1 : List Char) :
    ∃ F, (scanFrac r1).1 = F.map digitVal ∧ (∀ c ∈ F, digitVal c < 10) ∧
      r1 = (if (scanFrac r1).2.1 then '.' :: F else []) ++ (scanFrac r1).2.2 ∧
      ((scanFrac r1).2.1 = false → F = []) := by
  unfold scanFrac
  split
  · rename_i r
    obtain ⟨pre, h1, h2, h3, _⟩ := takeDigits_spec 10 r
    refine ⟨pre, h2, h3, ?_, by simp⟩
    simp only [if_true, List.cons_append]
    rw [← h1]
  · exact ⟨[], rfl, by simp, by simp, fun _ => rfl⟩

theorem scanSign_spec (r : List Char) :
    ∃ sg, (sg = [] ∨ sg = ['+'] ∨ sg = ['-']) ∧ r = sg ++ (scanSign r).2 ∧
      (scanSign r).1 = (if sg = ['-'] then -1 else 1) := by
  unfold scanSign
  split
  · exact ⟨['+'], by simp, rfl, by simp⟩
  · exact ⟨['-'], by simp, rfl, by simp⟩
  · exact ⟨[], by simp, rfl, by simp⟩

theorem scanExp_spec (r2 : List Char) :
    scanExp r2 = (0, false, r2) ∨
      ∃ x : ExpPart, x.WF ∧ r2 = x.text ++ (scanExp r2).2.2 ∧ (scanExp r2).1 = x.value ∧ (scanExp r2).2.1 = true := by
  cases r2 with
  | nil => left; rfl
  | cons c r =>
    by_cases hc : (c == 'e' || c == 'E') = true
    · obtain ⟨sg, hsg, hr, hv⟩ := scanSign_spec r
      obtain ⟨pre, h1, h2, h3, _⟩ := takeDigits_spec 10 (scanSign r).2
      by_cases hem : (takeDigits 10 (scanSign r).2).1.isEmpty = true
      · left
        simp only [scanExp, hc, if_true, hem]
      · right
        have hem' : (takeDigits 10 (scanSign r).2).1.isEmpty = false := (Bool.not_eq_true _).mp hem
        have hem2 : (List.map digitVal pre).isEmpty = false := by rw [← h2]; exact hem'
        refine ⟨⟨c, sg, pre⟩, ⟨?_, hsg, ?_, h3⟩, ?_, ?_, ?_⟩
        · simp only [Bool.or_eq_true, beq_iff_eq] at hc; exact hc
        · intro hp
          simp only at hp
          subst hp
          simp at hem2
        · simp only [scanExp, hc, if_true, hem', Bool.false_eq_true, if_false, ExpPart.text, List.cons_append,
            List.append_assoc]
          rw [← h1, ← hr]
        · simp only [scanExp, hc, if_true, h2, hem2, Bool.false_eq_true, if_false, ExpPart.value, hv]
        · simp only [scanExp, hc, if_true, hem', Bool.false_eq_true, if_false]
    · left
      have hc' : (c == 'e' || c == 'E') = false := (Bool.not_eq_true _).mp hc
      simp only [scanExp, hc', Bool.false_eq_true, if_false]

theorem scanDec_sound (cs : List Char) (l : DecLit) (h : scanDec cs = some l) :
    ∃ t : DecText, t.WF ∧ cs = t.text ++ l.rest ∧ l.Matches t := by
  unfold scanDec at h
  simp only [] at h
  obtain ⟨I, hI1, hI2, hI3, _⟩ := takeDigits_spec 10 cs
  obtain ⟨F, hF1, hF2, hF3, hF4⟩ := scanFrac_spec (takeDigits 10 cs).2
  split at h
  · cases h
  · rename_i hne
    simp only [Option.some.injEq] at h
    subst h
    have hne' : I ≠ [] ∨ F ≠ [] := by
      by_cases hi : I = []
      · right
        intro hf
        apply hne
        rw [hI2, hF1, hi, hf]; rfl
      · left; exact hi
    rcases scanExp_spec (scanFrac (takeDigits 10 cs).2).2.2 with he | ⟨x, hx1, hx2, hx3, hx4⟩
    · refine ⟨⟨I, F, (scanFrac (takeDigits 10 cs).2).2.1, none⟩, ⟨hI3, hF2, hne', hF4, trivial⟩, ?_, ?_⟩
      · simp only [DecText.text, DecText.exText, List.append_nil, he]
        rw [List.append_assoc, ← hF3, ← hI1]
      · exact ⟨hI2, hF1, rfl, by simp [he, DecText.expValue], by simp [he]⟩
    · refine ⟨⟨I, F, (scanFrac (takeDigits 10 cs).2).2.1, some x⟩, ⟨hI3, hF2, hne', hF4, hx1⟩, ?_, ?_⟩
      · simp only [DecText.text, DecText.exText]
        rw [List.append_assoc, List.append_assoc, ← hx2, ← hF3, ← hI1]
      · exact ⟨hI2, hF1, rfl, by simp [hx3, DecText.expValue], by simp [hx4]⟩

theorem scanFrac_len (r : List Char) : (scanFrac r).2.2.length ≤ r.length := by
  obtain ⟨F, _, _, h, _⟩ := scanFrac_spec r
  have := congrArg List.length h
  rw [List.length_append] at this
  omega

theorem scanExp_len (r : List Char) : (scanExp r).2.2.length ≤ r.length := by
  rcases scanExp_spec r with h | ⟨x, _, h, _⟩
  · rw [h]; exact Nat.le_refl _
  · have := congrArg List.length h
    rw [List.length_append] at this
    omega

theorem scanFrac_dot (F tail : List Char) (hF : ∀ c ∈ F, digitVal c < 10) :
    scanFrac ('.' :: (F ++ tail)) = (F.map digitVal ++ (takeDigits 10 tail).1, true, (takeDigits 10 tail).2) := by
  simp only [scanFrac, takeDigits_append 10 F tail hF]

theorem scanSign_digit (c : Char) (r : List Char) (h : digitVal c < 10) : scanSign (c :: r) = (1, c :: r) := by
  have h1 : c ≠ '+' := by rintro rfl; revert h; decide
  have h2 : c ≠ '-' := by rintro rfl; revert h; decide
  unfold scanSign
  split
  · rename_i heq; cases heq; exact absurd rfl h1
  · rename_i heq; cases heq; exact absurd rfl h2
  · rfl

theorem scanExp_wf (x : ExpPart) (hx : x.WF) (tail : List Char) :
    scanExp (x.text ++ tail) =
      ((if x.sign = ['-'] then -1 else 1) *
          ((natOfDigits 10 (x.digits.map digitVal ++ (takeDigits 10 tail).1) : Nat) : Int),
        true, (takeDigits 10 tail).2) := by
  obtain ⟨he, hs, hne, hd⟩ := hx
  have hc : (x.eChar == 'e' || x.eChar == 'E') = true := by
    rcases he with h | h <;> simp [h]
  have hsign : scanSign (x.sign ++ (x.digits ++ tail)) =
      ((if x.sign = ['-'] then -1 else 1), x.digits ++ tail) := by
    rcases hs with h | h | h
    · rw [h]
      cases hdg : x.digits with
      | nil => exact absurd hdg hne
      | cons d ds =>
        have : digitVal d < 10 := hd d (by rw [hdg]; exact List.mem_cons_self)
        simp only [List.nil_append, List.cons_append]
        rw [scanSign_digit d _ this]
        simp
    · rw [h]; simp [scanSign]
    · rw [h]; simp [scanSign]
  have hT := takeDigits_append 10 x.digits tail hd
  have hne2 : (x.digits.map digitVal ++ (takeDigits 10 tail).1).isEmpty = false := by
    cases hdg : x.digits with
    | nil => exact absurd hdg hne
    | cons d ds => simp
  simp only [ExpPart.text, List.cons_append, List.append_assoc, scanExp, hc, if_true, hsign, hT, hne2,
    Bool.false_eq_true, if_false]

theorem scanDec_stages {cs r1 r2 : List Char} {A B : List Nat} {dot : Bool}
    (hT : takeDigits 10 cs = (A, r1)) (hF : scanFrac r1 = (B, dot, r2)) (hne : A ≠ [] ∨ B ≠ []) :
    scanDec cs = some { int := A, frac := B, hasDot := dot, exp := (scanExp r2).1, hasExp := (scanExp r2).2.1,
                        rest := (scanExp r2).2.2 } := by
  have : (A.isEmpty && B.isEmpty) = false := by
    rcases hne with h | h <;> simp [h]
  unfold scanDec
  simp only [hT, hF, this, Bool.false_eq_true, if_false]

theorem ExpPart.stops {x : ExpPart} (hx : x.WF) (rest : List Char) :
    takeDigits 10 (x.text ++ rest) = ([], x.text ++ rest) ∧
      scanFrac (x.text ++ rest) = ([], false, x.text ++ rest) := by
  unfold ExpPart.text
  rcases hx.1 with h | h <;> rw [h] <;> exact ⟨rfl, rfl⟩

/-- The length bound is what `parseFloat` needs (with `scanDec_sound`: the consumed prefix is the longest literal
prefix), the `rest = []` clause what `Number()` needs.
Every stage ends in a run of digits, which runs on into `rest` (`takeDigits_append`); the stages after the last part
of `t` then work on what is left of `rest`. -/
theorem scanDec_longest (t : DecText) (ht : t.WF) (rest : List Char) :
    ∃ l, scanDec (t.text ++ rest) = some l ∧ l.rest.length ≤ rest.length ∧
      (rest = [] → l.Matches t ∧ l.rest = []) := by
  obtain ⟨hI, hF, hne, hnd, hex⟩ := ht
  have hne' : t.I.map digitVal ≠ [] ∨ t.F.map digitVal ≠ [] := by
    simpa only [ne_eq, List.map_eq_nil_iff] using hne
  have hdotStop : ∀ tl, takeDigits 10 ('.' :: tl) = ([], '.' :: tl) := fun _ => rfl
  cases hx : t.ex with
  | some x =>
    have hxwf : x.WF := by rw [hx] at hex; exact hex
    obtain ⟨hstop, hnofrac⟩ := ExpPart.stops hxwf rest
    have hE := scanExp_wf x hxwf rest
    cases hdot : t.dot with
    | true =>
      have hT : takeDigits 10 (t.text ++ rest) = (t.I.map digitVal, '.' :: (t.F ++ (x.text ++ rest))) := by
        simp only [DecText.text, DecText.exText, hx, hdot, if_true, List.append_assoc, List.cons_append]
        rw [takeDigits_append 10 _ _ hI, hdotStop, List.append_nil]
      have hFr := scanFrac_dot t.F (x.text ++ rest) hF
      rw [hstop, List.append_nil] at hFr
      refine ⟨_, scanDec_stages hT hFr hne', ?_, fun hr => ?_⟩
      · rw [hE]; exact takeDigits_len 10 rest
      · subst hr
        rw [List.append_nil] at hE
        simp [DecLit.Matches, hE, hdot, hx, DecText.expValue, ExpPart.value, takeDigits]
    | false =>
      have hT : takeDigits 10 (t.text ++ rest) = (t.I.map digitVal, x.text ++ rest) := by
        simp only [DecText.text, DecText.exText, hx, hdot, Bool.false_eq_true, if_false, List.append_assoc,
          List.nil_append]
        rw [takeDigits_append 10 _ _ hI, hstop, List.append_nil]
      refine ⟨_, scanDec_stages hT hnofrac (Or.inl (hne'.resolve_right (by simp [hnd hdot]))), ?_, fun hr => ?_⟩
      · rw [hE]; exact takeDigits_len 10 rest
      · subst hr
        rw [List.append_nil] at hE
        simp [DecLit.Matches, hE, hdot, hx, hnd hdot, DecText.expValue, ExpPart.value, takeDigits]
  | none =>
    cases hdot : t.dot with
    | true =>
      have hT : takeDigits 10 (t.text ++ rest) = (t.I.map digitVal, '.' :: (t.F ++ rest)) := by
        simp only [DecText.text, DecText.exText, hx, hdot, if_true, List.append_assoc, List.cons_append,
          List.append_nil]
        rw [takeDigits_append 10 _ _ hI, hdotStop, List.append_nil]
      refine ⟨_, scanDec_stages hT (scanFrac_dot t.F rest hF) (hne'.imp_right fun h => by simp [h]), ?_, fun hr => ?_⟩
      · exact Nat.le_trans (scanExp_len _) (takeDigits_len 10 rest)
      · subst hr
        simp [DecLit.Matches, hdot, hx, DecText.expValue, takeDigits, scanExp]
    | false =>
      have hT : takeDigits 10 (t.text ++ rest) =
          (t.I.map digitVal ++ (takeDigits 10 rest).1, (takeDigits 10 rest).2) := by
        simp only [DecText.text, DecText.exText, hx, hdot, Bool.false_eq_true, if_false, List.append_nil]
        exact takeDigits_append 10 _ _ hI
      refine ⟨_, scanDec_stages hT rfl (Or.inl ?_), ?_, fun hr => ?_⟩
      · have := hne'.resolve_right (by simp [hnd hdot])
        simp [this]
      · exact Nat.le_trans (scanExp_len _) (Nat.le_trans (scanFrac_len _) (takeDigits_len 10 rest))
      · subst hr
        simp [DecLit.Matches, hdot, hx, hnd hdot, DecText.expValue, takeDigits, scanExp]

theorem scanDec_text (t : DecText) (ht : t.WF) :
    scanDec t.text = some ⟨t.I.map digitVal, t.F.map digitVal, t.dot, t.expValue, t.ex.isSome, []⟩ := by
  obtain ⟨l, hl, _, hm⟩ := scanDec_longest t ht []
  obtain ⟨⟨h1, h2, h3, h4, h5⟩, h6⟩ := hm rfl
  rw [List.append_nil] at hl
  rw [hl, ← h1, ← h2, ← h3, ← h4, ← h5, ← h6]

theorem decText_head (dt : DecText) (h : dt.WF) (rest : List Char) :
    ∃ c r, dt.text ++ rest = c :: r ∧ (digitVal c < 10 ∨ c = '.') := by
  obtain ⟨hI, hF, hne, hnd, _⟩ := h
  cases hi : dt.I with
  | cons c r =>
    refine ⟨c, r ++ ((if dt.dot = true then '.' :: dt.F else []) ++ dt.exText) ++ rest, ?_,
      Or.inl (hI c (by rw [hi]; exact List.mem_cons_self))⟩
    simp [DecText.text, hi]
  | nil =>
    have hf : dt.F ≠ [] := by
      rcases hne with h | h
      · exact absurd hi h
      · exact h
    have hd : dt.dot = true := by
      cases hdd : dt.dot with
      | true => rfl
      | false => exact absurd (hnd hdd) hf
    refine ⟨'.', dt.F ++ dt.exText ++ rest, ?_, Or.inr rfl⟩
    simp [DecText.text, hi, hd]

theorem infinityChars_eq : infinityChars = ['I', 'n', 'f', 'i', 'n', 'i', 't', 'y'] := by decide

theorem head_ne {c x : Char} (hc : digitVal c < 10 ∨ c = '.') (hx : ¬ digitVal x < 10) (hx' : x ≠ '.') : c ≠ x := by
  rintro rfl
  exact hc.elim hx hx'

theorem decText_not_infinity (dt : DecText) (h : dt.WF) (rest : List Char) :
    infinityChars.isPrefixOf (dt.text ++ rest) = false := by
  obtain ⟨c, r, he, hc⟩ := decText_head dt h rest
  have hI : c ≠ 'I' := head_ne hc (by decide) (by decide)
  rw [he, infinityChars_eq]
  simp only [List.isPrefixOf, Bool.and_eq_false_imp, beq_iff_eq]
  intro e; exact absurd e.symm hI

theorem decText_ne_infinity (dt : DecText) (h : dt.WF) : (dt.text == infinityChars) = false := by
  cases hh : (dt.text == infinityChars) with
  | false => rfl
  | true =>
    have := decText_not_infinity dt h []
    rw [eq_of_beq hh, infinityChars_eq] at this
    exact absurd this (by decide)

theorem scanDec_of_radixPrefix {t r : List Char} {R : Nat} (h : radixPrefix t = some (R, r)) :
    ∃ l, scanDec t = some l ∧ l.rest ≠ [] := by
  unfold radixPrefix at h
  split at h
  · rename_i x r'
    have hx : (x == 'x' || x == 'X') = true ∨ (x == 'o' || x == 'O') = true ∨ (x == 'b' || x == 'B') = true := by
      split at h
      · exact Or.inl ‹_›
      · split at h
        · exact Or.inr (Or.inl ‹_›)
        · split at h
          · exact Or.inr (Or.inr ‹_›)
          · cases h
    simp only [Bool.or_eq_true, beq_iff_eq] at hx
    rcases hx with (rfl | rfl) | (rfl | rfl) | (rfl | rfl) <;> exact ⟨_, rfl, List.cons_ne_nil _ _⟩
  · cases h

end GojaModel.C12
