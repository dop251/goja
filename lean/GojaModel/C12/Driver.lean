/-
  C12 driver: runs the (proved) certifying checkers of Model.lean on (input, output) pairs produced by the real
  implementation.  One line in, one line out:  `ok <tag>`  or  `bad <reason>`.

     tostr  <bits> <text>            String(x)                       / ftoa.FToStr(x, ModeStandard)
     expu   <bits> <text>            x.toExponential()               / ModeStandardExponential
     fixed  <bits> <fd> <text>       x.toFixed(fd)                   / ModeFixed
     exp    <bits> <fd> <text>       x.toExponential(fd)             / ModeExponential (precision fd+1)
     prec   <bits> <p> <text>        x.toPrecision(p)                / ModePrecision
     radix  <bits> <r> <text>        x.toString(r)  (r = 10: same as tostr)
     fbase  <bits> <r> <text>        ftoa.FToBaseStr(x, r)   (parse-back and the exact string, also for r = 10)
     num    s:<string> <bits>        Number(string)
     pfloat s:<string> <bits>        parseFloat(string)
     pint   <radix> s:<string> <bits>  parseInt(string, radix)
     lit    s:<string> <bits>        the numeric literal evaluated by the runtime
     rt     <bits> <bits>            Number(String(x)) = x
  <bits> = 16 hex digits.  <string> has no spaces ('~' stands for a space, \\uXXXX for any other code unit).
-/
import GojaModel.Base.Proto
import GojaModel.C12.Model
import GojaModel.C12.Radix

namespace GojaModel.C12.Driver
open GojaModel GojaModel.C12

def bitsOf (s : String) : Option F64 :=
  if s.length != 16 then none else (Proto.parseHex? s).map F64.ofBits

def natOf (s : String) : Option Nat := s.toNat?

def intOf (s : String) : Option Int :=
  match s.toList with
  | '-' :: r => (String.ofList r).toNat?.map (fun n => -(n : Int))
  | _ => s.toNat?.map (fun n => (n : Int))

def ok (tag : String) : String := "ok " ++ tag
def bad (why : String) : String := "bad " ++ why

def specials (f : F64) (text : List Char) : Option String :=
  if f.isNaN then some (if text == "NaN".toList then ok "nan" else bad "nan-text")
  else if f.isInf then
    some (if text == (if f.neg then "-Infinity".toList else "Infinity".toList) then ok "inf" else bad "inf-text")
  else none

/-- Strip the sign the spec prescribes (`-` iff x < 0; −0 prints without sign). -/
def stripSign (f : F64) (text : List Char) : Option (List Char) :=
  if f.neg && !f.isZero then
    match text with
    | '-' :: r => some r
    | _ => none
  else some text

def layoutTag (k : Nat) (n : Int) : String :=
  if (k : Int) ≤ n ∧ n ≤ 21 then "int" else if 0 < n ∧ n ≤ 21 then "point"
  else if -6 < n ∧ n ≤ 0 then "small" else "expn"

/-- Shortest round-trip digits in layout `fmt`. -/
def checkShortest (f : F64) (body : List Char) (fmt : List Nat → Int → List Char) : String :=
  match readDigits body with
  | none => bad "unreadable"
  | some (sig, n) =>
    let ds := dropTrailingZeros sig
    let k := ds.length
    let s := natOfDigits 10 ds
    let c : Int := n - (k : Int)
    if fmt ds n != body then bad "layout"
    else if !roundsTo s c f.ord then bad "not-round-trip"
    else if !isShortest f.ord s k c then bad "not-shortest"
    else if !isClosest f.ord s k c then bad "not-closest"
    else ok ("short:" ++ layoutTag k n ++ (if k ≥ 17 then ":k17" else if k ≤ 3 then ":k<=3" else ""))

def checkToStr (f : F64) (text : List Char) (fmt : List Nat → Int → List Char := ecmaFormat) : String :=
  match specials f text with
  | some r => r
  | none =>
    if f.isZero then (if text == (fmt [0] 1) then ok "zero" else bad "zero-text") else
    match stripSign f text with
    | none => bad "sign"
    | some body => checkShortest f body fmt

def tenTo21Scaled : Nat := 10 ^ 21 * scale

def checkFixed (f : F64) (fd : Nat) (text : List Char) : String :=
  if f.isNaN then (if text == "NaN".toList then ok "nan" else bad "nan-text")
  else if f.isInf || f.mag ≥ tenTo21Scaled then checkToStr f text
  else
    match stripSign f text with
    | none => bad "sign"
    | some body =>
      match scanDec body with
      | none => bad "unreadable"
      | some l =>
        if !l.rest.isEmpty || l.hasExp then bad "unreadable" else
        let N := natOfDigits 10 (l.int ++ l.frac)
        if fixedFormat N fd != body then bad "layout"
        else if !isFixed f.mag fd N then bad "fixed-rounding"
        else
          let p := N * scale; let q := f.mag * 10 ^ fd
          ok ("fixed" ++ (if 2 * absDiff p q == scale then ":tie" else if p == q then ":exact" else ""))

def expTag (X _fd n : Nat) (c : Int) : String :=
  let un := 10 ^ c.toNat
  let p := n * un * scale; let q := X * decDen c
  if 2 * absDiff p q == un * scale then ":tie" else if p == q then ":exact" else ""

def checkExp (f : F64) (fd : Nat) (text : List Char) : String :=
  match specials f text with
  | some r => r
  | none =>
    match stripSign f text with
    | none => bad "sign"
    | some body =>
      if f.isZero then
        (if body == expFormat (List.replicate (fd + 1) 0) 1 then ok "zero" else bad "zero-text")
      else
      match readDigits body with
      | none => bad "unreadable"
      | some (sig, n) =>
        if sig.length != fd + 1 then bad "digit-count"
        else if expFormat sig n != body then bad "layout"
        else
          let c : Int := n - ((fd + 1 : Nat) : Int)
          if !isExp f.mag fd (natOfDigits 10 sig) c then bad "exp-rounding"
          else ok ("exp" ++ expTag f.mag fd (natOfDigits 10 sig) c)

def checkPrec (f : F64) (p : Nat) (text : List Char) : String :=
  match specials f text with
  | some r => r
  | none =>
    if p == 0 then bad "p=0" else
    match stripSign f text with
    | none => bad "sign"
    | some body =>
      if f.isZero then
        (if body == precFormat (List.replicate p 0) 0 p then ok "zero" else bad "zero-text")
      else
      match readDigits body with
      | none => bad "unreadable"
      | some (sig, n) =>
        if sig.length != p then bad "digit-count"
        else if precFormat sig (n - 1) p != body then bad "layout"
        else
          let c : Int := n - (p : Int)
          if !isExp f.mag (p - 1) (natOfDigits 10 sig) c then bad "prec-rounding"
          else ok ("prec:" ++ (if n - 1 < -6 ∨ n - 1 ≥ (p : Int) then "expn" else "plain")
                    ++ expTag f.mag (p - 1) (natOfDigits 10 sig) c)

/-- The digit string in radix `r` denotes a value that rounds to `f`. -/
def checkRadix (f : F64) (r : Nat) (text : List Char) : String :=
  match specials f text with
  | some res => res
  | none =>
    if r < 2 || r > 36 then bad "radix" else
    if f.isZero then (if text == ['0'] then ok "zero" else bad "zero-text") else
    match stripSign f text with
    | none => bad "sign"
    | some body =>
      let (ip, r1) := takeDigits r body
      let (fp, hasDot, r2) := match r1 with
        | '.' :: r' => let (fp, r2) := takeDigits r r'; (fp, true, r2)
        | _ => ([], false, r1)
      if ip.isEmpty || !r2.isEmpty || (hasDot && fp.isEmpty) then bad "unreadable"
      else if ip.length > 1 && ip.head? == some 0 then bad "leading-zero"
      else if digitsStr ip ++ (if hasDot then '.' :: digitsStr fp else []) != body then bad "charset"
      else if !isNearestMag (natOfDigits r (ip ++ fp)) (r ^ fp.length) f.ord then bad "radix-not-round-trip"
      -- mechanism model (Radix.lean, transcription of ftoa.FToBaseStr): the exact string is predicted
      else if toBaseStr f r != some text then
        bad ("radix-model-mismatch model=" ++ (match toBaseStr f r with
          | some t => String.ofList (t.take 60) | none => "<fuel>"))
      else ok ("radix" ++ (if hasDot then ":frac" else ":int"))

def parsedTag : Parsed → String
  | .nan => "nan" | .inf _ => "inf" | .zero _ => "zero" | .huge _ => "huge" | .tiny _ => "tiny"
  | .rat _ _ d => if d == 1 then "int" else "rat"

def resultTag (p : Parsed) (f : F64) : String :=
  match p with
  | .rat _ n d =>
    let k := f.ord
    let l := 2 * n * scale
    (if f.isInf then ":ovf" else if f.isZero then ":udf" else if f.exp == 0 then ":sub" else "") ++
    (if k > 0 ∧ (magOrd (k - 1) + magOrd k) * d == l then ":tie"
     else if k < infOrd ∧ (magOrd k + magOrd (k + 1)) * d == l then ":tie" else "")
  | _ => ""

def checkParsed (kind : String) (p : Parsed) (res : String) (zeroSignFree := false) : String :=
  match bitsOf res with
  | none => bad ("result:" ++ res)
  | some f =>
    -- (1) the proved acceptance predicate, (2) the proved rounding function; by `roundOrd_complete` they agree
    let viaFunction : Bool := match p.expectedBits with
      | none => f.isNaN
      | some b => f.toBits == b || (zeroSignFree && f.isZero && b % 2 ^ 63 == 0)
    let expected : String := match p.expectedBits with
      | none => "NaN"
      | some b => Proto.toHexW 16 b
    if p.accepts f zeroSignFree && viaFunction then ok (kind ++ ":" ++ parsedTag p ++ resultTag p f)
    else if p.accepts f zeroSignFree != viaFunction then bad (kind ++ "-checker-and-function-disagree expected=" ++ expected)
    else bad (kind ++ "-not-nearest:" ++ parsedTag p ++ " expected=" ++ expected)

/-- Decode `s:<text>`: `~` is a space, `\uXXXX` one code unit. -/
def unescChars : Nat → List Char → List Char
  | 0, _ => []
  | _, [] => []
  | fuel + 1, '\\' :: 'u' :: a :: b :: c :: d :: rest =>
    match Proto.parseHex? (String.ofList [a, b, c, d]) with
    | some v => Char.ofNat v :: unescChars fuel rest
    | none => '\\' :: unescChars fuel ('u' :: a :: b :: c :: d :: rest)
  | fuel + 1, '~' :: rest => ' ' :: unescChars fuel rest
  | fuel + 1, ch :: rest => ch :: unescChars fuel rest

def unesc (s : String) : List Char :=
  let cs := s.toList.drop 2
  unescChars (cs.length + 1) cs

def handle (line : String) : String :=
  match Proto.words line with
  | ["tostr", b, t] => match bitsOf b with
    | some f => checkToStr f t.toList | none => bad "args"
  | ["expu", b, t] => match bitsOf b with
    | some f => checkToStr f t.toList expFormat | none => bad "args"
  | ["fixed", b, n, t] => match bitsOf b, natOf n with
    | some f, some fd => checkFixed f fd t.toList | _, _ => bad "args"
  | ["exp", b, n, t] => match bitsOf b, natOf n with
    | some f, some fd => checkExp f fd t.toList | _, _ => bad "args"
  | ["prec", b, n, t] => match bitsOf b, natOf n with
    | some f, some p => checkPrec f p t.toList | _, _ => bad "args"
  | ["radix", b, r, t] => match bitsOf b, natOf r with
    | some f, some r => if r == 10 then checkToStr f t.toList else checkRadix f r t.toList
    | _, _ => bad "args"
  | ["fbase", b, r, t] => match bitsOf b, natOf r with
    | some f, some r => checkRadix f r t.toList | _, _ => bad "args"
  | ["num", s, res] => checkParsed "num" (parseNumber (unesc s)) res
  | ["pfloat", s, res] => checkParsed "pfloat" (parseFloatSpec (unesc s)) res
  | ["pint", r, s, res] => match intOf r with
    | some r => checkParsed "pint" (parseIntSpec (unesc s) r) res
    | none => bad "args"
  | ["lit", s, res] => checkParsed "lit" (parseLiteral (unesc s)) res
  | ["rt", b, res] => match bitsOf b, bitsOf res with
    | some f, some g =>
      -- String(-0) is "0" (Number::toString step 2), so the round trip identifies the two zeros
      if (f.isNaN && g.isNaN) || f.toBits == g.toBits || (f.isZero && g.isZero && !g.neg) then ok "rt"
      else bad "number-of-string-differs"
    | _, _ => bad ("result:" ++ res)
  | _ => bad "unknown-op"

def main : IO Unit := Proto.lineMap handle

end GojaModel.C12.Driver
