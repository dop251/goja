/-
  C12 mechanism model of `ftoa.FToBaseStr` (ftoa/ftobasestr.go, Number.prototype.toString(radix) for radix ≠ 10).
  Unlike the rest of C12 this is a TRANSCRIPTION OF THE CODE (same state variables, same branch order), executable,
  core Lean only.  The driver predicts goja's exact output string with it (mechanism-level correspondence);
  `RadixProps.lean` proves that whatever the fraction loop outputs parses back to the double.
-/
import GojaModel.C12.Model

namespace GojaModel.C12

/-! ### integer part: positional digits (what `strconv.FormatInt` / `big.Int.Text` print for the magnitude) -/

def radixDigitsAux : Nat → Nat → Nat → List Nat → List Nat
  | 0, _, n, acc => n :: acc
  | fuel + 1, r, n, acc => if n < r then n :: acc else radixDigitsAux fuel r (n / r) (n % r :: acc)

/-- Digits of `n` in radix `r`, most significant first (`0 ↦ [0]`). -/
def radixDigits (r n : Nat) : List Nat := radixDigitsAux n r n []

/-! ### fraction part: the `for !done` loop (ftobasestr.go:109-153) -/

/-- Loop state: `b`/`s` is the not yet printed remainder of the fraction (times radix^i), `mlo`/`s` and `mhi`/`s`
half the distance to the previous / next double (times radix^i). -/
structure FracState where
  b : Nat
  s : Nat
  mlo : Nat
  mhi : Nat

/-- One iteration.  Returns (digit, done, next state).  `even` = the fraction field of the double is even
(`(word1&1) == 0`).  Branch order as in the source:
 1. `j1 == 0 && even`                     → `if j > 0 {digit++}`; done
 2. `j < 0 || (j == 0 && even)`           → `if j1 > 0 { b <<= 1; if b > s {digit++} }`; done
 3. `j1 > 0`                              → `digit++`; done
 where `j = cmp(b, mlo)`, `j1 = (s − mhi ≤ 0) ? 1 : cmp(b, s − mhi)`. -/
def fracStep (r : Nat) (even : Bool) (st : FracState) : Nat × Bool × FracState :=
  let b1 := st.b * r
  let digit := b1 / st.s
  let b := b1 % st.s
  let mlo := st.mlo * r
  let mhi := st.mhi * r
  let st' : FracState := { b := b, s := st.s, mlo := mlo, mhi := mhi }
  let j1gt : Bool := decide (st.s ≤ mhi) || decide (st.s - mhi < b)
  let j1eq : Bool := decide (mhi < st.s) && (b == st.s - mhi)
  if j1eq && even then
    ((if mlo < b then digit + 1 else digit), true, st')
  else if decide (b < mlo) || (b == mlo && even) then
    ((if j1gt && decide (st.s < 2 * b) then digit + 1 else digit), true, st')
  else if j1gt then (digit + 1, true, st')
  else (digit, false, st')

/-- The loop with fuel (`none` = fuel exhausted before an exit branch was taken; RadixProps.lean proves soundness of
every `some` result, not termination). -/
def fracLoop (r : Nat) (even : Bool) : Nat → FracState → List Nat → Option (List Nat)
  | 0, _, _ => none
  | fuel + 1, st, acc =>
    let res := fracStep r even st
    if res.2.1 then some (acc ++ [res.1]) else fracLoop r even fuel res.2.2 (acc ++ [res.1])

/-- Initial state (ftobasestr.go:65-98) from the fields of the (positive, finite, non-integer) double:
`s2 = 1076 − E` (`1075` for subnormals), the power-of-two special case (`fraction = 0 ∧ E ≥ 2`: `s2 += 1`, `mhi = 2`),
`s = 2^s2`, `b = df·2^s2` where `df = (X mod 2^1074)/2^1074` is the fraction part. -/
def fracInit (f : F64) : FracState :=
  let s2 : Nat := if f.exp == 0 then 1075 else 1076 - f.exp
  let special : Bool := f.man == 0 && decide (2 ≤ f.exp)
  let s2 := if special then s2 + 1 else s2
  let R := f.mag % scale
  { b := if 1074 ≤ s2 then R * 2 ^ (s2 - 1074) else R / 2 ^ (1074 - s2)
    s := 2 ^ s2
    mlo := 1
    mhi := if special then 2 else 1 }

/-- The digits `FToBaseStr` prints for the magnitude of a finite double: integer digits and fraction digits
(`some []` when there is no fraction; `none` only if the loop does not finish within `fuel` digits). -/
def toBaseDigitsFuel (fuel : Nat) (f : F64) (r : Nat) : List Nat × Option (List Nat) :=
  if f.mag % scale == 0 then (radixDigits r (f.mag / scale), some [])
  else (radixDigits r (f.mag / scale), fracLoop r (f.man % 2 == 0) fuel (fracInit f) [])

/-- 1200 digits are more than any double needs (at most 1074 binary digits after the point). -/
def toBaseDigits (f : F64) (r : Nat) : List Nat × Option (List Nat) := toBaseDigitsFuel 1200 f r

/-- The text `FToBaseStr(x, r)` returns for a finite `x` (sign first; `-0.…` keeps its sign). -/
def toBaseStr (f : F64) (r : Nat) : Option (List Char) :=
  let (ip, fr) := toBaseDigits f r
  let sign : List Char := if f.neg && !f.isZero then ['-'] else []
  match fr with
  | none => none
  | some [] => some (sign ++ digitsStr ip)
  | some fd => some (sign ++ digitsStr ip ++ '.' :: digitsStr fd)

end GojaModel.C12
