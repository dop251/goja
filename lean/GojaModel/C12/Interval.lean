/-
  C12 lemmas on the double grid and its rounding intervals: order theory of `magOrd`; the tie comparison `TieLt`; the two ends
  of a rounding interval and what follows from them (monotonicity in the rational, disjointness); the bisection of `roundOrd`;
  exact values, and the magnitudes that round to ±Infinity (from 2^1024) and to ±0 (up to 2^-1075).  Core Lean only.
-/
import GojaModel.C12.Model

namespace GojaModel.C12

set_option exponentiation.threshold 2000 in
theorem scale_pos : 0 < scale := by unfold scale; exact Nat.pow_pos (by decide)

theorem magOrd_small {k : Nat} (h : k < 2 ^ 52) : magOrd k = k := by
  simp [magOrd, h]

theorem ord_fields (k : Nat) : ∃ E m, m < 2 ^ 52 ∧ k = E * 2 ^ 52 + m :=
  ⟨k / 2 ^ 52, k % 2 ^ 52, Nat.mod_lt _ (Nat.two_pow_pos 52), (Nat.div_add_mod' k _).symm⟩

theorem magOrd_fields {E m : Nat} (hm : m < 2 ^ 52) :
    magOrd (E * 2 ^ 52 + m) = if E = 0 then m else (2 ^ 52 + m) * 2 ^ (E - 1) := by
  have hd : (E * 2 ^ 52 + m) / 2 ^ 52 = E := by
    rw [Nat.mul_comm, Nat.mul_add_div (Nat.two_pow_pos 52), Nat.div_eq_of_lt hm, Nat.add_zero]
  have hmod : (E * 2 ^ 52 + m) % 2 ^ 52 = m := by
    rw [Nat.mul_comm, Nat.mul_add_mod, Nat.mod_eq_of_lt hm]
  unfold magOrd
  rw [hd, hmod]
  by_cases hE : E = 0
  · rw [if_pos hE, hE, Nat.zero_mul, Nat.zero_add, if_pos hm]
  · have : ¬ E * 2 ^ 52 + m < 2 ^ 52 :=
      Nat.not_lt.mpr (Nat.le_trans (Nat.le_mul_of_pos_left _ (Nat.pos_of_ne_zero hE)) (Nat.le_add_right _ _))
    rw [if_neg this, if_neg hE]

/-- The distance from a double to the next one is `2^(E−1)` units of `1/scale` (`E` the biased exponent, `m` the fraction
field; 1 unit for subnormals). -/
theorem magOrd_gap {E m : Nat} (hm : m < 2 ^ 52) :
    magOrd (E * 2 ^ 52 + m + 1) = magOrd (E * 2 ^ 52 + m) + 2 ^ (E - 1) := by
  rw [magOrd_fields hm, Nat.add_assoc]
  by_cases h : m + 1 < 2 ^ 52
  · rw [magOrd_fields h]
    by_cases hE : E = 0
    · rw [if_pos hE, if_pos hE, hE]
    · rw [if_neg hE, if_neg hE, ← Nat.add_assoc, Nat.add_mul, Nat.one_mul]
  · have hm1 : m + 1 = 2 ^ 52 := Nat.le_antisymm hm (Nat.not_lt.mp h)
    rw [hm1, ← Nat.succ_mul, ← Nat.add_zero (E.succ * 2 ^ 52), magOrd_fields (Nat.two_pow_pos 52),
      if_neg (Nat.succ_ne_zero E), Nat.add_zero, Nat.succ_sub_one]
    by_cases hE : E = 0
    · rw [if_pos hE, hE, Nat.pow_zero, Nat.mul_one, hm1]
    · rw [if_neg hE, ← Nat.succ_mul, Nat.succ_eq_add_one, Nat.add_assoc, hm1, ← Nat.two_mul, Nat.mul_comm 2,
        Nat.mul_assoc, ← Nat.pow_succ', Nat.succ_eq_add_one, Nat.sub_add_cancel (Nat.pos_of_ne_zero hE)]

theorem magOrd_gap_below {E m : Nat} (hm : m < 2 ^ 52) (h0 : E * 2 ^ 52 + m ≠ 0) :
    magOrd (E * 2 ^ 52 + m) = magOrd (E * 2 ^ 52 + m - 1) + 2 ^ (if m = 0 then E - 2 else E - 1) := by
  by_cases hm0 : m = 0
  · subst hm0
    obtain ⟨e, rfl⟩ : ∃ e, E = e + 1 := ⟨E - 1, by rw [Nat.add_zero] at h0; cases E <;> simp_all⟩
    have hp : 2 ^ 52 - 1 < 2 ^ 52 := Nat.sub_one_lt (Nat.ne_of_gt (Nat.two_pow_pos 52))
    have e1 : (e + 1) * 2 ^ 52 + 0 = e * 2 ^ 52 + (2 ^ 52 - 1) + 1 := by
      rw [Nat.succ_mul]   -- `rw` closes the rest by `rfl`: `2^52 + 0` and `2^52 − 1 + 1` are the same numeral
    rw [if_pos rfl, e1, Nat.add_sub_cancel, magOrd_gap hp]
    rfl
  · obtain ⟨m', rfl⟩ : ∃ m', m = m' + 1 := ⟨m - 1, (Nat.sub_add_cancel (Nat.pos_of_ne_zero hm0)).symm⟩
    rw [if_neg hm0, ← Nat.add_assoc, Nat.add_sub_cancel, magOrd_gap (Nat.lt_of_succ_lt hm)]

theorem magOrd_lt_succ (k : Nat) : magOrd k < magOrd (k + 1) := by
  obtain ⟨E, m, hm, rfl⟩ := ord_fields k
  rw [magOrd_gap hm]
  exact Nat.lt_add_of_pos_right (Nat.two_pow_pos _)

theorem magOrd_strictMono {j k : Nat} (h : j < k) : magOrd j < magOrd k := by
  induction k with
  | zero => omega
  | succ k ih =>
    by_cases hj : j = k
    · subst hj; exact magOrd_lt_succ j
    · exact Nat.lt_trans (ih (by omega)) (magOrd_lt_succ k)

theorem magOrd_mono {j k : Nat} (h : j ≤ k) : magOrd j ≤ magOrd k := by
  by_cases e : j = k
  · subst e; exact Nat.le_refl _
  · exact Nat.le_of_lt (magOrd_strictMono (by omega))

theorem magOrd_inj {j k : Nat} (h : magOrd j = magOrd k) : j = k := by
  by_cases h1 : j < k
  · have := magOrd_strictMono h1; omega
  · by_cases h2 : k < j
    · have := magOrd_strictMono h2; omega
    · omega

/-- The comparison each end of a rounding interval makes (`tie` = the ordinal is even), and each exit test of the
`FToBaseStr` loop. -/
def TieLt (tie : Prop) (a b : Nat) : Prop := a < b ∨ (a = b ∧ tie)

namespace TieLt
variable {t t' : Prop} {a b a' b' : Nat}

theorem of_lt (h : a < b) : TieLt t a b := Or.inl h

theorem of_le (h : a ≤ b) : TieLt True a b := (Nat.lt_or_eq_of_le h).imp_right fun e => ⟨e, trivial⟩

theorem le (h : TieLt t a b) : a ≤ b := h.elim Nat.le_of_lt fun h => Nat.le_of_eq h.1

theorem tie_of_eq (h : TieLt t a b) (e : a = b) : t := h.elim (fun l => absurd e (Nat.ne_of_lt l)) And.right

theorem imp (f : t → t') (h : TieLt t a b) : TieLt t' a b := h.imp_right (And.imp_right f)

theorem mono (hlt : a < b → a' < b') (heq : a = b → a' ≤ b') (h : TieLt t a b) : TieLt t a' b' :=
  h.elim (fun l => Or.inl (hlt l)) fun ⟨e, ht⟩ => (Nat.lt_or_eq_of_le (heq e)).imp_right fun e' => ⟨e', ht⟩

theorem not_iff : ¬ TieLt t a b ↔ TieLt (¬ t) b a := by
  constructor
  · intro h
    rcases Nat.lt_trichotomy a b with l | e | g
    · exact absurd (Or.inl l) h
    · exact Or.inr ⟨e.symm, fun ht => h (Or.inr ⟨e, ht⟩)⟩
    · exact Or.inl g
  · intro h h'
    have e := Nat.le_antisymm h'.le h.le
    exact h.tie_of_eq e.symm (h'.tie_of_eq e)

theorem cross {C S n d n' d' : Nat} (hd : 0 < d) (hd' : 0 < d') (hle : n * d' ≤ n' * d)
    (h : TieLt t (C * d) (2 * n * S)) : TieLt t (C * d') (2 * n' * S) := by
  have e1 : 2 * n * S * d' = 2 * S * (n * d') := by ac_rfl
  have e2 : 2 * n' * S * d = 2 * S * (n' * d) := by ac_rfl
  have e3 : C * d * d' = C * d' * d := by ac_rfl
  have h3 : 2 * n * S * d' ≤ 2 * n' * S * d := by rw [e1, e2]; exact Nat.mul_le_mul_left _ hle
  refine h.mono (fun h => ?_) fun h => ?_
  · have h4 := Nat.mul_lt_mul_of_pos_right h hd'
    rw [e3] at h4
    exact Nat.lt_of_mul_lt_mul_right (Nat.lt_of_lt_of_le h4 h3)
  · exact Nat.le_of_mul_le_mul_right (by rw [← e3, h]; exact h3) hd

theorem of_shift {tie : Prop} {a w c u v s : Nat} (hc : 0 < c) (hs : 0 < s) (h : a * s + c * u = w * s + c * v)
    (hvu : TieLt tie v u) : TieLt tie a w :=
  hvu.mono (fun l => Nat.lt_of_mul_lt_mul_right (a := s) (by have := Nat.mul_lt_mul_of_pos_left l hc; omega))
    fun e => Nat.le_of_eq (Nat.eq_of_mul_eq_mul_right hs (Nat.add_right_cancel (e ▸ h)))

end TieLt

theorem lowerOK_iff {n d k : Nat} :
    lowerOK n d k = true ↔ k = 0 ∨ TieLt (k % 2 = 0) ((magOrd (k - 1) + magOrd k) * d) (2 * n * scale) := by
  simp only [lowerOK, TieLt, Bool.or_eq_true, beq_iff_eq, decide_eq_true_eq, Bool.and_eq_true]

theorem upperOK_iff {n d k : Nat} :
    upperOK n d k = true ↔ k = infOrd ∨ TieLt (k % 2 = 0) (2 * n * scale) ((magOrd k + magOrd (k + 1)) * d) := by
  simp only [upperOK, TieLt, Bool.or_eq_true, beq_iff_eq, decide_eq_true_eq, Bool.and_eq_true]

theorem isNearestMag_iff {n d k : Nat} :
    isNearestMag n d k = true ↔ 0 < d ∧ k ≤ infOrd ∧ lowerOK n d k = true ∧ upperOK n d k = true := by
  simp only [isNearestMag, Bool.and_eq_true, decide_eq_true_eq, and_assoc]

theorem upperOK_false_spec {n d k : Nat} (h : upperOK n d k = false) :
    k ≠ infOrd ∧ (magOrd k + magOrd (k + 1)) * d ≤ 2 * n * scale := by
  have hn := mt upperOK_iff.mpr (ne_true_of_eq_false h)
  exact ⟨fun e => hn (Or.inl e), Nat.le_of_not_lt fun hlt => hn (Or.inr (.of_lt hlt))⟩

theorem lowerOK_false_spec {n d k : Nat} (h : lowerOK n d k = false) :
    k ≠ 0 ∧ 2 * n * scale ≤ (magOrd (k - 1) + magOrd k) * d := by
  have hn := mt lowerOK_iff.mpr (ne_true_of_eq_false h)
  exact ⟨fun e => hn (Or.inl e), Nat.le_of_not_lt fun hlt => hn (Or.inr (.of_lt hlt))⟩

theorem upperOK_eq {n d k : Nat} (hk : k ≠ infOrd) : upperOK n d k = !lowerOK n d (k + 1) := by
  rw [Bool.eq_iff_iff, Bool.not_eq_true', ← Bool.not_eq_true, upperOK_iff, lowerOK_iff, Nat.add_sub_cancel]
  simp only [hk, Nat.succ_ne_zero, false_or, TieLt.not_iff]
  exact ⟨TieLt.imp (by omega), TieLt.imp (by omega)⟩

theorem lowerOK_true_mono {n d n' d' k : Nat} (hd : 0 < d) (hd' : 0 < d')
    (hle : n * d' ≤ n' * d) (h : lowerOK n d k = true) : lowerOK n' d' k = true :=
  lowerOK_iff.mpr ((lowerOK_iff.mp h).imp_right (TieLt.cross hd hd' hle))

theorem lowerOK_false_mono {n d n' d' k : Nat} (hd : 0 < d) (hd' : 0 < d')
    (hle : n' * d ≤ n * d') (h : lowerOK n d k = false) : lowerOK n' d' k = false :=
  eq_false_of_ne_true fun hh => ne_true_of_eq_false h (lowerOK_true_mono hd' hd hle hh)

theorem upperOK_false_mono {n d n' d' k : Nat} (hd : 0 < d) (hd' : 0 < d')
    (hle : n * d' ≤ n' * d) (h : upperOK n d k = false) : upperOK n' d' k = false := by
  have hk := (upperOK_false_spec h).1
  rw [upperOK_eq hk, Bool.not_eq_false'] at h ⊢
  exact lowerOK_true_mono hd hd' hle h

theorem upperOK_true_mono {n d n' d' k : Nat} (hd : 0 < d) (hd' : 0 < d')
    (hle : n' * d ≤ n * d') (h : upperOK n d k = true) : upperOK n' d' k = true :=
  eq_true_of_ne_false fun hh => ne_false_of_eq_true h (upperOK_false_mono hd' hd hle hh)

theorem isNearestMag_congr {n1 d1 n2 d2 k : Nat} (h1 : 0 < d1) (h2 : 0 < d2) (he : n1 * d2 = n2 * d1) :
    isNearestMag n1 d1 k = isNearestMag n2 d2 k := by
  have hl : lowerOK n1 d1 k = lowerOK n2 d2 k := Bool.eq_iff_iff.mpr
    ⟨lowerOK_true_mono h1 h2 (Nat.le_of_eq he), lowerOK_true_mono h2 h1 (Nat.le_of_eq he.symm)⟩
  have hu : upperOK n1 d1 k = upperOK n2 d2 k := Bool.eq_iff_iff.mpr
    ⟨upperOK_true_mono h1 h2 (Nat.le_of_eq he.symm), upperOK_true_mono h2 h1 (Nat.le_of_eq he)⟩
  rw [Bool.eq_iff_iff, isNearestMag_iff, isNearestMag_iff, hl, hu]
  exact ⟨fun h => ⟨h2, h.2⟩, fun h => ⟨h1, h.2⟩⟩

/-- For `0 < d` the ordinals at which `lowerOK n d` holds are closed downwards: the midpoints below increase strictly. -/
theorem lowerOK_antitone {n d j k : Nat} (hd : 0 < d) (hjk : j ≤ k) (h : lowerOK n d k = true) : lowerOK n d j = true := by
  rcases Nat.lt_or_eq_of_le hjk with hlt | rfl
  · by_cases h0 : j = 0
    · exact lowerOK_iff.mpr (Or.inl h0)
    · have hk := (lowerOK_iff.mp h).resolve_left (by omega)
      have hm : magOrd (j - 1) + magOrd j < magOrd (k - 1) + magOrd k :=
        Nat.add_lt_add_of_le_of_lt (magOrd_mono (by omega)) (magOrd_strictMono hlt)
      exact lowerOK_iff.mpr (Or.inr (.of_lt (Nat.lt_of_lt_of_le (Nat.mul_lt_mul_of_pos_right hm hd) hk.le)))
  · exact h

theorem not_accepted_above {n d j k : Nat} (hj : isNearestMag n d j = true) (hjk : j < k) :
    ¬ isNearestMag n d k = true := by
  intro hk
  obtain ⟨hd, _, _, huj⟩ := isNearestMag_iff.mp hj
  obtain ⟨_, hkI, hlk, _⟩ := isNearestMag_iff.mp hk
  -- the lower end of `k` holds at `j + 1` too, and that is the negation of the upper end of `j`
  rw [upperOK_eq (by omega), lowerOK_antitone hd hjk hlk] at huj
  cases huj

theorem bisect_done (n d fuel : Nat) {lo hi : Nat} (h : hi ≤ lo + 1) : bisect n d fuel lo hi = lo := by
  cases fuel with
  | zero => rfl
  | succ f => simp only [bisect, if_pos h]

/-- `r` is the last ordinal at which `lowerOK n d` holds: what the bisection of `roundOrd` looks for. -/
def LastLower (n d r : Nat) : Prop :=
  lowerOK n d r = true ∧ r ≤ infOrd ∧ (r = infOrd ∨ lowerOK n d (r + 1) = false)

theorem bisect_spec (n d : Nat) : ∀ (fuel lo hi : Nat), lo < hi → hi - lo ≤ 2 ^ fuel → hi ≤ infOrd + 1 →
    lowerOK n d lo = true → (hi = infOrd + 1 ∨ lowerOK n d hi = false) → LastLower n d (bisect n d fuel lo hi) := by
  have done : ∀ fuel lo hi, lo < hi → hi ≤ lo + 1 → hi ≤ infOrd + 1 →
      lowerOK n d lo = true → (hi = infOrd + 1 ∨ lowerOK n d hi = false) → LastLower n d (bisect n d fuel lo hi) := by
    intro fuel lo hi hlt hc hhi hlo hhiF
    have : hi = lo + 1 := by omega
    subst this
    rw [bisect_done n d fuel hc]
    exact ⟨hlo, by omega, hhiF.imp (by omega) id⟩
  intro fuel
  induction fuel with
  | zero => exact fun lo hi hlt hsz => done 0 lo hi hlt (by omega)
  | succ fuel ih =>
    intro lo hi hlt hsz hhi hlo hhiF
    by_cases hc : hi ≤ lo + 1
    · exact done _ lo hi hlt hc hhi hlo hhiF
    · rw [Nat.pow_succ] at hsz
      have hmid : lo < (lo + hi) / 2 ∧ (lo + hi) / 2 < hi ∧ hi - (lo + hi) / 2 ≤ 2 ^ fuel ∧
          (lo + hi) / 2 - lo ≤ 2 ^ fuel := by omega
      simp only [bisect, if_neg hc]
      cases hm : lowerOK n d ((lo + hi) / 2) with
      | true => exact ih _ _ hmid.2.1 hmid.2.2.1 hhi hm hhiF
      | false => exact ih _ _ hmid.1 hmid.2.2.2 (Nat.le_trans (Nat.le_of_lt hmid.2.1) hhi) hlo (Or.inr hm)

theorem LastLower.accepted {n d k : Nat} (hd : 0 < d) (h : LastLower n d k) : isNearestMag n d k = true := by
  obtain ⟨h1, h2, h3⟩ := h
  refine isNearestMag_iff.mpr ⟨hd, h2, h1, ?_⟩
  by_cases hk : k = infOrd
  · exact upperOK_iff.mpr (Or.inl hk)
  · rw [upperOK_eq hk, h3.resolve_left hk]; rfl

theorem exact_isNearest (n k : Nat) (hk : k < infOrd) (h : n * scale = magOrd k) : isNearestMag n 1 k = true := by
  have e2 : 2 * n * scale = (magOrd k + magOrd k) * 1 := by rw [Nat.mul_assoc, h, Nat.two_mul, Nat.mul_one]
  refine isNearestMag_iff.mpr ⟨Nat.one_pos, Nat.le_of_lt hk, lowerOK_iff.mpr ?_, upperOK_iff.mpr (Or.inr (.of_lt ?_))⟩
  · by_cases h0 : k = 0
    · exact Or.inl h0
    · refine Or.inr (.of_lt ?_)
      rw [e2]
      exact Nat.mul_lt_mul_of_pos_right (Nat.add_lt_add_right (magOrd_strictMono (by omega)) _) Nat.one_pos
  · rw [e2]
    exact Nat.mul_lt_mul_of_pos_right (Nat.add_lt_add_left (magOrd_lt_succ k) _) Nat.one_pos

set_option exponentiation.threshold 3000 in
theorem magOrd_infOrd : magOrd infOrd = 2 ^ 1024 * scale := by decide

theorem huge_rounds_to_inf (n d : Nat) (hd : 0 < d) (h : 2 ^ 1024 * d ≤ n) : isNearestMag n d infOrd = true := by
  refine isNearestMag_iff.mpr ⟨hd, Nat.le_refl _, lowerOK_iff.mpr (Or.inr (.of_lt ?_)), upperOK_iff.mpr (Or.inl rfl)⟩
  have hA : magOrd (infOrd - 1) < magOrd infOrd := magOrd_strictMono (by decide)
  rw [magOrd_infOrd] at hA ⊢
  generalize scale = S at *
  generalize magOrd (infOrd - 1) = A at *
  generalize (2:Nat) ^ 1024 = T at *
  calc (A + T * S) * d < (T * S + T * S) * d := Nat.mul_lt_mul_of_pos_right (by omega) hd
    _ = 2 * (T * d * S) := by rw [← Nat.two_mul, Nat.mul_assoc, Nat.mul_right_comm T]
    _ ≤ 2 * (n * S) := Nat.mul_le_mul_left _ (Nat.mul_le_mul_right _ h)
    _ = 2 * n * S := by rw [Nat.mul_assoc]

theorem tiny_rounds_to_zero (n d : Nat) (hd : 0 < d) (h : 2 * n * scale ≤ d) : isNearestMag n d 0 = true := by
  refine isNearestMag_iff.mpr ⟨hd, Nat.zero_le _, lowerOK_iff.mpr (Or.inl rfl), upperOK_iff.mpr (Or.inr ?_)⟩
  rw [magOrd_small (by decide : 0 < 2 ^ 52), magOrd_small (by decide : 0 + 1 < 2 ^ 52), Nat.zero_add, Nat.zero_add,
    Nat.one_mul]
  exact (TieLt.of_le h).imp fun _ => rfl

end GojaModel.C12
