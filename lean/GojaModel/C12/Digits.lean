/-
  C12 lemmas on digit strings: positional notation (`natOfDigits`), the digit printers (`radixDigits`, `natDigits`),
  leading and trailing zeros, the four answers of `denote` and its bounds `10^±400`.  Core Lean only.
-/
import GojaModel.C12.Radix

namespace GojaModel.C12

theorem foldl_digits (r : Nat) (b : List Nat) (acc : Nat) :
    b.foldl (fun a d => a * r + d) acc = acc * r ^ b.length + b.foldl (fun a d => a * r + d) 0 := by
  induction b generalizing acc with
  | nil => simp
  | cons x xs ih =>
    simp only [List.foldl_cons, List.length_cons]
    rw [ih (acc * r + x), ih (0 * r + x)]
    rw [Nat.pow_succ, Nat.add_mul, Nat.add_mul, Nat.zero_mul, Nat.zero_mul, Nat.zero_add]
    have : acc * r * r ^ xs.length = acc * (r ^ xs.length * r) := by ac_rfl
    omega

theorem natOfDigits_append (r : Nat) (a b : List Nat) :
    natOfDigits r (a ++ b) = natOfDigits r a * r ^ b.length + natOfDigits r b := by
  unfold natOfDigits
  rw [List.foldl_append, foldl_digits]

theorem natOfDigits_cons (r : Nat) (x : Nat) (b : List Nat) :
    natOfDigits r (x :: b) = x * r ^ b.length + natOfDigits r b := by
  have := natOfDigits_append r [x] b
  simpa [natOfDigits] using this

theorem natOfDigits_snoc (r : Nat) (acc : List Nat) (d : Nat) :
    natOfDigits r (acc ++ [d]) = natOfDigits r acc * r + d := by
  rw [natOfDigits_append]
  simp [natOfDigits]

theorem digitVal_digitChar : ∀ {d : Nat}, d < 10 → digitVal (digitChar d) = d := by decide

theorem map_digitVal_digitsStr (ds : List Nat) (hd : ∀ d ∈ ds, d < 10) : (digitsStr ds).map digitVal = ds := by
  induction ds with
  | nil => rfl
  | cons x xs ih =>
    simp only [digitsStr, List.map_cons, digitVal_digitChar (hd x List.mem_cons_self)]
    exact congrArg _ (ih fun d hm => hd d (List.mem_cons_of_mem _ hm))

theorem digitVal_digitsStr {ds : List Nat} (hd : ∀ d ∈ ds, d < 10) : ∀ c ∈ digitsStr ds, digitVal c < 10 := by
  intro c hm
  obtain ⟨d, hd', rfl⟩ := List.mem_map.mp hm
  rw [digitVal_digitChar (hd d hd')]; exact hd d hd'

theorem radixDigitsAux_value (fuel r n : Nat) (acc : List Nat) :
    natOfDigits r (radixDigitsAux fuel r n acc) = n * r ^ acc.length + natOfDigits r acc := by
  induction fuel generalizing n acc with
  | zero => simp [radixDigitsAux, natOfDigits_cons]
  | succ f ih =>
    simp only [radixDigitsAux]
    split
    · simp [natOfDigits_cons]
    · rw [ih, natOfDigits_cons, List.length_cons, Nat.pow_succ]
      have : n = r * (n / r) + n % r := (Nat.div_add_mod n r).symm
      generalize n / r = a at *
      generalize n % r = b at *
      subst this
      generalize r ^ acc.length = P
      rw [Nat.add_mul, ← Nat.add_assoc]
      congr 1
      rw [Nat.mul_comm r a, Nat.mul_assoc, Nat.mul_comm P r]

theorem radixDigits_value (r n : Nat) : natOfDigits r (radixDigits r n) = n := by
  unfold radixDigits
  rw [radixDigitsAux_value]
  simp [natOfDigits]

theorem decDigitsAux_eq (fuel n : Nat) (acc : List Nat) : decDigitsAux fuel n acc = radixDigitsAux fuel 10 n acc := by
  induction fuel generalizing n acc with
  | zero => rfl
  | succ f ih => simp only [decDigitsAux, radixDigitsAux, ih]

theorem natDigits_value (n : Nat) : natOfDigits 10 (natDigits n) = n := by
  unfold natDigits
  rw [decDigitsAux_eq]
  exact radixDigits_value 10 n

theorem decDigitsAux_lt (fuel n : Nat) (acc : List Nat) (hn : n ≤ fuel) (ha : ∀ d ∈ acc, d < 10) :
    ∀ d ∈ decDigitsAux fuel n acc, d < 10 := by
  induction fuel generalizing n acc with
  | zero => exact List.forall_mem_cons.mpr ⟨by omega, ha⟩
  | succ f ih =>
    simp only [decDigitsAux]
    split
    · exact List.forall_mem_cons.mpr ⟨‹_›, ha⟩
    · exact ih _ _ (by omega) (List.forall_mem_cons.mpr ⟨Nat.mod_lt _ (by decide), ha⟩)

theorem natDigits_lt (n : Nat) : ∀ d ∈ natDigits n, d < 10 :=
  decDigitsAux_lt n n [] (Nat.le_refl _) (by simp)

theorem decDigitsAux_ne (fuel n : Nat) (acc : List Nat) : decDigitsAux fuel n acc ≠ [] := by
  induction fuel generalizing n acc with
  | zero => exact List.cons_ne_nil _ _
  | succ f ih =>
    simp only [decDigitsAux]
    split
    · exact List.cons_ne_nil _ _
    · exact ih _ _

theorem dropZeros_cons {x : Nat} (xs : List Nat) (h : x ≠ 0) : dropZeros (x :: xs) = x :: xs := by
  cases x with
  | zero => exact absurd rfl h
  | succ y => rfl

theorem dropZeros_replicate (m : Nat) (ds : List Nat) : dropZeros (List.replicate m 0 ++ ds) = dropZeros ds := by
  induction m with
  | zero => rfl
  | succ m ih => simpa [List.replicate_succ, dropZeros] using ih

theorem zeros_eq (m : Nat) : zeros m = digitsStr (List.replicate m 0) := by
  simp [zeros, digitsStr, digitChar]

theorem digitsStr_append (a b : List Nat) : digitsStr (a ++ b) = digitsStr a ++ digitsStr b := by
  simp [digitsStr]

theorem take_ne_nil {l : List Nat} {k : Nat} (hk : 0 < k) (hl : 0 < l.length) : l.take k ≠ [] := by
  cases l with
  | nil => exact absurd hl (Nat.lt_irrefl 0)
  | cons x xs =>
    cases k with
    | zero => exact absurd hk (Nat.lt_irrefl 0)
    | succ j => exact List.cons_ne_nil _ _

theorem all_lt_replicate (m : Nat) : ∀ d ∈ List.replicate m 0, d < 10 := by
  intro d hm
  have := (List.mem_replicate.mp hm).2
  omega

theorem natOfDigits_replicate_zero (r m : Nat) : natOfDigits r (List.replicate m 0) = 0 := by
  induction m with
  | zero => rfl
  | succ m ih =>
    rw [List.replicate_succ, natOfDigits_cons, ih]; simp

theorem dropZeros_spec (l : List Nat) : ∃ z, l = List.replicate z 0 ++ dropZeros l := by
  induction l with
  | nil => exact ⟨0, rfl⟩
  | cons x xs ih =>
    cases x with
    | zero =>
      obtain ⟨z, hz⟩ := ih
      refine ⟨z + 1, ?_⟩
      show 0 :: xs = List.replicate (z + 1) 0 ++ dropZeros xs
      rw [List.replicate_succ, List.cons_append, ← hz]
    | succ y => exact ⟨0, rfl⟩

theorem dropZeros_head (l : List Nat) : match dropZeros l with | [] => True | x :: _ => x ≠ 0 := by
  induction l with
  | nil => trivial
  | cons x xs ih =>
    cases x with
    | zero => exact ih
    | succ y => show y + 1 ≠ 0; omega

theorem dropTrailingZeros_spec (l : List Nat) : ∃ z, l = dropTrailingZeros l ++ List.replicate z 0 := by
  obtain ⟨z, hz⟩ := dropZeros_spec l.reverse
  refine ⟨z, ?_⟩
  have := congrArg List.reverse hz
  simp only [List.reverse_reverse, List.reverse_append, List.reverse_replicate] at this
  exact this

theorem natOfDigits_dropZeros (r : Nat) (l : List Nat) : natOfDigits r (dropZeros l) = natOfDigits r l := by
  obtain ⟨z, hz⟩ := dropZeros_spec l
  conv => rhs; rw [hz]
  rw [natOfDigits_append, natOfDigits_replicate_zero]; simp

theorem natOfDigits_lower (x : Nat) (xs : List Nat) (hx : x ≠ 0) :
    10 ^ xs.length ≤ natOfDigits 10 (x :: xs) := by
  rw [natOfDigits_cons]
  have : 1 * 10 ^ xs.length ≤ x * 10 ^ xs.length := Nat.mul_le_mul_right _ (by omega)
  omega

theorem natOfDigits_upper (l : List Nat) (h : ∀ d ∈ l, d < 10) : natOfDigits 10 l < 10 ^ l.length := by
  induction l with
  | nil => simp [natOfDigits]
  | cons x xs ih =>
    have hx : x < 10 := h x List.mem_cons_self
    have := ih (fun d hm => h d (List.mem_cons_of_mem _ hm))
    rw [natOfDigits_cons, List.length_cons, Nat.pow_succ]
    have h2 : x * 10 ^ xs.length ≤ 9 * 10 ^ xs.length := Nat.mul_le_mul_right _ (by omega)
    omega

/-- `(dropZeros ds).length + e`, the `p` of `denote`, is the position of the leading significant digit. -/
theorem denote_cases (neg : Bool) (ds : List Nat) (e : Int) :
    (dropZeros ds = [] ∧ denote neg ds e = .zero neg) ∨
    (dropZeros ds ≠ [] ∧
      ((((dropZeros ds).length : Nat) : Int) + e > 400 ∧ denote neg ds e = .huge neg ∨
       (((dropZeros ds).length : Nat) : Int) + e < -400 ∧ denote neg ds e = .tiny neg ∨
       -400 ≤ (((dropZeros ds).length : Nat) : Int) + e ∧ (((dropZeros ds).length : Nat) : Int) + e ≤ 400 ∧
        denote neg ds e =
          .rat neg
            (decNum (natOfDigits 10 (dropTrailingZeros (dropZeros ds)))
              (e + (((dropZeros ds).length - (dropTrailingZeros (dropZeros ds)).length : Nat) : Int)))
            (decDen (e + (((dropZeros ds).length - (dropTrailingZeros (dropZeros ds)).length : Nat) : Int))))) := by
  unfold denote
  simp only []
  cases hs : dropZeros ds with
  | nil => exact Or.inl ⟨rfl, rfl⟩
  | cons x xs =>
    refine Or.inr ⟨List.cons_ne_nil _ _, ?_⟩
    simp only [List.isEmpty_cons, Bool.false_eq_true, if_false]
    split
    · exact Or.inl ⟨‹_›, rfl⟩
    · split
      · exact Or.inr (Or.inl ⟨‹_›, rfl⟩)
      · exact Or.inr (Or.inr ⟨by omega, by omega, rfl⟩)

/- The bounds `10^±400` at which `denote` answers `huge` / `tiny` lie outside the double range: the overflow sentinel is `2^1024`
(`huge_rounds_to_inf`), half the smallest subnormal is `1/(2·scale) = 2^-1075` (`tiny_rounds_to_zero`). -/

set_option exponentiation.threshold 3000 in
theorem pow_1024_le : 2 ^ 1024 ≤ 10 ^ 400 := by decide

set_option exponentiation.threshold 3000 in
theorem two_scale_le : 2 * scale ≤ 10 ^ 400 := by decide

end GojaModel.C12
