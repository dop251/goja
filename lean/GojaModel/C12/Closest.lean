/-
  C12 lemmas on distances: what "closest" means for the checkers.  It all comes down to three points `c ≤ a < b` (or their
  mirror image) and a target `x`, compared with the midpoint of `a` and `b`; `nearest_of_cell` lifts that to a grid with a
  tie rule per side, and the decimal grids `s × 10^c` of the checkers are instances.  Core Lean only.
-/
import GojaModel.C12.Interval

namespace GojaModel.C12

theorem absDiff_comm (a b : Nat) : absDiff a b = absDiff b a := Nat.add_comm _ _

theorem closer_above_mid {x a b c : Nat} (hca : c ≤ a) (hab : a < b) (h : a + b ≤ 2 * x) :
    absDiff b x ≤ absDiff c x ∧ (absDiff b x = absDiff c x → a + b = 2 * x) := by
  unfold absDiff
  exact ⟨by omega, fun e => by omega⟩

theorem closer_below_mid {x a b c : Nat} (hba : b < a) (hac : a ≤ c) (h : 2 * x ≤ b + a) :
    absDiff b x ≤ absDiff c x ∧ (absDiff b x = absDiff c x → b + a = 2 * x) := by
  unfold absDiff
  exact ⟨by omega, fun e => by omega⟩

theorem mid_le_of_closer {x a b : Nat} (hab : a < b) (h : absDiff b x ≤ absDiff a x) : a + b ≤ 2 * x := by
  apply Nat.le_of_not_lt
  intro hlt
  have hm := closer_below_mid (x := x) hab (Nat.le_refl b) (Nat.le_of_lt hlt)
  exact absurd (hm.2 (Nat.le_antisymm hm.1 h)) (Nat.ne_of_gt hlt)

theorem le_mid_of_closer {x a b : Nat} (hba : b < a) (h : absDiff b x ≤ absDiff a x) : 2 * x ≤ b + a := by
  apply Nat.le_of_not_lt
  intro hlt
  have hm := closer_above_mid (x := x) (Nat.le_refl b) hba (Nat.le_of_lt hlt)
  exact absurd (hm.2 (Nat.le_antisymm hm.1 h)) (Nat.ne_of_lt hlt)

/-- Nearest point of a strictly increasing grid `g i · d`, with a tie rule per side (`tlo` matters only against competitors
below, `thi` only against those above), so that one lemma serves both tie rules: round-to-nearest-even on the double grid is
`g = magOrd`, `tlo = thi = (k even)` (`isNearest_sound`); "of two equally close candidates the larger" on a decimal grid is
`g = id`, `tlo = True`, `thi = False` (`grid_closest_up`). -/
theorem nearest_of_cell {g : Nat → Nat} (hg : ∀ {i j}, i < j → g i < g j) {d : Nat} (hd : 0 < d) {tlo thi : Prop}
    {x y k j : Nat} (hy : y = 2 * x)
    (lo : j < k → TieLt tlo ((g (k - 1) + g k) * d) y) (hi : k < j → TieLt thi y ((g k + g (k + 1)) * d)) :
    absDiff (g k * d) x ≤ absDiff (g j * d) x ∧
      (absDiff (g k * d) x = absDiff (g j * d) x → j = k ∨ (j < k ∧ tlo) ∨ (k < j ∧ thi)) := by
  subst hy
  have mono : ∀ {i j}, i ≤ j → g i * d ≤ g j * d := fun {i j} h =>
    Nat.mul_le_mul_right d ((Nat.lt_or_eq_of_le h).elim (fun h => Nat.le_of_lt (hg h)) (fun h => h ▸ Nat.le_refl _))
  have strict : ∀ {i j}, i < j → g i * d < g j * d := fun h => Nat.mul_lt_mul_of_pos_right (hg h) hd
  rcases Nat.lt_trichotomy j k with h | rfl | h
  · have hl := lo h
    rw [Nat.add_mul] at hl
    have := closer_above_mid (mono (Nat.le_sub_one_of_lt h)) (strict (Nat.sub_one_lt (Nat.ne_of_gt (Nat.zero_lt_of_lt h))))
      hl.le
    exact ⟨this.1, fun e => Or.inr (Or.inl ⟨h, hl.tie_of_eq (this.2 e)⟩)⟩
  · exact ⟨Nat.le_refl _, fun _ => Or.inl rfl⟩
  · have hu := hi h
    rw [Nat.add_mul] at hu
    have := closer_below_mid (strict (Nat.lt_succ_self k)) (mono h) hu.le
    exact ⟨this.1, fun e => Or.inr (Or.inr ⟨h, hu.tie_of_eq (this.2 e).symm⟩)⟩

theorem grid_mid_below {N : Nat} (D : Nat) (h : N ≠ 0) : (N - 1 + N) * D + D = 2 * (N * D) := by
  rw [← Nat.succ_mul, Nat.succ_eq_add_one, Nat.add_right_comm, Nat.sub_add_cancel (Nat.pos_of_ne_zero h), ← Nat.two_mul,
    Nat.mul_assoc]

theorem grid_mid_above (N D : Nat) : (N + (N + 1)) * D = 2 * (N * D) + D := by
  rw [← Nat.add_assoc, Nat.succ_mul, ← Nat.two_mul, Nat.mul_assoc]

/-- Same-grid optimality: if `p` is within half a unit `D` of `q`, no other grid point `p ± m·D` is closer. -/
theorem grid_closest (N N' D q : Nat) (h : 2 * absDiff (N * D) q ≤ D) :
    absDiff (N * D) q ≤ absDiff (N' * D) q := by
  by_cases hD : D = 0
  · subst hD; exact Nat.le_refl _
  have h1 : 2 * (N * D) ≤ 2 * q + D := by unfold absDiff at h; omega
  have h2 : 2 * q ≤ 2 * (N * D) + D := by unfold absDiff at h; omega
  have ma := grid_mid_above N D
  exact (nearest_of_cell (g := fun i => i) (fun h => h) (Nat.pos_of_ne_zero hD) rfl
    (fun hlt => .of_le (by have := grid_mid_below D (Nat.ne_of_gt (Nat.zero_lt_of_lt hlt)); omega))
    (fun _ => .of_le (by omega))).1

/-- "Within half a unit `W` of `q`, and of two equally close candidates the larger": the test shared by `isFixed` and
`isExp`, without subtraction. -/
theorem halfUp_spec {p q W : Nat}
    (h : (if q ≤ p then decide (2 * (p - q) ≤ W) else decide (2 * (q - p) < W)) = true) :
    2 * p ≤ 2 * q + W ∧ (p < q → 2 * q < 2 * p + W) := by
  split at h <;> simp only [decide_eq_true_eq] at h <;> omega

theorem grid_closest_up (N N' D q : Nat) (hD : 0 < D)
    (h : 2 * (N * D) ≤ 2 * q + D ∧ (N * D < q → 2 * q < 2 * (N * D) + D)) :
    absDiff (N * D) q ≤ absDiff (N' * D) q ∧ (absDiff (N * D) q = absDiff (N' * D) q → N' ≤ N) := by
  have ma := grid_mid_above N D
  have hup : 2 * q < (N + (N + 1)) * D := by
    by_cases hq : N * D < q
    · have := h.2 hq; omega
    · omega
  have := nearest_of_cell (g := fun i => i) (fun h => h) hD rfl (tlo := True) (thi := False) (k := N) (j := N')
    (fun hlt => .of_le (by have := grid_mid_below D (Nat.ne_of_gt (Nat.zero_lt_of_lt hlt)); omega)) (fun _ => .of_lt hup)
  exact ⟨this.1, fun e => (this.2 e).elim Nat.le_of_eq fun h => h.elim (fun h => Nat.le_of_lt h.1) fun h => h.2.elim⟩

/-- With `W = 10^c⁺·scale` (one unit of the last digit) and `q = X·decDen c`, the last conjunct, at the decade boundary
`n = 10^fd` with `q` below `n·W`, says that `q` is not below the midpoint of `n·W` and the largest candidate of the decade
below, `(10^(fd+1) − 1)·W/10`. -/
theorem isExp_spec {X fd n : Nat} {c : Int} (h : isExp X fd n c = true) :
    10 ^ fd ≤ n ∧ n < 10 ^ (fd + 1) ∧
    (2 * (n * (10 ^ c.toNat * scale)) ≤ 2 * (X * decDen c) + 10 ^ c.toNat * scale ∧
      (n * (10 ^ c.toNat * scale) < X * decDen c →
        2 * (X * decDen c) < 2 * (n * (10 ^ c.toNat * scale)) + 10 ^ c.toNat * scale)) ∧
    (n = 10 ^ fd → X * decDen c < n * (10 ^ c.toNat * scale) →
      10 * (n * (10 ^ c.toNat * scale)) + 10 * (10 ^ fd * (10 ^ c.toNat * scale))
        ≤ 20 * (X * decDen c) + 10 ^ c.toNat * scale) := by
  unfold isExp at h
  simp only [Bool.and_eq_true, decide_eq_true_eq, Bool.or_eq_true, Nat.mul_assoc] at h
  obtain ⟨⟨⟨hlo, hhi⟩, hmain⟩, hbd⟩ := h
  refine ⟨hlo, hhi, halfUp_spec hmain, fun hn hq => ?_⟩
  rw [Nat.pow_succ', Nat.sub_mul, Nat.one_mul, Nat.mul_assoc] at hbd
  have : 1 * (10 ^ c.toNat * scale) ≤ 10 ^ fd * (10 ^ c.toNat * scale) :=
    Nat.mul_le_mul_right _ (Nat.pow_pos (by decide))
  omega

/-- Candidates on a finer grid, below a decade boundary.  Let `n·W` with `L ≤ n` pass the half-unit test against `q`,
and the midpoint test of `isExp_spec` when `n = L`.  A candidate `n'·W/J` with `n' < 10·L` and `J = 10·J'` lies below
`n'·W/10`, which lies below `n·W`, and the midpoint of these two is at or below `q` (all scaled by `J`): by the
half-unit test when `n > L` (then `n'·W/10 < L·W ≤ (n−1)·W`), by the midpoint test when `n = L`. -/
theorem decade_below {n n' L W q J' : Nat} (hW : 0 < W) (hJ : 0 < J') (hlo : L ≤ n) (hhi : n' < 10 * L)
    (h1 : 2 * (n * W) ≤ 2 * q + W)
    (hb : n = L → q < n * W → 10 * (n * W) + 10 * (L * W) ≤ 20 * q + W) :
    n' * (W * J') < n * W * (10 * J') ∧ n' * (W * J') + n * W * (10 * J') ≤ 2 * (q * (10 * J')) := by
  have eb : n * W * (10 * J') = 10 * (n * (W * J')) := by
    rw [Nat.mul_assoc, Nat.mul_left_comm W, Nat.mul_left_comm n]
  rw [eb, Nat.mul_left_comm q]
  have hV : 0 < W * J' := Nat.mul_pos hW hJ
  have f2 : n' * (W * J') + W * J' ≤ 10 * (L * (W * J')) := by
    rw [← Nat.succ_mul, ← Nat.mul_assoc 10]; exact Nat.mul_le_mul_right _ hhi
  have f3 : L * (W * J') ≤ n * (W * J') := Nat.mul_le_mul_right _ hlo
  have f4 := Nat.mul_le_mul_right J' h1
  simp only [Nat.add_mul, Nat.mul_assoc] at f4
  clear eb hhi h1
  by_cases hq : n * W ≤ q
  · have := Nat.mul_le_mul_right J' hq
    rw [Nat.mul_assoc] at this
    omega
  · by_cases hn : n = L
    · have f5 := Nat.mul_le_mul_right J' (hb hn (Nat.lt_of_not_le hq))
      simp only [Nat.add_mul, Nat.mul_assoc] at f5
      omega
    · have f5 : L * (W * J') + W * J' ≤ n * (W * J') := by
        rw [← Nat.succ_mul]; exact Nat.mul_le_mul_right _ (by omega)
      omega

theorem ten_pow_pred {j : Nat} (hj : 1 ≤ j) : 10 ^ j = 10 * 10 ^ (j - 1) := by
  rw [← Nat.pow_succ', Nat.succ_eq_add_one, Nat.sub_add_cancel hj]

theorem decDen_pos (c : Int) : 0 < decDen c := by unfold decDen; exact Nat.pow_pos (by decide)

theorem decNum_le {a b : Nat} (c : Int) (h : a ≤ b) : decNum a c ≤ decNum b c := Nat.mul_le_mul_right _ h

theorem roundsTo_iff {s : Nat} {c : Int} {o : Nat} :
    roundsTo s c o = true ↔
      o ≤ infOrd ∧ lowerOK (decNum s c) (decDen c) o = true ∧ upperOK (decNum s c) (decDen c) o = true :=
  isNearestMag_iff.trans (and_iff_right (decDen_pos c))

theorem isShortest_spec {o s k : Nat} {c : Int} (h : isShortest o s k c = true) :
    1 ≤ k ∧ 10 ^ (k - 1) ≤ s ∧ s < 10 ^ k ∧ roundsTo s c o = true ∧
      (k = 1 ∨ lowerOK (decNum (s / 10) (c + 1)) (decDen (c + 1)) o = false ∧
        upperOK (decNum (s / 10 + 1) (c + 1)) (decDen (c + 1)) o = false) := by
  simpa only [isShortest, Bool.and_eq_true, decide_eq_true_eq, Bool.or_eq_true, beq_iff_eq, Bool.not_eq_true',
    and_assoc] using h

theorem roundsTo_between {a m b : Nat} {c : Int} {o : Nat} (h1 : a ≤ m) (h2 : m ≤ b)
    (ha : roundsTo a c o = true) (hb : roundsTo b c o = true) : roundsTo m c o = true := by
  rw [roundsTo_iff] at ha hb ⊢
  refine ⟨ha.1, ?_, ?_⟩
  · exact lowerOK_true_mono (decDen_pos c) (decDen_pos c) (Nat.mul_le_mul_right _ (decNum_le c h1)) ha.2.1
  · exact upperOK_true_mono (decDen_pos c) (decDen_pos c) (Nat.mul_le_mul_right _ (decNum_le c h2)) hb.2.2

/-- The lemmas on a change of exponent all take the two exponents with the equation `c1 = c2 + j`, which callers discharge
by `rfl` or `omega`. -/
theorem dec_shift {s : Nat} {c1 c2 : Int} (j : Nat) (hc : c1 = c2 + j) :
    decNum (s * 10 ^ j) c2 * decDen c1 = decNum s c1 * decDen c2 := by
  unfold decNum decDen
  rw [Nat.mul_assoc, Nat.mul_assoc, Nat.mul_assoc, ← Nat.pow_add, ← Nat.pow_add, ← Nat.pow_add]
  congr 2
  omega

theorem roundsTo_shift {s : Nat} {c1 c2 : Int} (j : Nat) (hc : c1 = c2 + j) (o : Nat) :
    roundsTo (s * 10 ^ j) c2 o = roundsTo s c1 o :=
  isNearestMag_congr (decDen_pos _) (decDen_pos _) (dec_shift j hc)

theorem dec_le_of_shift {s1 s2 : Nat} {c1 c2 : Int} (j : Nat) (hc : c1 = c2 + j) (h : s1 * 10 ^ j ≤ s2) :
    decNum s1 c1 * decDen c2 ≤ decNum s2 c2 * decDen c1 := by
  rw [← dec_shift j hc]
  exact Nat.mul_le_mul_right _ (decNum_le _ h)

theorem dec_ge_of_shift {s1 s2 : Nat} {c1 c2 : Int} (j : Nat) (hc : c1 = c2 + j) (h : s2 ≤ s1 * 10 ^ j) :
    decNum s2 c2 * decDen c1 ≤ decNum s1 c1 * decDen c2 := by
  rw [← dec_shift j hc]
  exact Nat.mul_le_mul_right _ (decNum_le _ h)

theorem absDiff_mul (a b k : Nat) : absDiff a b * k = absDiff (a * k) (b * k) := by
  unfold absDiff
  rw [Nat.add_mul, Nat.sub_mul, Nat.sub_mul]

theorem distTo_shift (o : Nat) {t : Nat} {c1 c2 : Int} (j : Nat) (hc : c1 = c2 + j) :
    distTo o (t * 10 ^ j) c2 * decDen c1 = distTo o t c1 * decDen c2 := by
  unfold distTo
  rw [absDiff_mul, absDiff_mul]
  have h1 : decNum (t * 10 ^ j) c2 * scale * decDen c1 = decNum t c1 * scale * decDen c2 := by
    rw [Nat.mul_right_comm, dec_shift j hc, Nat.mul_right_comm]
  have h2 : magOrd o * decDen c1 * decDen c2 = magOrd o * decDen c2 * decDen c1 := Nat.mul_right_comm _ _ _
  rw [h1, h2]

theorem distTo_le_shift {o a b : Nat} {c1 c2 : Int} (j : Nat) (hc : c1 = c2 + j) (h : distTo o a c1 ≤ distTo o b c1) :
    distTo o (a * 10 ^ j) c2 ≤ distTo o (b * 10 ^ j) c2 := by
  have h1 := Nat.mul_le_mul_right (decDen c2) h
  rw [← distTo_shift o j hc, ← distTo_shift o j hc] at h1
  exact Nat.le_of_mul_le_mul_right h1 (decDen_pos c1)

theorem decNum_scale_le {a b : Nat} (c : Int) (h : a ≤ b) : decNum a c * scale ≤ decNum b c * scale :=
  Nat.mul_le_mul_right _ (decNum_le c h)

theorem decNum_scale_lt {a b : Nat} (c : Int) (h : a < b) : decNum a c * scale < decNum b c * scale :=
  Nat.mul_lt_mul_of_pos_right (Nat.mul_lt_mul_of_pos_right h (Nat.pow_pos (by decide))) scale_pos

theorem dist_below {o s' m p : Nat} {c : Int} (h1 : s' ≤ m) (h2 : m < p)
    (hd : distTo o p c ≤ distTo o m c) : distTo o p c ≤ distTo o s' c :=
  (closer_above_mid (decNum_scale_le c h1) (decNum_scale_lt c h2) (mid_le_of_closer (decNum_scale_lt c h2) hd)).1

theorem dist_above {o s' m p : Nat} {c : Int} (h1 : m ≤ s') (h2 : p < m)
    (hd : distTo o p c ≤ distTo o m c) : distTo o p c ≤ distTo o s' c :=
  (closer_below_mid (decNum_scale_lt c h2) (decNum_scale_le c h1) (le_mid_of_closer (decNum_scale_lt c h2) hd)).1

theorem isClosest_spec {o s k : Nat} {c : Int} (h : isClosest o s k c = true) :
    (roundsTo (s + 1) c o = true → distTo o s c ≤ distTo o (s + 1) c) ∧
    (10 ^ (k - 1) < s → roundsTo (s - 1) c o = true → distTo o s c ≤ distTo o (s - 1) c) ∧
    (¬ 10 ^ (k - 1) < s → roundsTo (10 ^ k - 1) (c - 1) o = true →
      distTo o (10 * s) (c - 1) ≤ distTo o (10 ^ k - 1) (c - 1)) := by
  simp only [isClosest, Bool.and_eq_true, Bool.or_eq_true, Bool.not_eq_true', decide_eq_true_eq] at h
  refine ⟨fun hr => h.1.resolve_left (by simp [hr]), fun hb hr => ?_, fun hb hr => ?_⟩
  · have h2 := h.2
    rw [if_pos hb] at h2
    simp only [Bool.or_eq_true, Bool.not_eq_true', decide_eq_true_eq] at h2
    exact h2.resolve_left (by simp [hr])
  · have h2 := h.2
    rw [if_neg hb] at h2
    simp only [Bool.or_eq_true, Bool.not_eq_true', decide_eq_true_eq] at h2
    exact h2.resolve_left (by simp [hr])

/-- Testing the two neighbours is enough: the rounding interval is convex, so a competitor beyond a neighbour makes the
neighbour parse back too, and distance grows away from `s`. -/
theorem closest_same_grid (o s k : Nat) (c : Int) (h : isClosest o s k c = true)
    (hr : roundsTo s c o = true) :
    (∀ s' : Nat, s < s' → roundsTo s' c o = true → distTo o s c ≤ distTo o s' c) ∧
    (10 ^ (k - 1) < s → ∀ s' : Nat, s' < s → roundsTo s' c o = true → distTo o s c ≤ distTo o s' c) := by
  obtain ⟨hup, hdn, _⟩ := isClosest_spec h
  constructor
  · intro s' hlt hr'
    exact dist_above hlt (Nat.lt_succ_self s) (hup (roundsTo_between (Nat.le_succ s) hlt hr hr'))
  · intro hbig s' hlt hr'
    have hle : s' ≤ s - 1 := Nat.le_sub_one_of_lt hlt
    have hs : s - 1 < s := Nat.sub_one_lt (Nat.ne_of_gt (Nat.lt_of_le_of_lt (Nat.zero_le _) hlt))
    exact dist_below hle hs (hdn hbig (roundsTo_between hle (Nat.le_of_lt hs) hr' hr))

end GojaModel.C12
