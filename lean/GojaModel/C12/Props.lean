/-
  C12 property theorems: soundness of the certifying checkers of Model.lean; the output layouts read back; the scanners and
  parsers against the grammar; the mechanism model of `FToBaseStr`.

  Reading guide.  A finite non-negative double with ordinal `k` (position in the ordered bit patterns) has the
  exact value `magOrd k / scale` (`scale = 2^1074`).  A non-negative rational is a pair `n / d`.  All comparisons of
  rationals are written cross-multiplied in Nat, e.g.
      |n/d − magOrd k/scale| ≤ |n/d − magOrd j/scale|   ⟺   absDiff (n*scale) (magOrd k*d) ≤ absDiff (n*scale) (magOrd j*d)
  (both sides multiplied by `d * scale > 0`), so no rational-number library is needed and the statements are
  about exactly the integers the compiled checkers compute with.
-/
import GojaModel.C12.Closest
import GojaModel.C12.ReadBack
import GojaModel.C12.RadixProps

namespace GojaModel.C12

/-- **Round-to-nearest, ties-to-even.**  If the checker accepts `(n/d, k)` then the double with ordinal `k` is at
least as close to `n/d` as EVERY other point `j` of the double grid (all finite doubles, and the overflow sentinel
2^1024 = `magOrd infOrd` that IEEE 754 uses to define rounding to ±Infinity), and if some other point is exactly
as close (a tie) then `k` is even, i.e. has an even fraction field.  Covers subnormals (the grid is uniform there)
and overflow (`k = infOrd` is accepted iff `n/d` ≥ (maxFinite + 2^1024)/2). -/
theorem isNearest_sound (n d k : Nat) (h : isNearestMag n d k = true) :
    ∀ j, j ≤ infOrd →
      absDiff (n * scale) (magOrd k * d) ≤ absDiff (n * scale) (magOrd j * d) ∧
      (absDiff (n * scale) (magOrd k * d) = absDiff (n * scale) (magOrd j * d) → j ≠ k → k % 2 = 0) := by
  intro j hj
  obtain ⟨hd, hk, hl, hu⟩ := isNearestMag_iff.mp h
  simp only [absDiff_comm (n * scale)]
  have := nearest_of_cell magOrd_strictMono hd (Nat.mul_assoc 2 n scale) (j := j)
    (fun h => (lowerOK_iff.mp hl).resolve_left (by omega)) (fun h => (upperOK_iff.mp hu).resolve_left (by omega))
  exact ⟨this.1, fun e hne => (this.2 e).elim (fun h => absurd h hne) fun h => h.elim And.right And.right⟩

/-- The accepted result is unique: two ordinals accepted for the same rational coincide
(so "the double nearest to the value denoted" is well defined by the checker). -/
theorem isNearest_unique (n d j k : Nat) (hj : isNearestMag n d j = true) (hk : isNearestMag n d k = true) :
    j = k := by
  rcases Nat.lt_trichotomy j k with h | h | h
  · exact absurd hk (not_accepted_above hj h)
  · exact h
  · exact absurd hj (not_accepted_above hk h)

/-- **toFixed** (ECMA-262 Number.prototype.toFixed step 9.a).  If the checker accepts `N` for the magnitude
`X/scale` and `fd` fraction digits, then `N / 10^fd − x` is as close to zero as for any other integer `N'`, and
among two equally close integers `N` is the larger one. -/
theorem fixed_sound (X fd N : Nat) (h : isFixed X fd N = true) :
    ∀ N' : Nat,
      absDiff (N * scale) (X * 10 ^ fd) ≤ absDiff (N' * scale) (X * 10 ^ fd) ∧
      (absDiff (N * scale) (X * 10 ^ fd) = absDiff (N' * scale) (X * 10 ^ fd) → N' ≤ N) := by
  intro N'
  -- `isFixed X fd N` is by definition the half-unit test of `halfUp_spec` with `p = N·scale`, `q = X·10^fd`, `W = scale`
  exact grid_closest_up N N' scale (X * 10 ^ fd) scale_pos (halfUp_spec h)

/-- **Shortest round-trip digits** (ECMA-262 Number::toString step 5: "k is as small as possible").
If the checker accepts the k digits `s` with exponent `c` (value `s × 10^c`) for the double with ordinal `o`, then
the decimal parses back to that double (`roundsTo`, certified by `isNearest_sound`), `s` has exactly `k` digits, and
NO decimal `s' × 10^c'` with fewer than `k` significant digits — for any exponent `c'` whatsoever — parses back to it. -/
theorem shortest_sound (o s k : Nat) (c : Int) (h : isShortest o s k c = true) :
    roundsTo s c o = true ∧ 10 ^ (k - 1) ≤ s ∧ s < 10 ^ k ∧
      ∀ (s' : Nat) (c' : Int), 0 < s' → s' < 10 ^ (k - 1) → roundsTo s' c' o = false := by
  obtain ⟨hk1, hlo, hhi, hrt, hmin⟩ := isShortest_spec h
  refine ⟨hrt, hlo, hhi, ?_⟩
  intro s' c' hpos hs'
  have hk2 : 2 ≤ k := Nat.le_of_not_lt fun hk => by
    rw [show k = 1 by omega] at hs'; simp at hs'; omega
  obtain ⟨hA, hB⟩ := hmin.resolve_left (by omega)
  refine eq_false_of_ne_true fun hr => ?_
  obtain ⟨_, hl, hu⟩ := roundsTo_iff.mp hr
  rw [ten_pow_pred (j := k - 1) (by omega)] at hlo hs'
  -- compare `s' × 10^c'` with the truncation `s/10 × 10^(c+1)` and its successor on the finer of the two grids
  by_cases hcc : c + 1 ≤ c'
  · -- a multiple of `10^(c+1)`: at most `s/10` or at least `s/10 + 1` units
    have hc : c' = c + 1 + ((c' - (c + 1)).toNat : Nat) := by omega
    by_cases hle : s' * 10 ^ (c' - (c + 1)).toNat ≤ s / 10
    · exact ne_true_of_eq_false (lowerOK_false_mono (decDen_pos _) (decDen_pos _) (dec_le_of_shift _ hc hle) hA) hl
    · exact ne_true_of_eq_false (upperOK_false_mono (decDen_pos _) (decDen_pos _) (dec_ge_of_shift _ hc (by omega)) hB) hu
  · -- a finer grid: fewer than `k − 1` digits stay below `s/10 · 10^j`, `j ≥ 1`
    have hc : c + 1 = c' + ((c + 1 - c').toNat : Nat) := by omega
    have hj := ten_pow_pred (j := (c + 1 - c').toNat) (by omega)
    have hle : s' ≤ s / 10 * 10 ^ (c + 1 - c').toNat := by
      rw [hj, ← Nat.mul_assoc]
      exact Nat.le_trans (by omega) (Nat.le_mul_of_pos_right _ (Nat.pow_pos (by decide)))
    exact ne_true_of_eq_false (lowerOK_false_mono (decDen_pos _) (decDen_pos _) (dec_ge_of_shift _ hc hle) hA) hl

/-- **"closest among the shortest", all competitors** (Number::toString note 2).  Let `(s, k, c)` be accepted for the
double with ordinal `o`.  (1) Every k-digit decimal `s' × 10^(c+j)`, `j ≥ 0`, that parses back is the same-grid value
`(s'·10^j) × 10^c`, and `s` is at least as close.  (2) Every decimal `s' × 10^(c−j)`, `j ≥ 1`, with at most `k` digits
that parses back: on the grid of exponent `c − j` the accepted value is `(s·10^j)`, and it is at least as close.
Every integer exponent is `c + j` or `c − j`, so all k-digit competitors are covered. -/
theorem closest_sound (o s k : Nat) (c : Int) (hs : isShortest o s k c = true) (h : isClosest o s k c = true) :
    (∀ s' j : Nat, 10 ^ (k - 1) ≤ s' → roundsTo s' (c + j) o = true →
        distTo o s c ≤ distTo o (s' * 10 ^ j) c) ∧
    (∀ s' j : Nat, 1 ≤ j → s' < 10 ^ k → roundsTo s' (c - j) o = true →
        distTo o (s * 10 ^ j) (c - j) ≤ distTo o s' (c - j)) := by
  obtain ⟨hk1, hlo, hhi, hr, _⟩ := isShortest_spec hs
  have hcp := closest_same_grid o s k c h hr
  obtain ⟨_, hdn1, hdn2⟩ := isClosest_spec h
  constructor
  · intro s' j hs' hr'
    have hr2 : roundsTo (s' * 10 ^ j) c o = true := (roundsTo_shift j rfl o).trans hr'
    have hge : s' ≤ s' * 10 ^ j := Nat.le_mul_of_pos_right _ (Nat.pow_pos (by decide))
    rcases Nat.lt_trichotomy s (s' * 10 ^ j) with hlt | heq | hgt
    · exact hcp.1 _ hlt hr2
    · rw [← heq]; exact Nat.le_refl _
    · exact hcp.2 (by omega) _ hgt hr2
  · intro s' j hj hs' hr'
    have hcj : c = c - j + (j : Int) := by omega
    have hrJ : roundsTo (s * 10 ^ j) (c - j) o = true := (roundsTo_shift j hcj o).trans hr
    have hJ := ten_pow_pred hj
    have hJ' : 0 < 10 ^ (j - 1) := Nat.pow_pos (by decide)
    have hK := ten_pow_pred hk1
    -- a grid point `m` of exponent `c − j` between the competitor and `s·10^j` that `isClosest` has compared with `s`
    suffices hm : ∃ m, s' ≤ m ∧ m < s * 10 ^ j ∧
        (roundsTo m (c - j) o = true → distTo o (s * 10 ^ j) (c - j) ≤ distTo o m (c - j)) by
      obtain ⟨m, hle, hlt, hd⟩ := hm
      exact dist_below hle hlt (hd (roundsTo_between hle (Nat.le_of_lt hlt) hr' hrJ))
    by_cases hbig : 10 ^ (k - 1) < s
    · -- neighbour below on the same grid: (s − 1) × 10^c
      refine ⟨(s - 1) * 10 ^ j, ?_, Nat.mul_lt_mul_of_pos_right (by omega) (Nat.pow_pos (by decide)), fun hm => ?_⟩
      · calc s' ≤ 10 * 10 ^ (k - 1) := by omega
          _ ≤ 10 * (s - 1) := Nat.mul_le_mul_left _ (by omega)
          _ = (s - 1) * 10 := Nat.mul_comm _ _
          _ ≤ (s - 1) * 10 ^ j := Nat.mul_le_mul_left _ (by omega)
      · exact distTo_le_shift j hcj (hdn1 hbig ((roundsTo_shift j hcj o).symm.trans hm))
    · -- s = 10^(k−1): the largest k-digit decimal of the decade below, (10^k − 1) × 10^(c−1)
      have hs0 : s = 10 ^ (k - 1) := by omega
      have ec : c - 1 = c - j + ((j - 1 : Nat) : Int) := by omega
      refine ⟨(10 ^ k - 1) * 10 ^ (j - 1), Nat.le_trans (by omega) (Nat.le_mul_of_pos_right _ hJ'), ?_, fun hm => ?_⟩
      · rw [hJ, hs0, ← Nat.mul_assoc, Nat.mul_comm _ 10, ← hK]
        exact Nat.mul_lt_mul_of_pos_right (by omega) hJ'
      · have hd2 := distTo_le_shift (j - 1) ec (hdn2 hbig ((roundsTo_shift (j - 1) ec o).symm.trans hm))
        rwa [show 10 * s * 10 ^ (j - 1) = s * 10 ^ j by rw [hJ]; ac_rfl] at hd2

/-- **toExponential / toPrecision digit selection, all competitors.**  Write `W = 10^c⁺·scale` (one unit of the last
digit, scaled) and `q = X·decDen c` (the double, scaled): the accepted candidate is `n·W`.
(1) Every candidate whose last-digit exponent is `c + j` (`j ≥ 0`, any `n'`) is the same-grid value `n'·10^j·W`.
(2) Every candidate with `fd+1` digits whose last-digit exponent is `c − j` (`j ≥ 1`) is `n'·W / 10^j`; both sides are
multiplied by `10^j`.  In both cases the accepted candidate is at least as close to the double, and on a tie it is the
larger of the two (ECMA-262 toExponential step 10.b / toPrecision step 10.a: "pick the e and n for which n × 10^(e−f)
is larger").  Every integer exponent is `c + j` or `c − j`, so this covers all pairs (n', e'). -/
theorem exp_sound (X fd n : Nat) (c : Int) (h : isExp X fd n c = true) :
    10 ^ fd ≤ n ∧ n < 10 ^ (fd + 1) ∧
    (∀ n' j : Nat,
      absDiff (n * (10 ^ c.toNat * scale)) (X * decDen c)
        ≤ absDiff (n' * 10 ^ j * (10 ^ c.toNat * scale)) (X * decDen c) ∧
      (absDiff (n * (10 ^ c.toNat * scale)) (X * decDen c)
        = absDiff (n' * 10 ^ j * (10 ^ c.toNat * scale)) (X * decDen c) → n' * 10 ^ j ≤ n)) ∧
    (∀ n' j : Nat, 1 ≤ j → 10 ^ fd ≤ n' → n' < 10 ^ (fd + 1) →
      absDiff (n * (10 ^ c.toNat * scale) * 10 ^ j) (X * decDen c * 10 ^ j)
        ≤ absDiff (n' * (10 ^ c.toNat * scale)) (X * decDen c * 10 ^ j) ∧
      (absDiff (n * (10 ^ c.toNat * scale) * 10 ^ j) (X * decDen c * 10 ^ j)
        = absDiff (n' * (10 ^ c.toNat * scale)) (X * decDen c * 10 ^ j) →
          n' * (10 ^ c.toNat * scale) ≤ n * (10 ^ c.toNat * scale) * 10 ^ j)) := by
  obtain ⟨hlo, hhi, hhalf, hbd⟩ := isExp_spec h
  have hW : 0 < 10 ^ c.toNat * scale := Nat.mul_pos (Nat.pow_pos (by decide)) scale_pos
  refine ⟨hlo, hhi, fun n' j => grid_closest_up n (n' * 10 ^ j) _ _ hW hhalf, ?_⟩
  intro n' j hj _ hhi'
  rw [Nat.pow_succ'] at hhi'
  rw [ten_pow_pred hj]
  obtain ⟨h1, h2⟩ := decade_below (n' := n') hW (Nat.pow_pos (Nat.succ_pos 9)) hlo hhi' hhalf.1 hbd
  have h0 : n' * (10 ^ c.toNat * scale) ≤ n' * (10 ^ c.toNat * scale * 10 ^ (j - 1)) :=
    Nat.mul_le_mul_left _ (Nat.le_mul_of_pos_right _ (Nat.pow_pos (Nat.succ_pos 9)))
  exact ⟨(closer_above_mid h0 h1 h2).1, fun _ => Nat.le_of_lt (Nat.lt_of_le_of_lt h0 h1)⟩

/-- **The rounding function is accepted**: the ordinal `roundOrd n d` computed by bisection passes the acceptance
test for `n/d` (so by `isNearest_sound` it is the nearest double, ties to even). -/
theorem roundOrd_isNearest (n d : Nat) (hd : 0 < d) : isNearestMag n d (roundOrd n d) = true :=
  (bisect_spec n d 64 0 (infOrd + 1) (by omega) (by decide) (Nat.le_refl _) (lowerOK_iff.mpr (Or.inl rfl))
    (Or.inl rfl)).accepted hd

/-- …and it is complete: whatever the acceptance predicate accepts IS the value of the rounding function, so
"the checker accepts (n/d, k)" and "k = roundOrd n d" are the same statement. -/
theorem roundOrd_complete (n d k : Nat) (h : isNearestMag n d k = true) : k = roundOrd n d :=
  isNearest_unique n d k (roundOrd n d) h (roundOrd_isNearest n d (isNearestMag_iff.mp h).1)

/-- **toString(radix) parses back.**  The digit string `ip . fp` in radix `r` denotes
`(value(ip)·r^|fp| + value(fp)) / r^|fp|` (positional notation, `natOfDigits_append`); if the checker accepts it
for the double with ordinal `k`, that value rounds to the double (conclusion of `isNearest_sound`). -/
theorem radix_sound (r : Nat) (ip fp : List Nat) (k : Nat)
    (h : isNearestMag (natOfDigits r (ip ++ fp)) (r ^ fp.length) k = true) :
    natOfDigits r (ip ++ fp) = natOfDigits r ip * r ^ fp.length + natOfDigits r fp ∧
    ∀ j, j ≤ infOrd →
      absDiff (natOfDigits r (ip ++ fp) * scale) (magOrd k * r ^ fp.length)
        ≤ absDiff (natOfDigits r (ip ++ fp) * scale) (magOrd j * r ^ fp.length) ∧
      (absDiff (natOfDigits r (ip ++ fp) * scale) (magOrd k * r ^ fp.length)
        = absDiff (natOfDigits r (ip ++ fp) * scale) (magOrd j * r ^ fp.length) → j ≠ k → k % 2 = 0) :=
  ⟨natOfDigits_append r ip fp, isNearest_sound _ _ _ h⟩

/-- **String → Number.**  If the text denotes the rational `(-1)^neg · n/d` and the acceptance test passes for the
double `f`, then `f` is not NaN, carries the sign of the text, and its magnitude is the nearest point of the
double grid, ties to even (overflow to ±Infinity and underflow to ±0 included). -/
theorem parse_accepts_sound (neg : Bool) (n d : Nat) (f : F64)
    (h : (Parsed.rat neg n d).accepts f false = true) :
    f.neg = neg ∧ f.isNaN = false ∧
    ∀ j, j ≤ infOrd →
      absDiff (n * scale) (magOrd f.ord * d) ≤ absDiff (n * scale) (magOrd j * d) ∧
      (absDiff (n * scale) (magOrd f.ord * d) = absDiff (n * scale) (magOrd j * d) → j ≠ f.ord → f.ord % 2 = 0) := by
  simp only [Parsed.accepts, Bool.and_false, Bool.false_eq_true, if_false, isNearest, Bool.and_eq_true,
    beq_iff_eq, Bool.not_eq_true'] at h
  exact ⟨h.1.1, h.1.2, isNearest_sound _ _ _ h.2⟩

/-- **The exponential layout is value-faithful** (toExponential, and the exponent branches of toString / toPrecision):
`d[.ddd]e±x` read back gives the same digits (trailing zeros included) and the same point position. -/
theorem expFormat_read (x : Nat) (xs : List Nat) (n : Int) (hx : x ≠ 0) (hd : ∀ d ∈ x :: xs, d < 10) :
    readDigits (expFormat (x :: xs) n) = some (x :: xs, n) := by
  have hx1 : ∀ d ∈ [x], d < 10 := fun d hm => hd d (by simp at hm; simp [hm])
  unfold expFormat
  cases xs with
  | nil =>
    exact read_digText [x] [] false (some (n - 1)) hx1 (by simp) (List.cons_ne_nil _ _) (fun _ => rfl)
      (show dropZeros ([x] ++ []) = [x] from dropZeros_cons _ hx)
      (by simp only [List.length_cons, List.length_nil, Option.getD_some]; omega)
  | cons y ys =>
    exact read_digText [x] (y :: ys) true (some (n - 1)) hx1
      (fun d hm => hd d (List.mem_cons_of_mem _ hm)) (List.cons_ne_nil _ _) (fun h => Bool.noConfusion h)
      (show dropZeros ([x] ++ (y :: ys)) = x :: y :: ys from dropZeros_cons _ hx)
      (by simp only [List.length_cons, Option.getD_some]; omega)

/-- **The layout function is value-faithful** (Number::toString steps 6–10 read back).  For digits `x :: xs`
(all < 10, leading digit non-zero) and any point position `n`, reading the text produced by `ecmaFormat` with the
driver's reader gives back the same digits — followed by `m` zeros in the pure-integer layout, which denote the same
number — and the same point position `n`.  Covers all four layouts and the exponent suffix. -/
theorem ecmaFormat_read (x : Nat) (xs : List Nat) (n : Int) (hx : x ≠ 0) (hd : ∀ d ∈ x :: xs, d < 10) :
    ∃ m, readDigits (ecmaFormat (x :: xs) n) = some ((x :: xs) ++ List.replicate m 0, n) := by
  unfold ecmaFormat
  simp only []
  split
  · exact ⟨_, read_plain x xs _ hx hd (by simp only [List.length_cons] at *; omega)⟩
  · refine ⟨0, ?_⟩
    rw [List.replicate_zero, List.append_nil]
    split
    · exact read_point x xs n.toNat hx hd (by omega) (by simp only [List.length_cons] at *; omega) (by omega)
    · split
      · exact read_small x xs (-n).toNat hx hd (by omega)
      · exact expFormat_read x xs n hx hd

/-- **The toFixed layout is value-faithful**: the text `fixedFormat N fd` scans as a complete decimal literal without
exponent, with exactly `fd` fraction digits, whose digits (integer part followed by fraction part) denote `N` — i.e.
the text denotes `N / 10^fd`, the number the checker `isFixed` certifies. -/
theorem fixedFormat_read (N fd : Nat) :
    ∃ l, scanDec (fixedFormat N fd) = some l ∧ l.rest = [] ∧ l.hasExp = false ∧ l.frac.length = fd ∧
      natOfDigits 10 (l.int ++ l.frac) = N := by
  unfold fixedFormat
  simp only []
  generalize hP : List.replicate (fd + 1 - (natDigits N).length) 0 ++ natDigits N = P
  have hPlt : ∀ d ∈ P, d < 10 := by
    rw [← hP]; exact List.forall_mem_append.mpr ⟨all_lt_replicate _, natDigits_lt N⟩
  have hPlen : fd + 1 ≤ P.length := by
    rw [← hP, List.length_append, List.length_replicate]; omega
  have hPval : natOfDigits 10 P = N := by
    rw [← hP, natOfDigits_append, natOfDigits_replicate_zero, natDigits_value]; simp
  -- the text is the literal with the last `fd` digits after a point, which is there unless `fd = 0`
  have hsc := scanDec_digText (P.take (P.length - fd)) (P.drop (P.length - fd)) (!(fd == 0)) none
    (fun d hm => hPlt d (List.mem_of_mem_take hm)) (fun d hm => hPlt d (List.mem_of_mem_drop hm))
    (take_ne_nil (by omega) (by omega))
    (fun h => by simp only [Bool.not_eq_false', beq_iff_eq] at h; subst h; simp)
  simp only [digText_text, Bool.not_eq_true', ← Bool.not_eq_true, ite_not] at hsc
  exact ⟨_, hsc, rfl, rfl, by simp only [List.length_drop]; omega, by simp only [List.take_append_drop]; exact hPval⟩

/-- **The toPrecision layout is value-faithful** (steps 10.c–13): for `p` digits with a non-zero leading digit and
any exponent `e` of the first digit, reading `precFormat ds e p` back gives the same `p` digits (trailing zeros
included) and the point position `e + 1`.  All four layouts (exponential, digits only, digits with a point, 0.00ddd). -/
theorem precFormat_read (x : Nat) (xs : List Nat) (e : Int) (hx : x ≠ 0) (hd : ∀ d ∈ x :: xs, d < 10) :
    readDigits (precFormat (x :: xs) e (x :: xs).length) = some (x :: xs, e + 1) := by
  unfold precFormat
  split
  · exact expFormat_read x xs (e + 1) hx hd
  · rename_i h1
    split
    · have := read_plain x xs 0 hx hd (n := e + 1) (by simp only [List.length_cons] at *; omega)
      rwa [show zeros 0 = [] from rfl, List.append_nil, List.replicate_zero, List.append_nil] at this
    · split
      · exact read_point x xs (e.toNat + 1) hx hd (by omega) (by simp only [List.length_cons] at *; omega) (by omega)
      · exact read_small x xs (-(e + 1)).toNat hx hd (by omega)

/-- **Digit scanning = longest prefix of radix-`r` digits** (used by parseInt, `0x`/`0o`/`0b` literals and every
decimal component): the input splits into a run of valid digits, whose values are returned, and a rest at which the
scan stops. -/
theorem digits_longest_prefix (r : Nat) (cs : List Char) :
    ∃ pre, cs = pre ++ (takeDigits r cs).2 ∧ (takeDigits r cs).1 = pre.map digitVal ∧
      (∀ c ∈ pre, digitVal c < r) ∧ StopsR r (takeDigits r cs).2 := takeDigits_spec r cs

/-- **Soundness of the decimal scanner**: the consumed prefix is a well-formed StrUnsignedDecimalLiteral (`DecText`,
the ECMA-262 grammar written declaratively) whose components are exactly the returned ones. -/
theorem decimal_scanner_sound (cs : List Char) (l : DecLit) (h : scanDec cs = some l) :
    ∃ t : DecText, t.WF ∧ cs = t.text ++ l.rest ∧ l.Matches t := scanDec_sound cs l h

/-- **Completeness and maximal munch of the decimal scanner**: on input that starts with any well-formed literal `t`
the scanner succeeds and consumes at least `t`; on input that IS `t` it returns exactly `t`'s components. -/
theorem decimal_scanner_longest (t : DecText) (ht : t.WF) (rest : List Char) :
    ∃ l, scanDec (t.text ++ rest) = some l ∧ l.rest.length ≤ rest.length ∧
      (rest = [] → l.Matches t ∧ l.rest = []) := scanDec_longest t ht rest

/-- **Number(): a string in the grammar denotes its mathematical value.**  If the (trimmed, unsigned) body is a
well-formed StrUnsignedDecimalLiteral `dt`, the parser returns the denotation of its digits `I ++ F` scaled by
`10^(exponent − |F|)` (ECMA-262 StringNumericLiteral MV rules). -/
theorem decimalBody_of_grammar (neg : Bool) (dt : DecText) (h : dt.WF) :
    parseDecimalBody neg dt.text =
      denote neg (dt.I.map digitVal ++ dt.F.map digitVal) (dt.expValue - (dt.F.length : Nat)) := by
  unfold parseDecimalBody
  simp only [decText_ne_infinity dt h, Bool.false_eq_true, if_false, scanDec_text dt h, List.isEmpty_nil, if_true,
    DecLit.denote, List.length_map]

/-- **Number(): everything outside the grammar is NaN.** -/
theorem decimalBody_nan (neg : Bool) (body : List Char) (hinf : (body == infinityChars) = false)
    (h : ∀ dt : DecText, dt.WF → body ≠ dt.text) : parseDecimalBody neg body = .nan := by
  unfold parseDecimalBody
  simp only [hinf, Bool.false_eq_true, if_false]
  cases hs : scanDec body with
  | none => rfl
  | some l =>
    simp only []
    cases hr : l.rest with
    | nil =>
      obtain ⟨t, hw, hb, _⟩ := scanDec_sound body l hs
      rw [hr, List.append_nil] at hb
      exact absurd hb (h t hw)
    | cons c r => simp

/-- **parseFloat uses the longest literal prefix.**  If the body starts with any well-formed literal, the parser's
result is the denotation of a scanned literal `l` whose text `dt'` is itself a well-formed prefix of the body and is at
least as long as the given one; if no prefix is a literal the result is NaN. -/
theorem floatBody_longest (neg : Bool) (body : List Char) (hinf : infinityChars.isPrefixOf body = false) :
    (∀ (dt : DecText) (rest : List Char), dt.WF → body = dt.text ++ rest →
      ∃ l dt', scanDec body = some l ∧ parseFloatBody neg body = l.denote neg ∧ dt'.WF ∧
        body = dt'.text ++ l.rest ∧ l.Matches dt' ∧ l.rest.length ≤ rest.length) ∧
    ((∀ (dt : DecText) (rest : List Char), dt.WF → body ≠ dt.text ++ rest) → parseFloatBody neg body = .nan) := by
  constructor
  · intro dt rest hw hb
    obtain ⟨l, hs, hlen, _⟩ := scanDec_longest dt hw rest
    rw [← hb] at hs
    obtain ⟨dt', hw', hb', hm'⟩ := scanDec_sound body l hs
    refine ⟨l, dt', hs, ?_, hw', hb', hm', hlen⟩
    unfold parseFloatBody
    simp only [hinf, Bool.false_eq_true, if_false, hs]
  · intro h
    unfold parseFloatBody
    simp only [hinf, Bool.false_eq_true, if_false]
    cases hs : scanDec body with
    | none => rfl
    | some l =>
      obtain ⟨t, hw, hb, _⟩ := scanDec_sound body l hs
      exact absurd hb (h t l.rest hw)

/-- **NonDecimalIntegerLiteral (`0x…`, `0o…`, `0b…`)**: one or more digits of the radix and nothing else denote the
positional value; anything else is NaN. -/
theorem nonDecimal_spec (radix : Nat) (r : List Char) :
    ((r ≠ [] ∧ ∀ c ∈ r, digitVal c < radix) →
      parseNonDecimal radix r = denoteInt false radix (r.map digitVal)) ∧
    (¬ (r ≠ [] ∧ ∀ c ∈ r, digitVal c < radix) → parseNonDecimal radix r = .nan) := by
  constructor
  · rintro ⟨hne, hd⟩
    have hT := takeDigits_append radix r [] hd
    rw [List.append_nil] at hT
    unfold parseNonDecimal
    rw [hT]
    cases hr : r with
    | nil => exact absurd hr hne
    | cons c cs => simp [takeDigits]
  · intro hn
    obtain ⟨pre, h1, h2, h3, h4⟩ := takeDigits_spec radix r
    unfold parseNonDecimal
    by_cases hrest : (takeDigits radix r).2 = []
    · rw [hrest, List.append_nil] at h1
      have hpre : pre = [] := Decidable.byContradiction fun hp => hn ⟨h1 ▸ hp, h1 ▸ h3⟩
      rw [h2, hpre]; simp
    · cases hh : (takeDigits radix r).2 with
      | nil => exact absurd hh hrest
      | cons a b => simp

/-- **parseInt digits**: the result is determined by the longest prefix of radix-R digits (steps 11–16). -/
theorem parseIntDigits_spec (neg : Bool) (R : Nat) (pre rest : List Char)
    (hpre : ∀ c ∈ pre, digitVal c < R) (hstop : StopsR R rest) :
    parseIntDigits neg R (pre ++ rest) =
      if pre = [] then .nan else denoteInt neg R (pre.map digitVal) := by
  unfold parseIntDigits
  rw [takeDigits_append R pre rest hpre, takeDigits_stopR hstop]
  cases pre with
  | nil => simp
  | cons c cs => simp

/-- `trimL` removes exactly the maximal run of StrWhiteSpaceChar at the front. -/
theorem trimL_spec (cs : List Char) :
    ∃ ws, cs = ws ++ trimL cs ∧ (∀ c ∈ ws, isWhite c = true) ∧
      (match trimL cs with | [] => True | c :: _ => isWhite c = false) := by
  induction cs with
  | nil => exact ⟨[], rfl, by simp, trivial⟩
  | cons c cs ih =>
    by_cases hc : isWhite c = true
    · obtain ⟨ws, h1, h2, h3⟩ := ih
      refine ⟨c :: ws, ?_, ?_, ?_⟩
      · simp only [trimL, hc, if_true, List.cons_append]; rw [← h1]
      · exact List.forall_mem_cons.mpr ⟨hc, h2⟩
      · simpa only [trimL, hc, if_true] using h3
    · have hc' : isWhite c = false := (Bool.not_eq_true _).mp hc
      refine ⟨[], ?_, by simp, ?_⟩
      · simp [trimL, hc']
      · simp [trimL, hc']

/-- **Value of `denote`, rational case**: the returned fraction `n/d` equals `natOfDigits ds × 10^e`
(cross-multiplied with the canonical fraction `decNum/decDen` of that decimal), and the sign is kept. -/
theorem denote_rat_value (neg : Bool) (ds : List Nat) (e : Int) (neg' : Bool) (n d : Nat)
    (h : denote neg ds e = .rat neg' n d) :
    neg' = neg ∧ 0 < d ∧ n * decDen e = decNum (natOfDigits 10 ds) e * d := by
  rcases denote_cases neg ds e with ⟨_, hd⟩ | ⟨_, ⟨_, hd⟩ | ⟨_, hd⟩ | ⟨_, _, hd⟩⟩ <;> rw [hd] at h <;> cases h
  obtain ⟨z, hz⟩ := dropTrailingZeros_spec (dropZeros ds)
  have hlen : (dropZeros ds).length - (dropTrailingZeros (dropZeros ds)).length = z := by
    have := congrArg List.length hz
    simp only [List.length_append, List.length_replicate] at this
    omega
  have hval : natOfDigits 10 ds = natOfDigits 10 (dropTrailingZeros (dropZeros ds)) * 10 ^ z := by
    rw [← natOfDigits_dropZeros 10 ds]
    conv => lhs; rw [hz]
    rw [natOfDigits_append, natOfDigits_replicate_zero, List.length_replicate]; simp
  rw [hlen, hval]
  exact ⟨rfl, decDen_pos _, (dec_shift z rfl).symm⟩

/-- **Value of `denote`, zero case.** -/
theorem denote_zero_value (neg : Bool) (ds : List Nat) (e : Int) (neg' : Bool)
    (h : denote neg ds e = .zero neg') : neg' = neg ∧ natOfDigits 10 ds = 0 := by
  rcases denote_cases neg ds e with ⟨h0, hd⟩ | ⟨_, ⟨_, hd⟩ | ⟨_, hd⟩ | ⟨_, _, hd⟩⟩ <;> rw [hd] at h <;> cases h
  exact ⟨rfl, by rw [← natOfDigits_dropZeros 10 ds, h0]; rfl⟩

/-- **`huge` is justified**: when `denote` answers `huge` (without expanding the power of ten), the denoted value
`natOfDigits ds × 10^e` is at least 10^400 and therefore rounds to ±Infinity. -/
theorem denote_huge_sound (neg : Bool) (ds : List Nat) (e : Int) (neg' : Bool)
    (h : denote neg ds e = .huge neg') :
    neg' = neg ∧ isNearestMag (decNum (natOfDigits 10 ds) e) (decDen e) infOrd = true := by
  rcases denote_cases neg ds e with ⟨_, hd⟩ | ⟨hne, ⟨hp, hd⟩ | ⟨_, hd⟩ | ⟨_, _, hd⟩⟩ <;> rw [hd] at h <;> cases h
  refine ⟨rfl, huge_rounds_to_inf _ _ (decDen_pos _) (Nat.le_trans (Nat.mul_le_mul_right _ pow_1024_le) ?_)⟩
  have hh := dropZeros_head ds
  cases hs : dropZeros ds with
  | nil => exact absurd hs hne
  | cons x xs =>
    rw [hs] at hh hp
    simp only [List.length_cons] at hp
    have hlow := natOfDigits_lower x xs hh
    rw [← hs, natOfDigits_dropZeros] at hlow
    unfold decNum decDen
    calc 10 ^ 400 * 10 ^ (-e).toNat = 10 ^ (400 + (-e).toNat) := by rw [Nat.pow_add]
      _ ≤ 10 ^ (xs.length + e.toNat) := Nat.pow_le_pow_right (by decide) (by omega)
      _ = 10 ^ xs.length * 10 ^ e.toNat := by rw [Nat.pow_add]
      _ ≤ natOfDigits 10 ds * 10 ^ e.toNat := Nat.mul_le_mul_right _ hlow

/-- **`tiny` is justified**: when `denote` answers `tiny`, the denoted value is below 10^-400 and rounds to ±0. -/
theorem denote_tiny_sound (neg : Bool) (ds : List Nat) (e : Int) (neg' : Bool) (hlt : ∀ d ∈ ds, d < 10)
    (h : denote neg ds e = .tiny neg') :
    neg' = neg ∧ isNearestMag (decNum (natOfDigits 10 ds) e) (decDen e) 0 = true := by
  rcases denote_cases neg ds e with ⟨_, hd⟩ | ⟨_, ⟨_, hd⟩ | ⟨hp, hd⟩ | ⟨_, _, hd⟩⟩ <;> rw [hd] at h <;> cases h
  suffices key : decNum (natOfDigits 10 ds) e * 10 ^ 400 < decDen e by
    refine ⟨rfl, tiny_rounds_to_zero _ _ (decDen_pos _) (Nat.le_of_lt (Nat.lt_of_le_of_lt ?_ key))⟩
    rw [Nat.mul_comm 2, Nat.mul_assoc]
    exact Nat.mul_le_mul_left _ two_scale_le
  obtain ⟨z, hz⟩ := dropZeros_spec ds
  have hsig : ∀ d ∈ dropZeros ds, d < 10 := by
    intro d hm; apply hlt; rw [hz]; exact List.mem_append_right _ hm
  have hup := natOfDigits_upper (dropZeros ds) hsig
  rw [natOfDigits_dropZeros] at hup
  unfold decNum decDen
  have hpos : 0 < 10 ^ e.toNat * 10 ^ 400 := Nat.mul_pos (Nat.pow_pos (by decide)) (Nat.pow_pos (by decide))
  calc natOfDigits 10 ds * 10 ^ e.toNat * 10 ^ 400
      = natOfDigits 10 ds * (10 ^ e.toNat * 10 ^ 400) := Nat.mul_assoc _ _ _
    _ < 10 ^ (dropZeros ds).length * (10 ^ e.toNat * 10 ^ 400) := Nat.mul_lt_mul_of_pos_right hup hpos
    _ = 10 ^ ((dropZeros ds).length + e.toNat + 400) := by rw [Nat.pow_add, Nat.pow_add, Nat.mul_assoc]
    _ ≤ 10 ^ (-e).toNat := Nat.pow_le_pow_right (by decide) (by omega)

/-- **`trim` is StrWhiteSpace stripping on both sides**: the input is `ws1 ++ trim cs ++ ws2` with `ws1`, `ws2` runs of
StrWhiteSpaceChar, and what is left neither starts nor ends with a StrWhiteSpaceChar (so both runs are maximal). -/
theorem trim_spec (cs : List Char) :
    ∃ ws1 ws2, cs = ws1 ++ (trim cs ++ ws2) ∧ (∀ c ∈ ws1, isWhite c = true) ∧ (∀ c ∈ ws2, isWhite c = true) ∧
      (match trim cs with | [] => True | c :: _ => isWhite c = false) ∧
      (match (trim cs).reverse with | [] => True | c :: _ => isWhite c = false) := by
  obtain ⟨ws1, h1, h2, h3⟩ := trimL_spec cs
  obtain ⟨w, g1, g2, g3⟩ := trimL_spec (trimL cs).reverse
  have hA : trimL cs = (trimL (trimL cs).reverse).reverse ++ w.reverse := by
    have := congrArg List.reverse g1
    simp only [List.reverse_reverse, List.reverse_append] at this
    exact this
  refine ⟨ws1, w.reverse, ?_, h2, ?_, ?_, ?_⟩
  · unfold trim
    rw [← hA]; exact h1
  · intro c hm
    exact g2 c (List.mem_reverse.mp hm)
  · unfold trim
    cases hB : (trimL (trimL cs).reverse).reverse with
    | nil => trivial
    | cons c r =>
      rw [hB] at hA
      rw [hA] at h3
      exact h3
  · unfold trim
    rw [List.reverse_reverse]
    exact g3

/-- **Number() on a decimal literal**: if the trimmed string is an optional sign followed by a well-formed
StrUnsignedDecimalLiteral, `parseNumber` returns the signed denotation of its digits and exponent. -/
theorem parseNumber_of_literal (s : List Char) (neg : Bool) (sg : List Char) (dt : DecText) (hw : dt.WF)
    (hsg : (sg = [] ∧ neg = false) ∨ (sg = ['+'] ∧ neg = false) ∨ (sg = ['-'] ∧ neg = true))
    (ht : trim s = sg ++ dt.text) :
    parseNumber s =
      denote neg (dt.I.map digitVal ++ dt.F.map digitVal) (dt.expValue - (dt.F.length : Nat)) := by
  obtain ⟨c, r, hc, hcd⟩ := decText_head dt hw []
  rw [List.append_nil] at hc
  have hne : (sg ++ dt.text).isEmpty = false := by rw [hc]; cases sg <;> simp
  obtain ⟨hrp, hss⟩ : radixPrefix (sg ++ dt.text) = none ∧ splitSign (sg ++ dt.text) = (neg, !sg.isEmpty, dt.text) := by
    rcases hsg with ⟨rfl, rfl⟩ | ⟨rfl, rfl⟩ | ⟨rfl, rfl⟩
    · refine ⟨?_, ?_⟩
      · -- a radix prefix would stop the decimal scanner inside the text, which `scanDec_longest` excludes
        cases hp : radixPrefix ([] ++ dt.text) with
        | none => rfl
        | some Rr =>
          obtain ⟨l, hl, hne⟩ := scanDec_of_radixPrefix (R := Rr.1) (r := Rr.2) hp
          rw [List.nil_append, scanDec_text dt hw, Option.some.injEq] at hl
          exact absurd (hl ▸ rfl) hne
      · simp only [List.nil_append]
        rw [hc]
        have h1 : c ≠ '-' := head_ne hcd (by decide) (by decide)
        have h2 : c ≠ '+' := head_ne hcd (by decide) (by decide)
        unfold splitSign
        split
        · rename_i heq; injection heq with h' _; exact absurd h' h1
        · rename_i heq; injection heq with h' _; exact absurd h' h2
        · rfl
    · rw [hc]; exact ⟨rfl, rfl⟩
    · rw [hc]; exact ⟨rfl, rfl⟩
  unfold parseNumber
  simp only [ht, hne, Bool.false_eq_true, if_false, hrp, hss]
  exact decimalBody_of_grammar neg dt hw

/-- **Number() on `0x…` / `0o…` / `0b…`**: prefix, then one or more digits of the radix, denotes the integer. -/
theorem parseNumber_of_radix_literal (s : List Char) (x : Char) (R : Nat) (r : List Char)
    (hx : radixPrefix ('0' :: x :: r) = some (R, r)) (hne : r ≠ []) (hd : ∀ c ∈ r, digitVal c < R)
    (ht : trim s = '0' :: x :: r) :
    parseNumber s = denoteInt false R (r.map digitVal) := by
  unfold parseNumber
  simp only [ht, List.isEmpty_cons, Bool.false_eq_true, if_false, hx]
  exact (nonDecimal_spec R r).1 ⟨hne, hd⟩

/-- The integer part printed by `toString(radix)` (positional digits) denotes the integer part, in every radix. -/
theorem radix_int_digits_value (r n : Nat) : natOfDigits r (radixDigits r n) = n := radixDigits_value r n

/-- The initial state `FToBaseStr` computes from the exponent field (`s2`, power-of-two special case, `b = df·2^s2`)
represents the double: fraction part and half-gaps to both neighbours — for every finite non-integer double. -/
theorem radix_init_represents (f : F64) (hR : f.mag % scale ≠ 0) : InitRel f (fracInit f) := fracInit_rel f hR

/-- **toString(radix) parses back for EVERY finite double and every radix** (transcription of `FToBaseStr`; the
driver checks on every run that the transcription prints exactly goja's string).  Proviso: the loop finishes within
the fuel (termination not proved). -/
theorem radix_mechanism_sound (fuel : Nat) (f : F64) (r : Nat) (hr : 0 < r) (hfin : f.exp < 2047)
    (ipd fd : List Nat) (h : toBaseDigitsFuel fuel f r = (ipd, some fd)) :
    isNearestMag (natOfDigits r (ipd ++ fd)) (r ^ fd.length) f.ord = true :=
  toBaseStr_sound fuel f r hr hfin ipd fd h

/-- The value of a double is strictly increasing in the ordered bit pattern. -/
theorem value_strictMono {j k : Nat} (h : j < k) : magOrd j < magOrd k := magOrd_strictMono h

/-- **Property-level claim (partial).**  The statement packages three of the theorems above, each without its tie
clause: what `isNearestMag` accepts is a nearest grid point (`isNearest_sound`); what `isShortest` accepts parses back
and no decimal with fewer digits does (`shortest_sound`); what `isFixed` accepts is a closest integer (`fixed_sound`).
`_partial` for ONE reason: universality over all 2^64 inputs × digit counts × radices × strings is SAMPLED by the
correspondence run, not proved — there is no model of goja's dtoa/Grisu digit generators; a checker certifies only the
outputs it is run on. -/
theorem dtoa_certified_partial :
    (∀ n d k, isNearestMag n d k = true → ∀ j, j ≤ infOrd →
        absDiff (n * scale) (magOrd k * d) ≤ absDiff (n * scale) (magOrd j * d)) ∧
    (∀ o s k c, isShortest o s k c = true →
        roundsTo s c o = true ∧ ∀ (s' : Nat) (c' : Int), 0 < s' → s' < 10 ^ (k - 1) → roundsTo s' c' o = false) ∧
    (∀ X fd N, isFixed X fd N = true → ∀ N' : Nat,
        absDiff (N * scale) (X * 10 ^ fd) ≤ absDiff (N' * scale) (X * 10 ^ fd)) :=
  ⟨fun n d k h j hj => (isNearest_sound n d k h j hj).1,
   fun o s k c h => ⟨(shortest_sound o s k c h).1, (shortest_sound o s k c h).2.2.2⟩,
   fun X fd N h N' => (fixed_sound X fd N h N').1⟩

section NonVacuity
set_option exponentiation.threshold 3000
-- 0.1 = 0x3FB999999999999A: 1/10 rounds to it, "1" with exponent −1 is its shortest digit string
example : isNearestMag 1 10 (F64.ofBits 0x3FB999999999999A).ord = true := by decide
example : isNearestMag 1 10 (F64.ofBits 0x3FB999999999999B).ord = false := by decide
example : isShortest (F64.ofBits 0x3FB999999999999A).ord 1 1 (-1) = true := by decide
-- 2^53 + 1 is a tie between 2^53 (even) and 2^53 + 2 (odd): only the even one is accepted
example : isNearestMag 9007199254740993 1 (F64.ofBits 0x4340000000000000).ord = true := by decide
example : isNearestMag 9007199254740993 1 (F64.ofBits 0x4340000000000001).ord = false := by decide
-- overflow threshold 2^1024 − 2^970 rounds to +Infinity, one less does not
example : isNearestMag (2 ^ 1024 - 2 ^ 970) 1 infOrd = true := by decide
example : isNearestMag (2 ^ 1024 - 2 ^ 970 - 1) 1 infOrd = false := by decide
-- 5e-324 is a shortest form of the smallest subnormal (4e-324 parses back too; choosing among them is `isClosest`'s part)
example : isShortest 1 5 1 (-324) = true := by decide
-- (2.5).toFixed(0) is "3" (tie → larger), not "2"
example : isFixed (F64.ofBits 0x4004000000000000).mag 0 3 = true := by decide
example : isFixed (F64.ofBits 0x4004000000000000).mag 0 2 = false := by decide
-- (2.5).toExponential(0) is "3e+0"
example : isExp (F64.ofBits 0x4004000000000000).mag 0 3 0 = true := by decide
example : isExp (F64.ofBits 0x4004000000000000).mag 0 2 0 = false := by decide
end NonVacuity

end GojaModel.C12
