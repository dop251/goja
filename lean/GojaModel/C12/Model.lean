/-
  C12 model: number <-> string conversions.  Core Lean only (linked into the exe `model_c12`).

  There is NO model of the dtoa / Grisu digit generators of /repo/ftoa here.  This file defines
    * a minimal IEEE-754 binary64 (`F64`: sign, biased exponent, fraction, with bounds; bit codec),
      its exact value as a dyadic rational `magOrd (ord f) / 2^1074`,
    * CERTIFYING CHECKERS over exact Nat arithmetic (`isNearestMag`, `isShortest`, `isFixed`, `isExp`, …) that
      accept or reject an (input, output) pair produced by the real implementation,
    * the ECMA-262 text layer (grammar of StringNumericLiteral / parseFloat / parseInt / NumericLiteral,
      the layout rules of Number::toString, toFixed, toExponential, toPrecision) as executable definitions.
  `Props.lean` proves that whatever the checkers accept satisfies the spec-level statement (for ALL competitors,
  not sampled).  The driver runs the checkers on goja's actual outputs.
-/
namespace GojaModel.C12

/-! ## binary64 -/

structure F64 where
  neg : Bool
  exp : Nat
  man : Nat
  hexp : exp < 2048
  hman : man < 2 ^ 52

namespace F64

def ofBits (b : Nat) : F64 :=
  { neg := (b / 2 ^ 63) % 2 == 1
    exp := (b / 2 ^ 52) % 2048
    man := b % 2 ^ 52
    hexp := Nat.mod_lt _ (by decide)
    hman := Nat.mod_lt _ (Nat.two_pow_pos 52) }

def toBits (f : F64) : Nat := (if f.neg then 2 ^ 63 else 0) + f.exp * 2 ^ 52 + f.man

/-- Position in the ordered sequence of non-negative doubles: 0, minSubnormal, …, maxFinite, +Inf, NaNs. -/
def ord (f : F64) : Nat := f.exp * 2 ^ 52 + f.man

def isNaN (f : F64) : Bool := f.exp == 2047 && f.man != 0
def isInf (f : F64) : Bool := f.exp == 2047 && f.man == 0
def isFinite (f : F64) : Bool := f.exp < 2047
def isZero (f : F64) : Bool := f.exp == 0 && f.man == 0

end F64

/-- Ordinal of +Infinity (= number of finite non-negative doubles). -/
def infOrd : Nat := 2047 * 2 ^ 52

/-- Every finite double is an integer multiple of 2^-1074. -/
def scale : Nat := 2 ^ 1074

/-- `magOrd k / scale` is the exact magnitude of the k-th non-negative double.  For `k = infOrd` the same
formula gives 2^1024 (the value "one binade above maxFinite" that IEEE uses to define overflow). -/
def magOrd (k : Nat) : Nat :=
  if k < 2 ^ 52 then k else (2 ^ 52 + k % 2 ^ 52) * 2 ^ (k / 2 ^ 52 - 1)

/-- Exact magnitude numerator of a finite double (denominator `scale`). -/
def F64.mag (f : F64) : Nat := magOrd f.ord

/-! ## checker 1: round-to-nearest, ties-to-even (IEEE 754 roundTiesToEven, incl. overflow and subnormals)

`n / d` is a non-negative rational; `k` the ordinal of the magnitude of the claimed result. -/

def lowerOK (n d k : Nat) : Bool :=
  k == 0 ||
    (let l := 2 * n * scale
     let r := (magOrd (k - 1) + magOrd k) * d
     decide (r < l) || (r == l && k % 2 == 0))

def upperOK (n d k : Nat) : Bool :=
  k == infOrd ||
    (let l := 2 * n * scale
     let r := (magOrd k + magOrd (k + 1)) * d
     decide (l < r) || (l == r && k % 2 == 0))

def isNearestMag (n d k : Nat) : Bool :=
  decide (0 < d) && decide (k ≤ infOrd) && lowerOK n d k && upperOK n d k

/-! ### the rounding FUNCTION (rational → ordinal of the nearest double, ties to even)

`lowerOK n d k` is true for small `k` and false for large `k`; the nearest double is the greatest `k ≤ infOrd` for
which it is true.  Found by bisection (64 steps suffice: `infOrd + 1 ≤ 2^64`).  `roundOrd_isNearest` (Props.lean) proves that
the result satisfies the acceptance predicate, `roundOrd_complete` that nothing else does. -/

def bisect (n d : Nat) : Nat → Nat → Nat → Nat
  | 0, lo, _ => lo
  | fuel + 1, lo, hi =>
    if hi ≤ lo + 1 then lo else
    let mid := (lo + hi) / 2
    if lowerOK n d mid then bisect n d fuel mid hi else bisect n d fuel lo mid

def roundOrd (n d : Nat) : Nat := bisect n d 64 0 (infOrd + 1)

/-- Signed version: `q = (-1)^neg * n/d` rounds to `f` (sign of zero results follows the sign of the text). -/
def isNearest (neg : Bool) (n d : Nat) (f : F64) : Bool :=
  (f.neg == neg) && !f.isNaN && isNearestMag n d f.ord

/-! ## decimal values  s × 10^c  as Nat fractions -/

def decNum (s : Nat) (c : Int) : Nat := s * 10 ^ c.toNat
def decDen (c : Int) : Nat := 10 ^ (-c).toNat

/-- `s × 10^c` rounds to the double with ordinal `o`. -/
def roundsTo (s : Nat) (c : Int) (o : Nat) : Bool := isNearestMag (decNum s c) (decDen c) o

/-! ## checker 2: shortest round-trip digits (ECMA-262 Number::toString step 5)

`o` ordinal of |x| (finite, non-zero), `s` the digits as a number, `k` their count, `c = n - k` the exponent of
the last digit (value `s × 10^c`). -/

def isShortest (o s k : Nat) (c : Int) : Bool :=
  decide (1 ≤ k) && decide (10 ^ (k - 1) ≤ s) && decide (s < 10 ^ k) && roundsTo s c o &&
    (k == 1 ||
      (!lowerOK (decNum (s / 10) (c + 1)) (decDen (c + 1)) o &&
       !upperOK (decNum (s / 10 + 1) (c + 1)) (decDen (c + 1)) o))

def absDiff (a b : Nat) : Nat := (a - b) + (b - a)

/-- Scaled distance between the decimal `s × 10^c` and the double with ordinal `o`
(`|s·10^c − x| · decDen c · scale`). -/
def distTo (o s : Nat) (c : Int) : Nat := absDiff (decNum s c * scale) (magOrd o * decDen c)

/-- "If there are multiple possibilities for s, choose the value of s for which s × 10^(n−k) is closest in value
to x" (ECMA-262 Number::toString, note 2 — a recommendation; Gay's and Grisu's shortest modes both implement it).
Only decimals that parse back to x compete.  The neighbours `s ± 1` on the same grid are either outside the
rounding interval or not closer; when `s = 10^(k−1)` the neighbour below is on the ten times finer grid of the
decade below: t = (10^k − 1) × 10^(c−1), compared with v = (10·s) × 10^(c−1). -/
def isClosest (o s k : Nat) (c : Int) : Bool :=
  (!roundsTo (s + 1) c o || decide (distTo o s c ≤ distTo o (s + 1) c)) &&
  (if 10 ^ (k - 1) < s then
     !roundsTo (s - 1) c o || decide (distTo o s c ≤ distTo o (s - 1) c)
   else
     !roundsTo (10 ^ k - 1) (c - 1) o ||
       decide (distTo o (10 * s) (c - 1) ≤ distTo o (10 ^ k - 1) (c - 1)))

/-! ## checker 3: toFixed (ECMA-262 Number.prototype.toFixed step 9.a:
"Let n be an integer for which n / 10^f − x is as close to zero as possible. If there are two such n, pick the
larger n.")   `X / scale = |x|`. -/

def isFixed (X fd N : Nat) : Bool :=
  let p := N * scale
  let q := X * 10 ^ fd
  if q ≤ p then decide (2 * (p - q) ≤ scale) else decide (2 * (q - p) < scale)

/-! ## checker 4: toExponential / toPrecision digit selection (toExponential step 10.b / toPrecision step 10.a:
"Let e and n be integers such that 10^f ≤ n < 10^(f+1) and for which n × 10^(e−f) − x is as close to zero as
possible. If there are two such sets of e and n, pick the e and n for which n × 10^(e−f) is larger.")
`c = e − f`. -/

def isExp (X fd n : Nat) (c : Int) : Bool :=
  let un := 10 ^ c.toNat
  let vd := decDen c
  let p := n * un * scale       -- v·vd·scale
  let q := X * vd               -- x·vd·scale
  decide (10 ^ fd ≤ n) && decide (n < 10 ^ (fd + 1)) &&
    (if q ≤ p then decide (2 * (p - q) ≤ un * scale) else decide (2 * (q - p) < un * scale)) &&
    -- the largest candidate of the decade below, (10^(f+1) − 1) × 10^(c−1), must not be strictly closer
    (decide (n ≠ 10 ^ fd) || decide (p ≤ q) ||
      decide (10 * p + (10 ^ (fd + 1) - 1) * un * scale ≤ 20 * q))

/-! ## text layer -/

def digitVal (c : Char) : Nat :=
  if '0' ≤ c ∧ c ≤ '9' then c.toNat - '0'.toNat
  else if 'a' ≤ c ∧ c ≤ 'z' then c.toNat - 'a'.toNat + 10
  else if 'A' ≤ c ∧ c ≤ 'Z' then c.toNat - 'A'.toNat + 10
  else 36

/-- Longest prefix of digits valid in radix `r`; returns (digit values, rest). -/
def takeDigits (r : Nat) : List Char → List Nat × List Char
  | [] => ([], [])
  | c :: cs =>
    if digitVal c < r then
      let (ds, rest) := takeDigits r cs
      (digitVal c :: ds, rest)
    else ([], c :: cs)

def natOfDigits (r : Nat) (ds : List Nat) : Nat := ds.foldl (fun a d => a * r + d) 0

def dropZeros : List Nat → List Nat
  | 0 :: ds => dropZeros ds
  | ds => ds

def dropTrailingZeros (ds : List Nat) : List Nat := (dropZeros ds.reverse).reverse

def digitChar (d : Nat) : Char :=
  if d < 10 then Char.ofNat ('0'.toNat + d) else Char.ofNat ('a'.toNat + (d - 10))

def digitsStr (ds : List Nat) : List Char := ds.map digitChar

def decDigitsAux : Nat → Nat → List Nat → List Nat
  | 0, n, acc => n :: acc
  | fuel + 1, n, acc => if n < 10 then n :: acc else decDigitsAux fuel (n / 10) (n % 10 :: acc)

/-- Decimal digits of a Nat, most significant first (`0 ↦ [0]`). -/
def natDigits (n : Nat) : List Nat := decDigitsAux n n []

/-- Scanned decimal literal:  intDigits [. fracDigits] [e [+-] expDigits]. -/
structure DecLit where
  int : List Nat
  frac : List Nat
  hasDot : Bool
  exp : Int
  hasExp : Bool
  rest : List Char

/-- `[. fracDigits]` — returns (fraction digits, saw a dot, rest). -/
def scanFrac (r1 : List Char) : List Nat × Bool × List Char :=
  match r1 with
  | '.' :: r => ((takeDigits 10 r).1, true, (takeDigits 10 r).2)
  | _ => ([], false, r1)

def scanSign (r : List Char) : Int × List Char :=
  match r with
  | '+' :: r' => (1, r')
  | '-' :: r' => (-1, r')
  | _ => (1, r)

/-- `[e [+-] expDigits]` — consumed only when complete; returns (exponent, saw an exponent, rest). -/
def scanExp (r2 : List Char) : Int × Bool × List Char :=
  match r2 with
  | c :: r =>
    if c == 'e' || c == 'E' then
      let sr := scanSign r
      let t := takeDigits 10 sr.2
      if t.1.isEmpty then (0, false, r2) else (sr.1 * ((natOfDigits 10 t.1 : Nat) : Int), true, t.2)
    else (0, false, r2)
  | [] => (0, false, r2)

/-- StrUnsignedDecimalLiteral as a longest-prefix scanner (the exponent part is consumed only when complete).
`none` when there is no digit at all ("5." : the dot is part of the literal; "." alone is not a literal). -/
def scanDec (cs : List Char) : Option DecLit :=
  let t := takeDigits 10 cs
  let f := scanFrac t.2
  if t.1.isEmpty && f.1.isEmpty then none else
  let e := scanExp f.2.2
  some { int := t.1, frac := f.1, hasDot := f.2.1, exp := e.1, hasExp := e.2.1, rest := e.2.2 }

/-- What a piece of numeric text denotes. `huge`/`tiny`: non-zero magnitude ≥ 10^400 / < 10^-400 (far outside
the double range; not expanded to avoid astronomically large powers). -/
inductive Parsed where
  | nan
  | inf (neg : Bool)
  | zero (neg : Bool)
  | huge (neg : Bool)
  | tiny (neg : Bool)
  | rat (neg : Bool) (n d : Nat)

/-- The value of all digits `ds` (most significant first) times 10^e. -/
def denote (neg : Bool) (ds : List Nat) (e : Int) : Parsed :=
  let sig := dropZeros ds
  if sig.isEmpty then .zero neg else
  let p : Int := (sig.length : Nat) + e          -- value ∈ [10^(p-1), 10^p)
  if p > 400 then .huge neg
  else if p < -400 then .tiny neg
  else
    let t := dropTrailingZeros sig
    let e' : Int := e + ((sig.length - t.length : Nat) : Int)
    .rat neg (decNum (natOfDigits 10 t) e') (decDen e')

def DecLit.denote (neg : Bool) (l : DecLit) : Parsed :=
  GojaModel.C12.denote neg (l.int ++ l.frac) (l.exp - (l.frac.length : Nat))

/-- ECMA-262 StrWhiteSpaceChar: WhiteSpace (TAB, VT, FF, ZWNBSP and the Unicode category Zs: SP, NBSP, U+1680,
U+2000–U+200A, U+202F, U+205F, U+3000) and LineTerminator (LF, CR, LS, PS).  U+0085, U+180E, U+200B are not. -/
def isWhite (c : Char) : Bool :=
  let n := c.toNat
  n == 0x09 || n == 0x0a || n == 0x0b || n == 0x0c || n == 0x0d || n == 0x20 || n == 0xa0 || n == 0x1680 ||
  (0x2000 ≤ n && n ≤ 0x200a) || n == 0x2028 || n == 0x2029 || n == 0x202f || n == 0x205f || n == 0x3000 ||
  n == 0xfeff

def trimL : List Char → List Char
  | c :: cs => if isWhite c then trimL cs else c :: cs
  | [] => []

def trim (cs : List Char) : List Char := (trimL (trimL cs).reverse).reverse

def splitSign : List Char → Bool × Bool × List Char     -- (negative, had a sign, rest)
  | '-' :: r => (true, true, r)
  | '+' :: r => (false, true, r)
  | r => (false, false, r)

def infinityChars : List Char := "Infinity".toList

/-- Integer literal digits in radix r denote the integer exactly. -/
def denoteInt (neg : Bool) (r : Nat) (ds : List Nat) : Parsed :=
  let n := natOfDigits r ds
  if n == 0 then .zero neg else .rat neg n 1

/-- `0x` / `0o` / `0b` prefix (either case): the radix and what follows. -/
def radixPrefix : List Char → Option (Nat × List Char)
  | '0' :: x :: r =>
    if x == 'x' || x == 'X' then some (16, r)
    else if x == 'o' || x == 'O' then some (8, r)
    else if x == 'b' || x == 'B' then some (2, r)
    else none
  | _ => none

/-- NonDecimalIntegerLiteral after its prefix: one or more digits of the radix and nothing else. -/
def parseNonDecimal (radix : Nat) (r : List Char) : Parsed :=
  if (takeDigits radix r).1.isEmpty || !(takeDigits radix r).2.isEmpty then .nan
  else denoteInt false radix (takeDigits radix r).1

/-- StrDecimalLiteral body (sign already removed) that must match completely: `Infinity` or a
StrUnsignedDecimalLiteral. -/
def parseDecimalBody (neg : Bool) (body : List Char) : Parsed :=
  if body == infinityChars then .inf neg else
  match scanDec body with
  | none => .nan
  | some l => if l.rest.isEmpty then l.denote neg else .nan

/-- ECMA-262 StringToNumber (StringNumericLiteral grammar, after trimming). -/
def parseNumber (s : List Char) : Parsed :=
  let t := trim s
  if t.isEmpty then .zero false else
  match radixPrefix t with
  | some (radix, r) => parseNonDecimal radix r      -- NonDecimalIntegerLiteral (no sign allowed)
  | none => parseDecimalBody (splitSign t).1 (splitSign t).2.2

/-- The longest prefix of `body` that is `Infinity` or a StrUnsignedDecimalLiteral. -/
def parseFloatBody (neg : Bool) (body : List Char) : Parsed :=
  if infinityChars.isPrefixOf body then .inf neg else
  match scanDec body with
  | none => .nan
  | some l => l.denote neg

/-- parseFloat: longest prefix of the left-trimmed string that is a StrDecimalLiteral. -/
def parseFloatSpec (s : List Char) : Parsed :=
  parseFloatBody (splitSign (trimL s)).1 (splitSign (trimL s)).2.2

/-- parseInt steps 8–10: the radix actually used and the text after an optional `0x`. -/
def parseIntRadix (radix : Int) (body : List Char) : Nat × List Char :=
  let r0 : Nat := if radix == 0 then 10 else radix.toNat
  match (radix == 0 || radix == 16), body with
  | true, '0' :: x :: rest => if x == 'x' || x == 'X' then (16, rest) else (r0, body)
  | _, _ => (r0, body)

/-- parseInt steps 11–16: the longest prefix of radix-R digits; none at all gives NaN. -/
def parseIntDigits (neg : Bool) (R : Nat) (body : List Char) : Parsed :=
  if (takeDigits R body).1.isEmpty then .nan else denoteInt neg R (takeDigits R body).1

/-- parseInt(string, radix) with `radix` already ToInt32'ed. -/
def parseIntSpec (s : List Char) (radix : Int) : Parsed :=
  if radix ≠ 0 ∧ (radix < 2 ∨ radix > 36) then .nan else
  let sb := splitSign (trimL s)
  let rb := parseIntRadix radix sb.2.2
  parseIntDigits sb.1 rb.1 rb.2

/-- NumericLiteral of the source grammar (no sign, no separators, no BigInt suffix, no legacy octal). -/
def parseLiteral (s : List Char) : Parsed :=
  match radixPrefix s with
  | some (radix, r) => parseNonDecimal radix r
  | none =>
    match scanDec s with
    | some l => if l.rest.isEmpty then l.denote false else .nan
    | none => .nan

/-- Does the double `f` agree with what the text denotes?  `zeroSignFree`: accept either sign of a zero result. -/
def Parsed.accepts (p : Parsed) (f : F64) (zeroSignFree : Bool := false) : Bool :=
  match p with
  | .nan => f.isNaN
  | .inf neg => f.isInf && f.neg == neg
  | .zero neg => f.isZero && (zeroSignFree || f.neg == neg)
  | .huge neg => f.isInf && f.neg == neg
  | .tiny neg => f.isZero && (zeroSignFree || f.neg == neg)
  | .rat neg n d =>
    if f.isZero && zeroSignFree then isNearestMag n d 0 else isNearest neg n d f

/-- The bit pattern the text must convert to, computed with the proved rounding function (`none` for NaN, whose
payload is free). -/
def Parsed.expectedBits : Parsed → Option Nat
  | .nan => none
  | .inf neg => some ((if neg then 2 ^ 63 else 0) + infOrd)
  | .zero neg => some (if neg then 2 ^ 63 else 0)
  | .huge neg => some ((if neg then 2 ^ 63 else 0) + infOrd)
  | .tiny neg => some (if neg then 2 ^ 63 else 0)
  | .rat neg n d => some ((if neg then 2 ^ 63 else 0) + roundOrd n d)

/-! ### layout rules -/

def zeros (n : Nat) : List Char := List.replicate n '0'

def expSuffix (e : Int) : List Char :=
  'e' :: (if e < 0 then '-' else '+') :: digitsStr (natDigits e.natAbs)

/-- `d[.ddd]e±E` for digits `ds` and decimal point position `n` (value = 0.ds × 10^n). -/
def expFormat (ds : List Nat) (n : Int) : List Char :=
  match ds with
  | [] => []
  | [d] => digitChar d :: expSuffix (n - 1)
  | d :: rest => digitChar d :: '.' :: (digitsStr rest ++ expSuffix (n - 1))

/-- ECMA-262 Number::toString(x, 10) steps 6–10 for the digits `ds` (k = length) and point position `n`. -/
def ecmaFormat (ds : List Nat) (n : Int) : List Char :=
  let k : Int := (ds.length : Nat)
  if k ≤ n ∧ n ≤ 21 then digitsStr ds ++ zeros (n - k).toNat
  else if 0 < n ∧ n ≤ 21 then digitsStr (ds.take n.toNat) ++ '.' :: digitsStr (ds.drop n.toNat)
  else if -6 < n ∧ n ≤ 0 then '0' :: '.' :: (zeros (-n).toNat ++ digitsStr ds)
  else expFormat ds n

/-- toFixed layout: `N` with `fd` digits after the point. -/
def fixedFormat (N fd : Nat) : List Char :=
  let ds := natDigits N
  let ds := List.replicate (fd + 1 - ds.length) 0 ++ ds
  let ip := ds.take (ds.length - fd)
  if fd == 0 then digitsStr ip else digitsStr ip ++ '.' :: digitsStr (ds.drop (ds.length - fd))

/-- toPrecision layout (steps 10.c–13): `ds` has exactly `p` digits, `e` the exponent of the first digit. -/
def precFormat (ds : List Nat) (e : Int) (p : Nat) : List Char :=
  if e < -6 ∨ e ≥ (p : Int) then expFormat ds (e + 1)
  else if e = (p : Int) - 1 then digitsStr ds
  else if e ≥ 0 then digitsStr (ds.take (e.toNat + 1)) ++ '.' :: digitsStr (ds.drop (e.toNat + 1))
  else '0' :: '.' :: (zeros (-(e + 1)).toNat ++ digitsStr ds)

/-- Read a decimal text produced by a formatter back into (all significant digits incl. trailing zeros, with
leading zeros removed; point position n such that value = 0.d1d2… × 10^n).  `none` if the text is not
a complete unsigned decimal literal or is zero. -/
def readDigits (body : List Char) : Option (List Nat × Int) :=
  match scanDec body with
  | none => none
  | some l =>
    if !l.rest.isEmpty then none else
    let all := l.int ++ l.frac
    let sig := dropZeros all
    if sig.isEmpty then none else
    -- value = all × 10^(exp − |frac|) = 0.sig × 10^(|sig| + exp − |frac|)
    some (sig, (sig.length : Nat) + l.exp - (l.frac.length : Nat))

end GojaModel.C12
