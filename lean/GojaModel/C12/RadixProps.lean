/-
  C12: the mechanism model of `ftoa.FToBaseStr` (Radix.lean) is correct for EVERY finite double and radix:
  what it prints parses back to the double (`toBaseStr_sound`).  The loop invariant has the postcondition "printed within the
  half-gaps of the true fraction" (`fracLoop_within`), which `within_core` turns into membership in the rounding interval; the
  initial state computed from the exponent field represents the double (`fracInit_rel`) by the gap structure of the double grid
  (Interval.lean).  The positional digits of the integer part are in Digits.lean.  Core Lean only.
-/
import GojaModel.C12.Interval
import GojaModel.C12.Digits

namespace GojaModel.C12

/-- A fraction `F/P` printed within `mlo0/s` below and `mhi0/s` above the true fraction `b0/s` lies in the rounding
interval of the double.  All quantities scaled; see `InitRel` for their meaning.  Multiplied by
`s`, the lower end of the interval, the printed value and the upper end differ by `2·sc·(F·s + mlo0·P)`, `2·sc·b0·P`
and `2·sc·(b0·P + mhi0·P)`, `2·sc·F·s` (the identities `lo`, `hi`). -/
theorem within_core {P X ip R A C gapLo gapHi sc s b0 mlo0 mhi0 F : Nat} {tie : Prop}
    (hX : X = ip * sc + R) (hA : A + gapLo = X) (hC : X + gapHi = C)
    (hb : b0 * sc = R * s) (hlo : mlo0 * (2 * sc) = gapLo * s) (hhi : mhi0 * (2 * sc) = gapHi * s)
    (hs : 0 < s) (hsc : 0 < sc)
    (hL : TieLt tie (b0 * P) (F * s + mlo0 * P)) (hU : TieLt tie (F * s) (b0 * P + mhi0 * P)) :
    TieLt tie ((A + X) * P) (2 * (ip * P + F) * sc) ∧ TieLt tie (2 * (ip * P + F) * sc) ((X + C) * P) := by
  have lo : (A + X) * P * s + 2 * sc * (F * s + mlo0 * P) = 2 * (ip * P + F) * sc * s + 2 * sc * (b0 * P) := by
    grind
  have hi : 2 * (ip * P + F) * sc * s + 2 * sc * (b0 * P + mhi0 * P) = (X + C) * P * s + 2 * sc * (F * s) := by
    grind
  have h2sc : 0 < 2 * sc := Nat.mul_pos (by decide) hsc
  exact ⟨hL.of_shift h2sc hs lo, hU.of_shift h2sc hs hi⟩

/-- The branch conditions of ftobasestr.go:120-150 turned into arithmetic facts: the last digit is the quotient with the
remainder within `mlo` (kept, `D = 0`), or the quotient plus one with the overshoot within `mhi` (bumped, `D = 1`). -/
theorem fracStep_spec (r : Nat) (even : Bool) (st : FracState) (hs : 0 < st.s) (hmlo : 0 < st.mlo * r) :
    ∃ dgt dn, fracStep r even st =
        (dgt, dn, { b := st.b * r % st.s, s := st.s, mlo := st.mlo * r, mhi := st.mhi * r }) ∧
    (dn = false → dgt = st.b * r / st.s) ∧
    (dn = true → ∃ D, dgt = st.b * r / st.s + D ∧
      ((D = 0 ∧ TieLt (even = true) (st.b * r % st.s) (st.mlo * r)) ∨
       (D = 1 ∧ TieLt (even = true) st.s (st.b * r % st.s + st.mhi * r)))) := by
  have hb' : st.b * r % st.s < st.s := Nat.mod_lt _ hs
  unfold fracStep
  simp only []
  generalize st.b * r % st.s = b' at *
  generalize st.b * r / st.s = dg at *
  generalize st.mlo * r = mlo' at *
  generalize st.mhi * r = mhi' at *
  generalize st.s = s at *
  by_cases h1 : (decide (mhi' < s) && (b' == s - mhi') && even) = true
  · -- `j1 == 0 && even`: `b' + mhi' = s`
    rw [if_pos h1]
    simp only [Bool.and_eq_true, decide_eq_true_eq, beq_iff_eq] at h1
    refine ⟨_, _, rfl, fun h => Bool.noConfusion h, fun _ => ?_⟩
    by_cases hm : mlo' < b'
    · rw [if_pos hm]; exact ⟨1, rfl, Or.inr ⟨rfl, Or.inr ⟨by omega, h1.2⟩⟩⟩
    · rw [if_neg hm]
      exact ⟨0, rfl, Or.inl ⟨rfl, by by_cases he : b' = mlo'; exact Or.inr ⟨he, h1.2⟩; exact Or.inl (by omega)⟩⟩
  · rw [if_neg h1]
    by_cases h2 : (decide (b' < mlo') || (b' == mlo' && even)) = true
    · -- `j < 0 || (j == 0 && even)`
      rw [if_pos h2]
      simp only [Bool.or_eq_true, Bool.and_eq_true, decide_eq_true_eq, beq_iff_eq] at h2
      refine ⟨_, _, rfl, fun h => Bool.noConfusion h, fun _ => ?_⟩
      by_cases h3 : ((decide (s ≤ mhi') || decide (s - mhi' < b')) && decide (s < 2 * b')) = true
      · rw [if_pos h3]
        simp only [Bool.or_eq_true, Bool.and_eq_true, decide_eq_true_eq] at h3
        exact ⟨1, rfl, Or.inr ⟨rfl, Or.inl (by omega)⟩⟩
      · rw [if_neg h3]; exact ⟨0, rfl, Or.inl ⟨rfl, h2⟩⟩
    · rw [if_neg h2]
      simp only [Bool.or_eq_true, decide_eq_true_eq] at h2
      have : ¬ b' < mlo' := fun h => h2 (Or.inl h)
      by_cases h3 : (decide (s ≤ mhi') || decide (s - mhi' < b')) = true
      · -- `j1 > 0`
        rw [if_pos h3]
        simp only [Bool.or_eq_true, decide_eq_true_eq] at h3
        exact ⟨_, _, rfl, fun h => Bool.noConfusion h, fun _ => ⟨1, rfl, Or.inr ⟨rfl, Or.inl (by omega)⟩⟩⟩
      · rw [if_neg h3]; exact ⟨_, _, rfl, fun _ => rfl, fun h => Bool.noConfusion h⟩

theorem exit_within {T b' s ml mh D : Nat} {e : Prop} (hb : b' < s) (hml : 0 < ml) (hmh : 0 < mh)
    (hfin : (D = 0 ∧ TieLt e b' ml) ∨ (D = 1 ∧ TieLt e s (b' + mh))) :
    TieLt e (T + b') (T + D * s + ml) ∧ TieLt e (T + D * s) (T + b' + mh) := by
  rcases hfin with ⟨rfl, hc⟩ | ⟨rfl, hc⟩
  · exact ⟨hc.mono (by omega) (by omega), .of_lt (by omega)⟩
  · exact ⟨.of_lt (by omega), hc.mono (by omega) (by omega)⟩

theorem fracLoop_within (r : Nat) (hr : 0 < r) (even : Bool) (s b0 mlo0 mhi0 : Nat) (hs : 0 < s) (hmlo : 0 < mlo0)
    (hmhi : 0 < mhi0) :
    ∀ (fuel : Nat) (st : FracState) (acc out : List Nat),
      st.s = s → st.mlo = mlo0 * r ^ acc.length → st.mhi = mhi0 * r ^ acc.length → st.b < s →
      b0 * r ^ acc.length = natOfDigits r acc * s + st.b →
      fracLoop r even fuel st acc = some out →
      0 < out.length ∧
      TieLt (even = true) (b0 * r ^ out.length) (natOfDigits r out * s + mlo0 * r ^ out.length) ∧
      TieLt (even = true) (natOfDigits r out * s) (b0 * r ^ out.length + mhi0 * r ^ out.length) := by
  intro fuel
  induction fuel with
  | zero => intro st acc out _ _ _ _ _ h; simp [fracLoop] at h
  | succ fuel ih =>
    intro st acc out hss hml hmh hb hinv h
    subst hss
    have hP : 0 < r ^ acc.length := Nat.pow_pos hr
    have hmlo' : 0 < st.mlo * r := by rw [hml]; exact Nat.mul_pos (Nat.mul_pos hmlo hP) hr
    have hmhi' : 0 < st.mhi * r := by rw [hmh]; exact Nat.mul_pos (Nat.mul_pos hmhi hP) hr
    obtain ⟨dgt, dn, hstep, sp2, sp3⟩ := fracStep_spec r even st hs hmlo'
    have hdm : st.b * r = st.b * r / st.s * st.s + st.b * r % st.s := (Nat.div_add_mod' _ _).symm
    have hbm : st.b * r % st.s < st.s := Nat.mod_lt _ hs
    have hinv' : b0 * r ^ (acc.length + 1) =
        (natOfDigits r acc * r + st.b * r / st.s) * st.s + st.b * r % st.s := by
      rw [Nat.pow_succ, ← Nat.mul_assoc, hinv, Nat.add_mul, Nat.add_mul, Nat.mul_right_comm]
      omega
    have hml' : st.mlo * r = mlo0 * r ^ (acc.length + 1) := by rw [hml, Nat.pow_succ, Nat.mul_assoc]
    have hmh' : st.mhi * r = mhi0 * r ^ (acc.length + 1) := by rw [hmh, Nat.pow_succ, Nat.mul_assoc]
    simp only [fracLoop, hstep] at h
    cases dn with
    | true =>
      simp only [if_true, Option.some.injEq] at h
      obtain ⟨D, hdig, hfin⟩ := sp3 rfl
      subst h
      -- `b0·P = T + b'` and `F·s = T + D·s` with `T` the quotient part of `hinv'`
      rw [List.length_append, List.length_singleton, natOfDigits_snoc, hdig, ← hml', ← hmh', hinv', ← Nat.add_assoc,
        Nat.add_mul _ D]
      exact ⟨Nat.succ_pos _, exit_within hbm hmlo' hmhi' hfin⟩
    | false =>
      simp only [Bool.false_eq_true, if_false] at h
      refine ih ⟨st.b * r % st.s, st.s, st.mlo * r, st.mhi * r⟩ (acc ++ [dgt]) out rfl ?_ ?_ hbm ?_ h
      · rw [List.length_append]; exact hml'
      · rw [List.length_append]; exact hmh'
      · rw [natOfDigits_snoc, sp2 rfl, List.length_append]; exact hinv'

theorem F64.pow_dvd_mag (f : F64) {j : Nat} (hj : j + 1 ≤ f.exp) : 2 ^ j ∣ f.mag := by
  have : f.mag = _ := magOrd_fields f.hman
  rw [this, if_neg (by omega), show f.exp - 1 = (f.exp - 1 - j) + j by omega, Nat.pow_add, ← Nat.mul_assoc]
  exact Nat.dvd_mul_left _ _

theorem mag_mod_scale_big (f : F64) (h : 1075 ≤ f.exp) : f.mag % scale = 0 :=
  Nat.mod_eq_zero_of_dvd (f.pow_dvd_mag (j := 1074) h)

theorem mag_frac_dvd (f : F64) {j : Nat} (hj : j + 1 ≤ f.exp) (hs : j ≤ 1074) : 2 ^ j ∣ f.mag % scale :=
  (Nat.dvd_mod_iff (Nat.pow_dvd_pow 2 hs)).mpr (f.pow_dvd_mag hj)

/-- The initial loop state represents the double: `b/s` is its fraction part, `mlo/s` and `mhi/s` are half the
distance to the previous and to the next double (all cross-multiplied, in units of `1/scale`). -/
def InitRel (f : F64) (st : FracState) : Prop :=
  st.b * scale = (f.mag % scale) * st.s ∧
  st.mlo * (2 * scale) = (magOrd f.ord - magOrd (f.ord - 1)) * st.s ∧
  st.mhi * (2 * scale) = (magOrd (f.ord + 1) - magOrd f.ord) * st.s ∧
  0 < st.s ∧ st.b < st.s ∧ 0 < st.mlo ∧ 0 < st.mhi

theorem ord_even_of_man_even (f : F64) (h : (f.man % 2 == 0) = true) : f.ord % 2 = 0 := by
  simp only [beq_iff_eq] at h
  unfold F64.ord
  have : f.exp * 2 ^ 52 = 2 * (f.exp * 2 ^ 51) := by rw [show (2:Nat) ^ 52 = 2 * 2 ^ 51 from by decide]; ac_rfl
  omega

theorem toBase_frac_sound_of_rel (f : F64) (r : Nat) (hr : 0 < r) (hfin : f.ord < infOrd)
    (st : FracState) (hrel : InitRel f st) (fuel : Nat) (fd ipd : List Nat)
    (h : fracLoop r (f.man % 2 == 0) fuel st [] = some fd) (hip : natOfDigits r ipd = f.mag / scale) :
    isNearestMag (natOfDigits r (ipd ++ fd)) (r ^ fd.length) f.ord = true := by
  obtain ⟨hb, hlo, hhi, hs, hbs, hmlo, hmhi⟩ := hrel
  obtain ⟨_, hL, hU⟩ := fracLoop_within r hr (f.man % 2 == 0) st.s st.b st.mlo st.mhi hs hmlo hmhi fuel st [] fd rfl
    (by simp) (by simp) hbs (by simp [natOfDigits]) h
  have hX : magOrd f.ord = f.mag / scale * scale + f.mag % scale := (Nat.div_add_mod' f.mag scale).symm
  have hA : magOrd (f.ord - 1) + (magOrd f.ord - magOrd (f.ord - 1)) = magOrd f.ord :=
    Nat.add_sub_cancel' (magOrd_mono (Nat.sub_le _ _))
  have hC : magOrd f.ord + (magOrd (f.ord + 1) - magOrd f.ord) = magOrd (f.ord + 1) :=
    Nat.add_sub_cancel' (magOrd_mono (Nat.le_succ _))
  obtain ⟨cl, cu⟩ := within_core hX hA hC hb hlo hhi hs scale_pos hL hU
  rw [natOfDigits_append, hip]
  exact isNearestMag_iff.mpr ⟨Nat.pow_pos hr, Nat.le_of_lt hfin,
    lowerOK_iff.mpr (Or.inr (cl.imp (ord_even_of_man_even f))), upperOK_iff.mpr (Or.inr (cu.imp (ord_even_of_man_even f)))⟩

theorem pow2_split (a b c : Nat) (h : a + b = c) : 2 ^ a * 2 ^ b = 2 ^ c := by
  rw [← Nat.pow_add, h]

theorem two_scale : 2 * scale = 2 ^ 1075 := by
  unfold scale
  rw [Nat.mul_comm]
  exact (Nat.pow_succ 2 1074).symm

theorem b_times_scale (R s2 : Nat) (hd : s2 < 1074 → 2 ^ (1074 - s2) ∣ R) :
    (if 1074 ≤ s2 then R * 2 ^ (s2 - 1074) else R / 2 ^ (1074 - s2)) * scale = R * 2 ^ s2 := by
  unfold scale
  split
  · rw [Nat.mul_assoc, pow2_split _ _ s2 (by omega)]
  · have hc := Nat.div_mul_cancel (hd (by omega))
    have e : (2:Nat) ^ 1074 = 2 ^ (1074 - s2) * 2 ^ s2 := (pow2_split _ _ 1074 (by omega)).symm
    rw [e, ← Nat.mul_assoc, hc]

theorem initRel_of (f : F64) (s2 gl gh em : Nat)
    (hgl : magOrd f.ord - magOrd (f.ord - 1) = 2 ^ gl) (hgh : magOrd (f.ord + 1) - magOrd f.ord = 2 ^ gh)
    (h1 : gl + s2 = 1075) (h2 : gh + s2 = em + 1075)
    (hd : s2 < 1074 → 2 ^ (1074 - s2) ∣ f.mag % scale) :
    InitRel f { b := (if 1074 ≤ s2 then f.mag % scale * 2 ^ (s2 - 1074) else f.mag % scale / 2 ^ (1074 - s2)),
                s := 2 ^ s2, mlo := 1, mhi := 2 ^ em } := by
  have hbS := b_times_scale (f.mag % scale) s2 hd
  have hlt : f.mag % scale < scale := Nat.mod_lt _ scale_pos
  refine ⟨hbS, ?_, ?_, Nat.pow_pos (by decide), ?_, Nat.one_pos, Nat.pow_pos (by decide)⟩
  · show 1 * (2 * scale) = (magOrd f.ord - magOrd (f.ord - 1)) * 2 ^ s2
    rw [hgl, two_scale, Nat.one_mul, pow2_split _ _ 1075 h1]
  · show 2 ^ em * (2 * scale) = (magOrd (f.ord + 1) - magOrd f.ord) * 2 ^ s2
    rw [hgh, two_scale, pow2_split _ _ _ h2, pow2_split _ _ _ rfl]
  · apply Nat.lt_of_mul_lt_mul_right (a := scale)
    rw [hbS, Nat.mul_comm (2 ^ s2)]
    exact Nat.mul_lt_mul_of_pos_right hlt (Nat.pow_pos (by decide))

theorem F64.ord_ne_zero (f : F64) (hR : f.mag % scale ≠ 0) : f.ord ≠ 0 := fun h0 => hR (by
  show magOrd f.ord % scale = 0
  rw [h0, magOrd_small (Nat.two_pow_pos 52)]; exact Nat.zero_mod _)

theorem F64.gap_above (f : F64) : magOrd (f.ord + 1) - magOrd f.ord = 2 ^ (f.exp - 1) := by
  have h : magOrd (f.ord + 1) = magOrd f.ord + 2 ^ (f.exp - 1) := magOrd_gap f.hman
  rw [h, Nat.add_sub_cancel_left]

/-- The gap below is the gap above, halved exactly in the case `FToBaseStr` singles out: fraction field 0 and
biased exponent ≥ 2 (below the smallest normal double the subnormals have the same spacing). -/
theorem F64.gap_below (f : F64) (h0 : f.ord ≠ 0) :
    magOrd f.ord - magOrd (f.ord - 1) = 2 ^ (if f.man = 0 ∧ 2 ≤ f.exp then f.exp - 2 else f.exp - 1) := by
  have h : magOrd f.ord = magOrd (f.ord - 1) + 2 ^ (if f.man = 0 then f.exp - 2 else f.exp - 1) :=
    magOrd_gap_below f.hman h0
  rw [h, Nat.add_sub_cancel_left]
  congr 1
  by_cases hm : f.man = 0
  · rw [if_pos hm]; split <;> omega
  · rw [if_neg hm, if_neg (fun h => hm h.1)]

theorem fracInit_rel (f : F64) (hR : f.mag % scale ≠ 0) : InitRel f (fracInit f) := by
  have hEle : f.exp ≤ 1074 := Nat.le_of_not_lt fun hc => hR (mag_mod_scale_big f hc)
  have gLo := f.gap_below (f.ord_ne_zero hR)
  clear hR
  unfold fracInit
  by_cases hsp : f.man = 0 ∧ 2 ≤ f.exp
  · -- power of two, E ≥ 2: s2 = 1077 − E, mlo = 1, mhi = 2
    have hspB : (f.man == 0 && decide (2 ≤ f.exp)) = true := by simp [hsp]
    have hsubB : (f.exp == 0) = false := by simp; omega
    simp only [hspB, hsubB, if_true, Bool.false_eq_true, if_false]
    rw [if_pos hsp] at gLo
    exact initRel_of f _ _ _ 1 gLo f.gap_above (by omega) (by omega)
      fun _ => mag_frac_dvd f (by omega) (by omega)
  · have hspB : (f.man == 0 && decide (2 ≤ f.exp)) = false := by simpa using hsp
    rw [if_neg hsp] at gLo
    by_cases hsub : f.exp = 0
    · -- subnormal: s2 = 1075, mlo = mhi = 1
      have hsubB : (f.exp == 0) = true := by simp [hsub]
      simp only [hspB, hsubB, if_true, Bool.false_eq_true, if_false]
      exact initRel_of f _ _ _ 0 gLo f.gap_above (by omega) (by omega) fun h => by omega
    · -- ordinary: s2 = 1076 − E, mlo = mhi = 1
      have hsubB : (f.exp == 0) = false := by simp [hsub]
      simp only [hspB, hsubB, Bool.false_eq_true, if_false]
      exact initRel_of f _ _ _ 0 gLo f.gap_above (by omega) (by omega)
        fun _ => mag_frac_dvd f (by omega) (by omega)

/-- The only proviso is that the loop finishes within the fuel (termination itself is not proved: for `fracLoop = none`
the theorem says nothing). -/
theorem toBaseStr_sound (fuel : Nat) (f : F64) (r : Nat) (hr : 0 < r) (hfin : f.exp < 2047) (ipd fd : List Nat)
    (h : toBaseDigitsFuel fuel f r = (ipd, some fd)) :
    isNearestMag (natOfDigits r (ipd ++ fd)) (r ^ fd.length) f.ord = true := by
  have hm := f.hman
  have hord : f.ord < infOrd := by unfold F64.ord infOrd; omega
  unfold toBaseDigitsFuel at h
  by_cases hR : f.mag % scale = 0
  · have hRb : (f.mag % scale == 0) = true := by rw [hR]; rfl
    rw [hRb] at h
    simp only [if_true, Prod.mk.injEq, Option.some.injEq] at h
    obtain ⟨h1, h2⟩ := h
    subst h1; subst h2
    rw [List.append_nil, List.length_nil, Nat.pow_zero]
    apply exact_isNearest _ _ hord
    rw [radixDigits_value]
    have := Nat.div_add_mod' f.mag scale
    rwa [hR, Nat.add_zero] at this
  · have hRb : (f.mag % scale == 0) = false := beq_false_of_ne hR
    rw [hRb] at h
    simp only [Bool.false_eq_true, if_false, Prod.mk.injEq] at h
    obtain ⟨h1, h2⟩ := h
    subst h1
    exact toBase_frac_sound_of_rel f r hr hord (fracInit f) (fracInit_rel f hR) fuel fd _ h2
      (radixDigits_value r _)

end GojaModel.C12
