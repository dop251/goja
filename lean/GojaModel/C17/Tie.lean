/-
  C17 tie: what extract/c17.go regenerates from /repo (lean/GojaModel/Generated/C17_Index.lean, rewritten on every
  run) equals what the model was transcribed from.  The index / range decision functions (`relToIdx`, `maxInt`, `toIndexOk`,
  `isValidIntegerIndex`, `dvRangeOk`, `cwCount`, `splitIndex`, `firstFrom`, `lastFrom`, `atIndex`) are compared with the
  model's own definitions; byte positions, loop headers, sort-context prologues and event sequences are compared with the
  literal written in the theorem, which the docstring relates to the model definition that transcribes it.  A change of
  the Go logic changes the generated defs and breaks one of these equalities.
-/
import GojaModel.C17.Overlap
import GojaModel.Generated.C17_Index

namespace GojaModel.C17.Tie
open GojaModel.C17

/-- builtin_array.go `relToIdx` -/
theorem relToIdx_tie : Generated.C17.relToIdx = relToIdx := by
  funext rel l
  simp [Generated.C17.relToIdx, relToIdx]

/-- vm.go `maxInt` -/
theorem maxInt_tie : Generated.C17.maxInt = maxInt := by
  simp [Generated.C17.maxInt, maxInt]

/-- runtime.go `toIndex` accepting condition -/
theorem toIndexOk_tie : Generated.C17.toIndexOk = toIndexOk := by
  funext n
  simp [Generated.C17.toIndexOk, toIndexOk, maxInt_tie]

/-- typedarrays.go `isValidIntegerIndex` -/
theorem isValidIntegerIndex_tie (att : Bool) (len : Nat) (idx : Int) :
    Generated.C17.isValidIntegerIndex att len idx = isValidIntegerIndex att len idx := by
  simp [Generated.C17.isValidIntegerIndex, isValidIntegerIndex]

/-- typedarrays.go `getIdxAndByteOrder`: detach check first (shape enforced by the extractor), then this range test -/
theorem dvRange_tie (g s b : Int) : Generated.C17.dvOutOfRange g s b = !dvRangeOk g s b := by
  simp [Generated.C17.dvOutOfRange, dvRangeOk]

theorem dvAbsIdx_tie (g o : Nat) : Generated.C17.dvAbsIdx g o = ((g + o : Nat) : Int) := by
  simp [Generated.C17.dvAbsIdx]

/-- builtin_typedarrays.go `copyWithin`: the element count including the clamp `l - to` of commit b85e9cc -/
theorem cwCount_tie : Generated.C17.cwCount = cwCount := by
  funext l t f e
  simp [Generated.C17.cwCount, cwCount]

/-- builtin_typedarrays.go `copyWithin`: the operands of `copy` are `data[(offset+to)*es:]` and
`data[(offset+from)*es : (offset+from+count)*es]`, i.e. `count*es` bytes from the source element. -/
theorem cwCopy_tie (offset to from_ count es : Nat) :
    Generated.C17.cwDstLo offset to es = (((offset + to) * es : Nat) : Int) ∧
    Generated.C17.cwSrcLo offset from_ es = (((offset + from_) * es : Nat) : Int) ∧
    Generated.C17.cwSrcHi offset from_ count es - Generated.C17.cwSrcLo offset from_ es = ((count * es : Nat) : Int) := by
  simp only [Generated.C17.cwDstLo, Generated.C17.cwSrcLo, Generated.C17.cwSrcHi]
  refine ⟨by simp, by simp, ?_⟩
  simp only [Int.natCast_mul, Int.add_mul]
  omega

/-- the byte positions the pointer comparison works on are the ones `setTA_diffKind_bytes_eq_goja` uses:
source element 0 at `src.offset*srcES`, target element 0 at `(ta.offset+targetOffset)*taES` (seeded mutation C17-m4
drops `targetOffset` here), source end `srcLen*srcES` further. -/
theorem setPositions_tie (srcOffset srcES taOffset targetOffset taES srcLen : Nat) :
    Generated.C17.setCurSrcIdx srcOffset srcES = ((srcOffset * srcES : Nat) : Int) ∧
    Generated.C17.setCurDstIdx taOffset targetOffset taES = (((taOffset + targetOffset) * taES : Nat) : Int) ∧
    Generated.C17.setSrcBytes srcLen srcES = ((srcLen * srcES : Nat) : Int) := by
  simp [Generated.C17.setCurSrcIdx, Generated.C17.setCurDstIdx, Generated.C17.setSrcBytes]

/-- same element size: goja loops ascending exactly when `setOrderSame` does -/
theorem setFwdSame_tie (srcLo dstLo n es : Nat) :
    (Generated.C17.setFwdSame dstLo srcLo ((srcLo : Int) + ((n * es : Nat) : Int)) = true) ↔
      (dstLo ≤ srcLo ∨ dstLo ≥ srcLo + n * es) := by
  simp only [Generated.C17.setFwdSame, Bool.or_eq_true, decide_eq_true_eq]
  omega

/-- different element sizes: goja's split index is `splitIndex` (truncating quotient of these two numbers, clamped) -/
theorem setSplit_tie (srcLo dstLo sES dES n : Nat) :
    splitIndex srcLo dstLo sES dES n =
      (let q := Int.tdiv (Generated.C17.setSplitNum dstLo srcLo) (Generated.C17.setSplitDen sES dES)
       if q < 0 then 0 else if q > (n : Int) then n else q.toNat) ∧
    Generated.C17.setSplitClamp = "if x < 0 { x = 0 } else if x > srcLen { x = srcLen }" := by
  exact ⟨rfl, rfl⟩

/-- the six loops: ascending / descending for equal sizes (`setOrderSame`), `[x, n)` ascending then `[0, x)` descending for a
smaller target, `[0, x)` ascending then `[x, n)` descending for a larger one (`setOrderDiff`) -/
theorem setLoops_tie : Generated.C17.setLoops =
    ["i := 0; i < srcLen; i++", "i := srcLen - 1; i >= 0; i--",
     "i := x; i < srcLen; i++", "i := x - 1; i >= 0; i--",
     "i := 0; i < x; i++", "i := srcLen - 1; i >= x; i--"] := rfl

theorem sortCtx_tie :
    Generated.C17.sortCheckCond = "!ctx.detached && ctx.needValidate" ∧
    Generated.C17.sortCheckBody = ["ctx.detached = !ctx.ta.viewedArrayBuf.ensureNotDetached(false)", "ctx.needValidate = false"] ∧
    Generated.C17.sortLessPrologue = ["ctx.checkDetached()", "if ctx.detached { return false }"] ∧
    Generated.C17.sortSwapPrologue = ["ctx.checkDetached()", "if ctx.detached { return }"] ∧
    Generated.C17.sortLessRevalidatesAfterCompare = true := ⟨rfl, rfl, rfl, rfl, rfl⟩

/-- indexOf / includes: "beyond the end" test and start index -/
theorem firstFrom_tie :
    Generated.C17.indexOfFrom = firstFrom ∧ Generated.C17.includesFrom = firstFrom ∧
    (∀ n l : Int, Generated.C17.indexOfBeyond n l = decide (n ≥ l)) ∧
    (∀ n l : Int, Generated.C17.includesBeyond n l = decide (n ≥ l)) := by
  refine ⟨?_, ?_, fun _ _ => rfl, fun _ _ => rfl⟩
  · funext n l; simp [Generated.C17.indexOfFrom, firstFrom]
  · funext n l; simp [Generated.C17.includesFrom, firstFrom]

/-- lastIndexOf: `length-1` without a second argument, otherwise `min(fromIndex, length-1)` / `fromIndex + length` / −1 —
seeded mutation C17-m1 (`min(fromIndex, length)`) changes the regenerated definition and breaks this equality -/
theorem lastFrom_tie (l : Int) (a : IArg) :
    lastFrom none l = Generated.C17.lastIndexOfFromNoArg l ∧
    lastFrom (some a) l = Generated.C17.lastIndexOfFromArg a.val l := by
  constructor
  · simp [lastFrom, Generated.C17.lastIndexOfFromNoArg]
  · simp [lastFrom, Generated.C17.lastIndexOfFromArg]

/-- at: relative index and range test -/
theorem atIndex_tie :
    Generated.C17.atIdx = atIndex ∧
    (∀ i l : Int, Generated.C17.atOutOfRange i l = (decide (i ≥ l) || decide (i < 0))) := by
  refine ⟨?_, fun _ _ => rfl⟩
  funext i l; simp [Generated.C17.atIdx, atIndex]

/-- slice between views of the same element type: goja uses `copy` exactly when `sliceMech` does, and otherwise the forward
byte loop (`sliceMech_eq_spec` shows both equal ECMA-262's forward copy) -/
theorem sliceMech_tie (srcLo dstLo n : Nat) :
    ((Generated.C17.sliceMemmoveOk dstLo srcLo n = true) ↔ (dstLo ≤ srcLo ∨ dstLo ≥ srcLo + n)) ∧
    Generated.C17.sliceByteLoop = ["i := 0; i < byteCount; i++", "dstBuf[i] = srcBuf[i]"] := by
  refine ⟨?_, rfl⟩
  simp only [Generated.C17.sliceMemmoveOk, Bool.or_eq_true, decide_eq_true_eq]
  omega

/-! ### order of callback points (`cb:`), detach / index checks (`check:`) and element touches (`touch:`)

Regenerated per method from the Go AST (call expressions in evaluation order).  These sequences are what the model's
operations transcribe: e.g. `fill` = entry check, three coercions (start, end, value), a second check, then the writes —
dropping the second check changes the sequence.  `putIdx` stands for a call of `_putIdx`
(convert, validate the index, write), whose own sequence is the second entry. -/

theorem guardEvents_tie :
    Generated.C17.events_getIdx = ["check:ensureNotDetached", "touch:get"] ∧
    Generated.C17.events_putIdx = ["cb:toBigInt", "cb:ToNumber", "check:isValidIntegerIndex", "touch:set"] ∧
    Generated.C17.events_typedArrayProto_fill = ["check:ensureNotDetached", "cb:ToInteger", "cb:ToInteger", "cb:toRaw", "check:ensureNotDetached", "touch:setRaw"] ∧
    Generated.C17.events_typedArrayProto_copyWithin = ["check:ensureNotDetached", "cb:ToInteger", "cb:ToInteger", "cb:ToInteger", "check:ensureNotDetached", "touch:copy"] ∧
    Generated.C17.events_typedArrayProto_set = ["cb:ToObject", "cb:ToInteger", "check:ensureNotDetached", "check:ensureNotDetached", "touch:copy", "touch:get", "touch:set", "touch:get", "touch:set", "touch:get", "touch:set", "touch:get", "touch:set", "touch:get", "touch:set", "touch:get", "touch:set", "cb:getStr", "cb:getIdx", "putIdx"] ∧
    Generated.C17.events_typedArrayProto_slice = ["check:ensureNotDetached", "cb:ToInteger", "cb:ToInteger", "cb:typedArraySpeciesCreate", "check:ensureNotDetached", "touch:copy", "check:ensureNotDetached", "touch:get", "touch:set"] ∧
    Generated.C17.events_typedArrayProto_with = ["cb:ToObject", "check:ensureNotDetached", "cb:ToInteger", "cb:toBigInt", "cb:ToNumber", "check:isValidIntegerIndex", "cb:typedArrayCreate", "touch:copy", "touch:set"] ∧
    Generated.C17.events_typedArrayProto_at = ["check:ensureNotDetached", "cb:ToInteger", "check:ensureNotDetached", "touch:get"] ∧
    Generated.C17.events_typedArrayProto_indexOf = ["check:ensureNotDetached", "cb:ToInteger", "check:ensureNotDetached", "cb:toRaw", "touch:getRaw"] ∧
    Generated.C17.events_typedArrayProto_lastIndexOf = ["check:ensureNotDetached", "cb:ToInteger", "check:ensureNotDetached", "cb:toRaw", "touch:getRaw"] ∧
    Generated.C17.events_typedArrayProto_includes = ["check:ensureNotDetached", "cb:ToInteger", "check:ensureNotDetached", "cb:toRaw", "touch:getRaw"] ∧
    Generated.C17.events_typedArrayProto_map = ["check:ensureNotDetached", "cb:typedArraySpeciesCreate", "check:isValidIntegerIndex", "touch:get", "cb:callbackFn", "putIdx"] ∧
    Generated.C17.events_typedArray_of = ["cb:typedArrayCreate", "putIdx"] ∧
    Generated.C17.events_typedArrayProto_reverse = ["check:ensureNotDetached", "touch:swap"] ∧
    Generated.C17.events_getIdxAndByteOrder = ["check:ensureNotDetached"] ∧
    Generated.C17.events_Less = ["check:checkDetached", "touch:get", "touch:get", "cb:compare", "cb:ToNumber", "touch:less"] ∧
    Generated.C17.events_Swap = ["check:checkDetached", "touch:swap"] :=
  ⟨rfl, rfl, rfl, rfl, rfl, rfl, rfl, rfl, rfl, rfl, rfl, rfl, rfl, rfl, rfl, rfl, rfl⟩

end GojaModel.C17.Tie
