/-
  C17 — byte-array algebra without `State`: `gsplice` / `gwindow` over any unit type and their byte instances `splice` /
  `window`, the layout `freshBytes` of an element list, the elements of a view in a byte array.  Facts about windows come
  from `window_ext` (a window is determined byte by byte) and `window_self`.
-/
import GojaModel.C17.Model

namespace GojaModel.C17

theorem fit_length (n : Nat) (bs : List UInt8) : (fit n bs).length = n := by simp [fit]

theorem getD_set_eq {α} (dflt : α) (a : List α) (i j : Nat) (x : α) :
    (a.set i x).getD j dflt = if i = j ∧ j < a.length then x else a.getD j dflt := by
  simp only [List.getD_eq_getElem?_getD, List.getElem?_set]
  by_cases h : i = j
  · subst h
    by_cases h2 : i < a.length <;> simp [h2]
  · simp [h]

theorem getD_beyond (l : List UInt8) (j : Nat) (h : l.length ≤ j) : l.getD j 0 = 0 := by
  rw [List.getD_eq_getElem?_getD, List.getElem?_eq_none h]; rfl

theorem getD_map_of_lt {α β} (f : α → β) (l : List α) {i : Nat} (h : i < l.length) (a : α) (b : β) :
    (l.map f).getD i b = f (l.getD i a) := by
  rw [List.getD_eq_getElem?_getD, List.getElem?_map, List.getD_eq_getElem?_getD, List.getElem?_eq_getElem h]
  rfl

theorem getD_append_left' (a b : List UInt8) (j : Nat) (h : j < a.length) : (a ++ b).getD j 0 = a.getD j 0 := by
  rw [List.getD_eq_getElem?_getD, List.getD_eq_getElem?_getD, List.getElem?_append_left h]

theorem getD_append_right' (a b : List UInt8) (j : Nat) : (a ++ b).getD (a.length + j) 0 = b.getD j 0 := by
  rw [List.getD_eq_getElem?_getD, List.getD_eq_getElem?_getD, List.getElem?_append_right (by omega)]
  congr 2; omega

section
variable {α : Type} (dflt : α)

/-- overwrite `a[lo ..)` with `xs` (positions beyond the end are ignored) -/
def gsplice (a : List α) (lo : Nat) : List α → List α
  | [] => a
  | x :: xs => gsplice (a.set lo x) (lo + 1) xs

/-- `a[lo .. lo+n)` (`dflt` beyond the end) -/
def gwindow (a : List α) (lo : Nat) : Nat → List α
  | 0 => []
  | n + 1 => a.getD lo dflt :: gwindow a (lo + 1) n

theorem gsplice_length (a : List α) (lo : Nat) (xs : List α) : (gsplice a lo xs).length = a.length := by
  induction xs generalizing a lo with
  | nil => rfl
  | cons x xs ih => simp [gsplice, ih]

theorem gwindow_length (a : List α) (lo n : Nat) : (gwindow dflt a lo n).length = n := by
  induction n generalizing lo with
  | zero => rfl
  | succ n ih => simp [gwindow, ih]

theorem gwindow_getD (a : List α) (lo n i : Nat) (h : i < n) : (gwindow dflt a lo n).getD i dflt = a.getD (lo + i) dflt := by
  induction n generalizing lo i with
  | zero => omega
  | succ n ih =>
    cases i with
    | zero => simp [gwindow]
    | succ i =>
      simp only [gwindow, List.getD_cons_succ]
      rw [ih (lo + 1) i (by omega)]
      congr 1; omega

theorem gsplice_getD (a : List α) (lo : Nat) (xs : List α) (j : Nat) :
    (gsplice a lo xs).getD j dflt =
      if lo ≤ j ∧ j < lo + xs.length ∧ j < a.length then xs.getD (j - lo) dflt else a.getD j dflt := by
  induction xs generalizing a lo with
  | nil =>
    have : ¬ (lo ≤ j ∧ j < lo + ([] : List α).length ∧ j < a.length) := by simp; omega
    rw [if_neg this]; rfl
  | cons x xs ih =>
    simp only [gsplice, ih, List.length_cons, List.length_set, getD_set_eq dflt]
    by_cases h1 : lo = j
    · subst h1
      by_cases h2 : lo < a.length
      · have : ¬ (lo + 1 ≤ lo) := by omega
        simp [this, h2]
      · have : ¬ (lo + 1 ≤ lo) := by omega
        simp [this, h2]
    · by_cases h3 : lo + 1 ≤ j ∧ j < lo + 1 + xs.length ∧ j < a.length
      · have h4 : lo ≤ j ∧ j < lo + (xs.length + 1) ∧ j < a.length := by omega
        rw [if_pos h3, if_pos h4]
        have : j - lo = (j - (lo + 1)) + 1 := by omega
        rw [this, List.getD_cons_succ]
      · have h4 : ¬ (lo ≤ j ∧ j < lo + (xs.length + 1) ∧ j < a.length) := by omega
        rw [if_neg h3, if_neg h4]
        simp [h1]

theorem ext_getD {a b : List α} (hl : a.length = b.length) (h : ∀ j, j < a.length → a.getD j dflt = b.getD j dflt) :
    a = b := by
  apply List.ext_getElem hl
  intro i h1 h2
  have := h i h1
  simp only [List.getD_eq_getElem?_getD, List.getElem?_eq_getElem h1, List.getElem?_eq_getElem h2, Option.getD_some] at this
  exact this

theorem gsplice_append : ∀ (xs ys : List α) (a : List α) (lo : Nat),
    gsplice a lo (xs ++ ys) = gsplice (gsplice a lo xs) (lo + xs.length) ys := by
  intro xs
  induction xs with
  | nil => intro ys a lo; rfl
  | cons x xs ih => intro ys a lo; rw [List.cons_append, gsplice, ih, gsplice, List.length_cons, Nat.add_assoc, Nat.add_comm 1]

theorem gsplice_set_comm (i : Nat) (z : α) : ∀ (xs : List α) (a : List α) (lo : Nat), (i < lo ∨ lo + xs.length ≤ i) →
    gsplice (a.set i z) lo xs = (gsplice a lo xs).set i z := by
  intro xs
  induction xs with
  | nil => intro a lo _; rfl
  | cons x xs ih =>
    intro a lo h
    rw [List.length_cons] at h
    rw [gsplice, gsplice, List.set_comm _ _ (by omega : i ≠ lo), ih _ _ (by omega)]

theorem gwindow_set_outside (a : List α) (i : Nat) (x : α) : ∀ (n lo : Nat), (i < lo ∨ lo + n ≤ i) →
    gwindow dflt (a.set i x) lo n = gwindow dflt a lo n := by
  intro n
  induction n with
  | zero => intro lo _; rfl
  | succ n ih =>
    intro lo h
    rw [gwindow, gwindow, ih (lo + 1) (by omega), getD_set_eq, if_neg (by omega)]

theorem gwindow_succ_last (a : List α) : ∀ (n lo : Nat),
    gwindow dflt a lo (n + 1) = gwindow dflt a lo n ++ [a.getD (lo + n) dflt] := by
  intro n
  induction n with
  | zero => intro lo; rfl
  | succ n ih => intro lo; rw [gwindow, ih (lo + 1), gwindow, Nat.add_assoc, Nat.add_comm 1]; rfl

end

/-- `gsplice` on bytes, as the byte results are stated -/
def splice (d : List UInt8) (lo : Nat) : List UInt8 → List UInt8
  | [] => d
  | x :: xs => splice (d.set lo x) (lo + 1) xs

/-- `gwindow` on bytes, `0` beyond the end -/
def window (d : List UInt8) (lo : Nat) : Nat → List UInt8
  | 0 => []
  | n + 1 => d.getD lo 0 :: window d (lo + 1) n

theorem splice_eq_gsplice (d : List UInt8) (lo : Nat) (xs : List UInt8) : splice d lo xs = gsplice d lo xs := by
  induction xs generalizing d lo with
  | nil => rfl
  | cons x xs ih => simp [splice, gsplice, ih]

theorem window_eq_gwindow (d : List UInt8) (lo n : Nat) : window d lo n = gwindow (0 : UInt8) d lo n := by
  induction n generalizing lo with
  | zero => rfl
  | succ n ih => simp [window, gwindow, ih]

theorem splice_length (d : List UInt8) (lo : Nat) (xs : List UInt8) : (splice d lo xs).length = d.length := by
  rw [splice_eq_gsplice]; exact gsplice_length d lo xs

theorem window_length (d : List UInt8) (lo n : Nat) : (window d lo n).length = n := by
  rw [window_eq_gwindow]; exact gwindow_length 0 d lo n

theorem window_getD (d : List UInt8) (lo n i : Nat) (h : i < n) : (window d lo n).getD i 0 = d.getD (lo + i) 0 := by
  rw [window_eq_gwindow]; exact gwindow_getD 0 d lo n i h

theorem splice_getD (d : List UInt8) (lo : Nat) (xs : List UInt8) (j : Nat) :
    (splice d lo xs).getD j 0 =
      if lo ≤ j ∧ j < lo + xs.length ∧ j < d.length then xs.getD (j - lo) 0 else d.getD j 0 := by
  rw [splice_eq_gsplice]; exact gsplice_getD 0 d lo xs j

theorem splice_append (d : List UInt8) (lo : Nat) (xs ys : List UInt8) :
    splice d lo (xs ++ ys) = splice (splice d lo xs) (lo + xs.length) ys := by
  rw [splice_eq_gsplice, splice_eq_gsplice, splice_eq_gsplice, gsplice_append]

theorem window_ext (d d' : List UInt8) (lo lo' n : Nat) (h : ∀ i, i < n → d.getD (lo + i) 0 = d'.getD (lo' + i) 0) :
    window d lo n = window d' lo' n := by
  apply ext_getD (0 : UInt8)
  · rw [window_length, window_length]
  · intro j hj
    rw [window_length] at hj
    rw [window_getD _ _ _ _ hj, window_getD _ _ _ _ hj, h j hj]

theorem window_self (xs : List UInt8) : window xs 0 xs.length = xs := by
  apply ext_getD (0 : UInt8)
  · rw [window_length]
  · intro j hj
    rw [window_length] at hj
    rw [window_getD _ _ _ _ hj, Nat.zero_add]

theorem splice_comm (d : List UInt8) (a b : Nat) (xs ys : List UInt8)
    (h : a + xs.length ≤ b ∨ b + ys.length ≤ a) :
    splice (splice d a xs) b ys = splice (splice d b ys) a xs := by
  apply ext_getD (0 : UInt8)
  · simp [splice_length]
  · intro p _
    simp only [splice_getD, splice_length]
    by_cases c1 : a ≤ p ∧ p < a + xs.length ∧ p < d.length
    · have c2 : ¬ (b ≤ p ∧ p < b + ys.length ∧ p < d.length) := by omega
      rw [if_neg c2, if_pos c1, if_pos c1]
    · by_cases c2 : b ≤ p ∧ p < b + ys.length ∧ p < d.length
      · rw [if_pos c2, if_neg c1, if_pos c2]
      · rw [if_neg c2, if_neg c1, if_neg c1, if_neg c2]

theorem window_splice_outside (d : List UInt8) (lo : Nat) (xs : List UInt8) (lo' n : Nat)
    (h : lo' + n ≤ lo ∨ lo + xs.length ≤ lo') : window (splice d lo xs) lo' n = window d lo' n :=
  window_ext _ _ _ _ _ fun i hi => by rw [splice_getD, if_neg (by omega)]

theorem window_splice_inside (d : List UInt8) (lo : Nat) (xs : List UInt8) (lo' n : Nat) (h1 : lo ≤ lo')
    (h2 : lo' + n ≤ lo + xs.length) (h3 : lo + xs.length ≤ d.length) :
    window (splice d lo xs) lo' n = window xs (lo' - lo) n :=
  window_ext _ _ _ _ _ fun i hi => by
    rw [splice_getD, if_pos ⟨by omega, by omega, by omega⟩]
    congr 1; omega

theorem window_splice_same (d : List UInt8) (lo : Nat) (xs : List UInt8) (h : lo + xs.length ≤ d.length) :
    window (splice d lo xs) lo xs.length = xs := by
  rw [window_splice_inside d lo xs lo _ (Nat.le_refl _) (Nat.le_refl _) h, Nat.sub_self, window_self]

theorem splice_full (d xs : List UInt8) (h : xs.length = d.length) : splice d 0 xs = xs := by
  have := window_self (splice d 0 xs)
  rw [splice_length, ← h, window_splice_same d 0 xs (by omega)] at this
  exact this.symm

theorem fit_eq_self (n : Nat) (x : List UInt8) (h : x.length = n) : fit n x = x := by
  apply ext_getD (0 : UInt8)
  · rw [fit_length, h]
  · intro j hj
    rw [fit_length] at hj
    unfold fit
    rw [List.getD_eq_getElem?_getD, List.getElem?_map, List.getElem?_range hj]; rfl

theorem freshBytes_length (es : Nat) (elems : List (List UInt8)) : (freshBytes es elems).length = elems.length * es := by
  induction elems with
  | nil => simp [freshBytes]
  | cons x xs ih => simp [freshBytes, fit_length, ih, Nat.add_mul]; omega

theorem freshBytes_getD (sz : Nat) (hsz : 0 < sz) : ∀ (elems : List (List UInt8)) (i : Nat), i < elems.length * sz →
    (freshBytes sz elems).getD i 0 = (fit sz (elems.getD (i / sz) [])).getD (i % sz) 0 := by
  intro elems
  induction elems with
  | nil => intro i h; simp at h
  | cons x xs ih =>
    intro i h
    rw [freshBytes]
    by_cases hi : i < sz
    · rw [getD_append_left' _ _ _ (by rw [fit_length]; exact hi), Nat.div_eq_of_lt hi, Nat.mod_eq_of_lt hi]; rfl
    · obtain ⟨j, rfl⟩ : ∃ j, i = sz + j := ⟨i - sz, by omega⟩
      have := getD_append_right' (fit sz x) (freshBytes sz xs) j
      rw [fit_length] at this
      rw [this, ih j (by rw [List.length_cons, Nat.succ_mul] at h; omega), Nat.add_div_left _ hsz, Nat.add_mod_left]
      rfl

theorem window_append_left (a b : List UInt8) : window (a ++ b) 0 a.length = a :=
  (window_ext _ a 0 0 _ fun i hi => by rw [Nat.zero_add, getD_append_left' _ _ _ hi]).trans (window_self a)

theorem window_append_right (a b : List UInt8) (lo n : Nat) : window (a ++ b) (a.length + lo) n = window b lo n :=
  window_ext _ _ _ _ _ fun i _ => by rw [Nat.add_assoc, getD_append_right']

theorem freshBytes_window (sz : Nat) : ∀ (elems : List (List UInt8)) (i : Nat), i < elems.length →
    window (freshBytes sz elems) (i * sz) sz = fit sz (elems.getD i []) := by
  intro elems
  induction elems with
  | nil => intro i h; simp at h
  | cons x xs ih =>
    intro i h
    cases i with
    | zero =>
      simp only [freshBytes, Nat.zero_mul, List.getD_cons_zero]
      have := window_append_left (fit sz x) (freshBytes sz xs)
      rw [fit_length] at this
      exact this
    | succ i =>
      simp only [freshBytes, List.getD_cons_succ]
      have e : (i + 1) * sz = (fit sz x).length + i * sz := by rw [fit_length, Nat.succ_mul]; omega
      rw [e, window_append_right]
      exact ih i (by simpa using h)

theorem elem_lo (v : View) (k : Nat) : v.lo ≤ (v.offset + k) * v.kind.size :=
  Nat.mul_le_mul_right _ (Nat.le_add_right _ _)

theorem elem_succ (v : View) (k : Nat) :
    (v.offset + (k + 1)) * v.kind.size = (v.offset + k) * v.kind.size + v.kind.size := by
  rw [← Nat.add_assoc, Nat.add_mul, Nat.one_mul]

theorem elem_hi (v : View) (k n : Nat) (h : k + n ≤ v.length) :
    (v.offset + k) * v.kind.size + n * v.kind.size ≤ v.hi := by
  rw [← Nat.add_mul]
  exact Nat.mul_le_mul_right _ (by omega)

theorem elem_hi1 (v : View) (k : Nat) (h : k < v.length) :
    (v.offset + k) * v.kind.size + v.kind.size ≤ v.hi := by
  have := elem_hi v k 1 (by omega)
  simpa using this

/-- raw bytes of element `i` of view `v` in the byte array `d` -/
def elemAt (d : List UInt8) (v : View) (i : Nat) : List UInt8 := window d ((v.offset + i) * v.kind.size) v.kind.size

/-- the raw elements of view `v` in the byte array `d` -/
def elemsOf (d : List UInt8) (v : View) : List (List UInt8) :=
  (List.range' 0 v.length).map (fun i => window d ((v.offset + i) * v.kind.size) v.kind.size)

theorem elemsOf_length (d : List UInt8) (v : View) : (elemsOf d v).length = v.length := by simp [elemsOf]

theorem elemsOf_getElem? (d : List UInt8) (v : View) (i : Nat) (h : i < v.length) :
    (elemsOf d v)[i]? = some (elemAt d v i) := by
  unfold elemsOf elemAt
  rw [List.getElem?_map, List.getElem?_range' h]
  simp

theorem elemsOf_getElem (d : List UInt8) (v : View) (i : Nat) (h : i < (elemsOf d v).length) :
    (elemsOf d v)[i] = elemAt d v i := by
  have := elemsOf_getElem? d v i (by rw [elemsOf_length] at h; exact h)
  rw [List.getElem?_eq_getElem h] at this
  exact Option.some.inj this

theorem length_of_mem_elemsOf {d : List UInt8} {v : View} {x : List UInt8} (h : x ∈ elemsOf d v) :
    x.length = v.kind.size := by
  obtain ⟨_, _, rfl⟩ := List.mem_map.mp h
  exact window_length _ _ _

theorem elemsOf_splice (d : List UInt8) (v : View) (k : Nat) (x : List UInt8) (hk : k < v.length)
    (hx : x.length = v.kind.size) (hb : v.hi ≤ d.length) :
    elemsOf (splice d ((v.offset + k) * v.kind.size) x) v = (elemsOf d v).set k x := by
  have hsz := elem_succ v
  have hkb : (v.offset + k) * v.kind.size + v.kind.size ≤ d.length := by
    rw [← hsz]
    exact Nat.le_trans (Nat.mul_le_mul_right _ (by omega)) hb
  apply List.ext_getElem
  · simp [elemsOf_length]
  · intro m h1 h2
    have hm : m < v.length := by rw [elemsOf_length] at h1; exact h1
    rw [List.getElem_set, elemsOf_getElem, elemsOf_getElem]
    unfold elemAt
    by_cases hkm : k = m
    · subst hkm
      rw [if_pos rfl]
      have := window_splice_same d ((v.offset + k) * v.kind.size) x (by rw [hx]; exact hkb)
      rw [hx] at this
      exact this
    · rw [if_neg hkm]
      apply window_splice_outside
      rw [hx]
      by_cases hlt : m < k
      · left
        rw [← hsz]
        exact Nat.mul_le_mul_right _ (by omega)
      · right
        rw [← hsz]
        exact Nat.mul_le_mul_right _ (by omega)

theorem elemsOf_freshBytes (kind : Kind) (elems : List (List UInt8)) (nb : Nat) :
    elemsOf (freshBytes kind.size elems) ⟨nb, 0, elems.length, kind⟩ = elems.map (fit kind.size) := by
  apply List.ext_getElem
  · rw [elemsOf_length, List.length_map]
  · intro i h1 h2
    have hi : i < elems.length := by rw [List.length_map] at h2; exact h2
    rw [elemsOf_getElem]
    unfold elemAt
    dsimp only
    rw [Nat.zero_add, freshBytes_window _ _ _ hi, List.getElem_map,
      List.getD_eq_getElem?_getD, List.getElem?_eq_getElem hi, Option.getD_some]

end GojaModel.C17
