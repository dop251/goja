/-
  C17 — bytes_eq_spec for element put / get, reverse, DataView set / get (byte order), slice into a fresh buffer and
  `set(array-like)` without adversary: each describes the bytes afterwards as a function of the bytes before (after the
  argument coercions).  Also the BigInt codec round trips, the search scans (first / last match), the values handed to
  callbacks and joined, and goja's memmove-or-loop for a same-type slice against the forward live copy.
-/
import GojaModel.C17.Specs
import GojaModel.C17.Refine

namespace GojaModel.C17

/-- **put**: when the index is valid after the value conversion, exactly the `es` bytes of element `idx` become
NumericToRawBytes(value); otherwise nothing changes. -/
theorem put_bytes_eq_spec (s : State) (vi : Nat) (v : View) (idx : Int) (a : VArg) (raw : List UInt8)
    (hv : s.views[vi]? = some v) (henc : encode v.kind a.num = some raw) :
    (isValidIntegerIndex ((s.applyDet a.det).attached v.buf) v.length idx = true →
      ∃ d, (s.applyDet a.det).data? v.buf = some d ∧
        (opPut s vi idx a).2.data? v.buf = some (splice d ((v.offset + idx.toNat) * v.kind.size) (fit v.kind.size raw)) ∧
        ∀ b', b' ≠ v.buf → (opPut s vi idx a).2.data? b' = (s.applyDet a.det).data? b') ∧
    (isValidIntegerIndex ((s.applyDet a.det).attached v.buf) v.length idx = false →
      ∀ b', (opPut s vi idx a).2.data? b' = (s.applyDet a.det).data? b') := by
  unfold opPut; rw [hv]; dsimp only; rw [henc]; dsimp only
  constructor
  · intro hvalid
    rw [if_pos hvalid]
    have ha : (s.applyDet a.det).attached v.buf = true := by
      simp only [isValidIntegerIndex, Bool.and_eq_true] at hvalid; exact hvalid.1
    obtain ⟨d, hd⟩ := data_of_attached ha
    refine ⟨d, hd, ?_, ?_⟩
    · unfold State.writeElem; rw [data?_writeRange, if_pos rfl, hd]; rfl
    · intro b' hb'; unfold State.writeElem; rw [data?_writeRange, if_neg hb']
  · intro hinv b'
    rw [hinv]; rfl

/-- **get**: an in-range index of an attached view yields RawBytesToNumeric of the element's bytes; no byte changes. -/
theorem get_value_eq_spec (s : State) (vi : Nat) (v : View) (idx : Int) (d : List UInt8)
    (hv : s.views[vi]? = some v) (hd : s.data? v.buf = some d) (h0 : 0 ≤ idx) (h1 : idx < (v.length : Int)) :
    (opGet s vi idx).1 = .val (decode v.kind (window d ((v.offset + idx.toNat) * v.kind.size) v.kind.size)) ∧
    ∀ b', (opGet s vi idx).2.data? b' = s.data? b' := by
  unfold opGet; rw [hv]; dsimp only
  have hc : (decide (0 ≤ idx) && decide (idx < (v.length : Int))) = true := by simp [h0, h1]
  rw [if_pos hc]
  rw [if_neg (not_detached (attached_of_data hd))]
  obtain ⟨hval, hdat⟩ := readElem_value s v d idx.toNat hd
  exact ⟨congrArg (fun x => Res.val (decode v.kind x)) hval, hdat⟩

/-- **reverse**: the raw elements of the view afterwards are the reversed raw elements before; the rest of the buffer
is unchanged. -/
theorem reverse_bytes_eq_spec (s : State) (vi : Nat) (v : View) (hi : Inv s) (hv : s.views[vi]? = some v)
    (hok : (opReverse s vi).1 = .ok) :
    ∃ d d', s.data? v.buf = some d ∧ (opReverse s vi).2.data? v.buf = some d' ∧ d'.length = d.length ∧
      elemsOf d' v = (elemsOf d v).reverse ∧
      (∀ lo n, (lo + n ≤ v.lo ∨ v.hi ≤ lo) → window d' lo n = window d lo n) := by
  unfold opReverse at hok ⊢; rw [hv] at hok ⊢; dsimp only at hok ⊢
  have ha := guard_passed hok nofun
  rw [if_neg ha]
  obtain ⟨d, hd⟩ := data_of_attached (not_not_attached ha)
  obtain ⟨d', hd', hl, hkey, hout⟩ := rewrite_data s v d List.reverse hd (hi.hi_le hv hd)
    (by rw [List.length_reverse, elemsOf_length]) (fun x hx => length_of_mem_elemsOf (List.mem_reverse.mp hx))
  exact ⟨d, d', hd, hd', hl, hkey, hout⟩

/-- **DataView.set***: on success the `size` bytes at `byteOffset + idx` become NumericToRawBytes(value) in the
requested byte order (reversed for big-endian); nothing else changes. -/
theorem dvSet_bytes_eq_spec (s : State) (di : Nat) (dv : DView) (k : Kind) (idx : IArg) (a : VArg) (le : Bool) (raw : List UInt8)
    (hd : s.dvs[di]? = some dv) (henc : encode k a.num = some raw) (hok : (opDVSet s di k idx a le).1 = .ok) :
    ∃ d, ((s.applyDet idx.det).applyDet a.det).data? dv.buf = some d ∧
      (opDVSet s di k idx a le).2.data? dv.buf =
        some (splice d (idx.val.toNat + dv.byteOffset) (if le then fit k.size raw else (fit k.size raw).reverse)) ∧
      ∀ b', b' ≠ dv.buf → (opDVSet s di k idx a le).2.data? b' = ((s.applyDet idx.det).applyDet a.det).data? b' := by
  unfold opDVSet at hok ⊢; rw [hd] at hok ⊢; dsimp only at hok ⊢
  have h0 := guard_passed hok nofun
  rw [if_neg h0] at hok ⊢
  rw [henc] at hok ⊢; dsimp only at hok ⊢
  have ha := guard_passed hok nofun
  rw [if_neg ha] at hok ⊢
  have hr := guard_passed hok nofun
  rw [if_neg hr]
  obtain ⟨d, hdd⟩ := data_of_attached (not_not_attached ha)
  refine ⟨d, hdd, ?_, ?_⟩
  · show (State.writeRange _ _ _ _).data? dv.buf = _
    rw [data?_writeRange, if_pos rfl, hdd]; rfl
  · intro b' hb'
    show (State.writeRange _ _ _ _).data? b' = _
    rw [data?_writeRange, if_neg hb']

/-- **DataView.get***: on success the value is RawBytesToNumeric of the `size` bytes at `byteOffset + idx`, read in the
requested byte order; no byte changes. -/
theorem dvGet_value_eq_spec (s : State) (di : Nat) (dv : DView) (k : Kind) (idx : IArg) (le : Bool) (d : List UInt8)
    (hd : s.dvs[di]? = some dv) (hdat : (s.applyDet idx.det).data? dv.buf = some d)
    (h0 : toIndexOk idx.val = true) (hr : dvRangeOk idx.val (k.size : Int) (dv.byteLen : Int) = true) :
    (opDVGet s di k idx le).1 =
      .val (decode k (if le then window d (idx.val.toNat + dv.byteOffset) k.size
                     else (window d (idx.val.toNat + dv.byteOffset) k.size).reverse)) := by
  unfold opDVGet; rw [hd]; dsimp only
  have c0 : ¬ (!toIndexOk idx.val) = true := by simp [h0]
  have c2 : ¬ (!dvRangeOk idx.val (k.size : Int) (dv.byteLen : Int)) = true := by simp [hr]
  rw [if_neg c0, if_neg (not_detached (attached_of_data hdat)), if_neg c2]
  show Res.val (decode k (if le = true then (State.readRange _ _ _ _).1 else (State.readRange _ _ _ _).1.reverse)) = _
  rw [readRange_value dv.buf d _ _ _ hdat]

/-- a big-endian store followed by a big-endian load (or little/little) returns the bytes written: the two byte
orders are each other's mirror -/
theorem dv_byteorder_roundtrip (xs : List UInt8) (le : Bool) :
    (if le then (if le then xs else xs.reverse) else (if le then xs else xs.reverse).reverse) = xs := by
  cases le <;> simp

theorem data?_copyByte (s : State) (sb db slo dlo : Nat) (ds : List UInt8) (hs : s.data? sb = some ds) (b' : Nat) :
    ((s.readByte sb slo).2.writeByte db dlo (s.readByte sb slo).1).data? b' =
      if b' = db then (s.data? db).map (fun dd => dd.set dlo (ds.getD slo 0)) else s.data? b' := by
  have hrv : (s.readByte sb slo).1 = ds.getD slo 0 := by simp [State.readByte, hs]
  rw [data?_writeByte, hrv]; rfl

theorem copyFwd_data_distinct (sb db : Nat) (hne : sb ≠ db) (ds : List UInt8) :
    ∀ (n : Nat) (s : State) (slo dlo : Nat), s.data? sb = some ds →
      (copyFwd s sb slo db dlo n).data? db = (s.data? db).map (fun dd => splice dd dlo (window ds slo n)) ∧
      ∀ b', b' ≠ db → (copyFwd s sb slo db dlo n).data? b' = s.data? b' := by
  intro n
  induction n with
  | zero =>
    intro s slo dlo _
    refine ⟨?_, fun _ _ => rfl⟩
    show s.data? db = _
    cases s.data? db <;> simp [window, splice]
  | succ n ih =>
    intro s slo dlo hs
    simp only [copyFwd]
    have hw := data?_copyByte s sb db slo dlo ds hs
    have hs' : ((s.readByte sb slo).2.writeByte db dlo (s.readByte sb slo).1).data? sb = some ds := by
      rw [hw, if_neg hne]; exact hs
    obtain ⟨a, b⟩ := ih _ (slo + 1) (dlo + 1) hs'
    constructor
    · rw [a, hw, if_pos rfl]
      cases s.data? db <;> simp [window, splice]
    · intro b' hb'
      rw [b b' hb', hw, if_neg hb']

/-- **slice with the default constructor** (`count > 0`): the fresh buffer holds exactly the `count` source elements
starting at `start` (ECMA-262's byte-by-byte copy into new memory), and no existing buffer changes. -/
theorem slice_default_bytes_eq_spec (s : State) (vi : Nat) (v : View) (st fi : Option IArg) (hi : Inv s)
    (hv : s.views[vi]? = some v)
    (hcnt : 0 < (relToIdx (oVal fi v.length) v.length - relToIdx (oVal st 0) v.length).toNat)
    (hatt : ((s.applyDet (oDet st)).applyDet (oDet fi)).attached v.buf = true) (hatt0 : s.attached v.buf = true) :
    ∃ d, ((s.applyDet (oDet st)).applyDet (oDet fi)).data? v.buf = some d ∧
      (opSlice s vi st fi none).2.data? s.bufs.length =
        some (window d ((v.offset + (relToIdx (oVal st 0) v.length).toNat) * v.kind.size)
          ((relToIdx (oVal fi v.length) v.length - relToIdx (oVal st 0) v.length).toNat * v.kind.size)) ∧
      ∀ b', b' < s.bufs.length → (opSlice s vi st fi none).2.data? b' = ((s.applyDet (oDet st)).applyDet (oDet fi)).data? b' := by
  have hnb : ((s.applyDet (oDet st)).applyDet (oDet fi)).bufs.length = s.bufs.length := by
    rw [applyDet_nbufs, applyDet_nbufs]
  have hvb : v.buf < s.bufs.length := (hi.views v (List.mem_of_getElem? hv)).1
  obtain ⟨d, hd⟩ := data_of_attached hatt
  unfold opSlice; rw [hv]; dsimp only
  have c0 : ¬ speciesBad s none = true := by simp [speciesBad]
  rw [if_neg c0, if_neg (not_detached hatt0), if_pos hcnt, if_neg (not_detached hatt)]
  generalize hs2 : (s.applyDet (oDet st)).applyDet (oDet fi) = s2 at *
  generalize hn : (relToIdx (oVal fi v.length) v.length - relToIdx (oVal st 0) v.length).toNat * v.kind.size = n
  have hne : v.buf ≠ s2.bufs.length := by omega
  have hsrc : ({ s2 with bufs := s2.bufs ++ [some (List.replicate n 0)] } : State).data? v.buf = some d := by
    rw [data?_pushBuf, if_pos (by omega)]; exact hd
  obtain ⟨a, b⟩ := copyFwd_data_distinct v.buf s2.bufs.length hne d n
    { s2 with bufs := s2.bufs ++ [some (List.replicate n 0)] }
    ((v.offset + (relToIdx (oVal st 0) v.length).toNat) * v.kind.size) (0 * v.kind.size) hsrc
  refine ⟨d, hd, ?_, ?_⟩
  · show (copyFwd _ _ _ _ _ _).data? s.bufs.length = _
    rw [← hnb, a, data?_pushBuf, if_neg (by omega), if_pos rfl]
    simp only [Option.map_some, Nat.zero_mul]
    rw [splice_full _ _ (by rw [window_length, List.length_replicate])]
  · intro b' hb'
    show (copyFwd _ _ _ _ _ _).data? b' = _
    rw [b b' (by omega), data?_pushBuf, if_pos (by omega)]

theorem codec_roundtrip_bu64 (i : Nat) (h : i < 2 ^ 64) : (encode .bu64 (.big i)).map (decode .bu64) = some (.big i) := by
  simp only [encode, encodeNat, Kind.size, Option.map_some, decode]
  rw [leNat_leBytes_intModN 8 i (by omega)]

theorem codec_roundtrip_bi64 (i : Int) (h1 : -(2 ^ 63) ≤ i) (h2 : i < 2 ^ 63) :
    (encode .bi64 (.big i)).map (decode .bi64) = some (.big i) := by
  simp only [encode, encodeNat, Kind.size, Option.map_some, decode]
  rw [signedOfNat_leNat_leBytes 8 (2 ^ 63) rfl i h1 h2]

/-- **ascending scan** (indexOf, includes): `some j` iff `j` is the least index in `[k, k+n)` whose decoded element equals
the search value; `none` iff there is none. -/
theorem scanUp_correct (v : View) (svz : Bool) (se : Num) (d : List UInt8) :
    ∀ (n : Nat) (s : State) (k : Nat), s.data? v.buf = some d →
      match (scanUp s v svz se k n).1 with
      | some j => k ≤ j ∧ j < k + n ∧ numEq svz (decode v.kind (elemAt d v j)) se = true ∧
                  ∀ i, k ≤ i → i < j → numEq svz (decode v.kind (elemAt d v i)) se = false
      | none => ∀ i, k ≤ i → i < k + n → numEq svz (decode v.kind (elemAt d v i)) se = false := by
  intro n
  induction n with
  | zero => intro s k _; simp [scanUp]; intro i h1 h2; omega
  | succ n ih =>
    intro s k h
    obtain ⟨hv, hdat⟩ := readElem_value s v d k h
    unfold scanUp; dsimp only
    rw [hv]
    by_cases hm : numEq svz (decode v.kind (elemAt d v k)) se = true
    · rw [if_pos hm]
      exact ⟨Nat.le_refl _, by omega, hm, fun i h1 h2 => by omega⟩
    · rw [if_neg hm]
      have hm' : numEq svz (decode v.kind (elemAt d v k)) se = false := by simpa using hm
      have := ih (s.readElem v k).2 (k + 1) (by rw [hdat]; exact h)
      revert this
      cases (scanUp (s.readElem v k).2 v svz se (k + 1) n).1 with
      | some j =>
        intro ⟨a, b, c, e⟩
        exact ⟨by omega, by omega, c, fun i h1 h2 => if hik : i = k then hik ▸ hm' else e i (by omega) h2⟩
      | none => intro this i h1 h2; exact if hik : i = k then hik ▸ hm' else this i (by omega) (by omega)

/-- **descending scan** (lastIndexOf): `some j` iff `j` is the greatest index below `n` with a matching element -/
theorem scanDown_correct (v : View) (se : Num) (d : List UInt8) :
    ∀ (n : Nat) (s : State), s.data? v.buf = some d →
      match (scanDown s v se n).1 with
      | some j => j < n ∧ numEq false (decode v.kind (elemAt d v j)) se = true ∧
                  ∀ i, j < i → i < n → numEq false (decode v.kind (elemAt d v i)) se = false
      | none => ∀ i, i < n → numEq false (decode v.kind (elemAt d v i)) se = false := by
  intro n
  induction n with
  | zero => intro s _; simp [scanDown]
  | succ n ih =>
    intro s h
    obtain ⟨hv, hdat⟩ := readElem_value s v d n h
    unfold scanDown; dsimp only
    rw [hv]
    by_cases hm : numEq false (decode v.kind (elemAt d v n)) se = true
    · rw [if_pos hm]
      exact ⟨by omega, hm, fun i h1 h2 => by omega⟩
    · rw [if_neg hm]
      have hm' : numEq false (decode v.kind (elemAt d v n)) se = false := by simpa using hm
      have := ih (s.readElem v n).2 (by rw [hdat]; exact h)
      revert this
      cases (scanDown (s.readElem v n).2 v se n).1 with
      | some j => intro ⟨a, c, e⟩; exact ⟨by omega, c, fun i h1 h2 => if hik : i = n then hik ▸ hm' else e i h1 (by omega)⟩
      | none => intro this i h2; exact if hik : i = n then hik ▸ hm' else this i (by omega)

theorem visitRead_value (s : State) (v : View) (d : List UInt8) (k : Nat) (h : s.data? v.buf = some d) :
    (visitRead s v k).1 = some (decode v.kind (elemAt d v k)) ∧ ∀ b', (visitRead s v k).2.data? b' = s.data? b' := by
  have ha : s.attached v.buf = true := attached_of_data h
  obtain ⟨hv, hd⟩ := readElem_value s v d k h
  unfold visitRead
  rw [if_pos ha]
  exact ⟨by simp only; rw [hv], hd⟩

theorem joinLoop_values (v : View) (d : List UInt8) :
    ∀ (n : Nat) (s : State) (k : Nat) (acc : List (Option Num)), s.data? v.buf = some d →
      (joinLoop s v k n acc).2 = acc ++ (List.range' k n).map (fun i => some (decode v.kind (elemAt d v i))) := by
  intro n
  induction n with
  | zero => intro s k acc _; simp [joinLoop]
  | succ n ih =>
    intro s k acc h
    obtain ⟨hv, hd⟩ := visitRead_value s v d k h
    unfold joinLoop; dsimp only
    rw [ih _ _ _ (by rw [hd]; exact h), hv, List.range'_succ, List.map_cons, List.append_assoc]
    rfl

theorem visitLoop_down_values (v : View) (d : List UInt8) (detAt : Nat) :
    ∀ (n : Nat) (s : State) (i : Nat) (acc : List (Option Num)), s.data? v.buf = some d →
      (visitLoop s v true detAt [] i n acc).2 =
        acc ++ (List.range n).reverse.map (fun k => some (decode v.kind (elemAt d v k))) := by
  intro n
  induction n with
  | zero => intro s i acc _; simp [visitLoop]
  | succ n ih =>
    intro s i acc h
    obtain ⟨hv, hd⟩ := visitRead_value s v d n h
    unfold visitLoop; dsimp only
    simp only [if_true, applyDet_nil, ite_self]
    rw [ih _ _ _ (by rw [hd]; exact h), hv, List.range_succ, List.reverse_append, List.reverse_singleton,
      List.singleton_append, List.map_cons, List.append_assoc]
    rfl

/-- **visiting methods, no adversary**: the callback sees exactly the decoded elements of the view, ascending
(`bwd = false`) or descending (`bwd = true`) -/
theorem visit_values_eq_spec (s : State) (vi : Nat) (v : View) (d : List UInt8) (bwd : Bool) (detAt : Nat)
    (hv : s.views[vi]? = some v) (hd : s.data? v.buf = some d) :
    (opVisit s vi bwd detAt []).1 = .vals (
      (if bwd then (List.range v.length).reverse else List.range' 0 v.length).map
        (fun k => some (decode v.kind (elemAt d v k)))) := by
  unfold opVisit; rw [hv]; dsimp only
  rw [if_neg (not_detached (attached_of_data hd))]
  cases bwd with
  | false => simp only [Bool.false_eq_true, if_false]; rw [visitLoop_up_eq_joinLoop, joinLoop_values v d _ s 0 [] hd]; rfl
  | true => simp only [if_true]; rw [visitLoop_down_values v d detAt _ s 0 [] hd]; rfl

/-- **join / toString / toLocaleString, no adversary**: the joined values are the decoded elements in ascending order -/
theorem join_values_eq_spec (s : State) (vi : Nat) (v : View) (d : List UInt8) (pe : Bool)
    (hv : s.views[vi]? = some v) (hd : s.data? v.buf = some d) :
    (opJoin s vi [] pe).1 = .vals ((List.range' 0 v.length).map (fun i => some (decode v.kind (elemAt d v i)))) := by
  unfold opJoin; rw [hv]; dsimp only
  have ha : s.attached v.buf = true := attached_of_data hd
  have c : ¬ ((!s.attached v.buf) && !(pe && v.length == 0)) = true := by simp [ha]
  rw [if_neg c, applyDet_nil, joinLoop_values v d _ s 0 [] hd]
  rfl

theorem setArrLoop_noadv (v : View) : ∀ (vals : List VArg) (s : State) (k : Nat),
    (∀ a ∈ vals, a.det = [] ∧ (encode v.kind a.num).isSome = true) → s.attached v.buf = true → k + vals.length ≤ v.length →
    setArrLoop s v k vals = (.ok, writeElems s v k (vals.map (fun a => (encode v.kind a.num).getD []))) := by
  intro vals
  induction vals with
  | nil => intro s k _ _ _; rfl
  | cons a as ih =>
    intro s k h ha hk
    simp only [List.length_cons] at hk
    obtain ⟨hdet, henc⟩ := h a (List.mem_cons_self ..)
    obtain ⟨raw, hraw⟩ := Option.isSome_iff_exists.mp henc
    unfold setArrLoop; dsimp only
    rw [hdet, applyDet_nil, hraw]; dsimp only
    have hvalid : isValidIntegerIndex (s.attached v.buf) v.length (k : Int) = true := by
      simp [isValidIntegerIndex, ha]; omega
    rw [if_pos hvalid]
    simp only [List.map_cons, writeElems, hraw, Option.getD_some]
    exact ih _ _ (fun b hb => h b (List.mem_cons_of_mem _ hb)) (by rw [attached_writeElem]; exact ha) (by omega)

/-- **set(array-like), no adversary**: elements `[t, t+n)` of the view hold the encoded values, every byte range outside
them is unchanged. -/
theorem setArr_bytes_eq_spec (s : State) (vi : Nat) (v : View) (t : Nat) (vals : List VArg) (d : List UInt8)
    (hi : Inv s) (hv : s.views[vi]? = some v) (hd : s.data? v.buf = some d)
    (hvals : ∀ a ∈ vals, a.det = [] ∧ (encode v.kind a.num).isSome = true) (hfit : t + vals.length ≤ v.length) :
    ∃ d', (opSetArr s vi (some ⟨t, []⟩) vals).2.data? v.buf = some d' ∧ d'.length = d.length ∧
      (∀ i, i < vals.length → elemAt d' v (t + i) = fit v.kind.size ((encode v.kind (vals.getD i ⟨.undef, []⟩).num).getD [])) ∧
      (∀ lo n, (lo + n ≤ (v.offset + t) * v.kind.size ∨ (v.offset + t + vals.length) * v.kind.size ≤ lo) →
        window d' lo n = window d lo n) := by
  have ha : s.attached v.buf = true := attached_of_data hd
  have hb : v.hi ≤ d.length := hi.hi_le hv hd
  have c0 : ¬ ((t : Int) < 0) := by omega
  have c1 := not_detached ha
  have c2 : ¬ ((vals.length : Int) + (t : Int) > (v.length : Int)) := by omega
  have hop : opSetArr s vi (some ⟨(t : Int), []⟩) vals =
      (.ok, writeElems s v t (vals.map (fun a => (encode v.kind a.num).getD []))) := by
    unfold opSetArr; rw [hv]; dsimp only
    simp only [oDet, oVal, applyDet_nil]
    simp only [c0, c1, c2, if_false]
    rw [Int.toNat_natCast, setArrLoop_noadv v vals s t hvals ha hfit]
    simp
  rw [hop]
  have hbound : (v.offset + t + (vals.map (fun a => (encode v.kind a.num).getD [])).length) * v.kind.size ≤ d.length := by
    rw [List.length_map]
    refine Nat.le_trans (Nat.mul_le_mul_right _ (by omega : v.offset + t + vals.length ≤ v.offset + v.length)) hb
  obtain ⟨d', h1, h2, h3, h4⟩ := writeElems_elems v _ s t d hd hbound
  refine ⟨d', h1, h2, ?_, ?_⟩
  · intro i hi'
    have := h3 i (by rw [List.length_map]; exact hi')
    unfold elemAt
    rw [← Nat.add_assoc, this, getD_map_of_lt _ _ hi']
  · intro lo n hlo
    apply h4
    rw [List.length_map]
    exact hlo

/-- the model's forward live byte copy within one buffer is `copyUp` on its bytes -/
theorem copyFwd_same_data (b : Nat) : ∀ (n : Nat) (s : State) (slo dlo : Nat) (d : List UInt8), s.data? b = some d →
    (copyFwd s b slo b dlo n).data? b = some (copyUp (0 : UInt8) id d slo dlo n) ∧
    ∀ b', b' ≠ b → (copyFwd s b slo b dlo n).data? b' = s.data? b' := by
  intro n
  induction n with
  | zero => intro s slo dlo d h; exact ⟨h, fun _ _ => rfl⟩
  | succ n ih =>
    intro s slo dlo d h
    simp only [copyFwd, copyUp, id]
    have hw := data?_copyByte s b b slo dlo d h
    obtain ⟨a, c⟩ := ih _ (slo + 1) (dlo + 1) _ (by rw [hw, if_pos rfl, h]; rfl)
    exact ⟨a, fun b' hb' => by rw [c b' hb', hw, if_neg hb']⟩

/-- goja's same-type slice (builtin_typedarrays.go:1107-1118): `copy` (memmove) when the target starts at or before the
source or after its end, otherwise an explicit forward byte loop -/
def sliceMech (d : List UInt8) (srcLo dstLo n : Nat) : List UInt8 :=
  if dstLo ≤ srcLo ∨ dstLo ≥ srcLo + n then splice d dstLo (window d srcLo n) else copyUp (0 : UInt8) id d srcLo dstLo n

/-- **slice, same element type**: goja's mechanism equals ECMA-262's forward byte-by-byte copy with live reads (which is
what the model's `copyFwd` performs) for every relative position of source and target on the buffer. -/
theorem sliceMech_eq_spec (d : List UInt8) (srcLo dstLo n : Nat) (h : dstLo + n ≤ d.length) :
    sliceMech d srcLo dstLo n = copyUp (0 : UInt8) id d srcLo dstLo n := by
  unfold sliceMech
  split
  · rename_i hc
    have key := (overlapDir_eq_clone (0 : UInt8) id d srcLo dstLo n h).1 (by omega)
    rw [key, cloneWrite_bytes]
  · rfl

end GojaModel.C17
