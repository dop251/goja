/-
C17 — the comparator protocol of `typedArraySortCtx` (builtin_typedarrays.go:16-74) as a small machine.

`sort.Stable` drives `typedArraySortCtx` through `Less` / `Swap` (Model.lean `sortCalls`).  For ANY sequence of calls a
sorting algorithm may make, and any adversary detaching buffers inside the comparator: no element is touched after the
detach and every touch stays inside the view (`sortCalls_spec`, with `CtxOk` as the invariant of the cached flag); and
whatever the comparator answers, the view keeps a permutation of its elements (`PermOf` as the invariant of a call).
-/
import GojaModel.C17.Sort
import GojaModel.C17.Specs

namespace GojaModel.C17

def SortCall.inRange (n : Nat) : SortCall → Prop
  | .less i j _ => i < n ∧ j < n
  | .swap i j => i < n ∧ j < n

/-- the cached flag can be trusted whenever no validation is pending -/
def CtxOk (s : State) (v : View) (c : SortCtx) : Prop :=
  c.detached = false → c.needValidate = false → s.attached v.buf = true

theorem checkDetached_needValidate (s : State) (v : View) (c : SortCtx) :
    (checkDetached s v c).detached = false → (checkDetached s v c).needValidate = false := by
  unfold checkDetached
  split
  · intro _; rfl
  · rename_i hc
    intro hd
    cases hn : c.needValidate with
    | false => rfl
    | true => simp [hd, hn] at hc

theorem CtxOk.checkDetached {s : State} {v : View} {c : SortCtx} (h : CtxOk s v c) : CtxOk s v (checkDetached s v c) := by
  unfold GojaModel.C17.checkDetached
  split
  · intro hd _; simpa using hd
  · exact h

theorem checkDetached_ok (s : State) (v : View) (c : SortCtx) (h : CtxOk s v c) :
    (checkDetached s v c).detached = false → s.attached v.buf = true :=
  fun hd => h.checkDetached hd (checkDetached_needValidate s v c hd)

theorem sortCall_spec {P : Touch → Prop} {s : State} {vs : List View} {v : View} {c : SortCtx} (x : SortCall)
    (hc : VCtx P vs s) (m : v ∈ vs) (hok : CtxOk s v c) (hP : PRange P v.buf v.lo v.hi) (hx : x.inRange v.length) :
    VCtx P vs (sortCall s v c x).1 ∧ CtxOk (sortCall s v c x).1 v (sortCall s v c x).2 := by
  -- a call that gets past `checkDetached` finds the buffer attached; one that stops there changes nothing
  have hgo : ¬ (checkDetached s v c).detached = true → s.attached v.buf = true :=
    fun hd => checkDetached_ok s v c hok (by simpa using hd)
  cases x with
  | less i j det =>
    unfold sortCall; dsimp only
    split
    · exact ⟨hc, hok.checkDetached⟩
    · have ha := hgo ‹_›
      have a1 := (attached_readElem s v i v.buf).trans ha
      exact ⟨((hc.readElem m ha hP hx.1).readElem m a1 hP hx.2).applyDet det, fun _ h2 => by cases h2⟩
  | swap i j =>
    unfold sortCall; dsimp only
    split
    · exact ⟨hc, hok.checkDetached⟩
    · have ha := hgo ‹_›
      have a1 := (attached_readElem s v i v.buf).trans ha
      have a2 := (attached_readElem _ v j v.buf).trans a1
      have a3 := (attached_writeElem _ v i ((s.readElem v i).2.readElem v j).1 v.buf).trans a2
      exact ⟨(((hc.readElem m ha hP hx.1).readElem m a1 hP hx.2).writeElem _ m a2 hP hx.1).writeElem _ m a3 hP hx.2,
        fun _ _ => (attached_writeElem _ v j (s.readElem v i).1 v.buf).trans a3⟩

theorem sortCalls_spec {P : Touch → Prop} {vs : List View} {v : View} (m : v ∈ vs) (hP : PRange P v.buf v.lo v.hi) :
    ∀ (xs : List SortCall) (s : State) (c : SortCtx), VCtx P vs s → CtxOk s v c →
      (∀ x ∈ xs, x.inRange v.length) → VCtx P vs (sortCalls s v c xs).1 := by
  intro xs
  induction xs with
  | nil => intro s c hc _ _; exact hc
  | cons x xs ih =>
    intro s c hc hok hx
    obtain ⟨a, d⟩ := sortCall_spec x hc m hok hP (hx x (List.mem_cons_self ..))
    exact ih _ _ a d (fun y hy => hx y (List.mem_cons_of_mem _ hy))

/-- what the sort may have done to the view's buffer: nothing observable (detached), or a permutation of the
elements with everything outside the view untouched -/
def PermOf (d : List UInt8) (v : View) (s : State) : Prop :=
  s.data? v.buf = none ∨
  ∃ d', s.data? v.buf = some d' ∧ d'.length = d.length ∧ (elemsOf d' v).Perm (elemsOf d v) ∧
    ∀ lo n, (lo + n ≤ v.lo ∨ v.hi ≤ lo) → window d' lo n = window d lo n

theorem PermOf.applyDet {d : List UInt8} {v : View} {s : State} (h : PermOf d v s) (det : List Nat) :
    PermOf d v (s.applyDet det) := by
  rcases data?_applyDet_cases det s v.buf with h' | h'
  · left; exact h'
  · unfold PermOf; rw [h']; exact h

theorem PermOf.of_data {d : List UInt8} {v : View} {s s' : State} (h : PermOf d v s)
    (e : s'.data? v.buf = s.data? v.buf) : PermOf d v s' := by
  unfold PermOf; rw [e]; exact h

theorem swap_permOf (d : List UInt8) (v : View) (s : State) (i j : Nat) (hb : v.hi ≤ d.length)
    (hi : i < v.length) (hj : j < v.length) (h : PermOf d v s) :
    PermOf d v ((((s.readElem v i).2.readElem v j).2.writeElem v i ((s.readElem v i).2.readElem v j).1).writeElem v j
      (s.readElem v i).1) := by
  have hdata : ((s.readElem v i).2.readElem v j).2.data? v.buf = s.data? v.buf := by
    rw [readElem_data, readElem_data]
  rcases h with h | ⟨d', hd', hl, hp, hout⟩
  · left
    rw [writeElem_data, writeElem_data, hdata, h]; rfl
  · right
    have r1 : (s.readElem v i).1 = elemAt d' v i := (readElem_value s v d' i hd').1
    have r2 : ((s.readElem v i).2.readElem v j).1 = elemAt d' v j :=
      (readElem_value _ v d' j (by rw [readElem_data]; exact hd')).1
    have l1 : (elemAt d' v i).length = v.kind.size := window_length _ _ _
    have l2 : (elemAt d' v j).length = v.kind.size := window_length _ _ _
    have hb' : v.hi ≤ d'.length := by rw [hl]; exact hb
    refine ⟨splice (splice d' ((v.offset + i) * v.kind.size) (elemAt d' v j)) ((v.offset + j) * v.kind.size) (elemAt d' v i),
      ?_, ?_, ?_, ?_⟩
    · rw [writeElem_data, writeElem_data, hdata, hd', r1, r2, fit_eq_self _ _ l1, fit_eq_self _ _ l2]; rfl
    · rw [splice_length, splice_length, hl]
    · rw [elemsOf_splice _ v j _ hj l1 (by rw [splice_length]; exact hb'), elemsOf_splice _ v i _ hi l2 hb']
      have hi' : i < (elemsOf d' v).length := by rw [elemsOf_length]; exact hi
      have hj' : j < (elemsOf d' v).length := by rw [elemsOf_length]; exact hj
      rw [← elemsOf_getElem d' v i hi', ← elemsOf_getElem d' v j hj']
      exact (List.set_set_perm hi' hj').trans hp
    · intro lo n hlo
      have ei := And.intro (elem_lo v i) (elem_hi1 v i hi)
      have ej := And.intro (elem_lo v j) (elem_hi1 v j hj)
      rw [window_splice_outside _ _ _ _ _ (by rw [l1]; omega), window_splice_outside _ _ _ _ _ (by rw [l2]; omega)]
      exact hout lo n hlo

theorem sortCall_permOf (d : List UInt8) (v : View) (s : State) (c : SortCtx) (x : SortCall) (hb : v.hi ≤ d.length)
    (hx : x.inRange v.length) (h : PermOf d v s) : PermOf d v (sortCall s v c x).1 := by
  cases x with
  | less i j det =>
    unfold sortCall; dsimp only
    split
    · exact h
    · apply PermOf.applyDet
      apply h.of_data
      rw [readElem_data, readElem_data]
  | swap i j =>
    unfold sortCall; dsimp only
    split
    · exact h
    · exact swap_permOf d v s i j hb hx.1 hx.2 h

theorem sortCalls_permOf (d : List UInt8) (v : View) (hb : v.hi ≤ d.length) : ∀ (xs : List SortCall) (s : State) (c : SortCtx),
    (∀ x ∈ xs, x.inRange v.length) → PermOf d v s → PermOf d v (sortCalls s v c xs).1 := by
  intro xs
  induction xs with
  | nil => intro s c _ h; exact h
  | cons x xs ih =>
    intro s c hx h
    exact ih _ _ (fun y hy => hx y (List.mem_cons_of_mem _ hy))
      (sortCall_permOf d v s c x hb (hx x (List.mem_cons_self ..)) h)

/-- **user-comparator sort keeps a permutation**: for ANY sequence of in-range `Less` / `Swap` calls (any sorting
algorithm, any comparator answers, consistent or not) and any adversary detaching buffers inside the comparator: if the
sorted buffer is still attached afterwards, the view holds a permutation of its original raw elements, the buffer
keeps its length and every byte range outside the view is unchanged. -/
theorem sort_any_comparator_perm (s : State) (vi : Nat) (v : View) (calls : List SortCall) (d : List UInt8) (hi : Inv s)
    (hv : s.views[vi]? = some v) (hd : s.data? v.buf = some d) (hx : ∀ x ∈ calls, x.inRange v.length)
    (d' : List UInt8) (hd' : (sortCalls s v {} calls).1.data? v.buf = some d') :
    d'.length = d.length ∧ (elemsOf d' v).Perm (elemsOf d v) ∧
      ∀ lo n, (lo + n ≤ v.lo ∨ v.hi ≤ lo) → window d' lo n = window d lo n := by
  have hb : v.hi ≤ d.length := hi.hi_le hv hd
  have := sortCalls_permOf d v hb calls s {} hx (Or.inr ⟨d, hd, rfl, List.Perm.refl _, fun _ _ _ => rfl⟩)
  rcases this with h | ⟨d'', h1, h2, h3, h4⟩
  · rw [h] at hd'; cases hd'
  · rw [h1] at hd'; cases hd'
    exact ⟨h2, h3, h4⟩

/-- the generator's consistent user comparator: descending by the default numeric order -/
def elemGreater (k : Kind) (a b : List UInt8) : Bool := numLess (decode k b) (decode k a)

theorem elemGreater_sorted_perm (k : Kind) (elems : List (List UInt8)) :
    (stableSort (elemGreater k) elems).Perm elems ∧ Sorted (elemGreater k) (stableSort (elemGreater k) elems) :=
  ⟨stableSort_perm _ _,
   stableSort_sorted (elemGreater k) (fun a b => numLess_asymm (decode k b) (decode k a))
     (fun a b c h1 h2 => numLess_trans (decode k c) (decode k b) (decode k a) h2 h1) elems⟩

/-- **sort with a consistent user comparator under a detaching adversary**: when the comparator (descending numeric
order; its first call detaches `det`) leaves the sorted buffer attached, the view afterwards holds the stable sort of
its raw elements by that comparator — a permutation, pairwise ordered by the comparator — the buffer keeps its length
and every byte range outside the view is unchanged. (When the comparator detaches the sorted buffer there are no bytes
left to speak of: `sort_comparator_protocol_safe`.) -/
theorem sort_cmp_bytes_sorted_perm (s : State) (vi : Nat) (v : View) (det : List Nat) (d : List UInt8) (hi : Inv s)
    (hv : s.views[vi]? = some v) (hd : s.data? v.buf = some d)
    (d' : List UInt8) (hd' : (opSort s vi (some det)).2.data? v.buf = some d') :
    d'.length = d.length ∧
      (elemsOf d' v).Perm (elemsOf d v) ∧
      (2 ≤ v.length → elemsOf d' v = stableSort (elemGreater v.kind) (elemsOf d v) ∧ Sorted (elemGreater v.kind) (elemsOf d' v)) ∧
      (∀ lo n, (lo + n ≤ v.lo ∨ v.hi ≤ lo) → window d' lo n = window d lo n) := by
  have hatt : s.attached v.buf = true := attached_of_data hd
  have hb : v.hi ≤ d.length := hi.hi_le hv hd
  unfold opSort at hd'; rw [hv] at hd'; dsimp only at hd'
  rw [if_neg (not_detached hatt)] at hd'
  by_cases hlen : v.length < 2
  · rw [if_pos hlen, hd] at hd'
    cases hd'
    exact ⟨rfl, List.Perm.refl _, fun h => by omega, fun _ _ _ => rfl⟩
  · rw [if_neg hlen] at hd'
    obtain ⟨rv, rd⟩ := readElems_eq v d v.length s 0 hd
    have hre : (readElems s v 0 v.length).1 = elemsOf d v := rv
    by_cases ha : (!((readElems s v 0 v.length).2.applyDet det).attached v.buf) = true
    · rw [if_pos ha] at hd'
      exact absurd ha (not_detached (attached_of_data hd'))
    · rw [if_neg ha] at hd'
      have hd2 : ((readElems s v 0 v.length).2.applyDet det).data? v.buf = some d := by
        rw [data?_applyDet_of_attached (not_not_attached ha), rd]; exact hd
      rw [hre] at hd'
      have hsp := elemGreater_sorted_perm v.kind (elemsOf d v)
      obtain ⟨d2, h1, h2, h3, h4⟩ := writeElems_all v _ d (stableSort (elemGreater v.kind) (elemsOf d v)) hd2 hb
        (by rw [stableSort_length, elemsOf_length]) (fun x hx => length_of_mem_elemsOf (hsp.1.mem_iff.mp hx))
      have e : d' = d2 := by
        have : some d' = some d2 := by rw [← hd', ← h1]; rfl
        exact Option.some.inj this
      subst e
      refine ⟨h2, by rw [h3]; exact hsp.1, fun _ => ⟨h3, by rw [h3]; exact hsp.2⟩, h4⟩

end GojaModel.C17
