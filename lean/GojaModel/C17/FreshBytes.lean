/-
C17 — byte results of `filter` / `map` / `%TypedArray%.of` with the DEFAULT constructor under a detaching adversary:
the freshly allocated typed array holds exactly the captured elements (filter) / the encoded callback results (map) /
the encoded values (of, from), whatever the callbacks detached.
-/
import GojaModel.C17.SpeciesBytes
import GojaModel.C17.FilterBytes

namespace GojaModel.C17

theorem pushFresh_result (s : State) (kind : Kind) (elems : List (List UInt8)) :
    ∃ nb, (pushFresh s kind elems).views.getLast? = some ⟨nb, 0, elems.length, kind⟩ ∧
      (pushFresh s kind elems).data? nb = some (freshBytes kind.size elems) ∧
      elemsOf (freshBytes kind.size elems) ⟨nb, 0, elems.length, kind⟩ = elems.map (fit kind.size) := by
  refine ⟨s.bufs.length, by simp [pushFresh], ?_, elemsOf_freshBytes _ _ _⟩
  show ({ s with bufs := s.bufs ++ [some (freshBytes kind.size elems)] } : State).data? s.bufs.length = _
  rw [data?_pushBuf, if_neg (Nat.lt_irrefl _), if_pos rfl]

/-- **`filter`, default constructor, under an adversary**: the result is a new typed array over a new buffer whose
elements are exactly the captured elements of `filter_captured`. -/
theorem filter_fresh_bytes_eq_spec (s : State) (vi : Nat) (keep : List Bool) (detAt : Nat) (det : List Nat)
    (v : View) (d : List UInt8) (hv : s.views[vi]? = some v) (hd : s.data? v.buf = some d) :
    let kept := ((List.range' 0 v.length).filter (fun i => keep.getD i false)).map (captured d v detAt det)
    let r := opFilter s vi keep detAt det none
    ∃ nb, r.1 = .view 0 kept.length ∧ r.2.views.getLast? = some ⟨nb, 0, kept.length, v.kind⟩ ∧
      r.2.data? nb = some (freshBytes v.kind.size kept) ∧
      elemsOf (freshBytes v.kind.size kept) ⟨nb, 0, kept.length, v.kind⟩ = kept.map (fit v.kind.size) := by
  intro kept r
  have ha : s.attached v.buf = true := attached_of_data hd
  have hcap := filter_captured s v keep detAt det d hd
  have hr : r = (.view 0 kept.length, pushFresh (filterLoop s v keep detAt det 0 v.length []).1 v.kind kept) := by
    show opFilter s vi keep detAt det none = _
    unfold opFilter; rw [hv]; dsimp only
    have c0 : speciesBad s none = false := rfl
    rw [c0, ha]
    simp only [Bool.false_eq_true, if_false, Bool.not_true]
    rw [hcap]
  obtain ⟨nb, h1, h2, h3⟩ := pushFresh_result (filterLoop s v keep detAt det 0 v.length []).1 v.kind kept
  rw [hr]
  exact ⟨nb, rfl, h1, h2, h3⟩

theorem convVals_acc (kind : Kind) : ∀ (vals : List VArg) (s : State) (acc : List (List UInt8)),
    (convVals s kind vals acc).1 = .ok → (convVals s kind vals acc).2.2 = acc ++ vals.map (encRaw kind) := by
  intro vals
  induction vals with
  | nil => intro s acc _; simp [convVals]
  | cons a as ih =>
    intro s acc hok
    unfold convVals at hok ⊢; dsimp only at hok ⊢
    cases henc : encode kind a.num with
    | none => rw [henc] at hok; dsimp only at hok; cases hok
    | some raw =>
      rw [henc] at hok; dsimp only at hok ⊢
      rw [ih _ _ hok]
      simp [encRaw, henc]

/-- **`%TypedArray%.of` / `.from`, built-in constructor, under an adversary**: when every value converts, the result is a
new typed array over a new buffer whose elements are exactly the encoded values — whatever the conversions detached. -/
theorem of_builtin_bytes_eq_spec (s : State) (kind : Kind) (vals : List VArg)
    (hok : (convVals s kind vals []).1 = .ok) :
    let raws := vals.map (encRaw kind)
    let r := opOf s (.builtin kind) vals
    ∃ nb, r.1 = .view 0 vals.length ∧ r.2.views.getLast? = some ⟨nb, 0, raws.length, kind⟩ ∧
      r.2.data? nb = some (freshBytes kind.size raws) ∧
      elemsOf (freshBytes kind.size raws) ⟨nb, 0, raws.length, kind⟩ = raws.map (fit kind.size) := by
  intro raws r
  have hacc := convVals_acc kind vals s [] hok
  rw [List.nil_append] at hacc
  have hr : r = (.view 0 vals.length, pushFresh (convVals s kind vals []).2.1 kind raws) := by
    show opOf s (.builtin kind) vals = _
    unfold opOf; dsimp only
    rw [hok]
    simp only [Res.isOk, if_true]
    rw [hacc]
  obtain ⟨nb, h1, h2, h3⟩ := pushFresh_result (convVals s kind vals []).2.1 kind raws
  rw [hr]
  exact ⟨nb, rfl, h1, h2, h3⟩

theorem mapLoopFresh_acc (v : View) (vals : List VArg) : ∀ (n : Nat) (s : State) (k : Nat) (acc : List (List UInt8)),
    (mapLoopFresh s v vals k n acc).1 = .ok →
    (mapLoopFresh s v vals k n acc).2.2 = acc ++ (List.range' k n).map (fun i => encRaw v.kind (valAt vals i)) := by
  intro n
  induction n with
  | zero => intro s k acc _; simp [mapLoopFresh]
  | succ n ih =>
    intro s k acc hok
    unfold mapLoopFresh at hok ⊢; dsimp only at hok ⊢
    cases henc : encode v.kind (valAt vals k).num with
    | none => rw [henc] at hok; dsimp only at hok; cases hok
    | some raw =>
      rw [henc] at hok; dsimp only at hok ⊢
      rw [ih _ _ _ hok]
      simp [List.range'_succ, encRaw, henc]

/-- **`map`, default constructor, under an adversary**: when every callback result converts, the result is a new typed
array over a new buffer whose elements are exactly the encoded callback results — whatever the callbacks detached
(including the receiver's own buffer). -/
theorem map_fresh_bytes_eq_spec (s : State) (vi : Nat) (v : View) (vals : List VArg) (hv : s.views[vi]? = some v)
    (ha : s.attached v.buf = true) (hok : (mapLoopFresh s v vals 0 v.length []).1 = .ok) :
    let raws := (List.range' 0 v.length).map (fun i => encRaw v.kind (valAt vals i))
    let r := opMap s vi none vals
    ∃ nb, r.1 = .view 0 v.length ∧ r.2.views.getLast? = some ⟨nb, 0, raws.length, v.kind⟩ ∧
      r.2.data? nb = some (freshBytes v.kind.size raws) ∧
      elemsOf (freshBytes v.kind.size raws) ⟨nb, 0, raws.length, v.kind⟩ = raws.map (fit v.kind.size) := by
  intro raws r
  have hacc := mapLoopFresh_acc v vals v.length s 0 [] hok
  rw [List.nil_append] at hacc
  have hr : r = (.view 0 v.length, pushFresh (mapLoopFresh s v vals 0 v.length []).2.1 v.kind raws) := by
    show opMap s vi none vals = _
    unfold opMap; rw [hv]; dsimp only
    have c0 : speciesBad s none = false := rfl
    rw [c0, ha, hok]
    simp only [Bool.false_eq_true, if_false, Bool.not_true, Res.isOk, if_true]
    rw [hacc]
  obtain ⟨nb, h1, h2, h3⟩ := pushFresh_result (mapLoopFresh s v vals 0 v.length []).2.1 v.kind raws
  rw [hr]
  exact ⟨nb, rfl, h1, h2, h3⟩

end GojaModel.C17
