/-
C17 — the hypotheses of the adversarial byte-result theorems are satisfiable: concrete runs (kernel-evaluated) in which
the adversary detaches OTHER buffers / the receiver and the results are as the theorems say.
-/
import GojaModel.C17.Model

namespace GojaModel.C17

def Res.isView (r : Res) (lo n : Nat) : Bool :=
  match r with
  | .view a b => a == lo && b == n
  | _ => false

/-- an INCONSISTENT comparator (call sequence that no sorting algorithm would need) still leaves a permutation:
`sort_any_comparator_perm` applies, the adversary detaches buffer 1 inside the first comparison. -/
theorem sort_any_comparator_witness :
    let s0 : State := { bufs := [some [7, 3, 1, 2, 9], some [5]], views := [⟨0, 1, 3, .u8⟩] }
    let v : View := ⟨0, 1, 3, .u8⟩
    let r := sortCalls s0 v {} [.less 0 1 [1], .swap 0 1, .swap 1 2, .less 2 0 [], .swap 2 0]
    r.1.data? 0 = some [7, 3, 2, 1, 9] ∧ r.1.data? 1 = none := by decide

/-- `%TypedArray%.of` with a user constructor that detaches buffer 1 and returns view 0; the second value's conversion
detaches buffer 2: the target (buffer 0) survives and holds the encoded values (`of_user_bytes_eq_spec`). -/
theorem of_user_witness :
    let s0 : State := { bufs := [some [9, 9, 9, 9], some [5], some [6]], views := [⟨0, 1, 3, .u8⟩] }
    let r := opOf s0 (.user 0 [1]) [⟨.int 258, []⟩, ⟨.int (-1), [2]⟩]
    r.1.isView 1 3 = true ∧ r.2.data? 0 = some [9, 2, 255, 9] ∧ r.2.data? 1 = none ∧ r.2.data? 2 = none := by decide

/-- `filter`: the callback for element 1 detaches the receiver's buffer; element 1 itself is still captured live,
element 2 is captured as zero bytes (`filter_captured`). -/
theorem filter_captured_witness :
    let s0 : State := { bufs := [some [4, 5, 6]], views := [⟨0, 0, 3, .u8⟩] }
    (filterLoop s0 ⟨0, 0, 3, .u8⟩ [true, true, true] 1 [0] 0 3 []).2 = [[4], [5], [0]] := by decide

/-- `map` into a species result that is a view of the receiver's own buffer, with a callback result conversion that
detaches another buffer (`map_species_bytes_eq_spec`). -/
theorem map_species_witness :
    let s0 : State := { bufs := [some [1, 2, 3, 4], some [5]], views := [⟨0, 0, 2, .u8⟩, ⟨0, 1, 3, .u8⟩] }
    let r := opMap s0 0 (some (1, [])) [⟨.int 10, [1]⟩, ⟨.int 20, []⟩]
    r.1.isView 1 3 = true ∧ r.2.data? 0 = some [1, 10, 20, 4] ∧ r.2.data? 1 = none := by decide

end GojaModel.C17
