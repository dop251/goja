/-
C17 — `filter` under a detaching adversary: which elements are captured, and the bytes of a user-species result.

goja captures each element BEFORE its callback runs; once the receiver's buffer is detached the remaining elements are
`undefined` (zero bytes after conversion).
-/
import GojaModel.C17.Specs

namespace GojaModel.C17

/-- what `filter` hands to callback `k` / captures for the result: the live element up to and including the call that
detaches, afterwards the live element only if the receiver's buffer was not among the detached ones -/
def captured (d : List UInt8) (v : View) (detAt : Nat) (det : List Nat) (k : Nat) : List UInt8 :=
  if k ≤ detAt ∨ v.buf ∉ det then elemAt d v k else zeros v.kind.size

/-- the receiver's buffer as the loop sees it before call `k` -/
def filterData (d : List UInt8) (v : View) (detAt : Nat) (det : List Nat) (k : Nat) : Option (List UInt8) :=
  if k ≤ detAt ∨ v.buf ∉ det then some d else none

theorem filterLoop_captured (d : List UInt8) (v : View) (keep : List Bool) (detAt : Nat) (det : List Nat) :
    ∀ (n : Nat) (s : State) (k : Nat) (acc : List (List UInt8)), s.data? v.buf = filterData d v detAt det k →
      (filterLoop s v keep detAt det k n acc).2 =
        acc ++ ((List.range' k n).filter (fun i => keep.getD i false)).map (captured d v detAt det) := by
  intro n
  induction n with
  | zero => intro s k acc _; simp [filterLoop]
  | succ n ih =>
    intro s k acc h
    unfold filterLoop; dsimp only
    have hval : (filterRead s v k).1 = captured d v detAt det k := by
      unfold filterRead captured
      unfold filterData at h
      by_cases c : k ≤ detAt ∨ v.buf ∉ det
      · rw [if_pos c] at h ⊢
        have ha : s.attached v.buf = true := attached_of_data h
        rw [if_pos ha]
        exact (readElem_value s v d k h).1
      · rw [if_neg c] at h ⊢
        have ha : ¬ s.attached v.buf = true := by unfold State.attached; rw [h]; simp
        rw [if_neg ha]
    have hnext : (if (k == detAt) = true then (filterRead s v k).2.applyDet det else (filterRead s v k).2).data? v.buf =
        filterData d v detAt det (k + 1) := by
      have h0 : (filterRead s v k).2.data? v.buf = filterData d v detAt det k := by rw [filterRead_data]; exact h
      by_cases hk : k = detAt
      · have : (k == detAt) = true := by simp [hk]
        rw [if_pos this]
        have h1 : (filterRead s v k).2.data? v.buf = some d := by
          rw [h0]; unfold filterData; rw [if_pos (Or.inl (by omega))]
        rw [data?_applyDet, h1]
        unfold filterData
        by_cases hm : v.buf ∈ det
        · rw [if_pos hm, if_neg (fun hh => hh.elim (fun h' => by omega) (fun h' => h' hm))]
        · rw [if_neg hm, if_pos (Or.inr hm)]
      · have : ¬ (k == detAt) = true := by simp [hk]
        rw [if_neg this, h0]
        simp only [filterData, show k ≤ detAt ↔ k + 1 ≤ detAt by omega]
    rw [ih _ (k + 1) _ hnext, hval]
    simp only [List.range'_succ, List.filter_cons]
    by_cases hkeep : keep.getD k false = true
    · rw [if_pos hkeep, if_pos hkeep, List.map_cons, List.append_assoc]; rfl
    · rw [if_neg hkeep, if_neg hkeep]

/-- **`filter` under an adversary: the captured elements** — for a receiver with content `d`, the list of raw elements
that `filter` keeps is exactly: for every index the callback accepted, the live element if the receiver's buffer was still
attached at that call (the detaching call itself still sees the live element), zero bytes afterwards. -/
theorem filter_captured (s : State) (v : View) (keep : List Bool) (detAt : Nat) (det : List Nat) (d : List UInt8)
    (hd : s.data? v.buf = some d) :
    (filterLoop s v keep detAt det 0 v.length []).2 =
      ((List.range' 0 v.length).filter (fun i => keep.getD i false)).map (captured d v detAt det) := by
  have := filterLoop_captured d v keep detAt det v.length s 0 [] (by
    rw [hd]; unfold filterData; rw [if_pos (Or.inl (Nat.zero_le _))])
  rw [this, List.nil_append]

theorem filterLoop_data_cases (v : View) (keep : List Bool) (detAt : Nat) (det : List Nat) (b : Nat) :
    ∀ (n : Nat) (s : State) (k : Nat) (acc : List (List UInt8)),
      (filterLoop s v keep detAt det k n acc).1.data? b = none ∨ (filterLoop s v keep detAt det k n acc).1.data? b = s.data? b := by
  intro n
  induction n with
  | zero => intro s k acc; right; rfl
  | succ n ih =>
    intro s k acc
    unfold filterLoop; dsimp only
    rcases ih (if (k == detAt) = true then (filterRead s v k).2.applyDet det else (filterRead s v k).2) (k + 1)
      (if keep.getD k false = true then acc ++ [(filterRead s v k).1] else acc) with h | h
    · left; exact h
    · rw [h]
      split
      · rcases data?_applyDet_cases det (filterRead s v k).2 b with h' | h'
        · left; exact h'
        · right; rw [h', filterRead_data]
      · right; exact filterRead_data s v k b

/-- **`filter` with a user species constructor under an adversary**: the callbacks may detach (`detAt`, `det`), the
constructor detaches `sdet` and returns the existing typed array `dst`. If the call returns a typed array and `dst`'s
buffer is attached afterwards, then the first `m` elements of `dst` (`m` = number of kept elements) hold the kept captured
elements converted to `dst`'s kind, the buffer keeps its length, and every byte range outside them is unchanged. -/
theorem filter_species_bytes_eq_spec (s : State) (vi di : Nat) (keep : List Bool) (detAt : Nat) (det sdet : List Nat)
    (v dst : View) (d : List UInt8) (hi : Inv s) (hv : s.views[vi]? = some v) (hdv : s.views[di]? = some dst)
    (hd : s.data? dst.buf = some d)
    (lo n : Nat) (hres : (opFilter s vi keep detAt det (some (di, sdet))).1 = .view lo n)
    (d' : List UInt8) (hd' : (opFilter s vi keep detAt det (some (di, sdet))).2.data? dst.buf = some d') :
    ∃ ys, convElems v.kind dst.kind (filterLoop s v keep detAt det 0 v.length []).2 = some ys ∧ ys.length ≤ dst.length ∧
      d'.length = d.length ∧
      (∀ i, i < ys.length → elemAt d' dst i = fit dst.kind.size (ys.getD i [])) ∧
      (∀ lo n, (lo + n ≤ dst.lo ∨ (dst.offset + ys.length) * dst.kind.size ≤ lo) → window d' lo n = window d lo n) := by
  have hb : dst.hi ≤ d.length := hi.hi_le hdv hd
  unfold opFilter at hres hd'; rw [hv] at hres hd'; dsimp only at hres hd'
  have c0 := guard_passed hres nofun
  rw [if_neg c0] at hres hd'
  have c00 := guard_passed hres nofun
  rw [if_neg c00, hdv] at hres hd'; dsimp only at hres hd'
  generalize hr : filterLoop s v keep detAt det 0 v.length [] = r at hres hd'
  have hcases := filterLoop_data_cases v keep detAt det dst.buf v.length s 0 []
  rw [hr] at hcases
  have c1 := guard_passed hres nofun
  rw [if_neg c1] at hres hd'
  have c2 := guard_passed hres nofun
  rw [if_neg c2] at hres hd'
  have hd0 : (r.1.applyDet sdet).data? dst.buf = some d := by
    have h := data?_applyDet_of_attached (not_not_attached c1)
    rcases hcases with h' | h'
    · have ha := not_not_attached c1
      rw [State.attached, h, h'] at ha; cases ha
    · rw [h, h', hd]
  cases hconv : convElems v.kind dst.kind r.2 with
  | none => rw [hconv] at hres; dsimp only at hres; cases hres
  | some ys =>
    rw [hconv] at hres hd'; dsimp only at hres hd'
    have hlen : ys.length = r.2.length := convElems_length _ _ hconv
    obtain ⟨d2, h1, h2, h3, h4⟩ := writeElems_prefix dst ys (r.1.applyDet sdet) d hd0 hb (by omega)
    have e : d' = d2 := Option.some.inj (by rw [← hd', ← h1]; rfl)
    subst e
    exact ⟨ys, rfl, by omega, h2, h3, h4⟩

end GojaModel.C17
