/-
  C17 tie for the Uint8Array hex methods: the byte window of `getUint8ArrayBytes` and the parity test / truncation of
  `fromHexInto`, regenerated from /repo by extract/c17.go, equal what Hex.lean transcribes.
-/
import GojaModel.C17.Hex
import GojaModel.Generated.C17_Index

namespace GojaModel.C17.TieHex
open GojaModel.C17

/-- `data[ta.offset : ta.offset+ta.length]` — the range `opToHex` reads and `opSetFromHex` writes into -/
theorem u8Bytes_tie (offset length : Nat) :
    Generated.C17.u8BytesLo offset length = (offset : Int) ∧
    Generated.C17.u8BytesHi offset length = ((offset + length : Nat) : Int) := by
  simp [Generated.C17.u8BytesLo, Generated.C17.u8BytesHi]

/-- `fromHexInto`: odd length ⇒ nothing decoded; longer than `2·maxLength` ⇒ keep the first `2·maxLength` characters -/
theorem fromHexInto_tie (cs : List Char) (maxLength : Nat) :
    (Generated.C17.hexOddLength cs.length = (cs.length % 2 != 0)) ∧
    hexTruncate cs maxLength =
      (if Generated.C17.hexTooLong cs.length maxLength = true then cs.take (Generated.C17.hexKeep maxLength).toNat else cs) := by
  constructor
  · simp only [Generated.C17.hexOddLength]
    by_cases h : cs.length % 2 = 0
    · have : ((cs.length : Int) % 2) = 0 := by omega
      simp [h, this]
    · have : ¬ ((cs.length : Int) % 2) = 0 := by omega
      simp [this]
      omega
  · unfold hexTruncate
    simp only [Generated.C17.hexTooLong, Generated.C17.hexKeep, decide_eq_true_eq]
    by_cases h : cs.length > maxLength * 2
    · have h' : (cs.length : Int) > (maxLength : Int) * 2 := by omega
      have e : ((maxLength : Int) * 2).toNat = maxLength * 2 := by omega
      rw [if_pos h, if_pos h', e]
    · have h' : ¬ (cs.length : Int) > (maxLength : Int) * 2 := by omega
      rw [if_neg h, if_neg h']

end GojaModel.C17.TieHex
