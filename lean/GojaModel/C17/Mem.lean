/-
  C17 — the memory primitives.  Everything goes through `readRange` / `writeRange`: for each of the two, what it does to
  the shape (`SameShape`), the touch log (`LogAll P` under `RangeOK`), the bytes (`data?`) and what it returns.  The
  element-level primitives are range accesses of laid-out bytes, exactly and with the same log: `readElems_snd`,
  `writeElems_eq`, `fillLoop_eq`; their lemmas are instances.
-/
import GojaModel.C17.Lemmas
import GojaModel.C17.Codec

namespace GojaModel.C17

theorem sameShape_readByte (s : State) (b i : Nat) : SameShape s (s.readByte b i).2 :=
  ⟨fun _ => rfl, rfl, rfl, rfl⟩

theorem data?_readByte (s : State) (b i b' : Nat) : (s.readByte b i).2.data? b' = s.data? b' := rfl

theorem data?_writeByte (s : State) (b i : Nat) (x : UInt8) (b' : Nat) :
    (s.writeByte b i x).data? b' = if b' = b then (s.data? b).map (fun d => d.set i x) else s.data? b' := by
  unfold State.writeByte
  cases h : s.data? b with
  | none =>
    show s.data? b' = _
    by_cases hb : b' = b
    · subst hb; simp [h]
    · simp [hb]
  | some d =>
    show (s.bufs.set b (some (d.set i x))).getD b' none = _
    rw [data?_set]
    have hlt : b < s.bufs.length := data?_lt h
    by_cases hb : b' = b
    · subst hb; simp [hlt]
    · have : ¬ (b = b' ∧ b < s.bufs.length) := by intro hh; exact hb hh.1.symm
      rw [if_neg this, if_neg hb]; rfl

theorem sameShape_writeByte (s : State) (b i : Nat) (x : UInt8) : SameShape s (s.writeByte b i x) := by
  refine ⟨fun b' => ?_, ?_, rfl, rfl⟩
  · show ((s.writeByte b i x).data? b').map List.length = (s.data? b').map List.length
    rw [data?_writeByte]
    split
    · subst b'; cases s.data? b <;> simp
    · rfl
  · unfold State.writeByte
    cases h : s.data? b <;> simp

/-- `readByte` and `writeByte` both log the one touch `⟨b, i, s.touchOk b i, w⟩`: callers give `ht` by `rfl` -/
theorem logAll_touch {P : Touch → Prop} {s t : State} {b i lo hi : Nat} {w : Bool} (hlog : LogAll P s)
    (hr : RangeOK s b hi) (hP : PRange P b lo hi) (h1 : lo ≤ i) (h2 : i < hi)
    (ht : t.log = ⟨b, i, s.touchOk b i, w⟩ :: s.log) : LogAll P t := by
  intro x hx
  rw [ht, List.mem_cons] at hx
  rcases hx with rfl | hx
  · rw [hr.touchOk h2]; exact hP i w h1 h2
  · exact hlog x hx

theorem readRange_length (b : Nat) : ∀ (n : Nat) (s : State) (i : Nat), (s.readRange b i n).1.length = n := by
  intro n
  induction n with
  | zero => intro s i; rfl
  | succ n ih => intro s i; simp [State.readRange, ih]

theorem readRange_data (b : Nat) : ∀ (n : Nat) (s : State) (lo b' : Nat), (s.readRange b lo n).2.data? b' = s.data? b' := by
  intro n
  induction n with
  | zero => intro s lo b'; rfl
  | succ n ih => intro s lo b'; simp only [State.readRange]; rw [ih]; rfl

theorem readRange_value (b : Nat) (d : List UInt8) : ∀ (n : Nat) (s : State) (lo : Nat), s.data? b = some d →
    (s.readRange b lo n).1 = window d lo n := by
  intro n
  induction n with
  | zero => intro s lo _; rfl
  | succ n ih =>
    intro s lo h
    simp only [State.readRange, window]
    rw [ih (s.readByte b lo).2 (lo + 1) (by rw [data?_readByte]; exact h)]
    simp [State.readByte, h]

theorem sameShape_readRange (b : Nat) : ∀ (n : Nat) (s : State) (i : Nat), SameShape s (s.readRange b i n).2 := by
  intro n
  induction n with
  | zero => intro s i; exact SameShape.refl s
  | succ n ih => intro s i; exact (sameShape_readByte s b i).trans (ih _ _)

theorem readRange_spec {P : Touch → Prop} {b lo hi : Nat} (hP : PRange P b lo hi) :
    ∀ (n : Nat) (s : State) (i : Nat), LogAll P s → RangeOK s b hi → lo ≤ i → i + n ≤ hi →
      LogAll P (s.readRange b i n).2 ∧ SameShape s (s.readRange b i n).2 := by
  intro n
  induction n with
  | zero => intro s i hlog _ _ _; exact ⟨hlog, SameShape.refl s⟩
  | succ n ih =>
    intro s i hlog hr h1 h2
    have hl : LogAll P (s.readByte b i).2 := logAll_touch hlog hr hP h1 (by omega) rfl
    have hs := sameShape_readByte s b i
    obtain ⟨a, c⟩ := ih (s.readByte b i).2 (i + 1) hl (hr.of_sameShape hs) (by omega) (by omega)
    exact ⟨a, hs.trans c⟩

theorem readRange_add (b : Nat) : ∀ (m n : Nat) (s : State) (lo : Nat),
    s.readRange b lo (m + n) =
      ((s.readRange b lo m).1 ++ ((s.readRange b lo m).2.readRange b (lo + m) n).1,
       ((s.readRange b lo m).2.readRange b (lo + m) n).2) := by
  intro m
  induction m with
  | zero => intro n s lo; simp [State.readRange]
  | succ m ih =>
    intro n s lo
    rw [Nat.succ_add]
    simp only [State.readRange]
    rw [ih, Nat.add_assoc, Nat.add_comm 1]
    rfl

theorem data?_writeRange (b : Nat) : ∀ (xs : List UInt8) (s : State) (lo b' : Nat),
    (s.writeRange b lo xs).data? b' = if b' = b then (s.data? b).map (fun d => splice d lo xs) else s.data? b' := by
  intro xs
  induction xs with
  | nil => intro s lo b'; by_cases h : b' = b <;> simp [State.writeRange, splice, h]
  | cons x xs ih =>
    intro s lo b'
    simp only [State.writeRange]
    rw [ih, data?_writeByte, data?_writeByte]
    by_cases h : b' = b
    · subst h
      simp only [if_true]
      cases s.data? b' <;> simp [splice]
    · simp [h]

theorem sameShape_writeRange (b : Nat) : ∀ (xs : List UInt8) (s : State) (i : Nat), SameShape s (s.writeRange b i xs) := by
  intro xs
  induction xs with
  | nil => intro s i; exact SameShape.refl s
  | cons x xs ih => intro s i; exact (sameShape_writeByte s b i x).trans (ih _ _)

theorem writeRange_spec {P : Touch → Prop} {b lo hi : Nat} (hP : PRange P b lo hi) :
    ∀ (xs : List UInt8) (s : State) (i : Nat), LogAll P s → RangeOK s b hi → lo ≤ i → i + xs.length ≤ hi →
      LogAll P (s.writeRange b i xs) ∧ SameShape s (s.writeRange b i xs) := by
  intro xs
  induction xs with
  | nil => intro s i hlog _ _ _; exact ⟨hlog, SameShape.refl s⟩
  | cons x xs ih =>
    intro s i hlog hr h1 h2
    simp only [List.length_cons] at h2
    have hl : LogAll P (s.writeByte b i x) := logAll_touch hlog hr hP h1 (by omega) rfl
    have hs := sameShape_writeByte s b i x
    obtain ⟨a, c⟩ := ih (s.writeByte b i x) (i + 1) hl (hr.of_sameShape hs) (by omega) (by omega)
    exact ⟨a, hs.trans c⟩

theorem writeRange_append (b : Nat) : ∀ (xs ys : List UInt8) (s : State) (lo : Nat),
    s.writeRange b lo (xs ++ ys) = (s.writeRange b lo xs).writeRange b (lo + xs.length) ys := by
  intro xs
  induction xs with
  | nil => intro ys s lo; rfl
  | cons x xs ih =>
    intro ys s lo
    simp only [List.cons_append, State.writeRange, List.length_cons]
    rw [ih, Nat.add_assoc, Nat.add_comm 1]

/-- `copy(dst[dlo:], src[slo:slo+n])` (read everything, then write): buffer `db` gets the OLD bytes of `sb` -/
theorem move_data (s : State) (sb db slo dlo n : Nat) (ds : List UInt8) (hs : s.data? sb = some ds) (b' : Nat) :
    ((s.readRange sb slo n).2.writeRange db dlo (s.readRange sb slo n).1).data? b' =
      if b' = db then (s.data? db).map (fun d => splice d dlo (window ds slo n)) else s.data? b' := by
  rw [data?_writeRange, readRange_data, readRange_data, readRange_value sb ds n s slo hs]

/-- Go's `copy` moves `min(len(dst), len(src))` bytes (the `min` in `opCopyWithin` and `opSetTA`): when the target range
lies inside the buffer the clamp is idle -/
theorem move_data_fits (s : State) (sb db slo dlo n : Nat) (ds dd : List UInt8) (hs : s.data? sb = some ds)
    (hd : s.data? db = some dd) (hfit : dlo + n ≤ dd.length) (b' : Nat) :
    ((s.readRange sb slo (min n (s.blen db - dlo))).2.writeRange db dlo
        (s.readRange sb slo (min n (s.blen db - dlo))).1).data? b' =
      if b' = db then some (splice dd dlo (window ds slo n)) else s.data? b' := by
  rw [blen_of_data hd, Nat.min_eq_left (by omega), move_data _ _ _ _ _ _ ds hs, hd]; rfl

theorem attached_readElem (s : State) (v : View) (k b : Nat) : (s.readElem v k).2.attached b = s.attached b :=
  (sameShape_readRange ..).attached b

theorem attached_writeElem (s : State) (v : View) (k : Nat) (raw : List UInt8) (b : Nat) :
    (s.writeElem v k raw).attached b = s.attached b :=
  (sameShape_writeRange ..).attached b

theorem readElem_data (s : State) (v : View) (k b' : Nat) : (s.readElem v k).2.data? b' = s.data? b' :=
  readRange_data v.buf _ s _ b'

theorem filterRead_data (s : State) (v : View) (k b : Nat) : (filterRead s v k).2.data? b = s.data? b := by
  unfold filterRead
  split
  · exact readElem_data s v k b
  · rfl

theorem readElem_value (s : State) (v : View) (d : List UInt8) (i : Nat) (h : s.data? v.buf = some d) :
    (s.readElem v i).1 = elemAt d v i ∧ ∀ b', (s.readElem v i).2.data? b' = s.data? b' := by
  unfold State.readElem elemAt
  exact ⟨readRange_value v.buf d _ s _ h, fun b' => readRange_data v.buf _ s _ b'⟩

theorem writeElem_data (s : State) (v : View) (k : Nat) (x : List UInt8) :
    (s.writeElem v k x).data? v.buf =
      (s.data? v.buf).map (fun d => splice d ((v.offset + k) * v.kind.size) (fit v.kind.size x)) := by
  unfold State.writeElem
  rw [data?_writeRange, if_pos rfl]

theorem readElems_length (v : View) : ∀ (n : Nat) (s : State) (k : Nat), (readElems s v k n).1.length = n := by
  intro n
  induction n with
  | zero => intro s k; rfl
  | succ n ih => intro s k; simp [readElems, ih]

theorem readElems_snd (v : View) : ∀ (n : Nat) (s : State) (k : Nat),
    (readElems s v k n).2 = (s.readRange v.buf ((v.offset + k) * v.kind.size) (n * v.kind.size)).2 := by
  intro n
  induction n with
  | zero => intro s k; simp [readElems, State.readRange]
  | succ n ih =>
    intro s k
    rw [readElems, ih, Nat.succ_mul, Nat.add_comm (n * _), readRange_add, ← elem_succ]
    rfl

theorem readElems_eq (v : View) (d : List UInt8) : ∀ (n : Nat) (s : State) (k : Nat), s.data? v.buf = some d →
    (readElems s v k n).1 = (List.range' k n).map (fun i => window d ((v.offset + i) * v.kind.size) v.kind.size) ∧
    ∀ b', (readElems s v k n).2.data? b' = s.data? b' := by
  intro n
  induction n with
  | zero => intro s k _; exact ⟨rfl, fun _ => rfl⟩
  | succ n ih =>
    intro s k h
    simp only [readElems, List.range'_succ, List.map_cons]
    obtain ⟨hval, hdat⟩ := readElem_value s v d k h
    obtain ⟨a, b⟩ := ih (s.readElem v k).2 (k + 1) (by rw [hdat]; exact h)
    exact ⟨by rw [hval, a]; rfl, fun b' => by rw [b, hdat]⟩

theorem attached_readElems (v : View) (b n : Nat) (s : State) (k : Nat) :
    (readElems s v k n).2.attached b = s.attached b := by
  rw [readElems_snd]; exact (sameShape_readRange ..).attached b

theorem writeElems_eq (v : View) : ∀ (ys : List (List UInt8)) (s : State) (k : Nat),
    writeElems s v k ys = s.writeRange v.buf ((v.offset + k) * v.kind.size) (freshBytes v.kind.size ys) := by
  intro ys
  induction ys with
  | nil => intro s k; rfl
  | cons y ys ih =>
    intro s k
    rw [writeElems, ih, freshBytes, writeRange_append, fit_length, ← elem_succ]
    rfl

theorem writeElems_data (s : State) (v : View) (k : Nat) (ys : List (List UInt8)) (b' : Nat) :
    (writeElems s v k ys).data? b' =
      if b' = v.buf then (s.data? v.buf).map fun d => splice d ((v.offset + k) * v.kind.size) (freshBytes v.kind.size ys)
      else s.data? b' := by
  rw [writeElems_eq, data?_writeRange]

theorem writeElems_elems (v : View) (ys : List (List UInt8)) (s : State) (k : Nat) (cur : List UInt8)
    (h : s.data? v.buf = some cur) (hb : (v.offset + k + ys.length) * v.kind.size ≤ cur.length) :
    ∃ d', (writeElems s v k ys).data? v.buf = some d' ∧ d'.length = cur.length ∧
      (∀ i, i < ys.length → window d' ((v.offset + k + i) * v.kind.size) v.kind.size = fit v.kind.size (ys.getD i [])) ∧
      (∀ lo n, (lo + n ≤ (v.offset + k) * v.kind.size ∨ (v.offset + k + ys.length) * v.kind.size ≤ lo) →
        window d' lo n = window cur lo n) := by
  have hl := freshBytes_length v.kind.size ys
  have e (i : Nat) : (v.offset + k + i) * v.kind.size = (v.offset + k) * v.kind.size + i * v.kind.size := Nat.add_mul ..
  rw [e] at hb
  refine ⟨_, by rw [writeElems_data, if_pos rfl, h]; rfl, splice_length .., fun i hi => ?_, fun lo n hlo => ?_⟩
  · have := Nat.mul_le_mul_right v.kind.size (Nat.succ_le_of_lt hi)
    rw [Nat.succ_mul] at this
    rw [e, window_splice_inside _ _ _ _ _ (Nat.le_add_right ..) (by omega) (by omega), Nat.add_sub_cancel_left,
      freshBytes_window _ _ _ hi]
  · exact window_splice_outside _ _ _ _ _ (by rw [hl, ← e]; exact hlo)

theorem writeElems_prefix (v : View) (ys : List (List UInt8)) (s : State) (d : List UInt8) (hd : s.data? v.buf = some d)
    (hb : v.hi ≤ d.length) (hlen : ys.length ≤ v.length) :
    ∃ d', (writeElems s v 0 ys).data? v.buf = some d' ∧ d'.length = d.length ∧
      (∀ i, i < ys.length → elemAt d' v i = fit v.kind.size (ys.getD i [])) ∧
      (∀ lo n, (lo + n ≤ v.lo ∨ (v.offset + ys.length) * v.kind.size ≤ lo) → window d' lo n = window d lo n) :=
  writeElems_elems v ys s 0 d hd (Nat.le_trans (Nat.mul_le_mul_right _ (by omega)) hb)

theorem writeElems_all (v : View) (s : State) (d : List UInt8) (S : List (List UInt8)) (hd : s.data? v.buf = some d)
    (hb : v.hi ≤ d.length) (hlen : S.length = v.length) (hmem : ∀ x ∈ S, x.length = v.kind.size) :
    ∃ d', (writeElems s v 0 S).data? v.buf = some d' ∧ d'.length = d.length ∧ elemsOf d' v = S ∧
      ∀ lo n, (lo + n ≤ v.lo ∨ v.hi ≤ lo) → window d' lo n = window d lo n := by
  obtain ⟨d', hd', hl, hel, hout⟩ := writeElems_prefix v S s d hd hb (Nat.le_of_eq hlen)
  refine ⟨d', hd', hl, ?_, fun lo n hlo => hout lo n (by rw [hlen]; exact hlo)⟩
  apply List.ext_getElem
  · rw [elemsOf_length, hlen]
  · intro i h1 h2
    rw [elemsOf_getElem, hel i h2, List.getD_eq_getElem?_getD, List.getElem?_eq_getElem h2, Option.getD_some]
    exact fit_eq_self _ _ (hmem _ (List.getElem_mem _))

/-- read the whole view, write back a rearrangement `f` of what was read: the view then holds `f` of its elements and
nothing else has changed (the byte-level twin of `rewrite_ctx`) -/
theorem rewrite_data (s : State) (v : View) (d : List UInt8) (f : List (List UInt8) → List (List UInt8))
    (hd : s.data? v.buf = some d) (hb : v.hi ≤ d.length) (hlen : (f (elemsOf d v)).length = v.length)
    (hmem : ∀ x ∈ f (elemsOf d v), x.length = v.kind.size) :
    ∃ d', (writeElems (readElems s v 0 v.length).2 v 0 (f (readElems s v 0 v.length).1)).data? v.buf = some d' ∧
      d'.length = d.length ∧ elemsOf d' v = f (elemsOf d v) ∧
      ∀ lo n, (lo + n ≤ v.lo ∨ v.hi ≤ lo) → window d' lo n = window d lo n := by
  obtain ⟨rv, rd⟩ := readElems_eq v d v.length s 0 hd
  rw [show (readElems s v 0 v.length).1 = elemsOf d v from rv]
  exact writeElems_all v _ d _ (by rw [rd]; exact hd) hb hlen hmem

theorem fillLoop_eq (v : View) (raw : List UInt8) : ∀ (n : Nat) (s : State) (k : Nat),
    fillLoop s v raw k n = writeElems s v k (List.replicate n raw) := by
  intro n
  induction n with
  | zero => intro s k; rfl
  | succ n ih => intro s k; rw [fillLoop, ih, List.replicate_succ, writeElems]

theorem fillLoop_data {v : View} {raw : List UInt8} (n : Nat) (s : State) (k : Nat) (d : List UInt8)
    (h : s.data? v.buf = some d) :
    ∃ d', (fillLoop s v raw k n).data? v.buf = some d' ∧ d'.length = d.length ∧
      (∀ b', b' ≠ v.buf → (fillLoop s v raw k n).data? b' = s.data? b') ∧
      ∀ j, d'.getD j 0 =
        if (v.offset + k) * v.kind.size ≤ j ∧ j < (v.offset + k + n) * v.kind.size ∧ j < d.length then
          (fit v.kind.size raw).getD ((j - (v.offset + k) * v.kind.size) % v.kind.size) 0
        else d.getD j 0 := by
  have hl := freshBytes_length v.kind.size (List.replicate n raw)
  rw [List.length_replicate] at hl
  refine ⟨_, by rw [fillLoop_eq, writeElems_data, if_pos rfl, h]; rfl, splice_length ..,
    fun b' hb' => by rw [fillLoop_eq, writeElems_data, if_neg hb'], fun j => ?_⟩
  rw [splice_getD, hl, Nat.add_mul (v.offset + k) n]
  split
  · rename_i c
    -- byte `j - lo` of the layout of `n` copies of `raw` is byte `(j - lo) % es` of `raw`
    have hq : (j - (v.offset + k) * v.kind.size) / v.kind.size < n := (Nat.div_lt_iff_lt_mul v.kind.size_pos).mpr (by omega)
    rw [freshBytes_getD _ v.kind.size_pos _ _ (by rw [List.length_replicate]; omega),
      show (List.replicate n raw).getD _ [] = raw by simp [List.getD_eq_getElem?_getD, hq]]
  · rfl

end GojaModel.C17
