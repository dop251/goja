/-
  C17 property theorems (each `theorem` here is one audited proof obligation).

  * `*_spec`  — for an ARBITRARY predicate `P` on touches that accepts the in-bounds touches of the operated
                view(s): the operation keeps `LogAll P` and the view invariant `Inv`, for all arguments and every
                adversary (detach lists at every callback point).  Instantiating `P` gives
  * `access_in_bounds` (`P t := t.ok`): every touched index is `< |buf|` and the buffer is attached at the time;
  * `*_within_view`    (`P t := t` lies in `[offset*es, (offset+length)*es)` of the operated view).
  * `view_inv`         — the constructors establish `Inv`, every operation preserves it, for all histories.
  * `*_bytes_eq_spec` for fill / copyWithin / set(typedArray) (same and different element types), the default sort and the
    comparator protocol, the kernel-evaluated witnesses, the integer codec, ToUintN / Uint8Clamp and float32 theorems.
-/
import GojaModel.C17.SortPerm
import GojaModel.C17.Overlap
import GojaModel.C17.Float32

namespace GojaModel.C17

/-- One step of any operation, any arguments, any adversary: keeps `LogAll P` for every predicate `P` that accepts
all in-bounds touches, and keeps the view invariant. -/
theorem step_spec {P : Touch → Prop} (hall : ∀ b lo hi, PRange P b lo hi) (s : State) (op : Op) (c : Ctx P s) :
    Ctx P (step s op).2 := by
  cases op with
  | newBuf bytes => exact c.pushBuf bytes
  | detach b => exact ⟨inv_detach c.inv b, c.log⟩
  | newView k b off len pdet => exact opNewView_spec k b off len (c.applyDet pdet)
  | newDV b off len pdet => exact opNewDV_spec b off len pdet c
  | get v idx => exact opGet_spec idx c fun _ _ => hall _ _ _
  | put v idx a => exact opPut_spec idx a c fun _ _ => hall _ _ _
  | fill v a st fi => exact opFill_spec a st fi c fun _ _ => hall _ _ _
  | copyWithin v t f e => exact opCopyWithin_spec t f e c fun _ _ => hall _ _ _
  | setTA v src off => exact opSetTA_spec off c (fun _ _ => hall _ _ _) fun _ _ => hall _ _ _
  | setArr v off vals => exact opSetArr_spec off vals c fun _ _ => hall _ _ _
  | slice v st fi sp => exact opSlice_spec st fi sp c (fun _ _ => hall _ _ _) (fun _ => hall _ _ _) fun _ _ _ _ _ => hall _ _ _
  | subarray v st fi sp => exact opSubarray_spec st fi sp c
  | sort v cmp => exact opSort_spec cmp c fun _ _ => hall _ _ _
  | reverse v => exact opReverse_spec c fun _ _ => hall _ _ _
  | dvGet d k i le => exact opDVGet_spec k i le c fun _ _ => hall _ _ _
  | dvSet d k i a le => exact opDVSet_spec k i a le c fun _ _ => hall _ _ _
  | toReversed v => exact opToReversed_spec c fun _ _ => hall _ _ _
  | toSorted v cmp => exact opToSorted_spec cmp c fun _ _ => hall _ _ _
  | with_ v i a => exact opWith_spec i a c fun _ _ => hall _ _ _
  | filter v keep detAt det sp => exact opFilter_spec keep detAt det sp c (fun _ _ => hall _ _ _) fun _ _ _ _ _ => hall _ _ _
  | map v sp vals => exact opMap_spec sp vals c (fun _ _ => hall _ _ _) fun _ _ _ _ _ => hall _ _ _
  | of_ ct vals => exact opOf_spec ct vals c fun _ _ _ _ _ => hall _ _ _
  | abSlice b st fi sp => exact opABSlice_spec b st fi sp c (fun _ => hall _ _ _) fun _ _ _ _ => hall _ _ _
  | iterate v k det => exact opIterate_spec k det c fun _ _ => hall _ _ _
  | search v m se fr => exact opSearch_spec m se fr c fun _ _ => hall _ _ _
  | at_ v i => exact opAt_spec i c fun _ _ => hall _ _ _
  | visit v bwd k det => exact opVisit_spec bwd k det c fun _ _ => hall _ _ _
  | join v det pe => exact opJoin_spec det pe c fun _ _ => hall _ _ _
  | other v na ml det => exact opOther_spec na ml det c

theorem run_spec {P : Touch → Prop} (hall : ∀ b lo hi, PRange P b lo hi) :
    ∀ (ops : List Op) (s : State), Ctx P s → Ctx P (run s ops) := by
  intro ops
  induction ops with
  | nil => intro s c; exact c
  | cons op ops ih => intro s c; exact ih _ (step_spec hall s op c)

/-- **view_inv** — for every history (any length, any operations, any arguments, any adversary) starting from the
empty state, every view satisfies `(offset+length)*elemSize ≤ |buf|` while its buffer is attached (and every
DataView `byteOffset+byteLen ≤ |buf|`). -/
theorem view_inv (ops : List Op) : Inv (run {} ops) :=
  (run_spec (P := fun _ => True) (fun _ _ _ _ _ _ _ => trivial) ops {} ⟨inv_init, fun _ _ => trivial⟩).inv

/-- **access_in_bounds** — for every history, every byte index the model touches is `< |buf|` and the buffer is
attached at the time of the touch. -/
theorem access_in_bounds (ops : List Op) : ∀ t ∈ (run {} ops).log, t.ok = true :=
  (run_spec (P := fun t => t.ok = true) (fun _ _ _ _ _ _ _ => rfl) ops {} ⟨inv_init, fun _ h => by simp at h⟩).log

/-- access_in_bounds for one step from any state that satisfies the invariant -/
theorem access_in_bounds_step (s : State) (op : Op) (hi : Inv s) :
    ∀ t ∈ (step { s with log := [] } op).2.log, t.ok = true :=
  (step_spec (P := fun t => t.ok = true) (fun _ _ _ _ _ _ _ => rfl) _ op ⟨hi.withLog [], fun _ h => by simp at h⟩).log

theorem pRange_inView (v : View) : PRange (InView v) v.buf v.lo v.hi := fun _ _ h1 h2 => ⟨rfl, h1, h2⟩

theorem forall_of_getElem? {α} {l : List α} {i : Nat} {a : α} {p : α → Prop} (h : l[i]? = some a) (ha : p a) :
    ∀ w, l[i]? = some w → p w := fun w hw => by cases h.symm.trans hw; exact ha

/-- **within_view (copyWithin)** — the statement the code violated before commit b85e9cc. -/
theorem copyWithin_within_view (s : State) (vi : Nat) (v : View) (to from_ : IArg) (fi : Option IArg)
    (hi : Inv s) (hv : s.views[vi]? = some v) :
    ∀ t ∈ (opCopyWithin { s with log := [] } vi to from_ fi).2.log, InView v t :=
  (opCopyWithin_spec to from_ fi (s := { s with log := [] }) (ctx0 hi) (forall_of_getElem? hv (pRange_inView v))).log

theorem fill_within_view (s : State) (vi : Nat) (v : View) (a : VArg) (st fi : Option IArg)
    (hi : Inv s) (hv : s.views[vi]? = some v) :
    ∀ t ∈ (opFill { s with log := [] } vi a st fi).2.log, InView v t :=
  (opFill_spec a st fi (s := { s with log := [] }) (ctx0 hi) (forall_of_getElem? hv (pRange_inView v))).log

theorem get_within_view (s : State) (vi : Nat) (v : View) (idx : Int) (hi : Inv s) (hv : s.views[vi]? = some v) :
    ∀ t ∈ (opGet { s with log := [] } vi idx).2.log, InView v t :=
  (opGet_spec idx (s := { s with log := [] }) (ctx0 hi) (forall_of_getElem? hv (pRange_inView v))).log

theorem put_within_view (s : State) (vi : Nat) (v : View) (idx : Int) (a : VArg) (hi : Inv s) (hv : s.views[vi]? = some v) :
    ∀ t ∈ (opPut { s with log := [] } vi idx a).2.log, InView v t :=
  (opPut_spec idx a (s := { s with log := [] }) (ctx0 hi) (forall_of_getElem? hv (pRange_inView v))).log

theorem setArr_within_view (s : State) (vi : Nat) (v : View) (off : Option IArg) (vals : List VArg)
    (hi : Inv s) (hv : s.views[vi]? = some v) :
    ∀ t ∈ (opSetArr { s with log := [] } vi off vals).2.log, InView v t :=
  (opSetArr_spec off vals (s := { s with log := [] }) (ctx0 hi) (forall_of_getElem? hv (pRange_inView v))).log

/-- set(typedArray): every touch is inside the target view or inside the source view -/
theorem setTA_within_view (s : State) (vi si : Nat) (v src : View) (off : Option IArg)
    (hi : Inv s) (hv : s.views[vi]? = some v) (hs : s.views[si]? = some src) :
    ∀ t ∈ (opSetTA { s with log := [] } vi si off).2.log, InView v t ∨ InView src t :=
  (opSetTA_spec off (s := { s with log := [] }) (P := fun t => InView v t ∨ InView src t) (ctx0 hi)
    (forall_of_getElem? hv fun _ _ h1 h2 => Or.inl ⟨rfl, h1, h2⟩)
    (forall_of_getElem? hs fun _ _ h1 h2 => Or.inr ⟨rfl, h1, h2⟩)).log

theorem sort_within_view (s : State) (vi : Nat) (v : View) (cmp : Cmp) (hi : Inv s) (hv : s.views[vi]? = some v) :
    ∀ t ∈ (opSort { s with log := [] } vi cmp).2.log, InView v t :=
  (opSort_spec cmp (s := { s with log := [] }) (ctx0 hi) (forall_of_getElem? hv (pRange_inView v))).log

theorem reverse_within_view (s : State) (vi : Nat) (v : View) (hi : Inv s) (hv : s.views[vi]? = some v) :
    ∀ t ∈ (opReverse { s with log := [] } vi).2.log, InView v t :=
  (opReverse_spec (s := { s with log := [] }) (ctx0 hi) (forall_of_getElem? hv (pRange_inView v))).log

/-- slice: every touch is inside the source view, inside the freshly allocated result buffer, or inside the view the
species constructor returned -/
theorem slice_within_view (s : State) (vi : Nat) (v : View) (st fi : Option IArg) (sp : Species)
    (hi : Inv s) (hv : s.views[vi]? = some v) :
    ∀ t ∈ (opSlice { s with log := [] } vi st fi sp).2.log,
      InView v t ∨ t.buf = s.bufs.length ∨ ∃ di det dst, sp = some (di, det) ∧ s.views[di]? = some dst ∧ InView dst t :=
  (opSlice_spec st fi sp (s := { s with log := [] })
    (P := fun t => InView v t ∨ t.buf = s.bufs.length ∨ ∃ di det dst, sp = some (di, det) ∧ s.views[di]? = some dst ∧ InView dst t)
    (ctx0 hi)
    (forall_of_getElem? hv fun _ _ h1 h2 => Or.inl ⟨rfl, h1, h2⟩)
    (fun _ _ _ _ _ => Or.inr (Or.inl rfl))
    (fun di det dst h1 h2 _ _ h3 h4 => Or.inr (Or.inr ⟨di, det, dst, h1, h2, rfl, h3, h4⟩))).log

/-- subarray touches no memory at all -/
theorem subarray_no_touch (s : State) (vi : Nat) (v : View) (st fi : Option IArg) (sp : Species)
    (hi : Inv s) (hv : s.views[vi]? = some v) :
    ∀ t ∈ (opSubarray { s with log := [] } vi st fi sp).2.log, False :=
  (opSubarray_spec st fi sp (s := { s with log := [] }) (P := fun _ => False) (ctx0 hi)).log

/-- DataView get/set touch only `[byteOffset, byteOffset+byteLen)` -/
theorem dvGet_within_view (s : State) (di : Nat) (d : DView) (k : Kind) (idx : IArg) (le : Bool)
    (hi : Inv s) (hd : s.dvs[di]? = some d) :
    ∀ t ∈ (opDVGet { s with log := [] } di k idx le).2.log,
      t.buf = d.buf ∧ d.byteOffset ≤ t.idx ∧ t.idx < d.byteOffset + d.byteLen :=
  (opDVGet_spec k idx le (s := { s with log := [] }) (ctx0 hi) (forall_of_getElem? hd fun _ _ h1 h2 => ⟨rfl, h1, h2⟩)).log

theorem dvSet_within_view (s : State) (di : Nat) (d : DView) (k : Kind) (idx : IArg) (a : VArg) (le : Bool)
    (hi : Inv s) (hd : s.dvs[di]? = some d) :
    ∀ t ∈ (opDVSet { s with log := [] } di k idx a le).2.log,
      t.buf = d.buf ∧ d.byteOffset ≤ t.idx ∧ t.idx < d.byteOffset + d.byteLen :=
  (opDVSet_spec k idx a le (s := { s with log := [] }) (ctx0 hi) (forall_of_getElem? hd fun _ _ h1 h2 => ⟨rfl, h1, h2⟩)).log

/-- `%TypedArray%.of` / `.from` applied to a constructor that returns an existing typed array touch only THAT
view's byte range (the statement goja violates before fixes/C17-map-of-from-set-element.diff: it indexed from the
start of the buffer) — and nothing at all for a built-in constructor (the result is fresh memory). -/
theorem of_within_view (s : State) (ct : Ctor) (vals : List VArg) (hi : Inv s) :
    ∀ t ∈ (opOf { s with log := [] } ct vals).2.log,
      ∃ di det dst, ct = .user di det ∧ s.views[di]? = some dst ∧ InView dst t :=
  (opOf_spec ct vals (s := { s with log := [] })
    (P := fun t => ∃ di det dst, ct = .user di det ∧ s.views[di]? = some dst ∧ InView dst t) (ctx0 hi)
    (fun di det dst h1 h2 _ _ h3 h4 => ⟨di, det, dst, h1, h2, rfl, h3, h4⟩)).log

/-- `map`: touches only the source view (reads) and the view returned by a user species constructor (writes) -/
theorem map_within_view (s : State) (vi : Nat) (v : View) (sp : Species) (vals : List VArg)
    (hi : Inv s) (hv : s.views[vi]? = some v) :
    ∀ t ∈ (opMap { s with log := [] } vi sp vals).2.log,
      InView v t ∨ ∃ di det dst, sp = some (di, det) ∧ s.views[di]? = some dst ∧ InView dst t :=
  (opMap_spec sp vals (s := { s with log := [] })
    (P := fun t => InView v t ∨ ∃ di det dst, sp = some (di, det) ∧ s.views[di]? = some dst ∧ InView dst t)
    (ctx0 hi) (forall_of_getElem? hv fun _ _ h1 h2 => Or.inl ⟨rfl, h1, h2⟩)
    (fun di det dst h1 h2 _ _ h3 h4 => Or.inr ⟨di, det, dst, h1, h2, rfl, h3, h4⟩)).log

theorem toReversed_within_view (s : State) (vi : Nat) (v : View) (hi : Inv s) (hv : s.views[vi]? = some v) :
    ∀ t ∈ (opToReversed { s with log := [] } vi).2.log, InView v t :=
  (opToReversed_spec (s := { s with log := [] }) (ctx0 hi) (forall_of_getElem? hv (pRange_inView v))).log

theorem toSorted_within_view (s : State) (vi : Nat) (v : View) (cmp : Cmp) (hi : Inv s) (hv : s.views[vi]? = some v) :
    ∀ t ∈ (opToSorted { s with log := [] } vi cmp).2.log, InView v t :=
  (opToSorted_spec cmp (s := { s with log := [] }) (ctx0 hi) (forall_of_getElem? hv (pRange_inView v))).log

theorem with_within_view (s : State) (vi : Nat) (v : View) (idx : IArg) (a : VArg) (hi : Inv s) (hv : s.views[vi]? = some v) :
    ∀ t ∈ (opWith { s with log := [] } vi idx a).2.log, InView v t :=
  (opWith_spec idx a (s := { s with log := [] }) (ctx0 hi) (forall_of_getElem? hv (pRange_inView v))).log

theorem filter_within_view (s : State) (vi : Nat) (v : View) (keep : List Bool) (detAt : Nat) (det : List Nat) (sp : Species)
    (hi : Inv s) (hv : s.views[vi]? = some v) :
    ∀ t ∈ (opFilter { s with log := [] } vi keep detAt det sp).2.log,
      InView v t ∨ ∃ di sdet dst, sp = some (di, sdet) ∧ s.views[di]? = some dst ∧ InView dst t :=
  (opFilter_spec keep detAt det sp (s := { s with log := [] })
    (P := fun t => InView v t ∨ ∃ di sdet dst, sp = some (di, sdet) ∧ s.views[di]? = some dst ∧ InView dst t)
    (ctx0 hi) (forall_of_getElem? hv fun _ _ h1 h2 => Or.inl ⟨rfl, h1, h2⟩)
    (fun di sdet dst h1 h2 _ _ h3 h4 => Or.inr ⟨di, sdet, dst, h1, h2, rfl, h3, h4⟩)).log

/-- `values()` / `entries()` iteration, with a detach after any element -/
theorem iterate_within_view (s : State) (vi : Nat) (v : View) (detAt : Nat) (det : List Nat)
    (hi : Inv s) (hv : s.views[vi]? = some v) :
    ∀ t ∈ (opIterate { s with log := [] } vi detAt det).2.log, InView v t :=
  (opIterate_spec detAt det (s := { s with log := [] }) (ctx0 hi) (forall_of_getElem? hv (pRange_inView v))).log

/-- **within_view (indexOf / lastIndexOf / includes)** — for every search value, every fromIndex (any integer, ±∞ clamps,
absent) and every adversary, the scan reads only bytes of the view. This is the statement seeded mutation C17-m1
(`min(fromIndex, length)` in lastIndexOf) violates: `lastFrom_bound` fails for that start index. -/
theorem search_within_view (s : State) (vi : Nat) (v : View) (mode : SearchMode) (se : Num) (from_ : Option IArg)
    (hi : Inv s) (hv : s.views[vi]? = some v) :
    ∀ t ∈ (opSearch { s with log := [] } vi mode se from_).2.log, InView v t :=
  (opSearch_spec mode se from_ (s := { s with log := [] }) (ctx0 hi) (forall_of_getElem? hv (pRange_inView v))).log

theorem at_within_view (s : State) (vi : Nat) (v : View) (idx : IArg) (hi : Inv s) (hv : s.views[vi]? = some v) :
    ∀ t ∈ (opAt { s with log := [] } vi idx).2.log, InView v t :=
  (opAt_spec idx (s := { s with log := [] }) (ctx0 hi) (forall_of_getElem? hv (pRange_inView v))).log

/-- every / some / find / findIndex / findLast / findLastIndex / forEach / reduce / reduceRight / values() / entries() -/
theorem visit_within_view (s : State) (vi : Nat) (v : View) (bwd : Bool) (detAt : Nat) (det : List Nat)
    (hi : Inv s) (hv : s.views[vi]? = some v) :
    ∀ t ∈ (opVisit { s with log := [] } vi bwd detAt det).2.log, InView v t :=
  (opVisit_spec bwd detAt det (s := { s with log := [] }) (ctx0 hi) (forall_of_getElem? hv (pRange_inView v))).log

/-- join / toString / toLocaleString -/
theorem join_within_view (s : State) (vi : Nat) (v : View) (det : List Nat) (pe : Bool) (hi : Inv s) (hv : s.views[vi]? = some v) :
    ∀ t ∈ (opJoin { s with log := [] } vi det pe).2.log, InView v t :=
  (opJoin_spec det pe (s := { s with log := [] }) (ctx0 hi) (forall_of_getElem? hv (pRange_inView v))).log

/-- the start index C17-m1 computes (`min(fromIndex, length)`) is out of the view for fromIndex ≥ length — witness on
length 4, fromIndex 4: index 4 is not `< 4` -/
theorem lastIndexOf_m1_witness : ¬ ((min (4 : Int) 4 + 1).toNat ≤ (4 : Int).toNat) := by decide

/-- `ArrayBuffer.prototype.slice` touches only the receiver buffer and the buffer a user species constructor returned -/
theorem abSlice_within_buffer (s : State) (b : Nat) (st fi : Option IArg) (sp : BufSpecies) (hi : Inv s) :
    ∀ t ∈ (opABSlice { s with log := [] } b st fi sp).2.log, t.buf = b ∨ ∃ nb sdet, sp = some (nb, sdet) ∧ t.buf = nb :=
  (opABSlice_spec b st fi sp (s := { s with log := [] })
    (P := fun t => t.buf = b ∨ ∃ nb sdet, sp = some (nb, sdet) ∧ t.buf = nb) (ctx0 hi)
    (fun _ _ _ _ _ => Or.inl rfl) (fun nb sdet _ h _ _ _ _ => Or.inr ⟨nb, sdet, h, rfl⟩)).log

/-- **bytes_eq_spec (fill)** — ECMA-262 %TypedArray%.prototype.fill: after the argument coercions (state `s3`), every
byte of elements `[k, final)` of the view holds the corresponding byte of NumericToRawBytes(value) and every other
byte of every buffer is unchanged. -/
theorem fill_bytes_eq_spec (s : State) (vi : Nat) (v : View) (a : VArg) (st fi : Option IArg) (raw : List UInt8)
    (hv : s.views[vi]? = some v) (henc : encode v.kind a.num = some raw) (hok : (opFill s vi a st fi).1 = .ok) :
    ∃ d d', (((s.applyDet (oDet st)).applyDet (oDet fi)).applyDet a.det).data? v.buf = some d ∧
      (opFill s vi a st fi).2.data? v.buf = some d' ∧ d'.length = d.length ∧
      (∀ b', b' ≠ v.buf → (opFill s vi a st fi).2.data? b' = (((s.applyDet (oDet st)).applyDet (oDet fi)).applyDet a.det).data? b') ∧
      ∀ j, d'.getD j 0 =
        if (v.offset + (relToIdx (oVal st 0) v.length).toNat) * v.kind.size ≤ j ∧
           j < (v.offset + (relToIdx (oVal st 0) v.length).toNat +
                ((relToIdx (oVal fi v.length) v.length).toNat - (relToIdx (oVal st 0) v.length).toNat)) * v.kind.size ∧
           j < d.length
        then (fit v.kind.size raw).getD ((j - (v.offset + (relToIdx (oVal st 0) v.length).toNat) * v.kind.size) % v.kind.size) 0
        else d.getD j 0 := by
  unfold opFill at hok ⊢; rw [hv] at hok ⊢; dsimp only at hok ⊢
  have h0 := guard_passed hok nofun
  rw [if_neg h0] at hok ⊢
  rw [henc] at hok ⊢; dsimp only at hok ⊢
  have ha := guard_passed hok nofun
  rw [if_neg ha]
  obtain ⟨d, hd⟩ := data_of_attached (not_not_attached ha)
  obtain ⟨d', h1, h2, h3, h4⟩ := fillLoop_data (v := v) (raw := raw)
    ((relToIdx (oVal fi v.length) v.length).toNat - (relToIdx (oVal st 0) v.length).toNat) _
    (relToIdx (oVal st 0) v.length).toNat d hd
  exact ⟨d, d', hd, h1, h2, h3, h4⟩

/-- **bytes_eq_spec (copyWithin)** — when elements are moved (`count > 0`), the bytes of the view's buffer afterwards
are exactly ECMA-262's byte-by-byte loop (ascending, or descending when the ranges overlap with from < to) applied to
the bytes before; every other buffer is unchanged. -/
theorem copyWithin_bytes_eq_spec (s : State) (vi : Nat) (v : View) (to from_ : IArg) (fi : Option IArg)
    (hi : Inv s) (hv : s.views[vi]? = some v) (hok : (opCopyWithin s vi to from_ fi).1 = .ok)
    (hpos : cwCount v.length (relToIdx to.val v.length) (relToIdx from_.val v.length) (relToIdx (oVal fi v.length) v.length) > 0) :
    ∃ d, (((s.applyDet to.det).applyDet from_.det).applyDet (oDet fi)).data? v.buf = some d ∧
      (opCopyWithin s vi to from_ fi).2.data? v.buf = some (specCopyWithinBytes d
        ((v.offset + (relToIdx from_.val v.length).toNat) * v.kind.size)
        ((v.offset + (relToIdx to.val v.length).toNat) * v.kind.size)
        ((cwCount v.length (relToIdx to.val v.length) (relToIdx from_.val v.length) (relToIdx (oVal fi v.length) v.length)).toNat * v.kind.size)) ∧
      ∀ b', b' ≠ v.buf → (opCopyWithin s vi to from_ fi).2.data? b' =
        (((s.applyDet to.det).applyDet from_.det).applyDet (oDet fi)).data? b' := by
  have hl : (0 : Int) ≤ (v.length : Int) := Int.natCast_nonneg _
  have c3 := (((Ctx.start (P := fun _ => True) ⟨hi, fun _ _ => trivial⟩).applyDet to.det).applyDet from_.det).applyDet (oDet fi)
  unfold opCopyWithin at hok ⊢; rw [hv] at hok ⊢; dsimp only at hok ⊢
  have h0 := guard_passed hok nofun
  rw [if_neg h0] at hok ⊢
  rw [if_pos hpos] at hok ⊢
  have ha := guard_passed hok nofun
  rw [if_neg ha]
  have hatt := not_not_attached ha
  obtain ⟨d, hd⟩ := data_of_attached hatt
  have hr := c3.rangeOK (List.mem_of_getElem? hv) hatt
  obtain ⟨hb1, hb2⟩ := cw_bounds v.length _ (relToIdx from_.val v.length) _ (relToIdx_nonneg to.val _ hl)
    (relToIdx_le (oVal fi v.length) _ hl) hpos
  rw [Int.toNat_natCast] at hb1 hb2
  have hdst := Nat.le_trans (elem_hi v _ _ hb2) hr.2
  rw [blen_of_data hd] at hdst
  exact ⟨d, hd, by rw [move_data_fits _ _ _ _ _ _ d d hd hd hdst, if_pos rfl, memmove_eq_specCopyWithin d _ _ _ hdst],
    fun b' hb' => by rw [move_data_fits _ _ _ _ _ _ d d hd hd hdst, if_neg hb']⟩

/-- **bytes_eq_spec (set, same element type)** — ECMA-262 SetTypedArrayFromTypedArray for equal types: the source
bytes AS THEY WERE BEFORE (the spec clones the source when the buffers are the same) are stored at the target
position; nothing else changes. -/
theorem setTA_sameKind_bytes_eq_spec (s : State) (vi si : Nat) (v src : View) (off : Option IArg)
    (hi : Inv s) (hv : s.views[vi]? = some v) (hs : s.views[si]? = some src) (hk : src.kind = v.kind)
    (hok : (opSetTA s vi si off).1 = .ok) :
    ∃ dd ds, (s.applyDet (oDet off)).data? v.buf = some dd ∧ (s.applyDet (oDet off)).data? src.buf = some ds ∧
      (opSetTA s vi si off).2.data? v.buf =
        some (splice dd ((v.offset + (oVal off 0).toNat) * v.kind.size) (window ds (src.offset * v.kind.size) (src.length * v.kind.size))) ∧
      ∀ b', b' ≠ v.buf → (opSetTA s vi si off).2.data? b' = (s.applyDet (oDet off)).data? b' := by
  have c1 := (Ctx.start (P := fun _ => True) ⟨hi, fun _ _ => trivial⟩).applyDet (oDet off)
  unfold opSetTA at hok ⊢; rw [hv, hs] at hok ⊢; dsimp only at hok ⊢
  have hoff := guard_passed hok nofun
  rw [if_neg hoff] at hok ⊢
  have ha := guard_passed hok nofun
  rw [if_neg ha] at hok ⊢
  have has := guard_passed hok nofun
  rw [if_neg has] at hok ⊢
  have hfit := guard_passed hok nofun
  rw [if_neg hfit] at hok ⊢
  have hkk : (src.kind == v.kind) = true := by simp [hk]
  rw [if_pos hkk]
  obtain ⟨dd, hdd⟩ := data_of_attached (not_not_attached ha)
  obtain ⟨ds, hds⟩ := data_of_attached (not_not_attached has)
  have hr := c1.rangeOK (List.mem_of_getElem? hv) (not_not_attached ha)
  have hfit' : (oVal off 0).toNat + src.length ≤ v.length := by omega
  have hdst := Nat.le_trans (elem_hi v _ _ hfit') hr.2
  rw [blen_of_data hdd] at hdst
  exact ⟨dd, ds, hdd, hds, by rw [move_data_fits _ _ _ _ _ _ ds dd hds hdd hdst, if_pos rfl],
    fun b' hb' => by rw [move_data_fits _ _ _ _ _ _ ds dd hds hdd hdst, if_neg hb']⟩

theorem set_sameSize_live_eq_clone' (f : List UInt8 → List UInt8) (d : List UInt8) (srcLo dstLo n sES dES : Nat) (h : sES = dES) :
    (Xfer.mk f sES dES srcLo dstLo).live d (setOrderSame srcLo dstLo n sES) =
    (Xfer.mk f sES dES srcLo dstLo).clone d d (List.range n) := by
  subst h; exact set_sameSize_live_eq_clone f d srcLo dstLo n sES

/-- goja's visiting order in `set` between typed arrays of different element types (builtin_typedarrays.go:1033-1065) -/
def gojaSetOrder (srcLo dstLo sES dES n : Nat) : List Nat :=
  if sES = dES then setOrderSame srcLo dstLo n sES else setOrderDiff srcLo dstLo sES dES n

/-- **bytes_eq_spec (set, different element types, one buffer)** — the bytes the model leaves behind (ECMA-262: clone the
source, convert, write) are exactly what goja's mechanism computes: element-by-element conversion with LIVE reads in the
order chosen by the pointer comparison (same element size) or by the split index (different sizes). For every position
of the two views on the buffer, every length, every pair of kinds. -/
theorem setTA_diffKind_bytes_eq_goja (s : State) (vi si : Nat) (v src : View) (off : Option IArg)
    (hv : s.views[vi]? = some v) (hs : s.views[si]? = some src) (hk : (src.kind == v.kind) = false)
    (hbuf : src.buf = v.buf) (hok : (opSetTA s vi si off).1 = .ok) :
    ∃ d, (s.applyDet (oDet off)).data? v.buf = some d ∧
      (opSetTA s vi si off).2.data? v.buf = some
        ((Xfer.mk (convBytes src.kind v.kind) src.kind.size v.kind.size (src.offset * src.kind.size)
            ((v.offset + (oVal off 0).toNat) * v.kind.size)).live d
          (gojaSetOrder (src.offset * src.kind.size) ((v.offset + (oVal off 0).toNat) * v.kind.size)
            src.kind.size v.kind.size src.length)) := by
  unfold opSetTA at hok ⊢; rw [hv, hs] at hok ⊢; dsimp only at hok ⊢
  have hoff := guard_passed hok nofun
  rw [if_neg hoff] at hok ⊢
  have ha := guard_passed hok nofun
  rw [if_neg ha] at hok ⊢
  have has := guard_passed hok nofun
  rw [if_neg has] at hok ⊢
  have hfit := guard_passed hok nofun
  rw [if_neg hfit] at hok ⊢
  have hkk : ¬ (src.kind == v.kind) = true := by simp [hk]
  rw [if_neg hkk] at hok ⊢
  have hbig := guard_passed hok nofun
  rw [if_neg hbig] at hok ⊢
  obtain ⟨d, hd⟩ := data_of_attached (not_not_attached ha)
  have hds : (s.applyDet (oDet off)).data? src.buf = some d := by rw [hbuf]; exact hd
  obtain ⟨rv, rd⟩ := readElems_eq src d src.length (s.applyDet (oDet off)) 0 hds
  cases hc : convElems src.kind v.kind (readElems (s.applyDet (oDet off)) src 0 src.length).1 with
  | none => rw [hc] at hok; simp at hok
  | some ys =>
    dsimp only
    refine ⟨d, hd, ?_⟩
    have hys := convElems_eq_map _ _ _ _ hc
    rw [rv, List.map_map] at hys
    let X : Xfer := Xfer.mk (convBytes src.kind v.kind) src.kind.size v.kind.size (src.offset * src.kind.size)
      ((v.offset + (oVal off 0).toNat) * v.kind.size)
    have hys' : ys = (List.range' 0 src.length).map (fun i => X.f (window d (X.srcLo + i * X.sES) X.sES)) := by
      rw [hys]
      apply List.map_congr_left
      intro i _
      show convBytes src.kind v.kind (window d ((src.offset + i) * src.kind.size) src.kind.size) = _
      rw [Nat.add_mul]
    have hw := writeElems_clone v X d (oVal off 0).toNat rfl rfl src.length 0
      (readElems (s.applyDet (oDet off)) src 0 src.length).2 d (by rw [rd]; exact hd)
    rw [Nat.add_zero, ← hys'] at hw
    rw [hw, ← List.range_eq_range']
    congr 1
    unfold gojaSetOrder
    split
    · rename_i he
      exact (set_sameSize_live_eq_clone' _ d _ _ _ _ _ he).symm
    · rename_i hne
      exact (set_diffSize_live_eq_clone _ d _ _ _ _ _ hne).symm

/-- **sort, default comparator: the view afterwards holds a sorted permutation of its elements** (see `Sort.lean`):
raw elements after = `stableSort` of the raw elements before, which is a permutation in non-decreasing default order
(numbers ascending, −0 before +0, NaN last: `sort_order_negZero_before_posZero`, `sort_order_nan_last`); buffer length and every byte
outside the view unchanged. -/
theorem sort_default_sorted_permutation (s : State) (vi : Nat) (v : View) (hi : Inv s) (hv : s.views[vi]? = some v)
    (hok : (opSort s vi none).1 = .ok) :
    ∃ d d', s.data? v.buf = some d ∧ (opSort s vi none).2.data? v.buf = some d' ∧ d'.length = d.length ∧
      elemsOf d' v = stableSort (elemLess v.kind) (elemsOf d v) ∧
      (elemsOf d' v).Perm (elemsOf d v) ∧ Sorted (elemLess v.kind) (elemsOf d' v) ∧
      (∀ lo n, (lo + n ≤ v.lo ∨ v.hi ≤ lo) → window d' lo n = window d lo n) := by
  unfold opSort at hok ⊢; rw [hv] at hok ⊢; dsimp only at hok ⊢
  have ha := guard_passed hok nofun
  rw [if_neg ha]
  obtain ⟨d, hd⟩ := data_of_attached (not_not_attached ha)
  have hsp := sort_sorted_perm v.kind (elemsOf d v)
  obtain ⟨d', hd', hl, hkey, hout⟩ := rewrite_data s v d (stableSort (elemLess v.kind)) hd (hi.hi_le hv hd)
    (by rw [stableSort_length, elemsOf_length]) (fun x hx => length_of_mem_elemsOf (hsp.1.mem_iff.mp hx))
  exact ⟨d, d', hd, hd', hl, hkey, by rw [hkey]; exact hsp.1, by rw [hkey]; exact hsp.2, hout⟩

theorem sort_order_negZero_before_posZero : numLess (.dbl (2 ^ 63)) (.dbl 0) = true := by decide

theorem sort_order_nan_last (b : Nat) (hb : f64IsNaN b = false) :
    numLess (.dbl b) (.dbl nanBits) = true ∧ numLess (.dbl nanBits) (.dbl b) = false := by
  have h : numLess (.dbl b) (.dbl nanBits) = true := by
    have hm : b % 2 ^ 63 < 2 ^ 63 := Nat.mod_lt _ (by decide)
    refine (numLess_iff _ _).mpr ⟨rfl, Nat.lt_add_one_of_lt (Nat.lt_add_one 1), ?_⟩
    show dKey b < dKey nanBits
    rw [show dKey nanBits = 2 ^ 63 from rfl, dKey, hb]
    generalize b % 2 ^ 63 = m at hm
    simp only [Bool.false_eq_true, if_false]
    split <;> omega
  exact ⟨h, numLess_asymm _ _ h⟩

/-- **sort, user comparator: the `typedArraySortCtx` protocol under detach** — for ANY sequence of `Less(i,j)` / `Swap(i,j)`
calls with `i, j < length` (whatever algorithm `sort.Stable` runs and whatever the comparator answers) and any adversary
detaching buffers inside comparator calls, every element touch happens while the buffer is attached, is in bounds and
lies inside the view. -/
theorem sort_comparator_protocol_safe (s : State) (vi : Nat) (v : View) (calls : List SortCall) (hi : Inv s)
    (hv : s.views[vi]? = some v) (hatt : s.attached v.buf = true) (hx : ∀ x ∈ calls, x.inRange v.length) :
    ∀ t ∈ (sortCalls { s with log := [] } v {} calls).1.log, t.ok = true ∧ InView v t :=
  (sortCalls_spec (P := fun t => t.ok = true ∧ InView v t) (List.mem_of_getElem? hv) (fun _ _ h1 h2 => ⟨rfl, rfl, h1, h2⟩)
    calls { s with log := [] } {} (ctx0 hi).start (fun _ _ => hatt) hx).log

/-- seeded mutation C17-m2 (Swap without `checkDetached`) violates the protocol theorem -/
theorem sort_swap_without_recheck_witness :
    let s0 : State := { bufs := [some [3, 2, 1, 0]], views := [⟨0, 0, 4, .u8⟩] }
    let v : View := ⟨0, 0, 4, .u8⟩
    let r := sortCall s0 v {} (.less 1 0 [0])
    ¬ (∀ t ∈ (swapNoRecheck r.1 v r.2 1 0).log, t.ok = true) := by decide

/-- `copyWithin` as it was before commit b85e9cc (`count := final - from` with no clamp by `l - to`), on the
failing input of DESIGN §12.4: view (offset 0, length 4) over 8 bytes, copyWithin(2, 0) — Go's `copy` is bounded
by the end of the BUFFER, so 4 bytes are moved to offset 2 and bytes 4,5 (outside the view) are written. -/
def cwUnclampedWrites (bufLen offset length es to from_ final : Nat) : List Nat :=
  let n := min ((final - from_) * es) (bufLen - (offset + to) * es)
  (List.range n).map (fun i => (offset + to) * es + i)

theorem copyWithin_unclamped_witness :
    ¬ (∀ i ∈ cwUnclampedWrites 8 0 4 1 2 0 4, i < (0 + 4) * 1) := by decide

theorem encode_length (k : Kind) (n : Num) (bs : List UInt8) (h : encode k n = some bs) : bs.length = k.size := by
  unfold encode at h
  cases hn : encodeNat k n with
  | none => simp [hn] at h
  | some x => simp [hn] at h; subst h; exact leBytes_length _ _

theorem leNat_lt (bs : List UInt8) : leNat bs < 256 ^ bs.length := by
  induction bs with
  | nil => simp [leNat]
  | cons b bs ih =>
    have hb : b.toNat < 256 := b.toNat_lt
    simp only [leNat, List.length_cons, Nat.pow_succ]
    omega

/-- little-endian codec round trip: decoding the bytes written for `x < 256^n` gives `x` back -/
theorem leNat_leBytes (n x : Nat) (h : x < 256 ^ n) : leNat (leBytes n x) = x := leNat_leBytes_of_lt n x h

/-- unsigned integer kinds: writing an in-range integer and reading it back is the identity -/
theorem codec_roundtrip_u8 (i : Nat) (h : i < 256) : (encode .u8 (.int i)).map (decode .u8) = some (.int i) := by
  simp only [encode, encodeNat, Kind.size, Option.map_some, decode]
  rw [leNat_leBytes_intModN 1 i (by omega)]

theorem codec_roundtrip_u16 (i : Nat) (h : i < 65536) : (encode .u16 (.int i)).map (decode .u16) = some (.int i) := by
  simp only [encode, encodeNat, Kind.size, Option.map_some, decode]
  rw [leNat_leBytes_intModN 2 i (by omega)]

theorem codec_roundtrip_u32 (i : Nat) (h : i < 4294967296) : (encode .u32 (.int i)).map (decode .u32) = some (.int i) := by
  simp only [encode, encodeNat, Kind.size, Option.map_some, decode]
  rw [leNat_leBytes_intModN 4 i (by omega)]

/-- signed kinds: in-range integers round-trip through two's complement -/
theorem codec_roundtrip_i8 (i : Int) (h1 : -128 ≤ i) (h2 : i < 128) : (encode .i8 (.int i)).map (decode .i8) = some (.int i) := by
  simp only [encode, encodeNat, Kind.size, Option.map_some, decode]
  rw [signedOfNat_leNat_leBytes 1 128 rfl i h1 h2]

theorem codec_roundtrip_i16 (i : Int) (h1 : -32768 ≤ i) (h2 : i < 32768) : (encode .i16 (.int i)).map (decode .i16) = some (.int i) := by
  simp only [encode, encodeNat, Kind.size, Option.map_some, decode]
  rw [signedOfNat_leNat_leBytes 2 32768 rfl i h1 h2]

theorem codec_roundtrip_i32 (i : Int) (h1 : -2147483648 ≤ i) (h2 : i < 2147483648) :
    (encode .i32 (.int i)).map (decode .i32) = some (.int i) := by
  simp only [encode, encodeNat, Kind.size, Option.map_some, decode]
  rw [signedOfNat_leNat_leBytes 4 2147483648 rfl i h1 h2]

/-- modular integers: the bit pattern written depends only on the value modulo 2^n (ECMA-262 ToUintN) -/
theorem intModN_add_mul (bits : Nat) (i k : Int) : intModN bits (i + k * (2 ^ bits : Int)) = intModN bits i := by
  unfold intModN; rw [Int.add_mul_emod_self_right]

/-- Uint8Clamped never wraps -/
theorem u8clamp_range (i : Int) : intClampU8 i ≤ 255 := by
  unfold intClampU8
  split
  · omega
  · split <;> omega

/-- `f64TruncMag` is ⌊|x|⌋ for a finite double: exact scaling for exponents ≥ 52, floor of `sig / 2^k` below. -/
theorem f64TruncMag_floor (b : Nat) :
    (f64Exp b = 0 → f64TruncMag b = 0) ∧
    (1075 ≤ f64Exp b → f64TruncMag b = (f64Man b + 2 ^ 52) * 2 ^ (f64Exp b - 1075)) ∧
    (0 < f64Exp b → f64Exp b < 1075 →
      f64TruncMag b * 2 ^ (1075 - f64Exp b) ≤ f64Man b + 2 ^ 52 ∧
      f64Man b + 2 ^ 52 < (f64TruncMag b + 1) * 2 ^ (1075 - f64Exp b)) := by
  refine ⟨fun h => by simp [f64TruncMag, h], fun h => ?_, fun h0 h1 => ?_⟩
  · have : ¬ f64Exp b = 0 := by omega
    simp [f64TruncMag, this, h]
  · have h2 : ¬ f64Exp b = 0 := by omega
    have h3 : ¬ 1075 ≤ f64Exp b := by omega
    simp only [f64TruncMag, beq_iff_eq, h2, if_false, ge_iff_le, h3]
    have hp : 0 < 2 ^ (1075 - f64Exp b) := Nat.pow_pos (by decide)
    refine ⟨Nat.div_mul_le_self _ _, ?_⟩
    have := Nat.lt_mul_div_succ (f64Man b + 2 ^ 52) hp
    rw [Nat.mul_comm] at this
    exact this

/-- **ToUintN / ToIntN are modular** (ECMA-262 7.1.6-7.1.11 step "int modulo 2^n"): for a finite double the stored
bit pattern is `sign·⌊|x|⌋ mod 2^n` (mathematical modulo on the integers), and it is `< 2^n`. -/
theorem f64ToUintN_modular (n b : Nat) (hfin : f64Exp b ≠ 2047) :
    ((f64ToUintN n b : Nat) : Int) =
      (if f64Sign b then -((f64TruncMag b : Nat) : Int) else ((f64TruncMag b : Nat) : Int)) % ((2 ^ n : Nat) : Int) ∧
    f64ToUintN n b < 2 ^ n := by
  have hN : 0 < 2 ^ n := Nat.pow_pos (by decide)
  have hfin' : (f64Exp b == 2047) = false := by simp [hfin]
  simp only [f64ToUintN, hfin', Bool.false_eq_true, if_false]
  generalize f64TruncMag b = mag
  generalize 2 ^ n = N at hN
  cases f64Sign b with
  | false =>
    simp only [Bool.false_eq_true, if_false]
    exact ⟨Int.natCast_emod _ _, Nat.mod_lt _ hN⟩
  | true =>
    simp only [if_true]
    refine ⟨?_, Nat.mod_lt _ hN⟩
    have hm : mag % N < N := Nat.mod_lt _ hN
    rw [Int.natCast_emod, Int.natCast_sub (Nat.le_of_lt hm), Int.natCast_emod]
    rw [Int.sub_emod, Int.emod_self, Int.emod_emod]
    rw [← Int.zero_sub ((mag : Int)), Int.sub_emod 0 (mag : Int), Int.zero_emod]

theorem f64ToUintN_nonfinite (n b : Nat) (h : f64Exp b = 2047) : f64ToUintN n b = 0 := by
  simp [f64ToUintN, h]

theorem f64ToU8Clamp_eq_rneShift (b : Nat) (hn : f64IsNaN b = false) (hs : f64Sign b = false)
    (h0 : 0 < f64Exp b) (h1 : f64Exp b < 1075) :
    f64ToU8Clamp b = if (f64Man b + 2 ^ 52) / 2 ^ (1075 - f64Exp b) ≥ 255 then 255
      else rneShift (f64Man b + 2 ^ 52) (1075 - f64Exp b) := by
  have e0 : ¬ f64Exp b = 0 := by omega
  have e1 : ¬ f64Exp b = 2047 := by omega
  have e2 : ¬ 1075 ≤ f64Exp b := by omega
  have ek : ¬ 1075 - f64Exp b = 0 := by omega
  simp only [f64ToU8Clamp, rneShift, hn, hs, Bool.false_eq_true, if_false, beq_iff_eq, e0, e1, ge_iff_le, e2, ek]
  generalize (f64Man b + 2 ^ 52) / 2 ^ (1075 - f64Exp b) = q
  generalize (f64Man b + 2 ^ 52) % 2 ^ (1075 - f64Exp b) = r
  generalize 2 ^ (1075 - f64Exp b - 1) = half
  by_cases c : 255 ≤ q
  · rw [if_pos c, if_pos c]
  · rw [if_neg c, if_neg c]
    rcases Nat.lt_trichotomy r half with h | h | h
    · simp [h, Nat.lt_asymm h, Nat.ne_of_lt h]
    · simp [h]
    · simp [h]

/-- **Uint8Clamp rounds to nearest, ties to even, and clamps** (ECMA-262 7.1.12) for a positive finite double below
2^52 with value `v = sig / 2^k`: the result `r` satisfies `|r − v| ≤ 1/2` when `v ≤ 255` (stated after multiplying by
`2^(k+1)`), `r` is even in the two tie cases, and `r = 255` when `v ≥ 255`. -/
theorem f64ToU8Clamp_nearest (b k sig : Nat) (hn : f64IsNaN b = false) (hs : f64Sign b = false)
    (h0 : 0 < f64Exp b) (h1 : f64Exp b < 1075) (hkdef : k = 1075 - f64Exp b) (hsig : sig = f64Man b + 2 ^ 52) :
    f64ToU8Clamp b ≤ 255 ∧
    (255 * 2 ^ k ≤ sig → f64ToU8Clamp b = 255) ∧
    (sig ≤ 255 * 2 ^ k →
      2 * (f64ToU8Clamp b * 2 ^ k) ≤ 2 * sig + 2 ^ k ∧ 2 * sig ≤ 2 * (f64ToU8Clamp b * 2 ^ k) + 2 ^ k ∧
      ((2 * (f64ToU8Clamp b * 2 ^ k) = 2 * sig + 2 ^ k ∨ 2 * sig = 2 * (f64ToU8Clamp b * 2 ^ k) + 2 ^ k) →
        f64ToU8Clamp b % 2 = 0)) := by
  rw [f64ToU8Clamp_eq_rneShift b hn hs h0 h1, ← hkdef, ← hsig]
  obtain ⟨n1, n2, n3, n4, n5⟩ := rneShift_nearest sig k (by omega)
  have hP : 0 < 2 ^ k := Nat.pow_pos (by decide)
  have hq : 255 ≤ sig / 2 ^ k ↔ 255 * 2 ^ k ≤ sig := Nat.le_div_iff_mul_le hP
  generalize 2 ^ k = P at *
  split
  · rename_i c
    have := hq.mp c
    exact ⟨Nat.le_refl _, fun _ => rfl, fun _ => ⟨by omega, by omega, fun _ => by omega⟩⟩
  · rename_i c
    exact ⟨by omega, fun h => absurd (hq.mpr h) c, fun _ => ⟨n1, n2, n3⟩⟩

/-- the rounding primitive of `f64ToF32`: with `q = rneShift sig k`, `2·|q·2^k − sig| ≤ 2^k` and ties give an even `q` -/
theorem float32_round_nearest_even (sig k : Nat) (hk : 1 ≤ k) :
    2 * (rneShift sig k * 2 ^ k) ≤ 2 * sig + 2 ^ k ∧ 2 * sig ≤ 2 * (rneShift sig k * 2 ^ k) + 2 ^ k ∧
    ((2 * (rneShift sig k * 2 ^ k) = 2 * sig + 2 ^ k ∨ 2 * sig = 2 * (rneShift sig k * 2 ^ k) + 2 ^ k) → rneShift sig k % 2 = 0) :=
  let h := rneShift_nearest sig k hk; ⟨h.1, h.2.1, h.2.2.1⟩

/-- **normal range**: the float32 stored for the double `(s, e, m)` widens back to the double with significand exactly
`q·2^29`, `q = rneShift (m+2^52) 29`, at exponent `e` (or `2^52` at `e+1` when the rounding carried) — i.e. the stored value
is `q·2^(e−1075+29)`, by `float32_round_nearest_even` the float32 nearest to `(m+2^52)·2^(e−1075)`, ties to even. -/
theorem float32_store_load_normal (s : Bool) (e m q : Nat) (he1 : 896 < e) (he2 : e < 2047) (hm : m < 2 ^ 52)
    (hq : q = rneShift (m + 2 ^ 52) 29) (hno : (e - 897) * 2 ^ 23 + q < 0x7f800000) :
    (q < 2 ^ 24 → f32ToF64 (f64ToF32 (mkF64 s e m)) = mkF64 s e ((q - 2 ^ 23) * 2 ^ 29)) ∧
    (q = 2 ^ 24 → f32ToF64 (f64ToF32 (mkF64 s e m)) = mkF64 s (e + 1) 0) := by
  have hb := rneShift29_bounds m hm
  rw [hq] at hno ⊢
  rw [f64ToF32_normal s e m he1 he2 hm hno]
  generalize rneShift (m + 2 ^ 52) 29 = q at hb hno ⊢
  -- with `e = E + 897` the exponent field of the float32 is `E + 1`, or `E + 2` after a carry
  obtain ⟨E, rfl⟩ : ∃ E, e = E + 897 := ⟨e - 897, by omega⟩
  clear hm he1 hq
  simp only [Nat.reducePow, Nat.add_sub_cancel] at hb hno ⊢
  constructor
  · intro hlt
    have hw := f32ToF64_normal s (E + 1) (q - 8388608) (by omega) (by omega) (by simp only [Nat.reducePow]; omega)
    simp only [Nat.reducePow, Nat.succ_mul] at hw
    rw [show (if s = true then 2147483648 else 0) + (E * 8388608 + q) =
      (if s = true then 2147483648 else 0) + (E * 8388608 + 8388608) + (q - 8388608) by omega, hw]
  · intro heq
    have hw := f32ToF64_normal s (E + 2) 0 (by omega) (by omega) (Nat.pow_pos (by decide))
    simp only [Nat.reducePow, Nat.add_mul] at hw
    rw [show (if s = true then 2147483648 else 0) + (E * 8388608 + q) =
      (if s = true then 2147483648 else 0) + (E * 8388608 + 2 * 8388608) + 0 by omega, hw, Nat.zero_mul]

/-- **subnormal range** of float32 (`e ≤ 896`): the stored bits are the sign and `rneShift sig (926−e)`, the nearest-even
multiple of 2^−149 -/
theorem float32_store_subnormal (s : Bool) (e m : Nat) (he1 : 0 < e) (he2 : e ≤ 896) (hm : m < 2 ^ 52) :
    f64ToF32 (mkF64 s e m) = (if s then 2 ^ 31 else 0) + rneShift (m + 2 ^ 52) (926 - e) := by
  rw [f64ToF32_finite s e m he1 (by omega) hm, if_neg (Nat.not_lt_of_le he2)]

/-- widening a subnormal float32 is exact: `m·2^−149` becomes the double with exponent field `⌊log2 m⌋ + 874` and
significand `m·2^(52−⌊log2 m⌋)` — with `float32_store_subnormal` and `float32_round_nearest_even` (k = 926 − e) the stored
subnormal is the multiple of 2^−149 nearest to the double, ties to even. -/
theorem float32_load_subnormal (s : Bool) (m : Nat) (h0 : 0 < m) (hm : m < 2 ^ 23) :
    f32ToF64 ((if s then 2 ^ 31 else 0) + m) = mkF64 s (Nat.log2 m + 874) ((m - 2 ^ Nat.log2 m) * 2 ^ (52 - Nat.log2 m)) ∧
    (m - 2 ^ Nat.log2 m) * 2 ^ (52 - Nat.log2 m) + 2 ^ 52 = m * 2 ^ (52 - Nat.log2 m) ∧
    (m - 2 ^ Nat.log2 m) * 2 ^ (52 - Nat.log2 m) < 2 ^ 52 := by
  have hne : m ≠ 0 := by omega
  have hlo := Nat.log2_self_le hne
  have hhi := Nat.lt_log2_self (n := m)
  have hp : Nat.log2 m < 23 := (Nat.log2_lt hne).mpr hm
  obtain ⟨f1, f2, f3⟩ := f32_fields s 0 m (by decide) hm (x := (if s then 2 ^ 31 else 0) + m) (by rw [Nat.zero_mul, Nat.add_zero])
  have c2 : ¬ (m == 0) = true := by simpa using hne
  refine ⟨?_, ?_, ?_⟩
  · unfold f32ToF64 mkF64
    simp only [f1, f2, f3]
    rw [if_neg (by decide), if_pos (by decide), if_neg c2]
  all_goals
    generalize Nat.log2 m = p at *
    have hpow : 2 ^ p * 2 ^ (52 - p) = 2 ^ 52 := by rw [← Nat.pow_add]; congr 1; omega
    rw [← hpow]
  · rw [← Nat.add_mul]; congr 1; omega
  · exact Nat.mul_lt_mul_of_pos_right (by rw [Nat.pow_succ] at hhi; omega) (Nat.pow_pos (by decide))

/-- **overflow**: a rounded value beyond float32's range is stored as ±∞ -/
theorem float32_store_overflow (s : Bool) (e m : Nat) (he1 : 896 < e) (he2 : e < 2047) (hm : m < 2 ^ 52)
    (hov : (e - 897) * 2 ^ 23 + rneShift (m + 2 ^ 52) 29 ≥ 0x7f800000) :
    f64ToF32 (mkF64 s e m) = (if s then 2 ^ 31 else 0) + 0x7f800000 := by
  rw [f64ToF32_finite s e m (by omega) he2 hm, if_pos he1, if_pos hov]

-- non-vacuity: the following are tests on literals, not theorems about all inputs

/-- a concrete non-trivial state satisfying the invariant: 8-byte buffer with a Uint16 view (offset 1, length 3)
and a DataView (2, 5) -/
def exState : State := run {} [.newBuf [0, 1, 2, 3, 4, 5, 6, 7], .newView .u16 0 (some ⟨2, []⟩) (some ⟨3, []⟩) [],
  .newDV 0 (some ⟨2, []⟩) (some ⟨5, []⟩) []]

example : exState.views = [⟨0, 1, 3, .u16⟩] ∧ exState.dvs = [⟨0, 2, 5⟩] := by decide
example : Inv exState := view_inv _
-- copyWithin on the DESIGN §12.4 input stays inside the view (bytes 4..7 untouched)
example : ((run {} [.newBuf [0, 1, 2, 3, 4, 5, 6, 7], .newView .u8 0 (some ⟨0, []⟩) (some ⟨4, []⟩) [],
    .copyWithin 0 ⟨2, []⟩ ⟨0, []⟩ none]).bufs) = [some [0, 1, 0, 1, 4, 5, 6, 7]] := by decide
-- `of` applied to a user constructor returning a view at byte offset 4 writes at VIEW index 0,1 (bytes 4,5)
example : ((run {} [.newBuf [1, 2, 3, 4, 5, 6, 7, 8], .newView .u8 0 (some ⟨4, []⟩) (some ⟨4, []⟩) [],
    .of_ (.user 0 []) [⟨.int 9, []⟩, ⟨.int 10, []⟩]]).bufs) = [some [1, 2, 3, 4, 9, 10, 7, 8]] := by decide
-- the hypotheses of fill_bytes_eq_spec are satisfiable (fill succeeds on a concrete state)
example : (opFill exState 0 ⟨.int 7, []⟩ none none).1.isOk = true := by decide
-- an adversarial fill (start.valueOf detaches the buffer) throws and touches nothing
example : (step { exState with log := [] } (.fill 0 ⟨.int 7, []⟩ (some ⟨0, [0]⟩) none)).2.log = [] := by decide

end GojaModel.C17
