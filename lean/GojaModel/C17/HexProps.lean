/-
  C17 — theorems about the Uint8Array hex methods (model in Hex.lean): every byte touched lies inside the view and
  inside the attached buffer; byte results; hex codec round trip.
-/
import GojaModel.C17.Hex
import GojaModel.C17.Specs

namespace GojaModel.C17

theorem hexReceiver_ok {s : State} {vi : Nat} {v : View} (h : hexReceiver s vi = .ok v) :
    s.views[vi]? = some v ∧ v.kind = .u8 ∧ s.attached v.buf = true := by
  unfold hexReceiver at h
  split at h
  · cases h
  · rename_i w hv
    split at h
    · cases h
    · rename_i hk
      split at h
      · cases h
      · rename_i ha
        cases h
        exact ⟨hv, by simpa using hk, not_not_attached ha⟩

theorem u8_lo_hi {v : View} (hk : v.kind = .u8) : v.lo = v.offset ∧ v.hi = v.offset + v.length := by
  simp [View.lo, View.hi, hk, Kind.size]

/-- **toHex** keeps the invariant and reads only the view's bytes -/
theorem opToHex_spec {P : Touch → Prop} {s : State} (vi : Nat) (c : Ctx P s)
    (hP : ∀ v, s.views[vi]? = some v → PRange P v.buf v.lo v.hi) : Ctx P (opToHex s vi).2 := by
  unfold opToHex
  cases hr : hexReceiver s vi with
  | error e => exact c
  | ok v =>
    obtain ⟨hv, hk, ha⟩ := hexReceiver_ok hr
    obtain ⟨hlo, hhi⟩ := u8_lo_hi hk
    dsimp only
    exact (c.start.readRange (List.mem_of_getElem? hv) ha (hP v hv) (Nat.le_of_eq hlo) (Nat.le_of_eq hhi.symm)).toCtx

theorem pairs_induction {α} {motive : List α → Prop} (nil : motive []) (one : ∀ a, motive [a])
    (two : ∀ a b rest, motive rest → motive (a :: b :: rest)) : ∀ l, motive l
  | [] => nil
  | [a] => one a
  | a :: b :: rest => two a b rest (pairs_induction nil one two rest)

theorem hexWrite_spec {P : Touch → Prop} {b lo len base : Nat} (hP : PRange P b base (lo + len)) (hbase : base ≤ lo) :
    ∀ (cs : List Char) (s : State) (n : Nat), LogAll P s → RangeOK s b (lo + len) → 2 * n + cs.length ≤ 2 * len →
      LogAll P (hexWrite s b lo cs n).2 ∧ SameShape s (hexWrite s b lo cs n).2 := by
  intro cs
  induction cs using pairs_induction with
  | nil => intro s n hlog _ _; exact ⟨hlog, SameShape.refl s⟩
  | one _ => intro s n hlog _ _; exact ⟨hlog, SameShape.refl s⟩
  | two c1 c2 rest ih =>
    intro s n hlog hr hb
    simp only [List.length_cons] at hb
    unfold hexWrite
    split
    · rename_i hv lv _ _
      have hw : LogAll P (s.writeByte b (lo + n) (UInt8.ofNat (hv * 16 + lv))) :=
        logAll_touch hlog hr hP (by omega) (by omega) rfl
      have hs := sameShape_writeByte s b (lo + n) (UInt8.ofNat (hv * 16 + lv))
      obtain ⟨a, c⟩ := ih _ (n + 1) hw (hr.of_sameShape hs) (by omega)
      exact ⟨a, hs.trans c⟩
    · exact ⟨hlog, SameShape.refl s⟩

theorem hexTruncate_length (cs : List Char) (maxLength : Nat) (heven : cs.length % 2 = 0) :
    (hexTruncate cs maxLength).length ≤ 2 * maxLength ∧ (hexTruncate cs maxLength).length % 2 = 0 := by
  unfold hexTruncate
  split
  · rw [List.length_take]; omega
  · omega

/-- **setFromHex** keeps the invariant and writes only bytes of the view -/
theorem opSetFromHex_spec {P : Touch → Prop} {s : State} (vi : Nat) (cs : List Char) (c : Ctx P s)
    (hP : ∀ v, s.views[vi]? = some v → PRange P v.buf v.lo v.hi) : Ctx P (opSetFromHex s vi cs).2 := by
  unfold opSetFromHex
  cases hr : hexReceiver s vi with
  | error e => exact c
  | ok v =>
    obtain ⟨hv, hk, ha⟩ := hexReceiver_ok hr
    obtain ⟨hlo, hhi⟩ := u8_lo_hi hk
    dsimp only
    split
    · exact c
    · rename_i hodd
      have heven : cs.length % 2 = 0 := by simpa using hodd
      obtain ⟨hl, _⟩ := hexTruncate_length cs v.length heven
      have hPv := hP v hv
      rw [hlo, hhi] at hPv
      have hrng := c.inv.rangeOK (List.mem_of_getElem? hv) ha
      rw [hhi] at hrng
      exact c.step (hexWrite_spec hPv (Nat.le_refl _) (hexTruncate cs v.length) s 0 c.log hrng (by omega))

theorem length_of_hexDecodeAll : ∀ (cs : List Char) (bs : List UInt8), hexDecodeAll cs = some bs → 2 * bs.length = cs.length := by
  intro cs
  induction cs using pairs_induction with
  | nil => intro bs h; simp [hexDecodeAll] at h; subst h; rfl
  | one _ => intro bs h; simp [hexDecodeAll] at h
  | two c1 c2 rest ih =>
    intro bs h
    unfold hexDecodeAll at h
    split at h
    · rename_i _ _ bs' _ _ h3
      simp at h; subst h
      have := ih bs' h3
      simp only [List.length_cons]; omega
    · simp at h

theorem hexDecodeAll_length : ∀ (m : Nat) (cs : List Char) (bs : List UInt8), cs.length ≤ 2 * m →
    hexDecodeAll cs = some bs → 2 * bs.length = cs.length :=
  fun _ cs bs _ => length_of_hexDecodeAll cs bs

/-- **fromHex** keeps the invariant (the fresh Uint8Array lies inside its fresh buffer) and touches no existing memory -/
theorem opFromHex_spec {P : Touch → Prop} {s : State} (cs : List Char) (c : Ctx P s) : Ctx P (opFromHex s cs).2 := by
  unfold opFromHex
  split
  · exact c
  · rename_i bs _
    refine ⟨?_, c.log⟩
    refine inv_pushView (inv_pushBuf c.inv bs) _ (by simp) (fun _ => ?_)
    have := (rangeOK_newBuf s bs).2
    simpa [View.hi, Kind.size] using this

def InViewH (v : View) (t : Touch) : Prop := t.buf = v.buf ∧ v.lo ≤ t.idx ∧ t.idx < v.hi

/-- **access_in_bounds + within_view for toHex / setFromHex / fromHex**: from any state satisfying the invariant, every
touch is in bounds, happens while the buffer is attached, and lies inside the receiver view. -/
theorem hex_within_view (s : State) (vi : Nat) (cs : List Char) (hi : Inv s) :
    (∀ t ∈ (opToHex { s with log := [] } vi).2.log, t.ok = true ∧ ∃ v, s.views[vi]? = some v ∧ InViewH v t) ∧
    (∀ t ∈ (opSetFromHex { s with log := [] } vi cs).2.log, t.ok = true ∧ ∃ v, s.views[vi]? = some v ∧ InViewH v t) ∧
    (∀ t ∈ (opFromHex { s with log := [] } cs).2.log, False) := by
  refine ⟨?_, ?_, ?_⟩
  · exact (opToHex_spec (P := fun t => t.ok = true ∧ ∃ v, s.views[vi]? = some v ∧ InViewH v t) vi (ctx0 hi)
      (fun v hv _ _ h1 h2 => ⟨rfl, v, hv, rfl, h1, h2⟩)).log
  · exact (opSetFromHex_spec (P := fun t => t.ok = true ∧ ∃ v, s.views[vi]? = some v ∧ InViewH v t) vi cs (ctx0 hi)
      (fun v hv _ _ h1 h2 => ⟨rfl, v, hv, rfl, h1, h2⟩)).log
  · exact (opFromHex_spec (P := fun _ => False) cs (ctx0 hi)).log

/-- the invariant is preserved by the three operations -/
theorem hex_preserves_inv (s : State) (vi : Nat) (cs : List Char) (hi : Inv s) :
    Inv (opToHex s vi).2 ∧ Inv (opSetFromHex s vi cs).2 ∧ Inv (opFromHex s cs).2 := by
  have c : Ctx (fun _ => True) s := ⟨hi, fun _ _ => trivial⟩
  exact ⟨(opToHex_spec vi c (fun _ _ _ _ _ _ => trivial)).inv, (opSetFromHex_spec vi cs c (fun _ _ _ _ _ _ => trivial)).inv,
    (opFromHex_spec cs c).inv⟩

/-- **toHex value**: the hex encoding of the view's bytes -/
theorem toHex_value_eq_spec (s : State) (vi : Nat) (v : View) (d : List UInt8) (hr : hexReceiver s vi = .ok v)
    (hd : s.data? v.buf = some d) : (opToHex s vi).1 = .str (hexOfBytes (window d v.offset v.length)) := by
  unfold opToHex; rw [hr]; dsimp only
  rw [readRange_value v.buf d _ s _ hd]

theorem hexWrite_of_decodeAll (b lo : Nat) : ∀ (cs : List Char) (bs : List UInt8) (s : State) (n : Nat),
    hexDecodeAll cs = some bs →
    (hexWrite s b lo cs n).1 = .rw (2 * (n + bs.length)) (n + bs.length) ∧
    ∀ b', (hexWrite s b lo cs n).2.data? b' = if b' = b then (s.data? b).map (fun d => splice d (lo + n) bs) else s.data? b' := by
  intro cs
  induction cs using pairs_induction with
  | nil =>
    intro bs s n h
    simp [hexDecodeAll] at h; subst h
    refine ⟨by simp [hexWrite], fun b' => ?_⟩
    by_cases hb : b' = b
    · subst hb; simp [hexWrite, splice]
    · simp [hexWrite, hb]
  | one _ => intro bs s n h; simp [hexDecodeAll] at h
  | two c1 c2 rest ih =>
    intro bs s n h
    unfold hexDecodeAll at h
    split at h
    · rename_i hi' lo' bs' h1 h2 h3
      injection h with h; subst h
      unfold hexWrite
      simp only [h1, h2]
      obtain ⟨a, c⟩ := ih bs' (s.writeByte b (lo + n) (UInt8.ofNat (hi' * 16 + lo'))) (n + 1) h3
      refine ⟨by rw [a]; simp only [List.length_cons]; congr 1 <;> omega, fun b' => ?_⟩
      rw [c b']
      by_cases hb : b' = b
      · subst hb
        rw [if_pos rfl, if_pos rfl, data?_writeByte, if_pos rfl]
        cases s.data? b' with
        | none => rfl
        | some d => rfl
      · rw [if_neg hb, if_neg hb, data?_writeByte, if_neg hb]
    · simp at h

/-- a completely valid hex string is decoded and stored pair by pair: the bytes land at `lo+n, lo+n+1, …` (`m` and the
length bound are idle: `hexWrite_of_decodeAll` is the same without them) -/
theorem hexWrite_data (b lo : Nat) : ∀ (m : Nat) (cs : List Char) (bs : List UInt8) (s : State) (n : Nat), cs.length ≤ 2 * m →
    hexDecodeAll cs = some bs →
    (hexWrite s b lo cs n).1 = .rw (2 * (n + bs.length)) (n + bs.length) ∧
    ∀ b', (hexWrite s b lo cs n).2.data? b' = if b' = b then (s.data? b).map (fun d => splice d (lo + n) bs) else s.data? b' :=
  fun _ cs bs s n _ => hexWrite_of_decodeAll b lo cs bs s n

theorem hexVal_hexChar : ∀ d : Fin 16, hexVal? (hexChar d.val) = some d.val := by decide

theorem hexDecode_encode (bs : List UInt8) : hexDecodeAll (hexOfBytes bs) = some bs := by
  induction bs with
  | nil => rfl
  | cons b bs ih =>
    have h1 := hexVal_hexChar ⟨b.toNat / 16, by have := b.toNat_lt; omega⟩
    have h2 := hexVal_hexChar ⟨b.toNat % 16, by omega⟩
    simp only at h1 h2
    simp only [hexOfBytes, hexDecodeAll, h1, h2, ih]
    congr 2
    have : b.toNat / 16 * 16 + b.toNat % 16 = b.toNat := by omega
    rw [this]
    exact UInt8.ofNat_toNat

end GojaModel.C17
