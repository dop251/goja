/-
  C17 helper lemmas: `SameShape` (same buffers up to contents, same views), the touch-log predicate `LogAll`, `RangeOK`,
  the adversary's move in closed form (`data?_applyDet`: the buffers it names are gone, every other buffer is as it was),
  the view invariant `Inv` under callback points / new buffers and views.
-/
import GojaModel.C17.ByteArr

namespace GojaModel.C17

def State.blen? (s : State) (b : Nat) : Option Nat := (s.data? b).map List.length

theorem attached_eq (s : State) (b : Nat) : s.attached b = (s.blen? b).isSome := by
  simp [State.attached, State.blen?]

theorem blen_eq (s : State) (b : Nat) : s.blen b = (s.blen? b).getD 0 := by
  unfold State.blen State.blen?; cases s.data? b <;> simp

theorem touchOk_eq (s : State) (b i : Nat) :
    s.touchOk b i = (match s.blen? b with | some n => decide (i < n) | none => false) := by
  unfold State.touchOk State.blen?; cases s.data? b <;> simp

theorem data_of_attached {s : State} {b : Nat} (h : s.attached b = true) : ∃ d, s.data? b = some d :=
  Option.isSome_iff_exists.mp h

theorem attached_of_data {s : State} {b : Nat} {d : List UInt8} (h : s.data? b = some d) : s.attached b = true := by
  unfold State.attached; rw [h]; rfl

theorem blen_of_data {s : State} {b : Nat} {d : List UInt8} (h : s.data? b = some d) : s.blen b = d.length := by
  unfold State.blen; rw [h]

theorem guard_passed {p : Prop} [Decidable p] {e r : Res} {t : State} {k : Res × State}
    (h : (if p then (e, t) else k).1 = r) (hne : e ≠ r) : ¬ p :=
  fun hp => hne (by rw [if_pos hp] at h; exact h)

/-- the check `if !s.attached b then throw`, read in both directions -/
theorem not_not_attached {s : State} {b : Nat} (h : ¬(!s.attached b) = true) : s.attached b = true := by
  simpa using h

theorem not_detached {s : State} {b : Nat} (h : s.attached b = true) : ¬(!s.attached b) = true := by
  simpa using h

structure SameShape (s t : State) : Prop where
  blen : ∀ b, t.blen? b = s.blen? b
  nbufs : t.bufs.length = s.bufs.length
  views : t.views = s.views
  dvs : t.dvs = s.dvs

theorem SameShape.refl (s : State) : SameShape s s := ⟨fun _ => rfl, rfl, rfl, rfl⟩

theorem SameShape.trans {s t u : State} (h1 : SameShape s t) (h2 : SameShape t u) : SameShape s u :=
  ⟨fun b => (h2.blen b).trans (h1.blen b), h2.nbufs.trans h1.nbufs, h2.views.trans h1.views, h2.dvs.trans h1.dvs⟩

theorem SameShape.attached {s t : State} (h : SameShape s t) (b : Nat) : t.attached b = s.attached b := by
  rw [attached_eq, attached_eq, h.blen]

theorem SameShape.blen' {s t : State} (h : SameShape s t) (b : Nat) : t.blen b = s.blen b := by
  rw [blen_eq, blen_eq, h.blen]

theorem SameShape.touchOk {s t : State} (h : SameShape s t) (b i : Nat) : t.touchOk b i = s.touchOk b i := by
  rw [touchOk_eq, touchOk_eq, h.blen]

theorem data?_set (l : List (Option (List UInt8))) (b b' : Nat) (x : Option (List UInt8)) :
    (l.set b x).getD b' none = if b = b' ∧ b < l.length then x else l.getD b' none := by
  rw [getD_set_eq]
  by_cases h : b = b'
  · subst h; rfl
  · rw [if_neg (fun hh => h hh.1), if_neg (fun hh => h hh.1)]

def LogAll (P : Touch → Prop) (s : State) : Prop := ∀ t ∈ s.log, P t

def PRange (P : Touch → Prop) (b lo hi : Nat) : Prop := ∀ i w, lo ≤ i → i < hi → P ⟨b, i, true, w⟩

def InView (v : View) (t : Touch) : Prop := t.buf = v.buf ∧ v.lo ≤ t.idx ∧ t.idx < v.hi

def RangeOK (s : State) (b hi : Nat) : Prop := s.attached b = true ∧ hi ≤ s.blen b

theorem RangeOK.touchOk {s : State} {b hi i : Nat} (h : RangeOK s b hi) (hi' : i < hi) : s.touchOk b i = true := by
  obtain ⟨ha, hl⟩ := h
  rw [touchOk_eq]
  rw [attached_eq] at ha
  rw [blen_eq] at hl
  cases hb : s.blen? b with
  | none => simp [hb] at ha
  | some n => simp [hb] at hl ⊢; omega

theorem RangeOK.of_sameShape {s t : State} {b hi : Nat} (h : SameShape s t) (hr : RangeOK s b hi) : RangeOK t b hi :=
  ⟨by rw [h.attached]; exact hr.1, by rw [h.blen']; exact hr.2⟩

theorem RangeOK.mono {s : State} {b hi hi' : Nat} (hr : RangeOK s b hi) (h : hi' ≤ hi) : RangeOK s b hi' :=
  ⟨hr.1, Nat.le_trans h hr.2⟩

/-- `view_inv`: every view (and DataView) refers to an existing buffer and, while that buffer is attached,
lies inside it. -/
structure Inv (s : State) : Prop where
  views : ∀ v ∈ s.views, v.buf < s.bufs.length ∧ (s.attached v.buf = true → v.hi ≤ s.blen v.buf)
  dvs : ∀ d ∈ s.dvs, d.buf < s.bufs.length ∧ (s.attached d.buf = true → d.byteOffset + d.byteLen ≤ s.blen d.buf)

/-- `hb` goes from after to before: detaching only removes obligations -/
theorem Inv.mono {s t : State} (hi : Inv s) (hv : t.views = s.views) (hd : t.dvs = s.dvs) (hn : s.bufs.length ≤ t.bufs.length)
    (hb : ∀ b, b < s.bufs.length → t.attached b = true → s.attached b = true ∧ t.blen b = s.blen b) : Inv t := by
  constructor
  · intro v m
    obtain ⟨h1, h2⟩ := hi.views v (hv ▸ m)
    exact ⟨Nat.lt_of_lt_of_le h1 hn, fun ha => by obtain ⟨a, e⟩ := hb v.buf h1 ha; rw [e]; exact h2 a⟩
  · intro d m
    obtain ⟨h1, h2⟩ := hi.dvs d (hd ▸ m)
    exact ⟨Nat.lt_of_lt_of_le h1 hn, fun ha => by obtain ⟨a, e⟩ := hb d.buf h1 ha; rw [e]; exact h2 a⟩

theorem Inv.of_sameShape {s t : State} (h : SameShape s t) (hi : Inv s) : Inv t :=
  hi.mono h.views h.dvs (Nat.le_of_eq h.nbufs.symm) fun b _ ha => ⟨h.attached b ▸ ha, h.blen' b⟩

theorem Inv.withLog {s : State} (hi : Inv s) (l : List Touch) : Inv { s with log := l } :=
  Inv.of_sameShape (s := s) (t := { s with log := l }) ⟨fun _ => rfl, rfl, rfl, rfl⟩ hi

theorem Inv.rangeOK {s : State} (hi : Inv s) {v : View} (hv : v ∈ s.views) (ha : s.attached v.buf = true) :
    RangeOK s v.buf v.hi := ⟨ha, (hi.views v hv).2 ha⟩

theorem Inv.dvRangeOK {s : State} (hi : Inv s) {d : DView} (hd : d ∈ s.dvs) (ha : s.attached d.buf = true) :
    RangeOK s d.buf (d.byteOffset + d.byteLen) := ⟨ha, (hi.dvs d hd).2 ha⟩

theorem Inv.hi_le {s : State} (hi : Inv s) {vi : Nat} {v : View} {d : List UInt8} (hv : s.views[vi]? = some v)
    (hd : s.data? v.buf = some d) : v.hi ≤ d.length :=
  blen_of_data hd ▸ (hi.views v (List.mem_of_getElem? hv)).2 (attached_of_data hd)

theorem data?_lt {s : State} {b : Nat} {d : List UInt8} (h : s.data? b = some d) : b < s.bufs.length := by
  apply Nat.lt_of_not_le
  intro hn
  rw [State.data?, List.getD_eq_getElem?_getD, List.getElem?_eq_none hn] at h
  cases h

theorem data?_detach (s : State) (b b' : Nat) : (s.detach b).data? b' = if b = b' then none else s.data? b' := by
  unfold State.detach State.data?
  rw [data?_set]
  by_cases h : b = b'
  · subst h
    by_cases hl : b < s.bufs.length
    · rw [if_pos ⟨rfl, hl⟩, if_pos rfl]
    · rw [if_neg (fun hh => hl hh.2), if_pos rfl, List.getD_eq_getElem?_getD, List.getElem?_eq_none (Nat.le_of_not_lt hl)]; rfl
  · rw [if_neg (fun hh => h hh.1), if_neg h]

theorem data?_applyDet (det : List Nat) : ∀ (s : State) (b : Nat),
    (s.applyDet det).data? b = if b ∈ det then none else s.data? b := by
  induction det with
  | nil => intro s b; rw [if_neg List.not_mem_nil]; rfl
  | cons x xs ih =>
    intro s b
    show ((s.detach x).applyDet xs).data? b = _
    rw [ih, data?_detach]
    by_cases hx : b = x
    · subst hx; rw [if_pos List.mem_cons_self, if_pos rfl, ite_self]
    · by_cases hm : b ∈ xs
      · rw [if_pos hm, if_pos (List.mem_cons_of_mem _ hm)]
      · rw [if_neg hm, if_neg (fun h => hx h.symm), if_neg (fun h => (List.mem_cons.mp h).elim hx hm)]

theorem data?_applyDet_cases (det : List Nat) (s : State) (b : Nat) :
    (s.applyDet det).data? b = none ∨ (s.applyDet det).data? b = s.data? b := by
  rw [data?_applyDet]
  split
  · exact Or.inl rfl
  · exact Or.inr rfl

theorem data?_applyDet_none (s : State) (det : List Nat) (b : Nat) (h : s.data? b = none) :
    (s.applyDet det).data? b = none := by
  rw [data?_applyDet, h, ite_self]

theorem data?_applyDet_of_attached {s : State} {det : List Nat} {b : Nat} (ha : (s.applyDet det).attached b = true) :
    (s.applyDet det).data? b = s.data? b := by
  rw [State.attached, data?_applyDet] at ha
  rw [data?_applyDet]
  split at ha
  · cases ha
  · rename_i h; rw [if_neg h]

theorem applyDet_attached (det : List Nat) (s : State) (b : Nat) (h : (s.applyDet det).attached b = true) :
    s.attached b = true ∧ (s.applyDet det).blen b = s.blen b := by
  have e := data?_applyDet_of_attached h
  unfold State.attached State.blen at *
  rw [e] at h ⊢
  exact ⟨h, rfl⟩

theorem attached_of_blen_pos {s : State} {b : Nat} (h : 0 < s.blen b) : s.attached b = true := by
  unfold State.blen at h
  unfold State.attached
  cases hd : s.data? b with
  | none => simp [hd] at h
  | some d => rfl

theorem applyDet_applyDet (s : State) (d e : List Nat) : (s.applyDet d).applyDet e = s.applyDet (d ++ e) :=
  (List.foldl_append ..).symm

theorem applyDet_nil (s : State) : s.applyDet [] = s := rfl

theorem applyDet_eq (s : State) (det : List Nat) :
    ∃ bufs, bufs.length = s.bufs.length ∧ s.applyDet det = { s with bufs := bufs } := by
  unfold State.applyDet
  induction det generalizing s with
  | nil => exact ⟨s.bufs, rfl, rfl⟩
  | cons d ds ih =>
    obtain ⟨bufs, h1, h2⟩ := ih (s.detach d)
    exact ⟨bufs, by rw [h1]; simp [State.detach], h2⟩

theorem applyDet_views (s : State) (det : List Nat) : (s.applyDet det).views = s.views := by
  obtain ⟨_, _, h⟩ := applyDet_eq s det; rw [h]

theorem applyDet_dvs (s : State) (det : List Nat) : (s.applyDet det).dvs = s.dvs := by
  obtain ⟨_, _, h⟩ := applyDet_eq s det; rw [h]

theorem applyDet_log (s : State) (det : List Nat) : (s.applyDet det).log = s.log := by
  obtain ⟨_, _, h⟩ := applyDet_eq s det; rw [h]

theorem applyDet_nbufs (s : State) (det : List Nat) : (s.applyDet det).bufs.length = s.bufs.length := by
  obtain ⟨_, h1, h⟩ := applyDet_eq s det; rw [h]; exact h1

theorem inv_applyDet {s : State} (hi : Inv s) (det : List Nat) : Inv (s.applyDet det) :=
  hi.mono (applyDet_views s det) (applyDet_dvs s det) (Nat.le_of_eq (applyDet_nbufs s det).symm) fun b _ =>
    applyDet_attached det s b

theorem inv_detach {s : State} (hi : Inv s) (b : Nat) : Inv (s.detach b) := inv_applyDet hi [b]

theorem logAll_applyDet {P : Touch → Prop} {s : State} (h : LogAll P s) (det : List Nat) : LogAll P (s.applyDet det) := by
  intro t ht; rw [applyDet_log] at ht; exact h t ht

theorem inv_pushView {s : State} (hi : Inv s) (v : View) (hb : v.buf < s.bufs.length)
    (hv : s.attached v.buf = true → v.hi ≤ s.blen v.buf) : Inv { s with views := s.views ++ [v] } := by
  constructor
  · intro w hw
    simp only [List.mem_append, List.mem_singleton] at hw
    rcases hw with hw | rfl
    · exact hi.views w hw
    · exact ⟨hb, hv⟩
  · exact hi.dvs

theorem inv_pushDV {s : State} (hi : Inv s) (d : DView) (hb : d.buf < s.bufs.length)
    (hd : s.attached d.buf = true → d.byteOffset + d.byteLen ≤ s.blen d.buf) : Inv { s with dvs := s.dvs ++ [d] } := by
  constructor
  · exact hi.views
  · intro w hw
    simp only [List.mem_append, List.mem_singleton] at hw
    rcases hw with hw | rfl
    · exact hi.dvs w hw
    · exact ⟨hb, hd⟩

theorem data?_pushBuf (s : State) (x : List UInt8) (b : Nat) :
    ({ s with bufs := s.bufs ++ [some x] } : State).data? b =
      if b < s.bufs.length then s.data? b else if b = s.bufs.length then some x else none := by
  unfold State.data?
  simp only [List.getD_eq_getElem?_getD]
  by_cases h1 : b < s.bufs.length
  · rw [if_pos h1, List.getElem?_append_left h1]
  · rw [if_neg h1]
    by_cases h2 : b = s.bufs.length
    · subst h2; simp
    · rw [if_neg h2, List.getElem?_eq_none (by simp; omega)]; rfl

theorem blen?_pushBuf (s : State) (x : List UInt8) (b : Nat) (hb : b < s.bufs.length) :
    ({ s with bufs := s.bufs ++ [some x] } : State).blen? b = s.blen? b := by
  unfold State.blen?; rw [data?_pushBuf, if_pos hb]

theorem blen?_pushBuf_new (s : State) (x : List UInt8) :
    ({ s with bufs := s.bufs ++ [some x] } : State).blen? s.bufs.length = some x.length := by
  unfold State.blen?; rw [data?_pushBuf, if_neg (Nat.lt_irrefl _), if_pos rfl]; rfl

theorem inv_pushBuf {s : State} (hi : Inv s) (x : List UInt8) : Inv { s with bufs := s.bufs ++ [some x] } :=
  hi.mono rfl rfl (by simp) fun b hb ha => by
    rw [attached_eq, blen?_pushBuf s x b hb, ← attached_eq] at ha
    rw [blen_eq, blen?_pushBuf s x b hb, ← blen_eq]
    exact ⟨ha, rfl⟩

end GojaModel.C17
