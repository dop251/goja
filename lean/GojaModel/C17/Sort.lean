/-
  C17 — sort: the model's stable insertion sort returns a sorted permutation for any asymmetric, transitive order, and
  the default typed-array order (`numLess`: numbers ascending, −0 before +0, NaN last) is such an order.
-/
import GojaModel.C17.Model

namespace GojaModel.C17

theorem insertBy_perm {α} (lt : α → α → Bool) (x : α) (l : List α) : (insertBy lt x l).Perm (x :: l) := by
  induction l with
  | nil => exact List.Perm.refl _
  | cons y ys ih =>
    simp only [insertBy]
    split
    · exact List.Perm.refl _
    · exact List.Perm.trans (List.Perm.cons y ih) (List.Perm.swap x y ys)

theorem stableSort_perm {α} (lt : α → α → Bool) (l : List α) : (stableSort lt l).Perm l := by
  unfold stableSort
  suffices ∀ acc : List α, (l.foldl (fun acc x => insertBy lt x acc) acc).Perm (l.reverse ++ acc) by
    have h := this []
    rw [List.append_nil] at h
    exact h.trans (List.reverse_perm l)
  induction l with
  | nil => intro acc; exact List.Perm.refl _
  | cons x xs ih =>
    intro acc
    simp only [List.foldl_cons, List.reverse_cons, List.append_assoc, List.singleton_append]
    exact (ih (insertBy lt x acc)).trans (List.Perm.append_left _ (insertBy_perm lt x acc))

theorem stableSort_length {α} (lt : α → α → Bool) (l : List α) : (stableSort lt l).length = l.length :=
  (stableSort_perm lt l).length_eq

def Sorted {α} (lt : α → α → Bool) (l : List α) : Prop := List.Pairwise (fun a b => lt b a = false) l

theorem insertBy_sorted {α} (lt : α → α → Bool)
    (hasym : ∀ a b, lt a b = true → lt b a = false) (htrans : ∀ a b c, lt a b = true → lt b c = true → lt a c = true)
    (x : α) (l : List α) (h : Sorted lt l) : Sorted lt (insertBy lt x l) := by
  induction l with
  | nil => exact List.pairwise_singleton _ _
  | cons y ys ih =>
    unfold Sorted at h ⊢
    rw [List.pairwise_cons] at h
    simp only [insertBy]
    split
    · rename_i hxy
      rw [List.pairwise_cons]
      refine ⟨?_, List.pairwise_cons.mpr h⟩
      intro z hz
      rcases List.mem_cons.mp hz with rfl | hz
      · exact hasym _ _ hxy
      · have hzy := h.1 z hz
        cases hzx : lt z x with
        | false => rfl
        | true => rw [htrans z x y hzx hxy] at hzy; exact absurd hzy (by simp)
    · rename_i hxy
      rw [List.pairwise_cons]
      refine ⟨?_, ih h.2⟩
      intro z hz
      have := (insertBy_perm lt x ys).mem_iff.mp hz
      rcases List.mem_cons.mp this with rfl | hz'
      · simpa using hxy
      · exact h.1 z hz'

theorem stableSort_sorted {α} (lt : α → α → Bool)
    (hasym : ∀ a b, lt a b = true → lt b a = false) (htrans : ∀ a b c, lt a b = true → lt b c = true → lt a c = true)
    (l : List α) : Sorted lt (stableSort lt l) := by
  unfold stableSort
  suffices ∀ acc : List α, Sorted lt acc → Sorted lt (l.foldl (fun acc x => insertBy lt x acc) acc) from
    this [] List.Pairwise.nil
  induction l with
  | nil => intro acc h; exact h
  | cons x xs ih => intro acc h; exact ih _ (insertBy_sorted lt hasym htrans x acc h)

/-- position of a double in the default order: non-NaN values by sign and magnitude (−0 directly below +0), NaN above all -/
def dKey (b : Nat) : Int :=
  if f64IsNaN b then 2 ^ 63 else if f64Sign b then -((b % 2 ^ 63 : Nat) : Int) - 1 else ((b % 2 ^ 63 : Nat) : Int)

/-- class and position of a value in the default order; values of different classes, and `undefined`, are incomparable -/
def numKey : Num → Nat × Int
  | .int i => (0, i)
  | .dbl b => (1, dKey b)
  | .big i => (2, i)
  | .undef => (3, 0)

theorem numLess_iff (x y : Num) :
    numLess x y = true ↔ (numKey x).1 = (numKey y).1 ∧ (numKey x).1 < 3 ∧ (numKey x).2 < (numKey y).2 := by
  cases x <;> cases y <;> try (simp [numLess, numKey]; done)
  rename_i a b
  have ha : a % 2 ^ 63 < 2 ^ 63 := Nat.mod_lt _ (by decide)
  have hb : b % 2 ^ 63 < 2 ^ 63 := Nat.mod_lt _ (by decide)
  simp only [numLess, numKey, dKey, true_and]
  generalize a % 2 ^ 63 = am at ha ⊢
  generalize b % 2 ^ 63 = bm at hb ⊢
  cases f64IsNaN a <;> cases f64IsNaN b <;> cases f64Sign a <;> cases f64Sign b <;> simp <;> omega

theorem numLess_asymm (x y : Num) : numLess x y = true → numLess y x = false := by
  intro h
  have h := (numLess_iff x y).mp h
  apply Bool.eq_false_iff.mpr
  intro h'
  have h' := (numLess_iff y x).mp h'
  omega

theorem numLess_trans (x y z : Num) : numLess x y = true → numLess y z = true → numLess x z = true := by
  intro h1 h2
  have h1 := (numLess_iff x y).mp h1
  have h2 := (numLess_iff y z).mp h2
  exact (numLess_iff x z).mpr ⟨by omega, by omega, by omega⟩

def elemLess (k : Kind) (a b : List UInt8) : Bool := numLess (decode k a) (decode k b)

theorem sort_sorted_perm (k : Kind) (elems : List (List UInt8)) :
    (stableSort (elemLess k) elems).Perm elems ∧ Sorted (elemLess k) (stableSort (elemLess k) elems) :=
  ⟨stableSort_perm _ _,
   stableSort_sorted (elemLess k) (fun a b => numLess_asymm (decode k a) (decode k b))
     (fun a b c => numLess_trans (decode k a) (decode k b) (decode k c)) elems⟩

end GojaModel.C17
