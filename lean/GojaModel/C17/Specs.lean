/-
  C17 per-operation lemmas (`*_spec`): for an ARBITRARY predicate `P` on touches that accepts the in-bounds touches of
  the operated view(s), the operation keeps `LogAll P` and the view invariant `Inv` — for all arguments and every
  adversary (detach lists at every callback point).  The property theorems in Props.lean are instances of these.

  Every operation looks up its view (`Ctx.onView`) and is then a chain of callback points (`applyDet`) and checks that
  throw, followed by element accesses.  `Ctx` survives the callback points, `Ctx.guard` disposes of a check, and `VCtx`
  carries `Ctx` through the accesses.
-/
import GojaModel.C17.Mem
import GojaModel.C17.Sort

namespace GojaModel.C17

/-- the facts that survive a callback point -/
structure Ctx (P : Touch → Prop) (s : State) : Prop where
  inv : Inv s
  log : LogAll P s

variable {P : Touch → Prop} {s t : State}

theorem Ctx.applyDet (c : Ctx P s) (det : List Nat) : Ctx P (s.applyDet det) :=
  ⟨inv_applyDet c.inv det, logAll_applyDet c.log det⟩

theorem Ctx.step (c : Ctx P s) (h : LogAll P t ∧ SameShape s t) : Ctx P t :=
  ⟨c.inv.of_sameShape h.2, h.1⟩

/-- a branch: both sides go on, each knowing how the test came out -/
theorem Ctx.ite {p : Prop} [Decidable p] {a b : Res × State} (ha : p → Ctx P a.2) (hb : ¬ p → Ctx P b.2) :
    Ctx P (if p then a else b).2 := by
  split
  · exact ha ‹_›
  · exact hb ‹_›

/-- a check that throws: the exit state is one already reached, otherwise the operation goes on knowing `¬ p` -/
theorem Ctx.guard {p : Prop} [Decidable p] {a b : Res × State} (ha : Ctx P a.2) (hb : ¬ p → Ctx P b.2) :
    Ctx P (if p then a else b).2 :=
  .ite (fun _ => ha) hb

theorem Ctx.onView {vi : Nat} {f : View → Res × State} (c : Ctx P s)
    (h : ∀ v, s.views[vi]? = some v → v ∈ s.views → Ctx P (f v).2) :
    Ctx P (match s.views[vi]? with | none => (Res.bad, s) | some v => f v).2 := by
  cases hv : s.views[vi]? with
  | none => exact c
  | some v => exact h v hv (List.mem_of_getElem? hv)

/-- `Ctx` at a point of an operation where the list of views is still `vs`: callback points and in-bounds touches
lead from one such point to the next, and every view in `vs` with an attached buffer may be accessed. -/
structure VCtx (P : Touch → Prop) (vs : List View) (s : State) : Prop extends Ctx P s where
  views : s.views = vs

theorem Ctx.start (c : Ctx P s) : VCtx P s.views s := ⟨c, rfl⟩

namespace VCtx
variable {vs : List View} {v : View}

theorem applyDet (c : VCtx P vs s) (det : List Nat) : VCtx P vs (s.applyDet det) :=
  ⟨c.toCtx.applyDet det, (applyDet_views s det).trans c.views⟩

theorem applyDetIf (c : VCtx P vs s) (p : Prop) [Decidable p] (det : List Nat) :
    VCtx P vs (if p then s.applyDet det else s) := by
  split
  · exact c.applyDet det
  · exact c

theorem step (c : VCtx P vs s) (h : LogAll P t ∧ SameShape s t) : VCtx P vs t :=
  ⟨c.toCtx.step h, h.2.views.trans c.views⟩

theorem rangeOK (c : VCtx P vs s) (m : v ∈ vs) (ha : s.attached v.buf = true) : RangeOK s v.buf v.hi :=
  c.inv.rangeOK (c.views ▸ m) ha

theorem readRange {lo n : Nat} (c : VCtx P vs s) (m : v ∈ vs) (ha : s.attached v.buf = true)
    (hP : PRange P v.buf v.lo v.hi) (h1 : v.lo ≤ lo) (h2 : lo + n ≤ v.hi) : VCtx P vs (s.readRange v.buf lo n).2 :=
  c.step (readRange_spec hP n s lo c.log (c.rangeOK m ha) h1 h2)

theorem writeRange {lo : Nat} (xs : List UInt8) (c : VCtx P vs s) (m : v ∈ vs) (ha : s.attached v.buf = true)
    (hP : PRange P v.buf v.lo v.hi) (h1 : v.lo ≤ lo) (h2 : lo + xs.length ≤ v.hi) : VCtx P vs (s.writeRange v.buf lo xs) :=
  c.step (writeRange_spec hP xs s lo c.log (c.rangeOK m ha) h1 h2)

theorem readElem {k : Nat} (c : VCtx P vs s) (m : v ∈ vs) (ha : s.attached v.buf = true)
    (hP : PRange P v.buf v.lo v.hi) (hk : k < v.length) : VCtx P vs (s.readElem v k).2 :=
  c.readRange m ha hP (elem_lo v k) (elem_hi1 v k hk)

theorem writeElem {k : Nat} (raw : List UInt8) (c : VCtx P vs s) (m : v ∈ vs) (ha : s.attached v.buf = true)
    (hP : PRange P v.buf v.lo v.hi) (hk : k < v.length) : VCtx P vs (s.writeElem v k raw) :=
  c.writeRange _ m ha hP (elem_lo v k) (by rw [fit_length]; exact elem_hi1 v k hk)

theorem readElems {k n : Nat} (c : VCtx P vs s) (m : v ∈ vs) (ha : s.attached v.buf = true)
    (hP : PRange P v.buf v.lo v.hi) (h : k + n ≤ v.length) : VCtx P vs (GojaModel.C17.readElems s v k n).2 := by
  rw [readElems_snd]; exact c.readRange m ha hP (elem_lo v k) (elem_hi v k n h)

theorem writeElems {k : Nat} (xs : List (List UInt8)) (c : VCtx P vs s) (m : v ∈ vs) (ha : s.attached v.buf = true)
    (hP : PRange P v.buf v.lo v.hi) (h : k + xs.length ≤ v.length) : VCtx P vs (GojaModel.C17.writeElems s v k xs) := by
  rw [writeElems_eq]
  exact c.writeRange _ m ha hP (elem_lo v k) (by rw [freshBytes_length]; exact elem_hi v k _ h)

/-- the write of ECMA-262 TypedArraySetElement: only at a valid integer index -/
theorem writeValid {k : Nat} (raw : List UInt8) (c : VCtx P vs s) (m : v ∈ vs) (hP : PRange P v.buf v.lo v.hi) :
    VCtx P vs (if isValidIntegerIndex (s.attached v.buf) v.length (k : Int) = true then s.writeElem v k raw else s) := by
  split
  · rename_i h
    simp only [isValidIntegerIndex, Bool.and_eq_true, decide_eq_true_eq] at h
    exact c.writeElem raw m h.1 hP (by omega)
  · exact c

/-- the species / user constructor returned the existing view `dst` -/
theorem pushAlias {dst : View} (c : VCtx P vs s) (m : dst ∈ vs) : Ctx P { s with views := s.views ++ [dst] } :=
  have := c.inv.views dst (c.views ▸ m)
  ⟨inv_pushView c.inv dst this.1 this.2, c.log⟩

/-- what an operation with a species / user constructor returns: that constructor's typed array `dst` when its loop has
completed, otherwise the loop's error -/
theorem returnAlias {dst : View} {r : Res × State} (x : VCtx P vs r.2) (m : dst ∈ vs) :
    Ctx P (match r with
      | (Res.ok, s2) => (viewRes (s2.attached dst.buf) dst.lo dst.length, { s2 with views := s2.views ++ [dst] })
      | r => r).2 := by
  split
  · exact x.pushAlias m
  · exact x.toCtx

end VCtx

theorem memDV_applyDet {d : DView} (h : d ∈ s.dvs) (det : List Nat) : d ∈ (s.applyDet det).dvs := by
  rw [applyDet_dvs]; exact h

theorem move_ctx {sb db slo dlo n sLo sHi dLo dHi : Nat} (c : Ctx P s)
    (hrs : RangeOK s sb sHi) (hPs : PRange P sb sLo sHi) (h1 : sLo ≤ slo) (h2 : slo + n ≤ sHi)
    (hrd : RangeOK s db dHi) (hPd : PRange P db dLo dHi) (h3 : dLo ≤ dlo) (h4 : dlo + n ≤ dHi) :
    Ctx P ((s.readRange sb slo n).2.writeRange db dlo (s.readRange sb slo n).1) := by
  have r := readRange_spec hPs n s slo c.log hrs h1 h2
  exact (c.step r).step (writeRange_spec hPd _ _ dlo r.1 (hrd.of_sameShape r.2) h3 (by rw [readRange_length]; exact h4))

theorem relToIdx_nonneg (rel l : Int) (hl : 0 ≤ l) : 0 ≤ relToIdx rel l := by
  unfold relToIdx; split <;> omega

theorem relToIdx_le (rel l : Int) (hl : 0 ≤ l) : relToIdx rel l ≤ l := by
  unfold relToIdx; split <;> omega

theorem relToIdx_toNat_le (rel : Int) (l : Nat) : (relToIdx rel l).toNat ≤ l := by
  have := relToIdx_le rel l (Int.natCast_nonneg l)
  omega

theorem relToIdx_span (a b : Int) (l : Nat) : (relToIdx a l).toNat + (relToIdx b l - relToIdx a l).toNat ≤ l := by
  have hl : (0 : Int) ≤ l := Int.natCast_nonneg l
  have := relToIdx_nonneg a l hl
  have := relToIdx_le a l hl
  have := relToIdx_le b l hl
  omega

theorem opGet_spec {vi : Nat} (idx : Int) (c : Ctx P s)
    (hP : ∀ v, s.views[vi]? = some v → PRange P v.buf v.lo v.hi) : Ctx P (opGet s vi idx).2 := by
  unfold opGet
  refine c.onView fun v hv m => ?_
  refine .ite (fun h => .guard c fun ha => ?_) fun _ => c
  have hk : idx.toNat < v.length := by simp at h; omega
  exact (c.start.readElem m (not_not_attached ha) (hP v hv) hk).toCtx

theorem opPut_spec {vi : Nat} (idx : Int) (a : VArg) (c : Ctx P s)
    (hP : ∀ v, s.views[vi]? = some v → PRange P v.buf v.lo v.hi) : Ctx P (opPut s vi idx a).2 := by
  unfold opPut
  refine c.onView fun v hv m => ?_
  have c1 := c.start.applyDet a.det
  dsimp only
  cases encode v.kind a.num with
  | none => exact c1.toCtx
  | some raw =>
    refine .ite (fun h => ?_) fun _ => c1.toCtx
    simp only [isValidIntegerIndex, Bool.and_eq_true, decide_eq_true_eq] at h
    exact (c1.writeElem raw m h.1 (hP v hv) (by omega)).toCtx

theorem opFill_spec {vi : Nat} (a : VArg) (st fi : Option IArg) (c : Ctx P s)
    (hP : ∀ v, s.views[vi]? = some v → PRange P v.buf v.lo v.hi) : Ctx P (opFill s vi a st fi).2 := by
  unfold opFill
  refine c.onView fun v hv m => ?_
  have c3 := ((c.start.applyDet (oDet st)).applyDet (oDet fi)).applyDet a.det
  dsimp only
  refine .guard c fun _ => ?_
  cases encode v.kind a.num with
  | none => exact c3.toCtx
  | some raw =>
    refine .guard c3.toCtx fun ha => ?_
    have hk := relToIdx_toNat_le (oVal st 0) v.length
    have hf := relToIdx_toNat_le (oVal fi v.length) v.length
    rw [fillLoop_eq]
    exact (c3.writeElems _ m (not_not_attached ha) (hP v hv)
      (by rw [List.length_replicate]; omega)).toCtx

theorem cwCount_le (l t f e : Int) : cwCount l t f e ≤ l - t ∧ cwCount l t f e ≤ e - f := by
  unfold cwCount; split <;> omega

theorem cw_bounds (l t f e : Int) (ht : 0 ≤ t) (he : e ≤ l) (hpos : cwCount l t f e > 0) :
    f.toNat + (cwCount l t f e).toNat ≤ l.toNat ∧ t.toNat + (cwCount l t f e).toNat ≤ l.toNat := by
  have := cwCount_le l t f e
  generalize cwCount l t f e = c at *
  omega

theorem opCopyWithin_spec {vi : Nat} (to from_ : IArg) (fi : Option IArg) (c : Ctx P s)
    (hP : ∀ v, s.views[vi]? = some v → PRange P v.buf v.lo v.hi) : Ctx P (opCopyWithin s vi to from_ fi).2 := by
  unfold opCopyWithin
  refine c.onView fun v hv m => ?_
  have hl : (0 : Int) ≤ (v.length : Int) := Int.natCast_nonneg _
  have c3 := ((c.start.applyDet to.det).applyDet from_.det).applyDet (oDet fi)
  refine .guard c fun _ => .ite (fun hpos => .guard c3.toCtx fun ha => ?_) fun _ => c3.toCtx
  have hr := c3.rangeOK m (not_not_attached ha)
  obtain ⟨hb1, hb2⟩ := cw_bounds v.length _ (relToIdx from_.val v.length) _ (relToIdx_nonneg to.val _ hl)
    (relToIdx_le (oVal fi v.length) _ hl) hpos
  rw [Int.toNat_natCast] at hb1 hb2
  exact move_ctx c3.toCtx hr (hP v hv) (elem_lo v _)
    (Nat.le_trans (Nat.add_le_add_left (Nat.min_le_left _ _) _) (elem_hi v _ _ hb1))
    hr (hP v hv) (elem_lo v _) (Nat.le_trans (Nat.add_le_add_left (Nat.min_le_left _ _) _) (elem_hi v _ _ hb2))

theorem opSetTA_spec {vi si : Nat} (off : Option IArg) (c : Ctx P s)
    (hP : ∀ v, s.views[vi]? = some v → PRange P v.buf v.lo v.hi)
    (hPs : ∀ src, s.views[si]? = some src → PRange P src.buf src.lo src.hi) : Ctx P (opSetTA s vi si off).2 := by
  unfold opSetTA
  cases hv : s.views[vi]? with
  | none => exact c
  | some v =>
    cases hs : s.views[si]? with
    | none => exact c
    | some src =>
      have c1 := c.start.applyDet (oDet off)
      refine .guard c1.toCtx fun hoff => .guard c1.toCtx fun ha => .guard c1.toCtx fun has => .guard c1.toCtx fun hfit => ?_
      have m := List.mem_of_getElem? hv
      have ms := List.mem_of_getElem? hs
      have ha := not_not_attached ha
      have has := not_not_attached has
      have hfit' : (oVal off 0).toNat + src.length ≤ v.length := by omega
      refine .ite (fun hk => ?_) fun _ => .guard c1.toCtx fun _ => ?_
      · have hk' : src.kind = v.kind := by simpa using hk
        have e1 : src.offset * v.kind.size = src.lo := by rw [View.lo, hk']
        have e2 : src.offset * v.kind.size + src.length * v.kind.size = src.hi := by rw [View.hi, hk', Nat.add_mul]
        exact move_ctx c1.toCtx (c1.rangeOK ms has) (hPs src hs) (Nat.le_of_eq e1.symm)
          (Nat.le_trans (Nat.add_le_add_left (Nat.min_le_left _ _) _) (Nat.le_of_eq e2))
          (c1.rangeOK m ha) (hP v hv) (elem_lo v _)
          (Nat.le_trans (Nat.add_le_add_left (Nat.min_le_left _ _) _) (elem_hi v _ _ hfit'))
      · have r := c1.readElems (k := 0) (n := src.length) ms has (hPs src hs) (by omega)
        dsimp only
        cases hys : convElems src.kind v.kind (readElems (s.applyDet (oDet off)) src 0 src.length).1 with
        | none => exact r.toCtx
        | some ys =>
          exact (r.writeElems ys m ((attached_readElems ..).trans ha) (hP v hv)
            (by rw [convElems_length _ _ hys, readElems_length]; exact hfit')).toCtx

theorem setArrLoop_spec {vs : List View} {v : View} (m : v ∈ vs) (hP : PRange P v.buf v.lo v.hi) :
    ∀ (vals : List VArg) (s : State) (k : Nat), VCtx P vs s → VCtx P vs (setArrLoop s v k vals).2 := by
  intro vals
  induction vals with
  | nil => intro s k c; exact c
  | cons a as ih =>
    intro s k c
    unfold setArrLoop
    have c1 := c.applyDet a.det
    dsimp only
    cases encode v.kind a.num with
    | none => exact c1
    | some raw => exact ih _ _ (c1.writeValid raw m hP)

theorem opSetArr_spec {vi : Nat} (off : Option IArg) (vals : List VArg) (c : Ctx P s)
    (hP : ∀ v, s.views[vi]? = some v → PRange P v.buf v.lo v.hi) : Ctx P (opSetArr s vi off vals).2 := by
  unfold opSetArr
  refine c.onView fun v hv m => ?_
  have c1 := c.start.applyDet (oDet off)
  refine .guard c1.toCtx fun _ => .guard c1.toCtx fun _ => .guard c1.toCtx fun _ => ?_
  exact (setArrLoop_spec m (hP v hv) vals _ _ c1).toCtx

theorem rewrite_ctx {vs : List View} {v : View} (c : VCtx P vs s) (m : v ∈ vs) (ha : s.attached v.buf = true)
    (hP : PRange P v.buf v.lo v.hi) (f : List (List UInt8) → List (List UInt8)) (hf : ∀ l, (f l).length = l.length) :
    VCtx P vs (writeElems (readElems s v 0 v.length).2 v 0 (f (readElems s v 0 v.length).1)) := by
  exact (c.readElems m ha hP (by omega)).writeElems _ m ((attached_readElems ..).trans ha) hP
    (by rw [hf, readElems_length]; omega)

theorem opSort_spec {vi : Nat} (cmp : Cmp) (c : Ctx P s)
    (hP : ∀ v, s.views[vi]? = some v → PRange P v.buf v.lo v.hi) : Ctx P (opSort s vi cmp).2 := by
  unfold opSort
  refine c.onView fun v hv m => ?_
  refine .guard c fun ha => ?_
  have ha := not_not_attached ha
  cases cmp with
  | none => exact (rewrite_ctx c.start m ha (hP v hv) _ (stableSort_length _)).toCtx
  | some det =>
    have c3 := (c.start.readElems (k := 0) (n := v.length) m ha (hP v hv) (by omega)).applyDet det
    refine .guard c fun _ => .guard c3.toCtx fun ha2 => ?_
    exact (c3.writeElems _ m (not_not_attached ha2) (hP v hv) (by rw [stableSort_length, readElems_length]; omega)).toCtx

theorem opReverse_spec {vi : Nat} (c : Ctx P s)
    (hP : ∀ v, s.views[vi]? = some v → PRange P v.buf v.lo v.hi) : Ctx P (opReverse s vi).2 := by
  unfold opReverse
  refine c.onView fun v hv m => ?_
  refine .guard c fun ha => ?_
  exact (rewrite_ctx c.start m (not_not_attached ha) (hP v hv) _ fun _ => List.length_reverse).toCtx

theorem dv_bounds {idx size byteLen : Int} (h0 : ¬ (!toIndexOk idx) = true) (h : ¬ (!dvRangeOk idx size byteLen) = true) :
    0 ≤ idx ∧ idx + size ≤ byteLen := by
  simp [toIndexOk, dvRangeOk] at h0 h
  omega

theorem opDVGet_spec {di : Nat} (k : Kind) (idx : IArg) (le : Bool) (c : Ctx P s)
    (hP : ∀ d, s.dvs[di]? = some d → PRange P d.buf d.byteOffset (d.byteOffset + d.byteLen)) :
    Ctx P (opDVGet s di k idx le).2 := by
  unfold opDVGet
  cases hd : s.dvs[di]? with
  | none => exact c
  | some d =>
    have c1 := c.applyDet idx.det
    refine .guard c1 fun h0 => .guard c1 fun ha => .guard c1 fun hr => ?_
    obtain ⟨b1, b2⟩ := dv_bounds h0 hr
    exact c1.step (readRange_spec (hP d hd) k.size _ (idx.val.toNat + d.byteOffset) c1.log
      (c1.inv.dvRangeOK (memDV_applyDet (List.mem_of_getElem? hd) idx.det) (not_not_attached ha)) (by omega) (by omega))

theorem opDVSet_spec {di : Nat} (k : Kind) (idx : IArg) (a : VArg) (le : Bool) (c : Ctx P s)
    (hP : ∀ d, s.dvs[di]? = some d → PRange P d.buf d.byteOffset (d.byteOffset + d.byteLen)) :
    Ctx P (opDVSet s di k idx a le).2 := by
  unfold opDVSet
  cases hd : s.dvs[di]? with
  | none => exact c
  | some d =>
    have c1 := c.applyDet idx.det
    have c2 := c1.applyDet a.det
    refine .guard c1 fun h0 => ?_
    dsimp only
    cases encode k a.num with
    | none => exact c2
    | some raw =>
      refine .guard c2 fun ha => .guard c2 fun hr => ?_
      obtain ⟨b1, b2⟩ := dv_bounds h0 hr
      have hlen : (if le = true then fit k.size raw else (fit k.size raw).reverse).length = k.size := by
        split <;> simp [fit_length]
      exact c2.step (writeRange_spec (hP d hd) _ _ (idx.val.toNat + d.byteOffset) c2.log
        (c2.inv.dvRangeOK (memDV_applyDet (memDV_applyDet (List.mem_of_getElem? hd) idx.det) a.det) (not_not_attached ha))
        (by omega) (by rw [hlen]; omega))

theorem toIndexOk_nonneg {i : Int} (h : ¬ (!toIndexOk i) = true) : 0 ≤ i := by
  simp [toIndexOk] at h; exact h.1

theorem view_bound_len {es : Nat} {bo len n : Int} (h0 : 0 ≤ bo) (hm : bo % (es : Int) = 0) (hl : 0 ≤ len)
    (h : bo + len * (es : Int) ≤ n) : ((bo / (es : Int)).toNat + len.toNat) * es ≤ n.toNat := by
  obtain ⟨b, rfl⟩ := Int.eq_ofNat_of_zero_le h0
  obtain ⟨l, rfl⟩ := Int.eq_ofNat_of_zero_le hl
  have hm' : b % es = 0 := by exact_mod_cast hm
  have e : (b / es + l) * es = b + l * es := by rw [Nat.add_mul, Nat.div_mul_cancel (Nat.dvd_of_mod_eq_zero hm')]
  rw [← Int.natCast_ediv, Int.toNat_natCast, Int.toNat_natCast, e]
  omega

/-- `h`: a negative default length `(n - bo) / es` (Go division) is the RangeError of builtin_typedarrays.go:1482 -/
theorem view_bound_default {es : Nat} {bo n : Int} (hes : 0 < es) (h0 : 0 ≤ bo) (hm : bo % (es : Int) = 0)
    (hnm : n % (es : Int) = 0) (h : ¬ goQuot (n - bo) (es : Int) < 0) :
    ((bo / (es : Int)).toNat + (goQuot (n - bo) (es : Int)).toNat) * es ≤ n.toNat := by
  have hes' : (0 : Int) < es := by omega
  unfold goQuot at h ⊢
  split at h
  · rename_i hd
    rw [if_pos hd]
    have := Int.ediv_mul_le (n - bo) (Int.ne_of_gt hes')
    exact view_bound_len h0 hm (Int.ediv_nonneg hd (Int.le_of_lt hes')) (by omega)
  · have hdvd : (es : Int) ∣ -(n - bo) :=
      Int.dvd_neg.mpr (Int.dvd_sub (Int.dvd_of_emod_eq_zero hnm) (Int.dvd_of_emod_eq_zero hm))
    have := Int.ediv_pos_of_pos_of_dvd (by omega : 0 < -(n - bo)) (Int.le_of_lt hes') hdvd
    omega

theorem ne_false_of_bne {a b : Int} (h : ¬ (a != b) = true) : a = b := by simpa using h

theorem opNewView_spec (kind : Kind) (b : Nat) (off len : Option IArg) (c : Ctx P s) :
    Ctx P (opNewView s kind b off len).2 := by
  unfold opNewView
  have c1 := c.applyDet (oDet off)
  refine .guard c fun hb => .guard c1 fun h0 => .guard c1 fun hm => ?_
  have h0 := toIndexOk_nonneg h0
  have hm := ne_false_of_bne hm
  dsimp only
  cases len with
  | some la =>
    have c2 := c1.applyDet la.det
    refine .guard c2 fun hl0 => .guard c2 fun _ => .guard c2 fun hfit => ?_
    refine ⟨inv_pushView c2.inv _ ?_ fun _ => ?_, c2.log⟩
    · show b < _; rw [applyDet_nbufs, applyDet_nbufs]; omega
    · exact view_bound_len (n := (_ : Nat)) h0 hm (toIndexOk_nonneg hl0) (Int.le_of_not_gt hfit)
  | none =>
    refine .guard c1 fun _ => .guard c1 fun hnm => .guard c1 fun hneg => ?_
    refine ⟨inv_pushView c1.inv _ ?_ fun _ => ?_, c1.log⟩
    · show b < _; rw [applyDet_nbufs]; omega
    · exact view_bound_default (n := (_ : Nat)) kind.size_pos h0 hm (ne_false_of_bne hnm) hneg

theorem dv_fits {bo bl : Int} {n : Nat} (h0 : 0 ≤ bo) (h1 : ¬ bl < 0) (h : ¬ bo + bl > n) : bo.toNat + bl.toNat ≤ n := by
  omega

theorem opNewDV_spec (b : Nat) (off len : Option IArg) (pdet : List Nat) (c : Ctx P s) :
    Ctx P (opNewDV s b off len pdet).2 := by
  have c1 := c.applyDet (oDet off)
  have c2 := c1.applyDet (oDet len)
  have c3 := c2.applyDet pdet
  unfold opNewDV
  refine .guard c fun hb => .guard c1 fun h0 => .guard c1 fun _ => .guard c1 fun _ => .guard c2 fun _ => .guard c2 fun _ =>
    .guard c3 fun _ => .guard c3 fun _ => .guard c3 fun hfit => .guard c3 fun hneg => ?_
  refine ⟨inv_pushDV c3.inv _ ?_ fun _ => dv_fits (toIndexOk_nonneg h0) hneg hfit, c3.log⟩
  show b < _
  rw [applyDet_nbufs, applyDet_nbufs, applyDet_nbufs]
  exact Nat.lt_of_not_ge hb

theorem copyFwd_spec {sb db sLo sHi dLo dHi : Nat} (hPs : PRange P sb sLo sHi) (hPd : PRange P db dLo dHi) :
    ∀ (n : Nat) (s : State) (slo dlo : Nat), LogAll P s → RangeOK s sb sHi → RangeOK s db dHi →
      sLo ≤ slo → slo + n ≤ sHi → dLo ≤ dlo → dlo + n ≤ dHi →
      LogAll P (copyFwd s sb slo db dlo n) ∧ SameShape s (copyFwd s sb slo db dlo n) := by
  intro n
  induction n with
  | zero => intro s _ _ hlog _ _ _ _ _ _; exact ⟨hlog, SameShape.refl s⟩
  | succ n ih =>
    intro s slo dlo hlog hrs hrd h1 h2 h3 h4
    have a : LogAll P (s.readByte sb slo).2 := logAll_touch hlog hrs hPs h1 (by omega) rfl
    have sa := sameShape_readByte s sb slo
    have b : LogAll P ((s.readByte sb slo).2.writeByte db dlo (s.readByte sb slo).1) :=
      logAll_touch a (hrd.of_sameShape sa) hPd h3 (by omega) rfl
    have st := sa.trans (sameShape_writeByte (s.readByte sb slo).2 db dlo (s.readByte sb slo).1)
    obtain ⟨x, y⟩ := ih _ (slo + 1) (dlo + 1) b (hrs.of_sameShape st) (hrd.of_sameShape st) (by omega) (by omega) (by omega) (by omega)
    exact ⟨x, st.trans y⟩

theorem sliceConvLoop_spec {vs : List View} {src dst : View} (ms : src ∈ vs) (md : dst ∈ vs)
    (hPs : PRange P src.buf src.lo src.hi) (hPd : PRange P dst.buf dst.lo dst.hi) :
    ∀ (n : Nat) (s : State) (sk dk : Nat), VCtx P vs s → s.attached dst.buf = true →
      sk + n ≤ src.length → dk + n ≤ dst.length → VCtx P vs (sliceConvLoop s src dst sk dk n).2 := by
  intro n
  induction n with
  | zero => intro s _ _ c _ _ _; exact c
  | succ n ih =>
    intro s sk dk c had h1 h2
    unfold sliceConvLoop
    split
    · exact c
    rename_i ha
    have c1 := c.readElem ms (not_not_attached ha) hPs (by omega : sk < src.length)
    have had' := (attached_readElem s src sk dst.buf).trans had
    dsimp only
    cases encode dst.kind (decode src.kind (s.readElem src sk).1) with
    | none => exact c1
    | some raw =>
      exact ih _ _ _ (c1.writeElem raw md had' hPd (by omega : dk < dst.length))
        ((attached_writeElem ..).trans had') (by omega) (by omega)

theorem rangeOK_pushBuf {b hi : Nat} (x : List UInt8) (hb : b < s.bufs.length) (h : RangeOK s b hi) :
    RangeOK ({ s with bufs := s.bufs ++ [some x] } : State) b hi := by
  unfold RangeOK at *
  rw [attached_eq, blen_eq, blen?_pushBuf s x b hb, ← attached_eq, ← blen_eq]
  exact h

theorem rangeOK_newBuf (s : State) (x : List UInt8) :
    RangeOK ({ s with bufs := s.bufs ++ [some x] } : State) s.bufs.length x.length := by
  unfold RangeOK
  rw [attached_eq, blen_eq, blen?_pushBuf_new]
  simp

theorem Ctx.pushBuf (c : Ctx P s) (x : List UInt8) : Ctx P { s with bufs := s.bufs ++ [some x] } :=
  ⟨inv_pushBuf c.inv x, c.log⟩

theorem Ctx.pushWholeView {nb cnt : Nat} {kind : Kind} (c : Ctx P s) (hb : nb < s.bufs.length)
    (hl : s.blen? nb = some (cnt * kind.size)) : Ctx P { s with views := s.views ++ [⟨nb, 0, cnt, kind⟩] } := by
  refine ⟨inv_pushView c.inv _ hb fun _ => ?_, c.log⟩
  show (0 + cnt) * kind.size ≤ s.blen nb
  rw [blen_eq, hl, Nat.zero_add]
  exact Nat.le_refl _

theorem opSlice_spec {vi : Nat} (st fi : Option IArg) (sp : Species) (c : Ctx P s)
    (hP : ∀ v, s.views[vi]? = some v → PRange P v.buf v.lo v.hi)
    (hPnew : ∀ hi, PRange P s.bufs.length 0 hi)
    (hPd : ∀ di det dst, sp = some (di, det) → s.views[di]? = some dst → PRange P dst.buf dst.lo dst.hi) :
    Ctx P (opSlice s vi st fi sp).2 := by
  unfold opSlice
  refine c.onView fun v hv m => ?_
  have c2 := (c.start.applyDet (oDet st)).applyDet (oDet fi)
  refine .guard c fun _ => .guard c fun _ => ?_
  have hcnt := relToIdx_span (oVal st 0) (oVal fi v.length) v.length
  have hnb : ((s.applyDet (oDet st)).applyDet (oDet fi)).bufs.length = s.bufs.length := by
    rw [applyDet_nbufs, applyDet_nbufs]
  dsimp only
  generalize (relToIdx (oVal fi v.length) v.length - relToIdx (oVal st 0) v.length).toNat = cnt at hcnt ⊢
  generalize (relToIdx (oVal st 0) v.length).toNat = k at hcnt ⊢
  generalize (s.applyDet (oDet st)).applyDet (oDet fi) = s2 at c2 hnb ⊢
  cases sp with
  | none =>
    have c1 := c2.toCtx.pushBuf (List.replicate (cnt * v.kind.size) 0)
    have hl := blen?_pushBuf_new s2 (List.replicate (cnt * v.kind.size) 0)
    have hnew := rangeOK_newBuf s2 (List.replicate (cnt * v.kind.size) 0)
    rw [List.length_replicate] at hl hnew
    refine .ite (fun _ => .guard c2.toCtx fun ha => ?_) fun _ => c1.pushWholeView (by simp) hl
    have cs := copyFwd_spec (hP v hv) (hnb ▸ hPnew _) _ _ _ (0 * v.kind.size) c1.log
      (rangeOK_pushBuf _ (c2.inv.views v (c2.views ▸ m)).1 (c2.rangeOK m (not_not_attached ha))) hnew
      (elem_lo v _) (elem_hi v _ _ hcnt) (Nat.zero_le _) (by omega)
    exact (c1.step cs).pushWholeView (by rw [cs.2.nbufs]; simp) (by rw [cs.2.blen]; exact hl)
  | some p =>
    obtain ⟨di, det⟩ := p
    dsimp only
    rw [c2.views]
    cases hdst : s.views[di]? with
    | none => exact c2.toCtx
    | some dst =>
      have md := List.mem_of_getElem? hdst
      have hPd' := hPd di det dst rfl hdst
      have c3 := c2.applyDet det
      refine .guard c3.toCtx fun had => .guard c3.toCtx fun hlen => .ite (fun hk => .ite (fun _ => .guard c3.toCtx fun ha => ?_)
        fun _ => c3.pushAlias md) fun _ => ?_
      · have hk' : dst.kind = v.kind := by simpa using hk
        have e1 : dst.offset * v.kind.size = dst.lo := by rw [View.lo, hk']
        have e2 : dst.lo + dst.length * v.kind.size = dst.hi := by rw [View.lo, View.hi, hk', Nat.add_mul]
        have cs := copyFwd_spec (hP v hv) hPd' _ _ _ (dst.offset * v.kind.size) c3.log
          (c3.rangeOK m (not_not_attached ha)) (c3.rangeOK md (not_not_attached had))
          (elem_lo v _) (elem_hi v _ _ hcnt) (Nat.le_of_eq e1.symm)
          (by rw [e1, ← e2]; exact Nat.add_le_add_left (Nat.mul_le_mul_right _ (by omega)) _)
        exact (c3.step cs).pushAlias md
      · exact (sliceConvLoop_spec m md (hP v hv) hPd' _ _ k 0 c3 (not_not_attached had) hcnt (by omega)).returnAlias md

theorem opSubarray_spec {vi : Nat} (st fi : Option IArg) (sp : Species) (c : Ctx P s) :
    Ctx P (opSubarray s vi st fi sp).2 := by
  unfold opSubarray
  refine c.onView fun v _ m => ?_
  have c2 := (c.start.applyDet (oDet st)).applyDet (oDet fi)
  refine .guard c fun _ => ?_
  dsimp only
  cases sp with
  | none => exact opNewView_spec _ _ _ _ c2.toCtx
  | some p =>
    obtain ⟨di, det⟩ := p
    dsimp only
    rw [c2.views]
    cases hdst : s.views[di]? with
    | none => exact c2.toCtx
    | some dst => exact .guard (c2.applyDet det).toCtx fun _ => (c2.applyDet det).pushAlias (List.mem_of_getElem? hdst)

theorem inv_init : Inv ({} : State) := ⟨fun _ h => by simp at h, fun _ h => by simp at h⟩

theorem ctx0 (hi : Inv s) : Ctx P { s with log := [] } :=
  ⟨hi.withLog [], fun _ h => by simp at h⟩

theorem ctx_pushFresh (c : Ctx P s) (kind : Kind) (elems : List (List UInt8)) : Ctx P (pushFresh s kind elems) :=
  (c.pushBuf (freshBytes kind.size elems)).pushWholeView (by simp)
    (by rw [blen?_pushBuf_new, freshBytes_length])

theorem opToReversed_spec {vi : Nat} (c : Ctx P s)
    (hP : ∀ v, s.views[vi]? = some v → PRange P v.buf v.lo v.hi) : Ctx P (opToReversed s vi).2 := by
  unfold opToReversed
  refine c.onView fun v hv m => ?_
  refine .guard c fun ha => ctx_pushFresh ?_ _ _
  exact (c.start.readElems m (not_not_attached ha) (hP v hv) (by omega)).toCtx

theorem opToSorted_spec {vi : Nat} (cmp : Cmp) (c : Ctx P s)
    (hP : ∀ v, s.views[vi]? = some v → PRange P v.buf v.lo v.hi) : Ctx P (opToSorted s vi cmp).2 := by
  unfold opToSorted
  refine c.onView fun v hv m => ?_
  refine .guard c fun ha => ?_
  have c2 := c.start.readElems (k := 0) (n := v.length) m (not_not_attached ha) (hP v hv) (by omega)
  cases cmp with
  | none => exact ctx_pushFresh c2.toCtx _ _
  | some det =>
    apply ctx_pushFresh
    split
    · exact c2.toCtx
    · exact (c2.applyDet det).toCtx

theorem opWith_spec {vi : Nat} (idx : IArg) (a : VArg) (c : Ctx P s)
    (hP : ∀ v, s.views[vi]? = some v → PRange P v.buf v.lo v.hi) : Ctx P (opWith s vi idx a).2 := by
  unfold opWith
  refine c.onView fun v hv m => ?_
  have c2 := (c.start.applyDet idx.det).applyDet a.det
  refine .guard c fun _ => ?_
  dsimp only
  cases encode v.kind a.num with
  | none => exact c2.toCtx
  | some raw =>
    refine .guard c2.toCtx fun h => ctx_pushFresh ?_ _ _
    have ha : ((s.applyDet idx.det).applyDet a.det).attached v.buf = true := by
      simp only [isValidIntegerIndex, Bool.not_and, Bool.or_eq_true, Bool.not_eq_true', not_or, Bool.not_eq_false] at h
      exact h.1
    exact (c2.readElems m ha (hP v hv) (by omega)).toCtx

section
variable {vs : List View} {v : View}

theorem filterRead_spec {k : Nat} (c : VCtx P vs s) (m : v ∈ vs) (hP : PRange P v.buf v.lo v.hi) (hk : k < v.length) :
    VCtx P vs (filterRead s v k).2 := by
  unfold filterRead
  split
  · exact c.readElem m ‹_› hP hk
  · exact c

theorem filterLoop_spec (keep : List Bool) (detAt : Nat) (det : List Nat) (m : v ∈ vs) (hP : PRange P v.buf v.lo v.hi) :
    ∀ (n : Nat) (s : State) (k : Nat) (acc : List (List UInt8)), VCtx P vs s → k + n ≤ v.length →
      VCtx P vs (filterLoop s v keep detAt det k n acc).1 := by
  intro n
  induction n with
  | zero => intro s k acc c _; exact c
  | succ n ih =>
    intro s k acc c h
    exact ih _ _ _ ((filterRead_spec c m hP (by omega)).applyDetIf _ det) (by omega)

theorem opFilter_spec {vi : Nat} (keep : List Bool) (detAt : Nat) (det : List Nat) (sp : Species) (c : Ctx P s)
    (hP : ∀ v, s.views[vi]? = some v → PRange P v.buf v.lo v.hi)
    (hPd : ∀ di sdet dst, sp = some (di, sdet) → s.views[di]? = some dst → PRange P dst.buf dst.lo dst.hi) :
    Ctx P (opFilter s vi keep detAt det sp).2 := by
  unfold opFilter
  refine c.onView fun v hv m => ?_
  refine .guard c fun _ => .guard c fun _ => ?_
  have cl := filterLoop_spec keep detAt det m (hP v hv) v.length s 0 [] c.start (by omega)
  dsimp only
  cases sp with
  | none => exact ctx_pushFresh cl.toCtx _ _
  | some p =>
    obtain ⟨di, sdet⟩ := p
    dsimp only
    cases hdst : s.views[di]? with
    | none => exact c
    | some dst =>
      have md := List.mem_of_getElem? hdst
      have c2 := cl.applyDet sdet
      refine .guard c2.toCtx fun had => .guard c2.toCtx fun hlen => ?_
      cases hys : convElems v.kind dst.kind (filterLoop s v keep detAt det 0 v.length []).2 with
      | none => exact c2.toCtx
      | some ys =>
        exact (c2.writeElems ys md (not_not_attached had) (hPd di sdet dst rfl hdst)
          (by rw [convElems_length _ _ hys]; omega)).pushAlias md

theorem mapRead_eq (s : State) (v : View) (k : Nat) : mapRead s v k = (filterRead s v k).2 := by
  unfold mapRead filterRead; split <;> rfl

theorem mapRead_spec {k : Nat} (c : VCtx P vs s) (m : v ∈ vs) (hP : PRange P v.buf v.lo v.hi) (hk : k < v.length) :
    VCtx P vs (mapRead s v k) := by
  rw [mapRead_eq]; exact filterRead_spec c m hP hk

theorem mapLoopFresh_spec (vals : List VArg) (m : v ∈ vs) (hP : PRange P v.buf v.lo v.hi) :
    ∀ (n : Nat) (s : State) (k : Nat) (acc : List (List UInt8)), VCtx P vs s → k + n ≤ v.length →
      VCtx P vs (mapLoopFresh s v vals k n acc).2.1 := by
  intro n
  induction n with
  | zero => intro s k acc c _; exact c
  | succ n ih =>
    intro s k acc c h
    unfold mapLoopFresh
    have c2 := (mapRead_spec c m hP (by omega : k < v.length)).applyDet (valAt vals k).det
    dsimp only
    cases encode v.kind (valAt vals k).num with
    | none => exact c2
    | some raw => exact ih _ _ _ c2 (by omega)

theorem mapLoopDst_spec {dst : View} (vals : List VArg) (m : v ∈ vs) (md : dst ∈ vs) (hP : PRange P v.buf v.lo v.hi)
    (hPd : PRange P dst.buf dst.lo dst.hi) :
    ∀ (n : Nat) (s : State) (k : Nat), VCtx P vs s → k + n ≤ v.length → VCtx P vs (mapLoopDst s v dst vals k n).2 := by
  intro n
  induction n with
  | zero => intro s k c _; exact c
  | succ n ih =>
    intro s k c h
    unfold mapLoopDst
    have c2 := (mapRead_spec c m hP (by omega : k < v.length)).applyDet (valAt vals k).det
    dsimp only
    cases encode dst.kind (valAt vals k).num with
    | none => exact c2
    | some raw => exact ih _ _ (c2.writeValid raw md hPd) (by omega)

end

theorem opMap_spec {vi : Nat} (sp : Species) (vals : List VArg) (c : Ctx P s)
    (hP : ∀ v, s.views[vi]? = some v → PRange P v.buf v.lo v.hi)
    (hPd : ∀ di det dst, sp = some (di, det) → s.views[di]? = some dst → PRange P dst.buf dst.lo dst.hi) :
    Ctx P (opMap s vi sp vals).2 := by
  unfold opMap
  refine c.onView fun v hv m => ?_
  refine .guard c fun _ => .guard c fun _ => ?_
  dsimp only
  cases sp with
  | none =>
    have x := mapLoopFresh_spec vals m (hP v hv) v.length s 0 [] c.start (by omega)
    exact .ite (fun _ => ctx_pushFresh x.toCtx _ _) fun _ => x.toCtx
  | some p =>
    obtain ⟨di, det⟩ := p
    dsimp only
    cases hdst : s.views[di]? with
    | none => exact c
    | some dst =>
      have md := List.mem_of_getElem? hdst
      have c1 := c.start.applyDet det
      refine .guard c1.toCtx fun _ => .guard c1.toCtx fun _ => ?_
      exact (mapLoopDst_spec vals m md (hP v hv) (hPd di det dst rfl hdst) v.length _ 0 c1 (by omega)).returnAlias md

theorem convVals_spec (kind : Kind) :
    ∀ (vals : List VArg) (s : State) (acc : List (List UInt8)), Ctx P s → Ctx P (convVals s kind vals acc).2.1 := by
  intro vals
  induction vals with
  | nil => intro s acc c; exact c
  | cons a as ih =>
    intro s acc c
    unfold convVals
    dsimp only
    cases encode kind a.num with
    | none => exact c.applyDet a.det
    | some raw => exact ih _ _ (c.applyDet a.det)

theorem opOf_spec (ct : Ctor) (vals : List VArg) (c : Ctx P s)
    (hPd : ∀ di det dst, ct = .user di det → s.views[di]? = some dst → PRange P dst.buf dst.lo dst.hi) :
    Ctx P (opOf s ct vals).2 := by
  unfold opOf
  cases ct with
  | builtin kind =>
    have x := convVals_spec (P := P) kind vals s [] c
    exact .ite (fun _ => ctx_pushFresh x _ _) fun _ => x
  | user di det =>
    dsimp only
    cases hdst : s.views[di]? with
    | none => exact c
    | some dst =>
      have md := List.mem_of_getElem? hdst
      have c1 := c.start.applyDet det
      refine .guard c1.toCtx fun _ => .guard c1.toCtx fun _ => ?_
      exact (setArrLoop_spec md (hPd di det dst rfl hdst) vals _ 0 c1).returnAlias md

theorem opABSlice_spec (b : Nat) (st fi : Option IArg) (sp : BufSpecies) (c : Ctx P s)
    (hP : ∀ hi, PRange P b 0 hi) (hPn : ∀ nb sdet hi, sp = some (nb, sdet) → PRange P nb 0 hi) :
    Ctx P (opABSlice s b st fi sp).2 := by
  unfold opABSlice
  have c2 := (c.applyDet (oDet st)).applyDet (oDet fi)
  have hcnt := relToIdx_span (oVal st 0) (oVal fi (s.blen b)) (s.blen b)
  refine .guard c fun _ => ?_
  dsimp only
  cases sp with
  | none =>
    refine .ite (fun _ => .guard c2 fun ha => ?_) fun _ => c2.pushBuf _
    have ha := not_not_attached ha
    have hlen : s.blen b ≤ ((s.applyDet (oDet st)).applyDet (oDet fi)).blen b := by
      rw [applyDet_applyDet] at ha ⊢; exact Nat.le_of_eq (applyDet_attached _ _ _ ha).2.symm
    have rs := readRange_spec (hP (s.blen b)) _ _ (relToIdx (oVal st 0) (s.blen b)).toNat c2.log ⟨ha, hlen⟩ (Nat.zero_le _) hcnt
    exact (c2.step rs).pushBuf _
  | some p =>
    obtain ⟨nb, sdet⟩ := p
    have c3 := c2.applyDet sdet
    refine .guard c2 fun _ => .ite (fun _ => .guard c3 fun ha => .guard c3 fun _ => .guard c3 fun hbl => ?_) fun _ => c3
    have ha := not_not_attached ha
    have hlen : s.blen b ≤ (((s.applyDet (oDet st)).applyDet (oDet fi)).applyDet sdet).blen b := by
      rw [applyDet_applyDet, applyDet_applyDet] at ha ⊢; exact Nat.le_of_eq (applyDet_attached _ _ _ ha).2.symm
    exact move_ctx c3 ⟨ha, hlen⟩ (hP (s.blen b)) (Nat.zero_le _) hcnt
      ⟨attached_of_blen_pos (by omega), Nat.le_refl _⟩ (hPn nb sdet _ rfl) (Nat.zero_le _) (by omega)

section
variable {vs : List View} {v : View}

theorem scanUp_spec (svz : Bool) (se : Num) (m : v ∈ vs) (hP : PRange P v.buf v.lo v.hi) :
    ∀ (n : Nat) (s : State) (k : Nat), VCtx P vs s → s.attached v.buf = true → k + n ≤ v.length →
      VCtx P vs (scanUp s v svz se k n).2 := by
  intro n
  induction n with
  | zero => intro s k c _ _; exact c
  | succ n ih =>
    intro s k c ha h
    unfold scanUp; dsimp only
    have c1 := c.readElem m ha hP (by omega : k < v.length)
    split
    · exact c1
    · exact ih _ _ c1 ((attached_readElem ..).trans ha) (by omega)

theorem scanDown_spec (se : Num) (m : v ∈ vs) (hP : PRange P v.buf v.lo v.hi) :
    ∀ (n : Nat) (s : State), VCtx P vs s → s.attached v.buf = true → n ≤ v.length →
      VCtx P vs (scanDown s v se n).2 := by
  intro n
  induction n with
  | zero => intro s c _ _; exact c
  | succ n ih =>
    intro s c ha h
    unfold scanDown; dsimp only
    have c1 := c.readElem m ha hP (by omega : n < v.length)
    split
    · exact c1
    · exact ih _ c1 ((attached_readElem ..).trans ha) (by omega)

end

/-- the bound seeded mutation C17-m1 breaks -/
theorem lastFrom_bound (from_ : Option IArg) (l : Int) (hl : 0 < l) : (lastFrom from_ l + 1).toNat ≤ l.toNat := by
  unfold lastFrom
  split
  · omega
  · split
    · omega
    · split <;> omega

theorem firstFrom_bound (n l : Int) (h : n < l) (hl : 0 < l) :
    (firstFrom n l).toNat + (l - firstFrom n l).toNat ≤ l.toNat := by
  unfold firstFrom
  split <;> omega

theorem attached_of_not_or {a : Bool} {b : Bool} (h : ¬ (!a || b) = true) : a = true := by
  cases a <;> simp at h ⊢

theorem opSearch_spec {vi : Nat} (mode : SearchMode) (se : Num) (from_ : Option IArg) (c : Ctx P s)
    (hP : ∀ v, s.views[vi]? = some v → PRange P v.buf v.lo v.hi) : Ctx P (opSearch s vi mode se from_).2 := by
  unfold opSearch
  refine c.onView fun v hv m => ?_
  have c1 := c.start.applyDet (oDet from_)
  refine .guard c fun _ => .guard c fun hl0 => ?_
  have hl : (0 : Int) < (v.length : Int) := by
    have : ¬ ((v.length : Int) = 0) := by simpa using hl0
    omega
  refine .ite (fun _ => .guard c1.toCtx fun h => ?_) fun _ => .guard c1.toCtx fun hn => .guard c1.toCtx fun h => ?_
  · have hb := lastFrom_bound from_ v.length hl
    rw [Int.toNat_natCast] at hb
    rw [Bool.or_assoc] at h
    exact (scanDown_spec se m (hP v hv) _ _ c1 (attached_of_not_or h) hb).toCtx
  · have hb := firstFrom_bound (oVal from_ 0) v.length (by omega) hl
    rw [Int.toNat_natCast] at hb
    rw [Bool.or_assoc] at h
    exact (scanUp_spec _ se m (hP v hv) _ _ _ c1 (attached_of_not_or h) hb).toCtx

theorem opAt_spec {vi : Nat} (idx : IArg) (c : Ctx P s)
    (hP : ∀ v, s.views[vi]? = some v → PRange P v.buf v.lo v.hi) : Ctx P (opAt s vi idx).2 := by
  unfold opAt
  refine c.onView fun v hv m => ?_
  have c1 := c.start.applyDet idx.det
  refine .guard c fun _ => .guard c1.toCtx fun hi => .guard c1.toCtx fun ha => ?_
  have hk : (atIndex idx.val v.length).toNat < v.length := by
    simp only [Bool.or_eq_true, decide_eq_true_eq, not_or] at hi
    omega
  exact (c1.readElem m (not_not_attached ha) (hP v hv) hk).toCtx

section
variable {vs : List View} {v : View}

theorem visitRead_snd (s : State) (v : View) (k : Nat) : (visitRead s v k).2 = (filterRead s v k).2 := by
  unfold visitRead filterRead; split <;> rfl

theorem visitRead_spec {k : Nat} (c : VCtx P vs s) (m : v ∈ vs) (hP : PRange P v.buf v.lo v.hi) (hk : k < v.length) :
    VCtx P vs (visitRead s v k).2 := by
  rw [visitRead_snd]; exact filterRead_spec c m hP hk

theorem visitLoop_spec (bwd : Bool) (detAt : Nat) (det : List Nat) (m : v ∈ vs) (hP : PRange P v.buf v.lo v.hi) :
    ∀ (n : Nat) (s : State) (i : Nat) (acc : List (Option Num)), VCtx P vs s → i + n ≤ v.length →
      VCtx P vs (visitLoop s v bwd detAt det i n acc).1 := by
  intro n
  induction n with
  | zero => intro s i acc c _; exact c
  | succ n ih =>
    intro s i acc c h
    have hk : (if bwd = true then n else i) < v.length := by split <;> omega
    exact ih _ _ _ ((visitRead_spec c m hP hk).applyDetIf _ det) (by omega)

theorem visitLoop_up_eq_joinLoop (v : View) (detAt : Nat) :
    ∀ (n : Nat) (s : State) (i : Nat) (acc : List (Option Num)),
      visitLoop s v false detAt [] i n acc = joinLoop s v i n acc := by
  intro n
  induction n with
  | zero => intro s i acc; rfl
  | succ n ih =>
    intro s i acc
    unfold visitLoop joinLoop
    simp only [Bool.false_eq_true, if_false, applyDet_nil, ite_self]
    exact ih _ _ _

theorem joinLoop_spec (m : v ∈ vs) (hP : PRange P v.buf v.lo v.hi) (n : Nat) (s : State) (k : Nat) (acc : List (Option Num))
    (c : VCtx P vs s) (h : k + n ≤ v.length) : VCtx P vs (joinLoop s v k n acc).1 := by
  rw [← visitLoop_up_eq_joinLoop v 0]; exact visitLoop_spec false 0 [] m hP n s k acc c h

theorem iterLoop_spec (detAt : Nat) (det : List Nat) (m : v ∈ vs) (hP : PRange P v.buf v.lo v.hi) :
    ∀ (n : Nat) (s : State) (i : Nat) (acc : List (Option Num)), VCtx P vs s → i + n ≤ v.length + 1 →
      VCtx P vs (iterLoop s v detAt det i n acc).2 := by
  intro n
  induction n with
  | zero => intro s i acc c _; exact c
  | succ n ih =>
    intro s i acc c h
    unfold iterLoop
    split
    · exact c
    rename_i ha
    split
    · exact c
    rename_i hn
    have hn' : n ≠ 0 := by simpa using hn
    exact ih _ _ _ ((c.readElem m (not_not_attached ha) hP (by omega)).applyDetIf _ det) (by omega)

end

theorem opVisit_spec {vi : Nat} (bwd : Bool) (detAt : Nat) (det : List Nat) (c : Ctx P s)
    (hP : ∀ v, s.views[vi]? = some v → PRange P v.buf v.lo v.hi) : Ctx P (opVisit s vi bwd detAt det).2 := by
  unfold opVisit
  refine c.onView fun v hv m => ?_
  refine .guard c fun _ => ?_
  exact (visitLoop_spec bwd detAt det m (hP v hv) v.length s 0 [] c.start (by omega)).toCtx

theorem opJoin_spec {vi : Nat} (det : List Nat) (pe : Bool) (c : Ctx P s)
    (hP : ∀ v, s.views[vi]? = some v → PRange P v.buf v.lo v.hi) : Ctx P (opJoin s vi det pe).2 := by
  unfold opJoin
  refine c.onView fun v hv m => ?_
  refine .guard c fun _ => ?_
  exact (joinLoop_spec m (hP v hv) v.length _ 0 [] (c.start.applyDet det) (by omega)).toCtx

theorem opIterate_spec {vi : Nat} (detAt : Nat) (det : List Nat) (c : Ctx P s)
    (hP : ∀ v, s.views[vi]? = some v → PRange P v.buf v.lo v.hi) : Ctx P (opIterate s vi detAt det).2 := by
  unfold opIterate
  refine c.onView fun v hv m => ?_
  refine .guard c fun _ => ?_
  exact (iterLoop_spec detAt det m (hP v hv) _ s 0 [] c.start (by omega)).toCtx

theorem opOther_spec {vi : Nat} (needAttached : Bool) (minLen : Nat) (det : List Nat) (c : Ctx P s) :
    Ctx P (opOther s vi needAttached minLen det).2 := by
  unfold opOther
  cases s.views[vi]? with
  | none => exact c
  | some v => exact .ite (fun _ => c.applyDet det) fun _ => c
end GojaModel.C17
