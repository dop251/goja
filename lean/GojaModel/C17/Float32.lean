/-
  C17 — Float32Array stores: `f64ToF32` rounds to the NEAREST float32, ties to even.  The rounding primitive `rneShift`
  (|q·2^k − sig| ≤ 2^(k−1), ties give an even q), the bit fields of both formats, and the conversion by range of the
  exponent with closed forms in float32's normal range (store/load, subnormal and overflow statements: Props.lean
  `float32_*`).
-/
import GojaModel.C17.Model

namespace GojaModel.C17

theorem rneShift_nearest (sig k : Nat) (hk : 1 ≤ k) :
    2 * (rneShift sig k * 2 ^ k) ≤ 2 * sig + 2 ^ k ∧ 2 * sig ≤ 2 * (rneShift sig k * 2 ^ k) + 2 ^ k ∧
    ((2 * (rneShift sig k * 2 ^ k) = 2 * sig + 2 ^ k ∨ 2 * sig = 2 * (rneShift sig k * 2 ^ k) + 2 ^ k) → rneShift sig k % 2 = 0) ∧
    sig / 2 ^ k ≤ rneShift sig k ∧ rneShift sig k ≤ sig / 2 ^ k + 1 := by
  have hk0 : ¬ (k == 0) = true := by simp; omega
  have hP : 2 ^ k = 2 * 2 ^ (k - 1) := by
    rw [← Nat.pow_succ']; congr 1; omega
  have hdm := Nat.div_add_mod sig (2 ^ k)
  have hlt := Nat.mod_lt sig (Nat.pow_pos (n := k) (by decide : 0 < 2))
  have hsucc : (sig / 2 ^ k + 1) * 2 ^ k = sig / 2 ^ k * 2 ^ k + 2 ^ k := Nat.succ_mul _ _
  rw [Nat.mul_comm] at hdm
  unfold rneShift
  rw [if_neg hk0]
  generalize sig / 2 ^ k = q at *
  generalize sig % 2 ^ k = rem at *
  generalize 2 ^ (k - 1) = half at *
  generalize 2 ^ k = P at *
  by_cases c : (decide (rem > half) || (rem == half && q % 2 == 1)) = true
  · simp only [if_pos c, hsucc]
    generalize q * P = X at *
    simp only [Bool.or_eq_true, decide_eq_true_eq, Bool.and_eq_true, beq_iff_eq] at c
    omega
  · simp only [if_neg c]
    generalize q * P = X at *
    simp only [Bool.or_eq_true, decide_eq_true_eq, Bool.and_eq_true, beq_iff_eq, not_or, not_and] at c
    omega

theorem bitfields (a b s e m : Nat) (he : e < 2 ^ b) (hm : m < 2 ^ a) :
    (s * 2 ^ (a + b) + e * 2 ^ a + m) / 2 ^ (a + b) = s ∧ (s * 2 ^ (a + b) + e * 2 ^ a + m) / 2 ^ a % 2 ^ b = e ∧
    (s * 2 ^ (a + b) + e * 2 ^ a + m) % 2 ^ a = m := by
  have hx : s * 2 ^ (a + b) + e * 2 ^ a + m = m + 2 ^ a * (e + 2 ^ b * s) := by
    rw [Nat.pow_add, Nat.mul_add, ← Nat.mul_assoc (2 ^ a), Nat.mul_comm s, Nat.mul_comm e]; omega
  generalize s * 2 ^ (a + b) + e * 2 ^ a + m = x at hx ⊢
  have hd : x / 2 ^ a = e + 2 ^ b * s := by
    rw [hx, Nat.add_mul_div_left _ _ (Nat.pow_pos (by decide)), Nat.div_eq_of_lt hm, Nat.zero_add]
  refine ⟨?_, ?_, ?_⟩
  · rw [Nat.pow_add, ← Nat.div_div_eq_div_mul, hd, Nat.add_mul_div_left _ _ (Nat.pow_pos (by decide)),
      Nat.div_eq_of_lt he, Nat.zero_add]
  · rw [hd, Nat.add_mul_mod_self_left, Nat.mod_eq_of_lt he]
  · rw [hx, Nat.add_mul_mod_self_left, Nat.mod_eq_of_lt hm]

def mkF64 (s : Bool) (e m : Nat) : Nat := (if s then 2 ^ 63 else 0) + e * 2 ^ 52 + m

theorem f64_fields (s : Bool) (e m : Nat) (he : e < 2048) (hm : m < 2 ^ 52) :
    f64Sign (mkF64 s e m) = s ∧ f64Exp (mkF64 s e m) = e ∧ f64Man (mkF64 s e m) = m := by
  have hx : mkF64 s e m = (if s then 1 else 0) * 2 ^ (52 + 11) + e * 2 ^ 52 + m := by cases s <;> rfl
  obtain ⟨h1, h2, h3⟩ := bitfields 52 11 (if s then 1 else 0) e m he hm
  rw [← hx] at h1 h2 h3
  refine ⟨?_, h2, h3⟩
  unfold f64Sign
  rw [show (2 : Nat) ^ 63 = 2 ^ (52 + 11) from rfl, h1]
  cases s <;> rfl

/-- the left-hand sides are the field extractions as `f32ToF64` writes them -/
theorem f32_fields (s : Bool) (e m : Nat) (he : e < 256) (hm : m < 2 ^ 23) {x : Nat}
    (hx : x = (if s then 2 ^ 31 else 0) + e * 2 ^ 23 + m) :
    (x / 2 ^ 31 % 2 == 1) = s ∧ x / 2 ^ 23 % 256 = e ∧ x % 2 ^ 23 = m := by
  have hx' : x = (if s then 1 else 0) * 2 ^ (23 + 8) + e * 2 ^ 23 + m := by rw [hx]; cases s <;> rfl
  obtain ⟨h1, h2, h3⟩ := bitfields 23 8 (if s then 1 else 0) e m he hm
  rw [← hx'] at h1 h2 h3
  refine ⟨?_, h2, h3⟩
  rw [show (2 : Nat) ^ 31 = 2 ^ (23 + 8) from rfl, h1]
  cases s <;> rfl

theorem rneShift29_bounds (m : Nat) (hm : m < 2 ^ 52) :
    2 ^ 23 ≤ rneShift (m + 2 ^ 52) 29 ∧ rneShift (m + 2 ^ 52) 29 ≤ 2 ^ 24 := by
  obtain ⟨_, _, _, h4, h5⟩ := rneShift_nearest (m + 2 ^ 52) 29 (by decide)
  simp only [Nat.reducePow] at *
  omega

theorem f64ToF32_finite (s : Bool) (e m : Nat) (he1 : 0 < e) (he2 : e < 2047) (hm : m < 2 ^ 52) :
    f64ToF32 (mkF64 s e m) =
      if e > 896 then
        if (e - 897) * 2 ^ 23 + rneShift (m + 2 ^ 52) 29 ≥ 0x7f800000 then (if s then 2 ^ 31 else 0) + 0x7f800000
        else (if s then 2 ^ 31 else 0) + ((e - 897) * 2 ^ 23 + rneShift (m + 2 ^ 52) 29)
      else (if s then 2 ^ 31 else 0) + rneShift (m + 2 ^ 52) (926 - e) := by
  obtain ⟨f1, f2, f3⟩ := f64_fields s e m (by omega) hm
  have c1 : ¬ (e == 2047) = true := by simp; omega
  have c2 : ¬ (e == 0) = true := by simp; omega
  unfold f64ToF32
  simp only [f1, f2, f3]
  rw [if_neg c1, if_neg c2]

theorem f64ToF32_normal (s : Bool) (e m : Nat) (he1 : 896 < e) (he2 : e < 2047) (hm : m < 2 ^ 52)
    (hno : (e - 897) * 2 ^ 23 + rneShift (m + 2 ^ 52) 29 < 0x7f800000) :
    f64ToF32 (mkF64 s e m) = (if s then 2 ^ 31 else 0) + ((e - 897) * 2 ^ 23 + rneShift (m + 2 ^ 52) 29) := by
  rw [f64ToF32_finite s e m (by omega) he2 hm, if_pos he1, if_neg (Nat.not_le_of_lt hno)]

theorem f32ToF64_normal (s : Bool) (e32 m32 : Nat) (h1 : 0 < e32) (h2 : e32 < 255) (hm : m32 < 2 ^ 23) :
    f32ToF64 ((if s then 2 ^ 31 else 0) + e32 * 2 ^ 23 + m32) = mkF64 s (e32 + 896) (m32 * 2 ^ 29) := by
  obtain ⟨f1, f2, f3⟩ := f32_fields s e32 m32 (by omega) hm rfl
  have c1 : ¬ (e32 == 255) = true := by simp; omega
  have c2 : ¬ (e32 == 0) = true := by simp; omega
  unfold f32ToF64 mkF64
  simp only [f1, f2, f3]
  rw [if_neg c1, if_neg c2]

end GojaModel.C17
