/-
  C17 — the integer codecs: an `n`-byte value written little-endian reads back, unsigned through ToUintN
  (`leNat_leBytes_intModN`) and signed through ToIntN and two's complement (`signedOfNat_leNat_leBytes`), for any `n`;
  the element conversion of `set` / `filter` between two kinds is a `map` (`convElems_eq_map`).
-/
import GojaModel.C17.Model

namespace GojaModel.C17

theorem Kind.size_pos (k : Kind) : 0 < k.size := by cases k <;> decide

theorem leNat_leBytes_of_lt (n x : Nat) (h : x < 256 ^ n) : leNat (leBytes n x) = x := by
  induction n generalizing x with
  | zero => simp at h; subst h; rfl
  | succ n ih =>
    have h2 : x / 256 < 256 ^ n := by
      rw [Nat.pow_succ] at h
      exact Nat.div_lt_of_lt_mul (by omega)
    simp only [leBytes, leNat, ih _ h2]
    have : (UInt8.ofNat (x % 256)).toNat = x % 256 := by
      simp [UInt8.toNat_ofNat']
    rw [this]; omega

theorem pow256 (n : Nat) : (256 : Nat) ^ n = 2 ^ (8 * n) := by rw [Nat.pow_mul]

theorem leNat_leBytes_intModN (n i : Nat) (h : i < 256 ^ n) : leNat (leBytes n (intModN (8 * n) i)) = i := by
  have e : intModN (8 * n) i = i := by
    unfold intModN
    have h' : i < 2 ^ (8 * n) := pow256 n ▸ h
    rw [Int.emod_eq_of_lt (Int.natCast_nonneg i) (by exact_mod_cast h'), Int.toNat_natCast]
  rw [e, leNat_leBytes_of_lt n i h]

theorem signedOfNat_leNat_leBytes (n M : Nat) (hM : 2 * M = 256 ^ n) (i : Int) (h1 : -(M : Int) ≤ i) (h2 : i < M) :
    signedOfNat (8 * n) (leNat (leBytes n (intModN (8 * n) i))) = i := by
  have hn : 8 * n = (8 * n - 1) + 1 := by
    cases n with
    | zero => simp at hM; omega
    | succ n => omega
  rw [pow256] at hM
  have hhalf : 2 ^ (8 * n - 1) = M := by
    have : 2 ^ (8 * n) = 2 * 2 ^ (8 * n - 1) := (congrArg (2 ^ ·) hn).trans Nat.pow_succ'
    omega
  have hfull : ((2 : Int) ^ (8 * n)) = 2 * (M : Int) := by exact_mod_cast hM.symm
  have hx : ((intModN (8 * n) i : Nat) : Int) = if 0 ≤ i then i else i + 2 * M := by
    unfold intModN
    rw [hfull, Int.toNat_of_nonneg (Int.emod_nonneg _ (by omega))]
    split
    · exact Int.emod_eq_of_lt (by omega) (by omega)
    · rw [← Int.add_mul_emod_self_left i (2 * (M : Int)) 1, Int.mul_one]
      exact Int.emod_eq_of_lt (by omega) (by omega)
  generalize intModN (8 * n) i = x at hx
  rw [leNat_leBytes_of_lt n x (by rw [pow256, ← hM]; split at hx <;> omega)]
  unfold signedOfNat
  rw [hhalf, hfull]
  split at hx <;> split <;> omega

/-- the per-element conversion of `set` between two kinds (ECMA-262 RawBytesToNumeric then NumericToRawBytes) -/
def convBytes (sk dk : Kind) (w : List UInt8) : List UInt8 := (encode dk (decode sk w)).getD []

theorem convElems_eq_map (sk dk : Kind) : ∀ (xs ys : List (List UInt8)), convElems sk dk xs = some ys →
    ys = xs.map (convBytes sk dk) := by
  intro xs
  induction xs with
  | nil => intro ys h; simp [convElems] at h; subst h; rfl
  | cons x xs ih =>
    intro ys h
    simp only [convElems] at h
    split at h
    · rename_i y ys' h1 h2
      simp at h; subst h
      simp [convBytes, h1, ih ys' h2]
    · simp at h

theorem convElems_length {src dst : Kind} (xs ys : List (List UInt8)) (h : convElems src dst xs = some ys) :
    ys.length = xs.length := by
  rw [convElems_eq_map src dst xs ys h, List.length_map]

end GojaModel.C17
