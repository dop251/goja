/-
C17 — byte results of `%TypedArray%.of` / `.from` (and `set(array-like)`) into a typed array handed back by a USER
constructor, and of `map` into the result of a user species constructor (`mapLoopDst`, second half), under a detaching
adversary.

ECMA-262 TypedArraySetElement converts the value (callback point: the adversary may detach anything, including the
target), then writes iff the index is still valid.  `Specs.lean` proves these writes memory safe.  Here the target's bytes
after the loop in closed form (`setArrLoop_data`): gone if some conversion detached the target, otherwise every write
happened and the target holds exactly the encoded values — whatever else the adversary detached in between.  The loop of
`map` leaves the same bytes as the `set(array-like)` loop over the callback results (`mapLoopDst_sim`).
-/
import GojaModel.C17.Specs

namespace GojaModel.C17

theorem putValid_data_none (s : State) (dst : View) (k : Nat) (raw : List UInt8) (h : s.data? dst.buf = none) :
    (putValid s dst k raw).data? dst.buf = none := by
  unfold putValid
  split
  · rw [writeElem_data, h]; rfl
  · exact h

/-- on the target's own bytes the validity test is idle: a detached buffer has no bytes to change -/
theorem putValid_data (s : State) (dst : View) (k : Nat) (raw : List UInt8) (hk : k < dst.length) :
    (putValid s dst k raw).data? dst.buf = (s.writeElem dst k raw).data? dst.buf := by
  cases hd : s.data? dst.buf with
  | none => rw [putValid_data_none _ _ _ _ hd, writeElem_data, hd]; rfl
  | some d =>
    unfold putValid
    rw [if_pos (by simp [isValidIntegerIndex, attached_of_data hd]; omega)]

theorem setArrLoop_none (v : View) : ∀ (vals : List VArg) (s : State) (k : Nat), s.data? v.buf = none →
    (setArrLoop s v k vals).2.data? v.buf = none := by
  intro vals
  induction vals with
  | nil => intro s k h; exact h
  | cons a as ih =>
    intro s k h
    unfold setArrLoop; dsimp only
    have h1 := data?_applyDet_none s a.det v.buf h
    split
    · exact h1
    · exact ih _ _ (putValid_data_none _ v k _ h1)

theorem setArrLoop_res (v : View) : ∀ (vals : List VArg) (s : State) (k : Nat),
    (setArrLoop s v k vals).1 = .ok ∨ (setArrLoop s v k vals).1 = .err .type := by
  intro vals
  induction vals with
  | nil => intro s k; left; rfl
  | cons a as ih =>
    intro s k
    unfold setArrLoop; dsimp only
    split
    · right; rfl
    · exact ih _ _

def encRaw (k : Kind) (a : VArg) : List UInt8 := (encode k a.num).getD []

/-- the TypedArraySetElement loop on the target's bytes, adversary included: gone if any conversion detached the target,
otherwise every write happened -/
theorem setArrLoop_data (v : View) : ∀ (vals : List VArg) (s : State) (k : Nat), k + vals.length ≤ v.length →
    (setArrLoop s v k vals).1 = .ok →
    (setArrLoop s v k vals).2.data? v.buf =
      if v.buf ∈ vals.flatMap (·.det) then none else (writeElems s v k (vals.map (encRaw v.kind))).data? v.buf := by
  intro vals
  induction vals with
  | nil => intro s k _ _; rw [if_neg (by simp)]; rfl
  | cons a as ih =>
    intro s k hk hok
    simp only [List.length_cons] at hk
    unfold setArrLoop at hok ⊢; dsimp only at hok ⊢
    cases henc : encode v.kind a.num with
    | none => rw [henc] at hok; cases hok
    | some raw =>
      rw [henc] at hok; dsimp only at hok ⊢
      have hstep : (putValid (s.applyDet a.det) v k raw).data? v.buf =
          if v.buf ∈ a.det then none else (s.writeElem v k (encRaw v.kind a)).data? v.buf := by
        rw [putValid_data _ _ _ _ (by omega), writeElem_data, writeElem_data, data?_applyDet, encRaw, henc]
        split <;> rfl
      simp only [List.flatMap_cons, List.mem_append, List.map_cons, writeElems]
      by_cases hm : v.buf ∈ a.det
      · -- detached by this conversion: the target stays gone
        rw [if_pos hm] at hstep
        rw [if_pos (Or.inl hm)]
        exact setArrLoop_none v as _ (k + 1) hstep
      · rw [if_neg hm] at hstep
        refine (ih (putValid (s.applyDet a.det) v k raw) (k + 1) (by omega) hok).trans ?_
        rw [writeElems_data, writeElems_data, if_pos rfl, if_pos rfl, hstep]
        simp only [hm, false_or]

/-- the bytes of a typed array `dst` that a user / species constructor handed back, seen after the loop that fills it
(started in `s0`, result `r`; `hdata` is what the loop's `_data` lemma says) -/
theorem returnAlias_bytes {dst : View} {r : Res × State} {s0 : State} {ys : List (List UInt8)} {d d' : List UInt8} {lo n : Nat}
    {gone : Prop} [Decidable gone] (hr : r.1 = .ok ∨ r.1 = .err .type)
    (hdata : r.1 = .ok → r.2.data? dst.buf = if gone then none else (writeElems s0 dst 0 ys).data? dst.buf)
    (hd0 : s0.data? dst.buf = some d) (hb : dst.hi ≤ d.length) (hlen : ys.length ≤ dst.length)
    (hres : (match r with
      | (Res.ok, s2) => (viewRes (s2.attached dst.buf) dst.lo dst.length, { s2 with views := s2.views ++ [dst] })
      | r => r).1 = .view lo n)
    (hd' : (match r with
      | (Res.ok, s2) => (viewRes (s2.attached dst.buf) dst.lo dst.length, { s2 with views := s2.views ++ [dst] })
      | r => r).2.data? dst.buf = some d') :
    d'.length = d.length ∧ (∀ i, i < ys.length → elemAt d' dst i = fit dst.kind.size (ys.getD i [])) ∧
      (∀ lo n, (lo + n ≤ dst.lo ∨ (dst.offset + ys.length) * dst.kind.size ≤ lo) → window d' lo n = window d lo n) := by
  obtain ⟨r1, r2⟩ := r
  cases r1 with
  | ok =>
    have hd2 : r2.data? dst.buf = some d' := hd'
    rw [hdata rfl] at hd2
    split at hd2
    · cases hd2
    · obtain ⟨d2, h1, h2, h3, h4⟩ := writeElems_prefix dst ys s0 d hd0 hb hlen
      cases h1.symm.trans hd2
      exact ⟨h2, h3, h4⟩
  | err e => cases hres
  | _ => rcases hr with h | h <;> cases h

/-- **`%TypedArray%.of` / `.from` with a user constructor under an adversary**: the constructor detaches `det` and returns
the existing typed array `dst`; every value conversion may detach more. If the call completes normally and `dst`'s buffer
is still attached afterwards, then elements `[0, n)` of `dst` hold exactly the encoded values, the buffer keeps its
length, and every byte range outside those elements is unchanged. -/
theorem of_user_bytes_eq_spec (s : State) (di : Nat) (det : List Nat) (dst : View) (vals : List VArg) (d : List UInt8)
    (hi : Inv s) (hv : s.views[di]? = some dst) (hd : s.data? dst.buf = some d)
    (lo n : Nat) (hres : (opOf s (.user di det) vals).1 = .view lo n)
    (d' : List UInt8) (hd' : (opOf s (.user di det) vals).2.data? dst.buf = some d') :
    d'.length = d.length ∧
      (∀ i, i < vals.length → elemAt d' dst i = fit dst.kind.size (encRaw dst.kind (vals.getD i ⟨.undef, []⟩))) ∧
      (∀ lo n, (lo + n ≤ dst.lo ∨ (dst.offset + vals.length) * dst.kind.size ≤ lo) → window d' lo n = window d lo n) := by
  have hb : dst.hi ≤ d.length := hi.hi_le hv hd
  unfold opOf at hres hd'; dsimp only at hres hd'; rw [hv] at hres hd'; dsimp only at hres hd'
  have c1 := guard_passed hres nofun
  rw [if_neg c1] at hres hd'
  have c2 := guard_passed hres nofun
  rw [if_neg c2] at hres hd'
  have hd0 : (s.applyDet det).data? dst.buf = some d := by
    rw [data?_applyDet_of_attached (not_not_attached c1), hd]
  obtain ⟨h2, h3, h4⟩ := returnAlias_bytes (setArrLoop_res dst vals (s.applyDet det) 0)
    (setArrLoop_data dst vals (s.applyDet det) 0 (by omega)) hd0 hb (by rw [List.length_map]; omega) hres hd'
  rw [List.length_map] at h3 h4
  exact ⟨h2, fun i hi' => by rw [h3 i hi', getD_map_of_lt _ _ hi'], h4⟩

theorem mapRead_data (s : State) (v : View) (k b : Nat) : (mapRead s v k).data? b = s.data? b := by
  rw [mapRead_eq]; exact filterRead_data s v k b

/-- as far as the bytes go, `map` into a species result is the `set(array-like)` loop over the callback results: the
reads of the source element only add to the log -/
theorem mapLoopDst_sim (v dst : View) (vals : List VArg) : ∀ (n : Nat) (s t : State) (k : Nat),
    (∀ b, s.data? b = t.data? b) →
    (mapLoopDst s v dst vals k n).1 = (setArrLoop t dst k ((List.range' k n).map (valAt vals))).1 ∧
    ∀ b, (mapLoopDst s v dst vals k n).2.data? b = (setArrLoop t dst k ((List.range' k n).map (valAt vals))).2.data? b := by
  intro n
  induction n with
  | zero => intro s t k h; exact ⟨rfl, h⟩
  | succ n ih =>
    intro s t k h
    have h1 : ∀ b, ((mapRead s v k).applyDet (valAt vals k).det).data? b = (t.applyDet (valAt vals k).det).data? b :=
      fun b => by rw [data?_applyDet, data?_applyDet, mapRead_data, h]
    unfold mapLoopDst; rw [List.range'_succ, List.map_cons, setArrLoop]; dsimp only
    cases encode dst.kind (valAt vals k).num with
    | none => exact ⟨rfl, h1⟩
    | some raw =>
      refine ih _ _ _ fun b => ?_
      show (putValid _ dst k raw).data? b = (putValid _ dst k raw).data? b
      unfold putValid State.attached State.writeElem
      rw [h1 dst.buf]
      split
      · rw [data?_writeRange, data?_writeRange, h1, h1]
      · exact h1 b

theorem mapLoopDst_res (v dst : View) (vals : List VArg) (n : Nat) (s : State) (k : Nat) :
    (mapLoopDst s v dst vals k n).1 = .ok ∨ (mapLoopDst s v dst vals k n).1 = .err .type := by
  rw [(mapLoopDst_sim v dst vals n s s k fun _ => rfl).1]; exact setArrLoop_res ..

def mapRaws (dst : View) (vals : List VArg) (k n : Nat) : List (List UInt8) :=
  (List.range' k n).map (fun i => encRaw dst.kind (valAt vals i))

theorem mapLoopDst_data (v dst : View) (vals : List VArg) (n : Nat) (s : State) (k : Nat) (hk : k + n ≤ dst.length)
    (hok : (mapLoopDst s v dst vals k n).1 = .ok) :
    (mapLoopDst s v dst vals k n).2.data? dst.buf =
      if dst.buf ∈ ((List.range' k n).map (valAt vals)).flatMap (·.det) then none
      else (writeElems s dst k (mapRaws dst vals k n)).data? dst.buf := by
  obtain ⟨h1, h2⟩ := mapLoopDst_sim v dst vals n s s k fun _ => rfl
  rw [h2, setArrLoop_data dst _ s k (by rw [List.length_map, List.length_range']; exact hk) (h1 ▸ hok), List.map_map]
  rfl

/-- **`map` with a user species constructor under an adversary**: the constructor detaches `det` and returns the existing
typed array `dst` (possibly a view of the receiver's own buffer); every callback result conversion may detach more. If
the call completes normally and `dst`'s buffer is still attached afterwards, then elements `[0, n)` of `dst` (`n` = the
receiver's length) hold exactly the encoded callback results, the buffer keeps its length, and every byte range outside
those elements is unchanged. -/
theorem map_species_bytes_eq_spec (s : State) (vi di : Nat) (det : List Nat) (v dst : View) (vals : List VArg)
    (d : List UInt8) (hi : Inv s) (hv : s.views[vi]? = some v) (hdv : s.views[di]? = some dst)
    (hd : s.data? dst.buf = some d)
    (lo n : Nat) (hres : (opMap s vi (some (di, det)) vals).1 = .view lo n)
    (d' : List UInt8) (hd' : (opMap s vi (some (di, det)) vals).2.data? dst.buf = some d') :
    d'.length = d.length ∧
      (∀ i, i < v.length → elemAt d' dst i = fit dst.kind.size (encRaw dst.kind (valAt vals i))) ∧
      (∀ lo n, (lo + n ≤ dst.lo ∨ (dst.offset + v.length) * dst.kind.size ≤ lo) → window d' lo n = window d lo n) := by
  have hb : dst.hi ≤ d.length := hi.hi_le hdv hd
  unfold opMap at hres hd'; rw [hv] at hres hd'; dsimp only at hres hd'
  have c0 := guard_passed hres nofun
  rw [if_neg c0] at hres hd'
  have c00 := guard_passed hres nofun
  rw [if_neg c00, hdv] at hres hd'; dsimp only at hres hd'
  have c1 := guard_passed hres nofun
  rw [if_neg c1] at hres hd'
  have c2 := guard_passed hres nofun
  rw [if_neg c2] at hres hd'
  have hd0 : (s.applyDet det).data? dst.buf = some d := by
    rw [data?_applyDet_of_attached (not_not_attached c1), hd]
  have hlenR : (mapRaws dst vals 0 v.length).length = v.length := by simp [mapRaws]
  obtain ⟨h2, h3, h4⟩ := returnAlias_bytes (mapLoopDst_res v dst vals v.length (s.applyDet det) 0)
    (mapLoopDst_data v dst vals v.length (s.applyDet det) 0 (by omega)) hd0 hb (by rw [hlenR]; omega) hres hd'
  rw [hlenR] at h3 h4
  refine ⟨h2, fun i hi' => ?_, h4⟩
  rw [h3 i hi']
  unfold mapRaws
  rw [List.getD_eq_getElem?_getD, List.getElem?_map, List.getElem?_range' hi']
  simp

end GojaModel.C17
