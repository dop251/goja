/-
  C17 — typed arrays / DataViews never leave their buffer; bytes match spec.

  Executable model (core Lean only).  A buffer is `Option (List UInt8)` (`none` = detached); a view is
  `(buf, offset, length, kind)` with offset/length in ELEMENTS exactly as `typedArrayObject` stores them
  (typedarrays.go:72); a DataView is `(buf, byteOffset, byteLen)` (typedarrays.go:41).  Every byte the model
  reads or writes goes through `State.readByte` / `State.writeByte`, which append a `Touch` to the log with
  `ok := buffer attached ∧ idx < |buf|` evaluated AT THE TIME of the touch.  Callback points (argument
  coercions `valueOf`, species constructors, sort comparators) are the places where `applyDet` runs: the
  adversary detaches any set of buffers there.

  Mechanism-level parts (same checks, same order as the Go source; file:line cited) are the index / range
  decisions; the byte semantics are the ECMA-262 algorithms on the byte array.
-/
namespace GojaModel.C17

/-! ## element kinds -/

inductive Kind
  | u8 | u8c | i8 | u16 | i16 | u32 | i32 | f32 | f64 | bi64 | bu64
  deriving DecidableEq, Repr, Inhabited

/-- `elemSize` (typedarrays.go:1048-1092). -/
def Kind.size : Kind → Nat
  | .u8 | .u8c | .i8 => 1
  | .u16 | .i16 => 2
  | .u32 | .i32 | .f32 => 4
  | .f64 | .bi64 | .bu64 => 8

def Kind.isBig : Kind → Bool
  | .bi64 | .bu64 => true
  | _ => false

/-! ## numbers (only what the codecs need; independent of C05's model) -/

/-- A JS numeric value as the typed-array code sees it. `int` = the result of reading an integer element,
`dbl` = IEEE-754 binary64 bit pattern, `big` = BigInt. -/
inductive Num
  | int (i : Int)
  | dbl (bits : Nat)
  | big (i : Int)
  /-- `undefined` (what a callback returns when the generator supplied no value): ToNumber ↦ NaN, ToBigInt ↦ TypeError -/
  | undef
  deriving DecidableEq, Repr, Inhabited

def f64Sign (b : Nat) : Bool := b / 2 ^ 63 % 2 == 1
def f64Exp (b : Nat) : Nat := b / 2 ^ 52 % 2048
def f64Man (b : Nat) : Nat := b % 2 ^ 52
def f64IsNaN (b : Nat) : Bool := f64Exp b == 2047 && f64Man b != 0

/-- goja's NaN (`_NaN = valueFloat(math.NaN())`, value.go:36): every NaN that passes through a `Value`
is this bit pattern (floatToValue, vm.go:414).  ECMA-262 leaves the NaN encoding implementation-chosen. -/
def nanBits : Nat := 0x7ff8000000000001

/-- |trunc(x)| for a finite double. -/
def f64TruncMag (b : Nat) : Nat :=
  let e := f64Exp b
  if e == 0 then 0 else
  let sig := f64Man b + 2 ^ 52
  if e ≥ 1075 then sig * 2 ^ (e - 1075) else sig / 2 ^ (1075 - e)

/-- ECMA-262 ToUint8/16/32 (7.1.6 ff.): truncate, then modulo 2^n; NaN and ±∞ ↦ 0.  Result as the
unsigned n-bit pattern (ToIntN has the same bit pattern). -/
def f64ToUintN (n : Nat) (b : Nat) : Nat :=
  if f64Exp b == 2047 then 0 else
  let mag := f64TruncMag b % 2 ^ n
  if f64Sign b then (2 ^ n - mag) % 2 ^ n else mag

/-- ECMA-262 ToUint8Clamp (7.1.12): clamp to [0,255], round half to even. -/
def f64ToU8Clamp (b : Nat) : Nat :=
  if f64IsNaN b then 0 else
  if f64Sign b then 0 else
  let e := f64Exp b
  if e == 2047 then 255 else
  if e == 0 then 0 else
  let sig := f64Man b + 2 ^ 52
  if e ≥ 1075 then 255 else
  let k := 1075 - e
  let fl := sig / 2 ^ k
  let rem := sig % 2 ^ k
  let half := 2 ^ (k - 1)
  if fl ≥ 255 then 255
  else if rem > half then fl + 1
  else if rem < half then fl
  else if fl % 2 == 1 then fl + 1 else fl

def intClampU8 (i : Int) : Nat := if i < 0 then 0 else if i > 255 then 255 else i.toNat

/-- round-to-nearest-even helper: `q = sig / 2^k` rounded using the dropped bits. -/
def rneShift (sig k : Nat) : Nat :=
  if k == 0 then sig else
  let q := sig / 2 ^ k
  let r := sig % 2 ^ k
  let half := 2 ^ (k - 1)
  if r > half || (r == half && q % 2 == 1) then q + 1 else q

/-- binary64 → binary32, round to nearest even (ECMA-262 NumericToRawBytes for Float32; Go `float32(x)`). -/
def f64ToF32 (b : Nat) : Nat :=
  let s := if f64Sign b then 2 ^ 31 else 0
  let e := f64Exp b
  let m := f64Man b
  if e == 2047 then
    if m == 0 then s + 0x7f800000 else s + 0x7fc00000 + m / 2 ^ 29 % 2 ^ 22
  else if e == 0 then s
  else
    let sig := m + 2 ^ 52
    if e > 896 then
      let bits := (e - 897) * 2 ^ 23 + rneShift sig 29
      if bits ≥ 0x7f800000 then s + 0x7f800000 else s + bits
    else
      s + rneShift sig (926 - e)

/-- binary32 → binary64 (exact). NaN ↦ goja's NaN (the value passes through `floatToValue`). -/
def f32ToF64 (b : Nat) : Nat :=
  let s := if b / 2 ^ 31 % 2 == 1 then 2 ^ 63 else 0
  let e := b / 2 ^ 23 % 256
  let m := b % 2 ^ 23
  if e == 255 then (if m == 0 then s + 0x7ff0000000000000 else nanBits)
  else if e == 0 then
    if m == 0 then s else
    let p := Nat.log2 m
    s + (p + 874) * 2 ^ 52 + (m - 2 ^ p) * 2 ^ (52 - p)
  else s + (e + 896) * 2 ^ 52 + m * 2 ^ 29

/-- exact Int → binary64 for |i| < 2^53 (all integer element kinds fit). -/
def intToF64 (i : Int) : Nat :=
  let s := if i < 0 then 2 ^ 63 else 0
  let a := i.natAbs
  if a == 0 then 0 else
  let p := Nat.log2 a
  s + (1023 + p) * 2 ^ 52 + (a - 2 ^ p) * 2 ^ (52 - p)

/-- little-endian bytes of the low `n` bytes of `x`. -/
def leBytes : Nat → Nat → List UInt8
  | 0, _ => []
  | n + 1, x => UInt8.ofNat (x % 256) :: leBytes n (x / 256)

def leNat : List UInt8 → Nat
  | [] => 0
  | b :: bs => b.toNat + 256 * leNat bs

theorem leBytes_length (n x : Nat) : (leBytes n x).length = n := by
  induction n generalizing x with
  | zero => rfl
  | succ n ih => simp [leBytes, ih]

def intModN (bits : Nat) (i : Int) : Nat := (i % (2 ^ bits : Int)).toNat

def signedOfNat (bits : Nat) (x : Nat) : Int :=
  if x ≥ 2 ^ (bits - 1) then (x : Int) - (2 ^ bits : Int) else (x : Int)

/-- unsigned bit pattern (`8*size` bits) written for `num` into an element of kind `k`
(ECMA-262 NumericToRawBytes, little-endian afterwards); `none` = TypeError (BigInt / Number mix). -/
def encodeNat (k : Kind) (num : Num) : Option Nat :=
  match k, num with
  | .bi64, .big i | .bu64, .big i => some (intModN 64 i)
  | .bi64, _ | .bu64, _ => none
  | _, .big _ => none
  | .u8c, .int i => some (intClampU8 i)
  | .u8c, .dbl b => some (f64ToU8Clamp b)
  | .f64, .int i => some (intToF64 i)
  | .f64, .dbl b => some (if f64IsNaN b then nanBits else b)
  | .f32, .int i => some (f64ToF32 (intToF64 i))
  | .f32, .dbl b => some (f64ToF32 (if f64IsNaN b then nanBits else b))
  | .u8c, .undef => some 0
  | .f64, .undef => some nanBits
  | .f32, .undef => some (f64ToF32 nanBits)
  | k, .int i => some (intModN (8 * k.size) i)
  | k, .dbl b => some (f64ToUintN (8 * k.size) b)
  | _, .undef => some 0

def encode (k : Kind) (num : Num) : Option (List UInt8) :=
  (encodeNat k num).map (leBytes k.size)

/-- ECMA-262 RawBytesToNumeric on little-endian bytes. -/
def decode (k : Kind) (bs : List UInt8) : Num :=
  let x := leNat bs
  match k with
  | .u8 | .u8c | .u16 | .u32 => .int x
  | .i8 => .int (signedOfNat 8 x)
  | .i16 => .int (signedOfNat 16 x)
  | .i32 => .int (signedOfNat 32 x)
  | .f32 => .dbl (f32ToF64 x)
  | .f64 => .dbl (if f64IsNaN x then nanBits else x)
  | .bi64 => .big (signedOfNat 64 x)
  | .bu64 => .big x

/-! ## memory with a touch log -/

structure Touch where
  buf : Nat
  idx : Nat
  /-- buffer attached and `idx < |buf|` at the time of the touch -/
  ok : Bool
  write : Bool
  deriving DecidableEq, Repr

structure View where
  buf : Nat
  offset : Nat
  length : Nat
  kind : Kind
  deriving DecidableEq, Repr, Inhabited

structure DView where
  buf : Nat
  byteOffset : Nat
  byteLen : Nat
  deriving DecidableEq, Repr, Inhabited

structure State where
  bufs : List (Option (List UInt8)) := []
  views : List View := []
  dvs : List DView := []
  log : List Touch := []
  deriving Repr, Inhabited

def View.lo (v : View) : Nat := v.offset * v.kind.size
def View.hi (v : View) : Nat := (v.offset + v.length) * v.kind.size

/-- `arrayBufferObject.data` (nil after detach, typedarrays.go:1282). -/
def State.data? (s : State) (b : Nat) : Option (List UInt8) := s.bufs.getD b none

def State.attached (s : State) (b : Nat) : Bool := (s.data? b).isSome

def State.blen (s : State) (b : Nat) : Nat :=
  match s.data? b with
  | some d => d.length
  | none => 0

def State.touchOk (s : State) (b i : Nat) : Bool :=
  match s.data? b with
  | some d => decide (i < d.length)
  | none => false

def State.readByte (s : State) (b i : Nat) : UInt8 × State :=
  let x := match s.data? b with
    | some d => d.getD i 0
    | none => 0
  (x, { s with log := ⟨b, i, s.touchOk b i, false⟩ :: s.log })

def State.writeByte (s : State) (b i : Nat) (x : UInt8) : State :=
  { s with
    bufs := match s.data? b with
      | some d => s.bufs.set b (some (d.set i x))
      | none => s.bufs
    log := ⟨b, i, s.touchOk b i, true⟩ :: s.log }

/-- `ArrayBuffer.Detach` / `arrayBufferObject.detach` (typedarrays.go:103, 1282). -/
def State.detach (s : State) (b : Nat) : State := { s with bufs := s.bufs.set b none }

/-- the adversary's move at a callback point -/
def State.applyDet (s : State) (det : List Nat) : State := det.foldl State.detach s

def State.readRange (s : State) (b lo : Nat) : Nat → List UInt8 × State
  | 0 => ([], s)
  | n + 1 =>
    let r := s.readByte b lo
    let rs := State.readRange r.2 b (lo + 1) n
    (r.1 :: rs.1, rs.2)

def State.writeRange (s : State) (b lo : Nat) : List UInt8 → State
  | [] => s
  | x :: xs => State.writeRange (s.writeByte b lo x) b (lo + 1) xs

/-- exactly `n` bytes (codec output always has the element size; this makes it syntactic). -/
def fit (n : Nat) (bs : List UInt8) : List UInt8 := (List.range n).map (fun j => bs.getD j 0)

/-- `typedArray.get(offset+k)` raw bytes: unsafe.Add(ptr, (offset+k)*elemSize) (typedarrays.go:134…691). -/
def State.readElem (s : State) (v : View) (k : Nat) : List UInt8 × State :=
  s.readRange v.buf ((v.offset + k) * v.kind.size) v.kind.size

def State.writeElem (s : State) (v : View) (k : Nat) (raw : List UInt8) : State :=
  s.writeRange v.buf ((v.offset + k) * v.kind.size) (fit v.kind.size raw)

/-! ## arguments, results -/

/-- An argument coerced with ToInteger / ToIndex: `val` is the integer the coercion returns and `det` the
buffers the adversary detaches while it runs (`valueOf`). -/
structure IArg where
  val : Int
  det : List Nat := []
  deriving Repr, Inhabited

/-- An element-value argument (coerced with ToNumber / ToBigInt). -/
structure VArg where
  num : Num
  det : List Nat := []
  deriving Repr, Inhabited

def oVal (a : Option IArg) (dflt : Int) : Int :=
  match a with
  | some x => x.val
  | none => dflt

def oDet (a : Option IArg) : List Nat :=
  match a with
  | some x => x.det
  | none => []

inductive Err | type | range
  deriving DecidableEq, Repr

inductive Res
  | ok
  | bad                       -- malformed op (unknown id); never produced by the generator
  | err (e : Err)
  | undef
  | val (n : Num)
  | view (byteOffset length : Nat)
  | bool (b : Bool)
  /-- a sequence of element values handed out (to a callback, an iterator, or joined into a string); `none` = undefined -/
  | vals (xs : List (Option Num))
  deriving Repr

def Res.isOk : Res → Bool
  | .ok => true
  | _ => false

/-- how a returned typed array reports itself: the `byteOffset` / `length` getters answer 0 once its buffer is detached
(builtin_typedarrays.go:437-455) -/
def viewRes (attached : Bool) (lo len : Nat) : Res := if attached then .view lo len else .view 0 0

/-- `relToIdx` (builtin_array.go:61). -/
def relToIdx (rel l : Int) : Int :=
  if rel ≥ 0 then min rel l else max (l + rel) 0

/-- `maxInt` (vm.go:17). -/
def maxInt : Int := 2 ^ 53

/-- `Runtime.toIndex` range test (runtime.go:1332): `num >= 0 && num < maxInt`. -/
def toIndexOk (num : Int) : Bool := decide (num ≥ 0) && decide (num < maxInt)

/-- `typedArrayObject.isValidIntegerIndex` (typedarrays.go:801). -/
def isValidIntegerIndex (attached : Bool) (length : Nat) (idx : Int) : Bool :=
  attached && (decide (idx ≥ 0) && decide (idx < (length : Int)))

/-- `dataViewObject.getIdxAndByteOrder` range test (typedarrays.go:1096): `getIdx+size > o.byteLen` ⇒ RangeError. -/
def dvRangeOk (getIdx size byteLen : Int) : Bool := !decide (getIdx + size > byteLen)

/-! ## constructors -/

/-- Go's integer division (truncates toward zero) for a positive divisor. -/
def goQuot (a b : Int) : Int := if a ≥ 0 then a / b else -((-a) / b)

/-- `_newTypedArrayFromArrayBuffer` (builtin_typedarrays.go:1460). -/
def opNewView (s : State) (kind : Kind) (b : Nat) (off len : Option IArg) : Res × State :=
  if b ≥ s.bufs.length then (.bad, s) else
  let es : Int := kind.size
  -- 1464: byteOffset = toIndex(args[1])  (callback point)
  let s := s.applyDet (oDet off)
  let byteOffset : Int := oVal off 0
  if !toIndexOk byteOffset then (.err .range, s) else
  -- 1465: byteOffset % elemSize != 0
  if byteOffset % es != 0 then (.err .range, s) else
  match len with
  | some la =>
    -- 1471: length = toIndex(args[2])  (callback point)
    let s := s.applyDet la.det
    if !toIndexOk la.val then (.err .range, s) else
    -- 1472: ensureNotDetached(true)
    if !s.attached b then (.err .type, s) else
    -- 1473: byteOffset+length*elemSize > len(ab.data)
    if byteOffset + la.val * es > (s.blen b : Int) then (.err .range, s) else
    let v : View := ⟨b, (byteOffset / es).toNat, la.val.toNat, kind⟩
    (.view byteOffset.toNat la.val.toNat, { s with views := s.views ++ [v] })
  | none =>
    -- 1477: ensureNotDetached(true)
    if !s.attached b then (.err .type, s) else
    let n : Int := s.blen b
    -- 1478: len(ab.data) % elemSize != 0
    if n % es != 0 then (.err .range, s) else
    -- 1481: length = (len(ab.data) - byteOffset) / elemSize   (Go division truncates toward zero)
    let length := goQuot (n - byteOffset) es
    -- 1482: length < 0
    if length < 0 then (.err .range, s) else
    let v : View := ⟨b, (byteOffset / es).toNat, length.toNat, kind⟩
    (.view byteOffset.toNat length.toNat, { s with views := s.views ++ [v] })

/-- builtin_typedarrays.go:183: `byteLen = r.toIndex(args[2])` range test when a length is passed -/
def dvLenOk (len : Option IArg) : Bool :=
  match len with
  | some la => toIndexOk la.val
  | none => true

/-- builtin_typedarrays.go:183/188: explicit length, or `len(buffer.data) - byteOffset` -/
def dvByteLen (len : Option IArg) (n byteOffset : Int) : Int :=
  match len with
  | some la => la.val
  | none => n - byteOffset

/-- `newDataView` (builtin_typedarrays.go:156). -/
def opNewDV (s : State) (b : Nat) (off len : Option IArg) (pdet : List Nat := []) : Res × State :=
  if b ≥ s.bufs.length then (.bad, s) else
  -- 174-181: if len(args) > 1 { byteOffset = toIndex; ensureNotDetached; byteOffset > len(data) }
  let s := s.applyDet (oDet off)
  let byteOffset : Int := oVal off 0
  if !toIndexOk byteOffset then (.err .range, s) else
  -- `len(args) > 1` holds whenever an offset OR a length argument is passed (an `undefined` offset is ToIndex'd to 0)
  let has1 := off.isSome || len.isSome
  if has1 && !s.attached b then (.err .type, s) else
  if has1 && byteOffset > (s.blen b : Int) then (.err .range, s) else
  -- 182-189
  let s := s.applyDet (oDet len)
  if !dvLenOk len then (.err .range, s) else
  let byteLen : Int := dvByteLen len (s.blen b) byteOffset
  if len.isSome && byteOffset + byteLen > (s.blen b : Int) then (.err .range, s) else
  -- 190: getPrototypeFromCtor(newTarget, …) reads newTarget.prototype (callback point)
  let s := s.applyDet pdet
  -- 191-197: final checks
  if !s.attached b then (.err .type, s) else
  if byteOffset > (s.blen b : Int) then (.err .range, s) else
  if byteOffset + byteLen > (s.blen b : Int) then (.err .range, s) else
  if byteLen < 0 then (.err .range, s) else   -- unreachable in Go (byteLen ≥ 0 by the checks above); keeps the model total
  let d : DView := ⟨b, byteOffset.toNat, byteLen.toNat⟩
  (.view byteOffset.toNat byteLen.toNat, { s with dvs := s.dvs ++ [d] })

/-! ## element get / put -/

/-- `_getIdx` (typedarrays.go:743). -/
def opGet (s : State) (vi : Nat) (idx : Int) : Res × State :=
  match s.views[vi]? with
  | none => (.bad, s)
  | some v =>
    if 0 ≤ idx && idx < (v.length : Int) then
      if !s.attached v.buf then (.undef, s) else
      let r := s.readElem v idx.toNat
      (.val (decode v.kind r.1), r.2)
    else (.undef, s)

/-- `_putIdx` (typedarrays.go:810): convert first (callback point), then `isValidIntegerIndex`, then write. -/
def opPut (s : State) (vi : Nat) (idx : Int) (a : VArg) : Res × State :=
  match s.views[vi]? with
  | none => (.bad, s)
  | some v =>
    let s := s.applyDet a.det
    match encode v.kind a.num with
    | none => (.err .type, s)
    | some raw =>
      if isValidIntegerIndex (s.attached v.buf) v.length idx then
        (.ok, s.writeElem v idx.toNat raw)
      else (.ok, s)

/-! ## fill -/

def fillLoop (s : State) (v : View) (raw : List UInt8) (k : Nat) : Nat → State
  | 0 => s
  | n + 1 => fillLoop (s.writeElem v k raw) v raw (k + 1) n

/-- `typedArrayProto_fill` (builtin_typedarrays.go:519). -/
def opFill (s : State) (vi : Nat) (a : VArg) (start fin : Option IArg) : Res × State :=
  match s.views[vi]? with
  | none => (.bad, s)
  | some v =>
    -- 521
    if !s.attached v.buf then (.err .type, s) else
    let l : Int := v.length
    -- 523
    let s := s.applyDet (oDet start)
    let k := relToIdx (oVal start 0) l
    -- 525-530
    let s := s.applyDet (oDet fin)
    let final := relToIdx (oVal fin l) l
    -- 531: toRaw (callback point; TypeError on BigInt mix)
    let s := s.applyDet a.det
    match encode v.kind a.num with
    | none => (.err .type, s)
    | some raw =>
      -- 532
      if !s.attached v.buf then (.err .type, s) else
      (.ok, fillLoop s v raw k.toNat (final.toNat - k.toNat))

/-! ## copyWithin -/

/-- builtin_typedarrays.go:473-476: `count := final - from; if c := l - to; c < count { count = c }`
(the clamp added by commit b85e9cc). -/
def cwCount (l to' from' final : Int) : Int :=
  if l - to' < final - from' then l - to' else final - from'

/-- `typedArrayProto_copyWithin` (builtin_typedarrays.go:457). -/
def opCopyWithin (s : State) (vi : Nat) (to from_ : IArg) (fin : Option IArg) : Res × State :=
  match s.views[vi]? with
  | none => (.bad, s)
  | some v =>
    if !s.attached v.buf then (.err .type, s) else
    let l : Int := v.length
    let s := s.applyDet to.det
    let to' := relToIdx to.val l
    let s := s.applyDet from_.det
    let from' := relToIdx from_.val l
    let s := s.applyDet (oDet fin)
    let final := relToIdx (oVal fin l) l
    -- 473-476: count := final - from; if c := l - to; c < count { count = c }
    let count := cwCount l to' from' final
    if count > 0 then
      -- 478
      if !s.attached v.buf then (.err .type, s) else
      let es := v.kind.size
      -- 479: copy(data[(offset+to)*es:], data[(offset+from)*es:(offset+from+count)*es])
      --      Go's copy moves min(len(dst), len(src)) bytes with memmove semantics
      let srcLo := (v.offset + from'.toNat) * es
      let dstLo := (v.offset + to'.toNat) * es
      let n := min (count.toNat * es) (s.blen v.buf - dstLo)
      let r := s.readRange v.buf srcLo n
      (.ok, r.2.writeRange v.buf dstLo r.1)
    else (.ok, s)

/-! ## set -/

def readElems (s : State) (v : View) (k : Nat) : Nat → List (List UInt8) × State
  | 0 => ([], s)
  | n + 1 =>
    let r := s.readElem v k
    let rs := readElems r.2 v (k + 1) n
    (r.1 :: rs.1, rs.2)

def writeElems (s : State) (v : View) (k : Nat) : List (List UInt8) → State
  | [] => s
  | x :: xs => writeElems (s.writeElem v k x) v (k + 1) xs

/-- re-encode a list of raw source elements for the destination kind; `none` = TypeError. -/
def convElems (src dst : Kind) : List (List UInt8) → Option (List (List UInt8))
  | [] => some []
  | x :: xs =>
    match encode dst (decode src x), convElems src dst xs with
    | some y, some ys => some (y :: ys)
    | _, _ => none

/-- `typedArrayProto_set`, typed-array source (builtin_typedarrays.go:1004-1066).
Bytes: ECMA-262 SetTypedArrayFromTypedArray (source cloned when the buffers are the same). -/
def opSetTA (s : State) (vi si : Nat) (off : Option IArg) : Res × State :=
  match s.views[vi]?, s.views[si]? with
  | some v, some src =>
    -- 1007: targetOffset = ToInteger(arg1)  (callback point)
    let s := s.applyDet (oDet off)
    let targetOffset := oVal off 0
    if targetOffset < 0 then (.err .range, s) else
    -- 1011, 1014
    if !s.attached v.buf then (.err .type, s) else
    if !s.attached src.buf then (.err .type, s) else
    -- 1016
    if (src.length : Int) + targetOffset > (v.length : Int) then (.err .range, s) else
    if src.kind == v.kind then
      -- 1020: copy(dst[(ta.offset+targetOffset)*es:], src[src.offset*es:(src.offset+srcLen)*es])
      let es := v.kind.size
      let dstLo := (v.offset + targetOffset.toNat) * es
      let n := min (src.length * es) (s.blen v.buf - dstLo)
      let r := s.readRange src.buf (src.offset * es) n
      (.ok, r.2.writeRange v.buf dstLo r.1)
    else
      -- 1023: checkTypedArrayMixBigInt: only "source Big, target not Big" is rejected up front
      if src.kind.isBig && !v.kind.isBig then (.err .type, s) else
      let r := readElems s src 0 src.length
      match convElems src.kind v.kind r.1 with
      | none => (.err .type, r.2)     -- per-element ToBigInt(Number) throws at the first element
      | some ys => (.ok, writeElems r.2 v targetOffset.toNat ys)
  | _, _ => (.bad, s)

/-- array-like source loop: per element ToNumber (callback point), then IsValidIntegerIndex, then write
(ECMA-262 SetTypedArrayFromArrayLike → TypedArraySetElement). -/
def setArrLoop (s : State) (v : View) (k : Nat) : List VArg → Res × State
  | [] => (.ok, s)
  | a :: as =>
    let s := s.applyDet a.det
    match encode v.kind a.num with
    | none => (.err .type, s)
    | some raw =>
      let s := if isValidIntegerIndex (s.attached v.buf) v.length (k : Int) then s.writeElem v k raw else s
      setArrLoop s v (k + 1) as

/-- `typedArrayProto_set`, array-like source (builtin_typedarrays.go:1067-1077). -/
def opSetArr (s : State) (vi : Nat) (off : Option IArg) (vals : List VArg) : Res × State :=
  match s.views[vi]? with
  | none => (.bad, s)
  | some v =>
    let s := s.applyDet (oDet off)
    let targetOffset := oVal off 0
    if targetOffset < 0 then (.err .range, s) else
    if !s.attached v.buf then (.err .type, s) else
    if (vals.length : Int) + targetOffset > (v.length : Int) then (.err .range, s) else
    setArrLoop s v targetOffset.toNat vals

/-! ## slice / subarray -/

/-- what the species constructor does: `none` = default constructor; `some (vid, det)` = a user constructor
that detaches `det` and returns the existing typed array `vid`. -/
abbrev Species := Option (Nat × List Nat)

/-- forward byte-by-byte copy with live reads (ECMA-262 %TypedArray%.prototype.slice step 14.g;
builtin_typedarrays.go:1111-1118). -/
def copyFwd (s : State) (sb slo db dlo : Nat) : Nat → State
  | 0 => s
  | n + 1 =>
    let r := s.readByte sb slo
    copyFwd (r.2.writeByte db dlo r.1) sb (slo + 1) db (dlo + 1) n

/-- the species constructor result must name an existing view (generator hygiene, not goja behaviour) -/
def speciesBad (s : State) (sp : Species) : Bool :=
  match sp with
  | some (di, _) => (s.views[di]?).isNone
  | none => false

/-- element-wise forward conversion loop with live reads (builtin_typedarrays.go:1121-1124). -/
def sliceConvLoop (s : State) (src dst : View) (sk dk : Nat) : Nat → Res × State
  | 0 => (.ok, s)
  | n + 1 =>
    -- 1122
    if !s.attached src.buf then (.err .type, s) else
    let r := s.readElem src sk
    match encode dst.kind (decode src.kind r.1) with
    | none => (.err .type, r.2)
    | some raw => sliceConvLoop (r.2.writeElem dst dk raw) src dst (sk + 1) (dk + 1) n

/-- `typedArrayProto_slice` (builtin_typedarrays.go:1083).  A view/buffer allocated by the default
constructor becomes part of the state only when the call returns it (on a throw it is unreachable). -/
def opSlice (s : State) (vi : Nat) (start fin : Option IArg) (sp : Species) : Res × State :=
  match s.views[vi]? with
  | none => (.bad, s)
  | some v =>
    if speciesBad s sp then (.bad, s) else
    -- 1085
    if !s.attached v.buf then (.err .type, s) else
    let l : Int := v.length
    let s := s.applyDet (oDet start)
    let st := relToIdx (oVal start 0) l
    let s := s.applyDet (oDet fin)
    let en := relToIdx (oVal fin l) l
    let count := (en - st).toNat      -- 1096-1099
    let es := v.kind.size
    -- 1100: typedArraySpeciesCreate(ta, [count]) → typedArrayCreate validation (1395-1409)
    match sp with
    | none =>
      -- default constructor: allocateTypedArray (1382): fresh zeroed buffer
      let dst : View := ⟨s.bufs.length, 0, count, v.kind⟩
      let s1 := { s with bufs := s.bufs ++ [some (List.replicate (count * es) 0)] }
      if count > 0 then
        -- 1103
        if !s.attached v.buf then (.err .type, s) else
        let s2 := copyFwd s1 v.buf ((v.offset + st.toNat) * es) dst.buf (dst.offset * es) (count * es)
        (.view 0 count, { s2 with views := s2.views ++ [dst] })
      else (.view 0 count, { s1 with views := s1.views ++ [dst] })
    | some (di, det) =>
      match s.views[di]? with
      | none => (.bad, s)
      | some dst =>
        let s := s.applyDet det
        -- 1398: ensureNotDetached(true); 1401: ta.length < l ⇒ TypeError
        if !s.attached dst.buf then (.err .type, s) else
        if dst.length < count then (.err .type, s) else
        if dst.kind == v.kind then
          if count > 0 then
            if !s.attached v.buf then (.err .type, s) else
            let s2 := copyFwd s v.buf ((v.offset + st.toNat) * es) dst.buf (dst.offset * es) (count * es)
            (viewRes (s2.attached dst.buf) dst.lo dst.length, { s2 with views := s2.views ++ [dst] })
          else (viewRes (s.attached dst.buf) dst.lo dst.length, { s with views := s.views ++ [dst] })
        else
          match sliceConvLoop s v dst st.toNat 0 count with
          | (.ok, s2) => (viewRes (s2.attached dst.buf) dst.lo dst.length, { s2 with views := s2.views ++ [dst] })
          | r => r

/-- `typedArrayProto_subarray` (builtin_typedarrays.go:1175). No detach check of its own; the default
constructor path re-validates everything in `_newTypedArrayFromArrayBuffer`. -/
def opSubarray (s : State) (vi : Nat) (start fin : Option IArg) (sp : Species) : Res × State :=
  match s.views[vi]? with
  | none => (.bad, s)
  | some v =>
    if speciesBad s sp then (.bad, s) else
    let l : Int := v.length
    let s := s.applyDet (oDet start)
    let b := relToIdx (oVal start 0) l
    let s := s.applyDet (oDet fin)
    let e := relToIdx (oVal fin l) l
    let newLen := max (e - b) 0
    match sp with
    | none =>
      opNewView s v.kind v.buf (some ⟨((v.offset : Int) + b) * (v.kind.size : Int), []⟩) (some ⟨newLen, []⟩)
    | some (di, det) =>
      match s.views[di]? with
      | none => (.bad, s)
      | some dst =>
        let s := s.applyDet det
        if !s.attached dst.buf then (.err .type, s) else
        (viewRes (s.attached dst.buf) dst.lo dst.length, { s with views := s.views ++ [dst] })

/-! ## sort / reverse -/

/-- default `%TypedArray%.prototype.sort` order on decoded elements (ECMA-262 TypedArray SortCompare;
typedarrays.go `less` methods and `typedFloatLess`:517): numbers ascending, −0 before +0, NaN last. -/
def numLess (x y : Num) : Bool :=
  match x, y with
  | .int a, .int b => a < b
  | .big a, .big b => a < b
  | .dbl a, .dbl b =>
    let an := f64IsNaN a
    let bn := f64IsNaN b
    if bn then !an else if an then false else
    let am := a % 2 ^ 63
    let bm := b % 2 ^ 63
    match f64Sign a, f64Sign b with
    | true, false => true          -- includes −0 < +0
    | false, true => false
    | false, false => am < bm
    | true, true => bm < am
  | _, _ => false

/-- stable insertion (insert after all elements that are not greater). -/
def insertBy (lt : α → α → Bool) (x : α) : List α → List α
  | [] => [x]
  | y :: ys => if lt x y then x :: y :: ys else y :: insertBy lt x ys

def stableSort (lt : α → α → Bool) (xs : List α) : List α :=
  xs.foldl (fun acc x => insertBy lt x acc) []

/-- comparator used by the generator: `none` = default order; `some det` = a consistent user comparator
(descending by the default order) whose FIRST call detaches `det` (it is called iff length ≥ 2). -/
abbrev Cmp := Option (List Nat)

/-- `typedArrayProto_sort` (builtin_typedarrays.go:1155) + `typedArraySortCtx`. When the sorted buffer itself
is detached by the comparator the remaining Less/Swap calls are no-ops (checkDetached, line 27); the bytes
of a detached buffer are not part of the state, so the model only records the detach. -/
def opSort (s : State) (vi : Nat) (cmp : Cmp) : Res × State :=
  match s.views[vi]? with
  | none => (.bad, s)
  | some v =>
    if !s.attached v.buf then (.err .type, s) else
    match cmp with
    | none =>
      let r := readElems s v 0 v.length
      let sorted := stableSort (fun a b => numLess (decode v.kind a) (decode v.kind b)) r.1
      (.ok, writeElems r.2 v 0 sorted)
    | some det =>
      if v.length < 2 then (.ok, s) else
      -- sort.Stable reads elements 1 and 0 for the first Less call, then the comparator runs; the model reads the whole
      -- view at that point (a superset of those touches, all of them before the callback)
      let r := readElems s v 0 v.length
      let s := r.2.applyDet det
      if !s.attached v.buf then (.ok, s) else
      let sorted := stableSort (fun a b => numLess (decode v.kind b) (decode v.kind a)) r.1
      (.ok, writeElems s v 0 sorted)

/-! ### the comparator protocol of `typedArraySortCtx` (builtin_typedarrays.go:16-74)

`sort.Stable` drives the sort through `Less(i, j)` / `Swap(i, j)` with `i, j < Len()`.  Which calls it makes depends
on the comparator's answers; the model therefore takes an ARBITRARY sequence of calls. -/

/-- `typedArraySortCtx.{needValidate, detached}` -/
structure SortCtx where
  needValidate : Bool := false
  detached : Bool := false
  deriving Repr, Inhabited

inductive SortCall
  /-- `Less(i, j)` with a user comparator whose call detaches `det` -/
  | less (i j : Nat) (det : List Nat)
  | swap (i j : Nat)
  deriving Repr

/-- `checkDetached` (builtin_typedarrays.go:27): re-read the buffer state only after a comparator call -/
def checkDetached (s : State) (v : View) (c : SortCtx) : SortCtx :=
  if !c.detached && c.needValidate then { detached := !s.attached v.buf, needValidate := false } else c

/-- `Less` (line 34, comparator present) and `Swap` (line 67) -/
def sortCall (s : State) (v : View) (c : SortCtx) : SortCall → State × SortCtx
  | .less i j det =>
    let c := checkDetached s v c
    if c.detached then (s, c) else
    let r1 := s.readElem v i
    let r2 := r1.2.readElem v j
    -- the comparator runs (callback point), then `needValidate = true`
    (r2.2.applyDet det, { c with needValidate := true })
  | .swap i j =>
    let c := checkDetached s v c
    if c.detached then (s, c) else
    let r1 := s.readElem v i
    let r2 := r1.2.readElem v j
    ((r2.2.writeElem v i r2.1).writeElem v j r1.1, c)

def sortCalls (s : State) (v : View) (c : SortCtx) : List SortCall → State × SortCtx
  | [] => (s, c)
  | x :: xs => let r := sortCall s v c x; sortCalls r.1 v r.2 xs

/-- seeded mutation C17-m2: `Swap` without `ctx.checkDetached()` -/
def swapNoRecheck (s : State) (v : View) (c : SortCtx) (i j : Nat) : State :=
  if c.detached then s else
  let r1 := s.readElem v i
  let r2 := r1.2.readElem v j
  (r2.2.writeElem v i r2.1).writeElem v j r1.1

/-- `typedArrayProto_reverse` (builtin_typedarrays.go:989). -/
def opReverse (s : State) (vi : Nat) : Res × State :=
  match s.views[vi]? with
  | none => (.bad, s)
  | some v =>
    if !s.attached v.buf then (.err .type, s) else
    let r := readElems s v 0 v.length
    (.ok, writeElems r.2 v 0 r.1.reverse)

/-! ## DataView -/

/-- `dataViewProto_get*` (builtin_typedarrays.go:238-308) + `getIdxAndByteOrder` (typedarrays.go:1094). -/
def opDVGet (s : State) (di : Nat) (k : Kind) (idx : IArg) (le : Bool) : Res × State :=
  match s.dvs[di]? with
  | none => (.bad, s)
  | some d =>
    let s := s.applyDet idx.det
    if !toIndexOk idx.val then (.err .range, s) else
    if !s.attached d.buf then (.err .type, s) else
    if !dvRangeOk idx.val k.size d.byteLen then (.err .range, s) else
    let r := s.readRange d.buf (idx.val.toNat + d.byteOffset) k.size
    let bs := if le then r.1 else r.1.reverse
    (.val (decode k bs), r.2)

/-- `dataViewProto_set*` (builtin_typedarrays.go:310-418): ToIndex, value conversion, then detach/range test. -/
def opDVSet (s : State) (di : Nat) (k : Kind) (idx : IArg) (a : VArg) (le : Bool) : Res × State :=
  match s.dvs[di]? with
  | none => (.bad, s)
  | some d =>
    let s := s.applyDet idx.det
    if !toIndexOk idx.val then (.err .range, s) else
    let s := s.applyDet a.det
    match encode k a.num with
    | none => (.err .type, s)
    | some raw =>
      if !s.attached d.buf then (.err .type, s) else
      if !dvRangeOk idx.val k.size d.byteLen then (.err .range, s) else
      let bs := fit k.size raw
      (.ok, s.writeRange d.buf (idx.val.toNat + d.byteOffset) (if le then bs else bs.reverse))

/-! ## operations that return a freshly allocated typed array -/

def zeros (n : Nat) : List UInt8 := List.replicate n 0

/-- bytes of a fresh typed array whose elements are `elems` (each exactly `es` bytes) -/
def freshBytes (es : Nat) : List (List UInt8) → List UInt8
  | [] => []
  | x :: xs => fit es x ++ freshBytes es xs

/-- a typed array allocated by the default constructor (allocateTypedArray, builtin_typedarrays.go:1382) becomes
part of the state when the call returns it; until then no user code can reach it. -/
def pushFresh (s : State) (kind : Kind) (elems : List (List UInt8)) : State :=
  { s with bufs := s.bufs ++ [some (freshBytes kind.size elems)],
           views := s.views ++ [⟨s.bufs.length, 0, elems.length, kind⟩] }

/-- `typedArrayProto_toReversed` (builtin_typedarrays.go:1265). -/
def opToReversed (s : State) (vi : Nat) : Res × State :=
  match s.views[vi]? with
  | none => (.bad, s)
  | some v =>
    if !s.attached v.buf then (.err .type, s) else
    let r := readElems s v 0 v.length
    -- 1276-1280: element-wise get → set through a Value (a NaN is re-encoded as goja's NaN)
    (.view 0 v.length, pushFresh r.2 v.kind (r.1.reverse.map (fun x => (encode v.kind (decode v.kind x)).getD x)))

/-- `typedArrayProto_toSorted` (builtin_typedarrays.go:1285): the copy is sorted, so a comparator that detaches
the receiver's buffer does not change the result. -/
def opToSorted (s : State) (vi : Nat) (cmp : Cmp) : Res × State :=
  match s.views[vi]? with
  | none => (.bad, s)
  | some v =>
    if !s.attached v.buf then (.err .type, s) else
    let r := readElems s v 0 v.length
    match cmp with
    | none =>
      (.view 0 v.length, pushFresh r.2 v.kind (stableSort (fun a b => numLess (decode v.kind a) (decode v.kind b)) r.1))
    | some det =>
      let s2 := if v.length < 2 then r.2 else r.2.applyDet det
      (.view 0 v.length, pushFresh s2 v.kind (stableSort (fun a b => numLess (decode v.kind b) (decode v.kind a)) r.1))

/-- builtin_typedarrays.go:1241-1245: `actualIndex` of `with` -/
def withIndex (rel len : Int) : Int := if rel ≥ 0 then rel else len + rel

/-- `typedArrayProto_with` (builtin_typedarrays.go:1230). -/
def opWith (s : State) (vi : Nat) (idx : IArg) (a : VArg) : Res × State :=
  match s.views[vi]? with
  | none => (.bad, s)
  | some v =>
    if !s.attached v.buf then (.err .type, s) else
    -- 1238-1245
    let s := s.applyDet idx.det
    let actual : Int := withIndex idx.val v.length
    -- 1247-1253
    let s := s.applyDet a.det
    match encode v.kind a.num with
    | none => (.err .type, s)
    | some raw =>
      -- 1255
      if !isValidIntegerIndex (s.attached v.buf) v.length actual then (.err .range, s) else
      let r := readElems s v 0 v.length
      (.view 0 v.length, pushFresh r.2 v.kind (r.1.set actual.toNat raw))

/-- builtin_typedarrays.go:554-563: raw bytes of element `k`, or zeros once the buffer is detached -/
def filterRead (s : State) (v : View) (k : Nat) : List UInt8 × State :=
  if s.attached v.buf then s.readElem v k else (zeros v.kind.size, s)

/-- `typedArrayProto_filter` loop (builtin_typedarrays.go:553-569): the element is captured before the callback
runs; once the buffer is detached the remaining elements are `undefined` / zero bytes. `detAt` = the call during
which the adversary detaches. -/
def filterLoop (s : State) (v : View) (keep : List Bool) (detAt : Nat) (det : List Nat) (k : Nat) :
    Nat → List (List UInt8) → State × List (List UInt8)
  | 0, acc => (s, acc)
  | n + 1, acc =>
    let r := filterRead s v k
    let s := if k == detAt then r.2.applyDet det else r.2
    filterLoop s v keep detAt det (k + 1) n (if keep.getD k false then acc ++ [r.1] else acc)

/-- `typedArrayProto_filter` (builtin_typedarrays.go:541). With a user species constructor (570-583) the kept elements
are first collected in a private array of the receiver's type and then moved, value by value, into the typed array the
constructor returned (validated by typedArrayCreate: attached, long enough; no user code runs after that). -/
def opFilter (s : State) (vi : Nat) (keep : List Bool) (detAt : Nat) (det : List Nat) (sp : Species := none) : Res × State :=
  match s.views[vi]? with
  | none => (.bad, s)
  | some v =>
    if speciesBad s sp then (.bad, s) else
    if !s.attached v.buf then (.err .type, s) else
    let r := filterLoop s v keep detAt det 0 v.length []
    match sp with
    | none => (.view 0 r.2.length, pushFresh r.1 v.kind r.2)
    | some (di, sdet) =>
      match s.views[di]? with
      | none => (.bad, s)
      | some dst =>
        let s2 := r.1.applyDet sdet
        -- typedArrayCreate (1395-1409)
        if !s2.attached dst.buf then (.err .type, s2) else
        if dst.length < r.2.length then (.err .type, s2) else
        match convElems v.kind dst.kind r.2 with
        | none => (.err .type, s2)
        | some ys =>
          let s3 := writeElems s2 dst 0 ys
          (viewRes (s3.attached dst.buf) dst.lo dst.length, { s3 with views := s3.views ++ [dst] })

/-- what the callback of `map` / the element list of `of` / `from` yields at position `k` -/
def valAt (vals : List VArg) (k : Nat) : VArg := vals.getD k ⟨.undef, []⟩

/-- builtin_typedarrays.go:904: the source element of `map` is read only while it is a valid index -/
def mapRead (s : State) (v : View) (k : Nat) : State :=
  if s.attached v.buf then (s.readElem v k).2 else s

/-- ECMA-262 TypedArraySetElement after the conversion: write iff IsValidIntegerIndex -/
def putValid (s : State) (dst : View) (k : Nat) (raw : List UInt8) : State :=
  if isValidIntegerIndex (s.attached dst.buf) dst.length (k : Int) then s.writeElem dst k raw else s

/-- `map` with the default constructor: ECMA-262 %TypedArray%.prototype.map steps 7-8 (Get, Call, Set) where the
target is private: each callback result is converted (callback point) and stored. -/
def mapLoopFresh (s : State) (v : View) (vals : List VArg) (k : Nat) :
    Nat → List (List UInt8) → Res × State × List (List UInt8)
  | 0, acc => (.ok, s, acc)
  | n + 1, acc =>
    -- 904: the source element is read only while it is a valid index
    let s := mapRead s v k
    let s := s.applyDet (valAt vals k).det
    match encode v.kind (valAt vals k).num with
    | none => (.err .type, s, acc)
    | some raw => mapLoopFresh s v vals (k + 1) n (acc ++ [raw])

/-- `map` into a typed array returned by a user species constructor: ECMA-262 TypedArraySetElement — convert
(callback point), then IsValidIntegerIndex on the TARGET, then write. -/
def mapLoopDst (s : State) (v dst : View) (vals : List VArg) (k : Nat) : Nat → Res × State
  | 0 => (.ok, s)
  | n + 1 =>
    let s := mapRead s v k
    let s := s.applyDet (valAt vals k).det
    match encode dst.kind (valAt vals k).num with
    | none => (.err .type, s)
    | some raw => mapLoopDst (putValid s dst k raw) v dst vals (k + 1) n

/-- `typedArrayProto_map` (builtin_typedarrays.go:894). -/
def opMap (s : State) (vi : Nat) (sp : Species) (vals : List VArg) : Res × State :=
  match s.views[vi]? with
  | none => (.bad, s)
  | some v =>
    if speciesBad s sp then (.bad, s) else
    -- 896
    if !s.attached v.buf then (.err .type, s) else
    match sp with
    | none =>
      let r := mapLoopFresh s v vals 0 v.length []
      if r.1.isOk then (.view 0 v.length, pushFresh r.2.1 v.kind r.2.2) else (r.1, r.2.1)
    | some (di, det) =>
      match s.views[di]? with
      | none => (.bad, s)
      | some dst =>
        -- 902: typedArraySpeciesCreate(ta, [length]) → typedArrayCreate validation (1395-1409)
        let s := s.applyDet det
        if !s.attached dst.buf then (.err .type, s) else
        if dst.length < v.length then (.err .type, s) else
        match mapLoopDst s v dst vals 0 v.length with
        | (.ok, s2) => (viewRes (s2.attached dst.buf) dst.lo dst.length, { s2 with views := s2.views ++ [dst] })
        | r => r

/-- convert a list of values in order (callback point each); `none` result = TypeError -/
def convVals (s : State) (kind : Kind) : List VArg → List (List UInt8) → Res × State × List (List UInt8)
  | [], acc => (.ok, s, acc)
  | a :: as, acc =>
    let s := s.applyDet a.det
    match encode kind a.num with
    | none => (.err .type, s, acc)
    | some raw => convVals s kind as (acc ++ [raw])

/-- the constructor `%TypedArray%.of` / `.from` is applied to: a built-in typed array constructor, or a user
function that detaches and returns an existing typed array. -/
inductive Ctor
  | builtin (k : Kind)
  | user (vid : Nat) (det : List Nat)

/-- `typedArray_of` / `typedArray_from` (builtin_typedarrays.go:1323, 1373): TypedArrayCreate(C, len), then
Set(newObj, k, value) for every value — TypedArraySetElement: convert, validate the index, write at VIEW index k. -/
def opOf (s : State) (c : Ctor) (vals : List VArg) : Res × State :=
  match c with
  | .builtin kind =>
    let r := convVals s kind vals []
    if r.1.isOk then (.view 0 vals.length, pushFresh r.2.1 kind r.2.2) else (r.1, r.2.1)
  | .user di det =>
    match s.views[di]? with
    | none => (.bad, s)
    | some dst =>
      let s := s.applyDet det
      -- typedArrayCreate (1395-1409)
      if !s.attached dst.buf then (.err .type, s) else
      if dst.length < vals.length then (.err .type, s) else
      match setArrLoop s dst 0 vals with
      | (.ok, s2) => (viewRes (s2.attached dst.buf) dst.lo dst.length, { s2 with views := s2.views ++ [dst] })
      | r => r

/-- what `ArrayBuffer.prototype.slice`'s species constructor does: `none` = %ArrayBuffer%; `some (b, det)` = a user
constructor that detaches `det` and returns the existing buffer `b` -/
abbrev BufSpecies := Option (Nat × List Nat)

/-- `arrayBufferProto_slice` (builtin_typedarrays.go:111).  Follows goja in two places where ECMA-262 throws a TypeError
without touching memory: an already detached receiver behaves as an empty buffer, and a receiver detached by an argument
coercion is only rejected when `newLen > 0`. -/
def opABSlice (s : State) (b : Nat) (start fin : Option IArg) (sp : BufSpecies := none) : Res × State :=
  if b ≥ s.bufs.length then (.bad, s) else
  let l : Int := s.blen b
  let s := s.applyDet (oDet start)
  let st := relToIdx (oVal start 0) l
  let s := s.applyDet (oDet fin)
  let en := relToIdx (oVal fin l) l
  let newLen := (en - st).toNat
  match sp with
  | none =>
    if newLen > 0 then
      -- 127
      if !s.attached b then (.err .type, s) else
      let r := s.readRange b st.toNat newLen
      (.view 0 newLen, { r.2 with bufs := r.2.bufs ++ [some r.1] })
    else (.view 0 0, { s with bufs := s.bufs ++ [some []] })
  | some (nb, sdet) =>
    if nb ≥ s.bufs.length then (.bad, s) else
    -- 124: the species constructor runs (callback point) and returns buffer `nb`
    let s := s.applyDet sdet
    if newLen > 0 then
      -- 127-134
      if !s.attached b then (.err .type, s) else
      if nb == b then (.err .type, s) else
      if s.blen nb < newLen then (.err .type, s) else
      -- 135: copy(ab.data, b.data[start:stop])
      let r := s.readRange b st.toNat newLen
      let s2 := r.2.writeRange nb 0 r.1
      (.view 0 (s2.blen nb), s2)
    else (.view 0 (s.blen nb), s)

/-! ## reading methods: every element they look at must lie inside the view -/

inductive SearchMode | indexOf | lastIndexOf | includes
  deriving DecidableEq, Repr

def toDbl? : Num → Option Nat
  | .int i => some (intToF64 i)
  | .dbl b => some b
  | _ => none

def numIsNaN : Num → Bool
  | .dbl b => f64IsNaN b
  | _ => false

/-- ECMA-262 IsStrictlyEqual (`svz = false`: indexOf, lastIndexOf) / SameValueZero (`svz = true`: includes) between a
decoded element and the search value: ±0 are equal, NaN equals NaN only under SameValueZero, BigInt ≠ Number. -/
def numEq (svz : Bool) (x y : Num) : Bool :=
  match x, y with
  | .big a, .big b => a == b
  | .big _, _ => false
  | _, .big _ => false
  | _, _ =>
    match toDbl? x, toDbl? y with
    | some a, some b =>
      if f64IsNaN a || f64IsNaN b then svz && f64IsNaN a && f64IsNaN b
      else if a % 2 ^ 63 == 0 && b % 2 ^ 63 == 0 then true
      else a == b
    | _, _ => false

/-- ascending scan of elements `k, k+1, …` (n of them) -/
def scanUp (s : State) (v : View) (svz : Bool) (se : Num) (k : Nat) : Nat → Option Nat × State
  | 0 => (none, s)
  | n + 1 =>
    let r := s.readElem v k
    if numEq svz (decode v.kind r.1) se then (some k, r.2) else scanUp r.2 v svz se (k + 1) n

/-- descending scan of elements `n-1, …, 0` -/
def scanDown (s : State) (v : View) (se : Num) : Nat → Option Nat × State
  | 0 => (none, s)
  | n + 1 =>
    let r := s.readElem v n
    if numEq false (decode v.kind r.1) se then (some n, r.2) else scanDown r.2 v se n

/-- builtin_typedarrays.go:774-781 / 714-721: start index of indexOf / includes (`n < length` already known) -/
def firstFrom (n l : Int) : Int := if n < 0 then max (l + n) 0 else n

/-- builtin_typedarrays.go:860-872: start index of lastIndexOf: `length-1` without a second argument, otherwise
`min(fromIndex, length-1)` for fromIndex ≥ 0 and `fromIndex + length` (or −1) for a negative one. -/
def lastFrom (from_ : Option IArg) (l : Int) : Int :=
  match from_ with
  | none => l - 1
  | some a => if a.val ≥ 0 then min a.val (l - 1) else (if a.val + l < 0 then -1 else a.val + l)

def notFound (mode : SearchMode) : Res :=
  match mode with
  | .includes => .bool false
  | _ => .val (.int (-1))

def foundRes (mode : SearchMode) (r : Option Nat) : Res :=
  match mode, r with
  | .includes, some _ => .bool true
  | .includes, none => .bool false
  | _, some k => .val (.int k)
  | _, none => .val (.int (-1))

def typeOk (k : Kind) (se : Num) : Bool :=
  match se with
  | .big _ => k.isBig
  | .undef => false
  | _ => !k.isBig

/-- `typedArrayProto_indexOf` / `_lastIndexOf` / `_includes` (builtin_typedarrays.go:706, 766, 850). -/
def opSearch (s : State) (vi : Nat) (mode : SearchMode) (se : Num) (from_ : Option IArg) : Res × State :=
  match s.views[vi]? with
  | none => (.bad, s)
  | some v =>
    if !s.attached v.buf then (.err .type, s) else
    let l : Int := v.length
    if l == 0 then (notFound mode, s) else
    let s := s.applyDet (oDet from_)
    if mode == .lastIndexOf then
      let fi := lastFrom from_ l
      if !s.attached v.buf || numIsNaN se || !typeOk v.kind se then (notFound mode, s) else
      let r := scanDown s v se (fi + 1).toNat
      (foundRes mode r.1, r.2)
    else
      let n := oVal from_ 0
      if n ≥ l then (notFound mode, s) else
      let n' := firstFrom n l
      if !s.attached v.buf || (mode == .indexOf && numIsNaN se) || !typeOk v.kind se then (notFound mode, s) else
      let r := scanUp s v (mode == .includes) se n'.toNat (l - n').toNat
      (foundRes mode r.1, r.2)

/-- builtin_typedarrays.go:752-757: index of `at` -/
def atIndex (idx l : Int) : Int := if idx < 0 then l + idx else idx

/-- `typedArrayProto_at` (builtin_typedarrays.go:747). -/
def opAt (s : State) (vi : Nat) (idx : IArg) : Res × State :=
  match s.views[vi]? with
  | none => (.bad, s)
  | some v =>
    if !s.attached v.buf then (.err .type, s) else
    let s := s.applyDet idx.det
    let i := atIndex idx.val v.length
    if i ≥ (v.length : Int) || i < 0 then (.undef, s) else
    if !s.attached v.buf then (.undef, s) else
    let r := s.readElem v i.toNat
    (.val (decode v.kind r.1), r.2)

/-- what a callback / iterator step sees at index `k`: the element while `isValidIntegerIndex(k)`, else undefined -/
def visitRead (s : State) (v : View) (k : Nat) : Option Num × State :=
  if s.attached v.buf then
    let r := s.readElem v k
    (some (decode v.kind r.1), r.2)
  else (none, s)

/-- every / some / find* / forEach / reduce* / values() / entries(): visit the indices in ascending (`bwd = false`) or
descending order; call number `detAt` detaches `det`. `i` = number of calls made so far. -/
def visitLoop (s : State) (v : View) (bwd : Bool) (detAt : Nat) (det : List Nat) (i : Nat) :
    Nat → List (Option Num) → State × List (Option Num)
  | 0, acc => (s, acc)
  | n + 1, acc =>
    let r := visitRead s v (if bwd then n else i)
    let s := if i == detAt then r.2.applyDet det else r.2
    visitLoop s v bwd detAt det (i + 1) n (acc ++ [r.1])

/-- `arrayIterObject.next` on a typed array (array.go:20): TypeError once the buffer is detached (checked before the
length test, as long as the iterator is not exhausted), otherwise the element at the next index. `i` = index, fuel =
remaining steps including the final "done" step; after yielding element `detAt` the adversary detaches. -/
def iterLoop (s : State) (v : View) (detAt : Nat) (det : List Nat) (i : Nat) :
    Nat → List (Option Num) → Res × State
  | 0, acc => (.vals acc, s)
  | n + 1, acc =>
    if !s.attached v.buf then (.err .type, s) else
    if n == 0 then (.vals acc, s) else      -- index = length: done
    let r := s.readElem v i
    let s := if i == detAt then r.2.applyDet det else r.2
    iterLoop s v detAt det (i + 1) n (acc ++ [some (decode v.kind r.1)])

/-- `values()` / `entries()` driven to exhaustion -/
def opIterate (s : State) (vi : Nat) (detAt : Nat) (det : List Nat) : Res × State :=
  match s.views[vi]? with
  | none => (.bad, s)
  | some v =>
    -- typedArrayProto_values (1212): ensureNotDetached(true)
    if !s.attached v.buf then (.err .type, s) else
    iterLoop s v detAt det 0 (v.length + 1) []

def opVisit (s : State) (vi : Nat) (bwd : Bool) (detAt : Nat) (det : List Nat) : Res × State :=
  match s.views[vi]? with
  | none => (.bad, s)
  | some v =>
    if !s.attached v.buf then (.err .type, s) else
    let r := visitLoop s v bwd detAt det 0 v.length []
    (.vals r.2, r.1)

def joinLoop (s : State) (v : View) (k : Nat) : Nat → List (Option Num) → State × List (Option Num)
  | 0, acc => (s, acc)
  | n + 1, acc =>
    let r := visitRead s v k
    joinLoop r.2 v (k + 1) n (acc ++ [r.1])

/-- `typedArrayProto_join` (builtin_typedarrays.go:802) / toString / toLocaleString: the separator is converted first
(callback point), then every element that is still a valid index is read. -/
def opJoin (s : State) (vi : Nat) (det : List Nat) (perElem : Bool := false) : Res × State :=
  match s.views[vi]? with
  | none => (.bad, s)
  | some v =>
    -- join (804) validates on entry; toLocaleString (1200) only inside its loop, so an empty detached array passes
    if !s.attached v.buf && !(perElem && v.length == 0) then (.err .type, s) else
    let s := s.applyDet det
    let r := joinLoop s v 0 v.length []
    (.vals r.2, r.1)

/-- any prototype method that does not write to its receiver (indexOf, join, map, every, …; run on the
implementation side only): the adversary's callback / coercion runs iff the receiver passes the method's entry
check (`needAttached`) and is long enough for the callback to be invoked (`minLen`). -/
def opOther (s : State) (vi : Nat) (needAttached : Bool) (minLen : Nat) (det : List Nat) : Res × State :=
  match s.views[vi]? with
  | none => (.bad, s)
  | some v =>
    if (!needAttached || s.attached v.buf) && decide (minLen ≤ v.length) then (.ok, s.applyDet det) else (.ok, s)

/-! ## operations and histories -/

inductive Op
  | newBuf (bytes : List UInt8)
  | detach (b : Nat)
  /-- `pdet`: buffers detached by the `prototype` getter of newTarget (getPrototypeFromCtor) -/
  | newView (k : Kind) (b : Nat) (off len : Option IArg) (pdet : List Nat)
  | newDV (b : Nat) (off len : Option IArg) (pdet : List Nat)
  | get (v : Nat) (idx : Int)
  | put (v : Nat) (idx : Int) (a : VArg)
  | fill (v : Nat) (a : VArg) (start fin : Option IArg)
  | copyWithin (v : Nat) (to from_ : IArg) (fin : Option IArg)
  | setTA (v src : Nat) (off : Option IArg)
  | setArr (v : Nat) (off : Option IArg) (vals : List VArg)
  | slice (v : Nat) (start fin : Option IArg) (sp : Species)
  | subarray (v : Nat) (start fin : Option IArg) (sp : Species)
  | sort (v : Nat) (cmp : Cmp)
  | reverse (v : Nat)
  | dvGet (d : Nat) (k : Kind) (idx : IArg) (le : Bool)
  | dvSet (d : Nat) (k : Kind) (idx : IArg) (a : VArg) (le : Bool)
  | toReversed (v : Nat)
  | toSorted (v : Nat) (cmp : Cmp)
  | with_ (v : Nat) (idx : IArg) (a : VArg)
  | filter (v : Nat) (keep : List Bool) (detAt : Nat) (det : List Nat) (sp : Species)
  | map (v : Nat) (sp : Species) (vals : List VArg)
  | of_ (c : Ctor) (vals : List VArg)
  | abSlice (b : Nat) (start fin : Option IArg) (sp : BufSpecies)
  | iterate (v : Nat) (detAt : Nat) (det : List Nat)
  | search (v : Nat) (mode : SearchMode) (se : Num) (from_ : Option IArg)
  | at_ (v : Nat) (idx : IArg)
  | visit (v : Nat) (bwd : Bool) (detAt : Nat) (det : List Nat)
  | join (v : Nat) (det : List Nat) (perElem : Bool)
  /-- any read-only prototype method run only on the implementation side (indexOf, join, map, …): the model
  records just the adversary's detaches -/
  | other (v : Nat) (needAttached : Bool) (minLen : Nat) (det : List Nat)

def step (s : State) : Op → Res × State
  | .newBuf bytes => (.ok, { s with bufs := s.bufs ++ [some bytes] })
  | .detach b => (.ok, s.detach b)
  -- builtin_typedarrays.go:1461: getPrototypeFromCtor runs before any argument is looked at
  | .newView k b off len pdet => opNewView (s.applyDet pdet) k b off len
  | .newDV b off len pdet => opNewDV s b off len pdet
  | .get v idx => opGet s v idx
  | .put v idx a => opPut s v idx a
  | .fill v a st fi => opFill s v a st fi
  | .copyWithin v t f e => opCopyWithin s v t f e
  | .setTA v src off => opSetTA s v src off
  | .setArr v off vals => opSetArr s v off vals
  | .slice v st fi sp => opSlice s v st fi sp
  | .subarray v st fi sp => opSubarray s v st fi sp
  | .sort v c => opSort s v c
  | .reverse v => opReverse s v
  | .dvGet d k i le => opDVGet s d k i le
  | .dvSet d k i a le => opDVSet s d k i a le
  | .toReversed v => opToReversed s v
  | .toSorted v c => opToSorted s v c
  | .with_ v i a => opWith s v i a
  | .filter v keep detAt det sp => opFilter s v keep detAt det sp
  | .map v sp vals => opMap s v sp vals
  | .of_ c vals => opOf s c vals
  | .abSlice b st fi sp => opABSlice s b st fi sp
  | .iterate v k det => opIterate s v k det
  | .search v m se fr => opSearch s v m se fr
  | .at_ v i => opAt s v i
  | .visit v bwd k det => opVisit s v bwd k det
  | .join v det pe => opJoin s v det pe
  | .other v needAttached minLen det => opOther s v needAttached minLen det

def run (s : State) : List Op → State
  | [] => s
  | op :: ops => run (step s op).2 ops

end GojaModel.C17
