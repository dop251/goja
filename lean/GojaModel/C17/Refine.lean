/-
  C17 — the overlap **direction rule** for lists of arbitrary units: an ascending (`copyUp`) or descending (`copyDown`)
  live copy equals clone-then-write (`cloneWrite`) when it runs in the right direction, by induction on the copy itself:
  the unit stored now is not among the source units still to be read.  Then memmove = ECMA-262's copyWithin byte loop.
-/
import GojaModel.C17.ByteArr

namespace GojaModel.C17

section Direction
variable {α : Type} (dflt : α)

/-- ECMA-262 copyWithin direction +1 / goja's forward loops -/
def copyUp (f : α → α) (a : List α) (src dst : Nat) : Nat → List α
  | 0 => a
  | n + 1 => copyUp f (a.set dst (f (a.getD src dflt))) (src + 1) (dst + 1) n

/-- ECMA-262 copyWithin direction −1 / goja's backward loops -/
def copyDown (f : α → α) (a : List α) (src dst : Nat) : Nat → List α
  | 0 => a
  | n + 1 => copyDown f (a.set (dst + n) (f (a.getD (src + n) dflt))) src dst n

theorem copyUp_length (f : α → α) (a : List α) (src dst n : Nat) : (copyUp dflt f a src dst n).length = a.length := by
  induction n generalizing a src dst with
  | zero => rfl
  | succ n ih => simp [copyUp, ih]

theorem copyDown_length (f : α → α) (a : List α) (src dst n : Nat) : (copyDown dflt f a src dst n).length = a.length := by
  induction n generalizing a with
  | zero => rfl
  | succ n ih => simp [copyDown, ih]

/-- clone-then-write: the result ECMA-262 prescribes when source and target share a buffer
(SetTypedArrayFromTypedArray clones the source; copyWithin's direction rule has the same effect) -/
def cloneWrite (f : α → α) (a : List α) (src dst n : Nat) : List α :=
  gsplice a dst ((gwindow dflt a src n).map f)

theorem cloneWrite_getD (f : α → α) (a : List α) (src dst n : Nat) (hlen : dst + n ≤ a.length) (j : Nat) :
    (cloneWrite dflt f a src dst n).getD j dflt =
      if dst ≤ j ∧ j < dst + n then f (a.getD (src + (j - dst)) dflt) else a.getD j dflt := by
  unfold cloneWrite
  rw [gsplice_getD, List.length_map, gwindow_length]
  by_cases c : dst ≤ j ∧ j < dst + n
  · rw [if_pos ⟨c.1, c.2, by omega⟩, if_pos c]
    rw [List.getD_eq_getElem?_getD, List.getElem?_map]
    have hw := gwindow_getD dflt a src n (j - dst) (by omega)
    rw [List.getD_eq_getElem?_getD] at hw
    have hlt : j - dst < (gwindow dflt a src n).length := by rw [gwindow_length]; omega
    rw [List.getElem?_eq_getElem hlt] at hw ⊢
    simp only [Option.map_some, Option.getD_some] at hw ⊢
    rw [hw]
  · rw [if_neg c, if_neg (by omega)]

theorem copyUp_eq_clone (f : α → α) : ∀ (n : Nat) (a : List α) (src dst : Nat), (dst ≤ src ∨ src + n ≤ dst) →
    copyUp dflt f a src dst n = cloneWrite dflt f a src dst n := by
  intro n
  induction n with
  | zero => intro a src dst _; rfl
  | succ n ih =>
    intro a src dst h
    -- the unit stored now is not among the source units still to be read
    rw [copyUp, ih _ _ _ (by omega), cloneWrite, gwindow_set_outside dflt a dst _ n (src + 1) (by omega)]
    rfl

theorem copyDown_eq_clone (f : α → α) : ∀ (n : Nat) (a : List α) (src dst : Nat), src < dst →
    copyDown dflt f a src dst n = cloneWrite dflt f a src dst n := by
  intro n
  induction n with
  | zero => intro a src dst _; rfl
  | succ n ih =>
    intro a src dst h
    have hl : ((gwindow dflt a src n).map f).length = n := by rw [List.length_map, gwindow_length]
    -- the last unit is stored first: it lies behind every source unit still to be read, and behind the rest of the splice
    rw [copyDown, ih _ _ _ h, cloneWrite, cloneWrite, gwindow_set_outside dflt a (dst + n) _ n src (by omega),
      gsplice_set_comm _ _ _ _ _ (by omega), gwindow_succ_last, List.map_append, gsplice_append, hl]
    rfl

theorem copyUp_getD (f : α → α) (n : Nat) (a : List α) (src dst : Nat) (h : dst ≤ src ∨ src + n ≤ dst)
    (hlen : dst + n ≤ a.length) (j : Nat) :
    (copyUp dflt f a src dst n).getD j dflt =
      if dst ≤ j ∧ j < dst + n then f (a.getD (src + (j - dst)) dflt) else a.getD j dflt := by
  rw [copyUp_eq_clone dflt f n a src dst h]; exact cloneWrite_getD dflt f a src dst n hlen j

theorem copyDown_getD (f : α → α) (n : Nat) (a : List α) (src dst : Nat) (h : src < dst)
    (hlen : dst + n ≤ a.length) (j : Nat) :
    (copyDown dflt f a src dst n).getD j dflt =
      if dst ≤ j ∧ j < dst + n then f (a.getD (src + (j - dst)) dflt) else a.getD j dflt := by
  rw [copyDown_eq_clone dflt f n a src dst h]; exact cloneWrite_getD dflt f a src dst n hlen j

/-- **direction rule** (goja's `curDst <= curSrc || curDst >= endSrc` test in `set`, ECMA-262's direction in
copyWithin): ascending live copy equals clone-then-write when the target starts at or before the source or after
its end; descending live copy equals it when the source starts before the target. -/
theorem overlapDir_eq_clone (f : α → α) (a : List α) (src dst n : Nat) (hlen : dst + n ≤ a.length) :
    ((dst ≤ src ∨ src + n ≤ dst) → copyUp dflt f a src dst n = cloneWrite dflt f a src dst n) ∧
    (src < dst → copyDown dflt f a src dst n = cloneWrite dflt f a src dst n) :=
  ⟨copyUp_eq_clone dflt f n a src dst, copyDown_eq_clone dflt f n a src dst⟩

end Direction

/-- ECMA-262 %TypedArray%.prototype.copyWithin step 17 on the byte array: byte-by-byte, descending when
`fromByteIndex < toByteIndex < fromByteIndex + countBytes`, ascending otherwise -/
def specCopyWithinBytes (d : List UInt8) (fromB toB countB : Nat) : List UInt8 :=
  if fromB < toB ∧ toB < fromB + countB then copyDown (0 : UInt8) id d fromB toB countB
  else copyUp (0 : UInt8) id d fromB toB countB

theorem cloneWrite_bytes (d : List UInt8) (src dst n : Nat) :
    cloneWrite (0 : UInt8) id d src dst n = splice d dst (window d src n) := by
  unfold cloneWrite; rw [List.map_id, splice_eq_gsplice, window_eq_gwindow]

/-- memmove (what Go's `copy` does, and what the model's read-all-then-write does) is the ECMA-262 byte loop -/
theorem memmove_eq_specCopyWithin (d : List UInt8) (fromB toB countB : Nat) (h : toB + countB ≤ d.length) :
    splice d toB (window d fromB countB) = specCopyWithinBytes d fromB toB countB := by
  have key := overlapDir_eq_clone (0 : UInt8) id d fromB toB countB h
  unfold specCopyWithinBytes
  split
  · rename_i c; rw [key.2 c.1, cloneWrite_bytes]
  · rename_i c; rw [key.1 (by omega), cloneWrite_bytes]

end GojaModel.C17
