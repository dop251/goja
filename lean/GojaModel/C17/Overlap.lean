/-
  C17 — `set` between typed arrays of DIFFERENT element types on ONE buffer: goja converts element by element with
  LIVE reads, choosing the visiting order so that no source element is overwritten before it has been read
  (builtin_typedarrays.go:1022-1066); ECMA-262 clones the source first.  The two agree: a visiting order that never
  writes a target element over a not-yet-read source element gives the clone-then-write result (`live_eq_clone`), that
  result does not depend on the order (`cloneRun_perm`), and goja's orders are such orders (`setOrderSame_safe`,
  `setOrderDiff_safe`).
-/
import GojaModel.C17.Refine
import GojaModel.C17.Mem

namespace GojaModel.C17

/-- one `set` between two kinds on one buffer: per-element conversion `f`, element sizes of source and target, byte
position of source and target element 0 -/
structure Xfer where
  f : List UInt8 → List UInt8
  sES : Nat
  dES : Nat
  srcLo : Nat
  dstLo : Nat

def Xfer.step (x : Xfer) (from_ d : List UInt8) (i : Nat) : List UInt8 :=
  splice d (x.dstLo + i * x.dES) (fit x.dES (x.f (window from_ (x.srcLo + i * x.sES) x.sES)))

/-- goja: every element is read from the CURRENT bytes -/
def Xfer.live (x : Xfer) (d : List UInt8) : List Nat → List UInt8
  | [] => d
  | i :: is => x.live (x.step d d i) is

/-- ECMA-262: every element is read from the bytes as they were before (`d0`, the cloned source) -/
def Xfer.clone (x : Xfer) (d0 d : List UInt8) : List Nat → List UInt8
  | [] => d
  | i :: is => x.clone d0 (x.step d0 d i) is

def Xfer.disj (x : Xfer) (j i : Nat) : Prop :=
  x.dstLo + j * x.dES + x.dES ≤ x.srcLo + i * x.sES ∨ x.srcLo + i * x.sES + x.sES ≤ x.dstLo + j * x.dES

/-- `order` never stores a target element over a source element that is still to be read (`done` = already stored) -/
def Xfer.Safe (x : Xfer) : List Nat → List Nat → Prop
  | _, [] => True
  | done, i :: is => (∀ j ∈ done, x.disj j i) ∧ x.Safe (i :: done) is

theorem step_length (x : Xfer) (from_ d : List UInt8) (i : Nat) : (x.step from_ d i).length = d.length := by
  unfold Xfer.step; rw [splice_length]

theorem live_length (x : Xfer) : ∀ (order : List Nat) (d : List UInt8), (x.live d order).length = d.length := by
  intro order
  induction order with
  | nil => intro d; rfl
  | cons i is ih => intro d; simp only [Xfer.live]; rw [ih, step_length]

theorem clone_length (x : Xfer) (d0 : List UInt8) : ∀ (order : List Nat) (d : List UInt8), (x.clone d0 d order).length = d.length := by
  intro order
  induction order with
  | nil => intro d; rfl
  | cons i is ih => intro d; simp only [Xfer.clone]; rw [ih, step_length]

theorem step_getD_outside (x : Xfer) (from_ d : List UInt8) (i p : Nat)
    (h : p < x.dstLo + i * x.dES ∨ x.dstLo + i * x.dES + x.dES ≤ p) : (x.step from_ d i).getD p 0 = d.getD p 0 := by
  unfold Xfer.step
  rw [splice_getD, fit_length]
  have : ¬ (x.dstLo + i * x.dES ≤ p ∧ p < x.dstLo + i * x.dES + x.dES ∧ p < d.length) := by omega
  rw [if_neg this]

/-- **live = clone for a safe order.** Invariant: outside the target elements already stored, the current bytes are
the original ones. -/
theorem live_eq_clone (x : Xfer) (d0 : List UInt8) :
    ∀ (order done : List Nat) (d : List UInt8),
      (∀ p, (∀ j ∈ done, p < x.dstLo + j * x.dES ∨ x.dstLo + j * x.dES + x.dES ≤ p) → d.getD p 0 = d0.getD p 0) →
      x.Safe done order → x.live d order = x.clone d0 d order := by
  intro order
  induction order with
  | nil => intro done d _ _; rfl
  | cons i is ih =>
    intro done d hinv hsafe
    simp only [Xfer.live, Xfer.clone]
    obtain ⟨hdisj, hrest⟩ := hsafe
    have hw : window d (x.srcLo + i * x.sES) x.sES = window d0 (x.srcLo + i * x.sES) x.sES := by
      apply window_ext
      intro p hp
      apply hinv
      intro j hj
      have := hdisj j hj
      unfold Xfer.disj at this
      omega
    have hstep : x.step d d i = x.step d0 d i := by unfold Xfer.step; rw [hw]
    rw [hstep]
    apply ih (i :: done)
    · intro p hp
      rw [step_getD_outside x d0 d i p (hp i (List.mem_cons_self ..))]
      exact hinv p (fun j hj => hp j (List.mem_cons_of_mem _ hj))
    · exact hrest

theorem step_comm (x : Xfer) (d0 d : List UInt8) (i j : Nat) :
    x.step d0 (x.step d0 d i) j = x.step d0 (x.step d0 d j) i := by
  by_cases hij : i = j
  · subst hij; rfl
  · unfold Xfer.step
    apply splice_comm
    rw [fit_length, fit_length]
    -- distinct target elements are disjoint
    rcases Nat.lt_or_gt_of_ne hij with h | h
    · left
      have := Nat.mul_le_mul_right x.dES (Nat.succ_le_of_lt h)
      rw [Nat.succ_mul] at this
      omega
    · right
      have := Nat.mul_le_mul_right x.dES (Nat.succ_le_of_lt h)
      rw [Nat.succ_mul] at this
      omega

theorem cloneRun_perm (x : Xfer) (d0 : List UInt8) {o1 o2 : List Nat} (hp : o1.Perm o2) :
    ∀ d, x.clone d0 d o1 = x.clone d0 d o2 := by
  induction hp with
  | nil => intro d; rfl
  | cons i _ ih => intro d; simp only [Xfer.clone]; exact ih _
  | swap i j l => intro d; simp only [Xfer.clone]; rw [step_comm]
  | trans _ _ ih1 ih2 => intro d; rw [ih1, ih2]

theorem live_eq_cloneAscending (x : Xfer) (d : List UInt8) (n : Nat) (order : List Nat)
    (hperm : order.Perm (List.range n)) (hsafe : x.Safe [] order) :
    x.live d order = x.clone d d (List.range n) := by
  rw [live_eq_clone x d order [] d (fun _ _ => rfl) hsafe]
  exact cloneRun_perm x d hperm d

theorem safe_of_pairwise (x : Xfer) : ∀ (order done : List Nat), (∀ j ∈ done, ∀ i ∈ order, x.disj j i) →
    List.Pairwise (fun j i => x.disj j i) order → x.Safe done order := by
  intro order
  induction order with
  | nil => intro _ _ _; trivial
  | cons i is ih =>
    intro done hd hp
    rw [List.pairwise_cons] at hp
    refine ⟨fun j hj => hd j hj i (List.mem_cons_self ..), ih (i :: done) ?_ hp.2⟩
    intro j hj k hk
    rcases List.mem_cons.mp hj with rfl | hj
    · exact hp.1 k hk
    · exact hd j hj k (List.mem_cons_of_mem _ hk)

theorem pairwise_range'_of_lt {R : Nat → Nat → Prop} (s n : Nat) (h : ∀ j i, s ≤ j → j < i → i < s + n → R j i) :
    List.Pairwise R (List.range' s n) := by
  apply List.Pairwise.imp_of_mem _ (List.pairwise_lt_range' (s := s) (n := n) 1)
  intro a b ha hb hab
  rw [List.mem_range'] at ha hb
  obtain ⟨i1, h1, rfl⟩ := ha
  obtain ⟨i2, h2, rfl⟩ := hb
  exact h _ _ (by omega) hab (by omega)

theorem pairwise_range'_reverse_of_gt {R : Nat → Nat → Prop} (s n : Nat) (h : ∀ j i, s ≤ i → i < j → j < s + n → R j i) :
    List.Pairwise R (List.range' s n).reverse := by
  rw [List.pairwise_reverse]
  exact pairwise_range'_of_lt s n (fun j i h1 h2 h3 => h i j h1 h2 h3)

/-- same element size (builtin_typedarrays.go:1033-1042): `curDst <= curSrc || curDst >= endSrc` ⇒ ascending, otherwise
descending -/
def setOrderSame (srcLo dstLo n es : Nat) : List Nat :=
  if dstLo ≤ srcLo ∨ dstLo ≥ srcLo + n * es then List.range n else (List.range n).reverse

theorem setOrderSame_perm (srcLo dstLo n es : Nat) : (setOrderSame srcLo dstLo n es).Perm (List.range n) := by
  unfold setOrderSame; split
  · exact List.Perm.refl _
  · exact List.reverse_perm _

theorem setOrderSame_safe (f : List UInt8 → List UInt8) (srcLo dstLo n es : Nat) :
    (Xfer.mk f es es srcLo dstLo).Safe [] (setOrderSame srcLo dstLo n es) := by
  apply safe_of_pairwise _ _ [] (fun _ h => by simp at h)
  unfold setOrderSame
  split
  · rename_i hc
    rw [List.range_eq_range']
    apply pairwise_range'_of_lt
    intro j i _ hji hin
    have h1 := Nat.mul_le_mul_right es (Nat.succ_le_of_lt hji)
    have h2 := Nat.mul_le_mul_right es (by omega : i + 1 ≤ n)
    rw [Nat.succ_mul] at h1
    rw [Nat.succ_mul] at h2
    show dstLo + j * es + es ≤ srcLo + i * es ∨ srcLo + i * es + es ≤ dstLo + j * es
    omega
  · rename_i hc
    rw [List.range_eq_range']
    apply pairwise_range'_reverse_of_gt
    intro j i _ hij _
    have h1 := Nat.mul_le_mul_right es (Nat.succ_le_of_lt hij)
    rw [Nat.succ_mul] at h1
    show dstLo + j * es + es ≤ srcLo + i * es ∨ srcLo + i * es + es ≤ dstLo + j * es
    omega

/-- **set between different kinds of the SAME element size**: goja's live loop = ECMA-262 clone-then-write. -/
theorem set_sameSize_live_eq_clone (f : List UInt8 → List UInt8) (d : List UInt8) (srcLo dstLo n es : Nat) :
    (Xfer.mk f es es srcLo dstLo).live d (setOrderSame srcLo dstLo n es) =
    (Xfer.mk f es es srcLo dstLo).clone d d (List.range n) :=
  live_eq_cloneAscending _ d n _ (setOrderSame_perm srcLo dstLo n es) (setOrderSame_safe f srcLo dstLo n es)

/-- different element sizes (builtin_typedarrays.go:1043-1065): `x := int(curDst-curSrc) / (src.elemSize - ta.elemSize)`
(Go division truncates toward zero), clamped to [0, srcLen] -/
def splitIndex (srcLo dstLo sES dES n : Nat) : Nat :=
  let q := Int.tdiv ((dstLo : Int) - (srcLo : Int)) ((sES : Int) - (dES : Int))
  if q < 0 then 0 else if q > (n : Int) then n else q.toNat

/-- target elements smaller: `for i := x; i < srcLen; i++` then `for i := x-1; i >= 0; i--`;
target elements larger: `for i := 0; i < x; i++` then `for i := srcLen-1; i >= x; i--` -/
def setOrderDiff (srcLo dstLo sES dES n : Nat) : List Nat :=
  let x := splitIndex srcLo dstLo sES dES n
  if dES < sES then List.range' x (n - x) ++ (List.range x).reverse
  else List.range x ++ (List.range' x (n - x)).reverse

theorem splitIndex_le (srcLo dstLo sES dES n : Nat) : splitIndex srcLo dstLo sES dES n ≤ n := by
  unfold splitIndex; dsimp only
  split
  · omega
  · split
    · omega
    · omega

theorem setOrderDiff_perm (srcLo dstLo sES dES n : Nat) : (setOrderDiff srcLo dstLo sES dES n).Perm (List.range n) := by
  unfold setOrderDiff; dsimp only
  have hx := splitIndex_le srcLo dstLo sES dES n
  generalize splitIndex srcLo dstLo sES dES n = x at hx
  have hsplit : List.range n = List.range x ++ List.range' x (n - x) := by
    rw [List.range_eq_range', List.range_eq_range']
    have := List.range'_append_1 (s := 0) (m := x) (n := n - x)
    rw [Nat.zero_add] at this
    rw [this]; congr 1; omega
  rw [hsplit]
  split
  · exact List.Perm.trans List.perm_append_comm (List.Perm.append (List.reverse_perm _) (List.Perm.refl _))
  · exact List.Perm.append (List.Perm.refl _) (List.reverse_perm _)

theorem splitIndex_small (srcLo dstLo sES dES n : Nat) (h : dES < sES) :
    (dstLo ≤ srcLo → splitIndex srcLo dstLo sES dES n = 0) ∧
    (srcLo < dstLo → splitIndex srcLo dstLo sES dES n * (sES - dES) ≤ dstLo - srcLo ∧
      (splitIndex srcLo dstLo sES dES n < n → dstLo - srcLo < (splitIndex srcLo dstLo sES dES n + 1) * (sES - dES))) := by
  have hc : ((sES : Int) - (dES : Int)) = ((sES - dES : Nat) : Int) := by omega
  constructor
  · intro hle
    unfold splitIndex; dsimp only
    have hneg : (dstLo : Int) - (srcLo : Int) = -(((srcLo - dstLo : Nat)) : Int) := by omega
    rw [hneg, hc, Int.neg_tdiv, ← Int.ofNat_tdiv]
    generalize (srcLo - dstLo) / (sES - dES) = q
    split
    · rfl
    · split
      · omega
      · omega
  · intro hlt
    unfold splitIndex; dsimp only
    have hpos : (dstLo : Int) - (srcLo : Int) = (((dstLo - srcLo : Nat)) : Int) := by omega
    rw [hpos, hc, ← Int.ofNat_tdiv]
    generalize hD : dstLo - srcLo = D
    generalize hcc : sES - dES = c
    have hcpos : 0 < c := by omega
    have h1 := Nat.div_mul_le_self D c
    have h2 := Nat.lt_mul_div_succ D hcpos
    rw [Nat.mul_comm] at h2
    generalize hq : D / c = q at *
    have hnn : ¬ ((q : Int) < 0) := by omega
    rw [if_neg hnn]
    split
    · rename_i hgt
      have hgt' : n < q := by omega
      refine ⟨Nat.le_trans (Nat.mul_le_mul_right c (Nat.le_of_lt hgt')) h1, fun hh => by omega⟩
    · simp only [Int.toNat_natCast]
      exact ⟨h1, fun _ => h2⟩

/-- Go's division truncates toward zero, so negating both operands keeps the quotient -/
theorem splitIndex_swap (srcLo dstLo sES dES n : Nat) :
    splitIndex srcLo dstLo sES dES n = splitIndex dstLo srcLo dES sES n := by
  unfold splitIndex
  rw [show (dstLo : Int) - (srcLo : Int) = -((srcLo : Int) - (dstLo : Int)) by omega,
    show (sES : Int) - (dES : Int) = -((dES : Int) - (sES : Int)) by omega, Int.neg_tdiv, Int.tdiv_neg, Int.neg_neg]

/-- smaller target elements, `c` = difference of the element sizes: target element `j` lies wholly before source element
`i` (`small_left`, for `j < i` beyond the split) or wholly behind it (`small_right`, for `i < j` up to the split) -/
theorem small_left (srcLo dstLo dES c j i : Nat) (hji : j < i)
    (h : dstLo ≤ srcLo ∨ (srcLo < dstLo ∧ dstLo - srcLo < i * c)) :
    dstLo + j * dES + dES ≤ srcLo + i * (dES + c) := by
  have h1 := Nat.mul_le_mul_right dES (Nat.succ_le_of_lt hji)
  rw [Nat.succ_mul] at h1
  rw [Nat.mul_add]
  omega

theorem small_right (srcLo dstLo dES c j i : Nat) (hij : i + 1 ≤ j) (hlt : srcLo < dstLo)
    (h : (i + 1) * c ≤ dstLo - srcLo) :
    srcLo + i * (dES + c) + (dES + c) ≤ dstLo + j * dES := by
  have h1 := Nat.mul_le_mul_right dES hij
  rw [Nat.succ_mul] at h1 h
  rw [Nat.mul_add]
  omega

theorem setOrderDiff_pairwise_small (f : List UInt8 → List UInt8) (srcLo dstLo sES dES n : Nat) (hsm : dES < sES) :
    List.Pairwise (fun j i => (Xfer.mk f sES dES srcLo dstLo).disj j i) (setOrderDiff srcLo dstLo sES dES n) := by
  unfold setOrderDiff; dsimp only
  have hxn := splitIndex_le srcLo dstLo sES dES n
  rw [if_pos hsm]
  obtain ⟨h0, hpos⟩ := splitIndex_small srcLo dstLo sES dES n hsm
  generalize splitIndex srcLo dstLo sES dES n = x at *
  obtain ⟨c, rfl⟩ : ∃ c, sES = dES + c := ⟨sES - dES, by omega⟩
  rw [Nat.add_sub_cancel_left] at hpos
  have hlt : 0 < x → srcLo < dstLo := fun hx => by
    by_cases hle : dstLo ≤ srcLo
    · have := h0 hle; omega
    · omega
  rw [List.pairwise_append]
  refine ⟨?_, ?_, ?_⟩
  · apply pairwise_range'_of_lt
    intro j i hxj hji hin
    left
    show dstLo + j * dES + dES ≤ srcLo + i * (dES + c)
    apply small_left _ _ _ _ _ _ hji
    by_cases hle : dstLo ≤ srcLo
    · exact Or.inl hle
    · right
      have hlt : srcLo < dstLo := by omega
      have := (hpos hlt).2 (by omega)
      have h2 := Nat.mul_le_mul_right c (by omega : x + 1 ≤ i)
      exact ⟨hlt, by omega⟩
  · rw [List.range_eq_range']
    apply pairwise_range'_reverse_of_gt
    intro j i _ hij hjx
    right
    show srcLo + i * (dES + c) + (dES + c) ≤ dstLo + j * dES
    have h2 := Nat.mul_le_mul_right c (by omega : i + 1 ≤ x)
    exact small_right _ _ _ _ _ _ (by omega) (hlt (by omega)) (Nat.le_trans h2 (hpos (hlt (by omega))).1)
  · intro a ha b hb
    rw [List.mem_range'] at ha
    rw [List.mem_reverse, List.mem_range] at hb
    obtain ⟨k, _, rfl⟩ := ha
    right
    show srcLo + b * (dES + c) + (dES + c) ≤ dstLo + (x + 1 * k) * dES
    have h2 := Nat.mul_le_mul_right c (by omega : b + 1 ≤ x)
    exact small_right _ _ _ _ _ _ (by omega) (hlt (by omega)) (Nat.le_trans h2 (hpos (hlt (by omega))).1)

theorem setOrderDiff_safe (f : List UInt8 → List UInt8) (srcLo dstLo sES dES n : Nat) (hne : sES ≠ dES) :
    (Xfer.mk f sES dES srcLo dstLo).Safe [] (setOrderDiff srcLo dstLo sES dES n) := by
  apply safe_of_pairwise _ _ [] (fun _ h => by simp at h)
  by_cases hsm : dES < sES
  · exact setOrderDiff_pairwise_small f srcLo dstLo sES dES n hsm
  · -- larger target elements: the order is the reverse of the order for the exchanged roles, and "target `j` spares
    -- source `i`" read backwards is the same fact with the roles exchanged
    have hlg : sES < dES := by omega
    have hrev := setOrderDiff_pairwise_small f dstLo srcLo dES sES n hlg
    unfold setOrderDiff at hrev ⊢
    rw [if_pos hlg, ← splitIndex_swap] at hrev
    rw [if_neg hsm, ← List.reverse_reverse (List.range _), ← List.reverse_append, List.pairwise_reverse]
    exact hrev.imp Or.symm

/-- **set between kinds of DIFFERENT element size on one buffer**: goja's split-and-direction loop (live reads) gives
exactly ECMA-262's clone-then-write result. -/
theorem set_diffSize_live_eq_clone (f : List UInt8 → List UInt8) (d : List UInt8) (srcLo dstLo sES dES n : Nat) (hne : sES ≠ dES) :
    (Xfer.mk f sES dES srcLo dstLo).live d (setOrderDiff srcLo dstLo sES dES n) =
    (Xfer.mk f sES dES srcLo dstLo).clone d d (List.range n) :=
  live_eq_cloneAscending _ d n _ (setOrderDiff_perm srcLo dstLo sES dES n) (setOrderDiff_safe f srcLo dstLo sES dES n hne)

theorem Xfer.clone_range' (x : Xfer) (d0 : List UInt8) : ∀ (n a : Nat) (cur : List UInt8),
    x.clone d0 cur (List.range' a n) = splice cur (x.dstLo + a * x.dES)
      (freshBytes x.dES ((List.range' a n).map fun i => x.f (window d0 (x.srcLo + i * x.sES) x.sES))) := by
  intro n
  induction n with
  | zero => intro a cur; rfl
  | succ n ih =>
    intro a cur
    rw [List.range'_succ, Xfer.clone, ih, List.map_cons, freshBytes, splice_append, fit_length, Nat.succ_mul, Nat.add_assoc]
    rfl

theorem writeElems_clone (v : View) (x : Xfer) (d0 : List UInt8) (t : Nat)
    (hd : x.dstLo = (v.offset + t) * v.kind.size) (hes : x.dES = v.kind.size)
    (n a : Nat) (s : State) (cur : List UInt8) (h : s.data? v.buf = some cur) :
    (writeElems s v (t + a) ((List.range' a n).map (fun i => x.f (window d0 (x.srcLo + i * x.sES) x.sES)))).data? v.buf =
      some (x.clone d0 cur (List.range' a n)) := by
  rw [writeElems_data, if_pos rfl, h, x.clone_range', hd, hes, ← Nat.add_assoc, Nat.add_mul]
  rfl

end GojaModel.C17
