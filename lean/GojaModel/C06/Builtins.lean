/-
  C06 — MECHANISM models of the String built-ins that build their result through Substring / builders
  (builtin_string.go; `joinM` builtin_array.go, `writeSubst` builtin_regexp.go, `indexM` string_*.go), on the three
  representations of Model.lean.  Core Lean only.

  Integer arguments are Go int64 after ToInteger, modelled as `Int` (assumption: no int64 overflow in the index
  arithmetic, i.e. |arguments| < 2^62; ToInteger clamps infinities to ±MaxInt64 and the code only adds a length to a
  NEGATIVE argument).  `len s` is `s.Length()`.
-/
import GojaModel.C06.Model
import GojaModel.C06.Spec
namespace GojaModel.C06.Builtins
open GojaModel.C06

/-- `s.Length()` -/
def len (s : Str) : Nat := (units s).length

def emptyStr : Str := .ascii []        -- stringEmpty

/-! ### index computations followed by `Substring` -/

/-- the clamp used by slice for both arguments (builtin_string.go:787-807) -/
def clampRel (x l : Int) : Int :=
  if x < 0 then (if x + l < 0 then 0 else x + l) else (if x > l then l else x)

/-- String.prototype.slice (builtin_string.go:774) -/
def sliceM (s : Str) (i : Int) (j : Option Int) : Str :=
  let l : Int := ((len s : Nat) : Int)
  let st := clampRel i l
  let en := clampRel (j.getD l) l
  if en > st then substring s st.toNat en.toNat else emptyStr

/-- the clamp used by substring (builtin_string.go:969-979) -/
def clamp0 (x l : Int) : Int := if x < 0 then 0 else if x > l then l else x

/-- String.prototype.substring (builtin_string.go:957) -/
def substringM (s : Str) (i : Int) (j : Option Int) : Str :=
  let l : Int := ((len s : Nat) : Int)
  let a := clamp0 i l
  let b := clamp0 (j.getD l) l
  if a > b then substring s b.toNat a.toNat else substring s a.toNat b.toNat

/-- String.prototype.substr (builtin_string.go:1052) -/
def substrM (s : Str) (i : Int) (n : Option Int) : Str :=
  let sl : Int := ((len s : Nat) : Int)
  let start := if i < 0 then max (sl + i) 0 else i
  let length := min (max (n.getD sl) 0) (sl - start)
  if length ≤ 0 then emptyStr else substring s start.toNat (start + length).toNat

/-- String.prototype.at (builtin_string.go:173); none = undefined -/
def atM (s : Str) (pos : Int) : Option Str :=
  let l : Int := ((len s : Nat) : Int)
  let p := if pos < 0 then l + pos else pos
  if p ≥ l ∨ p < 0 then none else some (substring s p.toNat (p + 1).toNat)

/-- String.prototype.charAt (builtin_string.go:187) -/
def charAtM (s : Str) (pos : Int) : Str :=
  if pos < 0 ∨ pos ≥ ((len s : Nat) : Int) then emptyStr else substring s pos.toNat (pos + 1).toNat

/-! ### builders -/

/-- a fresh unicodeStringBuilder after `Grow` (the BOM is written): the started state of `SB` -/
def usb0 : SB := SB.empty.switchToUnicode

/-- `for k times { sb.writeString(x) }` -/
def writeTimes (b : SB) (x : Str) : Nat → SB
  | 0 => b
  | k + 1 => writeTimes (b.writeString x) x k

/-- Runtime._stringPad (builtin_string.go:482).  `filler` is the second argument after toString, or `" "`. -/
def padM (s filler : Str) (maxLength : Nat) (atStart : Bool) : Str :=
  if maxLength ≤ len s then touch s                      -- `return s` (s.Length() has scanned it)
  else if len filler = 0 then touch s
  else
    let remaining := maxLength - len s
    match devirt s, devirt filler with
    | .a sa, .a fa =>
      -- strings.Builder path (builtin_string.go:505-522)
      let fill := (List.replicate (remaining / fa.length) fa).flatten ++ fa.take (remaining % fa.length)
      .ascii (if atStart then fill ++ sa else sa ++ fill)
    | _, _ =>
      -- unicodeStringBuilder path (builtin_string.go:524-541)
      let fl := len filler
      let b0 := if atStart then usb0 else usb0.writeString s
      let b1 := writeTimes b0 filler (remaining / fl)
      let b2 := if remaining % fl > 0 then b1.writeString (substring filler 0 (remaining % fl)) else b1
      let b3 := if atStart then b2.writeString s else b2
      b3.toStr

/-- String.prototype.repeat (builtin_string.go:552), count already validated (0 <= n) -/
def repeatM (s : Str) (n : Nat) : Str :=
  if n = 0 ∨ len s = 0 then emptyStr
  else match devirt s with
    | .a a => .ascii (List.replicate n a).flatten
    | .u u => (writeTimes usb0 (.uni u) n).toStr      -- writeUnicodeString = writeString of a unicodeString

/-- String.fromCharCode (builtin_string.go:108), arguments after ToUint16 -/
def fromCharCodeM (cs : List UInt16) : Str :=
  if cs.all asciiU then .ascii (cs.map u2b)
  else .uni (((cs.takeWhile asciiU).map u2b).map b2u ++ cs.dropWhile asciiU)   -- b[0..i) widened, then chr and the rest

/-- String.fromCodePoint (builtin_string.go:132), arguments validated (0 <= c <= 0x10FFFF) -/
def fromCodePointM (cps : List Nat) : Str := (cps.foldl SB.writeRune SB.empty).toStr

/-- String.prototype.concat (builtin_string.go:229): this :: arguments after toString -/
def protoConcatM (l : List Str) : Str :=
  let ds := l.map devirt
  if ds.all DV.isA then .ascii (ds.flatMap DV.bytes) else .uni (ds.flatMap DV.units)

/-! ### replace / replaceAll with a string pattern and a string replacement -/

def isPrefixB : List UInt8 → List UInt8 → Bool
  | [], _ => true
  | _ :: _, [] => false
  | a :: as, b :: bs => a == b && isPrefixB as bs

/-- strings.Index(rest, pat) + offset, modelled by its specification (least matching position) -/
def indexFromB (pat : List UInt8) : (rest : List UInt8) → (pos : Nat) → Option Nat
  | [], pos => if pat.isEmpty then some pos else none
  | c :: cs, pos => if isPrefixB pat (c :: cs) then some pos else indexFromB pat cs (pos + 1)

/-- asciiString.index (string_ascii.go), unicodeString.index (string_unicode.go, with the past-the-end guard of
0ea80f8), importedString.index; utf16Index is modelled by its specification (least matching position). none = -1 -/
def indexM (s pat : Str) (start : Nat) : Option Nat :=
  match devirt s, devirt pat with
  | .a a, .a p => if start > a.length then none else indexFromB p (a.drop start) start
  | .a _, .u _ => none
  | .u u, p => if start > u.length then none else Spec.indexFrom p.units (u.drop start) start

/-- writeSubstitution (builtin_regexp.go:1191) for a string pattern: numCaptures = 1, no named groups.
`repl` = the units of replaceStr read with CharAt; every literal unit goes through `WriteRune(rune(c))`. -/
def writeSubst (s : Str) (pos : Nat) (matched : Str) : List UInt16 → SB → SB
  | [], b => b
  | [c], b => b.writeRune c.toNat
  | c :: ch :: rest, b =>
    if c.toNat = 36 then
      if ch.toNat = 36 then writeSubst s pos matched rest (b.writeRune 36)
      else if ch.toNat = 96 then writeSubst s pos matched rest (b.writeString (substring s 0 pos))
      else if ch.toNat = 39 then
        writeSubst s pos matched rest
          (if pos + len matched < len s then b.writeString (substring s (pos + len matched) (len s)) else b)
      else if ch.toNat = 38 then writeSubst s pos matched rest (b.writeString matched)
      else writeSubst s pos matched rest ((b.writeRune 36).writeRune ch.toNat)   -- `$<`, `$0`..`$9`, other: literal
    else writeSubst s pos matched (ch :: rest) (b.writeRune c.toNat)

/-- the `for _, item := range found` loop of Runtime.stringReplace (builtin_string.go:640-672), no callback -/
def replaceGoM (s : Str) (plen : Nat) (repl : List UInt16) : List Nat → Nat → SB → SB × Nat
  | [], last, b => (b, last)
  | p :: ps, last, b =>
    let b1 := if p ≠ last then b.writeString (substring s last p) else b
    let b2 := writeSubst s p (substring s p (p + plen)) repl b1
    replaceGoM s plen repl ps (p + plen) b2

/-- Runtime.stringReplace for match positions `found` of a pattern of length `plen` -/
def stringReplaceM (s : Str) (plen : Nat) (found : List Nat) (repl : Str) : Str :=
  if found.isEmpty then touch s
  else
    let r := replaceGoM s plen (units repl) found 0 SB.empty
    (if r.2 ≠ len s then r.1.writeString (substring s r.2 (len s)) else r.1).toStr

/-- String.prototype.replace, string pattern (builtin_string.go:682) -/
def replaceM (s pat repl : Str) : Str :=
  match indexM s pat 0 with
  | none => stringReplaceM s (len pat) [] repl
  | some p => stringReplaceM s (len pat) [p] repl

def foundAllM (s pat : Str) : Nat → Nat → List Nat
  | 0, _ => []
  | fuel + 1, pos =>
    match indexM s pat pos with
    | none => []
    | some p => p :: foundAllM s pat fuel (p + max 1 (len pat))

/-- String.prototype.replaceAll, string pattern (builtin_string.go:707); the loop runs at most len+1 times, so the
fuel len+2 is never used up -/
def replaceAllM (s pat repl : Str) : Str :=
  stringReplaceM s (len pat) (foundAllM s pat (len s + 2) 0) repl

/-! ### split (string separator, no limit) and Array.prototype.join -/

/-- strings.SplitN(s, sep, n) for a non-empty separator, modelled by its specification: at most `fuel` = n-1 cuts
(n = -1: fuel len+1 is never used up) -/
def splitRelB (sep : List UInt8) : Nat → List UInt8 → List (List UInt8)
  | 0, rest => [rest]
  | fuel + 1, rest =>
    match indexFromB sep rest 0 with
    | none => [rest]
    | some idx => rest.take idx :: splitRelB sep fuel (rest.drop (idx + sep.length))

/-- the `for ; limit > 0; limit--` loop of stringproto_split for a UTF-16 subject (builtin_string.go:885-911).
`idx` = position of the next separator in `su`, or len(su) when there is none.  The chunk `su[:idx]` is stored as
ASCII unless it has a unit >= 0x80 (= uniSubstring).  (fuel 0 is unreachable with the fuel used below.) -/
def splitLoopM (ss : List UInt16) : Nat → List UInt16 → Nat → List Str
  | 0, su, _ => [uniSubstring su 0 su.length]
  | fuel + 1, su, idx =>
    if idx = su.length then [uniSubstring su 0 idx]
    else
      let su' := su.drop (idx + ss.length)
      uniSubstring su 0 idx :: splitLoopM ss fuel su' ((Spec.indexFrom ss su' 0).getD su'.length)

/-- String.prototype.split(separator) (builtin_string.go:815), separator a string, no limit -/
def splitM (s sep : Str) : List Str :=
  match devirt s, devirt sep with
  | .a sa, .a sepa =>
    -- both ASCII: strings.SplitN; "" splits into bytes
    (if sepa.isEmpty then sa.map (fun c => [c]) else splitRelB sepa (sa.length + 1) sa).map .ascii
  | .a _, .u _ => [touch s]                      -- a Unicode separator never matches an ASCII string
  | .u su, dsep =>
    let ss := dsep.units
    if ss.isEmpty then su.map (fun c => if nonAsciiU c then .uni [c] else .ascii [u2b c])
    else match Spec.indexFrom ss su 0 with
      | none => [touch s]                         -- shortcut: the subject itself
      | some idx => splitLoopM ss (su.length + 1) su idx

/-- Array.prototype.join over string elements (builtin_array.go:190) -/
def joinM (ps : List Str) (sep : Str) : Str :=
  match ps with
  | [] => emptyStr
  | p :: rest => ((rest.foldl (fun b q => (b.writeString sep).writeString q) (SB.empty.writeString p))).toStr

end GojaModel.C06.Builtins
