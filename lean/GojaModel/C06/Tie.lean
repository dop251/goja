/-
  C06 tie: facts regenerated from /repo's Go sources by extract/c06.go on every run
  (GojaModel/Generated/C06_Sites.lean) compared with the hand-reviewed expectation below.

  * `uniSites`     every `unicodeString(e)` conversion in non-test files, with file, enclosing function and the
                   argument text.  Each of the 9 sites was reviewed: the reason why the converted slice contains
                   a unit >= 0x80 (i.e. the result is in normal form) is given next to it, with the model
                   definition / theorem that covers it.
  * `makeUniSites` every `make(unicodeString, n)`.
  * `asciiSites`   every `asciiString(e)` whose argument is not a string literal (string literals are checked
                   to be ASCII by the extractor: `asciiLiteralsAllAscii`).  Each argument is ASCII by
                   construction: a strconv/ftoa/time/hex/big.Int formatter, a class-name constant, the ASCII
                   branch of a scan (`i.s` when `i.u == nil`, `strings.Builder` filled with bytes < 0x80), or
                   `strings.ToLower/ToUpper` of an asciiString, the trim of an asciiString (`trimString`, 86d74e7).
                   Three sites convert a possibly non-ASCII UTF-8 string on purpose, as a TEMPORARY receiver for
                   number parsing that never escapes as a String value: `asciiString(s.toTrimmedUTF8())` in
                   unicodeString.ToNumber / ToInteger / ToFloat (the latter two since goja 6010fc8).
  A new or moved raw conversion site, or a changed argument, makes these equalities fail: the tie is then
  broken until the site has been reviewed and the expectation updated.

  Also compared: the decision skeletons of lenientUtf16Decoder.ReadRune, unistring.Scan and the transcribed built-ins
  (`decoderSkeleton`, `scanSkeleton`, `builtinSkeletons`), Scan's two comparison tests (`scanTests_ok`) and the
  eager-scan threshold of ToValue (`eagerMax_ok`).
-/
import GojaModel.Generated.C06_Sites
import GojaModel.C06.Model
namespace GojaModel.C06.Tie
open GojaModel.Generated

namespace Expected

def uniSites : List (String × String × String) := [
  -- reached only when `unicode` is set, which happens when a unit >= 0x80 is appended (builtin_global.go:314)
  ("builtin_global.go", "Runtime.builtin_unescape", "unicodeBuf"),
  -- inside `if chr >= utf8.RuneSelf` (builtin_string.go:112): bb contains chr
  ("builtin_string.go", "Runtime.string_fromcharcode", "bb"),
  -- `!allAscii` branch: some operand is a (normal-form) unicodeString
  ("builtin_string.go", "Runtime.stringproto_concat", "buf"),
  -- unistring.Scan result, non-nil only if a byte >= 0x80 was seen  -> Model.newStringValue / nf_newStringValue (decode_nonascii)
  ("string.go", "newStringValue", "u"),
  -- AsUtf16 of a key that starts with the BOM -> Model.stringValueFromRaw / key_roundtrip
  ("string.go", "stringValueFromRaw", "b"),
  -- after the `isAscii` loop found a unit >= 0x80 -> Model.stringFromUTF16 / nf_stringFromUTF16
  ("string.go", "StringFromUTF16", "buf"),
  -- `u != nil` branch: right operand devirtualises to a normal-form unicodeString -> Model.asciiConcat
  ("string_ascii.go", "asciiString.Concat", "b"),
  -- guarded by b.unicode -> Model.SB.toStr / SB.Inv
  ("string_unicode.go", "unicodeStringBuilder.String", "b.buf"),
  -- receiver is a normal-form unicodeString -> Model.uniConcat
  ("string_unicode.go", "unicodeString.Concat", "b")
]

def makeUniSites : List (String × String × String) := [
  -- inside `if su[i] >= utf8.RuneSelf`: the chunk contains that unit
  ("builtin_string.go", "Runtime.stringproto_split", "idx + 1"),
  -- receiver (normal form) is copied in -> Model.uniConcat
  ("string_unicode.go", "unicodeString.Concat", "len(s) + len(u) - 1"),
  -- inside `if c >= utf8.RuneSelf` -> Model.uniSubstring
  ("string_unicode.go", "unicodeString.Substring", "end - start + 1")
]

def asciiSites : List (String × String × String) := [
  ("array.go", "arrayPropIter.next", "strconv.Itoa(i.idx)"),
  ("array.go", "arrayObject.stringKeys", "name"),
  ("array_sparse.go", "sparseArrayPropIter.next", "strconv.Itoa(int(i.a.items[i.idx].idx))"),
  ("array_sparse.go", "sparseArrayObject.stringKeys", "strconv.FormatUint(uint64(item.idx), 10)"),
  ("array_sparse.go", "sparseArrayObject.stringKeys", "strconv.FormatUint(uint64(item.idx), 10)"),
  ("builtin_array.go", "Runtime.createArrayIterProto", "classArrayIterator"),
  ("builtin_bigint.go", "valueBigInt.toString", "(*big.Int)(v).String()"),
  ("builtin_bigint.go", "Runtime.bigintproto_toString", "x.Text(radixMV)"),
  ("builtin_date.go", "Runtime.builtin_date", "dateFormat(r.now())"),
  ("builtin_date.go", "Runtime.dateproto_toString", "d.time().Format(dateTimeLayout)"),
  ("builtin_date.go", "Runtime.dateproto_toUTCString", "d.timeUTC().Format(utcDateTimeLayout)"),
  ("builtin_date.go", "Runtime.dateproto_toISOString", "utc.Format(isoDateTimeLayout)"),
  ("builtin_date.go", "Runtime.dateproto_toISOString", "fmt.Sprintf(\"%+06d-\", year) + utc.Format(isoDateTimeLayout[5:])"),
  ("builtin_date.go", "Runtime.dateproto_toDateString", "d.time().Format(dateLayout)"),
  ("builtin_date.go", "Runtime.dateproto_toTimeString", "d.time().Format(timeLayout)"),
  ("builtin_date.go", "Runtime.dateproto_toLocaleString", "d.time().Format(datetimeLayout_en_GB)"),
  ("builtin_date.go", "Runtime.dateproto_toLocaleDateString", "d.time().Format(dateLayout_en_GB)"),
  ("builtin_date.go", "Runtime.dateproto_toLocaleTimeString", "d.time().Format(timeLayout_en_GB)"),
  ("builtin_error.go", "errorObject.stringKeys", "propNameStack"),
  ("builtin_function.go", "Runtime.createAsyncFunctionProto", "classAsyncFunction"),
  ("builtin_function.go", "Runtime.createGeneratorFunctionProto", "classGeneratorFunction"),
  ("builtin_function.go", "Runtime.createGeneratorProto", "classGenerator"),
  ("builtin_global.go", "Runtime._encode", "buf"),
  ("builtin_global.go", "Runtime._decode", "t"),
  ("builtin_global.go", "Runtime.builtin_escape", "sb.String()"),
  ("builtin_global.go", "Runtime.builtin_unescape", "asciiBuf"),
  ("builtin_global.go", "createGlobalObjectTemplate", "classGlobal"),
  ("builtin_json.go", "Runtime.builtinJSON_reviveWalk", "strconv.FormatInt(index, 10)"),
  ("builtin_json.go", "Runtime.builtinJSON_stringify", "ctx.buf.String()"),
  ("builtin_json.go", "_builtinJSON_stringifyContext.ja", "strconv.FormatInt(i, 10)"),
  ("builtin_json.go", "Runtime.getJSON", "classJSON"),
  ("builtin_map.go", "Runtime.createMapProto", "classMap"),
  ("builtin_map.go", "Runtime.createMapIterProto", "classMapIterator"),
  ("builtin_math.go", "createMathTemplate", "classMath"),
  ("builtin_number.go", "Runtime.numberproto_toString", "fToStr(num, ftoa.ModeStandard, 0)"),
  ("builtin_number.go", "Runtime.numberproto_toString", "ftoa.FToBaseStr(num, radix)"),
  ("builtin_number.go", "Runtime.numberproto_toFixed", "fToStr(num, ftoa.ModeFixed, int(prec))"),
  ("builtin_number.go", "Runtime.numberproto_toExponential", "fToStr(num, ftoa.ModeStandardExponential, 0)"),
  ("builtin_number.go", "Runtime.numberproto_toExponential", "fToStr(num, ftoa.ModeExponential, int(prec+1))"),
  ("builtin_number.go", "Runtime.numberproto_toPrecision", "fToStr(num, ftoa.ModePrecision, int(prec))"),
  ("builtin_promise.go", "Runtime.createPromiseProto", "classPromise"),
  ("builtin_regexp.go", "Runtime.regexpproto_getFlags", "sb.String()"),
  ("builtin_regexp.go", "Runtime.createRegExpStringIteratorPrototype", "classRegExpStringIterator"),
  ("builtin_set.go", "Runtime.createSetProto", "classSet"),
  ("builtin_set.go", "Runtime.createSetIterProto", "classSetIterator"),
  ("builtin_string.go", "Runtime.string_fromcharcode", "b"),
  ("builtin_string.go", "Runtime.stringproto_concat", "buf.String()"),
  ("builtin_string.go", "Runtime.stringproto_normalize", "s.s"),
  ("builtin_string.go", "Runtime._stringPad", "sb.String()"),
  ("builtin_string.go", "Runtime.stringproto_repeat", "sb.String()"),
  ("builtin_string.go", "Runtime.stringproto_split", "value"),
  ("builtin_string.go", "Runtime.stringproto_split", "sb.String()"),
  ("builtin_string.go", "Runtime.stringproto_split", "rune(c)"),
  ("builtin_string.go", "trimString", "str"),
  ("builtin_string.go", "Runtime.createStringIterProto", "classStringIterator"),
  ("builtin_typedarrays.go", "Runtime.uint8ArrayProto_toHex", "stdhex.EncodeToString(toEnc)"),
  ("builtin_weakmap.go", "Runtime.createWeakMapProto", "classWeakMap"),
  ("builtin_weakset.go", "Runtime.createWeakSetProto", "classWeakSet"),
  ("object_dynamic.go", "dynArrayPropIter.next", "name"),
  ("object_dynamic.go", "dynamicArray.stringKeys", "strconv.Itoa(i)"),
  ("object_goarray_reflect.go", "goArrayReflectPropIter.next", "name"),
  ("object_goarray_reflect.go", "objectGoArrayReflect.stringKeys", "strconv.Itoa(i)"),
  ("object_gomap_reflect.go", "objectGoMapReflect.keyToString", "str"),
  ("object_goslice.go", "objectGoSlice.stringKeys", "strconv.Itoa(i)"),
  ("runtime.go", "Runtime.toValue", "i"),
  ("string.go", "stringFromRune", "sb.String()"),
  ("string.go", "newStringValue", "s"),
  ("string.go", "stringValueFromRaw", "raw"),
  ("string.go", "stringPropIter.next", "name"),
  ("string.go", "stringObject.stringKeys", "strconv.Itoa(i)"),
  ("string.go", "devirtualizeString", "s.s"),
  ("string.go", "StringFromUTF16", "sb.String()"),
  ("string_ascii.go", "asciiString.toLower", "strings.ToLower(string(s))"),
  ("string_ascii.go", "asciiString.toUpper", "strings.ToUpper(string(s))"),
  ("string_imported.go", "importedString.ToInteger", "i.s"),
  ("string_imported.go", "importedString.ToFloat", "i.s"),
  ("string_imported.go", "importedString.ToNumber", "i.s"),
  ("string_imported.go", "importedString.Equals", "i.s"),
  ("string_imported.go", "importedString.baseObject", "i.s"),
  ("string_imported.go", "importedString.hash", "i.s"),
  ("string_imported.go", "importedString.CharAt", "i.s"),
  ("string_imported.go", "importedString.Length", "i.s"),
  ("string_imported.go", "importedString.Concat", "i.s"),
  ("string_imported.go", "importedString.Substring", "i.s"),
  ("string_imported.go", "importedString.CompareTo", "i.s"),
  ("string_imported.go", "importedString.Reader", "i.s"),
  ("string_imported.go", "importedString.utf16Reader", "i.s"),
  ("string_imported.go", "importedString.utf16RuneReader", "i.s"),
  ("string_imported.go", "importedString.utf16Runes", "i.s"),
  ("string_imported.go", "importedString.index", "i.s"),
  ("string_imported.go", "importedString.lastIndex", "i.s"),
  ("string_imported.go", "importedString.toLower", "i.s"),
  ("string_imported.go", "importedString.toUpper", "i.s"),
  ("string_unicode.go", "unicodeStringBuilder.String", "buf"),
  ("string_unicode.go", "StringBuilder.String", "b.asciiBuilder.String()"),
  ("string_unicode.go", "unicodeString.ToInteger", "s.toTrimmedUTF8()"),
  ("string_unicode.go", "unicodeString.ToFloat", "s.toTrimmedUTF8()"),
  ("string_unicode.go", "unicodeString.ToNumber", "s.toTrimmedUTF8()"),
  ("string_unicode.go", "unicodeString.Substring", "as"),
  ("string_unicode.go", "toLower", "r"),
  ("typedarrays.go", "typedArrayObject.stringKeys", "strconv.Itoa(i)"),
  ("typedarrays.go", "typedArrayPropIter.next", "name"),
  ("value.go", "valueInt.toString", "i.String()"),
  ("value.go", "valueFloat.toString", "f.String()"),
  ("value.go", "funcName", "prefix"),
  ("vm.go", "concatStrings.exec", "s.s"),
  ("vm.go", "concatStrings.exec", "buf.String()")
]

def asciiLiteralCount : Nat := 82

/-- lenientUtf16Decoder.ReadRune, reviewed against `Spec.lenientF`:
  lines 1-9   take the pushed-back unit if there is one, else read (EOF → return)  = the `match prev / input` of lenientF;
  lines 11-29 a high surrogate: read `second`; EOF → the unit itself; low surrogate → DecodeRune, size 2;
              otherwise PUSH BACK (`rr.prev = second; rr.prevSet = true`)          = `lenientF fuel (some d) rest'`;
  lines 30-31 any other unit is returned as it is. -/
def decoderSkeleton : List String := [
  "if rr.prevSet {",
  "  c = rr.prev",
  "  rr.prevSet = false",
  "} else {",
  "  c, err = rr.utf16Reader.readChar()",
  "  if err != nil {",
  "    return",
  "  }",
  "}",
  "size = 1",
  "if isUTF16FirstSurrogate(c) {",
  "  second, err1 := rr.utf16Reader.readChar()",
  "  if err1 != nil {",
  "    if err1 != io.EOF {",
  "      err = err1",
  "    } else {",
  "      r = rune(c)",
  "    }",
  "    return",
  "  }",
  "  if isUTF16SecondSurrogate(second) {",
  "    r = utf16.DecodeRune(rune(c), rune(second))",
  "    size++",
  "    return",
  "  } else {",
  "    rr.prev = second",
  "    rr.prevSet = true",
  "  }",
  "}",
  "r = rune(c)",
  "return"
]

/-- unistring.Scan, reviewed against `Model.scanTwoPass`:
  lines 1-7   ASCII prefix scan, `return nil` when no byte >= 0x80           = `if s.all asciiB then none`;
  lines 8-14  counting pass over the rest (`chr > 0xFFFF` → two units)        = `scanSize` / `countUnits`;
  lines 15-17 buffer of `utf16Size+1` units with the BOM at 0                 = `(… ++ replicate …).take (scanSize s)`;
  lines 18-29 fill pass over the WHOLE string (`chr <= 0xFFFF` → one unit)    = `fillUnits (decode s)`. -/
def scanSkeleton : List String := [
  "utf16Size := 0",
  "for ; utf16Size < len(s); utf16Size++ {",
  "  if s[utf16Size] >= utf8.RuneSelf {",
  "    goto unicode",
  "  }",
  "}",
  "return nil",
  "unicode:",
  "for _, chr := range s[utf16Size:] {",
  "  utf16Size++",
  "  if chr > 0xFFFF {",
  "    utf16Size++",
  "  }",
  "}",
  "buf := make([]uint16, utf16Size+1)",
  "buf[0] = BOM",
  "c := 1",
  "for _, chr := range s {",
  "  if chr <= 0xFFFF {",
  "    buf[c] = uint16(chr)",
  "  } else {",
  "    first, second := utf16.EncodeRune(chr)",
  "    buf[c] = uint16(first)",
  "    c++",
  "    buf[c] = uint16(second)",
  "  }",
  "  c++",
  "}",
  "return buf"
]

/-- the String built-ins transcribed in Builtins.lean (sliceM, substringM, substrM, atM, charAtM, padM, repeatM,
fromCharCodeM, fromCodePointM, writeSubst, stringReplaceM (no-callback branch), replaceM, replaceAllM, protoConcatM; Builtins2.lean: isWsUnit, trimM, rawM; splitM / splitLimM (Builtins.lean, Builtins3.lean) and joinM), reviewed line by line against the models; an edit of any of these
functions breaks this equality and asks for a re-review of the model (edits elsewhere do not). -/
def builtinSkeletons : List (String × List String) := [
  ("stringproto_slice", [
    "r.checkObjectCoercible(call.This)",
    "s := call.This.toString()",
    "l := int64(s.Length())",
    "start := call.Argument(0).ToInteger()",
    "if arg1 := call.Argument(1); arg1 != _undefined {",
    "  end = arg1.ToInteger()",
    "} else {",
    "  end = l",
    "}",
    "if start < 0 {",
    "  start += l",
    "  if start < 0 {",
    "    start = 0",
    "  }",
    "} else {",
    "  if start > l {",
    "    start = l",
    "  }",
    "}",
    "if end < 0 {",
    "  end += l",
    "  if end < 0 {",
    "    end = 0",
    "  }",
    "} else {",
    "  if end > l {",
    "    end = l",
    "  }",
    "}",
    "if end > start {",
    "  return s.Substring(int(start), int(end))",
    "}",
    "return stringEmpty"
  ]),
  ("stringproto_substring", [
    "r.checkObjectCoercible(call.This)",
    "s := call.This.toString()",
    "l := int64(s.Length())",
    "intStart := call.Argument(0).ToInteger()",
    "if end := call.Argument(1); end != _undefined {",
    "  intEnd = end.ToInteger()",
    "} else {",
    "  intEnd = l",
    "}",
    "if intStart < 0 {",
    "  intStart = 0",
    "} else {",
    "  if intStart > l {",
    "    intStart = l",
    "  }",
    "}",
    "if intEnd < 0 {",
    "  intEnd = 0",
    "} else {",
    "  if intEnd > l {",
    "    intEnd = l",
    "  }",
    "}",
    "if intStart > intEnd {",
    "  intStart, intEnd = intEnd, intStart",
    "}",
    "return s.Substring(int(intStart), int(intEnd))"
  ]),
  ("stringproto_substr", [
    "r.checkObjectCoercible(call.This)",
    "s := call.This.toString()",
    "start := call.Argument(0).ToInteger()",
    "sl := int64(s.Length())",
    "if arg := call.Argument(1); arg != _undefined {",
    "  length = arg.ToInteger()",
    "} else {",
    "  length = sl",
    "}",
    "if start < 0 {",
    "  start = max(sl+start, 0)",
    "}",
    "length = min(max(length, 0), sl-start)",
    "if length <= 0 {",
    "  return stringEmpty",
    "}",
    "return s.Substring(int(start), int(start+length))"
  ]),
  ("stringproto_at", [
    "r.checkObjectCoercible(call.This)",
    "s := call.This.toString()",
    "pos := call.Argument(0).ToInteger()",
    "length := int64(s.Length())",
    "if pos < 0 {",
    "  pos = length + pos",
    "}",
    "if pos >= length || pos < 0 {",
    "  return _undefined",
    "}",
    "return s.Substring(int(pos), int(pos+1))"
  ]),
  ("stringproto_charAt", [
    "r.checkObjectCoercible(call.This)",
    "s := call.This.toString()",
    "pos := call.Argument(0).ToInteger()",
    "if pos < 0 || pos >= int64(s.Length()) {",
    "  return stringEmpty",
    "}",
    "return s.Substring(int(pos), int(pos+1))"
  ]),
  ("_stringPad", [
    "r.checkObjectCoercible(call.This)",
    "s := call.This.toString()",
    "maxLength := toLength(call.Argument(0))",
    "stringLength := int64(s.Length())",
    "if maxLength <= stringLength {",
    "  return s",
    "}",
    "strAscii, strUnicode := devirtualizeString(s)",
    "if fillString := call.Argument(1); fillString != _undefined {",
    "  filler = fillString.toString()",
    "  if filler.Length() == 0 {",
    "    return s",
    "  }",
    "  fillerAscii, fillerUnicode = devirtualizeString(filler)",
    "} else {",
    "  fillerAscii = \" \"",
    "  filler = fillerAscii",
    "}",
    "remaining := toIntStrict(maxLength - stringLength)",
    "if fillerUnicode == nil && strUnicode == nil {",
    "  fl := fillerAscii.Length()",
    "  sb.Grow(toIntStrict(maxLength))",
    "  if !start {",
    "    sb.WriteString(string(strAscii))",
    "  }",
    "  for ; remaining >= fl;  {",
    "    sb.WriteString(string(fillerAscii))",
    "    remaining -= fl",
    "  }",
    "  if remaining > 0 {",
    "    sb.WriteString(string(fillerAscii[:remaining]))",
    "  }",
    "  if start {",
    "    sb.WriteString(string(strAscii))",
    "  }",
    "  return asciiString(sb.String())",
    "}",
    "sb.Grow(toIntStrict(maxLength))",
    "if !start {",
    "  sb.writeString(s)",
    "}",
    "fl := filler.Length()",
    "for ; remaining >= fl;  {",
    "  sb.writeString(filler)",
    "  remaining -= fl",
    "}",
    "if remaining > 0 {",
    "  sb.writeString(filler.Substring(0, remaining))",
    "}",
    "if start {",
    "  sb.writeString(s)",
    "}",
    "return sb.String()"
  ]),
  ("stringproto_repeat", [
    "r.checkObjectCoercible(call.This)",
    "s := call.This.toString()",
    "n := call.Argument(0).ToNumber()",
    "if n == _positiveInf {",
    "  panic(r.newError(r.getRangeError(), \"Invalid count value\"))",
    "}",
    "numInt := n.ToInteger()",
    "if numInt < 0 {",
    "  panic(r.newError(r.getRangeError(), \"Invalid count value\"))",
    "}",
    "if numInt == 0 || s.Length() == 0 {",
    "  return stringEmpty",
    "}",
    "num := toIntStrict(numInt)",
    "a, u := devirtualizeString(s)",
    "if u == nil {",
    "  sb.Grow(len(a) * num)",
    "  for i := 0; i < num; i++ {",
    "    sb.WriteString(string(a))",
    "  }",
    "  return asciiString(sb.String())",
    "}",
    "sb.Grow(u.Length() * num)",
    "for i := 0; i < num; i++ {",
    "  sb.writeUnicodeString(u)",
    "}",
    "return sb.String()"
  ]),
  ("string_fromcharcode", [
    "b := make([]byte, len(call.Arguments))",
    "for i, arg := range call.Arguments {",
    "  chr := toUint16(arg)",
    "  if chr >= utf8.RuneSelf {",
    "    bb := make([]uint16, len(call.Arguments)+1)",
    "    bb[0] = unistring.BOM",
    "    bb1 := bb[1:]",
    "    for j := 0; j < i; j++ {",
    "      bb1[j] = uint16(b[j])",
    "    }",
    "    bb1[i] = chr",
    "    i++",
    "    for j, arg := range call.Arguments[i:] {",
    "      bb1[i+j] = toUint16(arg)",
    "    }",
    "    return unicodeString(bb)",
    "  }",
    "  b[i] = byte(chr)",
    "}",
    "return asciiString(b)"
  ]),
  ("string_fromcodepoint", [
    "for _, arg := range call.Arguments {",
    "  num := arg.ToNumber()",
    "  if numInt, ok := num.(valueInt); ok {",
    "    if numInt < 0 || numInt > utf8.MaxRune {",
    "      panic(r.newErrorf(r.getRangeError(), \"Invalid code point %d\", numInt))",
    "    }",
    "    c = rune(numInt)",
    "  } else {",
    "    panic(r.newErrorf(r.getRangeError(), \"Invalid code point %s\", num))",
    "  }",
    "  sb.WriteRune(c)",
    "}",
    "return sb.String()"
  ]),
  ("writeSubstitution", [
    "l := s.Length()",
    "rl := replaceStr.Length()",
    "matched := getCapture(0)",
    "tailPos := position + matched.Length()",
    "for i := 0; i < rl; i++ {",
    "  c := replaceStr.CharAt(i)",
    "  if c == '$' && i < rl-1 {",
    "    ch := replaceStr.CharAt(i + 1)",
    "    switch ch { case '$': buf.WriteRune('$') case '`': buf.WriteString(s.Substring(0, position)) case '\\'': if tailPos < l { buf.WriteString(s.Substring(tailPos, l)) } case '&': buf.WriteString(matched) case '<': var ref String j := i + 2 for ; j < rl; j++ { ch := replaceStr.CharAt(j) if ch == '>' { ref = replaceStr.Substring(i+2, j) break } } if ref != nil { capture := getNamedCapture(ref) if capture != nil { buf.WriteString(capture) i = j continue } } buf.WriteRune('$') buf.WriteRune('<') default: index := 0 j := i + 1 lim := min(j+2, rl) for ; j < lim; j++ { ch := replaceStr.CharAt(j) if ch >= '0' && ch <= '9' { m := index*10 + int(ch-'0') if m >= numCaptures { break } index = m } else { break } } if index > 0 { buf.WriteString(getCapture(index)) i = j - 1 continue } else { buf.WriteRune('$') buf.WriteRune(rune(ch)) } }",
    "    i++",
    "  } else {",
    "    buf.WriteRune(rune(c))",
    "  }",
    "}"
  ]),
  ("stringReplace", [
    "if len(found) == 0 {",
    "  return s",
    "}",
    "a, u := devirtualizeString(s)",
    "lastIndex := 0",
    "lengthS := s.Length()",
    "if rcall != nil {",
    "  for _, item := range found {",
    "    if item.indexes[0] != lastIndex {",
    "      buf.WriteSubstring(s, lastIndex, item.indexes[0])",
    "    }",
    "    matchCount := len(item.indexes) / 2",
    "    argumentList := make([]Value, matchCount+2, matchCount+3)",
    "    for index := 0; index < matchCount; index++ {",
    "      offset := 2 * index",
    "      if item.indexes[offset] != -1 {",
    "        if u == nil {",
    "          argumentList[index] = a[item.indexes[offset]:item.indexes[offset+1]]",
    "        } else {",
    "          argumentList[index] = u.Substring(item.indexes[offset], item.indexes[offset+1])",
    "        }",
    "      } else {",
    "        argumentList[index] = _undefined",
    "      }",
    "    }",
    "    argumentList[matchCount] = intToValue(int64(item.indexes[0]))",
    "    argumentList[matchCount+1] = s",
    "    groups := r.createRegexpGroupsObj(argumentList[:matchCount], item.groups)",
    "    if groups != nil {",
    "      argumentList = append(argumentList, groups)",
    "    }",
    "    replacement := rcall(FunctionCall{ This: _undefined, Arguments: argumentList, }).toString()",
    "    buf.WriteString(replacement)",
    "    lastIndex = item.indexes[1]",
    "  }",
    "} else {",
    "  for _, item := range found {",
    "    if item.indexes[0] != lastIndex {",
    "      buf.WriteString(s.Substring(lastIndex, item.indexes[0]))",
    "    }",
    "    matchCount := len(item.indexes) / 2",
    "    writeSubstitution(s, item.indexes[0], matchCount, func(idx int) String { if item.indexes[idx*2] != -1 { if u == nil { return a[item.indexes[idx*2]:item.indexes[idx*2+1]] } return u.Substring(item.indexes[idx*2], item.indexes[idx*2+1]) } return stringEmpty }, func(ref String) String { if namedGroups == nil { namedGroups = createRegexpGroupsMap(item) } if len(namedGroups) == 0 { return nil } if idx, exists := namedGroups[ref.string()]; exists { if item.indexes[idx] != -1 { if u == nil { return a[item.indexes[idx]:item.indexes[idx+1]] } return u.Substring(item.indexes[idx], item.indexes[idx+1]) } } return stringEmpty }, newstring, &buf)",
    "    lastIndex = item.indexes[1]",
    "  }",
    "}",
    "if lastIndex != lengthS {",
    "  buf.WriteString(s.Substring(lastIndex, lengthS))",
    "}",
    "return buf.String()"
  ]),
  ("stringproto_replace", [
    "r.checkObjectCoercible(call.This)",
    "searchValue := call.Argument(0)",
    "replaceValue := call.Argument(1)",
    "if _, ok := searchValue.(*Object); ok {",
    "  if replacer := toMethod(r.getV(searchValue, SymReplace)); replacer != nil {",
    "    return replacer(FunctionCall{ This: searchValue, Arguments: []Value{call.This, replaceValue}, })",
    "  }",
    "}",
    "s := call.This.toString()",
    "searchStr := searchValue.toString()",
    "pos := s.index(searchStr, 0)",
    "if pos != -1 {",
    "  found = append(found, regexpResult{indexes: []int{pos, pos + searchStr.Length()}})",
    "}",
    "str, rcall := getReplaceValue(replaceValue)",
    "return r.stringReplace(s, found, str, rcall)"
  ]),
  ("stringproto_replaceAll", [
    "r.checkObjectCoercible(call.This)",
    "searchValue := call.Argument(0)",
    "replaceValue := call.Argument(1)",
    "if o, ok := searchValue.(*Object); ok {",
    "  if isRegexp(searchValue) {",
    "    flags := nilSafe(o.self.getStr(\"flags\", nil))",
    "    r.checkObjectCoercible(flags)",
    "    if !strings.Contains(flags.toString().String(), \"g\") {",
    "      panic(r.NewTypeError(\"String.prototype.replaceAll called with a non-global RegExp argument\"))",
    "    }",
    "  }",
    "  if replacer := toMethod(r.getV(searchValue, SymReplace)); replacer != nil {",
    "    return replacer(FunctionCall{ This: searchValue, Arguments: []Value{call.This, replaceValue}, })",
    "  }",
    "}",
    "s := call.This.toString()",
    "searchStr := searchValue.toString()",
    "searchLength := searchStr.Length()",
    "advanceBy := toIntStrict(max(1, int64(searchLength)))",
    "pos := s.index(searchStr, 0)",
    "for ; pos != -1;  {",
    "  found = append(found, regexpResult{indexes: []int{pos, pos + searchLength}})",
    "  pos = s.index(searchStr, pos+advanceBy)",
    "}",
    "str, rcall := getReplaceValue(replaceValue)",
    "return r.stringReplace(s, found, str, rcall)"
  ]),
  ("stringproto_concat", [
    "r.checkObjectCoercible(call.This)",
    "strs := make([]String, len(call.Arguments)+1)",
    "a, u := devirtualizeString(call.This.toString())",
    "allAscii := true",
    "totalLen := 0",
    "if u == nil {",
    "  strs[0] = a",
    "  totalLen = len(a)",
    "} else {",
    "  strs[0] = u",
    "  totalLen = u.Length()",
    "  allAscii = false",
    "}",
    "for i, arg := range call.Arguments {",
    "  a, u := devirtualizeString(arg.toString())",
    "  if u != nil {",
    "    allAscii = false",
    "    totalLen += u.Length()",
    "    strs[i+1] = u",
    "  } else {",
    "    totalLen += a.Length()",
    "    strs[i+1] = a",
    "  }",
    "}",
    "if allAscii {",
    "  buf.Grow(totalLen)",
    "  for _, s := range strs {",
    "    buf.WriteString(s.String())",
    "  }",
    "  return asciiString(buf.String())",
    "} else {",
    "  buf := make([]uint16, totalLen+1)",
    "  buf[0] = unistring.BOM",
    "  pos := 1",
    "  for _, s := range strs {",
    "    switch s := s.(type) { case asciiString: for i := 0; i < len(s); i++ { buf[pos] = uint16(s[i]) pos++ } case unicodeString: copy(buf[pos:], s[1:]) pos += s.Length() }",
    "  }",
    "  return unicodeString(buf)",
    "}"
  ]),
  ("isWhitespaceUnit", [
    "if c >= 0xD800 && c <= 0xDFFF {",
    "  return false",
    "}",
    "return strings.ContainsRune(parser.WhitespaceChars, rune(c))"
  ]),
  ("trimString", [
    "a, u := devirtualizeString(s)",
    "if u == nil {",
    "  str := string(a)",
    "  if left {",
    "    str = strings.TrimLeft(str, parser.WhitespaceChars)",
    "  }",
    "  if right {",
    "    str = strings.TrimRight(str, parser.WhitespaceChars)",
    "  }",
    "  return asciiString(str)",
    "}",
    "start, end := 0, u.Length()",
    "if left {",
    "  for ; start < end && isWhitespaceUnit(u.CharAt(start));  {",
    "    start++",
    "  }",
    "}",
    "if right {",
    "  for ; end > start && isWhitespaceUnit(u.CharAt(end-1));  {",
    "    end--",
    "  }",
    "}",
    "return u.Substring(start, end)"
  ]),
  ("string_raw", [
    "cooked := call.Argument(0).ToObject(r)",
    "raw := nilSafe(cooked.self.getStr(\"raw\", nil)).ToObject(r)",
    "literalSegments := toLength(raw.self.getStr(\"length\", nil))",
    "if literalSegments <= 0 {",
    "  return stringEmpty",
    "}",
    "nextIndex := int64(0)",
    "numberOfSubstitutions := int64(len(call.Arguments) - 1)",
    "for ; ;  {",
    "  nextSeg := nilSafe(raw.self.getIdx(valueInt(nextIndex), nil)).toString()",
    "  stringElements.WriteString(nextSeg)",
    "  if nextIndex+1 == literalSegments {",
    "    return stringElements.String()",
    "  }",
    "  if nextIndex < numberOfSubstitutions {",
    "    stringElements.WriteString(nilSafe(call.Arguments[nextIndex+1]).toString())",
    "  }",
    "  nextIndex++",
    "}"
  ]),
  ("stringproto_split", [
    "r.checkObjectCoercible(call.This)",
    "separatorValue := call.Argument(0)",
    "limitValue := call.Argument(1)",
    "if _, ok := separatorValue.(*Object); ok {",
    "  if splitter := toMethod(r.getV(separatorValue, SymSplit)); splitter != nil {",
    "    return splitter(FunctionCall{ This: separatorValue, Arguments: []Value{call.This, limitValue}, })",
    "  }",
    "}",
    "s := call.This.toString()",
    "limit := -1",
    "if limitValue != _undefined {",
    "  limit = int(toUint32(limitValue))",
    "}",
    "separatorValue = separatorValue.ToString()",
    "if limit == 0 {",
    "  return r.newArrayValues(nil)",
    "}",
    "if separatorValue == _undefined {",
    "  return r.newArrayValues([]Value{s})",
    "}",
    "sa, su := devirtualizeString(s)",
    "sepa, sepu := devirtualizeString(separatorValue.toString())",
    "if su == nil {",
    "  if sepu == nil {",
    "    splitLimit := limit",
    "    if limit > 0 {",
    "      splitLimit = limit + 1",
    "    }",
    "    split := strings.SplitN(string(sa), string(sepa), splitLimit)",
    "    if limit > 0 && len(split) > limit {",
    "      split = split[:limit]",
    "    }",
    "    valueArray = make([]Value, len(split))",
    "    for index, value := range split {",
    "      valueArray[index] = asciiString(value)",
    "    }",
    "  } else {",
    "    return r.newArrayValues([]Value{s})",
    "  }",
    "} else {",
    "  if sepu != nil {",
    "    ss = sepu[1:]",
    "  } else {",
    "    ss = sepa.utf16()",
    "  }",
    "  su = su[1:]",
    "  if len(ss) > 0 {",
    "    idx := utf16Index(su, ss)",
    "    if idx == -1 {",
    "      return r.newArrayValues([]Value{s})",
    "    }",
    "    if limit < 0 {",
    "      limit = min(math.MaxInt, math.MaxUint32)",
    "    }",
    "    for ; limit > 0; limit-- {",
    "      for i, _ := range idx {",
    "        if su[i] >= utf8.RuneSelf {",
    "          chunk := make(unicodeString, idx+1)",
    "          chunk[0] = unistring.BOM",
    "          copy(chunk[1:], su[:idx])",
    "          valueArray = append(valueArray, chunk)",
    "          goto next",
    "        }",
    "      }",
    "      sb.Grow(idx)",
    "      for i, _ := range idx {",
    "        sb.WriteByte((byte)(su[i]))",
    "      }",
    "      valueArray = append(valueArray, asciiString(sb.String()))",
    "      next:",
    "      if idx == len(su) {",
    "        break",
    "      }",
    "      su = su[idx+len(ss):]",
    "      idx = utf16Index(su, ss)",
    "      if idx == -1 {",
    "        idx = len(su)",
    "      }",
    "    }",
    "  } else {",
    "    if limit > 0 && len(su) > limit {",
    "      su = su[:limit]",
    "    }",
    "    for ; len(su) > 0;  {",
    "      c := su[0]",
    "      if c >= utf8.RuneSelf {",
    "        chunk := unicodeString{unistring.BOM, c}",
    "        valueArray = append(valueArray, chunk)",
    "      } else {",
    "        valueArray = append(valueArray, asciiString(rune(c)))",
    "      }",
    "      su = su[1:]",
    "    }",
    "  }",
    "}",
    "return r.newArrayValues(valueArray)"
  ]),
  ("arrayproto_join", [
    "o := call.This.ToObject(r)",
    "if r.pushToStringStack(o) {",
    "  return stringEmpty",
    "}",
    "defer r.popFromStringStack()",
    "l := int(toLength(o.self.getStr(\"length\", nil)))",
    "if s := call.Argument(0); s != _undefined {",
    "  sep = s.toString()",
    "} else {",
    "  sep = asciiString(\",\")",
    "}",
    "if l == 0 {",
    "  return stringEmpty",
    "}",
    "element0 := o.self.getIdx(valueInt(0), nil)",
    "if element0 != nil && element0 != _undefined && element0 != _null {",
    "  buf.WriteString(element0.toString())",
    "}",
    "for i := 1; i < l; i++ {",
    "  buf.WriteString(sep)",
    "  element := o.self.getIdx(valueInt(int64(i)), nil)",
    "  if element != nil && element != _undefined && element != _null {",
    "    buf.WriteString(element.toString())",
    "  }",
    "}",
    "return buf.String()"
  ])
]

end Expected

theorem uniSites_ok : C06.uniSites = Expected.uniSites := rfl
theorem makeUniSites_ok : C06.makeUniSites = Expected.makeUniSites := rfl
theorem asciiSites_ok : C06.asciiSites = Expected.asciiSites := rfl
theorem asciiLiterals_ok : C06.asciiLiteralsAllAscii = true := rfl
theorem asciiLiteralCount_ok : C06.asciiLiteralCount = Expected.asciiLiteralCount := rfl
/-- decision structure (conditions, loops, returns, assignments; no declarations/comments) of the decoder, of the built-ins and of Scan (this and the next two) -/
theorem decoderSkeleton_ok : GojaModel.Generated.C06.decoderSkeleton = Expected.decoderSkeleton := rfl
theorem builtinSkeletons_ok : GojaModel.Generated.C06.builtinSkeletons = Expected.builtinSkeletons := rfl
theorem scanSkeleton_ok : GojaModel.Generated.C06.scanSkeleton = Expected.scanSkeleton := rfl
/-- the two comparisons of unistring.Scan (counting pass: two units iff `chr > 0xFFFF`; fill pass: one unit iff
`chr <= 0xFFFF`) are the ones `Model.countUnits` / `Model.fillUnits` use (`scanTwoPass_eq_scan` in Props.lean depends on them) -/
theorem scanTests_ok : (GojaModel.Generated.C06.scanCountTest, GojaModel.Generated.C06.scanFillTest) =
    (GojaModel.C06.scanCountTest, GojaModel.C06.scanFillTest) := rfl
/-- the eager-scan threshold of Runtime.ToValue(string) is the one the model uses -/
theorem eagerMax_ok : C06.toValueEagerMax = GojaModel.C06.eagerMax := rfl

end GojaModel.C06.Tie
