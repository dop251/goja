/-
  C06 — MECHANISM models of trimString (trim / trimStart / trimEnd) and String.raw.  Core Lean only.
-/
import GojaModel.C06.Builtins
namespace GojaModel.C06.Builtins
open GojaModel.C06

/-- isWhitespaceUnit (builtin_string.go:1002): a surrogate is never white space, otherwise membership in
parser.WhitespaceChars (= the spec's WhiteSpace ∪ LineTerminator set, `Spec.isWS`). -/
def isWsUnit (c : UInt16) : Bool := !(Spec.isHi c || Spec.isLo c) && Spec.isWS c

/-- `for start < end && isWhitespaceUnit(u.CharAt(start)) { start++ }` (builtin_string.go:1025); fuel ≥ end - start -/
def leftLoop (u : List UInt16) : Nat → Nat → Nat → Nat
  | 0, start, _ => start
  | f + 1, start, en =>
    if start < en && isWsUnit (u.getD start 0) then leftLoop u f (start + 1) en else start

/-- `for end > start && isWhitespaceUnit(u.CharAt(end-1)) { end-- }` (builtin_string.go:1030); fuel ≥ end - start -/
def rightLoop (u : List UInt16) : Nat → Nat → Nat → Nat
  | 0, _, en => en
  | f + 1, start, en =>
    if en > start && isWsUnit (u.getD (en - 1) 0) then rightLoop u f start (en - 1) else en

/-- white-space test of strings.TrimLeft/TrimRight(str, parser.WhitespaceChars) on a byte of an ASCII string -/
def wsB (b : UInt8) : Bool := Spec.isWS (b2u b)

/-- trimString (builtin_string.go:1011).  The ASCII branch uses strings.TrimLeft / strings.TrimRight, modelled by their
specification (drop the leading / trailing bytes that are in the cut set). -/
def trimM (s : Str) (left right : Bool) : Str :=
  match devirt s with
  | .a a =>
    let a1 := if left then a.dropWhile wsB else a
    let a2 := if right then (a1.reverse.dropWhile wsB).reverse else a1
    .ascii a2
  | .u u =>
    let start := if left then leftLoop u u.length 0 u.length else 0
    let en := if right then rightLoop u u.length start u.length else u.length
    uniSubstring u start en

/-- String.raw (builtin_string.go:150): `segs` = the raw segments after toString (literalSegments ≥ 1), `subs` = the
substitutions after toString.  Segment, then a substitution while there is one, until the last segment. -/
def rawLoopM : List Str → List Str → SB → SB
  | [], _, b => b
  | [seg], _, b => b.writeString seg
  | seg :: seg2 :: segs, subs, b =>
    match subs with
    | [] => rawLoopM (seg2 :: segs) [] (b.writeString seg)
    | x :: xs => rawLoopM (seg2 :: segs) xs ((b.writeString seg).writeString x)

def rawM (segs subs : List Str) : Str :=
  if segs.isEmpty then emptyStr else (rawLoopM segs subs SB.empty).toStr

end GojaModel.C06.Builtins

namespace GojaModel.C06.Spec
/-- SPEC of String.raw (ECMA-262 §22.1.2.4) on units: segments interleaved with the substitutions that exist -/
def rawS : List S → List S → S
  | [], _ => []
  | [seg], _ => seg
  | seg :: seg2 :: segs, [] => seg ++ rawS (seg2 :: segs) []
  | seg :: seg2 :: segs, x :: xs => seg ++ x ++ rawS (seg2 :: segs) xs
end GojaModel.C06.Spec
