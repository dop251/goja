/-
  C06 — trimString (trim / trimStart / trimEnd) and String.raw: mechanism (Builtins2.lean) ⊑ spec, NF preserved.
-/
import GojaModel.C06.Props
import GojaModel.C06.Builtins2
namespace GojaModel.C06
open Builtins

theorem isWsUnit_eq (c : UInt16) : isWsUnit c = Spec.isWS c := by
  unfold isWsUnit
  cases h : Spec.isWS c
  · simp
  · -- no white-space unit lies in D800–DFFF, so the surrogate test of isWhitespaceUnit excludes nothing
    have : (Spec.isHi c || Spec.isLo c) = false := by
      simp only [Spec.isWS, Bool.or_eq_true, beq_iff_eq, Bool.and_eq_true, decide_eq_true_eq] at h
      simp only [Spec.isHi, Spec.isLo, Bool.or_eq_false_iff, Bool.and_eq_false_iff, decide_eq_false_iff_not]
      omega
    simp [this]

theorem getD_eq_getElem {α : Type} (l : List α) (i : Nat) (d : α) (h : i < l.length) : l.getD i d = l[i] := by
  simp [List.getD, List.getElem?_eq_getElem h]

theorem leftLoop_spec (u : List UInt16) : ∀ (fuel start : Nat), start ≤ u.length → u.length - start ≤ fuel →
    leftLoop u fuel start u.length = start + ((u.drop start).takeWhile Spec.isWS).length
  | 0, start, h1, h2 => by
    have : start = u.length := by omega
    subst this
    simp [leftLoop]
  | f + 1, start, h1, h2 => by
    simp only [leftLoop]
    by_cases hlt : start < u.length
    · rw [List.drop_eq_getElem_cons hlt, List.takeWhile_cons, getD_eq_getElem u start 0 hlt, isWsUnit_eq]
      cases hw : Spec.isWS u[start]
      · simp [hlt]
      · simp only [hlt, decide_true, Bool.and_self, if_true, List.length_cons]
        rw [leftLoop_spec u f (start + 1) (by omega) (by omega)]
        omega
    · have : start = u.length := by omega
      subst this
      simp

theorem trimEnd_snoc (m : List UInt16) (x : UInt16) :
    Spec.trimEnd (m ++ [x]) = if Spec.isWS x then Spec.trimEnd m else m ++ [x] := by
  cases h : Spec.isWS x <;> simp [Spec.trimEnd, h]

theorem rightLoop_spec (u : List UInt16) : ∀ (fuel start en : Nat), start ≤ en → en ≤ u.length → en - start ≤ fuel →
    rightLoop u fuel start en = start + (Spec.trimEnd (slice u start en)).length
  | 0, start, en, h1, h2, h3 => by
    have : en = start := by omega
    subst this
    simp [rightLoop, slice_self, Spec.trimEnd]
  | f + 1, start, en, h1, h2, h3 => by
    simp only [rightLoop]
    by_cases hgt : en > start
    · have hlt : en - 1 < u.length := by omega
      rw [getD_eq_getElem u (en - 1) 0 hlt, isWsUnit_eq, slice_snoc u start en hgt h2, trimEnd_snoc]
      cases hw : Spec.isWS u[en - 1]
      · simp only [hgt, decide_true, Bool.and_false, Bool.false_eq_true, if_false]
        rw [List.length_append, slice, List.length_take, List.length_drop,
          List.length_singleton]
        omega
      · simp only [hgt, decide_true, Bool.and_self, if_true]
        rw [rightLoop_spec u f start (en - 1) (by omega) (by omega) (by omega)]
    · have : en = start := by omega
      subst this
      simp [slice_self, Spec.trimEnd]

theorem drop_takeWhile_length {α : Type} (p : α → Bool) (l : List α) :
    l.drop (l.takeWhile p).length = l.dropWhile p := by
  have := List.drop_left (l₁ := l.takeWhile p) (l₂ := l.dropWhile p)
  rwa [List.takeWhile_append_dropWhile] at this

theorem trimEnd_prefix (x : List UInt16) : Spec.trimEnd x <+: x := by
  have := List.reverse_prefix.mpr (List.dropWhile_suffix Spec.isWS (l := x.reverse))
  rwa [List.reverse_reverse] at this

theorem map_dropWhile_ws : ∀ a : List UInt8, (a.dropWhile wsB).map b2u = (a.map b2u).dropWhile Spec.isWS
  | [] => rfl
  | b :: bs => by
    by_cases h : wsB b = true
    · have h' : Spec.isWS (b2u b) = true := h
      simp [h, h', map_dropWhile_ws bs]
    · have h' : ¬ Spec.isWS (b2u b) = true := h
      simp [h, h']

/-- the UTF-16 branch of trimString once the left index `k` is known -/
theorem trim_uni (u : List UInt16) (right : Bool) {k : Nat} (hk : k ≤ u.length) :
    NF (uniSubstring u k (if right then rightLoop u u.length k u.length else u.length)) ∧
      units (uniSubstring u k (if right then rightLoop u u.length k u.length else u.length)) =
        (if right then Spec.trimEnd (u.drop k) else u.drop k) := by
  refine uniSubstring_eq ?_
  cases right
  · exact slice_to_end u k
  · rw [if_pos rfl, if_pos rfl, rightLoop_spec u u.length k u.length hk (Nat.le_refl _) (by omega), slice_to_end, slice,
      Nat.add_sub_cancel_left]
    exact (List.prefix_iff_eq_take.mp (trimEnd_prefix _)).symm

/-- trimString as coded (trim = both, trimStart = left, trimEnd = right) = the spec's trimming on units, in normal
form; units that are not white space — lone surrogates in particular — are never touched -/
theorem trimM_spec {s : Str} (hs : NF s) (left right : Bool) :
    NF (trimM s left right) ∧
      units (trimM s left right) =
        (if right then Spec.trimEnd (if left then Spec.trimStart (units s) else units s)
         else (if left then Spec.trimStart (units s) else units s)) := by
  unfold trimM
  rcases devirt_view s with ⟨a, hd, hu, hn⟩ | ⟨u, hd, hu, -⟩ <;> simp only [hd, hu]
  · refine ⟨?_, ?_⟩
    · have h1 : (if left then a.dropWhile wsB else a).all asciiB = true := by
        split
        · exact all_of_sublist (List.dropWhile_sublist _) (hn hs)
        · exact hn hs
      rw [NF]
      split
      · rw [List.all_reverse]
        exact all_of_sublist (List.dropWhile_sublist _) (by rw [List.all_reverse]; exact h1)
      · exact h1
    · rw [units]
      cases left <;> cases right <;>
        simp only [if_true, Bool.false_eq_true, if_false, Spec.trimEnd, Spec.trimStart, List.map_reverse,
          map_dropWhile_ws]
  · cases left
    · simpa using trim_uni u right (Nat.zero_le _)
    · have := trim_uni u right (List.takeWhile_sublist Spec.isWS (l := u)).length_le
      rw [drop_takeWhile_length] at this
      simpa [leftLoop_spec u u.length 0 (Nat.zero_le _) (Nat.le_refl _), Spec.trimStart] using this

theorem rawLoopM_spec : ∀ (segs subs : List Str) {b : SB}, b.Inv → (∀ x ∈ segs, NF x) → (∀ x ∈ subs, NF x) →
    (rawLoopM segs subs b).Inv ∧
      (rawLoopM segs subs b).units = b.units ++ Spec.rawS (segs.map units) (subs.map units)
  | [], _, b, h, _, _ => by simp [rawLoopM, Spec.rawS, h]
  | [seg], subs, b, h, hs, _ => sb_writeString h (hs seg (by simp))
  | seg :: seg2 :: segs, [], b, h, hs, hx => by
    have w := sb_writeString h (hs seg (by simp))
    exact SB.chain w (rawLoopM_spec (seg2 :: segs) [] w.1 (fun x hx' => hs x (by simp [hx'])) hx)
  | seg :: seg2 :: segs, x :: xs, b, h, hs, hx => by
    have w := sb_writeString h (hs seg (by simp))
    have w2 := SB.chain w (sb_writeString w.1 (hx x (by simp)))
    exact SB.chain w2 (rawLoopM_spec (seg2 :: segs) xs w2.1 (fun y hy => hs y (by simp [hy]))
      (fun y hy => hx y (by simp [hy])))

/-- String.raw as coded = the spec's interleaving of raw segments and substitutions on units, in normal form -/
theorem rawM_spec {segs subs : List Str} (hs : ∀ x ∈ segs, NF x) (hx : ∀ x ∈ subs, NF x) :
    NF (rawM segs subs) ∧ units (rawM segs subs) = Spec.rawS (segs.map units) (subs.map units) := by
  unfold rawM
  cases segs with
  | nil => exact ⟨nf_emptyStr, rfl⟩
  | cons seg rest =>
    simp only [List.isEmpty_cons, Bool.false_eq_true, if_false]
    exact sb_toStr_of (rawLoopM_spec (seg :: rest) subs sb_inv_empty hs hx)
end GojaModel.C06
