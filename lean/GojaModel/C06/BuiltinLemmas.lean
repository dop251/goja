/-
  C06 — what the proofs about the String built-ins share (core Lean only): Go's index clamps against the spec's,
  repetition, the byte-level search functions against `Spec.isPrefix` / `Spec.indexFrom`, where a search cannot
  succeed, and the pieces of a split.
-/
import GojaModel.C06.Repr
import GojaModel.C06.Builtins
namespace GojaModel.C06
open Builtins

theorem len_def (s : Str) : (units s).length = len s := rfl

theorem nf_emptyStr : NF emptyStr := by simp [emptyStr, NF]

theorem units_emptyStr : units emptyStr = [] := rfl

theorem nf_ite {c : Prop} [Decidable c] {a b : Str} (ha : NF a) (hb : NF b) : NF (if c then a else b) := by
  split <;> assumption

theorem relIdx_clampRel (l : Nat) (x : Int) : (clampRel x (l : Int)).toNat = Spec.relIdx l x := by
  unfold clampRel Spec.relIdx
  simp only [Int.ofNat_eq_natCast]
  split <;> split <;> omega

theorem relIdx_self (l : Nat) : Spec.relIdx l l = l := by
  rw [Spec.relIdx, if_neg (by omega)]
  omega

theorem clampIdx_clamp0 (l : Nat) (x : Int) : (clamp0 x (l : Int)).toNat = Spec.clampIdx l x := by
  unfold clamp0 Spec.clampIdx
  split
  · rfl
  · split <;> omega

theorem clampIdx_self (l : Nat) : Spec.clampIdx l l = l := by
  rw [Spec.clampIdx, if_neg (by omega)]
  omega

theorem relIdx_eq_min (L : Nat) (i : Int) :
    Spec.relIdx L i = min (if i < 0 then max ((L : Int) + i) 0 else i).toNat L := by
  simp only [Spec.relIdx, Int.ofNat_eq_natCast]
  split <;> omega

theorem substrCnt_eq (L a : Nat) (n : Option Int) : Spec.substrCnt L a n = min (n.getD L).toNat (L - a) := by
  cases n with
  | none => simp only [Spec.substrCnt, Option.getD]; omega
  | some n => simp only [Spec.substrCnt, Option.getD]; split <;> omega

theorem rep_succ (x : Spec.S) (k : Nat) : Spec.rep x (k + 1) = x ++ Spec.rep x k := by
  simp [Spec.rep, List.replicate_succ]

theorem rep_nil : ∀ k : Nat, Spec.rep [] k = []
  | 0 => rfl
  | k + 1 => by rw [rep_succ, rep_nil k]; rfl

theorem padFill_map (fa : List UInt8) (r : Nat) :
    ((List.replicate (r / fa.length) fa).flatten ++ fa.take (r % fa.length)).map b2u = Spec.padFill (fa.map b2u) r := by
  simp only [Spec.padFill, Spec.rep, List.map_append, map_flatten_replicate, List.map_take, List.length_map]

theorem isPrefixB_map : ∀ p l : List UInt8, isPrefixB p l = Spec.isPrefix (p.map b2u) (l.map b2u)
  | [], _ => by simp [isPrefixB, Spec.isPrefix]
  | _ :: _, [] => by simp [isPrefixB, Spec.isPrefix]
  | a :: as, b :: bs => by simp [isPrefixB, Spec.isPrefix, beq_b2u, isPrefixB_map as bs]

theorem indexFromB_map (p : List UInt8) : ∀ (l : List UInt8) (k : Nat),
    indexFromB p l k = Spec.indexFrom (p.map b2u) (l.map b2u) k
  | [], k => by simp [indexFromB, Spec.indexFrom]
  | c :: cs, k => by
    have := isPrefixB_map p (c :: cs)
    simp only [List.map_cons] at this
    simp only [indexFromB, Spec.indexFrom, List.map_cons, this, indexFromB_map p cs (k + 1)]

theorem isPrefix_mem : ∀ (p l : List UInt16), Spec.isPrefix p l = true → ∀ x ∈ p, x ∈ l
  | [], _, _, x, hx => by simp at hx
  | _ :: _, [], h, _, _ => by simp [Spec.isPrefix] at h
  | a :: as, b :: bs, h, x, hx => by
    simp only [Spec.isPrefix, Bool.and_eq_true, beq_iff_eq] at h
    simp only [List.mem_cons] at hx ⊢
    rcases hx with rfl | hx
    · exact Or.inl h.1
    · exact Or.inr (isPrefix_mem as bs h.2 x hx)

theorem indexFrom_none {p : List UInt16} {x : UInt16} (hx : x ∈ p) : ∀ (l : List UInt16) (k : Nat), x ∉ l →
    Spec.indexFrom p l k = none
  | [], k, _ => by
    simp [Spec.indexFrom, List.isEmpty_eq_false_iff.mpr (List.ne_nil_of_mem hx)]
  | c :: cs, k, hn => by
    have h1 : Spec.isPrefix p (c :: cs) = false := by
      cases h : Spec.isPrefix p (c :: cs) with
      | false => rfl
      | true => exact absurd (isPrefix_mem p _ h x hx) hn
    have h2 : x ∉ cs := fun h => hn (List.mem_cons_of_mem _ h)
    simp [Spec.indexFrom, h1, indexFrom_none hx cs (k + 1) h2]

theorem indexFrom_none_of_ascii {p l : List UInt16} (hp : p.any nonAsciiU = true) (hl : l.all asciiU = true)
    (k : Nat) : Spec.indexFrom p l k = none := by
  obtain ⟨x, hx, hxn⟩ := List.any_eq_true.mp hp
  refine indexFrom_none hx l k (fun hmem => ?_)
  rw [nonAsciiU, List.all_eq_true.mp hl x hmem] at hxn
  cases hxn

theorem indexFrom_lt {ss : List UInt16} (hne : ss ≠ []) : ∀ (l : List UInt16) (k i : Nat),
    Spec.indexFrom ss l k = some i → i < k + l.length
  | [], k, i, h => by
    simp [Spec.indexFrom, List.isEmpty_eq_false_iff.mpr hne] at h
  | c :: cs, k, i, h => by
    simp only [Spec.indexFrom] at h
    split at h
    · cases h; simp
    · have := indexFrom_lt hne cs (k + 1) i h
      simp; omega

theorem splitRel_of_none {sep l : List UInt16} (h : Spec.indexFrom sep l 0 = none) (fuel : Nat) :
    Spec.splitRel sep fuel l = [l] := by
  cases fuel
  · rfl
  · rw [Spec.splitRel, h]

theorem pieces_map {α : Type} {f : α → Str} {g : α → List UInt16} {l : List α}
    (h : ∀ c ∈ l, NF (f c) ∧ units (f c) = g c) : (∀ p ∈ l.map f, NF p) ∧ (l.map f).map units = l.map g := by
  refine ⟨fun p hp => ?_, ?_⟩
  · obtain ⟨c, hc, rfl⟩ := List.mem_map.mp hp
    exact (h c hc).1
  · rw [List.map_map]
    exact List.map_congr_left (fun c hc => (h c hc).2)

theorem pieces_take {L : List Str} {R : List (List UInt16)} (h : (∀ p ∈ L, NF p) ∧ L.map units = R) (n : Nat) :
    (∀ p ∈ L.take n, NF p) ∧ (L.take n).map units = R.take n :=
  ⟨fun p hp => h.1 p (List.mem_of_mem_take hp), by rw [List.map_take, h.2]⟩

theorem pieces_cons {x : Str} {L : List Str} {u : List UInt16} {R : List (List UInt16)}
    (hx : NF x ∧ units x = u) (h : (∀ p ∈ L, NF p) ∧ L.map units = R) :
    (∀ p ∈ x :: L, NF p) ∧ (x :: L).map units = u :: R :=
  ⟨List.forall_mem_cons.mpr ⟨hx.1, h.1⟩, by rw [List.map_cons, hx.2, h.2]⟩

theorem pieces_self {s : Str} (hs : NF s) : (∀ p ∈ [touch s], NF p) ∧ [touch s].map units = [units s] :=
  pieces_cons ⟨nf_touch hs, units_touch s⟩ ⟨nofun, rfl⟩

theorem pieces_ascii {L : List (List UInt8)} (h : ∀ q ∈ L, q.all asciiB = true) :
    (∀ p ∈ L.map Str.ascii, NF p) ∧ (L.map Str.ascii).map units = L.map (List.map b2u) :=
  pieces_map (fun q hq => ⟨h q hq, rfl⟩)

theorem pieces_bytes {a : List UInt8} (ha : a.all asciiB = true) :
    (∀ p ∈ (a.map (fun c => [c])).map Str.ascii, NF p) ∧
      ((a.map (fun c => [c])).map Str.ascii).map units = (a.map b2u).map (fun c => [c]) := by
  have h := pieces_map (f := fun c => Str.ascii [c]) (g := fun c => [b2u c]) (l := a)
    (fun c hc => ⟨by rw [NF, List.all_cons, List.all_eq_true.mp ha c hc]; rfl, rfl⟩)
  simpa only [List.map_map, Function.comp_def] using h

theorem pieces_units (u : List UInt16) :
    (∀ p ∈ u.map (fun c => if nonAsciiU c then Str.uni [c] else .ascii [u2b c]), NF p) ∧
      (u.map (fun c => if nonAsciiU c then Str.uni [c] else .ascii [u2b c])).map units = u.map (fun c => [c]) := by
  refine pieces_map (fun c _ => ?_)
  split
  · next h => exact ⟨by rw [NF, List.any_cons, h]; rfl, rfl⟩
  · next h =>
    have hc : asciiU c = true := by simpa [nonAsciiU] using h
    exact ⟨by rw [NF, List.all_cons, asciiB_u2b hc]; rfl, by rw [units, List.map_cons, b2u_u2b hc]; rfl⟩

end GojaModel.C06
