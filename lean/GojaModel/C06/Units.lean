/-
  C06 — bytes, code units and slices: `b2u` / `u2b` between ASCII bytes and units, the ASCII tests on lists (`asciiB`,
  `asciiU`, `nonAsciiU`), the units of one code point, and `slice` (Go's `x[start:end]`).  Core Lean only.
-/
import GojaModel.C06.Model
namespace GojaModel.C06

@[simp] theorem b2u_toNat (b : UInt8) : (b2u b).toNat = b.toNat := by simp [b2u]

theorem b2u_inj {a b : UInt8} (h : b2u a = b2u b) : a = b := by
  apply UInt8.toNat_inj.mp
  have := congrArg UInt16.toNat h
  simpa using this

theorem map_b2u_inj {l1 l2 : List UInt8} (h : l1.map b2u = l2.map b2u) : l1 = l2 :=
  (List.map_inj_right (fun _ _ => b2u_inj)).mp h

theorem beq_b2u (a b : UInt8) : (b2u a == b2u b) = (a == b) := by
  by_cases h : a = b
  · subst h; simp
  · have : b2u a ≠ b2u b := fun e => h (b2u_inj e)
    rw [beq_eq_false_iff_ne.mpr h, beq_eq_false_iff_ne.mpr this]

@[simp] theorem asciiU_b2u (b : UInt8) : asciiU (b2u b) = asciiB b := by simp [asciiU, asciiB]

theorem u2b_b2u (b : UInt8) : u2b (b2u b) = b := by
  apply UInt8.toNat_inj.mp
  simp [u2b, b2u]

theorem b2u_u2b {c : UInt16} (h : asciiU c = true) : b2u (u2b c) = c := by
  apply UInt16.toNat_inj.mp
  simp [asciiU] at h
  simp [u2b, b2u]
  omega

theorem asciiB_u2b {c : UInt16} (h : asciiU c = true) : asciiB (u2b c) = true := by
  simp [asciiU] at h
  simp [asciiB, u2b]
  omega

theorem map_u2b_b2u (l : List UInt8) : (l.map b2u).map u2b = l := by
  induction l with
  | nil => rfl
  | cons a as ih => simp [u2b_b2u, ih]

theorem map_b2u_u2b : ∀ {l : List UInt16}, l.all asciiU = true → (l.map u2b).map b2u = l
  | [], _ => rfl
  | c :: cs, h => by
    simp only [List.all_cons, Bool.and_eq_true] at h
    simp [b2u_u2b h.1, map_b2u_u2b h.2]

theorem all_asciiB_u2b : ∀ {l : List UInt16}, l.all asciiU = true → (l.map u2b).all asciiB = true
  | [], _ => rfl
  | c :: cs, h => by
    simp only [List.all_cons, Bool.and_eq_true] at h
    simp [asciiB_u2b h.1, all_asciiB_u2b h.2]

theorem all_asciiU_map_b2u (l : List UInt8) : (l.map b2u).all asciiU = l.all asciiB := by
  rw [List.all_map]; exact List.all_congr rfl asciiU_b2u

theorem all_asciiU_of_all_asciiB {b : List UInt8} (h : b.all asciiB = true) : (b.map b2u).all asciiU = true :=
  (all_asciiU_map_b2u b).trans h

theorem any_nonAscii_eq_not_all (l : List UInt16) : l.any nonAsciiU = !(l.all asciiU) :=
  List.not_all_eq_any_not.symm

theorem all_ascii_of_not_any {l : List UInt16} (h : ¬ l.any nonAsciiU = true) : l.all asciiU = true := by
  rwa [any_nonAscii_eq_not_all, Bool.not_eq_true, Bool.not_eq_false'] at h

theorem any_nonAscii_ascii {a : List UInt8} (h : a.all asciiB = true) : (a.map b2u).any nonAsciiU = false := by
  rw [any_nonAscii_eq_not_all, all_asciiU_map_b2u, h]; rfl

theorem ascii_ne_nonascii {b : List UInt8} {u : List UInt16} (hb : b.all asciiB = true)
    (hu : u.any nonAsciiU = true) : b.map b2u ≠ u := by
  intro h
  rw [← h, any_nonAscii_ascii hb] at hu
  cases hu

theorem nonAsciiU_ofNat {r : Nat} (h : r ≤ 0xFFFF) : nonAsciiU (UInt16.ofNat r) = decide (0x80 ≤ r) := by
  have : r % 65536 = r := by omega
  simp [nonAsciiU, asciiU, this]
  by_cases h2 : r < 128 <;> simp [h2] <;> omega

theorem utf16One_unit (c : UInt16) : utf16One c.toNat = [c] := by
  have := c.toNat_lt
  have h : c.toNat ≤ 0xFFFF := by omega
  simp only [utf16One, h, if_true]
  congr 1
  apply UInt16.toNat_inj.mp
  simp

theorem utf16One_head_nonascii {r : Nat} (h1 : 128 ≤ r) (h2 : r ≤ 0x10FFFF) (rest : List UInt16) :
    (utf16One r ++ rest).any nonAsciiU = true := by
  unfold utf16One
  split
  · simp [nonAsciiU, asciiU]
    left
    omega
  · simp [nonAsciiU, asciiU]
    left
    omega

theorem utf16_cons (r : Nat) (rs : List Nat) : utf16 (r :: rs) = utf16One r ++ utf16 rs :=
  List.flatMap_cons

theorem utf16One_ne_nil (r : Nat) : utf16One r ≠ [] := by
  unfold utf16One
  split <;> simp

theorem utf16_append (a b : List Nat) : utf16 (a ++ b) = utf16 a ++ utf16 b := by
  simp [utf16]

theorem slice_map {α β : Type} (f : α → β) (l : List α) (st en : Nat) :
    slice (l.map f) st en = (slice l st en).map f := by
  simp [slice, List.map_take, List.map_drop]

theorem slice_zero {α : Type} (l : List α) (n : Nat) : slice l 0 n = l.take n := by simp [slice]

theorem slice_full {α : Type} (l : List α) : slice l 0 l.length = l := by simp [slice]

theorem slice_to_end {α : Type} (l : List α) (k : Nat) : slice l k l.length = l.drop k := by
  simp only [slice]
  exact List.take_of_length_le (by simp)

theorem slice_empty_of_le {α : Type} (l : List α) {a b : Nat} (h : b ≤ a) : slice l a b = [] := by
  simp [slice, Nat.sub_eq_zero_of_le h]

theorem slice_self {α : Type} (l : List α) (k : Nat) : slice l k k = [] :=
  slice_empty_of_le l (Nat.le_refl k)

theorem slice_one {α : Type} (l : List α) (k : Nat) : slice l k (k + 1) = l[k]?.toList := by
  rw [slice, Nat.add_sub_cancel_left, ← List.head?_drop]
  cases l.drop k <;> rfl

theorem slice_snoc {α : Type} (u : List α) (start en : Nat) (h1 : start < en) (h2 : en ≤ u.length) :
    slice u start en = slice u start (en - 1) ++ [u[en - 1]'(by omega)] := by
  have hlt : en - 1 < u.length := by omega
  simp only [slice]
  have e1 : en - start = (en - 1 - start) + 1 := by omega
  rw [e1, List.take_add_one]
  congr 1
  have : (List.drop start u)[en - 1 - start]? = some u[en - 1] := by
    rw [List.getElem?_drop]
    have : start + (en - 1 - start) = en - 1 := by omega
    rw [this, List.getElem?_eq_getElem hlt]
  rw [this]; rfl

theorem slice_sublist {α : Type} (l : List α) (st en : Nat) : (slice l st en).Sublist l :=
  (List.take_sublist _ _).trans (List.drop_sublist _ _)

theorem all_of_sublist {α : Type} {p : α → Bool} {l l' : List α} (hs : l'.Sublist l) (h : l.all p = true) :
    l'.all p = true := by
  rw [List.all_eq_true] at h ⊢
  exact fun x hx => h x (hs.subset hx)

theorem flatMap_congr {α β : Type} {l : List α} {f g : α → List β} (h : ∀ a ∈ l, f a = g a) :
    l.flatMap f = l.flatMap g := by
  rw [List.flatMap_def, List.flatMap_def, List.map_congr_left h]

theorem map_flatten_replicate {α β : Type} (f : α → β) (a : List α) (k : Nat) :
    ((List.replicate k a).flatten).map f = (List.replicate k (a.map f)).flatten := by
  rw [List.map_flatten, List.map_replicate]

theorem all_flatten_replicate {α : Type} (p : α → Bool) (a : List α) (h : a.all p = true) (k : Nat) :
    ((List.replicate k a).flatten).all p = true := by
  rw [List.all_flatten, List.all_eq_true]
  intro l hl
  rw [List.eq_of_mem_replicate hl, h]

end GojaModel.C06
