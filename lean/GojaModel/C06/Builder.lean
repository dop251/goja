/-
  C06 — StringBuilder under its invariant (core Lean only): a builder satisfying `SB.Inv` is in one of two modes
  (`SB.Inv.cases`), so a write is analysed on two concrete states; `SB.chain` puts writes in sequence.
-/
import GojaModel.C06.Repr
namespace GojaModel.C06

theorem SB.inv_ascii {a : List UInt8} (h : a.all asciiB = true) : SB.Inv ⟨a, false, [], false⟩ :=
  ⟨h, fun _ => ⟨rfl, rfl⟩, (nomatch ·), rfl⟩

theorem SB.inv_uni (u : List UInt16) : SB.Inv ⟨[], true, u, u.any nonAsciiU⟩ :=
  ⟨rfl, (nomatch ·), fun _ => rfl, rfl⟩

theorem SB.Inv.cases {b : SB} (h : b.Inv) :
    (∃ a, a.all asciiB = true ∧ b = ⟨a, false, [], false⟩) ∨ (∃ u, b = ⟨[], true, u, u.any nonAsciiU⟩) := by
  obtain ⟨abuf, started, ubuf, unicode⟩ := b
  obtain ⟨h1, h2, h3, h4⟩ := h
  cases started
  · obtain ⟨h5, h6⟩ := h2 rfl
    exact .inl ⟨abuf, h1, by simp only at h5 h6; rw [h5, h6]⟩
  · have h5 := h3 rfl
    exact .inr ⟨ubuf, by simp only at h5 h4; rw [h5, h4]⟩

theorem SB.inv_append (u v : List UInt16) {f : Bool} (hf : f = v.any nonAsciiU) :
    SB.Inv ⟨[], true, u ++ v, u.any nonAsciiU || f⟩ := by
  rw [hf, ← List.any_append]; exact SB.inv_uni _

theorem switchToUnicode_eq {b : SB} (h : b.Inv) : b.switchToUnicode = ⟨[], true, b.units, b.units.any nonAsciiU⟩ := by
  rcases h.cases with ⟨a, ha, rfl⟩ | ⟨u, rfl⟩
  · simp only [SB.switchToUnicode, SB.units, List.append_nil, any_nonAscii_ascii ha, Bool.false_eq_true, if_false]
  · rfl

/-- the asciiString case of WriteString and of WriteSubstring -/
theorem sb_appendAscii {b : SB} (h : b.Inv) {a : List UInt8} (ha : a.all asciiB = true) :
    (if b.started then { b with ubuf := b.ubuf ++ a.map b2u } else { b with abuf := b.abuf ++ a }).Inv ∧
      (if b.started then { b with ubuf := b.ubuf ++ a.map b2u } else { b with abuf := b.abuf ++ a }).units =
        b.units ++ a.map b2u := by
  rcases h.cases with ⟨a0, ha0, rfl⟩ | ⟨u0, rfl⟩
  · exact ⟨SB.inv_ascii (by rw [List.all_append, ha0, ha]; rfl), by simp [SB.units]⟩
  · exact ⟨by simpa [any_nonAscii_ascii ha] using SB.inv_append u0 (a.map b2u) rfl, rfl⟩

theorem writeRuneFast_uni (u : List UInt16) {r : Nat} (hr : r ≤ 0x10FFFF) :
    SB.writeRuneFast ⟨[], true, u, u.any nonAsciiU⟩ r =
      ⟨[], true, u ++ utf16One r, (u ++ utf16One r).any nonAsciiU⟩ := by
  unfold SB.writeRuneFast utf16One
  split
  · next hle => simp only [List.any_append, List.any_cons, List.any_nil, Bool.or_false, nonAsciiU_ofNat hle]
  · next hgt =>
    have := utf16One_head_nonascii (r := r) (by omega) hr []
    rw [List.append_nil, utf16One, if_neg hgt] at this
    simp only [List.any_append, this, Bool.or_true]

theorem foldl_writeRuneFast_uni : ∀ (rs : List Nat) (u : List UInt16), (∀ r ∈ rs, r ≤ 0x10FFFF) →
    rs.foldl SB.writeRuneFast ⟨[], true, u, u.any nonAsciiU⟩ = ⟨[], true, u ++ utf16 rs, (u ++ utf16 rs).any nonAsciiU⟩
  | [], u, _ => by simp [utf16]
  | r :: rs, u, hr => by
    rw [List.foldl_cons, writeRuneFast_uni u (hr r (by simp)),
      foldl_writeRuneFast_uni rs _ (fun x hx => hr x (by simp [hx])), utf16_cons, List.append_assoc]

theorem SB.chain {b b' r : SB} {X G : List UInt16} (w : b'.Inv ∧ b'.units = b.units ++ X)
    (ih : r.Inv ∧ r.units = b'.units ++ G) : r.Inv ∧ r.units = b.units ++ (X ++ G) :=
  ⟨ih.1, by rw [ih.2, w.2, List.append_assoc]⟩

/-- the builder state the pre-58560e3 WriteSubstring produced for LikelyUnicode; WriteSubstring("abéc", 0, 2) -/
def sbOldExample : SB :=
  { abuf := [], started := true, ubuf := slice [0x61, 0x62, 0xe9, 0x63] 0 2, unicode := true }

end GojaModel.C06
