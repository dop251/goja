/-
  C06 — MECHANISM model of String.prototype.split(separator, limit) (builtin_string.go:815), string separator.
  Core Lean only.
-/
import GojaModel.C06.Builtins2
namespace GojaModel.C06.Builtins
open GojaModel.C06

/-- the `for ; limit > 0; limit--` loop (builtin_string.go:885-911) with its counter: at most `limit` chunks -/
def splitLoopLimM (ss : List UInt16) : Nat → List UInt16 → Nat → List Str
  | 0, _, _ => []
  | limit + 1, su, idx =>
    if idx = su.length then [uniSubstring su 0 idx]
    else
      let su' := su.drop (idx + ss.length)
      uniSubstring su 0 idx :: splitLoopLimM ss limit su' ((Spec.indexFrom ss su' 0).getD su'.length)

/-- String.prototype.split(separator, limit): `limit` = none for undefined, else ToUint32(limit).
strings.SplitN(s, sep, n) is modelled by its specification: at most n-1 cuts, then the remainder
(= `splitRelB sep (n-1)`); for "" it explodes into single bytes with the remainder last. -/
def splitLimM (s sep : Str) (limit : Option Nat) : List Str :=
  match limit with
  | some 0 => []
  | none => splitM s sep
  | some (l + 1) =>
    let lim := l + 1
    match devirt s, devirt sep with
    | .a sa, .a sepa =>
      -- splitLimit = limit + 1; `if len(split) > limit { split = split[:limit] }`
      let parts := if sepa.isEmpty then (sa.take lim).map (fun c => [c]) ++ (if sa.length > lim then [sa.drop lim] else [])
                   else splitRelB sepa lim sa
      (parts.take lim).map .ascii
    | .a _, .u _ => [touch s]
    | .u su, dsep =>
      let ss := dsep.units
      if ss.isEmpty then
        (if su.length > lim then su.take lim else su).map (fun c => if nonAsciiU c then .uni [c] else .ascii [u2b c])
      else match Spec.indexFrom ss su 0 with
        | none => [touch s]
        | some idx => splitLoopLimM ss lim su idx

end GojaModel.C06.Builtins
