/-
  C06 — property theorems, with the helpers that rest on them.

  Spec: a string's identity is `units : Str → List UInt16`.  Mechanism: the functions of Model.lean that
  transcribe goja's three representations.  The theorems say
    * every constructor / operation returns a value in normal form `NF` (given NF operands) and refines the
      corresponding operation on unit lists (append, slice, identity);
    * under NF, StrictEquals/SameAs as coded, the hash preimage and the property-key encoding identify
      exactly the strings with equal units; CompareTo is the lexicographic order of units;
    * code units are never rewritten (lone surrogates survive);
    * the String built-ins as coded (Builtins*.lean) refine the ECMA-262 algorithms of Spec.lean on units and preserve NF.
  Nothing is `_partial`: the model transcribes the code with the fixes 58560e3, ef621e6, 3293be7 and 7f47297 in place.
  Of the mechanisms as they were before those fixes only the unguarded Concat shortcut is modelled (`concatOld`, in
  `concat_shortcut_prefix_witness`); the other regression lemmas evaluate the present model on the input that went
  wrong, or a builder state written out by hand (`sbOldExample`).
-/
import GojaModel.C06.Builder
import GojaModel.C06.BuiltinLemmas
namespace GojaModel.C06

theorem nf_newStringValue (s : List UInt8) : NF (newStringValue s) := by
  rcases scan_cases s with ⟨h, hs⟩ | ⟨h, hs⟩
  · simp [newStringValue, hs, NF, h]
  · simp [newStringValue, hs, NF, decode_nonascii h]

/-- import_units: a Go string is imported with Go's lenient decoding (invalid byte ↦ U+FFFD) -/
theorem units_newStringValue (s : List UInt8) : units (newStringValue s) = utf16 (decode s) := by
  rcases scan_cases s with ⟨h, hs⟩ | ⟨h, hs⟩
  · simp [newStringValue, hs, units, utf16_decode_ascii h]
  · simp [newStringValue, hs, units]

theorem nf_stringFromUTF16 (c : List UInt16) : NF (stringFromUTF16 c) :=
  (asciiOrUni_spec c).1

/-- StringFromUTF16 keeps every code unit as it is (no validation: lone surrogates survive) -/
theorem units_stringFromUTF16 (c : List UInt16) : units (stringFromUTF16 c) = c :=
  (asciiOrUni_spec c).2

theorem nf_toValue (s : List UInt8) : NF (toValue s) := by
  unfold toValue
  split
  · rcases scan_cases s with ⟨h, hs⟩ | ⟨h, hs⟩ <;> simp [hs, NF, h]
  · trivial

/-- import_units for Runtime.ToValue: the same units whether scanned eagerly (≤ 16 bytes) or lazily -/
theorem units_toValue (s : List UInt8) : units (toValue s) = utf16 (decode s) := by
  unfold toValue
  split
  · rcases scan_cases s with ⟨h, hs⟩ | ⟨h, hs⟩
    · simp [hs, units, utf16_decode_ascii h]
    · simp [hs, units]
  · rfl

/-- ToValue and newStringValue of the same Go string denote the same JS string -/
theorem toValue_units_eq_newStringValue (s : List UInt8) : units (toValue s) = units (newStringValue s) := by
  rw [units_toValue, units_newStringValue]

/-- Go's lenient decoding splits at a junction whose right side is empty or starts with a rune-start byte -/
theorem decode_append_of_junctionSafe (s t : List UInt8) (ht : junctionSafe t = true) :
    decode (s ++ t) = decode s ++ decode t :=
  decodeS_append ht s 0 (Nat.zero_le _)

/-- concat refines list append, for ALL 3×3 representation pairs, unconditionally — including the
unscanned+unscanned shortcut, which joins the Go BYTES only when the junction is safe (3293be7). -/
theorem concat_units (x y : Str) : units (concat x y) = units x ++ units y := by
  unfold concat
  split
  · next s t =>
    split
    · next hj => simp only [units, decode_append_of_junctionSafe s t hj, utf16_append]
    · rw [dvConcat_units, devirt_units]
  · rw [dvConcat_units, devirt_units]

/-- Regression lemma about the OLD mechanism (before 3293be7, no junction guard): two imported strings, each
longer than 16 bytes and not yet scanned, whose junction splits a UTF-8 sequence (… C3 | A9 …) were fused:
41 units instead of 21 + 21. -/
theorem concat_shortcut_prefix_witness :
    ¬ ∀ x y : Str, units (concatOld x y) = units x ++ units y := by
  intro h
  have := h (toValue (List.replicate 20 0x61 ++ [0xC3])) (toValue (0xA9 :: List.replicate 20 0x62))
  have := congrArg List.length this
  revert this
  decide

/-- the same input through the current mechanism: the guard refuses the shortcut and the units are appended -/
theorem concat_guard_on_prefix_witness_input :
    (units (concat (toValue (List.replicate 20 0x61 ++ [0xC3])) (toValue (0xA9 :: List.replicate 20 0x62)))).length = 42 := by
  decide

/-- nf_preserved: Concat -/
theorem nf_concat {x y : Str} (hx : NF x) (hy : NF y) : NF (concat x y) := by
  unfold concat
  split
  · split
    · trivial
    · exact nf_dvConcat (devirt_nf hx) hy
  · exact nf_dvConcat (devirt_nf hx) hy

theorem uniSubstring_spec (u : List UInt16) (st en : Nat) :
    NF (uniSubstring u st en) ∧ units (uniSubstring u st en) = slice u st en :=
  uniOrAscii_spec (slice u st en)

theorem substring_units (x : Str) (st en : Nat) : units (substring x st en) = slice (units x) st en := by
  unfold substring
  rcases devirt_view x with ⟨b, hb, hu, -⟩ | ⟨u, hd, hu, -⟩
  · rw [hb, hu, slice_map]; rfl
  · rw [hd, hu]; exact (uniSubstring_spec u st en).2

/-- nf_preserved: Substring (downgrades to ASCII storage when the slice has no unit >= 0x80) -/
theorem nf_substring {x : Str} (hx : NF x) (st en : Nat) : NF (substring x st en) := by
  unfold substring
  rcases devirt_view x with ⟨b, hb, -, hn⟩ | ⟨u, hd, -, -⟩
  · rw [hb]; exact all_of_sublist (slice_sublist b st en) (hn hx)
  · rw [hd]; exact (uniSubstring_spec u st en).1

/-- lone_surrogate_preserved (and every other unit): a unit of the slice is a unit of the result -/
theorem substring_mem (x : Str) (st en : Nat) (c : UInt16) :
    c ∈ units (substring x st en) ↔ c ∈ slice (units x) st en := by
  rw [substring_units]

/-- compare_is_lex_units: CompareTo, for every representation pair, is slices.Compare on the units -/
theorem compareTo_lex (x y : Str) : compareTo x y = lexCmp (units x) (units y) := by
  rw [← devirt_units x, ← devirt_units y]
  unfold compareTo
  cases devirt x <;> cases devirt y <;> simp [DV.units, cmpBytes_eq, cmpUA_eq, lexCmp_neg]

/-- the order is consistent with identity: compare = 0 exactly for equal units -/
theorem lexCmp_eq_zero_iff : ∀ u v : List UInt16, lexCmp u v = 0 ↔ u = v
  | [], [] => by simp [lexCmp]
  | [], _ :: _ => by simp [lexCmp]
  | _ :: _, [] => by simp [lexCmp]
  | a :: as, b :: bs => by
    simp only [lexCmp, List.cons.injEq]
    by_cases h1 : a.toNat < b.toNat
    · have : a ≠ b := fun e => by rw [e] at h1; omega
      simp [h1, this]
    · by_cases h2 : b.toNat < a.toNat
      · have : a ≠ b := fun e => by rw [e] at h2; omega
        simp [h1, h2, this]
      · have : a = b := UInt16.toNat_inj.mp (by omega)
        simp [this, lexCmp_eq_zero_iff as bs]

theorem compareTo_antisymm (x y : Str) : compareTo y x = - compareTo x y := by
  rw [compareTo_lex, compareTo_lex, lexCmp_neg]

theorem sameAs_eq_strictEq (a b : Str) : sameAs a b = strictEq a b := rfl

/-- StrictEquals is symmetric for all nine pairs (no NF needed) -/
theorem strictEq_symm (a b : Str) : strictEq a b = strictEq b a := by
  cases a <;> cases b <;> simp only [strictEq]
  case ascii.ascii | ascii.imp | uni.uni | imp.ascii => exact BEq.comm
  case uni.imp s t _ => cases scan t <;> simp only [BEq.comm (a := s)]
  case imp.uni s _ t => cases scan s <;> simp only [BEq.comm (a := t)]
  case imp.imp s _ t _ =>
    rw [BEq.comm (a := s), Bool.and_comm]
    cases scan s <;> cases scan t <;> simp only [BEq.comm]

theorem strictEq_ascii_iff {s : List UInt8} (hs : s.all asciiB = true) {b : Str} (hb : NF b) :
    strictEq (.ascii s) b = true ↔ s.map b2u = units b := by
  cases b with
  | ascii t => exact beq_iff_eq.trans ⟨congrArg _, map_b2u_inj⟩
  | uni t => exact ⟨(nomatch ·), fun h => absurd h (ascii_ne_nonascii hs hb)⟩
  | imp t _ =>
    refine beq_iff_eq.trans ⟨fun h => by rw [h, units, utf16_decode_ascii (h ▸ hs)], fun h => ?_⟩
    rcases scan_cases t with ⟨ht, -⟩ | ⟨ht, -⟩
    · rw [units, utf16_decode_ascii ht] at h
      exact map_b2u_inj h
    · exact absurd h (ascii_ne_nonascii hs (decode_nonascii ht))

theorem strictEq_uni_imp_iff {s : List UInt16} (hs : s.any nonAsciiU = true) (t : List UInt8) (tc : Bool) :
    strictEq (.uni s) (.imp t tc) = true ↔ s = utf16 (decode t) := by
  simp only [strictEq]
  rcases scan_cases t with ⟨ht, hsc⟩ | ⟨-, hsc⟩ <;> rw [hsc]
  · rw [utf16_decode_ascii ht]
    exact ⟨(nomatch ·), fun h => absurd h.symm (ascii_ne_nonascii ht hs)⟩
  · exact beq_iff_eq

/-- `valid_decode_injective` is what makes the `utf8.ValidString(a) && utf8.ValidString(b) → false` shortcut of
string_imported.go:139 sound -/
theorem strictEq_imp_imp_iff (s t : List UInt8) (sc tc : Bool) :
    strictEq (.imp s sc) (.imp t tc) = true ↔ utf16 (decode s) = utf16 (decode t) := by
  simp only [strictEq]
  split
  · next he => exact ⟨fun _ => by rw [beq_iff_eq.mp he], fun _ => rfl⟩
  next hne =>
  have hne' : s ≠ t := fun e => hne (beq_iff_eq.mpr e)
  split
  · next hv =>
    rw [Bool.and_eq_true] at hv
    exact ⟨(nomatch ·), fun h => absurd (valid_decode_injective s t hv.1 hv.2 h) hne'⟩
  rcases scan_cases s with ⟨hs, hss⟩ | ⟨hs, hss⟩ <;> rcases scan_cases t with ⟨ht, hst⟩ | ⟨ht, hst⟩ <;>
    rw [hss, hst]
  · rw [utf16_decode_ascii hs, utf16_decode_ascii ht]
    exact ⟨(nomatch ·), fun h => absurd (map_b2u_inj h) hne'⟩
  · rw [utf16_decode_ascii hs]
    exact ⟨(nomatch ·), fun h => absurd h (ascii_ne_nonascii hs (decode_nonascii ht))⟩
  · rw [utf16_decode_ascii ht]
    exact ⟨(nomatch ·), fun h => absurd h.symm (ascii_ne_nonascii ht (decode_nonascii hs))⟩
  · exact beq_iff_eq

/-- eq_iff_units: under NF, `===` / SameValue as coded ⇔ equal units — all nine pairs; the only assumption is that
both strings are in normal form -/
theorem eq_iff_units {a b : Str} (ha : NF a) (hb : NF b) : strictEq a b = true ↔ units a = units b := by
  cases a with
  | ascii s => exact strictEq_ascii_iff ha hb
  | uni s =>
    cases b with
    | ascii t => rw [strictEq_symm]; exact (strictEq_ascii_iff hb ha).trans eq_comm
    | uni t => exact beq_iff_eq
    | imp t tc => exact strictEq_uni_imp_iff ha t tc
  | imp s sc =>
    cases b with
    | ascii t => rw [strictEq_symm]; exact (strictEq_ascii_iff hb ha).trans eq_comm
    | uni t => rw [strictEq_symm]; exact (strictEq_uni_imp_iff hb s sc).trans eq_comm
    | imp t tc => exact strictEq_imp_imp_iff s t sc tc

/-- soundness, all nine pairs, for strings in normal form: strings that `===` calls equal have equal units -/
theorem strictEq_sound {a b : Str} (ha : NF a) (hb : NF b) (h : strictEq a b = true) : units a = units b :=
  (eq_iff_units ha hb).mp h

/-- completeness, all nine pairs: NF strings with equal units are `===` -/
theorem strictEq_complete {a b : Str} (ha : NF a) (hb : NF b) (h : units a = units b) : strictEq a b = true :=
  (eq_iff_units ha hb).mpr h

/-- import: Go's decoder is injective on valid UTF-8 (proved in Utf8.lean by re-encoding) -/
theorem import_injective_on_valid_utf8 (s t : List UInt8) (hs : validUtf8 s = true) (ht : validUtf8 t = true)
    (h : units (.imp s false) = units (.imp t false)) : s = t :=
  valid_decode_injective s t hs ht h

/-- StrictEquals is transitive on NF strings (corollary of eq_iff_units) -/
theorem strictEq_trans {a b c : Str} (ha : NF a) (hb : NF b) (hc : NF c)
    (h1 : strictEq a b = true) (h2 : strictEq b c = true) : strictEq a c = true :=
  (eq_iff_units ha hc).mpr (((eq_iff_units ha hb).mp h1).trans ((eq_iff_units hb hc).mp h2))

/-- the regression repaired by ef621e6: comparing imported strings by their Go bytes is not enough —
"\xff" and "\xfe" are different bytes with the same units, and StrictEquals answers `true`. -/
theorem imported_invalid_spellings_equal :
    units (.imp [0xff] false) = units (.imp [0xfe] false) ∧ strictEq (.imp [0xff] false) (.imp [0xfe] false) = true := by
  decide

theorem de16_le16 : ∀ u : List UInt16, de16 (le16 u) = u
  | [] => rfl
  | c :: cs => by
    rw [le16_cons, de16, de16_le16 cs]
    congr 1
    apply UInt16.toNat_inj.mp
    have := c.toNat_lt
    simp
    omega

theorem le16_inj {u v : List UInt16} (h : le16 u = le16 v) : u = v := by
  rw [← de16_le16 u, ← de16_le16 v, h]

/-- hashpre_iff_units: two NF strings write the same bytes into the hasher iff their units are equal -/
theorem hashpre_iff_units {a b : Str} (ha : NF a) (hb : NF b) : hashPre a = hashPre b ↔ units a = units b := by
  unfold hashPre keyOf
  rcases devirt_view a with ⟨s, hs, hu, hn⟩ | ⟨u, hs, hu, hn⟩ <;>
    rcases devirt_view b with ⟨t, ht, hv, hm⟩ | ⟨v, ht, hv, hm⟩ <;> rw [hs, ht, hu, hv]
  · exact ⟨congrArg _, map_b2u_inj⟩
  · exact ⟨fun h => absurd h (ascii_ne_bom (hn ha) v), fun h => absurd h (ascii_ne_nonascii (hn ha) (hm hb))⟩
  · exact ⟨fun h => absurd h.symm (ascii_ne_bom (hm hb) u), fun h => absurd h.symm (ascii_ne_nonascii (hm hb) (hn ha))⟩
  · exact ⟨fun h => (List.cons.inj (le16_inj h)).2, fun h => by rw [h]⟩

/-- key_injective: the unistring property key distinguishes exactly the strings with different units -/
theorem key_injective {a b : Str} (ha : NF a) (hb : NF b) : keyOf a = keyOf b ↔ units a = units b :=
  hashpre_iff_units ha hb

/-- Map/Set lookup (hash, then SameAs) and `===` agree: equal hash preimage ⇔ StrictEquals -/
theorem hash_agrees_with_strictEq {a b : Str} (ha : NF a) (hb : NF b) :
    hashPre a = hashPre b ↔ strictEq a b = true := by
  rw [hashpre_iff_units ha hb, eq_iff_units ha hb]

/-- AsUtf16 (FromUtf16 u) = u for every UTF-16 payload with at least one unit -/
theorem key_roundtrip_utf16 {u : List UInt16} (hne : u ≠ []) : asUtf16 (le16 (BOM :: u)) = some u := by
  cases u with
  | nil => exact absurd rfl hne
  | cons c cs =>
    unfold asUtf16
    have hl : (le16 (BOM :: c :: cs)).length = 2 * (cs.length + 2) := by rw [le16_length]; simp
    rw [de16_le16]
    have h1 : ¬ (2 * (cs.length + 2) < 4) := by omega
    have h2 : 2 * (cs.length + 2) % 2 = 0 := by omega
    simp [hl, h1, h2]

/-- key_roundtrip: string → unistring key → stringValueFromRaw gives back the same units, in normal form -/
theorem key_roundtrip {x : Str} (hx : NF x) :
    units (stringValueFromRaw (keyOf x)) = units x ∧ NF (stringValueFromRaw (keyOf x)) := by
  unfold keyOf stringValueFromRaw
  rcases devirt_view x with ⟨s, hs, hu, hn⟩ | ⟨u, hs, hu, hn⟩ <;> rw [hs, hu]
  · rw [asUtf16_ascii (hn hx)]
    exact ⟨rfl, hn hx⟩
  · have hne : u ≠ [] := fun e => by have := hn hx; rw [e] at this; cases this
    rw [key_roundtrip_utf16 hne]
    exact ⟨rfl, hn hx⟩

theorem sb_inv_empty : SB.empty.Inv := by simp [SB.Inv, SB.empty]

theorem sb_switch {b : SB} (h : b.Inv) :
    b.switchToUnicode.Inv ∧ b.switchToUnicode.started = true ∧ b.switchToUnicode.units = b.units := by
  rw [switchToUnicode_eq h]
  exact ⟨SB.inv_uni _, rfl, rfl⟩

/-- builder_units / builder_nf: WriteString appends the operand's units and keeps the invariant -/
theorem sb_writeString {b : SB} {s : Str} (h : b.Inv) (hs : NF s) :
    (b.writeString s).Inv ∧ (b.writeString s).units = b.units ++ units s := by
  unfold SB.writeString
  rcases devirt_view s with ⟨a, hd, hu, hn⟩ | ⟨u, hd, hu, hn⟩ <;> rw [hd, hu]
  · exact sb_appendAscii h (hn hs)
  · rw [switchToUnicode_eq h]
    exact ⟨by simpa [hn hs] using SB.inv_append b.units u rfl, rfl⟩

/-- WriteRune appends the UTF-16 encoding of the rune; a surrogate code point is appended AS IS -/
theorem sb_writeRune {b : SB} {r : Nat} (h : b.Inv) (hr : r ≤ 0x10FFFF) :
    (b.writeRune r).Inv ∧ (b.writeRune r).units = b.units ++ utf16One r := by
  unfold SB.writeRune
  split
  · next hlt =>
    rcases h.cases with ⟨a, ha, rfl⟩ | ⟨u, rfl⟩
    · have e1 : asciiB (UInt8.ofNat r) = true := by
        rw [asciiB, UInt8.toNat_ofNat', decide_eq_true_eq]; omega
      have e2 : b2u (UInt8.ofNat r) = UInt16.ofNat r := by
        apply UInt16.toNat_inj.mp
        rw [b2u_toNat, UInt8.toNat_ofNat', UInt16.toNat_ofNat']; omega
      have e3 : utf16One r = [UInt16.ofNat r] := by rw [utf16One, if_pos (by omega)]
      exact ⟨SB.inv_ascii (by rw [List.all_append, ha, List.all_cons, e1]; rfl),
        by rw [e3, ← e2]; simp [SB.units]⟩
    · rw [if_pos rfl, writeRuneFast_uni u hr]
      exact ⟨SB.inv_uni _, rfl⟩
  · rw [switchToUnicode_eq h, writeRuneFast_uni _ hr]
    exact ⟨SB.inv_uni _, rfl⟩

/-- lone_surrogate_preserved (builder): writing the code point of a surrogate appends exactly that unit -/
theorem sb_writeRune_surrogate {b : SB} {r : Nat} (h : b.Inv) (hr : 0xD800 ≤ r ∧ r ≤ 0xDFFF) :
    (b.writeRune r).units = b.units ++ [UInt16.ofNat r] := by
  rw [(sb_writeRune h (r := r) (by omega)).2, utf16One, if_pos (by omega)]

/-- WriteUTF8String appends the leniently decoded units of the Go string -/
theorem sb_writeUTF8 {b : SB} (h : b.Inv) (s : List UInt8) :
    (b.writeUTF8 s).Inv ∧ (b.writeUTF8 s).units = b.units ++ utf16 (decode s) := by
  unfold SB.writeUTF8
  rcases h.cases with ⟨a, ha, rfl⟩ | ⟨u, rfl⟩
  · rw [if_neg Bool.false_ne_true]
    split
    · next hall => exact ⟨SB.inv_ascii (by simp [ha, hall]), by simp [SB.units, utf16_decode_ascii hall]⟩
    · have hpre := any_nonAscii_ascii (List.all_takeWhile (l := s))
      have := foldl_writeRuneFast_uni (decode (s.dropWhile asciiB)) (a.map b2u ++ (s.takeWhile asciiB).map b2u)
        (decodeS_le _ 0)
      rw [List.any_append, hpre, Bool.or_false] at this
      simp only [switchToUnicode_eq (SB.inv_ascii ha), SB.units, List.append_nil, this]
      exact ⟨SB.inv_uni _, by rw [utf16_decode_takeWhile s]; simp⟩
  · rw [if_pos rfl, foldl_writeRuneFast_uni (decode s) u (decodeS_le s 0)]
    exact ⟨SB.inv_uni _, rfl⟩

/-- WriteSubstring (as repaired by 58560e3) appends the slice's units; the `unicode` flag follows the slice -/
theorem sb_writeSubstring {b : SB} {src : Str} (h : b.Inv) (hs : NF src) (st en : Nat) :
    (b.writeSubstring src st en).Inv ∧ (b.writeSubstring src st en).units = b.units ++ slice (units src) st en := by
  unfold SB.writeSubstring
  rcases devirt_view src with ⟨a, hd, hu, hn⟩ | ⟨us, hd, hu, -⟩ <;> rw [hd, hu]
  · rw [slice_map]
    exact sb_appendAscii h (all_of_sublist (slice_sublist a st en) (hn hs))
  · rcases h.cases with ⟨a0, ha0, rfl⟩ | ⟨u0, rfl⟩
    · simp only [Bool.false_eq_true, if_false]
      split
      · next hany =>
        rw [switchToUnicode_eq (SB.inv_ascii ha0)]
        exact ⟨SB.inv_append _ _ rfl, rfl⟩
      · next hany =>
        have hall := all_ascii_of_not_any hany
        exact ⟨SB.inv_ascii (by rw [List.all_append, ha0, all_asciiB_u2b hall]; rfl),
          by simp [SB.units, map_b2u_u2b hall]⟩
    · exact ⟨SB.inv_append u0 _ rfl, rfl⟩

/-- builder_nf: String() returns a normal-form value (downgrading to ASCII storage when the flag is off)
whose units are exactly what was written -/
theorem sb_toStr {b : SB} (h : b.Inv) : NF b.toStr ∧ units b.toStr = b.units := by
  unfold SB.toStr
  rcases h.cases with ⟨a, ha, rfl⟩ | ⟨u, rfl⟩
  · exact ⟨ha, by simp [units, SB.units]⟩
  · rw [if_pos rfl]
    exact uniOrAscii_spec u

theorem sb_toStr_of {b : SB} {u : List UInt16} (w : b.Inv ∧ b.units = u) : NF b.toStr ∧ units b.toStr = u :=
  ⟨(sb_toStr w.1).1, (sb_toStr w.1).2.trans w.2⟩

theorem sb_writeSub {b : SB} {s : Str} (h : b.Inv) (hs : NF s) (st en : Nat) :
    (b.writeString (substring s st en)).Inv ∧
      (b.writeString (substring s st en)).units = b.units ++ slice (units s) st en := by
  rw [← substring_units]
  exact sb_writeString h (nf_substring hs st en)

/-- the regression repaired by 58560e3: setting the flag unconditionally in UTF-16 mode yields a
UTF-16-stored "ab" — not in normal form, and `!==` the ASCII-stored "ab" although the units are equal. -/
theorem writeSubstring_unconditional_flag_breaks_nf :
    ¬ NF sbOldExample.toStr ∧ units sbOldExample.toStr = units (.ascii [0x61, 0x62]) ∧
      strictEq sbOldExample.toStr (.ascii [0x61, 0x62]) = false := by
  refine ⟨?_, by decide, by decide⟩
  have : sbOldExample.toStr = .uni [0x61, 0x62] := by decide
  rw [this]
  simp only [NF]
  decide

/-- the buffer allocated by pass 1 has exactly 1 (BOM) + #units elements: `scanSize` counts the units -/
theorem scanSize_eq_length (s : List UInt8) : scanSize s = (utf16 (decode s)).length := by
  rw [utf16_decode_takeWhile s, List.length_append, List.length_map, scanSize, countUnits_eq_length]

/-- what the two passes of unistring.Scan return is the leniently decoded unit sequence, no more, no less -/
theorem scanTwoPass_eq_scan (s : List UInt8) : scanTwoPass s = scan s := by
  unfold scanTwoPass scan
  split
  · rfl
  · rw [fillUnits_eq_utf16, scanSize_eq_length]
    simp

/-- the arithmetic behind the seeded off-by-one (`chr >= 0xFFFF` in the counting pass): U+FFFF counted as two units
where one is written (in Go: a buffer one longer than what is filled, i.e. a trailing 0x0000 unit). -/
theorem scan_count_geq_prefix_witness :
    (if (0xFFFF : Nat) ≥ 0xFFFF then 2 else 1) + countUnits [] ≠ (utf16 [0xFFFF]).length := by
  decide

theorem concatStrings_units (l : List Str) : units (concatStrings l) = l.flatMap units := by
  have key : (l.map devirt).flatMap DV.units = l.flatMap units := by
    rw [List.flatMap_map]
    exact flatMap_congr (fun x _ => devirt_units x)
  rw [concatStrings, ← key]
  split
  · next h =>
    rw [units, List.map_flatMap]
    exact flatMap_congr (fun d hd => (DV.of_isA (List.all_eq_true.mp h d hd)).1)
  · rfl

theorem nf_concatStrings {l : List Str} (hl : ∀ x ∈ l, NF x) : NF (concatStrings l) := by
  have hdv : ∀ d ∈ l.map devirt, d.NF := by
    intro d hd
    obtain ⟨x, hx, rfl⟩ := List.mem_map.mp hd
    exact devirt_nf (hl x hx)
  rw [concatStrings]
  generalize l.map devirt = ds at hdv
  split
  · next h =>
    rw [NF, List.all_flatMap, List.all_eq_true]
    exact fun d hd => (DV.of_isA (List.all_eq_true.mp h d hd)).2 (hdv d hd)
  · next h =>
    obtain ⟨d, hd, hdA⟩ := List.all_eq_false.mp (Bool.not_eq_true _ ▸ h)
    rw [NF, List.any_flatMap, List.any_eq_true]
    cases d with
    | a _ => exact absurd rfl hdA
    | u _ => exact ⟨_, hd, hdv _ hd⟩

/-- a unit of either operand (a lone surrogate in particular) is a unit of the concatenation, and nothing else is -/
theorem concat_mem (x y : Str) (c : UInt16) : c ∈ units (concat x y) ↔ c ∈ units x ∨ c ∈ units y := by
  rw [concat_units x y, List.mem_append]

/-- one round of ReadRune with the unit `c` in hand (pushed back or just read) -/
theorem lenientF_step (fuel : Nat) (c : UInt16) (rest : List UInt16)
    (ih : ∀ prev input, prev.toList.length + input.length < fuel →
      Spec.lenientF fuel prev input = Spec.codePoints (prev.toList ++ input))
    (h : rest.length + 1 < fuel + 1) :
    Spec.lenientF (fuel + 1) (some c) rest = Spec.codePoints (c :: rest) := by
  cases rest with
  | nil => cases fuel <;> by_cases hc : Spec.isHi c = true <;> simp [Spec.lenientF, Spec.codePoints, hc]
  | cons d rest =>
    simp only [List.length_cons] at h
    by_cases hc : Spec.isHi c = true
    · by_cases hd : Spec.isLo d = true
      · simp [Spec.lenientF, Spec.codePoints, hc, hd, ih none rest (by simp; omega)]
      · simpa [Spec.lenientF, Spec.codePoints, hc, hd] using ih (some d) rest (by simp; omega)
    · simpa [Spec.lenientF, Spec.codePoints, hc] using ih none (d :: rest) (by simp; omega)

/-- The decoder with its push-back yields exactly the spec's code-point segmentation, for every unit list, every
pending pushed-back unit and any sufficient fuel.  (A pushed-back unit is re-examined: `D800 D83D DE00` is the lone
D800 followed by ONE code point.) -/
theorem lenientF_eq_codePoints : ∀ (fuel : Nat) (prev : Option UInt16) (input : List UInt16),
    prev.toList.length + input.length < fuel →
    Spec.lenientF fuel prev input = Spec.codePoints (prev.toList ++ input)
  | 0, _, _, h => by omega
  | fuel + 1, none, [], _ => by simp [Spec.lenientF, Spec.codePoints]
  | fuel + 1, none, c :: rest, h =>
    -- reading `c` from the input leaves the state of a pushed-back `c`
    lenientF_step fuel c rest (lenientF_eq_codePoints fuel) (by simpa using h)
  | fuel + 1, some c, rest, h => lenientF_step fuel c rest (lenientF_eq_codePoints fuel) (by simpa [Nat.add_comm] using h)

/-- string iteration / JSON.stringify / regexp see the spec's code points of any unit list -/
theorem lenientDecode_eq_codePoints (s : List UInt16) : Spec.lenientDecode s = Spec.codePoints s := by
  have := lenientF_eq_codePoints (s.length + 1) none s (by simp)
  simpa [Spec.lenientDecode] using this

/-- regression lemma for the seeded change C06-m4 (returning the pushed-back unit as it is): on `D800 D83D DE00` the
spec has two code points (the lone D800 and U+1F600) — the changed decoder produced three. -/
theorem lenient_pushback_reexamined_witness :
    Spec.lenientDecode [0xD800, 0xD83D, 0xDE00] = [0xD800, 0x1F600] := by
  decide

section BuiltinsSection
open Builtins

theorem substring_or_empty_units (s : Str) (a b : Int) :
    units (if b > a then substring s a.toNat b.toNat else emptyStr) = slice (units s) a.toNat b.toNat := by
  split
  · rw [substring_units]
  · rw [units_emptyStr, slice_empty_of_le]
    omega

/-- String.prototype.slice as coded = the spec's slice on units -/
theorem sliceM_units (s : Str) (i : Int) (j : Option Int) :
    units (sliceM s i j) = Spec.jsSlice (units s) i j := by
  simp only [sliceM, Spec.jsSlice, len_def]
  rw [substring_or_empty_units, relIdx_clampRel, relIdx_clampRel]
  cases j with
  | none => rw [Option.getD_none, relIdx_self]
  | some j => rfl

theorem nf_sliceM {s : Str} (h : NF s) (i : Int) (j : Option Int) : NF (sliceM s i j) :=
  nf_ite (nf_substring h _ _) nf_emptyStr

theorem substring_swap_units (s : Str) (a b : Int) :
    units (if a > b then substring s b.toNat a.toNat else substring s a.toNat b.toNat) =
      slice (units s) (min a.toNat b.toNat) (max a.toNat b.toNat) := by
  split
  · next h =>
    have : b.toNat ≤ a.toNat := by omega
    rw [substring_units, Nat.min_eq_right this, Nat.max_eq_left this]
  · next h =>
    have : a.toNat ≤ b.toNat := by omega
    rw [substring_units, Nat.min_eq_left this, Nat.max_eq_right this]

/-- String.prototype.substring as coded = the spec's substring on units -/
theorem substringM_units (s : Str) (i : Int) (j : Option Int) :
    units (substringM s i j) = Spec.jsSubstring (units s) i j := by
  simp only [substringM, Spec.jsSubstring, len_def]
  rw [substring_swap_units, clampIdx_clamp0, clampIdx_clamp0]
  cases j with
  | none => rw [Option.getD_none, clampIdx_self]
  | some j => rfl

theorem nf_substringM {s : Str} (h : NF s) (i : Int) (j : Option Int) : NF (substringM s i j) :=
  nf_ite (nf_substring h _ _) (nf_substring h _ _)

/-- String.prototype.substr as coded = the spec's substr on units -/
theorem substrM_units (s : Str) (i : Int) (n : Option Int) :
    units (substrM s i n) = Spec.jsSubstr (units s) i n := by
  simp only [substrM, Spec.jsSubstr, len_def]
  rw [substrCnt_eq, relIdx_eq_min]
  -- from here on `start` and the count argument are variables: only `0 ≤ start` matters
  generalize hs : (if i < 0 then max (↑(len s) + i) 0 else i) = start
  have h0 : 0 ≤ start := by rw [← hs]; split <;> omega
  generalize n.getD ↑(len s) = m
  generalize len s = L
  split
  · next h =>
    rw [units_emptyStr, slice_empty_of_le]
    rcases (by omega : m ≤ 0 ∨ (L : Int) ≤ start) with h | h
    · rw [show m.toNat = 0 by omega]; omega
    · rw [show min start.toNat L = L by omega]; omega
  · next h =>
    have h1 : start < L ∧ 0 < m := by omega
    rw [substring_units, show min start.toNat L = start.toNat by omega]
    congr 1
    omega

theorem nf_substrM {s : Str} (h : NF s) (i : Int) (n : Option Int) : NF (substrM s i n) :=
  nf_ite nf_emptyStr (nf_substring h _ _)

/-- String.prototype.charAt as coded = the spec's charAt on units -/
theorem charAtM_units (s : Str) (pos : Int) : units (charAtM s pos) = Spec.jsCharAt (units s) pos := by
  unfold charAtM Spec.jsCharAt
  by_cases hp : pos < 0
  · rw [if_pos (.inl hp), if_pos hp]; rfl
  by_cases hl : pos ≥ len s
  · rw [if_pos (.inr hl), if_neg hp, List.getElem?_eq_none (by rw [len_def]; omega)]; rfl
  · rw [if_neg (by omega), if_neg hp, substring_units, show (pos + 1).toNat = pos.toNat + 1 by omega, slice_one]
    cases (units s)[pos.toNat]? <;> rfl

/-- String.prototype.at as coded: undefined exactly when out of range, else the one-unit string the spec names -/
theorem atM_units (s : Str) (pos : Int) :
    (match atM s pos with | none => [] | some r => units r) = Spec.jsAt (units s) pos := by
  -- `at` is `charAt` at the resolved index, with undefined where `charAt` answers ""; so is the spec's
  refine Eq.trans ?_ (charAtM_units s (if pos < 0 then (len s : Int) + pos else pos))
  simp only [atM, charAtM]
  generalize (if pos < 0 then (len s : Int) + pos else pos) = p
  by_cases h : p ≥ (len s : Int) ∨ p < 0
  · rw [if_pos h, if_pos h.symm]; rfl
  · rw [if_neg h, if_neg (fun h' => h h'.symm)]

theorem nf_atM {s : Str} (h : NF s) (pos : Int) : ∀ r, atM s pos = some r → NF r := by
  intro r hr
  simp only [atM] at hr
  generalize (if pos < 0 then (len s : Int) + pos else pos) = p at hr
  split at hr
  · cases hr
  · cases hr
    exact nf_substring h _ _

theorem nf_charAtM {s : Str} (h : NF s) (pos : Int) : NF (charAtM s pos) :=
  nf_ite nf_emptyStr (nf_substring h _ _)

theorem usb0_inv : usb0.Inv ∧ usb0.units = [] := by
  have := sb_switch sb_inv_empty
  exact ⟨this.1, by rw [usb0, this.2.2]; rfl⟩

theorem rep_zero (x : Spec.S) : Spec.rep x 0 = [] := rfl

theorem writeTimes_spec : ∀ (k : Nat) {b : SB} {x : Str}, b.Inv → NF x →
    (writeTimes b x k).Inv ∧ (writeTimes b x k).units = b.units ++ Spec.rep (units x) k
  | 0, b, x, h, _ => by simp [writeTimes, h, rep_zero]
  | k + 1, b, x, h, hx => by
    have h1 := sb_writeString h hx
    rw [writeTimes, rep_succ]
    exact SB.chain h1 (writeTimes_spec k h1.1 hx)

theorem padFill_builder {f : Str} (hf : NF f) (r : Nat) {b : SB} (hb : b.Inv) :
    let b1 := writeTimes b f (r / len f)
    let b2 := if r % len f > 0 then b1.writeString (substring f 0 (r % len f)) else b1
    b2.Inv ∧ b2.units = b.units ++ Spec.padFill (units f) r := by
  have w := writeTimes_spec (r / len f) hb hf
  simp only [Spec.padFill, len_def]
  split
  · exact SB.chain w (sb_writeSub w.1 hf 0 (r % len f))
  · next hr => exact ⟨w.1, by rw [w.2, show r % len f = 0 by omega, List.take_zero, List.append_nil]⟩

/-- the unicodeStringBuilder path of `_stringPad` (builtin_string.go:524-541) -/
theorem padM_builder {s f : Str} (hs : NF s) (hf : NF f) (r : Nat) (atStart : Bool) :
    let b0 := if atStart then usb0 else usb0.writeString s
    let b1 := writeTimes b0 f (r / len f)
    let b2 := if r % len f > 0 then b1.writeString (substring f 0 (r % len f)) else b1
    let b3 := if atStart then b2.writeString s else b2
    NF b3.toStr ∧ units b3.toStr =
      if atStart then Spec.padFill (units f) r ++ units s else units s ++ Spec.padFill (units f) r := by
  cases atStart with
  | true =>
    simp only [if_true]
    have w := padFill_builder hf r usb0_inv.1
    exact sb_toStr_of (SB.chain w (sb_writeString w.1 hs))
  | false =>
    simp only [Bool.false_eq_true, if_false]
    have w0 := sb_writeString usb0_inv.1 hs
    exact sb_toStr_of (SB.chain w0 (padFill_builder hf r w0.1))

/-- padStart / padEnd as coded (both the strings.Builder path and the unicodeStringBuilder path, incl. the partial
last copy of the filler) = the spec on units -/
theorem padM_spec {s f : Str} (hs : NF s) (hf : NF f) (n : Nat) (atStart : Bool) :
    NF (padM s f n atStart) ∧ units (padM s f n atStart) =
      (if atStart then Spec.padStart (units s) n (units f) else Spec.padEnd (units s) n (units f)) := by
  -- padStart and padEnd leave the string alone under the same test
  rw [show (if atStart then Spec.padStart (units s) n (units f) else Spec.padEnd (units s) n (units f)) =
      if (decide (n ≤ len s) || (units f).isEmpty) = true then units s
      else if atStart then Spec.padFill (units f) (n - len s) ++ units s
      else units s ++ Spec.padFill (units f) (n - len s) from by cases atStart <;> rfl]
  unfold padM
  by_cases h1 : n ≤ len s
  · rw [if_pos h1, units_touch, decide_eq_true h1]
    exact ⟨nf_touch hs, rfl⟩
  by_cases h2 : len f = 0
  · rw [if_neg h1, if_pos h2, units_touch, List.eq_nil_of_length_eq_zero h2, List.isEmpty_nil, Bool.or_true, if_pos rfl]
    exact ⟨nf_touch hs, rfl⟩
  rw [if_neg h1, if_neg h2]
  have he : (units f).isEmpty = false := List.isEmpty_eq_false_iff.mpr (fun e => h2 (by rw [← len_def, e]; rfl))
  rw [decide_eq_false h1, he, Bool.or_false, if_neg Bool.false_ne_true]
  rcases devirt_view s with ⟨sa, hds, hus, hns⟩ | ⟨su, hds, -, -⟩ <;> rw [hds]
  · rcases devirt_view f with ⟨fa, hdf, huf, hnf⟩ | ⟨fu, hdf, -, -⟩ <;> rw [hdf]
    · -- strings.Builder path
      have hfill := padFill_map fa (n - len s)
      have hall : ((List.replicate ((n - len s) / fa.length) fa).flatten ++
          fa.take ((n - len s) % fa.length)).all asciiB = true := by
        rw [List.all_append, all_flatten_replicate asciiB fa (hnf hf), all_of_sublist (List.take_sublist _ _) (hnf hf)]; rfl
      rw [hus, huf, ← hfill]
      cases atStart
      · exact ⟨by simp only [NF, Bool.false_eq_true, if_false, List.all_append, hall, hns hs, Bool.and_self],
          by simp only [units, Bool.false_eq_true, if_false, List.map_append]⟩
      · exact ⟨by simp only [NF, if_true, List.all_append, hall, hns hs, Bool.and_self],
          by simp only [units, if_true, List.map_append]⟩
    · exact padM_builder hs hf _ atStart
  · exact padM_builder hs hf _ atStart

theorem padM_units {s f : Str} (hs : NF s) (hf : NF f) (n : Nat) (atStart : Bool) :
    units (padM s f n atStart) =
      (if atStart then Spec.padStart (units s) n (units f) else Spec.padEnd (units s) n (units f)) :=
  (padM_spec hs hf n atStart).2

/-- nf_preserved: padStart / padEnd (the class of the seeded change C06-m1) -/
theorem nf_padM {s f : Str} (hs : NF s) (hf : NF f) (n : Nat) (atStart : Bool) : NF (padM s f n atStart) :=
  (padM_spec hs hf n atStart).1

/-- String.prototype.repeat as coded = the spec, in normal form -/
theorem repeatM_spec {s : Str} (hs : NF s) (n : Nat) :
    NF (repeatM s n) ∧ units (repeatM s n) = Spec.rep (units s) n := by
  unfold Builtins.repeatM
  split
  · next h0 =>
    refine ⟨nf_emptyStr, ?_⟩
    rcases h0 with h0 | h0
    · rw [h0]; rfl
    · rw [List.eq_nil_of_length_eq_zero h0, rep_nil]; rfl
  · rcases devirt_view s with ⟨a, hd, hu, hn⟩ | ⟨u, hd, hu, hn⟩ <;> rw [hd, hu]
    · exact ⟨all_flatten_replicate asciiB a (hn hs) n, map_flatten_replicate b2u a n⟩
    · exact sb_toStr_of (writeTimes_spec n usb0_inv.1 (x := .uni u) (hn hs))

theorem fromCharCodeM_eq (cs : List UInt16) : fromCharCodeM cs = stringFromUTF16 cs := by
  rw [fromCharCodeM, stringFromUTF16, map_b2u_u2b List.all_takeWhile, List.takeWhile_append_dropWhile]

/-- String.fromCharCode as coded keeps every unit and returns a normal-form value -/
theorem fromCharCodeM_spec (cs : List UInt16) : NF (fromCharCodeM cs) ∧ units (fromCharCodeM cs) = cs := by
  rw [fromCharCodeM_eq]
  exact ⟨nf_stringFromUTF16 cs, units_stringFromUTF16 cs⟩

theorem sb_foldl_writeRune : ∀ (rs : List Nat) {b : SB}, b.Inv → (∀ r ∈ rs, r ≤ 0x10FFFF) →
    (rs.foldl SB.writeRune b).Inv ∧ (rs.foldl SB.writeRune b).units = b.units ++ utf16 rs
  | [], b, h, _ => by simp [utf16, h]
  | r :: rs, b, h, hr => by
    have h1 := sb_writeRune h (hr r (by simp))
    rw [List.foldl_cons, utf16_cons]
    exact SB.chain h1 (sb_foldl_writeRune rs h1.1 (fun x hx => hr x (by simp [hx])))

/-- String.fromCodePoint as coded: the UTF-16 encoding of the code points (a surrogate code point stays one unit) -/
theorem fromCodePointM_spec (cps : List Nat) (h : ∀ c ∈ cps, c ≤ 0x10FFFF) :
    NF (fromCodePointM cps) ∧ units (fromCodePointM cps) = utf16 cps :=
  sb_toStr_of (sb_foldl_writeRune cps sb_inv_empty h)

/-- String.prototype.concat is coded like the template-literal instruction -/
theorem protoConcatM_eq (l : List Str) : protoConcatM l = concatStrings l := rfl

/-- String index search as coded for every representation pair = StringIndexOf on units -/
theorem indexM_spec {s pat : Str} (hs : NF s) (hp : NF pat) (start : Nat) :
    indexM s pat start = Spec.indexOf (units s) (units pat) start := by
  unfold indexM Spec.indexOf
  rcases devirt_view s with ⟨a, hd, hu, hn⟩ | ⟨u, hd, hu, -⟩ <;> rw [hd, hu]
  · rcases devirt_view pat with ⟨p, hdp, hup, -⟩ | ⟨p, hdp, hup, hnp⟩ <;>
      simp only [hdp, hup, List.length_map] <;> split
    · rfl
    · rw [indexFromB_map, List.map_drop]
    · rfl
    · rw [indexFrom_none_of_ascii (hnp hp) (all_of_sublist (List.drop_sublist start _) (all_asciiU_of_all_asciiB (hn hs)))]
  · rw [← devirt_units pat]

theorem sb_writeUnit {b : SB} (h : b.Inv) (c : UInt16) :
    (b.writeRune c.toNat).Inv ∧ (b.writeRune c.toNat).units = b.units ++ [c] := by
  have := c.toNat_lt
  have w := sb_writeRune h (r := c.toNat) (by omega)
  exact ⟨w.1, by rw [w.2, utf16One_unit]⟩

/-- `if st != en { sb.WriteString(s.Substring(st, en)) }`: skipping the write of an empty substring changes nothing -/
theorem sb_writeSub_if {b : SB} {s : Str} (h : b.Inv) (hs : NF s) (st en : Nat) {c : Prop} [Decidable c]
    (hc : ¬ c → st = en) :
    (if c then b.writeString (substring s st en) else b).Inv ∧
      (if c then b.writeString (substring s st en) else b).units = b.units ++ slice (units s) st en := by
  split
  · exact sb_writeSub h hs st en
  · next he => rw [hc he, slice_self, List.append_nil]; exact ⟨h, rfl⟩

/-- writeSubstitution as coded (string pattern) = GetSubstitution on units; units of the replacement text are
written one by one with WriteRune, so lone surrogates in it survive -/
theorem writeSubst_spec {s matched : Str} (hs : NF s) (hm : NF matched) (pos : Nat) :
    ∀ (repl : List UInt16) {b : SB}, b.Inv →
      (writeSubst s pos matched repl b).Inv ∧
      (writeSubst s pos matched repl b).units = b.units ++ Spec.getSubst (units s) pos (units matched) repl
  | [], b, h => by simp [writeSubst, Spec.getSubst, h]
  | [c], b, h => sb_writeUnit h c
  | c :: ch :: rest, b, h => by
    simp only [writeSubst, Spec.getSubst]
    have w36 : (b.writeRune 36).Inv ∧ (b.writeRune 36).units = b.units ++ [36] := sb_writeUnit h 36
    by_cases h1 : c.toNat = 36
    · simp only [h1, if_true]
      by_cases h2 : ch.toNat = 36
      · simp only [h2, if_true]
        exact SB.chain w36 (writeSubst_spec hs hm pos rest w36.1)
      simp only [h2, if_false]
      by_cases h3 : ch.toNat = 96
      · simp only [h3, if_true]
        have w := sb_writeSub h hs 0 pos
        exact SB.chain w (writeSubst_spec hs hm pos rest w.1)
      simp only [h3, if_false]
      by_cases h4 : ch.toNat = 39
      · simp only [h4, if_true]
        split
        · have w := sb_writeSub h hs (pos + len matched) (len s)
          rw [← len_def s, slice_to_end] at w
          exact SB.chain w (writeSubst_spec hs hm pos rest w.1)
        · next h5 =>
          rw [List.drop_eq_nil_of_le (by rw [len_def s, len_def matched]; omega)]
          exact writeSubst_spec hs hm pos rest h
      simp only [h4, if_false]
      by_cases h6 : ch.toNat = 38
      · simp only [h6, if_true]
        have w := sb_writeString h hm
        exact SB.chain w (writeSubst_spec hs hm pos rest w.1)
      · simp only [h6, if_false]
        have w2 := SB.chain w36 (sb_writeUnit w36.1 ch)
        rw [UInt16.toNat_inj.mp (by simpa using h1 : c.toNat = (36 : UInt16).toNat)]
        exact SB.chain w2 (writeSubst_spec hs hm pos rest w2.1)
    · simp only [h1, if_false]
      have w := sb_writeUnit h c
      exact SB.chain w (writeSubst_spec hs hm pos (ch :: rest) w.1)

theorem replaceGoM_spec {s : Str} (hs : NF s) (plen : Nat) (repl : List UInt16) :
    ∀ (ps : List Nat) (last : Nat) {b : SB}, b.Inv →
      (replaceGoM s plen repl ps last b).1.Inv ∧
      Spec.replaceWithGo (units s) plen repl ps last b.units =
        (replaceGoM s plen repl ps last b).1.units ++
          slice (units s) (replaceGoM s plen repl ps last b).2 (units s).length
  | [], last, b, h => by simp [replaceGoM, Spec.replaceWithGo, h]
  | p :: ps, last, b, h => by
    simp only [replaceGoM, Spec.replaceWithGo]
    have hb1 := sb_writeSub_if h hs last p (c := p ≠ last) (fun hp => (Decidable.not_not.mp hp).symm)
    have w := SB.chain hb1 (writeSubst_spec hs (nf_substring hs p (p + plen)) p repl hb1.1)
    have ih := replaceGoM_spec hs plen repl ps (p + plen) w.1
    exact ⟨ih.1, by rw [← ih.2, w.2, substring_units, List.append_assoc]⟩

theorem stringReplaceM_spec {s repl : Str} (hs : NF s) (plen : Nat) (found : List Nat) :
    NF (stringReplaceM s plen found repl) ∧
      units (stringReplaceM s plen found repl) = Spec.replaceWith (units s) plen found (units repl) := by
  unfold stringReplaceM
  cases found with
  | nil =>
    rw [List.isEmpty_nil, if_pos rfl]
    exact ⟨nf_touch hs, by rw [units_touch, Spec.replaceWith, Spec.replaceWithGo, slice_full]; rfl⟩
  | cons p ps =>
    simp only [List.isEmpty_cons, Bool.false_eq_true, if_false]
    have g := replaceGoM_spec hs plen (units repl) (p :: ps) 0 sb_inv_empty
    generalize replaceGoM s plen (units repl) (p :: ps) 0 SB.empty = r at g
    rw [Spec.replaceWith, show ([] : List UInt16) = SB.empty.units from rfl, g.2]
    have hfin := sb_writeSub_if g.1 hs r.2 (len s) (c := r.2 ≠ len s) Decidable.not_not.mp
    exact sb_toStr_of hfin

/-- String.prototype.replace(string, string) as coded = the spec on units, in normal form -/
theorem replaceM_spec {s pat repl : Str} (hs : NF s) (hp : NF pat) :
    NF (replaceM s pat repl) ∧
      units (replaceM s pat repl) = Spec.replaceFirst (units s) (units pat) (units repl) := by
  unfold replaceM Spec.replaceFirst
  rw [indexM_spec hs hp 0]
  cases Spec.indexOf (units s) (units pat) 0 with
  | none =>
    have w := stringReplaceM_spec (repl := repl) hs (len pat) []
    refine ⟨w.1, ?_⟩
    rw [w.2, Spec.replaceWith, Spec.replaceWithGo, slice_full]; rfl
  | some p =>
    have w := stringReplaceM_spec (repl := repl) hs (len pat) [p]
    exact ⟨w.1, by rw [w.2, len_def]⟩

theorem foundAllM_eq {s pat : Str} (hs : NF s) (hp : NF pat) : ∀ (fuel pos : Nat),
    foundAllM s pat fuel pos = Spec.matchPositions (units s) (units pat) fuel pos
  | 0, _ => rfl
  | fuel + 1, pos => by
    simp only [foundAllM, Spec.matchPositions, indexM_spec hs hp pos]
    cases Spec.indexOf (units s) (units pat) pos with
    | none => rfl
    | some p => simp only [foundAllM_eq hs hp fuel, len_def]

/-- String.prototype.replaceAll(string, string) as coded = the spec on units, in normal form -/
theorem replaceAllM_spec {s pat repl : Str} (hs : NF s) (hp : NF pat) :
    NF (replaceAllM s pat repl) ∧
      units (replaceAllM s pat repl) = Spec.replaceAll (units s) (units pat) (units repl) := by
  unfold replaceAllM Spec.replaceAll
  have w := stringReplaceM_spec (repl := repl) hs (len pat) (foundAllM s pat (len s + 2) 0)
  exact ⟨w.1, by rw [w.2, foundAllM_eq hs hp, len_def, len_def]⟩

theorem uniSubstring_eq {u r : List UInt16} {st en : Nat} (h : slice u st en = r) :
    NF (uniSubstring u st en) ∧ units (uniSubstring u st en) = r :=
  h ▸ uniSubstring_spec u st en

theorem splitLoopM_spec {ss : List UInt16} (hne : ss ≠ []) : ∀ (fuel : Nat) (su : List UInt16) (idx : Nat),
    idx = (Spec.indexFrom ss su 0).getD su.length →
    (∀ p ∈ splitLoopM ss fuel su idx, NF p) ∧ (splitLoopM ss fuel su idx).map units = Spec.splitRel ss fuel su
  | 0, su, idx, _ => pieces_cons (uniSubstring_eq (slice_full su)) ⟨nofun, rfl⟩
  | fuel + 1, su, idx, hidx => by
    rw [splitLoopM, Spec.splitRel]
    cases hi : Spec.indexFrom ss su 0 with
    | none =>
      obtain rfl : idx = su.length := by rw [hidx, hi]; rfl
      rw [if_pos rfl]
      exact pieces_cons (uniSubstring_eq (slice_full su)) ⟨nofun, rfl⟩
    | some i =>
      obtain rfl : idx = i := by rw [hidx, hi]; rfl
      have hlt := indexFrom_lt hne su 0 idx hi
      rw [if_neg (by omega)]
      exact pieces_cons (uniSubstring_eq (slice_zero su idx)) (splitLoopM_spec hne fuel _ _ rfl)

theorem splitRelB_map (sep : List UInt8) : ∀ (fuel : Nat) (l : List UInt8),
    (splitRelB sep fuel l).map (List.map b2u) = Spec.splitRel (sep.map b2u) fuel (l.map b2u)
  | 0, l => rfl
  | fuel + 1, l => by
    simp only [splitRelB, Spec.splitRel, indexFromB_map sep l 0]
    cases Spec.indexFrom (sep.map b2u) (l.map b2u) 0 with
    | none => rfl
    | some idx =>
      simp only [List.map_cons, List.map_take, splitRelB_map sep fuel, List.map_drop, List.length_map]

theorem all_ascii_splitRelB (sep : List UInt8) : ∀ (fuel : Nat) (l : List UInt8), l.all asciiB = true →
    ∀ p ∈ splitRelB sep fuel l, p.all asciiB = true
  | 0, l, h, p, hp => by rw [List.mem_singleton.mp hp]; exact h
  | fuel + 1, l, h, p, hp => by
    rw [splitRelB] at hp
    split at hp
    · rw [List.mem_singleton.mp hp]; exact h
    · rcases List.mem_cons.mp hp with rfl | hp
      · exact all_of_sublist (List.take_sublist _ _) h
      · exact all_ascii_splitRelB sep fuel _ (all_of_sublist (List.drop_sublist _ _) h) p hp

/-- String.prototype.split(string) as coded: every piece is in normal form and the pieces are the spec's pieces -/
theorem splitM_spec {s sep : Str} (hs : NF s) (hp : NF sep) :
    (∀ p ∈ splitM s sep, NF p) ∧ (splitM s sep).map units = Spec.split (units s) (units sep) := by
  unfold splitM Spec.split
  rcases devirt_view s with ⟨sa, hd, hu, hn⟩ | ⟨su, hd, hu, -⟩ <;> rw [hd]
  · rcases devirt_view sep with ⟨sepa, hdp, hup, -⟩ | ⟨sepu, hdp, hup, hnp⟩ <;>
      simp only [hdp, hu, hup, List.isEmpty_map, List.length_map]
    · by_cases he : sepa.isEmpty = true
      · simp only [if_pos he]
        exact pieces_bytes (hn hs)
      · simp only [if_neg he]
        rw [← splitRelB_map]
        exact pieces_ascii (all_ascii_splitRelB sepa _ sa (hn hs))
    · have hne : sepu.isEmpty = false := by
        cases sepu
        · exact nomatch hnp hp
        · rfl
      rw [hne, if_neg Bool.false_ne_true,
        splitRel_of_none (indexFrom_none_of_ascii (hnp hp) (all_asciiU_of_all_asciiB (hn hs)) 0), ← hu]
      exact pieces_self hs
  · rw [← devirt_units sep]
    simp only [hu]
    by_cases he : (devirt sep).units.isEmpty = true
    · simp only [if_pos he]
      exact pieces_units su
    · simp only [if_neg he]
      have hne : (devirt sep).units ≠ [] := fun e => he (by rw [e]; rfl)
      cases hi : Spec.indexFrom (devirt sep).units su 0 with
      | none => rw [splitRel_of_none hi, ← hu]; exact pieces_self hs
      | some idx => exact splitLoopM_spec hne (su.length + 1) su idx (by rw [hi]; rfl)

theorem sb_foldl_join {sep : Str} (hsep : NF sep) : ∀ (rest : List Str) {b : SB}, b.Inv → (∀ q ∈ rest, NF q) →
    (rest.foldl (fun b q => (b.writeString sep).writeString q) b).Inv ∧
    (rest.foldl (fun b q => (b.writeString sep).writeString q) b).units =
      b.units ++ rest.flatMap (fun q => units sep ++ units q)
  | [], b, h, _ => by simp [h]
  | q :: rest, b, h, hq => by
    have w1 := sb_writeString h hsep
    have w2 := sb_writeString w1.1 (hq q (by simp))
    rw [List.foldl_cons, List.flatMap_cons]
    exact SB.chain (SB.chain w1 w2) (sb_foldl_join hsep rest w2.1 (fun x hx => hq x (by simp [hx])))

theorem joinM_spec {ps : List Str} {sep : Str} (hps : ∀ p ∈ ps, NF p) (hsep : NF sep) :
    NF (joinM ps sep) ∧ units (joinM ps sep) = Spec.join (ps.map units) (units sep) := by
  cases ps with
  | nil => exact ⟨nf_emptyStr, rfl⟩
  | cons p rest =>
    simp only [joinM, Spec.join, List.map_cons]
    have w0 := sb_writeString sb_inv_empty (hps p (by simp))
    rw [List.flatMap_map]
    exact sb_toStr_of (SB.chain w0 (sb_foldl_join hsep rest w0.1 (fun x hx => hps x (by simp [hx]))))

/-- s.split(sep).join(j) as coded = the spec -/
theorem splitJoinM_spec {s sep j : Str} (hs : NF s) (hp : NF sep) (hj : NF j) :
    NF (joinM (splitM s sep) j) ∧
      units (joinM (splitM s sep) j) = Spec.join (Spec.split (units s) (units sep)) (units j) := by
  have w := splitM_spec hs hp
  have v := joinM_spec w.1 hj
  exact ⟨v.1, by rw [v.2, w.2]⟩

end BuiltinsSection

-- tests on literals (non-vacuity), not proofs of the property

-- NF is satisfiable in all three representations, on non-trivial values
example : NF (.ascii [0x61, 0x62]) ∧ NF (.uni [0x61, 0xD800]) ∧ NF (.imp [0xff, 0x61] false) := by
  refine ⟨?_, ?_, trivial⟩ <;> simp only [NF] <;> decide
-- the builder invariant holds in a state that is in UTF-16 mode with a non-ASCII unit
example : (SB.empty.writeRune 0xD800).Inv := (sb_writeRune sb_inv_empty (by decide)).1
example : (SB.empty.writeRune 0xD800).toStr = .uni [0xD800] := by decide
-- both branches of the guarded shortcut are reachable
example : junctionSafe [0x62] = true ∧ junctionSafe [0xA9] = false := by decide
-- three representations of "é" are pairwise StrictEqual in both directions
example : strictEq (.uni [0xe9]) (.imp [0xc3, 0xa9] false) = true ∧ strictEq (.imp [0xc3, 0xa9] true) (.uni [0xe9]) = true := by
  decide

end GojaModel.C06
