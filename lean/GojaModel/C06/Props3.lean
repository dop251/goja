/-
  C06 — String.prototype.split(separator, limit): mechanism (Builtins3.lean) ⊑ spec, NF preserved.
-/
import GojaModel.C06.Props
import GojaModel.C06.Builtins3
namespace GojaModel.C06
open Builtins

/-- fuel `k` allows `k` cuts, and the first `k` pieces need no more; `F` is any fuel that never runs out -/
theorem splitRel_take_fuel {sep : List UInt16} (hne : sep ≠ []) : ∀ (k F : Nat) (l : List UInt16), l.length + 1 ≤ F →
    (Spec.splitRel sep k l).take k = (Spec.splitRel sep F l).take k
  | 0, _, _, _ => by simp
  | k + 1, 0, l, h => by omega
  | k + 1, F + 1, l, h => by
    simp only [Spec.splitRel]
    cases hi : Spec.indexFrom sep l 0 with
    | none => rfl
    | some i =>
      have hlt := indexFrom_lt hne l 0 i hi
      have hs : 0 < sep.length := List.length_pos_iff.mpr hne
      have hl : (l.drop (i + sep.length)).length + 1 ≤ F := by simp; omega
      simp only [List.take_succ_cons]
      rw [splitRel_take_fuel hne k F _ hl]

theorem take_take_self {α : Type} (l : List α) (n : Nat) : (l.take n).take n = l.take n := by
  rw [List.take_take, Nat.min_self]

theorem splitLoopLimM_eq_take {ss : List UInt16} (hne : ss ≠ []) : ∀ (k F : Nat) (su : List UInt16) (idx : Nat),
    su.length + 1 ≤ F → idx = (Spec.indexFrom ss su 0).getD su.length →
    splitLoopLimM ss k su idx = (splitLoopM ss F su idx).take k
  | 0, _, _, _, _, _ => rfl
  | k + 1, 0, su, idx, h, _ => by omega
  | k + 1, F + 1, su, idx, h, hidx => by
    rw [splitLoopLimM, splitLoopM]
    split
    · rw [List.take_succ_cons, List.take_nil]
    · next hi =>
      have hlt : idx < su.length := by
        cases hf : Spec.indexFrom ss su 0 with
        | none => rw [hf] at hidx; exact absurd hidx hi
        | some i => rw [hf] at hidx; subst hidx; simpa using indexFrom_lt hne su 0 _ hf
      have hs : 0 < ss.length := List.length_pos_iff.mpr hne
      simp only [List.take_succ_cons]
      rw [splitLoopLimM_eq_take hne k F _ _ (by rw [List.length_drop]; omega) rfl]

theorem splitRelB_take_fuel {sep : List UInt8} (hne : sep ≠ []) (k F : Nat) (l : List UInt8) (h : l.length + 1 ≤ F) :
    (splitRelB sep k l).take k = (splitRelB sep F l).take k := by
  apply (List.map_inj_right (fun _ _ => map_b2u_inj)).mp
  rw [List.map_take, List.map_take, splitRelB_map, splitRelB_map]
  exact splitRel_take_fuel (fun e => hne (List.map_eq_nil_iff.mp e)) k F _ (by rwa [List.length_map])

/-- SplitN(limit+1) then truncation, the exploded "" case and the counter loop all cut the same list -/
theorem splitLimM_eq_take (s sep : Str) (n : Nat) : splitLimM s sep (some n) = (splitM s sep).take n := by
  cases n with
  | zero => rfl
  | succ l =>
    simp only [splitLimM, splitM]
    cases devirt s with
    | a sa =>
      cases devirt sep with
      | a sepa =>
        simp only
        rw [← List.map_take]
        congr 1
        by_cases he : sepa.isEmpty = true
        · rw [if_pos he, if_pos he]
          split
          · rw [List.take_append_of_le_length (by simp; omega), List.map_take, take_take_self]
          · rw [List.append_nil, List.map_take, take_take_self]
        · rw [if_neg he, if_neg he]
          exact splitRelB_take_fuel (fun e => he (by rw [e]; rfl)) _ _ _ (Nat.le_refl _)
      | u _ => exact (List.take_succ_cons.trans (by rw [List.take_nil])).symm
    | u su =>
      simp only
      by_cases he : (devirt sep).units.isEmpty = true
      · rw [if_pos he, if_pos he, ← List.map_take]
        congr 1
        split
        · rfl
        · rw [List.take_of_length_le (by omega)]
      · rw [if_neg he, if_neg he]
        cases hi : Spec.indexFrom (devirt sep).units su 0 with
        | none => exact (List.take_succ_cons.trans (by rw [List.take_nil])).symm
        | some idx =>
          exact splitLoopLimM_eq_take (fun e => he (by rw [e]; rfl)) _ _ su idx (Nat.le_refl _) (by rw [hi]; rfl)

/-- String.prototype.split(separator, limit) as coded: every piece in normal form, and the pieces are the first
`limit` pieces of the unlimited split (ECMA-262: "lim" truncates the list of substrings) -/
theorem splitLimM_spec {s sep : Str} (hs : NF s) (hp : NF sep) (limit : Option Nat) :
    (∀ p ∈ splitLimM s sep limit, NF p) ∧
      (splitLimM s sep limit).map units =
        (match limit with
         | none => Spec.split (units s) (units sep)
         | some n => (Spec.split (units s) (units sep)).take n) := by
  cases limit with
  | none => exact splitM_spec hs hp
  | some n => rw [splitLimM_eq_take]; exact pieces_take (splitM_spec hs hp) n
end GojaModel.C06
