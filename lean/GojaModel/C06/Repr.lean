/-
  C06 — the three representations through their units (core Lean only): decoding of ASCII bytes, what `scan` answers,
  the representation lemma `devirt_view`, the choice of storage from the units, and the unit-level reading of the
  pieces of Concat, CompareTo and the unistring key.
-/
import GojaModel.C06.Utf8
namespace GojaModel.C06

theorem utf16_decode_cons_ascii {b : UInt8} (hb : asciiB b = true) (bs : List UInt8) :
    utf16 (decode (b :: bs)) = b2u b :: utf16 (decode bs) := by
  have hlt : b.toNat < 0x80 := by simpa [asciiB] using hb
  have e : utf16One b.toNat = [b2u b] := by rw [← b2u_toNat, utf16One_unit]
  rw [decode, decodeS, show decodeRune (b :: bs) = _ from (Enc.one hlt).decode bs, utf16_cons, e]
  rfl

/-- unistring.Scan's fast first loop -/
theorem utf16_decode_takeWhile : ∀ s : List UInt8,
    utf16 (decode s) = (s.takeWhile asciiB).map b2u ++ utf16 (decode (s.dropWhile asciiB))
  | [] => rfl
  | b :: bs => by
    by_cases hb : asciiB b = true
    · rw [utf16_decode_cons_ascii hb, utf16_decode_takeWhile bs, List.takeWhile_cons, List.dropWhile_cons, if_pos hb,
        if_pos hb]
      rfl
    · rw [List.takeWhile_cons, List.dropWhile_cons, if_neg hb, if_neg hb]
      rfl

theorem utf16_decode_ascii : ∀ {s : List UInt8}, s.all asciiB = true → utf16 (decode s) = s.map b2u
  | [], _ => rfl
  | b :: bs, h => by
    rw [List.all_cons, Bool.and_eq_true] at h
    rw [utf16_decode_cons_ascii h.1, utf16_decode_ascii h.2, List.map_cons]

theorem decode_nonascii : ∀ {s : List UInt8}, s.all asciiB = false → (utf16 (decode s)).any nonAsciiU = true
  | [], h => by simp at h
  | b :: bs, h => by
    by_cases hb : asciiB b = true
    · rw [utf16_decode_cons_ascii hb, List.any_cons, decode_nonascii (by simpa [hb] using h), Bool.or_true]
    · have hr := decodeRune_bounds b bs
      rw [decode, decodeS, utf16_cons]
      exact utf16One_head_nonascii (hr.1 (by simpa [asciiB] using hb)) hr.2 _

theorem scan_cases (s : List UInt8) :
    (s.all asciiB = true ∧ scan s = none) ∨ (s.all asciiB = false ∧ scan s = some (utf16 (decode s))) := by
  rw [scan]
  cases s.all asciiB
  · exact .inr ⟨rfl, rfl⟩
  · exact .inl ⟨rfl, rfl⟩

theorem fillUnits_eq_utf16 : ∀ rs : List Nat, fillUnits rs = utf16 rs
  | [] => rfl
  | r :: rs => by
    rw [utf16_cons, fillUnits, fillUnits_eq_utf16 rs]
    simp [utf16One, scanFillTest]

theorem countUnits_eq_length : ∀ rs : List Nat, countUnits rs = (utf16 rs).length
  | [] => rfl
  | r :: rs => by
    rw [utf16_cons, countUnits, countUnits_eq_length rs, List.length_append]
    by_cases h : r ≤ 0xFFFF
    · have : ¬ r > 0xFFFF := by omega
      simp [utf16One, scanCountTest, h, this]
    · have : r > 0xFFFF := by omega
      simp [utf16One, scanCountTest, h, this]

/-- `NF` read on a devirtualised string (`devirt_nf`) -/
def DV.NF : DV → Prop
  | .a bs => bs.all asciiB = true
  | .u us => us.any nonAsciiU = true

theorem devirt_units (x : Str) : (devirt x).units = units x := by
  cases x with
  | ascii b => rfl
  | uni u => rfl
  | imp s sc =>
    rcases scan_cases s with ⟨h, hs⟩ | ⟨h, hs⟩
    · simp [devirt, hs, DV.units, units, utf16_decode_ascii h]
    · simp [devirt, hs, DV.units, units]

theorem devirt_nf {x : Str} (h : NF x) : (devirt x).NF := by
  cases x with
  | ascii b => simpa [devirt, DV.NF, NF] using h
  | uni u => simpa [devirt, DV.NF, NF] using h
  | imp s sc =>
    rcases scan_cases s with ⟨h, hs⟩ | ⟨h, hs⟩
    · simp [devirt, hs, DV.NF, h]
    · simp [devirt, hs, DV.NF, decode_nonascii h]

/-- The representation lemma: every operation defined through `devirt` is analysed by these two cases. -/
theorem devirt_view (x : Str) :
    (∃ b, devirt x = .a b ∧ units x = b.map b2u ∧ (NF x → b.all asciiB = true)) ∨
    (∃ u, devirt x = .u u ∧ units x = u ∧ (NF x → u.any nonAsciiU = true)) := by
  have hu := devirt_units x
  have hn := @devirt_nf x
  cases h : devirt x with
  | a b => rw [h] at hu hn; exact .inl ⟨b, rfl, hu.symm, hn⟩
  | u u => rw [h] at hu hn; exact .inr ⟨u, rfl, hu.symm, hn⟩

theorem DV.of_isA {d : DV} (h : d.isA = true) : d.bytes.map b2u = d.units ∧ (d.NF → d.bytes.all asciiB = true) := by
  cases d
  · exact ⟨rfl, id⟩
  · cases h

/-- the choice of storage made by unicodeString.Substring and unicodeStringBuilder.String -/
theorem uniOrAscii_spec (l : List UInt16) :
    NF (if l.any nonAsciiU = true then Str.uni l else .ascii (l.map u2b)) ∧
      units (if l.any nonAsciiU = true then Str.uni l else .ascii (l.map u2b)) = l := by
  split
  · next h => exact ⟨h, rfl⟩
  · next h => exact ⟨all_asciiB_u2b (all_ascii_of_not_any h), map_b2u_u2b (all_ascii_of_not_any h)⟩

/-- the choice of storage made by StringFromUTF16 and String.fromCharCode -/
theorem asciiOrUni_spec (l : List UInt16) :
    NF (if l.all asciiU = true then Str.ascii (l.map u2b) else .uni l) ∧
      units (if l.all asciiU = true then Str.ascii (l.map u2b) else .uni l) = l := by
  split
  · next h => exact ⟨all_asciiB_u2b h, map_b2u_u2b h⟩
  · next h => exact ⟨by rw [NF, any_nonAscii_eq_not_all, (Bool.not_eq_true _).mp h]; rfl, rfl⟩

theorem units_touch (s : Str) : units (touch s) = units s := by cases s <;> rfl

theorem nf_touch {s : Str} (h : NF s) : NF (touch s) := by cases s <;> first | exact h | trivial

theorem asciiConcat_units (s : List UInt8) (y : Str) : units (asciiConcat s y) = s.map b2u ++ units y := by
  rw [← devirt_units y]
  unfold asciiConcat
  cases devirt y <;> simp [units, DV.units]

theorem uniConcat_units (s : List UInt16) (y : Str) : units (uniConcat s y) = s ++ units y := by
  rw [← devirt_units y]
  unfold uniConcat
  cases devirt y <;> simp [units, DV.units]

theorem dvConcat_units (d : DV) (y : Str) : units (dvConcat d y) = d.units ++ units y := by
  cases d
  · exact asciiConcat_units _ y
  · exact uniConcat_units _ y

theorem nf_dvConcat {d : DV} {y : Str} (hd : d.NF) (hy : NF y) : NF (dvConcat d y) := by
  cases d with
  | a s =>
    rcases devirt_view y with ⟨b, hb, -, hn⟩ | ⟨u, hu, -, hn⟩
    · simp only [dvConcat, asciiConcat, hb, NF, List.all_append, show s.all asciiB = true from hd, hn hy, Bool.and_self]
    · simp only [dvConcat, asciiConcat, hu, NF, List.any_append, hn hy, Bool.or_true]
  | u s =>
    have hs : s.any nonAsciiU = true := hd
    cases h : devirt y <;> simp only [dvConcat, uniConcat, h, NF, List.any_append, hs, Bool.true_or]

theorem cmpBytes_eq : ∀ s t : List UInt8, cmpBytes s t = lexCmp (s.map b2u) (t.map b2u)
  | [], [] => rfl
  | [], _ :: _ => rfl
  | _ :: _, [] => rfl
  | a :: as, b :: bs => by simp [cmpBytes, lexCmp, cmpBytes_eq as bs]

theorem cmpUA_eq : ∀ (u : List UInt16) (s : List UInt8), cmpUA u s = lexCmp u (s.map b2u)
  | [], [] => rfl
  | [], _ :: _ => rfl
  | _ :: _, [] => rfl
  | a :: as, b :: bs => by simp [cmpUA, lexCmp, cmpUA_eq as bs]

theorem lexCmp_neg : ∀ u v : List UInt16, - lexCmp u v = lexCmp v u
  | [], [] => rfl
  | [], _ :: _ => rfl
  | _ :: _, [] => rfl
  | a :: as, b :: bs => by
    simp only [lexCmp]
    by_cases h1 : a.toNat < b.toNat
    · have : ¬ b.toNat < a.toNat := by omega
      simp [h1, this]
    · by_cases h2 : b.toNat < a.toNat
      · simp [h1, h2]
      · simp [h1, h2, lexCmp_neg as bs]

theorem le16_cons (c : UInt16) (cs : List UInt16) :
    le16 (c :: cs) = UInt8.ofNat (c.toNat % 256) :: UInt8.ofNat (c.toNat / 256) :: le16 cs := by
  simp [le16]

theorem le16_length (u : List UInt16) : (le16 u).length = 2 * u.length := by
  induction u with
  | nil => rfl
  | cons c cs ih => rw [le16_cons]; simp [ih]; omega

theorem ascii_ne_bom {b : List UInt8} (hb : b.all asciiB = true) (u : List UInt16) : b ≠ le16 (BOM :: u) := by
  intro h
  -- a UTF-16 key starts with the low byte 0xFF of the BOM, which is not ASCII
  rw [le16_cons] at h
  subst h
  simp [asciiB, BOM] at hb

theorem asUtf16_ascii {b : List UInt8} (hb : b.all asciiB = true) : asUtf16 b = none := by
  unfold asUtf16
  split
  · rfl
  · match b, hb with
    | [], _ => rfl
    | [_], _ => rfl
    | lo :: hi :: rest, hb =>
      simp only [de16]
      have hlo : lo.toNat < 128 := by
        simp only [List.all_cons, Bool.and_eq_true] at hb
        simpa [asciiB] using hb.1
      have hhi := hi.toNat_lt
      have : (UInt16.ofNat (lo.toNat + 256 * hi.toNat) == BOM) = false := by
        rw [beq_eq_false_iff_ne]
        intro h
        have := congrArg UInt16.toNat h
        simp [BOM] at this
        omega
      simp only [this, Bool.false_eq_true, if_false]

end GojaModel.C06
