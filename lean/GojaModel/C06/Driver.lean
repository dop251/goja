/-
  C06 model driver (line protocol, core Lean only).

  Stream A — Go-API register machine (mechanism-level model, representation tags predicted exactly):
    reset
    tv d HEXBYTES | nsv d HEXBYTES | u16 d HEXUNITS | raw d s
    cat d a b | sub d a p q | tpl d a b c...
    dump a | len a | cmp a b | seq a b | same a b | heq a b
    sbnew k | sbws k a | sbwsub k a p q | sbwr k HEXRUNE | sbw8 k HEXBYTES | sblu k n | sbstr d k
  Value-producing ops answer the representation tag; a suffix ` !SPEC` / ` !NF` is appended by the model
  (only) when the mechanism's result differs from the specification on units / is not in normal form.
  Stream B — `E tok tok ...`: SPEC evaluation of an expression tree in RPN; answer = hex of the units.
-/
import GojaModel.Base.Proto
import GojaModel.C06.Model
import GojaModel.C06.Spec
import GojaModel.C06.Builtins
import GojaModel.C06.Builtins2
import GojaModel.C06.Builtins3
namespace GojaModel.C06.Driver
open GojaModel.C06 GojaModel.Proto

structure St where
  regs : List (Nat × Str) := []
  sbs : List (Nat × SB) := []

def St.get (s : St) (k : Nat) : Option Str := (s.regs.find? (·.1 == k)).map (·.2)
def St.set (s : St) (k : Nat) (v : Str) : St := { s with regs := (k, v) :: s.regs.filter (·.1 != k) }
def St.getSB (s : St) (k : Nat) : Option SB := (s.sbs.find? (·.1 == k)).map (·.2)
def St.setSB (s : St) (k : Nat) (v : SB) : St := { s with sbs := (k, v) :: s.sbs.filter (·.1 != k) }

def nat? (s : String) : Option Nat := Spec.parseNat? s.toList

/-- "-" denotes the empty hex payload -/
def hx (s : String) : List Char := if s == "-" then [] else s.toList

/-- answer of a value-producing op: tag (+ markers when mechanism ≠ spec) -/
def answer (r : Str) (specUnits : List UInt16) : String :=
  tag r ++ (if units r == specUnits then "" else " !SPEC") ++ (if nfb r then "" else " !NF")

def subRange (len p q : Nat) : Nat × Nat :=
  let st := min p len
  (st, min (max q st) len)

def getAll (s : St) : List String → Option (List (Nat × Str))
  | [] => some []
  | w :: ws => do
    let k ← nat? w
    let v ← s.get k
    let r ← getAll s ws
    pure ((k, v) :: r)

def sgn (i : Int) : String := if i < 0 then "-1" else if i > 0 then "1" else "0"

def step (s : St) (line : String) : St × String :=
  let bad := (s, "ERR")
  match words line with
  | "E" :: toks =>
    match Spec.evalRPN toks with
    | some u => (s, "u=" ++ Spec.hexOfUnits u)
    | none => bad
  | ["X", h] =>
    -- SPEC observations derived from a unit list: QuoteJSONString and the code-point segmentation
    match Spec.parseUnits (hx h) with
    | some u => (s, "q=" ++ Spec.hexOfUnits (Spec.jsonQuote u) ++ " cp=" ++
        String.join ((Spec.codePoints u).map Spec.hex6) ++ " it=" ++ String.join ((Spec.lenientDecode u).map Spec.hex6))
    | none => bad
  | ["reset"] => ({}, "ok")
  | ["tv", d, h] =>
    match nat? d, Spec.parseBytes (hx h) with
    | some d, some b => let r := toValue b; (s.set d r, answer r (utf16 (decode b)))
    | _, _ => bad
  | ["nsv", d, h] =>
    match nat? d, Spec.parseBytes (hx h) with
    | some d, some b => let r := newStringValue b; (s.set d r, answer r (utf16 (decode b)))
    | _, _ => bad
  | ["u16", d, h] =>
    match nat? d, Spec.parseUnits (hx h) with
    | some d, some u => let r := stringFromUTF16 u; (s.set d r, answer r u)
    | _, _ => bad
  | ["raw", d, a] =>
    match nat? d, nat? a with
    | some d, some a =>
      match s.get a with
      | some x => let r := stringValueFromRaw (keyOf x); ((s.set a (touch x)).set d r, answer r (units x))
      | none => bad
    | _, _ => bad
  | ["cat", d, a, b] =>
    match nat? d, nat? a, nat? b with
    | some d, some a, some b =>
      match s.get a, s.get b with
      | some x, some y =>
        let r := concat x y
        let (x', y') := if a == b then (let t := (concatFx x y).1; (t, t)) else concatFx x y
        (((s.set a x').set b y').set d r, answer r (units x ++ units y))
      | _, _ => bad
    | _, _, _ => bad
  | ["sub", d, a, p, q] =>
    match nat? d, nat? a, nat? p, nat? q with
    | some d, some a, some p, some q =>
      match s.get a with
      | some x =>
        let (st, en) := subRange (units x).length p q
        let r := substring x st en
        ((s.set a (touch x)).set d r, answer r (slice (units x) st en))
      | none => bad
    | _, _, _, _ => bad
  | "tpl" :: d :: args =>
    match nat? d, getAll s args with
    | some d, some kvs =>
      let r := concatStrings (kvs.map (·.2))
      let s' := kvs.foldl (fun acc kv => acc.set kv.1 (touch kv.2)) s
      (s'.set d r, answer r (kvs.flatMap (fun kv => units kv.2)))
    | _, _ => bad
  | ["dump", a] =>
    match (nat? a).bind s.get, nat? a with
    | some x, some a => (s.set a (touch x), tag x ++ " " ++ Spec.hexOfUnits (units x) ++ (if nfb x then "" else " !NF"))
    | _, _ => bad
  | ["len", a] =>
    match (nat? a).bind s.get, nat? a with
    | some x, some a => (s.set a (touch x), toString (units x).length)
    | _, _ => bad
  | ["cmp", a, b] =>
    match nat? a, nat? b with
    | some a, some b =>
      match s.get a, s.get b with
      | some x, some y =>
        let c := compareTo x y
        (((s.set a (touch x)).set b (touch y)), sgn c ++ (if sgn c == sgn (lexCmp (units x) (units y)) then "" else " !SPEC"))
      | _, _ => bad
    | _, _ => bad
  | [op, a, b] =>
    if op == "seq" || op == "same" then
      match nat? a, nat? b with
      | some a, some b =>
        match s.get a, s.get b with
        | some x, some y =>
          let r := strictEq x y
          let (x', y') := if a == b then (x, y) else strictEqFx x y
          (((s.set a x').set b y'), toString r ++ (if r == (units x == units y) then "" else " !SPEC"))
        | _, _ => bad
      | _, _ => bad
    else if op == "heq" then
      match nat? a, nat? b with
      | some a, some b =>
        match s.get a, s.get b with
        | some x, some y =>
          let r := hashPre x == hashPre y
          (((s.set a (touch x)).set b (touch y)), toString r ++ (if r == (units x == units y) then "" else " !SPEC"))
        | _, _ => bad
      | _, _ => bad
    else if op == "sbws" then
      match nat? a, nat? b with
      | some k, some b =>
        match s.getSB k, s.get b with
        | some sb, some x => ((s.set b (touch x)).setSB k (sb.writeString x), "ok")
        | _, _ => bad
      | _, _ => bad
    else if op == "sbwr" then
      match nat? a, parseHex? b with
      | some k, some r =>
        match s.getSB k with
        | some sb => (s.setSB k (sb.writeRune r), "ok")
        | none => bad
      | _, _ => bad
    else if op == "sbw8" then
      match nat? a, Spec.parseBytes (hx b) with
      | some k, some bs =>
        match s.getSB k with
        | some sb => (s.setSB k (sb.writeUTF8 bs), "ok")
        | none => bad
      | _, _ => bad
    else if op == "sblu" then
      match nat? a with
      | some k =>
        match s.getSB k with
        | some sb => (s.setSB k sb.switchToUnicode, "ok")
        | none => bad
      | none => bad
    else if op == "sbstr" then
      match nat? a, nat? b with
      | some d, some k =>
        match s.getSB k with
        | some sb => let r := sb.toStr; (s.set d r, answer r sb.units)
        | none => bad
      | _, _ => bad
    else bad
  | ["sbnew", k] =>
    match nat? k with
    | some k => (s.setSB k SB.empty, "ok")
    | none => bad
  | ["sbwsub", k, a, p, q] =>
    match nat? k, nat? a, nat? p, nat? q with
    | some k, some a, some p, some q =>
      match s.getSB k, s.get a with
      | some sb, some x =>
        let (st, en) := subRange (units x).length p q
        ((s.set a (touch x)).setSB k (sb.writeSubstring x st en), "ok")
      | _, _ => bad
    | _, _, _, _ => bad
  | _ => bad

/-- `bi d <builtin> args…`: a String built-in called with register values (mechanism models of Builtins*.lean).
Answers like a value-producing op (tag + markers); `undef` for String.prototype.at out of range. -/
def stepBuiltin (s : St) (d : Nat) (op : String) (args : List String) : St × String :=
  let bad := (s, "ERR")
  let reg := fun (w : String) => (nat? w).bind (fun k => (s.get k).map (fun v => (k, v)))
  let touchIn := fun (st : St) (kv : Nat × Str) => st.set kv.1 (touch kv.2)
  match op, args with
  | "slice", [a, i, j] =>
    match reg a, Spec.parseInt? i, Spec.parseOptInt? j with
    | some (ka, x), some i, some j =>
      let r := Builtins.sliceM x i j
      ((touchIn s (ka, x)).set d r, answer r (Spec.jsSlice (units x) i j))
    | _, _, _ => bad
  | "substring", [a, i, j] =>
    match reg a, Spec.parseInt? i, Spec.parseOptInt? j with
    | some (ka, x), some i, some j =>
      let r := Builtins.substringM x i j
      ((touchIn s (ka, x)).set d r, answer r (Spec.jsSubstring (units x) i j))
    | _, _, _ => bad
  | "substr", [a, i, j] =>
    match reg a, Spec.parseInt? i, Spec.parseOptInt? j with
    | some (ka, x), some i, some j =>
      let r := Builtins.substrM x i j
      ((touchIn s (ka, x)).set d r, answer r (Spec.jsSubstr (units x) i j))
    | _, _, _ => bad
  | "at", [a, i] =>
    match reg a, Spec.parseInt? i with
    | some (ka, x), some i =>
      match Builtins.atM x i with
      | some r => ((touchIn s (ka, x)).set d r, answer r (Spec.jsAt (units x) i))
      | none => ((touchIn s (ka, x)).set d Builtins.emptyStr, "undef" ++ (if Spec.jsAt (units x) i == [] then "" else " !SPEC"))
    | _, _ => bad
  | "charAt", [a, i] =>
    match reg a, Spec.parseInt? i with
    | some (ka, x), some i =>
      let r := Builtins.charAtM x i
      ((touchIn s (ka, x)).set d r, answer r (Spec.jsCharAt (units x) i))
    | _, _ => bad
  | "repeat", [a, n] =>
    match reg a, nat? n with
    | some (ka, x), some n =>
      let r := Builtins.repeatM x n
      ((if n == 0 then s else touchIn s (ka, x)).set d r, answer r (Spec.rep (units x) n))
    | _, _ => bad
  | "fcc", [h] =>
    match Spec.parseUnits (hx h) with
    | some u => let r := Builtins.fromCharCodeM u; (s.set d r, answer r u)
    | none => bad
  | "fcp", [h] =>
    match Spec.parseUnits (hx h) with
    | some u =>
      -- code points given as UTF-16 (pairs merged, lone surrogates kept): the harness passes Spec.codePoints
      let cps := Spec.codePoints u
      let r := Builtins.fromCodePointM cps
      (s.set d r, answer r u)
    | none => bad
  | _, _ =>
    if op == "padStart" || op == "padEnd" then
      match args with
      | [a, f, n] =>
        match reg a, reg f, nat? n with
        | some (ka, x), some (kf, y), some n =>
          let atStart := op == "padStart"
          let r := Builtins.padM x y n atStart
          let s1 := touchIn s (ka, x)
          let s2 := if n ≤ Builtins.len x then s1 else (if ka == kf then s1 else touchIn s1 (kf, y))
          (s2.set d r, answer r (if atStart then Spec.padStart (units x) n (units y) else Spec.padEnd (units x) n (units y)))
        | _, _, _ => bad
      | _ => bad
    else if op == "replace" || op == "replaceAll" then
      match args with
      | [a, p, rp] =>
        match reg a, reg p, reg rp with
        | some (ka, x), some (kp, y), some (kr, z) =>
          let all := op == "replaceAll"
          let r := if all then Builtins.replaceAllM x y z else Builtins.replaceM x y z
          let found := (Builtins.indexM x y 0).isSome
          let st1 := [(ka, x), (kp, y)].foldl touchIn s
          let st2 := if found then touchIn st1 (kr, (st1.get kr).getD z) else st1
          (st2.set d r, answer r (if all then Spec.replaceAll (units x) (units y) (units z)
                                   else Spec.replaceFirst (units x) (units y) (units z)))
        | _, _, _ => bad
      | _ => bad
    else if op == "splitjoin" then
      match args with
      | [a, p, j] =>
        match reg a, reg p, reg j with
        | some (ka, x), some (kp, y), some (kj, z) =>
          let ps := Builtins.splitM x y
          let r := Builtins.joinM ps z
          let st1 := [(ka, x), (kp, y)].foldl touchIn s
          let st2 := if ps.length ≥ 2 then touchIn st1 (kj, (st1.get kj).getD z) else st1
          (st2.set d r, answer r (Spec.join (Spec.split (units x) (units y)) (units z)))
        | _, _, _ => bad
      | _ => bad
    else if op == "splitpiece" then
      match args with
      | [a, p, k] =>
        match reg a, reg p, nat? k with
        | some (ka, x), some (kp, y), some k =>
          let ps := Builtins.splitM x y
          let st1 := [(ka, x), (kp, y)].foldl touchIn s
          match ps[k]?, (Spec.split (units x) (units y))[k]? with
          | some r, some u => (st1.set d r, answer r u)
          | some r, none => (st1.set d r, tag r ++ " !SPEC")
          | none, sp => (st1.set d Builtins.emptyStr, "undef" ++ (if sp.isNone then "" else " !SPEC"))
        | _, _, _ => bad
      | _ => bad
    else if op == "splitjoinlim" then
      -- bi d splitjoinlim a sep j lim
      match args with
      | [a, p, j, lim] =>
        match reg a, reg p, reg j, nat? lim with
        | some (ka, x), some (kp, y), some (kj, z), some lim =>
          let ps := Builtins.splitLimM x y (some lim)
          let r := Builtins.joinM ps z
          let st1 := if lim == 0 then s else [(ka, x), (kp, y)].foldl touchIn s
          let st2 := if ps.length ≥ 2 then touchIn st1 (kj, (st1.get kj).getD z) else st1
          (st2.set d r, answer r (Spec.join ((Spec.split (units x) (units y)).take lim) (units z)))
        | _, _, _, _ => bad
      | _ => bad
    else if op == "splitpiecelim" then
      match args with
      | [a, p, k, lim] =>
        match reg a, reg p, nat? k, nat? lim with
        | some (ka, x), some (kp, y), some k, some lim =>
          let ps := Builtins.splitLimM x y (some lim)
          let st1 := if lim == 0 then s else [(ka, x), (kp, y)].foldl touchIn s
          match ps[k]?, ((Spec.split (units x) (units y)).take lim)[k]? with
          | some r, some u => (st1.set d r, answer r u)
          | some r, none => (st1.set d r, tag r ++ " !SPEC")
          | none, sp => (st1.set d Builtins.emptyStr, "undef" ++ (if sp.isNone then "" else " !SPEC"))
        | _, _, _, _ => bad
      | _ => bad
    else if op == "trim" || op == "trimStart" || op == "trimEnd" then
      match args with
      | [a] =>
        match reg a with
        | some (ka, x) =>
          let l := op != "trimEnd"
          let rt := op != "trimStart"
          let r := Builtins.trimM x l rt
          let sp := if op == "trim" then Spec.trim (units x) else if l then Spec.trimStart (units x) else Spec.trimEnd (units x)
          ((touchIn s (ka, x)).set d r, answer r sp)
        | none => bad
      | _ => bad
    else if op == "raw" then
      -- bi d raw <nseg> seg… sub…
      match args with
      | n :: rest =>
        match nat? n, getAll s rest with
        | some n, some kvs =>
          if n == 0 || kvs.length < n then bad else
          let segs := kvs.take n
          let subs := kvs.drop n
          let r := Builtins.rawM (segs.map (·.2)) (subs.map (·.2))
          let s' := (segs ++ subs.take (n - 1)).foldl touchIn s
          (s'.set d r, answer r (Spec.rawS (segs.map (fun kv => units kv.2)) (subs.map (fun kv => units kv.2))))
        | _, _ => bad
      | _ => bad
    else if op == "concat" then
      match getAll s args with
      | some kvs =>
        if kvs.isEmpty then bad else
        let r := Builtins.protoConcatM (kvs.map (·.2))
        let s' := kvs.foldl touchIn s
        (s'.set d r, answer r (kvs.flatMap (fun kv => units kv.2)))
      | none => bad
    else bad

def stepAll (s : St) (line : String) : St × String :=
  match words line with
  | "bi" :: d :: op :: args =>
    match nat? d with
    | some d => stepBuiltin s d op args
    | none => (s, "ERR")
  | _ => step s line

def main : IO Unit := lineLoop stepAll ({} : St)

end GojaModel.C06.Driver
