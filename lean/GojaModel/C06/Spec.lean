/-
  C06 — SPEC-level reference evaluation of string-producing JavaScript expression trees, on lists of
  UTF-16 code units (ECMA-262 §22.1.3 algorithms transcribed on `List UInt16`).  This is the oracle of
  the expression-tree correspondence: it knows nothing about representations.  Core Lean only.
-/
import GojaModel.C06.Model
namespace GojaModel.C06.Spec
open GojaModel.C06

abbrev S := List UInt16

/-- relative index clamp used by slice/substr/at: `i < 0 ? max(len+i,0) : min(i,len)` -/
def relIdx (len : Nat) (i : Int) : Nat :=
  if i < 0 then Int.toNat (Int.ofNat len + i) else min i.toNat len

/-- index clamp of substring: `min(max(i, 0), len)` -/
def clampIdx (len : Nat) (i : Int) : Nat := if i < 0 then 0 else min i.toNat len

/-- String.prototype.slice -/
def jsSlice (s : S) (i : Int) (j : Option Int) : S :=
  let len := s.length
  let a := relIdx len i
  let b := match j with
    | none => len
    | some j => relIdx len j
  slice s a b

/-- String.prototype.substring -/
def jsSubstring (s : S) (i : Int) (j : Option Int) : S :=
  let len := s.length
  let a := clampIdx len i
  let b := match j with
    | none => len
    | some j => clampIdx len j
  slice s (min a b) (max a b)

def substrCnt (len a : Nat) : Option Int → Nat
  | none => len - a
  | some n => min (if n < 0 then 0 else n.toNat) (len - a)

/-- String.prototype.substr -/
def jsSubstr (s : S) (i : Int) (n : Option Int) : S :=
  let len := s.length
  let a := relIdx len i
  slice s a (a + substrCnt len a n)

/-- `x.at(i) ?? ""` -/
def jsAt (s : S) (i : Int) : S :=
  let k : Int := if i < 0 then Int.ofNat s.length + i else i
  if k < 0 then [] else match s[k.toNat]? with
    | some c => [c]
    | none => []

def jsCharAt (s : S) (i : Int) : S :=
  if i < 0 then [] else match s[i.toNat]? with
    | some c => [c]
    | none => []

def rep (s : S) (n : Nat) : S := (List.replicate n s).flatten

/-- "the String value consisting of repeated concatenations of filler truncated to length n" -/
def padFill (filler : S) (n : Nat) : S := rep filler (n / filler.length) ++ filler.take (n % filler.length)

def padStart (s : S) (n : Nat) (filler : S) : S :=
  if n ≤ s.length || filler.isEmpty then s else padFill filler (n - s.length) ++ s

def padEnd (s : S) (n : Nat) (filler : S) : S :=
  if n ≤ s.length || filler.isEmpty then s else s ++ padFill filler (n - s.length)

/-- WhiteSpace ∪ LineTerminator -/
def isWS (c : UInt16) : Bool :=
  let n := c.toNat
  n == 0x09 || n == 0x0A || n == 0x0B || n == 0x0C || n == 0x0D || n == 0x20 || n == 0xA0 || n == 0x1680 ||
  (0x2000 ≤ n && n ≤ 0x200A) || n == 0x2028 || n == 0x2029 || n == 0x202F || n == 0x205F || n == 0x3000 || n == 0xFEFF

def trimStart (s : S) : S := s.dropWhile isWS
def trimEnd (s : S) : S := (s.reverse.dropWhile isWS).reverse
def trim (s : S) : S := trimEnd (trimStart s)

def isPrefix : S → S → Bool
  | [], _ => true
  | _ :: _, [] => false
  | a :: as, b :: bs => a == b && isPrefix as bs

/-- StringIndexOf(s, pat, from): least p >= from with pat a prefix of s[p..]. `rest = s.drop from`. -/
def indexFrom (pat : S) : (rest : S) → (pos : Nat) → Option Nat
  | [], pos => if pat.isEmpty then some pos else none
  | c :: cs, pos => if isPrefix pat (c :: cs) then some pos else indexFrom pat cs (pos + 1)

def indexOf (s pat : S) (pos : Nat) : Option Nat :=
  if pos > s.length then none else indexFrom pat (s.drop pos) pos

/-- GetSubstitution (ECMA-262 §22.1.3.19.1) for a STRING pattern: no captures (m = 0) and namedCaptures undefined, so
`$$` → `$`, `$&` → matched, `` $` `` → the text before the match, `$'` → the text after it; `$n`, `$nn`, `$<` and any
other `$x` stay literal.  `pos` = position of the match, `matched` = the matched substring. -/
def getSubst (s : S) (pos : Nat) (matched : S) : S → S
  | [] => []
  | [c] => [c]
  | c :: ch :: rest =>
    if c.toNat = 36 then
      if ch.toNat = 36 then (36 : UInt16) :: getSubst s pos matched rest
      else if ch.toNat = 96 then s.take pos ++ getSubst s pos matched rest
      else if ch.toNat = 39 then s.drop (pos + matched.length) ++ getSubst s pos matched rest
      else if ch.toNat = 38 then matched ++ getSubst s pos matched rest
      else c :: ch :: getSubst s pos matched rest
    else c :: getSubst s pos matched (ch :: rest)

/-- build the result from the list of match positions (ECMA-262 §22.1.3.20 steps 14-16; replace = one position) -/
def replaceWithGo (s : S) (plen : Nat) (r : S) : List Nat → Nat → S → S
  | [], last, acc => acc ++ slice s last s.length
  | p :: ps, last, acc =>
    replaceWithGo s plen r ps (p + plen) (acc ++ slice s last p ++ getSubst s p (slice s p (p + plen)) r)

def replaceWith (s : S) (plen : Nat) (positions : List Nat) (r : S) : S := replaceWithGo s plen r positions 0 []

/-- String.prototype.replace with a string pattern -/
def replaceFirst (s pat r : S) : S :=
  match indexOf s pat 0 with
  | none => s
  | some p => replaceWith s pat.length [p] r

/-- matchPositions of String.prototype.replaceAll (advanceBy = max(1, searchLength)) -/
def matchPositions (s pat : S) : Nat → Nat → List Nat
  | 0, _ => []
  | fuel + 1, pos =>
    match indexOf s pat pos with
    | none => []
    | some p => p :: matchPositions s pat fuel (p + max 1 pat.length)

/-- String.prototype.replaceAll with a string pattern -/
def replaceAll (s pat r : S) : S := replaceWith s pat.length (matchPositions s pat (s.length + 2) 0) r

/-- String.prototype.split(sep) with a non-empty string separator, no limit: cut at each successive occurrence
(the search resumes right after the separator); the last piece is the remainder. -/
def splitRel (sep : S) : Nat → S → List S
  | 0, rest => [rest]
  | fuel + 1, rest =>
    match indexFrom sep rest 0 with
    | none => [rest]
    | some idx => rest.take idx :: splitRel sep fuel (rest.drop (idx + sep.length))

def split (s sep : S) : List S :=
  if sep.isEmpty then s.map (fun c => [c])
  else splitRel sep (s.length + 1) s

def join (ps : List S) (j : S) : S :=
  match ps with
  | [] => []
  | p :: rest => p ++ (rest.flatMap (fun q => j ++ q))

def isHi (c : UInt16) : Bool := 0xD800 ≤ c.toNat && c.toNat ≤ 0xDBFF
def isLo (c : UInt16) : Bool := 0xDC00 ≤ c.toNat && c.toNat ≤ 0xDFFF

def hexU (d : Nat) : UInt16 := UInt16.ofNat (if d < 10 then 48 + d else 87 + d)

def uEscape (n : Nat) : S :=
  [92, 117, hexU (n / 4096 % 16), hexU (n / 256 % 16), hexU (n / 16 % 16), hexU (n % 16)]

/-- escape of one code unit that is not part of a surrogate pair -/
def escOne (c : UInt16) : S :=
  let n := c.toNat
  if n == 0x22 then [92, 0x22]
  else if n == 0x5C then [92, 92]
  else if n == 0x08 then [92, 98]
  else if n == 0x0C then [92, 102]
  else if n == 0x0A then [92, 110]
  else if n == 0x0D then [92, 114]
  else if n == 0x09 then [92, 116]
  else if n < 0x20 then uEscape n
  else if isHi c || isLo c then uEscape n
  else [c]

/-- QuoteJSONString (well-formed JSON.stringify: lone surrogates are \u-escaped) -/
def jsonQuoteGo : S → S
  | [] => []
  | [c] => escOne c
  | c :: d :: rest =>
    if isHi c && isLo d then c :: d :: jsonQuoteGo rest else escOne c ++ jsonQuoteGo (d :: rest)

def jsonQuote (s : S) : S := [0x22] ++ jsonQuoteGo s ++ [0x22]

/-- the sequence of unpaired surrogates of a string -/
def loneSurrogates : S → S
  | [] => []
  | [c] => if isHi c || isLo c then [c] else []
  | c :: d :: rest =>
    if isHi c && isLo d then loneSurrogates rest
    else (if isHi c || isLo c then [c] else []) ++ loneSurrogates (d :: rest)

/-- the code point of the surrogate pair `c d` (UTF16SurrogatePairToCodePoint) -/
def pairCP (c d : UInt16) : Nat := 0x10000 + (c.toNat - 0xD800) * 1024 + (d.toNat - 0xDC00)

/-- SPEC: code-point segmentation of a unit list (ECMA-262 CodePointAt / StringToCodePoints): a high surrogate
directly followed by a low surrogate is one code point, every other unit is a code point by itself. -/
def codePoints : S → List Nat
  | [] => []
  | [c] => [c.toNat]
  | c :: d :: rest =>
    if isHi c && isLo d then pairCP c d :: codePoints rest else c.toNat :: codePoints (d :: rest)

/-- MECHANISM: lenientUtf16Decoder.ReadRune (string_unicode.go:81) iterated until EOF.  `prev` is the pushed-back
unit (`prev`, `prevSet`): a unit read while looking for the second half of a pair and found not to be a low
surrogate.  It is NOT returned as it is: the next call starts from it and looks again for a pair. -/
def lenientF : Nat → Option UInt16 → S → List Nat
  | 0, _, _ => []
  | fuel + 1, prev, input =>
    -- `if rr.prevSet { c = rr.prev } else { c, err = readChar() }`
    match (match prev with
           | some c => some (c, input)
           | none => match input with
             | [] => none
             | c :: rest => some (c, rest)) with
    | none => []                                      -- io.EOF
    | some (c, rest) =>
      if isHi c then
        match rest with
        | [] => [c.toNat]                             -- err1 == io.EOF: r = rune(c)
        | d :: rest' =>
          if isLo d then pairCP c d :: lenientF fuel none rest'       -- utf16.DecodeRune, size 2
          else c.toNat :: lenientF fuel (some d) rest'                 -- push back `second`
      else c.toNat :: lenientF fuel none rest

/-- the decoder run to exhaustion on a string -/
def lenientDecode (s : S) : List Nat := lenientF (s.length + 1) none s

def hex6 (n : Nat) : String :=
  String.ofList ([n / 1048576 % 16, n / 65536 % 16, n / 4096 % 16, n / 256 % 16, n / 16 % 16, n % 16].map
    (fun d => Char.ofNat (if d < 10 then 48 + d else 87 + d)))

/-! ### RPN evaluator -/

def hexVal? (c : Char) : Option Nat :=
  if '0' ≤ c ∧ c ≤ '9' then some (c.toNat - 48)
  else if 'a' ≤ c ∧ c ≤ 'f' then some (c.toNat - 87)
  else if 'A' ≤ c ∧ c ≤ 'F' then some (c.toNat - 55)
  else none

def parseUnits : List Char → Option (List UInt16)
  | [] => some []
  | a :: b :: c :: d :: rest => do
    let a ← hexVal? a; let b ← hexVal? b; let c ← hexVal? c; let d ← hexVal? d
    let r ← parseUnits rest
    pure (UInt16.ofNat (a * 4096 + b * 256 + c * 16 + d) :: r)
  | _ => none

def parseBytes : List Char → Option (List UInt8)
  | [] => some []
  | a :: b :: rest => do
    let a ← hexVal? a; let b ← hexVal? b
    let r ← parseBytes rest
    pure (UInt8.ofNat (a * 16 + b) :: r)
  | _ => none

def parseNat? (cs : List Char) : Option Nat :=
  if cs.isEmpty then none else
  cs.foldl (fun acc c => match acc with
    | some a => if '0' ≤ c ∧ c ≤ '9' then some (a * 10 + (c.toNat - 48)) else none
    | none => none) (some 0)

def parseInt? (s : String) : Option Int :=
  match s.toList with
  | '-' :: rest => (parseNat? rest).map (fun n => - Int.ofNat n)
  | cs => (parseNat? cs).map Int.ofNat

/-- "u" = argument omitted / undefined -/
def parseOptInt? (s : String) : Option (Option Int) :=
  if s == "u" then some none else (parseInt? s).map some

def hexOfUnits (u : List UInt16) : String :=
  String.ofList (u.flatMap (fun c =>
    let n := c.toNat
    [n / 4096 % 16, n / 256 % 16, n / 16 % 16, n % 16].map (fun d => Char.ofNat (if d < 10 then 48 + d else 87 + d))))

def popN : Nat → List S → Option (List S × List S)
  | 0, st => some ([], st)
  | n + 1, x :: st => (popN n st).map (fun (xs, r) => (xs ++ [x], r))
  | _ + 1, [] => none

def evalTok (st : List S) (tok : String) : Option (List S) :=
  match tok.splitOn ":" with
  | [hd, payload] =>
    if hd.startsWith "U." then (parseUnits payload.toList).map (· :: st)
    else if hd.startsWith "B." then (parseBytes payload.toList).map (fun b => utf16 (decode b) :: st)
    else match hd, st with
      | "id", x :: r => some (x :: r)
      | "tpl", _ => do
        let n ← parseNat? payload.toList
        let (xs, r) ← popN n st
        pure (xs.flatten :: r)
      | "at", x :: r => (parseInt? payload).map (fun i => jsAt x i :: r)
      | "charAt", x :: r => (parseInt? payload).map (fun i => jsCharAt x i :: r)
      | "padStart", f :: x :: r => (parseNat? payload.toList).map (fun n => padStart x n f :: r)
      | "padEnd", f :: x :: r => (parseNat? payload.toList).map (fun n => padEnd x n f :: r)
      | "repeat", x :: r => (parseNat? payload.toList).map (fun n => rep x n :: r)
      | "rreplace", rp :: pat :: x :: r =>
        if pat.isEmpty then none
        else if payload == "g" then some (replaceAll x pat rp :: r)
        else if payload == "" then some (replaceFirst x pat rp :: r) else none
      | _, _ => none
  | [hd, a, b] =>
    match hd, st with
    | "slice", x :: r => do
      let i ← parseInt? a; let j ← parseOptInt? b
      pure (jsSlice x i j :: r)
    | "substring", x :: r => do
      let i ← parseInt? a; let j ← parseOptInt? b
      pure (jsSubstring x i j :: r)
    | "substr", x :: r => do
      let i ← parseInt? a; let j ← parseOptInt? b
      pure (jsSubstr x i j :: r)
    | _, _ => none
  | [hd] =>
    match hd, st with
    | "cat", y :: x :: r => some ((x ++ y) :: r)
    | "ccat", y :: x :: r => some ((x ++ y) :: r)
    | "trim", x :: r => some (trim x :: r)
    | "trimStart", x :: r => some (trimStart x :: r)
    | "trimEnd", x :: r => some (trimEnd x :: r)
    | "replace", rp :: pat :: x :: r => some (replaceFirst x pat rp :: r)
    | "replaceAll", rp :: pat :: x :: r => some (replaceAll x pat rp :: r)
    | "sj", j :: sep :: x :: r => some (join (split x sep) j :: r)
    | "rsj", j :: sep :: x :: r => if sep.isEmpty then none else some (join (split x sep) j :: r)
    | "jrt", x :: r => some (x :: r)
    | "jstr", x :: r => some (jsonQuote x :: r)
    | _, _ => none
  | _ => none

def evalRPN (toks : List String) : Option S :=
  match toks.foldl (fun st t => st.bind (fun s => evalTok s t)) (some []) with
  | some [x] => some x
  | _ => none

end GojaModel.C06.Spec
