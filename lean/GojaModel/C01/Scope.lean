/-
  C01 — scope analysis: which scopes own a stash at run time, and the stash-level arithmetic of
  `scope.finaliseVarAlloc` (compiler.go:626 ff).

  Three host crashes found by this property (anonymous class body / empty block marked by a direct eval, deleted class
  name binding, strict function body with eval) were all the same mistake: the compiler COUNTED a scope as a stash level
  from its flags while the VM CREATED no stash for it (or vice versa), so `loadStash(level, idx)` walked to the wrong
  stash and indexed past its end.  This file transcribes both sides and proves they agree:

    compile time  `hasStash`      (compiler.go:909, used by the level loops compiler.go:646 / :736)
    run time      `createsStash`  per scope kind:
        block      enterBlock.exec  vm.go:3702 creates a stash iff stashSize > 0; stashSize from updateEnterBlock
                   compiler_stmt.go:87 (all bindings if dynLookup, else the bindings marked inStash)
        catch      enterCatchBlock.exec vm.go:3726 always (only used when dynLookup or the parameter is in the stash)
        func       compiledFunctionLiteral.compile compiler_expr.go:1636: enterFunc / enterFunc1 (always a stash) iff
                   stashSize > 0 || argsInStash, else enterFuncStashless; a dynamic scope moves its arguments to the stash
        funcBody   enterFuncBody.exec vm.go:3903: stashSize > 0 || extensible || dynLookup, with extensible = scope.dynamic
                   and dynLookup = scope.isDynamic() (compiler_expr.go:1652)
        with       enterWith: always (object stash)
        clsInit    compileFieldsAndStaticBlocks compiler_expr.go:2218: enterFunc iff stashSize > 0
-/
namespace GojaModel.C01.Scope

inductive SKind
  | block | catchStash | func | funcBody | with_ | clsInit
deriving DecidableEq, Repr

/-- A scope after compilation, reduced to what decides stash ownership. -/
structure Scope where
  kind : SKind
  dynamic : Bool       -- with-scope, or the variable scope of sloppy code containing a direct eval
  dynLookup : Bool     -- some inner scope contains a direct eval
  needStash : Bool     -- set by moveToStash / moveArgsToStash (never reset)
  argsInStash : Bool
  isVarScope : Bool
  isFuncType : Bool    -- funcType != funcNone
  nBindings : Nat      -- bindings left after deleteBinding
  nInStash : Nat       -- of which marked inStash
deriving DecidableEq, Repr

def Scope.isDynamic (s : Scope) : Bool := s.dynLookup || s.dynamic

/-- `scope.hasStash` (compiler.go:909) for a scope that is not the outermost one; decision structure tied to the
regenerated `Gen.hasStashGen` in Tie.lean. -/
def hasStashD (dynamic dynLookup isFuncType outerNil isVarScope hasBindings needStash argsInStash anyInStash : Bool) : Bool :=
  if dynamic then true
  else if dynLookup then (isFuncType || outerNil || isVarScope || hasBindings)
  else if needStash then (if argsInStash then true else if anyInStash then true else false)
  else false

def hasStash (s : Scope) : Bool :=
  hasStashD s.dynamic s.dynLookup s.isFuncType false s.isVarScope (decide (0 < s.nBindings)) s.needStash s.argsInStash
    (decide (0 < s.nInStash))

/-- the size the compiler gives the scope's stash (finaliseVarAlloc: all bindings of a dynamic scope live in the stash) -/
def stashSize (s : Scope) : Nat := if s.isDynamic then s.nBindings else s.nInStash

def createsStash (s : Scope) : Bool :=
  match s.kind with
  | .block => decide (0 < stashSize s)
  | .catchStash => true
  | .func => decide (0 < stashSize s) || s.argsInStash || s.isDynamic
  | .funcBody => decide (0 < stashSize s) || s.dynamic || s.isDynamic
  | .with_ => true
  | .clsInit => decide (0 < stashSize s)

/-- Invariants the compiler maintains, transcribed by hand; five of them cite the statement that establishes them. -/
structure WF (s : Scope) : Prop where
  inStash_le : s.nInStash ≤ s.nBindings
  /-- moveToStash / moveArgsToStash set needStash together with inStash / argsInStash (compiler.go:279, :845) -/
  needs : (0 < s.nInStash ∨ s.argsInStash = true) → s.needStash = true
  /-- only function scopes move arguments -/
  args_func : s.argsInStash = true → s.kind = .func
  /-- scope.dynamic is set on with-scopes (compiler_stmt.go:1090) and on the variable scope of sloppy eval code
      (compiler_expr.go:3104: the first scope that is `variable` or a function) -/
  dyn_kind : s.dynamic = true → s.kind = .with_ ∨ s.kind = .func ∨ s.kind = .funcBody
  with_dyn : s.kind = .with_ → s.dynamic = true
  func_ft : (s.kind = .func ∨ s.kind = .clsInit) → s.isFuncType = true
  body_var : s.kind = .funcBody → s.isVarScope = true
  /-- ordinary block / catch scopes are neither function nor variable scopes (the variable block scope that strict eval
      code opens for itself, compiler.go:965, never lies BETWEEN an access and the owner of a binding and is not modelled) -/
  blk_plain : (s.kind = .block ∨ s.kind = .catchStash) → s.isFuncType = false ∧ s.isVarScope = false
  /-- a catch scope that uses enterCatchBlock has its parameter binding, in the stash or dynamically looked up
      (compiler_stmt.go:171) -/
  catch_ok : s.kind = .catchStash → 0 < s.nBindings ∧ (s.dynLookup = true ∨ 0 < s.nInStash)
  /-- the class-initialiser function keeps its `this` binding when the scope is dynamic (compiler_expr.go:2209) -/
  cls_this : s.kind = .clsInit → s.isDynamic = true → 0 < s.nBindings

theorem hasStash_eq_createsStash (s : Scope) (w : WF s) : hasStash s = createsStash s := by
  obtain ⟨kind, dynamic, dynLookup, needStash, argsInStash, isVarScope, isFuncType, nB, nS⟩ := s
  obtain ⟨-, needs, args_func, dyn_kind, with_dyn, func_ft, body_var, blk_plain, catch_ok, cls_this⟩ := w
  simp only [hasStash, hasStashD, createsStash, stashSize, Scope.isDynamic] at *
  cases dynamic
  · cases dynLookup
    · -- static scope: the stash holds the bindings moved there; `needs` makes the `needStash` test redundant
      have hst : (if needStash = true then if argsInStash = true then true else if decide (0 < nS) = true then true else false
          else false) = (decide (0 < nS) || argsInStash) := by
        cases argsInStash <;> by_cases h : 0 < nS <;> simp_all
      simp only [Bool.false_eq_true, if_false, Bool.or_false, hst]
      cases kind
      case func => simp
      case catchStash => simp_all          -- `catch_ok`: the parameter was moved to the stash
      case with_ => simp at with_dyn
      -- block, function body, class initialiser: no arguments to move (`args_func`)
      all_goals (have ha : argsInStash = false := Bool.eq_false_iff.mpr fun h => nomatch args_func h); simp [ha]
    · -- under a direct eval: the stash holds all bindings
      cases kind
      case block => simp [blk_plain]
      case catchStash => simp [blk_plain, catch_ok]
      case func => simp [func_ft]
      case funcBody => simp [body_var]
      case with_ => simp at with_dyn
      case clsInit => simp_all             -- `func_ft`, and `cls_this` gives the binding
  · -- dynamic: a with / function / function-body scope, which then always gets a stash
    rcases dyn_kind rfl with rfl | rfl | rfl <;> simp

/-- `level` as computed by finaliseVarAlloc (compiler.go:646): `chain` = the scopes from the scope of the access (included)
out to the scope that owns the binding (excluded), innermost first. -/
def level (chain : List Scope) : Nat := (chain.filter hasStash).length

/-- the stashes that exist at run time for those scopes, innermost first (each given by its size) -/
def rtStashes (chain : List Scope) : List Nat :=
  chain.filterMap (fun s => if createsStash s then some (stashSize s) else none)

theorem rtStashes_length (chain : List Scope) (w : ∀ s ∈ chain, WF s) : (rtStashes chain).length = level chain := by
  induction chain with
  | nil => rfl
  | cons s rest ih =>
    have hs := hasStash_eq_createsStash s (w s (List.mem_cons_self))
    have ih' := ih (fun t ht => w t (List.mem_cons_of_mem _ ht))
    unfold rtStashes level at *
    cases hc : createsStash s <;> simp [hs, hc] <;> omega

theorem createsStash_of_stashSize_pos {s : Scope} (h : 0 < stashSize s) : createsStash s = true := by
  unfold createsStash
  split <;> simp [h]

theorem stash_access_in_bounds (chain : List Scope) (owner : Scope) (outerRest : List Nat) (idx : Nat)
    (w : ∀ s ∈ chain, WF s)
    (hidx : idx < stashSize owner)          -- stashIdx enumerates the owner's stash bindings (compiler.go:631)
    : ∃ sz, (rtStashes chain ++ rtStashes [owner] ++ outerRest)[level chain]? = some sz ∧ idx < sz := by
  have hlen := rtStashes_length chain w
  have hown : createsStash owner = true := createsStash_of_stashSize_pos (by omega)
  refine ⟨stashSize owner, ?_, hidx⟩
  have : rtStashes [owner] = [stashSize owner] := by simp [rtStashes, hown]
  rw [this, List.append_assoc, List.getElem?_append_right (by omega)]
  simp [hlen]

end GojaModel.C01.Scope
