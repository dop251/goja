import GojaModel.C01.EmitProof
import GojaModel.C01.RetExact
/-!
  C01 (a), statements: every statement of the modelled fragment is height-neutral, and every `ret` in it runs with exactly
  the return value above the entry height.  One structural induction over the mutual Stmt/Stmts AST for the judgement
  `HasHtR (h + 1)`, on top of the expression discipline `emitG_emits`; the plain height judgement is its projection.
-/
namespace GojaModel.C01

theorem emits_clr (nr : Bool) (h : Nat) : Emits (clr nr) h h := by
  cases nr
  · exact .nil
  · exact emits_op00 ..

theorem emits_optG (cfg : Cfg) (o : Option Expr) (h : Nat) : Emits (optG cfg o) h h := by
  cases o
  · exact .nil
  · exact (emitG_emits cfg _).f h

theorem emits_emitVarInit (cfg : Cfg) (c : IdClass) (init : Expr) (h : Nat) : Emits (emitVarInit cfg c init) h h := by
  unfold emitVarInit
  split
  · exact .seq (emits_emitVarRef ..) (.seq ((emitG_emits cfg init).fold true h) (.seq (emits_op10 ..) .nil))
  · exact .seq ((emitG_emits cfg init).fold true h) (emits_op10 ..)

theorem emits_emitForInit (cfg : Cfg) (i : ForInit) (h : Nat) : Emits (emitForInit cfg i) h h := by
  cases i with
  | none => exact .nil
  | expr e => exact (emitG_emits cfg e).f h
  | var0 => exact .nil
  | varInit c e => exact emits_emitVarInit cfg c e h

theorem ifElse_jnePR {r : Nat} {a b : Code} {h k : Nat} (ha : HasHtR r a h k) (hb : HasHtR r b h k) :
    HasHtR r (.ifElse jneP a b) (h + 1) k :=
  .ifElse (h := h + 1) (Nat.le_add_left ..) (Nat.le_refl _) (Nat.le_refl _) ha hb

theorem fwd_jnePR {r : Nat} {body : Code} {h : Nat} (hb : HasHtR r body h h) : HasHtR r (.fwd jneP body) (h + 1) h :=
  .fwd (h := h + 1) (Nat.le_add_left ..) (Nat.le_refl _) (Nat.le_refl _) hb

theorem loop_jnePR {r : Nat} {pre body : Code} {h : Nat} (hp : HasHtR r pre h (h + 1)) (hb : HasHtR r body h h) :
    HasHtR r (.loop jneP pre body) h h :=
  .loop hp (Nat.le_add_left ..) (Nat.le_refl _) (Nat.le_refl _) hb

theorem doLoop_jeqPR {r : Nat} {body : Code} {h : Nat} (hb : HasHtR r body h (h + 1)) : HasHtR r (.doLoop jeqP body) h h :=
  .doLoop hb (Nat.le_add_left ..) (Nat.le_refl _) (Nat.le_refl _) rfl

theorem retR (h k : Nat) : HasHtR (h + 1) (.ins iRet) (h + 1) k :=
  .term (Nat.le_add_left ..) (Nat.le_refl _) rfl (fun _ => rfl)

mutual
theorem emitS_htR (cfg : Cfg) : (s : Stmt) → ∀ (nr : Bool) (h : Nat), HasHtR (h + 1) (emitS cfg s nr) h h
  | .expr e, nr, h => by
    cases nr
    · exact .seq ((emitG_emits cfg e).fold false h).toR .nil
    · exact .seq ((emitG_emits cfg e).fold true h).toR (emits_op10 _ h).toR
  | .empty, nr, h => (emits_clr nr h).toR
  | .varBare, _, _ => .nil
  | .varInit c init, _, h => (emits_emitVarInit cfg c init h).toR
  | .block ss, _, h => emitList_htR cfg ss _ _ h
  | .ifS t a, nr, h => by
    refine .seq (emits_clr nr h).toR ?_
    split
    · exact (emits_emitThrow ..).toR
    · exact emitS_htR cfg a nr h
    · exact (emits_clr nr h).toR
    · refine .seq ((emitG_emits cfg t).t h).toR ?_
      cases nr
      · exact fwd_jnePR (emitS_htR cfg a false h)
      · exact ifElse_jnePR (emitS_htR cfg a true h) (emits_clr true h).toR
  | .ifElse t a b, nr, h => by
    refine .seq (emits_clr nr h).toR ?_
    split
    · exact (emits_emitThrow ..).toR
    · exact emitS_htR cfg a nr h
    · exact emitS_htR cfg b nr h
    · exact .seq ((emitG_emits cfg t).t h).toR (ifElse_jnePR (emitS_htR cfg a nr h) (emitS_htR cfg b nr h))
  | .whileS t body, nr, h => by
    have hb : HasHtR (h + 1) (.seq (clr nr) (emitS cfg body nr)) h h := .seq (emits_clr nr h).toR (emitS_htR cfg body nr h)
    refine .seq (emits_clr nr h).toR ?_
    split
    · exact (emits_emitThrow ..).toR
    · exact .nil
    · exact .forever hb
    · exact loop_jnePR ((emitG_emits cfg t).t h).toR hb
  | .doWhile body t, nr, h =>
    doLoop_jeqPR (.seq (emits_clr nr h).toR (.seq (emitS_htR cfg body nr h)
      (.seq ((emitG_emits cfg t).fold true h).toR .nil)))
  | .forS init test update body, nr, h => by
    have hb : HasHtR (h + 1) (cat [clr nr, emitS cfg body nr, optG cfg update]) h h :=
      .seq (emits_clr nr h).toR (.seq (emitS_htR cfg body nr h) (.seq (emits_optG cfg update h).toR .nil))
    refine .seq (emits_emitForInit cfg init h).toR (.seq (emits_clr nr h).toR (.seq ?_ .nil))
    cases test with
    | none => exact .forever hb
    | some t =>
      show HasHtR _ (match testKind t with
        | .throws m => _
        | .falsy => _
        | .truthy => _
        | .nonConst => _) _ _
      split
      · exact (emits_emitThrow ..).toR
      · exact .nil
      · exact .forever hb
      · exact loop_jnePR ((emitG_emits cfg t).t h).toR hb
  | .ret none, _, h => .seq (emits_push1 ..).toR (retR h h)
  | .ret (some e), _, h => .seq ((emitG_emits cfg e).fold true h).toR (retR h h)
  | .throwS e, _, h => .seq ((emitG_emits cfg e).t h).toR (emits_throw h h).toR
theorem emitList_htR (cfg : Cfg) : (ss : Stmts) → ∀ (lp : Option Nat) (i h : Nat), HasHtR (h + 1) (emitList cfg ss lp i) h h
  | .nil, _, _, _ => .nil
  | .cons s r, lp, i, h => .seq (emitS_htR cfg s _ h) (emitList_htR cfg r lp (i + 1) h)
end

theorem emitS_ht (cfg : Cfg) (s : Stmt) (nr : Bool) (h : Nat) : HasHt (emitS cfg s nr) h h := (emitS_htR cfg s nr h).toHasHt

theorem emitList_ht (cfg : Cfg) : (ss : Stmts) → ∀ (lp : Option Nat) (i h : Nat), HasHt (emitList cfg ss lp i) h h :=
  fun ss lp i h => (emitList_htR cfg ss lp i h).toHasHt

end GojaModel.C01
