import GojaModel.C01.EmitLemmas
/-!
  C01 (a), function-level leaks: inside the modelled fragment every `ret` is executed with exactly one operand — the
  return value — above the height at which the function body was entered.  (`verify` cannot see an operand left behind on a
  loop-free path to a `ret`, because `ret` resets sp.)

  `HasHtR r` is the height judgement `HasHt` with the extra premise, at terminal instructions, that a `ret` sits at height
  `r`.  A fact of `Emits` — what all expression code satisfies (`emitG_emits`, EmitProof.lean) — is about code without a
  `ret`, so it is a fact of `HasHtR r` for every `r` (`HasHtR.of_noRet`, `Emits.toR`); `HasHtR.sound`: the executable walk
  `Code.retsAt`, which follows `Code.height`, confirms the judgement.
-/
namespace GojaModel.C01

inductive HasHtR (r : Nat) : Code → Nat → Nat → Prop
  | nil {h} : HasHtR r .nil h h
  | ins {i : Instr} {h} : i.need ≤ h → i.pops ≤ i.need → i.term = false → HasHtR r (.ins i) h (h - i.pops + i.pushes)
  | term {i : Instr} {h k} : i.need ≤ h → i.pops ≤ i.need → i.term = true → (i.isRet = true → h = r) →
      HasHtR r (.ins i) h k
  | seq {a b h k1 k2} : HasHtR r a h k1 → HasHtR r b k1 k2 → HasHtR r (.seq a b) h k2
  | fwd {j : JKind} {body h} : j.need ≤ h → j.popJump ≤ j.need → j.popFall ≤ j.need →
      HasHtR r body (h - j.popFall) (h - j.popJump) → HasHtR r (.fwd j body) h (h - j.popJump)
  | ifElse {j : JKind} {a b h k} : j.need ≤ h → j.popJump ≤ j.need → j.popFall ≤ j.need →
      HasHtR r a (h - j.popFall) k → HasHtR r b (h - j.popJump) k → HasHtR r (.ifElse j a b) h k
  | loop {j : JKind} {pre body h k1} : HasHtR r pre h k1 → j.need ≤ k1 → j.popJump ≤ j.need → j.popFall ≤ j.need →
      HasHtR r body (k1 - j.popFall) h → HasHtR r (.loop j pre body) h (k1 - j.popJump)
  | forever {body h k} : HasHtR r body h h → HasHtR r (.forever body) h k
  | doLoop {j : JKind} {body h k1} : HasHtR r body h k1 → j.need ≤ k1 → j.popJump ≤ j.need → j.popFall ≤ j.need →
      k1 - j.popJump = h → HasHtR r (.doLoop j body) h (k1 - j.popFall)

theorem HasHtR.toHasHt {r c h k} (hh : HasHtR r c h k) : HasHt c h k := by
  induction hh with
  | nil => exact HasHt.nil
  | ins h1 h2 h3 => exact HasHt.ins h1 h2 h3
  | term h1 h2 h3 _ => exact HasHt.term h1 h2 h3
  | seq _ _ iha ihb => exact HasHt.seq iha ihb
  | fwd h1 h2 h3 _ ih => exact HasHt.fwd h1 h2 h3 ih
  | ifElse h1 h2 h3 _ _ iha ihb => exact HasHt.ifElse h1 h2 h3 iha ihb
  | loop _ h1 h2 h3 _ iha ihb => exact HasHt.loop iha h1 h2 h3 ihb
  | forever _ ih => exact HasHt.forever ih
  | doLoop _ h1 h2 h3 h4 ih => exact HasHt.doLoop ih h1 h2 h3 h4

theorem HasHtR.of_noRet {r c h k} (hh : HasHt c h k) (hn : c.noRet = true) : HasHtR r c h k := by
  induction hh with
  | nil => exact HasHtR.nil
  | ins h1 h2 h3 => exact HasHtR.ins h1 h2 h3
  | @term i h k h1 h2 h3 =>
    refine HasHtR.term h1 h2 h3 ?_
    intro hr
    simp [Code.noRet, hr] at hn
  | seq _ _ iha ihb =>
    simp only [Code.noRet, Bool.and_eq_true] at hn
    exact HasHtR.seq (iha hn.1) (ihb hn.2)
  | fwd h1 h2 h3 _ ih =>
    simp only [Code.noRet] at hn
    exact HasHtR.fwd h1 h2 h3 (ih hn)
  | ifElse h1 h2 h3 _ _ iha ihb =>
    simp only [Code.noRet, Bool.and_eq_true] at hn
    exact HasHtR.ifElse h1 h2 h3 (iha hn.1) (ihb hn.2)
  | loop _ h1 h2 h3 _ iha ihb =>
    simp only [Code.noRet, Bool.and_eq_true] at hn
    exact HasHtR.loop (iha hn.1) h1 h2 h3 (ihb hn.2)
  | forever _ ih =>
    simp only [Code.noRet] at hn
    exact HasHtR.forever (ih hn)
  | doLoop _ h1 h2 h3 h4 ih =>
    simp only [Code.noRet] at hn
    exact HasHtR.doLoop (ih hn) h1 h2 h3 h4

def Code.retsAt (r : Nat) : Code → Ht → Bool
  | .nil, _ => true
  | .ins _, .dead => true
  | .ins i, .live h => !i.isRet || h == r
  | .seq a b, x => a.retsAt r x && (match a.height x with
                                     | some y => b.retsAt r y
                                     | none => true)
  | .fwd _ _, .dead => true
  | .fwd j body, .live h => body.retsAt r (.live (h - j.popFall))
  | .ifElse _ _ _, .dead => true
  | .ifElse j a b, .live h => a.retsAt r (.live (h - j.popFall)) && b.retsAt r (.live (h - j.popJump))
  | .loop _ _ _, .dead => true
  | .loop j pre body, .live h =>
      pre.retsAt r (.live h) && (match pre.height (.live h) with
                                 | some (.live k1) => body.retsAt r (.live (k1 - j.popFall))
                                 | _ => true)
  | .forever _, .dead => true
  | .forever body, .live h => body.retsAt r (.live h)
  | .doLoop _ _, .dead => true
  | .doLoop _ body, .live h => body.retsAt r (.live h)

theorem retsAt_dead (r : Nat) (c : Code) : c.retsAt r .dead = true := by
  induction c with
  | nil => rfl
  | ins i => rfl
  | seq a b iha ihb => simp [Code.retsAt, iha, height_dead, ihb]
  | fwd j body _ => rfl
  | ifElse j a b _ _ => rfl
  | loop j pre body _ _ => rfl
  | forever body _ => rfl
  | doLoop j body _ => rfl

theorem HasHtR.sound {r c h k} (hh : HasHtR r c h k) : c.retsAt r (.live h) = true := by
  induction hh with
  | nil => rfl
  | @ins i h h1 h2 h3 => simp [Code.retsAt, Instr.isRet, h3]
  | @term i h k h1 h2 h3 h4 =>
    simp only [Code.retsAt]
    cases hr : i.isRet
    · simp
    · simp [h4 hr]
  | @seq a b h k1 k2 ha _ iha ihb =>
    simp only [Code.retsAt, iha, Bool.true_and]
    rcases ha.toHasHt.sound with hd | hl
    · simp [hd, retsAt_dead]
    · simp [hl, ihb]
  | fwd h1 h2 h3 _ ih => simpa [Code.retsAt] using ih
  | ifElse h1 h2 h3 _ _ iha ihb => simp [Code.retsAt, iha, ihb]
  | @loop j pre body h k1 hp h1 h2 h3 _ iha ihb =>
    simp only [Code.retsAt, iha, Bool.true_and]
    rcases hp.toHasHt.sound with hd | hl
    · simp [hd]
    · simp [hl, ihb]
  | forever _ ih => simpa [Code.retsAt] using ih
  | doLoop _ h1 h2 h3 h4 ih => simpa [Code.retsAt] using ih

theorem Emits.toR {r : Nat} {c : Code} {h k : Nat} (e : Emits c h k) : HasHtR r c h k := .of_noRet e.ht e.noRet

end GojaModel.C01
