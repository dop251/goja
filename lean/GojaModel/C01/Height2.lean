import GojaModel.C01.Stmt2
import GojaModel.C01.Height
/-!
  C01 (a″): the height judgement `H2` for the structured code `C2`, and its executable reading `C2.height2`.
-/
namespace GojaModel.C01

/-- `H2 B C c h k`: as `HasHt`, and every `break` / `continue` in `c` (not enclosed by a loop of `c`) is executed with exactly
`B` / `C` operands — the height its jump target expects. -/
inductive H2 : Option Nat → Option Nat → C2 → Nat → Nat → Prop
  | old {B C c h k} : HasHt c h k → H2 B C (.old c) h k
  | nil {B C h} : H2 B C .nil h h
  | seq {B C a b h k1 k2} : H2 B C a h k1 → H2 B C b k1 k2 → H2 B C (.seq a b) h k2
  | fwd {B C} {j : JKind} {body h} : j.need ≤ h → j.popJump ≤ j.need → j.popFall ≤ j.need →
      H2 B C body (h - j.popFall) (h - j.popJump) → H2 B C (.fwd j body) h (h - j.popJump)
  | ifElse {B C} {j : JKind} {a b h k} : j.need ≤ h → j.popJump ≤ j.need → j.popFall ≤ j.need →
      H2 B C a (h - j.popFall) k → H2 B C b (h - j.popJump) k → H2 B C (.ifElse j a b) h k
  | loop {B C} {j : JKind} {cs pre body upd h k1} : HasHt pre h k1 → j.need ≤ k1 → j.popJump ≤ j.need → j.popFall ≤ j.need →
      H2 (some (k1 - j.popJump)) (some h) body (k1 - j.popFall) h → HasHt upd h h →
      H2 B C (.loop j cs pre body upd) h (k1 - j.popJump)
  | forever {B C cs body upd h} : H2 (some h) (some h) body h h → HasHt upd h h → H2 B C (.forever cs body upd) h h
  /-- both edges of the test leave it with `h`: the jump back to the loop head, and the exit, where a `break` of the body
  arrives with the `h` that `B` promises it -/
  | doLoop {B C} {j : JKind} {body test h k1} : H2 (some h) (some h) body h h → HasHt test h k1 →
      j.need ≤ k1 → j.popJump ≤ j.need → j.popFall ≤ j.need → k1 - j.popJump = h → k1 - j.popFall = h →
      H2 B C (.doLoop j body test) h h
  /-- the catch clause is entered by the handler with the exception value on the saved height (`unwind_height`); without a
  parameter it pops it first, with a parameter the value IS the parameter's slot (`enterBlock` allocates nothing more,
  compiler_stmt.go:178) until `leaveBlock` pops it -/
  | tryC {B C clr body hc pm ctc hf fin h} : H2 B C body h h →
      H2 B C ctc (h + if pm then 1 else 0) (h + if pm then 1 else 0) → H2 B C fin h h →
      H2 B C (.tryC clr body hc pm ctc hf fin) h h
  | brk {C h k} : H2 (some h) C .brk h k
  | cont {B h k} : H2 B (some h) .cont h k

/-- the branch-target context of a statement compiled inside / outside a loop entered with `h` operands -/
def ctx (lc : Option Bool) (h : Nat) : Option Nat := lc.map (fun _ => h)

/-- `Post r k` as a Boolean -/
def okAt (r : Option Ht) (k : Nat) : Bool := r == some .dead || r == some (.live k)

def C2.height2 (B C : Option Nat) : C2 → Ht → Option Ht
  | .old c, x => c.height x
  | .nil, x => some x
  | .seq a b, x => (a.height2 B C x).bind (b.height2 B C)
  | .fwd _ _, .dead => some .dead
  | .fwd j body, .live h =>
      if j.need ≤ h ∧ j.popJump ≤ j.need ∧ j.popFall ≤ j.need then
        (body.height2 B C (.live (h - j.popFall))).bind (fun hb => hb.join (.live (h - j.popJump)))
      else none
  | .ifElse _ _ _, .dead => some .dead
  | .ifElse j a b, .live h =>
      if j.need ≤ h ∧ j.popJump ≤ j.need ∧ j.popFall ≤ j.need then
        (a.height2 B C (.live (h - j.popFall))).bind (fun ha =>
          (b.height2 B C (.live (h - j.popJump))).bind (fun hb => ha.join hb))
      else none
  | .loop _ _ _ _ _, .dead => some .dead
  | .loop j _ pre body upd, .live h =>
      match pre.height (.live h) with
      | some (.live k1) =>
        if j.need ≤ k1 ∧ j.popJump ≤ j.need ∧ j.popFall ≤ j.need ∧
            okAt (body.height2 (some (k1 - j.popJump)) (some h) (.live (k1 - j.popFall))) h ∧ okAt (upd.height (.live h)) h then
          some (.live (k1 - j.popJump))
        else none
      | some .dead => some .dead
      | none => none
  | .forever _ _ _, .dead => some .dead
  | .forever _ body upd, .live h =>
      if okAt (body.height2 (some h) (some h) (.live h)) h ∧ okAt (upd.height (.live h)) h then some (.live h) else none
  | .doLoop _ _ _, .dead => some .dead
  | .doLoop j body test, .live h =>
      -- the continue target (the test) must be entered with the height the body ends with: the entry height here
      if okAt (body.height2 (some h) (some h) (.live h)) h then
        match test.height (.live h) with
        | some (.live k1) =>
          if j.need ≤ k1 ∧ j.popJump ≤ j.need ∧ j.popFall ≤ j.need ∧ k1 - j.popJump = h ∧ k1 - j.popFall = h then some (.live h)
          else none
        | some .dead => some (.live h)
        | none => none
      else none
  | .brk, .dead => some .dead
  | .brk, .live h => if B = some h then some .dead else none
  | .cont, .dead => some .dead
  | .cont, .live h => if C = some h then some .dead else none
  | .tryC _ _ _ _ _ _ _, .dead => some .dead
  | .tryC _ body _ pm ctc _ fin, .live h =>
      if okAt (body.height2 B C (.live h)) h ∧ okAt (ctc.height2 B C (.live (h + if pm then 1 else 0))) (h + if pm then 1 else 0) ∧
          okAt (fin.height2 B C (.live h)) h then some (.live h)
      else none

theorem okAt_post {r : Option Ht} {k : Nat} (h : Post r k) : okAt r k = true := by
  rcases h with h | h <;> simp [okAt, h]

theorem height2_dead (B C : Option Nat) (c : C2) : c.height2 B C .dead = some .dead := by
  induction c with
  | old c => exact height_dead c
  | nil => rfl
  | seq a b iha ihb => simp [C2.height2, iha, ihb]
  | fwd j body _ => rfl
  | ifElse j a b _ _ => rfl
  | loop j cs pre body upd _ => rfl
  | forever cs body upd _ => rfl
  | doLoop j body test _ => rfl
  | brk => rfl
  | cont => rfl
  | tryC clr body hc pm ctc hf fin _ _ _ => rfl

/-- The judgement is sound for the executable walk: `dead` (control cannot leave the code normally) or `live k`; never `none`
(an operand missing, a join / back edge / break / continue arriving with the wrong height). -/
theorem H2.sound {B C c h k} (hh : H2 B C c h k) : Post (c.height2 B C (.live h)) k := by
  induction hh with
  | old hc => exact hc.sound
  | nil => exact Or.inr rfl
  | seq _ _ iha ihb => exact iha.bind (height2_dead ..) ihb
  | @fwd B C j body h h1 h2 h3 _ ih =>
    simp only [C2.height2, h1, h2, h3, and_self, if_true]
    exact ih.join (.inr rfl)
  | @ifElse B C j a b h k h1 h2 h3 _ _ iha ihb =>
    simp only [C2.height2, h1, h2, h3, and_self, if_true]
    exact iha.join ihb
  | @loop B C j cs pre body upd h k1 hp h1 h2 h3 _ hu ihb =>
    rcases hp.sound with hd | hl
    · left; simp [C2.height2, hd]
    · right; simp [C2.height2, hl, h1, h2, h3, okAt_post ihb, okAt_post hu.sound]
  | @forever B C cs body upd h _ hu ih =>
    right; simp [C2.height2, okAt_post ih, okAt_post hu.sound]
  | @doLoop B C j body test h k1 _ ht h1 h2 h3 h4 h5 ih =>
    right
    rcases ht.sound with hd | hl
    · simp [C2.height2, okAt_post ih, hd]
    · simp [C2.height2, okAt_post ih, hl, h1, h2, h3, h4, h5]
  | brk => left; simp [C2.height2]
  | cont => left; simp [C2.height2]
  | tryC _ _ _ ihb ihc ihf => right; simp [C2.height2, okAt_post ihb, okAt_post ihc, okAt_post ihf]

end GojaModel.C01
