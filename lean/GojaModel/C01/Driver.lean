import GojaModel.Base.Proto
import GojaModel.C01.Model
import GojaModel.Generated.C01_StackEffects
import GojaModel.Generated.C01_PanicKinds
/-!
  C01 model driver (line protocol, IO glue — not part of the model):
    verify <mode 0|1|2> <instr>;<instr>;...     → "ok states=<n>" | "reject pc=<pc> h=<h> <instr> : <why>" | "error <msg>"
                                                  (0 = function unit, 1 = program / eval unit, 2 = class field initialiser; endOk = mode ≠ 0)
    emit <strict> <p> <expr tokens…>            → "<name>:<n> … | <height result>"   
    emits <strict> <nr> <stmt tokens…>          → the same for a statement (`cmdEmitS`)
    obs <instr> <dpc> <dsp>                     → "ok" | "mismatch edges=<…>" | "error <msg>"
    classify <kind>                             → run=<outcome> compile=<outcome>
    facts                                       → regenerated facts summary
-/
namespace GojaModel.C01.Driver
open GojaModel.C01 GojaModel.Proto

def parseInt? (s : String) : Option Int :=
  match s.toList with
  | '-' :: cs => (String.ofList cs).toNat?.map (fun n => -(n : Int))
  | _ => s.toNat?.map (fun n => (n : Int))

/-- i-th character is '1' -/
def bit (s : String) (i : Nat) : Bool := s.toList.getD i '0' == '1' 

/-- "name|k=v|k=v" → (name, numeric operands) -/
def parseInstr (s : String) : String × List (String × Int) :=
  match s.splitOn "|" with
  | [] => ("", [])
  | name :: rest =>
    (name, rest.filterMap (fun kv =>
      match kv.splitOn "=" with
      | [k, v] => (parseInt? v).map (fun i => (k, i))
      | _ => none))

def resolveAll (instrs : List String) (base : Nat := 0) : Except String (List Node) :=
  instrs.mapM (fun s => let (n, ops) := parseInstr s; (resolve Gen.table n ops).map (withSlotNeed base n ops))

def showState (a : AState) : String :=
  s!"h={a.1} markers={a.2.1.length} frames={a.2.2.length}"

def whyUnsafe (code : List Node) (endOk : Bool) (R : Array (List AState)) (pc : Nat) (a : AState) : String :=
  let s : St := ⟨pc, a.1, a.2.1, a.2.2⟩
  if !safe code endOk s then
    match code[pc]? with
    | none => s!"control leaves the code at pc={pc} with {showState a} (endOk={endOk})"
    | some n => s!"unsafe: need={n.need} {showState a} kind={repr n.kind} edges={n.edges}"
  else
    match (succs code s).find? (fun s' => !memR R s') with
    | some s' => s!"successor pc={s'.pc} h={s'.h} frames={s'.fs.length} not in the explored set (state explosion or exploration cut off)"
    | none => "?"

def cmdVerify (mode : String) (unit : String) : String :=
  let endOk := mode != "0"
  let isFrame := mode != "1"
  let instrs := (unit.splitOn ";").filter (· ≠ "")
  match resolveAll instrs (if isFrame then 1 else 0) with
  | .error e => "error " ++ e
  | .ok code0 =>
    -- a function unit starts with the frame's `this` slot directly below the operands (stack[sb]); the preamble may
    -- read it with initStash/boxThis: modelled by one leading pseudo-instruction that pushes it (offsets are relative)
    -- mode 2 (class field initialiser programs) runs to the end of the code with that slot still in place
    let code1 := if isFrame then (⟨0, [(1, 1)], .plain⟩ : Node) :: code0 else code0
    let code := if mode == "2" then code1 ++ [(⟨1, [(1, -1)], .plain⟩ : Node)] else code1
    let instrs := if isFrame then "<frame-this>" :: instrs else instrs
    let R := explore code
    if verifyWith code endOk R then
      s!"ok states={R.foldl (fun acc l => acc + l.length) 0}"
    else if !memR R St.init then "reject pc=0 : entry state not explored"
    else
      match firstUnsafe code endOk R with
      | some (pc, a) => s!"reject pc={pc} {instrs.getD pc "<end>"} : {whyUnsafe code endOk R pc a}"
      | none => "reject : ?"

/-! expression token parser -/

def idClass? : String → Option IdClass
  | "sv" => some .stackVar | "lv" => some .lexVar | "cs" => some (.const true) | "cn" => some (.const false)
  | "gl" => some .global | "dy" => some .dynBound | _ => none

def unOp? : String → Option UnOp
  | "not" => some .not | "bnot" => some .bnot | "neg" => some .neg | "plus" => some .plus
  | "typeof" => some .typeof | "void" => some .void | _ => none

def binOp? : String → Option BinOp
  | "add" => some .add | "sub" => some .sub | "mul" => some .mul | "lt" => some .lt | "gt" => some .gt
  | "le" => some .le | "ge" => some .ge | "eq" => some .eq | "ne" => some .ne | "seq" => some .seq | "sne" => some .sne
  | "band" => some .band | "bor" => some .bor | "bxor" => some .bxor | "shl" => some .shl | "sar" => some .sar
  | "shr" => some .shr | "div" => some .div | "mod" => some .mod | "exp" => some .exp
  | "instanceof" => some .instanceof | "in" => some .in_ | _ => none

def logOp? : String → Option LogOp
  | "and" => some .and | "or" => some .or | "coalesce" => some .coalesce | _ => none

def b01 (s : String) : Bool := s == "1"

abbrev P := StateT (List String) (Except String)

def next : P String := do
  match (← get) with
  | [] => throw "unexpected end of expression"
  | t :: ts => set ts; pure t

def need {α} (o : Option α) (what : String) : P α :=
  match o with
  | some a => pure a
  | none => throw ("bad " ++ what)

mutual
partial def pExpr : P Expr := do
  let t ← next
  let f := t.splitOn ":"
  let a (i : Nat) : String := f.getD i ""
  match a 0 with
  | "lit" =>
    (match a 1 with
     | "n" => do pure (.lit (.num (← need (parseInt? (a 2)) "int")))
     | "s" => pure (.lit (.str (a 2)))
     | "b" => pure (.lit (.bool (b01 (a 2))))
     | "null" => pure (.lit .null)
     | "big" => do pure (.lit (.big (← need (parseInt? (a 2)) "int")))
     | _ => throw "bad lit")
  | "id" => do pure (.ident (← need (idClass? (a 1)) "class") (a 2))
  | "this" => pure .this
  | "un" => do let op ← need (unOp? (a 1)) "unop"; pure (.unary op (← pExpr))
  | "tyid" => do pure (.typeofId (← need (idClass? (a 1)) "class") (a 2))
  | "delid" => do pure (.deleteId (← need (idClass? (a 1)) "class") (a 2))
  | "deldot" => do pure (.deleteDot (← pExpr) (a 1))
  | "delidx" => do let l ← pExpr; pure (.deleteIndex l (← pExpr))
  | "delcall" => do pure (.deleteCall (← pExpr))
  | "delother" => do pure (.deleteOther (← pExpr))
  | "updid" => do pure (.updateId (bit (a 1) 0) (bit (a 1) 1) (← need (idClass? (a 2)) "class") (a 3))
  | "upddot" => do pure (.updateDot (bit (a 1) 0) (bit (a 1) 1) (← pExpr) (a 2))
  | "updidx" => do let l ← pExpr; pure (.updateIndex (bit (a 1) 0) (bit (a 1) 1) l (← pExpr))
  | "bin" => do let op ← need (binOp? (a 1)) "binop"; let l ← pExpr; pure (.binary op l (← pExpr))
  | "log" => do let op ← need (logOp? (a 1)) "logop"; let l ← pExpr; pure (.logical op l (← pExpr))
  | "cond" => do let c ← pExpr; let x ← pExpr; pure (.cond c x (← pExpr))
  | "comma" => do let x ← pExpr; pure (.comma x (← pExpr))
  | "asid" => do pure (.assignId (← need (idClass? (a 1)) "class") (a 2) (← pExpr))
  | "asdot" => do let l ← pExpr; pure (.assignDot l (a 1) (← pExpr))
  | "asidx" => do let l ← pExpr; let m ← pExpr; pure (.assignIndex l m (← pExpr))
  | "aoid" => do let op ← need (binOp? (a 1)) "binop"; pure (.assignOpId op (← need (idClass? (a 2)) "class") (a 3) (← pExpr))
  | "aodot" => do let op ← need (binOp? (a 1)) "binop"; let l ← pExpr; pure (.assignOpDot op l (a 2) (← pExpr))
  | "aoidx" => do let op ← need (binOp? (a 1)) "binop"; let l ← pExpr; let m ← pExpr; pure (.assignOpIndex op l m (← pExpr))
  | "alid" => do let op ← need (logOp? (a 1)) "logop"; pure (.assignLogId op (← need (idClass? (a 2)) "class") (a 3) (← pExpr))
  | "aldot" => do let op ← need (logOp? (a 1)) "logop"; let l ← pExpr; pure (.assignLogDot op l (a 2) (← pExpr))
  | "alidx" => do let op ← need (logOp? (a 1)) "logop"; let l ← pExpr; let m ← pExpr; pure (.assignLogIndex op l m (← pExpr))
  | "dot" => do pure (.dot (← pExpr) (a 1))
  | "idx" => do let l ← pExpr; pure (.index l (← pExpr))
  | "calldot" => do let l ← pExpr; pure (.callDot l (a 1) (← pArgs ((a 2).toNat?.getD 0)))
  | "callidx" => do let l ← pExpr; let m ← pExpr; pure (.callIndex l m (← pArgs ((a 1).toNat?.getD 0)))
  | "callid" => do pure (.callId (← need (idClass? (a 1)) "class") (a 2) (← pArgs ((a 3).toNat?.getD 0)))
  | "callother" => do let g ← pExpr; pure (.callOther g (← pArgs ((a 1).toNat?.getD 0)))
  | "new" => do let g ← pExpr; pure (.new g (← pArgs ((a 1).toNat?.getD 0)))
  | "arr" => do pure (.array (← pElems ((a 1).toNat?.getD 0)))
  | "obj" => do pure (.object (← pProps ((a 1).toNat?.getD 0)))
  | "tpl" => do
      let first ← pExpr
      let rest ← pQuasis ((a 2).toNat?.getD 0)
      pure (.template (bit (a 1) 0) first rest (bit (a 1) 1))
  | other => throw ("unknown token " ++ other)
partial def pArgs : Nat → P Args
  | 0 => pure .nil
  | n + 1 => do let e ← pExpr; pure (.cons e (← pArgs n))
partial def pElems : Nat → P Elems
  | 0 => pure .nil
  | n + 1 => do
    match (← get) with
    | "hole" :: ts => set ts; pure (.hole (← pElems n))
    | _ => let e ← pExpr; pure (.cons e (← pElems n))
partial def pProps : Nat → P Props
  | 0 => pure .nil
  | n + 1 => do
    let t ← next
    let f := t.splitOn ":"
    match f.getD 0 "" with
    | "k" => do let v ← pExpr; pure (.keyed (f.getD 1 "") v (← pProps n))
    | "c" => do let k ← pExpr; let v ← pExpr; pure (.computed k v (← pProps n))
    | _ => throw "bad prop"
partial def pQuasis : Nat → P Quasis
  | 0 => pure .nil
  | n + 1 => do
    let t ← next
    let f := t.splitOn ":"
    let e ← pExpr
    pure (.cons (b01 (f.getD 1 "")) e (← pQuasis n))
end

def showHt : Option Ht → String
  | none => "ILL-FORMED"
  | some .dead => "dead"
  | some (.live h) => s!"live{h}"

def cmdEmit (strict p : Bool) (toks : List String) : String :=
  match (pExpr.run toks) with
  | .error e => "error " ++ e
  | .ok (e, rest) =>
    if !rest.isEmpty then "error trailing tokens" else
    let cfg : Cfg := ⟨strict⟩
    let c := emitE cfg e p
    let flat := c.flat
    let nodes := flat.map (fun x => x.2.2)
    -- the flat code followed by the statement epilogue must also pass the proven verifier
    let tail : List Node := if p then [⟨1, [(1, -1)], .plain⟩] else []
    let v := verify (nodes ++ tail) true
    " ".intercalate (flat.map (fun x => s!"{x.1}:{x.2.1}")) ++ s!" | {showHt (c.height (.live 0))} verify={v}"

/-! statement token parser (prefix form, see run/c01.py SGen) -/

partial def pOpt (present : Bool) : P (Option Expr) := do
  if present then
    let e ← pExpr
    pure (some e)
  else pure none

mutual
partial def pStmt : P Stmt := do
  let t ← next
  let f := t.splitOn ":"
  let a (i : Nat) : String := f.getD i ""
  if a 0 != "s" then throw ("statement token expected, got " ++ t) else
  match a 1 with
  | "expr" => do pure (.expr (← pExpr))
  | "empty" => pure .empty
  | "var0" => pure .varBare
  | "var" => do let c ← need (idClass? (a 2)) "class"; pure (.varInit c (← pExpr))
  | "block" => do pure (.block (← pStmts ((a 2).toNat?.getD 0)))
  | "if" => do let c ← pExpr; pure (.ifS c (← pStmt))
  | "ifelse" => do let c ← pExpr; let x ← pStmt; pure (.ifElse c x (← pStmt))
  | "while" => do let c ← pExpr; pure (.whileS c (← pStmt))
  | "do" => do let b ← pStmt; pure (.doWhile b (← pExpr))
  | "for" => do
      -- head: 0 = none, 1 = expression, v = `var x`, V:<class> = `var x = e`
      let i : ForInit ← (match (a 2).toList.getD 0 '0' with
        | '1' => do pure (ForInit.expr (← pExpr))
        | 'v' => pure ForInit.var0
        | 'V' => do let c ← need (idClass? (a 3)) "class"; pure (ForInit.varInit c (← pExpr))
        | _ => pure ForInit.none)
      let c ← pOpt (bit (a 2) 1)
      let u ← pOpt (bit (a 2) 2)
      pure (.forS i c u (← pStmt))
  | "ret0" => pure (.ret none)
  | "ret" => do pure (.ret (some (← pExpr)))
  | "throw" => do pure (.throwS (← pExpr))
  | other => throw ("unknown statement token " ++ other)
partial def pStmts : Nat → P Stmts
  | 0 => pure .nil
  | n + 1 => do let s ← pStmt; pure (.cons s (← pStmts n))
end

/-- `emits <strict> <nr> <stmt tokens>`: the statement is compiled as the middle one of the list
`"@@1".m; S; <end marker>` exactly as the correspondence programs are laid out — with nr = 1 (program body,
`needResult`) the end marker is `var zz = "@@2"` (empty result, so that S is the last value-producing statement), with
nr = 0 (function body) it is `"@@2".m;`.  The three marker instructions at either end are stripped. -/
def cmdEmitS (strict nr : Bool) (toks : List String) : String :=
  match (pStmt.run toks) with
  | .error e => "error " ++ e
  | .ok (s, rest) =>
    if !rest.isEmpty then "error trailing tokens" else
    let cfg : Cfg := ⟨strict⟩
    let m1 : Stmt := .expr (.dot (.lit (.str "@@1")) "m")
    let m2 : Stmt := if nr then .varInit .global (.lit (.str "@@2")) else .expr (.dot (.lit (.str "@@2")) "m")
    let c := emitBody cfg (.cons m1 (.cons s (.cons m2 .nil))) nr
    let flat := c.flat
    let mid := (flat.drop 3).take (flat.length - 6)
    -- the whole body must also pass the proven verifier (names resolved through the regenerated table)
    let nodes := flat.mapM (fun x => resolve Gen.table x.1 [("n", x.2.1)])
    let v := match nodes with
      | .ok ns => toString (verify ns true)
      | .error e => "unresolved:" ++ e
    " ".intercalate (mid.map (fun x => s!"{x.1}:{x.2.1}")) ++ s!" | {showHt (c.height (.live 0))} verify={v}"

def cmdObs (instr : String) (dpc dsp : Int) : String :=
  let (n, ops) := parseInstr instr
  match resolve Gen.table n ops with
  | .error e => "error " ++ e
  | .ok nd =>
    match nd.kind with
    | .plain => if nd.edges.contains (dpc, dsp) then "ok" else s!"mismatch edges={nd.edges}"
    | .tryI _ _ | .enterFinally => if dpc == 1 && dsp == 0 then "ok" else "mismatch kind=try/enterFinally"
    | .startVar => if dpc == 1 && dsp == 1 then "ok" else "mismatch kind=startVar"
    | .endVar => if dpc == 1 && dsp == -1 then "ok" else "mismatch kind=endVar"
    | _ => "skip"

def payload? : String → Option Payload
  | "Object" => some .object | "Value" => some .value | "Exception" => some .exception
  | "typeError" => some .typeError | "referenceError" => some .referenceError | "rangeError" => some .rangeError
  | "syntaxError" => some .syntaxError | "InterruptedError" => some .interruptedError
  | "StackOverflowError" => some .stackOverflowError | "wrappedUncatchable" => some .wrappedUncatchable
  | "CompilerSyntaxError" => some .compilerSyntaxError
  | "CompilerReferenceError" | "goError" | "runtimeError" | "string" | "nilValue" => some (.other "x")
  | _ => none

def showOutcome : Outcome → String
  | .exception => "exception" | .uncatchable => "uncatchable" | .compileError => "compile-error" | .repanic => "repanic"

def step (line : String) : String :=
  match words line with
  | "verify" :: e :: rest => cmdVerify e (" ".intercalate rest)
  | "emit" :: s :: p :: toks => cmdEmit (b01 s) (b01 p) toks
  | "emits" :: s :: nr :: toks => cmdEmitS (b01 s) (b01 nr) toks
  | ["obs", i, dpc, dsp] =>
    (match parseInt? dpc, parseInt? dsp with
     | some a, some b => cmdObs i a b
     | _, _ => "error bad obs")
  | ["classify", k] =>
    (match payload? k with
     | some p => s!"run={showOutcome (classifyRun p)} compile={showOutcome (classifyCompile p)}"
     | none => "error unknown kind")
  | ["facts"] => s!"numExec={Gen.numExec} numDyn={Gen.numDyn} setPPopsSloppyConst={Gen.setPPopsSloppyConst}"
  | _ => "error bad command"

/-- like Proto.lineLoop but flushing after every answer (the orchestrator talks to the driver interactively) -/
partial def interactive : IO Unit := do
  let stdin ← IO.getStdin
  let stdout ← IO.getStdout
  let rec loop : IO Unit := do
    let line ← stdin.getLine
    if line.isEmpty then
      stdout.flush
      return ()
    let l := String.ofList (dropEol line.toList.reverse).reverse
    stdout.putStrLn (step l)
    stdout.flush
    loop
  loop

def main : IO Unit := interactive

end GojaModel.C01.Driver
