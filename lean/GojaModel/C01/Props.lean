import GojaModel.C01.Stmt2Proof
import GojaModel.C01.Flat
import GojaModel.C01.Scope
import GojaModel.C01.Verifier
/-!
  C01 property theorems.  Every `theorem` here is one audited proof obligation; the `example`s at the end are tests on
  literals.

  (a) putOnStack discipline of the expression emitter, for ALL expressions of the modelled AST, all entry heights,
      both values of putOnStack, on the structured code and on the flat jump-offset code run by the machine of (b);
      height-neutrality of statements, also with `break` / `continue` / `try`; function-level leaks (`ret_height_*`).
  (b) `verify_sound` and its corollaries: what the proven verifier's acceptance means for every run of the abstract
      stack-height machine (nondeterministic branches, a throw possible at every instruction); stash levels.
  (c) the panic payload classifier is total on the documented payload kinds and re-panics everything else.
-/
namespace GojaModel.C01

/-- Full strength, about the compiler as it is (after fix 5a4962f; `Tie.emitSetP_pops` pins the regenerated shape of
`binding.emitSetP`): for every expression, every compiler configuration, every entry height `h`, and both values of
putOnStack, the emitted code never needs an operand below the entry height, all merging control paths agree, and if
control reaches the end it does so with exactly `h + 1` (putOnStack) resp. `h` operands. -/
theorem emit_height (cfg : Cfg) (e : Expr) (p : Bool) (h : Nat) :
    HasHt (emitG cfg e p) h (h + if p then 1 else 0) := by
  cases p
  · exact ((emitG_emits cfg e).f h).ht
  · exact ((emitG_emits cfg e).t h).ht

/-- The same through the constant-folding entry point `emitExpr` (compiler_expr.go:3332). -/
theorem emitExpr_height (cfg : Cfg) (e : Expr) (p : Bool) (h : Nat) :
    HasHt (emitE cfg e p) h (h + if p then 1 else 0) := by
  cases p
  · exact ((emitG_emits cfg e).fold false h).ht
  · exact ((emitG_emits cfg e).fold true h).ht

/-- The executable height function agrees: it returns `dead` (the code throws on every path) or `live (h+δ)`;
never `none` (underflow / disagreeing paths). -/
theorem emit_height_exec (cfg : Cfg) (e : Expr) (p : Bool) (h : Nat) :
    (emitG cfg e p).height (.live h) = some .dead ∨
    (emitG cfg e p).height (.live h) = some (.live (h + if p then 1 else 0)) :=
  (emit_height cfg e p h).sound

/-- The discipline holds for the FLAT instruction sequence the compiler lays out (relative jump offsets, `Code.flat`),
executed by the abstract machine of part (b): wherever the code of an expression sits inside a program
(`Placed code lo …`), every run by normal steps that enters it at `lo` with `h` operands stays inside the fragment,
leaves the try frames and variadic markers untouched, finds the operands of every instruction it executes above the
entry height, and leaves the fragment only at its end, with exactly `h + 1` (putOnStack) resp. `h` operands.
(Throws leave the fragment for a handler whose entry height is fixed by its try frame: `unwind_height`.) -/
theorem emit_flat_sound (cfg : Cfg) (e : Expr) (p : Bool) (h : Nat)
    (code : List Node) (lo : Nat) (vs : List Nat) (fs : List Frame)
    (hp : Placed code lo (emitG cfg e p).nodes) (t : St)
    (hr : RunIn code lo (lo + (emitG cfg e p).len) ⟨lo, h, vs, fs⟩ t) :
    Within code lo (emitG cfg e p).len h (h + if p then 1 else 0) vs fs t :=
  flat_sound (emit_height cfg e p h) hp hr

/-- Bridging theorem in general: the structured height judgement is sound for the flat layout of ANY structured
code (so `Code.height`/`HasHt` mean what they claim about jump-offset code). -/
theorem hasHt_flat_sound (c : Code) (h k : Nat) (hh : HasHt c h k)
    (code : List Node) (lo : Nat) (vs : List Nat) (fs : List Frame) (hp : Placed code lo c.nodes) (t : St)
    (hr : RunIn code lo (lo + c.len) ⟨lo, h, vs, fs⟩ t) : Within code lo c.len h k vs fs t :=
  flat_sound hh hp hr

/-- Every statement of the modelled fragment (expression / empty / `var` statements, blocks, `if`, `while`, `do-while`,
`for`, `return`, `throw`; compiler_stmt.go) is height-neutral, whatever `needResult` is and whatever the entry height:
no instruction needs an operand below the entry height, the arms of every `if` and the back edge and exit of every loop
agree, and if control leaves the statement it does so with exactly the entry height.  So no statement leaks an operand
into the rest of its function (the leak `verify` cannot see, because `ret` resets sp) and no loop grows the stack. -/
theorem emitStmt_height (cfg : Cfg) (s : Stmt) (nr : Bool) (h : Nat) : HasHt (emitS cfg s nr) h h :=
  emitS_ht cfg s nr h

/-- The same for a whole statement list compiled as a program body (`needResult`) or a function body. -/
theorem emitBody_height (cfg : Cfg) (ss : Stmts) (nr : Bool) (h : Nat) : HasHt (emitBody cfg ss nr) h h :=
  emitStmt_height cfg (.block ss) nr h

/-- The executable height function agrees (never `none`). -/
theorem emitStmt_height_exec (cfg : Cfg) (s : Stmt) (nr : Bool) (h : Nat) :
    (emitS cfg s nr).height (.live h) = some .dead ∨ (emitS cfg s nr).height (.live h) = some (.live h) :=
  (emitStmt_height cfg s nr h).sound

/-- … and so does the abstract machine on the flat layout with its forward AND backward jump offsets: every run by
normal steps that enters the code of a statement at `lo` with `h` operands — through any number of loop iterations —
stays inside the statement, leaves try frames and variadic markers untouched, finds the operands of every instruction
it executes, and leaves the statement only at its end, with exactly `h` operands. -/
theorem emitStmt_flat_sound (cfg : Cfg) (s : Stmt) (nr : Bool) (h : Nat)
    (code : List Node) (lo : Nat) (vs : List Nat) (fs : List Frame)
    (hp : Placed code lo (emitS cfg s nr).nodes) (t : St)
    (hr : RunIn code lo (lo + (emitS cfg s nr).len) ⟨lo, h, vs, fs⟩ t) :
    Within code lo (emitS cfg s nr).len h h vs fs t :=
  flat_sound (emitStmt_height cfg s nr h) hp hr

/-- The statement fragment extended with unlabelled `break` / `continue` and `try` / `catch` /
`finally`, `catch (e)` with an identifier parameter kept on the stack (model `S2` / `emit2`, Stmt2.lean: the jump placeholders patched by `leaveBlock`, the continue targets of the
three loop forms, the block exit code — one `leaveTry` per try block a branch leaves, `saveResult; leaveTry; loadResult`
per try block a `return` leaves —, the layout of compileTryStatement with both handler offsets, and the result
bookkeeping of statement lists around branch statements: leadingBranch, containsBranch, dummy mode, a finally block that
ends in a branch): every statement, compiled inside (`lc = some _`) or outside a loop, under any number of try blocks, for
both values of `needResult`, is height-neutral — the try block, the catch clause (entered by the handler with the
exception value on the saved height, `unwind_height`, and popping it) and the finally block each are — and every
`break` / `continue` reaches its jump target with exactly the height that target expects, the entry height `hl` of the
innermost loop (`ctx lc hl`; outside a loop compilation stops) — the statement itself sitting `slots ex` operands higher,
one per catch parameter whose scope it is in, which the block exit code (`exitCode ex`: `leaveTry` / `leaveBlock` copies,
innermost first) pops on the way.  So a loop left or restarted from any depth of `if` /
block / try nesting never carries operands out of or around the loop. -/
theorem emitStmt2_height (cfg : Cfg) (s : S2) (lc : Option Bool) (td : Nat) (ex : List Bool) (nr : Bool) (hl : Nat) :
    H2 (ctx lc hl) (ctx lc hl) (emit2 cfg lc td ex s nr) (hl + slots ex) (hl + slots ex) :=
  emit2_ht cfg s lc td ex nr hl _ rfl

/-- a whole function / program body: no branch target outside (`none`), exit height = entry height -/
theorem emitBody2_height (cfg : Cfg) (ss : SS2) (nr : Bool) (h : Nat) : H2 none none (emitBody2 cfg ss nr) h h :=
  emitStmt2_height cfg (.block ss) none 0 [] nr h

/-- The executable reading: walking the structured code of any `S2` statement with the executable height function and
checking every `break` / `continue` against the height its target expects, every loop back edge and update against the
loop-head height and the three parts of every try statement for neutrality never fails (`none`); the result is `dead` or
`live` at the entry height (`H2.sound`). -/
theorem emitStmt2_height_exec (cfg : Cfg) (s : S2) (lc : Option Bool) (td : Nat) (ex : List Bool) (nr : Bool) (hl : Nat) :
    (emit2 cfg lc td ex s nr).height2 (ctx lc hl) (ctx lc hl) (.live (hl + slots ex)) = some .dead ∨
    (emit2 cfg lc td ex s nr).height2 (ctx lc hl) (ctx lc hl) (.live (hl + slots ex)) = some (.live (hl + slots ex)) :=
  (emitStmt2_height cfg s lc td ex nr hl).sound

/-- the walk is not vacuous: `while (x) { break; }` passes, the same loop with an operand left on the stack before the
`break` is refused, and so is a `break` that skips the `leaveBlock` of a catch-parameter scope. -/
theorem emitStmt2_witness :
    (C2.loop jneP true (.ins iLoadVal) .brk .nil).height2 none none (.live 0) = some (.live 0) ∧
    (C2.loop jneP true (.ins iLoadVal) (.seq (.old (.ins iLoadVal)) .brk) .nil).height2 none none (.live 0) = none ∧
    (C2.loop jneP true (.ins iLoadVal) (.tryC false .nil true true .brk false .nil) .nil).height2 none none (.live 0) = none ∧
    (C2.loop jneP true (.ins iLoadVal) (.tryC false .nil true true (.seq (.old (exitCode [true, false])) .brk) false .nil)
      .nil).height2 none none (.live 0) = some (.live 0) := by decide

/-- Inside the modelled fragment a function cannot leak operands towards its `ret`s: every statement entered with `h`
operands (the function body's entry height — statements are height-neutral, `emitStmt_height`) satisfies the height
judgement in which every executed `ret` sits at exactly `h + 1`: the return value and nothing else above the frame's
locals.  (`verify` cannot see such a leak on real bytecode: `ret` resets sp.) -/
theorem ret_height_exact (cfg : Cfg) (s : Stmt) (nr : Bool) (h : Nat) : HasHtR (h + 1) (emitS cfg s nr) h h :=
  emitS_htR cfg s nr h

/-- the same for a whole function / program body -/
theorem ret_height_exact_body (cfg : Cfg) (ss : Stmts) (nr : Bool) (h : Nat) : HasHtR (h + 1) (emitBody cfg ss nr) h h :=
  ret_height_exact cfg (.block ss) nr h

/-- … and the executable walk over the code (following `Code.height`) finds every live `ret` at height `h + 1`. -/
theorem ret_height_exact_exec (cfg : Cfg) (ss : Stmts) (nr : Bool) (h : Nat) :
    (emitBody cfg ss nr).retsAt (h + 1) (.live h) = true :=
  (ret_height_exact_body cfg ss nr h).sound

/-- the judgement is not vacuous: `ret` is recognised, a throw is not, and a body that leaves one extra operand below the
return value (`loadVal; loadVal; ret`) is refused although its plain height judgement holds (control never leaves it). -/
theorem ret_height_witness :
    iRet.isRet = true ∧ iThrow.isRet = false ∧
    (Code.seq (.ins iLoadVal) (.seq (.ins iLoadVal) (.ins iRet))).retsAt 1 (.live 0) = false ∧
    (Code.seq (.ins iLoadVal) (.seq (.ins iLoadVal) (.ins iRet))).height (.live 0) = some .dead ∧
    (Code.seq (.ins iLoadVal) (.ins iRet)).retsAt 1 (.live 0) = true := by decide

/-- Regression lemma about the mechanism BEFORE fix 5a4962f (`emitBindingSetPrefix`): `f = 5` with `f` the sloppy
function-expression name and the value discarded — right operand followed by the old `emitSetP` — ended one operand
too high. (`(function f(){ var r=[1,(f = 5, 2)] })()` crashed the host.) -/
theorem emit_height_prefix_witness :
    (Code.seq (.ins iLoadVal) (emitBindingSetPrefix ⟨false⟩ (.const false) false)).height (.live 0) = some (.live 1)
    ∧ (emitG ⟨false⟩ (.assignId (.const false) "f" (.lit (.num 5))) false).height (.live 0) = some (.live 0) := by
  decide

/-- Acceptance of any candidate state set `R` (the exploration that proposes one is untrusted) makes every reachable state
locally safe. -/
theorem verifyWith_sound (code : List Node) (endOk : Bool) (R : Array (List AState))
    (hv : verifyWith code endOk R = true) (s : St) (hr : Reach code s) : safe code endOk s = true := by
  unfold verifyWith at hv
  rw [Bool.and_eq_true] at hv
  exact (memR_closed hv.2 (reach_memR hv.1 hv.2 hr)).1

/-- Soundness of the verifier (`R` = the explored set): if `verify` accepts, every state the abstract machine can reach from the entry
state is locally safe: the instruction finds its operands above the entry height, all successors are inside the
code with non-negative height, try/finally instructions find their frame, variadic calls find their marker, a
`ret` has a value, and falling off the end happens only with the entry height and no open frames. -/
theorem verify_sound (code : List Node) (endOk : Bool) (hv : verify code endOk = true)
    (s : St) (hr : Reach code s) : safe code endOk s = true :=
  verifyWith_sound code endOk (explore code) hv s hr

/-- No underflow: at every reachable state the instruction about to execute has its operands above the entry height. -/
theorem verify_no_underflow (code : List Node) (endOk : Bool) (hv : verify code endOk = true)
    (s : St) (hr : Reach code s) (n : Node) (hn : code[s.pc]? = some n) : n.need ≤ s.h :=
  (safe_at (verify_sound code endOk hv s hr) hn).1

/-- Frame slots: where the verifier accepts a unit whose nodes carry the slot requirement (`withSlotNeed`, as the
driver builds them), every reachable execution of `loadStack(l)` / `storeStack(l)` / `initStack(l)` &c. with `l > 0`
addresses a slot that exists below the operands: its position `l - 1 + base` in the normalised frame is smaller than
the height (loads), resp. smaller than the height minus the value being stored (stores) — so `stack[sb + args + l]`
is never beyond `sp`.  And the store variants that `panic("Illegal stack var index")` for `l ≤ 0` could only be reached with
such an operand at an abstract height of at least 2^30, which the Go operand stack cannot get to (the verifier itself
does not bound heights: it accepts a unit that opens with an `enterFunc` of `stackSize` 2^30). -/
theorem verify_slot_in_frame (code : List Node) (endOk : Bool) (hv : verify code endOk = true)
    (s : St) (hr : Reach code s) (base : Nat) (name : String) (ops : List (String × Int)) (n : Node)
    (hn : code[s.pc]? = some (withSlotNeed base name ops n)) :
    slotNeed base name ops ≤ s.h ∧
    (∀ l : Int, lookupOp ops "n" = l → 0 < l →
      (name ∈ ["loadStack", "loadStack1", "loadStackLex", "loadStack1Lex"] → l.toNat - 1 + base < s.h) ∧
      (name ∈ slotStores → l.toNat - 1 + base + 1 < s.h)) ∧
    (name ∈ slotPanicsNonPos → lookupOp ops "n" ≤ 0 → 1073741824 ≤ s.h) :=
  have hneed : slotNeed base name ops ≤ s.h :=
    Nat.le_trans (Nat.le_max_right ..) (verify_no_underflow code endOk hv s hr _ hn)
  ⟨hneed, slotNeed_le hneed⟩

/-- Halting: a run that leaves the code does so exactly at its end, at the entry height, with no open try frame and
no pending variadic marker. -/
theorem verify_halt_height (code : List Node) (endOk : Bool) (hv : verify code endOk = true)
    (s : St) (hr : Reach code s) (hn : code[s.pc]? = none) :
    s.pc = code.length ∧ s.h = 0 ∧ s.fs = [] ∧ s.vs = [] ∧ endOk = true :=
  safe_end (verify_sound code endOk hv s hr) hn

/-- Returning: a `ret` is only reached with the return value on the stack and all try frames left. -/
theorem verify_ret_height (code : List Node) (endOk : Bool) (hv : verify code endOk = true)
    (s : St) (hr : Reach code s) (need : Nat) (es : List (Int × Int)) (hn : code[s.pc]? = some ⟨need, es, .ret⟩) :
    1 ≤ s.h ∧ s.fs = [] :=
  (safe_at (verify_sound code endOk hv s hr) hn).2 rfl

/-- Handlers are entered with the frame's saved height: the state produced by a throw has the height saved in the
frame (+1 for the exception value in a catch). (Property of the machine = the mechanism of vm.handleThrow.) -/
theorem unwind_height (code : List Node) (fr : Frame) (rest : List Frame) (s' : St)
    (hs : s' ∈ unwind code (fr :: rest)) (harm : fr.cArmed = true ∨ fr.fArmed = true) :
    (fr.cArmed = true → s'.h = fr.h + 1) ∧ (fr.cArmed = false → s'.h = fr.h) := by
  cases hc : fr.cArmed
  · rw [unwind_finally hc (harm.resolve_left (by simp [hc])), List.mem_singleton] at hs
    exact ⟨nofun, fun _ => hs ▸ rfl⟩
  · rw [unwind_catch hc, List.mem_singleton] at hs
    exact ⟨fun _ => hs ▸ rfl, nofun⟩

/-- For every scope that satisfies the compiler's invariants, the compile-time predicate that counts it as a stash
level (`scope.hasStash`, compiler.go:909) is true exactly when the VM creates a stash on entering it (enterBlock /
enterCatchBlock / enterFunc* / enterFuncBody / enterWith / class initialiser). Three host crashes were violations of
exactly this equation. -/
theorem stash_level_iff_runtime_stash (s : Scope.Scope) (w : Scope.WF s) :
    Scope.hasStash s = Scope.createsStash s :=
  Scope.hasStash_eq_createsStash s w

/-- Hence the level computed by finaliseVarAlloc for an access equals the number of stashes that really lie between
the access and the owner of the binding, for scope chains of ANY length. -/
theorem stash_level_counts_runtime_stashes (chain : List Scope.Scope) (w : ∀ s ∈ chain, Scope.WF s) :
    (Scope.rtStashes chain).length = Scope.level chain :=
  Scope.rtStashes_length chain w

/-- Every emitted stash access `(level, idx)` addresses an existing slot: `level` hops outwards from the innermost
run-time stash arrive at the stash of the scope that owns the binding, and `idx` lies inside it. -/
theorem stash_access_addresses_existing_slot (chain : List Scope.Scope) (owner : Scope.Scope) (outerRest : List Nat)
    (idx : Nat) (w : ∀ s ∈ chain, Scope.WF s) (wo : Scope.WF owner) (hidx : idx < Scope.stashSize owner) :
    ∃ sz, (Scope.rtStashes chain ++ Scope.rtStashes [owner] ++ outerRest)[Scope.level chain]? = some sz ∧ idx < sz :=
  Scope.stash_access_in_bounds chain owner outerRest idx w hidx

/-- regression lemma (the mechanism before ce8862e counted `needStash || isDynamic`): an anonymous class body marked by a
direct eval — a block scope with dynLookup and no bindings — was counted although no stash is created. -/
theorem stash_level_prefix_witness :
    let s : Scope.Scope := ⟨.block, false, true, false, false, false, false, 0, 0⟩
    (s.needStash || s.isDynamic) = true ∧ Scope.createsStash s = false ∧ Scope.hasStash s = false := by
  decide

/-- Every documented payload kind is turned into a returned error (Exception or uncatchable error); none escapes. -/
theorem classify_total : ∀ p ∈ documentedRun, classifyRun p = .exception ∨ classifyRun p = .uncatchable := by
  decide

/-- Everything else re-panics: a payload outside the documented kinds is never swallowed or disguised. -/
theorem classify_repanics_rest (tag : String) :
    classifyRun (.other tag) = .repanic ∧ classifyCompile (.other tag) = .repanic := by
  constructor <;> rfl

/-- The compile boundary keeps exactly `*CompilerSyntaxError`. -/
theorem classify_compile (p : Payload) : classifyCompile p = .compileError ↔ p = .compilerSyntaxError := by
  cases p <;> simp [classifyCompile]

/-- Uncatchable payloads are never converted into a script-catchable exception (handleThrow's `ex == nil` path). -/
theorem classify_uncatchable_not_catchable (p : Payload) (h : asUncatchableOk p = true) :
    exceptionFromValueOk p = false := by
  cases p <;> simp_all [asUncatchableOk, exceptionFromValueOk]

/-- test: the folded-AND expression of the repaired defect f6a1b71, `(0 && a, 2)` as an array element. -/
example : (emitG ⟨false⟩ (.array (.cons (.lit (.num 1)) (.cons
    (.comma (.logical .and (.lit (.num 0)) (.ident .lexVar "a")) (.lit (.num 2))) .nil))) true).height (.live 0)
    = some (.live 1) := by decide

/-- test: a small program with try/catch/finally is accepted by the verifier and reaches its end. -/
example : verify
    [⟨0, [], .tryI 4 7⟩, ⟨0, [(1, 1)], .plain⟩, ⟨1, [(1, -1)], .plain⟩, ⟨0, [(3, 0)], .plain⟩,
     ⟨1, [(1, -1)], .plain⟩, ⟨0, [(1, 0)], .plain⟩, ⟨0, [], .enterFinally⟩, ⟨0, [(1, 0)], .plain⟩,
     ⟨0, [], .leaveFinally⟩] true = true := by decide +kernel

/-- test: a stray push before the end is rejected. -/
example : verify [⟨0, [(1, 1)], .plain⟩] true = false := by decide

end GojaModel.C01
