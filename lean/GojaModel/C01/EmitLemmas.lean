import GojaModel.C01.Height
/-!
  C01 (a): the judgement `Emits` under which the expression emitters are analysed — the height discipline `HasHt` together
  with "contains no `ret`" — its rules for instructions, sequences and forward jumps, and the discipline of the emitter's
  helper functions.  Heights are written `d + n`: the `n` operands the code touches on top of `d` it leaves alone, so that
  the rules compose by unification; `h + p.toNat` is the exit height of an emitter called with `putOnStack = p`.
-/
namespace GojaModel.C01

/-- `ret`: the terminal instruction that leaves a value (see `iRet`); throws leave none. -/
def Instr.isRet (i : Instr) : Bool := i.term && i.pushes == 1

def Code.noRet : Code → Bool
  | .nil => true
  | .ins i => !i.isRet
  | .seq a b => a.noRet && b.noRet
  | .fwd _ b => b.noRet
  | .ifElse _ a b => a.noRet && b.noRet
  | .loop _ p b => p.noRet && b.noRet
  | .forever b => b.noRet
  | .doLoop _ b => b.noRet

structure Emits (c : Code) (h k : Nat) : Prop where
  ht : HasHt c h k
  noRet : c.noRet = true

namespace Emits

theorem nil {h : Nat} : Emits .nil h h := ⟨.nil, rfl⟩

theorem seq {a b : Code} {h k1 k2 : Nat} (ha : Emits a h k1) (hb : Emits b k1 k2) : Emits (.seq a b) h k2 :=
  ⟨.seq ha.ht hb.ht, by simp only [Code.noRet, ha.noRet, hb.noRet, Bool.and_self]⟩

theorem cast {c : Code} {h h' k k' : Nat} (hc : Emits c h k) (eh : h = h') (ek : k = k') : Emits c h' k' := eh ▸ ek ▸ hc

theorem op {i : Instr} (d : Nat) (hp : i.pops ≤ i.need) (ht : i.term = false) :
    Emits (.ins i) (d + i.need) (d + (i.need - i.pops) + i.pushes) :=
  ⟨Nat.add_sub_assoc hp d ▸ HasHt.ins (Nat.le_add_left ..) hp ht, by simp [Code.noRet, Instr.isRet, ht]⟩

theorem throws {i : Instr} (d k : Nat) (hp : i.pops ≤ i.need) (ht : i.term = true) (hr : i.isRet = false) :
    Emits (.ins i) (d + i.need) k :=
  ⟨HasHt.term (Nat.le_add_left ..) hp ht, by simp [Code.noRet, hr]⟩

theorem ifElse {j : JKind} {a b : Code} {h k : Nat} (hn : j.need = 1) (hj : j.popJump ≤ 1) (hf : j.popFall ≤ 1)
    (ha : Emits a (h + 1 - j.popFall) k) (hb : Emits b (h + 1 - j.popJump) k) : Emits (.ifElse j a b) (h + 1) k :=
  ⟨.ifElse (by omega) (by omega) (by omega) ha.ht hb.ht, by simp only [Code.noRet, ha.noRet, hb.noRet, Bool.and_self]⟩

theorem fwdKeep {j : JKind} {body : Code} {h : Nat} (hn : j.need = 1) (hj : j.popJump = 0) (hf : j.popFall = 1)
    (hb : Emits body h (h + 1)) : Emits (.fwd j body) (h + 1) (h + 1) := by
  have := HasHt.fwd (j := j) (h := h + 1) (body := body) (by omega) (by omega) (by omega)
  rw [hj, hf] at this
  exact ⟨this hb.ht, hb.noRet⟩

end Emits

theorem emits_push1 (nm : String) (n h : Nat) : Emits (.ins (push1 nm n)) h (h + 1) := .op h (Nat.le_refl _) rfl
theorem emits_push2 (nm : String) (n h : Nat) : Emits (.ins ⟨nm, n, 0, 0, 2, false⟩) h (h + 2) := .op h (Nat.le_refl _) rfl
theorem emits_op00 (nm : String) (h : Nat) : Emits (.ins (op00 nm)) h h := .op h (Nat.le_refl _) rfl
-- `emits_op10` is stated for the literal `⟨_, 0, 1, 1, 0, false⟩`, as the model writes `_pop`, `storeStackP`, `_putValueP`,
-- `getPropRef`, ….
theorem emits_op10 (nm : String) (h : Nat) : Emits (.ins ⟨nm, 0, 1, 1, 0, false⟩) (h + 1) h := .op h (Nat.le_refl _) rfl
theorem emits_op11 (nm : String) (h : Nat) : Emits (.ins (op11 nm)) (h + 1) (h + 1) := .op h (Nat.le_refl _) rfl
theorem emits_op12 (nm : String) (h : Nat) : Emits (.ins (op12 nm)) (h + 1) (h + 2) := .op h (Nat.le_refl _) rfl
theorem emits_op20 (nm : String) (h : Nat) : Emits (.ins (op20 nm)) (h + 2) h := .op h (Nat.le_refl _) rfl
theorem emits_op21 (nm : String) (h : Nat) : Emits (.ins (op21 nm)) (h + 2) (h + 1) := .op h (Nat.le_refl _) rfl
theorem emits_op22 (nm : String) (h : Nat) : Emits (.ins (op22 nm)) (h + 2) (h + 2) := .op h (Nat.le_refl _) rfl
theorem emits_op30 (nm : String) (h : Nat) : Emits (.ins (op30 nm)) (h + 3) h := .op h (Nat.le_refl _) rfl
theorem emits_op31 (nm : String) (h : Nat) : Emits (.ins (op31 nm)) (h + 3) (h + 1) := .op h (Nat.le_refl _) rfl
theorem emits_dup (h : Nat) : Emits (.ins iDup) (h + 1) (h + 2) := .op h (Nat.zero_le _) rfl
theorem emits_keep1 (nm : String) (h : Nat) : Emits (.ins (iKeep1 nm)) (h + 1) (h + 1) := .op h (Nat.zero_le _) rfl
theorem emits_rdupN (n h : Nat) : Emits (.ins (iRdupN n)) (h + (n + 1)) (h + (n + 1)) := .op h (Nat.zero_le _) rfl
theorem emits_dupLast (n h : Nat) : Emits (.ins (iDupLast n)) (h + n) (h + n + n) := .op h (Nat.zero_le _) rfl
theorem emits_call (n h : Nat) : Emits (.ins (iCall n)) (h + 2 + n) (h + 1) :=
  (Emits.op (i := iCall n) h (Nat.le_refl _) rfl).cast (by simp only [iCall]; omega) (by simp only [iCall]; omega)
theorem emits_new (n h : Nat) : Emits (.ins (iNew n)) (h + 1 + n) (h + 1) :=
  (Emits.op (i := iNew n) h (Nat.le_refl _) rfl).cast (by simp only [iNew]; omega) (by simp only [iNew]; omega)
theorem emits_concat (n h : Nat) : Emits (.ins (iConcat n)) (h + n) (h + 1) :=
  (Emits.op (i := iConcat n) h (Nat.le_refl _) rfl).cast rfl (by simp only [iConcat]; omega)
theorem emits_throw (h k : Nat) : Emits (.ins iThrow) (h + 1) k := .throws h k (Nat.le_refl _) rfl rfl
theorem emits_throwAssignToConst (h k : Nat) : Emits (.ins iThrowAssignToConst) h k := .throws h k (Nat.le_refl _) rfl rfl

theorem emits_popUnless (p : Bool) (h : Nat) : Emits (popUnless p) (h + 1) (h + p.toNat) := by
  cases p
  · exact emits_op10 _ h
  · exact .nil

theorem emits_onlyIf (p : Bool) {c : Code} {h : Nat} (hc : Emits c h (h + 1)) : Emits (onlyIf p c) h (h + p.toNat) := by
  cases p
  · exact .nil
  · exact hc

/-- `storeStack` / `storeStackP`, `_putValue` / `_putValueP`, … -/
theorem emits_store (p : Bool) (nm nmP : String) (h : Nat) :
    Emits (.ins (if p then iKeep1 nm else ⟨nmP, 0, 1, 1, 0, false⟩)) (h + 1) (h + p.toNat) := by
  cases p
  · exact emits_op10 _ h
  · exact emits_keep1 _ h

theorem emits_emitThrow (m : Bool) (h k : Nat) : Emits (emitThrow m) h k := by
  cases m
  · exact .seq (emits_push1 ..) (.seq (emits_new 0 h) (.seq (emits_throw h k) .nil))
  · exact .seq (emits_push1 ..) (.seq (emits_push1 ..) (.seq (emits_new 1 h) (.seq (emits_throw h k) .nil)))

theorem emits_foldOr {e : Expr} {p : Bool} {g : Code} (hg : ∀ h, Emits g h (h + p.toNat)) (h : Nat) :
    Emits (foldOr e p g) h (h + p.toNat) := by
  unfold foldOr
  split
  · split
    · exact emits_onlyIf p (emits_push1 ..)
    · exact emits_emitThrow ..
  · exact hg h

theorem emits_emitIdentGet (c : IdClass) (p : Bool) (h : Nat) : Emits (emitIdentGet c p) h (h + p.toNat) := by
  cases c
  case stackVar => exact emits_onlyIf p (emits_push1 ..)
  all_goals exact .seq (emits_push1 ..) (emits_popUnless p h)

theorem emits_emitBindingSet (cfg : Cfg) (c : IdClass) (p : Bool) (h : Nat) :
    Emits (emitBindingSet cfg c p) (h + 1) (h + p.toNat) := by
  cases c
  case const s =>
    show Emits (if s || cfg.strict then _ else _) _ _
    split
    · exact .seq (emits_push1 ..) (.seq (emits_op10 ..) (.seq (emits_throwAssignToConst ..) .nil))
    · cases p
      · exact emits_op10 _ h
      · exact .nil
  all_goals exact emits_store ..

theorem emits_emitVarRef (cfg : Cfg) (c : IdClass) (h : Nat) : Emits (emitVarRef cfg c) h h := by
  cases c <;> exact emits_op00 ..

theorem emits_emitVarSetter1 (cfg : Cfg) (c : IdClass) (p : Bool) {right : Bool → Code} {d : Nat}
    (hr : ∀ b h, Emits (right b) h (h + d + 1)) (h : Nat) : Emits (emitVarSetter1 cfg c p right) h (h + d + p.toNat) := by
  unfold emitVarSetter1
  split
  · exact .seq (emits_emitVarRef ..) (.seq (hr ..) (.seq (emits_store ..) .nil))
  · exact .seq (hr ..) (emits_emitBindingSet ..)

/-- code that replaces the top operand: the `prep` / `body` arguments of `emitUnaryId` / `emitUnaryDot` / `emitUnaryIndex` -/
def Keeps1 (c : Code) : Prop := ∀ h, Emits c (h + 1) (h + 1)

theorem keeps1_nil : Keeps1 .nil := fun _ => .nil
theorem keeps1_inc (inc : Bool) : Keeps1 (incBody inc) := fun _ => emits_op11 ..
theorem keeps1_prep : Keeps1 prepNum := fun _ => emits_op11 ..
theorem keeps1_binop {g : Code} (op : BinOp) (hg : ∀ h, Emits g h (h + 1)) : Keeps1 (.seq g (.ins (op21 (binName op)))) :=
  fun _ => .seq (hg _) (emits_op21 ..)

theorem emits_emitUnaryId (cfg : Cfg) (c : IdClass) (p post : Bool) {prep body : Code} (hp : Keeps1 prep) (hb : Keeps1 body)
    (h : Nat) : Emits (emitUnaryId cfg c p post prep body) h (h + p.toNat) := by
  have get (b : Bool) (h : Nat) :
      Emits (if b then .ins (push1 "_getValue") else emitIdentGet c true) h (h + 1) := by
    cases b
    · exact emits_emitIdentGet c true h
    · exact emits_push1 ..
  unfold emitUnaryId
  cases p
  · exact emits_emitVarSetter1 cfg c false (d := 0) (fun b h' => .seq (get b h') (.seq (hb h') .nil)) h
  · -- the old value is kept under the new one (`rdupN 1` copies the top into the slot below), then the new one is dropped
    refine .seq (emits_emitVarSetter1 cfg c true (d := 1) (fun b h' => ?_) h) (emits_op10 ..)
    refine .seq (emits_push1 ..) (.seq (get b _) (.seq (hp _) ?_))
    cases post
    · exact .seq (hb _) (.seq (emits_rdupN 1 h') (.seq .nil .nil))
    · exact .seq .nil (.seq (emits_rdupN 1 h') (.seq (hb _) .nil))

theorem emits_emitUnaryDot (cfg : Cfg) (p post : Bool) {gl prep body : Code} (hl : ∀ h, Emits gl h (h + 1))
    (hp : Keeps1 prep) (hb : Keeps1 body) (h : Nat) : Emits (emitUnaryDot cfg p post gl prep body) h (h + p.toNat) := by
  unfold emitUnaryDot
  cases p
  · exact .seq (hl _) (.seq (emits_dup _) (.seq (emits_op11 ..) (.seq (hb _) (.seq (emits_op20 ..) .nil))))
  · cases post
    · exact .seq (hl _) (.seq (emits_dup _) (.seq (emits_op11 ..) (.seq (hp _) (.seq (hb _) (.seq (emits_op21 ..) .nil)))))
    · exact .seq (emits_push1 ..) (.seq (hl _) (.seq (emits_dup _) (.seq (emits_op11 ..) (.seq (hp _)
        (.seq (emits_rdupN 2 h) (.seq (hb _) (.seq (emits_op20 ..) .nil)))))))

theorem emits_emitUnaryIndex (cfg : Cfg) (p post : Bool) {gl gm prep body : Code} (hl : ∀ h, Emits gl h (h + 1))
    (hm : ∀ h, Emits gm h (h + 1)) (hp : Keeps1 prep) (hb : Keeps1 body) (h : Nat) :
    Emits (emitUnaryIndex cfg p post gl gm prep body) h (h + p.toNat) := by
  unfold emitUnaryIndex
  cases p
  · exact .seq (hl _) (.seq (hm _) (.seq (emits_dupLast 2 h) (.seq (emits_op21 ..) (.seq (hb _)
      (.seq (emits_op31 ..) (.seq (emits_op10 ..) .nil))))))
  · cases post
    · exact .seq (hl _) (.seq (hm _) (.seq (emits_dupLast 2 h) (.seq (emits_op21 ..) (.seq (hp _) (.seq (hb _)
        (.seq (emits_op31 ..) .nil))))))
    · exact .seq (emits_push1 ..) (.seq (hl _) (.seq (hm _) (.seq (emits_dupLast 2 (h + 1)) (.seq (emits_op21 ..) (.seq (hp _)
        (.seq (emits_rdupN 3 h) (.seq (hb _) (.seq (emits_op31 ..) (.seq (emits_op10 ..) .nil)))))))))

theorem emits_emitAssignLog (op : LogOp) (p : Bool) {ref right : Code} (hr : ∀ h, Emits ref h h)
    (hv : ∀ h, Emits right h (h + 1)) (h : Nat) : Emits (emitAssignLog op p ref right) h (h + p.toNat) := by
  unfold emitAssignLog
  refine .seq (hr _) (.seq (emits_push1 ..) (.seq ?_ .nil))
  cases p
  · cases op <;> exact .ifElse rfl (Nat.le_refl _) (Nat.le_refl _) (.seq (hv _) (emits_op10 ..)) (emits_op00 ..)
  · cases op <;> exact .ifElse rfl (Nat.zero_le _) (Nat.le_refl _) (.seq (hv _) (emits_keep1 ..)) (emits_op00 ..)

theorem logJump_keeps (op : LogOp) : (logJump op).need = 1 ∧ (logJump op).popJump = 0 ∧ (logJump op).popFall = 1 := by
  cases op <;> exact ⟨rfl, rfl, rfl⟩

end GojaModel.C01
