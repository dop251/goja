import GojaModel.C01.Model
/-!
  C01 (b): a state set accepted by the closure check is an invariant of the abstract machine, and what the machine's
  definitions `safe`, `unwind`, `slotNeed` say in the forms the property theorems use.
-/
namespace GojaModel.C01

theorem memR_closed {code : List Node} {endOk : Bool} {R : Array (List AState)} {s : St}
    (hc : checkClosed code endOk R = true) (hm : memR R s = true) :
    safe code endOk s = true ∧ ∀ s' ∈ succs code s, memR R s' = true := by
  unfold memR at hm
  split at hm
  · rename_i l hl
    have hmem : (s.h, s.vs, s.fs) ∈ l := List.contains_iff_mem.mp hm
    have hlt : s.pc < R.size := (Array.getElem?_eq_some_iff.mp hl).1
    have h1 := List.all_eq_true.mp hc s.pc (List.mem_range.mpr hlt)
    simp only [hl, Option.getD_some] at h1
    have h2 := List.all_eq_true.mp h1 _ hmem
    unfold closedAt at h2
    rw [Bool.and_eq_true] at h2
    cases s
    exact ⟨h2.1, fun s' hs' => List.all_eq_true.mp h2.2 s' hs'⟩
  · cases hm

theorem reach_memR {code : List Node} {endOk : Bool} {R : Array (List AState)} (hi : memR R St.init = true)
    (hc : checkClosed code endOk R = true) {s : St} (hr : Reach code s) : memR R s = true := by
  induction hr with
  | init => exact hi
  | step _ hs ih => exact (memR_closed hc ih).2 _ hs

theorem safe_at {code : List Node} {endOk : Bool} {s : St} {n : Node} (hs : safe code endOk s = true)
    (hn : code[s.pc]? = some n) : n.need ≤ s.h ∧ (n.kind = .ret → 1 ≤ s.h ∧ s.fs = []) := by
  unfold safe at hs
  rw [hn] at hs
  simp only [Bool.and_eq_true, decide_eq_true_eq] at hs
  refine ⟨hs.1, fun hk => ?_⟩
  simpa [hk] using hs.2

theorem safe_end {code : List Node} {endOk : Bool} {s : St} (hs : safe code endOk s = true)
    (hn : code[s.pc]? = none) : s.pc = code.length ∧ s.h = 0 ∧ s.fs = [] ∧ s.vs = [] ∧ endOk = true := by
  unfold safe at hs
  rw [hn] at hs
  simp only [Bool.and_eq_true, decide_eq_true_eq, List.isEmpty_iff] at hs
  exact ⟨hs.1.1.1.2, hs.1.1.2, hs.1.2, hs.2, hs.1.1.1.1⟩

theorem unwind_catch {code : List Node} {fr : Frame} {rest : List Frame} (hc : fr.cArmed = true) :
    unwind code (fr :: rest) =
      [⟨fr.tryPc + (tryOffsets code fr.tryPc).1, fr.h + 1, fr.vs, { fr with cArmed := false } :: rest⟩] := by
  simp [unwind, hc]

theorem unwind_finally {code : List Node} {fr : Frame} {rest : List Frame} (hc : fr.cArmed = false) (hf : fr.fArmed = true) :
    unwind code (fr :: rest) =
      [⟨fr.tryPc + (tryOffsets code fr.tryPc).2, fr.h, fr.vs, { fr with fArmed := false, ret := none } :: rest⟩] := by
  simp [unwind, hc, hf]

theorem unwind_skip {code : List Node} {fr : Frame} {rest : List Frame} (hc : fr.cArmed = false) (hf : fr.fArmed = false) :
    unwind code (fr :: rest) = unwind code rest := by
  simp [unwind, hc, hf]

theorem slot_tables :
    ["loadStack", "loadStack1", "loadStackLex", "loadStack1Lex"].all (fun n => slotLoads.contains n && !slotInIdx.contains n) ∧
    slotStores.all (fun n => !slotLoads.contains n && !slotInIdx.contains n) ∧
    slotPanicsNonPos.all slotStores.contains := by decide +kernel

/-- `1073741824` is the need `slotNeed` gives a variant that panics for `l ≤ 0`: a height no real operand stack has -/
theorem slotNeed_le {base : Nat} {name : String} {ops : List (String × Int)} {h : Nat} (hneed : slotNeed base name ops ≤ h) :
    (∀ l : Int, lookupOp ops "n" = l → 0 < l →
      (name ∈ ["loadStack", "loadStack1", "loadStackLex", "loadStack1Lex"] → l.toNat - 1 + base < h) ∧
      (name ∈ slotStores → l.toNat - 1 + base + 1 < h)) ∧
    (name ∈ slotPanicsNonPos → lookupOp ops "n" ≤ 0 → 1073741824 ≤ h) := by
  obtain ⟨tl, ts, tp⟩ := slot_tables
  refine ⟨fun l hl hpos => ⟨fun hm => ?_, fun hm => ?_⟩, fun hm hle => ?_⟩
  · have t := List.all_eq_true.mp tl name hm
    simp only [Bool.and_eq_true, Bool.not_eq_eq_eq_not, Bool.not_true] at t
    simp only [slotNeed, t.1, t.2, hl, hpos, if_true, Bool.false_eq_true, if_false] at hneed
    omega
  · have t := List.all_eq_true.mp ts name hm
    simp only [Bool.and_eq_true, Bool.not_eq_eq_eq_not, Bool.not_true] at t
    simp only [slotNeed, t.1, t.2, List.contains_iff_mem.mpr hm, hl, hpos, if_true, Bool.false_eq_true, if_false] at hneed
    omega
  · have hst : slotStores.contains name = true := List.all_eq_true.mp tp name hm
    have t := List.all_eq_true.mp ts name (List.contains_iff_mem.mp hst)
    simp only [Bool.and_eq_true, Bool.not_eq_eq_eq_not, Bool.not_true] at t
    have hnp : ¬ (0 < lookupOp ops "n") := by omega
    simp only [slotNeed, t.1, t.2, hst, List.contains_iff_mem.mpr hm, hnp, if_true, if_false, Bool.false_eq_true] at hneed
    exact hneed

end GojaModel.C01
