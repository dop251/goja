import GojaModel.C01.StmtProof
import GojaModel.C01.Height2
/-!
  C01 (a″): `emit2_ht` — every statement of `S2` is height-neutral in the judgement `H2`, and every `break` / `continue`
  arrives at its target with the entry height of its loop.  One structural induction over `S2` / `SS2`; code that `emit2`
  shares with `emitS` enters through `.old` with the facts of StmtProof.lean.
-/
namespace GojaModel.C01

theorem h2_ifElse_jneP {B C} {a b : C2} {h k : Nat} (ha : H2 B C a h k) (hb : H2 B C b h k) :
    H2 B C (.ifElse jneP a b) (h + 1) k :=
  .ifElse (h := h + 1) (Nat.le_add_left ..) (Nat.le_refl _) (Nat.le_refl _) ha hb

theorem h2_fwd_jneP {B C} {body : C2} {h : Nat} (hb : H2 B C body h h) : H2 B C (.fwd jneP body) (h + 1) h :=
  .fwd (h := h + 1) (Nat.le_add_left ..) (Nat.le_refl _) (Nat.le_refl _) hb

theorem h2_loop_jneP {B C} {cs : Bool} {pre upd : Code} {body : C2} {h : Nat} (hp : HasHt pre h (h + 1))
    (hb : H2 (some h) (some h) body h h) (hu : HasHt upd h h) : H2 B C (.loop jneP cs pre body upd) h h :=
  .loop hp (Nat.le_add_left ..) (Nat.le_refl _) (Nat.le_refl _) hb hu

theorem h2_doLoop_jeqP {B C} {body : C2} {test : Code} {h : Nat} (hb : H2 (some h) (some h) body h h)
    (ht : HasHt test h (h + 1)) : H2 B C (.doLoop jeqP body test) h h :=
  .doLoop hb ht (Nat.le_add_left ..) (Nat.le_refl _) (Nat.le_refl _) rfl rfl

theorem h2_clr {B C} (nr : Bool) (h : Nat) : H2 B C (.old (clr nr)) h h := .old (emits_clr nr h).ht

theorem h2_body {B C} {nr : Bool} {c : C2} {h : Nat} (hc : H2 B C c h h) : H2 B C (.seq (.old (clr nr)) c) h h :=
  .seq (h2_clr nr h) hc

theorem h2_dead {B C} (h k : Nat) : H2 B C (.old (.ins iDead)) h k := .old (.term (Nat.zero_le _) (Nat.le_refl _) rfl)

theorem exitCode_ht : (ex : List Bool) → (hl : Nat) → HasHt (exitCode ex) (hl + slots ex) hl
  | [], _ => .nil
  | false :: r, hl => .seq (emits_op00 ..).ht (exitCode_ht r hl)
  | true :: r, hl => .seq (emits_op10 ..).ht (exitCode_ht r hl)

/-- the catch clause starts one operand higher when the exception value stays as the parameter's slot, and that slot is
then among the blocks a branch has to leave -/
theorem catch_entry {pm : Bool} {ex : List Bool} {hl h : Nat} (he : h = hl + slots ex) :
    (h + if pm then 1 else 0) = hl + slots (if pm then true :: false :: ex else false :: ex) := by
  subst he
  cases pm <;> rfl

theorem retUnwind_ht (n h : Nat) : HasHt (retUnwind n) (h + 1) (h + 1) := by
  induction n with
  | zero => exact .nil
  | succ n ih => exact .seq (.seq (emits_op10 _ h).ht (.seq (emits_op00 ..).ht (emits_push1 ..).ht)) ih

/- The entry height is a variable `h` with an equation, not the term `hl + slots ex`: a catch clause with a parameter is
entered at `h + 1`, which is `hl + slots (true :: false :: ex)` only by `catch_entry`. -/
mutual
theorem emit2_ht (cfg : Cfg) : (s : S2) → ∀ (lc : Option Bool) (td : Nat) (ex : List Bool) (nr : Bool) (hl h : Nat),
    h = hl + slots ex → H2 (ctx lc hl) (ctx lc hl) (emit2 cfg lc td ex s nr) h h
  -- at `.expr e` (and `.throwS e`) `emit2` is by definition `.old` of the code `emitS` gives
  | .expr e, _, _, _, nr, _, h, _ => .old (emitS_ht cfg (.expr e) nr h)
  | .empty, _, _, _, nr, _, h, _ => h2_clr nr h
  | .varBare, _, _, _, _, _, _, _ => .nil
  | .varInit c init, _, _, _, _, _, h, _ => .old (emits_emitVarInit cfg c init h).ht
  | .block ss, lc, td, ex, _, hl, h, he => emitL2_ht cfg ss lc td ex _ _ _ hl h he
  | .ifS t a, lc, td, ex, nr, hl, h, he => by
    refine .seq (h2_clr nr h) ?_
    split
    · exact .old (emits_emitThrow ..).ht
    · exact emit2_ht cfg a lc td ex nr hl h he
    · exact h2_clr nr h
    · refine .seq (.old ((emitG_emits cfg t).t h).ht) ?_
      cases nr
      · exact h2_fwd_jneP (emit2_ht cfg a lc td ex false hl h he)
      · exact h2_ifElse_jneP (emit2_ht cfg a lc td ex true hl h he) (h2_clr true h)
  | .ifElse t a b, lc, td, ex, nr, hl, h, he => by
    refine .seq (h2_clr nr h) ?_
    split
    · exact .old (emits_emitThrow ..).ht
    · exact emit2_ht cfg a lc td ex nr hl h he
    · exact emit2_ht cfg b lc td ex nr hl h he
    · exact .seq (.old ((emitG_emits cfg t).t h).ht)
        (h2_ifElse_jneP (emit2_ht cfg a lc td ex nr hl h he) (emit2_ht cfg b lc td ex nr hl h he))
  | .whileS t body, lc, td, ex, nr, hl, h, he => by
    have hb := h2_body (nr := nr) (emit2_ht cfg body (some nr) td [] nr h h rfl)
    refine .seq (h2_clr nr h) ?_
    split
    · exact .old (emits_emitThrow ..).ht
    · exact .nil
    · exact .forever hb .nil
    · exact h2_loop_jneP ((emitG_emits cfg t).t h).ht hb .nil
  | .doWhile body t, lc, td, ex, nr, hl, h, he =>
    h2_doLoop_jeqP (h2_body (emit2_ht cfg body (some nr) td [] nr h h rfl)) ((emitG_emits cfg t).fold true h).ht
  | .forS init test update body, lc, td, ex, nr, hl, h, he => by
    have hb := h2_body (nr := nr) (emit2_ht cfg body (some nr) td [] nr h h rfl)
    have hu := (emits_optG cfg update h).ht
    refine .seq (.old (emits_emitForInit cfg init h).ht) (.seq (h2_clr nr h) ?_)
    cases test with
    | none => exact .forever hb hu
    | some t =>
      show H2 _ _ (match testKind t with
        | .throws m => _
        | .falsy => _
        | .truthy => _
        | .nonConst => _) _ _
      split
      · exact .old (emits_emitThrow ..).ht
      · exact .nil
      · exact .forever hb hu
      · exact h2_loop_jneP ((emitG_emits cfg t).t h).ht hb hu
  | .ret none, _, td, _, _, _, h, _ =>
    .old (.seq (emits_push1 ..).ht (.seq (retUnwind_ht td h) (.term (Nat.le_add_left ..) (Nat.le_refl _) rfl)))
  | .ret (some e), _, td, _, _, _, h, _ =>
    .old (.seq ((emitG_emits cfg e).fold true h).ht (.seq (retUnwind_ht td h) (.term (Nat.le_add_left ..) (Nat.le_refl _) rfl)))
  | .throwS e, _, _, _, nr, _, h, _ => .old (emitS_ht cfg (.throwS e) nr h)
  | .brk, lc, td, ex, _, hl, h, he => by
    cases lc with
    | none => exact h2_dead h h
    | some b => subst he; exact .seq (.old (exitCode_ht ex hl)) .brk
  | .cont, lc, td, ex, _, hl, h, he => by
    cases lc with
    | none => exact h2_dead h h
    | some b => subst he; exact .seq (.old (exitCode_ht ex hl)) .cont
  | .tryCatch pm b c, lc, td, ex, nr, hl, h, he =>
    .tryC (emitL2_ht cfg b lc _ (false :: ex) _ _ _ hl h he) (emitL2_ht cfg c lc _ _ _ _ _ hl _ (catch_entry he)) .nil
  | .tryFinally b f, lc, td, ex, nr, hl, h, he =>
    .tryC (pm := false) (emitL2_ht cfg b lc _ (false :: ex) _ _ _ hl h he) .nil
      (.seq (h2_clr _ h) (emitL2_ht cfg f lc _ (false :: ex) _ _ _ hl h he))
  | .tryCatchFinally pm b c f, lc, td, ex, nr, hl, h, he =>
    .tryC (emitL2_ht cfg b lc _ (false :: ex) _ _ _ hl h he) (emitL2_ht cfg c lc _ _ _ _ _ hl _ (catch_entry he))
      (.seq (h2_clr _ h) (emitL2_ht cfg f lc _ (false :: ex) _ _ _ hl h he))
theorem emitL2_ht (cfg : Cfg) : (ss : SS2) → ∀ (lc : Option Bool) (td : Nat) (ex : List Bool) (nrMode : Bool) (lp : Option Nat)
    (i hl h : Nat), h = hl + slots ex → H2 (ctx lc hl) (ctx lc hl) (emitL2 cfg lc td ex ss nrMode lp i) h h
  | .nil, _, _, _, _, _, _, _, _, _ => .nil
  | .cons s r, lc, td, ex, nrMode, lp, i, hl, h, he => by
    show H2 _ _ (if !nrMode then _ else _) _ _
    split
    · exact .seq (emit2_ht cfg s lc td ex false hl h he) (emitL2_ht cfg r lc td ex false lp (i + 1) hl h he)
    · -- in dummy mode the list ends with this statement
      have hs (nrS : Bool) := emit2_ht cfg s lc td ex nrS hl h he
      cases lp <;> dsimp only <;> split
      · exact hs _
      · exact .seq (hs _) (emitL2_ht cfg r lc td ex true none (i + 1) hl h he)
      · exact hs _
      · exact .seq (hs _) (emitL2_ht cfg r lc td ex true (some _) (i + 1) hl h he)
end

end GojaModel.C01
