import GojaModel.C01.EmitLemmas
/-! C01 (a): the structural induction over the mutual AST — every `emitGetter` leaves exactly one value (putOnStack) or
none (¬putOnStack), and emits no `ret`. -/
namespace GojaModel.C01

/-- the putOnStack discipline of one expression: its code leaves one value if `p`, none otherwise -/
def Disc (cfg : Cfg) (e : Expr) : Prop := ∀ p h, Emits (emitG cfg e p) h (h + p.toNat)

namespace Disc
variable {cfg : Cfg} {e : Expr} (d : Disc cfg e)
include d

theorem t (h : Nat) : Emits (emitG cfg e true) h (h + 1) := d true h
theorem f (h : Nat) : Emits (emitG cfg e false) h h := d false h
theorem fold (p : Bool) (h : Nat) : Emits (emitE cfg e p) h (h + p.toNat) := emits_foldOr (d p) h
theorem foldT (h : Nat) : Emits (foldOr e true (emitG cfg e true)) h (h + 1) := d.fold true h
theorem foldF (h : Nat) : Emits (foldOr e false (emitG cfg e false)) h h := d.fold false h

end Disc

theorem disc_of_push {g : Bool → Code} {pre : Code} (hg : ∀ p, g p = .seq pre (popUnless p))
    (hpre : ∀ h, HasHt pre h (h + 1)) :
    (∀ h, HasHt (g true) h (h + 1)) ∧ (∀ h, HasHt (g false) h h) := by
  constructor
  · intro h; rw [hg]; exact HasHt.seq (hpre h) (emits_popUnless true h).ht
  · intro h; rw [hg]; exact HasHt.seq (hpre h) (emits_popUnless false h).ht

theorem cat_snoc_pop (cs : List Code) (p : Bool) :
    cat (cs ++ [popUnless p]) = .seq (cat cs) (popUnless p) ∨ True := Or.inr trivial

mutual
theorem emitG_emits (cfg : Cfg) : (e : Expr) → Disc cfg e
  | .lit _ => fun p _ => emits_onlyIf p (emits_push1 ..)
  | .ident c _ => emits_emitIdentGet c
  | .this => fun p h => .seq (emits_push1 ..) (emits_popUnless p h)
  | .unary op e => fun p h => by
      have ih := emitG_emits cfg e
      cases op
      case void => exact .seq (ih.foldF _) (emits_onlyIf p (emits_push1 ..))
      case neg | plus => exact .seq (ih.foldT _) (.seq (emits_op11 ..) (.seq (emits_popUnless p h) .nil))
      all_goals exact .seq (ih.t _) (.seq (emits_op11 ..) (.seq (emits_popUnless p h) .nil))
  | .typeofId c _ => fun p h => by
      cases c
      case global => exact .seq (emits_push1 ..) (.seq (emits_op11 ..) (.seq (emits_popUnless p h) .nil))
      all_goals exact .seq (emits_emitIdentGet _ true _) (.seq (emits_op11 ..) (.seq (emits_popUnless p h) .nil))
  | .deleteId c _ => fun p h => by
      cases c
      case global => exact .seq (emits_push1 ..) (emits_popUnless p h)
      all_goals exact emits_onlyIf p (emits_push1 ..)
  | .deleteDot l _ => fun p h =>
      .seq ((emitG_emits cfg l).t _) (.seq (emits_op11 ..) (.seq (emits_popUnless p h) .nil))
  | .deleteIndex l m => fun p h =>
      .seq ((emitG_emits cfg l).t _) (.seq ((emitG_emits cfg m).t _) (.seq (emits_op21 ..) (.seq (emits_popUnless p h) .nil)))
  | .deleteCall e => fun p _ => .seq ((emitG_emits cfg e).f _) (emits_onlyIf p (emits_push1 ..))
  | .deleteOther _ => fun p _ => emits_onlyIf p (emits_push1 ..)
  | .updateId inc post c _ => fun p => emits_emitUnaryId cfg c p post keeps1_prep (keeps1_inc inc)
  | .updateDot inc post l _ => fun p =>
      emits_emitUnaryDot cfg p post (emitG_emits cfg l).t keeps1_prep (keeps1_inc inc)
  | .updateIndex inc post l m => fun p =>
      emits_emitUnaryIndex cfg p post (emitG_emits cfg l).t (emitG_emits cfg m).t keeps1_prep (keeps1_inc inc)
  | .binary _ l r => fun p h =>
      .seq ((emitG_emits cfg l).foldT _) (.seq ((emitG_emits cfg r).foldT _) (.seq (emits_op21 ..)
        (.seq (emits_popUnless p h) .nil)))
  | .logical op l r => fun p h => by
      have ihl := emitG_emits cfg l
      have ihr := emitG_emits cfg r
      show Emits (if constant l then _ else _) _ _
      split
      · split
        · split
          · exact emits_onlyIf p (emits_push1 ..)
          · exact ihr.fold p h
        · exact emits_emitThrow ..
      · -- the jump keeps the left value when it short-circuits; otherwise the right operand replaces it
        have hl : Emits (match op with
            | .and => emitG cfg l true
            | _ => foldOr l true (emitG cfg l true)) h (h + 1) := by
          cases op
          · exact ihl.t h
          · exact ihl.foldT h
          · exact ihl.foldT h
        have hj := logJump_keeps op
        exact .seq hl (.seq (.fwdKeep hj.1 hj.2.1 hj.2.2 (ihr.foldT h)) (.seq (emits_popUnless p h) .nil))
  | .cond t a b => fun p h =>
      .seq ((emitG_emits cfg t).t h)
        (.ifElse (j := jneP) rfl (Nat.le_refl _) (Nat.le_refl _) (emitG_emits cfg a p h) (emitG_emits cfg b p h))
  | .comma a b => fun p h => .seq ((emitG_emits cfg a).f h) (emitG_emits cfg b p h)
  | .assignId c _ r => fun p =>
      emits_emitVarSetter1 cfg c p (d := 0) (fun _ => (emitG_emits cfg r).foldT)
  | .assignDot l _ r => fun p h => by
      refine .seq ((emitG_emits cfg l).t _) (.seq ((emitG_emits cfg r).t _) (.seq ?_ .nil))
      cases p
      · exact emits_op20 _ h
      · exact emits_op21 _ h
  | .assignIndex l m r => fun p h => by
      refine .seq ((emitG_emits cfg l).t _) (.seq ((emitG_emits cfg m).t _) (.seq ((emitG_emits cfg r).t _) (.seq ?_ .nil)))
      cases p
      · exact emits_op30 _ h
      · exact emits_op31 _ h
  | .assignOpId op c _ r => fun p =>
      emits_emitUnaryId cfg c p false keeps1_nil (keeps1_binop op (emitG_emits cfg r).t)
  | .assignOpDot op l _ r => fun p =>
      emits_emitUnaryDot cfg p false (emitG_emits cfg l).t keeps1_nil (keeps1_binop op (emitG_emits cfg r).t)
  | .assignOpIndex op l m r => fun p =>
      emits_emitUnaryIndex cfg p false (emitG_emits cfg l).t (emitG_emits cfg m).t keeps1_nil
        (keeps1_binop op (emitG_emits cfg r).t)
  | .assignLogId op c _ r => fun p =>
      emits_emitAssignLog op p (emits_emitVarRef cfg c) (emitG_emits cfg r).foldT
  | .assignLogDot op l _ r => fun p =>
      emits_emitAssignLog op p (fun h => .seq ((emitG_emits cfg l).t h) (emits_op10 ..)) (emitG_emits cfg r).t
  | .assignLogIndex op l m r => fun p =>
      emits_emitAssignLog op p
        (fun h => .seq ((emitG_emits cfg l).t h) (.seq ((emitG_emits cfg m).t _) (.seq (emits_op20 _ h) .nil)))
        (emitG_emits cfg r).t
  | .dot e _ => fun p h => .seq ((emitG_emits cfg e).t _) (.seq (emits_op11 ..) (.seq (emits_popUnless p h) .nil))
  | .index e m => fun p h =>
      .seq ((emitG_emits cfg e).t _) (.seq ((emitG_emits cfg m).t _) (.seq (emits_op21 ..) (.seq (emits_popUnless p h) .nil)))
  -- calls: callee and `this` (two values), the arguments, then `call` leaves the result
  | .callDot l _ a => fun p h =>
      .seq ((emitG_emits cfg l).t _) (.seq (emits_op12 ..) (.seq (emitArgs_emits cfg a _) (.seq (emits_call _ h)
        (.seq (emits_popUnless p h) .nil))))
  | .callIndex l m a => fun p h =>
      .seq ((emitG_emits cfg l).t _) (.seq ((emitG_emits cfg m).t _) (.seq (emits_op22 ..) (.seq (emitArgs_emits cfg a _)
        (.seq (emits_call _ h) (.seq (emits_popUnless p h) .nil)))))
  | .callId c _ a => fun p h => by
      refine .seq ?_ (.seq (emitArgs_emits cfg a (h + 2)) (.seq (emits_call _ h) (.seq (emits_popUnless p h) .nil)))
      cases c
      case global | dynBound => exact emits_push2 ..
      all_goals exact .seq (emits_push1 ..) (emits_emitIdentGet _ true _)
  | .callOther f a => fun p h =>
      .seq (emits_push1 ..) (.seq ((emitG_emits cfg f).t _) (.seq (emitArgs_emits cfg a _) (.seq (emits_call _ h)
        (.seq (emits_popUnless p h) .nil))))
  | .new f a => fun p h =>
      .seq ((emitG_emits cfg f).t _) (.seq (emitArgs_emits cfg a _) (.seq (emits_new _ h) (.seq (emits_popUnless p h) .nil)))
  | .array els => fun p h => .seq (emits_push1 ..) (.seq (emitElems_emits cfg els h) (.seq (emits_popUnless p h) .nil))
  | .object ps => fun p h => .seq (emits_push1 ..) (.seq (emitProps_emits cfg ps h) (.seq (emits_popUnless p h) .nil))
  | .template head first rest tail => fun p h =>
      .seq (emits_onlyIf head (emits_push1 ..)) (.seq ((emitG_emits cfg first).t _) (.seq (emits_op11 ..)
        (.seq (emitQuasis_emits cfg rest _) (.seq (emits_onlyIf tail (emits_push1 ..))
          (.seq ((emits_concat _ h).cast (by cases head <;> cases tail <;> simp <;> omega) rfl)
            (.seq (emits_popUnless p h) .nil))))))
theorem emitArgs_emits (cfg : Cfg) : (a : Args) → ∀ h, Emits (emitArgs cfg a) h (h + argsLen a)
  | .nil => fun _ => .nil
  | .cons e rest => fun h =>
      .seq ((emitG_emits cfg e).t h) ((emitArgs_emits cfg rest (h + 1)).cast rfl (Nat.add_right_comm ..))
theorem emitElems_emits (cfg : Cfg) : (els : Elems) → ∀ h, Emits (emitElems cfg els) (h + 1) (h + 1)
  | .nil => fun _ => .nil
  | .hole rest => fun h => .seq (emits_push1 ..) (.seq (emits_op21 ..) (.seq (emitElems_emits cfg rest h) .nil))
  | .cons e rest => fun h =>
      .seq ((emitG_emits cfg e).foldT _) (.seq (emits_op21 ..) (.seq (emitElems_emits cfg rest h) .nil))
theorem emitProps_emits (cfg : Cfg) : (ps : Props) → ∀ h, Emits (emitProps cfg ps) (h + 1) (h + 1)
  | .nil => fun _ => .nil
  | .keyed _ v rest => fun h =>
      .seq ((emitG_emits cfg v).foldT _) (.seq (emits_op21 ..) (.seq (emitProps_emits cfg rest h) .nil))
  | .computed k v rest => fun h => by
      show Emits (if foldsToKey k then _ else _) _ _
      split
      · exact .seq ((emitG_emits cfg v).foldT _) (.seq (emits_op21 ..) (.seq (emitProps_emits cfg rest h) .nil))
      · exact .seq ((emitG_emits cfg k).t _) (.seq (emits_op11 ..) (.seq ((emitG_emits cfg v).foldT _) (.seq (emits_op31 ..)
          (.seq (emitProps_emits cfg rest h) .nil))))
theorem emitQuasis_emits (cfg : Cfg) : (q : Quasis) → ∀ h, Emits (emitQuasis cfg q) h (h + quasisCount q)
  | .nil => fun _ => .nil
  | .cons ne e rest => fun h =>
      .seq (emits_onlyIf ne (emits_push1 ..)) (.seq ((emitG_emits cfg e).t _) (.seq (emits_op11 ..)
        (.seq ((emitQuasis_emits cfg rest _).cast rfl (by cases ne <;> simp [quasisCount] <;> omega)) .nil)))
end

theorem emitArgs_ht (cfg : Cfg) : (a : Args) → ∀ h, HasHt (emitArgs cfg a) h (h + argsLen a) :=
  fun a h => (emitArgs_emits cfg a h).ht
theorem emitElems_ht (cfg : Cfg) : (els : Elems) → ∀ h, HasHt (emitElems cfg els) (h + 1) (h + 1) :=
  fun els h => (emitElems_emits cfg els h).ht
theorem emitProps_ht (cfg : Cfg) : (ps : Props) → ∀ h, HasHt (emitProps cfg ps) (h + 1) (h + 1) :=
  fun ps h => (emitProps_emits cfg ps h).ht
theorem emitQuasis_ht (cfg : Cfg) : (q : Quasis) → ∀ h, HasHt (emitQuasis cfg q) h (h + quasisCount q) :=
  fun q h => (emitQuasis_emits cfg q h).ht

theorem noRet_popUnless (p : Bool) : (popUnless p).noRet = true := (emits_popUnless p 0).noRet

theorem emitG_noRet (cfg : Cfg) : (e : Expr) → ∀ p, (emitG cfg e p).noRet = true :=
  fun e p => (emitG_emits cfg e p 0).noRet
theorem emitArgs_noRet (cfg : Cfg) : (a : Args) → (emitArgs cfg a).noRet = true :=
  fun a => (emitArgs_emits cfg a 0).noRet
theorem emitElems_noRet (cfg : Cfg) : (els : Elems) → (emitElems cfg els).noRet = true :=
  fun els => (emitElems_emits cfg els 0).noRet
theorem emitProps_noRet (cfg : Cfg) : (ps : Props) → (emitProps cfg ps).noRet = true :=
  fun ps => (emitProps_emits cfg ps 0).noRet
theorem emitQuasis_noRet (cfg : Cfg) : (q : Quasis) → (emitQuasis cfg q).noRet = true :=
  fun q => (emitQuasis_emits cfg q 0).noRet

end GojaModel.C01
