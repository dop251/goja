import GojaModel.C01.Model
/-!
  C01 (a): the relational height judgement `HasHt` for structured code and its soundness w.r.t. the executable `Code.height`.
-/
namespace GojaModel.C01

/-- `HasHt c h k`: if control enters `c` with `h` operands above the entry height then no instruction of `c`
underflows, all joining paths agree, and if control leaves `c` at its end it does so with `k` operands. -/
inductive HasHt : Code → Nat → Nat → Prop
  | nil {h} : HasHt .nil h h
  | ins {i : Instr} {h} : i.need ≤ h → i.pops ≤ i.need → i.term = false → HasHt (.ins i) h (h - i.pops + i.pushes)
  | term {i : Instr} {h k} : i.need ≤ h → i.pops ≤ i.need → i.term = true → HasHt (.ins i) h k
  | seq {a b h k1 k2} : HasHt a h k1 → HasHt b k1 k2 → HasHt (.seq a b) h k2
  | fwd {j : JKind} {body h} : j.need ≤ h → j.popJump ≤ j.need → j.popFall ≤ j.need →
      HasHt body (h - j.popFall) (h - j.popJump) → HasHt (.fwd j body) h (h - j.popJump)
  | ifElse {j : JKind} {a b h k} : j.need ≤ h → j.popJump ≤ j.need → j.popFall ≤ j.need →
      HasHt a (h - j.popFall) k → HasHt b (h - j.popJump) k → HasHt (.ifElse j a b) h k
  | loop {j : JKind} {pre body h k1} : HasHt pre h k1 → j.need ≤ k1 → j.popJump ≤ j.need → j.popFall ≤ j.need →
      HasHt body (k1 - j.popFall) h → HasHt (.loop j pre body) h (k1 - j.popJump)
  | forever {body h k} : HasHt body h h → HasHt (.forever body) h k
  | doLoop {j : JKind} {body h k1} : HasHt body h k1 → j.need ≤ k1 → j.popJump ≤ j.need → j.popFall ≤ j.need →
      k1 - j.popJump = h → HasHt (.doLoop j body) h (k1 - j.popFall)

def Post (r : Option Ht) (k : Nat) : Prop := r = some .dead ∨ r = some (.live k)

theorem height_dead (c : Code) : c.height .dead = some .dead := by
  induction c with
  | nil => rfl
  | ins i => rfl
  | seq a b iha ihb => simp [Code.height, iha, ihb]
  | fwd j body _ => rfl
  | ifElse j a b _ _ => rfl
  | loop j pre body _ _ => rfl
  | forever body _ => rfl
  | doLoop j body _ => rfl

theorem Post.bind {r : Option Ht} {f : Ht → Option Ht} {k k' : Nat} (hr : Post r k) (hd : f .dead = some .dead)
    (hl : Post (f (.live k)) k') : Post (r.bind f) k' := by
  rcases hr with rfl | rfl
  · exact .inl hd
  · exact hl

theorem Post.join {ra rb : Option Ht} {k : Nat} (ha : Post ra k) (hb : Post rb k) :
    Post (ra.bind fun a => rb.bind fun b => a.join b) k := by
  rcases ha with rfl | rfl <;> rcases hb with rfl | rfl <;> simp [Ht.join, Post]

theorem HasHt.sound {c h k} (hh : HasHt c h k) : Post (c.height (.live h)) k := by
  induction hh with
  | nil => exact Or.inr rfl
  | ins h1 h2 h3 => right; simp [Code.height, h1, h2, h3]
  | term h1 h2 h3 => left; simp [Code.height, h1, h2, h3]
  | seq _ _ iha ihb => exact iha.bind (height_dead _) ihb
  | @fwd j body h h1 h2 h3 _ ih =>
    simp only [Code.height, h1, h2, h3, and_self, if_true]
    exact ih.join (.inr rfl)
  | @ifElse j a b h k h1 h2 h3 _ _ iha ihb =>
    simp only [Code.height, h1, h2, h3, and_self, if_true]
    exact iha.join ihb
  | @loop j pre body h k1 _ h1 h2 h3 _ iha ihb =>
    rcases iha with ha | ha
    · left; simp [Code.height, ha]
    · right; rcases ihb with hb | hb <;> simp [Code.height, ha, hb, h1, h2, h3]
  | @forever body h k _ ih =>
    left; rcases ih with hb | hb <;> simp [Code.height, hb]
  | @doLoop j body h k1 _ h1 h2 h3 h4 ih =>
    rcases ih with hb | hb
    · left; simp [Code.height, hb]
    · right; simp [Code.height, hb, h1, h2, h3, h4]

end GojaModel.C01
