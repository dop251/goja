import GojaModel.C01.Model
import GojaModel.Generated.C01_StackEffects
import GojaModel.Generated.C01_PanicKinds
import GojaModel.Generated.C01_Scope
import GojaModel.Generated.C01_Stmt
import GojaModel.C01.Scope
/-!
  C01 tie: the facts regenerated from /repo on this run (Generated/C01_*.lean) against what the model assumes.
  A failing theorem here names the method / classifier whose Go source changed; `modelOps_agree`, `jumps_agree` and
  `dyn_covered` each compare a whole table and do not say which of its instructions.
-/
namespace GojaModel.C01.Tie
open GojaModel.C01

/-- does a fixed-effect model instruction agree with a regenerated effect? (single fall-through path,
constant need and delta) -/
def agrees (i : Instr) (e : Eff) : Bool :=
  match e with
  | .paths need [⟨.next, sp⟩] =>
      need.coeff == 0 && need.const == (i.need : Int) && sp.coeff == 0 && sp.const == (i.pushes : Int) - i.pops && !i.term
  | .paths need [] => need.coeff == 0 && i.term && need.const ≤ (i.need : Int)
  | _ => false

/-- every instruction of `emitG` / `emitS` whose goja type has a regenerated effect with constant need and delta, paired
with that effect (several goja types per canonical name where the compiler patches variants).  Not here: the operand-dependent
ones (`tie_new` … `tie_concatStrings` below; `call` is hand-written), and `loadMixed`, `call`, `_throw`, `_ret`, whose nodes are
hand-written (`handNode`) and are compared with their `Instr` by no theorem.  Of what `emit2` adds, `_loadResult` (`retUnwind`)
is not listed. -/
def modelOps : List (Instr × Eff) := [
  (iLoadVal, Gen.eff_loadVal), (iLoadUndef, Gen.eff_UloadUndef), (iPop, Gen.eff_Upop), (iDup, Gen.eff_Udup),
  (push1 "loadStack", Gen.eff_loadStack), (push1 "loadStack", Gen.eff_loadStack1), (push1 "loadStack", Gen.eff_loadStash),
  (push1 "loadStackLex", Gen.eff_loadStackLex), (push1 "loadStackLex", Gen.eff_loadStack1Lex),
  (push1 "loadStackLex", Gen.eff_loadStashLex),
  (push1 "loadDynamic", Gen.eff_loadDynamic), (push1 "loadDynamicRef", Gen.eff_loadDynamicRef),
  (⟨"loadDynamicCallee", 0, 0, 0, 2, false⟩, Gen.eff_loadDynamicCallee),
  (push1 "deleteVar", Gen.eff_deleteVar), (push1 "_getValue", Gen.eff_UgetValue),
  (push1 "newArray", Gen.eff_newArray), (push1 "_newObject", Gen.eff_UnewObject), (push1 "_loadNil", Gen.eff_UloadNil),
  (iKeep1 "storeStack", Gen.eff_storeStack), (iKeep1 "storeStack", Gen.eff_storeStack1), (iKeep1 "storeStack", Gen.eff_storeStash),
  (iKeep1 "storeStackLex", Gen.eff_storeStackLex), (iKeep1 "storeStackLex", Gen.eff_storeStack1Lex),
  (iKeep1 "storeStackLex", Gen.eff_storeStashLex),
  (⟨"storeStackP", 0, 1, 1, 0, false⟩, Gen.eff_storeStackP), (⟨"storeStackP", 0, 1, 1, 0, false⟩, Gen.eff_storeStack1P),
  (⟨"storeStackP", 0, 1, 1, 0, false⟩, Gen.eff_storeStashP),
  (⟨"storeStackLexP", 0, 1, 1, 0, false⟩, Gen.eff_storeStackLexP), (⟨"storeStackLexP", 0, 1, 1, 0, false⟩, Gen.eff_storeStack1LexP),
  (⟨"storeStackLexP", 0, 1, 1, 0, false⟩, Gen.eff_storeStashLexP),
  (iKeep1 "_putValue", Gen.eff_UputValue), (⟨"_putValueP", 0, 1, 1, 0, false⟩, Gen.eff_UputValueP),
  (op00 "_popRef", Gen.eff_UpopRef), (op00 "resolveVar1", Gen.eff_resolveVar1), (op00 "resolveVar1Strict", Gen.eff_resolveVar1Strict),
  (op00 "resolveMixed", Gen.eff_resolveMixed), (op00 "resolveMixed", Gen.eff_resolveMixedStack),
  (op00 "resolveMixed", Gen.eff_resolveMixedStack1),
  (iThrowAssignToConst, Gen.eff_UthrowAssignToConst),
  (op11 "_neg", Gen.eff_Uneg), (op11 "_plus", Gen.eff_Uplus), (op11 "_not", Gen.eff_Unot), (op11 "_bnot", Gen.eff_Ubnot),
  (op11 "_typeof", Gen.eff_Utypeof), (op11 "_inc", Gen.eff_Uinc), (op11 "_dec", Gen.eff_Udec),
  (op11 "_toNumber", Gen.eff_UtoNumber), (op11 "_toString", Gen.eff_UtoString), (op11 "_toPropertyKey", Gen.eff_UtoPropertyKey),
  (op11 "getProp", Gen.eff_getProp), (op12 "getPropCallee", Gen.eff_getPropCallee),
  (op11 "deleteProp", Gen.eff_deleteProp), (op11 "deletePropStrict", Gen.eff_deletePropStrict),
  (op21 "_getElem", Gen.eff_UgetElem), (op22 "_getElemCallee", Gen.eff_UgetElemCallee),
  (op21 "_deleteElem", Gen.eff_UdeleteElem), (op21 "_deleteElemStrict", Gen.eff_UdeleteElemStrict),
  (op21 "setProp", Gen.eff_setProp), (op21 "setPropStrict", Gen.eff_setPropStrict),
  (op20 "setPropP", Gen.eff_setPropP), (op20 "setPropStrictP", Gen.eff_setPropStrictP),
  (op31 "_setElem", Gen.eff_UsetElem), (op31 "_setElemStrict", Gen.eff_UsetElemStrict),
  (op30 "_setElemP", Gen.eff_UsetElemP), (op30 "_setElemStrictP", Gen.eff_UsetElemStrictP),
  (op31 "_setElem1", Gen.eff_UsetElem1), (op21 "putProp", Gen.eff_putProp), (op21 "_pushArrayItem", Gen.eff_UpushArrayItem),
  (⟨"getPropRef", 0, 1, 1, 0, false⟩, Gen.eff_getPropRef), (⟨"getPropRefStrict", 0, 1, 1, 0, false⟩, Gen.eff_getPropRefStrict),
  (⟨"_getElemRef", 0, 2, 2, 0, false⟩, Gen.eff_UgetElemRef), (⟨"_getElemRefStrict", 0, 2, 2, 0, false⟩, Gen.eff_UgetElemRefStrict),
  (op21 "_add", Gen.eff_Uadd), (op21 "_sub", Gen.eff_Usub), (op21 "_mul", Gen.eff_Umul), (op21 "_div", Gen.eff_Udiv),
  (op21 "_mod", Gen.eff_Umod), (op21 "_exp", Gen.eff_Uexp), (op21 "_and", Gen.eff_Uand), (op21 "_or", Gen.eff_Uor),
  (op21 "_xor", Gen.eff_Uxor), (op21 "_sal", Gen.eff_Usal), (op21 "_sar", Gen.eff_Usar), (op21 "_shr", Gen.eff_Ushr),
  (op21 "_op_lt", Gen.eff_UopUlt), (op21 "_op_gt", Gen.eff_UopUgt), (op21 "_op_lte", Gen.eff_UopUlte),
  (op21 "_op_gte", Gen.eff_UopUgte), (op21 "_op_eq", Gen.eff_UopUeq), (op21 "_op_neq", Gen.eff_UopUneq),
  (op21 "_op_strict_eq", Gen.eff_UopUstrictUeq), (op21 "_op_strict_neq", Gen.eff_UopUstrictUneq),
  (op21 "_op_instanceof", Gen.eff_UopUinstanceof), (op21 "_op_in", Gen.eff_UopUin),
  (iSaveResult, Gen.eff_UsaveResult), (iClearResult, Gen.eff_UclearResult), (iInitValueP, Gen.eff_UinitValueP),
  (iInitStackP, Gen.eff_initStackP), (iInitStackP, Gen.eff_initStack1P), (iInitStackP, Gen.eff_initStashP)]

/-- the operand-stack effect of every fixed-effect instruction the emitter model uses equals the effect
regenerated from its `exec` method in vm.go. -/
theorem modelOps_agree : modelOps.all (fun x => agrees x.1 x.2) = true := by decide +kernel

/-- operand-dependent instructions, symbolically (operand `n`). -/
theorem tie_new : Gen.eff_Unew = .paths ⟨1, "n", 1⟩ [⟨.next, ⟨-1, "n", 0⟩⟩] := rfl
theorem tie_rdupN : Gen.eff_rdupN = .paths ⟨1, "n", 1⟩ [⟨.next, ⟨0, "", 0⟩⟩] := rfl
theorem tie_dupLast : Gen.eff_dupLast = .paths ⟨1, "n", 0⟩ [⟨.next, ⟨1, "n", 0⟩⟩] := rfl
theorem tie_concatStrings : Gen.eff_concatStrings = .paths ⟨1, "n", 0⟩ [⟨.next, ⟨-1, "n", 1⟩⟩] := rfl

/-- the model's `iNew n` is the instance of the symbolic form of `new`, for every n -/
theorem new_instance (n : Nat) :
    plainNode ((⟨1, "n", 1⟩ : LinE).eval [("n", n)]) [((⟨.next, ⟨-1, "n", 0⟩⟩ : PathE).edge [("n", n)])] = (iNew n).node := by
  simp [plainNode, LinE.eval, PathE.edge, lookupOp, List.lookup, iNew, Instr.node]
  omega

/-- conditional jumps: regenerated path sets = the `JKind`s of the model. -/
def jAgrees (j : JKind) (e : Eff) : Bool :=
  e == .paths ⟨0, "", (j.need : Int)⟩ [⟨.jumpOp "n", ⟨0, "", -(j.popJump : Int)⟩⟩, ⟨.next, ⟨0, "", -(j.popFall : Int)⟩⟩]

theorem jumps_agree :
    jAgrees jneP Gen.eff_jneP && jAgrees jeqP Gen.eff_jeqP && jAgrees jcoalescP Gen.eff_jcoalescP &&
    jAgrees jne Gen.eff_jne && jAgrees jeq Gen.eff_jeq && jAgrees jcoalesc Gen.eff_jcoalesc &&
    (Gen.eff_jump == .paths ⟨0, "", 0⟩ [⟨.jumpOp "n", ⟨0, "", 0⟩⟩]) = true := by decide

/-- every instruction the extractor could not summarise has a hand-written effect. -/
theorem dyn_covered : Gen.dynNames.all (fun n => handNames.contains n) = true := by decide +kernel

/-- `binding.emitSetP` pops the ignored value of a sloppy const assignment (fix 5a4962f) — what
`emitBindingSet` transcribes. -/
theorem emitSetP_pops : Gen.setPPopsSloppyConst = true := rfl

/-- `enterFinally` disarms both the finally and the catch position of the frame (fix 379f30d) — what the
machine's `enterFinally` step transcribes. -/
theorem enterFinally_clears : Gen.enterFinallyClears = ["catchPos", "finallyPos"] := rfl

/-- `scope.hasStash` as it is in compiler.go (translated statement by statement by the extractor) is the decision
function the scope model reasons about — for all 512 flag combinations. -/
theorem hasStash_decision : ∀ a b c d e f g h i : Bool,
    Gen.hasStashGen a b c d e f g h i = Scope.hasStashD a b c d e f g h i := by decide +kernel

/-- the level loops of finaliseVarAlloc count exactly `hasStash()`, and the run-time side creates stashes under the
conditions `Scope.createsStash` transcribes (enterBlock, enterFuncBody, function entry selection, class initialiser,
updateEnterBlock's stash size). -/
theorem scope_runtime_side :
    Gen.levelLoopConds = ["sc.hasStash()", "sc.hasStash()"] ∧
    Gen.enterBlockStashCond = "e.stashSize>0" ∧
    Gen.enterFuncBodyStashCond = "e.stashSize>0||e.extensible||e.dynLookup" ∧
    Gen.funcEnterStashCond = "stashSize>0||s.argsInStash" ∧
    Gen.clsInitEnterStashCond = "stashSize>0" ∧
    Gen.updateEnterBlockShape = "dynLookup:len(scope.bindings);else:count(b.inStash)" := ⟨rfl, rfl, rfl, rfl, rfl, rfl⟩

/-- the places of vm.go that address the operand stack relative to the frame base beyond `stack[sb]` (this) and
`stack[sb-1]` (callee) are exactly the slot instructions of `slotLoads` / `slotStores` (`loadMixedStack…` and
`resolveMixedStack…` delegate to these), with the index expressions `slotNeed` transcribes: `sb + args + l` resp.
`sb + l` for `l > 0`, and the argument forms `sb + arg` / `sb - s` for `l ≤ 0` (not modelled: arguments are not counted in
the normalised frame). -/
theorem slot_access_sites :
    Gen.slotAccessSites = ["loadStack.exec:vm.sb+vm.args+int(l)", "loadStack1.exec:vm.sb+int(l)",
      "loadStack1Lex.exec:vm.sb+int(l)", "loadStackLex.exec:vm.sb+arg", "loadStackLex.exec:vm.sb+vm.args+int(l)",
      "vm.initStack1:vm.sb+s", "vm.initStack:vm.sb+vm.args+s", "vm.initStack:vm.sb-s", "vm.storeStack1:vm.sb+s",
      "vm.storeStack1Lex:vm.sb+s", "vm.storeStack:vm.sb+vm.args+s", "vm.storeStackLex:vm.sb+vm.args+s",
      "vm.storeStackLex:vm.sb-s"] := rfl

/-- the statement compiler (compiler_stmt.go) as the emitter model `emitS`/`emitList` transcribes it: for each
method, its decision structure (conditions, loops, gotos) with, in source order, the calls that emit code or compile a
sub-statement — regenerated on every run; bookkeeping statements are not part of the skeleton, and neither are the
sub-trees guarded by conditions that belong to constructs outside the model (break/continue bookkeeping, function and
lexical declarations, per-iteration bindings, the try / for-in/of unwinding of `return`, class constructors:
`c01outsideFragment` in extract/c01.go), so that an edit there does not raise an alarm here.  A failing theorem names
the method whose emission logic changed (then `emitS` and `corr:emit-statements-bytecode-exact` must follow). -/
theorem stmt_skel_compileExpressionStatement : Gen.skel_compileExpressionStatement =
    "c.emitExpr(c.compileExpression(v.Expression),needResult);if(needResult){c.emit(saveResult);}" := rfl
theorem stmt_skel_compileEmptyStatement : Gen.skel_compileEmptyStatement =
    "if(needResult){c.emit(clearResult);}" := rfl
theorem stmt_skel_compileIfStatement : Gen.skel_compileIfStatement =
    "if(needResult){c.emit(clearResult);}if(test.constant()){if(ex!=nil){c.emitThrow(ex.val);return;}if(r.ToBoolean()){c.compileIfBody(v.Consequent,needResult);if(v.Alternate!=nil){c.compileIfBodyDummy(v.Alternate);}}else{c.compileIfBodyDummy(v.Consequent);if(v.Alternate!=nil){c.compileIfBody(v.Alternate,needResult);}else{if(needResult){c.emit(clearResult);}}}return;}test.emitGetter(true);c.emit(nil);c.compileIfBody(v.Consequent,needResult);if(v.Alternate!=nil){c.emit(nil);patch jneP(len(c.p.code)-jmp);c.compileIfBody(v.Alternate,needResult);patch jump(len(c.p.code)-jmp1);}else{if(needResult){c.emit(jump(2));patch jneP(len(c.p.code)-jmp);c.emit(clearResult);}else{patch jneP(len(c.p.code)-jmp);}}" := rfl
theorem stmt_skel_compileIfBody : Gen.skel_compileIfBody =
    "c.compileStatement(s,needResult);" := rfl
theorem stmt_skel_compileLabeledWhileStatement : Gen.skel_compileLabeledWhileStatement =
    "if(needResult){c.emit(clearResult);}set testTrue=false;if(expr.constant()){if(ex==nil){if(t.ToBoolean()){set testTrue=true;}else{c.compileStatementDummy(v.Body);goto end;}}else{c.emitThrow(ex.val);goto end;}}else{expr.emitGetter(true);c.emit(nil);}if(needResult){c.emit(clearResult);}c.compileStatement(v.Body,needResult);c.emit(jump(start-len(c.p.code)));if(!testTrue){patch jneP(len(c.p.code)-j);}end:" := rfl
theorem stmt_skel_compileLabeledDoWhileStatement : Gen.skel_compileLabeledDoWhileStatement =
    "if(needResult){c.emit(clearResult);}c.compileStatement(v.Body,needResult);c.emitExpr(c.compileExpression(v.Test),true);c.emit(jeqP(start-len(c.p.code)));" := rfl
theorem stmt_skel_compileLabeledForStatement : Gen.skel_compileLabeledForStatement =
    "typeswitch{case(*ast.ForLoopInitializerVarDeclList){range(init.List){c.compileVarBinding(expr);}}case(*ast.ForLoopInitializerExpression){c.compileExpression(init.Expression).emitGetter(false);}}if(needResult){c.emit(clearResult);}set testConst=false;if(v.Test!=nil){if(expr.constant()){if(ex==nil){if(r.ToBoolean()){set testConst=true;}else{c.enterDummyMode();c.compileStatement(v.Body,false);if(v.Update!=nil){c.compileExpression(v.Update).emitGetter(false);}leave();goto end;}}else{c.emitThrow(ex.val);goto end;}}else{expr.emitGetter(true);c.emit(nil);}}if(needResult){c.emit(clearResult);}c.compileStatement(v.Body,needResult);if(v.Update!=nil){c.compileExpression(v.Update).emitGetter(false);}c.emit(jump(start-len(c.p.code)));if(v.Test!=nil){if(!testConst){patch jneP(len(c.p.code)-j);}}end:" := rfl
theorem stmt_skel_compileReturnStatement : Gen.skel_compileReturnStatement =
    "if(v.Argument!=nil){c.emitExpr(c.compileExpression(v.Argument),true);}else{c.emit(loadUndef);}for{switch{case(blockTry){c.emit(saveResult,leaveTry{},loadResult);}}}c.emit(ret);" := rfl
theorem stmt_skel_compileThrowStatement : Gen.skel_compileThrowStatement =
    "c.compileExpression(v.Argument).emitGetter(true);c.emit(throw);" := rfl
theorem stmt_skel_emitVarAssign : Gen.skel_emitVarAssign =
    "if(init!=nil){if(noDyn){c.emitNamedOrConst(init,name);b.emitInitP();}else{c.emitVarRef(name,offset,b);c.emitNamedOrConst(init,name);c.emit(initValueP);}}" := rfl
theorem stmt_skel_compileStatements : Gen.skel_compileStatements =
    "if(needResult){c.compileStatementsNeedResult(list,lastProducingIdx);return;}range(list){c.compileStatement(st,false);}" := rfl
theorem stmt_skel_compileStatementsNeedResult : Gen.skel_compileStatementsNeedResult =
    "if(lastProducingIdx>=0){range(<*ast.SliceExpr>){c.compileStatement(st,containsBranch(st));}c.compileStatement(list[lastProducingIdx],true);}range(<*ast.SliceExpr>){c.compileStatement(st,false);}" := rfl
theorem stmt_skel_scanStatements : Gen.skel_scanStatements =
    "set lastProducingIdx=-1;range(list){if(!c.isEmptyResult(st)){set lastProducingIdx=i;}}return;" := rfl

/-- the methods behind the `break` / `continue` / `try` model (Stmt2.lean): the try layout with the
`needResult` rule of a finally block that ends in a branch (of the catch clause only the
parameter-less arm is in the skeleton; the arm with a parameter, which Stmt2 models for an identifier kept on the stack, is not),
the block exit code for try blocks, the two placeholders, and `leaveBlock`'s patching. -/
theorem stmt_skel_compileTryStatement : Gen.skel_compileTryStatement =
    "if(finallyBreaking!=nil){if(lp==-1){set bodyNeedResult=finallyBreaking.needResult;}}else{set bodyNeedResult=needResult;}c.emit(nil);if(needResult){c.emit(clearResult);}c.compileBlockStatement(v.Body,bodyNeedResult);if(v.Catch!=nil){c.emit(nil);else(v.Catch.Parameter!=nil){c.emit(pop);c.compileBlockStatement(v.Catch.Body,bodyNeedResult);}patch jump(len(c.p.code)-lbl2);}if(v.Finally!=nil){c.emit(enterFinally{});if(bodyNeedResult&&finallyBreaking!=nil&&lp==-1){c.emit(clearResult);}c.compileBlockStatement(v.Finally,false);c.emit(leaveFinally{});}else{c.emit(leaveTry{});}patch try{catchOffset,finallyOffset};" := rfl
theorem stmt_skel_emitBlockExitCode : Gen.skel_emitBlockExitCode =
    "if(block==nil){c.throwSyntaxError(int(idx)-1,\"Could not find block\");}L:for{switch{case(blockTry){c.emit(leaveTry{});}}}return;" := rfl
theorem stmt_skel_compileBreak : Gen.skel_compileBreak =
    "c.emit(nil);" := rfl
theorem stmt_skel_compileContinue : Gen.skel_compileContinue =
    "c.emit(nil);" := rfl
theorem stmt_skel_leaveBlock : Gen.skel_leaveBlock =
    "range(c.block.breaks){patch jump(lbl-item);}if(t==blockLoop||t==blockLoopEnum){range(c.block.conts){patch jump(c.block.cont-item);}}" := rfl

/-- which statements have an empty result (`isEmptyResult`, compiler_stmt.go:881): the case list behind
`Stmt.emptyResult`, and "everything else produces a value" (no default clause, final `return false`). -/
theorem isEmptyResult_cases :
    Gen.isEmptyResultCases = ["*ast.EmptyStatement", "*ast.VariableStatement", "*ast.LexicalDeclaration",
      "*ast.FunctionDeclaration", "*ast.ClassDeclaration", "*ast.BranchStatement", "*ast.DebuggerStatement",
      "*ast.LabelledStatement", "*ast.BlockStatement"] ∧ Gen.isEmptyResultHasDefault = false := ⟨rfl, rfl⟩

/-- the classifier's case lists. -/
theorem exceptionFromValue_cases :
    Gen.exceptionFromValueCases = ["*Object", "Value", "*Exception", "typeError", "referenceError", "rangeError", "syntaxError"]
    ∧ Gen.exceptionFromValueDefaultNil = true := ⟨rfl, rfl⟩

theorem asUncatchable_cases :
    Gen.asUncatchableCases = ["uncatchableException", "error"] ∧ Gen.asUncatchableHasDefault = false
    ∧ Gen.uncatchableTypes = ["InterruptedError", "StackOverflowError"] := ⟨rfl, rfl, rfl⟩

theorem recover_sites :
    Gen.recover_RunProgram = (["asUncatchableException"], true) ∧ Gen.recover_runWrapped = (["asUncatchableException"], true)
    ∧ Gen.recover_compileAST = (["case *CompilerSyntaxError"], true) ∧ Gen.handleThrowRepanicsUnknown = true := ⟨rfl, rfl, rfl, rfl⟩

end GojaModel.C01.Tie
