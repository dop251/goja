import GojaModel.C01.Height
/-!
  C01 (a)↔(b): the structured height judgement `HasHt` is sound for the FLAT code the compiler lays out
  (`Code.flat`, relative jump offsets) executed by the abstract machine of part (b): `flat_sound`, for the nodes of
  `c.flat` sitting at `[lo, lo + c.len)` of ANY code.  The induction over `HasHt` (`flat_safe`) is in continuation form, for
  a fixed window of the code and "safe for `n` steps" (`SafeN`): the entry state of a fragment inside the window is safe for
  as many steps as its exit state.  Sequencing is then composition, a jump is one step to the entry of a part or to the
  exit, and a loop is an induction on `n`.
-/
namespace GojaModel.C01

def Code.nodes (c : Code) : List Node := c.flat.map (fun x => x.2.2)

theorem Code.flat_length (c : Code) : c.flat.length = c.len := by
  induction c with
  | nil => rfl
  | ins i => rfl
  | seq a b iha ihb => simp only [Code.flat, Code.len, List.length_append, iha, ihb]
  | fwd j body ih => simp only [Code.flat, Code.len, List.length_cons, ih]; omega
  | ifElse j a b iha ihb => simp only [Code.flat, Code.len, List.length_cons, List.length_append, iha, ihb]; omega
  | loop j pre body iha ihb =>
    simp only [Code.flat, Code.len, List.length_cons, List.length_append, List.length_nil, iha, ihb]; omega
  | forever body ih => simp only [Code.flat, Code.len, List.length_cons, List.length_append, List.length_nil, ih]
  | doLoop j body ih => simp only [Code.flat, Code.len, List.length_cons, List.length_append, List.length_nil, ih]

theorem Code.nodes_length (c : Code) : c.nodes.length = c.len := by
  rw [Code.nodes, List.length_map, Code.flat_length]

theorem Code.nodes_seq (a b : Code) : (Code.seq a b).nodes = a.nodes ++ b.nodes := by
  simp [Code.nodes, Code.flat]

theorem Code.nodes_fwd (j : JKind) (body : Code) :
    (Code.fwd j body).nodes = j.node (body.len + 1) :: body.nodes := by
  simp [Code.nodes, Code.flat]

theorem Code.nodes_ifElse (j : JKind) (a b : Code) :
    (Code.ifElse j a b).nodes = j.node (a.len + 2) :: (a.nodes ++ jumpNode (b.len + 1) :: b.nodes) := by
  simp [Code.nodes, Code.flat]

theorem Code.nodes_loop (j : JKind) (pre body : Code) :
    (Code.loop j pre body).nodes =
      pre.nodes ++ (j.node (body.len + 2) :: (body.nodes ++ [jumpBackNode (pre.len + 1 + body.len)])) := by
  simp [Code.nodes, Code.flat]

theorem Code.nodes_forever (body : Code) : (Code.forever body).nodes = body.nodes ++ [jumpBackNode body.len] := by
  simp [Code.nodes, Code.flat]

theorem Code.nodes_doLoop (j : JKind) (body : Code) : (Code.doLoop j body).nodes = body.nodes ++ [j.nodeBack body.len] := by
  simp [Code.nodes, Code.flat]

/-- the fragment `ns` sits at offset `lo` of `code` -/
def Placed (code : List Node) (lo : Nat) (ns : List Node) : Prop :=
  ∀ i (n : Node), ns[i]? = some n → code[lo + i]? = some n

theorem Placed.left {code lo} {a b : List Node} (h : Placed code lo (a ++ b)) : Placed code lo a := by
  intro i n hi
  apply h
  have hlt : i < a.length := (List.getElem?_eq_some_iff.mp hi).1
  rw [List.getElem?_append_left hlt]
  exact hi

theorem Placed.right {code lo} {a : Code} {b : List Node} (h : Placed code lo (a.nodes ++ b)) : Placed code (lo + a.len) b := by
  intro i n hi
  have := h (a.len + i) n (by rw [List.getElem?_append_right (by rw [a.nodes_length]; omega), a.nodes_length]; simpa using hi)
  rw [← Nat.add_assoc] at this
  exact this

theorem Placed.tail {code lo} {x : Node} {a : List Node} (h : Placed code lo (x :: a)) : Placed code (lo + 1) a := by
  intro i n hi
  have := h (i + 1) n (by simpa using hi)
  rw [show lo + (i + 1) = lo + 1 + i by omega] at this
  exact this

theorem Placed.head {code lo} {x : Node} {a : List Node} (h : Placed code lo (x :: a)) : code[lo]? = some x := by
  have := h 0 x (by simp)
  simpa using this

/-- the fragment `ns` sits at offset `lo` of `code`, inside the window `[LO, HI)` -/
structure Sits (code : List Node) (LO HI lo : Nat) (ns : List Node) : Prop where
  placed : Placed code lo ns
  lo_le : LO ≤ lo
  le_hi : lo + ns.length ≤ HI

namespace Sits
variable {code : List Node} {LO HI lo : Nat}

theorem left {a b : List Node} (h : Sits code LO HI lo (a ++ b)) : Sits code LO HI lo a :=
  ⟨h.placed.left, h.lo_le, by have := h.le_hi; rw [List.length_append] at this; omega⟩

theorem right {a : Code} {b : List Node} (h : Sits code LO HI lo (a.nodes ++ b)) : Sits code LO HI (lo + a.len) b :=
  ⟨h.placed.right, by have := h.lo_le; omega, by have := h.le_hi; rw [List.length_append, a.nodes_length] at this; omega⟩

theorem tail {x : Node} {a : List Node} (h : Sits code LO HI lo (x :: a)) : Sits code LO HI (lo + 1) a :=
  ⟨h.placed.tail, by have := h.lo_le; omega, by have := h.le_hi; rw [List.length_cons] at this; omega⟩

end Sits

/-- runs by `stepNormal` only (no throw edge of `succs`), every step taken from a pc in `[lo, hi)` -/
inductive RunIn (code : List Node) (lo hi : Nat) : St → St → Prop
  | refl {s} : RunIn code lo hi s s
  | step {s t u} : RunIn code lo hi s t → lo ≤ t.pc → t.pc < hi → u ∈ stepNormal code t → RunIn code lo hi s u

/-- `h` only records the entry height: no field mentions it. -/
structure Within (code : List Node) (lo len h k : Nat) (vs : List Nat) (fs : List Frame) (t : St) : Prop where
  lo_le : lo ≤ t.pc
  le_hi : t.pc ≤ lo + len
  vs_eq : t.vs = vs
  fs_eq : t.fs = fs
  exit_h : t.pc = lo + len → t.h = k
  need_ok : ∀ n, t.pc < lo + len → code[t.pc]? = some n → n.need ≤ t.h

theorem stepNormal_plain {code : List Node} {t u : St} {n : Node} (hn : code[t.pc]? = some n) (hk : n.kind = .plain)
    (hu : u ∈ stepNormal code t) : ∃ e ∈ n.edges, edgeSucc t e = some u := by
  unfold stepNormal at hu
  rw [hn] at hu
  simp only [hk] at hu
  exact List.mem_filterMap.mp hu

theorem edgeSucc_mk {pc h : Nat} {vs : List Nat} {fs : List Frame} {u : St} {dp dh : Int} {pc' h' : Nat}
    (hs : edgeSucc ⟨pc, h, vs, fs⟩ (dp, dh) = some u) (e1 : (pc : Int) + dp = pc') (e2 : (h : Int) + dh = h') :
    u = ⟨pc', h', vs, fs⟩ := by
  unfold edgeSucc at hs
  simp only at hs
  split at hs
  · cases hs
    congr <;> omega
  · cases hs

theorem step_one {code : List Node} {pc h : Nat} {vs : List Nat} {fs : List Frame} {u : St} {need : Nat} {dp dh : Int}
    {pc' h' : Nat} (hn : code[pc]? = some ⟨need, [(dp, dh)], .plain⟩) (hu : u ∈ stepNormal code ⟨pc, h, vs, fs⟩)
    (e1 : (pc : Int) + dp = pc') (e2 : (h : Int) + dh = h') : u = ⟨pc', h', vs, fs⟩ := by
  obtain ⟨e, he, hs⟩ := stepNormal_plain hn rfl hu
  cases List.mem_singleton.mp he
  exact edgeSucc_mk hs e1 e2

theorem step_two {code : List Node} {pc h : Nat} {vs : List Nat} {fs : List Frame} {u : St} {need : Nat}
    {dp1 dh1 dp2 dh2 : Int} {pc1 h1 pc2 h2 : Nat}
    (hn : code[pc]? = some ⟨need, [(dp1, dh1), (dp2, dh2)], .plain⟩) (hu : u ∈ stepNormal code ⟨pc, h, vs, fs⟩)
    (e1 : (pc : Int) + dp1 = pc1) (e2 : (h : Int) + dh1 = h1) (e3 : (pc : Int) + dp2 = pc2) (e4 : (h : Int) + dh2 = h2) :
    u = ⟨pc1, h1, vs, fs⟩ ∨ u = ⟨pc2, h2, vs, fs⟩ := by
  obtain ⟨e, he, hs⟩ := stepNormal_plain hn rfl hu
  rcases List.mem_cons.mp he with rfl | he
  · exact .inl (edgeSucc_mk hs e1 e2)
  · cases List.mem_singleton.mp he
    exact .inr (edgeSucc_mk hs e3 e4)

theorem cast_sub {h p : Nat} (hp : p ≤ h) : (h : Int) + -(p : Int) = ((h - p : Nat) : Int) := by omega

section
variable {code : List Node} {pc h : Nat} {vs : List Nat} {fs : List Frame} {u : St}

theorem step_instr {i : Instr} (hn : code[pc]? = some i.node) (hu : u ∈ stepNormal code ⟨pc, h, vs, fs⟩)
    (ht : i.term = false) (hp : i.pops ≤ h) : u = ⟨pc + 1, h - i.pops + i.pushes, vs, fs⟩ := by
  have hn' : code[pc]? = some ⟨i.need, [(1, (i.pushes : Int) - i.pops)], .plain⟩ := by simpa [Instr.node, ht] using hn
  exact step_one hn' hu rfl (by omega)

theorem step_term {i : Instr} (hn : code[pc]? = some i.node) (hu : u ∈ stepNormal code ⟨pc, h, vs, fs⟩)
    (ht : i.term = true) : False := by
  obtain ⟨_, he, _⟩ := stepNormal_plain hn rfl hu
  simp [Instr.node, ht] at he

theorem step_jcond {j : JKind} {off : Nat} (hn : code[pc]? = some (j.node off)) (hu : u ∈ stepNormal code ⟨pc, h, vs, fs⟩)
    (hj : j.popJump ≤ h) (hf : j.popFall ≤ h) :
    u = ⟨pc + off, h - j.popJump, vs, fs⟩ ∨ u = ⟨pc + 1, h - j.popFall, vs, fs⟩ :=
  step_two hn hu rfl (cast_sub hj) rfl (cast_sub hf)

theorem step_jcondBack {j : JKind} {back : Nat} (hn : code[pc]? = some (j.nodeBack back))
    (hu : u ∈ stepNormal code ⟨pc, h, vs, fs⟩) (hb : back ≤ pc) (hj : j.popJump ≤ h) (hf : j.popFall ≤ h) :
    u = ⟨pc - back, h - j.popJump, vs, fs⟩ ∨ u = ⟨pc + 1, h - j.popFall, vs, fs⟩ :=
  step_two hn hu (cast_sub hb) (cast_sub hj) rfl (cast_sub hf)

theorem step_jump {off : Nat} (hn : code[pc]? = some (jumpNode off)) (hu : u ∈ stepNormal code ⟨pc, h, vs, fs⟩) :
    u = ⟨pc + off, h, vs, fs⟩ :=
  step_one hn hu rfl rfl

theorem step_jumpBack {back : Nat} (hn : code[pc]? = some (jumpBackNode back)) (hu : u ∈ stepNormal code ⟨pc, h, vs, fs⟩)
    (hb : back ≤ pc) : u = ⟨pc - back, h, vs, fs⟩ :=
  step_one hn hu (cast_sub hb) rfl

end

theorem RunIn.empty {code : List Node} {lo : Nat} {s t : St} (hr : RunIn code lo lo s t) : t = s := by
  induction hr with
  | refl => rfl
  | step _ h1 h2 _ _ => omega

theorem RunIn.trans {code : List Node} {lo hi : Nat} {s t u : St} (h1 : RunIn code lo hi s t) (h2 : RunIn code lo hi t u) :
    RunIn code lo hi s u := by
  induction h2 with
  | refl => exact h1
  | step _ a b c ih => exact RunIn.step ih a b c

namespace Within
variable {code : List Node} {lo len h k : Nat} {vs : List Nat} {fs : List Frame} {t : St}

theorem exit : Within code lo len h k vs fs ⟨lo + len, k, vs, fs⟩ :=
  ⟨Nat.le_add_right .., Nat.le_refl _, rfl, rfl, fun _ => rfl, fun _ hlt _ => absurd hlt (Nat.lt_irrefl _)⟩

theorem eq_exit (w : Within code lo len h k vs fs t) (hge : ¬ t.pc < lo + len) : t = ⟨lo + len, k, vs, fs⟩ := by
  have hpc : t.pc = lo + len := by have := w.le_hi; omega
  have e1 := w.exit_h hpc
  have e2 := w.vs_eq
  have e3 := w.fs_eq
  cases t
  simp only at hpc e1 e2 e3
  subst hpc e1 e2 e3
  rfl

end Within

section
variable {code : List Node} {LO LEN H K : Nat} {vs : List Nat} {fs : List Frame}

/-- a state at the first instruction of a fragment that sits inside the window -/
theorem Sits.within {pc h : Nat} {x : Node} {a : List Node} (hs : Sits code LO (LO + LEN) pc (x :: a)) (hh : x.need ≤ h) :
    Within code LO LEN H K vs fs ⟨pc, h, vs, fs⟩ := by
  have hlt : pc < LO + LEN := by have := hs.le_hi; rw [List.length_cons] at this; omega
  exact ⟨hs.lo_le, Nat.le_of_lt hlt, rfl, rfl, fun e => absurd (e ▸ hlt) (Nat.lt_irrefl _),
    fun m _ hm => by simp only at hm; rw [hs.placed.head] at hm; cases hm; exact hh⟩

/-- `SafeN … n t`: `t` and every state fewer than `n` normal steps after it, on runs that step only from inside the window
`[LO, LO + LEN)`, are `Within` the window. -/
def SafeN (code : List Node) (LO LEN H K : Nat) (vs : List Nat) (fs : List Frame) : Nat → St → Prop
  | 0, _ => True
  | n + 1, t => Within code LO LEN H K vs fs t ∧ (t.pc < LO + LEN → ∀ u ∈ stepNormal code t, SafeN code LO LEN H K vs fs n u)

theorem SafeN.mono : ∀ {n : Nat} {t : St}, SafeN code LO LEN H K vs fs (n + 1) t → SafeN code LO LEN H K vs fs n t
  | 0, _, _ => trivial
  | _ + 1, _, h => ⟨h.1, fun hlt u hu => (h.2 hlt u hu).mono⟩

/-- a state is safe for as many steps as its successors are -/
theorem SafeN.of_step {n : Nat} {t : St} (hw : Within code LO LEN H K vs fs t)
    (hs : ∀ u ∈ stepNormal code t, SafeN code LO LEN H K vs fs n u) : SafeN code LO LEN H K vs fs n t := by
  cases n
  · trivial
  · exact ⟨hw, fun _ u hu => (hs u hu).mono⟩

theorem SafeN.of_run {s t : St} (hr : RunIn code LO (LO + LEN) s t) (hs : ∀ n, SafeN code LO LEN H K vs fs n s) :
    ∀ n, SafeN code LO LEN H K vs fs n t := by
  induction hr with
  | refl => exact hs
  | step _ _ hlt hu ih => exact fun n => (ih (n + 1)).2 hlt _ hu

theorem SafeN.exit : ∀ n, SafeN code LO LEN H K vs fs n ⟨LO + LEN, K, vs, fs⟩
  | 0 => trivial
  | _ + 1 => ⟨.exit, fun hlt => absurd hlt (Nat.lt_irrefl _)⟩

/-- Wherever `c` sits inside the window, its entry state is safe for as many steps as its exit state. -/
theorem flat_safe {c : Code} {h k : Nat} (hh : HasHt c h k) :
    ∀ {lo : Nat}, Sits code LO (LO + LEN) lo c.nodes →
    ∀ n, SafeN code LO LEN H K vs fs n ⟨lo + c.len, k, vs, fs⟩ → SafeN code LO LEN H K vs fs n ⟨lo, h, vs, fs⟩ := by
  induction hh with
  | nil => exact fun _ _ hx => hx
  | @ins i h h1 h2 h3 =>
    intro lo hp n hx
    have hn := hp.placed.head
    refine .of_step (hp.within h1) fun u hu => ?_
    rw [step_instr hn hu h3 (Nat.le_trans h2 h1)]
    exact hx
  | @term i h k h1 h2 h3 =>
    intro lo hp n _
    have hn := hp.placed.head
    exact .of_step (hp.within h1) fun u hu => (step_term hn hu h3).elim
  | @seq a b h k1 k2 _ _ iha ihb =>
    intro lo hp n hx
    rw [Code.nodes_seq] at hp
    have e : lo + (Code.seq a b).len = lo + a.len + b.len := (Nat.add_assoc ..).symm
    exact iha hp.left n (ihb hp.right n (e ▸ hx))
  | @fwd j body h g1 g2 g3 _ ih =>
    intro lo hp n hx
    rw [Code.nodes_fwd] at hp
    have e : lo + (Code.fwd j body).len = lo + 1 + body.len := (Nat.add_assoc ..).symm
    refine .of_step (hp.within g1) fun u hu => ?_
    rcases step_jcond hp.placed.head hu (Nat.le_trans g2 g1) (Nat.le_trans g3 g1) with rfl | rfl
    · exact Nat.add_comm 1 body.len ▸ hx
    · exact ih hp.tail n (e ▸ hx)
  | @ifElse j a b h k g1 g2 g3 _ _ iha ihb =>
    intro lo hp n hx
    rw [Code.nodes_ifElse] at hp
    have hp2 : Sits code LO (LO + LEN) (lo + 1 + a.len) (jumpNode (b.len + 1) :: b.nodes) := hp.tail.right
    have hl : (Code.ifElse j a b).len = 2 + a.len + b.len := rfl
    refine .of_step (hp.within g1) fun u hu => ?_
    rcases step_jcond hp.placed.head hu (Nat.le_trans g2 g1) (Nat.le_trans g3 g1) with rfl | rfl
    · rw [show lo + (a.len + 2) = lo + 1 + a.len + 1 by omega]
      exact ihb hp2.tail n ((show lo + (Code.ifElse j a b).len = lo + 1 + a.len + 1 + b.len by omega) ▸ hx)
    · -- arm `a` ends at the jump over `b`
      refine iha hp.tail.left n (.of_step (hp2.within (Nat.zero_le _)) fun u hu => ?_)
      rw [step_jump hp2.placed.head hu, show lo + 1 + a.len + (b.len + 1) = lo + (Code.ifElse j a b).len by omega]
      exact hx
  | @loop j pre body h k1 _ g1 g2 g3 _ iha ihb =>
    intro lo hp n hx
    rw [Code.nodes_loop] at hp
    have hp1 := hp.right
    have hjb := hp1.tail.right
    have hl : (Code.loop j pre body).len = pre.len + 1 + body.len + 1 := rfl
    -- every iteration takes steps: induction on the number of steps the exit state is safe for
    induction n with
    | zero => trivial
    | succ n ihn =>
      refine iha hp.left _ ⟨hp1.within g1, fun _ u hu => ?_⟩
      rcases step_jcond hp1.placed.head hu (Nat.le_trans g2 g1) (Nat.le_trans g3 g1) with rfl | rfl
      · rw [show lo + pre.len + (body.len + 2) = lo + (Code.loop j pre body).len by omega]
        exact hx.mono
      · refine ihb hp1.tail.left n (.of_step (hjb.within (Nat.zero_le _)) fun u hu => ?_)
        -- the back jump: the loop head is re-entered with the entry height
        rw [step_jumpBack hjb.placed.head hu (by omega),
          show lo + pre.len + 1 + body.len - (pre.len + 1 + body.len) = lo by omega]
        exact ihn hx.mono
  | @forever body h k _ ih =>
    intro lo hp n hx
    rw [Code.nodes_forever] at hp
    induction n with
    | zero => trivial
    | succ n ihn =>
      refine ih hp.left _ ⟨hp.right.within (Nat.zero_le _), fun _ u hu => ?_⟩
      rw [step_jumpBack hp.right.placed.head hu (Nat.le_add_left ..), Nat.add_sub_cancel]
      exact ihn hx.mono
  | @doLoop j body h k1 _ g1 g2 g3 g4 ih =>
    intro lo hp n hx
    rw [Code.nodes_doLoop] at hp
    induction n with
    | zero => trivial
    | succ n ihn =>
      refine ih hp.left _ ⟨hp.right.within g1, fun _ u hu => ?_⟩
      -- the back edge arrives at the loop head with the entry height
      rcases step_jcondBack hp.right.placed.head hu (Nat.le_add_left ..) (Nat.le_trans g2 g1) (Nat.le_trans g3 g1) with rfl | rfl
      · rw [Nat.add_sub_cancel, g4]
        exact ihn hx.mono
      · exact hx.mono

end

theorem flat_sound {code : List Node} {vs : List Nat} {fs : List Frame} {c : Code} {h k : Nat} (hh : HasHt c h k)
    {lo : Nat} (hp : Placed code lo c.nodes) {t : St} (hr : RunIn code lo (lo + c.len) ⟨lo, h, vs, fs⟩ t) :
    Within code lo c.len h k vs fs t :=
  (SafeN.of_run hr (fun n => flat_safe hh ⟨hp, Nat.le_refl _, Nat.le_of_eq (congrArg _ c.nodes_length)⟩ n (.exit n)) 1).1

end GojaModel.C01
