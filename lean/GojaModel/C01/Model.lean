/-
  C01 — no script can crash the host.  Executable model (core Lean only).

  Part (b) `Bytecode`: instructions reduced to what matters for the operand-stack discipline
  (`Node`: operands needed, successor edges with height deltas, try/finally/variadic control kinds),
  an abstract stack-height machine (`succs`) that mirrors vm.go's try-frame protocol
  (vm.go:764 pushTryFrame, :828 handleThrow, :4805 try, :4823 leaveTry, :4840 enterFinally,
  :4849 leaveFinally), and the verifier `verify` (explore + closure check).

  Part (a) `Emit`: expression AST and `emitG`/`emitE` mirroring the `emitGetter` methods and
  `emitExpr`/`emitConst` of compiler_expr.go, producing structured code (`Code`) whose jump
  offsets are computed by `Code.flat`.

  Part (c) the panic payload classifier.
-/
namespace GojaModel.C01

/-! ## Symbolic stack effects — the shape of the regenerated table (extract/c01.go) -/

/-- `coeff * operand + const` -/
structure LinE where
  coeff : Int
  opnd : String
  const : Int
deriving DecidableEq, Repr

inductive PcE
  | next
  | jumpOp (opnd : String)
deriving DecidableEq, Repr

structure PathE where
  pc : PcE
  sp : LinE
deriving DecidableEq, Repr

inductive Eff
  | paths (need : LinE) (ps : List PathE)
  | dyn (why : String)
deriving DecidableEq, Repr

/-! ## (b) Bytecode: nodes, abstract machine, verifier -/

inductive Kind
  | plain
  | tryI (c f : Nat)        -- try{catchOffset, finallyOffset}; 0 = absent (vm.go:4805)
  | leaveTry
  | enterFinally
  | leaveFinally
  | ret                     -- _ret / cret: needs the return value on top; ends the unit
  | startVar                -- _startVariadic: pushes the marker
  | callVar                 -- _callVariadic/_newVariadic/...: pops down to the marker, leaves marker+result
  | endVar                  -- _endVariadic: removes the slot below the top (the marker, if it is the pending one)
deriving DecidableEq, Repr

structure Node where
  need : Nat
  edges : List (Int × Int)   -- (pc offset, height delta) for `plain`
  kind : Kind
deriving DecidableEq, Repr

/-- tryFrame (vm.go:47): position of the `try` instruction (catchPos/finallyPos are re-read from it),
saved sp, armed flags (catchPos >= 0 / finallyPos >= 0), finallyRet. -/
structure Frame where
  tryPc : Nat
  h : Nat
  vs : List Nat
  cArmed : Bool
  fArmed : Bool
  ret : Option Nat
deriving DecidableEq, Repr

/-- Abstract VM state: pc, operand-stack height relative to the unit's entry, heights of pending
variadic markers, try frames of this unit. -/
structure St where
  pc : Nat
  h : Nat
  vs : List Nat
  fs : List Frame
deriving DecidableEq, Repr

def St.init : St := ⟨0, 0, [], []⟩

def tryOffsets (code : List Node) (pc : Nat) : Nat × Nat :=
  match code[pc]? with
  | some ⟨_, _, .tryI c f⟩ => (c, f)
  | _ => (0, 0)

/-- vm.handleThrow (vm.go:828): pop frames until one with an armed catch or finally; restore sp. -/
def unwind (code : List Node) : List Frame → List St
  | [] => []
  | fr :: rest =>
    if fr.cArmed then
      [⟨fr.tryPc + (tryOffsets code fr.tryPc).1, fr.h + 1, fr.vs, { fr with cArmed := false } :: rest⟩]
    else if fr.fArmed then
      [⟨fr.tryPc + (tryOffsets code fr.tryPc).2, fr.h, fr.vs, { fr with fArmed := false, ret := none } :: rest⟩]
    else unwind code rest

def edgeSucc (s : St) (e : Int × Int) : Option St :=
  let pc' := (s.pc : Int) + e.1
  let h' := (s.h : Int) + e.2
  if 0 ≤ pc' ∧ 0 ≤ h' then some ⟨pc'.toNat, h'.toNat, s.vs, s.fs⟩ else none

/-- Normal (non-throwing) successors of a state. -/
def stepNormal (code : List Node) (s : St) : List St :=
  match code[s.pc]? with
  | none => []
  | some n =>
    match n.kind with
    | .plain => n.edges.filterMap (edgeSucc s)
    | .tryI c f => [⟨s.pc + 1, s.h, s.vs, ⟨s.pc, s.h, s.vs, decide (0 < c), decide (0 < f), none⟩ :: s.fs⟩]
    | .leaveTry =>
      match s.fs with
      | [] => []
      | fr :: rest =>
        if fr.fArmed then
          [⟨fr.tryPc + (tryOffsets code fr.tryPc).2, fr.h, fr.vs,
            { fr with fArmed := false, cArmed := false, ret := some (s.pc + 1) } :: rest⟩]
        else [⟨s.pc + 1, s.h, s.vs, rest⟩]
    | .enterFinally =>
      match s.fs with
      | [] => []
      | fr :: rest => [⟨s.pc + 1, s.h, s.vs, { fr with fArmed := false, cArmed := false } :: rest⟩]   -- vm.go:4843 (fix 379f30d)
    | .leaveFinally =>
      match s.fs with
      | [] => []
      | fr :: rest =>
        (match fr.ret with
          | some r => [⟨r, s.h, s.vs, rest⟩]
          | none => [⟨s.pc + 1, s.h, s.vs, rest⟩]) ++ unwind code rest
    | .ret => []
    | .startVar => [⟨s.pc + 1, s.h + 1, s.h :: s.vs, s.fs⟩]
    | .callVar =>
      match s.vs with
      | [] => []
      | m :: _ => [⟨s.pc + 1, m + 2, s.vs, s.fs⟩]
    | .endVar =>                                   -- vm.go:3667: sp--; stack[sp-1] = stack[sp]
      match s.vs with
      | m :: vs' => if m + 2 = s.h then [⟨s.pc + 1, s.h - 1, vs', s.fs⟩] else [⟨s.pc + 1, s.h - 1, s.vs, s.fs⟩]
      | [] => [⟨s.pc + 1, s.h - 1, s.vs, s.fs⟩]

/-- All successors: normal ones plus a throw from this instruction (any instruction may throw). -/
def succs (code : List Node) (s : St) : List St :=
  stepNormal code s ++ (if s.pc < code.length then unwind code s.fs else [])

def edgeOk (len : Nat) (s : St) (e : Int × Int) : Bool :=
  decide (0 ≤ (s.pc : Int) + e.1) && decide ((s.pc : Int) + e.1 ≤ len) && decide (0 ≤ (s.h : Int) + e.2)

def isTry (code : List Node) (pc : Nat) : Bool :=
  match code[pc]? with
  | some ⟨_, _, .tryI _ _⟩ => true
  | _ => false

/-- Local well-formedness of a state: the instruction finds its operands above the entry height, all its
successors exist, and a unit ends only at its end with the entry height (`endOk`: top-level code) or at a `ret`
with a value on the stack. -/
def safe (code : List Node) (endOk : Bool) (s : St) : Bool :=
  match code[s.pc]? with
  | none => endOk && decide (s.pc = code.length) && decide (s.h = 0) && s.fs.isEmpty && s.vs.isEmpty
  | some n =>
    decide (n.need ≤ s.h) &&
    (match n.kind with
     | .plain => n.edges.all (edgeOk code.length s)
     | .tryI c f => decide (s.pc + c ≤ code.length) && decide (s.pc + f ≤ code.length)
     | .leaveTry | .enterFinally | .leaveFinally =>
        (match s.fs with | [] => false | fr :: _ => isTry code fr.tryPc)
     | .ret => decide (1 ≤ s.h) && s.fs.isEmpty
     | .startVar => true
     | .endVar => true
     | .callVar => (match s.vs with | [] => false | m :: _ => decide (m + 1 ≤ s.h)))

abbrev AState := Nat × List Nat × List Frame

def memR (R : Array (List AState)) (s : St) : Bool :=
  match R[s.pc]? with
  | some l => l.contains (s.h, s.vs, s.fs)
  | none => false

def insertR (R : Array (List AState)) (s : St) : Array (List AState) :=
  R.modify s.pc (fun l => (s.h, s.vs, s.fs) :: l)

/-- Unverified exploration of the reachable abstract states (work list, fuel, per-pc cap). Its result is only
a candidate: `checkClosed` decides. -/
def exploreLoop (code : List Node) (cap : Nat) : Nat → List St → Array (List AState) → Array (List AState)
  | 0, _, R => R
  | _, [], R => R
  | fuel + 1, s :: work, R =>
    if memR R s then exploreLoop code cap fuel work R
    else if R.size ≤ s.pc then exploreLoop code cap fuel work R
    else if cap ≤ (R[s.pc]?.getD []).length then R
    else exploreLoop code cap fuel (succs code s ++ work) (insertR R s)

def explore (code : List Node) : Array (List AState) :=
  exploreLoop code 64 (64 * (code.length + 2)) [St.init] (Array.replicate (code.length + 1) [])

def closedAt (code : List Node) (endOk : Bool) (R : Array (List AState)) (pc : Nat) (a : AState) : Bool :=
  safe code endOk ⟨pc, a.1, a.2.1, a.2.2⟩ && (succs code ⟨pc, a.1, a.2.1, a.2.2⟩).all (memR R)

def checkClosed (code : List Node) (endOk : Bool) (R : Array (List AState)) : Bool :=
  (List.range R.size).all (fun pc => (R[pc]?.getD []).all (closedAt code endOk R pc))

def verifyWith (code : List Node) (endOk : Bool) (R : Array (List AState)) : Bool :=
  memR R St.init && checkClosed code endOk R

/-- The bytecode verifier. -/
def verify (code : List Node) (endOk : Bool) : Bool :=
  verifyWith code endOk (explore code)

/-- Reachability in the abstract machine. -/
inductive Reach (code : List Node) : St → Prop
  | init : Reach code St.init
  | step {s s' : St} : Reach code s → s' ∈ succs code s → Reach code s'

/-- First offending state found by the exploration (diagnostics for the driver). -/
def firstUnsafe (code : List Node) (endOk : Bool) (R : Array (List AState)) : Option (Nat × AState) :=
  (List.range R.size).findSome? (fun pc =>
    ((R[pc]?.getD []).find? (fun a => !closedAt code endOk R pc a)).map (fun a => (pc, a)))

/-! ## (a) Emit: structured code -/

/-- A straight-line model instruction: goja type name (canonical), numeric operand, operands needed, popped,
pushed; `term` = no fall-through (throw). -/
structure Instr where
  name : String
  n : Nat := 0
  need : Nat
  pops : Nat
  pushes : Nat
  term : Bool := false
deriving Repr, DecidableEq

/-- Conditional forward jumps (vm.go:4343 ff): operands needed, popped when taken / when falling through. -/
structure JKind where
  name : String
  need : Nat
  popJump : Nat
  popFall : Nat
deriving Repr, DecidableEq

def jneP : JKind := ⟨"jneP", 1, 1, 1⟩
def jeqP : JKind := ⟨"jeqP", 1, 1, 1⟩
def jcoalescP : JKind := ⟨"jcoalescP", 1, 1, 1⟩
def jne : JKind := ⟨"jne", 1, 0, 1⟩
def jeq : JKind := ⟨"jeq", 1, 0, 1⟩
def jcoalesc : JKind := ⟨"jcoalesc", 1, 0, 1⟩

inductive Code
  | nil
  | ins (i : Instr)
  | seq (a b : Code)
  | fwd (j : JKind) (body : Code)        -- j(|body|+1) ; body
  | ifElse (j : JKind) (a b : Code)      -- j(|a|+2) ; a ; jump(|b|+1) ; b
  | loop (j : JKind) (pre body : Code)   -- pre ; j(|body|+2) ; body ; jump(-(|pre|+1+|body|))      (while)
  | forever (body : Code)                -- body ; jump(-|body|)                                     (while, constant true test)
  | doLoop (j : JKind) (body : Code)     -- body ; j(-|body|)                                        (do-while)
deriving Repr

def Code.len : Code → Nat
  | .nil => 0
  | .ins _ => 1
  | .seq a b => a.len + b.len
  | .fwd _ body => 1 + body.len
  | .ifElse _ a b => 2 + a.len + b.len
  | .loop _ pre body => pre.len + 1 + body.len + 1
  | .forever body => body.len + 1
  | .doLoop _ body => body.len + 1

def Instr.node (i : Instr) : Node :=
  ⟨i.need, if i.term then [] else [(1, (i.pushes : Int) - i.pops)], .plain⟩

def JKind.node (j : JKind) (off : Nat) : Node :=
  ⟨j.need, [((off : Int), -(j.popJump : Int)), (1, -(j.popFall : Int))], .plain⟩

def jumpNode (off : Nat) : Node := ⟨0, [((off : Int), 0)], .plain⟩

/-- backward jumps: the offset is `-(back)` -/
def JKind.nodeBack (j : JKind) (back : Nat) : Node :=
  ⟨j.need, [(-(back : Int), -(j.popJump : Int)), (1, -(j.popFall : Int))], .plain⟩
def jumpBackNode (back : Nat) : Node := ⟨0, [(-(back : Int), 0)], .plain⟩

/-- Flat instruction list with relative jump offsets, as the compiler lays it out. -/
def Code.flat : Code → List (String × Int × Node)
  | .nil => []
  | .ins i => [(i.name, (i.n : Int), i.node)]
  | .seq a b => a.flat ++ b.flat
  | .fwd j body => (j.name, ((body.len + 1 : Nat) : Int), j.node (body.len + 1)) :: body.flat
  | .ifElse j a b =>
      (j.name, ((a.len + 2 : Nat) : Int), j.node (a.len + 2)) :: a.flat ++
        ("jump", ((b.len + 1 : Nat) : Int), jumpNode (b.len + 1)) :: b.flat
  | .loop j pre body =>
      pre.flat ++ (j.name, ((body.len + 2 : Nat) : Int), j.node (body.len + 2)) :: body.flat ++
        [("jump", -((pre.len + 1 + body.len : Nat) : Int), jumpBackNode (pre.len + 1 + body.len))]
  | .forever body => body.flat ++ [("jump", -((body.len : Nat) : Int), jumpBackNode body.len)]
  | .doLoop j body => body.flat ++ [(j.name, -((body.len : Nat) : Int), j.nodeBack body.len)]

/-- Abstract height after a piece of code: `dead` = control cannot reach this point. -/
inductive Ht
  | dead
  | live (h : Nat)
deriving DecidableEq, Repr

def Ht.join : Ht → Ht → Option Ht
  | .dead, x => some x
  | x, .dead => some x
  | .live a, .live b => if a = b then some (.live a) else none

/-- Height transformer of structured code; `none` = ill-formed (underflow below the entry height, or two paths
meeting with different heights). -/
def Code.height : Code → Ht → Option Ht
  | .nil, x => some x
  | .ins _, .dead => some .dead
  | .ins i, .live h =>
      if i.need ≤ h ∧ i.pops ≤ i.need then
        (if i.term then some .dead else some (.live (h - i.pops + i.pushes)))
      else none
  | .seq a b, x => (a.height x).bind b.height
  | .fwd _ _, .dead => some .dead
  | .fwd j body, .live h =>
      if j.need ≤ h ∧ j.popJump ≤ j.need ∧ j.popFall ≤ j.need then
        (body.height (.live (h - j.popFall))).bind (fun hb => hb.join (.live (h - j.popJump)))
      else none
  | .ifElse _ _ _, .dead => some .dead
  | .ifElse j a b, .live h =>
      if j.need ≤ h ∧ j.popJump ≤ j.need ∧ j.popFall ≤ j.need then
        (a.height (.live (h - j.popFall))).bind (fun ha =>
          (b.height (.live (h - j.popJump))).bind (fun hb => ha.join hb))
      else none
  -- loops: the height at the loop head is an invariant (the back edge must arrive with the entry height)
  | .loop _ _ _, .dead => some .dead
  | .loop j pre body, .live h =>
      match pre.height (.live h) with
      | some (.live k1) =>
        if j.need ≤ k1 ∧ j.popJump ≤ j.need ∧ j.popFall ≤ j.need then
          match body.height (.live (k1 - j.popFall)) with
          | some .dead => some (.live (k1 - j.popJump))
          | some (.live k2) => if k2 = h then some (.live (k1 - j.popJump)) else none
          | none => none
        else none
      | some .dead => some .dead
      | none => none
  | .forever _, .dead => some .dead
  | .forever body, .live h =>
      match body.height (.live h) with
      | some .dead => some .dead
      | some (.live k2) => if k2 = h then some .dead else none
      | none => none
  | .doLoop _ _, .dead => some .dead
  | .doLoop j body, .live h =>
      match body.height (.live h) with
      | some (.live k1) =>
        if j.need ≤ k1 ∧ j.popJump ≤ j.need ∧ j.popFall ≤ j.need ∧ k1 - j.popJump = h then some (.live (k1 - j.popFall))
        else none
      | some .dead => some .dead
      | none => none

/-! ### instructions used by the emitter (names = goja instruction type names after canonicalisation) -/

def push1 (name : String) (n : Nat := 0) : Instr := ⟨name, n, 0, 0, 1, false⟩
def op11 (name : String) : Instr := ⟨name, 0, 1, 1, 1, false⟩      -- replaces top
def op21 (name : String) : Instr := ⟨name, 0, 2, 2, 1, false⟩
def op20 (name : String) : Instr := ⟨name, 0, 2, 2, 0, false⟩
def op31 (name : String) : Instr := ⟨name, 0, 3, 3, 1, false⟩
def op30 (name : String) : Instr := ⟨name, 0, 3, 3, 0, false⟩
def op12 (name : String) : Instr := ⟨name, 0, 1, 1, 2, false⟩
def op22 (name : String) : Instr := ⟨name, 0, 2, 2, 2, false⟩
def op00 (name : String) : Instr := ⟨name, 0, 0, 0, 0, false⟩
def iPop : Instr := ⟨"_pop", 0, 1, 1, 0, false⟩
def iDup : Instr := ⟨"_dup", 0, 1, 0, 1, false⟩
def iKeep1 (name : String) : Instr := ⟨name, 0, 1, 0, 0, false⟩    -- reads top, leaves it (storeStack, _putValue)
def iThrow : Instr := ⟨"_throw", 0, 1, 1, 0, true⟩
def iThrowAssignToConst : Instr := ⟨"_throwAssignToConst", 0, 0, 0, 0, true⟩
def iRdupN (n : Nat) : Instr := ⟨"rdupN", n, n + 1, 0, 0, false⟩
def iDupLast (n : Nat) : Instr := ⟨"dupLast", n, n, 0, n, false⟩
def iCall (n : Nat) : Instr := ⟨"call", n, n + 2, n + 2, 1, false⟩
def iNew (n : Nat) : Instr := ⟨"_new", n, n + 1, n + 1, 1, false⟩
def iConcat (n : Nat) : Instr := ⟨"concatStrings", n, n, n, 1, false⟩
def iLoadVal : Instr := push1 "loadVal"
def iLoadUndef : Instr := push1 "_loadUndef"

/-! ### expression AST -/

/-- Resolution class of an identifier at its use site (compiler.go:485 scope.lookupName + binding flags). -/
inductive IdClass
  | stackVar                  -- noDynamics, b.isVar && !b.isArg: loadStack / storeStack, emitGetP emits nothing
  | lexVar                    -- noDynamics, let / argument: loadStackLex / storeStackLex (TDZ check on discarded reads)
  | const (isStrict : Bool)   -- noDynamics, b.isConst; isStrict=false: the name of a sloppy function expression
  | global                    -- lookup reached the global scope: loadDynamic / resolveVar1
  | dynBound                  -- bound, but a `with`/eval scope intervenes: loadMixed / resolveMixed
deriving DecidableEq, Repr

inductive Lit
  | num (i : Int)
  | str (s : String)
  | bool (b : Bool)
  | null
  | big (i : Int)
deriving DecidableEq, Repr

inductive UnOp | not | bnot | neg | plus | typeof | void
deriving DecidableEq, Repr

inductive BinOp
  | add | sub | mul | lt | gt | le | ge | eq | ne | seq | sne | band | bor | bxor | shl | sar | shr
  | div | mod | exp | instanceof | in_
deriving DecidableEq, Repr

inductive LogOp | and | or | coalesce
deriving DecidableEq, Repr

mutual
inductive Expr
  | lit (v : Lit)
  | ident (c : IdClass) (name : String)
  | this
  | unary (op : UnOp) (e : Expr)                  -- for `typeof` only when the operand is not an identifier
  | typeofId (c : IdClass) (name : String)
  | deleteId (c : IdClass) (name : String)
  | deleteDot (l : Expr) (name : String)
  | deleteIndex (l m : Expr)
  | deleteCall (call : Expr)                      -- operand is a call expression
  | deleteOther (e : Expr)                        -- any other operand: not evaluated at all (compiler_expr.go:319)
  | updateId (inc post : Bool) (c : IdClass) (name : String)
  | updateDot (inc post : Bool) (l : Expr) (name : String)
  | updateIndex (inc post : Bool) (l m : Expr)
  | binary (op : BinOp) (l r : Expr)
  | logical (op : LogOp) (l r : Expr)
  | cond (t a b : Expr)
  | comma (a b : Expr)
  | assignId (c : IdClass) (name : String) (r : Expr)
  | assignDot (l : Expr) (name : String) (r : Expr)
  | assignIndex (l m r : Expr)
  | assignOpId (op : BinOp) (c : IdClass) (name : String) (r : Expr)
  | assignOpDot (op : BinOp) (l : Expr) (name : String) (r : Expr)
  | assignOpIndex (op : BinOp) (l m r : Expr)
  | assignLogId (op : LogOp) (c : IdClass) (name : String) (r : Expr)
  | assignLogDot (op : LogOp) (l : Expr) (name : String) (r : Expr)
  | assignLogIndex (op : LogOp) (l m r : Expr)
  | dot (e : Expr) (name : String)
  | index (e m : Expr)
  | callDot (l : Expr) (name : String) (args : Args)
  | callIndex (l m : Expr) (args : Args)
  | callId (c : IdClass) (name : String) (args : Args)
  | callOther (f : Expr) (args : Args)
  | new (callee : Expr) (args : Args)
  | array (els : Elems)
  | object (props : Props)
  | template (head : Bool) (first : Expr) (rest : Quasis) (tail : Bool)
inductive Args
  | nil
  | cons (e : Expr) (rest : Args)
inductive Elems
  | nil
  | hole (rest : Elems)
  | cons (e : Expr) (rest : Elems)
inductive Props
  | nil
  | keyed (key : String) (v : Expr) (rest : Props)       -- constant key
  | computed (k v : Expr) (rest : Props)
inductive Quasis                                             -- middle pieces: (string non-empty?, expr)
  | nil
  | cons (nonEmpty : Bool) (e : Expr) (rest : Quasis)
end

/-- Compiler configuration that the emitter depends on. -/
structure Cfg where
  strict : Bool              -- c.scope.strict
deriving Repr, DecidableEq

/-! ### constant folding (compiler_expr.go:2442 evalConst, `constant()` methods) -/

inductive CVal
  | num (i : Int)
  | str (s : String)
  | bool (b : Bool)
  | null
  | undef
  | big (i : Int)
deriving DecidableEq, Repr

inductive CRes
  | val (v : CVal)
  | throws (hasMsg : Bool)     -- TypeError / RangeError with message → emitThrow
deriving DecidableEq, Repr

def CVal.truthy : CVal → Bool
  | .num i => i != 0
  | .str s => s != ""
  | .bool b => b
  | .null => false
  | .undef => false
  | .big i => i != 0

def CVal.nullish : CVal → Bool
  | .null => true
  | .undef => true
  | _ => false

def CVal.toStr : CVal → String
  | .num i => toString i
  | .str s => s
  | .bool b => if b then "true" else "false"
  | .null => "null"
  | .undef => "undefined"
  | .big i => toString i

def CVal.typeofStr : CVal → String
  | .num _ => "number"
  | .str _ => "string"
  | .bool _ => "boolean"
  | .null => "object"
  | .undef => "undefined"
  | .big _ => "bigint"

def litVal : Lit → CVal
  | .num i => .num i
  | .str s => .str s
  | .bool b => .bool b
  | .null => .null
  | .big i => .big i

/-- Values of the operator/operand combinations the correspondence generator produces; any other combination
gets an arbitrary value (the height theorems hold for every branch, so they do not depend on this). -/
def evalBin (op : BinOp) (a b : CVal) : CRes :=
  match op, a, b with
  | .add, .num x, .num y => .val (.num (x + y))
  | .sub, .num x, .num y => .val (.num (x - y))
  | .mul, .num x, .num y => .val (.num (x * y))
  | .add, .big x, .big y => .val (.big (x + y))
  | .sub, .big x, .big y => .val (.big (x - y))
  | .mul, .big x, .big y => .val (.big (x * y))
  | .add, .big _, .num _ => .throws true
  | .add, .num _, .big _ => .throws true
  | .sub, .big _, .num _ => .throws true
  | .sub, .num _, .big _ => .throws true
  | .mul, .big _, .num _ => .throws true
  | .mul, .num _, .big _ => .throws true
  | .add, .str x, y => .val (.str (x ++ y.toStr))
  | .add, x, .str y => .val (.str (x.toStr ++ y))
  | .lt, .num x, .num y => .val (.bool (x < y))
  | .gt, .num x, .num y => .val (.bool (x > y))
  | .le, .num x, .num y => .val (.bool (x ≤ y))
  | .ge, .num x, .num y => .val (.bool (x ≥ y))
  | .seq, x, y => .val (.bool (x == y))
  | .sne, x, y => .val (.bool (x != y))
  | .eq, .num x, .num y => .val (.bool (x == y))
  | .ne, .num x, .num y => .val (.bool (x != y))
  | _, _, _ => .val (.num 1)

def evalUn (op : UnOp) (a : CVal) : CRes :=
  match op, a with
  | .not, v => .val (.bool (!v.truthy))
  | .neg, .num x => .val (.num (-x))
  | .neg, .big x => .val (.big (-x))
  | .plus, .num x => .val (.num x)
  | .plus, .big _ => .throws true
  | .bnot, .num x => .val (.num (-x - 1))
  | .bnot, .big x => .val (.big (-x - 1))
  | .typeof, v => .val (.str v.typeofStr)
  | .void, _ => .val .undef
  | _, _ => .val (.num 1)

mutual
/-- `constant()` (compiler_expr.go:302 base = false; :1221 literal; :2477 unary; :2704 binary;
:2579/:2620/:2661 logical). -/
def constant : Expr → Bool
  | .lit _ => true
  | .unary _ e => constant e
  | .deleteOther e => constant e       -- compiledUnaryExpr with token.DELETE
  | .binary _ l r => constant l && constant r
  | .logical op l r =>
      if constant l then
        match evalConst l with
        | .val v =>
          (match op with
           | .or => if v.truthy then true else constant r
           | .and => if !v.truthy then true else constant r
           | .coalesce => if !v.nullish then true else constant r)
        | .throws _ => true
      else false
  | _ => false
/-- `evalConst` on an expression for which `constant` holds (value domain abstracted, see `evalBin`). -/
def evalConst : Expr → CRes
  | .lit v => .val (litVal v)
  | .unary op e =>
      (match evalConst e with
       | .val v => evalUn op v
       | .throws m => .throws m)
  | .deleteOther _ => .val (.bool true)
  | .binary op l r =>
      (match evalConst l with
       | .val a => (match evalConst r with
                    | .val b => evalBin op a b
                    | .throws m => .throws m)
       | .throws m => .throws m)
  | .logical op l r =>
      (match evalConst l with
       | .val v =>
         (match op with
          | .or => if v.truthy then .val v else evalConst r
          | .and => if !v.truthy then .val v else evalConst r
          | .coalesce => if !v.nullish then .val v else evalConst r)
       | .throws m => .throws m)
  | _ => .val .undef
end

/-! ### the emitter -/

def cat : List Code → Code
  | [] => .nil
  | c :: cs => .seq c (cat cs)

def popUnless (p : Bool) : Code := if p then .nil else .ins iPop
def onlyIf (p : Bool) (c : Code) : Code := if p then c else .nil

/-- compiler.emitThrow (compiler_expr.go:2410) -/
def emitThrow (hasMsg : Bool) : Code :=
  if hasMsg then cat [.ins (push1 "loadDynamic"), .ins iLoadVal, .ins (iNew 1), .ins iThrow]
  else cat [.ins (push1 "loadDynamic"), .ins (iNew 0), .ins iThrow]

def strictName (cfg : Cfg) (base : String) : String := if cfg.strict then base ++ "Strict" else base

def binName : BinOp → String
  | .add => "_add" | .sub => "_sub" | .mul => "_mul" | .lt => "_op_lt" | .gt => "_op_gt" | .le => "_op_lte"
  | .ge => "_op_gte" | .eq => "_op_eq" | .ne => "_op_neq" | .seq => "_op_strict_eq" | .sne => "_op_strict_neq"
  | .band => "_and" | .bor => "_or" | .bxor => "_xor" | .shl => "_sal" | .sar => "_sar" | .shr => "_shr"
  | .div => "_div" | .mod => "_mod" | .exp => "_exp" | .instanceof => "_op_instanceof" | .in_ => "_op_in"

def unName : UnOp → String
  | .not => "_not" | .bnot => "_bnot" | .neg => "_neg" | .plus => "_plus" | .typeof => "_typeof" | .void => "void"

/-- compiledIdentifierExpr.emitGetter (compiler_expr.go:336) -/
def emitIdentGet (c : IdClass) (p : Bool) : Code :=
  match c with
  | .stackVar => onlyIf p (.ins (push1 "loadStack"))                               -- emitGet / emitGetP (compiler.go:136,155)
  | .lexVar => .seq (.ins (push1 "loadStackLex")) (popUnless p)
  | .const _ => .seq (.ins (push1 "loadStackLex")) (popUnless p)
  | .global => .seq (.ins (push1 "loadDynamic")) (popUnless p)
  | .dynBound => .seq (.ins (push1 "loadMixed")) (popUnless p)

/-- binding.emitSet / emitSetP (compiler.go:165,184) for a bound name without dynamics -/
def emitBindingSet (cfg : Cfg) (c : IdClass) (p : Bool) : Code :=
  match c with
  | .stackVar => .ins (if p then iKeep1 "storeStack" else ⟨"storeStackP", 0, 1, 1, 0, false⟩)
  | .const isStrict =>
      if isStrict || cfg.strict then
        -- TDZ check first (emitGetP: loadStackLex, pop), then the TypeError (fix 6a214f2)
        cat [.ins (push1 "loadStackLex"), .ins iPop, .ins iThrowAssignToConst]
      else if !p then .ins iPop else .nil      -- emitSetP pops the ignored value (fix 5a4962f); emitSet keeps it
  | _ => .ins (if p then iKeep1 "storeStackLex" else ⟨"storeStackLexP", 0, 1, 1, 0, false⟩)

/-- The mechanism BEFORE fix 5a4962f (kept only for the regression lemma `emit_height_prefix_witness`):
`emitSetP` emitted nothing for a non-strict const binding in sloppy code. -/
def emitBindingSetPrefix (cfg : Cfg) (c : IdClass) (p : Bool) : Code :=
  match c with
  | .const isStrict => if isStrict || cfg.strict then .ins iThrowAssignToConst else .nil
  | c => emitBindingSet cfg c p

def isDyn : IdClass → Bool
  | .global => true
  | .dynBound => true
  | _ => false

/-- compiler.emitVarRef (compiler_expr.go:428) -/
def emitVarRef (cfg : Cfg) (c : IdClass) : Code :=
  match c with
  | .global => .ins (op00 (strictName cfg "resolveVar1"))
  | _ => .ins (op00 "resolveMixed")

/-- emitVarSetter1 (compiler_expr.go:386): `right isRef` must push exactly one value. -/
def emitVarSetter1 (cfg : Cfg) (c : IdClass) (p : Bool) (right : Bool → Code) : Code :=
  if isDyn c then
    cat [emitVarRef cfg c, right true, .ins (if p then iKeep1 "_putValue" else ⟨"_putValueP", 0, 1, 1, 0, false⟩)]
  else
    .seq (right false) (emitBindingSet cfg c p)

/-- `emitExpr` (compiler_expr.go:3332) + `emitConst` (:2431): constant expressions are folded; `g` is what
`emitGetter` would emit. -/
def foldOr (e : Expr) (p : Bool) (g : Code) : Code :=
  if constant e then
    match evalConst e with
    | .val _ => onlyIf p (.ins iLoadVal)
    | .throws m => emitThrow m
  else g

/-- compiler.processKey (compiler_expr.go:1788): a constant key that evaluates without throwing is not emitted -/
def foldsToKey (k : Expr) : Bool :=
  constant k && (match evalConst k with
                 | .val _ => true
                 | .throws _ => false)

/-- stands for "compilation stops with a SyntaxError here" (nothing is emitted, nothing runs) -/
def iDead : Instr := ⟨"<syntax-error>", 0, 0, 0, 0, true⟩

def argsLen : Args → Nat
  | .nil => 0
  | .cons _ rest => argsLen rest + 1
def quasisCount : Quasis → Nat
  | .nil => 0
  | .cons ne _ rest => (if ne then 1 else 0) + 1 + quasisCount rest

/-- update expression on an identifier (compiledIdentifierExpr.emitUnary, compiler_expr.go:453);
`prep` = toNumber for increment and decrement, nil for compound assignment; `body` pushes nothing net (1 → 1). -/
def emitUnaryId (cfg : Cfg) (c : IdClass) (p post : Bool) (prep body : Code) : Code :=
  if p then
    .seq (emitVarSetter1 cfg c true (fun isRef =>
      cat [.ins iLoadUndef, (if isRef then .ins (push1 "_getValue") else emitIdentGet c true), prep,
           (if post then .nil else body), .ins (iRdupN 1), (if post then body else .nil)]))
      (.ins iPop)
  else
    emitVarSetter1 cfg c false (fun isRef =>
      cat [(if isRef then .ins (push1 "_getValue") else emitIdentGet c true), body])

/-- compiledDotExpr.emitUnary (compiler_expr.go:946); `gl` = code of the object expression. -/
def emitUnaryDot (cfg : Cfg) (p post : Bool) (gl prep body : Code) : Code :=
  if !p then cat [gl, .ins iDup, .ins (op11 "getProp"), body, .ins (op20 (strictName cfg "setProp" ++ "P"))]
  else if !post then cat [gl, .ins iDup, .ins (op11 "getProp"), prep, body, .ins (op21 (strictName cfg "setProp"))]
  else cat [.ins iLoadUndef, gl, .ins iDup, .ins (op11 "getProp"), prep, .ins (iRdupN 2), body,
            .ins (op20 (strictName cfg "setProp" ++ "P"))]

/-- compiledBracketExpr.emitUnary (compiler_expr.go:1046) -/
def emitUnaryIndex (cfg : Cfg) (p post : Bool) (gl gm prep body : Code) : Code :=
  if !p then cat [gl, gm, .ins (iDupLast 2), .ins (op21 "_getElem"), body, .ins (op31 (strictName cfg "_setElem")), .ins iPop]
  else if !post then cat [gl, gm, .ins (iDupLast 2), .ins (op21 "_getElem"), prep, body, .ins (op31 (strictName cfg "_setElem"))]
  else cat [.ins iLoadUndef, gl, gm, .ins (iDupLast 2), .ins (op21 "_getElem"), prep, .ins (iRdupN 3), body,
            .ins (op31 (strictName cfg "_setElem")), .ins iPop]

/-- logical assignment (compiledAssignExpr.emitGetter, compiler_expr.go:1171); `ref` pushes the reference
(operand stack unchanged), `right` pushes one value. -/
def emitAssignLog (op : LogOp) (p : Bool) (ref right : Code) : Code :=
  let j : JKind := match op, p with
    | .and, true => jne | .and, false => jneP
    | .or, true => jeq | .or, false => jeqP
    | .coalesce, true => jcoalesc | .coalesce, false => jcoalescP
  cat [ref, .ins (push1 "_getValue"),
       .ifElse j (.seq right (.ins (if p then iKeep1 "_putValue" else ⟨"_putValueP", 0, 1, 1, 0, false⟩)))
                 (.ins (op00 "_popRef"))]

def logJump : LogOp → JKind
  | .or => jeq
  | .and => jne
  | .coalesce => jcoalesc

def logShort (op : LogOp) (v : CVal) : Bool :=
  match op with
  | .or => v.truthy
  | .and => !v.truthy
  | .coalesce => !v.nullish

def incBody (inc : Bool) : Code := .ins (op11 (if inc then "_inc" else "_dec"))
def prepNum : Code := .ins (op11 "_toNumber")

mutual
/-- `emitGetter(putOnStack)` of each compiled expression type. -/
def emitG (cfg : Cfg) : Expr → Bool → Code
  | .lit _, p => onlyIf p (.ins iLoadVal)                                            -- :1215
  | .ident c _, p => emitIdentGet c p                                                -- :336
  | .this, p => .seq (.ins (push1 "loadStack")) (popUnless p)                          -- :2306
  | .unary op e, p =>                                                                  -- :2481
      (match op with
       | .void => .seq (foldOr e false (emitG cfg e false)) (onlyIf p (.ins iLoadUndef))
       | .neg => cat [foldOr e true (emitG cfg e true), .ins (op11 "_neg"), popUnless p]
       | .plus => cat [foldOr e true (emitG cfg e true), .ins (op11 "_plus"), popUnless p]
       | o => cat [emitG cfg e true, .ins (op11 (unName o)), popUnless p])
  | .typeofId c _, p =>                                                                -- :2498 emitGetterOrRef :357
      (match c with
       | .global => cat [.ins (push1 "loadDynamicRef"), .ins (op11 "_typeof"), popUnless p]
       | c => cat [emitIdentGet c true, .ins (op11 "_typeof"), popUnless p])
  | .deleteId c _, p =>                                                                -- :486 (sloppy only)
      (match c with
       | .global => .seq (.ins (push1 "deleteVar")) (popUnless p)
       | _ => onlyIf p (.ins iLoadVal))
  | .deleteDot l _, p => cat [emitG cfg l true, .ins (op11 (strictName cfg "deleteProp")), popUnless p]      -- :993
  | .deleteIndex l m, p =>
      cat [emitG cfg l true, emitG cfg m true, .ins (op21 (strictName cfg "_deleteElem")), popUnless p]     -- :1093
  | .deleteCall e, p => .seq (emitG cfg e false) (onlyIf p (.ins iLoadVal))             -- :3159
  | .deleteOther _, p => onlyIf p (.ins iLoadVal)                                      -- :319 (operand not evaluated)
  | .updateId inc post c _, p => emitUnaryId cfg c p post prepNum (incBody inc)        -- :2517
  | .updateDot inc post l _, p => emitUnaryDot cfg p post (emitG cfg l true) prepNum (incBody inc)
  | .updateIndex inc post l m, p =>
      emitUnaryIndex cfg p post (emitG cfg l true) (emitG cfg m true) prepNum (incBody inc)
  | .binary op l r, p =>                                                               -- :2708
      cat [foldOr l true (emitG cfg l true), foldOr r true (emitG cfg r true), .ins (op21 (binName op)), popUnless p]
  | .logical op l r, p =>                                                              -- :2594 / :2635 / :2677
      if constant l then
        match evalConst l with
        | .val v => if logShort op v then onlyIf p (.ins iLoadVal) else foldOr r p (emitG cfg r p)
        | .throws m => emitThrow m
      else
        cat [(match op with
              | .and => emitG cfg l true
              | _ => foldOr l true (emitG cfg l true)),
             .fwd (logJump op) (foldOr r true (emitG cfg r true)), popUnless p]
  | .cond t a b, p => .seq (emitG cfg t true) (.ifElse jneP (emitG cfg a p) (emitG cfg b p))                 -- :2557
  | .comma a b, p => .seq (emitG cfg a false) (emitG cfg b p)                          -- :2385
  | .assignId c _ r, p =>                                                              -- :1109 → :422 emitNamedOrConst
      let rc := foldOr r true (emitG cfg r true)
      emitVarSetter1 cfg c p (fun _ => rc)
  | .assignDot l _ r, p =>                                                             -- :927
      cat [emitG cfg l true, emitG cfg r true,
           .ins (if p then op21 (strictName cfg "setProp") else op20 (strictName cfg "setProp" ++ "P"))]
  | .assignIndex l m r, p =>                                                           -- :1026
      cat [emitG cfg l true, emitG cfg m true, emitG cfg r true,
           .ins (if p then op31 (strictName cfg "_setElem") else op30 (strictName cfg "_setElem" ++ "P"))]
  | .assignOpId op c _ r, p =>                                                         -- :1111 ff: emitUnary(nil, body, false, p)
      emitUnaryId cfg c p false .nil (.seq (emitG cfg r true) (.ins (op21 (binName op))))
  | .assignOpDot op l _ r, p =>
      emitUnaryDot cfg p false (emitG cfg l true) .nil (.seq (emitG cfg r true) (.ins (op21 (binName op))))
  | .assignOpIndex op l m r, p =>
      emitUnaryIndex cfg p false (emitG cfg l true) (emitG cfg m true) .nil
        (.seq (emitG cfg r true) (.ins (op21 (binName op))))
  | .assignLogId op c _ r, p =>                                                        -- :1171
      emitAssignLog op p (emitVarRef cfg c) (foldOr r true (emitG cfg r true))
  | .assignLogDot op l _ r, p =>
      emitAssignLog op p (.seq (emitG cfg l true) (.ins ⟨strictName cfg "getPropRef", 0, 1, 1, 0, false⟩))
        (emitG cfg r true)
  | .assignLogIndex op l m r, p =>
      emitAssignLog op p
        (cat [emitG cfg l true, emitG cfg m true, .ins ⟨strictName cfg "_getElemRef", 0, 2, 2, 0, false⟩])
        (emitG cfg r true)
  | .dot e _, p => cat [emitG cfg e true, .ins (op11 "getProp"), popUnless p]          -- :909
  | .index e m, p => cat [emitG cfg e true, emitG cfg m true, .ins (op21 "_getElem"), popUnless p]           -- :1006
  -- calls: compiledCallExpr.emitGetter :3071 + emitCallee :3012
  | .callDot l _ a, p =>
      cat [emitG cfg l true, .ins (op12 "getPropCallee"), emitArgs cfg a, .ins (iCall (argsLen a)), popUnless p]
  | .callIndex l m a, p =>
      cat [emitG cfg l true, emitG cfg m true, .ins (op22 "_getElemCallee"), emitArgs cfg a, .ins (iCall (argsLen a)),
           popUnless p]
  | .callId c _ a, p =>
      cat [(match c with
            | .global => .ins ⟨"loadDynamicCallee", 0, 0, 0, 2, false⟩
            | .dynBound => .ins ⟨"loadMixed", 1, 0, 0, 2, false⟩
            | c => .seq (.ins iLoadUndef) (emitIdentGet c true)),
           emitArgs cfg a, .ins (iCall (argsLen a)), popUnless p]
  | .callOther f a, p =>
      cat [.ins iLoadUndef, emitG cfg f true, emitArgs cfg a, .ins (iCall (argsLen a)), popUnless p]
  | .new f a, p => cat [emitG cfg f true, emitArgs cfg a, .ins (iNew (argsLen a)), popUnless p]              -- :2320
  | .array els, p => cat [.ins (push1 "newArray"), emitElems cfg els, popUnless p]     -- :2956
  | .object ps, p => cat [.ins (push1 "_newObject"), emitProps cfg ps, popUnless p]    -- :2847
  | .template head first rest tail, p =>                                               -- :1225 (untagged, >= 1 substitution)
      cat [onlyIf head (.ins iLoadVal), emitG cfg first true, .ins (op11 "_toString"), emitQuasis cfg rest,
           onlyIf tail (.ins iLoadVal),
           .ins (iConcat ((if head then 1 else 0) + 1 + quasisCount rest + (if tail then 1 else 0))), popUnless p]
def emitArgs (cfg : Cfg) : Args → Code
  | .nil => .nil
  | .cons e rest => .seq (emitG cfg e true) (emitArgs cfg rest)
def emitElems (cfg : Cfg) : Elems → Code
  | .nil => .nil
  | .hole rest => cat [.ins (push1 "_loadNil"), .ins (op21 "_pushArrayItem"), emitElems cfg rest]
  | .cons e rest => cat [foldOr e true (emitG cfg e true), .ins (op21 "_pushArrayItem"), emitElems cfg rest]
def emitProps (cfg : Cfg) : Props → Code
  | .nil => .nil
  | .keyed _ v rest => cat [foldOr v true (emitG cfg v true), .ins (op21 "putProp"), emitProps cfg rest]
  | .computed k v rest =>
      if foldsToKey k then cat [foldOr v true (emitG cfg v true), .ins (op21 "putProp"), emitProps cfg rest]   -- processKey :1788
      else cat [emitG cfg k true, .ins (op11 "_toPropertyKey"), foldOr v true (emitG cfg v true), .ins (op31 "_setElem1"),
                emitProps cfg rest]
def emitQuasis (cfg : Cfg) : Quasis → Code
  | .nil => .nil
  | .cons ne e rest => cat [onlyIf ne (.ins iLoadVal), emitG cfg e true, .ins (op11 "_toString"), emitQuasis cfg rest]
end

/-- `emitExpr` (compiler_expr.go:3332). -/
def emitE (cfg : Cfg) (e : Expr) (p : Bool) : Code := foldOr e p (emitG cfg e p)

/-! ### statements (compiler_stmt.go)

The fragment: expression / empty / `var` statements, blocks without lexical declarations, `if`, `while`, `do-while`,
`for` with no, an expression or a one-binding `var` initialiser (`ForInit`), `return`, `throw` — without `break`/`continue`/labels, so that
`scanStatements` (compiler_stmt.go:922) reduces to "index of the last statement whose result is not empty" and
`containsBranch` is false.  `nr` is the compiler's `needResult`. -/

def iSaveResult : Instr := ⟨"_saveResult", 0, 1, 1, 0, false⟩
def iClearResult : Instr := op00 "_clearResult"
def iInitStackP : Instr := ⟨"initStackP", 0, 1, 1, 0, false⟩
def iInitValueP : Instr := ⟨"_initValueP", 0, 1, 1, 0, false⟩
/-- `ret` is terminal for the unit; `pushes = 1` records that, unlike a throw, it leaves its operand as the value for
the caller (no successor inside the unit reads it: `Instr.node` and `Code.height` ignore `pushes` of terminal
instructions) — `Instr.isRet` (EmitLemmas.lean) tells `ret` from the throwing terminals by it. -/
def iRet : Instr := ⟨"_ret", 0, 1, 1, 1, true⟩

/-- the head of a `for` statement: nothing, an expression, or a `var` declaration with one binding
(`ForLoopInitializerVarDeclList` → compileVarBinding → emitVarAssign, like the `var` statement) -/
inductive ForInit
  | none
  | expr (e : Expr)
  | var0                                  -- `for (var x; …)`
  | varInit (c : IdClass) (init : Expr)   -- `for (var x = init; …)`

mutual
inductive Stmt
  | expr (e : Expr)
  | empty
  | varBare                                             -- `var x;`
  | varInit (c : IdClass) (init : Expr)                 -- `var x = init;`
  | block (ss : Stmts)
  | ifS (t : Expr) (a : Stmt)
  | ifElse (t : Expr) (a b : Stmt)
  | whileS (t : Expr) (body : Stmt)
  | doWhile (body : Stmt) (t : Expr)
  | forS (init : ForInit) (test update : Option Expr) (body : Stmt)
  | ret (e : Option Expr)
  | throwS (e : Expr)
inductive Stmts
  | nil
  | cons (s : Stmt) (rest : Stmts)
end

mutual
/-- compiler.isEmptyResult (compiler_stmt.go:881) on the fragment -/
def Stmt.emptyResult : Stmt → Bool
  | .empty => true
  | .varBare => true
  | .varInit _ _ => true
  | .block ss => ss.allEmpty
  | _ => false
def Stmts.allEmpty : Stmts → Bool
  | .nil => true
  | .cons s r => s.emptyResult && r.allEmpty
end

/-- scanStatements: index of the last value-producing statement (counting from `i`) -/
def Stmts.lastProd : Stmts → Nat → Option Nat → Option Nat
  | .nil, _, acc => acc
  | .cons s r, i, acc => r.lastProd (i + 1) (if s.emptyResult then acc else some i)

/-- how a constant loop / if test is disposed of -/
inductive TestK | nonConst | truthy | falsy | throws (hasMsg : Bool)

def testKind (t : Expr) : TestK :=
  if constant t then
    match evalConst t with
    | .val v => if v.truthy then .truthy else .falsy
    | .throws m => .throws m
  else .nonConst

def clr (nr : Bool) : Code := onlyIf nr (.ins iClearResult)
def optG (cfg : Cfg) : Option Expr → Code
  | none => .nil
  | some e => emitG cfg e false

/-- emitVarAssign (compiler_stmt.go:776) with an initialiser: a statically resolved binding is initialised in place,
otherwise through a reference -/
def emitVarInit (cfg : Cfg) (c : IdClass) (init : Expr) : Code :=
  if isDyn c then cat [emitVarRef cfg c, emitE cfg init true, .ins iInitValueP]
  else .seq (emitE cfg init true) (.ins iInitStackP)

def emitForInit (cfg : Cfg) : ForInit → Code
  | .none => .nil
  | .expr e => emitG cfg e false
  | .var0 => .nil
  | .varInit c e => emitVarInit cfg c e

mutual
def emitS (cfg : Cfg) : Stmt → Bool → Code
  -- compileExpressionStatement (compiler_stmt.go:1070)
  | .expr e, nr => .seq (emitE cfg e nr) (onlyIf nr (.ins iSaveResult))
  -- compileEmptyStatement (:554)
  | .empty, nr => clr nr
  | .varBare, _ => .nil
  | .varInit c init, _ => emitVarInit cfg c init
  -- compileBlockStatement (:1042) without declarations = compileStatements
  | .block ss, nr => emitList cfg ss (if nr then ss.lastProd 0 none else none) 0
  -- compileIfStatement (:690)
  | .ifS t a, nr =>
      .seq (clr nr)
        (match testKind t with
         | .throws m => emitThrow m
         | .truthy => emitS cfg a nr
         | .falsy => clr nr
         | .nonConst =>
             .seq (emitG cfg t true)
               (if nr then .ifElse jneP (emitS cfg a nr) (.ins iClearResult) else .fwd jneP (emitS cfg a nr)))
  | .ifElse t a b, nr =>
      .seq (clr nr)
        (match testKind t with
         | .throws m => emitThrow m
         | .truthy => emitS cfg a nr
         | .falsy => emitS cfg b nr
         | .nonConst => .seq (emitG cfg t true) (.ifElse jneP (emitS cfg a nr) (emitS cfg b nr)))
  -- compileLabeledWhileStatement (:509)
  | .whileS t body, nr =>
      .seq (clr nr)
        (match testKind t with
         | .throws m => emitThrow m
         | .falsy => .nil
         | .truthy => .forever (.seq (clr nr) (emitS cfg body nr))
         | .nonConst => .loop jneP (emitG cfg t true) (.seq (clr nr) (emitS cfg body nr)))
  -- compileLabeledDoWhileStatement (:221)
  | .doWhile body t, nr => .doLoop jeqP (cat [clr nr, emitS cfg body nr, emitE cfg t true])
  -- compileLabeledForStatement (:262), initialiser absent, an expression, or a `var` binding
  | .forS init test update body, nr =>
      cat [emitForInit cfg init, clr nr,
        (match test with
         | none => .forever (cat [clr nr, emitS cfg body nr, optG cfg update])
         | some t =>
           match testKind t with
           | .throws m => emitThrow m
           | .falsy => .nil
           | .truthy => .forever (cat [clr nr, emitS cfg body nr, optG cfg update])
           | .nonConst => .loop jneP (emitG cfg t true) (cat [clr nr, emitS cfg body nr, optG cfg update]))]
  -- compileReturnStatement (:740) outside try / for-in / for-of blocks
  | .ret none, _ => .seq (.ins iLoadUndef) (.ins iRet)
  | .ret (some e), _ => .seq (emitE cfg e true) (.ins iRet)
  -- compileThrowStatement (:211)
  | .throwS e, _ => .seq (emitG cfg e true) (.ins iThrow)
/-- compileStatements / compileStatementsNeedResult (:1014, :982): only the statement at index `lp` tracks its result -/
def emitList (cfg : Cfg) : Stmts → Option Nat → Nat → Code
  | .nil, _, _ => .nil
  | .cons s r, lp, i => .seq (emitS cfg s (lp == some i)) (emitList cfg r lp (i + 1))
end

/-- a statement list as the body of a program (`needResult = true`) or of a function (`false`) -/
def emitBody (cfg : Cfg) (ss : Stmts) (nr : Bool) : Code := emitS cfg (.block ss) nr

/-! ## resolving a dumped instruction (type name + operands) to a `Node` -/

def lookupOp (ops : List (String × Int)) (k : String) : Int := (ops.lookup k).getD 0

def LinE.eval (l : LinE) (ops : List (String × Int)) : Int :=
  if l.coeff = 0 then l.const else l.coeff * lookupOp ops l.opnd + l.const

def PathE.edge (q : PathE) (ops : List (String × Int)) : Int × Int :=
  (match q.pc with
   | .next => 1
   | .jumpOp o => lookupOp ops o, q.sp.eval ops)

def plainNode (need : Int) (edges : List (Int × Int)) : Node := ⟨need.toNat, edges, .plain⟩

/-- Names with a hand-written effect: everything the extractor classifies `dyn`, the control instructions
(try/finally protocol, return, variadic calls) and a few instructions whose generated path set is
operand-sensitive in a way the table cannot express (leaveBlock's `if ss > 0`, loadMixed's callee flag). -/
def handNames : List String :=
  ["call", "callEval", "callEvalStrict", "_callVariadic", "_callEvalVariadic", "_callEvalVariadicStrict",
   "_newVariadic", "_superCallVariadic", "_startVariadic", "_endVariadic", "_pushSpread", "_ret", "cret", "_throw",
   "try", "leaveTry", "enterFinally", "leaveFinally", "bindGlobal", "enterFunc", "enterFuncStashless",
   "enterFuncBody", "leaveBlock", "loadMixed", "loadMixedLex", "loadMixedStack", "loadMixedStack1",
   "loadMixedStackLex", "loadMixedStack1Lex", "newArrowFunc", "newAsyncArrowFunc", "newMethod", "newAsyncMethod",
   "newGeneratorMethod", "yieldMarker", "yieldEmpty", "nil"]

def handNode (name : String) (ops : List (String × Int)) : Option Node :=
  let n := lookupOp ops "n"
  if name = "call" ∨ name = "callEval" ∨ name = "callEvalStrict" then some (plainNode (n + 2) [(1, -(n + 1))])   -- vm.go:3675
  else if name = "_callVariadic" ∨ name = "_callEvalVariadic" ∨ name = "_callEvalVariadicStrict"
       ∨ name = "_newVariadic" ∨ name = "_superCallVariadic" then some ⟨0, [], .callVar⟩
  else if name = "nil" then some (plainNode 1073741824 [])   -- unpatched placeholder: executing it dereferences nil → never `safe` if reachable
  else if name = "_startVariadic" then some ⟨0, [], .startVar⟩
  else if name = "_endVariadic" then some ⟨2, [], .endVar⟩
  else if name = "_pushSpread" then some (plainNode 1 [(1, 0)])      -- virtual height: a spread counts as one value
  else if name = "_ret" ∨ name = "cret" then some ⟨1, [], .ret⟩
  else if name = "_throw" then some (plainNode 1 [])
  else if name = "try" then some ⟨0, [], .tryI (lookupOp ops "catchOffset").toNat (lookupOp ops "finallyOffset").toNat⟩
  else if name = "leaveTry" then some ⟨0, [], .leaveTry⟩
  else if name = "enterFinally" then some ⟨0, [], .enterFinally⟩
  else if name = "leaveFinally" then some ⟨0, [], .leaveFinally⟩
  else if name = "bindGlobal" then some (plainNode (lookupOp ops "funcs#") [(1, -(lookupOp ops "funcs#"))])  -- vm.go:4325
  else if name = "enterFunc" ∨ name = "enterFuncStashless" ∨ name = "enterFuncBody" then
    some (plainNode 0 [(1, lookupOp ops "stackSize")])                -- height relative to the normalised frame
  else if name = "leaveBlock" then some (plainNode (lookupOp ops "stackSize") [(1, -(lookupOp ops "stackSize"))])
  else if name = "loadMixed" ∨ name = "loadMixedLex" ∨ name = "loadMixedStack" ∨ name = "loadMixedStack1"
       ∨ name = "loadMixedStackLex" ∨ name = "loadMixedStack1Lex" then some (plainNode 0 [(1, 1 + lookupOp ops "callee")])
  else if name = "newArrowFunc" ∨ name = "newAsyncArrowFunc" then some (plainNode 0 [(1, 1)])
  else if name = "newMethod" ∨ name = "newAsyncMethod" ∨ name = "newGeneratorMethod" then
    some (plainNode (lookupOp ops "homeObjOffset") [(1, 1)])
  else if name = "yieldEmpty" then some (plainNode 0 [(1, 0)])
  else if name = "yieldMarker" then
    (let t := lookupOp ops "resultType"
     if t = 1 ∨ t = 3 then some (plainNode 1 [(1, -1)]) else some (plainNode 1 [(1, 0)]))   -- func.go:10, :835
  else none

def resolve (table : List (String × Eff)) (name : String) (ops : List (String × Int)) : Except String Node :=
  match handNode name ops with
  | some nd => .ok nd
  | none =>
    match table.lookup name with
    | some (.paths need ps) => .ok (plainNode (need.eval ops) (ps.map (·.edge ops)))
    | some (.dyn why) => .error s!"dyn instruction without hand-written effect: {name} ({why})"
    | none => .error s!"unknown instruction {name}"

/-! ### frame-slot addressing (vm.go:1059-1286)

`loadStack(l)` &c. address `stack[sb + args + l]` for `l > 0` (var<l-1>); the `…1` variants, used when the arguments live
in the stash, address `stack[sb + l]`.  In the verifier's normalised frame (arguments not counted, `this` at position 0 of
a function unit; a program / eval unit starts directly above its `this` slot) that is position `l - 1 + base` with
`base = 1` for function units and `0` for program units.  The slot must lie below the operands: a load needs
`pos + 1` values on the abstract stack, a store or initialisation (which also reads the top) `pos + 2`.  The store
variants that `panic("Illegal stack var index")` for `l ≤ 0` are never safe with such an operand. -/
def slotLoads : List String :=
  ["loadStack", "loadStack1", "loadStackLex", "loadStack1Lex", "loadMixedStack", "loadMixedStack1", "loadMixedStackLex",
   "loadMixedStack1Lex", "resolveMixedStack", "resolveMixedStack1"]
def slotStores : List String :=
  ["storeStack", "storeStack1", "storeStackLex", "storeStack1Lex", "storeStackP", "storeStack1P", "storeStackLexP",
   "storeStack1LexP", "initStack", "initStack1", "initStackP", "initStack1P"]
def slotPanicsNonPos : List String :=
  ["storeStack", "storeStack1", "storeStack1Lex", "storeStackP", "storeStack1P", "storeStack1LexP", "initStack1", "initStack1P"]

/-- the struct-typed ones carry the slot in their `idx` field, the int-typed ones are the slot number (`n` in the dump) -/
def slotInIdx : List String :=
  ["loadMixedStack", "loadMixedStack1", "loadMixedStackLex", "loadMixedStack1Lex", "resolveMixedStack", "resolveMixedStack1"]

def slotNeed (base : Nat) (name : String) (ops : List (String × Int)) : Nat :=
  let l := if slotInIdx.contains name then lookupOp ops "idx" else lookupOp ops "n"
  if slotLoads.contains name then (if l > 0 then l.toNat - 1 + base + 1 else 0)
  else if slotStores.contains name then
    (if l > 0 then l.toNat - 1 + base + 2 else if slotPanicsNonPos.contains name then 1073741824 else 0)
  else 0

/-- a node whose `need` also covers the frame slot the instruction addresses -/
def withSlotNeed (base : Nat) (name : String) (ops : List (String × Int)) (n : Node) : Node :=
  { n with need := max n.need (slotNeed base name ops) }

/-! ## (c) panic payload classifier (vm.go:5891 exceptionFromValue, vm.go:828 handleThrow,
runtime.go:1472 asUncatchableException, recover sites runtime.go:1489 RunProgram, :2563 runWrapped, :1416 compileAST) -/

inductive Payload
  | object | value | exception | typeError | referenceError | rangeError | syntaxError
  | interruptedError | stackOverflowError | wrappedUncatchable
  | compilerSyntaxError
  | other (tag : String)          -- Go runtime errors, strings ("Compiler bug"), arbitrary values
deriving DecidableEq, Repr

inductive Outcome
  | exception          -- returned as *Exception (catchable by script)
  | uncatchable        -- returned as *InterruptedError / *StackOverflowError (or an error wrapping one)
  | compileError       -- returned as *CompilerSyntaxError
  | repanic            -- escapes to the host
deriving DecidableEq, Repr

/-- the `case` list of vm.exceptionFromValue; default returns nil -/
def exceptionFromValueOk : Payload → Bool
  | .object | .value | .exception | .typeError | .referenceError | .rangeError | .syntaxError => true
  | _ => false

/-- asUncatchableException: `uncatchableException` interface or an `error` whose Unwrap chain contains one -/
def asUncatchableOk : Payload → Bool
  | .interruptedError | .stackOverflowError | .wrappedUncatchable => true
  | _ => false

/-- run boundary: handleThrow converts what exceptionFromValue knows, re-panics the rest (`panic(arg)`), and
the recover of RunProgram / runWrapped keeps only uncatchable exceptions. -/
def classifyRun (p : Payload) : Outcome :=
  if exceptionFromValueOk p then .exception
  else if asUncatchableOk p then .uncatchable
  else .repanic

/-- compile boundary: compileAST's recover keeps *CompilerSyntaxError only. -/
def classifyCompile (p : Payload) : Outcome :=
  match p with
  | .compilerSyntaxError => .compileError
  | _ => .repanic

def documentedRun : List Payload :=
  [.object, .value, .exception, .typeError, .referenceError, .rangeError, .syntaxError,
   .interruptedError, .stackOverflowError, .wrappedUncatchable]

end GojaModel.C01
