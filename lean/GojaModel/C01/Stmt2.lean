import GojaModel.C01.Model
/-!
  C01 (a″): `break` / `continue` (unlabelled, to the innermost loop) and `try` / `catch` / `finally` in the statement
  emitter model.

  A second statement AST `S2` = the fragment of `Stmt` plus `brk` / `cont` and the three forms of `try` (`catch` without a
  parameter, or with an identifier parameter kept on the stack), and a second structured code type `C2` whose loops own
  the two jump targets: `brk` / `cont` are laid out as the `jump` placeholders the compiler patches in `leaveBlock`
  (compiler.go:347); `tryC` has the layout of compileTryStatement.  What is transcribed in addition to `emitS`:

    compileBreak / compileContinue / emitBlockExitCode (compiler_stmt.go:628-669): the blocks between a branch statement
      and its loop are try blocks and catch-parameter scopes (no lexical scopes, with, for-in/of); each contributes a
      `leaveTry` resp. a copy of its `leaveBlock` to the exit code (`exitCode`); outside a loop compilation stops with a
      SyntaxError;
    compileTryStatement (:105) with both handler offsets and the `finallyBreaking` rule (:113-123, :191);
      compileReturnStatement's `saveResult; leaveTry; loadResult` per enclosing try block (:752);
    block.cont: `while` → loop start, `do-while` → the test, `for` → the update expression;
    the result bookkeeping of statement lists in the presence of branch statements: isEmptyResult / leadingBranch /
      scanStatements (:881-935: the scan stops at the first statement that certainly reaches a branch first; the list then
      takes the `needResult` of the loop that branch leaves), containsBranch (:940: a statement before the last producing one
      tracks its result iff it contains a branch), and dummy mode after a direct branch statement in the tail of a
      `needResult` list (:1008: nothing more is emitted for that list).
-/
namespace GojaModel.C01

mutual
inductive S2
  | expr (e : Expr)
  | empty
  | varBare
  | varInit (c : IdClass) (init : Expr)
  | block (ss : SS2)
  | ifS (t : Expr) (a : S2)
  | ifElse (t : Expr) (a b : S2)
  | whileS (t : Expr) (body : S2)
  | doWhile (body : S2) (t : Expr)
  | forS (init : ForInit) (test update : Option Expr) (body : S2)
  | ret (e : Option Expr)
  | throwS (e : Expr)
  | brk
  | cont
  | tryCatch (param : Bool) (body c : SS2)   -- `try {…} catch {…}` / `catch (e) {…}` (identifier parameter, on the stack)
  | tryFinally (body f : SS2)
  | tryCatchFinally (param : Bool) (body c f : SS2)
inductive SS2
  | nil
  | cons (s : S2) (rest : SS2)
end

def S2.isBranch : S2 → Bool
  | .brk => true
  | .cont => true
  | _ => false

mutual
/-- compiler.isEmptyResult (compiler_stmt.go:881) -/
def S2.emptyResult : S2 → Bool
  | .empty => true
  | .varBare => true
  | .varInit _ _ => true
  | .brk => true
  | .cont => true
  | .block ss => ss.blockEmpty
  | _ => false
def SS2.blockEmpty : SS2 → Bool
  | .nil => true
  | .cons s r => if s.isBranch then true else if !s.emptyResult then false else r.blockEmpty
end

mutual
/-- compiler.leadingBranch (:905), reduced to "there is one" (every branch of the fragment leaves the innermost loop) -/
def S2.leading : S2 → Bool
  | .brk => true
  | .cont => true
  | .block ss => ss.leading
  | _ => false
def SS2.leading : SS2 → Bool
  | .nil => false
  | .cons s r => if s.leading then true else if !s.emptyResult then false else r.leading
end

mutual
/-- containsBranch (:940) -/
def S2.contains : S2 → Bool
  | .brk => true
  | .cont => true
  | .block ss => ss.contains
  | .ifS _ a => a.contains
  | .ifElse _ a b => a.contains || b.contains
  | .whileS _ b => b.contains
  | .doWhile b _ => b.contains
  | .forS _ _ _ b => b.contains
  | .tryCatch _ b c => b.contains || c.contains
  | .tryFinally b f => b.contains || f.contains
  | .tryCatchFinally _ b c f => b.contains || c.contains || f.contains
  | _ => false
def SS2.contains : SS2 → Bool
  | .nil => false
  | .cons s r => s.contains || r.contains
end

/-- scanStatements (:922): (index of the last value-producing statement before the first leading branch, was there one) -/
def SS2.scan : SS2 → Nat → Option Nat → Option Nat × Bool
  | .nil, _, acc => (acc, false)
  | .cons s r, i, acc => if s.leading then (acc, true) else r.scan (i + 1) (if s.emptyResult then acc else some i)

inductive C2
  | old (c : Code)
  | nil
  | seq (a b : C2)
  | fwd (j : JKind) (body : C2)
  | ifElse (j : JKind) (a b : C2)
  /-- pre ; j(exit) ; body ; upd ; jump(start).  continue → start (`contStart`, while) or → upd (for) -/
  | loop (j : JKind) (contStart : Bool) (pre : Code) (body : C2) (upd : Code)
  /-- body ; upd ; jump(start) -/
  | forever (contStart : Bool) (body : C2) (upd : Code)
  /-- body ; test ; j(start).  continue → test -/
  | doLoop (j : JKind) (body : C2) (test : Code)
  | brk
  | cont
  /-- try{catchOffset, finallyOffset} ; [clearResult] ; body ; [jump over ; (pop ; catch | enterBlock ; catch ; leaveBlock)] ;
  (enterFinally ; fin ; leaveFinally | leaveTry) -/
  | tryC (clr : Bool) (body : C2) (hasCatch param : Bool) (ctc : C2) (hasFin : Bool) (fin : C2)

def C2.len : C2 → Nat
  | .old c => c.len
  | .nil => 0
  | .seq a b => a.len + b.len
  | .fwd _ b => 1 + b.len
  | .ifElse _ a b => 2 + a.len + b.len
  | .loop _ _ pre body upd => pre.len + 1 + body.len + upd.len + 1
  | .forever _ body upd => body.len + upd.len + 1
  | .doLoop _ body test => body.len + test.len + 1
  | .brk => 1
  | .cont => 1
  | .tryC clr body hc pm ctc hf fin =>
      1 + (if clr then 1 else 0) + body.len + (if hc then 2 + ctc.len + (if pm then 1 else 0) else 0) +
        (if hf then 2 + fin.len else 1)

/-- flat layout at absolute position `pos`; `bT` / `cT` = absolute positions of the enclosing loop's break / continue targets -/
def C2.flatAt : C2 → Nat → Nat → Nat → List (String × Int)
  | .old c, _, _, _ => c.flat.map (fun x => (x.1, x.2.1))
  | .nil, _, _, _ => []
  | .seq a b, pos, bT, cT => a.flatAt pos bT cT ++ b.flatAt (pos + a.len) bT cT
  | .fwd j body, pos, bT, cT => (j.name, ((body.len + 1 : Nat) : Int)) :: body.flatAt (pos + 1) bT cT
  | .ifElse j a b, pos, bT, cT =>
      (j.name, ((a.len + 2 : Nat) : Int)) :: a.flatAt (pos + 1) bT cT ++
        ("jump", ((b.len + 1 : Nat) : Int)) :: b.flatAt (pos + 1 + a.len + 1) bT cT
  | .loop j cs pre body upd, pos, _, _ =>
      let bodyPos := pos + pre.len + 1
      let updPos := bodyPos + body.len
      let exit := updPos + upd.len + 1
      pre.flat.map (fun x => (x.1, x.2.1)) ++ (j.name, ((body.len + upd.len + 2 : Nat) : Int)) ::
        body.flatAt bodyPos exit (if cs then pos else updPos) ++ upd.flat.map (fun x => (x.1, x.2.1)) ++
        [("jump", -((pre.len + 1 + body.len + upd.len : Nat) : Int))]
  | .forever cs body upd, pos, _, _ =>
      let updPos := pos + body.len
      let exit := updPos + upd.len + 1
      body.flatAt pos exit (if cs then pos else updPos) ++ upd.flat.map (fun x => (x.1, x.2.1)) ++
        [("jump", -((body.len + upd.len : Nat) : Int))]
  | .doLoop j body test, pos, _, _ =>
      let testPos := pos + body.len
      let exit := testPos + test.len + 1
      body.flatAt pos exit testPos ++ test.flat.map (fun x => (x.1, x.2.1)) ++
        [(j.name, -((body.len + test.len : Nat) : Int))]
  | .brk, pos, bT, _ => [("jump", (bT : Int) - pos)]
  | .cont, pos, _, cT => [("jump", (cT : Int) - pos)]
  | .tryC clr body hc pm ctc hf fin, pos, bT, cT =>
      let bodyPos := pos + 1 + (if clr then 1 else 0)
      let afterBody := bodyPos + body.len
      let afterCatch := afterBody + (if hc then 2 + ctc.len + (if pm then 1 else 0) else 0)
      let catchOff : Nat := if hc then afterBody + 1 - pos else 0
      let finOff : Nat := if hf then afterCatch + 1 - pos else 0
      -- the flat format has one operand per instruction: both handler offsets in one number, split again by `cmdEmitS2`
      ("try", ((catchOff * 10000 + finOff : Nat) : Int)) :: (if clr then [("_clearResult", (0 : Int))] else []) ++
        body.flatAt bodyPos bT cT ++
        (if hc then
           (if pm then ("jump", ((ctc.len + 3 : Nat) : Int)) :: ("enterBlock", 0) :: ctc.flatAt (afterBody + 2) bT cT ++ [("leaveBlock", 0)]
            else ("jump", ((ctc.len + 2 : Nat) : Int)) :: ("_pop", 0) :: ctc.flatAt (afterBody + 2) bT cT)
         else []) ++
        (if hf then ("enterFinally", 0) :: fin.flatAt (afterCatch + 1) bT cT ++ [("leaveFinally", 0)]
         else [("leaveTry", 0)])

/-- the `leaveBlock` of a catch-parameter scope: pops the parameter's slot -/
def iLeaveBlock1 : Instr := ⟨"leaveBlock", 0, 1, 1, 0, false⟩

/-- block exit code of `break` / `continue` (emitBlockExitCode :628) for the blocks between the statement and its loop,
innermost first: `false` = a try block (`leaveTry`), `true` = the scope of a catch parameter (a copy of its `leaveBlock`,
compiler.go:340) -/
def exitCode : List Bool → Code
  | [] => .nil
  | false :: r => .seq (.ins (op00 "leaveTry")) (exitCode r)
  | true :: r => .seq (.ins iLeaveBlock1) (exitCode r)

/-- operands that those blocks keep on the stack (one per catch parameter) -/
def slots : List Bool → Nat
  | [] => 0
  | false :: r => slots r
  | true :: r => slots r + 1

/-- what `return` emits for every enclosing try block (compileReturnStatement :752) -/
def retUnwind : Nat → Code
  | 0 => .nil
  | n + 1 => .seq (.seq (.ins iSaveResult) (.seq (.ins (op00 "leaveTry")) (.ins (push1 "_loadResult")))) (retUnwind n)

/-- compileStatements (:1014): the `needResult` a list is really compiled with, and its last producing index -/
def blkMode (ss : SS2) (lc : Option Bool) (nr : Bool) : Bool × Option Nat :=
  let sc := ss.scan 0 none
  (if sc.2 then (match lc with
                 | some b => b
                 | none => nr) else nr, sc.1)

/-- compileTryStatement :113-125: a finally block that certainly ends in a branch (`finallyBreaking`) decides the `needResult`
of the try block and the catch clause: the loop's, if the finally block produces no value before the branch, else none -/
def finBreaking (f : SS2) (lc : Option Bool) : Bool := (f.scan 0 none).2 && lc.isSome
def tryBodyNr (f : SS2) (lc : Option Bool) (nr : Bool) : Bool :=
  if finBreaking f lc then (if (f.scan 0 none).1.isNone then lc.getD false else false) else nr
/-- … and the finally block then starts by clearing the result (:191) -/
def finClr (f : SS2) (lc : Option Bool) (nr : Bool) : Bool :=
  tryBodyNr f lc nr && finBreaking f lc && (f.scan 0 none).1.isNone

mutual
/-- `lc` = `needResult` of the innermost enclosing loop (`none` outside loops); `td` = number of try blocks around
the statement inside its function; `ex` = the blocks between the statement and that loop (see `exitCode`) -/
def emit2 (cfg : Cfg) (lc : Option Bool) (td : Nat) (ex : List Bool) : S2 → Bool → C2
  | .expr e, nr => .old (.seq (emitE cfg e nr) (onlyIf nr (.ins iSaveResult)))
  | .empty, nr => .old (clr nr)
  | .varBare, _ => .nil
  | .varInit c init, _ => .old (emitVarInit cfg c init)
  -- compileStatements (:1014)
  | .block ss, nr => emitL2 cfg lc td ex ss (blkMode ss lc nr).1 (blkMode ss lc nr).2 0
  | .ifS t a, nr =>
      .seq (.old (clr nr))
        (match testKind t with
         | .throws m => .old (emitThrow m)
         | .truthy => emit2 cfg lc td ex a nr
         | .falsy => .old (clr nr)
         | .nonConst =>
             .seq (.old (emitG cfg t true))
               (if nr then .ifElse jneP (emit2 cfg lc td ex a nr) (.old (.ins iClearResult)) else .fwd jneP (emit2 cfg lc td ex a nr)))
  | .ifElse t a b, nr =>
      .seq (.old (clr nr))
        (match testKind t with
         | .throws m => .old (emitThrow m)
         | .truthy => emit2 cfg lc td ex a nr
         | .falsy => emit2 cfg lc td ex b nr
         | .nonConst => .seq (.old (emitG cfg t true)) (.ifElse jneP (emit2 cfg lc td ex a nr) (emit2 cfg lc td ex b nr)))
  | .whileS t body, nr =>
      .seq (.old (clr nr))
        (match testKind t with
         | .throws m => .old (emitThrow m)
         | .falsy => .nil
         | .truthy => .forever true (.seq (.old (clr nr)) (emit2 cfg (some nr) td [] body nr)) .nil
         | .nonConst => .loop jneP true (emitG cfg t true) (.seq (.old (clr nr)) (emit2 cfg (some nr) td [] body nr)) .nil)
  | .doWhile body t, nr => .doLoop jeqP (.seq (.old (clr nr)) (emit2 cfg (some nr) td [] body nr)) (emitE cfg t true)
  | .forS init test update body, nr =>
      .seq (.old (emitForInit cfg init)) (.seq (.old (clr nr))
        (match test with
         | none => .forever false (.seq (.old (clr nr)) (emit2 cfg (some nr) td [] body nr)) (optG cfg update)
         | some t =>
           match testKind t with
           | .throws m => .old (emitThrow m)
           | .falsy => .nil
           | .truthy => .forever false (.seq (.old (clr nr)) (emit2 cfg (some nr) td [] body nr)) (optG cfg update)
           | .nonConst =>
               .loop jneP false (emitG cfg t true) (.seq (.old (clr nr)) (emit2 cfg (some nr) td [] body nr)) (optG cfg update)))
  | .ret none, _ => .old (.seq (.ins iLoadUndef) (.seq (retUnwind td) (.ins iRet)))
  | .ret (some e), _ => .old (.seq (emitE cfg e true) (.seq (retUnwind td) (.ins iRet)))
  | .throwS e, _ => .old (.seq (emitG cfg e true) (.ins iThrow))
  -- compileBreak / compileContinue (:659, :665); "Could not find block" outside a loop
  | .brk, _ => (match lc with
                | some _ => .seq (.old (exitCode ex)) .brk
                | none => .old (.ins iDead))
  | .cont, _ => (match lc with
                 | some _ => .seq (.old (exitCode ex)) .cont
                 | none => .old (.ins iDead))
  -- compileTryStatement (:105); the try block stays open in the catch and finally clauses
  | .tryCatch pm b c, nr =>
      .tryC nr (emitL2 cfg lc (td + 1) (false :: ex) b (blkMode b lc nr).1 (blkMode b lc nr).2 0) true pm
        (emitL2 cfg lc (td + 1) (if pm then true :: false :: ex else false :: ex) c (blkMode c lc nr).1 (blkMode c lc nr).2 0)
        false .nil
  | .tryFinally b f, nr =>
      let bn := tryBodyNr f lc nr
      .tryC nr (emitL2 cfg lc (td + 1) (false :: ex) b (blkMode b lc bn).1 (blkMode b lc bn).2 0) false false .nil true
        (.seq (.old (clr (finClr f lc nr)))
          (emitL2 cfg lc (td + 1) (false :: ex) f (blkMode f lc false).1 (blkMode f lc false).2 0))
  | .tryCatchFinally pm b c f, nr =>
      let bn := tryBodyNr f lc nr
      .tryC nr (emitL2 cfg lc (td + 1) (false :: ex) b (blkMode b lc bn).1 (blkMode b lc bn).2 0) true pm
        (emitL2 cfg lc (td + 1) (if pm then true :: false :: ex else false :: ex) c (blkMode c lc bn).1 (blkMode c lc bn).2 0) true
        (.seq (.old (clr (finClr f lc nr)))
          (emitL2 cfg lc (td + 1) (false :: ex) f (blkMode f lc false).1 (blkMode f lc false).2 0))
/-- the loop of compileStatements (`nrMode = false`) resp. compileStatementsNeedResult (:982) -/
def emitL2 (cfg : Cfg) (lc : Option Bool) (td : Nat) (ex : List Bool) : SS2 → Bool → Option Nat → Nat → C2
  | .nil, _, _, _ => .nil
  | .cons s r, nrMode, lp, i =>
      if !nrMode then .seq (emit2 cfg lc td ex s false) (emitL2 cfg lc td ex r false lp (i + 1))
      else
        let nrS := match lp with
          | some l => if i < l then s.contains else i == l
          | none => false
        let inTail := match lp with
          | some l => decide (l < i)
          | none => true
        if inTail && s.isBranch then emit2 cfg lc td ex s nrS                 -- dummy mode from here on
        else .seq (emit2 cfg lc td ex s nrS) (emitL2 cfg lc td ex r true lp (i + 1))
end

/-- a statement list as the body of a program (`needResult`) or of a function -/
def emitBody2 (cfg : Cfg) (ss : SS2) (nr : Bool) : C2 := emit2 cfg none 0 [] (.block ss) nr

end GojaModel.C01
