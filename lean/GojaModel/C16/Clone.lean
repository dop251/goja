/-
  C16 — per-use clones of the stateful things a Program owns (mechanism level).

  A compiled Program owns cells that run-time objects would like to write:
    * a regexp literal's *regexpPattern (createRegexp2 sets p.regexp2Wrapper lazily, regexp.go:111) and its
      regexp2Wrapper.cache (written on every cached match, regexp.go:233-256, 284-325);
    * the *valueProperty slots and backing arrays of a tagged template (Object.freeze / defineProperty re-mark and
      re-store them, builtin_object.go object_freeze, array.go _defineIdxProperty).
  The exec methods never build a run-time object ON such a cell: newRegexp.exec passes `n.pattern.clone()`
  (vm.go newRegexp.exec; regexpPattern.clone / regexp2Wrapper.clone make fresh pattern + wrapper with an empty cache,
  sharing only the goroutine-safe engines), getTaggedTmplObject.exec passes `cloneTemplateValues(c.raw / c.cooked)`
  (fresh backing array + fresh slots).  Those are the `call $.pattern clone` and `arg0 cloneTemplateValues` rows of the
  exec access table; the clone bodies are pinned by Tie.clones_expected / Tie.clone_template_text.

  Model: cells below `bound` are Program-owned; a Runtime writes only through references it holds; `cloneUse` hands it a
  reference to a FRESH copy, `aliasUse` (what the clones prevent: seeded changes C16-m1, the pre-85b307c template code)
  a reference to the Program's own cell.
-/
namespace GojaModel.C16.Clone

structure St where
  val : Nat → Nat           -- cell contents
  next : Nat                -- next fresh cell
  wrefs : Nat → List Nat    -- per Runtime: the cells it holds a writable reference to

inductive Op
  | cloneUse (src : Nat)        -- build the run-time object on a per-use clone of Program cell `src`
  | aliasUse (src : Nat)        -- build it on the Program's cell itself
  | write (c : Nat) (v : Nat)   -- lastIndex / match cache / createRegexp2 / freeze …: through a held reference only
  deriving Repr

def step (bound : Nat) (st : St) (rt : Nat) : Op → St
  | .cloneUse src =>
    if src < bound then
      { val := fun x => if x = st.next then st.val src else st.val x
        next := st.next + 1
        wrefs := fun q => if q = rt then st.next :: st.wrefs q else st.wrefs q }
    else st
  | .aliasUse src =>
    if src < bound then { st with wrefs := fun q => if q = rt then src :: st.wrefs q else st.wrefs q } else st
  | .write c v =>
    if c ∈ st.wrefs rt then { st with val := fun x => if x = c then v else st.val x } else st

def run (bound : Nat) : St → List (Nat × Op) → St
  | st, [] => st
  | st, (rt, op) :: rest => run bound (step bound st rt op) rest

def usesClone : Op → Bool
  | .aliasUse _ => false
  | _ => true

structure CInv (bound : Nat) (st : St) : Prop where
  bnd : bound ≤ st.next
  own : ∀ rt, ∀ c ∈ st.wrefs rt, bound ≤ c ∧ c < st.next
  disj : ∀ q1 q2, q1 ≠ q2 → ∀ c ∈ st.wrefs q1, c ∉ st.wrefs q2

theorem mem_wrefs_cons {st : St} {rt q c0 c : Nat} (h : c ∈ (if q = rt then c0 :: st.wrefs q else st.wrefs q)) :
    (q = rt ∧ c = c0) ∨ c ∈ st.wrefs q := by
  split at h
  · next hq => exact (List.mem_cons.mp h).imp (⟨hq, ·⟩) id
  · exact .inr h

theorem step_val {bound : Nat} {st : St} (rt : Nat) (op : Op) {c : Nat} (hc : c < st.next) (hw : c ∉ st.wrefs rt) :
    (step bound st rt op).val c = st.val c := by
  cases op with
  | cloneUse src =>
    simp only [step]
    split
    · exact if_neg (Nat.ne_of_lt hc)
    · rfl
  | aliasUse src => simp only [step]; split <;> rfl
  | write c' v =>
    simp only [step]
    split
    · next hm => exact if_neg fun e : c = c' => hw (e ▸ hm)
    · rfl

theorem step_wrefs_other {bound : Nat} {st : St} {q r : Nat} (op : Op) (hqr : q ≠ r) :
    (step bound st q op).wrefs r = st.wrefs r := by
  cases op <;> simp only [step] <;> split <;> first | rfl | exact if_neg (Ne.symm hqr)

theorem step_next_le {bound : Nat} (st : St) (rt : Nat) (op : Op) : st.next ≤ (step bound st rt op).next := by
  cases op with
  | cloneUse src =>
    simp only [step]
    split
    · exact Nat.le_succ _
    · exact Nat.le_refl _
  | _ => simp only [step]; split <;> exact Nat.le_refl _

/-- A step hands out a reference to a fresh cell (`cloneUse`) or to a Program cell (`aliasUse`), and no other. -/
theorem mem_step_wrefs {bound : Nat} {st : St} {rt q c : Nat} {op : Op} (h : c ∈ (step bound st rt op).wrefs q) :
    c ∈ st.wrefs q ∨ c = st.next ∨ (c < bound ∧ usesClone op = false) := by
  cases op with
  | cloneUse src =>
    simp only [step] at h
    split at h
    · exact (mem_wrefs_cons h).elim (fun e => .inr (.inl e.2)) .inl
    · exact .inl h
  | aliasUse src =>
    simp only [step] at h
    split at h
    · next hs => exact (mem_wrefs_cons h).elim (fun e => .inr (.inr ⟨e.2 ▸ hs, rfl⟩)) .inl
    · exact .inl h
  | write c' v =>
    simp only [step] at h
    split at h <;> exact .inl h

/-- The frame of a whole run: a cell that exists and that no moving Runtime holds a reference to keeps its contents, as long
as nobody is handed an alias of it; only an `aliasUse` hands one out, and only of a Program cell.  Both results on clones in
Props.lean are this statement, at a Program cell and at a cell another Runtime holds: `CInv` is needed of the start state
only and is not carried through the run. -/
theorem run_val {bound : Nat} (ops : List (Nat × Op)) {c : Nat} (hc : bound ≤ c ∨ ∀ x ∈ ops, usesClone x.2 = true) :
    ∀ st, c < st.next → (∀ x ∈ ops, c ∉ st.wrefs x.1) → (run bound st ops).val c = st.val c := by
  induction ops with
  | nil => intro st _ _; rfl
  | cons x rest ih =>
    intro st hlt hw
    obtain ⟨q, op⟩ := x
    have hx := List.mem_cons_self (a := (q, op)) (l := rest)
    rw [run, ih (hc.imp id fun h y hy => h y (List.mem_cons_of_mem _ hy)) _
      (Nat.lt_of_lt_of_le hlt (step_next_le st q op)) fun y hy hm => ?_, step_val q op hlt (hw _ hx)]
    -- a reference to `c` a later mover holds after this step it held before: `c` is neither fresh nor aliased here
    rcases mem_step_wrefs hm with h | h | h
    · exact hw y (List.mem_cons_of_mem _ hy) h
    · exact Nat.lt_irrefl _ (h ▸ hlt)
    · exact hc.elim (Nat.not_le_of_lt h.1) fun hu => nomatch h.2.symm.trans (hu _ hx)

theorem run_wrefs_other {bound : Nat} (r : Nat) (ops : List (Nat × Op)) (hr : ∀ x ∈ ops, x.1 ≠ r) :
    ∀ st, (run bound st ops).wrefs r = st.wrefs r := by
  induction ops with
  | nil => intro st; rfl
  | cons x rest ih =>
    intro st
    rw [run, ih fun y hy => hr y (List.mem_cons_of_mem _ hy), step_wrefs_other x.2 (hr x (List.mem_cons_self ..))]

end GojaModel.C16.Clone
