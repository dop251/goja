/-
  C16 model driver (line protocol, core Lean only).
    tv <isNil> <selfNil> <runtime|-> <r>      → null | typeError | same          (toValueObj)
    memo <unsync|once|atomic|plainonce> <sv> <t:op,t:op,…>   (op ∈ f p w)
                                               → raced=<0|1> bad=<0|1> u=<n> flag=<0|1> nU=<n> nF=<n>
    scan <hex bytes>                           → nil | u16 <hex units>            (scanBytes)
    chain <tok tok …>  (outermost first; V sloppy function, S strict function, B block with stash, b block without; a direct
                       eval is compiled in the innermost scope)  → run-time chain innermost first + `|target=` + `|mode=strict|sloppy`
                                                                                   (Scopes.crun, Names.markEval/rtChain/target)
  The driver imports only the hand-written model (no Generated file, no Props/Tie): it builds and runs whatever the
  regenerated facts look like.
-/
import GojaModel.Base.Proto
import GojaModel.C16.Model
import GojaModel.C16.ScopeChain
namespace GojaModel.C16.Driver
open GojaModel.C16 GojaModel.Proto

def b01 (b : Bool) : String := if b then "1" else "0"

def cfgByName (n : String) : Option Cfg :=
  if n == "unsync" then some unsyncCfg
  else if n == "once" then some onceCfg
  else if n == "atomic" then some ⟨.atomic, false⟩
  else if n == "plainonce" then some ⟨.plain, true⟩
  else none

def cfgName (c : Option Cfg) : String :=
  match c with
  | some ⟨.plain, false⟩ => "unsync"
  | some ⟨.atomic, true⟩ => "once"
  | some ⟨.atomic, false⟩ => "atomic"
  | some ⟨.plain, true⟩ => "plainonce"
  | none => "unknown"

def parseSched (s : String) : Option (List (Nat × Op)) :=
  (s.splitOn ",").filter (· ≠ "") |>.mapM fun item =>
    match item.splitOn ":" with
    | [t, o] =>
      match t.toNat?, o with
      | some t, "f" => some (t, Op.force)
      | some t, "p" => some (t, Op.peek)
      | some t, "w" => some (t, Op.raw)
      | _, _ => none
    | _ => none

def parseHexBytes (s : String) : Option (List Nat) :=
  let rec go : List Char → Option (List Nat)
    | [] => some []
    | a :: b :: rest =>
      match hexDigit? a, hexDigit? b, go rest with
      | some x, some y, some r => some ((x * 16 + y) :: r)
      | _, _, _ => none
    | _ => none
  go s.toList

def handle (line : String) : String :=
  match words line with
  | ["tv", n, sn, rt, r] =>
    match r.toNat? with
    | none => "error"
    | some r =>
      let o : ObjRef := ⟨n == "1", sn == "1", if rt == "-" then none else rt.toNat?⟩
      match toValueObj o r with
      | .null => "null" | .typeError => "typeError" | .same => "same"
  | ["memo", cn, sv, sched] =>
    match cfgByName cn, sv.toNat?, parseSched sched with
    | some c, some sv, some sc =>
      let s := runM c sv initM sc
      s!"raced={b01 s.raced} bad={b01 s.bad} u={s.uval} flag={b01 s.flag} nU={s.histU.length} nF={s.histF.length}"
    | _, _, _ => "error"
  | ["scan", hex] =>
    match parseHexBytes hex with
    | none => "error"
    | some b =>
      match scanBytes b with
      | none => "nil"
      | some u => "u16 " ++ String.join (u.map (toHexW 4))
  | ["scan"] => "nil"
  | "chain" :: toks =>
    let ops : List Scopes.COp := (toks.zipIdx.map fun (tk, i) =>
      if tk == "V" then [Scopes.COp.newScope true true i]
      else if tk == "S" then [Scopes.COp.newScope true true i, Scopes.COp.directive true]
      else if tk == "B" then [Scopes.COp.newScope false true i]
      else [Scopes.COp.newScope false false i]).flatten
    let cs := Scopes.crun [] ops
    let strict := Scopes.enclosingStrict cs
    let chain := Names.rtChain (Names.markEval cs)
    let item := fun (st : Names.Stash) => (if st.isVar then "V" else "B") ++ (if st.own then "o" else "s")
    let tgt := match Names.target chain with | some t => item t | none => "none"
    ",".intercalate (chain.map item) ++ "|target=" ++ tgt ++ "|mode=" ++ (if strict then "strict" else "sloppy")
  | _ => "error"

def main : IO Unit := lineMap handle

end GojaModel.C16.Driver
