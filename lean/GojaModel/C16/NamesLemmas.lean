/-
  C16 — names maps: what one instruction can do to the state (`Eff`, under the invariant `NInv` and the compiler's contract),
  what such an effect leaves alone and how the maps a Runtime owns grow, and from these the frame of a whole run (`run_frame`):
  both names results of Props.lean are instances of it, `Priv` being needed of the start state only.  Last, the compiler's side
  of the contract.
-/
import GojaModel.C16.Names
namespace GojaModel.C16.Names

theorem target_mem {stk : List Stash} {t : Stash} (h : target stk = some t) : t ∈ stk := by
  unfold target at h
  split at h
  · next t' hf => exact Option.some.inj h ▸ List.mem_of_find?_eq_some hf
  · exact List.mem_of_mem_head? h

theorem delTarget_some {maps : Nat → NMap} {n : String} :
    ∀ {stk : List Stash} {id : Nat}, delTarget maps stk n = some id →
      (∃ s ∈ stk, s.map = id) ∧ ∃ e ∈ maps id, e.deletable = true := by
  intro stk
  induction stk with
  | nil => intro id h; simp [delTarget] at h
  | cons s rest ih =>
    intro id h
    simp only [delTarget] at h
    split at h
    · next e he =>
      split at h
      · next hd =>
        cases h
        exact ⟨⟨s, List.mem_cons_self .., rfl⟩, e, List.mem_of_find?_eq_some he, hd⟩
      · simp at h
    · obtain ⟨⟨s', hs', hm⟩, he⟩ := ih h
      exact ⟨⟨s', List.mem_cons_of_mem _ hs', hm⟩, he⟩

structure NInv (bound : Nat) (st : St) : Prop where
  bnd : bound ≤ st.next
  clean : ∀ id, id < bound → ∀ e ∈ st.maps id, e.deletable = false
  shape : ∀ rt, ∀ s ∈ st.pool rt, (s.own = false → s.map < bound) ∧ (s.own = true → bound ≤ s.map ∧ s.map < st.next)
  sub : ∀ rt, ∀ s ∈ st.stacks rt, s ∈ st.pool rt

theorem mem_push_pool {st : St} {rt r : Nat} {s0 x : Stash} {rest : List Stash}
    (h : x ∈ (push st rt s0 rest).pool r) : (r = rt ∧ x = s0) ∨ x ∈ st.pool r := by
  simp only [push] at h
  split at h
  · next hr => exact (List.mem_cons.mp h).imp (⟨hr, ·⟩) id
  · exact .inr h

theorem push_sub {st : St} {rt : Nat} {s0 : Stash} {rest : List Stash}
    (hsub : ∀ r, ∀ s ∈ st.stacks r, s ∈ st.pool r) (hrest : ∀ x ∈ rest, x ∈ st.pool rt) :
    ∀ r, ∀ s ∈ (push st rt s0 rest).stacks r, s ∈ (push st rt s0 rest).pool r := by
  intro r s hs
  simp only [push] at hs ⊢
  by_cases hr : r = rt
  · rw [if_pos hr] at hs ⊢
    exact (List.mem_cons.mp hs).elim (· ▸ List.mem_cons_self ..) fun h => List.mem_cons_of_mem _ (hr ▸ hrest s h)
  · rw [if_neg hr] at hs ⊢
    exact hsub r s hs

inductive Eff (bound : Nat) (st : St) (rt : Nat) : St → Prop
  | none : Eff bound st rt st
  | share (s0 : Stash) (rest : List Stash) (hrest : ∀ x ∈ rest, x ∈ st.pool rt)
      (hs0 : (s0.own = false ∧ s0.map < bound) ∨ ∃ s ∈ st.pool rt, s.map = s0.map ∧ s.own = s0.own) :
      Eff bound st rt (push st rt s0 rest)
  | copy (pm : Nat) : Eff bound st rt
      { push (setMap st st.next (st.maps pm)) rt ⟨st.next, true, true⟩ (st.stacks rt) with next := st.next + 1 }
  | chain (stk : List Stash) (hstk : ∀ s ∈ stk, s ∈ st.pool rt) : Eff bound st rt (setStack st rt stk)
  | write (s : Stash) (hs : s ∈ st.pool rt) (ho : s.own = true) (m : NMap) : Eff bound st rt (setMap st s.map m)

theorem step_eff {bound : Nat} {st : St} (rt : Nat) (op : Op)
    (inv : NInv bound st) (h : hOK st rt op = true) : Eff bound st rt (step bound st rt op) := by
  cases op with
  | enterFunc pm ext =>
    simp only [step]
    split
    · next hpm =>
      cases ext
      · exact .share _ _ (inv.sub rt) (.inl ⟨rfl, hpm⟩)
      · exact .copy pm
    · exact .none
  | enterBlock pm =>
    simp only [step]
    split
    · next hpm => exact .share _ _ (inv.sub rt) (.inl ⟨rfl, hpm⟩)
    · exact .none
  | copyStash =>
    simp only [step]
    split
    · next s0 rest hst =>
      have hsub : ∀ x ∈ s0 :: rest, x ∈ st.pool rt := hst ▸ inv.sub rt
      exact .share _ _ (fun x hx => hsub x (List.mem_cons_of_mem _ hx)) (.inr ⟨s0, hsub s0 (List.mem_cons_self ..), rfl, rfl⟩)
    · exact .none
  | leave => exact .chain _ fun s hs => inv.sub rt s (List.mem_of_mem_tail hs)
  | switch chain =>
    refine .chain _ fun s hs => ?_
    obtain ⟨i, _, hi⟩ := List.mem_filterMap.mp hs
    exact List.mem_of_getElem? hi
  | bindVar n d =>
    simp only [step]
    split
    · next t ht => exact .write t (inv.sub rt t (target_mem ht)) (by simpa [hOK, ht] using h) _
    · exact .none
  | deleteVar n =>
    simp only [step]
    split
    · next id hid =>
      obtain ⟨⟨s0, hs0, rfl⟩, e, he, hd⟩ := delTarget_some hid
      have hs0p := inv.sub rt s0 hs0
      -- a Program map has no deletable entry, so the stash owns its copy
      have hown : s0.own = true := by
        cases ho : s0.own
        · exact absurd hd (by rw [inv.clean _ ((inv.shape rt s0 hs0p).1 ho) e he]; decide)
        · rfl
      exact .write s0 hs0p hown _
    · exact .none

/-! What an effect of Runtime `q` leaves alone: every map that exists and that no stash of `q` owns (`eff_maps`), the chain and
the pool of every other Runtime (`eff_other`); and the maps a Runtime owns only ever grow by a fresh one (`eff_owned`). -/

theorem eff_maps {bound : Nat} {st st' : St} {q id : Nat} (e : Eff bound st q st') (hid : id < st.next)
    (hn : ∀ s ∈ st.pool q, s.own = true → s.map ≠ id) : st'.maps id = st.maps id := by
  cases e with
  | copy pm => exact if_neg (Nat.ne_of_lt hid)
  | write s hs ho m => exact if_neg fun e => hn s hs ho e.symm
  | _ => rfl

theorem eff_next_le {bound : Nat} {st st' : St} {q : Nat} (e : Eff bound st q st') : st.next ≤ st'.next := by
  cases e with
  | copy pm => exact Nat.le_succ _
  | _ => exact Nat.le_refl _

theorem eff_owned {bound : Nat} {st st' : St} {q p : Nat} {s : Stash} (e : Eff bound st q st')
    (hs : s ∈ st'.pool p) (ho : s.own = true) : s.map = st.next ∨ ∃ s' ∈ st.pool p, s'.own = true ∧ s'.map = s.map := by
  cases e with
  | share s0 rest hrest hs0 =>
    rcases mem_push_pool hs with ⟨rfl, rfl⟩ | hs
    · rcases hs0 with ⟨hf, _⟩ | ⟨s', hs', hm, ho'⟩
      · exact nomatch hf.symm.trans ho
      · exact .inr ⟨s', hs', ho'.trans ho, hm⟩
    · exact .inr ⟨s, hs, ho, rfl⟩
  | copy pm =>
    rcases mem_push_pool (st := setMap st st.next (st.maps pm)) (rest := st.stacks q) hs with ⟨_, rfl⟩ | hs
    · exact .inl rfl
    · exact .inr ⟨s, hs, ho, rfl⟩
  | _ => exact .inr ⟨s, hs, ho, rfl⟩

theorem eff_other {bound : Nat} {st st' : St} {q r : Nat} (e : Eff bound st q st') (hrq : r ≠ q) :
    st'.stacks r = st.stacks r ∧ st'.pool r = st.pool r := by
  cases e with
  | share s0 rest hrest hs0 => exact ⟨if_neg hrq, if_neg hrq⟩
  | copy pm => exact ⟨if_neg hrq, if_neg hrq⟩
  | chain stk hstk => exact ⟨if_neg hrq, rfl⟩
  | _ => exact ⟨rfl, rfl⟩

theorem ninv_eff {bound : Nat} {st st' : St} {rt : Nat}
    (inv : NInv bound st) (e : Eff bound st rt st') : NInv bound st' := by
  -- a Program map is owned by no stash, so it is as it was
  have clean : ∀ id, id < bound → ∀ x ∈ st'.maps id, x.deletable = false := fun id hid => by
    rw [eff_maps e (Nat.lt_of_lt_of_le hid inv.bnd) fun s hs ho =>
      Nat.ne_of_gt (Nat.lt_of_lt_of_le hid ((inv.shape rt s hs).2 ho).1)]
    exact inv.clean id hid
  obtain ⟨bnd, _, shape, sub⟩ := inv
  cases e with
  | none => exact ⟨bnd, clean, shape, sub⟩
  | share s0 rest hrest hs0 =>
    refine ⟨bnd, clean, fun r s hs => ?_, push_sub sub hrest⟩
    rcases mem_push_pool hs with ⟨_, rfl⟩ | hs
    · rcases hs0 with ⟨ho, hlt⟩ | ⟨s', hs', hm, ho⟩
      · exact ⟨fun _ => hlt, fun h => nomatch ho.symm.trans h⟩
      · exact hm ▸ ho ▸ shape rt s' hs'
    · exact shape r s hs
  | copy pm =>
    refine ⟨Nat.le_succ_of_le bnd, clean, fun r s hs => ?_, ?_⟩
    · rcases mem_push_pool (st := setMap st st.next (st.maps pm)) (rest := st.stacks rt) hs with ⟨_, rfl⟩ | hs
      · exact ⟨nofun, fun _ => ⟨bnd, Nat.lt_succ_self _⟩⟩
      · exact ⟨(shape r s hs).1, fun ho => ⟨((shape r s hs).2 ho).1, Nat.lt_succ_of_lt ((shape r s hs).2 ho).2⟩⟩
    · exact push_sub (st := setMap st st.next (st.maps pm)) sub (sub rt)
  | chain stk hstk =>
    refine ⟨bnd, clean, shape, fun r s hs => ?_⟩
    simp only [setStack] at hs
    split at hs
    · next hr => exact hr ▸ hstk s hs
    · exact sub r s hs
  | write s hs ho m => exact ⟨bnd, clean, shape, sub⟩

/-- The frame of a whole run under the compiler's contract: a map that exists and that no stash of a moving Runtime owns
keeps its contents; a Runtime that does not move keeps its chain and its pool. -/
theorem run_frame {bound : Nat} (ops : List (Nat × Op)) :
    ∀ st, NInv bound st → allH bound st ops = true →
      (∀ id, id < st.next → (∀ x ∈ ops, ∀ s ∈ st.pool x.1, s.own = true → s.map ≠ id) →
        (run bound st ops).maps id = st.maps id) ∧
      ∀ r, (∀ x ∈ ops, x.1 ≠ r) → (run bound st ops).stacks r = st.stacks r ∧ (run bound st ops).pool r = st.pool r := by
  induction ops with
  | nil => intro st _ _; exact ⟨fun _ _ _ => rfl, fun _ _ => ⟨rfl, rfl⟩⟩
  | cons x rest ih =>
    intro st inv h
    obtain ⟨q, op⟩ := x
    simp only [allH, Bool.and_eq_true] at h
    have e := step_eff q op inv h.1
    have ih := ih _ (ninv_eff inv e) h.2
    have hx := List.mem_cons_self (a := (q, op)) (l := rest)
    refine ⟨fun id hid hn => ?_, fun r hr => ?_⟩
    · rw [run, ih.1 id (Nat.lt_of_lt_of_le hid (eff_next_le e)) fun y hy s hs ho => ?_, eff_maps e hid (hn _ hx)]
      -- what a later mover owns after this step it owned before, or it is fresh
      rcases eff_owned e hs ho with hf | ⟨s', hs', ho', hm⟩
      · exact hf ▸ Nat.ne_of_gt hid
      · exact hm ▸ hn y (List.mem_cons_of_mem _ hy) s' hs' ho'
    · have h1 := ih.2 r fun y hy => hr y (List.mem_cons_of_mem _ hy)
      have h2 := eff_other e (hr _ hx).symm
      exact ⟨h1.1.trans h2.1, h1.2.trans h2.2⟩

def Priv (st : St) : Prop :=
  ∀ q1 q2, q1 ≠ q2 → ∀ s1 ∈ st.pool q1, ∀ s2 ∈ st.pool q2, s1.own = true → s1.map ≠ s2.map

theorem stash_lt_next {bound : Nat} {st : St} (inv : NInv bound st) {rt : Nat} {s : Stash}
    (hs : s ∈ st.pool rt) : s.map < st.next := by
  have := inv.shape rt s hs
  cases ho : s.own
  · have := this.1 ho; have := inv.bnd; omega
  · exact (this.2 ho).2

theorem others_invisible {bound : Nat} {st : St} (r : Nat) (ops : List (Nat × Op)) (inv : NInv bound st) (pv : Priv st)
    (hr : ∀ x ∈ ops, x.1 ≠ r) (hH : allH bound st ops = true) :
    view (run bound st ops) r = view st r ∧ poolView (run bound st ops) r = poolView st r := by
  obtain ⟨hm, hloc⟩ := run_frame ops st inv hH
  have hm : ∀ s ∈ st.pool r, (run bound st ops).maps s.map = st.maps s.map := fun s hs =>
    hm s.map (stash_lt_next inv hs) fun x hx s' hs' ho' => pv x.1 r (hr x hx) s' hs' s hs ho'
  unfold view poolView
  rw [(hloc r hr).1, (hloc r hr).2]
  exact ⟨List.map_congr_left fun s hsm => by rw [hm s (inv.sub r s hsm)], List.map_congr_left fun s hsm => by rw [hm s hsm]⟩

theorem firstVar_stash_owns_copy (cs : List CScope) :
    ∀ v, firstVar cs = some v → v.strict = false →
      (rtChain (markEval cs)).find? (·.isVar) = some ⟨v.mapId, true, true⟩ := by
  induction cs with
  | nil => intro v h; simp [firstVar] at h
  | cons sc rest ih =>
    intro v hv hs
    by_cases hsv : sc.isVar = true
    · have : v = sc := by simpa [firstVar, List.find?, hsv] using hv.symm
      subst this
      simp [markEval, hsv, hs, rtChain]
    · have hsv' : sc.isVar = false := by simpa using hsv
      have hv' : firstVar rest = some v := by simpa [firstVar, List.find?, hsv'] using hv
      have := ih v hv' hs
      simp only [markEval, hsv', Bool.false_eq_true, if_false, rtChain, List.filterMap_cons]
      cases hds : (sc.dyn || sc.stash)
      · simpa [rtChain] using this
      · simp only [if_true, List.find?]
        simpa [rtChain] using this

/-- The compiler's side of the contract: (R1)–(R4) of Names.lean give `hOK` for a `bindVar` of the eval. -/
theorem contract_target_own (cs : List CScope) (v : CScope) (hv : firstVar cs = some v) (hs : v.strict = false)
    (t : Stash) (ht : target (rtChain (markEval cs)) = some t) : t.own = true := by
  have hf := firstVar_stash_owns_copy cs v hv hs
  simp [target, hf] at ht
  subst ht
  rfl

end GojaModel.C16.Names
