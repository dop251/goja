/-
  C16 — Programs and primitive values are shareable across goroutines.   Model `Share` (core Lean only).

  Four parts, each mirroring one anchor of the property:

  A. access tables (data regenerated from the Go source by extract/c16.go) and the abstract sharing machine on which
     `program_readonly` / `run_isolated` are proved:  n Runtimes interleave instructions of ONE Program; what an
     instruction type may write is read off the table.
  B. the lazy memo of `importedString` (string_imported.go:43 scan, :52 ensureScanned) as a multi-thread program in a
     small happens-before semantics (program order + release/acquire on atomics + sync.Once); the machine is
     parametrised by the protocol shape `Cfg` so that the protocol as coded (atomic flag + sync.Once, `onceCfg`) and the
     one before fix 7f47297 (plain flag, no Once, `unsyncCfg`) are two instances of the same definitions.
  C. the cross-runtime decision of Runtime.toValue for *Object (runtime.go:1853-1860).
  D. unistring.Scan (unistring/string.go:25) as a function of the bytes: Go's UTF-8 decoding of `range s` + UTF-16
     encoding with a leading BOM — "the memoised value".
-/
namespace GojaModel.C16

/-! ## A. access tables and the sharing machine -/

/-- One row of the exec access table (extract/c16.go).  `kind`:
  "write"         assignment / ++ / delete / copy-target through the receiver (or an alias of one of its fields)
  "escape"        a map / slice / pointer field of the instruction is stored somewhere or passed to a call
  "escape-iface"  same for an interface-typed field (a primitive Value/String constant)
  "addr"          the address of a field is taken
  "call"          method call on a reference-typed field
  "helper"        call of another method of the instruction type (analysed transitively)
`guard` is the INNERMOST enclosing condition of the access (e.g. `!($.extensible)` for the aliasing of a names map).
`isLocal` (writes only): the receiver is a value receiver and only its private copy is written. -/
structure ExecAcc where
  ty : String
  fn : String
  ptr : Bool
  kind : String
  path : String
  sink : String
  guard : String
  isLocal : Bool
  deriving DecidableEq, Repr

structure FieldWrite where
  file : String
  fn : String
  field : String
  deriving DecidableEq, Repr

/-- One access to a field of importedString.  `sync`: "plain" | "atomic" | "init" (composite literal, before the
value is published).  `dom`: what dominates the access inside its function: "ensure" (x.ensureScanned() was called),
"flag" (an enclosing condition tested x.scanned), "raw" (nothing), "init". -/
structure ImpAcc where
  file : String
  fn : String
  field : String
  write : Bool
  sync : String
  dom : String
  deriving DecidableEq, Repr

/-- The rows that are known to be harmless for sharing, with the reason:
  * `names` maps reach `stash.names` only for NON-extensible scopes (enterFunc*/enterFuncBody copy the map when
    `extensible`; block scopes never get new bindings); the writers of a names map are tied in Tie.names_writers_expected;
  * `prg`/`ctor`/`initFields` are nested Programs — read-only by the same argument;
  * `&raw`/`&cooked` are identities only; `raw`/`cooked` go through cloneTemplateValues (a per-use copy);
  * `pattern.clone()` is the per-use clone of the stateful regexp;
  * `privateFields`/`privateMethods`/`funcs`/`vars`/`lets`/`consts` are name slices that are only iterated;
  * `typ` (privateId) only occurs in eval-compiled code, whose Program is private to one runtime;
  * interface-typed fields hold primitive constants; `helper` rows are calls of other analysed methods. -/
def safeRows : List ExecAcc := [
  { ty := "bindGlobal", fn := "exec", ptr := true, kind := "escape", path := "$.funcs", sink := "arg0 vm.checkBindFuncsGlobal", guard := "", isLocal := false },
  { ty := "bindGlobal", fn := "exec", ptr := true, kind := "escape", path := "$.lets", sink := "arg0 vm.checkBindLexGlobal", guard := "", isLocal := false },
  { ty := "bindGlobal", fn := "exec", ptr := true, kind := "escape", path := "$.consts", sink := "arg0 vm.checkBindLexGlobal", guard := "", isLocal := false },
  { ty := "bindGlobal", fn := "exec", ptr := true, kind := "escape", path := "$.vars", sink := "arg0 vm.checkBindVarsGlobal", guard := "", isLocal := false },
  { ty := "bindGlobal", fn := "exec", ptr := true, kind := "escape", path := "$.funcs", sink := "arg0 vm.createGlobalFuncBindings", guard := "", isLocal := false },
  { ty := "bindGlobal", fn := "exec", ptr := true, kind := "escape", path := "$.vars", sink := "arg0 vm.createGlobalVarBindings", guard := "", isLocal := false },
  { ty := "definePrivateGetter", fn := "exec", ptr := true, kind := "helper", path := "$", sink := "definePrivateMethod.getPrivateMethods", guard := "", isLocal := false },
  { ty := "definePrivateMethod", fn := "exec", ptr := true, kind := "helper", path := "$", sink := "definePrivateMethod.getPrivateMethods", guard := "", isLocal := false },
  { ty := "definePrivateSetter", fn := "exec", ptr := true, kind := "helper", path := "$", sink := "definePrivateMethod.getPrivateMethods", guard := "", isLocal := false },
  { ty := "enterBlock", fn := "exec", ptr := true, kind := "escape", path := "$.names", sink := "= vm.stash.names", guard := "len($.names) > 0", isLocal := false },
  { ty := "enterCatchBlock", fn := "exec", ptr := true, kind := "escape", path := "$.names", sink := "= vm.stash.names", guard := "len($.names) > 0", isLocal := false },
  { ty := "enterFunc", fn := "exec", ptr := true, kind := "escape", path := "$.names", sink := "= stash.names", guard := "!($.extensible)", isLocal := false },
  { ty := "enterFunc1", fn := "exec", ptr := true, kind := "escape", path := "$.names", sink := "= stash.names", guard := "!($.extensible)", isLocal := false },
  { ty := "enterFuncBody", fn := "exec", ptr := true, kind := "escape", path := "$.names", sink := "= stash.names", guard := "!($.extensible)", isLocal := false },
  { ty := "getPrivatePropId", fn := "exec", ptr := true, kind := "escape", path := "$.typ", sink := "arg2 vm.getPrivateProp", guard := "", isLocal := false },
  { ty := "getPrivatePropIdCallee", fn := "exec", ptr := true, kind := "escape", path := "$.typ", sink := "arg2 vm.getPrivateProp", guard := "", isLocal := false },
  { ty := "getPrivatePropRes", fn := "exec", ptr := true, kind := "helper", path := "$", sink := "getPrivatePropRes._get", guard := "", isLocal := false },
  { ty := "getPrivateRefId", fn := "exec", ptr := true, kind := "escape", path := "$", sink := "lit privateRefId.id", guard := "", isLocal := false },
  { ty := "getPrivateRefRes", fn := "exec", ptr := true, kind := "escape", path := "$", sink := "lit privateRefRes.name", guard := "", isLocal := false },
  { ty := "getTaggedTmplObject", fn := "exec", ptr := true, kind := "escape", path := "$.cooked", sink := "arg0 cloneTemplateValues", guard := "", isLocal := false },
  { ty := "getTaggedTmplObject", fn := "exec", ptr := true, kind := "escape", path := "$.raw", sink := "arg0 cloneTemplateValues", guard := "", isLocal := false },
  { ty := "getTaggedTmplObject", fn := "exec", ptr := true, kind := "addr", path := "$.raw", sink := "lit taggedTemplateArray.idPtr", guard := "", isLocal := false },
  { ty := "getTaggedTmplObject", fn := "exec", ptr := true, kind := "addr", path := "$.cooked", sink := "lit taggedTemplateArray.idPtr", guard := "", isLocal := false },
  { ty := "initStaticElements", fn := "exec", ptr := true, kind := "escape", path := "$.privateFields", sink := "arg1 vm.fillPrivateNamesMap", guard := "h.privateEnvType != nil", isLocal := false },
  { ty := "initStaticElements", fn := "exec", ptr := true, kind := "escape", path := "$.privateMethods", sink := "arg2 vm.fillPrivateNamesMap", guard := "h.privateEnvType != nil", isLocal := false },
  { ty := "loadVal", fn := "exec", ptr := false, kind := "escape-iface", path := "$.v", sink := "arg0 vm.push", guard := "", isLocal := false },
  { ty := "newArrowFunc", fn := "_exec", ptr := true, kind := "escape", path := "$.prg", sink := "= obj.prg", guard := "", isLocal := false },
  { ty := "newArrowFunc", fn := "exec", ptr := true, kind := "helper", path := "$", sink := "newArrowFunc._exec", guard := "", isLocal := false },
  { ty := "newAsyncArrowFunc", fn := "exec", ptr := true, kind := "helper", path := "$", sink := "newArrowFunc._exec", guard := "", isLocal := false },
  { ty := "newAsyncFunc", fn := "exec", ptr := true, kind := "escape", path := "$.prg", sink := "= obj.prg", guard := "", isLocal := false },
  { ty := "newMethod", fn := "_exec", ptr := true, kind := "escape", path := "$.prg", sink := "= obj.prg", guard := "", isLocal := false },
  { ty := "newAsyncMethod", fn := "exec", ptr := true, kind := "helper", path := "$", sink := "newMethod._exec", guard := "", isLocal := false },
  { ty := "newClass", fn := "create", ptr := true, kind := "escape", path := "$.ctor", sink := "= f.prg", guard := "", isLocal := false },
  { ty := "newClass", fn := "create", ptr := true, kind := "escape", path := "$.initFields", sink := "= f.initFields", guard := "", isLocal := false },
  { ty := "newClass", fn := "create", ptr := true, kind := "escape", path := "$.privateFields", sink := "arg1 vm.fillPrivateNamesMap", guard := "$.hasPrivateEnv", isLocal := false },
  { ty := "newClass", fn := "create", ptr := true, kind := "escape", path := "$.privateMethods", sink := "arg2 vm.fillPrivateNamesMap", guard := "$.hasPrivateEnv", isLocal := false },
  { ty := "newClass", fn := "exec", ptr := true, kind := "helper", path := "$", sink := "newClass.create", guard := "", isLocal := false },
  { ty := "newDerivedClass", fn := "exec", ptr := true, kind := "helper", path := "$", sink := "newClass.create", guard := "", isLocal := false },
  { ty := "newFunc", fn := "exec", ptr := true, kind := "escape", path := "$.prg", sink := "= obj.prg", guard := "", isLocal := false },
  { ty := "newGeneratorFunc", fn := "exec", ptr := true, kind := "escape", path := "$.prg", sink := "= obj.prg", guard := "", isLocal := false },
  { ty := "newGeneratorMethod", fn := "exec", ptr := true, kind := "helper", path := "$", sink := "newMethod._exec", guard := "", isLocal := false },
  { ty := "newMethod", fn := "exec", ptr := true, kind := "helper", path := "$", sink := "newMethod._exec", guard := "", isLocal := false },
  { ty := "newRegexp", fn := "exec", ptr := true, kind := "call", path := "$.pattern", sink := "clone", guard := "", isLocal := false },
  { ty := "newRegexp", fn := "exec", ptr := true, kind := "escape-iface", path := "$.src", sink := "arg1 vm.r.newRegExpp", guard := "", isLocal := false },
  { ty := "newStaticFieldInit", fn := "exec", ptr := true, kind := "escape", path := "$.initFields", sink := "= f.initFields", guard := "", isLocal := false },
  { ty := "privateInId", fn := "exec", ptr := true, kind := "escape", path := "$.typ", sink := "arg0 obj.self.getPrivateEnv", guard := "", isLocal := false },
  { ty := "setPrivatePropId", fn := "exec", ptr := true, kind := "escape", path := "$.typ", sink := "arg2 vm.setPrivateProp", guard := "", isLocal := false },
  { ty := "setPrivatePropIdP", fn := "exec", ptr := true, kind := "escape", path := "$.typ", sink := "arg2 vm.setPrivateProp", guard := "", isLocal := false },
  { ty := "setPrivatePropRes", fn := "exec", ptr := true, kind := "helper", path := "$", sink := "setPrivatePropRes._set", guard := "", isLocal := false },
  { ty := "throwConst", fn := "exec", ptr := false, kind := "escape-iface", path := "$.v", sink := "arg0 vm.throw", guard := "", isLocal := false },
  { ty := "yieldMarker", fn := "exec", ptr := true, kind := "escape", path := "$", sink := "arg0 vm.push", guard := "", isLocal := false }
]

/-- The rows of the source BEFORE fix 85b307c that were NOT harmless (finding "tagged-template-object-shared-across-runtimes-race"):
the compiled slices of *valueProperty slots become the backing store of the template arrays of every runtime, and
Object.freeze / defineProperty / … on such an array write the slots. -/
def templateSharedRows : List ExecAcc := [
  { ty := "getTaggedTmplObject", fn := "exec", ptr := true, kind := "escape", path := "$.cooked", sink := "arg1 setArrayValues", guard := "", isLocal := false },
  { ty := "getTaggedTmplObject", fn := "exec", ptr := true, kind := "escape", path := "$.raw", sink := "arg1 setArrayValues", guard := "", isLocal := false }]

/-- A row is harmless for Program-immutability iff it is a write to the method's private copy only, or one of the
known-safe escapes / calls.  Any other row (a new write, a new escape, a changed guard) is treated as a shared write. -/
def ExecAcc.noSharedWrite (a : ExecAcc) : Bool := if a.kind == "write" then a.isLocal else safeRows.contains a

def unsafeRows (tbl : List ExecAcc) : List ExecAcc := tbl.filter (fun a => !a.noSharedWrite)

def tableReadonly (tbl : List ExecAcc) : Bool := tbl.all ExecAcc.noSharedWrite

/-- May instructions of type `ty` write memory reachable from the Program, according to the table? -/
def writesProg (tbl : List ExecAcc) (ty : String) : Bool :=
  tbl.any (fun a => a.ty == ty && !a.noSharedWrite)

abbrev Mem := Nat → Nat

/-- The world of the sharing machine: the memory reachable from the (one) Program, and the private memory of each
Runtime (stack, stashes, objects, per-use clones of regexps and template arrays …). -/
structure World where
  prog : Mem
  own : Nat → Mem

/-- Arbitrary semantics of instruction types: what an instruction computes from (Program memory, own memory).
`progNext` is what it WOULD store into Program memory if it wrote there. -/
structure Interp where
  ownNext : String → Mem → Mem → Mem
  progNext : String → Mem → Mem → Mem

/-- Runtime `r` executes one instruction of type `ty`.  It reads the Program and its own memory only; it writes its
own memory, and Program memory only when the access table says instructions of that type do. -/
def stepW (tbl : List ExecAcc) (I : Interp) (w : World) (r : Nat) (ty : String) : World :=
  { prog := if writesProg tbl ty then I.progNext ty w.prog (w.own r) else w.prog
    own := fun x => if x = r then I.ownNext ty w.prog (w.own r) else w.own x }

/-- A schedule is any interleaving: a list of (runtime id, instruction type). -/
def runW (tbl : List ExecAcc) (I : Interp) : World → List (Nat × String) → World
  | w, [] => w
  | w, (r, ty) :: rest => runW tbl I (stepW tbl I w r ty) rest

/-- The run of runtime `r` alone: the schedule restricted to r. -/
def onlyOf (r : Nat) (s : List (Nat × String)) : List (Nat × String) := s.filter (fun x => x.1 == r)

/-! ## B. the importedString memo protocol in a happens-before semantics -/

inductive Sync | plain | atomic
  deriving DecidableEq, Repr

/-- Instruction list produced by the extractor from scan()/ensureScanned(). -/
inductive PInstr
  | loadFlag (s : Sync)    -- read i.scanned
  | brSet                  -- if it was set skip to the matching label
  | onceBegin              -- i.once.Do(
  | scanStore              -- i.u = unistring.Scan(i.s)
  | storeFlag (s : Sync)   -- i.scanned = true
  | onceEnd                -- )
  | label
  deriving DecidableEq, Repr

/-- Shape of the protocol: how the flag is accessed and whether the scan runs under a sync.Once. -/
structure Cfg where
  flagSync : Sync
  useOnce : Bool
  deriving DecidableEq, Repr

def cfgProg (c : Cfg) : List PInstr :=
  [.loadFlag c.flagSync, .brSet] ++ (if c.useOnce then [.onceBegin] else []) ++
  [.scanStore, .storeFlag c.flagSync] ++ (if c.useOnce then [.onceEnd] else []) ++ [.label]

/-- The protocol before fix 7f47297: `if !i.scanned { i.u = Scan(i.s); i.scanned = true }` (regression lemmas only). -/
def unsyncCfg : Cfg := ⟨.plain, false⟩
/-- The protocol as coded (string_imported.go scan/ensureScanned):
`if !i.scanned.Load() { i.scanOnce.Do(func(){ i.u = Scan(i.s); i.scanned.Store(true) }) }`. -/
def onceCfg : Cfg := ⟨.atomic, true⟩

def allCfgs : List Cfg := [⟨.plain, false⟩, ⟨.plain, true⟩, ⟨.atomic, false⟩, ⟨.atomic, true⟩]

def cfgOfProg (p : List PInstr) : Option Cfg := allCfgs.find? (fun c => cfgProg c = p)

/-- Control points of a thread.  `f*`: a FORCING client (x.ensureScanned(); … x.u …), f0..f5 are the instructions of
`cfgProg`, f6 the read of `u` that follows.  `p*`: a PEEKING client (`if x.scanned { … x.u … }`).  `w0`: a RAW client
(reads x.u with no check at all). -/
inductive PC | idle | f0 | f1 | f2 | f3 | f4 | f5 | f6 | p0 | p1 | p2 | w0
  deriving DecidableEq, Repr

inductive Op | force | peek | raw
  deriving DecidableEq, Repr

/-- A plain (non-atomic) memory access recorded in the history of a location. -/
structure Acc where
  id : Nat
  tid : Nat
  wr : Bool

/-- `K` is the set of plain-access events that happen-before the thread's current point (what a vector clock
encodes). `r` is the register holding the last value read from the flag. -/
structure Thread where
  pc : PC
  r : Bool
  K : Nat → Bool

structure MState where
  thr : Nat → Thread
  flag : Bool            -- i.scanned
  flagK : Nat → Bool     -- knowledge published by the last atomic store of the flag (release)
  uval : Nat             -- i.u  (0 = nil)
  histU : List Acc       -- plain accesses to i.u so far
  histF : List Acc       -- plain accesses to i.scanned so far (only when the flag is accessed non-atomically)
  onceDone : Bool
  onceRun : Option Nat
  onceK : Nat → Bool     -- knowledge published by the completion of once.Do
  next : Nat             -- next event id
  raced : Bool           -- some plain access was not ordered after a conflicting access of another thread
  bad : Bool             -- some checked client observed a `u` different from Scan(s)

def initThread : Thread := ⟨.idle, false, fun _ => false⟩

def initM : MState :=
  { thr := fun _ => initThread, flag := false, flagK := fun _ => false, uval := 0, histU := [], histF := [],
    onceDone := false, onceRun := none, onceK := fun _ => false, next := 0, raced := false, bad := false }

/-- Does a plain access by thread `t` (knowing `K`) race with the history `h`?  Two accesses conflict when they come
from different threads and at least one is a write; they race when the earlier one is not known to (does not
happen-before) the later one. -/
def conflicts (h : List Acc) (t : Nat) (K : Nat → Bool) (wr : Bool) : Bool :=
  h.any (fun a => a.tid != t && (a.wr || wr) && !K a.id)

def setThr (s : MState) (t : Nat) (th : Thread) : MState :=
  { s with thr := fun x => if x = t then th else s.thr x }

def learn (K : Nat → Bool) (e : Nat) : Nat → Bool := fun x => K x || x == e
def join (K K' : Nat → Bool) : Nat → Bool := fun x => K x || K' x

/-- Plain read of `u` by thread t, continuing at `nxt`; `check`: the client relies on the value being Scan(s). -/
def readU (sv : Nat) (s : MState) (t : Nat) (nxt : PC) (check : Bool) : MState :=
  let th := s.thr t
  { setThr s t { th with pc := nxt, K := learn th.K s.next } with
    histU := ⟨s.next, t, false⟩ :: s.histU
    next := s.next + 1
    raced := s.raced || conflicts s.histU t th.K false
    bad := s.bad || (check && s.uval != sv) }

/-- Read of the flag (plain or atomic-acquire), continuing at `nxt`. -/
def loadFlag (c : Cfg) (s : MState) (t : Nat) (nxt : PC) : MState :=
  let th := s.thr t
  match c.flagSync with
  | .atomic => setThr s t { th with pc := nxt, r := s.flag, K := join th.K s.flagK }
  | .plain =>
    { setThr s t { th with pc := nxt, r := s.flag, K := learn th.K s.next } with
      histF := ⟨s.next, t, false⟩ :: s.histF
      next := s.next + 1
      raced := s.raced || conflicts s.histF t th.K false }

/-- One step of thread `t`; `op` is consulted only when the thread is idle (it chooses the next client operation).
`sv` is Scan(i.s). A thread blocked in once.Do does not move. -/
def stepM (c : Cfg) (sv : Nat) (s : MState) (t : Nat) (op : Op) : MState :=
  let th := s.thr t
  match th.pc with
  | .idle => setThr s t { th with pc := match op with | .force => .f0 | .peek => .p0 | .raw => .w0 }
  | .f0 => loadFlag c s t .f1                                              -- if !i.scanned
  | .f1 => setThr s t { th with pc := if th.r then .f6 else .f2 }
  | .f2 =>                                                                 -- once.Do( … entry
    if c.useOnce then
      if s.onceDone then setThr s t { th with pc := .f6, K := join th.K s.onceK }
      else match s.onceRun with
        | some _ => s
        | none => { setThr s t { th with pc := .f3 } with onceRun := some t }
    else setThr s t { th with pc := .f3 }
  | .f3 =>                                                                 -- i.u = unistring.Scan(i.s)   (plain write)
    { setThr s t { th with pc := .f4, K := learn th.K s.next } with
      uval := sv
      histU := ⟨s.next, t, true⟩ :: s.histU
      next := s.next + 1
      raced := s.raced || conflicts s.histU t th.K true }
  | .f4 =>                                                                 -- i.scanned = true
    match c.flagSync with
    | .atomic => { setThr s t { th with pc := .f5 } with flag := true, flagK := th.K }
    | .plain =>
      { setThr s t { th with pc := .f5, K := learn th.K s.next } with
        flag := true
        histF := ⟨s.next, t, true⟩ :: s.histF
        next := s.next + 1
        raced := s.raced || conflicts s.histF t th.K true }
  | .f5 =>                                                                 -- … ) once.Do returns
    if c.useOnce then { setThr s t { th with pc := .f6 } with onceDone := true, onceRun := none, onceK := th.K }
    else setThr s t { th with pc := .f6 }
  | .f6 => readU sv s t .idle true                                         -- … x.u …
  | .p0 => loadFlag c s t .p1                                              -- if x.scanned {
  | .p1 => setThr s t { th with pc := if th.r then .p2 else .idle }
  | .p2 => readU sv s t .idle true                                         --   … x.u … }
  | .w0 => readU sv s t .idle false                                        -- … x.u …   (no check, no reliance on the value)

def runM (c : Cfg) (sv : Nat) : MState → List (Nat × Op) → MState
  | s, [] => s
  | s, (t, op) :: rest => runM c sv (stepM c sv s t op) rest

/-! ## C. Runtime.toValue on an *Object (runtime.go:1853) -/

/-- What toValue looks at: `i == nil`, `i.self == nil`, `i.runtime` (nil or a runtime id). -/
structure ObjRef where
  isNil : Bool
  selfNil : Bool
  runtime : Option Nat
  deriving DecidableEq, Repr

inductive TVRes | null | typeError | same
  deriving DecidableEq, Repr

def toValueObj (o : ObjRef) (r : Nat) : TVRes :=
  if o.isNil || o.selfNil then .null                            -- if i == nil || i.self == nil { return _null }
  else if o.runtime.isSome && o.runtime != some r then .typeError  -- if i.runtime != nil && i.runtime != r { panic(TypeError) }
  else .same                                                    -- return i

/-- The clause as the extractor renders it (receiver → r, bound variable → o). -/
def expectedToValueObject : List (String × String) := [
  ("o == nil || o.self == nil", "return _null"),
  ("o.runtime != nil && o.runtime != r", "panic(r.NewTypeError(\"Illegal runtime transition of an Object\"))"),
  ("true", "return o")]

/-! ## D. unistring.Scan as a function of the bytes -/

/-- Go's `utf8.DecodeRuneInString` restricted to what `range s` needs: (rune, width) of the first encoding in `b`
(`b` non-empty). Invalid encodings give (U+FFFD, 1).  Mirrors the `first`/`acceptRanges` tables of unicode/utf8. -/
def decodeRune (b : List Nat) : Nat × Nat :=
  match b with
  | [] => (0xFFFD, 1)
  | b0 :: rest =>
    if b0 < 0x80 then (b0, 1)
    else if b0 < 0xC2 then (0xFFFD, 1)
    else if b0 < 0xE0 then
      match rest with
      | b1 :: _ => if 0x80 ≤ b1 ∧ b1 ≤ 0xBF then ((b0 % 0x20) * 64 + b1 % 64, 2) else (0xFFFD, 1)
      | _ => (0xFFFD, 1)
    else if b0 < 0xF0 then
      let lo := if b0 = 0xE0 then 0xA0 else 0x80
      let hi := if b0 = 0xED then 0x9F else 0xBF
      match rest with
      | b1 :: b2 :: _ =>
        if lo ≤ b1 ∧ b1 ≤ hi ∧ 0x80 ≤ b2 ∧ b2 ≤ 0xBF then ((b0 % 0x10) * 4096 + (b1 % 64) * 64 + b2 % 64, 3)
        else (0xFFFD, 1)
      | _ => (0xFFFD, 1)
    else if b0 < 0xF5 then
      let lo := if b0 = 0xF0 then 0x90 else 0x80
      let hi := if b0 = 0xF4 then 0x8F else 0xBF
      match rest with
      | b1 :: b2 :: b3 :: _ =>
        if lo ≤ b1 ∧ b1 ≤ hi ∧ 0x80 ≤ b2 ∧ b2 ≤ 0xBF ∧ 0x80 ≤ b3 ∧ b3 ≤ 0xBF then
          ((b0 % 8) * 262144 + (b1 % 64) * 4096 + (b2 % 64) * 64 + b3 % 64, 4)
        else (0xFFFD, 1)
      | _ => (0xFFFD, 1)
    else (0xFFFD, 1)

/-- UTF-16 code units of one rune (utf16.EncodeRune for > 0xFFFF). -/
def encodeUnits (r : Nat) : List Nat :=
  if r ≤ 0xFFFF then [r] else [0xD800 + (r - 0x10000) / 1024, 0xDC00 + (r - 0x10000) % 1024]

/-- `for _, chr := range s` with fuel (every iteration consumes ≥ 1 byte, so `b.length` fuel is enough). -/
def unitsFuel : Nat → List Nat → List Nat
  | 0, _ => []
  | _, [] => []
  | fuel + 1, b =>
    let (r, w) := decodeRune b
    encodeUnits r ++ unitsFuel fuel (b.drop w)

/-- unistring.Scan: `none` (nil) when every byte is < 0x80, else BOM :: UTF-16 units. -/
def scanBytes (b : List Nat) : Option (List Nat) :=
  if b.all (· < 0x80) then none else some (0xFEFF :: unitsFuel b.length b)

end GojaModel.C16
