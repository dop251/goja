/-
  C16 — the scope chains the compiler builds (ScopeChain.lean) are monotone in strictness, so a direct eval compiled in a
  non-strict scope has a non-strict innermost variable scope, and the stash bindVars targets owns a private copy.
-/
import GojaModel.C16.ScopeChain
import GojaModel.C16.NamesLemmas
namespace GojaModel.C16.Scopes
open GojaModel.C16.Names

theorem mono_cons {a : CScope} {r : List CScope} :
    Mono (a :: r) ↔ (enclosingStrict r = true → a.strict = true) ∧ Mono r := by
  cases r with
  | nil => exact ⟨fun _ => ⟨nofun, trivial⟩, fun _ => trivial⟩
  | cons b r' => exact Iff.rfl

theorem enclosingStrict_markEval (cs : List CScope) : enclosingStrict (markEval cs) = enclosingStrict cs := by
  cases cs with
  | nil => rfl
  | cons sc rest =>
    simp only [markEval]
    split
    · split <;> rfl
    · rfl

theorem mono_markEval : ∀ cs : List CScope, Mono cs → Mono (markEval cs)
  | [], h => h
  | sc :: rest, h => by
    obtain ⟨hh, hr⟩ := mono_cons.mp h
    simp only [markEval]
    split
    · exact mono_cons.mpr ⟨fun he => by split <;> exact hh he, hr⟩
    · exact mono_cons.mpr ⟨fun he => hh (enclosingStrict_markEval rest ▸ he), mono_markEval rest hr⟩

theorem mono_step (cs : List CScope) (op : COp) (h : Mono cs) : Mono (cstep cs op) := by
  cases op with
  | newScope v st m => exact mono_cons.mpr ⟨id, h⟩
  | popScope =>
    cases cs with
    | nil => trivial
    | cons a r => exact (mono_cons.mp h).2
  | directive b =>
    cases cs with
    | nil => trivial
    | cons sc r =>
      obtain ⟨hh, hr⟩ := mono_cons.mp h
      -- a scope enclosed by a strict one is strict already, and the prologue leaves it alone
      exact mono_cons.mpr ⟨fun he => by simp only [hh he, if_true], hr⟩
  | classBody =>
    cases cs with
    | nil => trivial
    | cons sc r => exact mono_cons.mpr ⟨fun _ => rfl, (mono_cons.mp h).2⟩
  | evalCall => exact mono_markEval cs h

theorem mono_run (ops : List COp) : ∀ cs, Mono cs → Mono (crun cs ops) := by
  induction ops with
  | nil => intro cs h; exact h
  | cons op rest ih => intro cs h; exact ih _ (mono_step cs op h)

theorem mono_head_strict (cs : List CScope) (h : Mono cs) : ∀ x ∈ cs, x.strict = true → enclosingStrict cs = true := by
  induction cs with
  | nil => exact fun _ hx => nomatch hx
  | cons a r ih =>
    intro x hx hs
    rcases List.mem_cons.mp hx with rfl | hx'
    · exact hs
    · exact (mono_cons.mp h).1 (ih (mono_cons.mp h).2 x hx' hs)

/-- An eval compiled in a non-strict scope of a monotone chain has a non-strict innermost variable scope: the
"strictness is inherited inwards" assumption of `compiler_contract_gives_hOK`. -/
theorem sloppy_eval_first_var_sloppy (cs : List CScope) (hm : Mono cs) (hh : enclosingStrict cs = false)
    (v : CScope) (hv : firstVar cs = some v) : v.strict = false := by
  cases hs : v.strict
  · rfl
  · exact nomatch hh.symm.trans (mono_head_strict cs hm v (List.mem_of_find?_eq_some hv) hs)

theorem target_owns_copy_of_mono (cs : List CScope) (hm : Mono cs) (hh : enclosingStrict cs = false)
    (v : CScope) (hv : firstVar cs = some v) (t : Stash) (ht : target (rtChain (markEval cs)) = some t) : t.own = true :=
  contract_target_own cs v hv (sloppy_eval_first_var_sloppy cs hm hh v hv) t ht

/-- Whatever sequence of scope pushes / pops / function prologues / class bodies / earlier eval calls the compiler
performed (`ops`, unbounded), when a direct eval is compiled in a non-strict scope — the only case in which the eval'd
code declares variables in the caller's scope chain — the stash bindVars targets at run time owns a private copy of its
names map.  (For a strict scope the eval is compiled as callEvalStrict and gets its own variable scope:
`ownVarScope := eval && strict`, bindVars is not emitted — Tie2.eval_strict_plumbing.) -/
theorem eval_var_target_owns_copy (ops : List COp) (v : CScope)
    (hh : enclosingStrict (crun [] ops) = false) (hv : firstVar (crun [] ops) = some v)
    (t : Stash) (ht : target (rtChain (markEval (crun [] ops))) = some t) : t.own = true :=
  target_owns_copy_of_mono _ (mono_run ops [] trivial) hh v hv t ht

end GojaModel.C16.Scopes
