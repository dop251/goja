/-
  C16 — property theorems (every `theorem` here is one audited proof obligation).

  Scope note: the data-race-freedom statements are about the regenerated ACCESS TABLE and the PROTOCOL
  MODEL in the happens-before semantics of Model.lean (program order + atomic release/acquire + sync.Once), not about
  the Go binary; Go's memory model, the scheduler and sync/atomic are trusted.  The -race correspondence of
  run/c16.py exhibits actual races.
-/
import GojaModel.C16.Lemmas
import GojaModel.C16.NamesLemmas
import GojaModel.C16.Clone
import GojaModel.C16.Scopes
import GojaModel.Generated.C16_Share
namespace GojaModel.C16

/-- General form, full strength inside the sharing machine: for every access table in which every row is a private
write or a known-safe escape, Program memory is the same after ANY interleaving of ANY instructions run by ANY number
of runtimes, whatever the instructions compute. -/
theorem program_readonly_of_table (tbl : List ExecAcc) (h : tableReadonly tbl = true)
    (I : Interp) (sched : List (Nat × String)) (w : World) : (runW tbl I w sched).prog = w.prog :=
  runW_prog_of I sched (fun x _ => writesProg_false_of_readonly h x.2) w

/-- General form of isolation: a run's result is a function of the Program and its own Runtime's state — after any
interleaving with any other runtimes, runtime r's memory equals what it is after running r's instructions alone. -/
theorem run_isolated_of_table (tbl : List ExecAcc) (h : tableReadonly tbl = true)
    (I : Interp) (r : Nat) (sched : List (Nat × String)) (w : World) :
    (runW tbl I w sched).own r = (runW tbl I w (onlyOf r sched)).own r :=
  runW_isolated_of I r sched (fun x _ => writesProg_false_of_readonly h x.2) w w rfl rfl

/-- The table regenerated from the CURRENT source is, row for row and in order, the audited table `safeRows`.
Any other row — a write through a receiver, a new escape, a dropped `.clone()` / `cloneTemplateValues`, a changed guard
such as a missing `!extensible` — falsifies this. -/
theorem exec_table_shape : Generated.execAcc = safeRows := rfl

/-- No `exec` method of vm.go (nor a helper method of an instruction type reached from one) writes through its
receiver or through an alias of a reference-typed field of it, and every escape / call row is an audited one. -/
theorem exec_table_readonly :
    tableReadonly Generated.execAcc = true ∧ (∀ a ∈ Generated.execAcc, a.kind = "write" → a.isLocal = true) :=
  exec_table_shape ▸ ⟨tableReadonly_safeRows, fun a ha hk => nomatch (safeRows_no_write a ha).symm.trans (beq_iff_eq.mpr hk)⟩

/-- Program is read-only after compile, on the table of the current source and for EVERY schedule: Program memory is
the same after any interleaving of any instructions run by any number of runtimes, whatever the instructions compute.
(Table / sharing-machine level, see the scope note.) -/
theorem program_readonly (I : Interp) (sched : List (Nat × String)) (w : World) :
    (runW Generated.execAcc I w sched).prog = w.prog :=
  program_readonly_of_table _ exec_table_readonly.1 I sched w

/-- A run's result is a function of the Program and its own Runtime's state: after any interleaving with any other
runtimes, runtime r's memory equals what it is after running r's instructions alone from the same start. -/
theorem run_isolated (I : Interp) (r : Nat) (sched : List (Nat × String)) (w : World) :
    (runW Generated.execAcc I w sched).own r = (runW Generated.execAcc I w (onlyOf r sched)).own r :=
  run_isolated_of_table _ exec_table_readonly.1 I r sched w

/-- Regression lemma about the mechanism BEFORE fix 85b307c (template slices handed straight to setArrayValues): the
only unsafe rows of that table were the two tagged-template rows … -/
theorem template_rows_prefix_witness :
    (∀ a ∈ execAccPrefix, a.noSharedWrite = false → a ∈ templateSharedRows) ∧
    (∀ a ∈ templateSharedRows, a ∈ execAccPrefix ∧ a.noSharedWrite = false) :=
  ⟨execAccPrefix_unsafe_rows, by decide +kernel⟩

/-- … and isolation really depended on them: with the tagged-template rows in the table (template slots reachable
from every runtime) there are instruction semantics and a schedule on which runtime 1's result depends on whether
runtime 0 ran — e.g. runtime 0 freezes the template object, runtime 1 reads the slot's flags. -/
theorem template_sharing_prefix_witness :
    ∃ (I : Interp) (sched : List (Nat × String)) (w : World),
      (runW templateSharedRows I w sched).own 1 0 ≠ (runW templateSharedRows I w (onlyOf 1 sched)).own 1 0 := by
  refine ⟨{ ownNext := fun _ p _ => p, progNext := fun _ _ _ => fun _ => 1 },
    [(0, "getTaggedTmplObject"), (1, "getTaggedTmplObject")], { prog := fun _ => 0, own := fun _ _ => 0 }, ?_⟩
  decide +kernel

/-- Data-race freedom of the once-style memo protocol (atomic flag + sync.Once), full strength inside the model:
any number of threads, any number of forcing / peeking client operations per thread, any schedule. -/
theorem memo_drf (sv : Nat) (sched : List (Nat × Op)) (h : ∀ x ∈ sched, x.2 ≠ .raw) :
    (runM onceCfg sv initM sched).raced = false :=
  (dinv_run sv sched h dinv_init).nr

/-- In the once-style protocol a thread that is about to run the scan finds `u` never accessed before, whatever the
schedule: no second write can follow a first one. -/
theorem memo_once_single_write (sv : Nat) (sched : List (Nat × Op)) (h : ∀ x ∈ sched, x.2 ≠ .raw) :
    ∀ t, ((runM onceCfg sv initM sched).thr t).pc = .f3 → (runM onceCfg sv initM sched).histU = [] := by
  intro t ht
  have hp := ((dinv_run sv sched h dinv_init).thr t).2
  rw [ht] at hp
  exact hp.2

/-- A string that was scanned by its constructor before being published (newScannedImportedString: Go strings of at
most 16 bytes with non-ASCII content, runtime.go toValue) is race free and value-correct as well: every thread sees the
flag set, nobody scans again, `u` is only ever read.  (The restriction to checked clients is not used: an unchecked
reader of such a string only adds a read, `pinv_run`.) -/
theorem memo_prescanned_drf (sv : Nat) (sched : List (Nat × Op)) (h : ∀ x ∈ sched, x.2 ≠ .raw) :
    (runM onceCfg sv (initScanned sv) sched).raced = false ∧ (runM onceCfg sv (initScanned sv) sched).bad = false ∧
    ∀ a ∈ (runM onceCfg sv (initScanned sv) sched).histU, a.wr = false :=
  ⟨(pinv_run sv sched).nr, (vinv_run onceCfg sv sched (VInv.written rfl rfl)).nb, (pinv_run sv sched).rd⟩

/-- Regression lemma about the protocol BEFORE fix 7f47297 (plain flag, no Once): it has a data race — thread 1's
plain read of `scanned` is unordered with thread 0's plain write of it ("importedString-lazy-scan-data-race"). -/
theorem memo_unsync_prefix_witness (sv : Nat) :
    (∀ x ∈ raceSched, x.2 ≠ Op.raw) ∧ (runM unsyncCfg sv initM raceSched).raced = true :=
  ⟨by decide, by rfl⟩

/-- An atomic flag alone (no Once) is not enough: two threads that both saw `false` both write `u`. -/
theorem memo_atomic_flag_alone_race_witness (sv : Nat) :
    (runM ⟨.atomic, false⟩ sv initM
      [(0, .force), (1, .force), (0, .force), (1, .force), (0, .force), (1, .force), (0, .force), (1, .force),
       (0, .force), (1, .force)]).raced = true := by rfl

/-- Even with the once-style protocol a client that reads `u` with no check at all (as importedString.StrictEquals
and asciiString.StrictEquals did before 7f47297) races with the scanning thread: why `memo_generated_drf` also pins
that no such reader exists. -/
theorem memo_raw_reader_race_witness (sv : Nat) :
    (runM onceCfg sv initM
      [(0, .force), (0, .force), (0, .force), (0, .force), (0, .force), (1, .raw), (1, .raw)]).raced = true := by rfl

/-- Whichever thread scans, under whichever protocol shape and schedule (raw clients included), every client that
relies on the memoised value observes exactly Scan(s) — the same function of the bytes. -/
theorem memo_value_deterministic (c : Cfg) (sv : Nat) (sched : List (Nat × Op)) :
    (runM c sv initM sched).bad = false :=
  (vinv_run c sv sched (vinv_init sv)).nb

/-- … and the cell itself only ever holds nil or Scan(s). -/
theorem memo_cell_values (c : Cfg) (sv : Nat) (sched : List (Nat × Op)) :
    (runM c sv initM sched).uval = sv ∨ (runM c sv initM sched).uval = 0 :=
  (vinv_run c sv sched (vinv_init sv)).cell.imp id (·.1)

/-- The protocol regenerated from the CURRENT source (scan / ensureScanned / isScanned of string_imported.go) is the
once-style one, no function of the package reads `u` without a preceding ensureScanned() or flag test, and therefore
the memo is data-race free for every number of threads, every number of client operations and every schedule.
(Protocol-model level, see the scope note.) -/
theorem memo_generated_drf :
    cfgOfProg Generated.memoProg = some onceCfg ∧
    (Generated.impAcc.all fun a => !(a.field == "u" && !a.write && a.sync == "plain" && a.dom == "raw")) = true ∧
    ∀ sv sched, (∀ x ∈ sched, x.2 ≠ Op.raw) → (runM onceCfg sv initM sched).raced = false :=
  ⟨by decide +kernel, by decide +kernel, memo_drf⟩

/-! The escape rows of the `names` maps are safe (mechanism level, Names.lean).

The exec table lets `$.names` escape into `stash.names` (aliasing the Program's map) for block scopes and for
function scopes that are not `extensible`; the writers of a names map are createBinding / deleteBinding
(Tie.names_writers_expected, Tie.binding_call_sites).  `allH` is the compiler's side of the contract — bindVars only
ever targets a scope compiled `extensible` (every site sets `extensible: <scope>.dynamic`, Tie.extensible_sites). -/

/-- Under that contract NO sequence of scope entries/exits, per-iteration copies, closure calls / returns / generator
resumptions (`switch`: the current chain becomes any sequence of stashes the Runtime ever created), eval-var
declarations and deletions, run by ANY number of Runtimes in ANY interleaving, writes a Program-owned names map. -/
theorem names_program_maps_readonly (bound : Nat) (st : Names.St) (ops : List (Nat × Names.Op))
    (hb : bound ≤ st.next)
    (hclean : ∀ id, id < bound → ∀ e ∈ st.maps id, e.deletable = false)
    (hshape : ∀ rt, ∀ s ∈ st.pool rt, (s.own = false → s.map < bound) ∧ (s.own = true → bound ≤ s.map ∧ s.map < st.next))
    (hsub : ∀ rt, ∀ s ∈ st.stacks rt, s ∈ st.pool rt)
    (hH : Names.allH bound st ops = true) :
    ∀ id, id < bound → (Names.run bound st ops).maps id = st.maps id :=
  -- a map that a stash owns lies at or above `bound`
  fun id hid => (Names.run_frame ops st ⟨hb, hclean, hshape, hsub⟩ hH).1 id (Nat.lt_of_lt_of_le hid hb) fun x _ s hs ho =>
    Nat.ne_of_gt (Nat.lt_of_lt_of_le hid ((hshape x.1 s hs).2 ho).1)

/-- … and nothing Runtime r can reach — the names maps on its current scope chain AND on every stash it ever created
(captured by closures, suspended in generators) — is changed by any sequence of operations of the OTHER Runtimes:
private copies are private, shared maps are never written. -/
theorem names_others_invisible (bound : Nat) (st : Names.St) (r : Nat) (ops : List (Nat × Names.Op))
    (hb : bound ≤ st.next)
    (hclean : ∀ id, id < bound → ∀ e ∈ st.maps id, e.deletable = false)
    (hshape : ∀ rt, ∀ s ∈ st.pool rt, (s.own = false → s.map < bound) ∧ (s.own = true → bound ≤ s.map ∧ s.map < st.next))
    (hsub : ∀ rt, ∀ s ∈ st.stacks rt, s ∈ st.pool rt)
    (hpriv : Names.Priv st) (hr : ∀ x ∈ ops, x.1 ≠ r) (hH : Names.allH bound st ops = true) :
    Names.view (Names.run bound st ops) r = Names.view st r ∧
    Names.poolView (Names.run bound st ops) r = Names.poolView st r :=
  Names.others_invisible r ops ⟨hb, hclean, hshape, hsub⟩ hpriv hr hH

/-- The hypotheses on `next`, `pool` and `stacks` (`hb`, `hshape`, `hsub`, `hpriv`) are those of a freshly compiled Program
before any Runtime touched it.  (`hclean`: compiled maps contain no deletable entry, see the head of Names.lean; `hH` stays a
hypothesis: `compiler_contract_gives_hOK` gives `hOK` for one `bindVar` in one state, under `hchain`.) -/
theorem names_initial_state_ok (bound : Nat) (maps : Nat → Names.NMap) :
    let st : Names.St := { maps := maps, next := bound, pool := fun _ => [], stacks := fun _ => [] }
    bound ≤ st.next ∧ (∀ rt, ∀ s ∈ st.pool rt, (s.own = false → s.map < bound) ∧ (s.own = true → bound ≤ s.map ∧ s.map < st.next)) ∧
    (∀ rt, ∀ s ∈ st.stacks rt, s ∈ st.pool rt) ∧ Names.Priv st := by
  refine ⟨Nat.le_refl _, ?_, ?_, ?_⟩
  · intro rt s hs; simp at hs
  · intro rt s hs; simp at hs
  · intro q1 q2 _ s1 h1; simp at h1

/-- The contract is needed: if a scope that gets an eval-declared variable aliases the Program's map (an
`extensible` copy dropped — the C16-m2 class), the Program's map is written and another Runtime sees the binding. -/
theorem names_alias_write_witness :
    let st : Names.St := { maps := fun _ => [⟨"a", 0, false⟩], next := 1, pool := fun _ => [], stacks := fun _ => [] }
    let ops : List (Nat × Names.Op) := [(0, .enterFunc 0 false), (1, .enterFunc 0 false), (0, .bindVar "q" true)]
    (Names.run 1 st ops).maps 0 ≠ st.maps 0 ∧ Names.view (Names.run 1 st ops) 1 ≠ Names.view (Names.run 1 st (Names.onlyOf 1 ops)) 1 := by
  decide +kernel

/-- The compiler's side of the contract, from the four tied facts (R1)–(R4) of Names.lean: when a direct eval is
compiled in a scope chain whose innermost variable scope is not strict, then at run time — whatever other scopes have
stashes — the stash bindVars targets owns a private copy, i.e. `hOK` holds for the eval's `var` declarations. -/
theorem compiler_contract_gives_hOK (st : Names.St) (rt : Nat) (cs : List Names.CScope) (v : Names.CScope)
    (hchain : st.stacks rt = Names.rtChain (Names.markEval cs))
    (hv : Names.firstVar cs = some v) (hs : v.strict = false) (n : String) (d : Bool) :
    Names.hOK st rt (.bindVar n d) = true := by
  simp only [Names.hOK]
  split
  · next t ht => exact Names.contract_target_own cs v hv hs t (hchain ▸ ht)
  · rfl

/-- Every scope chain the compiler can build — any sequence of newScope (strict copied from the enclosing scope),
popScope, function prologues (`if !s.strict { s.strict = … }`), class bodies (`s.strict = true`) and eval markings —
is monotone: a scope is at least as strict as the scope enclosing it. -/
theorem scope_strictness_monotone (ops : List Scopes.COp) : Scopes.Mono (Scopes.crun [] ops) :=
  Scopes.mono_run ops [] trivial

/-- Hence an eval compiled in a non-strict scope has a non-strict innermost variable scope (the assumption
"strictness is inherited inwards" of `compiler_contract_gives_hOK`, discharged). -/
theorem sloppy_eval_first_var_sloppy (ops : List Scopes.COp) (v : Names.CScope)
    (hh : Scopes.enclosingStrict (Scopes.crun [] ops) = false) (hv : Names.firstVar (Scopes.crun [] ops) = some v) :
    v.strict = false :=
  Scopes.sloppy_eval_first_var_sloppy _ (scope_strictness_monotone ops) hh v hv

/-- The compiler contract without a strictness hypothesis on the variable scope: whatever scopes the compiler built
(unbounded `ops`), a direct eval compiled in a NON-STRICT scope — the only case in which the eval'd code declares
variables in the caller's chain (Tie2.eval_strict_plumbing) — finds, at run time, a target stash that owns a private
copy of its names map. -/
theorem eval_var_target_owns_copy (ops : List Scopes.COp) (v : Names.CScope)
    (hh : Scopes.enclosingStrict (Scopes.crun [] ops) = false) (hv : Names.firstVar (Scopes.crun [] ops) = some v)
    (t : Names.Stash) (ht : Names.target (Names.rtChain (Names.markEval (Scopes.crun [] ops))) = some t) : t.own = true :=
  Scopes.eval_var_target_owns_copy ops v hh hv t ht

/-- As long as run-time objects are built on per-use clones (the `call $.pattern clone` / `arg0 cloneTemplateValues`
rows of the exec table), NO sequence of object creations and writes (lastIndex / match cache / createRegexp2 /
Object.freeze …) by ANY number of Runtimes in ANY interleaving changes a Program-owned cell. -/
theorem clone_program_cells_readonly (bound : Nat) (st : Clone.St) (ops : List (Nat × Clone.Op))
    (hinv : Clone.CInv bound st) (hops : ∀ x ∈ ops, Clone.usesClone x.2 = true) :
    ∀ c, c < bound → (Clone.run bound st ops).val c = st.val c :=
  -- a cell that a Runtime holds a reference to lies at or above `bound`
  fun c hc => Clone.run_val ops (.inr hops) st (Nat.lt_of_lt_of_le hc hinv.bnd) fun x _ hm =>
    Nat.not_le_of_lt hc (hinv.own x.1 c hm).1

/-- … and the cells Runtime r holds references to (its RegExp objects' patterns and caches, its template arrays' slots)
are not changed by any sequence of operations of the other Runtimes.  (`hops` is not used: a cell r holds is a clone, and an
alias is only ever handed out of a Program cell, `Clone.run_val`.) -/
theorem clone_others_invisible (bound : Nat) (st : Clone.St) (r : Nat) (ops : List (Nat × Clone.Op))
    (hinv : Clone.CInv bound st) (hops : ∀ x ∈ ops, Clone.usesClone x.2 = true) (hr : ∀ x ∈ ops, x.1 ≠ r) :
    (Clone.run bound st ops).wrefs r = st.wrefs r ∧ ∀ c ∈ st.wrefs r, (Clone.run bound st ops).val c = st.val c :=
  ⟨Clone.run_wrefs_other r ops hr st, fun c hc =>
    Clone.run_val ops (.inl (hinv.own r c hc).1) st (hinv.own r c hc).2 fun x hx => hinv.disj r x.1 (hr x hx).symm c hc⟩

/-- The clones are needed (seeded change C16-m1, the pre-85b307c template code): an object built on the Program's own
cell lets one Runtime's write reach the Program and the other Runtime's object. -/
theorem clone_alias_write_witness :
    let st : Clone.St := { val := fun _ => 0, next := 1, wrefs := fun _ => [] }
    let ops : List (Nat × Clone.Op) := [(0, .aliasUse 0), (1, .aliasUse 0), (0, .write 0 7)]
    (Clone.run 1 st ops).val 0 ≠ st.val 0 ∧ 0 ∈ (Clone.run 1 st ops).wrefs 1 := by
  decide +kernel

/-- Read-only shared memory cannot race: a location whose history holds only reads never conflicts with another
read, whatever the readers know (Symbols — one immutable field, Tie.symbol_immutable —, `importedString.s`,
instruction fields, names maps under the theorem above). -/
theorem readonly_location_race_free (h : List Acc) (t : Nat) (K : Nat → Bool) (hr : ∀ a ∈ h, a.wr = false) :
    conflicts h t K false = false :=
  conflicts_false_of_reads h t K hr

/-- A live Object created by runtime r' is rejected with a TypeError by toValue of any other runtime r. -/
theorem foreign_object_rejected (o : ObjRef) (r r' : Nat) (hn : o.isNil = false) (hs : o.selfNil = false)
    (ho : o.runtime = some r') (hne : r' ≠ r) : toValueObj o r = .typeError := by
  simp [toValueObj, hn, hs, ho, hne]

/-- Conversely toValue returns an Object unchanged only if it belongs to the converting runtime (or to none). -/
theorem object_accepted_iff (o : ObjRef) (r : Nat) :
    toValueObj o r = .same ↔ (o.isNil = false ∧ o.selfNil = false ∧ (o.runtime = none ∨ o.runtime = some r)) := by
  obtain ⟨n, s, rt⟩ := o
  cases n <;> cases s <;> cases rt <;> simp [toValueObj]

/-- ASCII-only byte strings memoise nil; anything else memoises a BOM-prefixed UTF-16 array. -/
theorem scan_shape (b : List Nat) :
    (scanBytes b = none ↔ b.all (· < 0x80) = true) ∧ (∀ u, scanBytes b = some u → u.head? = some 0xFEFF) := by
  unfold scanBytes
  split
  · next h => exact ⟨⟨fun _ => h, fun _ => rfl⟩, nofun⟩
  · next h => exact ⟨⟨nofun, fun e => absurd e h⟩, fun u e => Option.some.inj e ▸ rfl⟩

example : (runM onceCfg 7 initM [(0, .force), (1, .force), (0, .force), (1, .force), (0, .force), (1, .force),
    (0, .force), (1, .force), (0, .force), (0, .force), (0, .force), (1, .force), (1, .force), (2, .peek), (2, .peek),
    (2, .peek), (2, .peek)]).histU.length = 3 := by decide +kernel
example : toValueObj ⟨false, false, some 1⟩ 2 = .typeError := by decide
example : toValueObj ⟨false, false, some 2⟩ 2 = .same := by decide
example : scanBytes [0x61, 0xC3, 0xA9, 0xF0, 0x9F, 0x98, 0x80, 0xFF] = some [0xFEFF, 0x61, 0xE9, 0xD83D, 0xDE00, 0xFFFD] := by decide +kernel

end GojaModel.C16
