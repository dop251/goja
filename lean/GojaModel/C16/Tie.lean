/-
  C16 — Tie: the facts regenerated from /repo's current source (GojaModel/Generated/C16_Share.lean, written by
  extract/c16.go on every run) against what the model and the safety argument of design/C16.md assume.
  Every theorem here is an obligation; when the source changes shape, the named equality fails.
-/
import GojaModel.C16.Model
import GojaModel.Generated.C16_Share
namespace GojaModel.C16.Expected
open GojaModel.C16

def namesWrites : List FieldWrite := [
  { file := "compiler_expr.go", fn := "compiledFunctionLiteral.compile", field := "names" },
  { file := "compiler_expr.go", fn := "compiledClassLiteral.compileFieldsAndStaticBlocks", field := "names" },
  { file := "compiler_stmt.go", fn := "compiler.updateEnterBlock", field := "names" },
  { file := "vm.go", fn := "stash.createBinding", field := "names" },
  { file := "vm.go", fn := "stash.createLexBinding", field := "names" },
  { file := "vm.go", fn := "stash.deleteBinding", field := "names" },
  { file := "vm.go", fn := "enterBlock.exec", field := "names" },
  { file := "vm.go", fn := "enterCatchBlock.exec", field := "names" },
  { file := "vm.go", fn := "enterFunc.exec", field := "names" },
  { file := "vm.go", fn := "enterFunc1.exec", field := "names" },
  { file := "vm.go", fn := "enterFuncBody.exec", field := "names" },
  { file := "vm.go", fn := "copyStash.exec", field := "names" },
  { file := "vm.go", fn := "vm.fillPrivateNamesMap", field := "names" }
]

def rxCacheWrites : List FieldWrite := [
  { file := "object.go", fn := "objectExportCtx.put", field := "cache" },
  { file := "object.go", fn := "objectExportCtx.putTyped", field := "cache" },
  { file := "regexp.go", fn := "regexpPattern.createRegexp2", field := "regexp2Wrapper" },
  { file := "regexp.go", fn := "regexpPattern.clone", field := "regexpWrapper" },
  { file := "regexp.go", fn := "regexpPattern.clone", field := "regexp2Wrapper" },
  { file := "regexp.go", fn := "regexp2Wrapper.findUTF16Cached", field := "cache" },
  { file := "regexp.go", fn := "regexp2Wrapper.findUnicodeCached", field := "cache" }
]

def programFields : List (String × String) := [("code", "[]instruction"), ("funcName", "unistring.String"), ("src", "*file.File"), ("srcMap", "[]srcMapItem")]

def importedFieldsOnce : List (String × String) := [("s", "string"), ("u", "unicodeString"), ("scanOnce", "sync.Once"), ("scanned", "atomic.Bool")]

def clone_regexpPattern : List String := ["src := $.src", "global := $.global", "ignoreCase := $.ignoreCase", "multiline := $.multiline", "dotAll := $.dotAll", "sticky := $.sticky", "unicode := $.unicode", "ret.regexpWrapper = $.regexpWrapper.clone()", "ret.regexp2Wrapper = $.regexp2Wrapper.clone()", "return ret"]
def clone_regexp2Wrapper : List String := ["rx := $.rx"]
def clone_regexpWrapper : List String := ["return $"]

/-- Files that may assign `code` / `srcMap` (fields only Program has): the compiler. -/
def compilerFiles : List String := ["compiler.go", "compiler_expr.go", "compiler_stmt.go"]

/-- Every construction of a function-entry instruction: `extensible` is the compile-time `dynamic` flag of the scope
(a direct sloppy eval can declare variables in it); the class-field initialiser never sets it — class bodies are strict
code, where eval has its own variable environment. -/
def extensibleSites : List (String × String) := [("compiledFunctionLiteral.compile:enterFunc", "s.dynamic"), ("compiledFunctionLiteral.compile:enterFuncBody", "e.c.scope.dynamic"), ("compiledFunctionLiteral.compile:enterFunc1", "s.dynamic"), ("compiledFunctionLiteral.compile:enterFuncBody", "e.c.scope.dynamic"), ("compiledFunctionLiteral.compile:enterFuncBody", "e.c.scope.dynamic"), ("compiledClassLiteral.compileFieldsAndStaticBlocks:enterFunc", "<unset>")]
def bindingCalls : List (String × String) := [("compiledFunctionLiteral.compile", "s.deleteBinding"), ("compiledFunctionLiteral.compile", "s.deleteBinding"), ("compiledClassLiteral.emitGetter", "s.deleteBinding"), ("compiledClassLiteral.compileFieldsAndStaticBlocks", "s.deleteBinding"), ("deleteVar.exec", "stash.deleteBinding"), ("bindVars.exec", "target.createBinding"), ("bindGlobal.exec", "s.createLexBinding"), ("bindGlobal.exec", "s.createLexBinding")]
def symbolWrites : List (String × String) := [("newSymbol", "init desc")]
def body_bindVars_exec : List String := ["var target *stash", "for _, name := range d.names { for s := vm.stash; s != nil; s = s.outer { if idx, exists := s.names[name]; exists && idx&maskVar == 0 { vm.throw(vm.alreadyDeclared(name)) return } if s.isVariable() { target = s break } } }", "if target == nil { target = vm.stash }", "deletable := d.deletable", "for _, name := range d.names { target.createBinding(name, deletable) }", "vm.pc++"]
def body_createBinding : List String := ["if s.names == nil { s.names = make(map[unistring.String]uint32) }", "if _, exists := s.names[name]; !exists { idx := uint32(len(s.names)) | maskVar if deletable { idx |= maskDeletable } s.names[name] = idx s.values = append(s.values, _undefined) }"]
def body_deleteBinding : List String := ["delete(s.names, name)"]
def body_isVariable : List String := ["return s.funcType != funcNone"]
def body_copyStash_exec : List String := ["oldStash := vm.stash", "newStash := &stash{ outer: oldStash.outer, }", "vm.stashAllocs++", "newStash.values = append([]Value(nil), oldStash.values...)", "newStash.names = oldStash.names", "vm.stash = newStash", "vm.pc++"]
def deleteVarGuards : List String := ["exists", "idx&(maskVar|maskDeletable) == maskVar|maskDeletable"]
def symbolFields : List (String × String) := [("desc", "String")]

def dynamicSites : List (String × String) := [("compiler.compile", "scope.dynamic = true"), ("compiledCallExpr.emitGetter", "for sc := e.c.scope; sc != nil; sc = sc.outer { if !foundVar && (sc.variable || sc.isFunction()) { foundVar = true if !sc.strict { sc.dynamic = true } } sc.dynLookup = true }"), ("compiler.compileWithStatement", "c.scope.dynamic = true")]
def entrySites : List (String × String) := [("compiledFunctionLiteral.compile:enterFunc", "extensible=s.dynamic; funcType=e.typ; then if s.isDynamic() { enter1.names = s.makeNamesMap() }"), ("compiledFunctionLiteral.compile:enterFuncBody", "extensible=e.c.scope.dynamic; funcType=e.typ; then e.c.updateEnterBlock(&ef2.enterBlock)"), ("compiledFunctionLiteral.compile:enterFunc1", "extensible=s.dynamic; funcType=e.typ; then if s.isDynamic() { enter1.names = s.makeNamesMap() }"), ("compiledFunctionLiteral.compile:enterFuncBody", "extensible=e.c.scope.dynamic; funcType=e.typ; then e.c.updateEnterBlock(&ef2.enterBlock)"), ("compiledFunctionLiteral.compile:enterFuncBody", "extensible=e.c.scope.dynamic; funcType=e.typ; then e.c.updateEnterBlock(&ef2.enterBlock)"), ("compiledClassLiteral.compileFieldsAndStaticBlocks:enterFunc", "extensible=<unset>; funcType=funcClsInit; then if s.dynLookup { enter.names = s.makeNamesMap() }")]
def body_hasStash : List String := ["if s.dynamic { return true }"]
def body_isFunction : List String := ["return s.funcType != funcNone && !s.eval"]
def body_isDynamic : List String := ["return s.dynLookup || s.dynamic"]
def body_cloneTemplateValues : List String := ["dst := make([]Value, len(src))", "for i, v := range src { if p, ok := v.(*valueProperty); ok { cp := *p dst[i] = &cp } else { dst[i] = v } }", "return dst"]
def body_setArrayValues : List String := ["a.values = values", "a.length = uint32(len(values))", "a.objCount = len(values)", "return a"]
def calleeParamUse : List (String × String) := [("vm.checkBindFuncsGlobal#0", "read"), ("vm.checkBindLexGlobal#0", "read"), ("vm.checkBindVarsGlobal#0", "read"), ("vm.createGlobalFuncBindings#0", "read"), ("vm.createGlobalVarBindings#0", "read"), ("vm.getPrivateProp#2", "passed:obj.self.getPrivateEnv"), ("cloneTemplateValues#0", "read"), ("vm.fillPrivateNamesMap#1", "read"), ("vm.fillPrivateNamesMap#2", "read"), ("vm.push#0", "stored:vm.stack[vm.sp]"), ("vm.r.newRegExpp#1", "stored:o.source"), ("obj.self.getPrivateEnv#0", "read"), ("vm.setPrivateProp#2", "passed:obj.self.getPrivateEnv"), ("vm.throw#0", "passed:vm.handleThrow")]

end GojaModel.C16.Expected

namespace GojaModel.C16.Tie
open GojaModel.C16

def rawUReaders (l : List ImpAcc) : List String :=
  (l.filter fun a => a.field == "u" && !a.write && a.sync == "plain" && a.dom == "raw").map (·.fn)

def live (l : List ImpAcc) : List ImpAcc := l.filter fun a => a.sync != "init" && (a.field == "u" || a.field == "scanned")

/-- the extractor saw the whole instruction set, not a fragment (vm.go has 258 exec methods; 250 is a floor, not the count) -/
theorem exec_methods_seen : Generated.execMethods.length ≥ 250 := by decide +kernel

theorem program_fields_expected : Generated.programFields = Expected.programFields := rfl

theorem prog_field_writers_are_compiler : ∀ w ∈ Generated.progFieldWrites, w.file ∈ Expected.compilerFiles := by
  decide +kernel

theorem names_writers_expected : Generated.namesWrites = Expected.namesWrites := rfl

theorem rx_cache_writers_expected : Generated.rxCacheWrites = Expected.rxCacheWrites := rfl

theorem clones_expected :
    Generated.clone_regexpPattern = Expected.clone_regexpPattern ∧
    Generated.clone_regexp2Wrapper = Expected.clone_regexp2Wrapper ∧
    Generated.clone_regexpWrapper = Expected.clone_regexpWrapper := ⟨rfl, rfl, rfl⟩

theorem toValue_object_expected : Generated.toValueObject = expectedToValueObject := rfl

/-- `.s` is never written after construction; `.u` and `.scanned` are written only by scan() — and `.scanned` by
newScannedImportedString, on the value it has just allocated (`initScanned`). -/
theorem imported_writers : ∀ a ∈ Generated.impAcc, a.write = true →
    a.sync = "init" ∨ (a.fn = "importedString.scan" ∧ a.field ≠ "s") ∨ (a.fn = "newScannedImportedString" ∧ a.field = "scanned") := by
  decide +kernel

/-- The memo protocol, the struct and every live access are exactly the once-style shape: flag accessed atomically
everywhere, `u` written only by scan() (under the Once) and read only after ensureScanned() or under a flag test. -/
theorem memo_shape :
    cfgOfProg Generated.memoProg = some onceCfg ∧ Generated.importedFields = Expected.importedFieldsOnce ∧
    rawUReaders Generated.impAcc = [] ∧
    (live Generated.impAcc).all (fun a => if a.field == "scanned" then a.sync == "atomic" else a.sync == "plain") = true := by
  decide +kernel

/-- where `extensible` comes from at every function-entry construction site -/
theorem extensible_sites : Generated.extensibleSites = Expected.extensibleSites := rfl

/-- who calls the writers of a names map: bindVars (on its target), deleteVar, bindGlobal (global stash) — and the
compiler's own `scope.deleteBinding`, which is a different type -/
theorem binding_call_sites : Generated.bindingCalls = Expected.bindingCalls := rfl

/-- the five small functions the Names model transcribes, and the deletable test of deleteVar, are textually as
transcribed (bindVars target selection, createBinding, deleteBinding, isVariable, copyStash) -/
theorem names_mechanism_text :
    Generated.body_bindVars_exec = Expected.body_bindVars_exec ∧ Generated.body_createBinding = Expected.body_createBinding ∧
    Generated.body_deleteBinding = Expected.body_deleteBinding ∧ Generated.body_isVariable = Expected.body_isVariable ∧
    Generated.body_copyStash_exec = Expected.body_copyStash_exec ∧ Generated.deleteVarGuards = Expected.deleteVarGuards :=
  ⟨rfl, rfl, rfl, rfl, rfl, rfl⟩

/-- a Symbol has one field, set only by the composite literal in newSymbol: immutable after construction -/
theorem symbol_immutable :
    Generated.symbolFields = Expected.symbolFields ∧ Generated.symbolWrites = Expected.symbolWrites ∧
    (∀ w ∈ Generated.symbolWrites, w.2 = "init desc") := by decide +kernel

/-- (R1) every site that sets `scope.dynamic`: the top-level scope, the `with` block, and the marking loop run when a
direct eval call is compiled — textually the loop `markEval` transcribes -/
theorem dynamic_sites : Generated.dynamicSites = Expected.dynamicSites := rfl

/-- (R2)/(R4) every construction of a function-entry instruction: `extensible` and the names map come from the SAME
scope (`s` for enterFunc / enterFunc1, `e.c.scope` for enterFuncBody), `funcType` is the function's type; the
class-field initialiser (strict code) never sets `extensible` (seeded change C16-m2 breaks exactly this) -/
theorem entry_sites : Generated.entrySites = Expected.entrySites := rfl

/-- (R3) `hasStash` starts with `if s.dynamic { return true }`; isFunction / isDynamic as transcribed -/
theorem scope_predicates_text :
    Generated.body_hasStash = Expected.body_hasStash ∧ Generated.body_isFunction = Expected.body_isFunction ∧
    Generated.body_isDynamic = Expected.body_isDynamic := ⟨rfl, rfl, rfl⟩

/-- cloneTemplateValues makes a fresh backing array and a fresh copy of every slot; setArrayValues installs its argument
(the clone) as the array's storage -/
theorem clone_template_text :
    Generated.body_cloneTemplateValues = Expected.body_cloneTemplateValues ∧
    Generated.body_setArrayValues = Expected.body_setArrayValues := ⟨rfl, rfl⟩

/-- what every callee of an escape row does with the escaped argument: the name slices (`funcs`/`vars`/`lets`/`consts`,
`privateFields`/`privateMethods`) and `privateId.typ` are only read (ranged over, indexed, used as map key); the
remaining ones store or pass on an immutable primitive (`vm.push`, `newRegExpp`'s source String, `vm.throw`) -/
theorem callee_param_use : Generated.calleeParamUse = Expected.calleeParamUse := rfl

theorem callee_param_use_slices_readonly :
    ∀ u ∈ Generated.calleeParamUse, u.1 ∈ ["vm.push#0", "vm.r.newRegExpp#1", "vm.throw#0", "vm.getPrivateProp#2", "vm.setPrivateProp#2"] ∨ u.2 = "read" := by
  decide +kernel

end GojaModel.C16.Tie
