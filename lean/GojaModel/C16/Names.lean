/-
  C16 — the `names` maps of compiled scopes (mechanism level).

  A Program owns one `map[unistring.String]uint32` per scope that needs dynamic lookup.  At run time
    * enterBlock / enterCatchBlock (vm.go:3702, 3726) ALIAS it into the new stash (`vm.stash.names = e.names`);
    * enterFunc / enterFunc1 / enterFuncBody (vm.go:3769, 3852, 3903) alias it too, unless the scope is `extensible`,
      in which case they install a fresh COPY;
    * copyStash (per-iteration copy of a loop scope) aliases the names of the stash it replaces;
    * a closure call / return / generator resume replaces the current chain by a chain of stashes created earlier
      (`switch`: any sequence of stashes of the Runtime's pool);
    * bindVars.exec (`eval('var x')`) creates bindings in the nearest stash with `isVariable()` — or, when there is
      none, in the innermost stash — through stash.createBinding (writes the map);
    * deleteVar.exec deletes a binding only if it carries maskVar|maskDeletable (stash.deleteBinding).
  Compiled maps never contain deletable entries (only createBinding(deletable=true) makes them).

  Model: a heap of maps; ids below `bound` are Program-owned (shared by every Runtime), ids from `bound` up are the
  private copies.  Theorems (Names section of Props.lean): under the compiler's invariant "a scope into which a direct
  sloppy eval can declare variables is compiled extensible" (hypothesis `allH`; the compiler sets
  `extensible: <scope>.dynamic` at every site — Tie.extensible_sites), NO operation sequence of any number of Runtimes
  writes a Program-owned map, and what one Runtime sees of its scope chain is independent of the other Runtimes.
-/
namespace GojaModel.C16.Names

structure Entry where
  name : String
  idx : Nat
  deletable : Bool
  deriving DecidableEq, Repr

abbrev NMap := List Entry

structure Stash where
  map : Nat
  isVar : Bool        -- stash.isVariable(): funcType != funcNone
  own : Bool          -- the names map is a private copy made on entry (extensible scope)
  deriving DecidableEq, Repr

structure St where
  maps : Nat → NMap
  next : Nat                  -- next fresh map id
  pool : Nat → List Stash     -- per Runtime: every stash it ever created (a closure / generator may keep any of them alive)
  stacks : Nat → List Stash   -- per Runtime: the current scope chain, innermost stash first

inductive Op
  | enterFunc (pm : Nat) (extensible : Bool)    -- enterFunc / enterFunc1 / enterFuncBody with len(names) > 0
  | enterBlock (pm : Nat)                       -- enterBlock / enterCatchBlock
  | copyStash
  | leave
  | bindVar (name : String) (deletable : Bool)  -- bindVars.exec, one name
  | deleteVar (name : String)
  /-- a closure is called, a call returns, a generator is resumed …: the current scope chain becomes ANY sequence of
  stashes this Runtime has created (vm.stash = f.stash; popCtx; generator resume) -/
  | switch (chain : List Nat)
  deriving Repr

def has (m : NMap) (n : String) : Bool := m.any (fun e => e.name == n)

/-- stash.createBinding (vm.go:568): append unless present. -/
def createBinding (m : NMap) (n : String) (d : Bool) : NMap :=
  if has m n then m else m ++ [⟨n, m.length, d⟩]

/-- stash.deleteBinding (vm.go:596). -/
def deleteBinding (m : NMap) (n : String) : NMap := m.filter (fun e => !(e.name == n))

/-- bindVars.exec's target: the nearest variable stash, else the innermost one (`target = vm.stash`). -/
def target (stk : List Stash) : Option Stash :=
  match stk.find? (·.isVar) with
  | some t => some t
  | none => stk.head?

/-- deleteVar.exec: the first stash of the chain that has the name decides; it is deleted only if deletable. -/
def delTarget (maps : Nat → NMap) : List Stash → String → Option Nat
  | [], _ => none
  | s :: rest, n =>
    match (maps s.map).find? (fun e => e.name == n) with
    | some e => if e.deletable then some s.map else none
    | none => delTarget maps rest n

def setMap (st : St) (id : Nat) (m : NMap) : St :=
  { st with maps := fun x => if x = id then m else st.maps x }

def setStack (st : St) (rt : Nat) (stk : List Stash) : St :=
  { st with stacks := fun x => if x = rt then stk else st.stacks x }

/-- a newly created stash becomes the innermost one of the current chain and joins the Runtime's pool -/
def push (st : St) (rt : Nat) (s : Stash) (rest : List Stash) : St :=
  { st with stacks := fun x => if x = rt then s :: rest else st.stacks x
            pool := fun x => if x = rt then s :: st.pool x else st.pool x }

/-- One instruction of Runtime `rt`.  `bound`: ids below it are Program-owned maps. -/
def step (bound : Nat) (st : St) (rt : Nat) : Op → St
  | .enterFunc pm ext =>
    if pm < bound then
      if ext then
        -- m := make(map…); for name, idx := range e.names { m[name] = idx }; stash.names = m
        let st1 := setMap st st.next (st.maps pm)
        { push st1 rt ⟨st.next, true, true⟩ (st.stacks rt) with next := st.next + 1 }
      else push st rt ⟨pm, true, false⟩ (st.stacks rt)                  -- stash.names = e.names
    else st
  | .enterBlock pm =>
    if pm < bound then push st rt ⟨pm, false, false⟩ (st.stacks rt) else st          -- vm.stash.names = e.names
  | .copyStash =>
    match st.stacks rt with
    | s :: rest => push st rt ⟨s.map, false, s.own⟩ rest                             -- newStash.names = oldStash.names
    | [] => st
  | .leave => setStack st rt (st.stacks rt).tail
  | .bindVar n d =>
    match target (st.stacks rt) with
    | some t => setMap st t.map (createBinding (st.maps t.map) n d)
    | none => st
  | .deleteVar n =>
    match delTarget st.maps (st.stacks rt) n with
    | some id => setMap st id (deleteBinding (st.maps id) n)
    | none => st
  | .switch chain => setStack st rt (chain.filterMap (fun i => (st.pool rt)[i]?))

def run (bound : Nat) : St → List (Nat × Op) → St
  | st, [] => st
  | st, (rt, op) :: rest => run bound (step bound st rt op) rest

/-- The compiler's invariant, as far as the VM can see it: whenever bindVars creates a binding, its target stash was
entered as an extensible scope (and therefore owns a private copy). -/
def hOK (st : St) (rt : Nat) : Op → Bool
  | .bindVar _ _ => match target (st.stacks rt) with | some t => t.own | none => true
  | _ => true

def allH (bound : Nat) : St → List (Nat × Op) → Bool
  | _, [] => true
  | st, (rt, op) :: rest => hOK st rt op && allH bound (step bound st rt op) rest

/-- What Runtime `rt` can observe of its current scope chain: the contents of the maps, innermost first. -/
def view (st : St) (rt : Nat) : List (NMap × Bool) := (st.stacks rt).map (fun s => (st.maps s.map, s.isVar))

/-- … and of every stash it ever created (whatever closure, generator or pending call still holds it). -/
def poolView (st : St) (rt : Nat) : List (NMap × Bool) := (st.pool rt).map (fun s => (st.maps s.map, s.isVar))

def onlyOf (r : Nat) (ops : List (Nat × Op)) : List (Nat × Op) := ops.filter (fun x => x.1 == r)

/-! ### The compiler's side of the contract

`allH` says: the stash bindVars targets was entered `extensible`.  Where that comes from, as coded:
  (R1) when a direct call to `eval` is compiled (compiler_expr.go, compiledCallExpr.emitGetter, `calleeName == "eval"`)
       the scope chain is walked outwards and the FIRST scope with `variable || isFunction()` gets `dynamic = true`
       unless it is strict (`markEval`);
  (R2) every function-entry instruction takes `extensible` from the `dynamic` flag of the scope whose stash it creates
       and copies the names map iff `extensible` (Tie.extensible_sites, exec table guards `!($.extensible)`);
  (R3) a dynamic scope always has a stash (`hasStash`: `if s.dynamic { return true }`);
  (R4) the stash of a variable / function scope has `funcType != funcNone`, a block stash has `funcNone`.
`rtChain` is the run-time scope chain these rules give for a compile-time chain. -/

structure CScope where
  isVar : Bool      -- scope.variable || scope.isFunction()
  strict : Bool
  dyn : Bool        -- scope.dynamic
  stash : Bool      -- has a stash for another reason (needStash / dynLookup / arguments …)
  mapId : Nat       -- the names map compiled for it
  deriving DecidableEq, Repr

/-- (R1) the loop run when a direct eval call is compiled with `cs` as scope chain (innermost first):
`if !foundVar && (sc.variable || sc.isFunction()) { foundVar = true; if !sc.strict { sc.dynamic = true } }`. -/
def markEval : List CScope → List CScope
  | [] => []
  | sc :: rest =>
    if sc.isVar then (if sc.strict then sc else { sc with dyn := true }) :: rest
    else sc :: markEval rest

/-- (R2)–(R4): the stashes on the run-time chain while code of the innermost scope runs. -/
def rtChain (cs : List CScope) : List Stash :=
  cs.filterMap fun sc => if sc.dyn || sc.stash then some ⟨sc.mapId, sc.isVar, sc.isVar && sc.dyn⟩ else none

/-- the first variable scope of a chain -/
def firstVar (cs : List CScope) : Option CScope := cs.find? (·.isVar)

end GojaModel.C16.Names
