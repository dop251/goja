/-
  C16 — Tie, part 2: the compiler facts ScopeChain.lean transcribes, and who writes the fields of the types reachable from a
  Program.
-/
import GojaModel.C16.Model
import GojaModel.Generated.C16_Share
namespace GojaModel.C16.Expected2
def strictSites : List (String × String) := [("compiler.compile", "scope.strict = strict"), ("compiledFunctionLiteral.compile", "if !s.strict { s.strict = e.strict != nil }"), ("compiledClassLiteral.emitGetter", "s.strict = true")]
def evalStrictBranch : List String := ["compiledCallExpr.emitGetter: if e.c.scope.strict { if e.isVariadic { e.c.emit(callEvalVariadicStrict) } else { e.c.emit(callEvalStrict(len(e.args))) } } else { if e.isVariadic { e.c.emit(callEvalVariadic) } else { e.c.emit(callEval(len(e.args))) } }"]
def compileEvalPlumbing : List String := ["ownVarScope := eval && strict", "if len(vars) > 0 && !ownVarScope && ownLexScope"]
def body_newScope : List String := ["strict := false", "if c.scope != nil { strict = c.scope.strict }", "c.scope = &scope{ c: c, prg: c.p, outer: c.scope, strict: strict, }"]
def body_callEval_exec : List String := ["vm.callEval(int(numargs), false)"]
def body_callEvalStrict_exec : List String := ["vm.callEval(int(numargs), true)"]
def body_callEvalVariadic_exec : List String := ["vm.callEval(vm.countVariadicArgs()-2, false)"]
def body_callEvalVariadicStrict_exec : List String := ["vm.callEval(vm.countVariadicArgs()-2, true)"]
/-- Files that may assign a (uniquely named) field of a struct reachable from a Program: the compiler. -/
def compilerFiles : List String := ["compiler.go", "compiler_expr.go", "compiler_stmt.go"]

/-- … and the run-time functions that may: they write a record that is NOT the Program's —
createRegexp2 runs on the per-use clone of a pattern (Clone.lean; newRegexp.exec passes `n.pattern.clone()`), clone
initialises the fresh copy it returns, createPrivateType fills a privateEnvType it has just allocated. -/
def allowedRuntimeWriters : List (String × String) := [
  ("regexpPattern.createRegexp2", "regexpPattern.regexp2Wrapper"),
  ("regexpPattern.clone", "regexpPattern.regexpWrapper"), ("regexpPattern.clone", "regexpPattern.regexp2Wrapper"),
  ("vm.createPrivateType", "privateEnvType.numFields"), ("vm.createPrivateType", "privateEnvType.numMethods")]

end GojaModel.C16.Expected2

namespace GojaModel.C16.Tie2

/-- newScope copies `strict` from the enclosing scope; the only assignments to a scope's `strict` are the outermost
scope of a compile, the function prologue (`if !s.strict { … }`: can only raise it) and the class body (`= true`) -/
theorem scope_strict_sites :
    Generated.body_newScope = Expected2.body_newScope ∧ Generated.strictSites = Expected2.strictSites := ⟨rfl, rfl⟩

/-- a direct eval is compiled as callEvalStrict iff the current scope is strict; the strict instructions pass
strict = true to vm.callEval; compile gives a strict eval its own variable scope and emits bindVars only otherwise -/
theorem eval_strict_plumbing :
    Generated.evalStrictBranch = Expected2.evalStrictBranch ∧ Generated.compileEvalPlumbing = Expected2.compileEvalPlumbing ∧
    Generated.body_callEval_exec = Expected2.body_callEval_exec ∧ Generated.body_callEvalStrict_exec = Expected2.body_callEvalStrict_exec ∧
    Generated.body_callEvalVariadic_exec = Expected2.body_callEvalVariadic_exec ∧
    Generated.body_callEvalVariadicStrict_exec = Expected2.body_callEvalVariadicStrict_exec := ⟨rfl, rfl, rfl, rfl, rfl, rfl⟩

/-- Everything reachable from a Program through goja's own struct types (Program incl. srcMap and nested Programs, all
258 instruction structs, regexp patterns and wrappers, private-name records …): every function that assigns — directly
or through an index / dereference — a field whose name is declared by exactly one struct type is either in the compiler
or one of the audited run-time writers of a non-Program record.  (Ambiguously named fields — `names`, `cache`, `pc`, … —
are covered by Tie.names_writers_expected / rx_cache_writers_expected / prog_field_writers_are_compiler and the Program
digest.) -/
theorem reachable_field_writers :
    ∀ w ∈ Generated.reachableFieldWrites, w.file ∈ Expected2.compilerFiles ∨ (w.fn, w.field) ∈ Expected2.allowedRuntimeWriters := by
  decide +kernel

/-- the walk really covered the instruction set and found fields to pin -/
theorem reachable_types_seen : Generated.reachableTypeCount ≥ 260 ∧ Generated.reachableUniqueFields ≥ 20 := by decide

end GojaModel.C16.Tie2
