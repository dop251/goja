/-
  C16 — lemmas about Model.lean.
  Sharing machine: a schedule none of whose instruction types has an unsafe row leaves Program memory alone and runs every
  Runtime as if it were alone; the audited table and the table before fix 85b307c.
  Memo: one invariant of `stepM` per result, carried along a schedule by `runM_inv` — `VInv` (the value: every protocol
  shape, every client), `DInv` (no race: the protocol as coded, checked clients, any number of threads), `PInv` (a string
  scanned before publication: every client).
-/
import GojaModel.C16.Model
namespace GojaModel.C16

theorem writesProg_eq_false {tbl : List ExecAcc} {ty : String}
    (h : ∀ a ∈ tbl, a.noSharedWrite = false → a.ty ≠ ty) : writesProg tbl ty = false := by
  unfold writesProg
  rw [List.any_eq_false]
  intro a ha hp
  simp at hp
  exact h a ha hp.2 hp.1

theorem writesProg_false_of_readonly {tbl : List ExecAcc} (h : tableReadonly tbl = true) (ty : String) :
    writesProg tbl ty = false :=
  writesProg_eq_false fun a ha hn => nomatch hn.symm.trans (List.all_eq_true.mp h a ha)

theorem writesProg_false_of_avoid {tbl : List ExecAcc} {bad ty : String}
    (h : ∀ a ∈ tbl, a.noSharedWrite = false → a.ty = bad) (hne : ty ≠ bad) : writesProg tbl ty = false :=
  writesProg_eq_false fun a ha hn e => hne (e.symm.trans (h a ha hn))

theorem stepW_prog {tbl : List ExecAcc} {ty : String} (hw : writesProg tbl ty = false) (I : Interp) (w : World) (r : Nat) :
    (stepW tbl I w r ty).prog = w.prog := by
  simp [stepW, hw]

theorem stepW_own (tbl : List ExecAcc) (I : Interp) (w : World) (q : Nat) (ty : String) (r : Nat) :
    (stepW tbl I w q ty).own r = if r = q then I.ownNext ty w.prog (w.own q) else w.own r := rfl

theorem runW_prog_of {tbl : List ExecAcc} (I : Interp) (sched : List (Nat × String))
    (hs : ∀ x ∈ sched, writesProg tbl x.2 = false) : ∀ w : World, (runW tbl I w sched).prog = w.prog := by
  induction sched with
  | nil => intro w; rfl
  | cons x rest ih =>
    intro w
    rw [runW, ih fun y hy => hs y (List.mem_cons_of_mem _ hy), stepW_prog (hs x (List.mem_cons_self ..))]

theorem runW_isolated_of {tbl : List ExecAcc} (I : Interp) (r : Nat) (sched : List (Nat × String))
    (hs : ∀ x ∈ sched, writesProg tbl x.2 = false) :
    ∀ w w' : World, w.prog = w'.prog → w.own r = w'.own r →
      (runW tbl I w sched).own r = (runW tbl I w' (onlyOf r sched)).own r := by
  induction sched with
  | nil => intro w w' _ ho; exact ho
  | cons x rest ih =>
    intro w w' hp ho
    obtain ⟨q, ty⟩ := x
    have hty := hs (q, ty) (List.mem_cons_self ..)
    have ih := ih fun y hy => hs y (List.mem_cons_of_mem _ hy)
    by_cases hq : q = r
    · subst hq
      rw [show onlyOf q ((q, ty) :: rest) = (q, ty) :: onlyOf q rest by simp [onlyOf]]
      refine ih _ _ ?_ ?_
      · rw [stepW_prog hty, stepW_prog hty, hp]
      · rw [stepW_own, stepW_own, hp, ho]
    · rw [show onlyOf r ((q, ty) :: rest) = onlyOf r rest by simp [onlyOf, hq]]
      refine ih _ _ ?_ ?_
      · rw [stepW_prog hty, hp]
      · rw [stepW_own, if_neg (Ne.symm hq), ho]

/-! A table whose unsafe rows all belong to one instruction type (the table before fix 85b307c: `execAccPrefix_unsafe_rows`
with `template_rows_ty`) is as good as a safe one on schedules without that type. -/

theorem runW_prog_avoid {tbl : List ExecAcc} {bad : String}
    (h : ∀ a ∈ tbl, a.noSharedWrite = false → a.ty = bad) (I : Interp) (sched : List (Nat × String)) :
    (∀ x ∈ sched, x.2 ≠ bad) → ∀ w : World, (runW tbl I w sched).prog = w.prog :=
  fun hs => runW_prog_of I sched fun x hx => writesProg_false_of_avoid h (hs x hx)

theorem runW_isolated_avoid {tbl : List ExecAcc} {bad : String}
    (h : ∀ a ∈ tbl, a.noSharedWrite = false → a.ty = bad) (I : Interp) (r : Nat) (sched : List (Nat × String)) :
    (∀ x ∈ sched, x.2 ≠ bad) → ∀ w w' : World, w.prog = w'.prog → w.own r = w'.own r →
      (runW tbl I w sched).own r = (runW tbl I w' (onlyOf r sched)).own r :=
  fun hs => runW_isolated_of I r sched fun x hx => writesProg_false_of_avoid h (hs x hx)

/-! Row safety is derived from membership in `safeRows`, so that no proof has to compare every regenerated row with
every safe row. -/

theorem safeRows_no_write : ∀ a ∈ safeRows, (a.kind == "write") = false := by decide +kernel

theorem safe_of_mem_safeRows (a : ExecAcc) (h : a ∈ safeRows) : a.noSharedWrite = true := by
  unfold ExecAcc.noSharedWrite
  rw [safeRows_no_write a h]
  simp [h]

theorem tableReadonly_safeRows : tableReadonly safeRows = true := by
  unfold tableReadonly
  rw [List.all_eq_true]
  exact fun a h => safe_of_mem_safeRows a h

/-- The exec access table BEFORE fix 85b307c: the safe rows, with the two template rows still going straight into
setArrayValues (regression lemmas only). -/
def execAccPrefix : List ExecAcc :=
  safeRows.map fun a => if a.sink == "arg0 cloneTemplateValues" then { a with sink := "arg1 setArrayValues" } else a

theorem cloned_rows_map_to_template_rows :
    ∀ b ∈ safeRows, (b.sink == "arg0 cloneTemplateValues") = true →
      { b with sink := "arg1 setArrayValues" } ∈ templateSharedRows := by decide +kernel

theorem execAccPrefix_unsafe_rows : ∀ a ∈ execAccPrefix, a.noSharedWrite = false → a ∈ templateSharedRows := by
  intro a ha hn
  obtain ⟨b, hb, rfl⟩ := List.mem_map.mp ha
  cases hc : b.sink == "arg0 cloneTemplateValues"
  · simp only [hc] at hn
    exact nomatch (safe_of_mem_safeRows b hb).symm.trans hn
  · simp only [if_true]
    exact cloned_rows_map_to_template_rows b hb hc

theorem template_rows_ty : ∀ a ∈ templateSharedRows, a.ty = "getTaggedTmplObject" := by decide +kernel

theorem forall_thr_setThr {P : Nat → Thread → Prop} {s : MState} {t : Nat} {th : Thread}
    (ht : P t th) (ho : ∀ x, x ≠ t → P x (s.thr x)) : ∀ x, P x ((setThr s t th).thr x) := by
  intro x
  show P x (if x = t then th else s.thr x)
  split
  · next hx => exact hx ▸ ht
  · next hx => exact ho x hx

theorem runM_inv {c : Cfg} {sv : Nat} {P : MState → Prop} {ok : Op → Prop}
    (hstep : ∀ s t op, ok op → P s → P (stepM c sv s t op)) :
    ∀ (sched : List (Nat × Op)) (s : MState), (∀ x ∈ sched, ok x.2) → P s → P (runM c sv s sched)
  | [], _, _, h => h
  | x :: rest, s, hs, h =>
    runM_inv hstep rest _ (fun y hy => hs y (List.mem_cons_of_mem _ hy)) (hstep s x.1 x.2 (hs x (List.mem_cons_self ..)) h)

/-- Every control point but those a thread only reaches after it wrote `u`, saw the flag set or found the Once done. -/
def Early : PC → Prop
  | .f4 | .f5 | .f6 | .p2 => False
  | _ => True

def Naive (th : Thread) : Prop := th.r = false ∧ Early th.pc

structure VInv (sv : Nat) (s : MState) : Prop where
  nb : s.bad = false
  cell : s.uval = sv ∨ (s.uval = 0 ∧ s.flag = false ∧ s.onceDone = false)
  thr : ∀ t, s.uval = sv ∨ Naive (s.thr t)

theorem vinv_init (sv : Nat) : VInv sv initM := ⟨rfl, .inr ⟨rfl, rfl, rfl⟩, fun _ => .inr ⟨rfl, trivial⟩⟩

theorem VInv.written {sv s} (hb : s.bad = false) (hu : s.uval = sv) : VInv sv s := ⟨hb, .inl hu, fun _ => .inl hu⟩

theorem VInv.setThr {sv s t th} (h : VInv sv s) (hth : s.uval = sv ∨ Naive th) : VInv sv (setThr s t th) :=
  ⟨h.nb, h.cell, forall_thr_setThr (P := fun _ th => s.uval = sv ∨ Naive th) hth fun x _ => h.thr x⟩

theorem VInv.loadFlag {sv s} (h : VInv sv s) (c : Cfg) (t : Nat) {nxt : PC} (hn : Early nxt) :
    VInv sv (loadFlag c s t nxt) := by
  have hth K : VInv sv (C16.setThr s t ⟨nxt, s.flag, K⟩) := h.setThr (h.cell.imp id fun hu => ⟨hu.2.1, hn⟩)
  unfold C16.loadFlag
  split
  · exact hth _
  -- the plain read also touches `histF`, `next` and `raced`, which `VInv` does not read
  · have h' := hth (learn (s.thr t).K s.next)
    exact ⟨h'.nb, h'.cell, h'.thr⟩

theorem VInv.readU {sv s} (h : VInv sv s) (t : Nat) (chk : Bool) (hc : chk = true → s.uval = sv) :
    VInv sv (readU sv s t .idle chk) := by
  refine ⟨?_, h.cell, forall_thr_setThr (P := fun _ th => s.uval = sv ∨ Naive th)
    ((h.thr t).imp id fun hn => ⟨hn.1, trivial⟩) fun x _ => h.thr x⟩
  show (s.bad || (chk && s.uval != sv)) = false
  cases chk
  · simp [h.nb]
  · simp [h.nb, hc rfl]

theorem vinv_step (c : Cfg) (sv : Nat) (s : MState) (t : Nat) (op : Op) (h : VInv sv s) :
    VInv sv (stepM c sv s t op) := by
  have ht : s.uval = sv ∨ ((s.thr t).r = false ∧ Early (s.thr t).pc) := h.thr t
  unfold stepM
  cases hpc : (s.thr t).pc <;> simp only [hpc] at ht ⊢
  case idle => exact h.setThr (ht.imp id fun hn => ⟨hn.1, by cases op <;> trivial⟩)
  case f0 | p0 => exact h.loadFlag c t trivial
  case f1 | p1 => exact h.setThr (ht.imp id fun hn => ⟨hn.1, by rw [hn.1]; trivial⟩)
  case f2 =>
    have hf3 : VInv sv (setThr s t { s.thr t with pc := .f3 }) := h.setThr (ht.imp id fun hn => ⟨hn.1, trivial⟩)
    split
    · split
      · next hd =>
        rcases h.cell with hw | hu
        · exact h.setThr (.inl hw)
        · exact absurd hd (by simp [hu.2.2])
      · split
        · exact h
        · exact ⟨hf3.nb, hf3.cell, hf3.thr⟩
    · exact hf3
  case f3 => exact VInv.written h.nb rfl
  case f4 | f5 => split <;> exact VInv.written h.nb (ht.resolve_right (·.2))
  case f6 | p2 => exact h.readU t true fun _ => ht.resolve_right (·.2)
  case w0 => exact h.readU t false nofun

theorem vinv_run (c : Cfg) (sv : Nat) (sched : List (Nat × Op)) {s : MState} (h : VInv sv s) :
    VInv sv (runM c sv s sched) :=
  runM_inv (ok := fun _ => True) (fun s t op _ => vinv_step c sv s t op) sched s (fun _ _ => trivial) h

/-! `DInv` is an inductive invariant of `stepM onceCfg` under any schedule of forcing and peeking clients.  Shared part: the
flag and the completed Once only ever publish knowledge that covers the write of `u` (`flagSet`, `done`), and while the
Once is neither done nor running `u` is untouched (`untouched`).  Per thread (`TInv`, a table over the control point): the
scan and the two instructions after it belong to the thread running the Once — what sync.Once provides —, the scan finds
`u` untouched, and whoever holds a `true` flag in its register or stands behind a successful check happens-after the
write.  A step of thread `t` is then checked in two parts (`forall_thr_setThr`): `t` itself at its new control point, and
every other thread against the new shared state, which `TInv.frame` reduces to three facts about what changed. -/

def Knows (h : List Acc) (K : Nat → Bool) : Prop := ∀ a ∈ h, a.wr = true → K a.id = true

theorem Knows.no_conflict {h K} (hk : Knows h K) (t : Nat) : conflicts h t K false = false := by
  unfold conflicts
  rw [List.any_eq_false]
  intro a ha
  cases hw : a.wr
  · simp
  · simp [hk a ha hw]

theorem conflicts_false_of_reads (h : List Acc) (t : Nat) (K : Nat → Bool) (hr : ∀ a ∈ h, a.wr = false) :
    conflicts h t K false = false :=
  Knows.no_conflict (fun a ha hw => nomatch (hr a ha).symm.trans hw) t

theorem join_def (K K' : Nat → Bool) : join K K' = fun x => (K x || K' x) := rfl
theorem learn_def (K : Nat → Bool) (e : Nat) : learn K e = fun x => (K x || x == e) := rfl

def Seen (h : List Acc) (K : Nat → Bool) : Prop := h ≠ [] ∧ Knows h K

theorem Seen.mono {h K K'} (hs : Seen h K) (hk : ∀ x, K x = true → K' x = true) : Seen h K' :=
  ⟨hs.1, fun a ha hw => hk _ (hs.2 a ha hw)⟩

theorem Seen.join_left {h K} (hs : Seen h K) (K') : Seen h (join K K') :=
  hs.mono fun x hx => by simp [join, hx]

theorem Seen.join_right {h K'} (hs : Seen h K') (K) : Seen h (join K K') :=
  hs.mono fun x hx => by simp [join, hx]

theorem Seen.learn {h K} (hs : Seen h K) (n) : Seen h (learn K n) :=
  hs.mono fun x hx => by simp [C16.learn, hx]

theorem Seen.read {h K} (hs : Seen h K) (n t) : Seen (⟨n, t, false⟩ :: h) K := by
  refine ⟨List.cons_ne_nil _ _, fun a ha hw => ?_⟩
  rcases List.mem_cons.mp ha with rfl | ha
  · cases hw
  · exact hs.2 a ha hw

theorem Seen.first_write (K n t) : Seen [⟨n, t, true⟩] (C16.learn K n) := by
  refine ⟨List.cons_ne_nil _ _, fun a ha _ => ?_⟩
  rw [List.mem_singleton.mp ha]
  simp [C16.learn]

def TInv (run : Option Nat) (h : List Acc) (t : Nat) (th : Thread) : Prop :=
  (th.r = true → Seen h th.K) ∧
  match th.pc with
  | .f3 => run = some t ∧ h = []
  | .f4 | .f5 => run = some t ∧ Seen h th.K
  | .f6 | .p2 => Seen h th.K
  | .w0 => False
  | _ => True

theorem TInv.frame {run run' h h' x th} (hi : TInv run h x th) (hrun : run = some x → run' = some x)
    (hnil : run = some x → h = [] → h' = []) (hseen : ∀ K, Seen h K → Seen h' K) : TInv run' h' x th := by
  obtain ⟨hr, hp⟩ := hi
  refine ⟨fun e => hseen _ (hr e), ?_⟩
  revert hp
  cases th.pc <;> intro hp
  case f3 => exact ⟨hrun hp.1, hnil hp.1 hp.2⟩
  case f4 | f5 => exact ⟨hrun hp.1, hseen _ hp.2⟩
  case f6 | p2 => exact hseen _ hp
  all_goals exact hp

structure DInv (s : MState) : Prop where
  nr : s.raced = false
  flagSet : s.flag = true → Seen s.histU s.flagK
  done : s.onceDone = true → Seen s.histU s.onceK
  untouched : s.onceDone = false → s.onceRun = none → s.histU = []
  thr : ∀ t, TInv s.onceRun s.histU t (s.thr t)

theorem dinv_init : DInv initM :=
  ⟨rfl, nofun, nofun, fun _ _ => rfl, fun _ => ⟨nofun, trivial⟩⟩

theorem DInv.setThr {s t th} (h : DInv s) (hth : TInv s.onceRun s.histU t th) : DInv (setThr s t th) :=
  { h with thr := forall_thr_setThr hth fun x _ => h.thr x }

theorem DInv.readU {s t} (sv) (h : DInv s) (hk : Seen s.histU (s.thr t).K) : DInv (readU sv s t .idle true) where
  nr := by show (s.raced || conflicts s.histU t (s.thr t).K false) = false; rw [h.nr, hk.2.no_conflict]; rfl
  flagSet hf := (h.flagSet hf).read _ _
  done hd := (h.done hd).read _ _
  untouched hd hn := absurd (h.untouched hd hn) hk.1
  thr := forall_thr_setThr ⟨fun _ => (hk.read _ _).learn _, trivial⟩ fun x _ =>
    (h.thr x).frame id (fun _ e => absurd e hk.1) fun _ hs => hs.read _ _

theorem dinv_step (sv : Nat) (s : MState) (t : Nat) (op : Op) (hop : op ≠ .raw) (h : DInv s) :
    DInv (stepM onceCfg sv s t op) := by
  obtain ⟨hr, hp⟩ := h.thr t
  unfold stepM
  cases hpc : (s.thr t).pc <;> simp only [hpc, onceCfg, ↓reduceIte] at hp ⊢
  case idle =>
    refine h.setThr ⟨hr, ?_⟩
    cases op
    case raw => exact absurd rfl hop
    all_goals trivial
  case f0 | p0 => exact h.setThr ⟨fun hf => (h.flagSet hf).join_right _, trivial⟩
  case f1 | p1 =>
    refine h.setThr ⟨hr, ?_⟩
    cases hrt : (s.thr t).r
    · trivial
    · exact hr hrt
  case f2 =>  -- once.Do: not done and free (taken by `t`), not done and held (blocked), or done (acquire)
    cases hd : s.onceDone
    · cases hrun : s.onceRun
      · exact { h with
          done := fun e => nomatch hd ▸ e
          untouched := fun _ e => nomatch e
          thr := forall_thr_setThr ⟨hr, rfl, h.untouched hd hrun⟩ fun x _ =>
            (h.thr x).frame (fun e => nomatch hrun ▸ e) (fun _ e => e) fun _ e => e }
      · exact h
    · exact h.setThr ⟨fun e => (hr e).join_left _, (h.done hd).join_right _⟩
  case f3 =>  -- the scan: first access to `u`
    rw [hp.2]
    exact {
      nr := by rw [h.nr]; rfl
      flagSet := fun e => absurd hp.2 (h.flagSet e).1
      done := fun e => absurd hp.2 (h.done e).1
      untouched := fun _ e => nomatch hp.1 ▸ e
      thr := forall_thr_setThr ⟨fun e => absurd hp.2 (hr e).1, hp.1, Seen.first_write _ _ _⟩ fun x hx =>
        (h.thr x).frame id (fun e _ => absurd (Option.some.inj (hp.1 ▸ e)) (Ne.symm hx)) fun _ e => absurd hp.2 e.1 }
  case f4 =>  -- the flag store publishes what the scanning thread knows
    exact { h with flagSet := fun _ => hp.2, thr := forall_thr_setThr ⟨hr, hp⟩ fun x _ => h.thr x }
  case f5 =>  -- so does the completion of the Once
    exact { h with
      done := fun _ => hp.2
      untouched := fun e => nomatch e
      thr := forall_thr_setThr ⟨hr, hp.2⟩ fun x hx =>
        (h.thr x).frame (fun e => absurd (Option.some.inj (hp.1 ▸ e)) (Ne.symm hx)) (fun _ e => e) fun _ e => e }
  case f6 | p2 => exact h.readU sv hp

theorem dinv_run (sv : Nat) (sched : List (Nat × Op)) (hs : ∀ x ∈ sched, x.2 ≠ .raw) {s : MState} (h : DInv s) :
    DInv (runM onceCfg sv s sched) :=
  runM_inv (dinv_step sv) sched s hs h

/-- the state right after `newScannedImportedString` (runtime.go toValue, Go strings of at most 16 bytes): `u` and the flag
are set by the constructing goroutine before the value is handed to anyone (no access history yet) -/
def initScanned (sv : Nat) : MState := { initM with flag := true, uval := sv }

/-- Where a thread can be when every flag test succeeds: never inside the scan. -/
def FlagSeen (th : Thread) : Prop :=
  match th.pc with
  | .f1 | .p1 => th.r = true
  | .f2 | .f3 | .f4 | .f5 => False
  | _ => True

structure PInv (s : MState) : Prop where
  nr : s.raced = false
  fl : s.flag = true
  rd : ∀ a ∈ s.histU, a.wr = false
  pcs : ∀ t, FlagSeen (s.thr t)

theorem pinv_init (sv : Nat) : PInv (initScanned sv) := ⟨rfl, rfl, nofun, fun _ => trivial⟩

theorem PInv.setThr {s t th} (h : PInv s) (hth : FlagSeen th) : PInv (setThr s t th) :=
  { h with pcs := forall_thr_setThr hth fun x _ => h.pcs x }

theorem PInv.readU {s} (h : PInv s) (sv t : Nat) (chk : Bool) : PInv (readU sv s t .idle chk) where
  nr := by
    show (s.raced || conflicts s.histU t (s.thr t).K false) = false
    rw [h.nr, conflicts_false_of_reads _ _ _ h.rd]; rfl
  fl := h.fl
  rd a ha := (List.mem_cons.mp ha).elim (· ▸ rfl) (h.rd a)
  pcs := forall_thr_setThr trivial fun x _ => h.pcs x

theorem pinv_step (sv : Nat) (s : MState) (t : Nat) (op : Op) (h : PInv s) : PInv (stepM onceCfg sv s t op) := by
  have hp := h.pcs t
  unfold FlagSeen at hp
  unfold stepM
  cases hpc : (s.thr t).pc <;> simp only [hpc] at hp ⊢
  case idle => exact h.setThr (by cases op <;> trivial)
  case f0 | p0 => exact h.setThr h.fl
  case f1 | p1 => rw [hp]; exact h.setThr trivial
  case f6 | p2 => exact h.readU sv t true
  case w0 => exact h.readU sv t false  -- an unchecked reader only adds a read

theorem pinv_run (sv : Nat) (sched : List (Nat × Op)) : PInv (runM onceCfg sv (initScanned sv) sched) :=
  runM_inv (ok := fun _ => True) (fun s t op _ => pinv_step sv s t op) sched _ (fun _ _ => trivial) (pinv_init sv)

/-- The schedule of `memo_unsync_prefix_witness`: thread 0 forces the scan to completion, then thread 1 tests the flag. -/
def raceSched : List (Nat × Op) :=
  [(0, .force), (0, .force), (0, .force), (0, .force), (0, .force), (0, .force), (1, .force), (1, .force)]

end GojaModel.C16
