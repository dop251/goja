/-
  C16 — how the compiler builds the scope chain, as far as strictness and dynamic var creation are concerned.

  compiler.go:371 newScope copies `strict` from the enclosing scope; the only later assignments to a scope's `strict`
  are   compiler_expr.go compiledFunctionLiteral.compile   `if !s.strict { s.strict = e.strict != nil }`   (function
  prologue, on the scope just created),   compiledClassLiteral.emitGetter   `s.strict = true`   (class body), and
  compiler.compile   `scope.strict = strict`   on the outermost scope (no enclosing scope).  All three act on the scope
  that has just been pushed, before any scope is created inside it.  (Tie2.scope_strict_sites pins these texts.)

  A direct eval call is compiled as callEvalStrict iff the CURRENT scope is strict (compiledCallExpr.emitGetter
  `if e.c.scope.strict`); callEvalStrict.exec passes strict=true to vm.callEval → Runtime.eval → compiler.compile, where
  `ownVarScope := eval && strict` and bindVars is emitted only under `!ownVarScope` (Tie2.eval_strict_plumbing).  So an
  eval declares variables in the caller's scope chain only if the scope it is called in is NOT strict.
-/
import GojaModel.C16.Names
namespace GojaModel.C16.Scopes
open GojaModel.C16.Names

inductive COp
  | newScope (isVar stash : Bool) (mapId : Nat)   -- c.newScope() / newBlockScope(): `strict` copied from the enclosing scope
  | popScope
  | directive (b : Bool)                          -- function prologue: `if !s.strict { s.strict = b }`
  | classBody                                     -- `s.strict = true`
  | evalCall                                      -- a direct call to eval is compiled here (markEval)
  deriving Repr

/-- Of the innermost scope, the one code is being compiled in: a scope pushed next copies it, whence the name. -/
def enclosingStrict (cs : List CScope) : Bool :=
  match cs with
  | [] => false
  | sc :: _ => sc.strict

def cstep (cs : List CScope) : COp → List CScope
  | .newScope v st m => ⟨v, enclosingStrict cs, false, st, m⟩ :: cs
  | .popScope => cs.tail
  | .directive b =>
    match cs with
    | [] => []
    | sc :: r => (if sc.strict then sc else { sc with strict := b }) :: r
  | .classBody =>
    match cs with
    | [] => []
    | sc :: r => { sc with strict := true } :: r
  | .evalCall => markEval cs

def crun : List CScope → List COp → List CScope
  | cs, [] => cs
  | cs, op :: rest => crun (cstep cs op) rest

def Mono : List CScope → Prop
  | [] => True
  | [_] => True
  | a :: b :: r => (b.strict = true → a.strict = true) ∧ Mono (b :: r)

end GojaModel.C16.Scopes
