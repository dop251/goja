/-
  C04 — essential invariants of the mapped `arguments` object over ARBITRARY histories, at MECHANISM level
  (object_args.go: slot list of `*mappedProperty` / ordinary slots + the parameter environment).  Here: the
  invariants of the ordinary property list the object stands for; they are carried over to the mechanism by the
  object-level refinement (Props.lean, `mappedArguments_hist_…`).
-/
import GojaModel.C04.Args
import GojaModel.C04.Hist
namespace GojaModel.C04

theorem specStep_objStep {V} [DecidableEq V] (undef : V) (ext : Bool) (l : List (Key × SProp V)) (op : AOp V) :
    ObjStep undef op.wf ⟨none, ext, l⟩ ⟨none, ext, specStep undef ext l op⟩ := by
  cases op with
  | define k d =>
    simp only [specStep]
    cases hv : validateAndApply undef (lookup l k) d ext with
    | none => exact .same
    | some q => exact .put k d q id hv
  | setOwn k v =>
    simp only [specStep]
    split
    · next v0 e c hl =>
      exact .put k (descValue v) _ (fun _ => descValue_wf v) (by rw [hl]; exact validateAndApply_descValue ..)
    · exact .same
  | delete k =>
    cases hq : lookup l k with
    | none => simp only [specStep, hq]; exact .same
    | some q =>
      cases hc : q.configurable with
      | true => simp only [specStep, hq, hc, if_true]; exact .erase k q hq hc
      | false => simp only [specStep, hq, hc, Bool.false_eq_true, if_false]; exact .same

theorem specRun_frozen {V} [DecidableEq V] (undef : V) (ext : Bool) (ops : List (AOp V)) (hw : ∀ op ∈ ops, op.wf = true)
    (l : List (Key × SProp V)) : Frozen l (ops.foldl (specStep undef ext) l) :=
  foldl_rel Frozen.refl Frozen.trans ops (fun l' op hm => (hw op hm ▸ specStep_objStep undef ext l' op).frozen) l

theorem specRun_nonExt {V} [DecidableEq V] (undef : V) (ext : Bool) (ops : List (AOp V)) (l : List (Key × SProp V)) :
    NonExt ⟨none, ext, l⟩ ⟨none, ext, ops.foldl (specStep undef ext) l⟩ :=
  foldl_rel (R := fun l l' : List (Key × SProp V) => NonExt ⟨none, ext, l⟩ ⟨none, ext, l'⟩)
    (fun _ => NonExt.refl _) NonExt.trans ops (fun l' op _ => (specStep_objStep undef ext l' op).nonExt) l

end GojaModel.C04
