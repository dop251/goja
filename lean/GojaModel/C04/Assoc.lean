/-
  C04 — association lists keyed by `Key` (`lookup` / `put` / `eraseKey` of Model.lean): the facts every layer
  that stores properties in such a list uses; with them two facts about index keys and duplicate-free lists that the
  users of this module share, and, last, ordinary define / delete on a slot list (`ordDefine`, `ordDelete`), which the
  templated and the lazy-`prototype` layer both refine to.
-/
import GojaModel.C04.Model
namespace GojaModel.C04

def keysOf {α} (l : List (Key × α)) : List Key := l.map (·.1)

theorem Key.eq_idx {k : Key} (h : k.isIdx = true) : k = .idx k.idxVal := by
  cases k <;> first | rfl | cases h

theorem idx_inj {a b : Key} (ha : a.isIdx = true) (hb : b.isIdx = true) (h : a.idxVal = b.idxVal) : a = b := by
  rw [Key.eq_idx ha, Key.eq_idx hb, h]

variable {α β : Type _}

theorem nodup_snoc {l : List α} {x : α} (h : l.Nodup) (hx : x ∉ l) : (l ++ [x]).Nodup :=
  List.nodup_append.mpr ⟨h, by simp, fun _ ha _ hb e => hx (List.mem_singleton.mp hb ▸ e ▸ ha)⟩

theorem lookup_put_same (l : List (Key × α)) (k : Key) (a : α) : lookup (put l k a) k = some a := by
  fun_induction put l k a <;> simp_all [lookup]

theorem lookup_put_other (l : List (Key × α)) (k k' : Key) (a : α) (hne : k' ≠ k) :
    lookup (put l k a) k' = lookup l k' := by
  fun_induction put l k a <;> simp_all [lookup, Ne.symm hne]

theorem lookup_erase_other (l : List (Key × α)) (k k' : Key) (hne : k' ≠ k) :
    lookup (eraseKey l k) k' = lookup l k' := by
  fun_induction eraseKey l k <;> simp_all [lookup, Ne.symm hne]

theorem lookup_map (f : α → β) (l : List (Key × α)) (k : Key) :
    lookup (l.map (fun kp => (kp.1, f kp.2))) k = (lookup l k).map f := by
  fun_induction lookup l k <;> simp_all [lookup]

theorem lookup_append (a b : List (Key × α)) (k : Key) :
    lookup (a ++ b) k = match lookup a k with | some p => some p | none => lookup b k := by
  fun_induction lookup a k <;> simp_all [lookup]

theorem lookup_erase_isSome (l : List (Key × α)) (k k' : Key) :
    (lookup (eraseKey l k) k').isSome = true → (lookup l k').isSome = true := by
  fun_induction eraseKey l k
  · exact id
  · simp only [lookup]; split <;> simp
  · next ih => simp only [lookup]; split; exact id; exact ih

theorem lookup_erase_same_none (l : List (Key × α)) (k k' : Key) (h : lookup l k' = none) :
    lookup (eraseKey l k) k' = none := by
  have := lookup_erase_isSome l k k'
  rw [h] at this
  exact Option.not_isSome_iff_eq_none.mp fun e => nomatch this e

theorem lookup_put_isSome (l : List (Key × α)) (k k' : Key) (a : α) (hk : (lookup l k).isSome = true) :
    (lookup (put l k a) k').isSome = true → (lookup l k').isSome = true := by
  by_cases h : k' = k
  · subst h; intro _; exact hk
  · rw [lookup_put_other _ _ _ _ h]; exact id

theorem lookup_filterMap (g : Key → Option α) (ks : List Key) (k : Key) :
    lookup (ks.filterMap (fun k => (g k).map (fun p => (k, p)))) k = if k ∈ ks then g k else none := by
  induction ks with
  | nil => rfl
  | cons k0 ks ih =>
    by_cases h : k0 = k
    · subst h; cases hl : g k0 <;> simp [hl, ih, lookup]
    · cases hl : g k0 <;> simp [hl, ih, lookup, h, Ne.symm h]

theorem mem_of_lookup (l : List (Key × α)) (k : Key) (a : α) (h : lookup l k = some a) : (k, a) ∈ l := by
  fun_induction lookup l k <;> simp_all

theorem lookup_of_mem_nodup (l : List (Key × α)) (k : Key) (p : α) (hn : (keysOf l).Nodup) (hm : (k, p) ∈ l) :
    lookup l k = some p := by
  fun_induction lookup l k with
  | case1 => cases hm
  | case2 k a rest =>
    rcases List.mem_cons.mp hm with e | e
    · cases e; rfl
    · exact absurd (List.mem_map.mpr ⟨_, e, rfl⟩) (List.nodup_cons.mp hn).1
  | case3 k' a rest k hne ih =>
    rcases List.mem_cons.mp hm with e | e
    · cases e; exact absurd rfl hne
    · exact ih (List.nodup_cons.mp hn).2 e

theorem mem_put (l : List (Key × α)) (k : Key) (a : α) (x : Key × α) (h : x ∈ put l k a) : x = (k, a) ∨ x ∈ l := by
  fun_induction put l k a
  · simpa using h
  · exact (List.mem_cons.mp h).imp_right (List.mem_cons_of_mem _)
  · next ih =>
    rcases List.mem_cons.mp h with h | h
    · exact Or.inr (h ▸ List.mem_cons_self)
    · exact (ih h).imp_right (List.mem_cons_of_mem _)

theorem mem_eraseKey (l : List (Key × α)) (k : Key) (x : Key × α) (h : x ∈ eraseKey l k) : x ∈ l := by
  fun_induction eraseKey l k
  · exact h
  · exact List.mem_cons_of_mem _ h
  · next ih => exact (List.mem_cons.mp h).elim (· ▸ List.mem_cons_self) fun h => List.mem_cons_of_mem _ (ih h)

theorem put_same (l : List (Key × α)) (k : Key) (a : α) (h : lookup l k = some a) : put l k a = l := by
  fun_induction put l k a <;> simp_all [lookup]

theorem put_append_right (a b : List (Key × α)) (k : Key) (x : α) (h : lookup a k = none) :
    put (a ++ b) k x = a ++ put b k x := by
  fun_induction lookup a k <;> simp_all [put]

theorem put_absent (l : List (Key × α)) (k : Key) (a : α) (h : lookup l k = none) : put l k a = l ++ [(k, a)] := by
  simpa [put] using put_append_right l [] k a h

theorem put_append_left (a b : List (Key × α)) (k : Key) (x : α) (h : (lookup a k).isSome = true) :
    put (a ++ b) k x = put a k x ++ b := by
  fun_induction lookup a k <;> simp_all [put]

theorem erase_append_right (a b : List (Key × α)) (k : Key) (h : lookup a k = none) :
    eraseKey (a ++ b) k = a ++ eraseKey b k := by
  fun_induction lookup a k <;> simp_all [eraseKey]

theorem map_put (f : α → β) (l : List (Key × α)) (k : Key) (a : α) :
    (put l k a).map (fun kp => (kp.1, f kp.2)) = put (l.map (fun kp => (kp.1, f kp.2))) k (f a) := by
  fun_induction put l k a <;> simp_all [put]

theorem map_eraseKey (f : α → β) (l : List (Key × α)) (k : Key) :
    (eraseKey l k).map (fun kp => (kp.1, f kp.2)) = eraseKey (l.map (fun kp => (kp.1, f kp.2))) k := by
  fun_induction eraseKey l k <;> simp_all [eraseKey]

theorem mem_keys_iff (l : List (Key × α)) (k : Key) : k ∈ keysOf l ↔ (lookup l k).isSome = true := by
  fun_induction lookup l k
  · simp [keysOf]
  · simp [keysOf]
  · next hne ih => simp_all [keysOf, Ne.symm hne]

theorem keys_put (l : List (Key × α)) (k : Key) (a : α) :
    keysOf (put l k a) = if k ∈ keysOf l then keysOf l else keysOf l ++ [k] := by
  fun_induction put l k a
  · rfl
  · simp [keysOf]
  · next hne ih =>
    simp only [keysOf, List.map_cons, List.mem_cons, Ne.symm hne, false_or] at ih ⊢
    rw [ih]; split <;> simp [*]

theorem keys_put_has (l : List (Key × α)) (k : Key) (a : α) (h : (lookup l k).isSome = true) :
    keysOf (put l k a) = keysOf l := by
  rw [keys_put]; simp [(mem_keys_iff l k).mpr h]

theorem keys_erase (l : List (Key × α)) (k : Key) : keysOf (eraseKey l k) = (keysOf l).erase k := by
  fun_induction eraseKey l k <;> simp_all [keysOf]

theorem keys_map (f : α → β) (l : List (Key × α)) : keysOf (l.map (fun kp => (kp.1, f kp.2))) = keysOf l := by
  simp [keysOf, List.map_map, Function.comp_def]

theorem nodup_put (l : List (Key × α)) (k : Key) (a : α) (h : (keysOf l).Nodup) : (keysOf (put l k a)).Nodup := by
  rw [keys_put]
  split
  · exact h
  · next hk => exact nodup_snoc h hk

theorem put_map (l : List (Key × α)) (k : Key) (a : α) (hn : (keysOf l).Nodup) (hk : (lookup l k).isSome = true) :
    put l k a = l.map (fun kp => if kp.1 = k then (k, a) else kp) := by
  fun_induction put l k a with
  | case1 => cases hk
  | case2 a' rest k a =>
    have : ∀ kp ∈ rest, kp.1 ≠ k := fun kp hkp e => (List.nodup_cons.mp hn).1 (e ▸ List.mem_map.mpr ⟨kp, hkp, rfl⟩)
    simp only [List.map_cons, if_true]
    rw [List.map_congr_left (g := id) fun kp hkp => by simp [this kp hkp], List.map_id]
  | case3 k' a' rest k a hne ih =>
    simp only [List.map_cons, hne, if_false]
    rw [ih (List.nodup_cons.mp hn).2 (by simpa [lookup, hne] using hk)]

theorem keys_filterMap (g : Key → Option α) (ks : List Key) :
    keysOf (ks.filterMap (fun k => (g k).map (fun p => (k, p)))) = ks.filter (fun k => (g k).isSome) := by
  induction ks with
  | nil => rfl
  | cons k ks ih => cases h : g k <;> simp_all [keysOf]

theorem assoc_ext {l l' : List (Key × α)} (hn : (keysOf l).Nodup) (hk : keysOf l = keysOf l')
    (hl : ∀ k, lookup l k = lookup l' k) : l = l' := by
  induction l generalizing l' with
  | nil => cases l' with
    | nil => rfl
    | cons x xs => cases hk
  | cons x xs ih =>
    cases l' with
    | nil => cases hk
    | cons y ys =>
      obtain ⟨k, a⟩ := x
      obtain ⟨k', a'⟩ := y
      simp only [keysOf, List.map_cons, List.cons.injEq] at hk
      obtain ⟨rfl, hk⟩ := hk
      have ha := hl k
      simp only [lookup, if_true, Option.some.injEq] at ha
      subst ha
      have hn' := List.nodup_cons.mp hn
      congr 1
      refine ih hn'.2 hk fun j => ?_
      have := hl j
      simp only [lookup] at this
      by_cases hj : k = j
      · subst hj
        have h1 : lookup xs k = none := Option.not_isSome_iff_eq_none.mp fun h => hn'.1 ((mem_keys_iff xs k).mpr h)
        have h2 : lookup ys k = none := Option.not_isSome_iff_eq_none.mp fun h => hn'.1 (hk ▸ (mem_keys_iff ys k).mpr h)
        rw [h1, h2]
      · simpa [hj] using this

theorem lookup_erase_self (l : List (Key × α)) (k : Key) (hn : (keysOf l).Nodup) : lookup (eraseKey l k) k = none :=
  Option.not_isSome_iff_eq_none.mp fun hs => by
    have := (mem_keys_iff _ _).mpr hs
    rw [keys_erase] at this
    exact (hn.mem_erase_iff.mp this).1 rfl

variable {V : Type}

def ordDefine [DecidableEq V] (undef : V) (l : List (Key × Stored V)) (k : Key) (d : Desc V) (ext : Bool) : List (Key × Stored V) :=
  match defineOwn undef (lookup l k) d ext with
  | some v => put l k v
  | none => l

def ordDelete (l : List (Key × Stored V)) (k : Key) : List (Key × Stored V) :=
  match lookup l k with
  | none => l
  | some v => if checkDelete v then eraseKey l k else l

end GojaModel.C04
