/-
  C04 — histories of [[DefineOwnProperty]] / [[Delete]] on a String exotic object and on the ordinary object it is
  materialised as; one step of the one is one step of the other (`str_step_refines`).
-/
import GojaModel.C04.Exotic
namespace GojaModel.C04

variable {V : Type}

inductive StrOp (V : Type) where
  | define (k : Key) (d : Desc V)
  | delete (k : Key)

def StrOp.wf : StrOp V → Bool
  | .define _ d => d.wellFormed
  | .delete _ => true

def strStep [DecidableEq V] (undef : V) (chars : List V) (base : Obj V) : StrOp V → Obj V
  | .define k d => (strDefine undef base chars k d).1
  | .delete k => (strDelete base chars k).1

/-- OrdinaryDefineOwnProperty / OrdinaryDelete on an ordinary object -/
def ordObjStep [DecidableEq V] (undef : V) (o : Obj V) : StrOp V → Obj V
  | .define k d =>
    (match validateAndApply undef (lookup o.props k) d o.ext with
     | some p => { o with props := put o.props k p }
     | none => o)
  | .delete k =>
    (match lookup o.props k with
     | none => o
     | some p => if p.configurable then { o with props := eraseKey o.props k } else o)

theorem str_step_refines [DecidableEq V] (undef : V) (chars : List V) (base : Obj V) (hb : NoCharIdx base chars)
    (op : StrOp V) (hw : op.wf = true) :
    strMat (strStep undef chars base op) chars = ordObjStep undef (strMat base chars) op
    ∧ NoCharIdx (strStep undef chars base op) chars := by
  cases op with
  | define k d =>
    obtain ⟨h1, h2⟩ := strDefine_refines undef base chars hb k d hw
    refine ⟨(congrArg Prod.fst h1).symm.trans ?_, h2⟩
    simp only [ordObjStep]
    cases validateAndApply undef (lookup (strMat base chars).props k) d (strMat base chars).ext <;> rfl
  | delete k =>
    obtain ⟨h1, h2⟩ := strDelete_refines base chars hb k
    refine ⟨(congrArg Prod.fst h1).symm.trans ?_, h2⟩
    simp only [ordObjStep]
    cases lookup (strMat base chars).props k with
    | none => rfl
    | some p => cases hc : p.configurable <;> simp [hc]

end GojaModel.C04
