/-
  C04 supporting tie — KeyKindCopies: the branch structure of the triplicated [[Set]]/[[DefineOwnProperty]]/[[Delete]]
  families of /repo/object.go (regenerated on every run by extract/c04.go into GojaModel.Generated.C04, Str/Idx/Sym
  suffixes erased, key parameter renamed KEY, error messages dropped) against the hand-written expectation of the
  LEGITIMATE differences between the copies:
    * `_defineOwnProperty`                     — the exact statement list the Lean transcription was written from;
    * `Object.setStr/setIdx/setSym`            — identical text;
    * `_setForeignStr/_setForeignIdx`          — identical text; `setForeignSym` = symValues lookup prelude ++ the same text;
    * `setOwnSym`, `defineOwnPropertySym`, `deleteSym` — symValues storage instead of values/propNames (Expected below);
    * `getStr/getIdx/getSym` (+ `getWithOwnProp`), `hasPropertyStr/Idx/Sym`, `checkDelete` — the text `Model.lean` transcribes;
    * the Idx copies of setOwn/define/delete delegate to the Str copy with `idx.string()`; `setForeignIdx` has the
      `idxPropCount == 0` fast path.
  Further down (labelled there), the other texts the transcriptions were made from, one theorem per function: the
  copy-on-write functions of `propNames` (`cow_`, 9), the key-type dispatchers of `Object` (`disp_`, 6), the methods of
  `templatedObject` (`tmpl_`, 11), `argumentsObject` (`args_`, 4), `stringObject` (`str_`, 10), `typedArrayObject`
  (`ta_`, 15) and `funcObject` (`fn_`, 10).
  A failing theorem names the copy that drifted.  The obligation proper is `setStr_eq_setIdx_eq_setSym` on the three
  Lean transcriptions plus the key-kind-rotating correspondence.
-/
import GojaModel.Generated.C04_KeyKindCopies
namespace GojaModel.C04.Tie
open GojaModel.Generated.C04

namespace Expected
def setOwnIdx : List String := [
  "return o.val.self.setOwn(KEY.string(), val, throw)"
]

def setOwnSym : List String := [
  "var ownDesc Value",
  "if o.symValues != nil",
  "ownDesc = o.symValues.get(KEY)",
  "end",
  "if ownDesc == nil",
  "proto := o.prototype",
  "if proto != nil",
  "res, handled := proto.self.setForeign(KEY, val, o.val, throw)",
  "if handled",
  "return res",
  "end",
  "end",
  "if !o.extensible",
  "typeErrorResult(throw)",
  "return false",
  "else",
  "if o.symValues == nil",
  "o.symValues = newOrderedMap(nil)",
  "end",
  "o.symValues.set(KEY, val)",
  "end",
  "return true",
  "end",
  "prop, ok := ownDesc.(*valueProperty)",
  "if ok",
  "if !prop.isWritable()",
  "typeErrorResult(throw)",
  "return false",
  "else",
  "prop.set(o.val, val)",
  "end",
  "else",
  "o.symValues.set(KEY, val)",
  "end",
  "return true"
]

def setForeignOuterStr : List String := [
  "return o._setForeign(KEY, o.values[KEY], val, receiver, throw)"
]

def setForeignOuterIdx : List String := [
  "idx := to(KEY)",
  "if idx != math.MaxUint32",
  "o.ensurePropOrder()",
  "if o.idxPropCount == 0",
  "return o._setForeign(KEY, nil, val, receiver, throw)",
  "end",
  "end",
  "return o.setForeign(KEY.string(), val, receiver, throw)"
]

def defineOwnStr : List String := [
  "existingVal := o.values[KEY]",
  "v, ok := o._defineOwnProperty(KEY, existingVal, descr, throw)",
  "if ok",
  "o.values[KEY] = v",
  "if existingVal == nil",
  "names := copyNamesIfNeeded(o.propNames, 1)",
  "o.propNames = append(names, KEY)",
  "end",
  "return true",
  "end",
  "return false"
]

def defineOwnIdx : List String := [
  "return o.val.self.defineOwnProperty(KEY.string(), desc, throw)"
]

def defineOwnSym : List String := [
  "var existingVal Value",
  "if o.symValues != nil",
  "existingVal = o.symValues.get(KEY)",
  "end",
  "v, ok := o._defineOwnProperty(KEY.descriptiveString().string(), existingVal, descr, throw)",
  "if ok",
  "if o.symValues == nil",
  "o.symValues = newOrderedMap(nil)",
  "end",
  "o.symValues.set(KEY, v)",
  "return true",
  "end",
  "return false"
]

def deleteOwnStr : List String := [
  "val, exists := o.values[KEY]",
  "if exists",
  "if !o.checkDelete(KEY, val, throw)",
  "return false",
  "end",
  "o._delete(KEY)",
  "end",
  "return true"
]

def deleteOwnIdx : List String := [
  "return o.val.self.delete(KEY.string(), throw)"
]

def deleteOwnSym : List String := [
  "if o.symValues != nil",
  "val := o.symValues.get(KEY)",
  "if val != nil",
  "if !o.checkDelete(KEY.descriptiveString().string(), val, throw)",
  "return false",
  "end",
  "o.symValues.remove(KEY)",
  "end",
  "end",
  "return true"
]

/-- `_defineOwnProperty` (object.go:650) statement by statement — the text that ModelDefine.lean `rejects`/`applyDesc`
transcribe.  A change of any condition, assignment or goto (e.g. a revert of d72dab1) breaks `defineOwnProperty_expected`. -/
def defineOwnProperty : List String := [
  "getterObj, _ := descr.Getter.(*Object)",
  "setterObj, _ := descr.Setter.(*Object)",
  "var existing *valueProperty",
  "if existingValue == nil",
  "if !o.extensible",
  "typeErrorResult(throw)",
  "return nil, false",
  "end",
  "existing = &valueProperty{}",
  "else",
  "existing, ok = existingValue.(*valueProperty)",
  "if !ok",
  "existing = &valueProperty{ writable: true, enumerable: true, configurable: true, value: existingValue, }",
  "end",
  "if !existing.configurable",
  "if descr.Configurable == FLAG_TRUE",
  "goto Reject",
  "end",
  "if descr.Enumerable != FLAG_NOT_SET && descr.Enumerable.Bool() != existing.enumerable",
  "goto Reject",
  "end",
  "end",
  "if existing.accessor && descr.IsData() || !existing.accessor && descr.IsAccessor()",
  "if !existing.configurable",
  "goto Reject",
  "end",
  "else",
  "if !existing.accessor",
  "if !existing.configurable",
  "if !existing.writable",
  "if descr.Writable == FLAG_TRUE",
  "goto Reject",
  "end",
  "if descr.Value != nil && !descr.Value.SameAs(existing.value)",
  "goto Reject",
  "end",
  "end",
  "end",
  "else",
  "if !existing.configurable",
  "if descr.Getter != nil && existing.getterFunc != getterObj || descr.Setter != nil && existing.setterFunc != setterObj",
  "goto Reject",
  "end",
  "end",
  "end",
  "end",
  "end",
  "if descr.Writable == FLAG_TRUE && descr.Enumerable == FLAG_TRUE && descr.Configurable == FLAG_TRUE && descr.Value != nil",
  "return descr.Value, true",
  "end",
  "if descr.Writable != FLAG_NOT_SET",
  "existing.writable = descr.Writable.Bool()",
  "end",
  "if descr.Enumerable != FLAG_NOT_SET",
  "existing.enumerable = descr.Enumerable.Bool()",
  "end",
  "if descr.Configurable != FLAG_NOT_SET",
  "existing.configurable = descr.Configurable.Bool()",
  "end",
  "if descr.Value != nil",
  "existing.value = descr.Value",
  "existing.getterFunc = nil",
  "existing.setterFunc = nil",
  "end",
  "if descr.Value != nil || descr.Writable != FLAG_NOT_SET",
  "if existing.accessor",
  "existing.getterFunc = nil",
  "existing.setterFunc = nil",
  "if descr.Writable == FLAG_NOT_SET",
  "existing.writable = false",
  "end",
  "end",
  "existing.accessor = false",
  "end",
  "if (descr.Getter != nil || descr.Setter != nil) && !existing.accessor",
  "existing.writable = false",
  "end",
  "if descr.Getter != nil",
  "existing.getterFunc = propGetter(o.val, descr.Getter, o.val.runtime)",
  "existing.value = nil",
  "existing.accessor = true",
  "end",
  "if descr.Setter != nil",
  "existing.setterFunc = propSetter(o.val, descr.Setter, o.val.runtime)",
  "existing.value = nil",
  "existing.accessor = true",
  "end",
  "if !existing.accessor && existing.value == nil",
  "existing.value = _undefined",
  "end",
  "return existing, true",
  "label Reject",
  "typeErrorResult(throw)",
  "return nil, false"
]

def getPropStr : List String := [
  "prop := o.values[KEY]",
  "if prop == nil",
  "if o.prototype != nil",
  "if receiver == nil",
  "return o.prototype.self.get(KEY, o.val)",
  "end",
  "return o.prototype.self.get(KEY, receiver)",
  "end",
  "end",
  "prop, ok := prop.(*valueProperty)",
  "if ok",
  "if receiver == nil",
  "return prop.get(o.val)",
  "end",
  "return prop.get(receiver)",
  "end",
  "return prop"
]

def getPropIdx : List String := [
  "return o.val.self.get(KEY.string(), receiver)"
]

def getPropSym : List String := [
  "return o.getWithOwnProp(o.getOwnProp(KEY), KEY, receiver)"
]

def hasPropertyStr : List String := [
  "if o.val.self.hasOwnProperty(KEY)",
  "return true",
  "end",
  "if o.prototype != nil",
  "return o.prototype.self.hasProperty(KEY)",
  "end",
  "return false"
]

def hasPropertyIdx : List String := [
  "return o.val.self.hasProperty(KEY.string())"
]

def hasPropertySym : List String := [
  "if o.hasOwnProperty(KEY)",
  "return true",
  "end",
  "if o.prototype != nil",
  "return o.prototype.self.hasProperty(KEY)",
  "end",
  "return false"
]

def getWithOwnPropStr : List String := [
  "if KEY == nil && o.prototype != nil",
  "if receiver == nil",
  "return o.prototype.get(p, o.val)",
  "end",
  "return o.prototype.get(p, receiver)",
  "end",
  "KEY, ok := KEY.(*valueProperty)",
  "if ok",
  "if receiver == nil",
  "return KEY.get(o.val)",
  "end",
  "return KEY.get(receiver)",
  "end",
  "return KEY"
]

def checkDeleteStr : List String := [
  "val, ok := val.(*valueProperty)",
  "if ok",
  "return o.checkDeleteProp(KEY, val, throw)",
  "end",
  "return true"
]

/-! the copy-on-write functions of propNames (Cow.lean), the key-type dispatchers of `Object` (Entry.lean, suffixes NOT erased),
the lazily-templated built-ins (Templ.lean), the mapped arguments object (Args.lean) -/
def cow_delete : List String := [
  "delete(o.values, KEY)",
  "for range o.propNames",
  "if n == KEY",
  "names := o.propNames",
  "if namesMarkedForCopy(names)",
  "newNames := make([]unistring.String, len(names)-1, shrinkCap(len(names), cap(names)))",
  "copy(newNames, names[:i])",
  "copy(newNames[i:], names[i+1:])",
  "o.propNames = newNames",
  "else",
  "copy(names[i:], names[i+1:])",
  "names[len(names)-1] = \"\"",
  "o.propNames = names[:len(names)-1]",
  "end",
  "if i < o.lastSortedPropLen",
  "o.lastSortedPropLen--",
  "if i < o.idxPropCount",
  "o.idxPropCount--",
  "end",
  "end",
  "break",
  "end",
  "end"
]

def cow_fixPropOrder : List String := [
  "names := o.propNames",
  "i := o.lastSortedPropLen",
  "for i < len(names)",
  "name := names[i]",
  "idx := strToArray(name)",
  "if idx != math.MaxUint32",
  "k := sort.Search(o.idxPropCount, func(j int) bool { return strToArray(names[j]) >= idx })",
  "if k < i",
  "if namesMarkedForCopy(names)",
  "newNames := make([]unistring.String, len(names), cap(names))",
  "copy(newNames[:k], names)",
  "copy(newNames[k+1:i+1], names[k:i])",
  "copy(newNames[i+1:], names[i+1:])",
  "names = newNames",
  "o.propNames = names",
  "else",
  "copy(names[k+1:i+1], names[k:i])",
  "end",
  "names[k] = name",
  "end",
  "o.idxPropCount++",
  "end",
  "i++",
  "end",
  "o.lastSortedPropLen = len(names)"
]

def cow_ensurePropOrder : List String := [
  "if o.lastSortedPropLen < len(o.propNames)",
  "o.fixPropOrder()",
  "end"
]

def cow_prepareNamesForCopy : List String := [
  "if len(KEY) == 0",
  "return KEY",
  "end",
  "if namesMarkedForCopy(KEY) || cap(KEY) == len(KEY)",
  "var newcap int",
  "if cap(KEY) == len(KEY)",
  "newcap = growCap(len(KEY)+1, len(KEY), cap(KEY))",
  "else",
  "newcap = cap(KEY)",
  "end",
  "newNames := make([]unistring.String, len(KEY), newcap)",
  "copy(newNames, KEY)",
  "KEY = newNames",
  "end",
  "KEY[cap(KEY)-1 : cap(KEY)][0] = copyMarker",
  "return KEY"
]

def cow_namesMarkedForCopy : List String := [
  "return cap(KEY) > len(KEY) && KEY[cap(KEY)-1 : cap(KEY)][0] == copyMarker"
]

def cow_clearNamesCopyMarker : List String := [
  "if cap(KEY) > len(KEY)",
  "KEY[cap(KEY)-1 : cap(KEY)][0] = \"\"",
  "end"
]

def cow_copyNamesIfNeeded : List String := [
  "if namesMarkedForCopy(KEY) && len(KEY)+extraCap >= cap(KEY)",
  "var newcap int",
  "newsize := len(KEY) + extraCap + 1",
  "if newsize > cap(KEY)",
  "newcap = growCap(newsize, len(KEY), cap(KEY))",
  "else",
  "newcap = cap(KEY)",
  "end",
  "newNames := make([]unistring.String, len(KEY), newcap)",
  "copy(newNames, KEY)",
  "return newNames",
  "end",
  "return KEY"
]

def cow_iterateStringKeys : List String := [
  "o.ensurePropOrder()",
  "propNames := prepareNamesForCopy(o.propNames)",
  "o.propNames = propNames",
  "return (&objectPropIter{ o: o, propNames: propNames, }).next"
]

def cow_objectPropIter_next : List String := [
  "for i.idx < len(i.propNames)",
  "name := i.propNames[i.idx]",
  "i.idx++",
  "prop := i.o.values[name]",
  "if prop != nil",
  "return propIterItem{name: stringValueFromRaw(name), value: prop}, i.next",
  "end",
  "end",
  "clearNamesCopyMarker(i.propNames)",
  "return propIterItem{}, nil"
]

def disp_get : List String := [
  "typeswitch KEY := KEY.(type)",
  "case valueInt",
  "return o.self.getIdx(KEY, receiver)",
  "case *Symbol",
  "return o.self.getSym(KEY, receiver)",
  "default",
  "return o.self.getStr(KEY.string(), receiver)",
  "end"
]

def disp_set : List String := [
  "typeswitch KEY := KEY.(type)",
  "case valueInt",
  "return o.setIdx(KEY, val, receiver, throw)",
  "case *Symbol",
  "return o.setSym(KEY, val, receiver, throw)",
  "default",
  "return o.setStr(KEY.string(), val, receiver, throw)",
  "end"
]

def disp_setOwn : List String := [
  "typeswitch KEY := KEY.(type)",
  "case valueInt",
  "return o.self.setOwnIdx(KEY, val, throw)",
  "case *Symbol",
  "return o.self.setOwnSym(KEY, val, throw)",
  "default",
  "return o.self.setOwnStr(KEY.string(), val, throw)",
  "end"
]

def disp_delete : List String := [
  "typeswitch KEY := KEY.(type)",
  "case valueInt",
  "return o.self.deleteIdx(KEY, throw)",
  "case *Symbol",
  "return o.self.deleteSym(KEY, throw)",
  "default",
  "return o.self.deleteStr(KEY.string(), throw)",
  "end"
]

def disp_hasProperty : List String := [
  "typeswitch KEY := KEY.(type)",
  "case valueInt",
  "return o.self.hasPropertyIdx(KEY)",
  "case *Symbol",
  "return o.self.hasPropertySym(KEY)",
  "default",
  "return o.self.hasPropertyStr(KEY.string())",
  "end"
]

def disp_defineOwnProperty : List String := [
  "typeswitch KEY := KEY.(type)",
  "case valueInt",
  "return o.self.defineOwnPropertyIdx(KEY, desc, throw)",
  "case *Symbol",
  "return o.self.defineOwnPropertySym(KEY, desc, throw)",
  "default",
  "return o.self.defineOwnPropertyStr(KEY.string(), desc, throw)",
  "end"
]

def tmpl_getOwnPropStr : List String := [
  "v, exists := o.values[KEY]",
  "if exists",
  "return v",
  "end",
  "f := o.tmpl.props[KEY]",
  "if f != nil",
  "v := f(o.val.runtime)",
  "o.values[KEY] = v",
  "return v",
  "end",
  "return nil"
]

def tmpl_getOwnPropSym : List String := [
  "if o.symValues == nil && o.tmpl.symProps[KEY] == nil",
  "return nil",
  "end",
  "o.materialiseSymbols()",
  "return o.baseObject.getOwnProp(KEY)"
]

def tmpl_materialiseSymbols : List String := [
  "if o.symValues == nil",
  "o.symValues = newOrderedMap(nil)",
  "for range o.tmpl.symPropNames",
  "o.symValues.set(p, o.tmpl.symProps[p](o.val.runtime))",
  "end",
  "end"
]

def tmpl_materialisePropNames : List String := [
  "if o.propNames == nil",
  "o.propNames = append(([]unistring.String)(nil), o.tmpl.propNames...)",
  "end"
]

def tmpl_defineOwnPropertyStr : List String := [
  "existingVal := o.getOwnProp(KEY)",
  "v, ok := o._defineOwnProperty(KEY, existingVal, descr, throw)",
  "if ok",
  "o.values[KEY] = v",
  "if existingVal == nil",
  "o.materialisePropNames()",
  "names := copyNamesIfNeeded(o.propNames, 1)",
  "o.propNames = append(names, KEY)",
  "end",
  "return true",
  "end",
  "return false"
]

def tmpl_defineOwnPropertySym : List String := [
  "o.materialiseSymbols()",
  "return o.baseObject.defineOwnProperty(KEY, descr, throw)"
]

def tmpl_deleteStr : List String := [
  "val := o.getOwnProp(KEY)",
  "if val != nil",
  "if !o.checkDelete(KEY, val, throw)",
  "return false",
  "end",
  "o.materialisePropNames()",
  "o._delete(KEY)",
  "_, exists := o.tmpl.props[KEY]",
  "if exists",
  "o.values[KEY] = nil",
  "end",
  "end",
  "return true"
]

def tmpl_deleteSym : List String := [
  "o.materialiseSymbols()",
  "return o.baseObject.delete(KEY, throw)"
]

def tmpl_setOwnSym : List String := [
  "o.materialiseSymbols()",
  "o.materialiseProto()",
  "return o.baseObject.setOwn(KEY, val, throw)"
]

def tmpl_hasOwnPropertyStr : List String := [
  "v, exists := o.values[KEY]",
  "if exists",
  "return v != nil",
  "end",
  "_, exists := o.tmpl.props[KEY]",
  "return exists"
]

def tmpl_hasOwnPropertySym : List String := [
  "if o.symValues != nil",
  "return o.symValues.has(KEY)",
  "end",
  "_, exists := o.tmpl.symProps[KEY]",
  "return exists"
]

def args_getOwnPropStr : List String := [
  "mapped, ok := a.values[KEY].(*mappedProperty)",
  "if ok",
  "if mapped.writable && mapped.enumerable && mapped.configurable",
  "return *mapped.v",
  "end",
  "return &valueProperty{ value: *mapped.v, writable: mapped.writable, configurable: mapped.configurable, enumerable: mapped.enumerable, }",
  "end",
  "return a.baseObject.getOwnProp(KEY)"
]

def args_setOwnStr : List String := [
  "prop, ok := a.values[KEY].(*mappedProperty)",
  "if ok",
  "if !prop.writable",
  "typeErrorResult(throw)",
  "return false",
  "end",
  "*prop.v = val",
  "return true",
  "end",
  "return a.baseObject.setOwn(KEY, val, throw)"
]

def args_deleteStr : List String := [
  "prop, ok := a.values[KEY].(*mappedProperty)",
  "if ok",
  "if !a.checkDeleteProp(KEY, &prop.valueProperty, throw)",
  "return false",
  "end",
  "a._delete(KEY)",
  "return true",
  "end",
  "return a.baseObject.delete(KEY, throw)"
]

def args_defineOwnPropertyStr : List String := [
  "mapped, ok := a.values[KEY].(*mappedProperty)",
  "if ok",
  "existing := &valueProperty{ configurable: mapped.configurable, writable: true, enumerable: mapped.enumerable, value: *mapped.v, }",
  "val, ok := a.baseObject._defineOwnProperty(KEY, existing, descr, throw)",
  "if !ok",
  "return false",
  "end",
  "prop, ok := val.(*valueProperty)",
  "if ok",
  "if !prop.accessor",
  "*mapped.v = prop.value",
  "end",
  "if prop.accessor || !prop.writable",
  "a._put(KEY, prop)",
  "return true",
  "end",
  "mapped.configurable = prop.configurable",
  "mapped.enumerable = prop.enumerable",
  "else",
  "*mapped.v = val",
  "mapped.configurable = true",
  "mapped.enumerable = true",
  "end",
  "return true",
  "end",
  "return a.baseObject.defineOwnProperty(KEY, descr, throw)"
]

/-! String exotic object (string.go), integer-indexed exotic objects (typedarrays.go), lazy function prototype (func.go) -/
def str_getOwnPropStr : List String := [
  "i := strToGo(KEY)",
  "if i >= 0 && i < s.length",
  "val := s._get(i)",
  "return &valueProperty{ value: val, enumerable: true, }",
  "end",
  "return s.baseObject.getOwnProp(KEY)"
]

def str_getOwnPropIdx : List String := [
  "i := int64(KEY)",
  "if i >= 0 && i < int64(s.length)",
  "val := s._get(int(i))",
  "return &valueProperty{ value: val, enumerable: true, }",
  "end",
  "return s.baseObject.getOwnProp(KEY.string())"
]

def str_setOwnStr : List String := [
  "i := strToGo(KEY)",
  "if i >= 0 && i < s.length",
  "typeErrorResult(throw)",
  "return false",
  "end",
  "return s.baseObject.setOwn(KEY, val, throw)"
]

def str_setOwnIdx : List String := [
  "i := int64(KEY)",
  "if i >= 0 && i < int64(s.length)",
  "typeErrorResult(throw)",
  "return false",
  "end",
  "return s.baseObject.setOwn(KEY.string(), val, throw)"
]

def str_defineOwnPropertyStr : List String := [
  "i := strToGo(KEY)",
  "if i >= 0 && i < s.length",
  "_, ok := s._defineOwnProperty(KEY, &valueProperty{value: s._get(i), enumerable: true}, descr, throw)",
  "return ok",
  "end",
  "return s.baseObject.defineOwnProperty(KEY, descr, throw)"
]

def str_defineOwnPropertyIdx : List String := [
  "return s.defineOwnProperty(KEY.string(), descr, throw)"
]

def str_deleteStr : List String := [
  "i := strToGo(KEY)",
  "if i >= 0 && i < s.length",
  "typeErrorResult(throw)",
  "return false",
  "end",
  "return s.baseObject.delete(KEY, throw)"
]

def str_deleteIdx : List String := [
  "i := int64(KEY)",
  "if i >= 0 && i < int64(s.length)",
  "typeErrorResult(throw)",
  "return false",
  "end",
  "return s.baseObject.delete(KEY.string(), throw)"
]

def str_hasOwnPropertyStr : List String := [
  "i := strToGo(KEY)",
  "if i >= 0 && i < s.length",
  "return true",
  "end",
  "return s.baseObject.hasOwnProperty(KEY)"
]

def str_hasOwnPropertyIdx : List String := [
  "i := int64(KEY)",
  "if i >= 0 && i < int64(s.length)",
  "return true",
  "end",
  "return s.baseObject.hasOwnProperty(KEY.string())"
]

def ta_getOwnPropStr : List String := [
  "idx, ok := strToIntNum(KEY)",
  "if ok",
  "v := a._get(idx)",
  "if v != nil",
  "return &valueProperty{ value: v, writable: true, enumerable: true, configurable: true, }",
  "end",
  "return nil",
  "end",
  "if idx == 0",
  "return nil",
  "end",
  "return a.baseObject.getOwnProp(KEY)"
]

def ta_getOwnPropIdx : List String := [
  "v := a._get(toIntClamp(int64(KEY)))",
  "if v != nil",
  "return &valueProperty{ value: v, writable: true, enumerable: true, configurable: true, }",
  "end",
  "return nil"
]

def ta_getStr : List String := [
  "idx, ok := strToIntNum(KEY)",
  "if ok",
  "return a._get(idx)",
  "end",
  "if idx == 0",
  "return nil",
  "end",
  "return a.baseObject.get(KEY, receiver)"
]

def ta_getIdx : List String := [
  "return a._get(toIntClamp(int64(KEY)))"
]

def ta_setOwnStr : List String := [
  "idx, ok := strToIntNum(KEY)",
  "if ok",
  "a._put(idx, v)",
  "return true",
  "end",
  "if idx == 0",
  "toNumeric(v)",
  "return true",
  "end",
  "return a.baseObject.setOwn(KEY, v, throw)"
]

def ta_setOwnIdx : List String := [
  "a._put(toIntClamp(int64(KEY)), v)",
  "return true"
]

def ta_setForeignStr : List String := [
  "idx, ok := strToIntNum(KEY)",
  "if ok",
  "if !a.isValidIntegerIndex(idx)",
  "return true, true",
  "end",
  "else",
  "if idx == 0",
  "return true, true",
  "end",
  "end",
  "return a._setForeign(KEY, a.getOwnProp(KEY), v, receiver, throw)"
]

def ta_setForeignIdx : List String := [
  "if !a.isValidIntegerIndex(toIntClamp(int64(KEY)))",
  "return true, true",
  "end",
  "return a._setForeign(KEY, trueValIfPresent(a.hasOwnProperty(KEY)), v, receiver, throw)"
]

def ta_hasOwnPropertyStr : List String := [
  "idx, ok := strToIntNum(KEY)",
  "if ok",
  "return a._has(idx)",
  "end",
  "if idx == 0",
  "return false",
  "end",
  "return a.baseObject.hasOwnProperty(KEY)"
]

def ta_hasOwnPropertyIdx : List String := [
  "return a._has(toIntClamp(int64(KEY)))"
]

def ta_hasPropertyStr : List String := [
  "idx, ok := strToIntNum(KEY)",
  "if ok",
  "return a._has(idx)",
  "end",
  "if idx == 0",
  "return false",
  "end",
  "return a.baseObject.hasProperty(KEY)"
]

def ta_hasPropertyIdx : List String := [
  "return a.hasOwnProperty(KEY)"
]

def ta_defineIdxProperty : List String := [
  "if desc.Configurable == FLAG_FALSE || desc.Enumerable == FLAG_FALSE || desc.IsAccessor() || desc.Writable == FLAG_FALSE",
  "typeErrorResult(throw)",
  "return false",
  "end",
  "_, ok := a._defineOwnProperty(unistring.String(strconv.Itoa(KEY)), a.getOwnProp(valueInt(KEY)), desc, throw)",
  "if ok",
  "if !a.isValidIntegerIndex(KEY)",
  "typeErrorResult(throw)",
  "return false",
  "end",
  "if desc.Value != nil",
  "a._put(KEY, desc.Value)",
  "end",
  "return true",
  "end",
  "return ok"
]

def ta_defineOwnPropertyStr : List String := [
  "idx, ok := strToIntNum(KEY)",
  "if ok",
  "return a._defineIdxProperty(idx, desc, throw)",
  "end",
  "if idx == 0",
  "a.viewedArrayBuf.ensureNotDetached(throw)",
  "typeErrorResult(throw)",
  "return false",
  "end",
  "return a.baseObject.defineOwnProperty(KEY, desc, throw)"
]

def ta_defineOwnPropertyIdx : List String := [
  "return a._defineIdxProperty(toIntClamp(int64(KEY)), desc, throw)"
]

def fn_addProto : List String := [
  "if KEY == \"prototype\"",
  "_, exists := f.values[KEY]",
  "if !exists",
  "return f.addPrototype()",
  "end",
  "end",
  "return nil"
]

def fn_addProtoBeforeNewKey : List String := [
  "_, exists := f.values[\"prototype\"]",
  "if !exists",
  "_, exists := f.values[KEY]",
  "if !exists",
  "f.addPrototype()",
  "end",
  "end"
]

def fn_addPrototype : List String := [
  "proto := f.val.runtime.NewObject()",
  "proto.self._putProp(\"constructor\", f.val, true, false, true)",
  "return f._putProp(\"prototype\", proto, true, false, false)"
]

def fn_getOwnPropStr : List String := [
  "v := f._addProto(KEY)",
  "if v != nil",
  "return v",
  "end",
  "return f.baseObject.getOwnProp(KEY)"
]

def fn_setOwnStr : List String := [
  "f._addProtoBeforeNewKey(KEY)",
  "return f.baseObject.setOwn(KEY, val, throw)"
]

def fn_defineOwnPropertyStr : List String := [
  "f._addProtoBeforeNewKey(KEY)",
  "return f.baseObject.defineOwnProperty(KEY, descr, throw)"
]

def fn_deleteStr : List String := [
  "f._addProto(KEY)",
  "return f.baseObject.delete(KEY, throw)"
]

def fn_hasOwnPropertyStr : List String := [
  "if f.baseObject.hasOwnProperty(KEY)",
  "return true",
  "end",
  "if KEY == \"prototype\"",
  "return true",
  "end",
  "return false"
]

def fn_stringKeys : List String := [
  "if KEY",
  "_, exists := f.values[\"prototype\"]",
  "if !exists",
  "f.addPrototype()",
  "end",
  "end",
  "return f.baseFuncObject.stringKeys(KEY, accum)"
]

def fn_iterateStringKeys : List String := [
  "_, exists := f.values[\"prototype\"]",
  "if !exists",
  "f.addPrototype()",
  "end",
  "return f.baseFuncObject.iterateStringKeys()"
]

def symLookupPrelude : List String := [
  "var prop Value",
  "if o.symValues != nil",
  "prop = o.symValues.get(KEY)",
  "end"
]
end Expected

theorem defineOwnProperty_expected : defineOwnProperty = Expected.defineOwnProperty := by rfl
theorem objectSet_Idx_eq_Str : objectSetIdx = objectSetStr := by rfl
theorem objectSet_Sym_eq_Str : objectSetSym = objectSetStr := by rfl
theorem setForeignInner_Idx_eq_Str : setForeignInnerIdx = setForeignInnerStr := by rfl
theorem setForeignInner_Sym_eq_prelude_Str : setForeignInnerSym = Expected.symLookupPrelude ++ setForeignInnerStr := by rfl
theorem setForeignOuter_Str_expected : setForeignOuterStr = Expected.setForeignOuterStr := by rfl
theorem setForeignOuter_Idx_expected : setForeignOuterIdx = Expected.setForeignOuterIdx := by rfl
theorem setOwn_Idx_expected : setOwnIdx = Expected.setOwnIdx := by rfl
theorem setOwn_Sym_expected : setOwnSym = Expected.setOwnSym := by rfl
theorem defineOwn_Str_expected : defineOwnStr = Expected.defineOwnStr := by rfl
theorem defineOwn_Idx_expected : defineOwnIdx = Expected.defineOwnIdx := by rfl
theorem defineOwn_Sym_expected : defineOwnSym = Expected.defineOwnSym := by rfl
theorem deleteOwn_Str_expected : deleteOwnStr = Expected.deleteOwnStr := by rfl
theorem deleteOwn_Idx_expected : deleteOwnIdx = Expected.deleteOwnIdx := by rfl
theorem deleteOwn_Sym_expected : deleteOwnSym = Expected.deleteOwnSym := by rfl
theorem getPropStr_expected : getPropStr = Expected.getPropStr := by rfl
theorem getPropIdx_expected : getPropIdx = Expected.getPropIdx := by rfl
theorem getPropSym_expected : getPropSym = Expected.getPropSym := by rfl
theorem hasPropertyStr_expected : hasPropertyStr = Expected.hasPropertyStr := by rfl
theorem hasPropertyIdx_expected : hasPropertyIdx = Expected.hasPropertyIdx := by rfl
theorem hasPropertySym_expected : hasPropertySym = Expected.hasPropertySym := by rfl
theorem getWithOwnPropStr_expected : getWithOwnPropStr = Expected.getWithOwnPropStr := by rfl
theorem checkDeleteStr_expected : checkDeleteStr = Expected.checkDeleteStr := by rfl
theorem cow_delete_expected : cow_delete = Expected.cow_delete := by rfl
theorem cow_fixPropOrder_expected : cow_fixPropOrder = Expected.cow_fixPropOrder := by rfl
theorem cow_ensurePropOrder_expected : cow_ensurePropOrder = Expected.cow_ensurePropOrder := by rfl
theorem cow_prepareNamesForCopy_expected : cow_prepareNamesForCopy = Expected.cow_prepareNamesForCopy := by rfl
theorem cow_namesMarkedForCopy_expected : cow_namesMarkedForCopy = Expected.cow_namesMarkedForCopy := by rfl
theorem cow_clearNamesCopyMarker_expected : cow_clearNamesCopyMarker = Expected.cow_clearNamesCopyMarker := by rfl
theorem cow_copyNamesIfNeeded_expected : cow_copyNamesIfNeeded = Expected.cow_copyNamesIfNeeded := by rfl
theorem cow_iterateStringKeys_expected : cow_iterateStringKeys = Expected.cow_iterateStringKeys := by rfl
theorem cow_objectPropIter_next_expected : cow_objectPropIter_next = Expected.cow_objectPropIter_next := by rfl
theorem disp_get_expected : disp_get = Expected.disp_get := by rfl
theorem disp_set_expected : disp_set = Expected.disp_set := by rfl
theorem disp_setOwn_expected : disp_setOwn = Expected.disp_setOwn := by rfl
theorem disp_delete_expected : disp_delete = Expected.disp_delete := by rfl
theorem disp_hasProperty_expected : disp_hasProperty = Expected.disp_hasProperty := by rfl
theorem disp_defineOwnProperty_expected : disp_defineOwnProperty = Expected.disp_defineOwnProperty := by rfl
theorem tmpl_getOwnPropStr_expected : tmpl_getOwnPropStr = Expected.tmpl_getOwnPropStr := by rfl
theorem tmpl_getOwnPropSym_expected : tmpl_getOwnPropSym = Expected.tmpl_getOwnPropSym := by rfl
theorem tmpl_materialiseSymbols_expected : tmpl_materialiseSymbols = Expected.tmpl_materialiseSymbols := by rfl
theorem tmpl_materialisePropNames_expected : tmpl_materialisePropNames = Expected.tmpl_materialisePropNames := by rfl
theorem tmpl_defineOwnPropertyStr_expected : tmpl_defineOwnPropertyStr = Expected.tmpl_defineOwnPropertyStr := by rfl
theorem tmpl_defineOwnPropertySym_expected : tmpl_defineOwnPropertySym = Expected.tmpl_defineOwnPropertySym := by rfl
theorem tmpl_deleteStr_expected : tmpl_deleteStr = Expected.tmpl_deleteStr := by rfl
theorem tmpl_deleteSym_expected : tmpl_deleteSym = Expected.tmpl_deleteSym := by rfl
theorem tmpl_setOwnSym_expected : tmpl_setOwnSym = Expected.tmpl_setOwnSym := by rfl
theorem tmpl_hasOwnPropertyStr_expected : tmpl_hasOwnPropertyStr = Expected.tmpl_hasOwnPropertyStr := by rfl
theorem tmpl_hasOwnPropertySym_expected : tmpl_hasOwnPropertySym = Expected.tmpl_hasOwnPropertySym := by rfl
theorem args_getOwnPropStr_expected : args_getOwnPropStr = Expected.args_getOwnPropStr := by rfl
theorem args_setOwnStr_expected : args_setOwnStr = Expected.args_setOwnStr := by rfl
theorem args_deleteStr_expected : args_deleteStr = Expected.args_deleteStr := by rfl
theorem args_defineOwnPropertyStr_expected : args_defineOwnPropertyStr = Expected.args_defineOwnPropertyStr := by rfl
theorem str_getOwnPropStr_expected : str_getOwnPropStr = Expected.str_getOwnPropStr := by rfl
theorem str_getOwnPropIdx_expected : str_getOwnPropIdx = Expected.str_getOwnPropIdx := by rfl
theorem str_setOwnStr_expected : str_setOwnStr = Expected.str_setOwnStr := by rfl
theorem str_setOwnIdx_expected : str_setOwnIdx = Expected.str_setOwnIdx := by rfl
theorem str_defineOwnPropertyStr_expected : str_defineOwnPropertyStr = Expected.str_defineOwnPropertyStr := by rfl
theorem str_defineOwnPropertyIdx_expected : str_defineOwnPropertyIdx = Expected.str_defineOwnPropertyIdx := by rfl
theorem str_deleteStr_expected : str_deleteStr = Expected.str_deleteStr := by rfl
theorem str_deleteIdx_expected : str_deleteIdx = Expected.str_deleteIdx := by rfl
theorem str_hasOwnPropertyStr_expected : str_hasOwnPropertyStr = Expected.str_hasOwnPropertyStr := by rfl
theorem str_hasOwnPropertyIdx_expected : str_hasOwnPropertyIdx = Expected.str_hasOwnPropertyIdx := by rfl
theorem ta_getOwnPropStr_expected : ta_getOwnPropStr = Expected.ta_getOwnPropStr := by rfl
theorem ta_getOwnPropIdx_expected : ta_getOwnPropIdx = Expected.ta_getOwnPropIdx := by rfl
theorem ta_getStr_expected : ta_getStr = Expected.ta_getStr := by rfl
theorem ta_getIdx_expected : ta_getIdx = Expected.ta_getIdx := by rfl
theorem ta_setOwnStr_expected : ta_setOwnStr = Expected.ta_setOwnStr := by rfl
theorem ta_setOwnIdx_expected : ta_setOwnIdx = Expected.ta_setOwnIdx := by rfl
theorem ta_setForeignStr_expected : ta_setForeignStr = Expected.ta_setForeignStr := by rfl
theorem ta_setForeignIdx_expected : ta_setForeignIdx = Expected.ta_setForeignIdx := by rfl
theorem ta_hasOwnPropertyStr_expected : ta_hasOwnPropertyStr = Expected.ta_hasOwnPropertyStr := by rfl
theorem ta_hasOwnPropertyIdx_expected : ta_hasOwnPropertyIdx = Expected.ta_hasOwnPropertyIdx := by rfl
theorem ta_hasPropertyStr_expected : ta_hasPropertyStr = Expected.ta_hasPropertyStr := by rfl
theorem ta_hasPropertyIdx_expected : ta_hasPropertyIdx = Expected.ta_hasPropertyIdx := by rfl
theorem ta_defineIdxProperty_expected : ta_defineIdxProperty = Expected.ta_defineIdxProperty := by rfl
theorem ta_defineOwnPropertyStr_expected : ta_defineOwnPropertyStr = Expected.ta_defineOwnPropertyStr := by rfl
theorem ta_defineOwnPropertyIdx_expected : ta_defineOwnPropertyIdx = Expected.ta_defineOwnPropertyIdx := by rfl
theorem fn_addProto_expected : fn_addProto = Expected.fn_addProto := by rfl
theorem fn_addProtoBeforeNewKey_expected : fn_addProtoBeforeNewKey = Expected.fn_addProtoBeforeNewKey := by rfl
theorem fn_addPrototype_expected : fn_addPrototype = Expected.fn_addPrototype := by rfl
theorem fn_getOwnPropStr_expected : fn_getOwnPropStr = Expected.fn_getOwnPropStr := by rfl
theorem fn_setOwnStr_expected : fn_setOwnStr = Expected.fn_setOwnStr := by rfl
theorem fn_defineOwnPropertyStr_expected : fn_defineOwnPropertyStr = Expected.fn_defineOwnPropertyStr := by rfl
theorem fn_deleteStr_expected : fn_deleteStr = Expected.fn_deleteStr := by rfl
theorem fn_hasOwnPropertyStr_expected : fn_hasOwnPropertyStr = Expected.fn_hasOwnPropertyStr := by rfl
theorem fn_stringKeys_expected : fn_stringKeys = Expected.fn_stringKeys := by rfl
theorem fn_iterateStringKeys_expected : fn_iterateStringKeys = Expected.fn_iterateStringKeys := by rfl

end GojaModel.C04.Tie
