/-
  C04 — property theorems that rest on C07's array model (kept in their own module: if lean/GojaModel/C07 changes, only
  these obligations are affected).
-/
import GojaModel.C04.ArrayInv
namespace GojaModel.C04
open GojaModel.C07


/-- Essential invariant for the ECMA-262 Array exotic object (C07's `SpecArray`): a non-configurable index property below
`length` is still there, non-configurable and below `length`, after ANY history of element writes, element defines,
deletes, `length` assignments, defineProperty on `length` (incl. truncations), freeze and preventExtensions. -/
theorem array_nonconfigurable_index_survives_spec (ops : List C07.Op) (a : C07.SpecArray) (i : Nat)
    (h : NonConfAt a i) (hi : i < a.length) :
    NonConfAt (a.run ops).1 i ∧ i < (a.run ops).1.length :=
  SpecArray.isRun.inv (Pinned · i) (fun _ => True) (fun a op h _ => pinned_step a op i h) ops a ⟨h, hi⟩ (fun _ _ => trivial)

/-- … and therefore for goja's array mechanism (dense `arrayObject` and `sparseArrayObject`, with every storage switch and
the real thresholds), by C07's refinement theorem `history_refines`: whatever sequence of operations — this is the clause
the seeded change C04-m1 broke. -/
theorem array_nonconfigurable_index_survives_mechanism (ops : List C07.Op) (s : C07.Store) (hg : s.Good)
    (hv : ∀ op ∈ ops, op.Valid) (i : Nat) (h : NonConfAt s.abs i) (hi : i < s.abs.length) :
    NonConfAt (s.run ops).1.abs i ∧ i < (s.run ops).1.abs.length := by
  have href := (C07.history_refines ops s hg hv).1
  have e : (s.run ops).1.abs = (s.abs.run ops).1 := congrArg Prod.fst href
  rw [e]
  exact array_nonconfigurable_index_survives_spec ops s.abs i h hi

end GojaModel.C04
