/-
  C04 — exotic delta: integer-indexed exotic objects (typed arrays, ECMA-262 10.4.5; typedarrays.go:753-956) on top of the
  ordinary-object heap.  Core Lean only (the driver runs these definitions for the `u8` kind).
  An object `o` with `typed o = some elems` answers every canonical-numeric key (`Key.idx n` — the only numeric keys of the
  correspondence) from its element list and never from its ordinary part or its prototype chain.
-/
import GojaModel.C04.Model
namespace GojaModel.C04

structure XHeap (V : Type) where
  h : Heap V
  typed : Nat → Option (List V)

inductive SetOut (V : Type) where
  | fail
  | ok
  | call (f : V) (this : Recv) (arg : V)
  deriving Repr

variable {V : Type}

/-- [[GetOwnProperty]] 10.4.5.1 -/
def xGetOwn (xh : XHeap V) (o : Nat) (k : Key) : Option (SProp V) :=
  match xh.typed o, k with
  | some els, .idx n => (els[n]?).map (fun v => SProp.data v true true true)
  | _, _ => lookup (xh.h o).props k

def setElem (xh : XHeap V) (o : Nat) (els : List V) (n : Nat) (v : V) : XHeap V :=
  { xh with typed := fun i => if i = o then some (els.set n v) else xh.typed i }

/-- [[DefineOwnProperty]] 10.4.5.3; `coerce` = ToNumber + the element type's conversion (TypedArraySetElement) -/
def xDefine [DecidableEq V] (undef : V) (coerce : V → V) (xh : XHeap V) (o : Nat) (k : Key) (d : Desc V) : XHeap V × Bool :=
  match xh.typed o, k with
  | some els, .idx n =>
    if !(decide (n < els.length)) then (xh, false)                       -- 3.b.i  not a valid integer index
    else if d.configurable == .fFalse then (xh, false)                   -- ii
    else if d.enumerable == .fFalse then (xh, false)                     -- iii
    else if d.isAccessor then (xh, false)                                -- iv
    else if d.writable == .fFalse then (xh, false)                       -- v
    else match d.value with                                              -- vi
      | some v => (setElem xh o els n (coerce v), true)
      | none => (xh, true)
  | _, _ =>
    let r := sDefine undef xh.h o k d
    ({ xh with h := r.1 }, r.2)

/-- [[HasProperty]] 10.4.5.2 along a chain -/
def xHas (xh : XHeap V) : List Nat → Key → Bool
  | [], _ => false
  | o :: rest, k =>
    match xh.typed o, k with
    | some els, .idx n => decide (n < els.length)                        -- no prototype walk for a numeric key
    | _, _ => (lookup (xh.h o).props k).isSome || xHas xh rest k

/-- [[Get]] 10.4.5.4 along a chain -/
def xGet (undef : V) (xh : XHeap V) : List Nat → Key → Recv → GetRes V
  | [], _, _ => .val undef
  | o :: rest, k, r =>
    match xh.typed o, k with
    | some els, .idx n => .val ((els[n]?).getD undef)                    -- TypedArrayGetElement; undefined when out of range
    | _, _ =>
      match lookup (xh.h o).props k with
      | none => xGet undef xh rest k r
      | some (.data v _ _ _) => .val v
      | some (.acc g _ _ _) => (match g with
        | none => .val undef
        | some f => .call f r)

/-- steps 2.b-2.e of OrdinarySetWithOwnDescriptor with the receiver's own (possibly exotic) methods -/
def xSetData [DecidableEq V] (undef : V) (coerce : V → V) (xh : XHeap V) (k : Key) (v : V) (r : Recv) : XHeap V × SetOut V :=
  match r with
  | .prim => (xh, .fail)
  | .obj ro =>
    match xGetOwn xh ro k with
    | some (.acc ..) => (xh, .fail)
    | some (.data _ w _ _) =>
      if !w then (xh, .fail)
      else let x := xDefine undef coerce xh ro k (descValue v); (x.1, if x.2 then .ok else .fail)
    | none => let x := xDefine undef coerce xh ro k (descFull v); (x.1, if x.2 then .ok else .fail)

/-- [[Set]] 10.4.5.5 / OrdinarySet along a chain -/
def xSet [DecidableEq V] (undef : V) (coerce : V → V) (xh : XHeap V) : List Nat → Key → V → Recv → XHeap V × SetOut V
  | [], k, v, r => xSetData undef coerce xh k v r
  | o :: rest, k, v, r =>
    match xh.typed o, k with
    | some els, .idx n =>
      if r == .obj o then                                                -- 1.b.i  SameValue(O, Receiver)
        ((if n < els.length then setElem xh o els n (coerce v) else xh), .ok)
      else if !(decide (n < els.length)) then (xh, .ok)                  -- 1.b.ii not a valid index: true, nothing happens
      else xSetData undef coerce xh k v r                                -- OrdinarySet with the element as writable data ownDesc
    | _, _ =>
      match lookup (xh.h o).props k with
      | none => xSet undef coerce xh rest k v r
      | some (.data _ w _ _) => if !w then (xh, .fail) else xSetData undef coerce xh k v r
      | some (.acc _ s _ _) => (match s with
        | none => (xh, .fail)
        | some f => (xh, .call f r v))

/-- [[Delete]] 10.4.5.6 -/
def xDelete (xh : XHeap V) (o : Nat) (k : Key) : XHeap V × Bool :=
  match xh.typed o, k with
  | some els, .idx n => (xh, !(decide (n < els.length)))
  | _, _ => let r := sDelete xh.h o k; ({ xh with h := r.1 }, r.2)

/-- [[OwnPropertyKeys]] 10.4.5.7 -/
def xOwnKeys (xh : XHeap V) (o : Nat) : List Key :=
  match xh.typed o with
  | some els => (List.range els.length).map Key.idx ++ (ownKeys (xh.h o).props).filter (fun k => !k.isIdx)
  | none => ownKeys (xh.h o).props

/-- Object.freeze / Object.seal: [[PreventExtensions]], then DefinePropertyOrThrow per key — the first element of a non-empty
typed array rejects `{configurable:false}`, so the call throws after making the object non-extensible -/
def xSetIntegrity (xh : XHeap V) (o : Nat) (frozen : Bool) : XHeap V × Bool :=
  match xh.typed o with
  | some els =>
    if els.length = 0 then ({ xh with h := sSetIntegrity xh.h o frozen }, true)
    else ({ xh with h := sPreventExt xh.h o }, false)
  | none => ({ xh with h := sSetIntegrity xh.h o frozen }, true)

def xTestIntegrity (xh : XHeap V) (o : Nat) (frozen : Bool) : Bool :=
  match xh.typed o with
  | some els => els.length == 0 && sTestIntegrity (xh.h o) frozen
  | none => sTestIntegrity (xh.h o) frozen

end GojaModel.C04
