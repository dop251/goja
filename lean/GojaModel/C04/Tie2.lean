/-
  C04 supporting tie — regenerated statement skeletons of
    * `typedArrayObject.deleteStr/deleteIdx` (typedarrays.go, after 4b86f46: the error message is built only when `throw`),
    * `argumentsObject.stringKeys/iterateStringKeys`, `argumentsPropIter.next` (object_args.go, after 52d9686: a mapped slot
      with non-default flags is shown to the key enumeration as a property, not as a bare value),
    * every own-property method of the Go map wrapper `objectGoMapSimple` (object_gomap.go) and
      `Runtime.checkHostObjectPropertyDescr` — the text `GoMap.lean` transcribes,
  against the hand-written expectation.  A failing theorem names the function that drifted.
-/
import GojaModel.Generated.C04_KeyKindCopies
namespace GojaModel.C04.Tie2
open GojaModel.Generated.C04

namespace Expected
def ta_deleteStr : List String := [
  "idx, ok := strToIntNum(KEY)",
  "if ok",
  "if a.isValidIntegerIndex(idx)",
  "if throw",
  "panic(a.val.runtime.NewTypeError(\"Cannot delete property '%d' of %s\", idx, a.val.String()))",
  "end",
  "return false",
  "end",
  "return true",
  "end",
  "if idx == 0",
  "return true",
  "end",
  "return a.baseObject.delete(KEY, throw)"
]

def ta_deleteIdx : List String := [
  "if a.viewedArrayBuf.ensureNotDetached(false) && KEY >= 0 && int64(KEY) < int64(a.length)",
  "if throw",
  "panic(a.val.runtime.NewTypeError(\"Cannot delete property '%d' of %s\", KEY, a.val.String()))",
  "end",
  "return false",
  "end",
  "return true"
]

def args_stringKeys : List String := [
  "a.ensurePropOrder()",
  "for range a.propNames",
  "if !KEY",
  "typeswitch prop := a.values[k].(type)",
  "case *valueProperty",
  "if !prop.enumerable",
  "continue",
  "end",
  "case *mappedProperty",
  "if !prop.enumerable",
  "continue",
  "end",
  "end",
  "end",
  "accum = append(accum, stringValueFromRaw(k))",
  "end",
  "return accum"
]

def args_iterateStringKeys : List String := [
  "return (&argumentsPropIter{ wrapped: a.baseObject.iterateStringKeys(), }).next"
]

def args_propIterNext : List String := [
  "var item propIterItem",
  "item, i.wrapped = i.wrapped()",
  "if i.wrapped == nil",
  "return propIterItem{}, nil",
  "end",
  "prop, ok := item.value.(*mappedProperty)",
  "if ok",
  "if prop.writable && prop.enumerable && prop.configurable",
  "item.value = *prop.v",
  "else",
  "item.value = nil",
  "end",
  "end",
  "return item, i.next"
]

def gm_getStr0 : List String := [
  "v, exists := o.data[KEY]",
  "if !exists",
  "return nil",
  "end",
  "return o.val.runtime.ToValue(v)"
]

def gm_hasStr0 : List String := [
  "_, exists := o.data[KEY]",
  "return exists"
]

def gm_getStr : List String := [
  "v := o._get(KEY.String())",
  "if v != nil",
  "return v",
  "end",
  "return o.baseObject.get(KEY, receiver)"
]

def gm_getOwnPropStr : List String := [
  "v := o._get(KEY.String())",
  "if v != nil",
  "return v",
  "end",
  "return nil"
]

def gm_setOwnStr : List String := [
  "n := KEY.String()",
  "_, exists := o.data[n]",
  "if exists",
  "o.data[n] = val.Export()",
  "return true",
  "end",
  "proto := o.prototype",
  "if proto != nil",
  "res, ok := proto.self.setForeign(KEY, val, o.val, throw)",
  "if ok",
  "return res",
  "end",
  "end",
  "if !o.extensible",
  "typeErrorResult(throw)",
  "return false",
  "else",
  "o.data[n] = val.Export()",
  "end",
  "return true"
]

def gm_setForeignStr : List String := [
  "return o._setForeign(KEY, trueValIfPresent(o._has(KEY.String())), val, receiver, throw)"
]

def gm_setForeignIdx : List String := [
  "return o.setForeign(KEY.string(), val, receiver, throw)"
]

def gm_hasOwnPropertyStr : List String := [
  "return o._has(KEY.String())"
]

def gm_defineOwnPropertyStr : List String := [
  "if !o.val.runtime.checkHostObjectPropertyDescr(KEY, descr, throw)",
  "return false",
  "end",
  "n := KEY.String()",
  "if o.extensible || o._has(n)",
  "if descr.Value == nil",
  "if !o._has(n)",
  "o.data[n] = nil",
  "end",
  "return true",
  "end",
  "o.data[n] = descr.Value.Export()",
  "return true",
  "end",
  "typeErrorResult(throw)",
  "return false"
]

def gm_deleteStr : List String := [
  "delete(o.data, KEY.String())",
  "return true"
]

def gm_stringKeys : List String := [
  "for range o.data",
  "accum = append(accum, newStringValue(key))",
  "end",
  "return accum"
]

def gm_iterateStringKeys : List String := [
  "propNames := make([]string, len(o.data))",
  "i := 0",
  "for range o.data",
  "propNames[i] = key",
  "i++",
  "end",
  "return (&gomapPropIter{ o: o, propNames: propNames, }).next"
]

def gm_propIterNext : List String := [
  "for i.idx < len(i.propNames)",
  "name := i.propNames[i.idx]",
  "i.idx++",
  "_, exists := i.o.data[name]",
  "if exists",
  "return propIterItem{name: newStringValue(name), enumerable: _ENUM_TRUE}, i.next",
  "end",
  "end",
  "return propIterItem{}, nil"
]

def host_checkPropertyDescr : List String := [
  "if descr.Getter != nil || descr.Setter != nil",
  "typeErrorResult(throw)",
  "return false",
  "end",
  "if descr.Writable == FLAG_FALSE",
  "typeErrorResult(throw)",
  "return false",
  "end",
  "if descr.Configurable == FLAG_TRUE",
  "typeErrorResult(throw)",
  "return false",
  "end",
  "return true"
]

end Expected

theorem ta_deleteStr_expected : ta_deleteStr = Expected.ta_deleteStr := by rfl
theorem ta_deleteIdx_expected : ta_deleteIdx = Expected.ta_deleteIdx := by rfl
theorem args_stringKeys_expected : args_stringKeys = Expected.args_stringKeys := by rfl
theorem args_iterateStringKeys_expected : args_iterateStringKeys = Expected.args_iterateStringKeys := by rfl
theorem args_propIterNext_expected : args_propIterNext = Expected.args_propIterNext := by rfl
theorem gm_getStr0_expected : gm_getStr0 = Expected.gm_getStr0 := by rfl
theorem gm_hasStr0_expected : gm_hasStr0 = Expected.gm_hasStr0 := by rfl
theorem gm_getStr_expected : gm_getStr = Expected.gm_getStr := by rfl
theorem gm_getOwnPropStr_expected : gm_getOwnPropStr = Expected.gm_getOwnPropStr := by rfl
theorem gm_setOwnStr_expected : gm_setOwnStr = Expected.gm_setOwnStr := by rfl
theorem gm_setForeignStr_expected : gm_setForeignStr = Expected.gm_setForeignStr := by rfl
theorem gm_setForeignIdx_expected : gm_setForeignIdx = Expected.gm_setForeignIdx := by rfl
theorem gm_hasOwnPropertyStr_expected : gm_hasOwnPropertyStr = Expected.gm_hasOwnPropertyStr := by rfl
theorem gm_defineOwnPropertyStr_expected : gm_defineOwnPropertyStr = Expected.gm_defineOwnPropertyStr := by rfl
theorem gm_deleteStr_expected : gm_deleteStr = Expected.gm_deleteStr := by rfl
theorem gm_stringKeys_expected : gm_stringKeys = Expected.gm_stringKeys := by rfl
theorem gm_iterateStringKeys_expected : gm_iterateStringKeys = Expected.gm_iterateStringKeys := by rfl
theorem gm_propIterNext_expected : gm_propIterNext = Expected.gm_propIterNext := by rfl
theorem host_checkPropertyDescr_expected : host_checkPropertyDescr = Expected.host_checkPropertyDescr := by rfl

end GojaModel.C04.Tie2
