/-
  C04 — the copy-on-write marker of `baseObject.propNames` (object.go:1218-1272, `_delete` :399, `fixPropOrder` :1359,
  `iterateStringKeys` :1274, `objectPropIter.next` :1205): buffers with capacity, slices into them, the marker in the last
  cell, in-place writes versus reallocation — and the theorem the marker exists for: a for-in iterator's snapshot of the
  name list never changes under any later operation on the object (nested, abandoned and finished iterations included),
  while the object's logical name list evolves exactly like the list-level model `PO`.
-/
import GojaModel.C04.LemmasOrder
namespace GojaModel.C04

/-- `copyMarker = unistring.String(" ")` object.go:1218 -/
def copyMarker : Key := .str " "
def emptyCell : Key := .str ""

/-- backing arrays: id ↦ cells (`cap` = number of cells); ids are never reused (`next` = first unused id) -/
structure Mem where
  cells : Nat → List Key
  next : Nat

def Mem.upd (m : Mem) (b : Nat) (c : List Key) : Mem := { m with cells := fun i => if i = b then c else m.cells i }
def Mem.alloc (m : Mem) (c : List Key) : Mem × Nat :=
  ({ cells := fun i => if i = m.next then c else m.cells i, next := m.next + 1 }, m.next)

/-- an in-progress / abandoned / finished for-in iteration: `objectPropIter.propNames` is the slice (buf, len) -/
structure Iter where
  buf : Nat
  len : Nat
  snap : List Key          -- ghost: what `propNames[0:len]` held when the iterator was created
  active : Bool            -- false once `next()` ran off the end (it cleared the marker and will not read again)

structure Cow where
  mem : Mem
  buf : Nat                -- backing array of o.propNames
  po : PO                  -- logical content (o.propNames[0:len] = po.names) with the two counters as segments
  iters : List Iter

def Cow.len (s : Cow) : Nat := s.po.names.length
def Cow.cap (s : Cow) : Nat := (s.mem.cells s.buf).length

/-- `namesMarkedForCopy` object.go:1248: `cap > len && names[cap-1] == copyMarker` -/
def Cow.marked (s : Cow) : Bool :=
  decide (s.len < s.cap) && ((s.mem.cells s.buf).getLast? == some copyMarker)

def freshCells (names : List Key) (cap : Nat) : List Key := names ++ List.replicate (cap - names.length) emptyCell

/-- `names[cap-1:cap][0] = x` -/
def setLast (c : List Key) (x : Key) : List Key := c.set (c.length - 1) x

inductive CowOp where
  | add (n : Key) (newcap : Nat)          -- new property (object.go:488-489 / :771-772 / :800-801); newcap: what growCap / append pick
  | delete (n : Key) (newcap : Nat)       -- `_delete` :399; newcap: what shrinkCap picks in the marked branch
  | ensure                                -- `ensurePropOrder` :1346 → `fixPropOrder` :1359
  | iterate (newcap : Nat)                -- `iterateStringKeys` :1274 (ensurePropOrder, prepareNamesForCopy, new objectPropIter)
  | finish (i : Nat)                      -- iterator number i runs off the end: `clearNamesCopyMarker(i.propNames)` :1214

/-- rewrite the object's name list after a logical change `po'`: in place if `inPlace`, else into a fresh array of capacity
≥ `newcap` (the copy branches: `copyNamesIfNeeded` :1258, `_delete` :404-408, `fixPropOrder` :1368-1374, append beyond cap) -/
def Cow.rewrite (s : Cow) (po' : PO) (inPlace : Bool) (newcap : Nat) : Cow :=
  if inPlace then
    let old := s.mem.cells s.buf
    { s with po := po', mem := s.mem.upd s.buf (po'.names ++ old.drop po'.names.length) }
  else
    let (m, b) := s.mem.alloc (freshCells po'.names (max newcap po'.names.length))
    { s with po := po', mem := m, buf := b }

/-- `ensurePropOrder`/`fixPropOrder`: marked → copy before the first shift (:1368), else shift in place; nothing to do if
already sorted.  (Where the code finds nothing to shift it does not write at all; the model then still rewrites the same
names — a no-op on the logical content.) -/
def Cow.ensureStep (s : Cow) : Cow :=
  if s.po.C = [] then s
  else s.rewrite s.po.ensure (!s.marked) s.cap

def Cow.step (s : Cow) : CowOp → Cow
  | .add n newcap =>
    if n ∈ s.po.names then s
    else
      -- copyNamesIfNeeded(names, 1): copy iff marked && len+1 >= cap; then append: in place iff len < cap
      let copy := s.marked && decide (s.len + 1 ≥ s.cap)
      let inPlace := !copy && decide (s.len < s.cap)
      s.rewrite (s.po.add n) inPlace (max newcap (s.len + 2))
  | .delete n newcap =>
    if n ∈ s.po.names then
      -- marked: new array (:405-408); else shift in place and clear the last cell (:410-412)
      if s.marked then s.rewrite (s.po.delete n) false newcap
      else
        let s' := s.rewrite (s.po.delete n) true 0
        { s' with mem := s'.mem.upd s'.buf ((s'.mem.cells s'.buf).set (s.len - 1) emptyCell) }
    else s
  | .ensure => s.ensureStep
  | .iterate newcap =>
    let s1 := s.ensureStep
    -- an iterator over an empty name list is exhausted by its first `next()`, which no user code precedes: it is
    -- registered as finished (its `clearNamesCopyMarker` writes "" into a cell that holds "" or a stale marker)
    if s1.len = 0 then
      let c := s1.mem.cells s1.buf
      { s1 with mem := s1.mem.upd s1.buf (setLast c emptyCell),
                iters := s1.iters ++ [{ buf := s1.buf, len := 0, snap := [], active := false }] }
    else
      -- prepareNamesForCopy :1229: marked or full → copy into an array with spare capacity; then set the marker
      let s2 := if s1.marked || decide (s1.cap = s1.len) then s1.rewrite s1.po false (max newcap (s1.len + 1)) else s1
      let s3 := { s2 with mem := s2.mem.upd s2.buf (setLast (s2.mem.cells s2.buf) copyMarker) }
      { s3 with iters := s3.iters ++ [{ buf := s3.buf, len := s3.len, snap := s3.po.names, active := true }] }
  | .finish i =>
    match s.iters[i]? with
    | none => s
    | some it =>
      if !it.active then s
      else
        let c := s.mem.cells it.buf
        let m := if it.len < c.length then s.mem.upd it.buf (setLast c emptyCell) else s.mem     -- clearNamesCopyMarker :1252
        { s with mem := m, iters := s.iters.set i { it with active := false } }

def Cow.run (s : Cow) (ops : List CowOp) : Cow := ops.foldl Cow.step s

def CowOp.toPO : CowOp → Option POOp
  | .add n _ => some (.add n)
  | .delete n _ => some (.delete n)
  | .ensure => some .ensure
  | .iterate _ => some .ensure
  | .finish _ => none

def emptyCow : Cow :=
  { mem := { cells := fun _ => [], next := 1 }, buf := 0, po := PO.empty, iters := [] }

structure CowInv (s : Cow) : Prop where
  bufLt : s.buf < s.mem.next
  content : (s.mem.cells s.buf).take s.len = s.po.names
  capOk : s.len ≤ s.cap
  itOk : ∀ it ∈ s.iters, it.active = true →
    it.buf < s.mem.next ∧ (s.mem.cells it.buf).take it.len = it.snap ∧ it.len < (s.mem.cells it.buf).length ∧ 0 < it.len
  shared : ∀ it ∈ s.iters, it.active = true → it.buf = s.buf → s.marked = true ∧ it.len ≤ s.len
  uniq : ∀ (i j : Nat) (a b : Iter), s.iters[i]? = some a → s.iters[j]? = some b → a.active = true → b.active = true →
    a.buf = s.buf → b.buf = s.buf → i = j

theorem setLast_length (c : List Key) (x : Key) : (setLast c x).length = c.length := by simp [setLast]

theorem setLast_take (c : List Key) (x : Key) (k : Nat) (hk : k ≤ c.length - 1) : (setLast c x).take k = c.take k :=
  List.take_set_of_le hk

theorem setLast_getLast (c : List Key) (x : Key) (hc : 0 < c.length) : (setLast c x).getLast? = some x := by
  simp only [setLast, List.getLast?_eq_getElem?, List.length_set]
  rw [List.getElem?_set_self (by omega)]

theorem inplace_length (a old : List Key) (h : a.length ≤ old.length) : (a ++ old.drop a.length).length = old.length := by
  simp; omega

theorem inplace_getLast (a old : List Key) (h : a.length < old.length) : (a ++ old.drop a.length).getLast? = old.getLast? := by
  rw [List.getLast?_eq_getElem?, List.getLast?_eq_getElem?, inplace_length a old (Nat.le_of_lt h)]
  rw [List.getElem?_append_right (by omega), List.getElem?_drop]
  congr 1
  omega

theorem freshCells_take (names : List Key) (cap : Nat) : (freshCells names cap).take names.length = names := by
  simp [freshCells]

theorem freshCells_length (names : List Key) (cap : Nat) (h : names.length ≤ cap) : (freshCells names cap).length = cap := by
  simp [freshCells]; omega

theorem upd_other_cells (m : Mem) (b i : Nat) (c : List Key) (hne : i ≠ b) : (m.upd b c).cells i = m.cells i := by
  simp [Mem.upd, hne]
theorem upd_same_cells (m : Mem) (b : Nat) (c : List Key) : (m.upd b c).cells b = c := by simp [Mem.upd]

theorem setLast_frame (m : Mem) (b : Nat) (x : Key) (b' n : Nat) (hn : b' = b → n ≤ (m.cells b).length - 1) :
    ((m.upd b (setLast (m.cells b) x)).cells b').take n = (m.cells b').take n
    ∧ ((m.upd b (setLast (m.cells b) x)).cells b').length = (m.cells b').length := by
  by_cases e : b' = b
  · subst e; simp only [upd_same_cells]; exact ⟨setLast_take _ _ _ (hn rfl), setLast_length _ _⟩
  · rw [upd_other_cells _ _ _ _ e]; exact ⟨rfl, rfl⟩

theorem upd_upd (m : Mem) (b : Nat) (c1 c2 : List Key) : (m.upd b c1).upd b c2 = m.upd b c2 := by
  simp only [Mem.upd]
  congr 1
  funext i
  by_cases h : i = b <;> simp [h]

theorem rewrite_po (s : Cow) (po' : PO) (b : Bool) (c : Nat) : (s.rewrite po' b c).po = po' := by
  unfold Cow.rewrite; split <;> rfl

theorem ensureStep_po (s : Cow) : s.ensureStep.po = s.po.ensure := by
  unfold Cow.ensureStep
  split
  · rename_i h; simp [PO.ensure, h]
  · exact rewrite_po _ _ _ _

theorem rewrite_iters (s : Cow) (po' : PO) (b : Bool) (c : Nat) : (s.rewrite po' b c).iters = s.iters := by
  unfold Cow.rewrite; split <;> rfl

theorem ensureStep_iters (s : Cow) : s.ensureStep.iters = s.iters := by
  unfold Cow.ensureStep
  split
  · rfl
  · exact rewrite_iters _ _ _ _

def Unshared (s : Cow) : Prop := ∀ it ∈ s.iters, it.active = true → it.buf ≠ s.buf

theorem unshared_of_unmarked {s : Cow} (h : CowInv s) (hm : s.marked = false) : Unshared s := by
  intro it hmem ha hb
  have := (h.shared it hmem ha hb).1
  rw [hm] at this; cases this

theorem unshared_of_empty {s : Cow} (h : CowInv s) (h0 : s.len = 0) : Unshared s := by
  intro it hm ha hb
  have := (h.shared it hm ha hb).2
  have := (h.itOk it hm ha).2.2.2
  omega

theorem alloc_len_cap (s : Cow) (po' : PO) (newcap : Nat) :
    (s.rewrite po' false newcap).len = po'.names.length ∧ (s.rewrite po' false newcap).cap = max newcap po'.names.length := by
  simp only [Cow.rewrite, Bool.false_eq_true, if_false, Mem.alloc, Cow.len, Cow.cap, if_pos]
  exact ⟨trivial, freshCells_length _ _ (Nat.le_max_right _ _)⟩

theorem inv_alloc {s : Cow} (h : CowInv s) (po' : PO) (newcap : Nat) : CowInv (s.rewrite po' false newcap) := by
  have hfresh : ∀ it ∈ s.iters, it.active = true → it.buf ≠ s.mem.next := fun it hm ha => Nat.ne_of_lt (h.itOk it hm ha).1
  obtain ⟨el, ec⟩ := alloc_len_cap s po' newcap
  refine ⟨?_, ?_, by rw [el, ec]; exact Nat.le_max_right _ _, ?_, ?_, ?_⟩ <;>
    simp only [Cow.rewrite, Bool.false_eq_true, if_false, Mem.alloc]
  · simp
  · simpa [Cow.len] using freshCells_take po'.names _
  · intro it hm ha
    obtain ⟨h1, h2, h3, h4⟩ := h.itOk it hm ha
    have hne := hfresh it hm ha
    simp only [hne, if_false]
    exact ⟨Nat.lt_succ_of_lt h1, h2, h3, h4⟩
  · intro it hm ha hb
    exact absurd hb (hfresh it hm ha)
  · intro i j a b hi hj ha hb hba hbb
    exact absurd hba (hfresh a (List.mem_of_getElem? hi) ha)

theorem unshared_alloc {s : Cow} (h : CowInv s) (po' : PO) (newcap : Nat) : Unshared (s.rewrite po' false newcap) := by
  intro it hmem ha
  simp only [Cow.rewrite, Bool.false_eq_true, if_false, Mem.alloc] at hmem ⊢
  exact Nat.ne_of_lt (h.itOk it hmem ha).1

theorem inv_inplace {s : Cow} (h : CowInv s) (po' : PO) (c' : List Key)
    (hlen : c'.length = s.cap) (hcont : c'.take po'.names.length = po'.names) (hcap : po'.names.length ≤ s.cap)
    (hit : ∀ it ∈ s.iters, it.active = true → it.buf = s.buf →
      c'.take it.len = (s.mem.cells s.buf).take it.len ∧
      (decide (po'.names.length < c'.length) && (c'.getLast? == some copyMarker)) = true ∧ it.len ≤ po'.names.length) :
    CowInv { s with po := po', mem := s.mem.upd s.buf c' } := by
  refine ⟨h.bufLt, ?_, ?_, ?_, ?_, ?_⟩
  · simp only [Cow.len, upd_same_cells]; exact hcont
  · simp only [Cow.len, Cow.cap, upd_same_cells, hlen]; exact hcap
  · intro it hm ha
    obtain ⟨h1, h2, h3, h4⟩ := h.itOk it hm ha
    by_cases hb : it.buf = s.buf
    · obtain ⟨e1, _, _⟩ := hit it hm ha hb
      simp only [hb, upd_same_cells]
      refine ⟨h.bufLt, ?_, ?_, h4⟩
      · rw [e1, ← hb]; exact h2
      · rw [hlen]; rw [hb] at h3; exact h3
    · simp only [upd_other_cells _ _ _ _ hb]
      exact ⟨h1, h2, h3, h4⟩
  · intro it hm ha hb
    obtain ⟨_, e2, e3⟩ := hit it hm ha hb
    simp only [Cow.marked, Cow.len, Cow.cap, upd_same_cells]
    exact ⟨e2, e3⟩
  · exact h.uniq

theorem getElem?_snoc {α} (l : List α) (x y : α) (k : Nat) (h : (l ++ [x])[k]? = some y) :
    l[k]? = some y ∨ (k = l.length ∧ y = x) := by
  by_cases hlt : k < l.length
  · rw [List.getElem?_append_left hlt] at h; exact Or.inl h
  · rw [List.getElem?_append_right (Nat.le_of_not_lt hlt)] at h
    obtain ⟨h1, h2⟩ := List.getElem?_eq_some_iff.mp h
    have : k - l.length = 0 := by simpa using h1
    exact Or.inr ⟨by omega, by simpa [this] using h2.symm⟩

theorem getElem?_deactivate {l : List Iter} {i k : Nat} {it x : Iter}
    (hk : (l.set i { it with active := false })[k]? = some x) (hx : x.active = true) : k ≠ i ∧ l[k]? = some x := by
  rw [List.getElem?_set] at hk
  split at hk
  · split at hk
    · cases hk; cases hx
    · cases hk
  · next hne => exact ⟨fun e => hne e.symm, hk⟩

theorem inv_deactivate {s : Cow} (h : CowInv s) (i : Nat) (it : Iter) :
    CowInv { s with iters := s.iters.set i { it with active := false } } := by
  have hmem : ∀ x ∈ s.iters.set i { it with active := false }, x.active = true → x ∈ s.iters := fun x hx hxa =>
    let ⟨k, hk⟩ := List.getElem?_of_mem hx
    List.mem_of_getElem? (getElem?_deactivate hk hxa).2
  exact ⟨h.bufLt, h.content, h.capOk, fun x hx hxa => h.itOk x (hmem x hx hxa) hxa,
    fun x hx hxa => h.shared x (hmem x hx hxa) hxa,
    fun k j a b hk hj haa hba => h.uniq k j a b (getElem?_deactivate hk haa).2 (getElem?_deactivate hj hba).2 haa hba⟩

theorem unshared_deactivate {s : Cow} (h : CowInv s) (i : Nat) (it : Iter) (hi : s.iters[i]? = some it)
    (ha : it.active = true) (hb : it.buf = s.buf) :
    Unshared { s with iters := s.iters.set i { it with active := false } } := by
  intro x hx hxa hxb
  obtain ⟨k, hk⟩ := List.getElem?_of_mem hx
  obtain ⟨hne, hk'⟩ := getElem?_deactivate hk hxa
  exact hne (h.uniq k i x it hk' hi hxa ha hxb hb)

theorem marked_setLast (s : Cow) (hroom : s.len < s.cap) :
    Cow.marked { s with mem := s.mem.upd s.buf (setLast (s.mem.cells s.buf) copyMarker) } = true := by
  simp only [Cow.marked, Cow.len, Cow.cap, upd_same_cells, setLast_length,
    setLast_getLast _ _ (Nat.lt_of_le_of_lt (Nat.zero_le _) hroom)]
  simpa [Cow.len, Cow.cap] using hroom

theorem inv_setLast {s : Cow} (h : CowInv s) (b : Nat) (x : Key)
    (hroom : b = s.buf → s.len ≤ s.cap - 1)
    (hmark : b = s.buf → (x = copyMarker ∧ s.len < s.cap) ∨ Unshared s) :
    CowInv { s with mem := s.mem.upd b (setLast (s.mem.cells b) x) } := by
  have hS := setLast_frame s.mem b x s.buf s.len fun e => by rw [← e]; exact hroom e.symm
  refine ⟨h.bufLt, hS.1.trans h.content, ?_, ?_, ?_, h.uniq⟩
  · simp only [Cow.len, Cow.cap, hS.2]; exact h.capOk
  · intro it hm ha
    obtain ⟨b1, b2, b3, b4⟩ := h.itOk it hm ha
    have hX := setLast_frame s.mem b x it.buf it.len (fun e => by rw [← e]; omega)
    exact ⟨b1, hX.1.trans b2, hX.2 ▸ b3, b4⟩
  · intro it hm ha hb
    obtain ⟨hmk, hle⟩ := h.shared it hm ha hb
    refine ⟨?_, hle⟩
    by_cases e : b = s.buf
    · rcases hmark e with ⟨rfl, hr⟩ | hu
      · subst e; exact marked_setLast s hr
      · exact absurd hb (hu it hm ha)
    · simp only [Cow.marked, Cow.len, Cow.cap, upd_other_cells _ _ _ _ (Ne.symm e)] at hmk ⊢
      exact hmk

theorem inv_push {s : Cow} (h : CowInv s) (x : Iter)
    (hx : x.active = true → x.buf = s.buf ∧ x.len = s.len ∧ x.snap = s.po.names ∧ s.marked = true ∧ 0 < s.len ∧ Unshared s) :
    CowInv { s with iters := s.iters ++ [x] } := by
  refine ⟨h.bufLt, h.content, h.capOk, ?_, ?_, ?_⟩
  · intro it hm ha
    rcases List.mem_append.mp hm with hm | hm
    · exact h.itOk it hm ha
    · cases List.mem_singleton.mp hm
      obtain ⟨e1, e2, e3, e4, e5, _⟩ := hx ha
      simp only [Cow.marked, Bool.and_eq_true, decide_eq_true_eq] at e4
      exact ⟨e1 ▸ h.bufLt, by rw [e1, e2, e3]; exact h.content, by rw [e1, e2]; exact e4.1, e2 ▸ e5⟩
  · intro it hm ha hb
    rcases List.mem_append.mp hm with hm | hm
    · exact h.shared it hm ha hb
    · cases List.mem_singleton.mp hm
      obtain ⟨_, e2, _, e4, _, _⟩ := hx ha
      exact ⟨e4, Nat.le_of_eq e2⟩
  · intro i j a b hi hj ha hb hba hbb
    -- an old active reader of the object's array excludes an active newcomer, and the other way round
    have key : ∀ (k : Nat) (y : Iter), (s.iters ++ [x])[k]? = some y → y.active = true → y.buf = s.buf →
        s.iters[k]? = some y ∨ (k = s.iters.length ∧ Unshared s) := fun k y hk hya hyb =>
      (getElem?_snoc _ _ _ _ hk).imp_right fun ⟨e1, e2⟩ => ⟨e1, (hx (e2 ▸ hya)).2.2.2.2.2⟩
    rcases key i a hi ha hba with h1 | ⟨h1, u1⟩ <;> rcases key j b hj hb hbb with h2 | ⟨h2, u2⟩
    · exact h.uniq i j a b h1 h2 ha hb hba hbb
    · exact absurd hba (u2 a (List.mem_of_getElem? h1) ha)
    · exact absurd hbb (u1 b (List.mem_of_getElem? h2) hb)
    · rw [h1, h2]

/-- the tail of `prepareNamesForCopy` (set the marker) followed by `iterateStringKeys`' registration of the iterator -/
theorem inv_mark_iter {s : Cow} (h : CowInv s) (hu : Unshared s) (hroom : s.len < s.cap) (hpos : 0 < s.len) :
    CowInv { s with mem := s.mem.upd s.buf (setLast (s.mem.cells s.buf) copyMarker),
                    iters := s.iters ++ [{ buf := s.buf, len := s.len, snap := s.po.names, active := true }] } :=
  inv_push (inv_setLast h s.buf copyMarker (fun _ => Nat.le_sub_one_of_lt hroom) fun _ => .inl ⟨rfl, hroom⟩) _
    fun _ => ⟨rfl, rfl, rfl, marked_setLast s hroom, hpos, hu⟩

def IterLe (l l' : List Iter) : Prop :=
  ∀ (k : Nat) (it : Iter), l[k]? = some it → ∃ it' : Iter, l'[k]? = some it' ∧ it'.buf = it.buf ∧ it'.len = it.len ∧
    it'.snap = it.snap ∧ (it'.active = true → it.active = true)

theorem IterLe.refl (l : List Iter) : IterLe l l := fun _ it h => ⟨it, h, rfl, rfl, rfl, id⟩

theorem IterLe.trans {a b c : List Iter} (h1 : IterLe a b) (h2 : IterLe b c) : IterLe a c := fun k it h =>
  let ⟨it1, e1, b1, l1, s1, a1⟩ := h1 k it h
  let ⟨it2, e2, b2, l2, s2, a2⟩ := h2 k it1 e1
  ⟨it2, e2, b2.trans b1, l2.trans l1, s2.trans s1, fun e => a1 (a2 e)⟩

theorem IterLe.push (l : List Iter) (x : Iter) : IterLe l (l ++ [x]) := fun k it h =>
  ⟨it, by rw [List.getElem?_append_left (List.getElem?_eq_some_iff.mp h).1]; exact h, rfl, rfl, rfl, id⟩

theorem IterLe.deactivate (l : List Iter) (i : Nat) (it : Iter) (hi : l[i]? = some it) :
    IterLe l (l.set i { it with active := false }) := fun k x h => by
  by_cases hki : k = i
  · subst hki
    rw [hi] at h; cases h
    exact ⟨_, List.getElem?_set_self (List.getElem?_eq_some_iff.mp hi).1, rfl, rfl, rfl, fun e => nomatch e⟩
  · exact ⟨x, by rw [List.getElem?_set_ne (Ne.symm hki)]; exact h, rfl, rfl, rfl, id⟩

/-- `s'` is a legitimate successor of `s` whose name list is `po'`. The three things proved of an operation — what the
list-level model sees of it, that it keeps the registered iterators, that it keeps the invariant — are the fields, so that
`Cow.step` is taken apart once (`step_next`) and a history is a successor again (`run_next`). -/
structure Next (s : Cow) (po' : PO) (s' : Cow) : Prop where
  po : s'.po = po'
  iters : IterLe s.iters s'.iters
  inv : CowInv s → CowInv s'

theorem Next.refl (s : Cow) : Next s s.po s := ⟨rfl, .refl _, id⟩

theorem Next.trans {s s1 s2 : Cow} {p p' : PO} (h1 : Next s p s1) (h2 : Next s1 p' s2) : Next s p' s2 :=
  ⟨h2.po, h1.iters.trans h2.iters, fun h => h2.inv (h1.inv h)⟩

theorem Next.alloc (s : Cow) (po' : PO) (newcap : Nat) : Next s po' (s.rewrite po' false newcap) :=
  ⟨rewrite_po _ _ _ _, by rw [rewrite_iters]; exact .refl _, fun h => inv_alloc h po' newcap⟩

theorem ensure_next (s : Cow) : Next s s.po.ensure s.ensureStep := by
  refine ⟨ensureStep_po s, ensureStep_iters s ▸ .refl _, fun h => ?_⟩
  unfold Cow.ensureStep
  split
  · exact h
  · cases hm : s.marked with
    | true => simpa using inv_alloc h s.po.ensure s.cap
    | false =>
      simp only [Bool.not_false, Cow.rewrite, if_true]
      have hl : s.po.ensure.names.length = s.len := names_ensure_length s.po
      have hc : s.po.ensure.names.length ≤ (s.mem.cells s.buf).length := by rw [hl]; exact h.capOk
      exact inv_inplace h s.po.ensure _ (inplace_length _ _ hc) List.take_left (by rw [hl]; exact h.capOk)
        fun it hmem ha hb => absurd hb (unshared_of_unmarked h hm it hmem ha)

theorem add_next (s : Cow) (n : Key) (newcap : Nat) : Next s (s.po.add n) (s.step (.add n newcap)) := by
  simp only [Cow.step]
  split
  · next hn => simpa [PO.add, hn] using Next.refl s
  · next hn =>
    cases hip : (!(s.marked && decide (s.len + 1 ≥ s.cap)) && decide (s.len < s.cap)) with
    | false => simpa [hip] using Next.alloc s (s.po.add n) (max newcap (s.len + 2))
    | true =>
      simp only [Cow.rewrite, if_true]
      refine ⟨rfl, .refl _, fun h => ?_⟩
      simp only [Bool.and_eq_true, Bool.not_eq_true', decide_eq_true_eq] at hip
      obtain ⟨hcopy, hlt⟩ := hip
      have hnames := names_add_new s.po n hn
      have hl : (s.po.add n).names.length = s.len + 1 := by rw [hnames]; simp [Cow.len]
      have hc : (s.po.add n).names.length ≤ (s.mem.cells s.buf).length := by rw [hl]; exact hlt
      refine inv_inplace h (s.po.add n) _ (inplace_length _ _ hc) List.take_left (by rw [hl]; exact hlt) ?_
      intro it hmem ha hb
      obtain ⟨hmk, hle⟩ := h.shared it hmem ha hb
      have hroom : s.len + 1 < s.cap := by
        rw [hmk] at hcopy
        simp only [Bool.true_and, decide_eq_false_iff_not, Nat.not_le] at hcopy
        exact hcopy
      refine ⟨?_, ?_, by rw [hl]; omega⟩
      · rw [List.take_append_of_le_length (by rw [hl]; omega), hnames, List.take_append_of_le_length hle]
        rw [← h.content, List.take_take]
        congr 1
        exact Nat.min_eq_left hle
      · simp only [Cow.marked, Bool.and_eq_true, decide_eq_true_eq] at hmk
        have hlt2 : (s.po.add n).names.length < (s.mem.cells s.buf).length := by rw [hl]; exact hroom
        rw [inplace_length _ _ hc, inplace_getLast _ _ hlt2]
        simp only [Bool.and_eq_true, decide_eq_true_eq]
        exact ⟨by rw [hl]; exact hroom, hmk.2⟩

theorem delete_next (s : Cow) (n : Key) (newcap : Nat) : Next s (s.po.delete n) (s.step (.delete n newcap)) := by
  simp only [Cow.step]
  split
  · next hn =>
    cases hm : s.marked with
    | true => simpa [hm] using Next.alloc s (s.po.delete n) newcap
    | false =>
      simp only [Bool.false_eq_true, if_false, Cow.rewrite, if_true, upd_same_cells, upd_upd]
      refine ⟨rfl, .refl _, fun h => ?_⟩
      have hl : (s.po.delete n).names.length = s.len - 1 := by
        rw [names_delete, List.length_erase_of_mem hn]; rfl
      have hpos : 0 < s.len := List.length_pos_of_mem hn
      have hc : (s.po.delete n).names.length ≤ (s.mem.cells s.buf).length := by
        rw [hl]; have := h.capOk; simp only [Cow.cap] at this; omega
      refine inv_inplace h (s.po.delete n) _ ?_ ?_ (by rw [hl]; have := h.capOk; omega)
        fun it hmem ha hb => absurd hb (unshared_of_unmarked h hm it hmem ha)
      · rw [List.length_set]; exact inplace_length _ _ hc
      · rw [List.take_set_of_le (by rw [hl]; exact Nat.le_refl _)]; exact List.take_left
  · next hn => rw [po_delete_absent s.po n hn]; exact .refl s

theorem iterate_next (s : Cow) (newcap : Nat) :
    ∃ x, (s.step (.iterate newcap)).iters = s.iters ++ [x] ∧
      (x.active = true → x.snap = (s.step (.iterate newcap)).po.names ∧ x.len = x.snap.length) ∧
      (s.step (.iterate newcap)).po = s.po.ensure ∧ (CowInv s → CowInv (s.step (.iterate newcap))) := by
  simp only [Cow.step]
  have h1 := (ensure_next s).inv
  rw [← ensureStep_po s, ← ensureStep_iters s]
  generalize s.ensureStep = s1 at h1
  split
  · next h0 =>
    refine ⟨_, rfl, (fun e => nomatch e), rfl, fun h => ?_⟩
    exact inv_push (inv_setLast (h1 h) s1.buf emptyCell (fun _ => by rw [h0]; exact Nat.zero_le _)
      fun _ => .inr (unshared_of_empty (h1 h) h0)) _ (fun e => nomatch e)
  · next h0 =>
    have hpos : 0 < s1.len := Nat.pos_of_ne_zero h0
    by_cases hc : (s1.marked || decide (s1.cap = s1.len)) = true
    · simp only [hc, if_true]
      refine ⟨_, by rw [rewrite_iters], fun _ => ⟨rfl, rfl⟩, rewrite_po _ _ _ _, fun h => ?_⟩
      have h1 := h1 h
      obtain ⟨el, ec⟩ := alloc_len_cap s1 s1.po (max newcap (s1.len + 1))
      refine inv_mark_iter (inv_alloc h1 _ _) (unshared_alloc h1 _ _) ?_ (el ▸ hpos)
      rw [el, ec]
      exact Nat.lt_of_lt_of_le (Nat.lt_succ_self _) (Nat.le_trans (Nat.le_max_right _ _) (Nat.le_max_left _ _))
    · simp only [hc]
      refine ⟨_, rfl, fun _ => ⟨rfl, rfl⟩, rfl, fun h => ?_⟩
      have h1 := h1 h
      simp only [Bool.not_eq_true, Bool.or_eq_false_iff, decide_eq_false_iff_not] at hc
      have hroom : s1.len < s1.cap := by have := h1.capOk; omega
      exact inv_mark_iter h1 (unshared_of_unmarked h1 hc.1) hroom hpos

theorem finish_next (s : Cow) (i : Nat) : Next s s.po (s.step (.finish i)) := by
  simp only [Cow.step]
  cases hi : s.iters[i]? with
  | none => exact .refl s
  | some it =>
    simp only
    cases ha : it.active with
    | false => simpa using Next.refl s
    | true =>
      simp only [Bool.not_true, Bool.false_eq_true, if_false]
      refine ⟨rfl, .deactivate _ _ _ hi, fun h => ?_⟩
      have hmem : it ∈ s.iters := List.mem_of_getElem? hi
      simp only [(h.itOk it hmem ha).2.2.1, if_true]
      -- the marker is cleared after the iterator has left: if it was on the object's array it was the only reader
      refine inv_setLast (inv_deactivate h i it) it.buf emptyCell (fun e => ?_)
        (fun e => .inr (unshared_deactivate h i it hi ha e))
      have := (h.shared it hmem ha e).1
      simp only [Cow.marked, Bool.and_eq_true, decide_eq_true_eq] at this
      exact Nat.le_sub_one_of_lt this.1

theorem step_next (s : Cow) (op : CowOp) : Next s (op.toPO.elim s.po s.po.step) (s.step op) := by
  cases op with
  | add n c => exact add_next s n c
  | delete n c => exact delete_next s n c
  | ensure => exact ensure_next s
  | iterate c => let ⟨x, e, _, p, i⟩ := iterate_next s c; exact ⟨p, e ▸ .push _ _, i⟩
  | finish i => exact finish_next s i

theorem run_next (ops : List CowOp) : ∀ s : Cow, Next s (s.po.run (ops.filterMap CowOp.toPO)) (s.run ops) := by
  induction ops with
  | nil => exact Next.refl
  | cons op ops ih =>
    intro s
    have h := step_next s op
    refine h.trans ?_
    have := ih (s.step op)
    rw [h.po] at this
    cases e : op.toPO <;> simpa [List.filterMap_cons, e, PO.run, Cow.run] using this

theorem inv_step {s : Cow} (h : CowInv s) (op : CowOp) : CowInv (s.step op) := (step_next s op).inv h

theorem inv_empty : CowInv emptyCow := by
  refine ⟨by simp [emptyCow], by simp [emptyCow, Cow.len, PO.empty, PO.names], by simp [emptyCow, Cow.len, Cow.cap, PO.empty, PO.names], ?_, ?_, ?_⟩ <;>
    simp [emptyCow]

theorem inv_run (ops : List CowOp) : ∀ {s : Cow}, CowInv s → CowInv (s.run ops) := (run_next ops _).inv

theorem run_po (ops : List CowOp) (s : Cow) : (s.run ops).po = s.po.run (ops.filterMap CowOp.toPO) := (run_next ops s).po

theorem run_iters_stable (ops : List CowOp) (s : Cow) : IterLe s.iters (s.run ops).iters := (run_next ops s).iters

theorem snapshot_stable {s : Cow} (h : CowInv s) (ops : List CowOp) {k : Nat} {it it2 : Iter} (hk : s.iters[k]? = some it)
    (h2 : (s.run ops).iters[k]? = some it2) (ha : it2.active = true) :
    ((s.run ops).mem.cells it2.buf).take it2.len = it.snap ∧ it2.len = it.len ∧ it.active = true := by
  obtain ⟨it', h', _, hl, hs, hact⟩ := run_iters_stable ops s k it hk
  cases h2.symm.trans h'
  exact ⟨((inv_run ops h).itOk it2 (List.mem_of_getElem? h2) ha).2.1.trans hs, hl, hact ha⟩

end GojaModel.C04
