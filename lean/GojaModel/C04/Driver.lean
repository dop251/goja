/-
  C04 model driver — line protocol (core Lean only).
    T ek ev ew ee ec ea eg es  dv dw de dc dg ds  ext             one `_defineOwnProperty` cell  → mechanism result ; spec verdict
    J <cell> <implementation result>                               → is it the transcription's result? + spec verdict of it
    N                                                              new op-sequence case (reset heap and monitor)
    mk <id> <kind> <proto>                                         create object
    def/set/get/del/has/hasown/pe/sp/frz/seal …                    spec-level ops  → result [+ dump of all objects]
    M <id> <dump>                                                  monitor one observed object state against the previous one
-/
import GojaModel.Base.Proto
import GojaModel.C04.Model
import GojaModel.C04.Typed
namespace GojaModel.C04.Driver
open GojaModel.C04 GojaModel.Proto

/-! ### table mode -/
def toI (s : String) : Int := s.toInt?.getD 0
def optVal (i : Int) : Option Nat := if i < 0 then (if i == -3 then some 0 else none) else some (100 + i.toNat)
def optFn (i : Int) : Option Nat := if i < 0 then none else some (200 + i.toNat)
def flagOf (i : Int) : Flag := if i == 1 then .fTrue else if i == 2 then .fFalse else .notSet
def accOf (i : Int) : Option (Option Nat) := if i == -2 then none else if i == -1 then some none else some (some (200 + i.toNat))
def showVal : Option Nat → String
  | none => "-1"
  | some 0 => "-3"
  | some n => toString (n - 100)
def showFn : Option Nat → String
  | none => "-1"
  | some n => toString (n - 200)
def b01 (b : Bool) : String := if b then "1" else "0"

def showStored : Option (Stored Nat) → String
  | none => "R"
  | some (.plain v) => s!"P 1 {showVal (some v)}"
  | some (.prop p) => s!"P 2 {showVal p.value} {b01 p.writable} {b01 p.enumerable} {b01 p.configurable} {b01 p.accessor} {showFn p.getterFunc} {showFn p.setterFunc}"

def tableCell (w : List String) : String :=
  match w.map toI with
  | [ek, ev, ew, ee, ec, ea, eg, es, dv, dw, de, dc, dg, ds, ext] =>
    let existing : Option (Stored Nat) :=
      if ek == 0 then none
      else if ek == 1 then some (.plain ((optVal ev).getD 0))
      else some (.prop { value := optVal ev, writable := ew == 1, enumerable := ee == 1, configurable := ec == 1,
                         accessor := ea == 1, getterFunc := optFn eg, setterFunc := optFn es })
    let d : Desc Nat := { value := optVal dv, writable := flagOf dw, enumerable := flagOf de, configurable := flagOf dc,
                          getter := accOf dg, setter := accOf ds }
    let res := defineOwn 0 existing d (ext == 1)
    let inv := match existing with | some s => s.repInv | none => true
    let verdict :=
      if !d.wellFormed || !inv then "na"
      else
        let specOk := decide (res.map (absProp 0) = validateAndApply 0 (existing.map (absProp 0)) d (ext == 1))
        let invOk := match res with | some s => s.repInv | none => true
        if specOk && invOk then "ok" else if !specOk then "spec" else "repinv"
    showStored res ++ " ; " ++ verdict
  | _ => "bad-line"

/-- `J <15 cell ints (no variant)> <result tokens>`: judge the IMPLEMENTATION's result for a cell against the spec. -/
def judgeCell (w : List String) : String :=
  let cell := (w.take 15).map toI
  let rs := w.drop 15
  match cell with
  | [ek, ev, ew, ee, ec, ea, eg, es, dv, dw, de, dc, dg, ds, ext] =>
    let existing : Option (Stored Nat) :=
      if ek == 0 then none
      else if ek == 1 then some (.plain ((optVal ev).getD 0))
      else some (.prop { value := optVal ev, writable := ew == 1, enumerable := ee == 1, configurable := ec == 1,
                         accessor := ea == 1, getterFunc := optFn eg, setterFunc := optFn es })
    let d : Desc Nat := { value := optVal dv, writable := flagOf dw, enumerable := flagOf de, configurable := flagOf dc,
                          getter := accOf dg, setter := accOf ds }
    let res : Option (Option (Stored Nat)) :=
      match rs with
      | ["R"] => some none
      | ["P", "1", v] => some (some (.plain ((optVal (toI v)).getD 0)))
      | ["P", "2", v, pw, pe, pc, pa, g, st] =>
        some (some (.prop { value := optVal (toI v), writable := pw == "1", enumerable := pe == "1", configurable := pc == "1",
                            accessor := pa == "1", getterFunc := optFn (toI g), setterFunc := optFn (toI st) }))
      | _ => none
    match res with
    | none => "unparsed"
    | some res =>
      let inv := match existing with | some s => s.repInv | none => true
      if !d.wellFormed || !inv then "na"
      else
        let specOk := decide (res.map (absProp 0) = validateAndApply 0 (existing.map (absProp 0)) d (ext == 1))
        let invOk := match res with | some s => s.repInv | none => true
        if specOk && invOk then "ok" else if !specOk then "spec" else "repinv"
  | _ => "bad-line"

/-- `J` line → `<implementation result = transcription's result> <spec verdict of the implementation result>` -/
def judgeCell2 (w : List String) : String :=
  let cell := w.take 15
  let rs := " ".intercalate (w.drop 15)
  let c := (tableCell cell).splitOn " ; " |>.headD ""
  b01 (c == rs) ++ " " ++ judgeCell w

/-! ### sequence mode -/
structure St where
  heap : Heap Nat
  n : Nat
  prev : List (Nat × Snap Nat)
  typed : Nat → Option (List Nat) := fun _ => none       -- integer-indexed exotic objects (Uint8Array): their elements

def St.xh (st : St) : XHeap Nat := { h := st.heap, typed := st.typed }
def St.ofX (st : St) (x : XHeap Nat) : St := { st with heap := x.h, typed := x.typed }

/-- ToNumber + ToUint8 on the value tokens: the pool numbers 100..105 stay, everything else becomes a number outside the
pools (undefined/functions → NaN → 0, getter results 300+i → 44+i, small numbers) -/
def coerceU8 (v : Nat) : Nat := if 100 ≤ v && v < 200 then v else 5000

def emptyObj : Obj Nat := { proto := none, ext := true, props := [] }
/-- the built-in prototypes the modelled kinds inherit from, as far as the key pool of the generator can see them:
900 = Object.prototype (none of the pool keys), 901 = Function.prototype (`length`, `name`: non-writable, configurable),
999 = String.prototype (`length`: frozen). -/
def builtinObj (i : Nat) : Obj Nat :=
  if i == 901 then
    { proto := some 900, ext := true,
      props := [(Key.str "length", SProp.data 5000 false false true), (Key.str "name", SProp.data 5000 false false true)] }
  else if i == 999 then
    { proto := some 900, ext := true, props := [(Key.str "length", SProp.data 5000 false false false)] }
  else if i == 998 then
    -- Uint8Array.prototype → %TypedArray%.prototype: `length` is an accessor whose getter (token 5002) throws a TypeError
    -- unless `this` is a typed array
    { proto := some 900, ext := true, props := [(Key.str "length", SProp.acc (some 5002) none false true)] }
  else emptyObj
def St.init : St := { heap := builtinObj, n := 0, prev := [], typed := fun _ => none }

def valOf (t : String) : Nat :=
  if t == "u" then 0
  else match t.toList with
    | 'n' :: r => 100 + (String.ofList r).toNat!
    | 'f' :: r => 200 + (String.ofList r).toNat!
    | 'r' :: r => 300 + (String.ofList r).toNat!
    | 'o' :: r => 1000 + (String.ofList r).toNat!
    | _ => 5000
def showV (v : Nat) : String :=
  if v == 0 then "u" else if v ≥ 5000 then "x" else if v ≥ 1000 then s!"o{v - 1000}"
  else if v ≥ 300 then s!"r{v - 300}" else if v ≥ 200 then s!"f{v - 200}" else s!"n{v - 100}"
def keyOf (t : String) : Key :=
  match t.toList with
  | 'i' :: r => .idx (String.ofList r).toNat!
  | 'I' :: r => .idx (String.ofList r).toNat!
  | 'y' :: r => .sym (String.ofList r).toNat!
  | _ :: r => .str (String.ofList r)
  | [] => .str ""
def showK : Key → String
  | .idx n => s!"i{n}"
  | .str s => s!"s{s}"
  | .sym n => s!"y{n}"
def protoOf (t : String) : Option Nat :=
  if t == "null" then none else if t == "O" then some 900 else if t == "F" then some 901
  else match t.toList with
    | 'o' :: r => some (String.ofList r).toNat!
    | _ => some 999
def showProto : Option Nat → String
  | none => "null"
  | some 900 => "O"
  | some 901 => "F"
  | some 999 => "?"
  | some 998 => "?"
  | some n => s!"o{n}"
def recvOf (o : Nat) (t : String) : Recv :=
  if t == "=" then .obj o else if t == "p" then .prim
  else match t.toList with
    | 'o' :: r => .obj (String.ofList r).toNat!
    | _ => .prim
def showRecv : Recv → String
  | .obj n => s!"o{n}"
  | .prim => "p"
def objOfTok (t : String) : Nat :=
  match t.toList with
  | 'o' :: r => (String.ofList r).toNat!
  | _ => 0
def flagTok (t : String) : Flag := if t == "t" then .fTrue else if t == "f" then .fFalse else .notSet
def accTok (t : String) : Option (Option Nat) :=
  if t == "-" then none else if t == "u" then some none else some (some (valOf t))

def showFnO : Option Nat → String
  | none => "u"
  | some f => showV f
def tf (b : Bool) : String := if b then "t" else "f"
def showProp : SProp Nat → String
  | .data v w e c => s!"D/{showV v}/{tf w}/{tf e}/{tf c}"
  | .acc g s e c => s!"A/{showFnO g}/{showFnO s}/{tf e}/{tf c}"

def fuelOf (st : St) : Nat := st.n + 4

/-- for-in order: enumerable string-keyed properties along the chain, own keys first, shadowed names skipped. -/
def forIn (xh : XHeap Nat) : List Nat → List Key → List Key
  | [], _ => []
  | o :: rest, seen =>
    let ks := (xOwnKeys xh o).filter (fun k => !k.isSym)
    let fresh := ks.filter (fun k => !seen.contains k)
    let en := fresh.filter (fun k => match xGetOwn xh o k with | some p => p.enumerable | none => false)
    en ++ forIn xh rest (seen ++ fresh)

def dumpObj (st : St) (i : Nat) : String :=
  let o := st.heap i
  let xh := st.xh
  let keys := xOwnKeys xh i
  let ks := ",".intercalate (keys.map showK)
  let ps := ",".intercalate (keys.filterMap (fun k => (xGetOwn xh i k).map (fun p => showK k ++ ":" ++ showProp p)))
  let fi := ",".intercalate ((forIn xh (chainOf st.heap (fuelOf st) i) []).map showK)
  s!"O{i} proto={showProto o.proto} ext={tf o.ext} fz={tf (xTestIntegrity xh i true)} sl={tf (xTestIntegrity xh i false)} keys=[{ks}] props=[{ps}] forin=[{fi}]"

def dumpAll (st : St) : String :=
  " | ".intercalate ((List.range st.n).map (dumpObj st))

def xv : Nat := 5000
def initProps (kind : String) : List (Key × SProp Nat) :=
  let ln := [(Key.str "length", SProp.data xv false false true), (Key.str "name", SProp.data xv false false true)]
  if kind == "arrow" || kind == "bound" then ln
  else if kind == "class" then ln ++ [(Key.str "prototype", SProp.data xv false false false)]
  -- an ordinary function: `prototype` (writable, not enumerable, not configurable) is created with the function, right
  -- after `length` and `name` (the mechanism creates it lazily: theorem `lazyPrototype_refines_eager`)
  else if kind == "func" then ln ++ [(Key.str "prototype", SProp.data xv true false false)]
  -- String exotic object `new String("ab")` (10.4.3) = ordinary object + the virtual index properties (theorem
  -- `stringExotic_*` in Props): indices non-writable, enumerable, non-configurable; `length` frozen
  else if kind == "strobj" then
    [(Key.idx 0, SProp.data xv false true false), (Key.idx 1, SProp.data xv false true false),
     (Key.str "length", SProp.data xv false false false)]
  -- unmapped (strict) arguments object of f(101, 102) (10.4.4.6): an ORDINARY object with these own properties;
  -- `callee` is the %ThrowTypeError% accessor (foreign function token: calling it throws), y3 = Symbol.iterator
  -- mapped (sloppy) arguments object of f(101, 102): observationally ordinary while the parameter variables are private
  -- (theorems `mappedArguments_*`); `callee` is the function (foreign value), y3 = Symbol.iterator
  else if kind == "args" then
    [(Key.idx 0, SProp.data 101 true true true), (Key.idx 1, SProp.data 102 true true true),
     (Key.str "length", SProp.data xv true false true),
     (Key.str "callee", SProp.data xv true false true),
     (Key.sym 3, SProp.data xv true false true)]
  else if kind == "sargs" then
    [(Key.idx 0, SProp.data 101 true true true), (Key.idx 1, SProp.data 102 true true true),
     (Key.str "length", SProp.data xv true false true),
     (Key.str "callee", SProp.acc (some xv) (some xv) false false),
     (Key.sym 3, SProp.data xv true false true)]
  else []

def resTok (via : String) (ok : Bool) : String :=
  if via == "S" then "-" else if via == "R" then tf ok else if ok then "ok" else "throw"

def finish (st : St) (res : String) (dump : Bool) : St × String :=
  (st, if dump then res ++ " # " ++ dumpAll st else res)

def step (st : St) (line : String) : St × String :=
  let w := words line
  match w with
  | "T" :: rest => (st, tableCell rest)
  | "J" :: rest => (st, judgeCell2 rest)
  | ["N"] => (St.init, "new")
  | ["mk", id, kind, proto] =>
    let i := id.toNat!
    let pr := if kind == "u8" && proto == "?" then some 998 else protoOf proto
    let o : Obj Nat := { proto := pr, ext := true, props := initProps kind }
    let ty := if kind == "u8" then (fun j => if j = i then some [5000, 5000] else st.typed j) else st.typed
    ({ st with heap := st.heap.upd i o, n := max st.n (i + 1), typed := ty }, "mk")
  | ["def", via, o, k, dv, dw, de, dc, dg, ds, dump] =>
    let oi := objOfTok o
    let d : Desc Nat := { value := if dv == "-" then none else some (valOf dv), writable := flagTok dw,
                          enumerable := flagTok de, configurable := flagTok dc, getter := accTok dg, setter := accTok ds }
    let key := keyOf k
    let (x, ok) := xDefine 0 coerceU8 st.xh oi key d
    finish (st.ofX x) (resTok via ok) (dump == "D")
  | ["set", via, o, k, v, r, dump] =>
    let oi := objOfTok o
    let recv := recvOf oi r
    let (x, a) := xSet 0 coerceU8 st.xh (chainOf st.heap (fuelOf st) oi) (keyOf k) (valOf v) recv
    let res := match a with
      | .fail => resTok via false
      | .ok => resTok via true
      | .call f this arg =>
        if f ≥ 5000 then "throw"                       -- %ThrowTypeError% (arguments.callee)
        else resTok via true ++ s!" s{f - 200}@{showRecv this}={showV arg}"
    finish (st.ofX x) res (dump == "D")
  | ["get", via, o, k, r, dump] =>
    let oi := objOfTok o
    let recv := recvOf oi r
    let res := match xGet 0 st.xh (chainOf st.heap (fuelOf st) oi) (keyOf k) recv with
      | .val v => showV v
      | .call f this =>
        if f == 5002 then
          (match this with
           | .obj t => if (st.typed t).isSome then "x" else "throw"     -- %TypedArray%.prototype.length
           | .prim => "throw")
        else if f ≥ 5000 then "throw" else s!"r{f - 200} g{f - 200}@{showRecv this}"
    finish st res (dump == "D")
  | ["del", via, o, k, dump] =>
    let oi := objOfTok o
    let (x, ok) := xDelete st.xh oi (keyOf k)
    let res := if via == "S" then tf ok else if via == "T" then (if ok then "t" else "throw") else resTok via ok
    finish (st.ofX x) res (dump == "D")
  | ["has", _, o, k, dump] =>
    let oi := objOfTok o
    finish st (tf (xHas st.xh (chainOf st.heap (fuelOf st) oi) (keyOf k))) (dump == "D")
  | ["hasown", _, o, k, dump] =>
    finish st (tf (xGetOwn st.xh (objOfTok o) (keyOf k)).isSome) (dump == "D")
  | ["pe", via, o, dump] =>
    finish { st with heap := sPreventExt st.heap (objOfTok o) } (resTok via true) (dump == "D")
  | ["sp", via, o, p, dump] =>
    let (h, ok) := sSetProto st.heap (fuelOf st) (objOfTok o) (protoOf p)
    finish { st with heap := h } (resTok via ok) (dump == "D")
  | ["frz", o, dump] =>
    let (x, ok) := xSetIntegrity st.xh (objOfTok o) true
    finish (st.ofX x) (if ok then "ok" else "throw") (dump == "D")
  | ["seal", o, dump] =>
    let (x, ok) := xSetIntegrity st.xh (objOfTok o) false
    finish (st.ofX x) (if ok then "ok" else "throw") (dump == "D")
  | "M" :: id :: rest =>
    -- monitor: parse one object dump (tokens proto= ext= keys=[..] props=[..]) and compare with the previous one
    let field (name : String) : String :=
      match rest.find? (fun t => t.startsWith (name ++ "=")) with
      | some t => (t.drop (name.length + 1)).toString
      | none => ""
    let unbr (s : String) : List String :=
      let inner := String.ofList ((s.toList.drop 1).reverse.drop 1).reverse
      if inner.isEmpty then [] else inner.splitOn ","
    let parseProp (t : String) : Option (Key × SProp Nat) :=
      match t.splitOn ":" with
      | [k, d] =>
        match d.splitOn "/" with
        | ["D", v, w, e, c] => some (keyOf k, .data (valOf v) (w == "t") (e == "t") (c == "t"))
        | ["A", g, s, e, c] => some (keyOf k, .acc (if g == "u" then none else some (valOf g)) (if s == "u" then none else some (valOf s)) (e == "t") (c == "t"))
        | _ => none
      | _ => none
    let props := (unbr (field "props")).filterMap parseProp
    let sn : Snap Nat := { proto := protoOf (field "proto"), ext := field "ext" == "t",
                           keys := (unbr (field "keys")).map keyOf, props := props }
    let i := id.toNat!
    let ord := field "ord" != "f"
    let okSelf := keysNodup sn.keys && (!ord || keysOrdered sn.keys) && sn.keys == sn.props.map (·.1)
      && props.length == (unbr (field "props")).length
    let okStep := match st.prev.find? (fun p => p.1 == i) with
      | some (_, p) => monitorStep p sn
      | none => true
    let why := (if !keysNodup sn.keys then " dup-keys" else "") ++ (if ord && !keysOrdered sn.keys then " key-order" else "")
      ++ (if !(sn.keys == sn.props.map (·.1)) then " keys-vs-descriptors" else "") ++ (if !okStep then " step" else "")
    ({ st with prev := (i, sn) :: st.prev.filter (fun p => p.1 != i) }, if okSelf && okStep then "ok" else "bad" ++ why)
  | _ => (st, "bad-line")

def main : IO Unit := lineLoop step St.init

end GojaModel.C04.Driver
