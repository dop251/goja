/-
  C04 — histories as folds of a step function over an operation list: an invariant, a preorder, and a refinement under
  an invariant pass from one step to every history.  The layers over the spec heap (arguments, templated, String, lazy
  `prototype`, typed arrays, Go map) and the heap itself prove a step lemma and call one of these.
-/
namespace GojaModel.C04

theorem foldl_inv {σ Op : Type _} {P : σ → Prop} {step : σ → Op → σ} (ops : List Op)
    (h : ∀ s, P s → ∀ op ∈ ops, P (step s op)) : ∀ s, P s → P (ops.foldl step s) := by
  induction ops with
  | nil => exact fun _ hs => hs
  | cons op ops ih =>
    exact fun s hs => ih (fun s hs o ho => h s hs o (List.mem_cons_of_mem _ ho)) _ (h s hs op List.mem_cons_self)

theorem foldl_rel_inv {σ Op : Type _} {R : σ → σ → Prop} {P : σ → Prop} {step : σ → Op → σ}
    (refl : ∀ s, R s s) (trans : ∀ {a b c}, R a b → R b c → R a c) (ops : List Op)
    (h : ∀ s, P s → ∀ op ∈ ops, R s (step s op) ∧ P (step s op)) (s : σ) (hs : P s) :
    R s (ops.foldl step s) ∧ P (ops.foldl step s) :=
  foldl_inv (P := fun s' => R s s' ∧ P s') ops
    (fun s' hs' op hm => ⟨trans hs'.1 (h s' hs'.2 op hm).1, (h s' hs'.2 op hm).2⟩) s ⟨refl s, hs⟩

theorem foldl_rel {σ Op : Type _} {R : σ → σ → Prop} {step : σ → Op → σ}
    (refl : ∀ s, R s s) (trans : ∀ {a b c}, R a b → R b c → R a c) (ops : List Op)
    (h : ∀ s, ∀ op ∈ ops, R s (step s op)) (s : σ) : R s (ops.foldl step s) :=
  (foldl_rel_inv (P := fun _ => True) refl trans ops (fun s _ op hm => ⟨h s op hm, trivial⟩) s trivial).1

theorem foldl_refines {σ τ Op : Type _} {P : σ → Prop} {step : σ → Op → σ} {astep : τ → Op → τ} {abs : σ → τ}
    (ops : List Op) (h : ∀ s, P s → ∀ op ∈ ops, abs (step s op) = astep (abs s) op ∧ P (step s op)) :
    ∀ s, P s → abs (ops.foldl step s) = ops.foldl astep (abs s) ∧ P (ops.foldl step s) := by
  induction ops with
  | nil => exact fun _ hs => ⟨rfl, hs⟩
  | cons op ops ih =>
    intro s hs
    obtain ⟨e, hs'⟩ := h s hs op List.mem_cons_self
    rw [List.foldl_cons, List.foldl_cons, ← e]
    exact ih (fun s hs o ho => h s hs o (List.mem_cons_of_mem _ ho)) _ hs'

end GojaModel.C04
