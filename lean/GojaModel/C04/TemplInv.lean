/-
  C04 — essential invariants of a lazily-templated built-in over ARBITRARY histories, at MECHANISM level
  (object_template.go: on-demand materialisation of string values / the symbol table, white holes).  Here: the
  invariants of the eager ordinary property lists, which rest on `_defineOwnProperty` refining
  ValidateAndApplyPropertyDescriptor (`cell_any`); the history refinement `run_refines` (Templ.lean) carries them over
  to the lazy object (Props.lean, `templated_hist_invariants`).
-/
import GojaModel.C04.Templ
import GojaModel.C04.Hist
namespace GojaModel.C04

variable {V : Type}

def AllInv (l : List (Key × Stored V)) : Prop := ∀ ks ∈ l, ks.2.repInv = true

def absL (undef : V) (l : List (Key × Stored V)) : List (Key × SProp V) := l.map (fun kp => (kp.1, absProp undef kp.2))

theorem ordDefine_objStep [DecidableEq V] (undef : V) (l : List (Key × Stored V)) (k : Key) (d : Desc V) (ext : Bool)
    (hw : d.wellFormed = true) (hinv : AllInv l) :
    ObjStep undef true ⟨none, ext, absL undef l⟩ ⟨none, ext, absL undef (ordDefine undef l k d ext)⟩
    ∧ AllInv (ordDefine undef l k d ext) := by
  obtain ⟨href, hrep⟩ := cell_any undef (lookup l k) d ext hw fun s hs => hinv (k, s) (mem_of_lookup _ _ _ hs)
  unfold ordDefine
  cases hd : defineOwn undef (lookup l k) d ext with
  | none => exact ⟨.same, hinv⟩
  | some v =>
    rw [hd] at href
    refine ⟨?_, fun ks hks => (mem_put _ _ _ _ hks).elim (fun e => e ▸ hrep v hd) (hinv ks)⟩
    simp only [absL, map_put]
    exact .put k d _ (fun _ => hw) (by rw [lookup_map]; exact href.symm)

theorem ordDelete_objStep [DecidableEq V] (undef : V) (l : List (Key × Stored V)) (k : Key) (ext : Bool) (hinv : AllInv l) :
    ObjStep undef true ⟨none, ext, absL undef l⟩ ⟨none, ext, absL undef (ordDelete l k)⟩ ∧ AllInv (ordDelete l k) := by
  unfold ordDelete
  cases hq : lookup l k with
  | none => exact ⟨.same, hinv⟩
  | some v =>
    cases hc : checkDelete v with
    | false => simp only [hc, Bool.false_eq_true, if_false]; exact ⟨.same, hinv⟩
    | true =>
      simp only [hc, if_true, absL, map_eraseKey]
      exact ⟨.erase (a := ⟨none, ext, absL undef l⟩) k (absProp undef v)
        (by show lookup (absL undef l) k = _; rw [absL, lookup_map, hq]; rfl) (by rw [← checkDelete_abs]; exact hc),
        fun ks hks => hinv ks (mem_eraseKey _ _ _ hks)⟩

/-- operations of a JS-reachable history: well-formed descriptors; the raw symbol store (`_putSym`, runtime set-up) is
not one of them -/
def TOp.wf : TOp V → Bool
  | .defineStr _ d => d.wellFormed
  | .defineSym _ d => d.wellFormed
  | .deleteStr _ => true
  | .deleteSym _ => true
  | .putSym _ _ => false

structure Eager.Inv (e : Eager V) : Prop where
  strs : AllInv e.strs
  syms : AllInv e.syms

def Eager.sel (e : Eager V) (sym : Bool) : List (Key × Stored V) := if sym then e.syms else e.strs

theorem Eager.Inv.sel {e : Eager V} (h : e.Inv) (sym : Bool) : AllInv (e.sel sym) := by
  cases sym
  · exact h.strs
  · exact h.syms

/-! An operation of the eager object acts on ONE of the two lists, by one of three list operations. -/

inductive LOp (V : Type) where
  | define (k : Key) (d : Desc V)
  | delete (k : Key)
  | put (k : Key) (v : Stored V)

def lstep [DecidableEq V] (undef : V) (ext : Bool) (l : List (Key × Stored V)) : LOp V → List (Key × Stored V)
  | .define k d => ordDefine undef l k d ext
  | .delete k => ordDelete l k
  | .put k v => put l k v

def LOp.wf : LOp V → Bool
  | .define _ d => d.wellFormed
  | .delete _ => true
  | .put _ _ => false

def TOp.sym : TOp V → Bool
  | .defineStr .. | .deleteStr .. => false
  | _ => true

def TOp.lop : TOp V → LOp V
  | .defineStr k d | .defineSym k d => .define k d
  | .deleteStr k | .deleteSym k => .delete k
  | .putSym k v => .put k v

theorem TOp.lop_wf (op : TOp V) : op.lop.wf = op.wf := by cases op <;> rfl

theorem Eager.sel_step [DecidableEq V] (undef : V) (e : Eager V) (op : TOp V) (sym : Bool) :
    (e.step undef op).sel sym = if sym = op.sym then lstep undef e.ext (e.sel sym) op.lop else e.sel sym := by
  cases op <;> cases sym <;> rfl

theorem Eager.ext_step [DecidableEq V] (undef : V) (e : Eager V) (op : TOp V) : (e.step undef op).ext = e.ext := by
  cases op <;> rfl

theorem lstep_objStep [DecidableEq V] (undef : V) (ext : Bool) (l : List (Key × Stored V)) (op : LOp V)
    (hw : op.wf = true) (hinv : AllInv l) :
    ObjStep undef true ⟨none, ext, absL undef l⟩ ⟨none, ext, absL undef (lstep undef ext l op)⟩
    ∧ AllInv (lstep undef ext l op) := by
  cases op with
  | define k d => exact ordDefine_objStep undef l k d ext hw hinv
  | delete k => exact ordDelete_objStep undef l k ext hinv
  | put k v => cases hw

theorem eager_step_objStep [DecidableEq V] (undef : V) (e : Eager V) (op : TOp V) (hw : op.wf = true) (sym : Bool)
    (hinv : AllInv (e.sel sym)) :
    ObjStep undef true ⟨none, e.ext, absL undef (e.sel sym)⟩ ⟨none, e.ext, absL undef ((e.step undef op).sel sym)⟩
    ∧ AllInv ((e.step undef op).sel sym) := by
  rw [Eager.sel_step]
  split
  · exact lstep_objStep undef e.ext _ _ (op.lop_wf ▸ hw) hinv
  · exact ⟨.same, hinv⟩

theorem eager_run [DecidableEq V] (undef : V) (ops : List (TOp V)) (hw : ∀ op ∈ ops, op.wf = true) (sym : Bool)
    (e : Eager V) (hi : AllInv (e.sel sym)) :
    let e' := ops.foldl (Eager.step undef) e
    Frozen (absL undef (e.sel sym)) (absL undef (e'.sel sym))
    ∧ NonExt ⟨none, e.ext, absL undef (e.sel sym)⟩ ⟨none, e'.ext, absL undef (e'.sel sym)⟩ :=
  (foldl_rel_inv
    (R := fun e e' : Eager V => Frozen (absL undef (e.sel sym)) (absL undef (e'.sel sym))
      ∧ NonExt ⟨none, e.ext, absL undef (e.sel sym)⟩ ⟨none, e'.ext, absL undef (e'.sel sym)⟩)
    (P := fun e => AllInv (e.sel sym))
    (fun _ => ⟨Frozen.refl _, NonExt.refl _⟩) (fun h1 h2 => ⟨h1.1.trans h2.1, h1.2.trans h2.2⟩) ops
    (fun e hi op hm =>
      have ⟨hs, hi'⟩ := eager_step_objStep undef e op (hw op hm) sym hi
      ⟨⟨hs.frozen, Eager.ext_step undef e op ▸ hs.nonExt⟩, hi'⟩) e hi).1

end GojaModel.C04
