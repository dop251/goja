/-
  C04 — property theorems for the Go map wrapper `objectGoMapSimple` (every `theorem` here is one audited obligation).
  Mechanism model: `GoMap.lean` (transcribed text tied by `Tie2.lean`: `gm_*`, `host_checkPropertyDescr`).  The value read
  back is `conv v` (= ToValue(Export(v)), bridge semantics: C13), `conv` arbitrary.  The wrapper does not refine an ordinary
  object (attributes of a new key are forced to true; `enumerable:false`/`configurable:false` are accepted and ignored), so the
  ESSENTIAL INVARIANTS of ECMA-262 6.1.7.3 are proved directly, over arbitrary histories of
  defineProperty / delete / [[Set]] (own, new, or handled by the chain) / preventExtensions / setPrototypeOf.
-/
import GojaModel.C04.GoMap
import GojaModel.C04.HistKeys
namespace GojaModel.C04

/-- [[GetOwnProperty]] never reports a non-configurable or non-writable property: every own property of the wrapper is
`{value, writable: true, enumerable: true, configurable: true}` — so every "previously observed non-configurable /
non-writable" clause of the essential invariants holds vacuously, in every reachable state. -/
theorem goMap_properties_always_configurable_writable {V} (conv : V → V) (undef : V) (m : GMap V) (ops : List (GOp V))
    (k : Key) (p : SProp V) (h : (ops.foldl (GMap.step conv undef) m).getOwn k = some p) :
    ∃ v, p = .data v true true true := by
  unfold GMap.getOwn at h
  cases hl : lookup (ops.foldl (GMap.step conv undef) m).data k with
  | none => rw [hl] at h; cases h
  | some v => rw [hl] at h; exact ⟨v, by cases h; rfl⟩

/-- [[Delete]] answers true and the property is gone (keys unique). -/
theorem goMap_delete_removes_key {V} (m : GMap V) (h : m.WF) (k : Key) :
    (m.delete k).2 = true ∧ (m.delete k).1.getOwn k = none := by
  refine ⟨rfl, ?_⟩
  simp only [GMap.delete, GMap.getOwn, lookup_erase_self _ _ h, Option.map_none]

/-- [[DefineOwnProperty]] answering true leaves the property present, holding the descriptor's value (after the export
round trip) when it has a [[Value]] field. -/
theorem goMap_define_true_installs_value {V} (conv : V → V) (undef : V) (m : GMap V) (k : Key) (d : Desc V)
    (h : (m.define conv undef k d).2 = true) :
    ((m.define conv undef k d).1.has k = true)
    ∧ ∀ v, d.value = some v → (m.define conv undef k d).1.getOwn k = some (.data (conv v) true true true) := by
  unfold GMap.define at h ⊢
  split
  · rename_i hc; simp [hc] at h
  · split
    · rename_i hc
      cases hv : d.value with
      | none =>
        simp only
        cases hh : m.has k with
        | true => simp only [Bool.not_true, Bool.false_eq_true, if_false]; exact ⟨hh, fun v hv' => by cases hv'⟩
        | false =>
          simp only [Bool.not_false, if_true]
          exact ⟨by simp [GMap.has, lookup_put_same], fun v hv' => by cases hv'⟩
      | some v =>
        simp only
        refine ⟨by simp [GMap.has, lookup_put_same], fun v' hv' => ?_⟩
        cases hv'
        simp [GMap.getOwn, lookup_put_same]
    · rename_i hc1 hc2; simp [hc1, hc2] at h

/-- Own keys stay duplicate-free over any history. -/
theorem goMap_hist_keys_unique {V} (conv : V → V) (undef : V) (m : GMap V) (h : m.WF) (ops : List (GOp V)) :
    (keysOf (ops.foldl (GMap.step conv undef) m).data).Nodup :=
  foldl_inv (P := GMap.WF) ops (fun m h op _ => gstep_wf (gm_step_gstep conv undef m op) h) m h

/-- Once non-extensible: stays non-extensible, keeps its prototype, gains no key — whatever the history. -/
theorem goMap_hist_nonextensible_no_new_keys_fixed_proto {V} (conv : V → V) (undef : V) (m : GMap V) (hext : m.ext = false)
    (ops : List (GOp V)) :
    (ops.foldl (GMap.step conv undef) m).ext = false ∧ (ops.foldl (GMap.step conv undef) m).proto = m.proto
    ∧ ∀ k, k ∈ keysOf (ops.foldl (GMap.step conv undef) m).data → k ∈ keysOf m.data :=
  foldl_inv (P := fun m' => m'.ext = false ∧ m'.proto = m.proto ∧ ∀ k, k ∈ keysOf m'.data → k ∈ keysOf m.data) ops
    (fun m' ⟨e, p, ks⟩ op _ =>
      let ⟨e', p', ks'⟩ := gstep_nonext (gm_step_gstep conv undef m' op) e
      ⟨e', p'.trans p, fun k hk => ks k (ks' k hk)⟩)
    m ⟨hext, rfl, fun _ hk => hk⟩

/-- The monitor the check runs on observed states (`monitorStep`, `keysNodup`; key ORDER is not judged for a Go map, whose
iteration order is unspecified) accepts every consecutive pair of states along ANY history of the mechanism, and every
state is a consistent snapshot: the essential invariants, as monitored, hold for the Go map wrapper. -/
theorem goMap_monitor_accepts_every_history {V} [DecidableEq V] (conv : V → V) (undef : V) (m : GMap V) (h : m.WF)
    (pre : List (GOp V)) (op : GOp V) :
    monitorStep (pre.foldl (GMap.step conv undef) m).snap ((pre ++ [op]).foldl (GMap.step conv undef) m).snap = true
    ∧ keysNodup ((pre ++ [op]).foldl (GMap.step conv undef) m).snap.keys = true
    ∧ ((pre ++ [op]).foldl (GMap.step conv undef) m).snap.keys = ((pre ++ [op]).foldl (GMap.step conv undef) m).snap.props.map (·.1) := by
  have hwf := goMap_hist_keys_unique conv undef m h (pre ++ [op])
  refine ⟨?_, (keysNodup_iff _).mpr hwf, by simp [GMap.snap, keysOf, List.map_map, Function.comp_def]⟩
  rw [List.foldl_append]
  exact gm_monitor_step conv undef _ op

end GojaModel.C04
