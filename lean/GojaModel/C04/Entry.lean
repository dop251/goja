/-
  C04 — the entry points (syntax, Object.*/Reflect.*, Go API) and the spelling of an index key (valueInt vs canonical
  numeric string): which hand-written copy of an internal method each of them reaches, and the lemmas (`*Entry_eq`) by
  which the answer does not depend on it (the theorem is `syntax_eq_reflect_eq_goapi`, Props.lean).
-/
import GojaModel.C04.LemmasGet
namespace GojaModel.C04

inductive Entry where
  | syntax        -- o[k] = v (vm.go `_setElem`: `obj.setOwn`), o[k] (`_getElem`: `obj.get(k, v)`), delete o[k], k in o
  | reflect       -- Reflect.set/get/deleteProperty/has/defineProperty, Object.defineProperty (`Object.set/get/delete/…`)
  | goapi         -- Object.Set/Get/Delete/DefineDataProperty (value.go:806-925): always the string-keyed copy (or Sym)
  deriving DecidableEq, Repr

/-- how an index key arrives: as a `valueInt` (the Idx copies) or as its canonical numeric string (the Str copies,
`toPropertyKey` leaves a string a string) -/
inductive Spelling where
  | int | str
  deriving DecidableEq, Repr

/-- which copy `Object.set/get/delete/hasProperty/defineOwnProperty` (object.go:1465-1659: `switch name.(type)`) dispatch to -/
inductive Copy where
  | cStr | cIdx | cSym
  deriving DecidableEq, Repr

def copyOf (e : Entry) (sp : Spelling) (k : Key) : Copy :=
  match k with
  | .sym _ => .cSym
  | .str _ => .cStr
  | .idx _ => if e = .goapi then .cStr else (match sp with | .int => .cIdx | .str => .cStr)

/-- [[Set]] with the object itself as receiver through an entry point.  syntax: `Object.setOwn` object.go:1556; reflect:
`Object.set` :1545 with `receiver == o`; goapi: `o.self.setOwnStr/Sym` value.go:904-913. -/
def setEntry {V} [DecidableEq V] (undef : V) (mv : MView V) (e : Entry) (sp : Spelling) (o : Nat) (rest : List Nat)
    (k : Key) (v : V) : Act (Stored V) V :=
  match e with
  | .reflect =>
    (match copyOf e sp k with
     | .cStr => objSetStr undef mv (o :: rest) k v (.obj o)
     | .cIdx => objSetIdx undef mv (o :: rest) k v (.obj o)
     | .cSym => objSetSym undef mv (o :: rest) k v (.obj o))
  | _ =>
    (match copyOf e sp k with
     | .cStr => setOwnStr mv (o :: rest) k v
     | .cIdx => setOwnIdx mv (o :: rest) k v
     | .cSym => setOwnSym mv (o :: rest) k v)

/-- [[Get]] with the object itself as receiver (`receiver == nil` in the Go API, `v` in `_getElem`, the target in Reflect.get) -/
def getEntry {V} (undef : V) (mv : MView V) (e : Entry) (sp : Spelling) (o : Nat) (rest : List Nat) (k : Key) : GetRes V :=
  match copyOf e sp k with
  | .cStr => getStr undef mv (o :: rest) k (.obj o)
  | .cIdx => getIdx undef mv (o :: rest) k (.obj o)
  | .cSym => getSym undef mv (o :: rest) k (.obj o)

def hasEntry {V} (mv : MView V) (e : Entry) (sp : Spelling) (chain : List Nat) (k : Key) : Bool :=
  match copyOf e sp k with
  | .cStr => hasPropertyStr mv chain k
  | .cIdx => hasPropertyIdx mv chain k
  | .cSym => hasPropertySym mv chain k

def deleteEntry {V} (mv : MView V) (e : Entry) (sp : Spelling) (o : Nat) (k : Key) : DelRes :=
  match copyOf e sp k with
  | .cStr => deleteStr mv o k
  | .cIdx => deleteIdx mv o k
  | .cSym => deleteSym mv o k

/-- `defineOwnPropertyStr` object.go:766 / `defineOwnPropertyIdx` :779 (→ Str with `idx.string()`) / `defineOwnPropertySym` :783 -/
def defineOwnPropertyStr {V} [DecidableEq V] (undef : V) (mv : MView V) (o : Nat) (k : Key) (d : Desc V) : Act (Stored V) V :=
  defineAct undef mv o k d
def defineOwnPropertyIdx {V} [DecidableEq V] (undef : V) (mv : MView V) (o : Nat) (k : Key) (d : Desc V) : Act (Stored V) V :=
  defineOwnPropertyStr undef mv o k d
def defineOwnPropertySym {V} [DecidableEq V] (undef : V) (mv : MView V) (o : Nat) (k : Key) (d : Desc V) : Act (Stored V) V :=
  match defineOwn undef (mv.own o k) d (mv.ext o) with          -- :784-795
  | some s => .write o k s (mv.own o k).isNone
  | none => .fail
def defineEntry {V} [DecidableEq V] (undef : V) (mv : MView V) (e : Entry) (sp : Spelling) (o : Nat) (k : Key) (d : Desc V) :
    Act (Stored V) V :=
  match copyOf e sp k with
  | .cStr => defineOwnPropertyStr undef mv o k d
  | .cIdx => defineOwnPropertyIdx undef mv o k d
  | .cSym => defineOwnPropertySym undef mv o k d

theorem objSetStr_self {V} [DecidableEq V] (undef : V) (mv : MView V) (o : Nat) (rest : List Nat) (k : Key) (v : V) :
    objSetStr undef mv (o :: rest) k v (.obj o) = setOwnStr mv (o :: rest) k v := by
  rw [objSetStr_unfold]; simp

/-- With the object as receiver `Object.set*` is `setOwn*`; the Idx copy delegates to the Str copy and the Sym copy is the
same function, so the three branches of the dispatch agree. -/
theorem setEntry_eq {V} [DecidableEq V] (undef : V) (mv : MView V) (e : Entry) (sp : Spelling) (o : Nat) (rest : List Nat) (k : Key) (v : V) :
    setEntry undef mv e sp o rest k v = setOwnStr mv (o :: rest) k v := by
  simp only [setEntry, objSetStr_unfold, objSetIdx_unfold, objSetSym_unfold, BEq.rfl, if_true, setOwnIdx,
    (setSym_eq_setStr_aux mv k v (o :: rest)).1]
  cases e <;> cases copyOf _ sp k <;> rfl

theorem getEntry_eq {V} (undef : V) (mv : MView V) (e : Entry) (sp : Spelling) (o : Nat) (rest : List Nat) (k : Key) :
    getEntry undef mv e sp o rest k = getStr undef mv (o :: rest) k (.obj o) := by
  simp only [getEntry, getIdx, getSym_eq_getStr]
  cases copyOf e sp k <;> rfl

theorem hasEntry_eq {V} (mv : MView V) (e : Entry) (sp : Spelling) (chain : List Nat) (k : Key) :
    hasEntry mv e sp chain k = hasPropertyStr mv chain k := by
  simp only [hasEntry, hasPropertyIdx, hasSym_eq_hasStr]
  cases copyOf e sp k <;> rfl

theorem deleteEntry_eq {V} (mv : MView V) (e : Entry) (sp : Spelling) (o : Nat) (k : Key) :
    deleteEntry mv e sp o k = deleteStr mv o k := by
  unfold deleteEntry
  cases copyOf e sp k <;> rfl

theorem defineEntry_eq {V} [DecidableEq V] (undef : V) (mv : MView V) (e : Entry) (sp : Spelling) (o : Nat) (k : Key) (d : Desc V) :
    defineEntry undef mv e sp o k d = defineAct undef mv o k d := by
  unfold defineEntry
  cases copyOf e sp k <;> rfl

end GojaModel.C04
