/-
  C04 — `insertNat` / `sortNat` of Model.lean (the insertion sort OrdinaryOwnPropertyKeys orders index keys with): a
  permutation, strictly ascending on duplicate-free input, and what sorting does to a list that starts below the rest
  (the String exotic key order).  `insertAsc` of PropOrder is `insertNat` under `Key.idxVal`
  (LemmasOrder.lean).
-/
import GojaModel.C04.Model
namespace GojaModel.C04

theorem perm_insertNat (x : Nat) (l : List Nat) : (insertNat x l).Perm (x :: l) := by
  induction l with
  | nil => simp [insertNat]
  | cons a as ih =>
    simp only [insertNat]
    split
    · exact (List.Perm.cons a ih).trans (List.Perm.swap x a as)
    · exact List.Perm.refl _

theorem perm_sortNat (l : List Nat) : (sortNat l).Perm l := by
  induction l with
  | nil => simp [sortNat]
  | cons a as ih =>
    simp only [sortNat, List.foldr_cons]
    exact (perm_insertNat a _).trans (List.Perm.cons a ih)

theorem strict_insertNat (x : Nat) (l : List Nat) (h : l.Pairwise (· < ·)) (hx : x ∉ l) :
    (insertNat x l).Pairwise (· < ·) := by
  induction l with
  | nil => simp [insertNat]
  | cons a as ih =>
    have ha := List.pairwise_cons.mp h
    simp only [insertNat]
    split
    · next hax =>
      refine List.pairwise_cons.mpr ⟨fun b hb => ?_, ih ha.2 fun hm => hx (List.mem_cons_of_mem _ hm)⟩
      rcases List.mem_cons.mp ((perm_insertNat x as).mem_iff.mp hb) with rfl | hb
      · exact hax
      · exact ha.1 b hb
    · next hax =>
      have hxa : x < a := Nat.lt_of_le_of_ne (Nat.le_of_not_lt hax) fun e => hx (e ▸ List.mem_cons_self)
      refine List.pairwise_cons.mpr ⟨fun b hb => ?_, h⟩
      rcases List.mem_cons.mp hb with rfl | hb
      · exact hxa
      · exact Nat.lt_trans hxa (ha.1 b hb)

theorem strict_sortNat (l : List Nat) (hn : l.Nodup) : (sortNat l).Pairwise (· < ·) := by
  induction l with
  | nil => simp [sortNat]
  | cons a as ih =>
    have ha := List.nodup_cons.mp hn
    simp only [sortNat, List.foldr_cons]
    exact strict_insertNat a _ (ih ha.2) fun hm => ha.1 ((perm_sortNat as).mem_iff.mp hm)

theorem insertNat_lt_head (x : Nat) (l : List Nat) (h : ∀ y ∈ l, x < y) : insertNat x l = x :: l := by
  cases l with
  | nil => rfl
  | cons a as =>
    have := h a (List.mem_cons_self)
    simp [insertNat, Nat.not_lt.mpr (Nat.le_of_lt this)]

theorem sortNat_append (a b : List Nat) : sortNat (a ++ b) = a.foldr insertNat (sortNat b) := by
  simp [sortNat, List.foldr_append]

end GojaModel.C04
