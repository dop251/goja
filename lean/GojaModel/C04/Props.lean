/-
  C04 — property theorems (every `theorem` here is one audited proof obligation).
  The mechanism model transcribes /repo's current code (with the fix commits d72dab1, f4bc093).
  Values/functions are an ARBITRARY type `V` with decidable equality (SameValue = SameAs = equality: assumption).
-/
import GojaModel.C04.Entry
import GojaModel.C04.Cow
import GojaModel.C04.ArgsInv
import GojaModel.C04.TemplInv
import GojaModel.C04.TypedLemmas
import GojaModel.C04.FuncLazyHist
import GojaModel.C04.StrHist
import GojaModel.C04.HistIntegrity
namespace GojaModel.C04
-- `syntax_eq_reflect_eq_goapi` states a hypothesis, `hc`, that none of its conjuncts needs
set_option linter.unusedVariables false

/-- `_defineOwnProperty` = ValidateAndApplyPropertyDescriptor, for ALL existing slots (absent, plain value,
any `*valueProperty` satisfying the representation invariant), ALL well-formed partial descriptors, both
extensibilities; values abstract. -/
theorem defineOwn_refines_spec {V} [DecidableEq V] (undef : V) (existing : Option (Stored V)) (d : Desc V) (ext : Bool)
    (hw : d.wellFormed = true) (hinv : ∀ s, existing = some s → s.repInv = true) :
    (defineOwn undef existing d ext).map (absProp undef) =
      validateAndApply undef (existing.map (absProp undef)) d ext :=
  (cell_any undef existing d ext hw hinv).1

/-- … and its result satisfies the representation invariant again (so the hypothesis of the previous theorem is an
invariant of every history of defines/sets). -/
theorem defineOwn_preserves_repInv {V} [DecidableEq V] (undef : V) (existing : Option (Stored V)) (d : Desc V) (ext : Bool)
    (hw : d.wellFormed = true) (hinv : ∀ s, existing = some s → s.repInv = true) :
    ∀ s, defineOwn undef existing d ext = some s → s.repInv = true :=
  (cell_any undef existing d ext hw hinv).2

def nonConfigData : Stored Nat :=
  .prop { value := some 1, writable := false, configurable := false, enumerable := false, accessor := false,
          getterFunc := none, setterFunc := none }
def descGetUndefined : Desc Nat :=
  { value := none, writable := .notSet, enumerable := .notSet, configurable := .notSet, getter := some none, setter := none }
def descGetF : Desc Nat :=
  { value := none, writable := .notSet, enumerable := .notSet, configurable := .notSet, getter := some (some 7), setter := none }

/-- REGRESSION WITNESS (code before d72dab1): `Object.defineProperty(o,'x',{value:1}); Object.defineProperty(o,'x',{get:undefined})`
— the spec rejects (non-configurable data → accessor), the old code accepted and turned the property into an accessor. -/
theorem defineOwn_kind_change_prefix_witness :
    ¬ ((defineOwnPre 0 (some nonConfigData) descGetUndefined true).map (absProp 0) =
        validateAndApply 0 ((some nonConfigData).map (absProp 0)) descGetUndefined true) := by
  decide

/-- REGRESSION WITNESS (code before d72dab1): `o = {x:1}; Object.defineProperty(o,'x',{get:f})` left `writable = true` on
the accessor: the representation invariant that `isWritable()` relies on was broken. -/
theorem defineOwn_repInv_prefix_witness :
    ¬ (∀ s, defineOwnPre 0 (some (.plain 1)) descGetF true = some s → s.repInv = true) := by
  decide

/-- The three hand-written copies (string / index / symbol keys) of `Object.set*` + `setOwn*` + `setForeign*` are the
same function of the abstract key, for every prototype chain and receiver (index copy: given that `idxPropCount = 0`
means "no index-named own property", which `propOrder_idxCount` provides). -/
theorem setStr_eq_setIdx_eq_setSym {V} [DecidableEq V] (undef : V) (mv : MView V) (hc : IdxCountOk mv)
    (chain : List Nat) (v : V) (r : Recv) :
    (∀ k, objSetSym undef mv chain k v r = objSetStr undef mv chain k v r) ∧
    (∀ n, objSetIdx undef mv chain (.idx n) v r = objSetStr undef mv chain (.idx n) v r) := by
  constructor
  · intro k
    cases chain with
    | nil => rfl
    | cons o rest =>
      rw [objSetSym_unfold, objSetStr_unfold, (setSym_eq_setStr_aux mv k v (o :: rest)).1,
          (setSym_eq_setStr_aux mv k v (o :: rest)).2 r]
  · intro n
    cases chain with
    | nil => rfl
    | cons o rest =>
      rw [objSetIdx_unfold, objSetStr_unfold, setForeignIdx_eq_setForeignStr mv hc n v (o :: rest) r]
      rfl

/-- `Object.set` (all three copies) refines OrdinarySet with Receiver over ARBITRARY prototype chains and receivers
(receiver on the chain, off the chain, or a primitive), given the
representation invariant. -/
theorem set_refines_OrdinarySet {V} [DecidableEq V] (undef : V) (mv : MView V) (hinv : RepInvView mv)
    (hc : IdxCountOk mv) (o : Nat) (rest : List Nat) (k : Key) (v : V) (r : Recv) :
    (objSet undef mv (o :: rest) k v r).map (absProp undef) =
      ordinarySet undef (mv.abs undef) (o :: rest) k v r := by
  have hstr : (objSetStr undef mv (o :: rest) k v r).map (absProp undef) =
      ordinarySet undef (mv.abs undef) (o :: rest) k v r := by
    rw [objSetStr_unfold]
    have haux := setStr_refines_aux undef mv hinv k v (o :: rest)
    by_cases hr : r = .obj o
    · subst hr
      simp only [beq_self_eq_true, if_true]
      exact haux.1 o rest rfl
    · have : (r == Recv.obj o) = false := by simp [hr]
      simp only [this, Bool.false_eq_true, if_false]
      have hF := haux.2 r
      cases hf : setForeignStr mv (o :: rest) k v r with
      | some a => rw [hf] at hF; exact hF
      | none =>
        rw [hf] at hF
        simp only at hF
        rw [hF]
        exact recv_define_refines undef mv hinv k v r
  have heq := setStr_eq_setIdx_eq_setSym undef mv hc (o :: rest) v r
  cases k with
  | idx n => simp only [objSet]; rw [heq.2 n]; exact hstr
  | sym n => simp only [objSet]; rw [heq.1 (.sym n)]; exact hstr
  | str s => simp only [objSet]; exact hstr

def witView : MView Nat :=
  { own := fun _ _ => none, ext := fun _ => true, idxCount := fun _ => 0 }

/-- WITNESS for the defect repaired by f4bc093: with `receiver != o.val` in `setForeignSym`, `Reflect.set(T, sym, 1, P)`
with `P = proto(T)`, `G = proto(P)` does not write to `P` (object 1) as the string copy does, but to `G` (object 2). -/
theorem setForeignSym_prefix_witness :
    setForeignSymPre witView [0, 1, 2] (.sym 0) 1 (.obj 1) ≠ setForeignStr witView [0, 1, 2] (.sym 0) 1 (.obj 1) := by
  decide

/-- `getStr` / `getIdx` / `getSym` are the same function of an abstract key and refine OrdinaryGet (with Receiver) over
arbitrary prototype chains, given the representation invariant. -/
theorem get_copies_eq_and_refine_OrdinaryGet {V} (undef : V) (mv : MView V) (hinv : RepInvView mv) (chain : List Nat)
    (k : Key) (r : Recv) :
    getSym undef mv chain k r = getStr undef mv chain k r ∧ getIdx undef mv chain k r = getStr undef mv chain k r ∧
      getStr undef mv chain k r = ordinaryGet undef (mv.abs undef) chain k r :=
  ⟨getSym_eq_getStr undef mv k r chain, rfl, getStr_refines undef mv hinv k r chain⟩

/-- `hasPropertyStr/Idx/Sym` coincide and are OrdinaryHasProperty. -/
theorem has_copies_eq_and_refine_OrdinaryHasProperty {V} (undef : V) (mv : MView V) (chain : List Nat) (k : Key) :
    hasPropertySym mv chain k = hasPropertyStr mv chain k ∧ hasPropertyIdx mv chain k = hasPropertyStr mv chain k ∧
      hasPropertyStr mv chain k = ordinaryHas (mv.abs undef) chain k :=
  ⟨hasSym_eq_hasStr mv k chain, rfl, hasStr_refines undef mv k chain⟩

/-- `deleteStr/Idx/Sym` coincide and are OrdinaryDelete (a non-configurable property is never removed). -/
theorem delete_copies_eq_and_refine_OrdinaryDelete {V} (undef : V) (mv : MView V) (o : Nat) (k : Key) :
    deleteSym mv o k = deleteStr mv o k ∧ deleteIdx mv o k = deleteStr mv o k ∧
      deleteStr mv o k = ordinaryDelete (mv.abs undef) o k :=
  ⟨rfl, rfl, deleteStr_refines undef mv o k⟩

/-- For EVERY sequence of property creations, deletions and enumerations, after `ensurePropOrder` the name list is
`I ++ S` with `I` = exactly the index names, strictly ascending, and `S` = the other names in creation order. -/
theorem propOrder_sorted (ops : List POOp) :
    let s := (PO.empty.run ops).ensure
    let cr := createdRun [] ops
    s.names = s.A ++ s.B ∧ Asc s.A ∧ (∀ n, n ∈ s.A ↔ (n ∈ cr ∧ n.isIdx = true)) ∧ s.B = cr.filter nonIdx := by
  intro s cr
  have h : Rel s.A s.B s.C cr := rel_ensure (rel_run ops rel_empty)
  have hC : s.C = [] := ensure_C _
  have hstrs := h.strs
  rw [hC] at hstrs
  simp only [List.append_nil, List.filter_append, filter_nonIdx_of_allIdx _ h.aIdx, filter_nonIdx_of_noIdx _ h.bStr,
    List.nil_append] at hstrs
  refine ⟨by simp [PO.names, hC], h.asc, ?_, hstrs⟩
  intro n
  constructor
  · intro hn
    exact ⟨(h.mem n).mp (by simp [hn]), h.aIdx n hn⟩
  · rintro ⟨hn, hi⟩
    have := (h.mem n).mpr hn
    rw [hC] at this
    simp only [List.append_nil, List.mem_append] at this
    rcases this with h1 | h1
    · exact h1
    · have := h.bStr n h1; simp [hi] at this

/-- Own string keys are unique at every moment of every history (sorted or not). -/
theorem propOrder_no_dup (ops : List POOp) : (PO.empty.run ops).names.Nodup ∧
    (∀ n, n ∈ (PO.empty.run ops).names ↔ n ∈ createdRun [] ops) := by
  have h := rel_run ops rel_empty
  exact ⟨h.nodup, h.mem⟩

/-- After `ensurePropOrder`, `idxPropCount = 0` iff the object has no index-named own property — what the fast path of
`setForeignIdx` (object.go:600) relies on. -/
theorem propOrder_idxCount (ops : List POOp) :
    (PO.empty.run ops).ensure.idxPropCount = 0 ↔ ∀ n ∈ createdRun [] ops, n.isIdx = false := by
  obtain ⟨_, _, hmem, _⟩ := propOrder_sorted ops
  -- the index segment is empty iff it has no member, and its members are the index names ever created and not deleted
  rw [PO.idxPropCount, List.length_eq_zero_iff, List.eq_nil_iff_forall_not_mem]
  constructor
  · intro h n hn
    cases hi : n.isIdx with
    | false => rfl
    | true => exact absurd ((hmem n).mpr ⟨hn, hi⟩) (h n)
  · intro h n hA
    have := (hmem n).mp hA
    rw [h n this.1] at this
    cases this.2

/-! The copy-on-write marker of the name buffer: the class of the seeded change C04-m3. -/

/-- For EVERY sequence of property creations, deletions, enumerations, iterator creations (nested / abandoned) and iterator
completions, with ANY capacity policy: the cells `o.propNames[0:len]` of the object's current backing array hold exactly
the name list of the list-level model `PO` run on the same operations — so `propOrder_sorted`, `propOrder_no_dup` and
`propOrder_idxCount` hold of the real slice, whichever of the in-place / copy branches were taken. -/
theorem cow_refines_propOrder (ops : List CowOp) :
    let s := emptyCow.run ops
    s.po = PO.empty.run (ops.filterMap CowOp.toPO) ∧
      (s.mem.cells s.buf).take s.po.names.length = s.po.names := by
  intro s
  exact ⟨run_po ops emptyCow, (inv_run ops inv_empty).content⟩

/-- What the marker is for: a for-in iterator created at any point of any history reads, for as long as it has not run
off the end, exactly the name list of the moment of its creation — no later add / delete / re-sort / nested or abandoned
iteration / completion of another iterator changes a cell of its slice. -/
theorem cow_snapshot_stable (ops1 ops2 : List CowOp) (c : Nat) :
    let s0 := emptyCow.run ops1
    let s1 := s0.step (.iterate c)
    ∃ it, s1.iters[s0.iters.length]? = some it ∧ (it.active = true → it.snap = s1.po.names) ∧
      ∀ it2, (s1.run ops2).iters[s0.iters.length]? = some it2 → it2.active = true →
        ((s1.run ops2).mem.cells it2.buf).take it2.len = it.snap ∧ it2.len = it.snap.length := by
  intro s0 s1
  obtain ⟨x, hx, hsnap, -, -⟩ := iterate_next s0 c
  have hk : s1.iters[s0.iters.length]? = some x := by
    show (s0.step (.iterate c)).iters[s0.iters.length]? = some x
    rw [hx]; simp
  refine ⟨x, hk, fun ha => (hsnap ha).1, fun it2 h2 ha2 => ?_⟩
  obtain ⟨e, hl, ha⟩ := snapshot_stable (inv_step (inv_run ops1 inv_empty) (.iterate c)) ops2 hk h2 ha2
  exact ⟨e, hl.trans (hsnap ha).2⟩

/-- A non-configurable property keeps kind, enumerability, accessor functions; a non-writable one keeps its value;
`writable` can only go from true to false — whatever descriptor is applied. -/
theorem nonconfigurable_frozen_shape {V} [DecidableEq V] (undef : V) (p p' : SProp V) (d : Desc V) (ext : Bool)
    (hw : d.wellFormed = true) (hc : p.configurable = false)
    (h : validateAndApply undef (some p) d ext = some p') : frozenStep p p' = true :=
  vaa_frozen undef p p' d ext hw hc h

/-- A non-extensible object gains no keys through [[DefineOwnProperty]]. -/
theorem nonextensible_no_new_keys {V} [DecidableEq V] (undef : V) (d : Desc V) :
    validateAndApply undef (none : Option (SProp V)) d false = none := by
  rw [validateAndApply_none]; rfl

/-! Histories on the ordinary-object heap are ARBITRARY lists over `SOp`: define / set with any chain and receiver /
delete / preventExtensions / setPrototypeOf / freeze / seal, on any objects of the heap, in any order, any length. -/

/-- non-configurable ⇒ the property is still there after any history, with frozen shape (same kind, enumerability,
accessor functions; `writable` only true → false; value fixed once non-writable). -/
theorem hist_nonconfigurable_frozen_shape {V} [DecidableEq V] (undef : V) (h : Heap V) (ops : List (SOp V))
    (hwf : ∀ op ∈ ops, op.wf = true) (o : Nat) (k : Key) (p : SProp V)
    (hl : lookup (h o).props k = some p) (hc : p.configurable = false) :
    ∃ p', lookup ((sRun undef h ops) o).props k = some p' ∧ frozenStep p p' = true :=
  run_frozen undef h ops hwf o k p hl hc

/-- non-configurable and non-writable ⇒ the very same data property after any history. -/
theorem hist_nonwritable_value_fixed {V} [DecidableEq V] (undef : V) (h : Heap V) (ops : List (SOp V))
    (hwf : ∀ op ∈ ops, op.wf = true) (o : Nat) (k : Key) (v : V) (e : Bool)
    (hl : lookup (h o).props k = some (.data v false e false)) :
    lookup ((sRun undef h ops) o).props k = some (.data v false e false) := by
  obtain ⟨p', hl', hf⟩ := hist_nonconfigurable_frozen_shape undef h ops hwf o k _ hl rfl
  cases p' with
  | acc => simp [frozenStep] at hf
  | data v' w' e' c' =>
    simp only [frozenStep, Bool.and_eq_true, Bool.or_eq_true, Bool.not_eq_true', beq_iff_eq] at hf
    obtain ⟨⟨hc, he⟩, hw⟩ := hf
    rcases hw with hw | ⟨hw, hv⟩
    · cases hw
    · subst hc; subst he; subst hw; subst hv; exact hl'

/-- non-extensible ⇒ after any history: still non-extensible, same prototype, no key that was not there before. -/
theorem hist_nonextensible_no_new_keys_fixed_proto {V} [DecidableEq V] (undef : V) (h : Heap V) (ops : List (SOp V))
    (o : Nat) (he : (h o).ext = false) :
    ((sRun undef h ops) o).ext = false ∧ ((sRun undef h ops) o).proto = (h o).proto ∧
      ∀ k, (lookup ((sRun undef h ops) o).props k).isSome = true → (lookup (h o).props k).isSome = true :=
  run_nonExt undef h ops o he

/-- own keys after any history: unique, ordered (indices ascending, then strings, then symbols — `keysOrdered`), exactly
the keys that have a descriptor, and the observable snapshot is internally consistent (`snapOk`). -/
theorem hist_ownKeys_unique_ordered_consistent {V} [DecidableEq V] (undef : V) (h : Heap V) (hn : KeysNodup h)
    (ops : List (SOp V)) (o : Nat) :
    let props := ((sRun undef h ops) o).props
    (∀ k, k ∈ ownKeys props ↔ (lookup props k).isSome = true) ∧ (ownKeys props).Nodup ∧ keysOrdered (ownKeys props) = true
      ∧ snapOk ((sRun undef h ops) o).snap = true := by
  intro props
  have hn' := run_keysNodup undef ops h hn o
  obtain ⟨a, b, c⟩ := ownKeys_spec props hn'
  exact ⟨a, b, c, snapOk_of_nodup _ hn'⟩

/-- The snapshot monitor used on the implementation's dumps is SOUND for the spec: every step of every well-formed
operation on an ordinary-object heap passes it, on every object. -/
theorem monitor_sound_on_spec_steps {V} [DecidableEq V] (undef : V) (h : Heap V) (hn : KeysNodup h) (op : SOp V)
    (hwf : op.wf = true) (o : Nat) :
    monitorStep (h o).snap ((sStep undef h op) o).snap = true ∧ snapOk ((sStep undef h op) o).snap = true :=
  have hs := sStep_objStep undef h op o
  have hn' := step_keysNodup undef h op hn o
  ⟨monitor_of_frozen_nonExt _ _ (hn o) hn' (hwf ▸ hs).frozen hs.nonExt, snapOk_of_nodup _ hn'⟩

/-- Object.freeze / Object.seal of the heap model = SetIntegrityLevel as the spec writes it ([[PreventExtensions]], then
one DefinePropertyOrThrow per own key with `{configurable:false}` / `{configurable:false, writable:false}`), none of
which throws on an ordinary object; and TestIntegrityLevel holds afterwards. -/
theorem freeze_seal_spec {V} [DecidableEq V] (undef : V) (h : Heap V) (o : Nat) (frozen : Bool)
    (hn : (keysOf (h o).props).Nodup) :
    integrityLoop undef frozen false (h o).props (ownKeys (h o).props) = some ((sSetIntegrity h o frozen) o).props
    ∧ ((sSetIntegrity h o frozen) o).ext = false
    ∧ sTestIntegrity ((sSetIntegrity h o frozen) o) frozen = true := by
  refine ⟨?_, by simp [sSetIntegrity, upd_same], ?_⟩
  · -- the loop of 7.3.15 over the own keys maps every property to its sealed / frozen form, and every key is an own key
    obtain ⟨hmem, hnd, _⟩ := ownKeys_spec (h o).props hn
    refine (integrityLoop_spec undef frozen false _ _ hn hnd).trans (congrArg some ?_)
    simp only [sSetIntegrity, upd_same]
    refine List.map_congr_left fun kp hkp => ?_
    rw [if_pos ((hmem kp.1).mpr ((mem_keys_iff _ _).mp (List.mem_map.mpr ⟨kp, hkp, rfl⟩)))]
    rfl
  · simp only [sSetIntegrity, upd_same, sTestIntegrity, Bool.not_false, Bool.true_and, List.all_map]
    apply List.all_eq_true.mpr
    intro kp _
    obtain ⟨k, p⟩ := kp
    cases p <;> cases frozen <;> rfl

/-- Object.isFrozen / Object.isSealed say exactly what 7.3.16 says; frozen implies sealed. -/
theorem isFrozen_isSealed_spec {V} (o : Obj V) (frozen : Bool) :
    (sTestIntegrity o frozen = true ↔
      (o.ext = false ∧ ∀ k p, (k, p) ∈ o.props → p.configurable = false ∧ (frozen = true → p.isAcc = false → p.writable = false)))
    ∧ (sTestIntegrity o true = true → sTestIntegrity o false = true) := by
  refine ⟨?_, fun h => ?_⟩
  · simp only [sTestIntegrity, Bool.and_eq_true, List.all_eq_true, Bool.not_eq_true', Bool.or_eq_true, Prod.forall]
    -- clause by clause the same; the last one is the Boolean disjunction for the two implications
    refine and_congr_right fun _ => forall_congr' fun k => forall_congr' fun p => imp_congr_right fun _ =>
      and_congr_right fun _ => ?_
    cases frozen <;> cases p.isAcc <;> simp
  · simp only [sTestIntegrity, Bool.and_eq_true, List.all_eq_true] at h ⊢
    exact ⟨h.1, fun kp hm => ⟨(h.2 kp hm).1, by simp⟩⟩

/-- [[GetOwnProperty]] of a String exotic object = ordinary lookup on the object materialised with its frozen
character-index properties in front (for every key, every string, every ordinary part that holds no character index). -/
theorem stringExotic_getOwn_refines_ordinary {V} (base : Obj V) (chars : List V) (hb : NoCharIdx base chars) (k : Key) :
    strGetOwn base chars k = lookup (strMat base chars).props k :=
  strGetOwn_eq_mat base chars hb k

/-- [[DefineOwnProperty]] of a String exotic object (IsCompatiblePropertyDescriptor on character indices, ordinary define
otherwise) = OrdinaryDefineOwnProperty on the materialised object: same boolean, same resulting object; and the ordinary
part still holds no character index (so the statement applies along every history of defines). -/
theorem stringExotic_define_refines_ordinary {V} [DecidableEq V] (undef : V) (base : Obj V) (chars : List V)
    (hb : NoCharIdx base chars) (k : Key) (d : Desc V) (hw : d.wellFormed = true) :
    (match validateAndApply undef (lookup (strMat base chars).props k) d (strMat base chars).ext with
      | some p => ({ (strMat base chars) with props := put (strMat base chars).props k p }, true)
      | none => (strMat base chars, false))
      = (strMat (strDefine undef base chars k d).1 chars, (strDefine undef base chars k d).2)
    ∧ NoCharIdx (strDefine undef base chars k d).1 chars :=
  strDefine_refines undef base chars hb k d hw

/-- [[Delete]] of a String exotic object = OrdinaryDelete on the materialised object (a character index is never
removed; anything else is deleted from the ordinary part), keeping the invariant. -/
theorem stringExotic_delete_refines_ordinary {V} (base : Obj V) (chars : List V) (hb : NoCharIdx base chars) (k : Key) :
    (match lookup (strMat base chars).props k with
      | none => (strMat base chars, true)
      | some p => if p.configurable then ({ (strMat base chars) with props := eraseKey (strMat base chars).props k }, true)
                  else (strMat base chars, false))
      = (strMat (strDelete base chars k).1 chars, (strDelete base chars k).2)
    ∧ NoCharIdx (strDelete base chars k).1 chars :=
  strDelete_refines base chars hb k

/-- [[OwnPropertyKeys]] of a String exotic object (string indices, then the ordinary part's integer keys, strings, symbols)
= OrdinaryOwnPropertyKeys of the materialised object. -/
theorem stringExotic_ownKeys_refines_ordinary {V} (base : Obj V) (chars : List V) (hb : NoCharIdx base chars) :
    strOwnKeys base chars = ownKeys (strMat base chars).props :=
  strOwnKeys_eq_mat base chars hb

/-- `argumentsObject.defineOwnPropertyStr` on any slot (mapped to a parameter variable, or already unmapped) =
ValidateAndApplyPropertyDescriptor on the data property the slot stands for (value = the variable's current value), for
every well-formed descriptor; the invariant "a mapped slot is writable" is kept.  With
`mappedArguments_set_delete_refine_ordinary` (below): while the parameter variables are written only through the
arguments object, a mapped arguments object is observationally the ORDINARY object with those data properties — which is
how the correspondence models it. -/
theorem mappedArguments_define_refines_ordinary {V} [DecidableEq V] (undef : V) (slot : ASlot V) (env : Nat → V) (d : Desc V)
    (ext : Bool) (hw : d.wellFormed = true) (hok : slot.ok = true) :
    (argsDefine undef slot env d ext).map (fun r => r.1.spec undef r.2) =
      validateAndApply undef (some (slot.spec undef env)) d ext
    ∧ ∀ r, argsDefine undef slot env d ext = some r → r.1.ok = true :=
  (argsDefine_refines undef slot env d ext hw hok).imp_right fun h r hr => (h r hr).1

/-- [[Set]] on a mapped index writes the variable and the slot then stands for the same writable data property with the new
value; [[Delete]] removes a slot iff the property it stands for is configurable. -/
theorem mappedArguments_set_delete_refine_ordinary {V} (undef : V) (env : Nat → V) (e c : Bool) (ref : Nat) (v : V)
    (slot : ASlot V) :
    (argsSetOwn (ASlot.mapped true e c ref) env v).map (fun r => r.1.spec undef r.2) = some (.data v true e c)
    ∧ argsDelete slot = (slot.spec undef env).configurable :=
  ⟨by simp [argsSetOwn, Option.map, spec_mapped, envSet], argsDelete_spec undef env slot⟩

/-- Object level, histories: a mapped arguments object whose slots satisfy the invariant (mapped slots writable, keys
unique, no two mapped slots on one variable) stands, after ANY sequence of well-formed defineProperty / own-slot [[Set]] /
[[Delete]] operations, for exactly the property list an ordinary object reaches by the same operations from the property
list it stood for at the start — including the un-mapping of a slot that becomes non-writable or an accessor, and the
write-through to the parameter variable.  The invariant holds again afterwards. -/
theorem mappedArguments_histories_refine_ordinary {V} [DecidableEq V] (undef : V) (a : AObj V) (h : a.WF)
    (ops : List (AOp V)) (hw : ∀ op ∈ ops, op.wf = true) :
    (ops.foldl (AObj.step undef) a).spec undef = ops.foldl (specStep undef a.ext) (a.spec undef)
    ∧ (ops.foldl (AObj.step undef) a).WF := by
  refine (foldl_refines (P := fun b => b.WF ∧ b.ext = a.ext) (abs := fun b => b.spec undef) ops
    (fun b hb op hm => ?_) a ⟨h, rfl⟩).imp_right And.left
  obtain ⟨h1, h2, h3⟩ := args_step_refines undef b hb.1 op (hw op hm)
  exact ⟨hb.2 ▸ h1, h2, h3.trans hb.2⟩

/-- Symbol keys: `getOwnPropSym`'s fast path, `defineOwnPropertySym`, `deleteSym` and a symbol-keyed store on a templated
object whose symbol table may or may not be materialised yet = lookup / ordinary define / ordinary delete / store on the
template's symbol property list (until the first write) resp. the materialised table. -/
theorem templated_symbols_refine_eager {V} [DecidableEq V] (undef : V) (t : Tmpl V) (o : TObj V) (s : Key) (d : Desc V)
    (v : Stored V) :
    o.getOwnSym t s = lookup (o.absSym t) s
    ∧ ((o.defineSym undef t s d).1.absSym t, (o.defineSym undef t s d).2) =
        (match defineOwn undef (lookup (o.absSym t) s) d o.ext with
         | some v => (put (o.absSym t) s v, true)
         | none => (o.absSym t, false))
    ∧ ((o.deleteSym t s).1.absSym t, (o.deleteSym t s).2) =
        (match lookup (o.absSym t) s with
         | none => (o.absSym t, true)
         | some v => if checkDelete v then (eraseKey (o.absSym t) s, true) else (o.absSym t, false))
    ∧ (o.putSym t s v).absSym t = put (o.absSym t) s v :=
  ⟨getOwnSym_eq t o s, defineSym_abs undef t o s d, deleteSym_abs t o s, putSym_abs t o s v⟩

/-- String keys: `defineOwnPropertyStr` / `deleteStr` on the lazy object (template values materialised on demand, name list
materialised at the first change, "white holes" for deleted template keys) = the ordinary define / delete on the property
list it stands for, the invariant is kept, and own lookups agree. -/
theorem templated_strings_refine_eager {V} [DecidableEq V] (undef : V) (t : Tmpl V) (o : TObj V) (h : o.WF t) (k : Key)
    (d : Desc V) :
    lookup (o.absStr t) k = o.getOwnStr t k
    ∧ (((o.defineStr undef t k d).1.absStr t, (o.defineStr undef t k d).2) =
        (match defineOwn undef (lookup (o.absStr t) k) d o.ext with
         | some v => (put (o.absStr t) k v, true)
         | none => (o.absStr t, false))
       ∧ (o.defineStr undef t k d).1.WF t)
    ∧ (((o.deleteStr t k).1.absStr t, (o.deleteStr t k).2) =
        (match lookup (o.absStr t) k with
         | none => (o.absStr t, true)
         | some v => if checkDelete v then (eraseKey (o.absStr t) k, true) else (o.absStr t, false))
       ∧ (o.deleteStr t k).1.WF t) :=
  ⟨lookup_absStr t o h k, defineStr_abs undef t o h k d, deleteStr_abs t o h k⟩

/-- A fresh templated object (nothing materialised yet) satisfies the invariant and stands for exactly the template's
lists. -/
theorem templated_fresh_is_template {V} (t : Tmpl V) (ext : Bool) (hn : (keysOf t.strs).Nodup) :
    let o : TObj V := { values := [], propNames := none, symValues := none, ext := ext }
    o.absSym t = t.syms ∧ o.WF t ∧ ∀ k, lookup (o.absStr t) k = lookup t.strs k :=
  fresh_abs t ext hn

/-- Over ARBITRARY histories of own-property operations (string / symbol defines, deletes, symbol stores) a lazily-templated
built-in equals, at every moment, the eager ordinary object that had all template properties from the start. -/
theorem templated_histories_refine_eager {V} [DecidableEq V] (undef : V) (t : Tmpl V) (ops : List (TOp V)) (ext : Bool)
    (hn : (keysOf t.strs).Nodup) :
    let o : TObj V := { values := [], propNames := none, symValues := none, ext := ext }
    (ops.foldl (TObj.step undef t) o).absE t = ops.foldl (Eager.step undef) (o.absE t)
    ∧ (o.absE t).syms = t.syms ∧ ∀ k, lookup (o.absE t).strs k = lookup t.strs k := by
  intro o
  obtain ⟨h1, h2, h3⟩ := templated_fresh_is_template t ext hn
  exact ⟨(run_refines undef t ops o h2).1, h1, h3⟩

/-- the seeded change C04-m2 as a definition: materialise the symbols only when the key is a template symbol -/
def defineSymM2 {V} [DecidableEq V] (undef : V) (t : Tmpl V) (o : TObj V) (s : Key) (d : Desc V) : TObj V × Bool :=
  let syms := if o.symValues.isNone && (lookup t.syms s).isSome then t.syms else o.symValues.getD []
  match defineOwn undef (lookup syms s) d o.ext with
  | some v => ({ o with symValues := some (put syms s v) }, true)
  | none => ({ o with symValues := some syms }, false)

/-- REGRESSION WITNESS (C04-m2 class): with that guard a first define of a fresh symbol loses the template's symbol
properties — the refinement fails. -/
theorem templated_symbols_m2_witness :
    let t : Tmpl Nat := { strs := [], syms := [(.sym 4, .prop { value := some 7, writable := false, configurable := false, enumerable := false, accessor := false, getterFunc := none, setterFunc := none })] }
    let o : TObj Nat := { values := [], propNames := none, symValues := none, ext := true }
    lookup ((defineSymM2 0 t o (.sym 0) (descFull 1)).1.absSym t) (.sym 4) = none
    ∧ lookup ((o.defineSym 0 t (.sym 0) (descFull 1)).1.absSym t) (.sym 4) ≠ none := by
  decide

/-- The integer-indexed layer is a conservative extension: on a heap without typed arrays every exotic internal method is
the ordinary one ([[Set]]: OrdinarySet with its heap effect). -/
theorem integerIndexed_conservative {V} [DecidableEq V] (undef : V) (c : V → V) (xh : XHeap V) (hn : NoTyped xh)
    (o : Nat) (chain : List Nat) (k : Key) (v : V) (r : Recv) (d : Desc V) :
    xGetOwn xh o k = lookup (xh.h o).props k
    ∧ xDefine undef c xh o k d = ({ xh with h := (sDefine undef xh.h o k d).1 }, (sDefine undef xh.h o k d).2)
    ∧ xHas xh chain k = sHas xh.h chain k
    ∧ xGet undef xh chain k r = sGet undef xh.h chain k r
    ∧ xSet undef c xh chain k v r =
        ({ xh with h := applyAct xh.h (ordinarySet undef xh.h.view chain k v r) }, outOf (ordinarySet undef xh.h.view chain k v r))
    ∧ xDelete xh o k = ({ xh with h := (sDelete xh.h o k).1 }, (sDelete xh.h o k).2)
    ∧ xOwnKeys xh o = ownKeys (xh.h o).props := by
  have hown : ∀ o k, xGetOwn xh o k = lookup (xh.h o).props k := fun o k => by simp [xGetOwn, hn o]
  have hdef : ∀ o k d, xDefine undef c xh o k d =
      ({ xh with h := (sDefine undef xh.h o k d).1 }, (sDefine undef xh.h o k d).2) := fun o k d => by simp [xDefine, hn o]
  have hdata : xSetData undef c xh k v r =
      ({ xh with h := applyAct xh.h (setData undef xh.h.view k v r) }, outOf (setData undef xh.h.view k v r)) := by
    cases r with
    | prim => simp [xSetData, setData, applyAct, outOf]
    | obj ro =>
      simp only [xSetData, setData, hown, Heap.view]
      cases hl : lookup (xh.h ro).props k with
      | none =>
        simp only [hdef, sDefine, hl]
        cases validateAndApply undef none (descFull v) (xh.h ro).ext <;> simp [applyAct, outOf]
      | some p =>
        cases p with
        | acc g s e cf => simp [applyAct, outOf]
        | data v0 w e cf =>
          cases w with
          | false => simp [applyAct, outOf]
          | true =>
            simp [hdef, sDefine, hl, validateAndApply_descValue, applyAct, outOf]
  refine ⟨hown o k, hdef o k d, ?_, ?_, ?_, by simp [xDelete, hn o], by simp [xOwnKeys, hn o]⟩
  · induction chain with
    | nil => rfl
    | cons o rest ih => simp [xHas, sHas, hn o, ih]
  · induction chain with
    | nil => rfl
    | cons o rest ih => simp only [xGet, sGet, hn o, ih]; rfl
  · induction chain with
    | nil => simp only [xSet, ordinarySet]; exact hdata
    | cons o rest ih =>
      simp only [xSet, ordinarySet, hn o, Heap.view]
      cases hl : lookup (xh.h o).props k with
      | none => simpa [Heap.view] using ih
      | some p =>
        cases p with
        | data v0 w e cf =>
          cases w with
          | false => simp [applyAct, outOf]
          | true => simpa [Heap.view] using hdata
        | acc g s e cf => cases s <;> simp [applyAct, outOf]

/-- Over ARBITRARY histories of define / set (any chain, any receiver) / delete / freeze / seal / preventExtensions /
setPrototypeOf, every typed array keeps its element count (and stays a typed array) — hence, at every moment: index n is an
own property iff n < length, [[HasProperty]] of an index never consults the prototype chain, a valid index cannot be
deleted, and the own index keys are exactly 0..length-1. -/
theorem integerIndexed_length_fixed {V} [DecidableEq V] (undef : V) (c : V → V) (xh : XHeap V) (ops : List (XOp V))
    (o : Nat) (els : List V) (h : xh.typed o = some els) :
    ∃ els', (xRun undef c xh ops).typed o = some els' ∧ els'.length = els.length ∧
      ∀ n rest, ((xGetOwn (xRun undef c xh ops) o (.idx n)).isSome = decide (n < els.length))
        ∧ xHas (xRun undef c xh ops) (o :: rest) (.idx n) = decide (n < els.length)
        ∧ (xDelete (xRun undef c xh ops) o (.idx n)).2 = !(decide (n < els.length))
        ∧ (Key.idx n ∈ xOwnKeys (xRun undef c xh ops) o ↔ n < els.length) := by
  have hs := xRun_shape undef c ops xh o
  rw [h] at hs
  cases ht : (xRun undef c xh ops).typed o with
  | none => rw [ht] at hs; simp at hs
  | some els' =>
    rw [ht] at hs
    simp only [Option.map_some, Option.some.injEq] at hs
    refine ⟨els', rfl, hs, fun n rest => ?_⟩
    rw [← hs]
    generalize xRun undef c xh ops = xh' at ht ⊢
    refine ⟨?_, by simp [xHas, ht], by simp [xDelete, ht], ?_⟩
    · simp only [xGetOwn, ht, Option.isSome_map]
      by_cases hn : n < els'.length <;> simp [hn]
    · simp only [xOwnKeys, ht, List.mem_append, List.mem_map, List.mem_range, List.mem_filter]
      constructor
      · rintro (⟨m, hm, e⟩ | ⟨_, hk⟩)
        · cases e; exact hm
        · simp [Key.isIdx] at hk
      · intro hn; exact Or.inl ⟨n, hn, rfl⟩

/-- The history-level essential invariants hold along histories that involve typed arrays: every exotic step acts on the
ordinary part of the heap as zero or one ordinary steps, hence for any well-formed history a non-configurable ordinary
property keeps its frozen shape, a non-extensible object gains no ordinary key and keeps its prototype, and the key lists
stay duplicate-free. -/
theorem integerIndexed_hist_invariants {V} [DecidableEq V] (undef : V) (c : V → V) (xh : XHeap V) (ops : List (XOp V))
    (hw : ∀ op ∈ ops, op.wf = true) (o : Nat) :
    (∀ k p, lookup (xh.h o).props k = some p → p.configurable = false →
        ∃ p', lookup ((xRun undef c xh ops).h o).props k = some p' ∧ frozenStep p p' = true)
    ∧ ((xh.h o).ext = false →
        ((xRun undef c xh ops).h o).ext = false ∧ ((xRun undef c xh ops).h o).proto = (xh.h o).proto ∧
        ∀ k, (lookup ((xRun undef c xh ops).h o).props k).isSome = true → (lookup (xh.h o).props k).isSome = true)
    ∧ (KeysNodup xh.h → KeysNodup (xRun undef c xh ops).h) := by
  obtain ⟨l, hl, e⟩ := xRun_trace undef c ops xh hw
  rw [e]
  exact ⟨fun k p h1 h2 => hist_nonconfigurable_frozen_shape undef xh.h l hl o k p h1 h2,
    fun he => hist_nonextensible_no_new_keys_fixed_proto undef xh.h l o he,
    fun hn => run_keysNodup undef l xh.h hn⟩

/-- Every own-property lookup and define on a function whose `prototype` slot is not yet materialised gives the same
answers as on the function that has had `prototype` from the start, and the property LISTS are equal — keys in the same
order (`_addProtoBeforeNewKey`, commit fcdbd47, materialises the slot before any new string key is created). -/
theorem lazyPrototype_refines_eager {V} [DecidableEq V] (undef : V) (protoProp : Stored V) (f : FuncLazy V)
    (hwf : f.WF) (k : Key) (d : Desc V) :
    (f.getOwn protoProp k).1 = lookup (f.eager protoProp) k
    ∧ (f.getOwn protoProp k).2.WF ∧ (f.getOwn protoProp k).2.eager protoProp = f.eager protoProp
    ∧ ((f.define undef protoProp k d).2 = (defineOwn undef (lookup (f.eager protoProp) k) d f.ext).isSome)
    ∧ (∀ v, defineOwn undef (lookup (f.eager protoProp) k) d f.ext = some v →
         (f.define undef protoProp k d).1.eager protoProp = put (f.eager protoProp) k v)
    ∧ (defineOwn undef (lookup (f.eager protoProp) k) d f.ext = none →
         (f.define undef protoProp k d).1.eager protoProp = f.eager protoProp)
    ∧ (f.define undef protoProp k d).1.WF :=
  have hg := funcLazy_getOwn_refines protoProp f hwf k
  have hd := funcLazy_define_refines undef protoProp f hwf k d
  ⟨hg.1, hg.2.1, hg.2.2, hd.1, hd.2.1, hd.2.2.1, hd.2.2.2.1⟩

/-- REGRESSION WITNESS (code before fcdbd47): `f = function(){}; f.x = 1` — the old mechanism's key order was
`length, name, x, prototype`, the spec's (and the old mechanism's own, had `prototype` been touched first) is
`length, name, prototype, x`; the current transcription gives the spec's order on the same input. -/
theorem lazyPrototype_position_prefix_witness :
    let f : FuncLazy Nat := { props := [(.str "length", .plain 0), (.str "name", .plain 0)], mat := false, ext := true }
    keysOf ((f.definePre 0 (.plain 9) (.str "x") (descFull 1)).1.eager (.plain 9)) ≠
      keysOf (put (f.eager (.plain 9)) (.str "x") (.plain 1))
    ∧ keysOf ((f.define 0 (.plain 9) (.str "x") (descFull 1)).1.eager (.plain 9)) =
      keysOf (put (f.eager (.plain 9)) (.str "x") (.plain 1)) := by
  decide

/-- Mapped arguments object (slot list of `*mappedProperty` / ordinary slots + parameter environment): a slot, mapped or
not, that stands for a non-configurable property is still there after ANY sequence of well-formed defineProperty / own
[[Set]] / [[Delete]], and what it stands for then has the frozen shape of what it stood for at the start (same kind,
enumerability, accessor functions; `writable` only true → false; value fixed once non-writable — read through the
parameter variable for a mapped slot). -/
theorem mappedArguments_hist_nonconfigurable_frozen_shape {V} [DecidableEq V] (undef : V) (a : AObj V) (h : a.WF)
    (ops : List (AOp V)) (hw : ∀ op ∈ ops, op.wf = true) (k : Key) (slot : ASlot V) (hl : lookup a.slots k = some slot)
    (hc : (slot.spec undef a.env).configurable = false) :
    ∃ slot', lookup (ops.foldl (AObj.step undef) a).slots k = some slot' ∧
      frozenStep (slot.spec undef a.env) (slot'.spec undef (ops.foldl (AObj.step undef) a).env) = true := by
  have hf := specRun_frozen undef a.ext ops hw (a.spec undef)
  rw [← (mappedArguments_histories_refine_ordinary undef a h ops hw).1] at hf
  exact Frozen.of_map (f := fun s : ASlot V => s.spec undef a.env) (g := fun s : ASlot V => s.spec undef _) hf
    k slot hl hc

/-- A non-extensible arguments object gains no key, whatever the history. -/
theorem mappedArguments_hist_nonextensible_no_new_keys {V} [DecidableEq V] (undef : V) (a : AObj V) (h : a.WF)
    (hext : a.ext = false) (ops : List (AOp V)) (hw : ∀ op ∈ ops, op.wf = true) (k : Key) (hl : lookup a.slots k = none) :
    lookup (ops.foldl (AObj.step undef) a).slots k = none := by
  obtain ⟨href, _⟩ := mappedArguments_histories_refine_ordinary undef a h ops hw
  have hk := (specRun_nonExt undef a.ext ops (a.spec undef) hext).2.2 k
  rw [← href, lookup_spec, lookup_spec, hl] at hk
  cases hx : lookup (ops.foldl (AObj.step undef) a).slots k with
  | none => rfl
  | some s' => rw [hx] at hk; exact nomatch hk rfl

/-- String exotic object, histories: after ANY sequence of well-formed [[DefineOwnProperty]] / [[Delete]] the object,
materialised with its character-index properties, IS the materialised object after the same OrdinaryDefineOwnProperty /
OrdinaryDelete operations (so every history-level invariant of the ordinary heap transfers), and its ordinary part still
holds no character index. -/
theorem stringExotic_histories_refine_ordinary {V} [DecidableEq V] (undef : V) (chars : List V) (ops : List (StrOp V))
    (hw : ∀ op ∈ ops, op.wf = true) (base : Obj V) (hb : NoCharIdx base chars) :
    strMat (ops.foldl (strStep undef chars) base) chars = ops.foldl (ordObjStep undef) (strMat base chars)
    ∧ NoCharIdx (ops.foldl (strStep undef chars) base) chars := by
  exact foldl_refines (abs := fun b => strMat b chars) ops (fun b hb op hm => str_step_refines undef chars b hb op (hw op hm))
    base hb

/-- The character-index properties of a String exotic object are immutable: after any history [[GetOwnProperty]] of a
character index answers {value: that character, writable: false, enumerable: true, configurable: false}. -/
theorem stringExotic_characters_immutable {V} [DecidableEq V] (undef : V) (chars : List V) (ops : List (StrOp V))
    (hw : ∀ op ∈ ops, op.wf = true) (base : Obj V) (hb : NoCharIdx base chars) (n : Nat) (hn : n < chars.length) :
    strGetOwn (ops.foldl (strStep undef chars) base) chars (.idx n) = some (.data chars[n] false true false) := by
  have h := (stringExotic_histories_refine_ordinary undef chars ops hw base hb).2 n hn
  simp only [strGetOwn, h, strIndexDesc]
  simp [List.getElem?_eq_getElem hn]

/-- Lazily-templated built-in in ANY materialisation state (string values / symbol table materialised or not, white
holes), any JS-reachable history (well-formed string/symbol defines, deletes): a string (`sym = false`) or symbol
(`sym = true`) key whose — possibly not yet materialised — property is non-configurable is still there afterwards with
frozen shape; a non-extensible templated object gains no string or symbol key.  (`hi`: the slots the object stands for
satisfy the `valueProperty` representation invariant, kept by `_defineOwnProperty`.) -/
theorem templated_hist_invariants {V} [DecidableEq V] (undef : V) (t : Tmpl V) (o : TObj V) (h : o.WF t)
    (hi : (o.absE t).Inv) (ops : List (TOp V)) (hw : ∀ op ∈ ops, op.wf = true) (sym : Bool) (k : Key) :
    (∀ s, lookup ((o.absE t).sel sym) k = some s → (absProp undef s).configurable = false →
      ∃ s', lookup (((ops.foldl (TObj.step undef t) o).absE t).sel sym) k = some s'
        ∧ frozenStep (absProp undef s) (absProp undef s') = true)
    ∧ (o.ext = false → lookup ((o.absE t).sel sym) k = none →
        lookup (((ops.foldl (TObj.step undef t) o).absE t).sel sym) k = none) := by
  rw [(run_refines undef t ops o h).1]
  obtain ⟨hf, hn⟩ := eager_run undef ops hw sym (o.absE t) (hi.sel sym)
  refine ⟨fun s hl hc => Frozen.of_map (f := absProp undef) (g := absProp undef) hf k s hl hc, fun hext hl => ?_⟩
  have hk := (hn hext).2.2 k
  simp only [absL, lookup_map, Option.isSome_map, hl] at hk
  exact Option.not_isSome_iff_eq_none.mp fun hs => nomatch hk hs

/-- Lazy function `prototype`, histories: after ANY sequence of own-property lookups and defines (each of which may or may
not materialise `prototype`) the function stands for exactly the property list — same keys, same order, same slots — of
the eager ordinary function (`prototype` present from the start) after the same operations; the invariant (`prototype`
listed only if materialised) is kept. -/
theorem lazyPrototype_histories_refine_eager {V} [DecidableEq V] (undef : V) (protoProp : Stored V) (f : FuncLazy V)
    (h : f.WF) (ops : List (FOp V)) :
    (ops.foldl (FuncLazy.step undef protoProp) f).eager protoProp
        = ops.foldl (eagerStep undef f.ext) (f.eager protoProp)
    ∧ (ops.foldl (FuncLazy.step undef protoProp) f).WF := by
  refine (foldl_refines (P := fun g => g.WF ∧ g.ext = f.ext) (abs := fun g => g.eager protoProp) ops
    (fun g hg op _ => ?_) f ⟨h, rfl⟩).imp_right And.left
  obtain ⟨h1, h2, h3⟩ := funcLazy_step undef protoProp g hg.1 op
  exact ⟨hg.2 ▸ h1, h2, h3.trans hg.2⟩

/-- Every entry point × key spelling reaches one of the hand-written copies (`copyOf`); for [[Set]] (receiver = the
object), [[Get]], [[HasProperty]], [[Delete]] and [[DefineOwnProperty]] the result is the same function of the abstract
key whichever copy that is — and it is the spec's (OrdinarySet / OrdinaryGet / OrdinaryHasProperty / OrdinaryDelete /
ValidateAndApply via `defineOwn_refines_spec`). -/
theorem syntax_eq_reflect_eq_goapi {V} [DecidableEq V] (undef : V) (mv : MView V) (hinv : RepInvView mv) (hc : IdxCountOk mv)
    (e1 e2 : Entry) (sp1 sp2 : Spelling) (o : Nat) (rest : List Nat) (k : Key) (v : V) (d : Desc V) :
    setEntry undef mv e1 sp1 o rest k v = setEntry undef mv e2 sp2 o rest k v
    ∧ (setEntry undef mv e1 sp1 o rest k v).map (absProp undef) = ordinarySet undef (mv.abs undef) (o :: rest) k v (.obj o)
    ∧ getEntry undef mv e1 sp1 o rest k = getEntry undef mv e2 sp2 o rest k
    ∧ getEntry undef mv e1 sp1 o rest k = ordinaryGet undef (mv.abs undef) (o :: rest) k (.obj o)
    ∧ hasEntry mv e1 sp1 (o :: rest) k = hasEntry mv e2 sp2 (o :: rest) k
    ∧ hasEntry mv e1 sp1 (o :: rest) k = ordinaryHas (mv.abs undef) (o :: rest) k
    ∧ deleteEntry mv e1 sp1 o k = deleteEntry mv e2 sp2 o k
    ∧ deleteEntry mv e1 sp1 o k = ordinaryDelete (mv.abs undef) o k
    ∧ defineEntry undef mv e1 sp1 o k d = defineEntry undef mv e2 sp2 o k d := by
  refine ⟨?_, ?_, ?_, ?_, ?_, ?_, ?_, ?_, ?_⟩
  · rw [setEntry_eq, setEntry_eq]
  · rw [setEntry_eq]
    exact (setStr_refines_aux undef mv hinv k v (o :: rest)).1 o rest rfl
  · rw [getEntry_eq, getEntry_eq]
  · rw [getEntry_eq]; exact getStr_refines undef mv hinv k (.obj o) (o :: rest)
  · rw [hasEntry_eq, hasEntry_eq]
  · rw [hasEntry_eq]; exact hasStr_refines undef mv k (o :: rest)
  · rw [deleteEntry_eq, deleteEntry_eq]
  · rw [deleteEntry_eq]; exact deleteStr_refines undef mv o k
  · rw [defineEntry_eq, defineEntry_eq]

end GojaModel.C04
