/-
  C04 — essential object invariants, every object kind × key kind.
  Executable model, CORE LEAN ONLY (linked into model_c04).

  Part 1  DefineOwn   : in ModelDefine.lean — baseObject._defineOwnProperty (object.go:650) and ValidateAndApplyPropertyDescriptor.
  Part 2  SetPath     : setOwn*/_setForeign*/setForeign*/Object.set* transcribed as THREE separate copies, and
                        OrdinarySet (10.1.9.1/2) with Receiver.
  Part 3  PropOrder   : propNames / lastSortedPropLen / idxPropCount / _delete / ensurePropOrder / fixPropOrder.
  Part 4  Spec heap   : ordinary objects, all internal methods, integrity levels, snapshot monitor
                        (op histories over it: Hist.lean).
-/
import GojaModel.C04.ModelDefine
namespace GojaModel.C04

/-! ## Part 2 — SetPath -/

/-- Property keys after `toPropertyKey` canonicalisation: an array index (valueInt 0 ≤ n < 2^32-1, or the canonical
numeric string of one — `strToArrayIdx` runtime.go:3059), any other string, a symbol identity. -/
inductive Key where
  | idx (n : Nat)
  | str (s : String)
  | sym (n : Nat)
  deriving DecidableEq, Repr, Inhabited

def Key.isIdx : Key → Bool
  | .idx _ => true
  | _ => false
def Key.isSym : Key → Bool
  | .sym _ => true
  | _ => false
def Key.idxVal : Key → Nat
  | .idx n => n
  | _ => 0

/-- The Receiver of [[Set]]/[[Get]]: an object of the heap or a primitive. -/
inductive Recv where
  | obj (id : Nat)
  | prim
  deriving DecidableEq, Repr

/-- Outcome of a [[Set]]: `fail` = returns false (TypeError when `throw`); `call` = the setter `f` is called with
`this` and the value, result true; `write` = object `obj` gets `p` stored under `k` (key appended if `isNew`), result true. -/
inductive Act (P V : Type) where
  | fail
  | call (f : V) (this : Recv) (arg : V)
  | write (obj : Nat) (k : Key) (p : P) (isNew : Bool)
  deriving Repr, DecidableEq

def Act.map {P Q V} (f : P → Q) : Act P V → Act Q V
  | .fail => .fail
  | .call g t a => .call g t a
  | .write o k p n => .write o k (f p) n

/-- Read-only view of the heap that the [[Set]] walk sees (the heap is not mutated before the final action). -/
structure MView (V : Type) where
  own : Nat → Key → Option (Stored V)     -- o.values[name] / o.symValues.get(s)
  ext : Nat → Bool                        -- o.extensible
  idxCount : Nat → Nat                    -- o.idxPropCount after o.ensurePropOrder()

structure SView (V : Type) where
  own : Nat → Key → Option (SProp V)
  ext : Nat → Bool

def MView.abs {V} (undef : V) (mv : MView V) : SView V :=
  { own := fun o k => (mv.own o k).map (absProp undef), ext := mv.ext }

/-- `valueProperty.isWritable` value.go:509 -/
def VProp.isWritable {V} (p : VProp V) : Bool := p.writable || p.setterFunc.isSome

/-- `prop.set(this, v)` value.go:526 on the property stored in object `o` under `k`. -/
def VProp.setAct {V} (p : VProp V) (o : Nat) (k : Key) (this : Recv) (v : V) : Act (Stored V) V :=
  match p.setterFunc with
  | none => .write o k (.prop { p with value := some v }) false
  | some f => .call f this v

/-- `o.defineOwnPropertyStr/Sym(name, descr, throw)` (object.go:766 / :783) as an action. -/
def defineAct {V} [DecidableEq V] (undef : V) (mv : MView V) (o : Nat) (k : Key) (d : Desc V) :
    Act (Stored V) V :=
  match defineOwn undef (mv.own o k) d (mv.ext o) with
  | some s => .write o k s (mv.own o k).isNone
  | none => .fail

def descValue {V} (v : V) : Desc V :=
  { value := some v, writable := .notSet, enumerable := .notSet, configurable := .notSet, getter := none, setter := none }
def descFull {V} (v : V) : Desc V :=
  { value := some v, writable := .fTrue, enumerable := .fTrue, configurable := .fTrue, getter := none, setter := none }

/-- The tail of `Object.setStr/setIdx/setSym` after `setForeign*` returned `handled = false`
(object.go:1515-1539, 1573-1597, 1609-1633 — transcribed once per copy below). -/
def recvDefine {V} [DecidableEq V] (undef : V) (mv : MView V) (k : Key) (v : V) (receiver : Recv) :
    Act (Stored V) V :=
  match receiver with
  | .obj robj =>
    match mv.own robj k with
    | some (.prop desc) =>
      if desc.accessor then .fail
      else if !desc.writable then .fail
      else defineAct undef mv robj k (descValue v)
    | some (.plain _) => defineAct undef mv robj k (descValue v)
    | none => defineAct undef mv robj k (descFull v)
  | .prim => .fail

/-! ### copy 1: string keys (object.go:473 setOwnStr, :547 _setForeignStr, :593 setForeignStr, :1509 Object.setStr).
`chain = o :: (prototype chain of o)`; `none` from `setForeign*` = `(false, false)` (not handled). -/
mutual
def setOwnStr {V} (mv : MView V) : List Nat → Key → V → Act (Stored V) V
  | [], _, _ => .fail
  | o :: rest, name, val =>
    match mv.own o name with
    | none =>                                                                       -- :475
      match setForeignStr mv rest name val (.obj o) with                            -- :476-481 (rest = [] ⇔ prototype == nil)
      | some res => res
      | none => if !mv.ext o then .fail else .write o name (.plain val) true        -- :483-490
    | some (.prop prop) =>                                                          -- :493
      if !prop.isWritable then .fail else prop.setAct o name (.obj o) val
    | some (.plain _) => .write o name (.plain val) false                           -- :501
def setForeignStr {V} (mv : MView V) : List Nat → Key → V → Recv → Option (Act (Stored V) V)
  | [], _, _, _ => none
  | o :: rest, name, val, receiver =>
    match mv.own o name with                                                        -- :594 prop = o.values[name]
    | some (.prop prop) =>                                                          -- :549
      if !prop.isWritable then some .fail                                           -- :550
      else match prop.setterFunc with                                               -- :554
        | some f => some (.call f receiver val)
        | none => none
    | some (.plain _) => none                                                       -- :567
    | none =>
      match rest with                                                               -- :560
      | [] => none
      | proto :: _ =>
        if receiver != .obj proto then setForeignStr mv rest name val receiver      -- :561
        else some (setOwnStr mv rest name val)                                      -- :564
end

def objSetStr {V} [DecidableEq V] (undef : V) (mv : MView V) (chain : List Nat) (name : Key) (val : V)
    (receiver : Recv) : Act (Stored V) V :=
  match chain with
  | [] => .fail
  | o :: _ =>
    if receiver == .obj o then setOwnStr mv chain name val                          -- :1510
    else match setForeignStr mv chain name val receiver with                        -- :1514
      | some res => res
      | none =>
        match receiver with
        | .obj robj =>
          match mv.own robj name with                                               -- :1516
          | some (.prop desc) =>
            if desc.accessor then .fail                                             -- :1518
            else if !desc.writable then .fail                                       -- :1522
            else defineAct undef mv robj name (descValue val)                 -- :1527
          | some (.plain _) => defineAct undef mv robj name (descValue val)
          | none => defineAct undef mv robj name (descFull val)               -- :1530
        | .prim => .fail                                                            -- :1538

/-! ### copy 3: symbol keys (object.go:510 setOwnSym, :607 setForeignSym, :1603 Object.setSym). -/
mutual
def setOwnSym {V} (mv : MView V) : List Nat → Key → V → Act (Stored V) V
  | [], _, _ => .fail
  | o :: rest, name, val =>
    match mv.own o name with                                                        -- :512 o.symValues.get(name)
    | none =>
      match setForeignSym mv rest name val (.obj o) with                            -- :516-520
      | some res => res
      | none => if !mv.ext o then .fail else .write o name (.plain val) true        -- :523-531
    | some (.prop prop) =>                                                          -- :534
      if !prop.isWritable then .fail else prop.setAct o name (.obj o) val
    | some (.plain _) => .write o name (.plain val) false                           -- :542
def setForeignSym {V} (mv : MView V) : List Nat → Key → V → Recv → Option (Act (Stored V) V)
  | [], _, _, _ => none
  | o :: rest, name, val, receiver =>
    match mv.own o name with                                                        -- :609
    | some (.prop prop) =>                                                          -- :613
      if !prop.isWritable then some .fail
      else match prop.setterFunc with                                               -- :618
        | some f => some (.call f receiver val)
        | none => none
    | some (.plain _) => none
    | none =>
      match rest with                                                               -- :624
      | [] => none
      | proto :: _ =>
        if receiver != .obj proto then setForeignSym mv rest name val receiver      -- :625 (was `receiver != o.val` before f4bc093)
        else some (setOwnSym mv rest name val)                                      -- :628
end

def objSetSym {V} [DecidableEq V] (undef : V) (mv : MView V) (chain : List Nat) (name : Key) (val : V)
    (receiver : Recv) : Act (Stored V) V :=
  match chain with
  | [] => .fail
  | o :: _ =>
    if receiver == .obj o then setOwnSym mv chain name val                          -- :1604
    else match setForeignSym mv chain name val receiver with                        -- :1608
      | some res => res
      | none =>
        match receiver with
        | .obj robj =>
          match mv.own robj name with                                               -- :1610
          | some (.prop desc) =>
            if desc.accessor then .fail
            else if !desc.writable then .fail
            else defineAct undef mv robj name (descValue val)                 -- :1621
          | some (.plain _) => defineAct undef mv robj name (descValue val)
          | none => defineAct undef mv robj name (descFull val)               -- :1624
        | .prim => .fail

/-- The symbol copy as it was BEFORE commit f4bc093 (`receiver != o.val` at object.go:625): kept only to state the
witness theorem `setForeignSym_prefix_witness`. -/
def setForeignSymPre {V} (mv : MView V) : List Nat → Key → V → Recv → Option (Act (Stored V) V)
  | [], _, _, _ => none
  | o :: rest, name, val, receiver =>
    match mv.own o name with
    | some (.prop prop) =>
      if !prop.isWritable then some .fail
      else match prop.setterFunc with
        | some f => some (.call f receiver val)
        | none => none
    | some (.plain _) => none
    | none =>
      match rest with
      | [] => none
      | _ :: _ =>
        if receiver != .obj o then setForeignSymPre mv rest name val receiver       -- the defect: compares with o.val
        else some (setOwnSym mv rest name val)

/-! ### copy 2: index keys (object.go:506 setOwnIdx, :570 _setForeignIdx, :597 setForeignIdx, :1567 Object.setIdx).
`baseObject.setOwnIdx` delegates to `o.val.self.setOwnStr(idx.string())`; `setForeignIdx` has a fast path when the
object has no index-named own property (`idxPropCount == 0` after `ensurePropOrder`). -/
def setOwnIdx {V} (mv : MView V) (chain : List Nat) (idx : Key) (val : V) : Act (Stored V) V :=
  setOwnStr mv chain idx val                                                        -- :507

def setForeignIdx {V} (mv : MView V) : List Nat → Key → V → Recv → Option (Act (Stored V) V)
  | [], _, _, _ => none
  | o :: rest, idx, val, receiver =>
    if mv.idxCount o == 0 then                                                      -- :598-600  (toIdx(name) valid for Key.idx)
      -- _setForeignIdx(name, nil, val, receiver, throw)  :601 → :582 (prop == nil branch)
      match rest with
      | [] => none
      | proto :: _ =>
        if receiver != .obj proto then setForeignIdx mv rest idx val receiver       -- :584
        else some (setOwnIdx mv rest idx val)                                       -- :587
    else setForeignStr mv (o :: rest) idx val receiver                              -- :604

def objSetIdx {V} [DecidableEq V] (undef : V) (mv : MView V) (chain : List Nat) (name : Key) (val : V)
    (receiver : Recv) : Act (Stored V) V :=
  match chain with
  | [] => .fail
  | o :: _ =>
    if receiver == .obj o then setOwnIdx mv chain name val                          -- :1568
    else match setForeignIdx mv chain name val receiver with                        -- :1572
      | some res => res
      | none =>
        match receiver with
        | .obj robj =>
          match mv.own robj name with                                               -- :1574
          | some (.prop desc) =>
            if desc.accessor then .fail
            else if !desc.writable then .fail
            else defineAct undef mv robj name (descValue val)                 -- :1585
          | some (.plain _) => defineAct undef mv robj name (descValue val)
          | none => defineAct undef mv robj name (descFull val)               -- :1588
        | .prim => .fail

/-- `Object.set` (object.go:1545): dispatch on the key kind. -/
def objSet {V} [DecidableEq V] (undef : V) (mv : MView V) (chain : List Nat) (k : Key) (val : V)
    (receiver : Recv) : Act (Stored V) V :=
  match k with
  | .idx _ => objSetIdx undef mv chain k val receiver
  | .sym _ => objSetSym undef mv chain k val receiver
  | .str _ => objSetStr undef mv chain k val receiver

/-! ### Spec: OrdinarySet / OrdinarySetWithOwnDescriptor (ECMA-262 10.1.9.1-2) over a prototype chain. -/

/-- Steps 2.b-2.e of OrdinarySetWithOwnDescriptor (ownDesc is a writable data descriptor). -/
def setData {V} [DecidableEq V] (undef : V) (sv : SView V) (k : Key) (v : V) (receiver : Recv) : Act (SProp V) V :=
  match receiver with
  | .prim => .fail                                                                  -- 2.b
  | .obj r =>
    match sv.own r k with                                                           -- 2.c
    | some (.acc ..) => .fail                                                       -- 2.d.i
    | some (.data v0 w e c) =>
      if !w then .fail                                                              -- 2.d.ii
      else match validateAndApply undef (some (.data v0 w e c)) (descValue v) (sv.ext r) with   -- 2.d.iv
        | some p => .write r k p false
        | none => .fail
    | none =>                                                                       -- 2.e CreateDataProperty
      match validateAndApply undef none (descFull v) (sv.ext r) with
      | some p => .write r k p true
      | none => .fail

def ordinarySet {V} [DecidableEq V] (undef : V) (sv : SView V) : List Nat → Key → V → Recv → Act (SProp V) V
  | [], k, v, receiver => setData undef sv k v receiver             -- parent is null: ownDesc := {undefined, w,e,c = true}
  | o :: rest, k, v, receiver =>
    match sv.own o k with
    | none => ordinarySet undef sv rest k v receiver                -- 1.b parent.[[Set]](P, V, Receiver)
    | some (.data _ w _ _) =>
      if !w then .fail else setData undef sv k v receiver           -- 2.a / 2.b-e
    | some (.acc _ s _ _) =>
      match s with                                                  -- 4-7
      | none => .fail
      | some f => .call f receiver v

/-! ## Part 3 — PropOrder

`baseObject.propNames` with the two counters, as three segments:
  `A = propNames[0 : idxPropCount]`, `B = propNames[idxPropCount : lastSortedPropLen]`, `C = propNames[lastSortedPropLen :]`.
Names are `Key.idx`/`Key.str` (a name is an array index iff `strToArrayIdx(name) != MaxUint32`). -/
structure PO where
  A : List Key
  B : List Key
  C : List Key
  deriving Repr

def PO.names (s : PO) : List Key := s.A ++ s.B ++ s.C
def PO.idxPropCount (s : PO) : Nat := s.A.length
def PO.lastSortedPropLen (s : PO) : Nat := s.A.length + s.B.length
def PO.empty : PO := { A := [], B := [], C := [] }

/-- `o.propNames = append(names, name)` (object.go:489, :772, :801) guarded by "not already a key of `values`". -/
def PO.add (s : PO) (n : Key) : PO :=
  if n ∈ s.names then s else { s with C := s.C ++ [n] }

/-- `_delete` (object.go:399): remove the first occurrence; `lastSortedPropLen--` if it was below it, `idxPropCount--`
if it was below that. -/
def PO.delete (s : PO) (n : Key) : PO :=
  if n ∈ s.A then { s with A := s.A.erase n }
  else if n ∈ s.B then { s with B := s.B.erase n }
  else { s with C := s.C.erase n }

/-- `sort.Search(idxPropCount, func(j) { strToArrayIdx(names[j]) >= idx })` + `copy(names[k+1:i+1], names[k:i]); names[k] = name`
(object.go:1364-1378) on the sorted index segment: insert before the first element whose index is ≥ idx. -/
def insertAsc (x : Key) : List Key → List Key
  | [] => [x]
  | a :: as => if a.idxVal < x.idxVal then a :: insertAsc x as else x :: a :: as

/-- The loop of `fixPropOrder` (object.go:1361-1382) over the unsorted tail. -/
def fixLoop (A B : List Key) : List Key → List Key × List Key
  | [] => (A, B)
  | name :: C =>
    if name.isIdx then fixLoop (insertAsc name A) B C       -- :1363-1380 (idxPropCount++)
    else fixLoop A (B ++ [name]) C                          -- stays where it is

/-- `ensurePropOrder` (object.go:1346) → `fixPropOrder` (:1359); `lastSortedPropLen = len(names)`. -/
def PO.ensure (s : PO) : PO :=
  match s.C with
  | [] => s
  | _ => let r := fixLoop s.A s.B s.C; { A := r.1, B := r.2, C := [] }

/-- Creation order ghost state: the spec's "ascending chronological order of property creation". -/
def createdAdd (l : List Key) (n : Key) : List Key := if n ∈ l then l else l ++ [n]
def createdDelete (l : List Key) (n : Key) : List Key := l.erase n

inductive POOp where
  | add (n : Key) | delete (n : Key) | ensure
  deriving Repr

def PO.step (s : PO) : POOp → PO
  | .add n => s.add n
  | .delete n => s.delete n
  | .ensure => s.ensure
def createdStep (l : List Key) : POOp → List Key
  | .add n => createdAdd l n
  | .delete n => createdDelete l n
  | .ensure => l
def PO.run (s : PO) (ops : List POOp) : PO := ops.foldl PO.step s
def createdRun (l : List Key) (ops : List POOp) : List Key := ops.foldl createdStep l

/-- Strictly ascending by array index. -/
def Asc (l : List Key) : Prop := l.Pairwise (fun a b => a.idxVal < b.idxVal)

/-! ## Part 4 — spec heap of ordinary objects, internal methods, integrity levels -/

def lookup {α} : List (Key × α) → Key → Option α
  | [], _ => none
  | (k', a) :: rest, k => if k' = k then some a else lookup rest k

/-- store: replace in place, or append (property creation order). -/
def put {α} : List (Key × α) → Key → α → List (Key × α)
  | [], k, a => [(k, a)]
  | (k', a') :: rest, k, a => if k' = k then (k, a) :: rest else (k', a') :: put rest k a

def eraseKey {α} : List (Key × α) → Key → List (Key × α)
  | [], _ => []
  | (k', a') :: rest, k => if k' = k then rest else (k', a') :: eraseKey rest k

structure Obj (V : Type) where
  proto : Option Nat
  ext : Bool
  props : List (Key × SProp V)
  deriving Repr

abbrev Heap (V : Type) := Nat → Obj V

def Heap.upd {V} (h : Heap V) (i : Nat) (o : Obj V) : Heap V := fun j => if j = i then o else h j

def Heap.view {V} (h : Heap V) : SView V :=
  { own := fun o k => lookup (h o).props k, ext := fun o => (h o).ext }

/-- `[o, proto o, proto (proto o), …]` (fuel-bounded; the driver passes the number of objects + 1). -/
def chainOf {V} (h : Heap V) : Nat → Nat → List Nat
  | 0, _ => []
  | fuel + 1, o => o :: (match (h o).proto with
                         | some p => chainOf h fuel p
                         | none => [])

/-- [[DefineOwnProperty]] (OrdinaryDefineOwnProperty 10.1.6.1). -/
def sDefine {V} [DecidableEq V] (undef : V) (h : Heap V) (o : Nat) (k : Key) (d : Desc V) : Heap V × Bool :=
  match validateAndApply undef (lookup (h o).props k) d (h o).ext with
  | some p => (h.upd o { (h o) with props := put (h o).props k p }, true)
  | none => (h, false)

/-- [[Delete]] (OrdinaryDelete 10.1.10.1). -/
def sDelete {V} (h : Heap V) (o : Nat) (k : Key) : Heap V × Bool :=
  match lookup (h o).props k with
  | none => (h, true)
  | some p => if p.configurable then (h.upd o { (h o) with props := eraseKey (h o).props k }, true) else (h, false)

inductive GetRes (V : Type) where
  | val (v : V)
  | call (f : V) (this : Recv)
  deriving Repr

/-- [[Get]] (OrdinaryGet 10.1.8.1) along the chain. -/
def sGet {V} (undef : V) (h : Heap V) : List Nat → Key → Recv → GetRes V
  | [], _, _ => .val undef
  | o :: rest, k, r =>
    match lookup (h o).props k with
    | none => sGet undef h rest k r
    | some (.data v _ _ _) => .val v
    | some (.acc g _ _ _) => match g with
      | none => .val undef
      | some f => .call f r

/-- [[HasProperty]] (OrdinaryHasProperty 10.1.7.1). -/
def sHas {V} (h : Heap V) : List Nat → Key → Bool
  | [], _ => false
  | o :: rest, k => (lookup (h o).props k).isSome || sHas h rest k

def applyAct {V} (h : Heap V) : Act (SProp V) V → Heap V
  | .write o k p _ => h.upd o { (h o) with props := put (h o).props k p }
  | _ => h

/-- [[Set]] — heap effect and result; the setter call (if any) is reported to the caller. -/
def sSet {V} [DecidableEq V] (undef : V) (h : Heap V) (chain : List Nat) (k : Key) (v : V) (r : Recv) :
    Heap V × Act (SProp V) V :=
  let a := ordinarySet undef h.view chain k v r
  (applyAct h a, a)

def insertNat (x : Nat) : List Nat → List Nat
  | [] => [x]
  | a :: as => if a < x then a :: insertNat x as else x :: a :: as
def sortNat (l : List Nat) : List Nat := l.foldr insertNat []

/-- [[OwnPropertyKeys]] (OrdinaryOwnPropertyKeys 10.1.11.1): indices ascending, strings then symbols in creation order. -/
def ownKeys {α} (props : List (Key × α)) : List Key :=
  let ks := props.map (·.1)
  (sortNat ((ks.filter Key.isIdx).map Key.idxVal)).map Key.idx
    ++ ks.filter (fun k => !k.isIdx && !k.isSym) ++ ks.filter Key.isSym

def sPreventExt {V} (h : Heap V) (o : Nat) : Heap V := h.upd o { (h o) with ext := false }

/-- [[SetPrototypeOf]] (OrdinarySetPrototypeOf 10.1.2.1). -/
def sSetProto {V} (h : Heap V) (fuel : Nat) (o : Nat) (p : Option Nat) : Heap V × Bool :=
  if (h o).proto = p then (h, true)
  else if !(h o).ext then (h, false)
  else match p with
    | none => (h.upd o { (h o) with proto := none }, true)
    | some q => if o ∈ chainOf h fuel q then (h, false) else (h.upd o { (h o) with proto := some q }, true)

def sealProp {V} : SProp V → SProp V
  | .data v w e _ => .data v w e false
  | .acc g s e _ => .acc g s e false
def freezeProp {V} : SProp V → SProp V
  | .data v _ e _ => .data v false e false
  | .acc g s e _ => .acc g s e false

/-- SetIntegrityLevel (7.3.15) on an ordinary object: always succeeds. -/
def sSetIntegrity {V} (h : Heap V) (o : Nat) (frozen : Bool) : Heap V :=
  h.upd o { (h o) with ext := false,
                       props := (h o).props.map (fun kp => (kp.1, if frozen then freezeProp kp.2 else sealProp kp.2)) }

/-- TestIntegrityLevel (7.3.16). -/
def sTestIntegrity {V} (o : Obj V) (frozen : Bool) : Bool :=
  !o.ext && o.props.all (fun kp => !kp.2.configurable && (!frozen || kp.2.isAcc || !kp.2.writable))

/-! ## Part 2b — [[Get]], [[HasProperty]], [[Delete]]: the three key-kind copies and their specs -/

/-- `valueProperty.get(this)` value.go:513 -/
def VProp.getRes {V} (p : VProp V) (undef : V) (this : Recv) : GetRes V :=
  match p.getterFunc with
  | none => (match p.value with
             | some v => .val v
             | none => .val undef)
  | some f => .call f this

/-- `baseObject.getStr` object.go:347 (`receiver == nil` ⇒ the caller passes `.obj o`; a nil result is `undefined`). -/
def getStr {V} (undef : V) (mv : MView V) : List Nat → Key → Recv → GetRes V
  | [], _, _ => .val undef                                          -- prop == nil && prototype == nil  :363
  | o :: rest, name, receiver =>
    match mv.own o name with                                        -- :348
    | none => getStr undef mv rest name receiver                    -- :349-355
    | some (.prop p) => p.getRes undef receiver                     -- :357-362
    | some (.plain v) => .val v                                     -- :363

/-- `baseObject.getSym` object.go:343 = `getWithOwnProp(getOwnPropSym(s), s, receiver)` :307 -/
def getSym {V} (undef : V) (mv : MView V) : List Nat → Key → Recv → GetRes V
  | [], _, _ => .val undef
  | o :: rest, s, receiver =>
    match mv.own o s with                                           -- :370 getOwnPropSym
    | none => getSym undef mv rest s receiver                       -- :308-313 o.prototype.get(p, receiver)
    | some (.prop p) => p.getRes undef receiver                     -- :314-319
    | some (.plain v) => .val v                                     -- :320

/-- `baseObject.getIdx` object.go:339: `o.val.self.getStr(idx.string(), receiver)` -/
def getIdx {V} (undef : V) (mv : MView V) (chain : List Nat) (idx : Key) (receiver : Recv) : GetRes V :=
  getStr undef mv chain idx receiver

/-- OrdinaryGet (10.1.8.1) over a view -/
def ordinaryGet {V} (undef : V) (sv : SView V) : List Nat → Key → Recv → GetRes V
  | [], _, _ => .val undef
  | o :: rest, k, r =>
    match sv.own o k with
    | none => ordinaryGet undef sv rest k r
    | some (.data v _ _ _) => .val v
    | some (.acc g _ _ _) => (match g with
      | none => .val undef
      | some f => .call f r)

/-- `hasPropertyStr` object.go:283 / `hasPropertySym` :297 / `hasPropertyIdx` :293 (→ Str) -/
def hasPropertyStr {V} (mv : MView V) : List Nat → Key → Bool
  | [], _ => false
  | o :: rest, name => (mv.own o name).isSome || hasPropertyStr mv rest name       -- :284-290
def hasPropertySym {V} (mv : MView V) : List Nat → Key → Bool
  | [], _ => false
  | o :: rest, s => (mv.own o s).isSome || hasPropertySym mv rest s                -- :298-304
def hasPropertyIdx {V} (mv : MView V) (chain : List Nat) (idx : Key) : Bool :=
  hasPropertyStr mv chain idx                                                       -- :294

/-- OrdinaryHasProperty (10.1.7.1) over a view -/
def ordinaryHas {V} (sv : SView V) : List Nat → Key → Bool
  | [], _ => false
  | o :: rest, k => (sv.own o k).isSome || ordinaryHas sv rest k

/-- outcome of [[Delete]]: result and whether the slot is removed -/
structure DelRes where
  ok : Bool
  erase : Bool
  deriving DecidableEq, Repr

/-- `checkDelete` object.go:392 / `checkDeleteProp` :381 -/
def checkDelete {V} : Stored V → Bool
  | .prop p => p.configurable
  | .plain _ => true

/-- `deleteStr` object.go:441 -/
def deleteStr {V} (mv : MView V) (o : Nat) (name : Key) : DelRes :=
  match mv.own o name with
  | some val => if !checkDelete val then ⟨false, false⟩ else ⟨true, true⟩     -- :443-446
  | none => ⟨true, false⟩                                                      -- :448
/-- `deleteSym` object.go:429 -/
def deleteSym {V} (mv : MView V) (o : Nat) (s : Key) : DelRes :=
  match mv.own o s with                                                        -- :431
  | some val => if !checkDelete val then ⟨false, false⟩ else ⟨true, true⟩     -- :432-435
  | none => ⟨true, false⟩
/-- `deleteIdx` object.go:425 -/
def deleteIdx {V} (mv : MView V) (o : Nat) (idx : Key) : DelRes := deleteStr mv o idx

/-- OrdinaryDelete (10.1.10.1) over a view -/
def ordinaryDelete {V} (sv : SView V) (o : Nat) (k : Key) : DelRes :=
  match sv.own o k with
  | none => ⟨true, false⟩
  | some p => if p.configurable then ⟨true, true⟩ else ⟨false, false⟩

/-! ### Snapshot monitor — the essential invariants (6.1.7.3) between two observed states of ONE object.
Used (a) as a theorem about every spec step, (b) on the implementation's dumps for object kinds that are not modelled. -/

structure Snap (V : Type) where
  proto : Option Nat
  ext : Bool
  keys : List Key                    -- as reported by Reflect.ownKeys
  props : List (Key × SProp V)       -- getOwnPropertyDescriptor for each reported key
  deriving Repr

/-- a non-configurable property may only lose [[Writable]]; a non-writable one keeps its value. -/
def frozenStep {V} [DecidableEq V] : SProp V → SProp V → Bool
  | .data v w e _, .data v' w' e' c' => !c' && e' == e && (w || (!w' && v' == v))
  | .acc g s e _, .acc g' s' e' c' => !c' && e' == e && g' == g && s' == s
  | _, _ => false

def keyClass : Key → Nat
  | .idx _ => 0
  | .str _ => 1
  | .sym _ => 2

/-- own keys ordered: indices ascending, then strings, then symbols. -/
def keysOrdered : List Key → Bool
  | [] => true
  | [_] => true
  | a :: b :: rest =>
    (keyClass a < keyClass b || (keyClass a == keyClass b && (!a.isIdx || a.idxVal < b.idxVal))) && keysOrdered (b :: rest)

def keysNodup : List Key → Bool
  | [] => true
  | a :: rest => !rest.contains a && keysNodup rest

/-- a single snapshot is internally consistent: keys unique, ordered, and exactly the keys that have descriptors. -/
def snapOk {V} (s : Snap V) : Bool :=
  keysNodup s.keys && keysOrdered s.keys && s.keys == s.props.map (·.1)

/-- the step from `s` to `s'` respects the invariants. -/
def monitorStep {V} [DecidableEq V] (s s' : Snap V) : Bool :=
  -- non-configurable properties stay, with frozen shape
  s.props.all (fun kp => kp.2.configurable ||
      (match lookup s'.props kp.1 with
       | some p' => frozenStep kp.2 p'
       | none => false))
  -- non-extensible: no new keys, same prototype, stays non-extensible
  && (s.ext || (!s'.ext && s'.proto == s.proto && s'.keys.all (fun k => s.keys.contains k)))

def Obj.snap {V} (o : Obj V) : Snap V :=
  let ks := ownKeys o.props
  { proto := o.proto, ext := o.ext, keys := ks,
    props := ks.filterMap (fun k => (lookup o.props k).map (fun p => (k, p))) }

end GojaModel.C04
