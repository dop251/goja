/-
  C04 — SetIntegrityLevel (7.3.15) as the spec writes it (PreventExtensions, then one DefinePropertyOrThrow per own key):
  what the loop over the keys computes (`integrityLoop_spec`; Props.lean `freeze_seal_spec` compares it with the one-shot
  `sSetIntegrity` of the heap model).
-/
import GojaModel.C04.Hist
namespace GojaModel.C04

/-- The descriptor SetIntegrityLevel passes to DefinePropertyOrThrow for a property currently described by `p`. -/
def integrityDesc {V} (frozen : Bool) (p : SProp V) : Desc V :=
  { value := none, writable := if frozen && !p.isAcc then .fFalse else .notSet, enumerable := .notSet,
    configurable := .fFalse, getter := none, setter := none }

theorem integrityDesc_wf {V} (frozen : Bool) (p : SProp V) : (integrityDesc frozen p).wellFormed = true := by
  simp [integrityDesc, Desc.wellFormed, Desc.isAccessor]

def lvl {V} (frozen : Bool) (p : SProp V) : SProp V := if frozen then freezeProp p else sealProp p

theorem integrity_prop_spec {V} [DecidableEq V] (undef : V) (frozen : Bool) (p : SProp V) (ext : Bool) :
    validateAndApply undef (some p) (integrityDesc frozen p) ext = some (lvl frozen p) := by
  rw [validateAndApply_some, lvl]
  cases p <;> cases frozen <;>
    simp [specRejects, specApply, integrityDesc, freezeProp, sealProp, Desc.isAccessor, Desc.isData, Desc.isGeneric,
      Flag.isSet, Flag.getD, SProp.isAcc, SProp.enumerable]

/-- steps 5-6 of SetIntegrityLevel over a key list; `none` = a DefinePropertyOrThrow threw -/
def integrityLoop {V} [DecidableEq V] (undef : V) (frozen : Bool) (ext : Bool) :
    List (Key × SProp V) → List Key → Option (List (Key × SProp V))
  | props, [] => some props
  | props, k :: ks =>
    match lookup props k with
    | none => integrityLoop undef frozen ext props ks                       -- currentDesc undefined: skip
    | some p =>
      match validateAndApply undef (some p) (integrityDesc frozen p) ext with
      | none => none
      | some q => integrityLoop undef frozen ext (put props k q) ks

theorem integrityLoop_spec {V} [DecidableEq V] (undef : V) (frozen : Bool) (ext : Bool) :
    ∀ (ks : List Key) (props : List (Key × SProp V)), (keysOf props).Nodup → ks.Nodup →
      integrityLoop undef frozen ext props ks =
        some (props.map (fun kp => if kp.1 ∈ ks then (kp.1, lvl frozen kp.2) else kp)) := by
  intro ks
  induction ks with
  | nil => intro props _ _; simp [integrityLoop]
  | cons k ks ih =>
    intro props hn hks
    have hk := List.nodup_cons.mp hks
    simp only [integrityLoop]
    cases hl : lookup props k with
    | none =>
      simp only
      rw [ih props hn hk.2]
      congr 1
      apply List.map_congr_left
      intro kp hkp
      have : kp.1 ≠ k := by
        intro e
        have := (mem_keys_iff props k).mp (by rw [← e]; exact List.mem_map.mpr ⟨kp, hkp, rfl⟩)
        rw [hl] at this; cases this
      simp [this]
    | some p =>
      simp only
      rw [integrity_prop_spec]
      simp only
      have hput := put_map props k (lvl frozen p) hn (by simp [hl])
      have hn2 : (keysOf (put props k (lvl frozen p))).Nodup := nodup_put _ _ _ hn
      show integrityLoop undef frozen ext (put props k (lvl frozen p)) ks = _
      rw [ih _ hn2 hk.2, hput, List.map_map]
      congr 1
      apply List.map_congr_left
      intro kp hkp
      obtain ⟨k1, p1⟩ := kp
      simp only [Function.comp]
      by_cases h1 : k1 = k
      · subst h1
        have : lookup props k1 = some p1 := lookup_of_mem_nodup props k1 p1 hn hkp
        rw [hl] at this; cases this
        simp [hk.1]
      · simp [h1]

end GojaModel.C04
