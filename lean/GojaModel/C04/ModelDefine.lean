/-
  C04 — essential object invariants, every object kind × key kind.
  Executable model, CORE LEAN ONLY (linked into model_c04).

  Part 1  DefineOwn   : baseObject._defineOwnProperty (object.go:650, after fix d72dab1) transcribed line by line,
                        and the spec's ValidateAndApplyPropertyDescriptor (ECMA-262 10.1.6.3).
  Parts 2-4 (SetPath, PropOrder, spec heap) are in Model.lean.
-/
namespace GojaModel.C04

/-! ## Part 1 — DefineOwn -/

/-- `Flag` (value.go): FLAG_NOT_SET / FLAG_TRUE / FLAG_FALSE. -/
inductive Flag where
  | notSet | fTrue | fFalse
  deriving DecidableEq, Repr, Inhabited

/-- `Flag.Bool()` -/
def Flag.bool : Flag → Bool
  | .fTrue => true
  | _ => false

def Flag.isSet : Flag → Bool
  | .notSet => false
  | _ => true

/-- `PropertyDescriptor` (object.go:55).  `value = none` ⇔ `descr.Value == nil`.
`getter = none` ⇔ `descr.Getter == nil` (field absent); `some none` ⇔ `_undefined`; `some (some f)` ⇔ a callable object. -/
structure Desc (V : Type) where
  value : Option V
  writable : Flag
  enumerable : Flag
  configurable : Flag
  getter : Option (Option V)
  setter : Option (Option V)
  deriving Repr

/-- `valueProperty` (value.go:132). -/
structure VProp (V : Type) where
  value : Option V
  writable : Bool
  configurable : Bool
  enumerable : Bool
  accessor : Bool
  getterFunc : Option V
  setterFunc : Option V
  deriving Repr, DecidableEq

/-- What a slot of `baseObject.values` / `symValues` holds: a plain value (= writable, enumerable, configurable data
property) or a `*valueProperty`. -/
inductive Stored (V : Type) where
  | plain (v : V)
  | prop (p : VProp V)
  deriving Repr, DecidableEq

/-- `IsAccessor()` object.go:70 -/
def Desc.isAccessor {V} (d : Desc V) : Bool := d.setter.isSome || d.getter.isSome
/-- `IsData()` object.go:74 -/
def Desc.isData {V} (d : Desc V) : Bool := d.value.isSome || d.writable.isSet
def Desc.isGeneric {V} (d : Desc V) : Bool := !d.isAccessor && !d.isData

/-- A descriptor that `toPropertyDescriptor` (builtin_object.go:196) or the Go API (value.go:854-900) can produce:
never both accessor and data fields. -/
def Desc.wellFormed {V} (d : Desc V) : Bool := !(d.isAccessor && d.isData)

/-- `getterObj, _ := descr.Getter.(*Object)` object.go:652 — nil for an absent field AND for `_undefined`. -/
def objOf {V} (g : Option (Option V)) : Option V := g.bind id

/-- existing slot → the `*valueProperty` the function works on (object.go:657-671); the rejection of a new key on a
non-extensible object (:658) is in `defineOwn`. -/
def existingOf {V} (existingValue : Option (Stored V)) : VProp V :=
  match existingValue with
  | none => { value := none, writable := false, configurable := false, enumerable := false, accessor := false,
              getterFunc := none, setterFunc := none }                                    -- &valueProperty{}  :662
  | some (.prop p) => p                                                                   -- :664
  | some (.plain v) => { value := some v, writable := true, configurable := true, enumerable := true,
                         accessor := false, getterFunc := none, setterFunc := none }      -- :665-670

/-- The validation part object.go:673-702 for an EXISTING property: `true` = `goto Reject`. -/
def rejects {V} [DecidableEq V] (existing : VProp V) (descr : Desc V) : Bool :=
  let getterObj := objOf descr.getter
  let setterObj := objOf descr.setter
  -- :673-680
  if !existing.configurable && (descr.configurable == .fTrue ||
        (descr.enumerable.isSet && descr.enumerable.bool != existing.enumerable)) then true
  else if (existing.accessor && descr.isData) || (!existing.accessor && descr.isAccessor) then   -- :681
    !existing.configurable                                                                 -- :682
  else if !existing.accessor then                                                          -- :685
    !existing.configurable && !existing.writable &&
      (descr.writable == .fTrue ||                                                         -- :688
       (match descr.value with                                                             -- :691  !descr.Value.SameAs(existing.value)
        | some v => !(existing.value == some v)
        | none => false))
  else                                                                                     -- :696
    !existing.configurable &&
      ((descr.getter.isSome && existing.getterFunc != getterObj) ||
       (descr.setter.isSome && existing.setterFunc != setterObj))                          -- :698

/-- The application part object.go:705-758. -/
def applyDesc {V} (undef : V) (existing : VProp V) (descr : Desc V) : Stored V :=
  match descr.value, descr.writable == .fTrue && descr.enumerable == .fTrue && descr.configurable == .fTrue with
  | some v, true => .plain v                                                               -- :705-707
  | _, _ =>
    let e := existing
    let e := if descr.writable.isSet then { e with writable := descr.writable.bool } else e           -- :709
    let e := if descr.enumerable.isSet then { e with enumerable := descr.enumerable.bool } else e     -- :712
    let e := if descr.configurable.isSet then { e with configurable := descr.configurable.bool } else e -- :715
    let e := match descr.value with                                                                   -- :719
      | some v => { e with value := some v, getterFunc := none, setterFunc := none }
      | none => e
    let e :=                                                                                          -- :725
      if descr.value.isSome || descr.writable.isSet then
        if e.accessor then
          -- :726-733 accessor → data: the accessor functions go away, [[Writable]] defaults to false
          { e with accessor := false, getterFunc := none, setterFunc := none,
                   writable := if descr.writable.isSet then e.writable else false }
        else { e with accessor := false }                                                             -- :734
      else e
    let e :=                                                                                          -- :737-740 data → accessor has no [[Writable]]
      if (descr.getter.isSome || descr.setter.isSome) && !e.accessor then { e with writable := false } else e
    let e := match descr.getter with                                                                  -- :742  propGetter(undefined) = nil
      | some g => { e with getterFunc := g, value := none, accessor := true }
      | none => e
    let e := match descr.setter with                                                                  -- :748
      | some s => { e with setterFunc := s, value := none, accessor := true }
      | none => e
    let e := if !e.accessor && e.value.isNone then { e with value := some undef } else e              -- :754
    .prop e

/-- `baseObject._defineOwnProperty` (object.go:650): `none` = `(nil, false)`; `some s` = `(s, true)`. -/
def defineOwn {V} [DecidableEq V] (undef : V) (existingValue : Option (Stored V)) (descr : Desc V)
    (extensible : Bool) : Option (Stored V) :=
  match existingValue with
  | none =>
    if !extensible then none                                                               -- :658
    else some (applyDesc undef (existingOf none) descr)
  | some ev =>
    if rejects (existingOf (some ev)) descr then none
    else some (applyDesc undef (existingOf (some ev)) descr)

/-! ### regression only: `_defineOwnProperty` as it was BEFORE commit d72dab1 (kept for the `…_prefix_witness` theorems) -/

def rejectsPre {V} [DecidableEq V] (existing : VProp V) (descr : Desc V) : Bool :=
  let getterObj := objOf descr.getter
  let setterObj := objOf descr.setter
  if !existing.configurable && (descr.configurable == .fTrue ||
        (descr.enumerable.isSet && descr.enumerable.bool != existing.enumerable)) then true
  else if (existing.accessor && descr.value.isSome) || (!existing.accessor && (getterObj.isSome || setterObj.isSome)) then
    !existing.configurable          -- the defect: tested `descr.Value != nil` / `getterObj != nil || setterObj != nil`
  else if !existing.accessor then
    !existing.configurable && !existing.writable &&
      (descr.writable == .fTrue ||
       (match descr.value with
        | some v => !(existing.value == some v)
        | none => false))
  else
    !existing.configurable &&
      ((descr.getter.isSome && existing.getterFunc != getterObj) ||
       (descr.setter.isSome && existing.setterFunc != setterObj))

def applyDescPre {V} (undef : V) (existing : VProp V) (descr : Desc V) : Stored V :=
  match descr.value, descr.writable == .fTrue && descr.enumerable == .fTrue && descr.configurable == .fTrue with
  | some v, true => .plain v
  | _, _ =>
    let e := existing
    let e := if descr.writable.isSet then { e with writable := descr.writable.bool } else e
    let e := if descr.enumerable.isSet then { e with enumerable := descr.enumerable.bool } else e
    let e := if descr.configurable.isSet then { e with configurable := descr.configurable.bool } else e
    let e := match descr.value with
      | some v => { e with value := some v, getterFunc := none, setterFunc := none }
      | none => e
    let e := if descr.value.isSome || descr.writable.isSet then { e with accessor := false } else e   -- the defect: stale fields
    let e := match descr.getter with
      | some g => { e with getterFunc := g, value := none, accessor := true }
      | none => e
    let e := match descr.setter with
      | some s => { e with setterFunc := s, value := none, accessor := true }
      | none => e
    let e := if !e.accessor && e.value.isNone then { e with value := some undef } else e
    .prop e

def defineOwnPre {V} [DecidableEq V] (undef : V) (existingValue : Option (Stored V)) (descr : Desc V)
    (extensible : Bool) : Option (Stored V) :=
  match existingValue with
  | none => if !extensible then none else some (applyDescPre undef (existingOf none) descr)
  | some ev =>
    if rejectsPre (existingOf (some ev)) descr then none
    else some (applyDescPre undef (existingOf (some ev)) descr)

/-- Spec-level property (ECMA-262 6.1.7.1): data or accessor, fully populated. -/
inductive SProp (V : Type) where
  | data (value : V) (writable enumerable configurable : Bool)
  | acc (get set : Option V) (enumerable configurable : Bool)
  deriving Repr, DecidableEq

def SProp.configurable {V} : SProp V → Bool
  | .data _ _ _ c => c
  | .acc _ _ _ c => c
def SProp.enumerable {V} : SProp V → Bool
  | .data _ _ e _ => e
  | .acc _ _ e _ => e
def SProp.isAcc {V} : SProp V → Bool
  | .data .. => false
  | .acc .. => true
/-- [[Writable]] of a data property; an accessor has none (false). -/
def SProp.writable {V} : SProp V → Bool
  | .data _ w _ _ => w
  | .acc .. => false

def Flag.getD (f : Flag) (d : Bool) : Bool :=
  match f with
  | .notSet => d
  | .fTrue => true
  | .fFalse => false

/-- ValidateAndApplyPropertyDescriptor (ECMA-262 10.1.6.3) with O ≠ undefined, on the value of the slot:
`none` = return false; `some p` = return true with the slot holding `p` afterwards. -/
def validateAndApply {V} [DecidableEq V] (undef : V) (current : Option (SProp V)) (d : Desc V) (extensible : Bool) :
    Option (SProp V) :=
  match current with
  | none =>                                                                     -- step 2
    if !extensible then none                                                    -- 2.a
    else if d.isAccessor then                                                   -- 2.c
      some (.acc ((d.getter.getD none)) ((d.setter.getD none)) (d.enumerable.getD false) (d.configurable.getD false))
    else                                                                        -- 2.d
      some (.data (d.value.getD undef) (d.writable.getD false) (d.enumerable.getD false) (d.configurable.getD false))
  | some cur =>
    -- step 5: current.[[Configurable]] is false
    let bad : Bool :=
      !cur.configurable &&
        ( d.configurable == .fTrue                                                           -- 5.a
        || (d.enumerable.isSet && d.enumerable.bool != cur.enumerable)                       -- 5.b
        || (!d.isGeneric && (d.isAccessor != cur.isAcc))                                     -- 5.c
        || (match cur with
            | .acc g s _ _ =>                                                                -- 5.d
              (match d.getter with | some g' => g != g' | none => false) ||
              (match d.setter with | some s' => s != s' | none => false)
            | .data v w _ _ =>                                                               -- 5.e
              !w && (d.writable == .fTrue || (match d.value with | some v' => v != v' | none => false))))
    if bad then none
    else
      let e := d.enumerable.getD cur.enumerable
      let c := d.configurable.getD cur.configurable
      match cur with
      | .data v w _ _ =>
        if d.isAccessor then                                                                 -- 6.a
          some (.acc (d.getter.getD none) (d.setter.getD none) e c)
        else some (.data (d.value.getD v) (d.writable.getD w) e c)                           -- 6.c
      | .acc g s _ _ =>
        if d.isData then                                                                     -- 6.b
          some (.data (d.value.getD undef) (d.writable.getD false) e c)
        else some (.acc (d.getter.getD g) (d.setter.getD s) e c)                             -- 6.c

/-- Abstraction: what `valuePropToDescriptorObject` (builtin_object.go:31) shows for a stored slot. -/
def absProp {V} (undef : V) : Stored V → SProp V
  | .plain v => .data v true true true
  | .prop p =>
    if p.accessor then .acc p.getterFunc p.setterFunc p.enumerable p.configurable
    else .data (p.value.getD undef) p.writable p.enumerable p.configurable

/-- Representation invariant of a `*valueProperty`: an accessor has no [[Writable]] residue and no value; a data
property has no getter/setter residue and a non-nil value.  `isWritable()` (value.go:509), `get`, `set` rely on it. -/
def VProp.repInv {V} (p : VProp V) : Bool :=
  if p.accessor then !p.writable && p.value.isNone
  else p.getterFunc.isNone && p.setterFunc.isNone && p.value.isSome

def Stored.repInv {V} : Stored V → Bool
  | .plain _ => true
  | .prop p => p.repInv

end GojaModel.C04
