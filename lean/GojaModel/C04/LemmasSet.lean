/-
  C04 — SetPath — the three key-kind copies coincide and refine OrdinarySet.
-/
import GojaModel.C04.LemmasDefine
namespace GojaModel.C04

/-- The fast path of `setForeignIdx` is sound when `idxPropCount = 0` really means "no index-named own property"
(`propOrder_idxCount`). -/
def IdxCountOk {V} (mv : MView V) : Prop :=
  ∀ o n, mv.idxCount o = 0 → mv.own o (.idx n) = none

def RepInvView {V} (mv : MView V) : Prop := ∀ o k s, mv.own o k = some s → s.repInv = true

theorem setSym_eq_setStr_aux {V} (mv : MView V) (k : Key) (v : V) :
    ∀ chain : List Nat, (setOwnSym mv chain k v = setOwnStr mv chain k v) ∧
      (∀ r, setForeignSym mv chain k v r = setForeignStr mv chain k v r) := by
  intro chain
  induction chain with
  | nil => simp [setOwnSym, setOwnStr, setForeignSym, setForeignStr]
  | cons o rest ih =>
    obtain ⟨ihO, ihF⟩ := ih
    constructor
    · simp only [setOwnSym, setOwnStr, ihF]
    · intro r
      simp only [setForeignSym, setForeignStr, ihF, ihO]

theorem setForeignIdx_eq_setForeignStr {V} (mv : MView V) (hc : IdxCountOk mv) (n : Nat) (v : V) :
    ∀ chain r, setForeignIdx mv chain (.idx n) v r = setForeignStr mv chain (.idx n) v r := by
  intro chain
  induction chain with
  | nil => intro r; simp [setForeignIdx, setForeignStr]
  | cons o rest ih =>
    intro r
    by_cases h0 : mv.idxCount o = 0
    · have hown := hc o n h0
      simp only [setForeignIdx, setForeignStr, h0, hown, setOwnIdx, ih, beq_self_eq_true, if_true]
    · have : (mv.idxCount o == 0) = false := by simp [h0]
      simp [setForeignIdx, this]

theorem abs_own_none {V} (undef : V) (mv : MView V) (o : Nat) (k : Key) (h : mv.own o k = none) :
    (mv.abs undef).own o k = none := by simp [MView.abs, h]

theorem abs_own_some {V} (undef : V) (mv : MView V) (o : Nat) (k : Key) (s : Stored V) (h : mv.own o k = some s) :
    (mv.abs undef).own o k = some (absProp undef s) := by simp [MView.abs, h]

theorem defineAct_refines {V} [DecidableEq V] (undef : V) (mv : MView V) (o : Nat) (k : Key) (d : Desc V)
    (hc : CellOk undef (mv.own o k) d (mv.ext o)) :
    (defineAct undef mv o k d).map (absProp undef) =
      (match validateAndApply undef ((mv.own o k).map (absProp undef)) d (mv.ext o) with
       | some p => Act.write o k p (mv.own o k).isNone
       | none => Act.fail) := by
  have hx := hc.1
  unfold defineAct
  cases hd : defineOwn undef (mv.own o k) d (mv.ext o) with
  | none => rw [← hx, hd]; simp [Act.map]
  | some s => rw [← hx, hd]; simp [Act.map]

/-- the receiver part of `Object.set*` (after `setForeign*` reported "not handled") = steps 2.b-2.e of
OrdinarySetWithOwnDescriptor. -/
theorem recv_define_refines {V} [DecidableEq V] (undef : V) (mv : MView V) (hinv : RepInvView mv)
    (k : Key) (v : V) (receiver : Recv) :
    (recvDefine undef mv k v receiver).map (absProp undef) = setData undef (mv.abs undef) k v receiver := by
  cases receiver with
  | prim => rfl
  | obj robj =>
    have key : ∀ d : Desc V, d.wellFormed = true → _ := fun d hd =>
      defineAct_refines undef mv robj k d (cell_any undef _ d _ hd (hinv robj k))
    simp only [recvDefine, setData, MView.abs]
    cases hown : mv.own robj k with
    | none => exact (key _ (descFull_wf v)).trans (by rw [hown]; rfl)
    | some s =>
      have hd := key _ (descValue_wf v)
      rw [hown] at hd
      cases s with
      | plain x => exact hd.trans rfl
      | prop p =>
        cases ha : p.accessor
        · cases hw : p.writable
          · simp [absProp, ha, hw, Act.map]
          · simp only [ha, hw, Bool.false_eq_true, if_false, Bool.not_true, Option.map_some, absProp]
            simp only [Option.map_some, absProp, ha, hw, Bool.false_eq_true, if_false, Option.isNone_some] at hd
            exact hd.trans rfl
        · simp [absProp, ha, Act.map]

/-- the inlined tails of the three `Object.set*` copies are the same text -/
theorem objSetStr_unfold {V} [DecidableEq V] (undef : V) (mv : MView V) (o : Nat) (rest : List Nat)
    (k : Key) (v : V) (r : Recv) :
    objSetStr undef mv (o :: rest) k v r =
      if r == .obj o then setOwnStr mv (o :: rest) k v
      else match setForeignStr mv (o :: rest) k v r with
        | some res => res
        | none => recvDefine undef mv k v r := by
  unfold objSetStr recvDefine
  cases r <;> rfl

theorem objSetSym_unfold {V} [DecidableEq V] (undef : V) (mv : MView V) (o : Nat) (rest : List Nat)
    (k : Key) (v : V) (r : Recv) :
    objSetSym undef mv (o :: rest) k v r =
      if r == .obj o then setOwnSym mv (o :: rest) k v
      else match setForeignSym mv (o :: rest) k v r with
        | some res => res
        | none => recvDefine undef mv k v r := by
  unfold objSetSym recvDefine
  cases r <;> rfl

theorem objSetIdx_unfold {V} [DecidableEq V] (undef : V) (mv : MView V) (o : Nat) (rest : List Nat)
    (k : Key) (v : V) (r : Recv) :
    objSetIdx undef mv (o :: rest) k v r =
      if r == .obj o then setOwnIdx mv (o :: rest) k v
      else match setForeignIdx mv (o :: rest) k v r with
        | some res => res
        | none => recvDefine undef mv k v r := by
  unfold objSetIdx recvDefine
  cases r <;> rfl

theorem setData_new {V} [DecidableEq V] (undef : V) (sv : SView V) (k : Key) (v : V) (o : Nat) (h : sv.own o k = none) :
    setData undef sv k v (.obj o) = if sv.ext o then .write o k (.data v true true true) true else .fail := by
  simp only [setData, h, validateAndApply, descFull, Desc.isAccessor, Flag.getD]
  cases sv.ext o <;> simp

/-- the walk: string copy vs OrdinarySet, both mutual functions at once -/
theorem setStr_refines_aux {V} [DecidableEq V] (undef : V) (mv : MView V) (hinv : RepInvView mv) (k : Key) (v : V) :
    ∀ chain : List Nat,
      (∀ o rest, chain = o :: rest →
        (setOwnStr mv chain k v).map (absProp undef) = ordinarySet undef (mv.abs undef) chain k v (.obj o)) ∧
      (∀ r, match setForeignStr mv chain k v r with
            | some a => a.map (absProp undef) = ordinarySet undef (mv.abs undef) chain k v r
            | none => ordinarySet undef (mv.abs undef) chain k v r = setData undef (mv.abs undef) k v r) := by
  intro chain
  induction chain with
  | nil =>
    constructor
    · intro o rest h; cases h
    · intro r; simp [setForeignStr, ordinarySet]
  | cons o rest ih =>
    obtain ⟨ihO, ihF⟩ := ih
    constructor
    · intro o' rest' h
      injection h with h1 h2
      subst h1; subst h2
      cases hown : mv.own o k with
      | none =>
        have hF := ihF (.obj o)
        simp only [setOwnStr, hown, ordinarySet, abs_own_none undef mv o k hown]
        cases hf : setForeignStr mv rest k v (.obj o) with
        | some a => rw [hf] at hF; simpa using hF
        | none =>
          rw [hf] at hF
          simp only at hF
          rw [hF, setData_new undef _ k v o (abs_own_none undef mv o k hown)]
          simp only [MView.abs]
          by_cases he : mv.ext o = true <;> simp [he, Act.map, absProp]
      | some s =>
        have hri := hinv o k s hown
        cases s with
        | plain x =>
          simp [setOwnStr, hown, ordinarySet, abs_own_some undef mv o k _ hown, absProp, setData, Act.map,
                validateAndApply_descValue]
        | prop p =>
          rcases p.cases_repInv hri with ⟨x, pw, pc, pe, rfl⟩ | ⟨pg, ps, pc, pe, rfl⟩
          · cases pw <;>
              simp [setOwnStr, hown, ordinarySet, abs_own_some undef mv o k _ hown, absProp, setData, Act.map,
                VProp.isWritable, VProp.setAct, validateAndApply_descValue]
          · cases ps <;>
              simp [setOwnStr, hown, ordinarySet, abs_own_some undef mv o k _ hown, absProp, Act.map,
                VProp.isWritable, VProp.setAct]
    · intro r
      cases hown : mv.own o k with
      | none =>
        simp only [setForeignStr, hown, ordinarySet, abs_own_none undef mv o k hown]
        cases rest with
        | nil => simp [ordinarySet]
        | cons p rest' =>
          simp only
          by_cases hr : r = .obj p
          · subst hr
            have := ihO p rest' rfl
            simp [this]
          · have hne : (r != Recv.obj p) = true := by simp [hr]
            simp only [hne, if_true]
            exact ihF r
      | some s =>
        have hri := hinv o k s hown
        cases s with
        | plain x =>
          simp [setForeignStr, hown, ordinarySet, abs_own_some undef mv o k _ hown, absProp]
        | prop p =>
          rcases p.cases_repInv hri with ⟨x, pw, pc, pe, rfl⟩ | ⟨pg, ps, pc, pe, rfl⟩
          · cases pw <;>
              simp [setForeignStr, hown, ordinarySet, abs_own_some undef mv o k _ hown, absProp, Act.map,
                VProp.isWritable]
          · cases ps <;>
              simp [setForeignStr, hown, ordinarySet, abs_own_some undef mv o k _ hown, absProp, Act.map,
                VProp.isWritable]

end GojaModel.C04
