/-
  C04 — operation histories on the spec heap of Model.lean and the essential invariants over ARBITRARY histories.
-/
import GojaModel.C04.LemmasDefine
import GojaModel.C04.Assoc
import GojaModel.C04.Fold
namespace GojaModel.C04

/-- `set` carries the prototype chain the caller walked (`chainOf h fuel o` in the driver); the theorems hold for ANY
chain. -/
inductive SOp (V : Type) where
  | define (o : Nat) (k : Key) (d : Desc V)
  | set (chain : List Nat) (k : Key) (v : V) (r : Recv)
  | delete (o : Nat) (k : Key)
  | preventExt (o : Nat)
  | setProto (fuel : Nat) (o : Nat) (p : Option Nat)
  | integrity (o : Nat) (frozen : Bool)                       -- Object.freeze / Object.seal

def SOp.wf {V} : SOp V → Bool
  | .define _ _ d => d.wellFormed
  | _ => true

def sStep {V} [DecidableEq V] (undef : V) (h : Heap V) : SOp V → Heap V
  | .define o k d => (sDefine undef h o k d).1
  | .set c k v r => (sSet undef h c k v r).1
  | .delete o k => (sDelete h o k).1
  | .preventExt o => sPreventExt h o
  | .setProto f o p => (sSetProto h f o p).1
  | .integrity o fr => sSetIntegrity h o fr

def sRun {V} [DecidableEq V] (undef : V) (h : Heap V) (ops : List (SOp V)) : Heap V := ops.foldl (sStep undef) h

theorem upd_same {V} (h : Heap V) (i : Nat) (o : Obj V) : (h.upd i o) i = o := by simp [Heap.upd]
theorem upd_other {V} (h : Heap V) (i j : Nat) (o : Obj V) (hne : j ≠ i) : (h.upd i o) j = h j := by
  simp [Heap.upd, hne]

theorem frozenStep_refl {V} [DecidableEq V] (p : SProp V) (hc : p.configurable = false) : frozenStep p p = true := by
  cases p <;> simp_all [frozenStep, SProp.configurable]

theorem frozenStep_nonconfig {V} [DecidableEq V] (p q : SProp V) (h : frozenStep p q = true) : q.configurable = false := by
  cases p <;> cases q <;> simp_all [frozenStep, SProp.configurable]

theorem frozenStep_trans {V} [DecidableEq V] (p q r : SProp V) (h1 : frozenStep p q = true) (h2 : frozenStep q r = true) :
    frozenStep p r = true := by
  cases p <;> cases q <;> cases r <;>
    simp only [frozenStep, Bool.and_eq_true, Bool.or_eq_true, Bool.not_eq_true', beq_iff_eq, Bool.false_eq_true] at h1 h2 ⊢
  · obtain ⟨⟨_, rfl⟩, hw1⟩ := h1
    obtain ⟨⟨hc2, rfl⟩, hw2⟩ := h2
    refine ⟨⟨hc2, rfl⟩, ?_⟩
    -- once non-writable, the middle state pins writability and value for the last one
    rcases hw1 with h | ⟨rfl, rfl⟩
    · exact Or.inl h
    · exact hw2.imp_left (fun h => nomatch h)
  · obtain ⟨⟨⟨_, rfl⟩, rfl⟩, rfl⟩ := h1
    exact h2

/-- the essential invariant of ECMA-262 6.1.7.3 on non-configurable properties, between two states of ONE object -/
def Frozen {V} [DecidableEq V] (a b : List (Key × SProp V)) : Prop :=
  ∀ k p, lookup a k = some p → p.configurable = false → ∃ p', lookup b k = some p' ∧ frozenStep p p' = true

theorem Frozen.refl {V} [DecidableEq V] (a : List (Key × SProp V)) : Frozen a a :=
  fun _ p hl hc => ⟨p, hl, frozenStep_refl p hc⟩

theorem Frozen.trans {V} [DecidableEq V] {a b c : List (Key × SProp V)} (h1 : Frozen a b) (h2 : Frozen b c) :
    Frozen a c := fun k p hl hc =>
  let ⟨q, hq, f1⟩ := h1 k p hl hc
  let ⟨r, hr, f2⟩ := h2 k q hq (frozenStep_nonconfig p q f1)
  ⟨r, hr, frozenStep_trans p q r f1 f2⟩

/-- `Frozen` between two lists of stand-ins (slots of a mechanism under its abstraction), read on the slot lists -/
theorem Frozen.of_map {V α β} [DecidableEq V] {f : α → SProp V} {g : β → SProp V} {l : List (Key × α)}
    {l' : List (Key × β)} (hf : Frozen (l.map fun kp => (kp.1, f kp.2)) (l'.map fun kp => (kp.1, g kp.2)))
    (k : Key) (s : α) (hl : lookup l k = some s) (hc : (f s).configurable = false) :
    ∃ s', lookup l' k = some s' ∧ frozenStep (f s) (g s') = true := by
  obtain ⟨p', hp', hfr⟩ := hf k _ (by rw [lookup_map, hl]; rfl) hc
  rw [lookup_map] at hp'
  obtain ⟨s', hs', rfl⟩ := Option.map_eq_some_iff.mp hp'
  exact ⟨s', hs', hfr⟩

/-- the essential invariant of 6.1.7.3 on non-extensible objects, likewise -/
def NonExt {V} (a b : Obj V) : Prop :=
  a.ext = false →
    b.ext = false ∧ b.proto = a.proto ∧ ∀ k, (lookup b.props k).isSome = true → (lookup a.props k).isSome = true

theorem NonExt.refl {V} (a : Obj V) : NonExt a a := fun he => ⟨he, rfl, fun _ hk => hk⟩

theorem NonExt.trans {V} {a b c : Obj V} (h1 : NonExt a b) (h2 : NonExt b c) : NonExt a c := fun he =>
  let ⟨e1, p1, k1⟩ := h1 he
  let ⟨e2, p2, k2⟩ := h2 e1
  ⟨e2, p2.trans p1, fun k hk => k1 k (k2 k hk)⟩

/-- ValidateAndApply on a non-configurable property: what step 5 lets through, step 6 applies as a `frozenStep`.
Each disjunct of step 5 that is false fixes one field of the result. -/
theorem vaa_frozen {V} [DecidableEq V] (undef : V) (p p' : SProp V) (d : Desc V) (ext : Bool)
    (hw : d.wellFormed = true) (hc : p.configurable = false)
    (h : validateAndApply undef (some p) d ext = some p') : frozenStep p p' = true := by
  rw [validateAndApply_some] at h
  split at h
  · cases h
  next hr =>
  cases h
  cases p with
  | data pv pw pe pc =>
    cases hc
    simp only [specRejects, SProp.configurable, SProp.enumerable, SProp.isAcc, Bool.not_false, Bool.true_and,
      Bool.or_eq_true, not_or, Bool.not_eq_true, Desc.isGeneric] at hr
    obtain ⟨⟨⟨hc, he⟩, hk⟩, hv⟩ := hr
    have ha : d.isAccessor = false := by cases ha : d.isAccessor <;> simp_all
    simp only [specApply, ha, frozenStep, Flag.getD_false_of_ne hc, Flag.getD_of_same he, SProp.enumerable,
      SProp.configurable, Bool.false_eq_true, if_false, Bool.not_false, beq_self_eq_true, Bool.true_and]
    cases pw
    · simp only [Bool.not_false, Bool.true_and, Bool.or_eq_false_iff] at hv
      cases hdv : d.value <;> simp_all [Flag.getD_false_of_ne hv.1]
    · rfl
  | acc pg ps pe pc =>
    cases hc
    simp only [specRejects, SProp.configurable, SProp.enumerable, SProp.isAcc, Bool.not_false, Bool.true_and,
      Bool.or_eq_true, not_or, Bool.not_eq_true, Desc.isGeneric] at hr
    obtain ⟨⟨⟨hc, he⟩, hk⟩, hg, hs⟩ := hr
    have ha : d.isData = false := by cases ha : d.isAccessor <;> simp_all [Desc.wellFormed]
    simp only [specApply, ha, frozenStep, Flag.getD_false_of_ne hc, Flag.getD_of_same he, SProp.enumerable,
      SProp.configurable, Bool.false_eq_true, if_false, Bool.not_false, beq_self_eq_true, Bool.true_and]
    cases hdg : d.getter <;> cases hds : d.setter <;> simp_all

theorem setData_write {V} [DecidableEq V] (undef : V) (sv : SView V) (k : Key) (v : V) (r : Recv)
    (o' : Nat) (k' : Key) (q : SProp V) (n : Bool) (h : setData undef sv k v r = .write o' k' q n) :
    k' = k ∧ r = .obj o' ∧ ∃ d : Desc V, d.wellFormed = true ∧ validateAndApply undef (sv.own o' k) d (sv.ext o') = some q := by
  unfold setData at h
  split at h
  · cases h
  · split at h
    · cases h
    · next hown =>
      split at h
      · cases h
      · split at h
        · next hv => cases h; exact ⟨rfl, rfl, descValue v, descValue_wf v, by rw [hown]; exact hv⟩
        · cases h
    · next hown =>
      split at h
      · next hv => cases h; exact ⟨rfl, rfl, descFull v, descFull_wf v, by rw [hown]; exact hv⟩
      · cases h

theorem ordinarySet_write {V} [DecidableEq V] (undef : V) (sv : SView V) (k : Key) (v : V) (r : Recv)
    (o' : Nat) (k' : Key) (q : SProp V) (n : Bool) :
    ∀ chain, ordinarySet undef sv chain k v r = .write o' k' q n →
      k' = k ∧ r = .obj o' ∧ ∃ d : Desc V, d.wellFormed = true ∧ validateAndApply undef (sv.own o' k) d (sv.ext o') = some q := by
  intro chain
  induction chain with
  | nil => exact setData_write undef sv k v r o' k' q n
  | cons o rest ih =>
    intro h
    unfold ordinarySet at h
    split at h
    · exact ih h
    · split at h
      · cases h
      · exact setData_write undef sv k v r o' k' q n h
    · split at h <;> cases h

/-! Every operation of the alphabet leaves an object alone or changes it in one of five ways; each history invariant is a
statement about these five.  `wf` says whether the descriptor of a `put` is known to be well-formed: the frozen shape
needs that (`vaa_frozen`), the non-extensible clause and key uniqueness hold of any descriptor. -/

inductive ObjStep {V} [DecidableEq V] (undef : V) (wf : Bool) (a : Obj V) : Obj V → Prop
  | same : ObjStep undef wf a a
  | put (k : Key) (d : Desc V) (q : SProp V) (hw : wf = true → d.wellFormed = true)
      (hv : validateAndApply undef (lookup a.props k) d a.ext = some q) :
      ObjStep undef wf a { a with props := put a.props k q }
  | erase (k : Key) (q : SProp V) (hq : lookup a.props k = some q) (hc : q.configurable = true) :
      ObjStep undef wf a { a with props := eraseKey a.props k }
  | preventExt : ObjStep undef wf a { a with ext := false }
  | proto (p : Option Nat) (he : a.ext = true) : ObjStep undef wf a { a with proto := p }
  | integrity (fr : Bool) :
      ObjStep undef wf a { a with ext := false,
                                  props := a.props.map (fun kp => (kp.1, if fr then freezeProp kp.2 else sealProp kp.2)) }

theorem upd_objStep {V} [DecidableEq V] {undef : V} {wf : Bool} (h : Heap V) (o o' : Nat) {b : Obj V}
    (hb : ObjStep undef wf (h o') b) : ObjStep undef wf (h o) (h.upd o' b o) := by
  by_cases ho : o = o'
  · subst ho; rw [upd_same]; exact hb
  · rw [upd_other _ _ _ _ ho]; exact .same

theorem sStep_objStep {V} [DecidableEq V] (undef : V) (h : Heap V) (op : SOp V) (o : Nat) :
    ObjStep undef op.wf (h o) (sStep undef h op o) := by
  cases op with
  | define o' k d =>
    simp only [sStep, sDefine]
    cases hv : validateAndApply undef (lookup (h o').props k) d (h o').ext with
    | none => exact .same
    | some q => exact upd_objStep h o o' (.put k d q id hv)
  | set chain k v r =>
    simp only [sStep, sSet]
    cases ha : ordinarySet undef h.view chain k v r with
    | fail => exact .same
    | call f t a => exact .same
    | write o' k' q n =>
      obtain ⟨rfl, _, d, hw, hv⟩ := ordinarySet_write undef h.view k v r o' k' q n chain ha
      exact upd_objStep h o o' (.put k' d q (fun _ => hw) hv)
  | delete o' k =>
    cases hq : lookup (h o').props k with
    | none => simp only [sStep, sDelete, hq]; exact .same
    | some q =>
      cases hc : q.configurable with
      | true => simp only [sStep, sDelete, hq, hc, if_true]; exact upd_objStep h o o' (.erase k q hq hc)
      | false => simp only [sStep, sDelete, hq, hc, Bool.false_eq_true, if_false]; exact .same
  | preventExt o' => exact upd_objStep h o o' .preventExt
  | setProto f o' p =>
    simp only [sStep, sSetProto]
    split
    · exact .same
    · split
      · exact .same
      · next he =>
        have he : (h o').ext = true := by simpa using he
        cases p with
        | none => exact upd_objStep h o o' (.proto none he)
        | some q =>
          simp only
          split
          · exact .same
          · exact upd_objStep h o o' (.proto (some q) he)
  | integrity o' fr => exact upd_objStep h o o' (.integrity fr)

theorem ObjStep.frozen {V} [DecidableEq V] {undef : V} {a b : Obj V} (hs : ObjStep undef true a b) :
    Frozen a.props b.props := by
  intro k p hl hc
  cases hs with
  | put k' d q hw hv =>
    by_cases hk : k = k'
    · subst hk
      rw [hl] at hv
      exact ⟨q, lookup_put_same _ _ _, vaa_frozen undef p q d _ (hw rfl) hc hv⟩
    · exact ⟨p, (lookup_put_other _ _ _ _ hk).trans hl, frozenStep_refl p hc⟩
  | erase k' q hq hqc =>
    have hk : k ≠ k' := fun e => by subst e; rw [hl] at hq; cases hq; rw [hc] at hqc; cases hqc
    exact ⟨p, (lookup_erase_other _ _ _ hk).trans hl, frozenStep_refl p hc⟩
  | integrity fr =>
    refine ⟨_, (lookup_map (fun q => if fr then freezeProp q else sealProp q) _ _).trans (congrArg _ hl), ?_⟩
    cases p <;> cases fr <;> simp_all [frozenStep, freezeProp, sealProp, SProp.configurable]
  | _ => exact ⟨p, hl, frozenStep_refl p hc⟩

theorem ObjStep.nonExt {V} [DecidableEq V] {undef : V} {wf : Bool} {a b : Obj V} (hs : ObjStep undef wf a b) :
    NonExt a b := by
  intro he
  cases hs with
  | put k' d q _ hv =>
    refine ⟨he, rfl, fun k => ?_⟩
    cases hcur : lookup a.props k' with
    | none => rw [hcur, he, validateAndApply_none] at hv; cases hv
    | some c => exact lookup_put_isSome _ _ _ _ (by simp [hcur])
  | erase k' q => exact ⟨he, rfl, fun k => lookup_erase_isSome _ _ _⟩
  | proto p he' => rw [he] at he'; cases he'
  | integrity fr =>
    exact ⟨rfl, rfl, fun k => by
      rw [lookup_map (fun q => if fr then freezeProp q else sealProp q), Option.isSome_map]; exact id⟩
  | same => exact ⟨he, rfl, fun _ hk => hk⟩
  | preventExt => exact ⟨rfl, rfl, fun _ hk => hk⟩

theorem run_frozen {V} [DecidableEq V] (undef : V) (h : Heap V) (ops : List (SOp V)) (hwf : ∀ op ∈ ops, op.wf = true)
    (o : Nat) : Frozen (h o).props ((sRun undef h ops) o).props :=
  foldl_rel (R := fun h h' : Heap V => Frozen (h o).props (h' o).props) (fun _ => Frozen.refl _) Frozen.trans ops
    (fun h' op hm => (hwf op hm ▸ sStep_objStep undef h' op o).frozen) h

theorem run_nonExt {V} [DecidableEq V] (undef : V) (h : Heap V) (ops : List (SOp V)) (o : Nat) :
    NonExt (h o) ((sRun undef h ops) o) :=
  foldl_rel (R := fun h h' : Heap V => NonExt (h o) (h' o)) (fun _ => NonExt.refl _) NonExt.trans ops
    (fun h' op _ => (sStep_objStep undef h' op o).nonExt) h

end GojaModel.C04
