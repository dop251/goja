/-
  C04 — exotic delta: ordinary functions create their `prototype` property lazily (func.go:183 `_addProto`, :223
  `addPrototype`): the slot is appended to the END of the own string keys when it is first needed (a lookup / write / define /
  delete of "prototype", any key enumeration, or — `_addProtoBeforeNewKey`, commit fcdbd47 — the creation of any NEW string
  key, so that `prototype` keeps its place before keys added later).
-/
import GojaModel.C04.Assoc
namespace GojaModel.C04

variable {V : Type}

def kProto : Key := .str "prototype"

structure FuncLazy (V : Type) where
  props : List (Key × Stored V)     -- values + propNames of the funcObject
  mat : Bool                        -- `prototype` ∈ values
  ext : Bool

/-- `_addProto(n)` func.go:183: materialise iff the key is "prototype" and the slot is not there yet -/
def FuncLazy.addProto (protoProp : Stored V) (f : FuncLazy V) (k : Key) : FuncLazy V :=
  if k = kProto ∧ f.mat = false then { f with props := f.props ++ [(kProto, protoProp)], mat := true } else f

/-- `getOwnPropStr` func.go:196 -/
def FuncLazy.getOwn (protoProp : Stored V) (f : FuncLazy V) (k : Key) : Option (Stored V) × FuncLazy V :=
  let f' := f.addProto protoProp k
  (lookup f'.props k, f')

/-- PRE-FIX (before fcdbd47) `defineOwnPropertyStr`: `_addProto(name)` then `baseObject.defineOwnPropertyStr` — the slot
was materialised only when the key WAS "prototype", so a key added earlier ended up before it.  Kept for the regression
witness only. -/
def FuncLazy.definePre [DecidableEq V] (undef : V) (protoProp : Stored V) (f : FuncLazy V) (k : Key) (d : Desc V) :
    FuncLazy V × Bool :=
  let f' := f.addProto protoProp k
  match defineOwn undef (lookup f'.props k) d f'.ext with
  | some v => ({ f' with props := put f'.props k v }, true)
  | none => (f', false)

/-- `_addProtoBeforeNewKey(n)` func.go:175 (fcdbd47): materialise before a NEW string key is created -/
def FuncLazy.addProtoNew (protoProp : Stored V) (f : FuncLazy V) (k : Key) : FuncLazy V :=
  if f.mat = false ∧ lookup f.props k = none then { f with props := f.props ++ [(kProto, protoProp)], mat := true } else f

/-- `defineOwnPropertyStr` func.go:213 (and `setOwnStr` :204): `_addProtoBeforeNewKey(name)` then the baseObject method -/
def FuncLazy.define [DecidableEq V] (undef : V) (protoProp : Stored V) (f : FuncLazy V) (k : Key) (d : Desc V) :
    FuncLazy V × Bool :=
  let f' := f.addProtoNew protoProp k
  match defineOwn undef (lookup f'.props k) d f'.ext with
  | some v => ({ f' with props := put f'.props k v }, true)
  | none => (f', false)

/-- the function that has had `prototype` from the start, as far as lookups go: the slot at the end of the current keys -/
def FuncLazy.eager (protoProp : Stored V) (f : FuncLazy V) : List (Key × Stored V) :=
  if f.mat then f.props else f.props ++ [(kProto, protoProp)]

def FuncLazy.WF (f : FuncLazy V) : Prop := (f.mat = false → lookup f.props kProto = none)

theorem funcLazy_getOwn_refines (protoProp : Stored V) (f : FuncLazy V) (hwf : f.WF) (k : Key) :
    (f.getOwn protoProp k).1 = lookup (f.eager protoProp) k
    ∧ (f.getOwn protoProp k).2.WF ∧ (f.getOwn protoProp k).2.eager protoProp = f.eager protoProp := by
  cases hm : f.mat with
  | true =>
    have hadd : f.addProto protoProp k = f := by simp [FuncLazy.addProto, hm]
    exact ⟨by simp [FuncLazy.getOwn, hadd, FuncLazy.eager, hm], by simpa [FuncLazy.getOwn, hadd] using hwf,
      by simp [FuncLazy.getOwn, hadd]⟩
  | false =>
    have he : f.eager protoProp = f.props ++ [(kProto, protoProp)] := by simp [FuncLazy.eager, hm]
    by_cases hk : k = kProto
    · subst hk
      have hadd : f.addProto protoProp kProto = { f with props := f.props ++ [(kProto, protoProp)], mat := true } := by
        simp [FuncLazy.addProto, hm]
      exact ⟨by simp [FuncLazy.getOwn, hadd, he], by simp [FuncLazy.getOwn, hadd, FuncLazy.WF],
        by simp [FuncLazy.getOwn, hadd, FuncLazy.eager, hm]⟩
    · have hadd : f.addProto protoProp k = f := by simp [FuncLazy.addProto, hk]
      refine ⟨?_, by simpa [FuncLazy.getOwn, hadd] using hwf, by simp [FuncLazy.getOwn, hadd]⟩
      rw [he, lookup_append]
      cases hl : lookup f.props k with
      | some x => simp [FuncLazy.getOwn, hadd, hl]
      | none => simp [FuncLazy.getOwn, hadd, lookup, Ne.symm hk, hl]

theorem addProtoNew_eager (protoProp : Stored V) (f : FuncLazy V) (k : Key) :
    (f.addProtoNew protoProp k).eager protoProp = f.eager protoProp := by
  unfold FuncLazy.addProtoNew
  split
  · rename_i hc; simp [FuncLazy.eager, hc.1]
  · rfl

theorem addProtoNew_ext (protoProp : Stored V) (f : FuncLazy V) (k : Key) : (f.addProtoNew protoProp k).ext = f.ext := by
  unfold FuncLazy.addProtoNew; split <;> rfl

theorem addProtoNew_wf (protoProp : Stored V) (f : FuncLazy V) (k : Key) (h : f.WF) : (f.addProtoNew protoProp k).WF := by
  unfold FuncLazy.addProtoNew
  split
  · intro hm; simp at hm
  · exact h

theorem addProtoNew_lookup (protoProp : Stored V) (f : FuncLazy V) (hwf : f.WF) (k : Key) :
    lookup (f.addProtoNew protoProp k).props k = lookup (f.eager protoProp) k
    ∧ ((f.addProtoNew protoProp k).mat = true ∨
        ((f.addProtoNew protoProp k).mat = false ∧ f.addProtoNew protoProp k = f ∧ (lookup f.props k).isSome = true ∧ k ≠ kProto)) := by
  cases hm : f.mat with
  | true =>
    have : f.addProtoNew protoProp k = f := by simp [FuncLazy.addProtoNew, hm]
    rw [this]
    exact ⟨by simp [FuncLazy.eager, hm], Or.inl hm⟩
  | false =>
    cases hl : lookup f.props k with
    | none =>
      have : f.addProtoNew protoProp k = { f with props := f.props ++ [(kProto, protoProp)], mat := true } := by
        simp [FuncLazy.addProtoNew, hm, hl]
      rw [this]
      exact ⟨by simp [FuncLazy.eager, hm], Or.inl rfl⟩
    | some x =>
      have : f.addProtoNew protoProp k = f := by simp [FuncLazy.addProtoNew, hm, hl]
      rw [this]
      have hk : k ≠ kProto := by
        intro e; rw [e, hwf hm] at hl; cases hl
      refine ⟨?_, Or.inr ⟨hm, rfl, by simp, hk⟩⟩
      simp [FuncLazy.eager, hm, lookup_append, hl]

theorem funcLazy_define_refines [DecidableEq V] (undef : V) (protoProp : Stored V) (f : FuncLazy V) (hwf : f.WF) (k : Key)
    (d : Desc V) :
    ((f.define undef protoProp k d).2 = (defineOwn undef (lookup (f.eager protoProp) k) d f.ext).isSome)
    ∧ (∀ v, defineOwn undef (lookup (f.eager protoProp) k) d f.ext = some v →
         (f.define undef protoProp k d).1.eager protoProp = put (f.eager protoProp) k v)
    ∧ (defineOwn undef (lookup (f.eager protoProp) k) d f.ext = none →
         (f.define undef protoProp k d).1.eager protoProp = f.eager protoProp)
    ∧ (f.define undef protoProp k d).1.WF ∧ (f.define undef protoProp k d).1.ext = f.ext := by
  obtain ⟨hlk, hcase⟩ := addProtoNew_lookup protoProp f hwf k
  have hE := addProtoNew_eager protoProp f k
  have hX := addProtoNew_ext protoProp f k
  have hW := addProtoNew_wf protoProp f k hwf
  unfold FuncLazy.define
  simp only [hlk, hX]
  cases hd : defineOwn undef (lookup (f.eager protoProp) k) d f.ext with
  | none =>
    refine ⟨rfl, fun v hv => (by cases hv), fun _ => hE, hW, hX⟩
  | some v =>
    refine ⟨rfl, ?_, fun h => (by cases h), ?_, rfl⟩
    · intro v' hv'
      cases hv'
      rcases hcase with hm | ⟨hm, hsame, hsome, hk⟩
      · rw [← hE]
        simp [FuncLazy.eager, hm]
      · rw [← hE]
        simp only [FuncLazy.eager, hm, Bool.false_eq_true, if_false]
        rw [hsame] at hm ⊢
        exact (put_append_left f.props _ k v hsome).symm
    · intro hm
      simp only at hm
      rcases hcase with hm' | ⟨_, hsame, _, hk⟩
      · rw [hm'] at hm; cases hm
      · simp only
        rw [lookup_put_other _ _ _ _ (Ne.symm hk)]
        exact hW hm

end GojaModel.C04
