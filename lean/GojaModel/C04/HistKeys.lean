/-
  C04 — [[OwnPropertyKeys]] over arbitrary histories: unique, ordered (indices ascending, then strings, then symbols) and
  consistent with [[GetOwnProperty]]; the snapshot monitor accepts what the two history invariants allow.
-/
import GojaModel.C04.Hist
import GojaModel.C04.SortNat
namespace GojaModel.C04

def KeysNodup {V} (h : Heap V) : Prop := ∀ o, (keysOf (h o).props).Nodup

theorem ObjStep.keysNodup {V} [DecidableEq V] {undef : V} {wf : Bool} {a b : Obj V} (hs : ObjStep undef wf a b)
    (hn : (keysOf a.props).Nodup) : (keysOf b.props).Nodup := by
  cases hs with
  | put => exact nodup_put _ _ _ hn
  | erase => rw [keys_erase]; exact hn.erase _
  | integrity fr => rw [keys_map (fun q => if fr then freezeProp q else sealProp q)]; exact hn
  | _ => exact hn

theorem step_keysNodup {V} [DecidableEq V] (undef : V) (h : Heap V) (op : SOp V) (hn : KeysNodup h) :
    KeysNodup (sStep undef h op) :=
  fun o => (sStep_objStep undef h op o).keysNodup (hn o)

theorem run_keysNodup {V} [DecidableEq V] (undef : V) (ops : List (SOp V)) :
    ∀ h : Heap V, KeysNodup h → KeysNodup (sRun undef h ops) := by
  exact foldl_inv ops fun h hn op _ => step_keysNodup undef h op hn

/-- the order of OrdinaryOwnPropertyKeys as a relation on pairs -/
def keyLt (a b : Key) : Prop :=
  keyClass a < keyClass b ∨ (keyClass a = keyClass b ∧ (a.isIdx = false ∨ a.idxVal < b.idxVal))

theorem keysOrdered_of_pairwise : ∀ l : List Key, l.Pairwise keyLt → keysOrdered l = true := by
  intro l
  induction l with
  | nil => intro _; rfl
  | cons a rest ih =>
    intro h
    cases rest with
    | nil => rfl
    | cons b rest' =>
      have ha := List.pairwise_cons.mp h
      have hab := ha.1 b (List.mem_cons_self)
      simp only [keysOrdered, Bool.and_eq_true]
      refine ⟨?_, ih ha.2⟩
      rcases hab with h1 | ⟨h1, h2⟩
      · simp [h1]
      · rcases h2 with h2 | h2 <;> simp [h1, h2]

theorem idxKey_inj (l : List Key) (hi : ∀ k ∈ l, k.isIdx = true) (hn : l.Nodup) : (l.map Key.idxVal).Nodup :=
  List.pairwise_map.mpr (hn.imp_of_mem fun {a b} ha hb hab e => hab (idx_inj (hi a ha) (hi b hb) e))

theorem nodup_map_idx (l : List Nat) (h : l.Nodup) : (l.map Key.idx).Nodup :=
  h.map Key.idx fun _ _ hab e => hab (Key.idx.inj e)

theorem class_str {ks : List Key} {k : Key} (h : k ∈ ks.filter (fun k => !k.isIdx && !k.isSym)) :
    keyClass k = 1 ∧ k.isIdx = false := by
  have := (List.mem_filter.mp h).2
  cases k <;> first | exact ⟨rfl, rfl⟩ | cases this

theorem class_sym {ks : List Key} {k : Key} (h : k ∈ ks.filter Key.isSym) : keyClass k = 2 ∧ k.isIdx = false := by
  have := (List.mem_filter.mp h).2
  cases k <;> first | exact ⟨rfl, rfl⟩ | cases this

theorem class_idx {l : List Nat} {k : Key} (h : k ∈ l.map Key.idx) : keyClass k = 0 := by
  obtain ⟨n, _, rfl⟩ := List.mem_map.mp h
  rfl

theorem ownKeys_spec {α} (props : List (Key × α)) (hn : (keysOf props).Nodup) :
    (∀ k, k ∈ ownKeys props ↔ (lookup props k).isSome = true) ∧ (ownKeys props).Nodup ∧ keysOrdered (ownKeys props) = true := by
  have hks : props.map (·.1) = keysOf props := rfl
  simp only [ownKeys, hks]
  generalize hK : keysOf props = ks at hn
  have hmemI : ∀ n, n ∈ sortNat ((ks.filter Key.isIdx).map Key.idxVal) ↔ Key.idx n ∈ ks := by
    intro n
    rw [List.Perm.mem_iff (perm_sortNat _)]
    constructor
    · intro h
      obtain ⟨b, hb, hbe⟩ := List.mem_map.mp h
      have hb' := List.mem_filter.mp hb
      cases b <;> simp_all [Key.isIdx, Key.idxVal]
    · intro h
      exact List.mem_map.mpr ⟨Key.idx n, List.mem_filter.mpr ⟨h, rfl⟩, rfl⟩
  have hidx : ((ks.filter Key.isIdx).map Key.idxVal).Nodup :=
    idxKey_inj _ (fun k hk => (List.mem_filter.mp hk).2) (List.Nodup.sublist List.filter_sublist hn)
  refine ⟨?_, ?_, ?_⟩
  · intro k
    rw [← mem_keys_iff, hK]
    simp only [List.mem_append, List.mem_map, List.mem_filter]
    constructor
    · rintro ((⟨n, hn1, rfl⟩ | h) | h)
      · exact (hmemI n).mp hn1
      · exact h.1
      · exact h.1
    · intro h
      cases k with
      | idx n => exact Or.inl (Or.inl ⟨n, (hmemI n).mpr h, rfl⟩)
      | str s => exact Or.inl (Or.inr ⟨h, by simp [Key.isIdx, Key.isSym]⟩)
      | sym n => exact Or.inr ⟨h, by simp [Key.isSym]⟩
  · have hI : ((sortNat ((ks.filter Key.isIdx).map Key.idxVal)).map Key.idx).Nodup := by
      have h2 := (List.Perm.nodup_iff (perm_sortNat _)).mpr hidx
      exact nodup_map_idx _ h2
    apply List.nodup_append.mpr
    refine ⟨?_, List.Nodup.sublist List.filter_sublist hn, ?_⟩
    · apply List.nodup_append.mpr
      refine ⟨hI, List.Nodup.sublist List.filter_sublist hn, ?_⟩
      intro a ha b hb hab
      subst hab
      obtain ⟨n, _, rfl⟩ := List.mem_map.mp ha
      have := (List.mem_filter.mp hb).2
      simp [Key.isIdx] at this
    · intro a ha b hb hab
      subst hab
      have hs := (List.mem_filter.mp hb).2
      rcases List.mem_append.mp ha with h1 | h1
      · obtain ⟨n, _, rfl⟩ := List.mem_map.mp h1; simp [Key.isSym] at hs
      · have := (List.mem_filter.mp h1).2; simp [hs] at this
  · apply keysOrdered_of_pairwise
    apply List.pairwise_append.mpr
    refine ⟨?_, ?_, ?_⟩
    · apply List.pairwise_append.mpr
      refine ⟨?_, ?_, ?_⟩
      · have := strict_sortNat _ hidx
        exact List.pairwise_map.mpr (this.imp (fun {a b} hab => Or.inr ⟨rfl, Or.inr (by simpa [Key.idxVal] using hab)⟩))
      · apply List.pairwise_of_forall_mem_list
        intro a ha b hb
        exact Or.inr ⟨by rw [(class_str ha).1, (class_str hb).1], Or.inl (class_str ha).2⟩
      · intro a ha b hb
        exact Or.inl (by rw [class_idx ha, (class_str hb).1]; decide)
    · apply List.pairwise_of_forall_mem_list
      intro a ha b hb
      exact Or.inr ⟨by rw [(class_sym ha).1, (class_sym hb).1], Or.inl (class_sym ha).2⟩
    · intro a ha b hb
      rcases List.mem_append.mp ha with h1 | h1
      · exact Or.inl (by rw [class_idx h1, (class_sym hb).1]; decide)
      · exact Or.inl (by rw [(class_str h1).1, (class_sym hb).1]; decide)

theorem keysNodup_iff (l : List Key) : keysNodup l = true ↔ l.Nodup := by
  induction l with
  | nil => simp [keysNodup]
  | cons a as ih => simp [keysNodup, ih, List.nodup_cons]

theorem filterMap_keys {α} (props : List (Key × α)) (ks : List Key) (h : ∀ k ∈ ks, (lookup props k).isSome = true) :
    (ks.filterMap (fun k => (lookup props k).map (fun p => (k, p)))).map (·.1) = ks := by
  induction ks with
  | nil => rfl
  | cons k ks ih =>
    have hk := h k (List.mem_cons_self)
    cases hl : lookup props k with
    | none => rw [hl] at hk; cases hk
    | some p =>
      simp only [List.filterMap_cons, hl, Option.map_some, List.map_cons]
      rw [ih (fun k' hk' => h k' (List.mem_cons_of_mem _ hk'))]

theorem lookup_snap {V} (o : Obj V) (hn : (keysOf o.props).Nodup) (k : Key) :
    lookup o.snap.props k = lookup o.props k := by
  simp only [Obj.snap]
  rw [lookup_filterMap]
  have := (ownKeys_spec o.props hn).1 k
  by_cases hm : k ∈ ownKeys o.props
  · simp [hm]
  · simp only [hm, if_false]
    cases hl : lookup o.props k with
    | none => rfl
    | some p => exact absurd (this.mpr (by simp [hl])) hm

theorem snapOk_of_nodup {V} (o : Obj V) (hn : (keysOf o.props).Nodup) : snapOk o.snap = true := by
  obtain ⟨hmem, hnd, hord⟩ := ownKeys_spec o.props hn
  simp only [snapOk, Obj.snap, Bool.and_eq_true]
  refine ⟨⟨(keysNodup_iff _).mpr hnd, hord⟩, ?_⟩
  rw [filterMap_keys o.props (ownKeys o.props) (fun k hk => (hmem k).mp hk)]
  simp

theorem mem_snap_props {V} (o : Obj V) (k : Key) (p : SProp V)
    (hm : (k, p) ∈ o.snap.props) : lookup o.props k = some p := by
  simp only [Obj.snap, List.mem_filterMap] at hm
  obtain ⟨k', _, hk'⟩ := hm
  cases hl : lookup o.props k' with
  | none => rw [hl] at hk'; simp at hk'
  | some q =>
    rw [hl] at hk'
    simp only [Option.map_some, Option.some.injEq, Prod.mk.injEq] at hk'
    obtain ⟨h1, h2⟩ := hk'
    subst h1; subst h2; exact hl

/-- stated on the two preorders, so that it serves whole histories and every layer whose abstract step is an `ObjStep` -/
theorem monitor_of_frozen_nonExt {V} [DecidableEq V] (a b : Obj V) (ha : (keysOf a.props).Nodup)
    (hb : (keysOf b.props).Nodup) (hf : Frozen a.props b.props) (hn : NonExt a b) :
    monitorStep a.snap b.snap = true := by
  simp only [monitorStep, Bool.and_eq_true, List.all_eq_true, Bool.or_eq_true]
  constructor
  · intro kp hm
    obtain ⟨k, p⟩ := kp
    cases hc : p.configurable with
    | true => exact Or.inl rfl
    | false =>
      obtain ⟨p', hl', hfr⟩ := hf k p (mem_snap_props a k p hm) hc
      exact Or.inr (by simp only; rw [lookup_snap _ hb, hl']; exact hfr)
  · cases he : a.ext with
    | true => left; simp [Obj.snap, he]
    | false =>
      right
      obtain ⟨he', hp', hk'⟩ := hn he
      simp only [Obj.snap, he', hp', Bool.not_false, beq_self_eq_true]
      refine ⟨⟨trivial, trivial⟩, fun k hk => ?_⟩
      simpa using ((ownKeys_spec _ ha).1 k).mpr (hk' k (((ownKeys_spec _ hb).1 k).mp hk))

end GojaModel.C04
