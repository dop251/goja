/-
  C04 — PropOrder — the lazily sorted name list is, after `ensurePropOrder`, the spec's order (`Rel`, kept by every
  operation); and what each operation does to the name list as a whole, which is all the buffer level (Cow.lean) needs.
-/
import GojaModel.C04.Assoc
import GojaModel.C04.SortNat
namespace GojaModel.C04

def nonIdx (k : Key) : Bool := !k.isIdx

/-- The relation between the segmented name list and the creation-order ghost list. -/
structure Rel (A B C : List Key) (cr : List Key) : Prop where
  asc : Asc A
  aIdx : ∀ a ∈ A, a.isIdx = true
  bStr : ∀ b ∈ B, b.isIdx = false
  nodup : (A ++ B ++ C).Nodup
  crNodup : cr.Nodup
  mem : ∀ n, n ∈ A ++ B ++ C ↔ n ∈ cr
  strs : (A ++ B ++ C).filter nonIdx = cr.filter nonIdx

theorem perm_insertAsc (x : Key) (A : List Key) : (insertAsc x A).Perm (x :: A) := by
  induction A with
  | nil => simp [insertAsc]
  | cons a as ih =>
    simp only [insertAsc]
    split
    · exact (List.Perm.cons a ih).trans (List.Perm.swap x a as)
    · exact List.Perm.refl _

theorem mem_insertAsc (x n : Key) (A : List Key) : n ∈ insertAsc x A ↔ n = x ∨ n ∈ A :=
  (perm_insertAsc x A).mem_iff.trans List.mem_cons

/-- `sort.Search` + shift on the index segment is the insertion step of `sortNat` on the index values -/
theorem map_insertAsc (x : Key) (A : List Key) :
    (insertAsc x A).map Key.idxVal = insertNat x.idxVal (A.map Key.idxVal) := by
  induction A with
  | nil => rfl
  | cons a as ih => simp only [insertAsc, insertNat, List.map_cons]; split <;> simp [ih]

theorem asc_insertAsc (x : Key) (A : List Key) (hA : Asc A) (hne : ∀ a ∈ A, a.idxVal ≠ x.idxVal) :
    Asc (insertAsc x A) := by
  unfold Asc at hA ⊢
  rw [← List.pairwise_map (R := (· < ·)), map_insertAsc]
  exact strict_insertNat _ _ (List.pairwise_map.mpr hA) fun h =>
    let ⟨a, ha, e⟩ := List.mem_map.mp h
    hne a ha e

theorem names_add_new (p : PO) (n : Key) (h : n ∉ p.names) : (p.add n).names = p.names ++ [n] := by
  unfold PO.add
  rw [if_neg h]
  simp [PO.names, List.append_assoc]

theorem names_delete (s : PO) (n : Key) : (s.delete n).names = s.names.erase n := by
  unfold PO.delete PO.names
  by_cases hA : n ∈ s.A
  · simp [hA, List.erase_append_left]
  · by_cases hB : n ∈ s.B
    · simp [hA, hB, List.erase_append_left, List.erase_append_right]
    · simp only [hA, hB, if_false, List.append_assoc]
      rw [List.erase_append_right _ hA, List.erase_append_right _ hB]

theorem po_delete_absent (p : PO) (n : Key) (h : n ∉ p.names) : p.delete n = p := by
  have hA : n ∉ p.A := fun hx => h (by simp [PO.names, hx])
  have hB : n ∉ p.B := fun hx => h (by simp [PO.names, hx])
  have hC : n ∉ p.C := fun hx => h (by simp [PO.names, hx])
  simp [PO.delete, hA, hB, List.erase_of_not_mem hC]

theorem fixLoop_length (C : List Key) : ∀ A B, (fixLoop A B C).1.length + (fixLoop A B C).2.length = A.length + B.length + C.length := by
  induction C with
  | nil => intro A B; simp [fixLoop]
  | cons x C ih =>
    intro A B
    simp only [fixLoop]
    split
    · rw [ih]; have := (perm_insertAsc x A).length_eq; simp at this ⊢; omega
    · rw [ih]; simp; omega

theorem names_ensure_length (p : PO) : p.ensure.names.length = p.names.length := by
  unfold PO.ensure
  cases hC : p.C with
  | nil => simp
  | cons x C =>
    simp only [PO.names, List.length_append, List.length_nil, hC]
    have := fixLoop_length (x :: C) p.A p.B
    simp at this ⊢; omega

theorem ensure_C (s : PO) : s.ensure.C = [] := by
  unfold PO.ensure
  cases hC : s.C <;> simp [hC]

theorem filter_nonIdx_of_allIdx (A : List Key) (h : ∀ a ∈ A, a.isIdx = true) : A.filter nonIdx = [] := by
  apply List.filter_eq_nil_iff.mpr
  intro a ha; simp [nonIdx, h a ha]

theorem filter_nonIdx_of_noIdx (B : List Key) (h : ∀ b ∈ B, b.isIdx = false) : B.filter nonIdx = B := by
  apply List.filter_eq_self.mpr
  intro b hb; simp [nonIdx, h b hb]

theorem rel_idx {A B C cr : List Key} {x : Key} (h : Rel A B (x :: C) cr) (hx : x.isIdx = true) :
    Rel (insertAsc x A) B C cr := by
  have hperm : (insertAsc x A ++ B ++ C).Perm (A ++ B ++ x :: C) := by
    have h1 := (perm_insertAsc x A).append_right (B ++ C)
    rw [List.cons_append, ← List.append_assoc, ← List.append_assoc] at h1
    exact h1.trans List.perm_middle.symm
  have hnd := h.nodup
  refine ⟨?_, ?_, h.bStr, ?_, h.crNodup, ?_, ?_⟩
  · apply asc_insertAsc x A h.asc
    intro a ha heq
    have hax : a = x := idx_inj (h.aIdx a ha) hx heq
    subst hax
    have : a ∈ A ++ B := List.mem_append_left B ha
    have hd := (List.nodup_append.mp hnd).2.2
    exact hd a this a (List.mem_cons_self) rfl
  · intro a ha
    rcases (mem_insertAsc x a A).mp ha with h1 | h1
    · subst h1; exact hx
    · exact h.aIdx a h1
  · exact (List.Perm.nodup_iff hperm).mpr hnd
  · intro n
    rw [← h.mem n]
    exact List.Perm.mem_iff hperm
  · rw [← h.strs]
    have hxn : nonIdx x = false := by simp [nonIdx, hx]
    have e1 : (insertAsc x A).filter nonIdx = [] :=
      filter_nonIdx_of_allIdx _ (by
        intro a ha
        rcases (mem_insertAsc x a A).mp ha with h1 | h1
        · subst h1; exact hx
        · exact h.aIdx a h1)
    have e2 : A.filter nonIdx = [] := filter_nonIdx_of_allIdx _ h.aIdx
    simp [List.filter_append, e1, e2, hxn]

theorem rel_str {A B C cr : List Key} {x : Key} (h : Rel A B (x :: C) cr) (hx : x.isIdx = false) :
    Rel A (B ++ [x]) C cr := by
  have e : A ++ (B ++ [x]) ++ C = A ++ B ++ x :: C := by simp
  refine ⟨h.asc, h.aIdx, ?_, ?_, h.crNodup, ?_, ?_⟩
  · intro b hb
    rcases List.mem_append.mp hb with h1 | h1
    · exact h.bStr b h1
    · simp at h1; subst h1; exact hx
  · rw [e]; exact h.nodup
  · intro n; rw [e]; exact h.mem n
  · rw [e]; exact h.strs

theorem rel_fixLoop (cr : List Key) : ∀ (C A B : List Key), Rel A B C cr →
    Rel (fixLoop A B C).1 (fixLoop A B C).2 [] cr := by
  intro C
  induction C with
  | nil => intro A B h; simpa [fixLoop] using h
  | cons x C ih =>
    intro A B h
    simp only [fixLoop]
    by_cases hx : x.isIdx = true
    · simp only [hx, if_true]; exact ih _ _ (rel_idx h hx)
    · have hx' : x.isIdx = false := by simpa using hx
      simp only [hx', Bool.false_eq_true, if_false]; exact ih _ _ (rel_str h hx')

theorem rel_ensure {s : PO} {cr : List Key} (h : Rel s.A s.B s.C cr) :
    Rel s.ensure.A s.ensure.B s.ensure.C cr := by
  unfold PO.ensure
  cases hC : s.C with
  | nil => simpa [hC] using h
  | cons x C => simp only; rw [hC] at h; exact rel_fixLoop cr _ _ _ h

theorem rel_add {s : PO} {cr : List Key} (h : Rel s.A s.B s.C cr) (n : Key) :
    Rel (s.add n).A (s.add n).B (s.add n).C (createdAdd cr n) := by
  unfold PO.add createdAdd
  by_cases hn : n ∈ s.names
  · have : n ∈ cr := (h.mem n).mp hn
    simpa [hn, this] using h
  · have hn' : n ∉ cr := fun hc => hn ((h.mem n).mpr hc)
    simp only [hn, hn', if_false]
    have e : s.A ++ s.B ++ (s.C ++ [n]) = (s.A ++ s.B ++ s.C) ++ [n] := by simp
    refine ⟨h.asc, h.aIdx, h.bStr, ?_, ?_, ?_, ?_⟩
    · rw [e]; exact nodup_snoc h.nodup hn
    · exact nodup_snoc h.crNodup hn'
    · intro m; rw [e]; simp only [List.mem_append, List.mem_singleton]
      have := h.mem m
      simp only [List.mem_append] at this
      rw [this]
    · rw [e, List.filter_append, h.strs, List.filter_append]

theorem filter_erase_nodup (p : Key → Bool) (l : List Key) (n : Key) (hl : l.Nodup) :
    (l.erase n).filter p = (l.filter p).erase n := by
  rw [List.Nodup.erase_eq_filter hl, List.Nodup.erase_eq_filter (List.Nodup.sublist List.filter_sublist hl)]
  simp [List.filter_filter, Bool.and_comm]

theorem rel_delete {s : PO} {cr : List Key} (h : Rel s.A s.B s.C cr) (n : Key) :
    Rel (s.delete n).A (s.delete n).B (s.delete n).C (createdDelete cr n) := by
  have hnames := names_delete s n
  unfold PO.names at hnames
  have hA : (s.delete n).A.Sublist s.A := by
    unfold PO.delete; split
    · exact List.erase_sublist
    · split <;> exact List.Sublist.refl _
  have hB : (s.delete n).B.Sublist s.B := by
    unfold PO.delete; split
    · exact List.Sublist.refl _
    · split
      · exact List.erase_sublist
      · exact List.Sublist.refl _
  refine ⟨List.Pairwise.sublist hA h.asc, fun a ha => h.aIdx a (hA.subset ha), fun b hb => h.bStr b (hB.subset hb),
    ?_, ?_, ?_, ?_⟩
  · rw [hnames]; exact List.Nodup.erase n h.nodup
  · exact List.Nodup.erase n h.crNodup
  · intro m
    rw [hnames]
    unfold createdDelete
    rw [List.Nodup.mem_erase_iff h.nodup, List.Nodup.mem_erase_iff h.crNodup, h.mem m]
  · rw [hnames]
    unfold createdDelete
    rw [filter_erase_nodup _ _ _ h.nodup, filter_erase_nodup _ _ _ h.crNodup, h.strs]

theorem rel_step {s : PO} {cr : List Key} (h : Rel s.A s.B s.C cr) (op : POOp) :
    Rel (s.step op).A (s.step op).B (s.step op).C (createdStep cr op) := by
  cases op with
  | add n => exact rel_add h n
  | delete n => exact rel_delete h n
  | ensure => exact rel_ensure h

theorem rel_run (ops : List POOp) : ∀ {s : PO} {cr : List Key}, Rel s.A s.B s.C cr →
    Rel (s.run ops).A (s.run ops).B (s.run ops).C (createdRun cr ops) := by
  induction ops with
  | nil => intro s cr h; simpa [PO.run, createdRun] using h
  | cons op ops ih =>
    intro s cr h
    simp only [PO.run, createdRun, List.foldl_cons]
    exact ih (rel_step h op)

theorem rel_empty : Rel PO.empty.A PO.empty.B PO.empty.C [] := by
  refine ⟨?_, ?_, ?_, ?_, ?_, ?_, ?_⟩ <;> simp [PO.empty, Asc]

end GojaModel.C04
