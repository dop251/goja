/-
  C04 — the integer-indexed exotic layer (Typed.lean) over arbitrary histories: a typed array keeps its element count, so
  that "index n is an own property" never changes, and the ordinary part of the heap moves by ordinary steps.
-/
import GojaModel.C04.Typed
import GojaModel.C04.Hist
namespace GojaModel.C04

variable {V : Type}

def NoTyped (xh : XHeap V) : Prop := ∀ o, xh.typed o = none

def outOf : Act (SProp V) V → SetOut V
  | .fail => .fail
  | .write .. => .ok
  | .call f t a => .call f t a

inductive XOp (V : Type) where
  | define (o : Nat) (k : Key) (d : Desc V)
  | set (chain : List Nat) (k : Key) (v : V) (r : Recv)
  | delete (o : Nat) (k : Key)
  | integrity (o : Nat) (frozen : Bool)
  | preventExt (o : Nat)
  | setProto (fuel o : Nat) (p : Option Nat)

def xStep [DecidableEq V] (undef : V) (c : V → V) (xh : XHeap V) : XOp V → XHeap V
  | .define o k d => (xDefine undef c xh o k d).1
  | .set ch k v r => (xSet undef c xh ch k v r).1
  | .delete o k => (xDelete xh o k).1
  | .integrity o fr => (xSetIntegrity xh o fr).1
  | .preventExt o => { xh with h := sPreventExt xh.h o }
  | .setProto f o p => { xh with h := (sSetProto xh.h f o p).1 }

def xRun [DecidableEq V] (undef : V) (c : V → V) (xh : XHeap V) (ops : List (XOp V)) : XHeap V := ops.foldl (xStep undef c) xh

def XOp.wf : XOp V → Bool
  | .define _ _ d => d.wellFormed
  | _ => true

/-- the ordinary steps an exotic operation may take on the ordinary part of the heap -/
def XOp.needs (ok : SOp V → Prop) : XOp V → Prop
  | .define o k d => ok (.define o k d)
  | .set _ k v _ => ∀ o, ok (.define o k (descValue v)) ∧ ok (.define o k (descFull v))
  | .delete o k => ok (.delete o k)
  | .integrity o fr => ok (.integrity o fr) ∧ ok (.preventExt o)
  | .preventExt o => ok (.preventExt o)
  | .setProto f o p => ok (.setProto f o p)

theorem ite_pred {α} (P : α → Prop) (c : Prop) [Decidable c] {a b : α} (ha : P a) (hb : P b) :
    P (if c then a else b) := by
  split <;> assumption

/-! One exotic step does nothing, writes one element, or is one ordinary step on the ordinary part.
So every preorder `R` on exotic heaps that these three respect (`ok` = the ordinary steps it respects) holds along
every history.  Instances below: the element counts stay (`SameShape`), and the ordinary part moves by ordinary
well-formed steps (`OrdTrace`), so that the history invariants of Hist.lean apply to it. -/
section rel
variable [DecidableEq V] {undef : V} {c : V → V} {ok : SOp V → Prop} {R : XHeap V → XHeap V → Prop}
  (refl : ∀ x, R x x)
  (elem : ∀ xh o els n v, xh.typed o = some els → R xh (setElem xh o els n v))
  (ord : ∀ xh op, ok op → R xh { xh with h := sStep undef xh.h op })
include refl elem ord

theorem xDefine_rel (xh : XHeap V) (o : Nat) (k : Key) (d : Desc V) (hd : ok (.define o k d)) :
    R xh (xDefine undef c xh o k d).1 := by
  unfold xDefine
  split
  · next els n ht =>
    iterate 5 refine ite_pred (fun x : XHeap V × Bool => R xh x.1) _ (refl xh) ?_
    cases d.value
    · exact refl xh
    · exact elem xh o els n _ ht
  · exact ord xh _ hd

theorem xSetData_rel (xh : XHeap V) (k : Key) (v : V) (r : Recv)
    (hset : ∀ o, ok (.define o k (descValue v)) ∧ ok (.define o k (descFull v))) :
    R xh (xSetData undef c xh k v r).1 := by
  unfold xSetData
  repeat' split
  all_goals first | exact refl xh | exact xDefine_rel refl elem ord xh _ k _ (hset _).1 |
    exact xDefine_rel refl elem ord xh _ k _ (hset _).2

theorem xSet_rel (xh : XHeap V) (k : Key) (v : V) (r : Recv)
    (hset : ∀ o, ok (.define o k (descValue v)) ∧ ok (.define o k (descFull v))) :
    ∀ chain, R xh (xSet undef c xh chain k v r).1 := by
  intro chain
  induction chain with
  | nil => exact xSetData_rel refl elem ord xh k v r hset
  | cons o rest ih =>
    unfold xSet
    split
    · next els n ht =>
      repeat' split
      all_goals first | exact refl xh | exact elem xh o els n _ ht | exact xSetData_rel refl elem ord xh _ v r hset
    · repeat' split
      all_goals first | exact refl xh | exact ih | exact xSetData_rel refl elem ord xh _ v r hset

theorem xStep_rel (xh : XHeap V) (op : XOp V) (hop : op.needs ok) : R xh (xStep undef c xh op) := by
  cases op with
  | define o k d => exact xDefine_rel refl elem ord xh o k d hop
  | set ch k v r => exact xSet_rel refl elem ord xh k v r hop ch
  | delete o k =>
    simp only [xStep, xDelete]
    split
    · exact refl xh
    · exact ord xh _ hop
  | integrity o fr =>
    simp only [xStep, xSetIntegrity]
    repeat' split
    all_goals first | exact ord xh (.integrity o fr) hop.1 | exact ord xh (.preventExt o) hop.2
  | preventExt o => exact ord xh _ hop
  | setProto f o p => exact ord xh _ hop

theorem xRun_rel (trans : ∀ {a b c}, R a b → R b c → R a c) (ops : List (XOp V)) (xh : XHeap V)
    (hw : ∀ op ∈ ops, op.needs ok) : R xh (xRun undef c xh ops) :=
  foldl_rel refl trans ops (fun xh op hm => xStep_rel refl elem ord xh op (hw op hm)) xh

end rel

def SameShape (a b : XHeap V) : Prop := ∀ o, (b.typed o).map List.length = (a.typed o).map List.length

theorem setElem_shape (xh : XHeap V) (o : Nat) (els : List V) (n : Nat) (v : V) (h : xh.typed o = some els) :
    SameShape xh (setElem xh o els n v) := by
  intro o'
  by_cases e : o' = o
  · subst e; simp [setElem, h]
  · simp [setElem, e]

theorem xRun_shape [DecidableEq V] (undef : V) (c : V → V) (ops : List (XOp V)) (xh : XHeap V) :
    SameShape xh (xRun undef c xh ops) :=
  xRun_rel (ok := fun _ => True) (fun _ _ => rfl) setElem_shape (fun _ _ _ _ => rfl)
    (fun h1 h2 o => (h2 o).trans (h1 o)) ops xh fun op _ => by cases op <;> simp [XOp.needs]

def OrdTrace [DecidableEq V] (undef : V) (h h' : Heap V) : Prop :=
  ∃ l : List (SOp V), (∀ op ∈ l, op.wf = true) ∧ h' = sRun undef h l

theorem ordTrace_refl [DecidableEq V] (undef : V) (h : Heap V) : OrdTrace undef h h :=
  ⟨[], fun _ hm => absurd hm List.not_mem_nil, rfl⟩

theorem ordTrace_trans [DecidableEq V] (undef : V) {a b c : Heap V} (h1 : OrdTrace undef a b) (h2 : OrdTrace undef b c) :
    OrdTrace undef a c := by
  obtain ⟨l1, w1, e1⟩ := h1
  obtain ⟨l2, w2, e2⟩ := h2
  refine ⟨l1 ++ l2, ?_, ?_⟩
  · intro op hm
    rcases List.mem_append.mp hm with h | h
    · exact w1 op h
    · exact w2 op h
  · rw [e2, e1]; simp [sRun, List.foldl_append]

theorem XOp.needs_wf (op : XOp V) (h : op.wf = true) : op.needs (fun o => o.wf = true) := by
  cases op with
  | define => exact h
  | set _ _ v _ => exact fun _ => ⟨descValue_wf v, descFull_wf v⟩
  | integrity => exact ⟨rfl, rfl⟩
  | _ => rfl

theorem xRun_trace [DecidableEq V] (undef : V) (c : V → V) (ops : List (XOp V)) (xh : XHeap V)
    (hw : ∀ op ∈ ops, op.wf = true) : OrdTrace undef xh.h (xRun undef c xh ops).h :=
  xRun_rel (ok := fun op => op.wf = true) (R := fun a b => OrdTrace undef a.h b.h)
    (fun x => ordTrace_refl undef x.h) (fun xh _ _ _ _ _ => ordTrace_refl undef xh.h)
    (fun _ op hop => ⟨[op], List.forall_mem_singleton.mpr hop, rfl⟩) (ordTrace_trans undef) ops xh
    fun op hm => op.needs_wf (hw op hm)

end GojaModel.C04
