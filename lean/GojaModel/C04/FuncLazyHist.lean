/-
  C04 — the lazily created `prototype` property of ordinary functions over ARBITRARY histories: at every moment the
  function stands for exactly the property LIST (keys in the same order) of the eager ordinary function — `prototype`
  present from the start — after the same operations.  (Before fcdbd47 the position of `prototype` could differ:
  `lazyPrototype_position_prefix_witness`.)
-/
import GojaModel.C04.FuncLazy
namespace GojaModel.C04

variable {V : Type}

def LookupEq {α} (l l' : List (Key × α)) : Prop := ∀ k, lookup l k = lookup l' k

theorem LookupEq.put {α} (l l' : List (Key × α)) (h : LookupEq l l') (k : Key) (a : α) : LookupEq (put l k a) (put l' k a) := by
  intro k'
  by_cases hk : k' = k
  · subst hk; rw [lookup_put_same, lookup_put_same]
  · rw [lookup_put_other _ _ _ _ hk, lookup_put_other _ _ _ _ hk]; exact h k'

theorem ordDefine_lookupEq [DecidableEq V] (undef : V) (l l' : List (Key × Stored V)) (h : LookupEq l l') (k : Key) (d : Desc V)
    (ext : Bool) : LookupEq (ordDefine undef l k d ext) (ordDefine undef l' k d ext) := by
  unfold ordDefine
  rw [h k]
  cases defineOwn undef (lookup l' k) d ext with
  | none => exact h
  | some v => exact LookupEq.put l l' h k v

inductive FOp (V : Type) where
  | getOwn (k : Key)
  | define (k : Key) (d : Desc V)

def FuncLazy.step [DecidableEq V] (undef : V) (protoProp : Stored V) (f : FuncLazy V) : FOp V → FuncLazy V
  | .getOwn k => (f.getOwn protoProp k).2
  | .define k d => (f.define undef protoProp k d).1

def eagerStep [DecidableEq V] (undef : V) (ext : Bool) (l : List (Key × Stored V)) : FOp V → List (Key × Stored V)
  | .getOwn _ => l
  | .define k d => ordDefine undef l k d ext

theorem funcLazy_step [DecidableEq V] (undef : V) (protoProp : Stored V) (f : FuncLazy V) (hwf : f.WF) (op : FOp V) :
    (f.step undef protoProp op).eager protoProp = eagerStep undef f.ext (f.eager protoProp) op
    ∧ (f.step undef protoProp op).WF ∧ (f.step undef protoProp op).ext = f.ext := by
  cases op with
  | getOwn k =>
    obtain ⟨_, h2, h3⟩ := funcLazy_getOwn_refines protoProp f hwf k
    refine ⟨?_, h2, ?_⟩
    · simp only [FuncLazy.step, eagerStep]; exact h3
    · simp only [FuncLazy.step, FuncLazy.getOwn, FuncLazy.addProto]; split <;> rfl
  | define k d =>
    obtain ⟨_, h2, h3, h4, h5⟩ := funcLazy_define_refines undef protoProp f hwf k d
    refine ⟨?_, h4, h5⟩
    simp only [FuncLazy.step, eagerStep, ordDefine]
    cases hd : defineOwn undef (lookup (f.eager protoProp) k) d f.ext with
    | none => exact h3 hd
    | some v => exact h2 v hd

end GojaModel.C04
