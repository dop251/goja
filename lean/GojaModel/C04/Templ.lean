/-
  C04 — exotic delta: lazily-templated built-ins (object_template.go: Function.prototype, Array.prototype, Math, the
  global object, …).  The own properties come from a shared template and are materialised on demand: a string property when
  it is first looked up, the name list when it first changes, ALL symbol properties at the first symbol-keyed operation.
  Theorem: the lazy object is, at every moment, the ordinary object that has all template properties from the start.
-/
import GojaModel.C04.Assoc
import GojaModel.C04.Fold
namespace GojaModel.C04

/-- `objectTemplate` (object_template.go:13): string properties in `propNames` order, symbol properties in `symPropNames`
order; the factories are deterministic, so a template is the list of the values they produce. -/
structure Tmpl (V : Type) where
  strs : List (Key × Stored V)
  syms : List (Key × Stored V)

/-- the lazily filled part of a `templatedObject` -/
structure TObj (V : Type) where
  values : List (Key × Option (Stored V))    -- o.values: materialised / own string props; `none` = "white hole" (:255)
  propNames : Option (List Key)              -- o.propNames: nil until `materialisePropNames` (:136)
  symValues : Option (List (Key × Stored V)) -- o.symValues: nil until `materialiseSymbols` (:119)
  ext : Bool

variable {V : Type}

/-- `getOwnPropStr` :107-117 (the materialisation `o.values[p] = v` does not change what is observable) -/
def TObj.getOwnStr (t : Tmpl V) (o : TObj V) (k : Key) : Option (Stored V) :=
  match lookup o.values k with
  | some v => v
  | none => lookup t.strs k

/-- `materialisePropNames` :136-140 -/
def TObj.names (t : Tmpl V) (o : TObj V) : List Key := o.propNames.getD (keysOf t.strs)

/-- `materialiseSymbols` :119-126 -/
def TObj.syms (t : Tmpl V) (o : TObj V) : List (Key × Stored V) := o.symValues.getD t.syms

/-- `getOwnPropSym` :128-134: the fast path answers "absent" without materialising iff the table is not materialised and
the key is not a template symbol — the same answer as after materialising -/
def TObj.getOwnSym (t : Tmpl V) (o : TObj V) (s : Key) : Option (Stored V) :=
  if o.symValues.isNone && (lookup t.syms s).isNone then none
  else lookup (o.syms t) s

/-- `defineOwnPropertySym` :242-245: materialiseSymbols, then `baseObject.defineOwnPropertySym` (object.go:783) -/
def TObj.defineSym [DecidableEq V] (undef : V) (t : Tmpl V) (o : TObj V) (s : Key) (d : Desc V) : TObj V × Bool :=
  let syms := o.syms t                                                   -- o.materialiseSymbols()
  match defineOwn undef (lookup syms s) d o.ext with
  | some v => ({ o with symValues := some (put syms s v) }, true)
  | none => ({ o with symValues := some syms }, false)

/-- `deleteSym` :261-264 + object.go:429 -/
def TObj.deleteSym (t : Tmpl V) (o : TObj V) (s : Key) : TObj V × Bool :=
  let syms := o.syms t
  match lookup syms s with
  | none => ({ o with symValues := some syms }, true)
  | some v => if checkDelete v then ({ o with symValues := some (eraseKey syms s) }, true)
              else ({ o with symValues := some syms }, false)

/-- `setOwnSym` :151-155 (own-slot part, new or plain data; the prototype walk is `SetPath`): materialiseSymbols first -/
def TObj.putSym (t : Tmpl V) (o : TObj V) (s : Key) (v : Stored V) : TObj V :=
  { o with symValues := some (put (o.syms t) s v) }

/-- `defineOwnPropertyStr` :228-240 -/
def TObj.defineStr [DecidableEq V] (undef : V) (t : Tmpl V) (o : TObj V) (k : Key) (d : Desc V) : TObj V × Bool :=
  let existingVal := o.getOwnStr t k                                       -- :229
  match defineOwn undef existingVal d o.ext with                           -- :230
  | some v =>
    let o1 := { o with values := put o.values k (some v) }                 -- :231
    if existingVal.isNone then
      ({ o1 with propNames := some (o.names t ++ [k]) }, true)             -- :232-236 materialisePropNames; append
    else (o1, true)
  | none => (o, false)

/-- `deleteStr` :247-259 -/
def TObj.deleteStr (t : Tmpl V) (o : TObj V) (k : Key) : TObj V × Bool :=
  match o.getOwnStr t k with
  | none => (o, true)
  | some val =>
    if !checkDelete val then (o, false)                                    -- :249
    else
      let names := (o.names t).erase k                                     -- :252-253 materialisePropNames; _delete
      let values := if (lookup t.strs k).isSome then put o.values k none   -- :254-256 white hole
                    else eraseKey o.values k                               -- `_delete` removes it from the map
      ({ o with values := values, propNames := some names }, true)

/-- the ordinary (mechanism-level) property lists the lazy object stands for -/
def TObj.absStr (t : Tmpl V) (o : TObj V) : List (Key × Stored V) :=
  (o.names t).filterMap (fun k => (o.getOwnStr t k).map (fun v => (k, v)))
def TObj.absSym (t : Tmpl V) (o : TObj V) : List (Key × Stored V) := o.syms t

structure TObj.WF (t : Tmpl V) (o : TObj V) : Prop where
  tmplNodup : (keysOf t.strs).Nodup
  valuesNodup : (keysOf o.values).Nodup
  namesNodup : (o.names t).Nodup
  namesIff : ∀ k, k ∈ o.names t ↔ (o.getOwnStr t k).isSome = true

theorem getOwnSym_eq (t : Tmpl V) (o : TObj V) (s : Key) : o.getOwnSym t s = lookup (o.absSym t) s := by
  unfold TObj.getOwnSym TObj.absSym TObj.syms
  cases h : o.symValues with
  | some l => simp
  | none =>
    cases h2 : lookup t.syms s with
    | none => simp [h2]
    | some v => simp [h2]

theorem defineSym_abs [DecidableEq V] (undef : V) (t : Tmpl V) (o : TObj V) (s : Key) (d : Desc V) :
    ((o.defineSym undef t s d).1.absSym t, (o.defineSym undef t s d).2) =
      (match defineOwn undef (lookup (o.absSym t) s) d o.ext with
       | some v => (put (o.absSym t) s v, true)
       | none => (o.absSym t, false)) := by
  unfold TObj.defineSym TObj.absSym TObj.syms
  generalize o.symValues.getD t.syms = syms
  cases hd : defineOwn undef (lookup syms s) d o.ext <;> simp [hd]

theorem deleteSym_abs (t : Tmpl V) (o : TObj V) (s : Key) :
    ((o.deleteSym t s).1.absSym t, (o.deleteSym t s).2) =
      (match lookup (o.absSym t) s with
       | none => (o.absSym t, true)
       | some v => if checkDelete v then (eraseKey (o.absSym t) s, true) else (o.absSym t, false)) := by
  unfold TObj.deleteSym TObj.absSym TObj.syms
  generalize o.symValues.getD t.syms = syms
  cases h : lookup syms s with
  | none => simp [h]
  | some v => by_cases hc : checkDelete v = true <;> simp [h, hc]

theorem putSym_abs (t : Tmpl V) (o : TObj V) (s : Key) (v : Stored V) :
    (o.putSym t s v).absSym t = put (o.absSym t) s v := by
  simp [TObj.putSym, TObj.absSym, TObj.syms]

theorem lookup_absStr (t : Tmpl V) (o : TObj V) (h : o.WF t) (k : Key) : lookup (o.absStr t) k = o.getOwnStr t k := by
  unfold TObj.absStr
  rw [lookup_filterMap]
  by_cases hm : k ∈ o.names t
  · simp [hm]
  · simp only [hm, if_false]
    cases hg : o.getOwnStr t k with
    | none => rfl
    | some v => exact absurd ((h.namesIff k).mpr (by simp [hg])) hm

theorem keys_absStr (t : Tmpl V) (o : TObj V) (h : o.WF t) : keysOf (o.absStr t) = o.names t := by
  rw [TObj.absStr, keys_filterMap]
  exact List.filter_eq_self.mpr fun k hk => (h.namesIff k).mp hk

theorem absStr_eq (t : Tmpl V) (o : TObj V) (h : o.WF t) (l : List (Key × Stored V)) (hk : keysOf l = o.names t)
    (hl : ∀ j, lookup l j = o.getOwnStr t j) : o.absStr t = l :=
  assoc_ext (by rw [keys_absStr t o h]; exact h.namesNodup) (by rw [keys_absStr t o h, hk])
    fun j => by rw [lookup_absStr t o h j, hl]

theorem getOwnStr_put (t : Tmpl V) (o : TObj V) (k k' : Key) (v : Option (Stored V)) :
    TObj.getOwnStr t { o with values := put o.values k v } k' = if k' = k then v else o.getOwnStr t k' := by
  unfold TObj.getOwnStr
  by_cases h : k' = k
  · subst h; simp [lookup_put_same]
  · simp [h, lookup_put_other _ _ _ _ h]

/-! A change of the string side is described by what it does to the name list and to the own lookups (`absStr_eq`): the
list the object stands for changes accordingly and the invariant is kept. -/

theorem str_put (t : Tmpl V) (o o' : TObj V) (h : o.WF t) (k : Key) (v : Stored V)
    (hv : (keysOf o'.values).Nodup)
    (hn : o'.names t = if k ∈ o.names t then o.names t else o.names t ++ [k])
    (hg : ∀ j, o'.getOwnStr t j = if j = k then some v else o.getOwnStr t j) :
    o'.absStr t = put (o.absStr t) k v ∧ o'.WF t := by
  have hwf : o'.WF t := by
    refine ⟨h.tmplNodup, hv, ?_, fun j => ?_⟩
    · rw [hn]; split
      · exact h.namesNodup
      · next hk => exact nodup_snoc h.namesNodup hk
    · rw [hn, hg]
      by_cases hj : j = k
      · subst hj; split <;> simp [*]
      · simp only [hj, if_false, ← h.namesIff j]; split <;> simp [hj]
  refine ⟨absStr_eq t o' hwf _ (by rw [keys_put, keys_absStr t o h, hn]) fun j => ?_, hwf⟩
  rw [hg]
  by_cases hj : j = k
  · subst hj; simp [lookup_put_same]
  · rw [lookup_put_other _ _ _ _ hj, lookup_absStr t o h j]; simp [hj]

theorem str_erase (t : Tmpl V) (o o' : TObj V) (h : o.WF t) (k : Key)
    (hv : (keysOf o'.values).Nodup)
    (hn : o'.names t = (o.names t).erase k)
    (hg : ∀ j, o'.getOwnStr t j = if j = k then none else o.getOwnStr t j) :
    o'.absStr t = eraseKey (o.absStr t) k ∧ o'.WF t := by
  have hwf : o'.WF t := by
    refine ⟨h.tmplNodup, hv, by rw [hn]; exact h.namesNodup.erase _, fun j => ?_⟩
    rw [hn, hg, h.namesNodup.mem_erase_iff]
    by_cases hj : j = k
    · simp [hj]
    · simp only [hj, if_false, ne_eq, not_false_eq_true, true_and]; exact h.namesIff j
  refine ⟨absStr_eq t o' hwf _ (by rw [keys_erase, keys_absStr t o h, hn]) fun j => ?_, hwf⟩
  rw [hg]
  by_cases hj : j = k
  · subst hj; simp [lookup_erase_self _ _ (by rw [keys_absStr t o h]; exact h.namesNodup)]
  · rw [lookup_erase_other _ _ _ hj, lookup_absStr t o h j]; simp [hj]

theorem defineStr_ord [DecidableEq V] (undef : V) (t : Tmpl V) (o : TObj V) (h : o.WF t) (k : Key) (d : Desc V) :
    (o.defineStr undef t k d).1.absStr t = ordDefine undef (o.absStr t) k d o.ext
    ∧ (o.defineStr undef t k d).2 = (defineOwn undef (lookup (o.absStr t) k) d o.ext).isSome
    ∧ (o.defineStr undef t k d).1.WF t := by
  rw [ordDefine, lookup_absStr t o h k]
  simp only [TObj.defineStr]
  cases hd : defineOwn undef (o.getOwnStr t k) d o.ext with
  | none => exact ⟨rfl, rfl, h⟩
  | some v =>
    have hput : ∀ o' : TObj V, o'.values = put o.values k (some v) →
        (o'.names t = if k ∈ o.names t then o.names t else o.names t ++ [k]) →
        o'.absStr t = put (o.absStr t) k v ∧ o'.WF t :=
      fun o' hv hn => str_put t o o' h k v (hv ▸ nodup_put _ _ _ h.valuesNodup) hn fun j => by
        simp only [TObj.getOwnStr, hv]; exact getOwnStr_put t o k j (some v)
    -- a new key is appended to the (materialised) name list; an existing one is already listed
    have hk := h.namesIff k
    cases hex : o.getOwnStr t k with
    | none =>
      have hnot : k ∉ o.names t := fun hm => by rw [hex] at hk; exact nomatch hk.mp hm
      have := hput { o with values := put o.values k (some v), propNames := some (o.names t ++ [k]) } rfl
        (by rw [if_neg hnot]; rfl)
      exact ⟨this.1, rfl, this.2⟩
    | some ev =>
      have hmem : k ∈ o.names t := hk.mpr (by rw [hex]; rfl)
      have := hput { o with values := put o.values k (some v) } rfl (by rw [if_pos hmem]; rfl)
      exact ⟨this.1, rfl, this.2⟩

theorem defineStr_abs [DecidableEq V] (undef : V) (t : Tmpl V) (o : TObj V) (h : o.WF t) (k : Key) (d : Desc V) :
    ((o.defineStr undef t k d).1.absStr t, (o.defineStr undef t k d).2) =
      (match defineOwn undef (lookup (o.absStr t) k) d o.ext with
       | some v => (put (o.absStr t) k v, true)
       | none => (o.absStr t, false))
    ∧ (o.defineStr undef t k d).1.WF t := by
  obtain ⟨h1, h2, h3⟩ := defineStr_ord undef t o h k d
  refine ⟨?_, h3⟩
  rw [h1, h2, ordDefine]
  cases defineOwn undef (lookup (o.absStr t) k) d o.ext <;> rfl

theorem deleteStr_ord (t : Tmpl V) (o : TObj V) (h : o.WF t) (k : Key) :
    (o.deleteStr t k).1.absStr t = ordDelete (o.absStr t) k
    ∧ (o.deleteStr t k).2 = (match lookup (o.absStr t) k with
                             | none => true
                             | some v => checkDelete v)
    ∧ (o.deleteStr t k).1.WF t := by
  rw [ordDelete, lookup_absStr t o h k]
  simp only [TObj.deleteStr]
  cases hex : o.getOwnStr t k with
  | none => exact ⟨rfl, rfl, h⟩
  | some val =>
    simp only
    cases hc : checkDelete val with
    | false => simp only [Bool.not_false, if_true, Bool.false_eq_true, if_false]; exact ⟨trivial, trivial, h⟩
    | true =>
      simp only [Bool.not_true, Bool.false_eq_true, if_false, if_true, true_and]
      refine str_erase t o { o with values := (if (lookup t.strs k).isSome then put o.values k none else eraseKey o.values k),
                                    propNames := some ((o.names t).erase k) } h k ?_ rfl fun j => ?_
      · show (keysOf (if (lookup t.strs k).isSome = true then put o.values k none else eraseKey o.values k)).Nodup
        split
        · exact nodup_put _ _ _ h.valuesNodup
        · rw [keys_erase]; exact h.valuesNodup.erase _
      · show (match lookup (if (lookup t.strs k).isSome = true then put o.values k none else eraseKey o.values k) j with
              | some v => v
              | none => lookup t.strs j) = _
        by_cases hj : j = k
        · subst hj
          cases ht : lookup t.strs j with
          | some tv => simp [lookup_put_same]
          | none => simp [lookup_erase_self _ _ h.valuesNodup]
        · simp only [hj, if_false, TObj.getOwnStr]
          by_cases ht : (lookup t.strs k).isSome = true
          · rw [if_pos ht, lookup_put_other _ _ _ _ hj]
          · rw [if_neg ht, lookup_erase_other _ _ _ hj]

theorem deleteStr_abs (t : Tmpl V) (o : TObj V) (h : o.WF t) (k : Key) :
    ((o.deleteStr t k).1.absStr t, (o.deleteStr t k).2) =
      (match lookup (o.absStr t) k with
       | none => (o.absStr t, true)
       | some v => if checkDelete v then (eraseKey (o.absStr t) k, true) else (o.absStr t, false))
    ∧ (o.deleteStr t k).1.WF t := by
  obtain ⟨h1, h2, h3⟩ := deleteStr_ord t o h k
  refine ⟨?_, h3⟩
  rw [h1, h2, ordDelete]
  cases lookup (o.absStr t) k with
  | none => rfl
  | some v => simp only; cases checkDelete v <;> rfl

theorem fresh_abs (t : Tmpl V) (ext : Bool) (hn : (keysOf t.strs).Nodup) :
    let o : TObj V := { values := [], propNames := none, symValues := none, ext := ext }
    o.absSym t = t.syms ∧ o.WF t ∧ ∀ k, lookup (o.absStr t) k = lookup t.strs k := by
  intro o
  have hwf : o.WF t := by
    refine ⟨hn, by simp [o, keysOf], by simpa [o, TObj.names] using hn, ?_⟩
    intro k
    simp only [o, TObj.names, Option.getD_none, TObj.getOwnStr, lookup]
    exact mem_keys_iff t.strs k
  refine ⟨rfl, hwf, ?_⟩
  intro k
  rw [lookup_absStr t o hwf k]
  simp [o, TObj.getOwnStr, lookup]

inductive TOp (V : Type) where
  | defineStr (k : Key) (d : Desc V)
  | deleteStr (k : Key)
  | defineSym (s : Key) (d : Desc V)
  | deleteSym (s : Key)
  | putSym (s : Key) (v : Stored V)

def TObj.step [DecidableEq V] (undef : V) (t : Tmpl V) (o : TObj V) : TOp V → TObj V
  | .defineStr k d => (o.defineStr undef t k d).1
  | .deleteStr k => (o.deleteStr t k).1
  | .defineSym s d => (o.defineSym undef t s d).1
  | .deleteSym s => (o.deleteSym t s).1
  | .putSym s v => o.putSym t s v

structure Eager (V : Type) where
  strs : List (Key × Stored V)
  syms : List (Key × Stored V)
  ext : Bool

def Eager.step [DecidableEq V] (undef : V) (e : Eager V) : TOp V → Eager V
  | .defineStr k d => { e with strs := ordDefine undef e.strs k d e.ext }
  | .deleteStr k => { e with strs := ordDelete e.strs k }
  | .defineSym s d => { e with syms := ordDefine undef e.syms s d e.ext }
  | .deleteSym s => { e with syms := ordDelete e.syms s }
  | .putSym s v => { e with syms := put e.syms s v }

def TObj.absE (t : Tmpl V) (o : TObj V) : Eager V := { strs := o.absStr t, syms := o.absSym t, ext := o.ext }

theorem defineStr_fields [DecidableEq V] (undef : V) (t : Tmpl V) (o : TObj V) (k : Key) (d : Desc V) :
    (o.defineStr undef t k d).1.symValues = o.symValues ∧ (o.defineStr undef t k d).1.ext = o.ext := by
  unfold TObj.defineStr
  simp only
  repeat' split
  all_goals exact ⟨rfl, rfl⟩

theorem deleteStr_fields (t : Tmpl V) (o : TObj V) (k : Key) :
    (o.deleteStr t k).1.symValues = o.symValues ∧ (o.deleteStr t k).1.ext = o.ext := by
  unfold TObj.deleteStr
  repeat' split
  all_goals exact ⟨rfl, rfl⟩

theorem str_congr (t : Tmpl V) (o o' : TObj V) (h : o.WF t) (hv : o'.values = o.values) (hp : o'.propNames = o.propNames) :
    o'.absStr t = o.absStr t ∧ o'.WF t := by
  have hg : ∀ k, o'.getOwnStr t k = o.getOwnStr t k := by intro k; simp [TObj.getOwnStr, hv]
  have hn : o'.names t = o.names t := by simp [TObj.names, hp]
  refine ⟨by simp [TObj.absStr, hn, hg], ⟨h.tmplNodup, by rw [hv]; exact h.valuesNodup, by rw [hn]; exact h.namesNodup, ?_⟩⟩
  intro k; rw [hn, hg]; exact h.namesIff k

theorem defineSym_fields [DecidableEq V] (undef : V) (t : Tmpl V) (o : TObj V) (s : Key) (d : Desc V) :
    (o.defineSym undef t s d).1.values = o.values ∧ (o.defineSym undef t s d).1.propNames = o.propNames ∧
      (o.defineSym undef t s d).1.ext = o.ext := by
  unfold TObj.defineSym
  simp only
  split <;> exact ⟨rfl, rfl, rfl⟩

theorem deleteSym_fields (t : Tmpl V) (o : TObj V) (s : Key) :
    (o.deleteSym t s).1.values = o.values ∧ (o.deleteSym t s).1.propNames = o.propNames ∧ (o.deleteSym t s).1.ext = o.ext := by
  unfold TObj.deleteSym
  simp only
  repeat' split
  all_goals exact ⟨rfl, rfl, rfl⟩

theorem step_refines [DecidableEq V] (undef : V) (t : Tmpl V) (o : TObj V) (h : o.WF t) (op : TOp V) :
    (o.step undef t op).absE t = (o.absE t).step undef op ∧ (o.step undef t op).WF t := by
  cases op with
  | defineStr k d =>
    obtain ⟨h1, _, h3⟩ := defineStr_ord undef t o h k d
    obtain ⟨hs, he⟩ := defineStr_fields undef t o k d
    exact ⟨by simp only [TObj.step, TObj.absE, Eager.step, h1, he, TObj.absSym, TObj.syms, hs], h3⟩
  | deleteStr k =>
    obtain ⟨h1, _, h3⟩ := deleteStr_ord t o h k
    obtain ⟨hs, he⟩ := deleteStr_fields t o k
    exact ⟨by simp only [TObj.step, TObj.absE, Eager.step, h1, he, TObj.absSym, TObj.syms, hs], h3⟩
  | defineSym s d =>
    have e1 := congrArg Prod.fst (defineSym_abs undef t o s d)
    simp only at e1
    obtain ⟨hv, hp, hext⟩ := defineSym_fields undef t o s d
    obtain ⟨a1, a2⟩ := str_congr t o _ h hv hp
    refine ⟨?_, a2⟩
    simp only [TObj.step, TObj.absE, Eager.step, ordDefine, a1, hext, e1]
    cases defineOwn undef (lookup (o.absSym t) s) d o.ext <;> rfl
  | deleteSym s =>
    have e1 := congrArg Prod.fst (deleteSym_abs t o s)
    simp only at e1
    obtain ⟨hv, hp, hext⟩ := deleteSym_fields t o s
    obtain ⟨a1, a2⟩ := str_congr t o _ h hv hp
    refine ⟨?_, a2⟩
    simp only [TObj.step, TObj.absE, Eager.step, ordDelete, a1, hext, e1]
    cases lookup (o.absSym t) s with
    | none => rfl
    | some v => simp only; split <;> rfl
  | putSym s v =>
    obtain ⟨a1, a2⟩ := str_congr t o (o.putSym t s v) h rfl rfl
    refine ⟨?_, a2⟩
    simp only [TObj.step, TObj.absE, Eager.step, a1, putSym_abs]
    rfl

theorem run_refines [DecidableEq V] (undef : V) (t : Tmpl V) (ops : List (TOp V)) :
    ∀ o : TObj V, o.WF t →
      (ops.foldl (TObj.step undef t) o).absE t = ops.foldl (Eager.step undef) (o.absE t) ∧ (ops.foldl (TObj.step undef t) o).WF t := by
  exact foldl_refines ops fun o h op _ => step_refines undef t o h op

end GojaModel.C04
