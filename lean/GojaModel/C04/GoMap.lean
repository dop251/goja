/-
  C04 — Go wrapper kind: `objectGoMapSimple` (object_gomap.go), the wrapper of a Go `map[string]interface{}`.
  The string-keyed own properties ARE the map's entries (integer keys reach them through `idx.string()`; symbol keys live
  in the ordinary `symValues` of the embedded baseObject and are not modelled here).  A value read back is
  `ToValue(Export(v))`: the model takes that round trip as an arbitrary function `conv : V → V` (bridge semantics: C13).

  The wrapper is NOT a refinement of an ordinary object (a new key defined with `{value: v}` is created writable,
  enumerable, configurable; `{enumerable: false}` / `{configurable: false}` are accepted and ignored; `{configurable: true}`
  is rejected) — so what is proved are the ESSENTIAL INVARIANTS (ECMA-262 6.1.7.3) themselves, for arbitrary histories, and
  that the Lean monitor the check runs on observed states (`monitorStep`, `keysNodup`) accepts every step of the mechanism.
  Transcribed text: `Tie2.lean` (`gm_*`, `host_checkPropertyDescr`).
-/
import GojaModel.C04.Assoc
namespace GojaModel.C04

variable {V : Type}

structure GMap (V : Type) where
  data : List (Key × V)          -- o.data (insertion order is irrelevant: Go map iteration order is not specified)
  proto : Option Nat
  ext : Bool

/-- the descriptor `getOwnPropStr` object_gomap.go:36 stands for: a bare value = writable, enumerable, configurable data -/
def GMap.getOwn (m : GMap V) (k : Key) : Option (SProp V) := (lookup m.data k).map (fun v => .data v true true true)

/-- `hasOwnPropertyStr` :87 / `_hasStr` :82 -/
def GMap.has (m : GMap V) (k : Key) : Bool := (lookup m.data k).isSome

/-- `checkHostObjectPropertyDescr` object_goreflect.go:356 -/
def hostDescrOk (d : Desc V) : Bool :=
  !(d.getter.isSome || d.setter.isSome) && !(d.writable == .fFalse) && !(d.configurable == .fTrue)

/-- `defineOwnPropertyStr` :91-111 -/
def GMap.define (conv : V → V) (undef : V) (m : GMap V) (k : Key) (d : Desc V) : GMap V × Bool :=
  if !hostDescrOk d then (m, false)                                                     -- :92-94
  else if m.ext || m.has k then                                                         -- :97
    match d.value with
    | none => if !m.has k then ({ m with data := put m.data k (conv undef) }, true)     -- :100-102 o.data[n] = nil
              else (m, true)                                                            -- :103
    | some v => ({ m with data := put m.data k (conv v) }, true)                        -- :105-106
  else (m, false)                                                                       -- :109-110

/-- `deleteStr` :113: `delete(o.data, name)`, always true -/
def GMap.delete (m : GMap V) (k : Key) : GMap V × Bool := ({ m with data := eraseKey m.data k }, true)

/-- `setOwnStr` :43-63.  `foreign` = what `proto.self.setForeignStr` answered (`some res` = handled by the chain) -/
def GMap.setOwn (conv : V → V) (m : GMap V) (k : Key) (v : V) (foreign : Option Bool) : GMap V × Bool :=
  if m.has k then ({ m with data := put m.data k (conv v) }, true)                      -- :45-48
  else match foreign with
    | some res => (m, res)                                                              -- :49-54
    | none =>
      if !m.ext then (m, false)                                                         -- :56-58
      else ({ m with data := put m.data k (conv v) }, true)                             -- :59-61

/-- `baseObject.preventExtensions` object.go (inherited) -/
def GMap.preventExt (m : GMap V) : GMap V := { m with ext := false }

/-- `baseObject.setProto` (inherited): refused on a non-extensible object unless it is the same prototype; its refusal of
a prototype whose chain leads back to the object is left out (one object, no heap) -/
def GMap.setProto (m : GMap V) (p : Option Nat) : GMap V × Bool :=
  if m.proto = p then (m, true) else if !m.ext then (m, false) else ({ m with proto := p }, true)

inductive GOp (V : Type) where
  | define (k : Key) (d : Desc V)
  | delete (k : Key)
  | set (k : Key) (v : V) (foreign : Option Bool)
  | preventExt
  | setProto (p : Option Nat)

def GMap.step (conv : V → V) (undef : V) (m : GMap V) : GOp V → GMap V
  | .define k d => (m.define conv undef k d).1
  | .delete k => (m.delete k).1
  | .set k v f => (m.setOwn conv k v f).1
  | .preventExt => m.preventExt
  | .setProto p => (m.setProto p).1

/-- what the harness observes: `stringKeys` (:150, every key of the map) and the descriptor of each -/
def GMap.snap (m : GMap V) : Snap V :=
  { proto := m.proto, ext := m.ext, keys := keysOf m.data, props := m.data.map (fun kv => (kv.1, SProp.data kv.2 true true true)) }

def GMap.WF (m : GMap V) : Prop := (keysOf m.data).Nodup

inductive GStep (m : GMap V) : GMap V → Prop
  | same : GStep m m
  | put (k : Key) (v : V) (h : m.ext = true ∨ m.has k = true) : GStep m { m with data := put m.data k v }
  | erase (k : Key) : GStep m { m with data := eraseKey m.data k }
  | preventExt : GStep m { m with ext := false }
  | proto (p : Option Nat) (h : m.ext = true) : GStep m { m with proto := p }

theorem gm_step_gstep (conv : V → V) (undef : V) (m : GMap V) (op : GOp V) : GStep m (m.step conv undef op) := by
  cases op with
  | define k d =>
    simp only [GMap.step, GMap.define]
    split
    · exact .same
    · split
      · next hc =>
        have hc : m.ext = true ∨ m.has k = true := by simpa using hc
        cases d.value with
        | none => simp only; split <;> first | exact .put k _ hc | exact .same
        | some v => exact .put k _ hc
      · exact .same
  | delete k => exact .erase k
  | set k v f =>
    simp only [GMap.step, GMap.setOwn]
    split
    · next hh => exact .put k _ (.inr hh)
    · cases f with
      | some res => exact .same
      | none =>
        simp only
        split
        · exact .same
        · next he => exact .put k _ (.inl (by simpa using he))
  | preventExt => exact .preventExt
  | setProto p =>
    simp only [GMap.step, GMap.setProto]
    split
    · exact .same
    · split
      · exact .same
      · next he => exact .proto p (by simpa using he)

theorem gstep_wf {m m' : GMap V} (hs : GStep m m') (h : m.WF) : m'.WF := by
  cases hs with
  | put k v _ => exact nodup_put _ _ _ h
  | erase k => exact (keys_erase m.data k ▸ h.erase k : (keysOf (eraseKey m.data k)).Nodup)
  | _ => exact h

theorem gstep_nonext {m m' : GMap V} (hs : GStep m m') (hext : m.ext = false) :
    m'.ext = false ∧ m'.proto = m.proto ∧ ∀ k, k ∈ keysOf m'.data → k ∈ keysOf m.data := by
  cases hs with
  | put k v h =>
    -- on a non-extensible wrapper only an existing key is stored to
    have hh : (lookup m.data k).isSome = true := h.resolve_left (by simp [hext])
    exact ⟨hext, rfl, fun k' hk => by rwa [keys_put_has _ _ _ hh] at hk⟩
  | erase k => exact ⟨hext, rfl, fun k' hk => List.mem_of_mem_erase (keys_erase m.data k ▸ hk)⟩
  | proto p h => rw [hext] at h; cases h
  | same => exact ⟨hext, rfl, fun _ hk => hk⟩
  | preventExt => exact ⟨rfl, rfl, fun _ hk => hk⟩

theorem gm_monitor_step [DecidableEq V] (conv : V → V) (undef : V) (m : GMap V) (op : GOp V) :
    monitorStep m.snap (m.step conv undef op).snap = true := by
  simp only [monitorStep, Bool.and_eq_true, List.all_eq_true, Bool.or_eq_true]
  constructor
  · intro kp hm
    simp only [GMap.snap, List.mem_map] at hm
    obtain ⟨kv, _, e⟩ := hm
    left; rw [← e]; rfl
  · cases hext : m.ext with
    | true => left; simp [GMap.snap, hext]
    | false =>
      right
      obtain ⟨h1, h2, h3⟩ := gstep_nonext (gm_step_gstep conv undef m op) hext
      simp only [GMap.snap, h1, h2, Bool.not_false, beq_self_eq_true, List.contains_iff_mem, true_and]
      simpa using h3

end GojaModel.C04
