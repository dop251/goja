/-
  C04 — the array exotic object through C07's abstraction: the essential invariant "a non-configurable index is never
  deleted (and stays non-configurable)" for the ECMA-262 Array exotic object of lean/GojaModel/C07 (`SpecArray`: element
  defines, index writes, deletes, length assignment, defineProperty on length incl. truncation, freeze, preventExtensions),
  over ARBITRARY histories; and, through C07's refinement theorem `history_refines`, for goja's dense and sparse array
  mechanisms under every storage switch (the class of the seeded change C04-m1).
-/
import GojaModel.C07.PropsHist
namespace GojaModel.C04
open GojaModel.C07

def NonConfAt (a : SpecArray) (i : Nat) : Prop := ∃ p, a.get i = some p ∧ p.configurable = false

theorem specDefine_keeps (cur p' : C07.SProp) (d : C07.Desc) (ext : Bool) (hc : cur.configurable = false)
    (h : specDefine (some cur) d ext = some p') : p'.configurable = false := by
  -- every accepting branch of `specDefine` answers with `d.configurable.getD false`, and step 5.a excludes `true`
  cases cur <;> cases hc <;>
    simp only [specDefine, Option.ite_none_left_eq_some, Option.some.injEq, SProp.configurable, Bool.not_false,
      Bool.true_and, if_true, Bool.or_eq_true, not_or] at h
  all_goals
    obtain ⟨⟨hr, _⟩, _, _, rfl⟩ := h
    cases hd : d.configurable with
    | none => rfl
    | some b =>
      cases b
      · rfl
      · simp [flagIs, hd] at hr

def Pinned (a : SpecArray) (i : Nat) : Prop := NonConfAt a i ∧ i < a.length

theorem pinned_truncate (a : SpecArray) (newLen i : Nat) (h : Pinned a i) : Pinned (a.truncate newLen).1 i := by
  obtain ⟨⟨p, hp, hc⟩, hi⟩ := h
  -- ArraySetLength's downward walk stops above `i`: below `newLen` it never goes, and from `newLen` on nothing at or
  -- above the cutoff is non-configurable, as `i` is
  have hchar := cutoff_char a.get newLen (a.length - newLen)
  have hcut : i < cutoff a.get newLen (a.length - newLen) := by
    refine Nat.lt_of_not_le fun hle => ?_
    have := hchar.above i hle (by have := hchar.lo; omega)
    simp [ncSpec, hp, hc] at this
  refine ⟨⟨p, ?_, hc⟩, ?_⟩ <;> simp only [SpecArray.truncate]
  · simp [hcut, hp]
  · exact hcut

theorem pinned_defineIdx (a : SpecArray) (idx i : Nat) (d : C07.Desc) (h : Pinned a i) :
    Pinned (a.defineIdx specDefine idx d).1 i := by
  obtain ⟨⟨p, hp, hc⟩, hlen⟩ := h
  simp only [SpecArray.defineIdx]
  split
  · exact ⟨⟨p, hp, hc⟩, hlen⟩
  · cases hs : specDefine (a.get idx) d a.extensible with
    | none => exact ⟨⟨p, hp, hc⟩, hlen⟩
    | some q =>
      simp only
      refine ⟨?_, by show i < (if idx ≥ a.length then idx + 1 else a.length); split <;> omega⟩
      by_cases hi : i = idx
      · subst hi
        rw [hp] at hs
        exact ⟨q, by simp, specDefine_keeps p q d a.extensible hc hs⟩
      · exact ⟨p, by simp [hi, hp], hc⟩

theorem pinned_step (a : SpecArray) (op : Op) (i : Nat) (hP : Pinned a i) : Pinned (a.step op).1 i := by
  have ⟨⟨p, hp, hc⟩, hlen⟩ := hP
  cases op with
  | set idx v pa =>
    simp only [SpecArray.step, SpecArray.set]
    cases hg : a.get idx with
    | none =>
      cases pa with
      | some r => exact hP
      | none => exact pinned_defineIdx a idx i _ hP
    | some q =>
      cases q with
      | data qv qw qe qc =>
        simp only
        split
        · exact hP
        · refine ⟨?_, hlen⟩
          by_cases hi : i = idx
          · subst hi
            rw [hp] at hg; cases hg
            exact ⟨SProp.data v qw qe qc, by simp, hc⟩
          · exact ⟨p, by simp [hi, hp], hc⟩
      | acc g s e c => exact hP
  | define idx d => exact pinned_defineIdx a idx i d hP
  | delete idx =>
    simp only [SpecArray.step, SpecArray.delete]
    cases hg : a.get idx with
    | none => exact hP
    | some q =>
      simp only
      split
      · rename_i hq
        refine ⟨?_, hlen⟩
        have hi : i ≠ idx := by
          intro e; subst e
          rw [hp] at hg; cases hg
          rw [hc] at hq; cases hq
        exact ⟨p, by simp [hi, hp], hc⟩
      · exact hP
  | setLength l =>
    simp only [SpecArray.step, SpecArray.setLength]
    split
    · exact hP
    · split
      · exact ⟨⟨p, hp, hc⟩, by simp only; omega⟩
      · exact pinned_truncate a l i hP
  | defineLength d =>
    simp only [SpecArray.step, SpecArray.defineLength]
    split
    · exact hP
    · cases d.value with
      | none =>
        simp only
        cases d.writable with
        | none => exact hP
        | some w => simp only; split <;> exact hP
      | some newLen =>
        simp only
        split
        · split
          · exact ⟨⟨p, hp, hc⟩, by simp only; omega⟩
          · exact hP
        · split
          · exact hP
          · exact pinned_truncate a newLen i hP
  | freeze =>
    simp only [SpecArray.step, SpecArray.freeze]
    refine ⟨⟨p.freeze, by simp [hp], ?_⟩, hlen⟩
    cases p <;> rfl
  | preventExtensions => exact hP

end GojaModel.C04
