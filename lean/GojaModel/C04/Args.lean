/-
  C04 — exotic delta: the mapped `arguments` object (ECMA-262 10.4.4; object_args.go).  A mapped index is stored as a
  `mappedProperty{writable, enumerable, configurable, v *Value}` pointing at the parameter's variable.  As long as the
  variable is written only through the arguments object (no closure over the parameters writes it — the situation of every
  arguments object the correspondence creates), the object is observationally an ORDINARY object: the theorems below.
-/
import GojaModel.C04.LemmasDefine
import GojaModel.C04.Assoc
namespace GojaModel.C04

/-- a slot of `argumentsObject.values`: a `*mappedProperty` (flags + reference into the environment) or anything a
baseObject slot can hold -/
inductive ASlot (V : Type) where
  | mapped (w e c : Bool) (ref : Nat)
  | ord (s : Stored V)

def envSet {V} (env : Nat → V) (r : Nat) (v : V) : Nat → V := fun i => if i = r then v else env i

/-- `argumentsObject.getOwnPropStr` object_args.go:23-37: what the rest of the engine sees in the slot -/
def ASlot.view {V} (env : Nat → V) : ASlot V → Stored V
  | .mapped w e c ref =>
    if w && e && c then .plain (env ref)                                             -- :25-27
    else .prop { value := some (env ref), writable := w, configurable := c, enumerable := e,
                 accessor := false, getterFunc := none, setterFunc := none }          -- :28-33
  | .ord s => s                                                                       -- :36

def ASlot.spec {V} (undef : V) (env : Nat → V) (s : ASlot V) : SProp V := absProp undef (s.view env)

/-- a mapped slot is writable: `defineOwnPropertyStr` (object_args.go:139-142) unmaps one that becomes non-writable -/
def ASlot.ok {V} : ASlot V → Bool
  | .mapped w _ _ _ => w
  | .ord s => s.repInv

def ASlot.refOf {V} : ASlot V → Option Nat
  | .mapped _ _ _ r => some r
  | .ord _ => none

/-- `argumentsObject.defineOwnPropertyStr` object_args.go:121-155 on an existing slot: `none` = rejected -/
def argsDefine {V} [DecidableEq V] (undef : V) (slot : ASlot V) (env : Nat → V) (d : Desc V) (ext : Bool) :
    Option (ASlot V × (Nat → V)) :=
  match slot with
  | .mapped w e c ref =>
    let existing : VProp V := { value := some (env ref), writable := true, configurable := c, enumerable := e,
                                accessor := false, getterFunc := none, setterFunc := none }     -- :123-128
    match defineOwn undef (some (.prop existing)) d ext with                                      -- :130
    | none => none                                                                                -- :131-133
    | some (.prop prop) =>                                                                        -- :135
      let env' := if !prop.accessor then envSet env ref (prop.value.getD undef) else env          -- :136-138
      if prop.accessor || !prop.writable then some (.ord (.prop prop), env')                      -- :139-142 a._put(name, prop)
      else some (.mapped w prop.enumerable prop.configurable ref, env')                           -- :143-144
    | some (.plain v) => some (.mapped w true true ref, envSet env ref v)                         -- :145-149
  | .ord s =>
    match defineOwn undef (some s) d ext with                                                     -- :154 baseObject.defineOwnPropertyStr
    | none => none
    | some s' => some (.ord s', env)

/-- the own-slot part of `argumentsObject.setOwnStr` :44-55 (a mapped slot) / `baseObject.setOwnStr` object.go:493-502 (data slot):
`none` = not writable -/
def argsSetOwn {V} (slot : ASlot V) (env : Nat → V) (v : V) : Option (ASlot V × (Nat → V)) :=
  match slot with
  | .mapped w e c ref => if !w then none else some (.mapped w e c ref, envSet env ref v)         -- :46-52
  | .ord (.plain _) => some (.ord (.plain v), env)
  | .ord (.prop p) =>
    if !p.isWritable then none
    else match p.setterFunc with
      | none => some (.ord (.prop { p with value := some v }), env)
      | some _ => some (.ord (.prop p), env)        -- setter call: no change of the slot

/-- `argumentsObject.deleteStr` :60-70: `true` = the slot is removed -/
def argsDelete {V} : ASlot V → Bool
  | .mapped _ _ c _ => c                      -- checkDeleteProp(&prop.valueProperty)
  | .ord s => checkDeleteStored s
where checkDeleteStored : Stored V → Bool
  | .prop p => p.configurable
  | .plain _ => true

theorem spec_mapped {V} (undef : V) (env : Nat → V) (w e c : Bool) (ref : Nat) :
    (ASlot.mapped w e c ref : ASlot V).spec undef env = .data (env ref) w e c := by
  cases w <;> cases e <;> cases c <;> simp [ASlot.spec, ASlot.view, absProp]

theorem argsDefine_refines {V} [DecidableEq V] (undef : V) (slot : ASlot V) (env : Nat → V) (d : Desc V) (ext : Bool)
    (hw : d.wellFormed = true) (hok : slot.ok = true) :
    (argsDefine undef slot env d ext).map (fun r => r.1.spec undef r.2) =
      validateAndApply undef (some (slot.spec undef env)) d ext
    ∧ ∀ r, argsDefine undef slot env d ext = some r →
        r.1.ok = true ∧ (∀ q, slot.refOf ≠ some q → r.2 q = env q) ∧ (∀ q, r.1.refOf = some q → slot.refOf = some q) := by
  cases slot with
  | ord s =>
    have hc := cell_any undef (some s) d ext hw (fun t e => by cases e; exact hok)
    simp only [argsDefine]
    cases hd : defineOwn undef (some s) d ext with
    | none => have h1 := hc.1; rw [hd] at h1; exact ⟨h1, fun r hr => by cases hr⟩
    | some s' =>
      have h1 := hc.1; rw [hd] at h1
      exact ⟨h1, fun r hr => by cases hr; exact ⟨hc.2 s' hd, fun _ _ => rfl, nofun⟩⟩
  | mapped w e c ref =>
    cases hok
    have hset : ∀ (x : V) q, (ASlot.mapped true e c ref : ASlot V).refOf ≠ some q → envSet env ref x q = env q := by
      intro x q hq
      have : q ≠ ref := fun e' => hq (by simp [ASlot.refOf, e'])
      simp [envSet, this]
    -- the record :123-128 handed to `_defineOwnProperty` stands for the slot's property; what is stored afterwards
    -- (re-mapped, or un-mapped when it became an accessor or non-writable) stands for what came back
    have hc := cell_any undef (some (.prop ⟨some (env ref), true, c, e, false, none, none⟩)) d ext hw
      (fun t e' => by cases e'; rfl)
    rw [spec_mapped]
    simp only [argsDefine]
    cases hd : defineOwn undef (some (.prop ⟨some (env ref), true, c, e, false, none, none⟩)) d ext with
    | none =>
      have h1 := hc.1; rw [hd] at h1
      exact ⟨h1, fun r hr => by cases hr⟩
    | some val =>
      have h1 : some (absProp undef val) = validateAndApply undef (some (.data (env ref) true e c)) d ext := by
        have := hc.1; rwa [hd] at this
      have hri := hc.2 val hd
      cases val with
      | plain v =>
        exact ⟨Eq.trans (by simp [spec_mapped, absProp, envSet]) h1, fun r hr => by cases hr; exact ⟨rfl, hset v, fun _ hq => hq⟩⟩
      | prop p =>
        rcases p.cases_repInv hri with ⟨x, pw, pc, pe, rfl⟩ | ⟨pg, ps, pc, pe, rfl⟩
        · cases pw
          · exact ⟨Eq.trans (by simp [ASlot.spec, ASlot.view]) h1, fun r hr => by cases hr; exact ⟨hri, hset x, nofun⟩⟩
          · exact ⟨Eq.trans (by simp [spec_mapped, absProp, envSet]) h1,
              fun r hr => by cases hr; exact ⟨rfl, hset x, fun _ hq => hq⟩⟩
        · exact ⟨Eq.trans (by simp [ASlot.spec, ASlot.view]) h1, fun r hr => by cases hr; exact ⟨hri, fun _ _ => rfl, nofun⟩⟩

theorem argsDelete_spec {V} (undef : V) (env : Nat → V) (slot : ASlot V) :
    argsDelete slot = (slot.spec undef env).configurable := by
  cases slot with
  | mapped w e c ref => rw [spec_mapped]; rfl
  | ord s => exact (show argsDelete.checkDeleteStored s = checkDelete s by cases s <;> rfl).trans (checkDelete_abs undef s)

structure AObj (V : Type) where
  slots : List (Key × ASlot V)
  env : Nat → V
  ext : Bool

inductive AOp (V : Type) where
  | define (k : Key) (d : Desc V)
  | setOwn (k : Key) (v : V)          -- [[Set]] reaching an existing own slot (the chain walk is `SetPath`)
  | delete (k : Key)

def AObj.spec {V} (undef : V) (a : AObj V) : List (Key × SProp V) :=
  a.slots.map (fun ks => (ks.1, ks.2.spec undef a.env))

def AObj.step {V} [DecidableEq V] (undef : V) (a : AObj V) : AOp V → AObj V
  | .define k d =>
    (match lookup a.slots k with
     | some slot =>
       (match argsDefine undef slot a.env d a.ext with
        | some r => { a with slots := put a.slots k r.1, env := r.2 }
        | none => a)
     | none =>
       (match defineOwn undef none d a.ext with                 -- baseObject.defineOwnPropertyStr: new property
        | some s => { a with slots := put a.slots k (.ord s) }
        | none => a))
  | .setOwn k v =>
    (match lookup a.slots k with
     | some slot =>
       (match argsSetOwn slot a.env v with
        | some r => { a with slots := put a.slots k r.1, env := r.2 }
        | none => a)
     | none => a)
  | .delete k =>
    (match lookup a.slots k with
     | some slot => if argsDelete slot then { a with slots := eraseKey a.slots k } else a
     | none => a)

/-- the ordinary object's operations on its spec-level property list -/
def specStep {V} [DecidableEq V] (undef : V) (ext : Bool) (l : List (Key × SProp V)) : AOp V → List (Key × SProp V)
  | .define k d => (match validateAndApply undef (lookup l k) d ext with
                    | some p => put l k p
                    | none => l)
  | .setOwn k v => (match lookup l k with
                    | some (.data _ true e c) => put l k (.data v true e c)
                    | _ => l)
  | .delete k => (match lookup l k with
                  | some p => if p.configurable then eraseKey l k else l
                  | none => l)

structure AObj.WF {V} (a : AObj V) : Prop where
  ok : ∀ ks ∈ a.slots, ks.2.ok = true
  nodup : (keysOf a.slots).Nodup
  refs : ∀ k1 s1 k2 s2 r, (k1, s1) ∈ a.slots → (k2, s2) ∈ a.slots → s1.refOf = some r → s2.refOf = some r → k1 = k2

theorem spec_env_irrelevant {V} (undef : V) (env env' : Nat → V) (s : ASlot V)
    (h : ∀ r, s.refOf = some r → env' r = env r) : s.spec undef env' = s.spec undef env := by
  cases s with
  | ord x => rfl
  | mapped w e c r => rw [spec_mapped, spec_mapped, h r rfl]

theorem map_put_spec {V} (undef : V) (env env' : Nat → V) (l : List (Key × ASlot V)) (k : Key) (s' : ASlot V)
    (hn : (keysOf l).Nodup)
    (hother : ∀ ks ∈ l, ks.1 ≠ k → ks.2.spec undef env' = ks.2.spec undef env) :
    (put l k s').map (fun ks => (ks.1, ks.2.spec undef env')) =
      put (l.map (fun ks => (ks.1, ks.2.spec undef env))) k (s'.spec undef env') := by
  induction l with
  | nil => simp [put]
  | cons x xs ih =>
    obtain ⟨k0, s0⟩ := x
    have hn' := List.nodup_cons.mp hn
    by_cases h : k0 = k
    · subst h
      simp only [put, if_true, List.map_cons]
      congr 1
      apply List.map_congr_left
      intro ks hks
      have hne : ks.1 ≠ k0 := by
        intro e
        exact hn'.1 (e ▸ List.mem_map.mpr ⟨ks, hks, rfl⟩)
      rw [hother ks (List.mem_cons_of_mem _ hks) hne]
    · simp only [put, h, if_false, List.map_cons]
      rw [hother (k0, s0) (List.mem_cons_self) h]
      congr 1
      exact ih hn'.2 (fun ks hks hne => hother ks (List.mem_cons_of_mem _ hks) hne)

theorem others_unchanged {V} (undef : V) (a : AObj V) (h : a.WF) (k : Key) (slot : ASlot V) (hl : lookup a.slots k = some slot)
    (env' : Nat → V) (henv : ∀ r, slot.refOf ≠ some r → env' r = a.env r) :
    ∀ ks ∈ a.slots, ks.1 ≠ k → ks.2.spec undef env' = ks.2.spec undef a.env := by
  intro ks hks hne
  apply spec_env_irrelevant
  intro r hr
  apply henv
  intro hs
  exact hne (h.refs ks.1 ks.2 k slot r hks (mem_of_lookup _ _ _ hl) hr hs)

def AOp.wf {V} : AOp V → Bool
  | .define _ d => d.wellFormed
  | _ => true

theorem wf_put {V} (a : AObj V) (h : a.WF) (k : Key) (s' : ASlot V) (env' : Nat → V) (hok : s'.ok = true)
    (hrefs : ∀ q, s'.refOf = some q → ∃ slot, lookup a.slots k = some slot ∧ slot.refOf = some q) :
    AObj.WF { a with slots := put a.slots k s', env := env' } := by
  refine ⟨?_, nodup_put _ _ _ h.nodup, ?_⟩
  · intro ks hks
    rcases mem_put _ _ _ _ hks with e | e1
    · rw [e]; exact hok
    · exact h.ok ks e1
  · intro k1 s1 k2 s2 r h1 h2 r1 r2
    rcases mem_put _ _ _ _ h1 with e1 | m1 <;> rcases mem_put _ _ _ _ h2 with e2 | m2
    · cases e1; cases e2; rfl
    · cases e1
      obtain ⟨slot, hl, hr⟩ := hrefs r r1
      exact h.refs k slot k2 s2 r (mem_of_lookup _ _ _ hl) m2 hr r2
    · cases e2
      obtain ⟨slot, hl, hr⟩ := hrefs r r2
      exact h.refs k1 s1 k slot r m1 (mem_of_lookup _ _ _ hl) r1 hr
    · exact h.refs k1 s1 k2 s2 r m1 m2 r1 r2

theorem lookup_spec {V} (undef : V) (a : AObj V) (k : Key) :
    lookup (a.spec undef) k = (lookup a.slots k).map (fun s => s.spec undef a.env) :=
  lookup_map (fun s : ASlot V => s.spec undef a.env) a.slots k

theorem argsSetOwn_refines {V} (undef : V) (slot : ASlot V) (env : Nat → V) (v : V) (hok : slot.ok = true) :
    match argsSetOwn slot env v with
    | none => ∀ x e c, slot.spec undef env ≠ .data x true e c
    | some r =>
      r.1.spec undef r.2 = (match slot.spec undef env with
                            | .data _ true e c => .data v true e c
                            | p => p)
      ∧ r.1.ok = true ∧ (∀ q, slot.refOf ≠ some q → r.2 q = env q) ∧ (∀ q, r.1.refOf = some q → slot.refOf = some q) := by
  cases slot with
  | mapped w e c ref =>
    cases hok
    simp only [argsSetOwn, Bool.not_true, Bool.false_eq_true, if_false, spec_mapped]
    refine ⟨by simp [envSet], rfl, fun q hq => ?_, fun q hq => hq⟩
    have : q ≠ ref := fun e' => hq (by simp [ASlot.refOf, e'])
    simp [envSet, this]
  | ord s =>
    cases s with
    | plain x => exact ⟨rfl, rfl, fun _ _ => rfl, fun _ hq => hq⟩
    | prop p =>
      rcases p.cases_repInv hok with ⟨x, pw, pc, pe, rfl⟩ | ⟨pg, ps, pc, pe, rfl⟩
      · cases pw <;> simp [argsSetOwn, VProp.isWritable, ASlot.spec, ASlot.view, absProp, ASlot.ok, Stored.repInv,
          VProp.repInv, ASlot.refOf]
      · cases ps <;> simp [argsSetOwn, VProp.isWritable, ASlot.spec, ASlot.view, absProp, ASlot.ok, Stored.repInv,
          VProp.repInv, ASlot.refOf]

theorem slot_update {V} (undef : V) (a : AObj V) (h : a.WF) (k : Key) (slot : ASlot V) (hl : lookup a.slots k = some slot)
    (r : ASlot V × (Nat → V)) (hok : r.1.ok = true) (hfr1 : ∀ q, slot.refOf ≠ some q → r.2 q = a.env q)
    (hfr2 : ∀ q, r.1.refOf = some q → slot.refOf = some q) :
    AObj.spec undef { a with slots := put a.slots k r.1, env := r.2 } = put (a.spec undef) k (r.1.spec undef r.2)
    ∧ AObj.WF { a with slots := put a.slots k r.1, env := r.2 } :=
  ⟨map_put_spec undef a.env r.2 a.slots k r.1 h.nodup (others_unchanged undef a h k slot hl r.2 hfr1),
   wf_put a h k r.1 r.2 hok fun q hq => ⟨slot, hl, hfr2 q hq⟩⟩

theorem args_step_refines {V} [DecidableEq V] (undef : V) (a : AObj V) (h : a.WF) (op : AOp V) (hw : op.wf = true) :
    (a.step undef op).spec undef = specStep undef a.ext (a.spec undef) op ∧ (a.step undef op).WF ∧ (a.step undef op).ext = a.ext := by
  have hlk := lookup_spec undef a
  cases op with
  | define k d =>
    have hd : d.wellFormed = true := by simpa [AOp.wf] using hw
    simp only [AObj.step, specStep, hlk]
    cases hl : lookup a.slots k with
    | some slot =>
      have hok := h.ok (k, slot) (mem_of_lookup _ _ _ hl)
      obtain ⟨href, hkeep⟩ := argsDefine_refines undef slot a.env d a.ext hd hok
      simp only [Option.map_some]
      cases hr : argsDefine undef slot a.env d a.ext with
      | none => rw [hr] at href; simp only [Option.map_none] at href; rw [← href]; exact ⟨rfl, h, rfl⟩
      | some r =>
        rw [hr] at href
        simp only [Option.map_some] at href
        rw [← href]
        obtain ⟨hok', hfr1, hfr2⟩ := hkeep r hr
        obtain ⟨e, w⟩ := slot_update undef a h k slot hl r hok' hfr1 hfr2
        exact ⟨e, w, rfl⟩
    | none =>
      simp only [Option.map_none]
      have hc := cell_new undef d a.ext hd
      cases hdo : defineOwn undef none d a.ext with
      | none => have := hc.1; rw [hdo] at this; simp only [Option.map_none] at this; rw [← this]; exact ⟨rfl, h, rfl⟩
      | some s0 =>
        have h1 := hc.1; rw [hdo] at h1; simp only [Option.map_some, Option.map_none] at h1
        rw [← h1]
        refine ⟨?_, ?_, rfl⟩
        · simp only [AObj.spec]
          have := map_put_spec undef a.env a.env a.slots k (.ord s0) h.nodup (fun _ _ _ => rfl)
          simpa [ASlot.spec, ASlot.view] using this
        · exact wf_put a h k (.ord s0) a.env (hc.2 s0 hdo) nofun
  | delete k =>
    simp only [AObj.step, specStep, hlk]
    cases hl : lookup a.slots k with
    | none => exact ⟨rfl, h, rfl⟩
    | some slot =>
      simp only [Option.map_some, argsDelete_spec undef a.env slot]
      cases hc : (slot.spec undef a.env).configurable with
      | false => simp only [Bool.false_eq_true, if_false]; exact ⟨trivial, h, trivial⟩
      | true =>
        simp only [if_true]
        have hsub := mem_eraseKey a.slots k
        exact ⟨map_eraseKey (fun s : ASlot V => s.spec undef a.env) a.slots k,
          ⟨fun ks hks => h.ok ks (hsub ks hks), by rw [keys_erase]; exact List.Nodup.erase _ h.nodup,
           fun k1 s1 k2 s2 r h1 h2 r1 r2 => h.refs k1 s1 k2 s2 r (hsub _ h1) (hsub _ h2) r1 r2⟩, trivial⟩
  | setOwn k v =>
    simp only [AObj.step, specStep, hlk]
    cases hl : lookup a.slots k with
    | none => exact ⟨rfl, h, rfl⟩
    | some slot =>
      have hs := argsSetOwn_refines undef slot a.env v (h.ok _ (mem_of_lookup _ _ _ hl))
      have hsame : lookup (a.spec undef) k = some (slot.spec undef a.env) := by rw [hlk, hl]; rfl
      simp only [Option.map_some]
      cases hr : argsSetOwn slot a.env v with
      | none =>
        simp only [hr] at hs
        refine ⟨?_, h, rfl⟩
        cases hsp : slot.spec undef a.env with
        | acc g s e c => rfl
        | data x w e c =>
          cases w
          · rfl
          · exact absurd hsp (hs x e c)
      | some r =>
        simp only [hr] at hs
        obtain ⟨hspec, hok, hfr1, hfr2⟩ := hs
        obtain ⟨e, w⟩ := slot_update undef a h k slot hl r hok hfr1 hfr2
        refine ⟨?_, w, rfl⟩
        simp only [e, hspec]
        -- a slot that does not stand for a writable data property is written back as it is
        cases hsp : slot.spec undef a.env with
        | acc g s e c => rw [hsp] at hsame; exact put_same _ _ _ hsame
        | data x w e c =>
          cases w
          · rw [hsp] at hsame; exact put_same _ _ _ hsame
          · rfl

end GojaModel.C04
