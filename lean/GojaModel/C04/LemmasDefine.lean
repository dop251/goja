/-
  C04 — `_defineOwnProperty` against ValidateAndApplyPropertyDescriptor on one slot.
  The spec is cut into its validation (step 5) and its application (step 6); `rejects` is compared with the first and
  `applyDesc` with the second, on every record that the representation invariant allows.  Last, the other test made on
  one slot: `checkDelete` is [[Configurable]] of the property the slot stands for.
-/
import GojaModel.C04.Model
namespace GojaModel.C04

-- splits a well-formed descriptor into its field shapes, the flags included
macro "c04_desc_cases" d:ident hw:ident : tactic => `(tactic|
  (obtain ⟨v, w, e, c, g, s⟩ := $d
   cases g <;> cases s <;> cases v <;> cases w <;>
     simp [Desc.wellFormed, Desc.isAccessor, Desc.isData, Flag.isSet] at $hw:ident <;>
     cases e <;> cases c))

variable {V : Type}

/-- step 5 of ValidateAndApplyPropertyDescriptor: `current` is not configurable and the descriptor would show -/
def specRejects [DecidableEq V] (cur : SProp V) (d : Desc V) : Bool :=
  !cur.configurable &&
    ( d.configurable == .fTrue
    || (d.enumerable.isSet && d.enumerable.bool != cur.enumerable)
    || (!d.isGeneric && (d.isAccessor != cur.isAcc))
    || (match cur with
        | .acc g s _ _ =>
          (match d.getter with | some g' => g != g' | none => false) ||
          (match d.setter with | some s' => s != s' | none => false)
        | .data v w _ _ =>
          !w && (d.writable == .fTrue || (match d.value with | some v' => v != v' | none => false))))

/-- step 6 of ValidateAndApplyPropertyDescriptor -/
def specApply (undef : V) (cur : SProp V) (d : Desc V) : SProp V :=
  let e := d.enumerable.getD cur.enumerable
  let c := d.configurable.getD cur.configurable
  match cur with
  | .data v w _ _ =>
    if d.isAccessor then .acc (d.getter.getD none) (d.setter.getD none) e c
    else .data (d.value.getD v) (d.writable.getD w) e c
  | .acc g s _ _ =>
    if d.isData then .data (d.value.getD undef) (d.writable.getD false) e c
    else .acc (d.getter.getD g) (d.setter.getD s) e c

theorem validateAndApply_some [DecidableEq V] (undef : V) (cur : SProp V) (d : Desc V) (ext : Bool) :
    validateAndApply undef (some cur) d ext = if specRejects cur d then none else some (specApply undef cur d) := by
  cases cur <;> simp only [specApply, apply_ite some] <;> rfl

/-- step 2 creates what step 6 makes of an all-default data property -/
theorem validateAndApply_none [DecidableEq V] (undef : V) (d : Desc V) (ext : Bool) :
    validateAndApply undef none d ext =
      if ext then some (specApply undef (.data undef false false false) d) else none := by
  cases ext <;> simp only [specApply, apply_ite some] <;> rfl

theorem Flag.getD_false_of_ne {f : Flag} (h : (f == .fTrue) = false) : f.getD false = false := by
  cases f <;> first | rfl | cases h
theorem Flag.getD_of_same {f : Flag} {b : Bool} (h : (f.isSet && f.bool != b) = false) : f.getD b = b := by
  cases f <;> cases b <;> first | rfl | cases h

/-! The code's record updates on a field that stays a variable (object.go:712-717 two flags, :754 the value). -/

theorem ite_enumerable (f : Flag) (v : Option V) (w c e a g s) :
    (if f.isSet = true then VProp.mk v w c f.bool a g s else ⟨v, w, c, e, a, g, s⟩) = ⟨v, w, c, f.getD e, a, g, s⟩ := by
  cases f <;> rfl
theorem ite_configurable (f : Flag) (v : Option V) (w c e a g s) :
    (if f.isSet = true then VProp.mk v w f.bool e a g s else ⟨v, w, c, e, a, g, s⟩) = ⟨v, w, f.getD c, e, a, g, s⟩ := by
  cases f <;> rfl
theorem ite_value (undef : V) (v : Option V) (w c e a g s) :
    (if v.isNone = true then VProp.mk (some undef) w c e a g s else ⟨v, w, c, e, a, g, s⟩)
      = ⟨some (v.getD undef), w, c, e, a, g, s⟩ := by
  cases v <;> rfl

/-! Which assignments of `applyDesc` run is decided by the kind of the record, by which of value / getter / setter are
present and by `writable`; `enumerable` and `configurable` stay variables (`ite_enumerable`, `ite_configurable` above).
`simp` runs the code on each of the nine well-formed shapes and leaves a record literal; both claims about it hold by
computation.  Only on the shape `{value, writable: true}` does the all-true shortcut :705 look at the other two flags. -/

/-- `repInv` without "a data property has a value": all that `applyDesc` needs of the record it updates, and true of
the blank record :662 of a new property as well -/
def VProp.noResidue (p : VProp V) : Bool :=
  if p.accessor then !p.writable && p.value.isNone else p.getterFunc.isNone && p.setterFunc.isNone

theorem applyDesc_spec (undef : V) (e : VProp V) (he : e.noResidue = true) (d : Desc V) (hw : d.wellFormed = true) :
    absProp undef (applyDesc undef e d) = specApply undef (absProp undef (.prop e)) d
      ∧ (applyDesc undef e d).repInv = true := by
  obtain ⟨ev, ew, ec, ee, ea, eg, es⟩ := e
  obtain ⟨dv, dw, de, dc, dg, ds⟩ := d
  cases ea <;>
    simp only [VProp.noResidue, if_true, Bool.false_eq_true, if_false, Bool.and_eq_true, Bool.not_eq_true',
      Option.isNone_iff_eq_none] at he <;>
    obtain ⟨rfl, rfl⟩ := he <;>
    cases dg <;> cases ds <;> cases dv <;> cases dw <;> cases hw <;>
    simp [applyDesc, ite_enumerable, ite_configurable, ite_value, Flag.isSet.eq_1, Flag.isSet.eq_2,
      -Option.isNone_iff_eq_none]
  case false.none.none.some.fTrue | true.none.none.some.fTrue => cases de <;> cases dc <;> exact ⟨rfl, rfl⟩
  all_goals exact ⟨rfl, rfl⟩

theorem VProp.cases_repInv (p : VProp V) (h : p.repInv = true) :
    (∃ x w c e, p = ⟨some x, w, c, e, false, none, none⟩) ∨ (∃ g s c e, p = ⟨none, false, c, e, true, g, s⟩) := by
  obtain ⟨pv, pw, pc, pe, pa, pg, ps⟩ := p
  cases pa <;> simp only [VProp.repInv, if_true, Bool.false_eq_true, if_false, Bool.and_eq_true, Bool.not_eq_true',
    Option.isNone_iff_eq_none, Option.isSome_iff_exists] at h
  · obtain ⟨⟨rfl, rfl⟩, x, rfl⟩ := h
    exact .inl ⟨x, pw, pc, pe, rfl⟩
  · obtain ⟨rfl, rfl⟩ := h
    exact .inr ⟨pg, ps, pc, pe, rfl⟩

/-! Both sides are false on a configurable property.  Otherwise the code's `if … then true else …` chain is the spec's
disjunction; the kind-change tests agree because a data property sees `isAccessor` on both sides and an accessor
sees `isData`, which for a well-formed descriptor is "not generic and not accessor". -/

theorem rejects_spec [DecidableEq V] (undef : V) (e : VProp V) (he : e.repInv = true) (d : Desc V)
    (hw : d.wellFormed = true) : rejects e d = specRejects (absProp undef (.prop e)) d := by
  rcases e.cases_repInv he with ⟨x, ew, ec, ee, rfl⟩ | ⟨eg, es, ec, ee, rfl⟩ <;> cases ec
  case inr.true | inl.true => simp [rejects, specRejects, absProp, SProp.configurable]
  · cases hv : d.value <;> cases ha : d.isAccessor <;>
      simp [rejects, specRejects, absProp, SProp.configurable, SProp.enumerable, SProp.isAcc, Desc.isGeneric, hv, ha] <;>
      rfl
  · have hk : (!d.isGeneric && !d.isAccessor) = d.isData := by
      cases ha : d.isAccessor <;> simp_all [Desc.wellFormed, Desc.isGeneric]
    cases hg : d.getter <;> cases hs : d.setter <;>
      simp [rejects, specRejects, absProp, SProp.configurable, SProp.enumerable, SProp.isAcc, hk, hg, hs, objOf,
        Bool.or_assoc] <;> rfl

def CellOk [DecidableEq V] (undef : V) (existing : Option (Stored V)) (d : Desc V) (ext : Bool) : Prop :=
  (defineOwn undef existing d ext).map (absProp undef) = validateAndApply undef (existing.map (absProp undef)) d ext
  ∧ ∀ s, defineOwn undef existing d ext = some s → s.repInv = true

theorem cell_new [DecidableEq V] (undef : V) (d : Desc V) (ext : Bool) (hw : d.wellFormed = true) :
    CellOk undef none d ext := by
  have ⟨ha, hi⟩ := applyDesc_spec undef (existingOf none) rfl d hw
  cases ext <;> simp [CellOk, defineOwn, validateAndApply_none]
  exact ⟨ha, hi⟩

def kindChange {V} (existing : Option (Stored V)) (d : Desc V) : Bool :=
  match existing with
  | none => false
  | some (.plain _) => d.isAccessor
  | some (.prop p) => if p.accessor then d.isData else d.isAccessor

/-- the record :664-670 that the code works on shows the same property as the slot (a plain value is an all-true data
property) and satisfies `repInv` with it -/
theorem cell_any [DecidableEq V] (undef : V) (existing : Option (Stored V)) (d : Desc V) (ext : Bool)
    (hw : d.wellFormed = true) (hinv : ∀ s, existing = some s → s.repInv = true) : CellOk undef existing d ext := by
  cases existing with
  | none => exact cell_new undef d ext hw
  | some s =>
    have habs : absProp undef s = absProp undef (.prop (existingOf (some s))) := by cases s <;> rfl
    have he : (existingOf (some s)).repInv = true := by
      cases s with
      | plain x => rfl
      | prop p => exact hinv _ rfl
    have hres : (existingOf (some s)).noResidue = true := by
      revert he
      simp only [VProp.repInv, VProp.noResidue]
      split <;> simp +contextual
    have ha := applyDesc_spec undef _ hres d hw
    simp only [CellOk, defineOwn, Option.map_some, habs, validateAndApply_some, rejects_spec undef _ he d hw]
    cases specRejects (absProp undef (.prop (existingOf (some s)))) d <;> simp [ha]

theorem validateAndApply_descValue [DecidableEq V] (undef v0 v : V) (e c ext : Bool) :
    validateAndApply undef (some (.data v0 true e c)) (descValue v) ext = some (.data v true e c) := by
  rw [validateAndApply_some]; cases c <;> rfl

/-- the two descriptors [[Set]] defines with (OrdinarySetWithOwnDescriptor 2.d.iii, 2.e) -/
theorem descValue_wf (v : V) : (descValue v).wellFormed = true := rfl
theorem descFull_wf (v : V) : (descFull v).wellFormed = true := rfl

theorem checkDelete_abs (undef : V) (s : Stored V) : checkDelete s = (absProp undef s).configurable := by
  cases s with
  | plain x => rfl
  | prop p => cases h : p.accessor <;> simp [checkDelete, absProp, h, SProp.configurable]

end GojaModel.C04
