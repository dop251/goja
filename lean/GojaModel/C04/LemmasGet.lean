/-
  C04 — [[Get]] / [[HasProperty]] / [[Delete]] — the key-kind copies coincide and refine the spec.
-/
import GojaModel.C04.LemmasSet
namespace GojaModel.C04

theorem getSym_eq_getStr {V} (undef : V) (mv : MView V) (k : Key) (r : Recv) :
    ∀ chain, getSym undef mv chain k r = getStr undef mv chain k r := by
  intro chain
  induction chain with
  | nil => rfl
  | cons o rest ih => simp only [getSym, getStr, ih]

theorem getStr_refines {V} (undef : V) (mv : MView V) (hinv : RepInvView mv) (k : Key) (r : Recv) :
    ∀ chain, getStr undef mv chain k r = ordinaryGet undef (mv.abs undef) chain k r := by
  intro chain
  induction chain with
  | nil => rfl
  | cons o rest ih =>
    cases hown : mv.own o k with
    | none => simp only [getStr, ordinaryGet, hown, abs_own_none undef mv o k hown, ih]
    | some s =>
      have hri := hinv o k s hown
      cases s with
      | plain x => simp [getStr, ordinaryGet, hown, abs_own_some undef mv o k _ hown, absProp]
      | prop p =>
        rcases p.cases_repInv hri with ⟨x, pw, pc, pe, rfl⟩ | ⟨pg, ps, pc, pe, rfl⟩
        · simp [getStr, ordinaryGet, hown, abs_own_some undef mv o k _ hown, absProp, VProp.getRes]
        · cases pg <;> simp [getStr, ordinaryGet, hown, abs_own_some undef mv o k _ hown, absProp, VProp.getRes]

theorem hasSym_eq_hasStr {V} (mv : MView V) (k : Key) : ∀ chain, hasPropertySym mv chain k = hasPropertyStr mv chain k := by
  intro chain
  induction chain with
  | nil => rfl
  | cons o rest ih => simp only [hasPropertySym, hasPropertyStr, ih]

theorem hasStr_refines {V} (undef : V) (mv : MView V) (k : Key) :
    ∀ chain, hasPropertyStr mv chain k = ordinaryHas (mv.abs undef) chain k := by
  intro chain
  induction chain with
  | nil => rfl
  | cons o rest ih =>
    simp only [hasPropertyStr, ordinaryHas, ih, MView.abs]
    cases mv.own o k <;> simp

theorem deleteStr_refines {V} (undef : V) (mv : MView V) (o : Nat) (k : Key) :
    deleteStr mv o k = ordinaryDelete (mv.abs undef) o k := by
  cases hown : mv.own o k with
  | none => simp [deleteStr, ordinaryDelete, hown, abs_own_none undef mv o k hown]
  | some s =>
    simp only [deleteStr, ordinaryDelete, hown, abs_own_some undef mv o k _ hown, checkDelete_abs undef s]
    cases (absProp undef s).configurable <;> rfl

end GojaModel.C04
