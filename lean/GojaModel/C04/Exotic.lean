/-
  C04 — exotic delta: the String exotic object (ECMA-262 10.4.3) is observationally an ORDINARY object whose property
  list starts with the frozen character-index properties.  This is what lets the correspondence treat `new String("ab")`
  as an ordinary object with initial own properties (Driver.lean `initProps "strobj"`).
-/
import GojaModel.C04.HistKeys
namespace GojaModel.C04

/-- StringGetOwnProperty (10.4.3.5): the virtual property of a string index -/
def strIndexDesc {V} (chars : List V) : Key → Option (SProp V)
  | .idx n => (chars[n]?).map (fun c => .data c false true false)
  | _ => none

/-- [[GetOwnProperty]] of a String exotic object (10.4.3.1): ordinary own property first, else the string index -/
def strGetOwn {V} (base : Obj V) (chars : List V) (k : Key) : Option (SProp V) :=
  match lookup base.props k with
  | some p => some p
  | none => strIndexDesc chars k

/-- [[DefineOwnProperty]] (10.4.3.2): a string index is only checked for compatibility (IsCompatiblePropertyDescriptor =
ValidateAndApply without an object), anything else is OrdinaryDefineOwnProperty on the ordinary part. -/
def strDefine {V} [DecidableEq V] (undef : V) (base : Obj V) (chars : List V) (k : Key) (d : Desc V) : Obj V × Bool :=
  match strIndexDesc chars k with
  | some sd => (base, (validateAndApply undef (some sd) d base.ext).isSome)
  | none =>
    match validateAndApply undef (lookup base.props k) d base.ext with
    | some p => ({ base with props := put base.props k p }, true)
    | none => (base, false)

def strIdxProps {V} : List V → Nat → List (Key × SProp V)
  | [], _ => []
  | c :: cs, start => (Key.idx start, SProp.data c false true false) :: strIdxProps cs (start + 1)

/-- the ordinary object that the String exotic object is observationally equal to -/
def strMat {V} (base : Obj V) (chars : List V) : Obj V := { base with props := strIdxProps chars 0 ++ base.props }

/-- StringCreate and `strDefine` never store a character index in the ordinary part -/
def NoCharIdx {V} (base : Obj V) (chars : List V) : Prop := ∀ n, n < chars.length → lookup base.props (.idx n) = none

theorem lookup_strIdxProps {V} (chars : List V) (start : Nat) (k : Key) :
    lookup (strIdxProps chars start) k =
      match k with
      | .idx n => if start ≤ n then (chars[n - start]?).map (fun c => SProp.data c false true false) else none
      | _ => none := by
  induction chars generalizing start with
  | nil => cases k <;> simp [strIdxProps, lookup]
  | cons c cs ih =>
    cases k with
    | idx n =>
      simp only [strIdxProps, lookup, Key.idx.injEq]
      by_cases h : start = n
      · subst h; simp
      · simp only [h, if_false, ih]
        by_cases h2 : start ≤ n
        · have h3 : start + 1 ≤ n := by omega
          have h4 : n - start = (n - (start + 1)) + 1 := by omega
          simp [h2, h3, h4]
        · have h3 : ¬ start + 1 ≤ n := by omega
          simp [h2, h3]
    | str s => simp [strIdxProps, lookup, ih]
    | sym s => simp [strIdxProps, lookup, ih]

theorem lookup_strIdx_eq {V} (chars : List V) (k : Key) : lookup (strIdxProps chars 0) k = strIndexDesc chars k := by
  rw [lookup_strIdxProps]
  cases k <;> simp [strIndexDesc]

theorem strIndexDesc_some {V} {chars : List V} {k : Key} {sd : SProp V} (hs : strIndexDesc chars k = some sd) :
    ∃ n, ∃ hn : n < chars.length, k = .idx n ∧ sd = .data chars[n] false true false := by
  cases k with
  | idx n =>
    simp only [strIndexDesc, Option.map_eq_some_iff] at hs
    obtain ⟨c, hc, rfl⟩ := hs
    obtain ⟨hn, rfl⟩ := List.getElem?_eq_some_iff.mp hc
    exact ⟨n, hn, rfl, rfl⟩
  | str s => cases hs
  | sym s => cases hs

/-- [[Delete]] of a String exotic object: OrdinaryDelete (10.1.10.1) driven by the exotic [[GetOwnProperty]] — a
character index is non-configurable, everything else lives in the ordinary part. -/
def strDelete {V} (base : Obj V) (chars : List V) (k : Key) : Obj V × Bool :=
  match strGetOwn base chars k with
  | none => (base, true)
  | some p => if p.configurable then ({ base with props := eraseKey base.props k }, true) else (base, false)

def seqFrom : Nat → Nat → List Nat
  | _, 0 => []
  | s, n + 1 => s :: seqFrom (s + 1) n

/-- 10.4.3.3: the string indices ascending, then the integer-index keys, string keys and symbol keys of the ordinary part
in OrdinaryOwnPropertyKeys order -/
def strOwnKeys {V} (base : Obj V) (chars : List V) : List Key :=
  (seqFrom 0 chars.length).map Key.idx ++ ownKeys base.props

theorem keys_strIdxProps {V} (chars : List V) (s : Nat) :
    (strIdxProps chars s).map (·.1) = (seqFrom s chars.length).map Key.idx := by
  induction chars generalizing s with
  | nil => rfl
  | cons c cs ih => simp [strIdxProps, seqFrom, ih]

theorem mem_seqFrom (s n y : Nat) : y ∈ seqFrom s n ↔ s ≤ y ∧ y < s + n := by
  induction n generalizing s with
  | zero => simp [seqFrom]
  | succ n ih =>
    simp only [seqFrom, List.mem_cons, ih]
    omega

theorem foldr_insert_seq (acc : List Nat) : ∀ (n s : Nat), (∀ y ∈ acc, s + n ≤ y) →
    (seqFrom s n).foldr insertNat acc = seqFrom s n ++ acc := by
  intro n
  induction n with
  | zero => intro s _; rfl
  | succ n ih =>
    intro s h
    simp only [seqFrom, List.foldr_cons]
    rw [ih (s + 1) (fun y hy => by have := h y hy; omega)]
    rw [insertNat_lt_head]
    · rfl
    · intro y hy
      rcases List.mem_append.mp hy with h1 | h1
      · have := (mem_seqFrom (s + 1) n y).mp h1; omega
      · have := h y h1; omega

theorem strGetOwn_eq_mat {V} (base : Obj V) (chars : List V) (hb : NoCharIdx base chars) (k : Key) :
    strGetOwn base chars k = lookup (strMat base chars).props k := by
  simp only [strGetOwn, strMat, lookup_append, lookup_strIdx_eq]
  cases hs : strIndexDesc chars k with
  | none => cases lookup base.props k <;> rfl
  | some sd =>
    obtain ⟨n, hn, rfl, rfl⟩ := strIndexDesc_some hs
    rw [hb n hn]

theorem strDefine_refines {V} [DecidableEq V] (undef : V) (base : Obj V) (chars : List V)
    (hb : NoCharIdx base chars) (k : Key) (d : Desc V) (hw : d.wellFormed = true) :
    (match validateAndApply undef (lookup (strMat base chars).props k) d (strMat base chars).ext with
      | some p => ({ (strMat base chars) with props := put (strMat base chars).props k p }, true)
      | none => (strMat base chars, false))
      = (strMat (strDefine undef base chars k d).1 chars, (strDefine undef base chars k d).2)
    ∧ NoCharIdx (strDefine undef base chars k d).1 chars := by
  have hget := strGetOwn_eq_mat base chars hb k
  simp only [strGetOwn] at hget
  cases hs : strIndexDesc chars k with
  | some sd =>
    obtain ⟨n, hn, rfl, hsd⟩ := strIndexDesc_some hs
    have hbase := hb n hn
    rw [hbase, hs] at hget
    simp only at hget
    have hr : strDefine undef base chars (.idx n) d = (base, (validateAndApply undef (some sd) d base.ext).isSome) := by simp [strDefine, hs]
    rw [hr, ← hget]
    refine ⟨?_, hb⟩
    have hext : (strMat base chars).ext = base.ext := rfl
    rw [hext]
    cases hv : validateAndApply undef (some sd) d base.ext with
    | none => rfl
    | some q =>
      subst hsd
      have hf := vaa_frozen undef _ q d base.ext hw rfl hv
      have hq : q = SProp.data chars[n] false true false := by
        cases q <;> simp_all [frozenStep]
      subst hq
      simp only [Option.isSome]
      congr 1
      rw [put_same _ _ _ hget.symm]
  | none =>
    rw [hs] at hget
    have hA : lookup (strIdxProps chars 0) k = none := by rw [lookup_strIdx_eq, hs]
    have hmat : lookup (strMat base chars).props k = lookup base.props k := by
      simp only [strMat, lookup_append, hA]
    have hext : (strMat base chars).ext = base.ext := rfl
    rw [hmat, hext]
    cases hv : validateAndApply undef (lookup base.props k) d base.ext with
    | none =>
      have hr : strDefine undef base chars k d = (base, false) := by simp [strDefine, hs, hv]
      rw [hr]; exact ⟨rfl, hb⟩
    | some p =>
      have hr : strDefine undef base chars k d = ({ base with props := put base.props k p }, true) := by simp [strDefine, hs, hv]
      rw [hr]
      refine ⟨?_, ?_⟩
      · simp only [strMat, put_append_right _ _ _ _ hA]
      · intro n hn
        have hne : Key.idx n ≠ k := by
          intro e; subst e
          simp only [strIndexDesc] at hs
          have : chars[n]? = some chars[n] := List.getElem?_eq_getElem hn
          simp [this] at hs
        simp only
        rw [lookup_put_other _ _ _ _ hne]
        exact hb n hn

theorem strDelete_refines {V} (base : Obj V) (chars : List V) (hb : NoCharIdx base chars) (k : Key) :
    (match lookup (strMat base chars).props k with
      | none => (strMat base chars, true)
      | some p => if p.configurable then ({ (strMat base chars) with props := eraseKey (strMat base chars).props k }, true)
                  else (strMat base chars, false))
      = (strMat (strDelete base chars k).1 chars, (strDelete base chars k).2)
    ∧ NoCharIdx (strDelete base chars k).1 chars := by
  have hget := strGetOwn_eq_mat base chars hb k
  rw [← hget]
  simp only [strDelete]
  cases hg : strGetOwn base chars k with
  | none => exact ⟨rfl, hb⟩
  | some p =>
    simp only
    cases hc : p.configurable with
    | false => simp only [Bool.false_eq_true, if_false]; exact ⟨by trivial, hb⟩
    | true =>
      simp only [if_true]
      -- a configurable own property is not a character index, so it lives in the ordinary part
      have hA : lookup (strIdxProps chars 0) k = none := by
        rw [lookup_strIdx_eq]
        cases hs : strIndexDesc chars k with
        | none => rfl
        | some sd =>
          obtain ⟨n, hn, rfl, rfl⟩ := strIndexDesc_some hs
          simp only [strGetOwn, hb n hn, hs] at hg
          cases hg
          cases hc
      refine ⟨?_, ?_⟩
      · simp only [strMat, erase_append_right _ _ _ hA]
      · intro n hn
        exact lookup_erase_same_none _ _ _ (hb n hn)

theorem strOwnKeys_eq_mat {V} (base : Obj V) (chars : List V) (hb : NoCharIdx base chars) :
    strOwnKeys base chars = ownKeys (strMat base chars).props := by
  have hk : (strMat base chars).props.map (·.1) = (seqFrom 0 chars.length).map Key.idx ++ base.props.map (·.1) := by
    simp [strMat, keys_strIdxProps]
  simp only [strOwnKeys, ownKeys, hk, List.filter_append, List.map_append]
  have hI : ((seqFrom 0 chars.length).map Key.idx).filter Key.isIdx = (seqFrom 0 chars.length).map Key.idx := by
    apply List.filter_eq_self.mpr
    intro k hk'
    obtain ⟨n, _, rfl⟩ := List.mem_map.mp hk'
    rfl
  have hS : ((seqFrom 0 chars.length).map Key.idx).filter (fun k => !k.isIdx && !k.isSym) = [] := by
    apply List.filter_eq_nil_iff.mpr
    intro k hk'
    obtain ⟨n, _, rfl⟩ := List.mem_map.mp hk'
    simp [Key.isIdx]
  have hY : ((seqFrom 0 chars.length).map Key.idx).filter Key.isSym = [] := by
    apply List.filter_eq_nil_iff.mpr
    intro k hk'
    obtain ⟨n, _, rfl⟩ := List.mem_map.mp hk'
    simp [Key.isSym]
  have hV : ((seqFrom 0 chars.length).map Key.idx).map Key.idxVal = seqFrom 0 chars.length := by
    simp [List.map_map, Function.comp_def, Key.idxVal]
  rw [hI, hS, hY, hV, sortNat_append]
  have hge : ∀ y ∈ sortNat ((base.props.map (·.1)).filter Key.isIdx |>.map Key.idxVal), 0 + chars.length ≤ y := by
    intro y hy
    have hy' := (List.Perm.mem_iff (perm_sortNat _)).mp hy
    obtain ⟨k, hk1, hk2⟩ := List.mem_map.mp hy'
    have hk3 := List.mem_filter.mp hk1
    cases k with
    | idx n =>
      simp only [Key.idxVal] at hk2; subst hk2
      apply Nat.le_of_not_lt
      intro hlt
      have hnone := hb n (by omega)
      have hsome := (mem_keys_iff base.props (Key.idx n)).mp hk3.1
      rw [hnone] at hsome; cases hsome
    | str s => simp [Key.isIdx] at hk3
    | sym s => simp [Key.isIdx] at hk3
  rw [foldr_insert_seq _ _ 0 hge]
  simp [List.map_append, List.append_assoc]

end GojaModel.C04
