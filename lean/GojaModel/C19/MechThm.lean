/-
  C19: the mechanism-level serialiser (Mech.lean: one buffer, mutable ctx.indent, eager separators, Truncate) refines the
  specification: `mechOK`; Object.MarshalJSON and JSON.stringify through that mechanism (`marshalM_eq`, `stringifyM_eq`).
-/
import GojaModel.C19.Mech
namespace GojaModel.C19

def joinOnly (gap ind' : Str) : List JVal → Str
  | [] => []
  | v :: t => ser gap ind' v ++ (sepIf (!t.isEmpty) gap ind' ++ joinOnly gap ind' t)

theorem serElems_joinOnly (gap ind ind' : Str) (ys : List JVal) :
    serElems gap ind ind' ys = joinOnly gap ind' ys ++ (nl gap ind ++ [93]) := by
  induction ys with
  | nil => simp [serElems, joinOnly]
  | cons a t ih => simp [serElems, joinOnly, ih]

def joinM (gap ind' : Str) : Bool → List (Str × JVal) → Str
  | _, [] => []
  | first, (k, j) :: t =>
    (if first then [] else 44 :: nl gap ind') ++ (quote k ++ (colon gap ++ (ser gap ind' j ++ joinM gap ind' false t)))

theorem serMembers_joinM_tail (gap ind ind' : Str) (t : List (Str × JVal)) :
    sepIf (!t.isEmpty) gap ind' ++ serMembers gap ind ind' t = joinM gap ind' false t ++ (nl gap ind ++ [125]) := by
  induction t with
  | nil => simp [sepIf, serMembers, joinM]
  | cons a t ih =>
    obtain ⟨k, j⟩ := a
    have ih' : (if (!t.isEmpty) = true then 44 :: nl gap ind' else []) ++ serMembers gap ind ind' t =
        joinM gap ind' false t ++ (nl gap ind ++ [125]) := by simpa [sepIf] using ih
    simp only [List.isEmpty_cons, Bool.not_false, sepIf, if_true, serMembers, joinM, Bool.false_eq_true, if_false,
      List.cons_append, List.append_assoc, ih']

theorem serMembers_joinM (gap ind ind' : Str) (k : Str) (j : JVal) (t : List (Str × JVal)) :
    serMembers gap ind ind' ((k, j) :: t) = joinM gap ind' true ((k, j) :: t) ++ (nl gap ind ++ [125]) := by
  simp only [serMembers, joinM, if_true, List.nil_append, List.append_assoc]
  rw [serMembers_joinM_tail]

theorem cleanElems_isEmpty (xs : List MVal) : (cleanElems xs).isEmpty = xs.isEmpty := by
  cases xs <;> simp [cleanElems]

def MechOK (gap : Str) (v : MVal) : Prop :=
  ∀ buf ind, strM gap v buf ind =
    match clean v with
    | some j => (buf ++ ser gap ind j, ind, true)
    | none => (buf, ind, false)

theorem jaLoop_ok (gap ind' : Str) (xs : List MVal) (h : ∀ v ∈ xs, MechOK gap v) :
    ∀ buf, jaLoop gap (44 :: nl gap ind') xs buf ind' = (buf ++ joinOnly gap ind' (cleanElems xs), ind') := by
  induction xs with
  | nil => intro buf; simp [jaLoop, cleanElems, joinOnly]
  | cons v t ih =>
    intro buf
    have hv := h v (by simp) buf ind'
    have iht := ih (fun x hx => h x (by simp [hx]))
    rw [jaLoop]
    cases hc : clean v with
    | some j =>
      simp only [hc] at hv
      simp only [hv, if_true, iht, cleanElems, hc, joinOnly, cleanElems_isEmpty, sepIf]
      cases t <;> simp
    | none =>
      simp only [hc] at hv
      simp only [hv, Bool.false_eq_true, if_false, iht, cleanElems, hc, joinOnly, cleanElems_isEmpty, sepIf, ser]
      cases t <;> simp

theorem joLoop_ok (gap ind' : Str) (ms : List (Str × MVal)) (h : ∀ p ∈ ms, MechOK gap p.2) :
    ∀ buf empty, joLoop gap (44 :: nl gap ind') ms buf ind' empty =
      (buf ++ joinM gap ind' empty (cleanMembers ms), ind', empty && (cleanMembers ms).isEmpty) := by
  induction ms with
  | nil => intro buf empty; simp [joLoop, cleanMembers, joinM]
  | cons a t ih =>
    obtain ⟨k, v⟩ := a
    intro buf empty
    have hv := h (k, v) (by simp)
    have iht := ih (fun x hx => h x (by simp [hx]))
    rw [joLoop]
    cases hc : clean v with
    | some j =>
      have := hv (buf ++ ((if empty then [] else 44 :: nl gap ind') ++ (quote k ++ colon gap))) ind'
      simp only [hc] at this
      simp only [this, if_true, iht, cleanMembers, hc, joinM, List.isEmpty_cons, Bool.and_false, List.append_assoc,
        Bool.false_and]
    | none =>
      have := hv (buf ++ ((if empty then [] else 44 :: nl gap ind') ++ (quote k ++ colon gap))) ind'
      simp only [hc] at this
      simp only [this, Bool.false_eq_true, if_false, List.take_left, iht, cleanMembers, hc]

mutual
theorem mechOK (gap : Str) : ∀ v : MVal, MechOK gap v
  | .undef => by intro buf ind; simp [strM, clean]
  | .null | .num _ | .str _ => by intro buf ind; simp [strM, clean, ser]
  | .bool b => by intro buf ind; cases b <;> simp [strM, clean, ser]
  | .arr xs => by
    intro buf ind
    cases xs with
    | nil => simp [strM, clean, cleanElems, ser]
    | cons a t =>
      have hl := jaLoop_ok gap (ind ++ gap) (a :: t) (mechOK_list gap (a :: t)) (buf ++ (91 :: nl gap (ind ++ gap)))
      have hne : (cleanElems (a :: t)).isEmpty = false := by simp [cleanElems]
      simp only [strM, List.isEmpty_cons, Bool.false_eq_true, if_false, hl, clean, ser, hne, serElems_joinOnly]
      simp
  | .obj ms => by
    intro buf ind
    have hl := joLoop_ok gap (ind ++ gap) ms (mechOK_members gap ms) (buf ++ (123 :: nl gap (ind ++ gap))) true
    simp only [strM, hl, clean, Bool.true_and]
    cases hcm : cleanMembers ms with
    | nil => simp [ser]
    | cons p t =>
      obtain ⟨k, j⟩ := p
      simp only [List.isEmpty_cons, Bool.false_eq_true, if_false, ser, serMembers_joinM]
      simp
theorem mechOK_list (gap : Str) : ∀ xs : List MVal, ∀ v ∈ xs, MechOK gap v
  | [], _, h => by cases h
  | a :: t, v, h => by
    cases h with
    | head => exact mechOK gap a
    | tail _ h' => exact mechOK_list gap t v h'
theorem mechOK_members (gap : Str) : ∀ ms : List (Str × MVal), ∀ p ∈ ms, MechOK gap p.2
  | [], _, h => by cases h
  | (k, a) :: t, p, h => by
    cases h with
    | head => exact mechOK gap a
    | tail _ h' => exact mechOK_members gap t p h'
end

/-- value.go:944 Object.MarshalJSON: `ctx.do(o)` with an empty gap, no replacer; "null" when `str` returned false -/
def marshalM (v : MVal) : Str :=
  if (strM [] v [] []).2.2 then (strM [] v [] []).1 else [110, 117, 108, 108]

/-- JSON.stringify(v) through the same mechanism: the text, or undefined -/
def stringifyM (gap : Str) (v : MVal) : Option Str :=
  if (strM gap v [] []).2.2 then some (strM gap v [] []).1 else none

theorem marshalM_eq (v : MVal) : marshalM v = match stringifyM [] v with | some t => t | none => [110, 117, 108, 108] := by
  unfold marshalM stringifyM
  split <;> simp_all

theorem stringifyM_eq (gap : Str) (v : MVal) : stringifyM gap v = (clean v).map (stringify gap) := by
  unfold stringifyM
  rw [mechOK gap v [] []]
  cases clean v <;> simp [stringify]

end GojaModel.C19
