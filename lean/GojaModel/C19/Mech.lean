/-
  C19, mechanism level: the serialiser of builtin_json.go as it is written — one output buffer and one mutable
  `ctx.indent` that every container saves, extends and must restore; separators written eagerly; members whose value
  does not serialise are removed again with `buf.Truncate(off)`, and an object that ends up empty truncates back to
  its opening brace:

      str :369 (the final type switch)   ja :413   jo :454   (no replacer function, no toJSON, no allow-list)

  Values are plain data plus `undef` (anything for which `str` returns false: undefined, a function, a symbol).
  `strM` returns the new buffer, the new `ctx.indent` and the boolean result of `str`.
-/
import GojaModel.C19.Model

namespace GojaModel.C19

inductive MVal where
  | undef
  | null
  | bool (b : Bool)
  | num (lex : Str)
  | str (s : Str)
  | arr (xs : List MVal)
  | obj (ms : List (Str × MVal))


mutual
/-- ctx.str for a value already fetched (builtin_json.go:369 switch) -/
def strM (gap : Str) : MVal → Str → Str → Str × Str × Bool
  | .undef, buf, ind => (buf, ind, false)
  | .null, buf, ind => (buf ++ [110, 117, 108, 108], ind, true)
  | .bool true, buf, ind => (buf ++ [116, 114, 117, 101], ind, true)
  | .bool false, buf, ind => (buf ++ [102, 97, 108, 115, 101], ind, true)
  | .num l, buf, ind => (buf ++ l, ind, true)
  | .str s, buf, ind => (buf ++ quote s, ind, true)
  | .arr xs, buf, ind =>
    -- ja: stepback = ctx.indent; ctx.indent += ctx.gap
    if xs.isEmpty then (buf ++ [91, 93], ind, true)              -- "[]", ctx.indent = stepback
    else
      ((jaLoop gap (44 :: nl gap (ind ++ gap)) xs (buf ++ (91 :: nl gap (ind ++ gap))) (ind ++ gap)).1 ++ (nl gap ind ++ [93]),
       ind, true)                                               -- "\n" + stepback + "]", ctx.indent = stepback
  | .obj ms, buf, ind =>
    -- jo: '{', mark, "\n"+indent, loop, then Truncate(mark) if nothing was written
    ((let r := joLoop gap (44 :: nl gap (ind ++ gap)) ms (buf ++ (123 :: nl gap (ind ++ gap))) (ind ++ gap) true
      if r.2.2 then (buf ++ [123]) ++ [125]                     -- Truncate(mark); '}'
      else r.1 ++ (nl gap ind ++ [125])),
     ind, true)
/-- the element loop of ja: str, "null" if it returned false, separator unless last -/
def jaLoop (gap sep : Str) : List MVal → Str → Str → Str × Str
  | [], buf, ind => (buf, ind)
  | v :: t, buf, ind =>
    jaLoop gap sep t
      ((if (strM gap v buf ind).2.2 then (strM gap v buf ind).1 else (strM gap v buf ind).1 ++ [110, 117, 108, 108]) ++
        (if t.isEmpty then [] else sep))
      (strM gap v buf ind).2.1
/-- the member loop of jo: off := buf.Len(); separator if !empty; key; colon; str; Truncate(off) if it returned false -/
def joLoop (gap sep : Str) : List (Str × MVal) → Str → Str → Bool → Str × Str × Bool
  | [], buf, ind, empty => (buf, ind, empty)
  | (k, v) :: t, buf, ind, empty =>
    if (strM gap v (buf ++ ((if empty then [] else sep) ++ (quote k ++ colon gap))) ind).2.2 then
      joLoop gap sep t (strM gap v (buf ++ ((if empty then [] else sep) ++ (quote k ++ colon gap))) ind).1
        (strM gap v (buf ++ ((if empty then [] else sep) ++ (quote k ++ colon gap))) ind).2.1 false
    else
      joLoop gap sep t
        ((strM gap v (buf ++ ((if empty then [] else sep) ++ (quote k ++ colon gap))) ind).1.take buf.length)
        (strM gap v (buf ++ ((if empty then [] else sep) ++ (quote k ++ colon gap))) ind).2.1 empty
end

/-! the specification side: what the value denotes for SerializeJSONProperty — undefined (none), or the plain value in
    which members with an undefined value are left out and undefined elements are null -/
mutual
def clean : MVal → Option JVal
  | .undef => none
  | .null => some .null
  | .bool b => some (.bool b)
  | .num l => some (.num l)
  | .str s => some (.str s)
  | .arr xs => some (.arr (cleanElems xs))
  | .obj ms => some (.obj (cleanMembers ms))
def cleanElems : List MVal → List JVal
  | [] => []
  | v :: t => (match clean v with | some j => j | none => .null) :: cleanElems t
def cleanMembers : List (Str × MVal) → List (Str × JVal)
  | [] => []
  | (k, v) :: t => match clean v with
    | some j => (k, j) :: cleanMembers t
    | none => cleanMembers t
end

end GojaModel.C19
