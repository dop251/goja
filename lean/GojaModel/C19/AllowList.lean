/-
  C19: JSON.stringify with a replacer allow-list = plain stringify of the value projected onto the list
  (`serP_eq_project`); the projection preserves well-formedness (`project_wf`).
-/
import GojaModel.C19.Parser
namespace GojaModel.C19

def textOf (gap ind' : Str) (p : Str × JVal) : Str × Str := (p.1, ser gap ind' p.2)

theorem joinMembers_map (gap ind ind' : Str) (ms : List (Str × JVal)) :
    joinMembers gap ind ind' (ms.map (textOf gap ind')) = serMembers gap ind ind' ms := by
  induction ms with
  | nil => simp [joinMembers, serMembers]
  | cons a t ih =>
    obtain ⟨k, v⟩ := a
    simp [joinMembers, serMembers, textOf, ih]

theorem lookupText_map (gap ind' : Str) (k : Str) (ms : List (Str × JVal)) :
    lookupText k (ms.map (textOf gap ind')) = (lookupKey k ms).map (ser gap ind') := by
  induction ms with
  | nil => rfl
  | cons a t ih =>
    obtain ⟨k', v⟩ := a
    by_cases h : k' = k <;> simp [lookupText, lookupKey, textOf, h]
    simpa [textOf] using ih

theorem selectTexts_map (gap ind' : Str) (pl : List Str) (ms : List (Str × JVal)) :
    selectTexts (ser gap ind' protoProj) pl (ms.map (textOf gap ind')) = (selectMembers pl ms).map (textOf gap ind') := by
  induction pl with
  | nil => rfl
  | cons k t ih =>
    simp only [selectTexts, selectMembers, lookupText_map]
    cases lookupKey k ms with
    | none =>
      by_cases hk : k = protoKey
      · simp [hk, ih, textOf]
      · simpa [hk] using ih
    | some v => simp [ih, textOf]

theorem assembleObj_map (gap ind : Str) (ms : List (Str × JVal)) :
    assembleObj gap ind (ms.map (textOf gap (ind ++ gap))) = ser gap ind (.obj ms) := by
  cases ms with
  | nil => simp [assembleObj, ser]
  | cons a t =>
    simp only [assembleObj, ser, List.map_cons, List.isEmpty_cons, Bool.false_eq_true, if_false]
    rw [← List.map_cons, joinMembers_map]

theorem protoText_eq (gap ind' : Str) :
    assembleObj gap ind' [(protoKey, [110, 117, 108, 108])] = ser gap ind' protoProj := by
  have := assembleObj_map gap ind' [(protoKey, JVal.null)]
  simpa [textOf, ser, protoProj] using this

mutual
theorem serP_eq_project (pl : List Str) (gap : Str) : ∀ (v : JVal) (ind : Str),
    serP pl gap ind v = ser gap ind (project pl v)
  | .null, _ | .num _, _ | .str _, _ => by simp [serP, ser, project]
  | .bool b, _ => by cases b <;> simp [serP, ser, project]
  | .arr xs, ind => by
    cases xs with
    | nil => simp [serP, ser, project, projectList]
    | cons a t =>
      have h := serElemsP_eq_project pl gap (a :: t) ind (ind ++ gap)
      simp only [serP, ser, project, List.isEmpty_cons, Bool.false_eq_true, if_false, h, projectList]
  | .obj ms, ind => by
    have h := memberTexts_eq_project pl gap ms (ind ++ gap)
    simp only [serP, project, h, protoText_eq, selectTexts_map, assembleObj_map]
theorem serElemsP_eq_project (pl : List Str) (gap : Str) : ∀ (xs : List JVal) (ind ind' : Str),
    serElemsP pl gap ind ind' xs = serElems gap ind ind' (projectList pl xs)
  | [], _, _ => by simp [serElemsP, serElems, projectList]
  | v :: t, ind, ind' => by
    have h1 := serP_eq_project pl gap v ind'
    have h2 := serElemsP_eq_project pl gap t ind ind'
    have h3 : (projectList pl t).isEmpty = t.isEmpty := by cases t <;> simp [projectList]
    simp only [serElemsP, serElems, projectList, h1, h2, h3]
theorem memberTexts_eq_project (pl : List Str) (gap : Str) : ∀ (ms : List (Str × JVal)) (ind' : Str),
    memberTexts pl gap ind' ms = (projectMembers pl ms).map (textOf gap ind')
  | [], _ => by simp [memberTexts, projectMembers]
  | (k, v) :: t, ind' => by
    have h1 := serP_eq_project pl gap v ind'
    have h2 := memberTexts_eq_project pl gap t ind'
    simp only [memberTexts, projectMembers, List.map_cons, textOf, h1, h2]
end

theorem propList_aux (items acc : List Str) (h : acc.Nodup) :
    (items.foldl (fun acc k => if acc.contains k then acc else acc ++ [k]) acc).Nodup ∧
      ∀ k, k ∈ items.foldl (fun acc k => if acc.contains k then acc else acc ++ [k]) acc ↔ k ∈ acc ∨ k ∈ items := by
  induction items generalizing acc with
  | nil => simp [h]
  | cons a t ih =>
    simp only [List.foldl_cons]
    by_cases ha : acc.contains a = true
    · simp only [ha, if_true]
      refine ⟨(ih acc h).1, ?_⟩
      intro k
      rw [(ih acc h).2 k]
      have : a ∈ acc := by simpa using ha
      by_cases hk : k = a <;> simp [hk, this]
    · simp only [ha, Bool.false_eq_true, if_false]
      have hn : a ∉ acc := by simpa using ha
      have h' : (acc ++ [a]).Nodup := (List.perm_append_singleton a acc).nodup_iff.mpr (List.nodup_cons.mpr ⟨hn, h⟩)
      refine ⟨(ih _ h').1, ?_⟩
      intro k
      rw [(ih _ h').2 k]
      simp [or_assoc]

theorem lookupKey_mem {k : Str} {ms : List (Str × JVal)} {v : JVal} (h : lookupKey k ms = some v) : (k, v) ∈ ms := by
  induction ms with
  | nil => simp [lookupKey] at h
  | cons a t ih =>
    obtain ⟨k', v'⟩ := a
    by_cases hk : k' = k
    · simp [lookupKey, hk] at h; simp [hk, h]
    · simp [lookupKey, hk] at h; simp [ih h]

theorem protoKey_wf : WfStr protoKey := by
  intro u hu
  simp [protoKey] at hu
  omega

theorem protoProj_wf : WfVal protoProj := by
  simp [protoProj, WfVal, WfMembers, protoKey_wf]

theorem selectMembers_wf (pl : List Str) (ms : List (Str × JVal)) (hpl : ∀ k ∈ pl, WfStr k)
    (hms : ∀ p ∈ ms, WfStr p.1 ∧ WfVal p.2) : ∀ p ∈ selectMembers pl ms, WfStr p.1 ∧ WfVal p.2 := by
  induction pl with
  | nil => intro p hp; simp [selectMembers] at hp
  | cons k t ih =>
    have iht := ih (fun x hx => hpl x (by simp [hx]))
    intro p hp
    simp only [selectMembers] at hp
    cases hl : lookupKey k ms with
    | some v =>
      simp only [hl, List.mem_cons] at hp
      rcases hp with rfl | hp
      · exact ⟨hpl k (by simp), (hms _ (lookupKey_mem hl)).2⟩
      · exact iht p hp
    | none =>
      simp only [hl] at hp
      by_cases hk : k = protoKey
      · simp only [hk, if_true, List.mem_cons] at hp
        rcases hp with rfl | hp
        · exact ⟨protoKey_wf, protoProj_wf⟩
        · exact iht p hp
      · simp only [hk, if_false] at hp
        exact iht p hp

mutual
theorem project_wf (pl : List Str) (hpl : ∀ k ∈ pl, WfStr k) : ∀ v : JVal, WfVal v → WfVal (project pl v)
  | .null, _ => by simp [project, WfVal]
  | .bool _, _ => by simp [project, WfVal]
  | .num l, h => by simpa [project, WfVal] using h
  | .str s, h => by simpa [project, WfVal] using h
  | .arr xs, h => by
    simp only [project, WfVal] at h ⊢
    exact projectList_wf pl hpl xs h
  | .obj ms, h => by
    simp only [project, WfVal] at h ⊢
    rw [wfMembers_iff]
    exact selectMembers_wf pl _ hpl ((wfMembers_iff _).mp (projectMembers_wf pl hpl ms h))
theorem projectList_wf (pl : List Str) (hpl : ∀ k ∈ pl, WfStr k) : ∀ xs : List JVal, WfList xs → WfList (projectList pl xs)
  | [], _ => by simp [projectList, WfList]
  | v :: t, h => by
    simp only [WfList] at h
    simp only [projectList, WfList]
    exact ⟨project_wf pl hpl v h.1, projectList_wf pl hpl t h.2⟩
theorem projectMembers_wf (pl : List Str) (hpl : ∀ k ∈ pl, WfStr k) : ∀ ms : List (Str × JVal), WfMembers ms →
    WfMembers (projectMembers pl ms)
  | [], _ => by simp [projectMembers, WfMembers]
  | (k, v) :: t, h => by
    simp only [WfMembers] at h
    simp only [projectMembers, WfMembers]
    exact ⟨h.1, project_wf pl hpl v h.2.1, projectMembers_wf pl hpl t h.2.2⟩
end

end GojaModel.C19
