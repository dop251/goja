/-
  C19: what the theorems about the recursive-descent parser of Model.lean are stated with (well-formed trees, the fuel
  a tree needs) and the parser's unfolding equations.
-/
import GojaModel.C19.Lex
import GojaModel.C19.Tok

namespace GojaModel.C19

mutual
def WfVal : JVal → Prop
  | .null => True
  | .bool _ => True
  | .num l => NumLexOK l
  | .str s => WfStr s
  | .arr xs => WfList xs
  | .obj ms => WfMembers ms
def WfList : List JVal → Prop
  | [] => True
  | v :: t => WfVal v ∧ WfList t
def WfMembers : List (Str × JVal) → Prop
  | [] => True
  | (k, v) :: t => WfStr k ∧ WfVal v ∧ WfMembers t
end

theorem wfMembers_iff (ms : List (Str × JVal)) : WfMembers ms ↔ ∀ p ∈ ms, WfStr p.1 ∧ WfVal p.2 := by
  induction ms with
  | nil => simp [WfMembers]
  | cons a t ih =>
    obtain ⟨k, v⟩ := a
    simp only [WfMembers, ih, List.mem_cons, forall_eq_or_imp]
    constructor
    · intro h; exact ⟨⟨h.1, h.2.1⟩, h.2.2⟩
    · intro h; exact ⟨h.1.1, h.1.2, h.2⟩

-- fuel: the recursion depth `parseValue` / `parseElems` / `parseMembers` need for a tree (`parseRaw` supplies the
-- length of the text + 1)
mutual
def need : JVal → Nat
  | .arr xs => needL xs + 1
  | .obj ms => needM ms + 1
  | _ => 1
def needL : List JVal → Nat
  | [] => 0
  | v :: t => max (need v) (needL t) + 1
def needM : List (Str × JVal) → Nat
  | [] => 0
  | (_, v) :: t => max (need v) (needM t) + 1
end

theorem parseValue_eof (f : Nat) {s : Str} (hk : skipWs s = []) : parseValue (f + 1) s = none := by
  rw [parseValue, hk]

theorem parseValue_scalar (f : Nat) {s r : Str} {c : Nat} (hk : skipWs s = c :: r) (h1 : c ≠ 91) (h2 : c ≠ 123) :
    parseValue (f + 1) s = scanScalar (c :: r) := by
  rw [parseValue, hk]
  simp only [scanScalar, if_neg h1, if_neg h2]
  rfl

theorem parseValue_arr (f : Nat) {s r : Str} (hk : skipWs s = 91 :: r) :
    parseValue (f + 1) s =
      match skipWs r with
      | 93 :: r' => some (.arr [], r')
      | _ => match parseElems f r with
             | some (xs, r') => some (.arr xs, r')
             | none => none := by
  rw [parseValue, hk]
  rfl

theorem parseValue_obj (f : Nat) {s r : Str} (hk : skipWs s = 123 :: r) :
    parseValue (f + 1) s =
      match skipWs r with
      | 125 :: r' => some (.obj [], r')
      | _ => match parseMembers f r with
             | some (ms, r') => some (.obj ms, r')
             | none => none := by
  rw [parseValue, hk]
  rfl

theorem parseValue_arr_elems (f : Nat) {s r r2 : Str} {c : Nat} (hk : skipWs s = 91 :: r) (hk2 : skipWs r = c :: r2)
    (hc : c ≠ 93) :
    parseValue (f + 1) s = match parseElems f r with
      | some (xs, r') => some (.arr xs, r')
      | none => none := by
  rw [parseValue_arr f hk, hk2]
  split
  · rename_i heq; injection heq with h; exact absurd h hc
  · rfl

theorem parseValue_obj_members (f : Nat) {s r r2 : Str} {c : Nat} (hk : skipWs s = 123 :: r) (hk2 : skipWs r = c :: r2)
    (hc : c ≠ 125) :
    parseValue (f + 1) s = match parseMembers f r with
      | some (ms, r') => some (.obj ms, r')
      | none => none := by
  rw [parseValue_obj f hk, hk2]
  split
  · rename_i heq; injection heq with h; exact absurd h hc
  · rfl

theorem pv_arr_inv {f : Nat} {s2 : Str} {x : JVal} {t : List JVal} {r : Str}
    (h : parseValue (f + 1) (91 :: s2) = some (.arr (x :: t), r)) : parseElems f s2 = some (x :: t, r) := by
  rw [parseValue_arr f (skipWs_nonws (by decide))] at h
  split at h
  · cases h
  · split at h
    · cases h; assumption
    · cases h

theorem pv_obj_inv {f : Nat} {s2 : Str} {p : Str × JVal} {t : List (Str × JVal)} {r : Str}
    (h : parseValue (f + 1) (123 :: s2) = some (.obj (p :: t), r)) : parseMembers f s2 = some (p :: t, r) := by
  rw [parseValue_obj f (skipWs_nonws (by decide))] at h
  split at h
  · cases h
  · split at h
    · cases h; assumption
    · cases h

theorem parseElems_succ (f : Nat) (s : Str) : parseElems (f + 1) s =
    match parseValue f s with
    | none => none
    | some (v, r) =>
      match skipWs r with
      | c :: r2 =>
        if c = 44 then
          (match parseElems f r2 with
           | some (t, r3) => some (v :: t, r3)
           | none => none)
        else if c = 93 then some ([v], r2)
        else none
      | [] => none := by
  rw [parseElems]
  rfl

theorem parseMembers_succ (f : Nat) (s : Str) : parseMembers (f + 1) s =
    match skipWs s with
    | 34 :: r =>
      (match parseStrBody r with
       | none => none
       | some (k, r1) =>
         match skipWs r1 with
         | 58 :: r2 =>
           (match parseValue f r2 with
            | none => none
            | some (v, r3) =>
              match skipWs r3 with
              | c :: r4 =>
                if c = 44 then
                  (match parseMembers f r4 with
                   | some (t, r5) => some ((k, v) :: t, r5)
                   | none => none)
                else if c = 125 then some ([(k, v)], r4)
                else none
              | [] => none)
         | _ => none)
    | _ => none := by
  rw [parseMembers]
  rfl

theorem pv_scalar_null (f : Nat) (w rest : Str) (hw : AllWs w) :
    parseValue (f + 1) (w ++ ([110, 117, 108, 108] ++ rest)) = some (.null, rest) := by
  exact (parseValue_scalar f (skipWs_head (c := 110) w hw rfl) (by decide) (by decide)).trans rfl

theorem need_pos (v : JVal) : 1 ≤ need v := by
  cases v <;> simp [need]

theorem succ_le_cases {n f : Nat} (h : n + 1 ≤ f) : ∃ f', f = f' + 1 ∧ n ≤ f' := by
  obtain ⟨k, rfl⟩ := Nat.exists_eq_add_of_le' h
  exact ⟨k + n, rfl, Nat.le_add_left n k⟩

-- `need v ≤ f` one level down: the fuel is a successor (the parser and the walks recurse on it), and what is left
-- bounds the parts; `need (.arr xs)` unfolds to `needL xs + 1`, `needL (v :: t)` to `max (need v) (needL t) + 1`
theorem need_succ {v : JVal} {f : Nat} (h : need v ≤ f) : ∃ f', f = f' + 1 :=
  (succ_le_cases (Nat.le_trans (need_pos v) h)).imp fun _ h => h.1

theorem need_arr_le {xs : List JVal} {f : Nat} (h : need (.arr xs) ≤ f) : ∃ f', f = f' + 1 ∧ needL xs ≤ f' :=
  succ_le_cases h

theorem need_obj_le {ms : List (Str × JVal)} {f : Nat} (h : need (.obj ms) ≤ f) : ∃ f', f = f' + 1 ∧ needM ms ≤ f' :=
  succ_le_cases h

theorem needL_cons_le {v : JVal} {t : List JVal} {f : Nat} (h : needL (v :: t) ≤ f) :
    ∃ f', f = f' + 1 ∧ need v ≤ f' ∧ needL t ≤ f' :=
  (succ_le_cases h).imp fun _ h => ⟨h.1, Nat.max_le.mp h.2⟩

theorem needM_cons_le {k : Str} {v : JVal} {t : List (Str × JVal)} {f : Nat} (h : needM ((k, v) :: t) ≤ f) :
    ∃ f', f = f' + 1 ∧ need v ≤ f' ∧ needM t ≤ f' :=
  (succ_le_cases h).imp fun _ h => ⟨h.1, Nat.max_le.mp h.2⟩

end GojaModel.C19
