/-
  C19, lexical level: white space, literals, hex digits, the string-token lexer with its grammar `StrBody`,
  QuoteJSONString (what it writes is a token body denoting the quoted units), and the ECMA-404 number grammar `NumGram`
  with the number lexer: soundness (`parseNum_sound`) and completeness (`numGram_lexOK`: every grammatical lexeme
  satisfies the number-text hypothesis `NumLexOK`).
-/
import GojaModel.C19.Model

namespace GojaModel.C19

def AllWs (w : Str) : Prop := ∀ c ∈ w, isWs c = true

theorem allWs_append {a b : Str} (ha : AllWs a) (hb : AllWs b) : AllWs (a ++ b) :=
  List.forall_mem_append.mpr ⟨ha, hb⟩

theorem allWs_nl {gap ind : Str} (hi : AllWs ind) : AllWs (nl gap ind) := by
  unfold nl
  split
  · nofun
  · exact List.forall_mem_cons.mpr ⟨rfl, hi⟩

theorem skipWs_nonws {c : Nat} {s : Str} (h : isWs c = false) : skipWs (c :: s) = c :: s := by
  simp [skipWs, h]

theorem skipWs_append_ws (w s : Str) (hw : AllWs w) : skipWs (w ++ s) = skipWs s := by
  induction w with
  | nil => rfl
  | cons c t ih =>
    have hc : isWs c = true := hw c (by simp)
    have ht : ∀ c ∈ t, isWs c = true := fun c hc => hw c (by simp [hc])
    simp [skipWs, hc, ih ht]

theorem skipWs_head {c : Nat} {tl : Str} (w : Str) (hw : AllWs w) (hc : isWs c = false) :
    skipWs (w ++ c :: tl) = c :: tl := by
  rw [skipWs_append_ws _ _ hw, skipWs_nonws hc]

theorem skipWs_spec (s : Str) : ∃ w, AllWs w ∧ s = w ++ skipWs s := by
  induction s with
  | nil => exact ⟨[], nofun, rfl⟩
  | cons a r ih =>
    by_cases ha : isWs a = true
    · obtain ⟨w, hw, he⟩ := ih
      refine ⟨a :: w, List.forall_mem_cons.mpr ⟨ha, hw⟩, ?_⟩
      rw [skipWs, if_pos ha, List.cons_append, ← he]
    · exact ⟨[], nofun, by rw [skipWs, if_neg ha]; rfl⟩

theorem skipWs_cases (s : Str) : skipWs s = [] ∨ ∃ w c tl, AllWs w ∧ s = w ++ c :: tl ∧ skipWs s = c :: tl := by
  obtain ⟨w, hw, hs⟩ := skipWs_spec s
  cases hk : skipWs s with
  | nil => exact Or.inl rfl
  | cons c tl => exact Or.inr ⟨w, c, tl, hw, hk ▸ hs, rfl⟩

theorem skipWs_nil_allWs {r : Str} (h : skipWs r = []) : AllWs r := by
  obtain ⟨w, hw, hs⟩ := skipWs_spec r
  rw [h] at hs
  simp at hs
  rw [hs]; exact hw

theorem skipWs_allWs {w : Str} (hw : AllWs w) : skipWs w = [] := by
  simpa [skipWs] using skipWs_append_ws w [] hw

theorem matchLit_append (lit rest : Str) : matchLit lit (lit ++ rest) = some rest := by
  induction lit with
  | nil => cases rest <;> rfl
  | cons a l ih => simp [matchLit, ih]

theorem matchLit_sound {lit s r : Str} (h : matchLit lit s = some r) : s = lit ++ r := by
  induction lit generalizing s with
  | nil => cases s <;> simp [matchLit] at h <;> simp [h]
  | cons a l ih =>
    cases s with
    | nil => simp [matchLit] at h
    | cons c t =>
      by_cases hac : a = c
      · subst hac
        simp [matchLit] at h
        simp [ih h]
      · simp [matchLit, hac] at h

def WfStr (s : Str) : Prop := ∀ u ∈ s, u < 65536

theorem wfStr_append {a b : Str} : WfStr (a ++ b) ↔ WfStr a ∧ WfStr b := List.forall_mem_append

theorem wfStr_cons {c : Nat} {b : Str} : WfStr (c :: b) ↔ c < 65536 ∧ WfStr b := List.forall_mem_cons

theorem hexVal_hexd {d : Nat} (h : d < 16) : hexVal (hexd d) = some d := by
  revert d
  decide

theorem hex4Val_escU {u : Nat} (h : u < 65536) :
    hex4Val (hexd (u / 4096 % 16)) (hexd (u / 256 % 16)) (hexd (u / 16 % 16)) (hexd (u % 16)) = some u := by
  unfold hex4Val
  rw [hexVal_hexd (Nat.mod_lt _ (by decide)), hexVal_hexd (Nat.mod_lt _ (by decide)),
      hexVal_hexd (Nat.mod_lt _ (by decide)), hexVal_hexd (Nat.mod_lt _ (by decide))]
  simp only []
  congr 1
  omega

theorem simpleEsc_le {e x : Nat} : simpleEsc e = some x → x ≤ 92 :=
  have step {p : Prop} [Decidable p] {a : Nat} {o : Option Nat} (ha : a ≤ 92) (ho : o = some x → x ≤ 92)
      (h : (if p then some a else o) = some x) : x ≤ 92 := by
    by_cases hp : p
    · rw [if_pos hp] at h; cases h; exact ha
    · rw [if_neg hp] at h; exact ho h
  step (by decide) <| step (by decide) <| step (by decide) <| step (by decide) <| step (by decide) <|
    step (by decide) <| step (by decide) <| step (by decide) nofun

theorem hexVal_lt {k v : Nat} (h : hexVal k = some v) : v < 16 := by
  unfold hexVal at h
  repeat' split at h
  all_goals cases h
  all_goals omega

theorem hex4Val_lt {a b c d x : Nat} (h : hex4Val a b c d = some x) : x < 65536 := by
  unfold hex4Val at h
  split at h
  · cases h
    have := hexVal_lt ‹hexVal a = _›; have := hexVal_lt ‹hexVal b = _›
    have := hexVal_lt ‹hexVal c = _›; have := hexVal_lt ‹hexVal d = _›
    omega
  · cases h

theorem parseStrBody_cons (c : Nat) (r : Str) : parseStrBody (c :: r) =
    if c = 34 then some ([], r)
    else if c = 92 then
      match r with
      | [] => none
      | e :: r2 =>
        if e = 117 then
          match r2 with
          | a :: b :: c' :: d :: r3 =>
            match hex4Val a b c' d with
            | some u => cons1 u (parseStrBody r3)
            | none => none
          | _ => none
        else
          match simpleEsc e with
          | some u => cons1 u (parseStrBody r2)
          | none => none
    else if c < 32 then none
    else cons1 c (parseStrBody r) := by
  rw [parseStrBody.eq_def]
  rfl

theorem parseStrBody_raw {c : Nat} (s : Str) (h1 : c ≠ 34) (h2 : c ≠ 92) (h3 : ¬ c < 32) :
    parseStrBody (c :: s) = cons1 c (parseStrBody s) := by
  rw [parseStrBody_cons, if_neg h1, if_neg h2, if_neg h3]

theorem parseStrBody_esc {e x : Nat} (he : simpleEsc e = some x) (s : Str) :
    parseStrBody (92 :: e :: s) = cons1 x (parseStrBody s) := by
  have hu : e ≠ 117 := by rintro rfl; simp [simpleEsc] at he
  rw [parseStrBody_cons, if_neg (by decide), if_pos rfl]
  simp only [if_neg hu, he]

theorem parseStrBody_uni {a b c d x : Nat} (hx : hex4Val a b c d = some x) (s : Str) :
    parseStrBody (92 :: 117 :: a :: b :: c :: d :: s) = cons1 x (parseStrBody s) := by
  rw [parseStrBody_cons, if_neg (by decide), if_pos rfl]
  simp only [if_true, hx]

/-- `StrBody b u`: the token body `b` (text between the quotes) denotes the code units `u` (ECMA-404 §9) -/
inductive StrBody : Str → Str → Prop
  | nil : StrBody [] []
  | raw {c : Nat} {b u : Str} : c ≠ 34 → c ≠ 92 → ¬ c < 32 → StrBody b u → StrBody (c :: b) (c :: u)
  | esc {e x : Nat} {b u : Str} : simpleEsc e = some x → StrBody b u → StrBody (92 :: e :: b) (x :: u)
  | uni {a b c d x : Nat} {t u : Str} : hex4Val a b c d = some x → StrBody t u →
      StrBody (92 :: 117 :: a :: b :: c :: d :: t) (x :: u)

theorem strBody_complete {b u : Str} (h : StrBody b u) (rest : Str) :
    parseStrBody (b ++ 34 :: rest) = some (u, rest) := by
  induction h with
  | nil => rw [List.nil_append, parseStrBody_cons, if_pos rfl]
  | raw h1 h2 h3 _ ih => rw [List.cons_append, parseStrBody_raw _ h1 h2 h3, ih]; rfl
  | esc he _ ih => rw [List.cons_append, List.cons_append, parseStrBody_esc he, ih]; rfl
  | uni hx _ ih => simp only [List.cons_append]; rw [parseStrBody_uni hx, ih]; rfl

theorem cons1_some {c : Nat} {o : Option (Str × Str)} {u r : Str} (h : cons1 c o = some (u, r)) :
    ∃ u', o = some (u', r) ∧ u = c :: u' := by
  cases o with
  | none => cases h
  | some p => cases h; exact ⟨_, rfl, rfl⟩

theorem parseStrBody_sound {s u r : Str} (h : parseStrBody s = some (u, r)) : ∃ b, StrBody b u ∧ s = b ++ 34 :: r := by
  fun_induction parseStrBody s generalizing u with
  | case1 => cases h
  | case2 => cases h; exact ⟨[], .nil, rfl⟩
  | case3 => cases h
  | case4 _ _ _ _ _ _ hx _ ih =>
    obtain ⟨u', h', rfl⟩ := cons1_some h
    obtain ⟨b, hb, rfl⟩ := ih h'
    exact ⟨_, .uni hx hb, rfl⟩
  | case5 => cases h
  | case6 => cases h
  | case7 _ _ _ _ he _ ih =>
    obtain ⟨u', h', rfl⟩ := cons1_some h
    obtain ⟨b, hb, rfl⟩ := ih h'
    exact ⟨_, .esc he hb, rfl⟩
  | case8 => cases h
  | case9 => cases h
  | case10 _ _ h1 h2 h3 ih =>
    obtain ⟨u', h', rfl⟩ := cons1_some h
    obtain ⟨b, hb, rfl⟩ := ih h'
    exact ⟨_, .raw h1 h2 h3 hb, rfl⟩

theorem strBody_wf {b u : Str} (h : StrBody b u) (hb : WfStr b) : WfStr u := by
  induction h with
  | nil => exact hb
  | raw _ _ _ _ ih =>
    have hb := wfStr_cons.mp hb
    exact wfStr_cons.mpr ⟨hb.1, ih hb.2⟩
  | esc he _ ih =>
    have := simpleEsc_le he
    exact wfStr_cons.mpr ⟨by omega, ih (wfStr_cons.mp (wfStr_cons.mp hb).2).2⟩
  | uni hx _ ih =>
    exact wfStr_cons.mpr ⟨hex4Val_lt hx, ih fun y hy => hb y (by simp [hy])⟩

theorem escOne_cases (c : Nat) :
    (∃ e, simpleEsc e = some c ∧ escOne c = [92, e]) ∨ escOne c = escU c ∨
      (escOne c = [c] ∧ c ≠ 34 ∧ c ≠ 92 ∧ ¬ c < 32) := by
  by_cases h1 : c = 34
  · subst h1; exact .inl ⟨34, rfl, rfl⟩
  by_cases h2 : c = 92
  · subst h2; exact .inl ⟨92, rfl, rfl⟩
  by_cases h3 : c = 8
  · subst h3; exact .inl ⟨98, rfl, rfl⟩
  by_cases h4 : c = 9
  · subst h4; exact .inl ⟨116, rfl, rfl⟩
  by_cases h5 : c = 10
  · subst h5; exact .inl ⟨110, rfl, rfl⟩
  by_cases h6 : c = 12
  · subst h6; exact .inl ⟨102, rfl, rfl⟩
  by_cases h7 : c = 13
  · subst h7; exact .inl ⟨114, rfl, rfl⟩
  rw [escOne, if_neg h1, if_neg h2, if_neg h3, if_neg h4, if_neg h5, if_neg h6, if_neg h7]
  by_cases h8 : c < 32
  · exact .inr (.inl (if_pos h8))
  rw [if_neg h8]
  by_cases h9 : (isHigh c || isLow c) = true
  · exact .inr (.inl (if_pos h9))
  · exact .inr (.inr ⟨if_neg h9, h1, h2, h8⟩)

theorem isHigh_raw {h : Nat} (hh : isHigh h = true) : h ≠ 34 ∧ h ≠ 92 ∧ ¬ h < 32 := by
  simp [isHigh] at hh; omega

theorem isLow_raw {h : Nat} (hh : isLow h = true) : h ≠ 34 ∧ h ≠ 92 ∧ ¬ h < 32 := by
  simp [isLow] at hh; omega

theorem strBody_escOne {c : Nat} (h : c < 65536) {b u : Str} (hb : StrBody b u) : StrBody (escOne c ++ b) (c :: u) := by
  rcases escOne_cases c with ⟨e, he, hc⟩ | hc | ⟨hc, h1, h2, h3⟩ <;> rw [hc]
  · exact .esc he hb
  · exact .uni (hex4Val_escU h) hb
  · exact .raw h1 h2 h3 hb

theorem quoteBody_strBody (s : Str) (hs : WfStr s) : StrBody (quoteBody s) s := by
  fun_induction quoteBody s with
  | case1 => exact .nil
  | case2 h => exact List.append_nil (escOne h) ▸ strBody_escOne (hs h (by simp)) .nil
  | case3 h l r hp ih =>
    have hp' : isHigh h = true ∧ isLow l = true := by simpa using hp
    obtain ⟨a1, a2, a3⟩ := isHigh_raw hp'.1
    obtain ⟨b1, b2, b3⟩ := isLow_raw hp'.2
    exact .raw a1 a2 a3 (.raw b1 b2 b3 (ih fun u hu => hs u (by simp [hu])))
  | case4 h l r hp ih => exact strBody_escOne (hs h (by simp)) (ih fun u hu => hs u (List.mem_cons_of_mem _ hu))

/-- a context in which a number token ends -/
def Stop : Str → Prop
  | [] => True
  | c :: _ => isDigit c = false ∧ c ≠ 46 ∧ c ≠ 101 ∧ c ≠ 69

theorem stop_ws_then {w : Str} (hw : AllWs w) (c : Nat) (r : Str) (hc : c = 44 ∨ c = 93 ∨ c = 125) :
    Stop (w ++ c :: r) := by
  cases w with
  | nil => rcases hc with rfl | rfl | rfl <;> exact ⟨rfl, by decide, by decide, by decide⟩
  | cons a t =>
    have : a = 32 ∨ a = 9 ∨ a = 10 ∨ a = 13 := by simpa [isWs, or_assoc] using hw a (by simp)
    rcases this with rfl | rfl | rfl | rfl <;> exact ⟨rfl, by decide, by decide, by decide⟩

theorem stop_ws {w : Str} (hw : AllWs w) : Stop w := by
  cases w with
  | nil => trivial
  -- `Stop` looks at the first unit only, so what follows `a :: t` may be anything
  | cons a t => exact stop_ws_then (r := []) hw 44 (Or.inl rfl)

/-- what `WfVal` asks of a number lexeme; it holds exactly of the lexemes of `NumGram` (`numGram_lexOK`, `numLexOK_gram`) -/
def NumLexOK (l : Str) : Prop := ∀ rest, Stop rest → parseNum (l ++ rest) = some (l, rest)

def AllDigits (ds : Str) : Prop := ∀ c ∈ ds, isDigit c = true

def NonDigitHead : Str → Prop
  | [] => True
  | c :: _ => isDigit c = false

theorem takeDigits_spec (s : Str) :
    s = (takeDigits s).1 ++ (takeDigits s).2 ∧ AllDigits (takeDigits s).1 ∧ NonDigitHead (takeDigits s).2 := by
  induction s with
  | nil => exact ⟨rfl, nofun, trivial⟩
  | cons c r ih =>
    by_cases hc : isDigit c = true
    · simp only [takeDigits, hc, if_true]
      refine ⟨by simp [← ih.1], ?_, ih.2.2⟩
      intro d hd
      cases hd with
      | head => exact hc
      | tail _ h => exact ih.2.1 d h
    · simp only [takeDigits, hc]
      refine ⟨rfl, nofun, ?_⟩
      simpa [NonDigitHead] using hc

theorem takeDigits_append (ds x : Str) (hd : AllDigits ds) (hx : NonDigitHead x) : takeDigits (ds ++ x) = (ds, x) := by
  induction ds with
  | nil =>
    cases x with
    | nil => rfl
    | cons c r => simp [NonDigitHead] at hx; simp [takeDigits, hx]
  | cons d t ih =>
    have h1 : isDigit d = true := hd d (by simp)
    have h2 := ih (fun c hc => hd c (by simp [hc]))
    simp [takeDigits, h1, h2]

theorem parseExp_stop (rest : Str) (hs : Stop rest) : parseExp rest = some ([], rest) := by
  cases rest with
  | nil => rfl
  | cons c r =>
    simp [Stop] at hs
    simp [parseExp, hs.2.2.1, hs.2.2.2]

def NatLex (l : Str) : Prop :=
  l = [48] ∨ ∃ d ds, l = d :: ds ∧ 49 ≤ d ∧ d ≤ 57 ∧ ∀ c ∈ ds, isDigit c = true

/-- ECMA-404 number grammar, fraction part: empty or `.` digit+ -/
def FracLex (f : Str) : Prop := f = [] ∨ ∃ ds, f = 46 :: ds ∧ ds ≠ [] ∧ AllDigits ds
/-- exponent part: empty or (e|E) (+|-)? digit+ -/
def ExpLex (e : Str) : Prop :=
  e = [] ∨ ∃ c sg ds, e = c :: (sg ++ ds) ∧ (c = 101 ∨ c = 69) ∧ (sg = [] ∨ sg = [43] ∨ sg = [45]) ∧ ds ≠ [] ∧ AllDigits ds
def UNumGram (l : Str) : Prop := ∃ i f e, l = i ++ (f ++ e) ∧ NatLex i ∧ FracLex f ∧ ExpLex e
def NumGram (l : Str) : Prop := UNumGram l ∨ ∃ u, l = 45 :: u ∧ UNumGram u

theorem parseInt_sound {s i r : Str} (h : parseInt s = some (i, r)) :
    NatLex i ∧ s = i ++ r ∧ (i = [48] ∨ NonDigitHead r) := by
  cases s with
  | nil => simp [parseInt] at h
  | cons c t =>
    unfold parseInt at h
    by_cases h48 : c = 48
    · subst h48
      simp at h
      obtain ⟨rfl, rfl⟩ := h
      exact ⟨Or.inl rfl, rfl, Or.inl rfl⟩
    · by_cases hr : 49 ≤ c ∧ c ≤ 57
      · simp [h48, hr] at h
        obtain ⟨rfl, rfl⟩ := h
        have sp := takeDigits_spec t
        refine ⟨Or.inr ⟨c, _, rfl, hr.1, hr.2, sp.2.1⟩, ?_, Or.inr sp.2.2⟩
        simp [← sp.1]
      · simp [h48, hr] at h

theorem parseFrac_sound {s f r : Str} (h : parseFrac s = some (f, r)) :
    FracLex f ∧ s = f ++ r ∧ (f = [] → ∀ t, s ≠ 46 :: t) ∧ (f ≠ [] → NonDigitHead r) := by
  unfold parseFrac at h
  split at h
  · rename_i t
    have sp := takeDigits_spec t
    by_cases he : (takeDigits t).1 = []
    · simp [he] at h
    · simp [he] at h
      obtain ⟨rfl, rfl⟩ := h
      refine ⟨Or.inr ⟨_, rfl, he, sp.2.1⟩, by simp [← sp.1], by simp, fun _ => sp.2.2⟩
  · rename_i hne
    simp at h
    obtain ⟨rfl, rfl⟩ := h
    exact ⟨Or.inl rfl, rfl, fun _ t ht => hne t ht, fun h => absurd rfl h⟩

theorem parseExpDigits_sound {pre s e r : Str} (h : parseExpDigits pre s = some (e, r)) :
    ∃ ds, e = pre ++ ds ∧ ds ≠ [] ∧ AllDigits ds ∧ s = ds ++ r ∧ NonDigitHead r := by
  unfold parseExpDigits at h
  have sp := takeDigits_spec s
  by_cases he : (takeDigits s).1 = []
  · simp [he] at h
  · simp [he] at h
    obtain ⟨rfl, rfl⟩ := h
    exact ⟨_, rfl, he, sp.2.1, sp.1, sp.2.2⟩

theorem parseExp_sound {s e r : Str} (h : parseExp s = some (e, r)) :
    ExpLex e ∧ s = e ++ r ∧ (e = [] → ∀ c t, s = c :: t → c ≠ 101 ∧ c ≠ 69) ∧ (e ≠ [] → NonDigitHead r) := by
  cases s with
  | nil =>
    simp [parseExp] at h
    obtain ⟨rfl, rfl⟩ := h
    exact ⟨Or.inl rfl, rfl, (fun _ c t ht => by cases ht), fun h => absurd rfl h⟩
  | cons c t =>
    unfold parseExp at h
    by_cases hc : c = 101 ∨ c = 69
    · simp only [hc, if_true] at h
      cases t with
      | nil => simp at h
      | cons sg t2 =>
        simp only at h
        by_cases hs : sg = 43 ∨ sg = 45
        · simp only [hs, if_true] at h
          obtain ⟨ds, rfl, hne, hd, rfl, hr⟩ := parseExpDigits_sound h
          refine ⟨Or.inr ⟨c, [sg], ds, by simp, hc, ?_, hne, hd⟩, by simp, by simp, fun _ => hr⟩
          rcases hs with rfl | rfl <;> simp
        · simp only [hs, if_false] at h
          obtain ⟨ds, rfl, hne, hd, hs2, hr⟩ := parseExpDigits_sound h
          refine ⟨Or.inr ⟨c, [], ds, by simp, hc, Or.inl rfl, hne, hd⟩, by simp [hs2], by simp, fun _ => hr⟩
    · simp only [hc, if_false] at h
      simp at h
      obtain ⟨rfl, rfl⟩ := h
      refine ⟨Or.inl rfl, rfl, ?_, fun h => absurd rfl h⟩
      intro _ c' t' ht
      cases ht
      exact ⟨fun e => hc (Or.inl e), fun e => hc (Or.inr e)⟩

theorem parseUnsigned_sound {s l r : Str} (h : parseUnsigned s = some (l, r)) : UNumGram l ∧ s = l ++ r := by
  unfold parseUnsigned at h
  split at h
  · simp at h
  · rename_i i r1 hi
    split at h
    · simp at h
    · rename_i f r2 hf
      split at h
      · simp at h
      · rename_i e r3 he
        simp at h
        obtain ⟨rfl, rfl⟩ := h
        have a := parseInt_sound hi
        have b := parseFrac_sound hf
        have c := parseExp_sound he
        refine ⟨⟨i, f, e, by simp, a.1, b.1, c.1⟩, ?_⟩
        rw [a.2.1, b.2.1, c.2.1]; simp

theorem parseNum_sound {s l r : Str} (h : parseNum s = some (l, r)) : NumGram l ∧ s = l ++ r := by
  unfold parseNum at h
  split at h
  · rename_i t
    cases hu : parseUnsigned t with
    | none => simp [hu, cons1] at h
    | some p =>
      obtain ⟨u, r'⟩ := p
      simp [hu, cons1] at h
      obtain ⟨rfl, rfl⟩ := h
      have a := parseUnsigned_sound hu
      exact ⟨Or.inr ⟨u, rfl, a.1⟩, by simp [a.2]⟩
  · have a := parseUnsigned_sound h
    exact ⟨Or.inl a.1, a.2⟩

theorem stop_nonDigit {r : Str} (h : Stop r) : NonDigitHead r := by
  cases r with
  | nil => trivial
  | cons c t => exact h.1

theorem expLex_head {e r : Str} (he : ExpLex e) (hr : Stop r) :
    NonDigitHead (e ++ r) ∧ ∀ t, e ++ r ≠ 46 :: t := by
  rcases he with rfl | ⟨c, sg, ds, rfl, hc, _, _, _⟩
  · refine ⟨by simpa using stop_nonDigit hr, ?_⟩
    intro t ht
    cases r with
    | nil => cases ht
    | cons a b => simp at ht; exact hr.2.1 ht.1
  · refine ⟨?_, ?_⟩
    · rcases hc with rfl | rfl <;> simp [NonDigitHead, isDigit]
    · intro t ht; simp at ht; rcases hc with rfl | rfl <;> omega

theorem fracExp_head {f e r : Str} (hf : FracLex f) (he : ExpLex e) (hr : Stop r) : NonDigitHead (f ++ (e ++ r)) := by
  rcases hf with rfl | ⟨ds, rfl, _, _⟩
  · simpa using (expLex_head he hr).1
  · simp [NonDigitHead, isDigit]

theorem parseInt_complete {i x : Str} (hi : NatLex i) (hx : NonDigitHead x) : parseInt (i ++ x) = some (i, x) := by
  rcases hi with rfl | ⟨d, ds, rfl, h1, h2, hd⟩
  · simp [parseInt]
  · have hd48 : d ≠ 48 := by omega
    simp [parseInt, hd48, h1, h2, takeDigits_append ds x hd hx]

theorem parseFrac_complete {f x : Str} (hf : FracLex f) (hx : NonDigitHead x) (h46 : ∀ t, x ≠ 46 :: t) :
    parseFrac (f ++ x) = some (f, x) := by
  rcases hf with rfl | ⟨ds, rfl, hne, hd⟩
  · simp only [List.nil_append]
    unfold parseFrac
    split
    · rename_i t; exact absurd rfl (h46 t)
    · rfl
  · simp [parseFrac, takeDigits_append ds x hd hx, hne]

theorem parseExpDigits_complete {pre ds x : Str} (hne : ds ≠ []) (hd : AllDigits ds) (hx : NonDigitHead x) :
    parseExpDigits pre (ds ++ x) = some (pre ++ ds, x) := by
  simp [parseExpDigits, takeDigits_append ds x hd hx, hne]

theorem parseExp_complete {e x : Str} (he : ExpLex e) (hx : Stop x) : parseExp (e ++ x) = some (e, x) := by
  rcases he with rfl | ⟨c, sg, ds, rfl, hc, hsg, hne, hd⟩
  · simpa using parseExp_stop x hx
  · have hx' := stop_nonDigit hx
    cases ds with
    | nil => exact absurd rfl hne
    | cons d ds' =>
      have hdd : isDigit d = true := hd d (by simp)
      have hd43 : ¬ (d = 43 ∨ d = 45) := by simp [isDigit] at hdd; omega
      rcases hsg with rfl | rfl | rfl
      · have := parseExpDigits_complete (pre := [c]) (x := x) hne hd hx'
        simp only [List.nil_append, List.cons_append] at this ⊢
        simp [parseExp, hc, hd43, this]
      · have := parseExpDigits_complete (pre := [c, 43]) (x := x) hne hd hx'
        simp only [List.cons_append, List.nil_append] at this ⊢
        simp [parseExp, hc, this]
      · have := parseExpDigits_complete (pre := [c, 45]) (x := x) hne hd hx'
        simp only [List.cons_append, List.nil_append] at this ⊢
        simp [parseExp, hc, this]

theorem parseUnsigned_complete {l r : Str} (hl : UNumGram l) (hr : Stop r) : parseUnsigned (l ++ r) = some (l, r) := by
  obtain ⟨i, f, e, rfl, hi, hf, he⟩ := hl
  have h1 : parseInt (i ++ (f ++ (e ++ r))) = some (i, f ++ (e ++ r)) := parseInt_complete hi (fracExp_head hf he hr)
  have h2 : parseFrac (f ++ (e ++ r)) = some (f, e ++ r) :=
    parseFrac_complete hf (expLex_head he hr).1 (expLex_head he hr).2
  have h3 := parseExp_complete he hr
  unfold parseUnsigned
  simp only [List.append_assoc, h1, h2, h3]

theorem natLex_head_ne_minus {i : Str} (hi : NatLex i) (x t : Str) : i ++ x ≠ 45 :: t := by
  rcases hi with rfl | ⟨d, ds, rfl, h1, _, _⟩
  · simp
  · simp; omega

theorem numGram_lexOK {l : Str} (hl : NumGram l) : NumLexOK l := by
  intro rest hs
  rcases hl with hu | ⟨u, rfl, hu⟩
  · obtain ⟨i, f, e, rfl, hi, _, _⟩ := id hu
    unfold parseNum
    split
    · rename_i t heq
      simp only [List.append_assoc] at heq
      exact absurd heq (natLex_head_ne_minus hi _ t)
    · exact parseUnsigned_complete hu hs
  · simp [parseNum, parseUnsigned_complete hu hs, cons1]

theorem numLexOK_of_int (l : Str) (hl : NatLex l) : NumLexOK l ∧ NumLexOK (45 :: l) :=
  have hu : UNumGram l := ⟨l, [], [], by simp, hl, .inl rfl, .inl rfl⟩
  ⟨numGram_lexOK (.inl hu), numGram_lexOK (.inr ⟨l, rfl, hu⟩)⟩

theorem numLexOK_gram {l : Str} (h : NumLexOK l) : NumGram l :=
  (parseNum_sound (List.append_nil l ▸ h [] trivial)).1

theorem numGram_head {l : Str} (h : NumGram l) : ∃ c tl, l = c :: tl ∧ (c = 45 ∨ isDigit c = true) := by
  rcases h with ⟨i, f, e, rfl, hi, _, _⟩ | ⟨u, rfl, _⟩
  · rcases hi with rfl | ⟨d, ds, rfl, h1, h2, _⟩
    · exact ⟨48, _, rfl, .inr rfl⟩
    · exact ⟨d, _, rfl, .inr (by simp [isDigit]; omega)⟩
  · exact ⟨45, u, rfl, .inl rfl⟩

end GojaModel.C19
