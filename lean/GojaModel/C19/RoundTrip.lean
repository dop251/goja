/-
  C19: what `ser` writes for a well-formed tree is a text of the grammar denoting that tree, for every white-space
  gap / indent (`ser_gram`, by mutual structural recursion over the tree); completeness of the parser for the
  grammar then gives the round trip  parseValue (ser gap ind v ++ rest) = (v, rest); at top level `stringify gap v` is
  a `Text` (`stringify_text`), hence parseRaw (stringify gap v) = v.
-/
import GojaModel.C19.Grammar

namespace GojaModel.C19

mutual
theorem ser_gram (gap : Str) (hg : AllWs gap) :
    ∀ (v : JVal) (ind rest : Str), AllWs ind → WfVal v → Gram (ser gap ind v ++ rest) v rest
  | .null, _, rest, _, _ => Gram.null rest
  | .bool true, _, rest, _, _ => Gram.tru rest
  | .bool false, _, rest, _, _ => Gram.fls rest
  | .num l, _, rest, _, hv => by
    have hl : NumLexOK l := by simpa [WfVal] using hv
    exact Gram.num rest (numLexOK_gram hl)
  | .str s, _, rest, _, hv => by
    have hs : WfStr s := by simpa [WfVal] using hv
    have := Gram.str rest (quoteBody_strBody s hs)
    simpa [ser, quote] using this
  | .arr [], _, rest, _, _ => Gram.arrNil (w := []) rest nofun
  | .arr (a :: t), ind, rest, hi, hv => by
    have hv' : WfList (a :: t) := by simpa [WfVal] using hv
    have := (serElems_gram gap hg (a :: t) ind (ind ++ gap) (nl gap (ind ++ gap)) rest hi (allWs_append hi hg)
      (allWs_nl (allWs_append hi hg)) hv' (by simp)).2
    simpa [ser] using this
  | .obj [], _, rest, _, _ => Gram.objNil (w := []) rest nofun
  | .obj (a :: t), ind, rest, hi, hv => by
    have hv' : WfMembers (a :: t) := by simpa [WfVal] using hv
    have := (serMembers_gram gap hg (a :: t) ind (ind ++ gap) (nl gap (ind ++ gap)) rest hi (allWs_append hi hg)
      (allWs_nl (allWs_append hi hg)) hv' (by simp)).2
    simpa [ser] using this
theorem serElems_gram (gap : Str) (hg : AllWs gap) :
    ∀ (xs : List JVal) (ind ind' w rest : Str), AllWs ind → AllWs ind' → AllWs w → WfList xs → xs ≠ [] →
      Elems (w ++ (serElems gap ind ind' xs ++ rest)) xs rest
  | [], _, _, _, _, _, _, _, _, hne => absurd rfl hne
  | v :: t, ind, ind', w, rest, hi, hi', hw, hv, _ => by
    have hv' : WfVal v ∧ WfList t := by simpa [WfList] using hv
    cases t with
    | nil =>
      have := Elems.one hw (allWs_nl hi) (ser_gram gap hg v ind' (nl gap ind ++ 93 :: rest) hi' hv'.1)
      simpa [serElems, sepIf] using this
    | cons b t' =>
      have := Elems.cons (w2 := []) hw nofun (ser_gram gap hg v ind' _ hi' hv'.1)
        (serElems_gram gap hg (b :: t') ind ind' (nl gap ind') rest hi hi' (allWs_nl hi') hv'.2 (by simp))
      simpa [serElems, sepIf] using this
theorem serMembers_gram (gap : Str) (hg : AllWs gap) :
    ∀ (ms : List (Str × JVal)) (ind ind' w rest : Str), AllWs ind → AllWs ind' → AllWs w → WfMembers ms → ms ≠ [] →
      Members (w ++ (serMembers gap ind ind' ms ++ rest)) ms rest
  | [], _, _, _, _, _, _, _, _, hne => absurd rfl hne
  | (k, v) :: t, ind, ind', w, rest, hi, hi', hw, hv, _ => by
    have hv' : WfStr k ∧ WfVal v ∧ WfMembers t := by simpa [WfMembers] using hv
    have hcolon : ∃ w2, AllWs w2 ∧ colon gap = 58 :: w2 := by
      unfold colon
      split
      · exact ⟨[], nofun, rfl⟩
      · exact ⟨[32], by simp [AllWs, isWs], rfl⟩
    obtain ⟨w2, hw2, hcol⟩ := hcolon
    cases t with
    | nil =>
      have := Members.one (w2 := []) hw nofun hw2 (allWs_nl hi) (quoteBody_strBody k hv'.1)
        (ser_gram gap hg v ind' (nl gap ind ++ 125 :: rest) hi' hv'.2.1)
      simpa [serMembers, sepIf, quote, hcol] using this
    | cons b t' =>
      have := Members.cons (w2 := []) (w4 := []) hw nofun hw2 nofun (quoteBody_strBody k hv'.1)
        (ser_gram gap hg v ind' _ hi' hv'.2.1)
        (serMembers_gram gap hg (b :: t') ind ind' (nl gap ind') rest hi hi' (allWs_nl hi') hv'.2.2 (by simp))
      simpa [serMembers, sepIf, quote, hcol] using this
end

theorem rt_val (gap : Str) (hg : AllWs gap) (v : JVal) (ind w rest : Str) (f : Nat) (hi : AllWs ind) (hw : AllWs w)
    (hv : WfVal v) (hs : Stop rest) (hf : need v ≤ f) : parseValue f (w ++ (ser gap ind v ++ rest)) = some (v, rest) :=
  gram_complete (ser_gram gap hg v ind rest hi hv) w f hw (fun _ => hs) hf

theorem rt_elems (gap : Str) (hg : AllWs gap) :
    ∀ (xs : List JVal) (ind ind' w rest : Str) (f : Nat), AllWs ind → AllWs ind' → AllWs w → WfList xs → xs ≠ [] →
      needL xs ≤ f → parseElems f (w ++ (serElems gap ind ind' xs ++ rest)) = some (xs, rest) :=
  fun xs ind ind' w rest _ hi hi' hw hv hne hf =>
    elems_complete (serElems_gram gap hg xs ind ind' w rest hi hi' hw hv hne) hf

theorem rt_members (gap : Str) (hg : AllWs gap) :
    ∀ (ms : List (Str × JVal)) (ind ind' w rest : Str) (f : Nat), AllWs ind → AllWs ind' → AllWs w → WfMembers ms →
      ms ≠ [] → needM ms ≤ f → parseMembers f (w ++ (serMembers gap ind ind' ms ++ rest)) = some (ms, rest) :=
  fun ms ind ind' w rest _ hi hi' hw hv hne hf =>
    members_complete (serMembers_gram gap hg ms ind ind' w rest hi hi' hw hv hne) hf

theorem stringify_text (gap : Str) (hg : AllWs gap) (v : JVal) (hv : WfVal v) : Text (stringify gap v) v :=
  ⟨[], [], _, nofun, nofun, rfl, List.append_nil (ser gap [] v) ▸ ser_gram gap hg v [] [] nofun hv⟩

theorem parseRaw_stringify (gap : Str) (hg : AllWs gap) (v : JVal) (hv : WfVal v) :
    parseRaw (stringify gap v) = some v :=
  parseRaw_complete (stringify_text gap hg v hv)

/-! A well-formed tree needs no more fuel than its text is long, whatever the gap.  The round trips above do not use
    this: `parseRaw_complete` has the bound for every text of the grammar from `gram_need`. -/
theorem serElems_len_pos (gap ind ind' : Str) (xs : List JVal) : 1 ≤ (serElems gap ind ind' xs).length := by
  cases xs with
  | nil => simp [serElems]
  | cons a t => simp [serElems]; have := serElems_len_pos gap ind ind' t; omega

theorem serMembers_len_pos (gap ind ind' : Str) (ms : List (Str × JVal)) : 1 ≤ (serMembers gap ind ind' ms).length := by
  cases ms with
  | nil => simp [serMembers]
  | cons a t => obtain ⟨k, v⟩ := a; simp [serMembers, quote]

mutual
theorem need_le (gap : Str) : ∀ (v : JVal) (ind : Str), WfVal v → need v ≤ (ser gap ind v).length
  | .null, _, _ => by simp [need, ser]
  | .bool b, _, _ => by cases b <;> simp [need, ser]
  | .num l, _, hv => by
    obtain ⟨c, tl, rfl, _⟩ := numGram_head (numLexOK_gram (by simpa [WfVal] using hv))
    simp [need, ser]
  | .str s, _, _ => by simp [need, ser, quote]
  | .arr xs, ind, hv => by
    cases xs with
    | nil => simp [need, needL, ser]
    | cons a t =>
      have h := needL_le gap (a :: t) ind (ind ++ gap) (by simpa [WfVal] using hv)
      simp only [need, ser, List.isEmpty_cons, Bool.false_eq_true, if_false, List.length_cons, List.length_append]
      omega
  | .obj ms, ind, hv => by
    cases ms with
    | nil => simp [need, needM, ser]
    | cons a t =>
      have h := needM_le gap (a :: t) ind (ind ++ gap) (by simpa [WfVal] using hv)
      simp only [need, ser, List.isEmpty_cons, Bool.false_eq_true, if_false, List.length_cons, List.length_append]
      omega
theorem needL_le (gap : Str) : ∀ (xs : List JVal) (ind ind' : Str), WfList xs → needL xs ≤ (serElems gap ind ind' xs).length
  | [], _, _, _ => by simp [needL]
  | v :: t, ind, ind', hv => by
    have hv' : WfVal v ∧ WfList t := by simpa [WfList] using hv
    have h1 := need_le gap v ind' hv'.1
    have h2 := needL_le gap t ind ind' hv'.2
    have h3 := serElems_len_pos gap ind ind' t
    have h4 := need_pos v
    simp only [needL, serElems, List.length_append]
    omega
theorem needM_le (gap : Str) : ∀ (ms : List (Str × JVal)) (ind ind' : Str), WfMembers ms → needM ms ≤ (serMembers gap ind ind' ms).length
  | [], _, _, _ => by simp [needM]
  | (k, v) :: t, ind, ind', hv => by
    have hv' : WfStr k ∧ WfVal v ∧ WfMembers t := by simpa [WfMembers] using hv
    have h1 := need_le gap v ind' hv'.2.1
    have h2 := needM_le gap t ind ind' hv'.2.2
    have h3 := serMembers_len_pos gap ind ind' t
    have h4 := need_pos v
    simp only [needM, serMembers, List.length_append]
    omega
end

end GojaModel.C19
