/-
  C19 — JSON.parse / JSON.stringify.  Executable spec-level model (core Lean only).

  * texts and strings are lists of UTF-16 code units (`Nat`, `< 65536` where it matters);
  * `parseRaw`  : the ECMA-404 grammar as a total recursive-descent parser producing the syntactic tree `JVal`
                  (a number is kept as its lexeme);
  * `build`     : the ECMAScript object-building semantics of JSON.parse (ECMA-262 §25.5.1, InternalizeJSONProperty
                  aside): duplicate keys — last value wins at the position of the first occurrence
                  (CreateDataProperty on an existing key keeps its position), "__proto__" is an ordinary key,
                  key order = array-index keys ascending, then the other keys in insertion order
                  (OrdinaryOwnPropertyKeys); numbers are mapped to their canonical text by an abstract `NumCanon`;
  * `ser`       : SerializeJSONProperty / SerializeJSONArray / SerializeJSONObject / QuoteJSONString of ECMA-262
                  §25.5.2 for JSON-representable values, with gap and indent;
  * `gapOfNumber`, `gapOfString` : the clamping of the `space` argument;
  * `decToBits` : exact decimal → IEEE double (round to nearest even), used by the driver to print numbers as bit
                  patterns (number text ↔ double is C12's subject; no theorem here depends on it).

  goja anchors: builtin_json.go:20 builtinJSON_parse (delegates tokenising to encoding/json),
  :191 builtinJSON_stringify, :302 str, :413 ja, :454 jo, :514 quote.
-/
namespace GojaModel.C19

abbrev Str := List Nat

inductive JVal where
  | null
  | bool (b : Bool)
  | num (lex : Str)
  | str (s : Str)
  | arr (xs : List JVal)
  | obj (ms : List (Str × JVal))

/-! ## Lexical level -/

/-- ECMA-404 white space: space, tab, LF, CR — nothing else. -/
def isWs (c : Nat) : Bool := c == 32 || c == 9 || c == 10 || c == 13

def skipWs : Str → Str
  | [] => []
  | c :: r => if isWs c then skipWs r else c :: r

def isDigit (c : Nat) : Bool := 48 ≤ c && c ≤ 57

def hexVal (c : Nat) : Option Nat :=
  if 48 ≤ c ∧ c ≤ 57 then some (c - 48)
  else if 97 ≤ c ∧ c ≤ 102 then some (c - 87)
  else if 65 ≤ c ∧ c ≤ 70 then some (c - 55)
  else none

def hex4Val (a b c d : Nat) : Option Nat :=
  match hexVal a, hexVal b, hexVal c, hexVal d with
  | some x, some y, some z, some w => some (x * 4096 + y * 256 + z * 16 + w)
  | _, _, _, _ => none

/-- single-character escapes `\" \\ \/ \b \f \n \r \t` -/
def simpleEsc (e : Nat) : Option Nat :=
  if e = 34 then some 34 else if e = 92 then some 92 else if e = 47 then some 47
  else if e = 98 then some 8 else if e = 102 then some 12 else if e = 110 then some 10
  else if e = 114 then some 13 else if e = 116 then some 9 else none

def cons1 (c : Nat) : Option (Str × Str) → Option (Str × Str)
  | some (u, r) => some (c :: u, r)
  | none => none

/-- Body of a string token after the opening quote: decoded units and the rest after the closing quote.
    Raw units below U+0020 are rejected; every other unit (including lone surrogates) stands for itself. -/
def parseStrBody : Str → Option (Str × Str)
  | [] => none
  | c :: r =>
    if c = 34 then some ([], r)
    else if c = 92 then
      match r with
      | [] => none
      | e :: r2 =>
        if e = 117 then
          match r2 with
          | a :: b :: c' :: d :: r3 =>
            match hex4Val a b c' d with
            | some u => cons1 u (parseStrBody r3)
            | none => none
          | _ => none
        else
          match simpleEsc e with
          | some u => cons1 u (parseStrBody r2)
          | none => none
    else if c < 32 then none
    else cons1 c (parseStrBody r)

/-- longest prefix of digits, and the rest -/
def takeDigits : Str → Str × Str
  | [] => ([], [])
  | c :: r => if isDigit c then (c :: (takeDigits r).1, (takeDigits r).2) else ([], c :: r)

/-- integer part: `0` or `[1-9][0-9]*` -/
def parseInt : Str → Option (Str × Str)
  | [] => none
  | c :: r =>
    if c = 48 then some ([48], r)
    else if 49 ≤ c ∧ c ≤ 57 then some (c :: (takeDigits r).1, (takeDigits r).2)
    else none

/-- optional fraction `.[0-9]+` -/
def parseFrac : Str → Option (Str × Str)
  | 46 :: r => if (takeDigits r).1 = [] then none else some (46 :: (takeDigits r).1, (takeDigits r).2)
  | s => some ([], s)

def parseExpDigits (pre : Str) (r : Str) : Option (Str × Str) :=
  if (takeDigits r).1 = [] then none else some (pre ++ (takeDigits r).1, (takeDigits r).2)

/-- optional exponent `[eE][+-]?[0-9]+` -/
def parseExp : Str → Option (Str × Str)
  | [] => some ([], [])
  | e :: r =>
    if e = 101 ∨ e = 69 then
      match r with
      | s :: r2 => if s = 43 ∨ s = 45 then parseExpDigits [e, s] r2 else parseExpDigits [e] r
      | [] => none
    else some ([], e :: r)

def parseUnsigned (s : Str) : Option (Str × Str) :=
  match parseInt s with
  | none => none
  | some (i, r1) =>
    match parseFrac r1 with
    | none => none
    | some (f, r2) =>
      match parseExp r2 with
      | none => none
      | some (e, r3) => some (i ++ f ++ e, r3)

/-- number token (maximal munch): lexeme and rest. -/
def parseNum : Str → Option (Str × Str)
  | 45 :: r => cons1 45 (parseUnsigned r)
  | s => parseUnsigned s

/-- `matchLit lit s` = rest of `s` after the literal. -/
def matchLit : Str → Str → Option Str
  | [], s => some s
  | _ :: _, [] => none
  | a :: l, c :: r => if a = c then matchLit l r else none

/-! ## The recursive-descent parser (fuel = bound on recursion depth; `parseRaw` supplies enough) -/

mutual
/-- a value, leading white space allowed, trailing white space not consumed -/
def parseValue : Nat → Str → Option (JVal × Str)
  | 0, _ => none
  | f + 1, s =>
    match skipWs s with
    | [] => none
    | c :: r =>
      if c = 110 then (match matchLit [117, 108, 108] r with | some r' => some (.null, r') | none => none)
      else if c = 116 then (match matchLit [114, 117, 101] r with | some r' => some (.bool true, r') | none => none)
      else if c = 102 then (match matchLit [97, 108, 115, 101] r with | some r' => some (.bool false, r') | none => none)
      else if c = 34 then (match parseStrBody r with | some (u, r') => some (.str u, r') | none => none)
      else if c = 91 then
        (match skipWs r with
         | 93 :: r' => some (.arr [], r')
         | _ => match parseElems f r with
                | some (xs, r') => some (.arr xs, r')
                | none => none)
      else if c = 123 then
        (match skipWs r with
         | 125 :: r' => some (.obj [], r')
         | _ => match parseMembers f r with
                | some (ms, r') => some (.obj ms, r')
                | none => none)
      else
        (match parseNum (c :: r) with
         | some (l, r') => some (.num l, r')
         | none => none)
/-- non-empty element list up to and including the closing bracket -/
def parseElems : Nat → Str → Option (List JVal × Str)
  | 0, _ => none
  | f + 1, s =>
    match parseValue f s with
    | none => none
    | some (v, r) =>
      match skipWs r with
      | c :: r2 =>
        if c = 44 then
          (match parseElems f r2 with
           | some (t, r3) => some (v :: t, r3)
           | none => none)
        else if c = 93 then some ([v], r2)
        else none
      | [] => none
/-- non-empty member list up to and including the closing brace -/
def parseMembers : Nat → Str → Option (List (Str × JVal) × Str)
  | 0, _ => none
  | f + 1, s =>
    match skipWs s with
    | 34 :: r =>
      (match parseStrBody r with
       | none => none
       | some (k, r1) =>
         match skipWs r1 with
         | 58 :: r2 =>
           (match parseValue f r2 with
            | none => none
            | some (v, r3) =>
              match skipWs r3 with
              | c :: r4 =>
                if c = 44 then
                  (match parseMembers f r4 with
                   | some (t, r5) => some ((k, v) :: t, r5)
                   | none => none)
                else if c = 125 then some ([(k, v)], r4)
                else none
              | [] => none)
         | _ => none)
    | _ => none
end

/-- JSON text → syntactic tree; `none` = SyntaxError. -/
def parseRaw (t : Str) : Option JVal :=
  match parseValue (t.length + 1) t with
  | some (v, r) => if skipWs r = [] then some v else none
  | none => none

/-! ## Object building (ECMAScript semantics of the parsed tree) -/

/-- abstract "canonical number text" (Number::toString ∘ StringToNumber on JSON number lexemes) — C12's subject. -/
structure NumCanon where
  canon : Str → Str

def NumCanon.id : NumCanon := ⟨fun l => l⟩

def digitsVal : Str → Nat → Nat
  | [], acc => acc
  | c :: r, acc => digitsVal r (acc * 10 + (c - 48))

/-- canonical array index: "0" or [1-9][0-9]* with value < 2^32 - 1 -/
def idxOf (k : Str) : Option Nat :=
  match k with
  | [] => none
  | c :: r =>
    if k.all isDigit && (c != 48 || r.isEmpty) && k.length ≤ 10 then
      (if digitsVal k 0 < 4294967295 then some (digitsVal k 0) else none)
    else none

def isIdx (p : Str × JVal) : Bool := (idxOf p.1).isSome
def idxVal (p : Str × JVal) : Nat := (idxOf p.1).getD 0

/-- CreateDataProperty in insertion order: an existing key keeps its position and gets the new value -/
def upsert (k : Str) (v : JVal) : List (Str × JVal) → List (Str × JVal)
  | [] => [(k, v)]
  | (k', v') :: t => if k' = k then (k', v) :: t else (k', v') :: upsert k v t

def dedupe (ms : List (Str × JVal)) : List (Str × JVal) :=
  ms.foldl (fun acc p => upsert p.1 p.2 acc) []

def insIdx (a : Str × JVal) : List (Str × JVal) → List (Str × JVal)
  | [] => [a]
  | b :: t => if idxVal a ≤ idxVal b then a :: b :: t else b :: insIdx a t

def sortIdx : List (Str × JVal) → List (Str × JVal)
  | [] => []
  | a :: t => insIdx a (sortIdx t)

/-- OrdinaryOwnPropertyKeys: array indices ascending, then strings in insertion order -/
def orderKeys (ms : List (Str × JVal)) : List (Str × JVal) :=
  sortIdx (ms.filter isIdx) ++ ms.filter (fun p => !isIdx p)

mutual
def build (N : NumCanon) : JVal → JVal
  | .null => .null
  | .bool b => .bool b
  | .num l => .num (N.canon l)
  | .str s => .str s
  | .arr xs => .arr (buildList N xs)
  | .obj ms => .obj (orderKeys (dedupe (buildMembers N ms)))
def buildList (N : NumCanon) : List JVal → List JVal
  | [] => []
  | v :: t => build N v :: buildList N t
def buildMembers (N : NumCanon) : List (Str × JVal) → List (Str × JVal)
  | [] => []
  | (k, v) :: t => (k, build N v) :: buildMembers N t
end

/-- JSON.parse without reviver -/
def parse (N : NumCanon) (t : Str) : Option JVal :=
  match parseRaw t with
  | some v => some (build N v)
  | none => none

/-! ## QuoteJSONString -/

def hexd (d : Nat) : Nat := if d < 10 then 48 + d else 87 + d

def escU (u : Nat) : Str :=
  [92, 117, hexd (u / 4096 % 16), hexd (u / 256 % 16), hexd (u / 16 % 16), hexd (u % 16)]

def isHigh (u : Nat) : Bool := 0xD800 ≤ u && u ≤ 0xDBFF
def isLow (u : Nat) : Bool := 0xDC00 ≤ u && u ≤ 0xDFFF

/-- one code unit that is not part of a surrogate pair -/
def escOne (c : Nat) : Str :=
  if c = 34 then [92, 34] else if c = 92 then [92, 92]
  else if c = 8 then [92, 98] else if c = 9 then [92, 116] else if c = 10 then [92, 110]
  else if c = 12 then [92, 102] else if c = 13 then [92, 114]
  else if c < 32 then escU c
  else if isHigh c || isLow c then escU c
  else [c]

def quoteBody : Str → Str
  | [] => []
  | [h] => escOne h
  | h :: l :: r =>
    if isHigh h && isLow l then h :: l :: quoteBody r else escOne h ++ quoteBody (l :: r)
termination_by s => s.length

def quote (s : Str) : Str := 34 :: (quoteBody s ++ [34])

/-! ## Serialisation with gap / indent (SerializeJSONProperty for JSON-representable values) -/

/-- "\n" ++ indent when a gap is in use, nothing otherwise -/
def nl (gap ind : Str) : Str := if gap = [] then [] else 10 :: ind
def colon (gap : Str) : Str := if gap = [] then [58] else [58, 32]

def sepIf (nonLast : Bool) (gap ind' : Str) : Str := if nonLast then 44 :: nl gap ind' else []

mutual
def ser (gap ind : Str) : JVal → Str
  | .null => [110, 117, 108, 108]
  | .bool true => [116, 114, 117, 101]
  | .bool false => [102, 97, 108, 115, 101]
  | .num l => l
  | .str s => quote s
  | .arr xs =>
    if xs.isEmpty then [91, 93]
    else 91 :: (nl gap (ind ++ gap) ++ serElems gap ind (ind ++ gap) xs)
  | .obj ms =>
    if ms.isEmpty then [123, 125]
    else 123 :: (nl gap (ind ++ gap) ++ serMembers gap ind (ind ++ gap) ms)
/-- elements at indent `ind'` separated by "," (+ newline and indent), then the closing bracket at indent `ind` -/
def serElems (gap ind ind' : Str) : List JVal → Str
  | [] => nl gap ind ++ [93]
  | v :: t => ser gap ind' v ++ (sepIf (!t.isEmpty) gap ind' ++ serElems gap ind ind' t)
def serMembers (gap ind ind' : Str) : List (Str × JVal) → Str
  | [] => nl gap ind ++ [125]
  | (k, v) :: t =>
    quote k ++ (colon gap ++ (ser gap ind' v ++ (sepIf (!t.isEmpty) gap ind' ++ serMembers gap ind ind' t)))
end

/-- `space` is a Number: min(10, ToIntegerOrInfinity(space)) spaces (argument already truncated to a Nat; negative = 0) -/
def gapOfNumber (n : Nat) : Str := List.replicate (min n 10) 32
/-- `space` is a String: its first 10 code units -/
def gapOfString (s : Str) : Str := s.take 10

def stringify (gap : Str) (v : JVal) : Str := ser gap [] v

/-! ## Replacer allow-list (PropertyList) for JSON-representable values — ECMA-262 §25.5.2 step 4.b, SerializeJSONObject step 5 -/

/-- PropertyList: the items in order, first occurrence of each only -/
def propList (items : List Str) : List Str :=
  items.foldl (fun acc k => if acc.contains k then acc else acc ++ [k]) []

def lookupText (k : Str) : List (Str × Str) → Option Str
  | [] => none
  | (k', x) :: t => if k' = k then some x else lookupText k t

/-- "__proto__" -/
def protoKey : Str := [95, 95, 112, 114, 111, 116, 111, 95, 95]

/-- SerializeJSONProperty reads the member with [[Get]], which also sees inherited properties.  For the plain objects
    of the model (prototype %Object.prototype%) the only inherited property that serialises is the accessor
    `__proto__`: it yields %Object.prototype%, an object whose own `__proto__` accessor yields null and whose other
    properties are functions (skipped).  `protoText` is the text of that object under the same allow-list. -/
def selectTexts (protoText : Str) : List Str → List (Str × Str) → List (Str × Str)
  | [], _ => []
  | k :: pl, mt =>
    match lookupText k mt with
    | some x => (k, x) :: selectTexts protoText pl mt
    | none => if k = protoKey then (k, protoText) :: selectTexts protoText pl mt else selectTexts protoText pl mt

/-- `"key":` (+ space) `text`, separated by "," (+ newline, indent), closed by the brace at indent `ind` -/
def joinMembers (gap ind ind' : Str) : List (Str × Str) → Str
  | [] => nl gap ind ++ [125]
  | (k, x) :: t => quote k ++ (colon gap ++ (x ++ (sepIf (!t.isEmpty) gap ind' ++ joinMembers gap ind ind' t)))

def assembleObj (gap ind : Str) (parts : List (Str × Str)) : Str :=
  if parts.isEmpty then [123, 125] else 123 :: (nl gap (ind ++ gap) ++ joinMembers gap ind (ind ++ gap) parts)

mutual
/-- SerializeJSONProperty with a PropertyList `pl` -/
def serP (pl : List Str) (gap ind : Str) : JVal → Str
  | .null => [110, 117, 108, 108]
  | .bool true => [116, 114, 117, 101]
  | .bool false => [102, 97, 108, 115, 101]
  | .num l => l
  | .str s => quote s
  | .arr xs =>
    if xs.isEmpty then [91, 93]
    else 91 :: (nl gap (ind ++ gap) ++ serElemsP pl gap ind (ind ++ gap) xs)
  | .obj ms =>
    assembleObj gap ind
      (selectTexts (assembleObj gap (ind ++ gap) [(protoKey, [110, 117, 108, 108])]) pl (memberTexts pl gap (ind ++ gap) ms))
def serElemsP (pl : List Str) (gap ind ind' : Str) : List JVal → Str
  | [] => nl gap ind ++ [93]
  | v :: t => serP pl gap ind' v ++ (sepIf (!t.isEmpty) gap ind' ++ serElemsP pl gap ind ind' t)
/-- text of every member value (SerializeJSONProperty(P, value) for the keys the object has) -/
def memberTexts (pl : List Str) (gap ind' : Str) : List (Str × JVal) → List (Str × Str)
  | [] => []
  | (k, v) :: t => (k, serP pl gap ind' v) :: memberTexts pl gap ind' t
end

def stringifyPL (items : List Str) (gap : Str) (v : JVal) : Str := serP (propList items) gap [] v

/-! the same as a projection of the value -/

def lookupKey (k : Str) : List (Str × JVal) → Option JVal
  | [] => none
  | (k', v) :: t => if k' = k then some v else lookupKey k t

/-- %Object.prototype% as seen through an allow-list that contains "__proto__" -/
def protoProj : JVal := .obj [(protoKey, .null)]

def selectMembers : List Str → List (Str × JVal) → List (Str × JVal)
  | [], _ => []
  | k :: pl, ms =>
    match lookupKey k ms with
    | some v => (k, v) :: selectMembers pl ms
    | none => if k = protoKey then (k, protoProj) :: selectMembers pl ms else selectMembers pl ms

mutual
/-- the value restricted, at every object level, to the keys of the list, in list order -/
def project (pl : List Str) : JVal → JVal
  | .null => .null
  | .bool b => .bool b
  | .num l => .num l
  | .str s => .str s
  | .arr xs => .arr (projectList pl xs)
  | .obj ms => .obj (selectMembers pl (projectMembers pl ms))
def projectList (pl : List Str) : List JVal → List JVal
  | [] => []
  | v :: t => project pl v :: projectList pl t
def projectMembers (pl : List Str) : List (Str × JVal) → List (Str × JVal)
  | [] => []
  | (k, v) :: t => (k, project pl v) :: projectMembers pl t
end

/-! ## Exact decimal → double (driver only) -/

structure Dec where
  neg : Bool
  mant : Nat
  exp : Int

def splitAt (p : Nat → Bool) : Str → Str × Str
  | [] => ([], [])
  | c :: r => if p c then ([], c :: r) else (c :: (splitAt p r).1, (splitAt p r).2)

/-- decode a valid number lexeme -/
def decode (l : Str) : Dec :=
  let (neg, l1) := match l with | 45 :: r => (true, r) | _ => (false, l)
  let (mantPart, expPart) := splitAt (fun c => c == 101 || c == 69) l1
  let (ip, fp0) := splitAt (fun c => c == 46) mantPart
  let fp := fp0.drop 1
  -- exponent digits without leading zeros; more than 30 significant digits: the sign of the exponent decides alone
  let expMag (ds : Str) : Int :=
    let sig := ds.dropWhile (· == 48)
    if sig.length > 30 then (10 : Int) ^ 30 else Int.ofNat (digitsVal sig 0)
  let e : Int := match expPart with
    | _ :: 45 :: ds => - expMag ds
    | _ :: 43 :: ds => expMag ds
    | _ :: ds => expMag ds
    | [] => 0
  { neg := neg, mant := digitsVal (ip ++ fp) 0, exp := e - Int.ofNat fp.length }

def numDigits (n : Nat) : Nat := (Nat.toDigits 10 n).length

/-- round-half-even quotient of a / b (b > 0) -/
def divRne (a b : Nat) : Nat :=
  let q := a / b
  let r := a % b
  if 2 * r < b then q else if 2 * r > b then q + 1 else (if q % 2 == 0 then q else q + 1)

def decToBits (d : Dec) : Nat :=
  let sign : Nat := if d.neg then 2 ^ 63 else 0
  let inf : Nat := 0x7FF0000000000000
  if d.mant == 0 then sign
  else
    let nd : Int := Int.ofNat (numDigits d.mant)
    if d.exp + nd > 320 then sign + inf
    else if d.exp + nd < -340 then sign
    else
      let num : Nat := if d.exp ≥ 0 then d.mant * 10 ^ d.exp.toNat else d.mant
      let den : Nat := if d.exp ≥ 0 then 1 else 10 ^ (-d.exp).toNat
      -- E = floor(log2(num/den))
      let est : Int := Int.ofNat num.log2 - Int.ofNat den.log2
      let ge (e : Int) : Bool := if e ≥ 0 then num ≥ den * 2 ^ e.toNat else num * 2 ^ (-e).toNat ≥ den
      let E : Int := if ge est then est else est - 1
      let ulp : Int := if E - 52 < -1074 then -1074 else E - 52
      let m : Nat := if ulp ≥ 0 then divRne num (den * 2 ^ ulp.toNat) else divRne (num * 2 ^ (-ulp).toNat) den
      let bits : Nat := (ulp + 1074).toNat * 2 ^ 52 + m
      if bits ≥ inf then sign + inf else sign + bits

def lexToBits (l : Str) : Nat := decToBits (decode l)

end GojaModel.C19
