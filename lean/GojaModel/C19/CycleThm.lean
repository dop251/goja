/-
  C19: the cycle detection of `str` (Cycle.strC: stack lookup, push, deferred pop on every way out) refines the
  specification: TypeError iff an object is reached while it is its own ancestor; the stack is handed back unchanged.
-/
import GojaModel.C19.Cycle
import GojaModel.C19.MechThm

namespace GojaModel.C19

def okC (r : Str × Str × Bool) (st : List Nat) : CRes := .ok r.1 r.2.1 r.2.2 st

def CycOK (gap : Str) (v : CVal) : Prop :=
  ∀ st buf ind, strC gap v st buf ind = if cyc st v then .typeError else okC (strM gap (erase v) buf ind) st

theorem eraseL_isEmpty (xs : List CVal) : (eraseL xs).isEmpty = xs.isEmpty := by
  cases xs <;> simp [eraseL]

theorem jaLoopC_ok (gap sep : Str) (xs : List CVal) (h : ∀ v ∈ xs, CycOK gap v) :
    ∀ st buf ind, jaLoopC gap sep xs st buf ind =
      if cycL st xs then .typeError
      else .ok (jaLoop gap sep (eraseL xs) buf ind).1 (jaLoop gap sep (eraseL xs) buf ind).2 st := by
  induction xs with
  | nil => intro st buf ind; simp [jaLoopC, cycL, eraseL, jaLoop]
  | cons v t ih =>
    intro st buf ind
    have hv := h v (by simp) st buf ind
    have iht := ih (fun x hx => h x (by simp [hx]))
    rw [jaLoopC, hv]
    cases hb : cyc st v with
    | true => simp [cycL, hb]
    | false =>
      simp only [Bool.false_eq_true, if_false, okC, cycL, hb, Bool.false_or, eraseL, jaLoop, eraseL_isEmpty]
      rw [iht]

theorem joLoopC_ok (gap sep : Str) (ms : List (Str × CVal)) (h : ∀ p ∈ ms, CycOK gap p.2) :
    ∀ st buf ind empty, joLoopC gap sep ms st buf ind empty =
      if cycM st ms then .typeError
      else .ok (joLoop gap sep (eraseM ms) buf ind empty).1 (joLoop gap sep (eraseM ms) buf ind empty).2.1
             (joLoop gap sep (eraseM ms) buf ind empty).2.2 st := by
  induction ms with
  | nil => intro st buf ind empty; simp [joLoopC, cycM, eraseM, joLoop]
  | cons a t ih =>
    obtain ⟨k, v⟩ := a
    intro st buf ind empty
    have hv := h (k, v) (by simp) st (buf ++ ((if empty then [] else sep) ++ (quote k ++ colon gap))) ind
    have iht := ih (fun x hx => h x (by simp [hx]))
    rw [joLoopC, hv]
    cases hb : cyc st v with
    | true => simp [cycM, hb]
    | false =>
      simp only [Bool.false_eq_true, if_false, okC, cycM, hb, Bool.false_or, eraseM]
      rw [joLoop]
      cases (strM gap (erase v) (buf ++ ((if empty then [] else sep) ++ (quote k ++ colon gap))) ind).2.2 with
      | true => simp only [if_true]; rw [iht]
      | false => simp only [Bool.false_eq_true, if_false]; rw [iht]

mutual
theorem cycOK (gap : Str) : ∀ v : CVal, CycOK gap v
  | .undef | .leaf _ => by intro st buf ind; simp [strC, cyc, erase, strM, okC]
  | .fn id => by
    intro st buf ind
    by_cases hm : id ∈ st
    · simp [strC, cyc, hm]
    · simp [strC, cyc, hm, erase, strM, okC]
  | .arr id xs => by
    intro st buf ind
    by_cases hm : id ∈ st
    · simp [strC, cyc, hm]
    · have hc' : st.contains id = false := by simpa using hm
      cases xs with
      | nil => simp [strC, cyc, hm, cycL, erase, eraseL, strM, okC]
      | cons a t =>
        have hl := jaLoopC_ok gap (44 :: nl gap (ind ++ gap)) (a :: t) (cycOK_list gap (a :: t)) (id :: st)
          (buf ++ (91 :: nl gap (ind ++ gap))) (ind ++ gap)
        simp only [strC, hc', Bool.false_eq_true, if_false, List.isEmpty_cons, hl, cyc, Bool.false_or]
        rcases Bool.eq_false_or_eq_true (cycL (id :: st) (a :: t)) with hb | hb
        · simp [hb]
        · simp [hb, erase, strM, okC, eraseL]
  | .obj id ms => by
    intro st buf ind
    by_cases hm : id ∈ st
    · simp [strC, cyc, hm]
    · have hc' : st.contains id = false := by simpa using hm
      have hl := joLoopC_ok gap (44 :: nl gap (ind ++ gap)) ms (cycOK_members gap ms) (id :: st)
        (buf ++ (123 :: nl gap (ind ++ gap))) (ind ++ gap) true
      simp only [strC, hc', Bool.false_eq_true, if_false, hl, cyc, Bool.false_or]
      rcases Bool.eq_false_or_eq_true (cycM (id :: st) ms) with hb | hb
      · simp [hb]
      · simp [hb, erase, strM, okC]
theorem cycOK_list (gap : Str) : ∀ xs : List CVal, ∀ v ∈ xs, CycOK gap v
  | [], _, h => by cases h
  | a :: t, v, h => by
    cases h with
    | head => exact cycOK gap a
    | tail _ h' => exact cycOK_list gap t v h'
theorem cycOK_members (gap : Str) : ∀ ms : List (Str × CVal), ∀ p ∈ ms, CycOK gap p.2
  | [], _, h => by cases h
  | (k, a) :: t, p, h => by
    cases h with
    | head => exact cycOK gap a
    | tail _ h' => exact cycOK_members gap t p h'
end

/-- the case `[f, f]` of the seeded change C19-m2 -/
theorem shared_reference_is_not_a_cycle (id : Nat) (x : CVal) (hx : cyc [id] x = false) :
    cyc [] (.arr id [x, x]) = false := by
  simp [cyc, cycL, hx]

end GojaModel.C19
