/-
  C19: the UTF-8 view of a JSON text — the documented exception of goja (README §JSON: "JSON.parse() uses the standard Go
  library which operates in UTF-8. Therefore, it cannot correctly parse broken UTF-16 surrogate pairs").

  builtin_json.go:21 converts the argument with `toString().String()`: every raw lone surrogate of the text becomes U+FFFD;
  encoding/json's unquote then turns every `\uXXXX` escape that denotes a surrogate and is not part of an escaped
  high+low pair into U+FFFD as well.  `fixText` performs exactly these two substitutions on the text; goja's JSON.parse
  is `gojaParse N t = (token-stream parser on fixText t) then object building`.
-/
import GojaModel.C19.Tok

namespace GojaModel.C19

/-- raw lone surrogates → U+FFFD -/
def fixLone : Str → Str
  | [] => []
  | [h] => if isHigh h || isLow h then [0xFFFD] else [h]
  | h :: l :: r =>
    if isHigh h && isLow l then h :: l :: fixLone r
    else (if isHigh h || isLow h then 0xFFFD else h) :: fixLone (l :: r)
termination_by s => s.length

theorem fixLone_id : ∀ (t : Str), (∀ u ∈ t, isHigh u = false ∧ isLow u = false) → fixLone t = t
  | [], _ => by simp [fixLone]
  | [h], hh => by
    have := hh h (by simp)
    simp [fixLone, this.1, this.2]
  | h :: l :: r, hh => by
    have hx := hh h (by simp)
    have ih := fixLone_id (l :: r) (fun u hu => hh u (List.mem_cons_of_mem _ hu))
    rw [fixLone]
    simp [hx.1, hx.2, ih]

/-- a `\uXXXX` escape denoting a surrogate at the head: its value and the text after it -/
def surrEsc? : Str → Option (Nat × Str)
  | 92 :: 117 :: a :: b :: c :: d :: r =>
    match hex4Val a b c d with
    | some u => if isHigh u || isLow u then some (u, r) else none
    | none => none
  | _ => none

theorem surrEsc?_length {s : Str} {u : Nat} {r : Str} (h : surrEsc? s = some (u, r)) : r.length + 6 = s.length := by
  unfold surrEsc? at h
  split at h
  · rename_i a b c d r'
    split at h
    · split at h
      · injection h with h1; injection h1 with _ h2; subst h2; simp
      · cases h
    · cases h
  · cases h

def fffdEsc : Str := [92, 117, 102, 102, 102, 100]

/-- escaped surrogates outside an escaped high+low pair → `�`; backslash pairs are skipped as units -/
def fixEsc (s : Str) : Str :=
  match s with
  | [] => []
  | c :: t =>
    if c = 92 then
      match h1 : surrEsc? (c :: t) with
      | some (u, r) =>
        if isHigh u then
          match h2 : surrEsc? r with
          | some (l, r2) => if isLow l then (c :: t).take 12 ++ fixEsc r2 else fffdEsc ++ fixEsc r
          | none => fffdEsc ++ fixEsc r
        else fffdEsc ++ fixEsc r
      | none =>
        match t with
        | e :: r => c :: e :: fixEsc r
        | [] => [c]
    else c :: fixEsc t
termination_by s.length
decreasing_by
  all_goals simp_wf
  all_goals first
    | (have := surrEsc?_length h1; have := surrEsc?_length h2; simp at *; omega)
    | (have := surrEsc?_length h1; simp at *; omega)
    | (simp at *; omega)
    | omega

/-- the text as goja's UTF-8 based tokenizer sees it -/
def fixText (t : Str) : Str := fixEsc (fixLone t)

/-- goja's JSON.parse without reviver: UTF-8 view, token-stream parser, object building -/
def gojaParse (N : NumCanon) (t : Str) : Option JVal :=
  match gojaParseRaw (fixText t) with
  | some v => some (build N v)
  | none => none

end GojaModel.C19
