/-
  C19, mechanism level: the cycle detection of `str` (builtin_json.go:390–397) — every *Object that reaches the final type
  switch is looked up in `ctx.stack` (TypeError "Converting circular structure to JSON" if present), pushed, and popped
  again by the deferred function on EVERY way out, including the early `return false` for a callable.

  Values carry object identities (`id`); the same identity may occur several times (shared references) and on its own
  path (a back-reference, i.e. a cycle, which the walk never enters).  Leaves carry their text.
  Specification (ECMA-262 §25.5.2.4/5 step 1): TypeError iff a container is reached while it is one of its own
  ancestors — siblings and earlier subtrees never count.
-/
import GojaModel.C19.Mech

namespace GojaModel.C19

inductive CVal where
  | undef
  | leaf (text : Str)                       -- null / boolean / number / string: `str` appends this text
  | fn (id : Nat)                           -- a callable object: pushed, `return false`, popped
  | arr (id : Nat) (xs : List CVal)
  | obj (id : Nat) (ms : List (Str × CVal))

inductive CRes where
  | ok (buf ind : Str) (b : Bool) (stack : List Nat)
  | typeError

inductive CLoop where
  | ok (buf ind : Str) (stack : List Nat)
  | typeError

inductive CLoopO where
  | ok (buf ind : Str) (empty : Bool) (stack : List Nat)
  | typeError

mutual
/-- `str` from the final type switch on: stack check, push, serialise, pop (the deferred function) -/
def strC (gap : Str) : CVal → List Nat → Str → Str → CRes
  | .undef, st, buf, ind => .ok buf ind false st
  | .leaf t, st, buf, ind => .ok (buf ++ t) ind true st
  | .fn id, st, buf, ind =>
    if st.contains id then .typeError
    else .ok buf ind false (id :: st).tail                      -- push; callable ⇒ return false; deferred pop
  | .arr id xs, st, buf, ind =>
    if st.contains id then .typeError
    else if xs.isEmpty then .ok (buf ++ [91, 93]) ind true (id :: st).tail
    else
      match jaLoopC gap (44 :: nl gap (ind ++ gap)) xs (id :: st) (buf ++ (91 :: nl gap (ind ++ gap))) (ind ++ gap) with
      | .ok b _ st' => .ok (b ++ (nl gap ind ++ [93])) ind true st'.tail
      | .typeError => .typeError
  | .obj id ms, st, buf, ind =>
    if st.contains id then .typeError
    else
      match joLoopC gap (44 :: nl gap (ind ++ gap)) ms (id :: st) (buf ++ (123 :: nl gap (ind ++ gap))) (ind ++ gap) true with
      | .ok b _ empty st' => .ok (if empty then (buf ++ [123]) ++ [125] else b ++ (nl gap ind ++ [125])) ind true st'.tail
      | .typeError => .typeError
def jaLoopC (gap sep : Str) : List CVal → List Nat → Str → Str → CLoop
  | [], st, buf, ind => .ok buf ind st
  | v :: t, st, buf, ind =>
    match strC gap v st buf ind with
    | .ok b i okv st' =>
      jaLoopC gap sep t st' ((if okv then b else b ++ [110, 117, 108, 108]) ++ (if t.isEmpty then [] else sep)) i
    | .typeError => .typeError
def joLoopC (gap sep : Str) : List (Str × CVal) → List Nat → Str → Str → Bool → CLoopO
  | [], st, buf, ind, empty => .ok buf ind empty st
  | (k, v) :: t, st, buf, ind, empty =>
    match strC gap v st (buf ++ ((if empty then [] else sep) ++ (quote k ++ colon gap))) ind with
    | .ok b i okv st' => if okv then joLoopC gap sep t st' b i false else joLoopC gap sep t st' (b.take buf.length) i empty
    | .typeError => .typeError
end

/-! specification -/

mutual
/-- is some object reached while it is among its own ancestors `anc`? -/
def cyc (anc : List Nat) : CVal → Bool
  | .fn id => anc.contains id
  | .arr id xs => anc.contains id || cycL (id :: anc) xs
  | .obj id ms => anc.contains id || cycM (id :: anc) ms
  | _ => false
def cycL (anc : List Nat) : List CVal → Bool
  | [] => false
  | v :: t => cyc anc v || cycL anc t
def cycM (anc : List Nat) : List (Str × CVal) → Bool
  | [] => false
  | (_, v) :: t => cyc anc v || cycM anc t
end

mutual
/-- forget the identities (a leaf's text is carried verbatim, as `MVal.num` does) -/
def erase : CVal → MVal
  | .undef => .undef
  | .leaf t => .num t
  | .fn _ => .undef
  | .arr _ xs => .arr (eraseL xs)
  | .obj _ ms => .obj (eraseM ms)
def eraseL : List CVal → List MVal
  | [] => []
  | v :: t => erase v :: eraseL t
def eraseM : List (Str × CVal) → List (Str × MVal)
  | [] => []
  | (k, v) :: t => (k, erase v) :: eraseM t
end

end GojaModel.C19
