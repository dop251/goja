/-
  C19: SerializeJSONProperty with a replacer FUNCTION and toJSON (ECMA-262 §25.5.2.2 steps 2–3), as state
  transformers, so that call order, the holder / key arguments and the substitution of results are part of the model.

    builtin_json.go:302 str():  value := holder.get(key); toJSON (objects, BigInt) → replacerFunction(holder, key, value)
                                → unwrap → serialise (ja :413 / jo :454 recurse with the NEW value as holder)

  Values are plain data (`JVal`); `none` stands for undefined.  toJSON is modelled at prototype level: `hasTJ v` says
  whether GetV(v, "toJSON") is callable for the container `v` (e.g. Array.prototype.toJSON / Object.prototype.toJSON).
-/
import GojaModel.C19.Reviver

namespace GojaModel.C19

structure Hooks (σ : Type) where
  /-- GetV(value, "toJSON") is callable (asked for arrays and objects only: primitives other than BigInt never are) -/
  hasTJ : JVal → Bool
  /-- Call(toJSON, value, «key») — `this` is the value -/
  toJSON : σ → Str → JVal → σ × Option JVal
  /-- Call(ReplacerFunction, holder, «key, value») — `this` is the holder; the value may be undefined -/
  repl : Option (σ → JVal → Str → Option JVal → σ × Option JVal)

def isContainer : JVal → Bool
  | .arr _ => true
  | .obj _ => true
  | _ => false

/-- steps 2 and 3 of SerializeJSONProperty: toJSON, then the replacer function -/
def pre {σ : Type} (H : Hooks σ) (s : σ) (holder : JVal) (key : Str) (value : JVal) : σ × Option JVal :=
  let a : σ × Option JVal := if isContainer value && H.hasTJ value then H.toJSON s key value else (s, some value)
  match H.repl with
  | some R => R a.1 holder key a.2
  | none => a

def nullText : Str := [110, 117, 108, 108]

def joinElems (gap ind ind' : Str) : List Str → Str
  | [] => nl gap ind ++ [93]
  | x :: t => x ++ (sepIf (!t.isEmpty) gap ind' ++ joinElems gap ind ind' t)

def assembleArr (gap ind : Str) (parts : List Str) : Str :=
  if parts.isEmpty then [91, 93] else 91 :: (nl gap (ind ++ gap) ++ joinElems gap ind (ind ++ gap) parts)

mutual
/-- SerializeJSONProperty(state, key, holder) where holder[key] = value; outer `none` = out of fuel (the walk of a
    replacer that keeps producing new containers does not terminate in JavaScript either) -/
def serH {σ : Type} (H : Hooks σ) (gap : Str) : Nat → Str → σ → JVal → Str → JVal → Option (σ × Option Str)
  | 0, _, _, _, _, _ => none
  | f + 1, ind, s, holder, key, value =>
    match (pre H s holder key value).2 with
    | none => some ((pre H s holder key value).1, none)
    | some (.arr xs) =>
      (match serElemsH H gap f (ind ++ gap) (pre H s holder key value).1 (.arr xs) 0 xs with
       | some (s3, parts) => some (s3, some (assembleArr gap ind parts))
       | none => none)
    | some (.obj ms) =>
      (match serMembersH H gap f (ind ++ gap) (pre H s holder key value).1 (.obj ms) ms with
       | some (s3, parts) => some (s3, some (assembleObj gap ind parts))
       | none => none)
    | some x => some ((pre H s holder key value).1, some (ser gap ind x))
/-- SerializeJSONArray: every index in ascending order; undefined ⇒ "null" -/
def serElemsH {σ : Type} (H : Hooks σ) (gap : Str) : Nat → Str → σ → JVal → Nat → List JVal → Option (σ × List Str)
  | _, _, s, _, _, [] => some (s, [])
  | 0, _, _, _, _, _ :: _ => none
  | f + 1, ind', s, h, i, v :: t =>
    match serH H gap f ind' s h (idxKey i) v with
    | none => none
    | some (s1, o) =>
      match serElemsH H gap f ind' s1 h (i + 1) t with
      | none => none
      | some (s2, parts) => some (s2, (match o with | some x => x | none => nullText) :: parts)
/-- SerializeJSONObject: every key in order; undefined ⇒ the member is left out -/
def serMembersH {σ : Type} (H : Hooks σ) (gap : Str) : Nat → Str → σ → JVal → List (Str × JVal) → Option (σ × List (Str × Str))
  | _, _, s, _, [] => some (s, [])
  | 0, _, _, _, _ :: _ => none
  | f + 1, ind', s, h, (k, v) :: t =>
    match serH H gap f ind' s h k v with
    | none => none
    | some (s1, o) =>
      match serMembersH H gap f ind' s1 h t with
      | none => none
      | some (s2, parts) => some (s2, match o with | some x => (k, x) :: parts | none => parts)
end

/-- the wrapper object `{"": value}` that is the holder of the root -/
def rootHolder (v : JVal) : JVal := .obj [([], v)]

/-- JSON.stringify(value, replacerFunction, gap) with toJSON hooks -/
def stringifyH {σ : Type} (H : Hooks σ) (gap : Str) (fuel : Nat) (s : σ) (v : JVal) : Option (σ × Option Str) :=
  serH H gap fuel [] s (rootHolder v) [] v

/-! the same walk producing the VALUE that ends up serialised (results substituted, undefined members dropped,
    undefined elements → null) -/

mutual
def rewH {σ : Type} (H : Hooks σ) : Nat → σ → JVal → Str → JVal → Option (σ × Option JVal)
  | 0, _, _, _, _ => none
  | f + 1, s, holder, key, value =>
    match (pre H s holder key value).2 with
    | none => some ((pre H s holder key value).1, none)
    | some (.arr xs) =>
      (match rewElemsH H f (pre H s holder key value).1 (.arr xs) 0 xs with
       | some (s3, ys) => some (s3, some (.arr ys))
       | none => none)
    | some (.obj ms) =>
      (match rewMembersH H f (pre H s holder key value).1 (.obj ms) ms with
       | some (s3, ns) => some (s3, some (.obj ns))
       | none => none)
    | some x => some ((pre H s holder key value).1, some x)
def rewElemsH {σ : Type} (H : Hooks σ) : Nat → σ → JVal → Nat → List JVal → Option (σ × List JVal)
  | _, s, _, _, [] => some (s, [])
  | 0, _, _, _, _ :: _ => none
  | f + 1, s, h, i, v :: t =>
    match rewH H f s h (idxKey i) v with
    | none => none
    | some (s1, o) =>
      match rewElemsH H f s1 h (i + 1) t with
      | none => none
      | some (s2, ys) => some (s2, (match o with | some x => x | none => .null) :: ys)
def rewMembersH {σ : Type} (H : Hooks σ) : Nat → σ → JVal → List (Str × JVal) → Option (σ × List (Str × JVal))
  | _, s, _, [] => some (s, [])
  | 0, _, _, _ :: _ => none
  | f + 1, s, h, (k, v) :: t =>
    match rewH H f s h k v with
    | none => none
    | some (s1, o) =>
      match rewMembersH H f s1 h t with
      | none => none
      | some (s2, ns) => some (s2, match o with | some x => (k, x) :: ns | none => ns)
end

/-! the calls of the replacer function, in order: (holder, key) — pre-order: a property before the properties of its value -/

mutual
def preCalls : JVal → Str → JVal → List (JVal × Str)
  | h, k, .arr xs => (h, k) :: preCallsElems (.arr xs) 0 xs
  | h, k, .obj ms => (h, k) :: preCallsMembers (.obj ms) ms
  | h, k, _ => [(h, k)]
def preCallsElems : JVal → Nat → List JVal → List (JVal × Str)
  | _, _, [] => []
  | h, i, v :: t => preCalls h (idxKey i) v ++ preCallsElems h (i + 1) t
def preCallsMembers : JVal → List (Str × JVal) → List (JVal × Str)
  | _, [] => []
  | h, (k, v) :: t => preCalls h k v ++ preCallsMembers h t
end

/-- `function(k, v){ LOG.push([this, k]); return v }` and no toJSON anywhere -/
def logRepl : Hooks (List (JVal × Str)) :=
  { hasTJ := fun _ => false
    toJSON := fun s _ v => (s, some v)
    repl := some (fun log h k v => (log ++ [(h, k)], v)) }

/-- no replacer function, no toJSON -/
def noHooks : Hooks Unit :=
  { hasTJ := fun _ => false, toJSON := fun s _ v => (s, some v), repl := none }

end GojaModel.C19
