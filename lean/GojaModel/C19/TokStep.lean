/-
  C19: what one call of `Token()` (Tok.lean) returns, state by state.  `tokenStep` dispatches on the first unit after
  white space and only then on the state; the proofs about decodeValue / decodeArray / decodeObject know the state and
  ask for the unit.  The equations below turn the dispatch round once; the other files use `token` only through them.
  The second half does the same for decodeValue / decodeArray / decodeObject: with `Token()` resolved, they are a
  recursive-descent reader over the text, the token state telling where in a list a loop stands.
-/
import GojaModel.C19.Tok
namespace GojaModel.C19

variable {f : Nat} {s r : Str} {c : Nat} {st : TState} {stk : List TState}

theorem tokenStep_eof (hk : skipWs s = []) : tokenStep ⟨s, st, stk⟩ = .done .eof := by
  simp only [tokenStep, hk]

theorem tokenStep_value (hst : valueAllowed st = true) (hk : skipWs s = c :: r) :
    tokenStep ⟨s, st, stk⟩ = .done
      (if c = 91 then .tok (.delim 91) ⟨r, .arrayStart, st :: stk⟩
       else if c = 93 then (if st = .arrayStart then .tok (.delim 93) (popState ⟨s, st, stk⟩ r) else .err)
       else if c = 123 then .tok (.delim 123) ⟨r, .objectStart, st :: stk⟩
       else if c = 125 ∨ c = 58 ∨ c = 44 then .err
       else match scanScalar (c :: r) with
         | some (v, r') => .tok (.val v) ⟨r', valueEnd st, stk⟩
         | none => .err) := by
  have n : st ≠ .arrayComma ∧ st ≠ .objectStart ∧ st ≠ .objectKey ∧ st ≠ .objectColon ∧ st ≠ .objectComma := by
    cases st <;> simp [valueAllowed] at hst ⊢
  simp only [tokenStep, hk, hst, n, if_true, if_false, or_false, and_false]
  by_cases c1 : c = 91
  · simp [c1]
  by_cases c2 : c = 93
  · by_cases h : st = .arrayStart <;> simp [c2, h]
  by_cases c3 : c = 123
  · simp [c3]
  by_cases c4 : c = 125
  · simp [c4]
  by_cases c5 : c = 58
  · simp [c5]
  by_cases c6 : c = 44
  · simp [c6]
  · simp only [c1, c2, c3, c4, c5, c6, if_false, or_self]
    cases scanScalar (c :: r) <;> rfl

theorem tokenStep_key (hO : st = .objectStart ∨ st = .objectKey) (hk : skipWs s = c :: r) :
    tokenStep ⟨s, st, stk⟩ = .done
      (if c = 125 then (if st = .objectStart then .tok (.delim 125) (popState ⟨s, st, stk⟩ r) else .err)
       else if c = 34 then
         match parseStrBody r with
         | some (k, r') => .tok (.val (.str k)) ⟨r', .objectColon, stk⟩
         | none => .err
       else .err) := by
  have n : valueAllowed st = false ∧ st ≠ .arrayStart ∧ st ≠ .arrayComma ∧ st ≠ .objectColon ∧ st ≠ .objectComma := by
    rcases hO with rfl | rfl <;> decide
  simp only [tokenStep, hk, hO, n, if_false, or_false, and_true, or_self]
  by_cases c4 : c = 125
  · by_cases h : st = .objectStart <;> simp [c4, h]
  by_cases c7 : c = 34
  · simp only [c7]; cases parseStrBody r <;> rfl
  · simp [c4, c7]

theorem token_of_done {d : Decoder} {t : TRes} (h : tokenStep d = .done t) : token d = t := by
  rw [token, h]

theorem token_eof (hk : skipWs s = []) : token ⟨s, st, stk⟩ = .eof :=
  token_of_done (tokenStep_eof hk)

/-- what the trailing-token check of builtinJSON_parse relies on -/
theorem token_top_eof {r : Str} {stk : List TState} (h : token ⟨r, .topValue, stk⟩ = .eof) : skipWs r = [] := by
  cases hk : skipWs r with
  | nil => rfl
  | cons c tl =>
    rw [token_of_done (tokenStep_value rfl hk)] at h
    repeat' split at h
    all_goals cases h

/-- the states entered by `continue` after a separator are states in which a pass ends: `Token()` loops at most once -/
theorem tokenStep_done (hst : valueAllowed st = true ∨ st = .objectKey) (s : Str) (stk : List TState) :
    tokenStep ⟨s, st, stk⟩ = .done (token ⟨s, st, stk⟩) := by
  cases hk : skipWs s with
  | nil => rw [token_eof hk, tokenStep_eof hk]
  | cons c r =>
    rcases hst with h | h
    · rw [token_of_done (tokenStep_value h hk), tokenStep_value h hk]
    · rw [token_of_done (tokenStep_key (Or.inr h) hk), tokenStep_key (Or.inr h) hk]

theorem token_again {d d' : Decoder} (h : tokenStep d = .again d') (h' : tokenStep d' = .done (token d')) :
    token d = token d' := by
  rw [token, h]; simp only; rw [h']

theorem token_arrayComma (hk : skipWs s = c :: r) :
    token ⟨s, .arrayComma, stk⟩ =
      if c = 93 then .tok (.delim 93) (popState ⟨s, .arrayComma, stk⟩ r)
      else if c = 44 then token ⟨r, .arrayValue, stk⟩ else .err := by
  by_cases c2 : c = 93
  · exact token_of_done (by simp [tokenStep, hk, c2])
  by_cases c6 : c = 44
  · rw [token_again (d' := ⟨r, .arrayValue, stk⟩) (by simp [tokenStep, hk, c6]) (tokenStep_done (Or.inl rfl) r stk)]
    simp [c6]
  · exact token_of_done (by simp [tokenStep, valueAllowed, hk, c2, c6])

theorem token_objectComma (hk : skipWs s = c :: r) :
    token ⟨s, .objectComma, stk⟩ =
      if c = 125 then .tok (.delim 125) (popState ⟨s, .objectComma, stk⟩ r)
      else if c = 44 then token ⟨r, .objectKey, stk⟩ else .err := by
  by_cases c4 : c = 125
  · exact token_of_done (by simp [tokenStep, hk, c4])
  by_cases c6 : c = 44
  · rw [token_again (d' := ⟨r, .objectKey, stk⟩) (by simp [tokenStep, hk, c6]) (tokenStep_done (Or.inr rfl) r stk)]
    simp [c6]
  · exact token_of_done (by simp [tokenStep, valueAllowed, hk, c4, c6])

theorem token_objectColon (hk : skipWs s = c :: r) :
    token ⟨s, .objectColon, stk⟩ = if c = 58 then token ⟨r, .objectValue, stk⟩ else .err := by
  by_cases c5 : c = 58
  · rw [token_again (d' := ⟨r, .objectValue, stk⟩) (by simp [tokenStep, hk, c5]) (tokenStep_done (Or.inl rfl) r stk)]
    simp [c5]
  · exact token_of_done (by simp [tokenStep, valueAllowed, hk, c5])

theorem gValue_of_token {d d' : Decoder} (h : token d = token d') : gValue (f + 1) d = gValue (f + 1) d' := by
  simp [gValue, h]

theorem gArray_of_token {d d' : Decoder} (h : token d = token d') : gArray (f + 1) d = gArray (f + 1) d' := by
  simp [gArray, h]

theorem gObject_of_token {d d' : Decoder} (h : token d = token d') : gObject (f + 1) d = gObject (f + 1) d' := by
  simp [gObject, h]

theorem gArray_step {d d1 : Decoder} {t : Tok} (ht : token d = .tok t d1) (hne : t ≠ .delim 93) :
    gArray (f + 1) d =
      match gToken f t d1 with
      | some (v, d2) => (match gArray f d2 with
                         | some (xs, d3) => some (v :: xs, d3)
                         | none => none)
      | none => none := by
  rw [gArray, ht]
  cases t with
  | val v => rfl
  | delim c =>
    by_cases hc : c = 93
    · subst hc; exact absurd rfl hne
    · split
      · rename_i heq; injection heq with h1 _; injection h1 with h2; exact absurd h2 hc
      · rename_i heq; injection heq with h1 h2; subst h1; subst h2; rfl
      · rename_i _ h; exact (h _ _ rfl).elim

theorem valueEnd_arrayEntry {stA : TState} (h : stA = .arrayStart ∨ stA = .arrayValue) :
    valueAllowed stA = true ∧ valueEnd stA = .arrayComma := by
  rcases h with rfl | rfl <;> exact ⟨rfl, rfl⟩

theorem gValue_eof (hk : skipWs s = []) : gValue (f + 1) ⟨s, st, stk⟩ = none := by
  rw [gValue, token_eof hk]

theorem gArray_eof (hk : skipWs s = []) : gArray (f + 1) ⟨s, st, stk⟩ = none := by
  rw [gArray, token_eof hk]

theorem gValue_value (hst : valueAllowed st = true) (hk : skipWs s = c :: r) :
    gValue (f + 2) ⟨s, st, stk⟩ =
      if c = 91 then (match gArray f ⟨r, .arrayStart, st :: stk⟩ with | some (xs, d') => some (.arr xs, d') | none => none)
      else if c = 123 then (match gObject f ⟨r, .objectStart, st :: stk⟩ with | some (ms, d') => some (.obj ms, d') | none => none)
      else if c = 93 ∨ c = 125 ∨ c = 58 ∨ c = 44 then none
      else match scanScalar (c :: r) with
        | some (v, r') => some (v, ⟨r', valueEnd st, stk⟩)
        | none => none := by
  rw [gValue, token_of_done (tokenStep_value hst hk)]
  by_cases c1 : c = 91
  · simp [c1, gToken]; cases gArray f ⟨r, .arrayStart, st :: stk⟩ <;> rfl
  by_cases c2 : c = 93
  · by_cases h : st = .arrayStart <;> simp [c2, h, gToken]
  by_cases c3 : c = 123
  · simp [c3, gToken]; cases gObject f ⟨r, .objectStart, st :: stk⟩ <;> rfl
  by_cases c456 : c = 125 ∨ c = 58 ∨ c = 44
  · simp [c1, c2, c3, c456]
  · simp only [c1, c2, c3, c456, if_false, false_or]
    cases scanScalar (c :: r) with
    | none => rfl
    | some q => simp [gToken]

theorem gValue_colon (hk : skipWs s = c :: r) :
    gValue (f + 1) ⟨s, .objectColon, stk⟩ = if c = 58 then gValue (f + 1) ⟨r, .objectValue, stk⟩ else none := by
  by_cases c5 : c = 58
  · rw [if_pos c5]; exact gValue_of_token (by rw [token_objectColon hk, if_pos c5])
  · rw [gValue, token_objectColon hk]; simp [c5]

theorem gObject_eof (hk : skipWs s = []) : gObject (f + 1) ⟨s, st, stk⟩ = none := by
  rw [gObject, token_eof hk]

theorem gObject_entry {stO : TState} (hO : stO = .objectStart ∨ stO = .objectKey) (hk : skipWs s = c :: r) :
    gObject (f + 1) ⟨s, stO, stk⟩ =
      if c = 125 then (if stO = .objectStart then some ([], popState ⟨s, stO, stk⟩ r) else none)
      else if c = 34 then
        match parseStrBody r with
        | some (k, r1) =>
          (match gValue f ⟨r1, .objectColon, stk⟩ with
           | some (v, d2) => (match gObject f d2 with | some (ms, d3) => some ((k, v) :: ms, d3) | none => none)
           | none => none)
        | none => none
      else none := by
  rw [gObject, token_of_done (tokenStep_key hO hk)]
  by_cases c4 : c = 125
  · by_cases h : stO = .objectStart <;> simp [c4, h]
  by_cases c7 : c = 34
  · simp only [c7, if_true]; cases parseStrBody r <;> rfl
  · simp [c4, c7]

theorem gObject_comma (hk : skipWs s = c :: r) :
    gObject (f + 1) ⟨s, .objectComma, stk⟩ =
      if c = 125 then some ([], popState ⟨s, .objectComma, stk⟩ r)
      else if c = 44 then gObject (f + 1) ⟨r, .objectKey, stk⟩ else none := by
  by_cases c4 : c = 125
  · rw [gObject, token_objectComma hk]; simp [c4]
  by_cases c6 : c = 44
  · rw [if_neg c4, if_pos c6]; exact gObject_of_token (by rw [token_objectComma hk, if_neg c4, if_pos c6])
  · rw [gObject, token_objectComma hk]; simp [c4, c6]

theorem gArray_entry {stA : TState} (hA : stA = .arrayStart ∨ stA = .arrayValue) (hk : skipWs s = c :: r) :
    gArray (f + 1) ⟨s, stA, stk⟩ =
      if c = 93 then (if stA = .arrayStart then some ([], popState ⟨s, stA, stk⟩ r) else none)
      else match gValue (f + 1) ⟨s, stA, stk⟩ with
        | some (v, d2) => (match gArray f d2 with | some (xs, d3) => some (v :: xs, d3) | none => none)
        | none => none := by
  have hst := (valueEnd_arrayEntry hA).1
  have ht := token_of_done (tokenStep_value (stk := stk) hst hk)
  by_cases c2 : c = 93
  · rw [gArray, ht]; by_cases h : stA = .arrayStart <;> simp [c2, h]
  · rw [if_neg c2, gValue]
    cases htk : token ⟨s, stA, stk⟩ with
    | eof => rw [gArray, htk]
    | err => rw [gArray, htk]
    | tok t d1 =>
      refine gArray_step htk ?_
      -- the token is not `]`: with `c ≠ 93` no branch of `tokenStep_value` yields it
      rintro rfl
      rw [htk] at ht
      simp only [c2, if_false] at ht
      split at ht
      · cases ht
      split at ht
      · cases ht
      split at ht
      · cases ht
      split at ht <;> cases ht

theorem gArray_comma (hk : skipWs s = c :: r) :
    gArray (f + 1) ⟨s, .arrayComma, stk⟩ =
      if c = 93 then some ([], popState ⟨s, .arrayComma, stk⟩ r)
      else if c = 44 then gArray (f + 1) ⟨r, .arrayValue, stk⟩ else none := by
  by_cases c2 : c = 93
  · rw [gArray, token_arrayComma hk]; simp [c2]
  by_cases c6 : c = 44
  · rw [if_neg c2, if_pos c6]; exact gArray_of_token (by rw [token_arrayComma hk, if_neg c2, if_pos c6])
  · rw [gArray, token_arrayComma hk]; simp [c2, c6]

end GojaModel.C19
