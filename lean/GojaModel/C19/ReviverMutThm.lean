/-
  C19: array-index keys are canonical (`idxOf (idxKey i) = some i`), and the refinement between the two reviver models:
  for a reviver that never edits its holder the editing walk (ReviverMut.walkM) IS the stateful walk of Reviver.lean.
-/
import GojaModel.C19.ReviverMut
import GojaModel.C19.Parser

namespace GojaModel.C19

theorem digitsVal_append (a b : Str) (acc : Nat) : digitsVal (a ++ b) acc = digitsVal b (digitsVal a acc) := by
  induction a generalizing acc with
  | nil => rfl
  | cons c t ih => simp [digitsVal, ih]

theorem idxKey_lt10 (n : Nat) (h : n < 10) : idxKey n = [48 + n] := by
  simp [idxKey, Nat.toDigits_of_lt_base h, Nat.toNat_digitChar_of_lt_ten h]

theorem idxKey_ge10 (n : Nat) (h : 10 ≤ n) : idxKey n = idxKey (n / 10) ++ [48 + n % 10] := by
  simp [idxKey, Nat.toDigits_of_base_le (by decide) h, Nat.toNat_digitChar_of_lt_ten (Nat.mod_lt n (by decide))]

theorem idxKey_spec (n : Nat) :
    (idxKey n).all isDigit = true ∧ digitsVal (idxKey n) 0 = n ∧ ∃ c r, idxKey n = c :: r ∧ (c = 48 → n = 0 ∧ r = []) := by
  induction n using Nat.strongRecOn with
  | _ n ih =>
    by_cases h10 : n < 10
    · rw [idxKey_lt10 n h10]
      refine ⟨by simp [isDigit]; omega, by simp [digitsVal], 48 + n, [], rfl, by intro e; exact ⟨by omega, rfl⟩⟩
    · obtain ⟨a1, a2, c, r, a4, a5⟩ := ih (n / 10) (by omega)
      rw [idxKey_ge10 n (by omega)]
      refine ⟨?_, ?_, c, r ++ [48 + n % 10], by rw [a4]; rfl, ?_⟩
      · simp only [List.all_append, a1, Bool.true_and]
        simp [isDigit]; omega
      · rw [digitsVal_append, a2]
        simp [digitsVal]; omega
      · intro e
        have := (a5 e).1
        omega

theorem idxOf_idxKey (n : Nat) (h : n < 4294967295) : idxOf (idxKey n) = some n := by
  obtain ⟨a1, a2, c, r, a4, a5⟩ := idxKey_spec n
  -- at most ten digits, since n < 10 ^ 10
  have a3 : (idxKey n).length ≤ 10 := by
    rw [idxKey, List.length_map, Nat.length_toDigits_le_iff (by decide) (by decide)]
    omega
  unfold idxOf
  -- `idxOf` matches on the key: the cons form `a4` lets the match reduce, then the key is folded back
  rw [a4]
  simp only []
  rw [← a4]
  have hlead : (c != 48 || r.isEmpty) = true := by
    by_cases hc : c = 48
    · simp [(a5 hc).2]
    · simp [hc]
  simp [a1, hlead, a3, a2, h]

-- a stateful reviver seen as one that may edit its holder and never does; an absent property is not handed to it
def liftM {σ : Type} (R : ReviverS σ) : ReviverM σ := fun s h k v =>
  match v with
  | some x => ((R s k x).1, (R s k x).2, h)
  | none => (s, none, h)

theorem emb_ne_hole (v : JVal) : emb v ≠ .hole := by cases v <;> simp [emb]

theorem embList_length (xs : List JVal) : (embList xs).length = xs.length := by
  induction xs with
  | nil => rfl
  | cons a t ih => simp [embList, ih]

theorem arr_get (done tail : List RVal) (a : RVal) (hi : done.length < 4294967295) (ha : a ≠ .hole) :
    rGet (.arr (done ++ a :: tail)) (idxKey done.length) = some a := by
  simp only [rGet, idxOf_idxKey _ hi]
  have : (done ++ a :: tail)[done.length]? = some a := by simp
  rw [this]
  cases a with
  | hole => exact absurd rfl ha
  | _ => rfl

theorem arr_define (done tail : List RVal) (a b : RVal) (hi : done.length < 4294967295) :
    rDefine (.arr (done ++ a :: tail)) (idxKey done.length) b = .arr (done ++ b :: tail) := by
  simp [rDefine, idxOf_idxKey _ hi]

theorem arr_delete (done tail : List RVal) (a : RVal) (hi : done.length < 4294967295) :
    rDelete (.arr (done ++ a :: tail)) (idxKey done.length) = .arr (done ++ .hole :: tail) := by
  simp [rDelete, idxOf_idxKey _ hi]

def rkeys (ms : List (Str × RVal)) : List Str := ms.map Prod.fst

theorem ownKeys_eq_rkeys (ms : List (Str × RVal)) : ownKeys ms = rkeys ms := by
  induction ms with
  | nil => rfl
  | cons a t ih => obtain ⟨k, v⟩ := a; simp only [ownKeys, ih]; rfl

theorem rkeys_embMembers (ms : List (Str × JVal)) : rkeys (embMembers ms) = ms.map Prod.fst := by
  induction ms with
  | nil => rfl
  | cons a t ih => obtain ⟨k, v⟩ := a; simp [embMembers, rkeys] at ih ⊢; exact ih

theorem not_mem_rkeys_cons {k k' : Str} {v : RVal} {t : List (Str × RVal)} :
    k ∉ rkeys ((k', v) :: t) ↔ k' ≠ k ∧ k ∉ rkeys t := by
  simp [rkeys, eq_comm]

theorem lookupR_none {k : Str} {ms : List (Str × RVal)} (h : k ∉ rkeys ms) : lookupR k ms = none := by
  induction ms with
  | nil => rfl
  | cons a t ih =>
    obtain ⟨h1, h2⟩ := not_mem_rkeys_cons.mp h
    simp [lookupR, h1, ih h2]

theorem obj_get (done tail : List (Str × RVal)) (k : Str) (a : RVal) (hd : k ∉ rkeys done) :
    rGet (.obj (done ++ (k, a) :: tail)) k = some a := by
  simp only [rGet]
  induction done with
  | nil => simp [lookupR]
  | cons p t ih =>
    obtain ⟨h1, h2⟩ := not_mem_rkeys_cons.mp hd
    simp [lookupR, h1, ih h2]

theorem map_define_other (k : Str) (b : RVal) (l : List (Str × RVal)) (hl : k ∉ rkeys l) :
    l.map (fun p => if p.1 = k then (p.1, b) else p) = l := by
  induction l with
  | nil => rfl
  | cons p t ih =>
    obtain ⟨h1, h2⟩ := not_mem_rkeys_cons.mp hl
    simp [h1, ih h2]

theorem filter_delete_other (k : Str) (l : List (Str × RVal)) (hl : k ∉ rkeys l) : l.filter (fun p => p.1 != k) = l := by
  induction l with
  | nil => rfl
  | cons p t ih =>
    obtain ⟨h1, h2⟩ := not_mem_rkeys_cons.mp hl
    simp [h1, ih h2]

theorem obj_define (done tail : List (Str × RVal)) (k : Str) (a b : RVal) (hd : k ∉ rkeys done) (ht : k ∉ rkeys tail) :
    rDefine (.obj (done ++ (k, a) :: tail)) k b = .obj (done ++ (k, b) :: tail) := by
  have hg := obj_get done tail k a hd
  simp only [rGet] at hg
  simp [rDefine, hg, map_define_other k b done hd, map_define_other k b tail ht]

theorem obj_delete (done tail : List (Str × RVal)) (k : Str) (a : RVal) (hd : k ∉ rkeys done) (ht : k ∉ rkeys tail) :
    rDelete (.obj (done ++ (k, a) :: tail)) k = .obj (done ++ tail) := by
  simp [rDelete, filter_delete_other k done hd, filter_delete_other k tail ht]

/-- a position in a container: `put a` is the container with `a` under `key`, `del` the container with nothing there;
    the three accesses the walk makes to the property `key` see and change `a` alone -/
structure Slot (put : RVal → RVal) (del : RVal) (key : Str) : Prop where
  get : ∀ a, a ≠ .hole → rGet (put a) key = some a
  define : ∀ a b, rDefine (put a) key b = put b
  delete : ∀ a, rDelete (put a) key = del

theorem arr_slot (done tail : List RVal) (hi : done.length < 4294967295) :
    Slot (fun a => .arr (done ++ a :: tail)) (.arr (done ++ .hole :: tail)) (idxKey done.length) :=
  ⟨fun a => arr_get done tail a hi, fun a b => arr_define done tail a b hi, fun a => arr_delete done tail a hi⟩

theorem obj_slot (done tail : List (Str × RVal)) (k : Str) (hd : k ∉ rkeys done) (ht : k ∉ rkeys tail) :
    Slot (fun a => .obj (done ++ (k, a) :: tail)) (.obj (done ++ tail)) k :=
  ⟨fun a _ => obj_get done tail k a hd, fun a b => obj_define done tail k a b hd ht, fun a => obj_delete done tail k a hd ht⟩

mutual
/-- arrays shorter than 2^32-1 (every index is an array index), objects with distinct keys: the
    hypotheses of `walkM_lift` (that the output of `parse` satisfies them is not proved) -/
def Tame : JVal → Prop
  | .arr xs => xs.length < 4294967295 ∧ TameL xs
  | .obj ms => (ms.map Prod.fst).Nodup ∧ TameM ms
  | _ => True
def TameL : List JVal → Prop
  | [] => True
  | v :: t => Tame v ∧ TameL t
def TameM : List (Str × JVal) → Prop
  | [] => True
  | (_, v) :: t => Tame v ∧ TameM t
end

/-! The simulation.  At a slot holding `emb v` the editing walk with a lifted reviver returns the state and the result of
    the stateful walk and leaves the container as `put a` for some `a`; the loops then overwrite or delete that `a`, so
    they never need to know it. -/
mutual
theorem walkM_lift {σ : Type} (R : ReviverS σ) : ∀ (v : JVal) (f : Nat) (s : σ) (put : RVal → RVal) (del : RVal) (key : Str),
    need v ≤ f → Tame v → Slot put del key →
    ∃ a, walkM (liftM R) f s (put (emb v)) key = some ((reviveS R key v s).1, (reviveS R key v s).2, put a)
  | .null, f, s, put, del, key, hf, _, hS | .bool _, f, s, put, del, key, hf, _, hS | .num _, f, s, put, del, key, hf, _, hS
  | .str _, f, s, put, del, key, hf, _, hS => by
    obtain ⟨f, rfl⟩ := need_succ hf
    exact ⟨_, by rw [walkM, hS.get _ (emb_ne_hole _)]; rfl⟩
  | .arr xs, f, s, put, del, key, hf, ht, hS => by
    obtain ⟨f, rfl, hfl⟩ := need_arr_le hf
    simp only [Tame] at ht
    have hw := walkIdx_lift R xs [] f s hfl ht.2 (by simpa using ht.1)
    simp only [List.nil_append, List.length_nil] at hw
    refine ⟨.arr (reviveElemsS R 0 xs s).2, ?_⟩
    rw [walkM, hS.get _ (emb_ne_hole _)]
    simp only [emb, embList_length, hw, liftM, reviveS, hS.define]
  | .obj ms, f, s, put, del, key, hf, ht, hS => by
    obtain ⟨f, rfl, hfm⟩ := need_obj_le hf
    simp only [Tame] at ht
    have hw := walkKeys_lift R ms [] f s hfm ht.2 (by simpa [rkeys] using ht.1)
    simp only [List.nil_append] at hw
    refine ⟨.obj (reviveMembersS R ms s).2, ?_⟩
    rw [walkM, hS.get _ (emb_ne_hole _)]
    simp only [emb, ownKeys_eq_rkeys, rkeys_embMembers, hw, liftM, reviveS, hS.define]
theorem walkIdx_lift {σ : Type} (R : ReviverS σ) : ∀ (rest : List JVal) (done : List RVal) (f : Nat) (s : σ),
    needL rest ≤ f → TameL rest → done.length + rest.length < 4294967295 →
    walkIdx (liftM R) f s (.arr (done ++ embList rest)) done.length rest.length =
      some ((reviveElemsS R done.length rest s).1, .arr (done ++ (reviveElemsS R done.length rest s).2))
  | [], done, f, s, _, _, _ => by
    cases f <;> simp [walkIdx, embList, reviveElemsS]
  | x :: t, done, f, s, hf, ht, hl => by
    obtain ⟨f, rfl, hfv, hft⟩ := needL_cons_le hf
    simp only [TameL] at ht
    have hS := arr_slot done (embList t) (by simp at hl; omega)
    obtain ⟨a, hx⟩ := walkM_lift R x f s _ _ _ hfv ht.1 hS
    simp only [embList, List.length_cons]
    rw [walkIdx, hx]
    simp only []
    -- the rest of the loop, whatever element `z` this turn leaves at the position
    have ih := fun z => walkIdx_lift R t (done ++ [z]) f (reviveS R (idxKey done.length) x s).1 hft ht.2
      (by simp at hl ⊢; omega)
    simp only [List.length_append, List.length_cons, List.length_nil, List.append_assoc, List.singleton_append,
      Nat.zero_add] at ih
    cases hres : (reviveS R (idxKey done.length) x s).2 with
    | none => simp [hS.delete, ih, reviveElemsS, hres]
    | some y => simp [hS.define, ih, reviveElemsS, hres]
theorem walkKeys_lift {σ : Type} (R : ReviverS σ) : ∀ (rest : List (Str × JVal)) (done : List (Str × RVal)) (f : Nat) (s : σ),
    needM rest ≤ f → TameM rest → (rkeys done ++ rest.map Prod.fst).Nodup →
    walkKeys (liftM R) f s (.obj (done ++ embMembers rest)) (rest.map Prod.fst) =
      some ((reviveMembersS R rest s).1, .obj (done ++ (reviveMembersS R rest s).2))
  | [], done, f, s, _, _, _ => by
    cases f <;> simp [walkKeys, embMembers, reviveMembersS]
  | (k, x) :: t, done, f, s, hf, ht, hnd => by
    obtain ⟨f, rfl, hfv, hft⟩ := needM_cons_le hf
    simp only [TameM] at ht
    simp only [List.map_cons] at hnd
    -- `k` moved to the front: it is a key of neither part, and the parts without it have distinct keys
    obtain ⟨hk, hnd0⟩ := List.nodup_cons.mp (List.perm_middle.nodup_iff.mp hnd)
    have hS := obj_slot done (embMembers t) k (fun h => hk (List.mem_append_left _ h))
      (fun h => hk (List.mem_append_right _ (rkeys_embMembers t ▸ h)))
    obtain ⟨a, hx⟩ := walkM_lift R x f s _ _ _ hfv ht.1 hS
    simp only [embMembers, List.map_cons]
    rw [walkKeys, hx]
    simp only []
    cases hres : (reviveS R k x s).2 with
    | none =>
      simp [hS.delete, walkKeys_lift R t done f (reviveS R k x s).1 hft ht.2 hnd0, reviveMembersS, hres]
    | some y =>
      have hnd2 : (rkeys (done ++ [(k, y)]) ++ t.map Prod.fst).Nodup := by
        simpa [rkeys] using hnd
      have := walkKeys_lift R t (done ++ [(k, y)]) f (reviveS R k x s).1 hft ht.2 hnd2
      simp only [List.append_assoc, List.singleton_append] at this
      simp [hS.define, this, reviveMembersS, hres]
end

theorem reviveRootM_lift {σ : Type} (R : ReviverS σ) (v : JVal) (f : Nat) (s : σ) (hf : need v ≤ f) (ht : Tame v) :
    reviveRootM (liftM R) f s v = some (reviveS R [] v s) := by
  obtain ⟨a, h⟩ := walkM_lift R v f s _ _ _ hf ht (obj_slot [] [] [] List.not_mem_nil List.not_mem_nil)
  simp only [List.nil_append] at h
  rw [reviveRootM, h]

end GojaModel.C19
