/-
  C19 — property theorems (JSON.parse / JSON.stringify model).

  Number text ↔ double is C12's subject: a number is its lexeme, `NumLexOK l` ("l is re-lexed as itself in a context
  that ends a number" — proved for every lexeme of the number grammar) and `N.canon l = l` ("l is the canonical text of
  its value") are parts of `Normal`; `NumCanonOK N` is the only hypothesis about the number↔text function.
-/
import GojaModel.C19.Build
import GojaModel.C19.RoundTrip
import GojaModel.C19.ReplacerThm
import GojaModel.C19.TokThm
import GojaModel.C19.Utf8View
import GojaModel.C19.QuoteMech
import GojaModel.C19.ReviverMutThm
import GojaModel.C19.SpaceMech
import GojaModel.C19.BoxedThm
import GojaModel.C19.CycleThm

namespace GojaModel.C19

/-- mechanism level (SpaceMech.lean: builtin_json.go:234, the processing of the `space` argument): integers, doubles (NaN, ±Infinity,
    any magnitude — in particular ≥ 2^63, where the code before bd5c535 converted to int64 before comparing), strings
    (cut to 10 code units) and everything else give exactly the gap ECMA-262 §25.5.2 steps 5–8 specify. -/
theorem space_argument_refines_spec (a : SpaceArg) : gapMech a = gapSpec a :=
  gapMech_eq_gapSpec a

/-- gap_clamped (Number): `space` = n gives exactly min(n,10) spaces. -/
theorem gap_clamped_number (n : Nat) :
    (gapOfNumber n).length = min n 10 ∧ (gapOfNumber n).length ≤ 10 ∧ ∀ c ∈ gapOfNumber n, c = 32 := by
  refine ⟨by simp [gapOfNumber], by simp [gapOfNumber]; omega, ?_⟩
  intro c hc
  simp [gapOfNumber] at hc
  exact hc.2

/-- gap_clamped (String): the gap is the first min(|s|,10) code units of `space`. -/
theorem gap_clamped_string (s : Str) :
    (gapOfString s).length = min 10 s.length ∧ (gapOfString s).length ≤ 10 ∧ gapOfString s ++ s.drop 10 = s ∧
      (s.length ≤ 10 → gapOfString s = s) := by
  refine ⟨by simp [gapOfString], by simp [gapOfString]; omega, by simp [gapOfString], ?_⟩
  intro h
  simp [gapOfString, List.take_of_length_le h]

theorem gapOfNumber_ws (n : Nat) : AllWs (gapOfNumber n) := by
  intro c hc
  rw [(gap_clamped_number n).2.2 c hc]
  rfl

/-- mechanism level (QuoteMech.lean: builtin_json.go:514 quote() fed by string_unicode.go:81 lenientUtf16Decoder.ReadRune with
    its one unit of push-back): it REFINES QuoteJSONString for every list of code units — in particular a pushed-back
    unit is re-examined as a possible pair start (lone high surrogate followed by a valid pair). -/
theorem quote_mechanism_refines_spec (s : Str) : quoteMech s = quote s :=
  quoteMech_eq_quote s

/-- quote_escapes_sound: for EVERY list of code units (lone surrogates, controls, quotes, backslashes …) the output of
    QuoteJSONString is a string token that lexes back to exactly the same units, in any context. -/
theorem quote_escapes_sound (s rest : Str) (hs : WfStr s) :
    ∃ body, quote s ++ rest = 34 :: body ∧ parseStrBody body = some (s, rest) := by
  refine ⟨quoteBody s ++ 34 :: rest, by simp [quote], strBody_complete (quoteBody_strBody s hs) rest⟩

/-- … and as a JSON value -/
theorem quote_parses_as_value (s : Str) (hs : WfStr s) : parseRaw (quote s) = some (.str s) := by
  have h := parseRaw_stringify [] nofun (.str s) (by simpa [WfVal] using hs)
  simpa [stringify, ser] using h

/-- a string that is one lone high surrogate is written as its `\uXXXX` escape, not raw -/
theorem quote_lone_high_escaped (h : Nat) (hh : isHigh h = true) : quoteBody [h] = escU h := by
  simp [quoteBody, escOne, hh]
  have : h ≠ 34 ∧ h ≠ 92 ∧ ¬ h < 32 := isHigh_raw hh
  have h2 : h ≠ 8 ∧ h ≠ 9 ∧ h ≠ 10 ∧ h ≠ 12 ∧ h ≠ 13 := by simp [isHigh] at hh; omega
  simp [this.1, this.2.1, h2.1, h2.2.1, h2.2.2.1, h2.2.2.2.1, h2.2.2.2.2]

/-- parse_stringify (syntactic core): for every well-formed tree, EVERY white-space gap (in particular every numeric
    indent 0..10 and every string indent made of space/tab/LF/CR) — parsing the serialisation gives the tree back.
    Unbounded: the serialisation is a text of the grammar (RoundTrip.ser_gram, mutual structural induction over the
    tree), and the parser is complete for the grammar. -/
theorem parseRaw_stringify_ws (gap : Str) (hg : AllWs gap) (v : JVal) (hv : WfVal v) :
    parseRaw (stringify gap v) = some v :=
  parseRaw_stringify gap hg v hv

/-- the same inside any context: leading white space, any indent, trailing text that cannot continue a number -/
theorem parseValue_ser_context (gap ind w rest : Str) (hg : AllWs gap) (hi : AllWs ind) (hw : AllWs w) (v : JVal)
    (hv : WfVal v) (hs : Stop rest) (f : Nat) (hf : need v ≤ f) :
    parseValue f (w ++ (ser gap ind v ++ rest)) = some (v, rest) :=
  rt_val gap hg v ind w rest f hi hw hv hs hf

/-- object building is the identity on normal forms (no duplicate keys, index keys first ascending, canonical numbers) -/
theorem build_fixed_on_normal (N : NumCanon) (v : JVal) (h : Normal N v) : build N v = v :=
  build_normal N v h

/-- parse_stringify: ∀ JSON-representable value v (normal form), parse (stringify v) = v, for every white-space gap. -/
theorem parse_stringify (N : NumCanon) (gap : Str) (hg : AllWs gap) (v : JVal) (h : Normal N v) :
    parse N (stringify gap v) = some v := by
  unfold parse
  simp only [parseRaw_stringify gap hg v (normal_wf N v h), build_normal N v h]

/-- … in particular for every Number `space` argument -/
theorem parse_stringify_numeric_indent (N : NumCanon) (n : Nat) (v : JVal) (h : Normal N v) :
    parse N (stringify (gapOfNumber n) v) = some v :=
  parse_stringify N _ (gapOfNumber_ws n) v h

/-- integers are unconditional: the decimal text of any integer satisfies the number-text hypothesis … -/
theorem int_lexeme_ok (l : Str) (hl : NatLex l) : NumLexOK l ∧ NumLexOK (45 :: l) :=
  numLexOK_of_int l hl

/-- … so a value whose numbers are integers — the one shape `{k: [l, -l]}` is stated — round-trips with no hypothesis
    about number text at all (canonical text of an integer below 2^53 is its decimal text: `NumCanon.id` on these lexemes) -/
theorem parse_stringify_int (gap : Str) (hg : AllWs gap) (l : Str) (hl : NatLex l) (k : Str) (hk : WfStr k) :
    parse NumCanon.id (stringify gap (.obj [(k, .arr [.num l, .num (45 :: l)])])) =
      some (.obj [(k, .arr [.num l, .num (45 :: l)])]) := by
  apply parse_stringify _ _ hg
  have h := numLexOK_of_int l hl
  -- `KeysOK` of the one-member object: on which side of the index / non-index partition the member falls depends on `k`
  by_cases hi : isIdx (k, JVal.arr [.num l, .num (45 :: l)]) = true <;>
    simp [Normal, NormalL, NormalM, NumCanon.id, h.1, h.2, hk, KeysOK, keys, IdxSorted, hi]

/-- JSON.parse returns values in normal form: well-formed strings, grammatical number lexemes in canonical text,
    no duplicate keys, array-index keys first in ascending order then the other keys (for every UTF-16 text). -/
theorem parse_yields_normal (N : NumCanon) (hN : NumCanonOK N) (t : Str) (v : JVal) (ht : WfStr t)
    (h : parse N t = some v) : Normal N v :=
  parse_normal N hN ht h

/-- stringify_parse_canonical: if `parse t = v` then the canonical text `stringify v` (i) parses back to `v`, for every
    white-space gap, and (ii) is a fixed point of stringify ∘ parse (idempotence), whatever the indentation used in
    between.  Number text under `NumCanonOK` (C12's subject): canonical text is a lexeme and canonicalising is idempotent. -/
theorem stringify_parse_canonical (N : NumCanon) (hN : NumCanonOK N) (t : Str) (v : JVal) (ht : WfStr t)
    (h : parse N t = some v) (gap : Str) (hg : AllWs gap) :
    parse N (stringify gap v) = some v ∧
      (parse N (stringify gap v)).map (stringify []) = some (stringify [] v) ∧
      (parse N (stringify [] v)).map (stringify []) = some (stringify [] v) := by
  have hn := parse_normal N hN ht h
  rw [parse_stringify N gap hg v hn, parse_stringify N [] nofun v hn]
  exact ⟨rfl, rfl, rfl⟩

/-- with the identity canonicaliser (what the driver runs; numbers compared as lexemes) no hypothesis is left -/
theorem stringify_parse_canonical_id (t : Str) (v : JVal) (ht : WfStr t) (h : parse NumCanon.id t = some v) :
    parse NumCanon.id (stringify [] v) = some v :=
  (stringify_parse_canonical NumCanon.id numCanonOK_id t v ht h [] nofun).1

/-- replacer allow-list (ECMA-262 §25.5.2 step 4.b + SerializeJSONObject step 5.a): stringify with the list is plain
    stringify of the value restricted, at every object level, to the listed keys in list order — ∀ values, lists, gaps. -/
theorem allowlist_is_projection (items : List Str) (gap : Str) (v : JVal) :
    stringifyPL items gap v = stringify gap (project (propList items) v) :=
  serP_eq_project (propList items) gap v []

theorem propList_spec (items : List Str) : (propList items).Nodup ∧ ∀ k, k ∈ propList items ↔ k ∈ items := by
  simpa [propList] using propList_aux items [] (by simp)

theorem allowlist_roundtrip (items : List Str) (gap : Str) (hg : AllWs gap) (v : JVal)
    (hv : WfVal (project (propList items) v)) :
    parseRaw (stringifyPL items gap v) = some (project (propList items) v) := by
  rw [allowlist_is_projection]
  exact parseRaw_stringify gap hg _ hv

/-- mechanism level (Mech.lean: builtin_json.go str / ja / jo as written — one output buffer, a mutable `ctx.indent` that
    every container saves, extends and restores, separators written eagerly, `buf.Truncate` for members that turn out
    undefined and for objects that end up empty): it REFINES the specification.  For every value (with undefined /
    function leaves anywhere), every gap, every buffer content and every current indent, `str` appends exactly the text
    SerializeJSONProperty specifies for the cleaned value and leaves `ctx.indent` as it found it, or — value undefined —
    touches neither buffer nor indent and returns false.  (The indentation defect repaired by 2f63d0b falsified this.) -/
theorem stringify_mechanism_refines_spec (gap : Str) (v : MVal) (buf ind : Str) :
    strM gap v buf ind =
      match clean v with
      | some j => (buf ++ ser gap ind j, ind, true)
      | none => (buf, ind, false) :=
  mechOK gap v buf ind

/-- mechanism level (Boxed.lean: `str` with its unwrapping switch, builtin_json.go:324–369): Number / String / Boolean wrappers
    are unwrapped, a Symbol wrapper is serialised as an ordinary object ("{}", fix 149785e), non-finite numbers give
    null, and a BigInt — primitive or wrapper, at any depth — abandons the call with a TypeError; in every other case
    the result is the mechanism of Mech.lean on the unwrapped value, for every buffer and indent. -/
theorem boxed_mechanism_refines_spec (gap : Str) (v : BVal) (buf ind : Str) :
    strB gap v buf ind = if hasBig v then .typeError else okOf (strM gap (lower v) buf ind) :=
  boxOK gap v buf ind

/-- JSON.stringify on values with boxed primitives / BigInt: TypeError iff a BigInt is reachable, else undefined or the
    specified text of the unwrapped value -/
theorem stringify_boxed_bigint (gap : Str) (v : BVal) : stringifyB gap v = stringifyBSpec gap v :=
  stringifyB_eq_spec gap v

/-- mechanism level (Cycle.lean: builtin_json.go:390–397 — lookup in `ctx.stack`, push, deferred pop on every way out incl. the
    early `return false` for a callable): for every value with object identities (shared references, back-references,
    functions), every stack, buffer and indent: TypeError iff an object is reached while it is one of its own
    ancestors; otherwise the text mechanism of Mech.lean AND the stack handed back exactly as received.
    (The seeded change C19-m2 — pop skipped for a callable — falsifies it.) -/
theorem cycle_detection_refines_spec (gap : Str) (v : CVal) (st : List Nat) (buf ind : Str) :
    strC gap v st buf ind = if cyc st v then .typeError else okC (strM gap (erase v) buf ind) st :=
  cycOK gap v st buf ind

/-- the same object twice among siblings is not a cycle (`[x, x]`) -/
theorem shared_reference_not_a_cycle (id : Nat) (x : CVal) (hx : cyc [id] x = false) :
    cyc [] (.arr id [x, x]) = false :=
  shared_reference_is_not_a_cycle id x hx

/-- Object.MarshalJSON (value.go:944: `ctx.do(o)`, "null" when `str` returned false) and JSON.stringify run the same
    mechanism: MarshalJSON's bytes are stringify's text, or "null" where stringify returns undefined … -/
theorem marshaljson_agrees_with_stringify (v : MVal) :
    marshalM v = match stringifyM [] v with | some t => t | none => [110, 117, 108, 108] :=
  marshalM_eq v

/-- … and that text is the specified one -/
theorem stringify_mechanism_top_level (gap : Str) (v : MVal) : stringifyM gap v = (clean v).map (stringify gap) :=
  stringifyM_eq gap v

/-- replacer function / toJSON, result substitution: for EVERY pair of hooks (stateful toJSON and replacer function),
    every state, holder, key, value, gap, indent and fuel, serialising with the hooks is plain serialisation of the
    rewritten value — toJSON result, then replacer result, substituted top-down; undefined members dropped, undefined
    elements → null — with exactly the same state threading (same calls in the same order). -/
theorem replacer_substitution {σ : Type} (H : Hooks σ) (gap ind : Str) (f : Nat) (s : σ) (h : JVal) (k : Str) (v : JVal) :
    serH H gap f ind s h k v = (rewH H f s h k v).map (fun p => (p.1, p.2.map (ser gap ind))) :=
  (serRew_all H gap f).1 ind s h k v

/-- replacer function, call order and arguments: the logging identity replacer `function(k,v){LOG.push([this,k]);return v}`
    is called once per property, in pre-order (a property before the properties of its value, elements by ascending
    index, members in key order), first for the root with key "" and holder `{"": value}`, every later call with the
    enclosing value as holder — and the text is the plain one.  ∀ values, gaps, initial logs, sufficient fuel. -/
theorem replacer_call_order (gap : Str) (v : JVal) (log : List (JVal × Str)) (f : Nat) (hf : need v ≤ f) :
    stringifyH logRepl gap f log v = some (log ++ preCalls (rootHolder v) [] v, some (stringify gap v)) := by
  unfold stringifyH
  rw [replacer_substitution, rew_log v (rootHolder v) [] log f hf]
  rfl

/-- without a replacer function and without toJSON the hook-aware serialiser is the plain one -/
theorem no_hooks_is_plain_stringify (gap : Str) (v : JVal) (f : Nat) (hf : need v ≤ f) :
    stringifyH noHooks gap f () v = some ((), some (stringify gap v)) := by
  unfold stringifyH
  rw [replacer_substitution, rew_none v (rootHolder v) [] f hf]
  rfl

/-- reviver walk (InternalizeJSONProperty): the identity reviver returns the parsed value unchanged … -/
theorem reviver_identity (k : Str) (v : JVal) : revive (fun _ x => some x) k v = some (emb v) :=
  revive_id_aux k v

/-- … a reviver is called exactly once per property, children before their holder (post-order), array elements by
    ascending index, members in key order, the root under the key "" last: the logging identity reviver produces
    exactly `calls k v`, for every value (unbounded nesting) and every initial log -/
theorem reviver_call_order (k : Str) (v : JVal) (log : List Str) :
    reviveS logId k v log = (log ++ calls k v, some (emb v)) :=
  reviveS_logId k v log

/-- … and the walk for a pure reviver is the stateful walk with a trivial state -/
theorem reviver_pure_is_stateless (R : Reviver) (k : Str) (v : JVal) :
    reviveS (σ := Unit) (fun _ k x => ((), R k x)) k v () = ((), revive R k v) :=
  reviveS_pure R k v

/-- revivers that edit their holder: a property that is a primitive, a hole or already deleted when its turn comes is
    handed to the reviver once with its CURRENT value (undefined if absent) -/
theorem reviver_current_value {σ : Type} (R : ReviverM σ) (f : Nat) (s : σ) (holder : RVal) (key : Str)
    (h : ∀ xs, rGet holder key ≠ some (.arr xs)) (h' : ∀ ms, rGet holder key ≠ some (.obj ms)) :
    walkM R (f + 1) s holder key = some (R s holder key (rGet holder key)) :=
  walkM_noncontainer R f s holder key h h'

/-- array-index keys are canonical: the decimal text of an index below 2^32 − 1 is recognised as that index -/
theorem index_key_canonical (n : Nat) (h : n < 4294967295) : idxOf (idxKey n) = some n :=
  idxOf_idxKey n h

/-- refinement between the two reviver models: for a reviver that never edits its holder, the editing walk
    (key snapshot, current values, write-back into the holder) gives exactly the state and the result of the stateful
    walk of Reviver.lean — for every `Tame` value (distinct keys, arrays below 2^32 − 1 elements) -/
theorem reviver_editing_walk_refines_stateful_walk {σ : Type} (R : ReviverS σ) (v : JVal) (f : Nat) (s : σ)
    (hf : need v ≤ f) (ht : Tame v) : reviveRootM (liftM R) f s v = some (reviveS R [] v s) :=
  reviveRootM_lift R v f s hf ht

/-- the allow-list text parses back to the projection, for every well-formed value and every list of 16-bit keys -/
theorem allowlist_roundtrip_wf (items : List Str) (gap : Str) (hg : AllWs gap) (v : JVal) (hv : WfVal v)
    (hk : ∀ k ∈ items, WfStr k) :
    parseRaw (stringifyPL items gap v) = some (project (propList items) v) :=
  allowlist_roundtrip items gap hg v
    (project_wf (propList items) (fun k hk' => hk k ((propList_spec items).2 k |>.mp hk')) v hv)

/-- duplicate keys: the last value wins at the position of the first occurrence; "__proto__" is a key like any other -/
theorem upsert_existing (k : Str) (v v' : JVal) (pre post : List (Str × JVal)) (h : k ∉ keys pre) :
    upsert k v' (pre ++ (k, v) :: post) = pre ++ (k, v') :: post := by
  induction pre with
  | nil => simp [upsert]
  | cons p t ih =>
    obtain ⟨h1, h2⟩ := not_mem_keys_cons.mp h
    simp [upsert, h1, ih h2]

/-- parse_total_decides: the parser is a total function and accepts EXACTLY the texts of the ECMA-404 grammar
    (`Text`/`Gram`: inductive relation over literals, numbers, strings, arrays, objects, white space), returning exactly
    the denoted tree.  Both directions, all value kinds, unbounded nesting. -/
theorem parse_total_decides (t : Str) (v : JVal) : parseRaw t = some v ↔ Text t v :=
  parseRaw_iff_text t v

/-- rejection is therefore exactly non-membership in the grammar -/
theorem parse_rejects_iff_not_text (t : Str) : parseRaw t = none ↔ ¬ ∃ v, Text t v := by
  simp only [Option.eq_none_iff_forall_ne_some, ne_eq, parse_total_decides, not_exists]

/-- mechanism level (Tok.lean: Go's `Decoder.Token` state machine driven by builtin_json.go's decodeValue / decodeToken /
    decodeArray / decodeObject / decodeObjectKey and the trailing-token check): it accepts exactly the grammar … -/
theorem tokenizer_delegation_accepts_exactly_grammar (t : Str) (v : JVal) : gojaParseRaw t = some v ↔ Text t v :=
  gojaParseRaw_iff_text t v

/-- … so it REFINES the spec-level parser: same result on every text (every token state, any nesting) -/
theorem tokenizer_delegation_refines_spec (t : Str) : gojaParseRaw t = parseRaw t :=
  gojaParseRaw_eq_parseRaw t

/-- which texts does the delegated tokenizer accept beyond ECMA-404?  None (on the code units it is given; the only
    difference of goja is the UTF-8 view of the text — lone surrogates become U+FFFD — handled as `fixText`) -/
theorem tokenizer_accepts_nothing_beyond_grammar : ¬ ∃ t v, gojaParseRaw t = some v ∧ ¬ Text t v := by
  rintro ⟨t, v, h, hn⟩
  exact hn ((tokenizer_delegation_accepts_exactly_grammar t v).mp h)

/-- the documented exception, formally: goja's JSON.parse (UTF-8 view of the text, token-stream parser, object building)
    IS the specified parse of the text in which raw lone surrogates and escaped surrogates outside an escaped pair are
    replaced by U+FFFD — nothing else differs -/
theorem goja_parse_is_spec_parse_of_utf8_view (N : NumCanon) (t : Str) : gojaParse N t = parse N (fixText t) := by
  unfold gojaParse parse
  rw [gojaParseRaw_eq_parseRaw]
  rfl

/-- … so on every text that the UTF-8 view leaves alone it is exactly JSON.parse -/
theorem goja_parse_exact_when_utf8_view_is_identity (N : NumCanon) (t : Str) (h : fixText t = t) :
    gojaParse N t = parse N t := by
  rw [goja_parse_is_spec_parse_of_utf8_view, h]

/-- a text without surrogate code units is untouched by the first half of the view -/
theorem utf8_view_keeps_surrogate_free_units (t : Str) (h : ∀ u ∈ t, isHigh u = false ∧ isLow u = false) :
    fixLone t = t :=
  fixLone_id t h

/-- number tokens: the lexer's result is a lexeme of the number grammar and a prefix of the input … -/
theorem number_lexer_sound (s l r : Str) (h : parseNum s = some (l, r)) : NumGram l ∧ s = l ++ r :=
  parseNum_sound h

/-- … and every lexeme of the number grammar is lexed as itself in any context that ends a number -/
theorem number_lexer_complete (l rest : Str) (hl : NumGram l) (hs : Stop rest) : parseNum (l ++ rest) = some (l, rest) :=
  numGram_lexOK hl rest hs

/-- string tokens: lexer ⇔ string grammar `StrBody` (both directions) -/
theorem string_lexer_iff (s u r : Str) : parseStrBody s = some (u, r) ↔ ∃ b, StrBody b u ∧ s = b ++ 34 :: r := by
  constructor
  · exact parseStrBody_sound
  · rintro ⟨b, hb, rfl⟩
    exact strBody_complete hb r

/-- white space: only space, tab, LF, CR are skipped (NBSP, U+FEFF, form feed, vertical tab are not) -/
theorem isWs_exact (c : Nat) : isWs c = true ↔ (c = 32 ∨ c = 9 ∨ c = 10 ∨ c = 13) := by
  simp [isWs, or_assoc]

/-- raw control characters U+0000..U+001F inside a string token are rejected -/
theorem control_char_rejected (c : Nat) (r : Str) (h : c < 32) : parseStrBody (c :: r) = none := by
  have h1 : c ≠ 34 := by omega
  have h2 : c ≠ 92 := by omega
  simp [parseStrBody_cons, h1, h2, h]

/-! Hypotheses are satisfiable: concrete non-trivial normal value (tests on literals, not theorems about all inputs). -/
example : parseRaw [32, 91, 49, 44, 123, 34, 97, 34, 58, 110, 117, 108, 108, 125, 93] =
    some (.arr [.num [49], .obj [([97], .null)]]) := by rfl
example : stringify [32] (.arr [.arr [], .arr [.bool true]]) =
    [91, 10, 32, 91, 93, 44, 10, 32, 91, 10, 32, 32, 116, 114, 117, 101, 10, 32, 93, 10, 93] := by rfl
example : Normal NumCanon.id (.arr [.str [97, 0xD800], .null, .obj []]) := by
  simp [Normal, NormalL, NormalM, WfStr, KeysOK, keys, IdxSorted]

end GojaModel.C19
