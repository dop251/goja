/-
  C19: `str` with its unwrapping switch (Boxed.strB) refines the specification: TypeError exactly when a BigInt is
  reached; otherwise the mechanism of Mech.lean on the unwrapped value, hence the specified text.
-/
import GojaModel.C19.Boxed
import GojaModel.C19.MechThm
namespace GojaModel.C19

def okOf (r : Str × Str × Bool) : BRes := .ok r.1 r.2.1 r.2.2

def BoxOK (gap : Str) (v : BVal) : Prop :=
  ∀ buf ind, strB gap v buf ind = if hasBig v then .typeError else okOf (strM gap (lower v) buf ind)

theorem lowerL_isEmpty (xs : List BVal) : (lowerL xs).isEmpty = xs.isEmpty := by
  cases xs <;> simp [lowerL]

theorem jaLoopB_ok (gap sep : Str) (xs : List BVal) (h : ∀ v ∈ xs, BoxOK gap v) :
    ∀ buf ind, jaLoopB gap sep xs buf ind =
      if hasBigL xs then .typeError else .ok (jaLoop gap sep (lowerL xs) buf ind).1 (jaLoop gap sep (lowerL xs) buf ind).2 := by
  induction xs with
  | nil => intro buf ind; simp [jaLoopB, hasBigL, lowerL, jaLoop]
  | cons v t ih =>
    intro buf ind
    have hv := h v (by simp) buf ind
    have iht := ih (fun x hx => h x (by simp [hx]))
    rw [jaLoopB, hv]
    cases hb : hasBig v with
    | true => simp [hasBigL, hb]
    | false =>
      simp only [Bool.false_eq_true, if_false, okOf, hasBigL, hb, Bool.false_or, lowerL, jaLoop, lowerL_isEmpty]
      rw [iht]

theorem joLoopB_ok (gap sep : Str) (ms : List (Str × BVal)) (h : ∀ p ∈ ms, BoxOK gap p.2) :
    ∀ buf ind empty, joLoopB gap sep ms buf ind empty =
      if hasBigM ms then .typeError
      else .ok (joLoop gap sep (lowerM ms) buf ind empty).1 (joLoop gap sep (lowerM ms) buf ind empty).2.1
             (joLoop gap sep (lowerM ms) buf ind empty).2.2 := by
  induction ms with
  | nil => intro buf ind empty; simp [joLoopB, hasBigM, lowerM, joLoop]
  | cons a t ih =>
    obtain ⟨k, v⟩ := a
    intro buf ind empty
    have hv := h (k, v) (by simp) (buf ++ ((if empty then [] else sep) ++ (quote k ++ colon gap))) ind
    have iht := ih (fun x hx => h x (by simp [hx]))
    rw [joLoopB, hv]
    cases hb : hasBig v with
    | true => simp [hasBigM, hb]
    | false =>
      simp only [Bool.false_eq_true, if_false, okOf, hasBigM, hb, Bool.false_or, lowerM]
      rw [joLoop]
      cases (strM gap (lower v) (buf ++ ((if empty then [] else sep) ++ (quote k ++ colon gap))) ind).2.2 with
      | true => simp only [if_true]; rw [iht]
      | false => simp only [Bool.false_eq_true, if_false]; rw [iht]

mutual
theorem boxOK (gap : Str) : ∀ v : BVal, BoxOK gap v
  | .undef | .null | .num _ | .nonfin | .str _ | .boxNum _ | .boxNonfin | .boxStr _ => by
    intro buf ind; simp [strB, hasBig, lower, strM, okOf]
  | .bool b | .boxBool b => by intro buf ind; cases b <;> simp [strB, hasBig, lower, strM, okOf]
  | .big | .boxBig => by intro buf ind; simp [strB, hasBig]
  | .boxSym => by intro buf ind; simp [strB, hasBig, lower, strM, okOf, joLoop]
  | .arr xs => by
    intro buf ind
    cases xs with
    | nil => simp [strB, hasBig, hasBigL, lower, lowerL, strM, okOf]
    | cons a t =>
      have hl := jaLoopB_ok gap (44 :: nl gap (ind ++ gap)) (a :: t) (boxOK_list gap (a :: t))
        (buf ++ (91 :: nl gap (ind ++ gap))) (ind ++ gap)
      simp only [strB, List.isEmpty_cons, Bool.false_eq_true, if_false, hl, hasBig]
      rcases Bool.eq_false_or_eq_true (hasBigL (a :: t)) with hb | hb
      · simp [hb]
      · simp [hb, lower, strM, okOf, lowerL]
  | .obj ms => by
    intro buf ind
    have hl := joLoopB_ok gap (44 :: nl gap (ind ++ gap)) ms (boxOK_members gap ms)
      (buf ++ (123 :: nl gap (ind ++ gap))) (ind ++ gap) true
    simp only [strB, hl, hasBig]
    rcases Bool.eq_false_or_eq_true (hasBigM ms) with hb | hb
    · simp [hb]
    · simp [hb, lower, strM, okOf]
theorem boxOK_list (gap : Str) : ∀ xs : List BVal, ∀ v ∈ xs, BoxOK gap v
  | [], _, h => by cases h
  | a :: t, v, h => by
    cases h with
    | head => exact boxOK gap a
    | tail _ h' => exact boxOK_list gap t v h'
theorem boxOK_members (gap : Str) : ∀ ms : List (Str × BVal), ∀ p ∈ ms, BoxOK gap p.2
  | [], _, h => by cases h
  | (k, a) :: t, p, h => by
    cases h with
    | head => exact boxOK gap a
    | tail _ h' => exact boxOK_members gap t p h'
end

def stringifyBSpec (gap : Str) (v : BVal) : SRes :=
  if hasBig v then .typeError
  else match clean (lower v) with
    | some j => .text (stringify gap j)
    | none => .undef

theorem stringifyB_eq_spec (gap : Str) (v : BVal) : stringifyB gap v = stringifyBSpec gap v := by
  unfold stringifyB stringifyBSpec
  rw [boxOK gap v [] []]
  rcases Bool.eq_false_or_eq_true (hasBig v) with hb | hb
  · simp [hb]
  · simp only [hb, Bool.false_eq_true, if_false, okOf, mechOK gap (lower v) [] []]
    cases clean (lower v) <;> simp [stringify]

end GojaModel.C19
