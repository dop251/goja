/-
  C19: InternalizeJSONProperty (ECMA-262 §25.5.1.1; builtin_json.go:149 builtinJSON_reviveWalk) for revivers that EDIT THEIR
  HOLDER (`this`): the keys (or the length) of a container are taken once, when its walk starts, but every property
  is read when its turn comes — so a sibling deleted meanwhile is visited with the value undefined, a sibling replaced
  meanwhile is visited (and walked) with its new value, and a property added meanwhile is not visited at all.

  The object graph is a tree here (a reviver reaches only `this`), so sharing is modelled by threading the current
  content of the container being walked: `walkM` returns the holder as it is after the call.
-/
import GojaModel.C19.Reviver

namespace GojaModel.C19

def lookupR (k : Str) : List (Str × RVal) → Option RVal
  | [] => none
  | (k', v) :: t => if k' = k then some v else lookupR k t

/-- [[Get]] of an own property of the holder (`none` = undefined; a hole reads as undefined) -/
def rGet : RVal → Str → Option RVal
  | .obj ms, k => lookupR k ms
  | .arr xs, k =>
    (match idxOf k with
     | some i => (match xs[i]? with
                  | some .hole => none
                  | some x => some x
                  | none => none)
     | none => none)
  | _, _ => none

/-- [[Delete]]: a member disappears, an array element becomes a hole (the length stays) -/
def rDelete : RVal → Str → RVal
  | .obj ms, k => .obj (ms.filter fun p => p.1 != k)
  | .arr xs, k =>
    (match idxOf k with
     | some i => if i < xs.length then .arr (xs.set i .hole) else .arr xs
     | none => .arr xs)
  | v, _ => v

/-- position of a new key among the members: array-index keys ascending first, every other key at the end -/
def insertOrdered (k : Str) (v : RVal) : List (Str × RVal) → List (Str × RVal)
  | [] => [(k, v)]
  | (k', v') :: t =>
    match idxOf k, idxOf k' with
    | some n, some m => if n < m then (k, v) :: (k', v') :: t else (k', v') :: insertOrdered k v t
    | some _, none => (k, v) :: (k', v') :: t
    | none, _ => (k', v') :: insertOrdered k v t

/-- CreateDataProperty / a plain assignment of a data property: in place if the key exists; arrays grow with holes;
    a non-index key on an array is an expando the walk never looks at (not represented) -/
def rDefine : RVal → Str → RVal → RVal
  | .obj ms, k, v =>
    if (lookupR k ms).isSome then .obj (ms.map fun p => if p.1 = k then (p.1, v) else p)
    else .obj (insertOrdered k v ms)
  | .arr xs, k, v =>
    (match idxOf k with
     | some i => if i < xs.length then .arr (xs.set i v)
                 else .arr (xs ++ List.replicate (i - xs.length) .hole ++ [v])
     | none => .arr xs)
  | h, _, _ => h

/-- a reviver that may edit `this`: state, holder, key, value ↦ state, result, holder afterwards -/
abbrev ReviverM (σ : Type) := σ → RVal → Str → Option RVal → σ × Option RVal × RVal

def ownKeys : List (Str × RVal) → List Str
  | [] => []
  | (k, _) :: t => k :: ownKeys t

mutual
/-- InternalizeJSONProperty(holder, key): state, result, and the holder as the call leaves it -/
def walkM {σ : Type} (R : ReviverM σ) : Nat → σ → RVal → Str → Option (σ × Option RVal × RVal)
  | 0, _, _, _ => none
  | f + 1, s, holder, key =>
    match rGet holder key with
    | some (.arr xs) =>
      (match walkIdx R f s (.arr xs) 0 xs.length with
       | some (s1, cur) => some (R s1 (rDefine holder key cur) key (some cur))
       | none => none)
    | some (.obj ms) =>
      (match walkKeys R f s (.obj ms) (ownKeys ms) with
       | some (s1, cur) => some (R s1 (rDefine holder key cur) key (some cur))
       | none => none)
    | v => some (R s holder key v)
/-- indices i, i+1, … (n of them: the length taken when the walk of the array started) over the CURRENT content -/
def walkIdx {σ : Type} (R : ReviverM σ) : Nat → σ → RVal → Nat → Nat → Option (σ × RVal)
  | _, s, cur, _, 0 => some (s, cur)
  | 0, _, _, _, _ + 1 => none
  | f + 1, s, cur, i, n + 1 =>
    match walkM R f s cur (idxKey i) with
    | some (s1, res, cur1) =>
      walkIdx R f s1 (match res with
                      | none => rDelete cur1 (idxKey i)
                      | some y => rDefine cur1 (idxKey i) y) (i + 1) n
    | none => none
/-- the keys taken when the walk of the object started, over the CURRENT content -/
def walkKeys {σ : Type} (R : ReviverM σ) : Nat → σ → RVal → List Str → Option (σ × RVal)
  | _, s, cur, [] => some (s, cur)
  | 0, _, _, _ :: _ => none
  | f + 1, s, cur, k :: ks =>
    match walkM R f s cur k with
    | some (s1, res, cur1) =>
      walkKeys R f s1 (match res with
                       | none => rDelete cur1 k
                       | some y => rDefine cur1 k y) ks
    | none => none
end

/-- JSON.parse(text, reviver): the root holder is `{"": value}` -/
def reviveRootM {σ : Type} (R : ReviverM σ) (fuel : Nat) (s : σ) (v : JVal) : Option (σ × Option RVal) :=
  match walkM R fuel s (.obj [([], emb v)]) [] with
  | some (s1, res, _) => some (s1, res)
  | none => none

theorem walkM_noncontainer {σ : Type} (R : ReviverM σ) (f : Nat) (s : σ) (holder : RVal) (key : Str)
    (h : ∀ xs, rGet holder key ≠ some (.arr xs)) (h' : ∀ ms, rGet holder key ≠ some (.obj ms)) :
    walkM R (f + 1) s holder key = some (R s holder key (rGet holder key)) := by
  rw [walkM]
  split
  · rename_i xs heq; exact absurd heq (h xs)
  · rename_i ms heq; exact absurd heq (h' ms)
  · rfl

/-- the walk of an object visits exactly the keys it was started with: none left ⇒ the content is returned as it is -/
theorem walkKeys_nil {σ : Type} (R : ReviverM σ) (f : Nat) (s : σ) (cur : RVal) : walkKeys R f s cur [] = some (s, cur) := by
  cases f <;> simp [walkKeys]

/-- one step of the object walk: the CURRENT content `cur` is consulted for the key, the result is written (or the key
    deleted) in the content as the call left it, and the walk goes on with the remaining keys of the snapshot -/
theorem walkKeys_cons {σ : Type} (R : ReviverM σ) (f : Nat) (s : σ) (cur : RVal) (k : Str) (ks : List Str) :
    walkKeys R (f + 1) s cur (k :: ks) =
      match walkM R f s cur k with
      | some (s1, res, cur1) =>
        walkKeys R f s1 (match res with
                         | none => rDelete cur1 k
                         | some y => rDefine cur1 k y) ks
      | none => none := by
  rw [walkKeys]

end GojaModel.C19
