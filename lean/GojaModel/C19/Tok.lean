/-
  C19, mechanism level: JSON.parse as goja implements it — Go's encoding/json token stream (`Decoder.Token`,
  GOROOT/src/encoding/json/stream.go) driven by builtin_json.go:83 decodeValue / :52 decodeToken / :128 decodeArray /
  :91 decodeObject / :111 decodeObjectKey and the trailing-token check at :32.

  `Decoder` = the decoder: unread input, tokenState, tokenStack.  `token` transcribes `Token()` case by case (the `continue`
  after ':' and ',' is unfolded once: after a separator the state is one in which a second separator is an error).
  Scalars are read by `Decode(&x)` with UseNumber: a literal, a string token or a number token starting at the current
  position, ended by the first unit that cannot continue it (`scanScalar`; the scanner's complaint about a non-space
  unit after a top-level value is discarded by the streaming decoder).  Strings are kept as UTF-16 units here; the
  UTF-8 view of the text (lone surrogates → U+FFFD) is the documented exception handled outside (`fixText`).
-/
import GojaModel.C19.Model

namespace GojaModel.C19

inductive TState where
  | topValue | arrayStart | arrayValue | arrayComma | objectStart | objectKey | objectColon | objectValue | objectComma
  deriving DecidableEq

structure Decoder where
  inp : Str
  st : TState
  stack : List TState

inductive Tok where
  | delim (c : Nat)
  | val (v : JVal)

inductive TRes where
  | tok (t : Tok) (d : Decoder)
  | eof
  | err

/-- stream.go tokenValueAllowed -/
def valueAllowed : TState → Bool
  | .topValue | .arrayStart | .arrayValue | .objectValue => true
  | _ => false

/-- stream.go tokenValueEnd -/
def valueEnd : TState → TState
  | .arrayStart | .arrayValue => .arrayComma
  | .objectValue => .objectComma
  | s => s

/-- `Decode(&x)` for a scalar at the head of the input -/
def scanScalar : Str → Option (JVal × Str)
  | [] => none
  | c :: r =>
    if c = 110 then (match matchLit [117, 108, 108] r with | some r' => some (.null, r') | none => none)
    else if c = 116 then (match matchLit [114, 117, 101] r with | some r' => some (.bool true, r') | none => none)
    else if c = 102 then (match matchLit [97, 108, 115, 101] r with | some r' => some (.bool false, r') | none => none)
    else if c = 34 then (match parseStrBody r with | some (u, r') => some (.str u, r') | none => none)
    else (match parseNum (c :: r) with | some (l, r') => some (.num l, r') | none => none)

/-- pop the token stack (Go indexes `tokenStack[len-1]`; the states in which `]`/`}` are accepted are only entered by a push) -/
def popState (d : Decoder) (rest : Str) : Decoder :=
  match d.stack with
  | p :: stk => { inp := rest, st := valueEnd p, stack := stk }
  | [] => { inp := rest, st := valueEnd .topValue, stack := [] }

/-- one pass of the loop body of `Token()`: a token, EOF, an error, or `continue` with the new decoder -/
inductive Step where
  | done (r : TRes)
  | again (d : Decoder)

def tokenStep (d : Decoder) : Step :=
  match skipWs d.inp with
  | [] => .done .eof
  | c :: r =>
    if c = 91 then
      (if valueAllowed d.st then .done (.tok (.delim 91) { inp := r, st := .arrayStart, stack := d.st :: d.stack }) else .done .err)
    else if c = 93 then
      (if d.st = .arrayStart ∨ d.st = .arrayComma then .done (.tok (.delim 93) (popState d r)) else .done .err)
    else if c = 123 then
      (if valueAllowed d.st then .done (.tok (.delim 123) { inp := r, st := .objectStart, stack := d.st :: d.stack }) else .done .err)
    else if c = 125 then
      (if d.st = .objectStart ∨ d.st = .objectComma then .done (.tok (.delim 125) (popState d r)) else .done .err)
    else if c = 58 then
      (if d.st = .objectColon then .again { d with inp := r, st := .objectValue } else .done .err)
    else if c = 44 then
      (if d.st = .arrayComma then .again { d with inp := r, st := .arrayValue }
       else if d.st = .objectComma then .again { d with inp := r, st := .objectKey }
       else .done .err)
    else if c = 34 ∧ (d.st = .objectStart ∨ d.st = .objectKey) then
      (match parseStrBody r with
       | some (k, r') => .done (.tok (.val (.str k)) { d with inp := r', st := .objectColon })
       | none => .done .err)
    else
      (if valueAllowed d.st then
        (match scanScalar (c :: r) with
         | some (v, r') => .done (.tok (.val v) { d with inp := r', st := valueEnd d.st })
         | none => .done .err)
       else .done .err)

/-- `Token()` -/
def token (d : Decoder) : TRes :=
  match tokenStep d with
  | .done r => r
  | .again d' =>
    match tokenStep d' with
    | .done r => r
    | .again _ => .err

mutual
/-- builtin_json.go:83 decodeValue -/
def gValue : Nat → Decoder → Option (JVal × Decoder)
  | 0, _ => none
  | f + 1, d =>
    match token d with
    | .tok t d' => gToken f t d'
    | _ => none
/-- builtin_json.go:52 decodeToken -/
def gToken : Nat → Tok → Decoder → Option (JVal × Decoder)
  | 0, _, _ => none
  | f + 1, t, d =>
    match t with
    | .val v => some (v, d)
    | .delim c =>
      if c = 91 then (match gArray f d with | some (xs, d') => some (.arr xs, d') | none => none)
      else if c = 123 then (match gObject f d with | some (ms, d') => some (.obj ms, d') | none => none)
      else none
/-- builtin_json.go:128 decodeArray, the loop -/
def gArray : Nat → Decoder → Option (List JVal × Decoder)
  | 0, _ => none
  | f + 1, d =>
    match token d with
    | .tok (.delim 93) d' => some ([], d')
    | .tok t d' =>
      (match gToken f t d' with
       | some (v, d2) =>
         (match gArray f d2 with
          | some (xs, d3) => some (v :: xs, d3)
          | none => none)
       | none => none)
    | _ => none
/-- builtin_json.go:91 decodeObject with :111 decodeObjectKey, the loop -/
def gObject : Nat → Decoder → Option (List (Str × JVal) × Decoder)
  | 0, _ => none
  | f + 1, d =>
    match token d with
    | .tok (.delim 125) d' => some ([], d')
    | .tok (.val (.str k)) d' =>
      (match gValue f d' with
       | some (v, d2) =>
         (match gObject f d2 with
          | some (ms, d3) => some ((k, v) :: ms, d3)
          | none => none)
       | none => none)
    | _ => none
end

/-- builtin_json.go:20 builtinJSON_parse up to the reviver: decodeValue, then `d.Token()` must report io.EOF -/
def gojaParseRaw (t : Str) : Option JVal :=
  match gValue (4 * t.length + 4) { inp := t, st := .topValue, stack := [] } with
  | some (v, d) =>
    (match token d with
     | .eof => some v
     | _ => none)
  | none => none

end GojaModel.C19
