/-
  C19: the reviver walk of JSON.parse (InternalizeJSONProperty, ECMA-262 §25.5.1.1) for revivers that do not touch
  their holder: pure functions of (key, value) (`revive`), and functions with a state threaded through the calls
  (`reviveS`).  Results may contain array holes (an element for which the reviver returned undefined is deleted), so
  they live in `RVal`.
-/
import GojaModel.C19.Model

namespace GojaModel.C19

/-- values after a reviver walk: JSON values plus array holes -/
inductive RVal where
  | null
  | bool (b : Bool)
  | num (lex : Str)
  | str (s : Str)
  | hole
  | arr (xs : List RVal)
  | obj (ms : List (Str × RVal))

mutual
def emb : JVal → RVal
  | .null => .null
  | .bool b => .bool b
  | .num l => .num l
  | .str s => .str s
  | .arr xs => .arr (embList xs)
  | .obj ms => .obj (embMembers ms)
def embList : List JVal → List RVal
  | [] => []
  | v :: t => emb v :: embList t
def embMembers : List (Str × JVal) → List (Str × RVal)
  | [] => []
  | (k, v) :: t => (k, emb v) :: embMembers t
end

/-- ToString of an array index -/
def idxKey (i : Nat) : Str := (Nat.toDigits 10 i).map Char.toNat

/-- a pure reviver: `none` = undefined -/
abbrev Reviver := Str → RVal → Option RVal

mutual
/-- InternalizeJSONProperty(holder, name) where holder[name] = v: children first (post-order), then the reviver -/
def revive (R : Reviver) : Str → JVal → Option RVal
  | k, .null => R k .null
  | k, .bool b => R k (.bool b)
  | k, .num l => R k (.num l)
  | k, .str s => R k (.str s)
  | k, .arr xs => R k (.arr (reviveElems R 0 xs))
  | k, .obj ms => R k (.obj (reviveMembers R ms))
/-- array elements: undefined ⇒ the element is deleted (a hole), otherwise CreateDataProperty -/
def reviveElems (R : Reviver) : Nat → List JVal → List RVal
  | _, [] => []
  | i, v :: t =>
    (match revive R (idxKey i) v with
     | some y => y
     | none => .hole) :: reviveElems R (i + 1) t
/-- object members: undefined ⇒ the member is deleted, otherwise redefined in place -/
def reviveMembers (R : Reviver) : List (Str × JVal) → List (Str × RVal)
  | [] => []
  | (k, v) :: t =>
    match revive R k v with
    | some y => (k, y) :: reviveMembers R t
    | none => reviveMembers R t
end

/-- JSON.parse(text, reviver) on the built value: the root holder is `{"": value}` -/
def parseWithReviver (N : NumCanon) (R : Reviver) (t : Str) : Option (Option RVal) :=
  match parse N t with
  | some v => some (revive R [] v)
  | none => none

/-! the keys the reviver is called with, in call order: post-order, elements by index, members in key order, root "" last -/
mutual
def calls : Str → JVal → List Str
  | k, .arr xs => callsElems 0 xs ++ [k]
  | k, .obj ms => callsMembers ms ++ [k]
  | k, _ => [k]
def callsElems : Nat → List JVal → List Str
  | _, [] => []
  | i, v :: t => calls (idxKey i) v ++ callsElems (i + 1) t
def callsMembers : List (Str × JVal) → List Str
  | [] => []
  | (k, v) :: t => calls k v ++ callsMembers t
end

/-- a reviver with state (what a JavaScript function can observe and remember between calls): state in, state out -/
abbrev ReviverS (σ : Type) := σ → Str → RVal → σ × Option RVal

mutual
/-- the walk with the state threaded through the calls in the order the specification makes them -/
def reviveS {σ : Type} (R : ReviverS σ) : Str → JVal → σ → σ × Option RVal
  | k, .null, s => R s k .null
  | k, .bool b, s => R s k (.bool b)
  | k, .num l, s => R s k (.num l)
  | k, .str x, s => R s k (.str x)
  | k, .arr xs, s => R (reviveElemsS R 0 xs s).1 k (.arr (reviveElemsS R 0 xs s).2)
  | k, .obj ms, s => R (reviveMembersS R ms s).1 k (.obj (reviveMembersS R ms s).2)
def reviveElemsS {σ : Type} (R : ReviverS σ) : Nat → List JVal → σ → σ × List RVal
  | _, [], s => (s, [])
  | i, v :: t, s =>
    ((reviveElemsS R (i + 1) t (reviveS R (idxKey i) v s).1).1,
     (match (reviveS R (idxKey i) v s).2 with
      | some y => y
      | none => .hole) :: (reviveElemsS R (i + 1) t (reviveS R (idxKey i) v s).1).2)
def reviveMembersS {σ : Type} (R : ReviverS σ) : List (Str × JVal) → σ → σ × List (Str × RVal)
  | [], s => (s, [])
  | (k, v) :: t, s =>
    ((reviveMembersS R t (reviveS R k v s).1).1,
     match (reviveS R k v s).2 with
     | some y => (k, y) :: (reviveMembersS R t (reviveS R k v s).1).2
     | none => (reviveMembersS R t (reviveS R k v s).1).2)
end

/-- the logging identity reviver `function(k, v){ LOG.push(k); return v }` -/
def logId : ReviverS (List Str) := fun log k v => (log ++ [k], some v)

mutual
theorem revive_id_aux : ∀ (k : Str) (v : JVal), revive (fun _ x => some x) k v = some (emb v)
  | _, .null | _, .bool _ | _, .num _ | _, .str _ => by simp [revive, emb]
  | _, .arr xs => by simp [revive, emb, reviveElems_id_aux 0 xs]
  | _, .obj ms => by simp [revive, emb, reviveMembers_id_aux ms]
theorem reviveElems_id_aux : ∀ (i : Nat) (xs : List JVal), reviveElems (fun _ x => some x) i xs = embList xs
  | _, [] => by simp [reviveElems, embList]
  | i, v :: t => by simp [reviveElems, embList, revive_id_aux (idxKey i) v, reviveElems_id_aux (i + 1) t]
theorem reviveMembers_id_aux : ∀ (ms : List (Str × JVal)), reviveMembers (fun _ x => some x) ms = embMembers ms
  | [] => by simp [reviveMembers, embMembers]
  | (k, v) :: t => by simp [reviveMembers, embMembers, revive_id_aux k v, reviveMembers_id_aux t]
end

mutual
theorem reviveS_split {σ : Type} (R : ReviverS σ) (R' : Reviver) (g : σ → Str → σ)
    (hR : ∀ s k x, R s k x = (g s k, R' k x)) : ∀ (k : Str) (v : JVal) (s : σ),
    reviveS R k v s = ((calls k v).foldl g s, revive R' k v)
  | _, .null, _ | _, .bool _, _ | _, .num _, _ | _, .str _, _ => by simp [reviveS, revive, calls, hR]
  | k, .arr xs, s => by simp [reviveS, revive, calls, hR, reviveElemsS_split R R' g hR 0 xs s]
  | k, .obj ms, s => by simp [reviveS, revive, calls, hR, reviveMembersS_split R R' g hR ms s]
theorem reviveElemsS_split {σ : Type} (R : ReviverS σ) (R' : Reviver) (g : σ → Str → σ)
    (hR : ∀ s k x, R s k x = (g s k, R' k x)) : ∀ (i : Nat) (xs : List JVal) (s : σ),
    reviveElemsS R i xs s = ((callsElems i xs).foldl g s, reviveElems R' i xs)
  | _, [], _ => by simp [reviveElemsS, reviveElems, callsElems]
  | i, v :: t, s => by
    simp [reviveElemsS, reviveElems, callsElems, reviveS_split R R' g hR (idxKey i) v s,
      reviveElemsS_split R R' g hR (i + 1) t]
theorem reviveMembersS_split {σ : Type} (R : ReviverS σ) (R' : Reviver) (g : σ → Str → σ)
    (hR : ∀ s k x, R s k x = (g s k, R' k x)) : ∀ (ms : List (Str × JVal)) (s : σ),
    reviveMembersS R ms s = ((callsMembers ms).foldl g s, reviveMembers R' ms)
  | [], _ => by simp [reviveMembersS, reviveMembers, callsMembers]
  | (k, v) :: t, s => by
    simp only [reviveMembersS, reviveMembers, callsMembers, reviveS_split R R' g hR k v s,
      reviveMembersS_split R R' g hR t, List.foldl_append]
end

theorem foldl_snoc {α : Type} (l init : List α) : l.foldl (fun acc p => acc ++ [p]) init = init ++ l := by
  induction l generalizing init with
  | nil => simp
  | cons a t ih => simp [ih]

theorem reviveS_logId (k : Str) (v : JVal) (log : List Str) :
    reviveS logId k v log = (log ++ calls k v, some (emb v)) := by
  rw [reviveS_split logId (fun _ x => some x) (fun log k => log ++ [k]) (fun _ _ _ => rfl), foldl_snoc, revive_id_aux]

theorem reviveElemsS_logId : ∀ (i : Nat) (xs : List JVal) (log : List Str),
    reviveElemsS logId i xs log = (log ++ callsElems i xs, embList xs) := by
  intro i xs log
  rw [reviveElemsS_split logId (fun _ x => some x) (fun log k => log ++ [k]) (fun _ _ _ => rfl), foldl_snoc,
    reviveElems_id_aux]

theorem reviveMembersS_logId : ∀ (ms : List (Str × JVal)) (log : List Str),
    reviveMembersS logId ms log = (log ++ callsMembers ms, embMembers ms) := by
  intro ms log
  rw [reviveMembersS_split logId (fun _ x => some x) (fun log k => log ++ [k]) (fun _ _ _ => rfl), foldl_snoc,
    reviveMembers_id_aux]

theorem reviveS_pure (R : Reviver) (k : Str) (v : JVal) :
    reviveS (σ := Unit) (fun _ k x => ((), R k x)) k v () = ((), revive R k v) :=
  reviveS_split _ R (fun _ _ => ()) (fun _ _ _ => rfl) k v ()

theorem reviveElemsS_pure (R : Reviver) : ∀ (i : Nat) (xs : List JVal),
    reviveElemsS (σ := Unit) (fun _ k x => ((), R k x)) i xs () = ((), reviveElems R i xs) :=
  fun i xs => reviveElemsS_split _ R (fun _ _ => ()) (fun _ _ _ => rfl) i xs ()

theorem reviveMembersS_pure (R : Reviver) : ∀ (ms : List (Str × JVal)),
    reviveMembersS (σ := Unit) (fun _ k x => ((), R k x)) ms () = ((), reviveMembers R ms) :=
  fun ms => reviveMembersS_split _ R (fun _ _ => ()) (fun _ _ _ => rfl) ms ()

end GojaModel.C19
