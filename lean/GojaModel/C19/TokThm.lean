/-
  C19: the token-stream parser of Tok.lean accepts exactly the grammar.  Grammar ⇒ mechanism (`gram_compAll`: every
  derivable value text is read with the denoted tree, for every entry state and stack, with an explicit fuel bound)
  and mechanism ⇒ grammar (`snd_all`, by fuel), both by rewriting with the recursive-descent equations of TokStep.lean;
  then `gojaParseRaw_iff_text` and `gojaParseRaw_eq_parseRaw`.
-/
import GojaModel.C19.TokStep
import GojaModel.C19.Grammar

namespace GojaModel.C19

-- fuel of the token-stream parser: what decodeToken / the loop of decodeArray / the loop of decodeObject need for a
-- tree; a loop pays one unit per element and one for the closing bracket (at most twice `need`: `gT_le`)
mutual
def gT : JVal → Nat
  | .arr xs => gA xs + 1
  | .obj ms => gO ms + 1
  | _ => 1
def gA : List JVal → Nat
  | [] => 1
  | x :: t => max (gT x) (gA t) + 1
def gO : List (Str × JVal) → Nat
  | [] => 1
  | (_, v) :: t => max (gT v + 1) (gO t) + 1
end

theorem gT_pos (v : JVal) : 1 ≤ gT v := by cases v <;> simp [gT]

theorem gA_cons {v : JVal} {t : List JVal} {f : Nat} (h : gA (v :: t) ≤ f) :
    ∃ f', f = f' + 2 ∧ gT v ≤ f' + 1 ∧ gA t ≤ f' + 1 := by
  have := gT_pos v
  simp only [gA] at h
  exact ⟨f - 2, by omega, by omega, by omega⟩

theorem gO_cons {k : Str} {v : JVal} {t : List (Str × JVal)} {f : Nat} (h : gO ((k, v) :: t) ≤ f) :
    ∃ f', f = f' + 2 ∧ gT v ≤ f' ∧ gO t ≤ f' + 1 := by
  have := gT_pos v
  simp only [gO] at h
  exact ⟨f - 2, by omega, by omega, by omega⟩

mutual
theorem gT_le : ∀ v : JVal, gT v ≤ 2 * need v
  | .null | .bool _ | .num _ | .str _ => by simp [gT, need]
  | .arr xs => by have := gA_le xs; simp only [gT, need]; omega
  | .obj ms => by have := gO_le ms; simp only [gT, need]; omega
theorem gA_le : ∀ xs : List JVal, gA xs ≤ 2 * needL xs + 1
  | [] => by simp [gA, needL]
  | x :: t => by have := gT_le x; have := gA_le t; simp only [gA, needL]; omega
theorem gO_le : ∀ ms : List (Str × JVal), gO ms ≤ 2 * needM ms + 1
  | [] => by simp [gO, needM]
  | (_, v) :: t => by have := gT_le v; have := gO_le t; simp only [gO, needM]; omega
end

/-- the loop of decodeArray started on the text after `[` (state arrayStart) or after `,` (state arrayValue) -/
def CompA (s2 : Str) (xs : List JVal) (r : Str) : Prop :=
  ∀ (stA p : TState) (stk : List TState) (f : Nat), (stA = .arrayStart ∨ stA = .arrayValue) → gA xs ≤ f →
    gArray f ⟨s2, stA, p :: stk⟩ = some (xs, ⟨r, valueEnd p, stk⟩)

def CompO (s2 : Str) (ms : List (Str × JVal)) (r : Str) : Prop :=
  ∀ (stO p : TState) (stk : List TState) (f : Nat), (stO = .objectStart ∨ stO = .objectKey) → gO ms ≤ f →
    gObject f ⟨s2, stO, p :: stk⟩ = some (ms, ⟨r, valueEnd p, stk⟩)

def CompV (s : Str) (v : JVal) (r : Str) : Prop :=
  ∀ (w : Str) (st : TState) (stk : List TState) (f : Nat), AllWs w → valueAllowed st = true → Stop r → gT v ≤ f →
    gValue (f + 1) ⟨w ++ s, st, stk⟩ = some (v, ⟨r, valueEnd st, stk⟩)

/-- what the induction over a derivation carries: `Gram.arrCons` / `Gram.objCons` give the elements after a comma as the
    text `[` … (`{` …) of the remaining list, and it is the loop statement for that text the next step needs -/
def CompAll (s : Str) (v : JVal) (r : Str) : Prop :=
  CompV s v r ∧
  (∀ s2 x t, s = 91 :: s2 → v = .arr (x :: t) → CompA s2 (x :: t) r) ∧
  (∀ s2 p t, s = 123 :: s2 → v = .obj (p :: t) → CompO s2 (p :: t) r)

theorem compAll_scalar {s : Str} {v : JVal} {r : Str} (hg : Gram s v r) (hv : IsScalar v) : CompAll s v r := by
  refine ⟨?_, fun _ _ _ _ e => by subst e; exact hv.elim, fun _ _ _ _ e => by subst e; exact hv.elim⟩
  intro w st stk f hw hst hs hf
  obtain ⟨c, tl, rfl, hb, hcw, h2, h4, h5, h6⟩ := gram_head hg
  obtain ⟨h1, h3⟩ := hb hv
  obtain ⟨f, rfl, -⟩ := succ_le_cases (Nat.le_trans (gT_pos v) hf)
  rw [gValue_value hst (skipWs_head w hw hcw)]
  simp only [h1, h2, h3, h4, h5, h6, if_false, or_self, scanScalar_complete hg hv hs]

theorem compV_arr {s2 : Str} {xs : List JVal} {r : Str} (h : CompA s2 xs r) : CompV (91 :: s2) (.arr xs) r := by
  intro w st stk f hw hst _ hf
  -- `gT (.arr xs)` unfolds to `gA xs + 1`
  obtain ⟨f, rfl, hfa⟩ := succ_le_cases hf
  rw [gValue_value hst (skipWs_head w hw (by decide)), if_pos rfl, h .arrayStart st stk f (.inl rfl) hfa]

theorem compV_obj {s2 : Str} {ms : List (Str × JVal)} {r : Str} (h : CompO s2 ms r) : CompV (123 :: s2) (.obj ms) r := by
  intro w st stk f hw hst _ hf
  obtain ⟨f, rfl, hfo⟩ := succ_le_cases hf
  rw [gValue_value hst (skipWs_head w hw (by decide)), if_neg (by decide), if_pos rfl,
    h .objectStart st stk f (.inl rfl) hfo]

theorem compA_elem {w1 s : Str} {v : JVal} {rest : Str} (hw1 : AllWs w1) (hg : Gram s v rest) (hv : CompV s v rest)
    (hs : Stop rest) {stA : TState} (p : TState) (stk : List TState) (f : Nat)
    (hA : stA = .arrayStart ∨ stA = .arrayValue) (hf : gT v ≤ f + 1) :
    gArray (f + 2) ⟨w1 ++ s, stA, p :: stk⟩ =
      match gArray (f + 1) ⟨rest, .arrayComma, p :: stk⟩ with
      | some (xs, d3) => some (v :: xs, d3)
      | none => none := by
  -- the first unit of a value text is not a closing bracket: the loop reads an element
  obtain ⟨c, tl, rfl, _, hcw, h93, _⟩ := gram_head hg
  rw [gArray_entry hA (skipWs_head w1 hw1 hcw), if_neg h93,
    hv w1 stA (p :: stk) (f + 1) hw1 (valueEnd_arrayEntry hA).1 hs hf, (valueEnd_arrayEntry hA).2]
  rfl

theorem compO_member {w1 w2 w3 b k s : Str} {v : JVal} {rest : Str} (hw1 : AllWs w1) (hw2 : AllWs w2) (hw3 : AllWs w3)
    (hb : StrBody b k) (hv : CompV s v rest) (hs : Stop rest) {stO : TState} (p : TState) (stk : List TState) (f : Nat)
    (hO : stO = .objectStart ∨ stO = .objectKey) (hf : gT v ≤ f) :
    gObject (f + 2) ⟨w1 ++ 34 :: (b ++ 34 :: (w2 ++ 58 :: (w3 ++ s))), stO, p :: stk⟩ =
      match gObject (f + 1) ⟨rest, .objectComma, p :: stk⟩ with
      | some (ms, d3) => some ((k, v) :: ms, d3)
      | none => none := by
  rw [gObject_entry hO (skipWs_head w1 hw1 (by decide)), if_neg (by decide), if_pos rfl]
  simp only [strBody_complete hb]
  rw [gValue_colon (skipWs_head w2 hw2 (by decide)), if_pos rfl, hv w3 .objectValue (p :: stk) f hw3 rfl hs hf]
  rfl

theorem gram_compAll {s : Str} {v : JVal} {r : Str} (h : Gram s v r) : CompAll s v r := by
  induction h with
  | @arrNil w0 r hw0 =>
    refine ⟨?_, nofun, nofun⟩
    intro w st stk f hw hst _ hf
    obtain ⟨f, rfl⟩ : ∃ f', f = f' + 2 := ⟨f - 2, by simp [gT, gA] at hf; omega⟩
    rw [gValue_value hst (skipWs_head w hw (by decide)), if_pos rfl,
      gArray_entry (.inl rfl) (skipWs_head w0 hw0 (by decide)), if_pos rfl, if_pos rfl]
    rfl
  | @arrOne w1 w2 s v r hw1 hw2 hg ih =>
    have hA : CompA (w1 ++ s) [v] r := by
      intro stA p stk f hA hf
      obtain ⟨f, rfl, hfv, _⟩ := gA_cons hf
      rw [compA_elem hw1 hg ih.1 (stop_ws_then hw2 93 r (by simp)) p stk f hA hfv,
        gArray_comma (skipWs_head w2 hw2 (by decide)), if_pos rfl]
      rfl
    exact ⟨compV_arr hA, by rintro _ _ _ ⟨⟩ ⟨⟩; exact hA, nofun⟩
  | @arrCons w1 w2 s s2 v x t r hw1 hw2 hg hgt ih1 ih2 =>
    have hA : CompA (w1 ++ s) (v :: x :: t) r := by
      intro stA p stk f hA hf
      obtain ⟨f, rfl, hfv, hft⟩ := gA_cons hf
      rw [compA_elem hw1 hg ih1.1 (stop_ws_then hw2 44 s2 (by simp)) p stk f hA hfv,
        gArray_comma (skipWs_head w2 hw2 (by decide)), if_neg (by decide), if_pos rfl,
        ih2.2.1 s2 x t rfl rfl .arrayValue p stk (f + 1) (.inr rfl) hft]
    exact ⟨compV_arr hA, by rintro _ _ _ ⟨⟩ ⟨⟩; exact hA, nofun⟩
  | @objNil w0 r hw0 =>
    refine ⟨?_, nofun, nofun⟩
    intro w st stk f hw hst _ hf
    obtain ⟨f, rfl⟩ : ∃ f', f = f' + 2 := ⟨f - 2, by simp [gT, gO] at hf; omega⟩
    rw [gValue_value hst (skipWs_head w hw (by decide)), if_neg (by decide), if_pos rfl,
      gObject_entry (.inl rfl) (skipWs_head w0 hw0 (by decide)), if_pos rfl, if_pos rfl]
    rfl
  | @objOne w1 w2 w3 w4 b k s v r hw1 hw2 hw3 hw4 hb hg ih =>
    have hO : CompO (w1 ++ 34 :: (b ++ 34 :: (w2 ++ 58 :: (w3 ++ s)))) [(k, v)] r := by
      intro stO p stk f hO hf
      obtain ⟨f, rfl, hfv, _⟩ := gO_cons hf
      rw [compO_member hw1 hw2 hw3 hb ih.1 (stop_ws_then hw4 125 r (by simp)) p stk f hO hfv,
        gObject_comma (skipWs_head w4 hw4 (by decide)), if_pos rfl]
      rfl
    exact ⟨compV_obj hO, nofun, by rintro _ _ _ ⟨⟩ ⟨⟩; exact hO⟩
  | @objCons w1 w2 w3 w4 b k s s2 v p t r hw1 hw2 hw3 hw4 hb hg hgt ih1 ih2 =>
    have hO : CompO (w1 ++ 34 :: (b ++ 34 :: (w2 ++ 58 :: (w3 ++ s)))) ((k, v) :: p :: t) r := by
      intro stO q stk f hO hf
      obtain ⟨f, rfl, hfv, hft⟩ := gO_cons hf
      rw [compO_member hw1 hw2 hw3 hb ih1.1 (stop_ws_then hw4 44 s2 (by simp)) q stk f hO hfv,
        gObject_comma (skipWs_head w4 hw4 (by decide)), if_neg (by decide), if_pos rfl,
        ih2.2.2 s2 p t rfl rfl .objectKey q stk (f + 1) (.inr rfl) hft]
    exact ⟨compV_obj hO, nofun, by rintro _ _ _ ⟨⟩ ⟨⟩; exact hO⟩
  | null | tru | fls | num | str => exact compAll_scalar (by constructor <;> assumption) (by trivial)

/-- what a successful run of the array loop has read, by the state it started in -/
def ArrRead : TState → Str → List JVal → Str → Prop
  | .arrayStart, s, xs, r => Gram (91 :: s) (.arr xs) r
  | .arrayValue, s, xs, r => Elems s xs r
  | .arrayComma, s, xs, r => (xs = [] ∧ ∃ w, AllWs w ∧ s = w ++ 93 :: r) ∨
      ∃ w s2, AllWs w ∧ s = w ++ 44 :: s2 ∧ Elems s2 xs r
  | _, _, _, _ => True

def SndV (f : Nat) : Prop := ∀ s st stk v d', valueAllowed st = true → gValue f ⟨s, st, stk⟩ = some (v, d') →
  ∃ w s' r, AllWs w ∧ s = w ++ s' ∧ Gram s' v r ∧ d' = ⟨r, valueEnd st, stk⟩

def SndA (f : Nat) : Prop := ∀ s stA p stk xs d', gArray f ⟨s, stA, p :: stk⟩ = some (xs, d') →
  stA = .arrayStart ∨ stA = .arrayValue ∨ stA = .arrayComma → ∃ r, d' = ⟨r, valueEnd p, stk⟩ ∧ ArrRead stA s xs r

def ObjRead : TState → Str → List (Str × JVal) → Str → Prop
  | .objectStart, s, ms, r => Gram (123 :: s) (.obj ms) r
  | .objectKey, s, ms, r => Members s ms r
  | .objectComma, s, ms, r => (ms = [] ∧ ∃ w, AllWs w ∧ s = w ++ 125 :: r) ∨
      ∃ w s2, AllWs w ∧ s = w ++ 44 :: s2 ∧ Members s2 ms r
  | _, _, _, _ => True

def SndO (f : Nat) : Prop := ∀ s stO p stk ms d', gObject f ⟨s, stO, p :: stk⟩ = some (ms, d') →
  stO = .objectStart ∨ stO = .objectKey ∨ stO = .objectComma → ∃ r, d' = ⟨r, valueEnd p, stk⟩ ∧ ObjRead stO s ms r

theorem sndA_entry {f : Nat} (hV : SndV (f + 1)) (hA : SndA f) {s : Str} {stA p : TState} {stk : List TState}
    {xs : List JVal} {d' : Decoder} (hst : stA = .arrayStart ∨ stA = .arrayValue)
    (h : gArray (f + 1) ⟨s, stA, p :: stk⟩ = some (xs, d')) :
    ∃ r, d' = ⟨r, valueEnd p, stk⟩ ∧ ArrRead stA s xs r := by
  rcases skipWs_cases s with hk | ⟨w, c, tl, hw, hs, hk⟩
  · rw [gArray_eof hk] at h; cases h
  rw [gArray_entry hst hk] at h
  split at h
  · split at h
    · cases h; subst c stA; exact ⟨tl, rfl, hs ▸ Gram.arrNil tl hw⟩
    · cases h
  · cases hv : gValue (f + 1) ⟨s, stA, p :: stk⟩ with
    | none => rw [hv] at h; cases h
    | some q =>
      obtain ⟨v, d2⟩ := q
      obtain ⟨w1, s', r1, hw1, rfl, hg, rfl⟩ := hV _ _ _ _ _ (valueEnd_arrayEntry hst).1 hv
      rw [hv, (valueEnd_arrayEntry hst).2] at h
      simp only [] at h
      cases hr : gArray f ⟨r1, .arrayComma, p :: stk⟩ with
      | none => rw [hr] at h; cases h
      | some q2 =>
        obtain ⟨xs', d3⟩ := q2
        rw [hr] at h; cases h
        obtain ⟨r, rfl, hK⟩ := hA _ _ _ _ _ _ hr (.inr (.inr rfl))
        have hE : Elems (w1 ++ s') (v :: xs') r := by
          rcases hK with ⟨rfl, w2, hw2, rfl⟩ | ⟨w2, s2, hw2, rfl, hE⟩
          · exact .one hw1 hw2 hg
          · exact .cons hw1 hw2 hg hE
        rcases hst with rfl | rfl
        · exact ⟨r, rfl, hE.2⟩
        · exact ⟨r, rfl, hE⟩

theorem sndA_step {f : Nat} (hV : SndV (f + 1)) (hA : SndA f) : SndA (f + 1) := by
  intro s stA p stk xs d' h hst
  rcases hst with rfl | rfl | rfl
  · exact sndA_entry hV hA (.inl rfl) h
  · exact sndA_entry hV hA (.inr rfl) h
  · rcases skipWs_cases s with hk | ⟨w, c, tl, hw, hs, hk⟩
    · rw [gArray_eof hk] at h; cases h
    rw [gArray_comma hk] at h
    split at h
    · cases h; subst c; exact ⟨tl, rfl, .inl ⟨rfl, w, hw, hs⟩⟩
    split at h
    · subst c
      obtain ⟨r, hd, hE⟩ := sndA_entry hV hA (.inr rfl) h
      exact ⟨r, hd, .inr ⟨w, tl, hw, hs, hE⟩⟩
    · cases h

theorem sndV_step {f : Nat} (hA : SndA f) (hO : SndO f) : SndV (f + 2) := by
  intro s st stk v d' hst h
  rcases skipWs_cases s with hk | ⟨w, c, tl, hw, hs, hk⟩
  · rw [gValue_eof hk] at h; cases h
  refine ⟨w, c :: tl, ?_⟩
  rw [gValue_value hst hk] at h
  split at h
  · split at h
    · cases h
      obtain ⟨r, rfl, hg⟩ := hA _ _ _ _ _ _ ‹_› (.inl rfl)
      subst c; exact ⟨r, hw, hs, hg, rfl⟩
    · cases h
  split at h
  · split at h
    · cases h
      obtain ⟨r, rfl, hg⟩ := hO _ _ _ _ _ _ ‹_› (.inl rfl)
      subst c; exact ⟨r, hw, hs, hg, rfl⟩
    · cases h
  split at h
  · cases h
  split at h
  · cases h; exact ⟨_, hw, hs, scanScalar_sound ‹_›, rfl⟩
  · cases h

theorem sndV_colon {f : Nat} (hV : SndV f) {s : Str} {stk : List TState} {v : JVal} {d' : Decoder}
    (h : gValue f ⟨s, .objectColon, stk⟩ = some (v, d')) :
    ∃ w1 w2 s' r, AllWs w1 ∧ AllWs w2 ∧ s = w1 ++ 58 :: (w2 ++ s') ∧ Gram s' v r ∧ d' = ⟨r, .objectComma, stk⟩ := by
  cases f with
  | zero => rw [gValue] at h; cases h
  | succ f =>
    rcases skipWs_cases s with hk | ⟨w, c, tl, hw, hs, hk⟩
    · rw [gValue_eof hk] at h; cases h
    rw [gValue_colon hk] at h
    split at h
    · obtain ⟨w2, s', r, hw2, rfl, hg, rfl⟩ := hV _ _ _ _ _ rfl h
      subst c; exact ⟨w, w2, s', r, hw, hw2, hs, hg, rfl⟩
    · cases h

theorem sndO_entry {f : Nat} (hV : SndV f) (hO : SndO f) {s : Str} {stO p : TState} {stk : List TState}
    {ms : List (Str × JVal)} {d' : Decoder} (hst : stO = .objectStart ∨ stO = .objectKey)
    (h : gObject (f + 1) ⟨s, stO, p :: stk⟩ = some (ms, d')) :
    ∃ r, d' = ⟨r, valueEnd p, stk⟩ ∧ ObjRead stO s ms r := by
  rcases skipWs_cases s with hk | ⟨w, c, tl, hw, hs, hk⟩
  · rw [gObject_eof hk] at h; cases h
  rw [gObject_entry hst hk] at h
  split at h
  · split at h
    · cases h; subst c stO; exact ⟨tl, rfl, hs ▸ Gram.objNil tl hw⟩
    · cases h
  split at h
  · subst c
    split at h
    · rename_i k r1 hp
      obtain ⟨b, hb, rfl⟩ := parseStrBody_sound hp
      split at h
      · rename_i v d2 hv
        obtain ⟨w2, w3, s', r2, hw2, hw3, rfl, hg, rfl⟩ := sndV_colon hV hv
        split at h
        · rename_i ms' d3 hr
          cases h
          obtain ⟨r, rfl, hK⟩ := hO _ _ _ _ _ _ hr (.inr (.inr rfl))
          have hM : Members s ((k, v) :: ms') r := by
            rw [hs]
            rcases hK with ⟨rfl, w4, hw4, rfl⟩ | ⟨w4, s2, hw4, rfl, hM⟩
            · exact .one hw hw2 hw3 hw4 hb hg
            · exact .cons hw hw2 hw3 hw4 hb hg hM
          rcases hst with rfl | rfl
          · exact ⟨r, rfl, hM.2⟩
          · exact ⟨r, rfl, hM⟩
        · cases h
      · cases h
    · cases h
  · cases h

theorem sndO_step {f : Nat} (hV : SndV f) (hO : SndO f) : SndO (f + 1) := by
  intro s stO p stk ms d' h hst
  rcases hst with rfl | rfl | rfl
  · exact sndO_entry hV hO (.inl rfl) h
  · exact sndO_entry hV hO (.inr rfl) h
  · rcases skipWs_cases s with hk | ⟨w, c, tl, hw, hs, hk⟩
    · rw [gObject_eof hk] at h; cases h
    rw [gObject_comma hk] at h
    split at h
    · cases h; subst c; exact ⟨tl, rfl, .inl ⟨rfl, w, hw, hs⟩⟩
    split at h
    · subst c
      obtain ⟨r, hd, hM⟩ := sndO_entry hV hO (.inr rfl) h
      exact ⟨r, hd, .inr ⟨w, tl, hw, hs, hM⟩⟩
    · cases h

/-- `gValue (f + 2)` enters the loops with fuel `f`, hence two levels at a time -/
theorem snd_all : ∀ f, (SndV f ∧ SndA f ∧ SndO f) ∧ (SndV (f + 1) ∧ SndA (f + 1) ∧ SndO (f + 1)) := by
  have z : SndV 0 ∧ SndA 0 ∧ SndO 0 :=
    ⟨fun _ _ _ _ _ _ h => by simp [gValue] at h, fun _ _ _ _ _ _ h => by simp [gArray] at h,
      fun _ _ _ _ _ _ h => by simp [gObject] at h⟩
  have v1 : SndV 1 := fun _ _ _ _ _ _ h => by rw [gValue] at h; split at h <;> simp [gToken] at h
  intro f
  induction f with
  | zero => exact ⟨z, v1, sndA_step v1 z.2.1, sndO_step z.1 z.2.2⟩
  | succ f ih =>
    obtain ⟨⟨_, hA, hO⟩, hV1, hA1, hO1⟩ := ih
    have hV2 := sndV_step hA hO
    exact ⟨⟨hV1, hA1, hO1⟩, hV2, sndA_step hV2 hA1, sndO_step hV1 hO1⟩

theorem gojaParseRaw_sound {t : Str} {v : JVal} (h : gojaParseRaw t = some v) : Text t v := by
  unfold gojaParseRaw at h
  split at h
  · rename_i v' d hg
    obtain ⟨w, s', r, hw, hs, hgr, rfl⟩ := (snd_all _).1.1 _ _ _ _ _ rfl hg
    split at h
    · cases h
      exact ⟨w, r, s', hw, skipWs_nil_allWs (token_top_eof ‹_›), hs, hgr⟩
    · cases h
  · cases h

theorem gojaParseRaw_complete {t : Str} {v : JVal} (h : Text t v) : gojaParseRaw t = some v := by
  obtain ⟨w1, w2, s, hw1, hw2, rfl, hg⟩ := h
  -- the fuel `4 * t.length + 4` of `gojaParseRaw` is ample: `gT v ≤ 2 * need v` and `need v ≤ s.length`, plus one level
  have hn := gram_need hg
  have hb := gT_le v
  have hlen : (w1 ++ s).length = w1.length + s.length := by simp
  have hv := (gram_compAll hg).1 w1 .topValue [] (4 * (w1 ++ s).length + 3) hw1 rfl (stop_ws hw2) (by omega)
  have heof : token ⟨w2, valueEnd .topValue, []⟩ = .eof := token_eof (skipWs_allWs hw2)
  unfold gojaParseRaw
  rw [show 4 * (w1 ++ s).length + 4 = (4 * (w1 ++ s).length + 3) + 1 from rfl, hv]
  simp only [heof]

theorem gojaParseRaw_iff_text (t : Str) (v : JVal) : gojaParseRaw t = some v ↔ Text t v :=
  ⟨gojaParseRaw_sound, gojaParseRaw_complete⟩

theorem gojaParseRaw_eq_parseRaw (t : Str) : gojaParseRaw t = parseRaw t :=
  Option.ext fun v => (gojaParseRaw_iff_text t v).trans (parseRaw_iff_text t v).symm

end GojaModel.C19
