/-
  C19, mechanism level: how builtin_json.go:234 turns the (already unwrapped) `space` argument into `ctx.gap`, and the
  specification (ECMA-262 §25.5.2 steps 5–8).  A double is seen through what the code looks at: NaN, sign, infinite,
  and its truncated magnitude `ip` (so `f >= 10 ⇔ ¬neg ∧ (inf ∨ ip ≥ 10)`, `int64(f) = ip` for `1 ≤ f < 10`).
  Left out: `ctx.gap = s.String()` (builtin_json.go:273), which turns a lone surrogate of a gap string into U+FFFD.
-/
import GojaModel.C19.Model

namespace GojaModel.C19

inductive SpaceArg where
  | int (i : Int)                                  -- valueInt
  | flt (nan neg inf : Bool) (ip : Nat)            -- valueFloat: NaN / sign / ±Infinity / ⌊|f|⌋
  | str (s : Str)                                  -- String
  | other                                          -- anything else (undefined, null, booleans, objects …)

/-- the code: `num` from the switch, then `if num > 0 { if num > 10 { num = 10 }; gap = repeat(" ", num) }` -/
def gapMech : SpaceArg → Str
  | .int i => if i > 0 then List.replicate (if i > 10 then 10 else i.toNat) 32 else []
  | .flt nan neg inf ip =>
    let ge10 := !nan && !neg && (inf || decide (ip ≥ 10))     -- float64(f) >= 10
    let ge1 := !nan && !neg && (inf || decide (ip ≥ 1))       -- float64(f) >= 1
    let num : Nat := if ge10 then 10 else if ge1 then ip else 0
    if num > 0 then List.replicate (if num > 10 then 10 else num) 32 else []
  | .str s => if s.length > 10 then s.take 10 else s
  | .other => []

/-- min(10, ToIntegerOrInfinity(space)) as an integer; −∞ is represented by −1: only the test < 1 looks at negative values -/
def toIntegerClamped : SpaceArg → Int
  | .int i => if i > 10 then 10 else i
  | .flt nan neg inf ip =>
    if nan then 0                                    -- NaN → 0
    else if neg then (if inf then -1 else - (ip : Int))   -- negative: anything < 1 behaves alike; −∞ ↦ a negative
    else if inf then 10                              -- +∞: min(10, +∞)
    else if ip > 10 then 10 else (ip : Int)
  | _ => 0

/-- the specification: Number → min(10, ToIntegerOrInfinity(space)) spaces if ≥ 1; String → first 10 code units -/
def gapSpec : SpaceArg → Str
  | .str s => s.take 10
  | .other => []
  | a => if toIntegerClamped a < 1 then [] else List.replicate (toIntegerClamped a).toNat 32

/-- in particular for doubles ≥ 2^63 and +Infinity, where the code before bd5c535 converted first and compared afterwards -/
theorem gapMech_eq_gapSpec (a : SpaceArg) : gapMech a = gapSpec a := by
  cases a with
  | int i =>
    simp only [gapMech, gapSpec, toIntegerClamped]
    by_cases h10 : i > 10
    · simp [h10]; omega
    · by_cases h0 : i > 0
      · have : ¬ i < 1 := by omega
        simp [h10, h0, this]
      · have : i < 1 := by omega
        simp [h10, h0, this]
  | flt nan neg inf ip =>
    cases nan <;> cases neg <;> cases inf <;> simp [gapMech, gapSpec, toIntegerClamped]
    · by_cases h10 : ip ≥ 10
      · by_cases h11 : ip > 10
        · simp [h10, h11]
        · have : ip = 10 := by omega
          subst this; simp
      · by_cases h1 : ip ≥ 1
        · have a1 : ¬ ip > 10 := by omega
          have a2 : ¬ (ip : Int) < 1 := by omega
          have a3 : ip > 0 := by omega
          simp [h10, h1, a1, a2, a3]
        · have : ip = 0 := by omega
          subst this; simp
  | str s =>
    simp only [gapMech, gapSpec]
    split
    · rfl
    · rw [List.take_of_length_le (by omega)]
  | other => rfl

/-- and the specification agrees with the clamp used by the round-trip theorems -/
theorem gapSpec_int_nat (n : Nat) : gapSpec (.int n) = gapOfNumber n := by
  simp only [gapSpec, toIntegerClamped, gapOfNumber]
  by_cases h10 : (n : Int) > 10
  · have : min n 10 = 10 := by omega
    simp [h10, this]
  · by_cases h0 : n = 0
    · subst h0; simp
    · have a1 : ¬ (n : Int) < 1 := by omega
      have a2 : min n 10 = n := by omega
      simp [h10, a1, a2]

end GojaModel.C19
