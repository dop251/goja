/-
  C19, mechanism level: `str` of builtin_json.go:302 with its unwrapping switch (:324) and the final type switch (:369),
  on plain data extended with boxed primitives, BigInt and non-finite numbers (no toJSON, no replacer, default
  valueOf / toString on the wrappers):

      primitiveValueObject  Number → ToNumber, String (stringObject) → toString, Boolean / BigInt → the primitive,
                            Symbol → NOT unwrapped: serialised as an ordinary object (fix 149785e)
      *valueBigInt          → TypeError "Do not know how to serialize a BigInt" (the whole call is abandoned)
      valueFloat NaN / ±Inf → "null"

  `strB` threads the buffer and `ctx.indent` like Mech.strM and can fail with a TypeError.
  Specification (ECMA-262 §25.5.2.2 steps 4, 8–10): `lower` unwraps; a BigInt reached by the traversal — every element
  and member is reached — throws.
-/
import GojaModel.C19.Mech

namespace GojaModel.C19

inductive BVal where
  | undef
  | null
  | bool (b : Bool)
  | num (lex : Str)
  | nonfin                       -- NaN, +Infinity, −Infinity
  | str (s : Str)
  | big                          -- a BigInt primitive
  | boxNum (lex : Str)           -- new Number(finite)
  | boxNonfin                    -- new Number(NaN / ±Infinity)
  | boxStr (s : Str)             -- new String(s)
  | boxBool (b : Bool)           -- new Boolean(b)
  | boxBig                       -- Object(1n)
  | boxSym                       -- Object(Symbol()): an ordinary object without enumerable own string keys
  | arr (xs : List BVal)
  | obj (ms : List (Str × BVal))

/-- result of the mechanism: buffer, indent, `str`'s boolean — or the TypeError that abandons the call -/
inductive BRes where
  | ok (buf ind : Str) (b : Bool)
  | typeError

inductive BLoop where
  | ok (buf ind : Str)
  | typeError

inductive BLoopO where
  | ok (buf ind : Str) (empty : Bool)
  | typeError

mutual
def strB (gap : Str) : BVal → Str → Str → BRes
  | .undef, buf, ind => .ok buf ind false
  | .null, buf, ind => .ok (buf ++ [110, 117, 108, 108]) ind true
  | .bool true, buf, ind => .ok (buf ++ [116, 114, 117, 101]) ind true
  | .bool false, buf, ind => .ok (buf ++ [102, 97, 108, 115, 101]) ind true
  | .num l, buf, ind => .ok (buf ++ l) ind true
  | .nonfin, buf, ind => .ok (buf ++ [110, 117, 108, 108]) ind true
  | .str s, buf, ind => .ok (buf ++ quote s) ind true
  | .big, _, _ => .typeError
  | .boxNum l, buf, ind => .ok (buf ++ l) ind true                    -- value = o.ToNumber(); case valueInt/valueFloat
  | .boxNonfin, buf, ind => .ok (buf ++ [110, 117, 108, 108]) ind true
  | .boxStr s, buf, ind => .ok (buf ++ quote s) ind true              -- value = o.toString(); case String
  | .boxBool true, buf, ind => .ok (buf ++ [116, 114, 117, 101]) ind true     -- value = pValue; case valueBool
  | .boxBool false, buf, ind => .ok (buf ++ [102, 97, 108, 115, 101]) ind true
  | .boxBig, _, _ => .typeError                                       -- value = pValue; case *valueBigInt
  | .boxSym, buf, ind => .ok ((buf ++ [123]) ++ [125]) ind true           -- not unwrapped; jo over no keys: Truncate(mark); '}'
  | .arr xs, buf, ind =>
    if xs.isEmpty then .ok (buf ++ [91, 93]) ind true
    else
      match jaLoopB gap (44 :: nl gap (ind ++ gap)) xs (buf ++ (91 :: nl gap (ind ++ gap))) (ind ++ gap) with
      | .ok b _ => .ok (b ++ (nl gap ind ++ [93])) ind true
      | .typeError => .typeError
  | .obj ms, buf, ind =>
    match joLoopB gap (44 :: nl gap (ind ++ gap)) ms (buf ++ (123 :: nl gap (ind ++ gap))) (ind ++ gap) true with
    | .ok b _ empty => .ok (if empty then (buf ++ [123]) ++ [125] else b ++ (nl gap ind ++ [125])) ind true
    | .typeError => .typeError
def jaLoopB (gap sep : Str) : List BVal → Str → Str → BLoop
  | [], buf, ind => .ok buf ind
  | v :: t, buf, ind =>
    match strB gap v buf ind with
    | .ok b i okv => jaLoopB gap sep t ((if okv then b else b ++ [110, 117, 108, 108]) ++ (if t.isEmpty then [] else sep)) i
    | .typeError => .typeError
def joLoopB (gap sep : Str) : List (Str × BVal) → Str → Str → Bool → BLoopO
  | [], buf, ind, empty => .ok buf ind empty
  | (k, v) :: t, buf, ind, empty =>
    match strB gap v (buf ++ ((if empty then [] else sep) ++ (quote k ++ colon gap))) ind with
    | .ok b i okv => if okv then joLoopB gap sep t b i false else joLoopB gap sep t (b.take buf.length) i empty
    | .typeError => .typeError
end

/-! the specification side -/

mutual
/-- does the traversal reach a BigInt (primitive or wrapper)? -/
def hasBig : BVal → Bool
  | .big => true
  | .boxBig => true
  | .arr xs => hasBigL xs
  | .obj ms => hasBigM ms
  | _ => false
def hasBigL : List BVal → Bool
  | [] => false
  | v :: t => hasBig v || hasBigL t
def hasBigM : List (Str × BVal) → Bool
  | [] => false
  | (_, v) :: t => hasBig v || hasBigM t
end

mutual
/-- SerializeJSONProperty step 4 (unwrap) and step 9 (non-finite → null), everywhere -/
def lower : BVal → MVal
  | .undef => .undef
  | .null => .null
  | .bool b => .bool b
  | .num l => .num l
  | .nonfin => .null
  | .str s => .str s
  | .big => .undef          -- `stringifyBSpec` (BoxedThm.lean) asks `hasBig` first and never lowers a BigInt
  | .boxNum l => .num l
  | .boxNonfin => .null
  | .boxStr s => .str s
  | .boxBool b => .bool b
  | .boxBig => .undef       -- likewise
  | .boxSym => .obj []
  | .arr xs => .arr (lowerL xs)
  | .obj ms => .obj (lowerM ms)
def lowerL : List BVal → List MVal
  | [] => []
  | v :: t => lower v :: lowerL t
def lowerM : List (Str × BVal) → List (Str × MVal)
  | [] => []
  | (k, v) :: t => (k, lower v) :: lowerM t
end

/-- JSON.stringify(v, undefined, gap) on values with boxed primitives / BigInt: TypeError, undefined, or the text -/
inductive SRes where
  | typeError
  | undef
  | text (t : Str)

def stringifyB (gap : Str) (v : BVal) : SRes :=
  match strB gap v [] [] with
  | .typeError => .typeError
  | .ok b _ true => .text b
  | .ok _ _ false => .undef

end GojaModel.C19
