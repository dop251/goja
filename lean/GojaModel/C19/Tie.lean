/-
  C19 — tie to the Go text.  `Generated.C19.shapes` is regenerated on every run by extract/c19.go from /repo: the
  canonical source (comments dropped, white space collapsed, message-like string literals elided) of the functions
  of builtin_json.go / string_unicode.go / value.go that the mechanism-level models transcribe: Tok.lean (decodeValue /
  decodeToken / decodeArray / decodeObject / decodeObjectKey and the trailing-token check of builtinJSON_parse),
  Reviver.lean / ReviverMut.lean (builtinJSON_reviveWalk), Mech.lean (ja, jo), Boxed.lean / Cycle.lean / Replacer.lean
  (str), QuoteMech.lean (quote, lenientUtf16Decoder.ReadRune), MechThm.lean (Object.MarshalJSON) and SpaceMech.lean /
  Model.propList (builtinJSON_stringify: space → gap, allow-list).
  `expectedShapes` is the text those transcriptions were made from.  If the equality fails, one of these functions
  changed: the model that transcribes it must be re-transcribed (and the correspondence says whether behaviour changed).
-/
import GojaModel.Generated.C19_ParseGo

namespace GojaModel.C19.Tie

def expectedShapes : List (String × String) := [
  ("Runtime.builtinJSON_parse", "func (r *Runtime) builtinJSON_parse(call FunctionCall) Value { d := json.NewDecoder(strings.NewReader(call.Argument(0).toString().String())) d.UseNumber() value, err := r.builtinJSON_decodeValue(d) if errors.Is(err, io.EOF) { panic(r.newErrorf(r.getSyntaxError(), \"…\", err.Error())) } if err != nil { panic(r.newError(r.getSyntaxError(), err.Error())) } if tok, err := d.Token(); err != io.EOF { panic(r.newErrorf(r.getSyntaxError(), \"…\", tok)) } var reviver func(FunctionCall) Value if arg1, ok := call.Argument(1).(*Object); ok { reviver, _ = arg1.self.assertCallable() } if reviver != nil { root := r.NewObject() createDataPropertyOrThrow(root, stringEmpty, value) return r.builtinJSON_reviveWalk(reviver, root, stringEmpty) } return value }"),
  ("Runtime.builtinJSON_decodeToken", "func (r *Runtime) builtinJSON_decodeToken(d *json.Decoder, tok json.Token) (Value, error) { switch tok := tok.(type) { case json.Delim: switch tok { case '{': return r.builtinJSON_decodeObject(d) case '[': return r.builtinJSON_decodeArray(d) } case nil: return _null, nil case string: return newStringValue(tok), nil case float64: return floatToValue(tok), nil case json.Number: f, err := strconv.ParseFloat(string(tok), 64) if err != nil && !errors.Is(err, strconv.ErrRange) { return nil, err } return floatToValue(f), nil case bool: if tok { return valueTrue, nil } return valueFalse, nil } return nil, fmt.Errorf(\"…\", tok, tok) }"),
  ("Runtime.builtinJSON_decodeValue", "func (r *Runtime) builtinJSON_decodeValue(d *json.Decoder) (Value, error) { tok, err := d.Token() if err != nil { return nil, err } return r.builtinJSON_decodeToken(d, tok) }"),
  ("Runtime.builtinJSON_decodeObject", "func (r *Runtime) builtinJSON_decodeObject(d *json.Decoder) (*Object, error) { object := r.NewObject() for { key, end, err := r.builtinJSON_decodeObjectKey(d) if err != nil { return nil, err } if end { break } value, err := r.builtinJSON_decodeValue(d) if err != nil { return nil, err } object.self._putProp(unistring.NewFromString(key), value, true, true, true) } return object, nil }"),
  ("Runtime.builtinJSON_decodeObjectKey", "func (r *Runtime) builtinJSON_decodeObjectKey(d *json.Decoder) (string, bool, error) { tok, err := d.Token() if err != nil { return \"\", false, err } switch tok := tok.(type) { case json.Delim: if tok == '}' { return \"\", true, nil } case string: return tok, false, nil } return \"\", false, fmt.Errorf(\"…\", tok, tok) }"),
  ("Runtime.builtinJSON_decodeArray", "func (r *Runtime) builtinJSON_decodeArray(d *json.Decoder) (*Object, error) { var arrayValue []Value for { tok, err := d.Token() if err != nil { return nil, err } if delim, ok := tok.(json.Delim); ok { if delim == ']' { break } } value, err := r.builtinJSON_decodeToken(d, tok) if err != nil { return nil, err } arrayValue = append(arrayValue, value) } return r.newArrayValues(arrayValue), nil }"),
  ("Runtime.builtinJSON_reviveWalk", "func (r *Runtime) builtinJSON_reviveWalk(reviver func(FunctionCall) Value, holder *Object, name Value) Value { value := nilSafe(holder.get(name, nil)) if object, ok := value.(*Object); ok { if isArray(object) { length := toLength(object.self.getStr(\"length\", nil)) for index := int64(0); index < length; index++ { name := asciiString(strconv.FormatInt(index, 10)) value := r.builtinJSON_reviveWalk(reviver, object, name) if value == _undefined { object.delete(name, false) } else { createDataProperty(object, name, value) } } } else { for _, name := range object.self.stringKeys(false, nil) { value := r.builtinJSON_reviveWalk(reviver, object, name) if value == _undefined { object.self.deleteStr(name.string(), false) } else { createDataProperty(object, name, value) } } } } return reviver(FunctionCall{ This: holder, Arguments: []Value{name, value}, }) }"),
  ("_builtinJSON_stringifyContext.str", "func (ctx *_builtinJSON_stringifyContext) str(key Value, holder *Object) bool { value := nilSafe(holder.get(key, nil)) switch value.(type) { case *Object, *valueBigInt: if toJSON, ok := ctx.r.getVStr(value, \"toJSON\").(*Object); ok { if c, ok := toJSON.self.assertCallable(); ok { value = c(FunctionCall{ This: value, Arguments: []Value{key}, }) } } } if ctx.replacerFunction != nil { value = ctx.replacerFunction(FunctionCall{ This: holder, Arguments: []Value{key, value}, }) } if o, ok := value.(*Object); ok { switch o1 := o.self.(type) { case *primitiveValueObject: switch pValue := o1.pValue.(type) { case valueInt, valueFloat: value = o.ToNumber() case *Symbol: default: value = pValue } case *stringObject: value = o.toString() case *objectGoReflect: if o1.toJson != nil { value = ctx.r.ToValue(o1.toJson()) } else if v, ok := o1.origValue.Interface().(json.Marshaler); ok { b, err := v.MarshalJSON() if err != nil { panic(ctx.r.NewGoError(err)) } ctx.buf.Write(b) ctx.allAscii = false return true } else { switch o1.className() { case classNumber: value = o1.val.ordinaryToPrimitiveNumber() case classString: value = o1.val.ordinaryToPrimitiveString() case classBoolean: if o.ToInteger() != 0 { value = valueTrue } else { value = valueFalse } } if o1.exportType() == typeBigInt { value = o1.val.ordinaryToPrimitiveNumber() } } } } switch value1 := value.(type) { case valueBool: if value1 { ctx.buf.WriteString(\"true\") } else { ctx.buf.WriteString(\"false\") } case String: ctx.quote(value1) case valueInt: ctx.buf.WriteString(value.String()) case valueFloat: if !math.IsNaN(float64(value1)) && !math.IsInf(float64(value1), 0) { ctx.buf.WriteString(value.String()) } else { ctx.buf.WriteString(\"null\") } case valueNull: ctx.buf.WriteString(\"null\") case *valueBigInt: ctx.r.typeErrorResult(true, \"…\") case *Object: for _, object := range ctx.stack { if value1.SameAs(object) { ctx.r.typeErrorResult(true, \"…\") } } ctx.stack = append(ctx.stack, value1) defer func() { ctx.stack = ctx.stack[:len(ctx.stack)-1] }() if _, ok := value1.self.assertCallable(); !ok { if isArray(value1) { ctx.ja(value1) } else { ctx.jo(value1) } } else { return false } default: return false } return true }"),
  ("_builtinJSON_stringifyContext.ja", "func (ctx *_builtinJSON_stringifyContext) ja(array *Object) { var stepback string if ctx.gap != \"\" { stepback = ctx.indent ctx.indent += ctx.gap } length := toLength(array.self.getStr(\"length\", nil)) if length == 0 { ctx.buf.WriteString(\"[]\") if ctx.gap != \"\" { ctx.indent = stepback } return } ctx.buf.WriteByte('[') var separator string if ctx.gap != \"\" { ctx.buf.WriteByte('\\n') ctx.buf.WriteString(ctx.indent) separator = \",\\n\" + ctx.indent } else { separator = \",\" } for i := int64(0); i < length; i++ { if !ctx.str(asciiString(strconv.FormatInt(i, 10)), array) { ctx.buf.WriteString(\"null\") } if i < length-1 { ctx.buf.WriteString(separator) } } if ctx.gap != \"\" { ctx.buf.WriteByte('\\n') ctx.buf.WriteString(stepback) ctx.indent = stepback } ctx.buf.WriteByte(']') }"),
  ("_builtinJSON_stringifyContext.jo", "func (ctx *_builtinJSON_stringifyContext) jo(object *Object) { var stepback string if ctx.gap != \"\" { stepback = ctx.indent ctx.indent += ctx.gap } ctx.buf.WriteByte('{') mark := ctx.buf.Len() var separator string if ctx.gap != \"\" { ctx.buf.WriteByte('\\n') ctx.buf.WriteString(ctx.indent) separator = \",\\n\" + ctx.indent } else { separator = \",\" } var props []Value if ctx.propertyList == nil { props = object.self.stringKeys(false, nil) } else { props = ctx.propertyList } empty := true for _, name := range props { off := ctx.buf.Len() if !empty { ctx.buf.WriteString(separator) } ctx.quote(name.toString()) if ctx.gap != \"\" { ctx.buf.WriteString(\"…\") } else { ctx.buf.WriteByte(':') } if ctx.str(name, object) { if empty { empty = false } } else { ctx.buf.Truncate(off) } } if empty { ctx.buf.Truncate(mark) } else { if ctx.gap != \"\" { ctx.buf.WriteByte('\\n') ctx.buf.WriteString(stepback) } } if ctx.gap != \"\" { ctx.indent = stepback } ctx.buf.WriteByte('}') }"),
  ("_builtinJSON_stringifyContext.quote", "func (ctx *_builtinJSON_stringifyContext) quote(str String) { ctx.buf.WriteByte('\"') reader := &lenientUtf16Decoder{utf16Reader: str.utf16Reader()} for { r, _, err := reader.ReadRune() if err != nil { break } switch r { case '\"', '\\\\': ctx.buf.WriteByte('\\\\') ctx.buf.WriteByte(byte(r)) case 0x08: ctx.buf.WriteString(\"…\") case 0x09: ctx.buf.WriteString(\"…\") case 0x0A: ctx.buf.WriteString(\"…\") case 0x0C: ctx.buf.WriteString(\"…\") case 0x0D: ctx.buf.WriteString(\"…\") default: if r < 0x20 { ctx.buf.WriteString(\"…\") ctx.buf.WriteByte(hex[r>>4]) ctx.buf.WriteByte(hex[r&0xF]) } else { if utf16.IsSurrogate(r) { ctx.buf.WriteString(\"…\") ctx.buf.WriteByte(hex[r>>12]) ctx.buf.WriteByte(hex[(r>>8)&0xF]) ctx.buf.WriteByte(hex[(r>>4)&0xF]) ctx.buf.WriteByte(hex[r&0xF]) } else { ctx.buf.WriteRune(r) if ctx.allAscii && r >= utf8.RuneSelf { ctx.allAscii = false } } } } } ctx.buf.WriteByte('\"') }"),
  ("lenientUtf16Decoder.ReadRune", "func (rr *lenientUtf16Decoder) ReadRune() (r rune, size int, err error) { var c uint16 if rr.prevSet { c = rr.prev rr.prevSet = false } else { c, err = rr.utf16Reader.readChar() if err != nil { return } } size = 1 if isUTF16FirstSurrogate(c) { second, err1 := rr.utf16Reader.readChar() if err1 != nil { if err1 != io.EOF { err = err1 } else { r = rune(c) } return } if isUTF16SecondSurrogate(second) { r = utf16.DecodeRune(rune(c), rune(second)) size++ return } else { rr.prev = second rr.prevSet = true } } r = rune(c) return }"),
  ("Runtime.builtinJSON_stringify", "func (r *Runtime) builtinJSON_stringify(call FunctionCall) Value { ctx := _builtinJSON_stringifyContext{ r: r, allAscii: true, } replacer, _ := call.Argument(1).(*Object) if replacer != nil { if isArray(replacer) { length := toLength(replacer.self.getStr(\"length\", nil)) seen := map[unistring.String]bool{} propertyList := []Value{} for index := int64(0); index < length; index++ { var name String value := replacer.self.getIdx(valueInt(index), nil) switch v := value.(type) { case valueFloat, valueInt, String: name = value.toString() case *Object: switch v.self.className() { case classNumber, classString: name = value.toString() default: continue } default: continue } key := name.string() if seen[key] { continue } seen[key] = true propertyList = append(propertyList, name) } ctx.propertyList = propertyList } else if c, ok := replacer.self.assertCallable(); ok { ctx.replacerFunction = c } } if spaceValue := call.Argument(2); spaceValue != _undefined { if o, ok := spaceValue.(*Object); ok { switch oImpl := o.self.(type) { case *primitiveValueObject: switch oImpl.pValue.(type) { case valueInt, valueFloat: spaceValue = o.ToNumber() } case *stringObject: spaceValue = o.ToString() } } isNum := false var num int64 if i, ok := spaceValue.(valueInt); ok { num = int64(i) isNum = true } else if f, ok := spaceValue.(valueFloat); ok { if float64(f) >= 10 { num = 10 } else if float64(f) >= 1 { num = int64(f) } isNum = true } if isNum { if num > 0 { if num > 10 { num = 10 } ctx.gap = strings.Repeat(\"…\", int(num)) } } else { if s, ok := spaceValue.(String); ok { if s.Length() > 10 { s = s.Substring(0, 10) } ctx.gap = s.String() for i := 0; i < len(ctx.gap); i++ { if ctx.gap[i] >= utf8.RuneSelf { ctx.allAscii = false break } } } } } if ctx.do(call.Argument(0)) { if ctx.allAscii { return asciiString(ctx.buf.String()) } else { return &importedString{ s: ctx.buf.String(), } } } return _undefined }"),
  ("Object.MarshalJSON", "func (o *Object) MarshalJSON() ([]byte, error) { ctx := _builtinJSON_stringifyContext{ r: o.runtime, } ex := o.runtime.vm.try(func() { if !ctx.do(o) { ctx.buf.WriteString(\"null\") } }) if ex != nil { return nil, ex } return ctx.buf.Bytes(), nil }")
]

theorem parse_go_is_the_transcribed_source : GojaModel.Generated.C19.shapes = expectedShapes := by rfl

end GojaModel.C19.Tie
