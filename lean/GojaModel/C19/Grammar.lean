/-
  C19: the ECMA-404 grammar as an inductive relation (`Gram`, `Text`) and its equivalence with the recursive-descent
  parser (`parseRaw_iff_text`): soundness by induction on the fuel, completeness by induction over the derivation.
-/
import GojaModel.C19.Parser
namespace GojaModel.C19

/-- The ECMA-404 grammar as an inductive relation: `Gram s v r` — a value token sequence denoting `v` is a prefix of
    `s`, and `r` is what follows it (no leading white space; white space inside arrays/objects as the grammar allows).
    "remaining elements after a comma" are expressed as the array `[` … of the remaining elements. -/
inductive Gram : Str → JVal → Str → Prop
  | null (r : Str) : Gram (110 :: 117 :: 108 :: 108 :: r) .null r
  | tru (r : Str) : Gram (116 :: 114 :: 117 :: 101 :: r) (.bool true) r
  | fls (r : Str) : Gram (102 :: 97 :: 108 :: 115 :: 101 :: r) (.bool false) r
  | num {l : Str} (r : Str) : NumGram l → Gram (l ++ r) (.num l) r
  | str {b u : Str} (r : Str) : StrBody b u → Gram (34 :: (b ++ 34 :: r)) (.str u) r
  | arrNil {w : Str} (r : Str) : AllWs w → Gram (91 :: (w ++ 93 :: r)) (.arr []) r
  | arrOne {w1 w2 s : Str} {v : JVal} (r : Str) : AllWs w1 → AllWs w2 → Gram s v (w2 ++ 93 :: r) →
      Gram (91 :: (w1 ++ s)) (.arr [v]) r
  | arrCons {w1 w2 s s2 : Str} {v x : JVal} {t : List JVal} (r : Str) : AllWs w1 → AllWs w2 →
      Gram s v (w2 ++ 44 :: s2) → Gram (91 :: s2) (.arr (x :: t)) r → Gram (91 :: (w1 ++ s)) (.arr (v :: x :: t)) r
  | objNil {w : Str} (r : Str) : AllWs w → Gram (123 :: (w ++ 125 :: r)) (.obj []) r
  | objOne {w1 w2 w3 w4 b k s : Str} {v : JVal} (r : Str) : AllWs w1 → AllWs w2 → AllWs w3 → AllWs w4 → StrBody b k →
      Gram s v (w4 ++ 125 :: r) →
      Gram (123 :: (w1 ++ 34 :: (b ++ 34 :: (w2 ++ 58 :: (w3 ++ s))))) (.obj [(k, v)]) r
  | objCons {w1 w2 w3 w4 b k s s2 : Str} {v : JVal} {p : Str × JVal} {t : List (Str × JVal)} (r : Str) :
      AllWs w1 → AllWs w2 → AllWs w3 → AllWs w4 → StrBody b k →
      Gram s v (w4 ++ 44 :: s2) → Gram (123 :: s2) (.obj (p :: t)) r →
      Gram (123 :: (w1 ++ 34 :: (b ++ 34 :: (w2 ++ 58 :: (w3 ++ s))))) (.obj ((k, v) :: p :: t)) r

def Text (t : Str) (v : JVal) : Prop := ∃ w1 w2 s, AllWs w1 ∧ AllWs w2 ∧ t = w1 ++ s ∧ Gram s v w2

/-- The list level of the grammar, which `Gram` has only in the guise "the array `[` … of the remaining elements": the
    text of a non-empty element list after `[` (or after a comma), up to and including `]`. -/
def Elems (s : Str) (xs : List JVal) (r : Str) : Prop := xs ≠ [] ∧ Gram (91 :: s) (.arr xs) r

def Members (s : Str) (ms : List (Str × JVal)) (r : Str) : Prop := ms ≠ [] ∧ Gram (123 :: s) (.obj ms) r

theorem Elems.one {w1 w2 s : Str} {v : JVal} {r : Str} (hw1 : AllWs w1) (hw2 : AllWs w2)
    (hg : Gram s v (w2 ++ 93 :: r)) : Elems (w1 ++ s) [v] r :=
  ⟨nofun, .arrOne r hw1 hw2 hg⟩

theorem Elems.cons {w1 w2 s s2 : Str} {v : JVal} {t : List JVal} {r : Str} (hw1 : AllWs w1) (hw2 : AllWs w2)
    (hg : Gram s v (w2 ++ 44 :: s2)) (ht : Elems s2 t r) : Elems (w1 ++ s) (v :: t) r := by
  obtain ⟨hne, hgt⟩ := ht
  cases t with
  | nil => exact absurd rfl hne
  | cons x t => exact ⟨nofun, .arrCons r hw1 hw2 hg hgt⟩

theorem Members.one {w1 w2 w3 w4 b k s : Str} {v : JVal} {r : Str} (hw1 : AllWs w1) (hw2 : AllWs w2) (hw3 : AllWs w3)
    (hw4 : AllWs w4) (hb : StrBody b k) (hg : Gram s v (w4 ++ 125 :: r)) :
    Members (w1 ++ 34 :: (b ++ 34 :: (w2 ++ 58 :: (w3 ++ s)))) [(k, v)] r :=
  ⟨nofun, .objOne r hw1 hw2 hw3 hw4 hb hg⟩

theorem Members.cons {w1 w2 w3 w4 b k s s2 : Str} {v : JVal} {t : List (Str × JVal)} {r : Str} (hw1 : AllWs w1)
    (hw2 : AllWs w2) (hw3 : AllWs w3) (hw4 : AllWs w4) (hb : StrBody b k) (hg : Gram s v (w4 ++ 44 :: s2))
    (ht : Members s2 t r) : Members (w1 ++ 34 :: (b ++ 34 :: (w2 ++ 58 :: (w3 ++ s)))) ((k, v) :: t) r := by
  obtain ⟨hne, hgt⟩ := ht
  cases t with
  | nil => exact absurd rfl hne
  | cons p t => exact ⟨nofun, .objCons r hw1 hw2 hw3 hw4 hb hg hgt⟩

def SoundV (f : Nat) : Prop := ∀ s v r, parseValue f s = some (v, r) → ∃ w s', AllWs w ∧ s = w ++ s' ∧ Gram s' v r
def SoundE (f : Nat) : Prop := ∀ s xs r, parseElems f s = some (xs, r) → Elems s xs r
def SoundM (f : Nat) : Prop := ∀ s ms r, parseMembers f s = some (ms, r) → Members s ms r

theorem scanScalar_sound {s : Str} {v : JVal} {r : Str} (h : scanScalar s = some (v, r)) : Gram s v r := by
  cases s with
  | nil => cases h
  | cons c t =>
    rw [scanScalar] at h
    split at h
    · split at h
      · rename_i hm; cases h; subst c; rw [matchLit_sound hm]; exact .null _
      · cases h
    split at h
    · split at h
      · rename_i hm; cases h; subst c; rw [matchLit_sound hm]; exact .tru _
      · cases h
    split at h
    · split at h
      · rename_i hm; cases h; subst c; rw [matchLit_sound hm]; exact .fls _
      · cases h
    split at h
    · split at h
      · rename_i hp; cases h
        obtain ⟨b, hb, rfl⟩ := parseStrBody_sound hp
        subst c; exact .str _ hb
      · cases h
    · split at h
      · rename_i hp; cases h
        obtain ⟨hl, hs⟩ := parseNum_sound hp
        rw [hs]; exact .num _ hl
      · cases h

theorem soundV_step (f : Nat) (hE : SoundE f) (hM : SoundM f) : SoundV (f + 1) := by
  intro s v r h
  rcases skipWs_cases s with hk | ⟨w, c, t, hw, hs, hk⟩
  · rw [parseValue_eof f hk] at h; cases h
  refine ⟨w, c :: t, hw, hs, ?_⟩
  by_cases h5 : c = 91
  · subst h5
    rw [parseValue_arr f hk] at h
    obtain ⟨w2, hw2, hs2⟩ := skipWs_spec t
    split at h
    · rename_i r' heq
      cases h
      rw [hs2, heq]
      exact Gram.arrNil r hw2
    · split at h
      · cases h; exact (hE t _ r ‹_›).2
      · cases h
  by_cases h6 : c = 123
  · subst h6
    rw [parseValue_obj f hk] at h
    obtain ⟨w2, hw2, hs2⟩ := skipWs_spec t
    split at h
    · rename_i r' heq
      cases h
      rw [hs2, heq]
      exact Gram.objNil r hw2
    · split at h
      · cases h; exact (hM t _ r ‹_›).2
      · cases h
  · rw [parseValue_scalar f hk h5 h6] at h
    exact scanScalar_sound h

theorem soundE_step (f : Nat) (hV : SoundV f) (hE : SoundE f) : SoundE (f + 1) := by
  intro s xs r h
  rw [parseElems_succ] at h
  cases hp : parseValue f s with
  | none => simp [hp] at h
  | some p =>
    obtain ⟨v, r1⟩ := p
    simp only [hp] at h
    obtain ⟨w, s', hw, rfl, hg⟩ := hV s v r1 hp
    rcases skipWs_cases r1 with hk | ⟨w2, c, r2, hw2, rfl, hk⟩
    · simp [hk] at h
    simp only [hk] at h
    by_cases h44 : c = 44
    · subst h44
      simp only [if_true] at h
      cases hq : parseElems f r2 with
      | none => simp [hq] at h
      | some q =>
        obtain ⟨t, r3⟩ := q
        simp [hq] at h
        obtain ⟨rfl, rfl⟩ := h
        exact .cons hw hw2 hg (hE r2 t r3 hq)
    · by_cases h93 : c = 93
      · subst h93
        simp [h44] at h
        obtain ⟨rfl, rfl⟩ := h
        exact .one hw hw2 hg
      · simp [h44, h93] at h

theorem soundM_step (f : Nat) (hV : SoundV f) (hM : SoundM f) : SoundM (f + 1) := by
  intro s ms r h
  rw [parseMembers_succ] at h
  obtain ⟨w1, hw1, hs1⟩ := skipWs_spec s
  split at h
  · rename_i rq heq
    rw [heq] at hs1
    cases hp : parseStrBody rq with
    | none => simp [hp] at h
    | some p =>
      obtain ⟨k, r1⟩ := p
      simp only [hp] at h
      obtain ⟨b, hb, rfl⟩ := parseStrBody_sound hp
      obtain ⟨w2, hw2, hs2⟩ := skipWs_spec r1
      split at h
      · rename_i r2 heq2
        rw [heq2] at hs2
        cases hv : parseValue f r2 with
        | none => simp [hv] at h
        | some q =>
          obtain ⟨v, r3⟩ := q
          simp only [hv] at h
          obtain ⟨w3, s', hw3, rfl, hg⟩ := hV r2 v r3 hv
          rcases skipWs_cases r3 with hk | ⟨w4, c, r4, hw4, rfl, hk⟩
          · simp [hk] at h
          simp only [hk] at h
          by_cases h44 : c = 44
          · subst h44
            simp only [if_true] at h
            cases hq : parseMembers f r4 with
            | none => simp [hq] at h
            | some q2 =>
              obtain ⟨t, r5⟩ := q2
              simp [hq] at h
              obtain ⟨rfl, rfl⟩ := h
              rw [hs1, hs2]
              exact .cons hw1 hw2 hw3 hw4 hb hg (hM r4 t r5 hq)
          · by_cases h125 : c = 125
            · subst h125
              simp [h44] at h
              obtain ⟨rfl, rfl⟩ := h
              rw [hs1, hs2]
              exact .one hw1 hw2 hw3 hw4 hb hg
            · simp [h44, h125] at h
      · simp at h
  · simp at h

theorem sound_all : ∀ f, SoundV f ∧ SoundE f ∧ SoundM f := by
  intro f
  induction f with
  | zero =>
    refine ⟨?_, ?_, ?_⟩
    · intro s v r h; simp [parseValue] at h
    · intro s v r h; simp [parseElems] at h
    · intro s v r h; simp [parseMembers] at h
  | succ f ih =>
    exact ⟨soundV_step f ih.2.1 ih.2.2, soundE_step f ih.1 ih.2.1, soundM_step f ih.1 ih.2.2⟩

theorem parseRaw_sound {t : Str} {v : JVal} (h : parseRaw t = some v) : Text t v := by
  unfold parseRaw at h
  cases hp : parseValue (t.length + 1) t with
  | none => simp [hp] at h
  | some p =>
    obtain ⟨v', r⟩ := p
    simp only [hp] at h
    by_cases hr : skipWs r = []
    · simp [hr] at h
      subst h
      obtain ⟨w, s', hw, hs, hg⟩ := (sound_all _).1 t v' r hp
      exact ⟨w, r, s', hw, skipWs_nil_allWs hr, hs, hg⟩
    · simp [hr] at h

theorem gram_wf {s : Str} {v : JVal} {r : Str} (h : Gram s v r) : WfStr s → WfVal v ∧ WfStr r := by
  induction h with
  | null r | tru r | fls r =>
    intro hs
    simp only [wfStr_cons] at hs
    exact ⟨by simp [WfVal], by simp [hs]⟩
  | num r hl => intro hs; exact ⟨by simpa [WfVal] using numGram_lexOK hl, (wfStr_append.mp hs).2⟩
  | str r hb =>
    intro hs
    simp only [wfStr_cons, wfStr_append] at hs
    obtain ⟨-, hb', -, hr⟩ := hs
    exact ⟨by simpa [WfVal] using strBody_wf hb hb', hr⟩
  | arrNil r _ | objNil r _ =>
    intro hs
    simp only [wfStr_cons, wfStr_append] at hs
    exact ⟨by simp [WfVal, WfList, WfMembers], hs.2.2.2⟩
  | arrOne r _ _ _ ih =>
    intro hs
    simp only [wfStr_cons, wfStr_append] at hs
    obtain ⟨hv, hr⟩ := ih hs.2.2
    simp only [wfStr_cons, wfStr_append] at hr
    exact ⟨by simp [WfVal, WfList, hv], hr.2.2⟩
  | arrCons r _ _ _ _ ih1 ih2 =>
    intro hs
    simp only [wfStr_cons, wfStr_append] at hs
    obtain ⟨hv, hr⟩ := ih1 hs.2.2
    simp only [wfStr_cons, wfStr_append] at hr
    obtain ⟨ht, hr'⟩ := ih2 (wfStr_cons.mpr ⟨by decide, hr.2.2⟩)
    exact ⟨by simpa [WfVal, WfList, hv] using ht, hr'⟩
  | objOne r _ _ _ _ hb _ ih =>
    intro hs
    -- split over the member text `{ w1 " b " w2 : w3 s`, `hs` has one conjunct per unit and per block, in text order:
    -- `hk` is the one for the key body `b`, `hs'` the one for the value text
    simp only [wfStr_cons, wfStr_append] at hs
    obtain ⟨-, -, -, hk, -, -, -, -, hs'⟩ := hs
    obtain ⟨hv, hr⟩ := ih hs'
    simp only [wfStr_cons, wfStr_append] at hr
    exact ⟨by simp [WfVal, WfMembers, hv, strBody_wf hb hk], hr.2.2⟩
  | objCons r _ _ _ _ hb _ _ ih1 ih2 =>
    intro hs
    simp only [wfStr_cons, wfStr_append] at hs
    obtain ⟨-, -, -, hk, -, -, -, -, hs'⟩ := hs
    obtain ⟨hv, hr⟩ := ih1 hs'
    simp only [wfStr_cons, wfStr_append] at hr
    obtain ⟨ht, hr'⟩ := ih2 (wfStr_cons.mpr ⟨by decide, hr.2.2⟩)
    exact ⟨by simpa [WfVal, WfMembers, hv, strBody_wf hb hk] using ht, hr'⟩

def IsScalar : JVal → Prop
  | .arr _ => False
  | .obj _ => False
  | _ => True

theorem gram_head {s : Str} {v : JVal} {r : Str} (h : Gram s v r) :
    ∃ c tl, s = c :: tl ∧ (IsScalar v → c ≠ 91 ∧ c ≠ 123) ∧ isWs c = false ∧ c ≠ 93 ∧ c ≠ 125 ∧ c ≠ 58 ∧ c ≠ 44 := by
  cases h with
  | null | tru | fls | str => exact ⟨_, _, rfl, fun _ => by decide, by decide⟩
  | num _ hl =>
    obtain ⟨c, tl, rfl, hc⟩ := numGram_head hl
    refine ⟨c, tl ++ r, rfl, ?_⟩
    rcases hc with rfl | hd
    · exact ⟨fun _ => by decide, by decide⟩
    · simp [isDigit] at hd
      simp [isWs]; omega
  | arrNil | arrOne | arrCons | objNil | objOne | objCons => exact ⟨_, _, rfl, fun hv => hv.elim, by decide⟩

theorem gram_need {s : Str} {v : JVal} {r : Str} (h : Gram s v r) : need v + r.length ≤ s.length := by
  induction h with
  | num r hl =>
    obtain ⟨c, tl, rfl, _⟩ := numGram_head hl
    simp only [need, List.length_append, List.length_cons]; omega
  | _ => simp only [need, needL, needM, List.length_append, List.length_cons] at *; omega

theorem scanScalar_complete {s : Str} {v : JVal} {r : Str} (h : Gram s v r) (hv : IsScalar v) (hs : Stop r) :
    scanScalar s = some (v, r) := by
  cases h with
  | null | tru | fls => simp [scanScalar, matchLit]
  | @num l _ hl =>
    obtain ⟨c, tl, rfl, hc⟩ := numGram_head hl
    have hp := numGram_lexOK hl r hs
    have h1 : c ≠ 110 ∧ c ≠ 116 ∧ c ≠ 102 ∧ c ≠ 34 := by
      rcases hc with rfl | hd
      · decide
      · simp [isDigit] at hd; omega
    simp only [List.cons_append] at hp ⊢
    simp [scanScalar, h1.1, h1.2.1, h1.2.2.1, h1.2.2.2, hp]
  | @str b u _ hb => simp [scanScalar, strBody_complete hb r]
  | arrNil | arrOne | arrCons | objNil | objOne | objCons => exact hv.elim

theorem gram_complete_scalar {s : Str} {v : JVal} {r : Str} (hg : Gram s v r) (hv : IsScalar v) (w : Str) (f : Nat)
    (hw : AllWs w) (hs : Stop r) (hf : need v ≤ f) : parseValue f (w ++ s) = some (v, r) := by
  obtain ⟨c, tl, rfl, hb, hcw, _⟩ := gram_head hg
  obtain ⟨h1, h3⟩ := hb hv
  obtain ⟨f, rfl⟩ := need_succ hf
  rw [parseValue_scalar f (skipWs_head w hw hcw) h1 h3]; exact scanScalar_complete hg hv hs

theorem parseMembers_member {f : Nat} {w1 w2 w3 b k s : Str} {v : JVal} {rest : Str} (hw1 : AllWs w1) (hw2 : AllWs w2)
    (hb : StrBody b k) (hv : parseValue f (w3 ++ s) = some (v, rest)) :
    parseMembers (f + 1) (w1 ++ 34 :: (b ++ 34 :: (w2 ++ 58 :: (w3 ++ s)))) =
      match skipWs rest with
      | c :: r4 =>
        if c = 44 then
          (match parseMembers f r4 with
           | some (t, r5) => some ((k, v) :: t, r5)
           | none => none)
        else if c = 125 then some ([(k, v)], r4)
        else none
      | [] => none := by
  rw [parseMembers_succ, skipWs_head w1 hw1 (by decide)]
  simp only [strBody_complete hb]
  rw [skipWs_head w2 hw2 (by decide)]
  simp only [hv]
  rfl

/-- what follows matters only after a scalar: it must not continue a number -/
theorem gram_complete {s : Str} {v : JVal} {r : Str} (h : Gram s v r) :
    ∀ (w : Str) (f : Nat), AllWs w → (IsScalar v → Stop r) → need v ≤ f → parseValue f (w ++ s) = some (v, r) := by
  induction h with
  | @arrNil w0 r hw0 =>
    intro w f hw _ hf
    obtain ⟨f, rfl⟩ := need_succ hf
    rw [parseValue_arr f (skipWs_head w hw (by decide)), skipWs_head w0 hw0 (by decide)]; rfl
  | @arrOne w1 w2 s v r hw1 hw2 hg ih =>
    intro w f hw _ hf
    obtain ⟨c, tl, rfl, _, hcw, hc93, _⟩ := gram_head hg
    obtain ⟨_, rfl, hfl⟩ := need_arr_le hf
    obtain ⟨f2, rfl, hfv, -⟩ := needL_cons_le hfl
    rw [parseValue_arr_elems _ (skipWs_head w hw (by decide)) (skipWs_head w1 hw1 hcw) hc93, parseElems_succ,
      ih w1 f2 hw1 (fun _ => stop_ws_then hw2 93 r (by simp)) hfv]
    simp [skipWs_head w2 hw2 (show isWs 93 = false by decide)]
  | @arrCons w1 w2 s s2 v x t r hw1 hw2 hg hgt ih1 ih2 =>
    intro w f hw _ hf
    obtain ⟨c, tl, rfl, _, hcw, hc93, _⟩ := gram_head hg
    obtain ⟨_, rfl, hfl⟩ := need_arr_le hf
    obtain ⟨f2, rfl, hfv, hft⟩ := needL_cons_le hfl
    have hrest : parseElems f2 s2 = some (x :: t, r) :=
      pv_arr_inv (ih2 [] (f2 + 1) nofun nofun (Nat.succ_le_succ hft))
    rw [parseValue_arr_elems _ (skipWs_head w hw (by decide)) (skipWs_head w1 hw1 hcw) hc93, parseElems_succ,
      ih1 w1 f2 hw1 (fun _ => stop_ws_then hw2 44 s2 (by simp)) hfv]
    simp [skipWs_head w2 hw2 (show isWs 44 = false by decide), hrest]
  | @objNil w0 r hw0 =>
    intro w f hw _ hf
    obtain ⟨f, rfl⟩ := need_succ hf
    rw [parseValue_obj f (skipWs_head w hw (by decide)), skipWs_head w0 hw0 (by decide)]; rfl
  | @objOne w1 w2 w3 w4 b k s v r hw1 hw2 hw3 hw4 hb hg ih =>
    intro w f hw _ hf
    obtain ⟨_, rfl, hfm⟩ := need_obj_le hf
    obtain ⟨f2, rfl, hfv, -⟩ := needM_cons_le hfm
    rw [parseValue_obj_members _ (skipWs_head w hw (by decide)) (skipWs_head w1 hw1 (by decide)) (by decide),
      parseMembers_member hw1 hw2 hb (ih w3 f2 hw3 (fun _ => stop_ws_then hw4 125 r (by simp)) hfv)]
    simp [skipWs_head w4 hw4 (show isWs 125 = false by decide)]
  | @objCons w1 w2 w3 w4 b k s s2 v p t r hw1 hw2 hw3 hw4 hb hg hgt ih1 ih2 =>
    intro w f hw _ hf
    obtain ⟨_, rfl, hfm⟩ := need_obj_le hf
    obtain ⟨f2, rfl, hfv, hft⟩ := needM_cons_le hfm
    have hrest : parseMembers f2 s2 = some (p :: t, r) :=
      pv_obj_inv (ih2 [] (f2 + 1) nofun nofun (Nat.succ_le_succ hft))
    rw [parseValue_obj_members _ (skipWs_head w hw (by decide)) (skipWs_head w1 hw1 (by decide)) (by decide),
      parseMembers_member hw1 hw2 hb (ih1 w3 f2 hw3 (fun _ => stop_ws_then hw4 44 s2 (by simp)) hfv)]
    simp [skipWs_head w4 hw4 (show isWs 44 = false by decide), hrest]
  | null | tru | fls | num | str =>
    intro w f hw hs
    exact gram_complete_scalar (by constructor <;> assumption) (by trivial) w f hw (hs (by trivial))

theorem elems_complete {s : Str} {xs : List JVal} {r : Str} {f : Nat} (h : Elems s xs r) (hf : needL xs ≤ f) :
    parseElems f s = some (xs, r) := by
  obtain ⟨hne, hg⟩ := h
  cases xs with
  | nil => exact absurd rfl hne
  | cons x t => exact pv_arr_inv (gram_complete hg [] (f + 1) nofun nofun (Nat.succ_le_succ hf))

theorem members_complete {s : Str} {ms : List (Str × JVal)} {r : Str} {f : Nat} (h : Members s ms r)
    (hf : needM ms ≤ f) : parseMembers f s = some (ms, r) := by
  obtain ⟨hne, hg⟩ := h
  cases ms with
  | nil => exact absurd rfl hne
  | cons p t => exact pv_obj_inv (gram_complete hg [] (f + 1) nofun nofun (Nat.succ_le_succ hf))

theorem parseRaw_complete {t : Str} {v : JVal} (h : Text t v) : parseRaw t = some v := by
  obtain ⟨w1, w2, s, hw1, hw2, rfl, hg⟩ := h
  have hn := gram_need hg
  have := gram_complete hg w1 ((w1 ++ s).length + 1) hw1 (fun _ => stop_ws hw2) (by simp; omega)
  unfold parseRaw
  rw [this]
  simp [skipWs_allWs hw2]

theorem parseRaw_iff_text (t : Str) (v : JVal) : parseRaw t = some v ↔ Text t v :=
  ⟨parseRaw_sound, parseRaw_complete⟩

end GojaModel.C19
