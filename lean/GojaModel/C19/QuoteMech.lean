/-
  C19, mechanism level: `quote` of builtin_json.go:514 as written — a rune reader with one code unit of push-back
  (string_unicode.go:81 lenientUtf16Decoder.ReadRune: a high surrogate followed by a non-low unit is returned alone and the
  following unit is pushed back, to be RE-EXAMINED as a possible pair start by the next call) feeding the escape switch.

  `readRune` transcribes ReadRune; `quoteLoop` the `for { r := reader.ReadRune() … switch r {…} }` loop.  A rune is a BMP
  code unit (lone surrogates included — "passes through invalid surrogate pairs") or a decoded pair.
  The mechanism refines QuoteJSONString on every list of code units: `quoteMech_eq_quote`.
-/
import GojaModel.C19.Model

namespace GojaModel.C19

inductive Rune where
  | unit (c : Nat)            -- rune(c): a BMP code point, possibly a lone surrogate
  | pair (h l : Nat)          -- utf16.DecodeRune(h, l): an astral code point

/-- decoder state: the pushed-back unit (prev / prevSet) and the unread units -/
abbrev RState := Option Nat × Str

/-- lenientUtf16Decoder.ReadRune: `none` = io.EOF -/
def readRune : RState → Option (Rune × RState)
  | (none, []) => none
  | (none, c :: rest) =>
    if isHigh c then
      (match rest with
       | [] => some (.unit c, (none, []))
       | second :: r => if isLow second then some (.pair c second, (none, r)) else some (.unit c, (some second, r)))
    else some (.unit c, (none, rest))
  | (some c, rest) =>
    if isHigh c then
      (match rest with
       | [] => some (.unit c, (none, []))
       | second :: r => if isLow second then some (.pair c second, (none, r)) else some (.unit c, (some second, r)))
    else some (.unit c, (none, rest))

/-- the escape switch of quote(): for a BMP unit it is `escOne`; an astral rune is written as is (WriteRune) -/
def emitRune : Rune → Str
  | .unit c => escOne c
  | .pair h l => [h, l]

def rmeasure : RState → Nat
  | (none, s) => s.length
  | (some _, s) => s.length + 1

theorem readRune_decreases {st st' : RState} {r : Rune} (h : readRune st = some (r, st')) : rmeasure st' < rmeasure st := by
  -- both entry forms of ReadRune run the same body on a current unit `c` and the unread `rest`
  have body (c : Nat) (rest : Str)
      (h : (if isHigh c then
              (match rest with
               | [] => some (Rune.unit c, ((none : Option Nat), ([] : Str)))
               | second :: r => if isLow second then some (.pair c second, (none, r)) else some (.unit c, (some second, r)))
            else some (.unit c, (none, rest))) = some (r, st')) : rmeasure st' < rest.length + 1 := by
    split at h
    · split at h
      · cases h; simp [rmeasure]
      · split at h <;> cases h <;> simp [rmeasure] <;> omega
    · cases h; simp [rmeasure]
  obtain ⟨p, s⟩ := st
  cases p with
  | none =>
    cases s with
    | nil => cases h
    | cons c rest => exact body c rest h
  | some c => exact body c s h

/-- the loop of quote() between the two quotation marks -/
def quoteLoop (st : RState) : Str :=
  match h : readRune st with
  | none => []
  | some (r, st') => emitRune r ++ quoteLoop st'
termination_by rmeasure st
decreasing_by exact readRune_decreases h

def quoteMech (s : Str) : Str := 34 :: (quoteLoop (none, s) ++ [34])

theorem quoteLoop_unfold (st : RState) :
    quoteLoop st = match readRune st with
      | none => []
      | some (r, st') => emitRune r ++ quoteLoop st' := by
  rw [quoteLoop]
  split <;> simp_all

def stUnits : RState → Str
  | (none, s) => s
  | (some c, s) => c :: s

theorem quoteBody_cons2 (h l : Nat) (r : Str) :
    quoteBody (h :: l :: r) = if isHigh h && isLow l then h :: l :: quoteBody r else escOne h ++ quoteBody (l :: r) := by
  rw [quoteBody]

theorem quoteBody_one (h : Nat) : quoteBody [h] = escOne h := by rw [quoteBody]

theorem readRune_eof {st : RState} (h : readRune st = none) : stUnits st = [] := by
  rcases st with ⟨_ | c, _ | ⟨c', rest⟩⟩
  · rfl
  all_goals
    simp only [readRune] at h
    repeat' split at h
    all_goals cases h

/-- one call of ReadRune is one step of QuoteJSONString: a pushed-back unit is the first of `stUnits st'`, so `quoteBody`
    examines it again as a possible pair start -/
theorem readRune_quoteBody {st st' : RState} {r : Rune} (h : readRune st = some (r, st')) :
    quoteBody (stUnits st) = emitRune r ++ quoteBody (stUnits st') := by
  -- both entry forms of ReadRune run the same body on a current unit `c` and the unread `rest`
  have body (c : Nat) (rest : Str)
      (h : (if isHigh c then
              (match rest with
               | [] => some (Rune.unit c, ((none : Option Nat), ([] : Str)))
               | second :: r => if isLow second then some (.pair c second, (none, r)) else some (.unit c, (some second, r)))
            else some (.unit c, (none, rest))) = some (r, st')) :
      quoteBody (c :: rest) = emitRune r ++ quoteBody (stUnits st') := by
    cases rest with
    | nil =>
      have : r = .unit c ∧ st' = (none, []) := by split at h <;> cases h <;> exact ⟨rfl, rfl⟩
      simp [this, quoteBody_one, emitRune, stUnits, quoteBody]
    | cons l t =>
      rw [quoteBody_cons2]
      by_cases hc : isHigh c = true
      · by_cases hl : isLow l = true
        · simp only [hc, hl, if_true] at h; cases h; simp [hc, hl, emitRune, stUnits]
        · simp only [hc, hl, if_true, Bool.false_eq_true, if_false] at h; cases h; simp [hc, hl, emitRune, stUnits]
      · simp only [hc, Bool.false_eq_true, if_false] at h; cases h; simp [hc, emitRune, stUnits]
  obtain ⟨p, s⟩ := st
  cases p with
  | none =>
    cases s with
    | nil => cases h
    | cons c rest => exact body c rest h
  | some c => exact body c s h

theorem quoteLoop_eq (st : RState) : quoteLoop st = quoteBody (stUnits st) := by
  fun_induction quoteLoop st with
  | case1 st h => rw [readRune_eof h, quoteBody]
  | case2 st r st' h ih => rw [ih, readRune_quoteBody h]

theorem quoteMech_eq_quote (s : Str) : quoteMech s = quote s := by
  unfold quoteMech quote
  rw [quoteLoop_eq]
  rfl

end GojaModel.C19
