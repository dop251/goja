/-
  C19: theorems about SerializeJSONProperty with replacer function / toJSON hooks (model in Replacer.lean).
-/
import GojaModel.C19.Replacer
import GojaModel.C19.AllowList
namespace GojaModel.C19

theorem joinElems_map (gap ind ind' : Str) (ys : List JVal) :
    joinElems gap ind ind' (ys.map (ser gap ind')) = serElems gap ind ind' ys := by
  induction ys with
  | nil => simp [joinElems, serElems]
  | cons a t ih => simp [joinElems, serElems, ih]

theorem assembleArr_map (gap ind : Str) (ys : List JVal) :
    assembleArr gap ind (ys.map (ser gap (ind ++ gap))) = ser gap ind (.arr ys) := by
  cases ys with
  | nil => simp [assembleArr, ser]
  | cons a t =>
    simp only [assembleArr, ser, List.map_cons, List.isEmpty_cons, Bool.false_eq_true, if_false]
    rw [← List.map_cons, joinElems_map]

def SerRewV {σ : Type} (H : Hooks σ) (gap : Str) (f : Nat) : Prop :=
  ∀ ind s h k v, serH H gap f ind s h k v = (rewH H f s h k v).map (fun p => (p.1, p.2.map (ser gap ind)))
def SerRewE {σ : Type} (H : Hooks σ) (gap : Str) (f : Nat) : Prop :=
  ∀ ind' s h i xs, serElemsH H gap f ind' s h i xs = (rewElemsH H f s h i xs).map (fun p => (p.1, p.2.map (ser gap ind')))
def SerRewM {σ : Type} (H : Hooks σ) (gap : Str) (f : Nat) : Prop :=
  ∀ ind' s h ms, serMembersH H gap f ind' s h ms = (rewMembersH H f s h ms).map (fun p => (p.1, p.2.map (textOf gap ind')))

theorem serRew_all {σ : Type} (H : Hooks σ) (gap : Str) : ∀ f, SerRewV H gap f ∧ SerRewE H gap f ∧ SerRewM H gap f := by
  intro f
  induction f with
  | zero =>
    refine ⟨?_, ?_, ?_⟩
    · intro ind s h k v; simp [serH, rewH]
    · intro ind s h i xs; cases xs <;> simp [serElemsH, rewElemsH]
    · intro ind s h ms; cases ms <;> simp [serMembersH, rewMembersH]
  | succ f ih =>
    obtain ⟨ihV, ihE, ihM⟩ := ih
    refine ⟨?_, ?_, ?_⟩
    · intro ind s h k v
      rw [serH, rewH]
      cases hp : (pre H s h k v).2 with
      | none => simp
      | some x =>
        cases x with
        | arr xs =>
          simp only [ihE (ind ++ gap)]
          cases rewElemsH H f (pre H s h k v).1 (.arr xs) 0 xs with
          | none => simp
          | some q => simp [assembleArr_map]
        | obj ms =>
          simp only [ihM (ind ++ gap)]
          cases rewMembersH H f (pre H s h k v).1 (.obj ms) ms with
          | none => simp
          | some q => simp [assembleObj_map]
        | null => simp
        | bool b => simp
        | num l => simp
        | str t => simp
    · intro ind' s h i xs
      cases xs with
      | nil => simp [serElemsH, rewElemsH]
      | cons v t =>
        rw [serElemsH, rewElemsH, ihV ind']
        cases rewH H f s h (idxKey i) v with
        | none => simp
        | some q =>
          obtain ⟨s1, o⟩ := q
          simp only [Option.map_some, ihE ind']
          cases rewElemsH H f s1 h (i + 1) t with
          | none => simp
          | some q2 => cases o <;> simp [ser, nullText]
    · intro ind' s h ms
      cases ms with
      | nil => simp [serMembersH, rewMembersH]
      | cons a t =>
        obtain ⟨k, v⟩ := a
        rw [serMembersH, rewMembersH, ihV ind']
        cases rewH H f s h k v with
        | none => simp
        | some q =>
          obtain ⟨s1, o⟩ := q
          simp only [Option.map_some, ihM ind']
          cases rewMembersH H f s1 h t with
          | none => simp
          | some q2 => cases o <;> simp [textOf]

mutual
theorem rew_keep {σ : Type} (H : Hooks σ) (g : σ → JVal × Str → σ) (hp : ∀ s h k v, pre H s h k v = (g s (h, k), some v)) :
    ∀ (v h : JVal) (k : Str) (s : σ) (f : Nat), need v ≤ f →
    rewH H f s h k v = some ((preCalls h k v).foldl g s, some v)
  | .null, h, k, s, f, hf | .bool _, h, k, s, f, hf | .num _, h, k, s, f, hf | .str _, h, k, s, f, hf => by
    obtain ⟨f, rfl⟩ := need_succ hf
    simp [rewH, hp, preCalls]
  | .arr xs, h, k, s, f, hf => by
    obtain ⟨f, rfl, hfl⟩ := need_arr_le hf
    simp [rewH, hp, preCalls, rewElems_keep H g hp xs (.arr xs) 0 (g s (h, k)) f hfl]
  | .obj ms, h, k, s, f, hf => by
    obtain ⟨f, rfl, hfm⟩ := need_obj_le hf
    simp [rewH, hp, preCalls, rewMembers_keep H g hp ms (.obj ms) (g s (h, k)) f hfm]
theorem rewElems_keep {σ : Type} (H : Hooks σ) (g : σ → JVal × Str → σ)
    (hp : ∀ s h k v, pre H s h k v = (g s (h, k), some v)) : ∀ (xs : List JVal) (h : JVal) (i : Nat) (s : σ) (f : Nat), needL xs ≤ f →
    rewElemsH H f s h i xs = some ((preCallsElems h i xs).foldl g s, xs)
  | [], h, i, s, f, _ => by simp [rewElemsH, preCallsElems]
  | v :: t, h, i, s, f, hf => by
    obtain ⟨f, rfl, hfv, hft⟩ := needL_cons_le hf
    simp [rewElemsH, rew_keep H g hp v h (idxKey i) s f hfv, rewElems_keep H g hp t h (i + 1) _ f hft, preCallsElems]
theorem rewMembers_keep {σ : Type} (H : Hooks σ) (g : σ → JVal × Str → σ)
    (hp : ∀ s h k v, pre H s h k v = (g s (h, k), some v)) : ∀ (ms : List (Str × JVal)) (h : JVal) (s : σ) (f : Nat), needM ms ≤ f →
    rewMembersH H f s h ms = some ((preCallsMembers h ms).foldl g s, ms)
  | [], h, s, f, _ => by simp [rewMembersH, preCallsMembers]
  | (k, v) :: t, h, s, f, hf => by
    obtain ⟨f, rfl, hfv, hft⟩ := needM_cons_le hf
    simp [rewMembersH, rew_keep H g hp v h k s f hfv, rewMembers_keep H g hp t h _ f hft, preCallsMembers]
end

theorem pre_logRepl (log : List (JVal × Str)) (h : JVal) (k : Str) (v : JVal) :
    pre logRepl log h k v = (log ++ [(h, k)], some v) := by
  simp [pre, logRepl]

theorem pre_noHooks (s : Unit) (h : JVal) (k : Str) (v : JVal) : pre noHooks s h k v = (s, some v) := by
  simp [pre, noHooks]

theorem rew_log (v h : JVal) (k : Str) (log : List (JVal × Str)) (f : Nat) (hf : need v ≤ f) :
    rewH logRepl f log h k v = some (log ++ preCalls h k v, some v) := by
  rw [rew_keep logRepl (fun log p => log ++ [p]) pre_logRepl v h k log f hf, foldl_snoc]

theorem rewElems_log : ∀ (xs : List JVal) (h : JVal) (i : Nat) (log : List (JVal × Str)) (f : Nat), needL xs ≤ f →
    rewElemsH logRepl f log h i xs = some (log ++ preCallsElems h i xs, xs) := by
  intro xs h i log f hf
  rw [rewElems_keep logRepl (fun log p => log ++ [p]) pre_logRepl xs h i log f hf, foldl_snoc]

theorem rewMembers_log : ∀ (ms : List (Str × JVal)) (h : JVal) (log : List (JVal × Str)) (f : Nat), needM ms ≤ f →
    rewMembersH logRepl f log h ms = some (log ++ preCallsMembers h ms, ms) := by
  intro ms h log f hf
  rw [rewMembers_keep logRepl (fun log p => log ++ [p]) pre_logRepl ms h log f hf, foldl_snoc]

theorem rew_none (v h : JVal) (k : Str) (f : Nat) (hf : need v ≤ f) : rewH noHooks f () h k v = some ((), some v) :=
  rew_keep noHooks (fun s _ => s) pre_noHooks v h k () f hf

theorem rewElems_none : ∀ (xs : List JVal) (h : JVal) (i : Nat) (f : Nat), needL xs ≤ f →
    rewElemsH noHooks f () h i xs = some ((), xs) :=
  fun xs h i f hf => rewElems_keep noHooks (fun s _ => s) pre_noHooks xs h i () f hf

theorem rewMembers_none : ∀ (ms : List (Str × JVal)) (h : JVal) (f : Nat), needM ms ≤ f →
    rewMembersH noHooks f () h ms = some ((), ms) :=
  fun ms h f hf => rewMembers_keep noHooks (fun s _ => s) pre_noHooks ms h () f hf

end GojaModel.C19
