/-
  C19: object building (`build`, Model.lean) and normal forms.  `build` is the identity on normal forms
  (`build_normal`); parser output is well-formed (`parseRaw_wf`) and `build` turns well-formed trees into normal forms
  (`build_normalizes`), hence `parse_normal`.
-/
import GojaModel.C19.Grammar
namespace GojaModel.C19

def keys (ms : List (Str × JVal)) : List Str := ms.map Prod.fst

def IdxSorted (ms : List (Str × JVal)) : Prop := List.Pairwise (fun a b => idxVal a ≤ idxVal b) ms

/-- the key order of an ECMAScript ordinary object -/
def KeysOK (ms : List (Str × JVal)) : Prop :=
  (keys ms).Nodup ∧ ms = ms.filter isIdx ++ ms.filter (fun p => !isIdx p) ∧ IdxSorted (ms.filter isIdx)

theorem not_mem_keys_cons {k k' : Str} {v : JVal} {t : List (Str × JVal)} :
    k ∉ keys ((k', v) :: t) ↔ k' ≠ k ∧ k ∉ keys t := by
  simp [keys, eq_comm]

theorem upsert_fresh (k : Str) (v : JVal) (acc : List (Str × JVal)) (h : k ∉ keys acc) :
    upsert k v acc = acc ++ [(k, v)] := by
  induction acc with
  | nil => rfl
  | cons p t ih =>
    obtain ⟨h1, h2⟩ := not_mem_keys_cons.mp h
    simp [upsert, h1, ih h2]

theorem dedupe_aux (ms acc : List (Str × JVal)) (h : (keys (acc ++ ms)).Nodup) :
    ms.foldl (fun acc p => upsert p.1 p.2 acc) acc = acc ++ ms := by
  induction ms generalizing acc with
  | nil => simp
  | cons p t ih =>
    have hp : p.1 ∉ keys acc := by
      simp only [keys, List.map_append, List.map_cons] at h
      exact fun hm => (List.nodup_cons.mp (List.perm_middle.nodup_iff.mp h)).1 (List.mem_append_left _ hm)
    simp only [List.foldl_cons]
    rw [upsert_fresh _ _ _ hp, ih]
    · simp
    · simpa using h

theorem dedupe_eq_self (ms : List (Str × JVal)) (h : (keys ms).Nodup) : dedupe ms = ms := by
  unfold dedupe
  simpa using dedupe_aux ms [] (by simpa using h)

theorem sortIdx_eq_self (l : List (Str × JVal)) (h : IdxSorted l) : sortIdx l = l := by
  induction l with
  | nil => rfl
  | cons a t ih =>
    have ht : IdxSorted t := (List.pairwise_cons.mp h).2
    rw [sortIdx, ih ht]
    cases t with
    | nil => rfl
    | cons b t' =>
      have hab : idxVal a ≤ idxVal b := (List.pairwise_cons.mp h).1 b (by simp)
      simp [insIdx, hab]

theorem orderKeys_dedupe_fixed (ms : List (Str × JVal)) (h : KeysOK ms) : orderKeys (dedupe ms) = ms := by
  rw [dedupe_eq_self ms h.1]
  unfold orderKeys
  rw [sortIdx_eq_self _ h.2.2]
  exact h.2.1.symm

mutual
/-- normal form: what a JavaScript value built by JSON.parse looks like in the model -/
def Normal (N : NumCanon) : JVal → Prop
  | .null => True
  | .bool _ => True
  | .num l => NumLexOK l ∧ N.canon l = l
  | .str s => WfStr s
  | .arr xs => NormalL N xs
  | .obj ms => NormalM N ms ∧ KeysOK ms
def NormalL (N : NumCanon) : List JVal → Prop
  | [] => True
  | v :: t => Normal N v ∧ NormalL N t
def NormalM (N : NumCanon) : List (Str × JVal) → Prop
  | [] => True
  | (k, v) :: t => WfStr k ∧ Normal N v ∧ NormalM N t
end

mutual
theorem normal_wf (N : NumCanon) : ∀ v : JVal, Normal N v → WfVal v
  | .null, _ => by simp [WfVal]
  | .bool _, _ => by simp [WfVal]
  | .num l, h => by simp only [Normal] at h; simpa [WfVal] using h.1
  | .str s, h => by simpa [WfVal, Normal] using h
  | .arr xs, h => by simp only [Normal] at h; simpa [WfVal] using normalL_wf N xs h
  | .obj ms, h => by simp only [Normal] at h; simpa [WfVal] using normalM_wf N ms h.1
theorem normalL_wf (N : NumCanon) : ∀ xs : List JVal, NormalL N xs → WfList xs
  | [], _ => by simp [WfList]
  | v :: t, h => by
    simp only [NormalL] at h
    simp only [WfList]
    exact ⟨normal_wf N v h.1, normalL_wf N t h.2⟩
theorem normalM_wf (N : NumCanon) : ∀ ms : List (Str × JVal), NormalM N ms → WfMembers ms
  | [], _ => by simp [WfMembers]
  | (k, v) :: t, h => by
    simp only [NormalM] at h
    simp only [WfMembers]
    exact ⟨h.1, normal_wf N v h.2.1, normalM_wf N t h.2.2⟩
end

mutual
theorem build_normal (N : NumCanon) : ∀ v : JVal, Normal N v → build N v = v
  | .null, _ => by simp [build]
  | .bool _, _ => by simp [build]
  | .num l, h => by simp only [Normal] at h; simp [build, h.2]
  | .str s, _ => by simp [build]
  | .arr xs, h => by simp only [Normal] at h; simp [build, buildList_normal N xs h]
  | .obj ms, h => by
    simp only [Normal] at h
    simp only [build, buildMembers_normal N ms h.1, orderKeys_dedupe_fixed ms h.2]
theorem buildList_normal (N : NumCanon) : ∀ xs : List JVal, NormalL N xs → buildList N xs = xs
  | [], _ => by simp [buildList]
  | v :: t, h => by
    simp only [NormalL] at h
    simp [buildList, build_normal N v h.1, buildList_normal N t h.2]
theorem buildMembers_normal (N : NumCanon) : ∀ ms : List (Str × JVal), NormalM N ms → buildMembers N ms = ms
  | [], _ => by simp [buildMembers]
  | (k, v) :: t, h => by
    simp only [NormalM] at h
    simp [buildMembers, build_normal N v h.2.1, buildMembers_normal N t h.2.2]
end

theorem parseRaw_wf {t : Str} {v : JVal} (ht : WfStr t) (h : parseRaw t = some v) : WfVal v := by
  obtain ⟨w1, w2, s, _, _, rfl, hg⟩ := parseRaw_sound h
  exact (gram_wf hg (wfStr_append.mp ht).2).1

/-- what the theorems need to know about the canonical number text (C12's subject) -/
structure NumCanonOK (N : NumCanon) : Prop where
  valid : ∀ l, NumLexOK l → NumLexOK (N.canon l)
  idem : ∀ l, NumLexOK l → N.canon (N.canon l) = N.canon l

theorem numCanonOK_id : NumCanonOK NumCanon.id := ⟨fun _ h => h, fun _ _ => rfl⟩

theorem normalM_iff (N : NumCanon) (ms : List (Str × JVal)) :
    NormalM N ms ↔ ∀ p ∈ ms, WfStr p.1 ∧ Normal N p.2 := by
  induction ms with
  | nil => simp [NormalM]
  | cons a t ih =>
    obtain ⟨k, v⟩ := a
    simp only [NormalM, ih, List.mem_cons, forall_eq_or_imp]
    constructor
    · intro h; exact ⟨⟨h.1, h.2.1⟩, h.2.2⟩
    · intro h; exact ⟨h.1.1, h.1.2, h.2⟩

theorem mem_upsert {k : Str} {v : JVal} {acc : List (Str × JVal)} {p : Str × JVal} (h : p ∈ upsert k v acc) :
    p = (k, v) ∨ p ∈ acc := by
  induction acc with
  | nil => simpa [upsert] using h
  | cons a t ih =>
    obtain ⟨k', v'⟩ := a
    by_cases hk : k' = k
    · subst hk
      rcases List.mem_cons.mp (by simpa [upsert] using h) with h | h <;> simp [h]
    · rcases List.mem_cons.mp (by simpa [upsert, hk] using h) with h | h
      · simp [h]
      · rcases ih h with h' | h' <;> simp [h']

theorem keys_upsert (k : Str) (v : JVal) (acc : List (Str × JVal)) :
    keys (upsert k v acc) = if k ∈ keys acc then keys acc else keys acc ++ [k] := by
  induction acc with
  | nil => simp [upsert, keys]
  | cons a t ih =>
    obtain ⟨k', v'⟩ := a
    by_cases hk : k' = k
    · simp [upsert, hk, keys]
    · have hk' : ¬ k = k' := fun e => hk e.symm
      have ih' := ih
      simp only [keys] at ih'
      by_cases hm : k ∈ List.map Prod.fst t
      · simp [upsert, hk, keys, hk', hm, ih']
      · simp [upsert, hk, keys, hk', hm, ih']

theorem mem_foldl_upsert (ms : List (Str × JVal)) : ∀ (acc : List (Str × JVal)) (p : Str × JVal),
    p ∈ ms.foldl (fun acc q => upsert q.1 q.2 acc) acc → p ∈ acc ∨ p ∈ ms := by
  induction ms with
  | nil => intro acc p h; exact Or.inl h
  | cons q t ih =>
    intro acc p h
    simp only [List.foldl_cons] at h
    rcases ih _ p h with h1 | h1
    · rcases mem_upsert h1 with h2 | h2
      · exact Or.inr (by simp [h2])
      · exact Or.inl h2
    · exact Or.inr (by simp [h1])

theorem nodup_foldl_upsert (ms : List (Str × JVal)) : ∀ (acc : List (Str × JVal)), (keys acc).Nodup →
    (keys (ms.foldl (fun acc q => upsert q.1 q.2 acc) acc)).Nodup := by
  induction ms with
  | nil => intro acc h; exact h
  | cons q t ih =>
    intro acc h
    simp only [List.foldl_cons]
    apply ih
    rw [keys_upsert]
    split
    · exact h
    · rename_i hn
      exact (List.perm_append_singleton _ _).nodup_iff.mpr (List.nodup_cons.mpr ⟨hn, h⟩)

theorem mem_dedupe {ms : List (Str × JVal)} {p : Str × JVal} (h : p ∈ dedupe ms) : p ∈ ms := by
  rcases mem_foldl_upsert ms [] p h with h1 | h1
  · cases h1
  · exact h1

theorem nodup_dedupe (ms : List (Str × JVal)) : (keys (dedupe ms)).Nodup :=
  nodup_foldl_upsert ms [] (by simp [keys])

theorem insIdx_perm (a : Str × JVal) (l : List (Str × JVal)) : (insIdx a l).Perm (a :: l) := by
  induction l with
  | nil => exact List.Perm.refl _
  | cons b t ih =>
    by_cases h : idxVal a ≤ idxVal b
    · simp [insIdx, h]
    · simp only [insIdx, h, if_false]
      exact ((List.Perm.cons b ih).trans (List.Perm.swap a b t))

theorem sortIdx_perm (l : List (Str × JVal)) : (sortIdx l).Perm l := by
  induction l with
  | nil => exact List.Perm.refl _
  | cons a t ih => exact (insIdx_perm a (sortIdx t)).trans (List.Perm.cons a ih)

theorem insIdx_sorted (a : Str × JVal) (l : List (Str × JVal)) (h : IdxSorted l) : IdxSorted (insIdx a l) := by
  induction l with
  | nil => simp [insIdx, IdxSorted]
  | cons b t ih =>
    have hb := List.pairwise_cons.mp h
    by_cases hab : idxVal a ≤ idxVal b
    · simp only [insIdx, hab, if_true]
      refine List.pairwise_cons.mpr ⟨?_, h⟩
      intro y hy
      cases hy with
      | head => exact hab
      | tail _ hy' => exact Nat.le_trans hab (hb.1 y hy')
    · simp only [insIdx, hab, if_false]
      refine List.pairwise_cons.mpr ⟨?_, ih hb.2⟩
      intro y hy
      have := (insIdx_perm a t).mem_iff.mp hy
      cases this with
      | head => omega
      | tail _ hy' => exact hb.1 y hy'

theorem sortIdx_idxSorted (l : List (Str × JVal)) : IdxSorted (sortIdx l) := by
  induction l with
  | nil => simp [sortIdx, IdxSorted]
  | cons a t ih => exact insIdx_sorted a _ ih

theorem orderKeys_perm (l : List (Str × JVal)) : (orderKeys l).Perm l := by
  unfold orderKeys
  exact ((sortIdx_perm _).append (List.Perm.refl _)).trans (List.filter_append_perm isIdx l)

theorem orderKeys_keysOK (l : List (Str × JVal)) (h : (keys l).Nodup) : KeysOK (orderKeys l) := by
  have hA : ∀ p ∈ sortIdx (l.filter isIdx), isIdx p = true := by
    intro p hp
    have := (sortIdx_perm _).mem_iff.mp hp
    exact (List.mem_filter.mp this).2
  have hB : ∀ p ∈ l.filter (fun p => !isIdx p), isIdx p = false := by
    intro p hp
    simpa using (List.mem_filter.mp hp).2
  have e1 : (sortIdx (l.filter isIdx)).filter isIdx = sortIdx (l.filter isIdx) := List.filter_eq_self.mpr hA
  have e2 : (l.filter (fun p => !isIdx p)).filter isIdx = [] :=
    List.filter_eq_nil_iff.mpr (fun a ha => by simp [hB a ha])
  have e3 : (sortIdx (l.filter isIdx)).filter (fun p => !isIdx p) = [] :=
    List.filter_eq_nil_iff.mpr (fun a ha => by simp [hA a ha])
  have e4 : (l.filter (fun p => !isIdx p)).filter (fun p => !isIdx p) = l.filter (fun p => !isIdx p) :=
    List.filter_eq_self.mpr (fun a ha => by simp [hB a ha])
  have f1 : (orderKeys l).filter isIdx = sortIdx (l.filter isIdx) := by
    unfold orderKeys
    rw [List.filter_append, e1, e2]
    simp
  have f2 : (orderKeys l).filter (fun p => !isIdx p) = l.filter (fun p => !isIdx p) := by
    unfold orderKeys
    rw [List.filter_append, e3, e4]
    simp
  refine ⟨?_, ?_, ?_⟩
  · exact (((orderKeys_perm l).map Prod.fst).nodup_iff).mpr h
  · rw [f1, f2]; rfl
  · rw [f1]; exact sortIdx_idxSorted _

mutual
theorem build_normalizes (N : NumCanon) (hN : NumCanonOK N) : ∀ v : JVal, WfVal v → Normal N (build N v)
  | .null, _ => by simp [build, Normal]
  | .bool _, _ => by simp [build, Normal]
  | .num l, h => by
    have hl : NumLexOK l := by simpa [WfVal] using h
    simp only [build, Normal]
    exact ⟨hN.valid l hl, hN.idem l hl⟩
  | .str s, h => by simpa [build, Normal, WfVal] using h
  | .arr xs, h => by
    simp only [build, Normal]
    exact buildList_normalizes N hN xs (by simpa [WfVal] using h)
  | .obj ms, h => by
    have hm := buildMembers_normalizes N hN ms (by simpa [WfVal] using h)
    simp only [build, Normal]
    refine ⟨?_, orderKeys_keysOK _ (nodup_dedupe _)⟩
    rw [normalM_iff] at hm ⊢
    intro p hp
    exact hm p (mem_dedupe ((orderKeys_perm _).mem_iff.mp hp))
theorem buildList_normalizes (N : NumCanon) (hN : NumCanonOK N) : ∀ xs : List JVal, WfList xs → NormalL N (buildList N xs)
  | [], _ => by simp [buildList, NormalL]
  | v :: t, h => by
    simp only [WfList] at h
    simp only [buildList, NormalL]
    exact ⟨build_normalizes N hN v h.1, buildList_normalizes N hN t h.2⟩
theorem buildMembers_normalizes (N : NumCanon) (hN : NumCanonOK N) : ∀ ms : List (Str × JVal), WfMembers ms →
    NormalM N (buildMembers N ms)
  | [], _ => by simp [buildMembers, NormalM]
  | (k, v) :: t, h => by
    simp only [WfMembers] at h
    simp only [buildMembers, NormalM]
    exact ⟨h.1, build_normalizes N hN v h.2.1, buildMembers_normalizes N hN t h.2.2⟩
end

theorem parse_normal (N : NumCanon) (hN : NumCanonOK N) {t : Str} {v : JVal} (ht : WfStr t) (h : parse N t = some v) :
    Normal N v := by
  unfold parse at h
  cases hp : parseRaw t with
  | none => simp [hp] at h
  | some raw =>
    simp [hp] at h
    subst h
    exact build_normalizes N hN raw (parseRaw_wf ht hp)

end GojaModel.C19
