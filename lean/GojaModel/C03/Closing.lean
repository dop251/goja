/-
  C03 — one layer of the interpreter (`step_good`), the closing induction over fuel (`run_good`), the host's API calls
  (`apiCall_spec`).
-/
import GojaModel.C03.Frames
import GojaModel.C03.Boundaries
import GojaModel.C03.TryStmt
import GojaModel.C03.Generators

namespace GojaModel.C03

theorem seq_good {runF : RunF} (HG : HypG runF) (a b : Beh) (s : Vm) (hI : Inv s) :
    Good s (seqRes runF a b s) := by
  unfold seqRes
  have hg := HG a s hI
  generalize runF a s = r at hg
  obtain ⟨o, s1⟩ := r
  cases o with
  | normal => exact Good.same_left hg.1 (hg.2 nofun) (HG b s1 (Same.inv hg.1 hI))
  | yielded => exact Good.yielded (hg.1.1.resid _) hg.1.2 (hg.2 nofun)
  | _ => exact hg

theorem yieldThen_good {runF : RunF} (HG : HypG runF) (a b : Beh) (s : Vm) (hI : Inv s) :
    Good s (yieldThenRes runF a b s) := by
  unfold yieldThenRes
  have hg := HG a s hI
  generalize runF a s = r at hg
  obtain ⟨o, s1⟩ := r
  cases o with
  | normal =>
    have hc : Same s s1 := hg.1
    exact Good.yielded ((hc.toExt false).resid _) hc.cs (hg.2 nofun)
  | yielded => exact Good.yielded (hg.1.1.resid _) hg.1.2 (hg.2 nofun)
  | _ => exact hg

theorem step_good {runF : RunF} (HG : HypG runF) (HA : HypA runF) (lf : Nat) :
    ∀ (b : Beh) (s : Vm), Inv s → Good s (step lf runF b s) := by
  intro b s hI
  cases b with
  | skip => exact Good.normal (Same.refl s) rfl
  | resumePoint => exact Good.normal (Same.refl s) rfl
  | job b => exact Good.normal ⟨rfl, rfl, rfl, rfl, rfl, rfl, rfl, rfl⟩ rfl
  | break_ => exact Good.exit _ (Same.refl s) rfl
  | return_ => exact Good.exit _ (Same.refl s) rfl
  | throw_ => exact Good.thrown ((Same.refl s).toExt true) rfl
  | intr => exact Good.fatal (Same.toExt false ⟨rfl, rfl, rfl, rfl, rfl, rfl, rfl, rfl⟩)
  | yield_ => exact Good.yielded (((Same.refl s).toExt false).resid _) rfl rfl
  | seq a b => exact seq_good HG a b s hI
  | yieldThen a b => exact yieldThen_good HG a b s hI
  | tryH hf cur fin => exact tryResumeH_good HG HA hf cur fin s hI
  | tryF p cur => exact tryResumeF_good HG p cur s hI
  | genNew slot n f body => exact genNew_good slot n f body s
  | genNext slot => exact genResume_good HG HA slot none false s
  | genThrow slot => exact genResume_good HG HA slot (some .throw_) true s
  | genReturn slot => exact genResume_good HG HA slot (some .return_) false s
  | asyncNew n f body => exact asyncNew_good HG HA n f body s
  | asyncResume id => exact asyncResumeCA_good HG HA id s
  | probe id => exact probe_good id s
  | frame k ret body => exact frame_good HG lf k ret body s hI
  | try_ hc hf body handler fin =>
    dsimp only [step]
    split
    · rename_i h; exact tryStmt_good HG HA hc hf h body handler fin s hI
    · exact HG body s hI
  | goCall n f b => exact goCall_good HG HA n f b s hI
  | api k b => exact (apiNode_spec HG HA lf k b s hI).toGood
  | swallow k b =>
    dsimp only [step]
    have ha := apiNode_spec HG HA lf k b s hI
    generalize apiNode lf runF k b s = r at ha
    unfold swallowRes
    obtain ⟨s1, h2, rfl | ⟨h3, rfl | rfl⟩⟩ := ApiGood.cases ha
    · dsimp only
      split
      · rename_i hc
        simp only [Bool.and_eq_true, beq_iff_eq] at hc
        exact Good.normal h2 hc.2
      · exact Good.fatal (h2.toExt false)
    · exact Good.normal h2 h3
    · exact Good.normal h2 h3

theorem run_good : ∀ (fuel : Nat), HypG (run fuel) ∧ HypA (run fuel) := by
  intro fuel
  induction fuel with
  | zero => exact ⟨fun b s _ => Good.fatal ((Same.refl s).toExt false), fun b s _ => ApiGood.fatal (Same.refl s)⟩
  | succ n ih => exact ⟨step_good ih.1 ih.2 n, fun b s hI => tryB_spec ih.1 ih.2 b s hI⟩

theorem runtimeTry_spec (fuel : Nat) (b : Beh) (s : Vm) (hI : Inv s) :
    ApiGood s (runtimeTry fuel b s) ∧
    ((runtimeTry fuel b s).1 = .fatal → s.callStack = [] →
      (runtimeTry fuel b s).2.jobQueue = [] ∧ (runtimeTry fuel b s).2.interrupted = false) := by
  unfold runtimeTry
  have ha := tryB_spec (run_good fuel).1 (run_good fuel).2 b s hI
  generalize tryB (run fuel) b s = r at ha
  obtain ⟨s1, h2, rfl | ⟨h3, rfl | rfl⟩⟩ := ApiGood.cases ha
  · obtain ⟨e1, e2⟩ := leaveAbrupt_at_depth0 hI h2
    exact ⟨ApiGood.fatal e1, fun _ => e2⟩
  · exact ⟨ApiGood.normal h2 h3, nofun⟩
  · exact ⟨ApiGood.thrown h2 h3, nofun⟩

theorem apiCall_spec (fuel : Nat) (k : TopApi) (b : Beh) (s : Vm) (hI : Inv s) :
    ApiGood s (apiCall fuel k b s) := by
  have HG := (run_good fuel).1
  have HA := (run_good fuel).2
  -- RunProgram, Callable and Constructor are the boundary nodes of the same name at the real interpreter
  cases k with
  | runProgram => exact apiNode_spec HG HA fuel .runProgram b s hI
  | callable n f => exact apiNode_spec HG HA fuel .runWrapped (.goCall n f b) s hI
  | constructor n f => exact apiNode_spec HG HA fuel .runWrapped (.goCall n f b) s hI
  | try_ => exact (runtimeTry_spec fuel b s hI).1
  | tryGet f => exact (runtimeTry_spec fuel _ s hI).1

theorem apiCall_exit (fuel : Nat) (k : TopApi) (b : Beh) (s : Vm) (hI : Inv s) (h0 : s.callStack = []) :
    ((apiCall fuel k b s).1 = .fatal →
        (apiCall fuel k b s).2.jobQueue = [] ∧ (apiCall fuel k b s).2.interrupted = false) ∧
    ((k matches .runProgram | .callable .. | .constructor ..) → (apiCall fuel k b s).2.jobQueue = []) := by
  have HG := (run_good fuel).1
  have HA := (run_good fuel).2
  cases k with
  | runProgram =>
    have hl : ¬ s.callStack.length > 0 := by simp [h0]
    simp only [apiCall, hl, if_false]
    obtain ⟨_, e2, e3⟩ := runProgramOuter_spec HG HA fuel _ b s hI h0
    exact ⟨fun h => ⟨e2, e3 h⟩, fun _ => e2⟩
  | callable n f =>
    obtain ⟨e2, e3⟩ := runWrapped_exit HG HA fuel (.goCall n f b) s hI h0
    exact ⟨fun h => ⟨e2, e3 h⟩, fun _ => e2⟩
  | constructor n f =>
    obtain ⟨e2, e3⟩ := runWrapped_exit HG HA fuel (.goCall n f b) s hI h0
    exact ⟨fun h => ⟨e2, e3 h⟩, fun _ => e2⟩
  | try_ => exact ⟨fun h => (runtimeTry_spec fuel b s hI).2 h h0, nofun⟩
  | tryGet f => exact ⟨fun h => (runtimeTry_spec fuel _ s hI).2 h h0, nofun⟩

theorem ctl_of_same {s t : Vm} (h : Same s t) : ctlState t = ctlState s := by
  have hr := h.regs
  simp only [Vm.regs, Regs.mk.injEq] at hr
  simp [ctlState, h.sp, h.stash, h.privEnv, h.cs, h.ts, h.is, h.rs, hr.1, hr.2.1, hr.2.2.1, hr.2.2.2]

theorem ApiGood.balanced {s : Vm} {r : Res} (h : ApiGood s r) : r.1 ≠ .stuck ∧ ctlState r.2 = ctlState s :=
  ⟨h.1.1, ctl_of_same h.2.1⟩

end GojaModel.C03
