/-
  C03 — VM control state (`VmCtl`) of goja and the Go-boundary wrappers, as an executable model.
  CORE LEAN ONLY (linked into model_c03).

  Mechanism-level transcription of (line numbers of /repo):
    vm.go:37 context, :47 tryFrame, :363 vm, :764 pushTryFrame, :778 popTryFrame, :782 restoreStacks,
    :828 handleThrow, :896 try, :910 runTry, :922 runTryInner, :948 saveCtx, :953 pushCtx, :969 popCtx,
    :4805 try.exec, :4823 leaveTry, :4840 enterFinally, :4849 leaveFinally, :3941 _ret,
    func.go:408 __call, :577 nativeFuncObject.vmCall, :492 baseJsFuncObject.vmCall,
    runtime.go:1485 RunProgram, :2562 runWrapped, :2665 Runtime.Try, :2911 leave, :2924 leaveAbrupt,
    builtin_promise.go:199 newPromiseReactionJob.

  Stacks `callStack/iterStack/refStack` are kept in Go order (index 0 = oldest, push = append,
  truncate = `take`), because try frames address them by length.  `tryStack` is kept top-first.

  The model transcribes the code with the fix commits 195a32b e71ffae eae3f2a 9e5aa04 570c7df 379f30d 5d979ec of
  /repo applied: leaveAbrupt resets prg/sb, Runtime.Try runs leaveAbrupt at depth 0,
  _restoreStacks truncates in a deferred function and closes iterators only for catchable throws,
  RunProgram pops only a context it pushed, enterFinally clears catchPos.

  The interpreter is written in open-recursion style: every definition takes `runF : RunF`, the
  interpreter for sub-behaviours; `run (fuel+1) = step (run fuel)` and `run 0` answers `fatal` —
  running out of fuel is indistinguishable from being interrupted at that point, so every theorem
  holds for every fuel without side conditions.
-/
namespace GojaModel.C03

/-- vm.go:37 -/
structure Ctx where
  prg : Option Nat
  stash : List Nat
  privEnv : List Nat
  newTarget : Nat
  result : Nat
  pc : Int
  sb : Int
  args : Nat
deriving DecidableEq, Repr, Inhabited

def tryPanicMarker : Int := -2

/-- vm.go:47 -/
structure TryFrame where
  exception : Option Nat
  callStackLen : Nat
  iterLen : Nat
  refLen : Nat
  sp : Int
  stash : List Nat
  privEnv : List Nat
  catchPos : Int
  finallyPos : Int
  finallyRet : Int
deriving DecidableEq, Repr, Inhabited

/-- A JS function as far as control state is concerned (funcObject.prg/stash/privEnv). -/
structure FnInfo where
  prg : Nat
  stash : List Nat
  privEnv : List Nat
deriving DecidableEq, Repr, Inhabited

/-- Boundaries that can be entered re-entrantly from a native frame. -/
inductive Boundary
  | try_          -- vm.try (Runtime.Try, builtins, promise jobs, iterator close)
  | runWrapped    -- Callable / Constructor / ExportTo'd func (runtime.go:2562)
  | runProgramRec -- RunProgram with len(callStack) > 0
  | runProgram    -- RunProgram choosing its branch by len(callStack) (outermost e.g. directly under a depth-0 Try)
deriving DecidableEq, Repr

/-- Frame operations that bracket a sub-behaviour within one run loop. -/
inductive FrameKind
  | tmp (n : Nat)              -- n operands live across the body (sp += n … sp -= n)
  | call (n : Nat) (f : FnInfo) -- JS→JS call: push callee/this/args, pushCtx, …, ret, pop result
  | native (n : Nat)           -- JS→native call (func.go:577)
  | forOf (closable : Bool)    -- iterate/iterateP … enumPop
  | ref                        -- a reference record live across the body
  | block                      -- enterBlock with a stash … leaveBlock
  | priv                       -- class body with private names: the private environment is pushed in the SAME call frame
deriving DecidableEq, Repr

/-- Inner behaviours: a tree of frame operations which may end normally, with a catchable throw or
with an uncatchable one at any node. -/
inductive Beh
  | skip
  | seq (a b : Beh)
  | probe (id : Nat)                 -- native probe function (fault injection point)
  | break_                           -- `break` out of the nearest enclosing for-of of the same function
  | return_                          -- `return` out of the nearest enclosing function
  | throw_                           -- catchable: JS throw / Go panic with Value or *Exception / Go error
  | intr                             -- Interrupt() from inside a native, noticed by the run loop
  | frame (k : FrameKind) (ret : Beh) (body : Beh)   -- `ret`: iterator `return` behaviour (forOf only)
  | try_ (hasCatch hasFin : Bool) (body handler fin : Beh)
  | goCall (n : Nat) (f : FnInfo) (body : Beh)       -- func.go:408 __call (from a native / boundary)
  | api (k : Boundary) (body : Beh)
  | swallow (k : Boundary) (body : Beh)  -- a native that ignores the error / exception returned by a nested call
  | job (body : Beh)                 -- enqueue a promise reaction job
  -- generators (func.go generator / generatorObject, vm.go suspend / resume)
  | yieldThen (a b : Beh)            -- body of a generator: run `a`, `yield`, and after the next resume `b`
  | resumePoint                      -- (residuals only) where a suspended activation continues; a no-op
  | yield_                           -- `yield` / `await` anywhere in the generator's own frame (inside try / for-of / block …)
  -- the rest of a try statement that was suspended in its catch handler / in its finally block (only as residuals)
  | tryH (hasFin : Bool) (cur fin : Beh)
  | tryF (pending : Bool) (cur : Beh)
  | genNew (slot n : Nat) (f : FnInfo) (body : Beh)   -- `g<slot> = (function*(){ body })(args)`
  | genNext (slot : Nat)             -- generatorObject.next  (the native frame around it is a `frame native`)
  | genThrow (slot : Nat)            -- generatorObject.throw
  | genReturn (slot : Nat)           -- generatorObject._return
  -- async functions (func.go asyncRunner); an `await` of a settled value is a `yield_`
  | asyncNew (n : Nat) (f : FnInfo) (body : Beh)   -- `(async function(){ a; await 0; b … })(args)`: asyncRunner.start
  | asyncResume (id : Nat)           -- promise reaction job: asyncRunner.onFulfilled → generator.next → asyncRunner.step
deriving Repr, Inhabited

inductive GenState | suspended | executing | completed
deriving DecidableEq, Repr, Inhabited

/-- a generator object: the rest of its body, the saved execCtx (context + operand-stack size; the try / iterator /
reference records live at the yield are implied by `rest`) and generatorObject.state -/
structure GenObj where
  rest : Beh
  ctx : Ctx
  stackLen : Nat
  state : GenState
  started : Bool          -- false = genStateSuspendedStart
deriving Repr, Inhabited

structure IterItem where
  hasIter : Bool
  ret : Beh
deriving Repr, Inhabited

/-- One probe observation (ghost; compared with VerifC03VMState read inside the real probe). -/
structure Obs where
  id : Nat
  callLen : Nat
  tryLen : Nat
  iterLen : Nat
  refLen : Nat
  /-- vm.curAsyncRunner != nil at the probe -/
  ca : Bool := false
deriving DecidableEq, Repr

inductive FaultKind | throw_ | intr
deriving DecidableEq, Repr

structure Vm where
  prg : Option Nat
  pc : Int
  sp : Int
  sb : Int
  args : Nat
  stash : List Nat
  privEnv : List Nat
  callStack : List Ctx
  iterStack : List IterItem
  refStack : List Nat
  tryStack : List TryFrame
  newTarget : Nat
  result : Nat
  maxCallStackSize : Nat
  stashAllocs : Nat
  interrupted : Bool
  jobQueue : List Beh
  gens : List (Nat × GenObj)       -- heap: generator objects by slot (global variables g<slot>)
  resid : Beh                      -- when the outcome is `yielded`: the rest of the generator body (what resume continues with)
  -- ghost state for the correspondence
  probeCount : Nat
  faultAt : Option (Nat × FaultKind)
  trace : List Obs
  /-- vm.curAsyncRunner != nil: set by asyncRunner.onFulfilled / onRejected for the time the continuation runs and reset
  by their deferred function on every exit (normal, rejected, uncatchable); vm.captureStack reads it -/
  curAsync : Bool := false
deriving Repr, Inhabited

/-- local exits: `break` out of the nearest for-of, `return` out of the nearest function — they run the
block-exit code of every construct they cross (leaveTry with its `finally`, enumPopClose, leaveBlock …) -/
inductive ExitKind | brk | ret
deriving DecidableEq, Repr, Inhabited

/-- `fatal`: uncatchable (interrupt, stack overflow, fuel exhaustion).
`stuck`: a model assertion failed (proved unreachable: `run_good`). -/
inductive Outcome | normal | thrown | fatal | stuck | exit (k : ExitKind)
  | yielded        -- a `yield` / `await` of the running generator activation was reached; `Vm.resid` is the rest of its body
deriving DecidableEq, Repr, Inhabited

abbrev Res := Outcome × Vm
abbrev RunF := Beh → Vm → Res

def globalStash : List Nat := [0]

/-- vm.init (vm.go:607) on a fresh Runtime. -/
def Vm.fresh (maxDepth : Nat) : Vm :=
  { prg := none, pc := 0, sp := 0, sb := -1, args := 0, stash := globalStash, privEnv := [],
    callStack := [], iterStack := [], refStack := [], tryStack := [], newTarget := 0, result := 0,
    maxCallStackSize := maxDepth, stashAllocs := 0, interrupted := false, jobQueue := [], gens := [], resid := .skip,
    probeCount := 0, faultAt := none, trace := [] }

/-! ### contexts (vm.go:948-979) -/

def saveCtx (s : Vm) : Ctx :=
  ⟨s.prg, s.stash, s.privEnv, s.newTarget, s.result, s.pc, s.sb, s.args⟩

/-- vm.go:953; `none` = StackOverflowError panic. -/
def pushCtx (s : Vm) : Option Vm :=
  if s.callStack.length > s.maxCallStackSize then none
  else some { s with callStack := s.callStack ++ [saveCtx s] }

def restoreCtx (c : Ctx) (s : Vm) : Vm :=
  { s with prg := c.prg, stash := c.stash, privEnv := c.privEnv, newTarget := c.newTarget,
           result := c.result, pc := c.pc, sb := c.sb, args := c.args }

/-- vm.go:969 (Go would panic on an empty callStack; the model leaves the state alone). -/
def popCtx (s : Vm) : Vm :=
  match s.callStack.getLast? with
  | none => s
  | some c => { restoreCtx c s with callStack := s.callStack.dropLast }

/-! ### try frames (vm.go:764-780) -/

def pushTryFrame (catchPos finallyPos : Int) (s : Vm) : Vm :=
  { s with tryStack :=
      { exception := none, callStackLen := s.callStack.length, iterLen := s.iterStack.length,
        refLen := s.refStack.length, sp := s.sp, stash := s.stash, privEnv := s.privEnv,
        catchPos := catchPos, finallyPos := finallyPos, finallyRet := -1 } :: s.tryStack }

def popTryFrame (s : Vm) : Vm := { s with tryStack := s.tryStack.tail }

def isConsumed (tf : TryFrame) : Bool := tf.catchPos == -1 && tf.finallyPos == -1

/-- vm.go:849-857: what handleThrow restores from the frame it stops at. -/
def restoreFrame (tf : TryFrame) (s : Vm) : Vm :=
  let s1 : Vm := match s.callStack[tf.callStackLen]? with
    | some ctx => { s with prg := ctx.prg, newTarget := ctx.newTarget, result := ctx.result,
                           pc := ctx.pc, sb := ctx.sb, args := ctx.args,
                           callStack := s.callStack.take tf.callStackLen }
    | none => s
  { s1 with sp := tf.sp, stash := tf.stash, privEnv := tf.privEnv }

/-- The iterator-close loop of restoreStacks (vm.go:807-818), items given top-first.
Returns `true` if an uncatchable escaped from an iterator's `return` (the Go panic leaves
restoreStacks before the truncation). -/
def closeIters (runF : RunF) : List IterItem → Vm → Bool × Vm
  | [], s => (false, s)
  | it :: rest, s =>
    if it.hasIter then
      let r := runF (.api .try_ it.ret) s       -- ex1 := vm.try(func(){ iter.returnIter() })
      match r.1 with
      | .normal | .thrown => closeIters runF rest r.2   -- ex1 is ignored by handleThrow
      | _ => (true, r.2)
    else closeIters runF rest s

/-- vm.go `_restoreStacks(iterLen, refLen, closeIters)`: iterators are closed only when unwinding for a
catchable throw; the truncation of both stacks sits in a deferred function, so it happens even when an
iterator's return() leaves with an uncatchable (first component `true`). -/
def restoreStacks (runF : RunF) (doClose : Bool) (iterLen refLen : Nat) (s : Vm) : Bool × Vm :=
  let r := if doClose then closeIters runF (s.iterStack.drop iterLen).reverse s else (false, s)
  (r.1, { r.2 with iterStack := r.2.iterStack.take iterLen, refStack := r.2.refStack.take refLen })

inductive HT | caught | fin | atMarker | empty | aborted
deriving DecidableEq, Repr

/-- The loop of handleThrow (vm.go:842-881) over the try stack (top first).  `catchable = false`
is `ex == nil` (payload not convertible by exceptionFromValue: interrupt, stack overflow). -/
def handleThrowLoop (runF : RunF) (catchable : Bool) : List TryFrame → Vm → HT × Vm
  | [], s => (.empty, { s with tryStack := [] })
  | tf :: rest, s =>
    if isConsumed tf || (!catchable && tf.catchPos != tryPanicMarker) then
      handleThrowLoop runF catchable rest { s with tryStack := rest }
    else
      let s1 := restoreFrame tf { s with tryStack := tf :: rest }
      let r := restoreStacks runF catchable tf.iterLen tf.refLen s1    -- closeIters = (ex != nil)
      if r.1 then (.aborted, r.2)
      else if tf.catchPos == tryPanicMarker then (.atMarker, r.2)
      else if tf.catchPos ≥ 0 then
        (.caught, { r.2 with sp := r.2.sp + 1, pc := tf.catchPos,
                             tryStack := { tf with catchPos := -1 } :: rest })
      else if tf.finallyPos ≥ 0 then
        (.fin, { r.2 with pc := tf.finallyPos,
                          tryStack := { tf with exception := some 1, finallyPos := -1, finallyRet := -1 } :: rest })
      else (.empty, r.2)

def handleThrow (runF : RunF) (catchable : Bool) (s : Vm) : HT × Vm :=
  handleThrowLoop runF catchable s.tryStack s

/-! ### bracketing frame operations -/

def FrameKind.pre (k : FrameKind) (ret : Beh) (s : Vm) : Option Vm :=
  match k with
  | .tmp n => some { s with sp := s.sp + n }
  | .call n f =>
    -- push callee, this, n args; vmCall: pushCtx; enterFunc: sb := sp - n - 1
    (pushCtx { s with sp := s.sp + 2 + n }).map fun t =>
      { t with args := n, prg := some f.prg, stash := f.stash, privEnv := f.privEnv, pc := 0,
               sb := t.sp - n - 1 }
  | .native n =>
    (pushCtx { s with sp := s.sp + 2 + n }).map fun t => { t with prg := none, sb := t.sp - n }
  | .forOf closable =>
    some { s with iterStack := s.iterStack ++ [⟨true, if closable then ret else .skip⟩] }
  | .ref => some { s with refStack := s.refStack ++ [0] }
  | .block => some { s with stash := (s.stashAllocs + 1) :: s.stash, stashAllocs := s.stashAllocs + 1 }
  | .priv => some { s with privEnv := (s.stashAllocs + 1) :: s.privEnv, stashAllocs := s.stashAllocs + 1 }

def FrameKind.post (k : FrameKind) (s : Vm) : Vm :=
  match k with
  | .tmp n => { s with sp := s.sp - n }
  | .call _ _ =>
    -- ret: sp := sb; popCtx; the caller then drops the result
    let t := popCtx { s with sp := s.sb }
    { t with sp := t.sp - 1 }
  | .native n =>
    -- vm.popCtx(); vm.sp -= n + 1; the caller then drops the result
    let t := popCtx s
    { t with sp := t.sp - (n + 1) - 1 }
  | .forOf _ => { s with iterStack := s.iterStack.dropLast }
  | .ref => { s with refStack := s.refStack.dropLast }
  | .block => { s with stash := s.stash.tail }
  | .priv => { s with privEnv := s.privEnv.tail }

/-! ### the native probe -/

def observe (id : Nat) (s : Vm) : Vm :=
  { s with probeCount := s.probeCount + 1,
           trace := s.trace ++ [⟨id, s.callStack.length, s.tryStack.length, s.iterStack.length, s.refStack.length, s.curAsync⟩] }

/-- `P(id)`: a native call (pushCtx may overflow); at the faultAt-th invocation the probe injects a
fault: a Go panic with a Value (no popCtx happens) or Interrupt() (the native returns, the run loop
then raises InterruptedError). -/
def probe (id : Nat) (s : Vm) : Res :=
  match FrameKind.pre (.native 1) .skip s with
  | none => (.fatal, { s with sp := s.sp + 3 })
  | some s1 =>
    let s2 := observe id s1
    match s2.faultAt with
    | some (k, fk) =>
      if s2.probeCount = k then
        match fk with
        | .throw_ => (.thrown, s2)
        | .intr => (.fatal, { FrameKind.post (.native 1) s2 with interrupted := true })
      else (.normal, FrameKind.post (.native 1) s2)
    | none => (.normal, FrameKind.post (.native 1) s2)

/-! ### try statement (vm.go:4805-4868) -/

/-- the `finally` block and leaveFinally; entered with the frame on top, finallyPos = -1 -/
def finPhase (runF : RunF) (fin : Beh) (s : Vm) : Res :=
  let r := runF fin s
  match r.1 with
  | .normal =>
    match r.2.tryStack with
    | tf :: rest =>
      let s2 := { r.2 with tryStack := rest }
      if tf.exception.isSome then (.thrown, s2) else (.normal, s2)
    | [] => (.stuck, r.2)
  | .exit e =>
    -- a break / return out of the finally block itself: its exit code drops the frame
    match r.2.tryStack with
    | _ :: rest => (.exit e, { r.2 with tryStack := rest })
    | [] => (.stuck, r.2)
  | .yielded =>
    -- suspended inside the finally block: the (consumed) frame stays; resume continues in `tryF`
    match r.2.tryStack with
    | tf :: _ => (.yielded, { r.2 with resid := .tryF tf.exception.isSome r.2.resid })
    | [] => (.stuck, r.2)
  | o => (o, r.2)

/-- End of the protected region.  Without `finally`: leaveTry (pop).  With `finally`: the compiler emits a
jump to enterFinally, which clears finallyPos AND catchPos (fix 379f30d); the block-exit form of leaveTry
(break/continue/return through the statement) does the same and also resets sp/stash from the frame. -/
def leaveTry (runF : RunF) (fin : Beh) (s : Vm) : Res :=
  match s.tryStack with
  | tf :: rest =>
    if tf.finallyPos ≥ 0 then
      finPhase runF fin
        { s with tryStack := { tf with finallyRet := s.pc + 1, finallyPos := -1, catchPos := -1 } :: rest,
                 sp := tf.sp, stash := tf.stash, pc := tf.finallyPos }
    else (.normal, { s with tryStack := rest })
  | [] => (.stuck, s)

/-- a throw reaching this try statement whose frame still has a live `finally` -/
def throwToFinally (runF : RunF) (fin : Beh) (depth : Nat) (s : Vm) : Res :=
  let r := handleThrow runF true s
  match r.1 with
  | .fin => if r.2.tryStack.length = depth + 1 then finPhase runF fin r.2 else (.stuck, r.2)
  | .aborted => (.fatal, r.2)
  | _ => (.stuck, r.2)

/-- a break / return crossing the statement: `leaveTry` is emitted at the exit site (with a live `finally` it runs
first, `finallyRet` leading back to the rest of the exit sequence), then the exit goes on -/
def exitThrough (e : ExitKind) (r : Res) : Res :=
  match r.1 with
  | .normal => (.exit e, r.2)
  | _ => r

def afterHandler (runF : RunF) (hasFin : Bool) (fin : Beh) (depth : Nat) (r : Res) : Res :=
  match r.1 with
  | .normal => leaveTry runF fin r.2
  | .exit e => exitThrough e (leaveTry runF fin r.2)
  | .yielded => (.yielded, { r.2 with resid := .tryH hasFin r.2.resid fin })
  | .thrown => if hasFin then throwToFinally runF fin depth r.2 else (.thrown, r.2)
  | o => (o, r.2)

def tryStmt (runF : RunF) (hasCatch hasFin : Bool) (body handler fin : Beh) (s : Vm) : Res :=
  let depth := s.tryStack.length
  let s0 := pushTryFrame (if hasCatch then 10 else -1) (if hasFin then 20 else -1) s
  let r1 := runF body s0
  match r1.1 with
  | .normal => leaveTry runF fin r1.2
  | .exit e => exitThrough e (leaveTry runF fin r1.2)
  | .yielded => (.yielded, { r1.2 with resid := .try_ hasCatch hasFin r1.2.resid handler fin })
  | .thrown =>
    if hasCatch then
      let h := handleThrow runF true r1.2
      match h.1 with
      | .caught =>
        if h.2.tryStack.length = depth + 1 then
          -- the handler binds the exception value (sp - 1) and runs
          afterHandler runF hasFin fin depth (runF handler { h.2 with sp := h.2.sp - 1 })
        else (.stuck, h.2)
      | .aborted => (.fatal, h.2)
      | _ => (.stuck, h.2)
    else if hasFin then throwToFinally runF fin depth r1.2
    else (.stuck, r1.2)          -- `try` without catch and finally does not parse
  | o => (o, r1.2)

/-- Resuming a generator that was suspended inside the catch handler of a try statement.  vm.resume reinstalls the
saved frame rebased to the new activation (callStackLen, iterLen, refLen, sp); the model states the SPEC of that
rebasing: the frame is the one `pushTryFrame` creates in the resumed state, with the catch already consumed
(`rebase_meets_spec` in Props.lean proves the arithmetic of suspend/resume meets this spec). -/
def tryResumeH (runF : RunF) (hasFin : Bool) (cur fin : Beh) (s : Vm) : Res :=
  let depth := s.tryStack.length
  let s0 := pushTryFrame (-1) (if hasFin then 20 else -1) s
  afterHandler runF hasFin fin depth (runF cur s0)

/-- … suspended inside the finally block: the frame is consumed; a pending exception is rethrown by leaveFinally -/
def tryResumeF (runF : RunF) (pending : Bool) (cur : Beh) (s : Vm) : Res :=
  match (pushTryFrame (-1) (-1) s).tryStack with
  | tf :: rest =>
    finPhase runF cur { s with tryStack := { tf with exception := if pending then some 1 else none } :: rest }
  | [] => (.stuck, s)

/-! ### Go-side boundaries -/

/-- what the deferred recover of a boundary does with a non-normal outcome of its body:
handleThrow, then the deferred popTryFrame -/
def unwindAtMarker (runF : RunF) (o : Outcome) (s : Vm) : Res :=
  let h := handleThrow runF (o == .thrown) s
  let s3 := popTryFrame h.2
  match h.1 with
  | .atMarker => (if o == .thrown then .thrown else .fatal, s3)
  | .aborted => (.fatal, s3)
  | _ => (.stuck, s3)

/-- vm.try (vm.go:896) -/
def tryB (runF : RunF) (b : Beh) (s : Vm) : Res :=
  let r := runF b (pushTryFrame tryPanicMarker (-1) s)
  match r.1 with
  | .normal => (.normal, popTryFrame r.2)
  | .exit _ => (.normal, popTryFrame r.2)     -- a Go callback has no break/return to propagate: plain return
  | .stuck => (.stuck, r.2)
  | .yielded => unwindAtMarker runF .fatal r.2      -- (a yield cannot cross a function: SyntaxError in JS)
  | o => unwindAtMarker runF o r.2

/-- the run loop under a boundary marker: `runTry` (vm.go) / the `for { runTryInner }` loop of `__call`; the loop
looks at the interrupt flag before its first instruction -/
def runTryB (runF : RunF) (b : Beh) (s : Vm) : Res :=
  if s.interrupted then unwindAtMarker runF .fatal (pushTryFrame tryPanicMarker (-1) s)
  else tryB runF b s

/-- func.go `__call`, after the marker was pushed (state `s1`): save the caller's context (two shapes) and
set the callee's registers; `none` = StackOverflowError from pushCtx -/
def goCallEnter (n : Nat) (f : FnInfo) (s1 : Vm) : Option (Vm × Bool) :=
  let pushed : Option (Vm × Bool) :=
    if s1.prg.isSome then
      (pushCtx s1).map fun t => ({ t with callStack := t.callStack ++ [⟨none, [], [], 0, 0, -2, 0, 0⟩] }, true)
    else (pushCtx { s1 with pc := -2 }).map fun t => (t, false)
  pushed.map fun (s2, needPop) =>
    ({ s2 with args := n, prg := some f.prg, stash := f.stash, privEnv := f.privEnv,
               newTarget := 0, pc := 0, sb := s2.sp - n - 1 }, needPop)

/-- `ret` of the callee, `if needPop { popCtx }`, `vm.pop()`, deferred popTryFrame -/
def goCallRet (needPop : Bool) (s4 : Vm) : Vm :=
  let s5 := popCtx { s4 with sp := s4.sb }
  let s6 := if needPop then popCtx s5 else s5
  popTryFrame { s6 with sp := s6.sp - 1 }

/-- func.go `__call` -/
def goCall (runF : RunF) (n : Nat) (f : FnInfo) (b : Beh) (s : Vm) : Res :=
  let s1 := pushTryFrame tryPanicMarker (-1) { s with sp := s.sp + 2 + n }
  match goCallEnter n f s1 with
  | none => (.fatal, popTryFrame s1)     -- StackOverflowError raised outside runTryInner: only the deferred pop runs
  | some (s3, needPop) =>
    let r := if s3.interrupted then (Outcome.fatal, s3) else runF b s3
    match r.1 with
    | .normal => (.normal, goCallRet needPop r.2)
    | .exit _ => (.normal, goCallRet needPop r.2)     -- `return`: the same `ret` instruction
    | .stuck => (.stuck, r.2)
    | .yielded => unwindAtMarker runF .fatal r.2
    | o => unwindAtMarker runF o r.2

def runJobs (runF : RunF) : List Beh → Vm → Res
  | [], s => (.normal, s)
  | j :: js, s =>
    let r := runF (.api .try_ j) s
    match r.1 with
    | .normal | .thrown => runJobs runF js r.2
    | o => (o, r.2)

/-- runtime.go:2911 leave; the outer `for len(jobQueue) > 0` is bounded by `lf` (exhaustion = interrupt) -/
def leaveLoop (runF : RunF) : Nat → Vm → Res
  | 0, s => (.fatal, s)
  | lf + 1, s =>
    match s.jobQueue with
    | [] => (.normal, s)
    | jobs =>
      let r := runJobs runF jobs { s with jobQueue := [] }
      match r.1 with
      | .normal => leaveLoop runF lf r.2
      | o => (o, r.2)

/-- runtime.go leaveAbrupt (with fix e71ffae: prg/sb reset) -/
def leaveAbrupt (s : Vm) : Vm :=
  { s with jobQueue := [], interrupted := false, prg := none, sb := -1 }

/-- the tail of runWrapped after a normal / thrown `vm.try`: `leave()` at depth 0 (a job that ends with an
uncatchable reaches the deferred recover: leaveAbrupt), else clearStack -/
def leaveOrClear (runF : RunF) (lf : Nat) (o : Outcome) (s1 : Vm) : Res :=
  if s1.callStack.length = 0 then
    let l := leaveLoop runF lf s1
    match l.1 with
    | .normal => (o, l.2)
    | .stuck => (.stuck, l.2)
    | o2 => (o2, leaveAbrupt l.2)
  else (o, s1)

/-- runtime.go runWrapped -/
def runWrapped (runF : RunF) (lf : Nat) (b : Beh) (s : Vm) : Res :=
  let r := tryB runF b s
  match r.1 with
  | .normal | .thrown => leaveOrClear runF lf r.1 r.2
  | .stuck => r
  | o => (o, if r.2.callStack.length = 0 then leaveAbrupt r.2 else r.2)

/-- RunProgram, `recursive` branch: registers of the nested global code -/
def recEnter (p : Nat) (s1 : Vm) : Vm :=
  { s1 with stash := globalStash, privEnv := [], newTarget := 0, args := 0,
            sb := s1.sp + 1, sp := s1.sp + 2, prg := some p, pc := 0, result := 0 }

/-- deferred: `vm.sp -= 2; vm.popCtx()` (only when the context was pushed, fix 195a32b) -/
def recExit (t : Vm) : Vm := popCtx { t with sp := t.sp - 2 }

/-- runtime.go RunProgram, `recursive` branch -/
def runProgramRec (runF : RunF) (p : Nat) (b : Beh) (s : Vm) : Res :=
  match pushCtx s with
  | none => (.fatal, s)     -- pushCtx panics before `pushed = true`: the deferred function pops nothing
  | some s1 =>
    let r := runTryB runF b (recEnter p s1)
    (r.1, recExit r.2)

def outerEnter (p : Nat) (s : Vm) : Vm :=
  { s with callStack := s.callStack ++ [⟨none, [], [], 0, 0, 0, 0, 0⟩], prg := some p, pc := 0, result := 0 }

def outerPop (t : Vm) : Vm := { t with callStack := t.callStack.dropLast }

/-- runtime.go RunProgram, outermost branch (len(callStack) = 0) -/
def runProgramOuter (runF : RunF) (lf : Nat) (p : Nat) (b : Beh) (s : Vm) : Res :=
  let r' := runTryB runF b (outerEnter p s)
  match r'.1 with
  | .normal | .thrown =>
    -- vm.prg = nil; vm.sb = -1; r.leave(); deferred: callStack = callStack[:len-1]
    let l := leaveLoop runF lf { r'.2 with prg := none, sb := -1 }
    (match l.1 with
     | .normal => (r'.1, outerPop l.2)
     | .stuck => (.stuck, l.2)
     | o => let t := outerPop l.2; (o, if t.callStack.length = 0 then leaveAbrupt t else t))
  | .stuck => r'
  | o =>
    let t := outerPop r'.2
    (o, if t.callStack.length = 0 then leaveAbrupt t else t)

/-! ### generators (func.go: generator.enter / enterNext / step / next / nextThrow, generatorObject.init / next /
throw / _return; vm.go: suspend / resume) -/

/-! #### vm.suspend / vm.resume on the records of the activation (mechanism level)

The interpreter above uses the SPEC of suspend/resume: a resumed activation finds, for every construct it was
suspended in, the record that entering the construct afresh in the resumed state would create (`tryResumeH`,
`tryResumeF`, re-entered `frame`s).  The two functions below transcribe what vm.go actually does to a saved try frame;
`rebase_meets_spec` (Props.lean) proves that it yields exactly that record. -/

/-- vm.suspend (vm.go): a try frame moved into the generator object is made relative to the stored lengths and to
the activation's stack base `sb - 1` -/
def suspendFrame (iterStackLen refStackLen : Nat) (sb : Int) (tf : TryFrame) : TryFrame :=
  { tf with iterLen := tf.iterLen - iterStackLen, refLen := tf.refLen - refStackLen, sp := tf.sp - (sb - 1) }

/-- vm.resume (vm.go): … and rebased onto the resuming activation (`sp` = vm.sp before the saved operands are pushed) -/
def resumeFrame (callLen iterLen refLen : Nat) (sp : Int) (tf : TryFrame) : TryFrame :=
  { tf with callStackLen := callLen, iterLen := tf.iterLen + iterLen, refLen := tf.refLen + refLen, sp := tf.sp + sp }

/-- generator.throw(v) / generator.return(v): the suspended activation continues with a `throw` / `return` AT the point
where it was suspended (`resumePoint`, found along the spine of the residual); a body that has not started yet gets
it in front. -/
def inject (what : Beh) : Beh → Beh
  | .resumePoint => what
  | .seq a b => .seq (inject what a) b
  | .frame k ret c => .frame k ret (inject what c)
  | .try_ hc hf c h f => .try_ hc hf (inject what c) h f
  | .tryH hf c f => .tryH hf (inject what c) f
  | .tryF p c => .tryF p (inject what c)
  | b => .seq what b

def resumeBody (what : Option Beh) (rest : Beh) : Beh :=
  match what with
  | none => rest
  | some w => inject w rest

def getGen (s : Vm) (slot : Nat) : Option GenObj := (s.gens.find? (·.1 == slot)).map (·.2)

def setGen (s : Vm) (slot : Nat) (g : GenObj) : Vm :=
  { s with gens := (slot, g) :: s.gens.filter (·.1 != slot) }

/-- the extra frame `context{pc: -2}` that makes the run loop halt after the generator's `ret` -/
def ctxHalt : Ctx := ⟨none, [], [], 0, 0, -2, 0, 0⟩

/-- generator.enterNext + vm.resume: save the caller (pushCtx, may overflow), push the marker, push the halt frame,
reinstall the generator's context and operand stack on top of the caller's -/
def genEnterNext (g : GenObj) (s : Vm) : Option Vm :=
  (pushCtx s).map fun s1 =>
    let s2 := pushTryFrame tryPanicMarker (-1) s1
    let s3 : Vm := { s2 with callStack := s2.callStack ++ [ctxHalt] }
    { restoreCtx g.ctx s3 with sb := s3.sp + 1, sp := s3.sp + g.stackLen }

/-- a `yield` reached: step1 suspends (`vm.sp = vm.sb - 1`, the halt frame is dropped), then generator.next pops the
marker and the caller's context -/
def genLeave (tl il rl : Nat) (s5 : Vm) : Vm :=
  -- vm.suspend moves the records above the stored lengths into the generator object (here: they are implied by the residual)
  popCtx (popTryFrame { s5 with sp := s5.sb - 1, callStack := s5.callStack.dropLast,
                                tryStack := s5.tryStack.drop (s5.tryStack.length - tl),
                                iterStack := s5.iterStack.take il, refStack := s5.refStack.take rl })

/-- the body returned: `ret` (sp := sb; popCtx = the halt frame), `vm.pop()`, then as above -/
def genFinish (s5 : Vm) : Vm :=
  let t := popCtx { s5 with sp := s5.sb }
  popCtx (popTryFrame { t with sp := t.sp - 1 })

def genDone (g : GenObj) : GenObj := { g with state := .completed }

/-- calling a generator function (generatorVmCall → generatorCall → generatorObject.init): enter() saves the caller
and pushes the marker; vmCall pushes the callee's context; the prologue yields at once, so step() suspends: the
callee's frame is dropped again, init pops marker and caller context; the object is pushed and dropped by the
statement.  Either pushCtx may overflow (the second one with the marker already pushed: dropMarkerOnPanic). -/
def genNew (slot n : Nat) (f : FnInfo) (body : Beh) (s : Vm) : Res :=
  let s1 : Vm := { s with sp := s.sp + 2 + n }
  match pushCtx s1 with
  | none => (.fatal, s1)
  | some s2 =>
    let s3 : Vm := { pushTryFrame tryPanicMarker (-1) s2 with prg := none, sb := -1, pc := -2 }
    match pushCtx s3 with
    | none => (.fatal, { s3 with tryStack := s3.tryStack.tail })
    | some _ =>
      let g : GenObj := { rest := body, ctx := ⟨some f.prg, f.stash, f.privEnv, s3.newTarget, s3.result, 1, 0, n⟩,
                          stackLen := n + 2, state := .suspended, started := false }
      let t := popCtx (popTryFrame s3)
      (.normal, setGen { t with sp := s.sp } slot g)

/-- generatorObject.next / throw / _return → generator.next / nextThrow → step.  `what = none`: next(); `some throw_` /
`some return_`: the activation continues with that statement at its suspension point (for a generator suspended with
`finally` blocks live this runs them, as generator._return's enterNextFinallyFrame does). -/
def genResume (runF : RunF) (slot : Nat) (what : Option Beh) (isThrow : Bool) (s : Vm) : Res :=
  match getGen s slot with
  | none => if isThrow then (.thrown, s) else (.normal, s)
  | some g =>
    match g.state with
    | .completed => if isThrow then (.thrown, s) else (.normal, s)
    | .executing => (.thrown, s)                      -- validate(): TypeError "Illegal generator state"
    | .suspended =>
      if what.isSome && !g.started then
        (if isThrow then .thrown else .normal, setGen s slot (genDone g))      -- genStateSuspendedStart → completed
      else
        match genEnterNext g s with
        | none => (.fatal, setGen s slot { g with state := .executing })
        | some s4' =>
          let s4 := setGen s4' slot { g with state := .executing, started := true }
          let body : Beh := resumeBody what g.rest
          let r := if s4.interrupted then (Outcome.fatal, s4) else runF body s4
          match r.1 with
          | .yielded =>
            (.normal, setGen (genLeave s4.tryStack.length s4.iterStack.length s4.refStack.length r.2) slot
               { rest := r.2.resid, ctx := saveCtx r.2, stackLen := (r.2.sp - r.2.sb + 1).toNat, state := .suspended, started := true })
          | .normal => (.normal, setGen (genFinish r.2) slot (genDone g))
          | .exit _ => (.normal, setGen (genFinish r.2) slot (genDone g))     -- `return` inside the generator
          | .stuck => r
          | o =>
            -- uncaught in the generator: handleThrow stops at enterNext's marker; thrown: next() pops marker and caller
            -- context, generatorObject.step marks it completed and re-panics; uncatchable: step's deferred function drops the
            -- marker, the state stays `executing`
            let u := unwindAtMarker runF o r.2
            (match u.1 with
             | .thrown => (.thrown, setGen (popCtx u.2) slot (genDone g))
             | _ => u)

/- asyncRunner.start (`asyncNew` below, with its steps `actEnter`, `actCall`, `actBack`): enter() (caller saved, marker),
vmCall (callee context, its saved pc = -2 makes `ret` halt), step()
runs the first segment.  `await`: suspend, the continuation is queued as a promise reaction job (the awaited value is
settled), marker and caller popped.  End of the body / `return`: `ret`, promise resolved.  Uncaught throw: handleThrow
stops at the marker, the promise is rejected, `vm.sp = sp - nArgs - 2`, and the call returns NORMALLY with the promise.
Uncatchable: step's deferred function drops the marker and the panic goes on. -/

/-- asyncRunner.start, first step: generator.enter() -/
def actEnter (n : Nat) (s : Vm) : Option Vm :=
  -- the caller pushed callee, this and n arguments; generator.enter(): pushCtx, marker, `prg, sb, pc = nil, -1, -2`
  (pushCtx { s with sp := s.sp + 2 + n }).map fun s2 =>
    { pushTryFrame tryPanicMarker (-1) s2 with prg := none, sb := -1, pc := -2 }

def actCall (n : Nat) (f : FnInfo) (s3 : Vm) : Option Vm :=
  -- baseJsFuncObject.vmCall + the function prologue
  (pushCtx s3).map fun s4 =>
    { s4 with args := n, prg := some f.prg, stash := f.stash, privEnv := f.privEnv, pc := 0, sb := s4.sp - n - 1 }

/-- back in asyncRunner.start(): `popCtx` (the marker is already gone); the promise is pushed and dropped by the statement -/
def actBack (s : Vm) (t : Vm) : Vm := let u := popCtx t; { u with sp := s.sp }

def asyncNew (runF : RunF) (n : Nat) (f : FnInfo) (body : Beh) (s : Vm) : Res :=
  match actEnter n s with
  | none => (.fatal, { s with sp := s.sp + 2 + n })
  | some s3 =>
    match actCall n f s3 with
    | none => (.fatal, popTryFrame s3)                 -- dropMarkerOnPanic
    | some s5 =>
      let r := if s5.interrupted then (Outcome.fatal, s5) else runF body s5
      match r.1 with
      | .yielded =>
        -- `await`: suspend (records above the stored lengths go into the runner), queue the continuation
        let id := 1000 + r.2.gens.length
        let g : GenObj := { rest := r.2.resid, ctx := saveCtx r.2, stackLen := (r.2.sp - r.2.sb + 1).toNat, state := .suspended, started := true }
        let t : Vm := { r.2 with sp := r.2.sb - 1, callStack := r.2.callStack.dropLast,
                                 tryStack := r.2.tryStack.drop (r.2.tryStack.length - s5.tryStack.length),
                                 iterStack := r.2.iterStack.take s5.iterStack.length, refStack := r.2.refStack.take s5.refStack.length }
        let t := setGen t id g
        (.normal, actBack s (popTryFrame { t with jobQueue := t.jobQueue ++ [.asyncResume id] }))
      | .normal => (.normal, actBack s (popTryFrame (popCtx { r.2 with sp := r.2.sb })))           -- `ret`
      | .exit _ => (.normal, actBack s (popTryFrame (popCtx { r.2 with sp := r.2.sb })))
      | .stuck => r
      | o =>
        -- uncaught: handleThrow stops at enter()'s marker.  Thrown: the promise is rejected, `vm.sp = sp - nArgs - 2`,
        -- marker and caller popped, NORMAL return.  Uncatchable: step's deferred function drops the marker; the panic goes on.
        let u := unwindAtMarker runF o r.2
        (match u.1 with
         | .thrown => (.normal, actBack s u.2)
         | _ => u)

/-- the continuation of an async function, run as a promise reaction job (inside the job's vm.try):
onFulfilled → generator.next → step → asyncRunner.step.  An uncaught throw rejects the promise: normal return. -/
def asyncResume (runF : RunF) (id : Nat) (s : Vm) : Res :=
  match getGen s id with
  | none => (.normal, s)
  | some g =>
    match genEnterNext g s with
    | none => (.fatal, s)
    | some s4 =>
      let r := if s4.interrupted then (Outcome.fatal, s4) else runF g.rest s4
      match r.1 with
      | .yielded =>
        let g' : GenObj := { rest := r.2.resid, ctx := saveCtx r.2, stackLen := (r.2.sp - r.2.sb + 1).toNat, state := .suspended, started := true }
        let t := setGen (genLeave s4.tryStack.length s4.iterStack.length s4.refStack.length r.2) id g'
        (.normal, { t with jobQueue := t.jobQueue ++ [.asyncResume id] })
      | .normal => (.normal, setGen (genFinish r.2) id (genDone g))
      | .exit _ => (.normal, setGen (genFinish r.2) id (genDone g))
      | .stuck => r
      | o =>
        let u := unwindAtMarker runF o r.2
        (match u.1 with
         | .thrown => (.normal, setGen (popCtx u.2) id (genDone g))      -- promiseCap.reject
         | _ => u)

/-- asyncRunner.onFulfilled around the continuation: `vm.curAsyncRunner = ar; defer func() { vm.curAsyncRunner = nil }()` -/
def asyncResumeCA (runF : RunF) (id : Nat) (s : Vm) : Res :=
  let r := asyncResume runF id { s with curAsync := true }
  (r.1, { r.2 with curAsync := false })

/-! ### one layer of the interpreter -/

def seqRes (runF : RunF) (a b : Beh) (s : Vm) : Res :=
  let r := runF a s
  match r.1 with
  | .normal => runF b r.2
  | .yielded => (.yielded, { r.2 with resid := .seq r.2.resid b })
  | o => (o, r.2)

/-- `a; yield; b` -/
def yieldThenRes (runF : RunF) (a b : Beh) (s : Vm) : Res :=
  let r := runF a s
  match r.1 with
  | .normal => (.yielded, { r.2 with resid := .seq .resumePoint b })
  | .yielded => (.yielded, { r.2 with resid := .seq r.2.resid (.yieldThen .skip b) })
  | o => (o, r.2)

/-- a suspension inside a bracketing frame: its records stay on the stacks (vm.suspend moves them into the generator
object), resume re-enters the frame; a yield cannot cross a function -/
def frameYield (k : FrameKind) (ret : Beh) (s2 : Vm) : Res :=
  match k with
  | .call _ _ => (.fatal, s2)
  | .native _ => (.fatal, s2)
  | _ => (.yielded, { s2 with resid := .frame k ret s2.resid })

/-- block-exit code of a bracketing frame crossed by a break / return (`s2` = state after the body) -/
def frameExit (runF : RunF) (k : FrameKind) (ret : Beh) (e : ExitKind) (s2 : Vm) : Res :=
  match k with
  | .forOf closable =>
    -- enumPopClose (vm.go): pop the record, then iter.returnIter() — NOT shielded by vm.try
    let s3 := k.post s2
    let r := if closable then runF ret s3 else (Outcome.normal, s3)
    (match r.1 with
     | .normal | .exit _ => (match e with | .brk => (.normal, r.2) | .ret => (.exit .ret, r.2))
     | o => (o, r.2))
  | .call _ _ => (.normal, k.post s2)      -- `return` ends the function (`ret` instruction); a break cannot cross it
  | .native _ => (.normal, k.post s2)
  | _ => (.exit e, k.post s2)              -- leaveBlock / operand and reference clean-up, then go on

/-- A native ignores what a nested API call returned: a returned *Exception or StackOverflowError is dropped and
the native goes on.  An InterruptedError cannot be ignored in effect — the flag is still set (only the outermost
call clears it), so the caller's run loop raises it again; and an uncatchable passing through `Runtime.Try` is
a Go panic, not a return value. -/
def swallowRes (k : Boundary) (s : Vm) (r : Res) : Res :=
  match r.1 with
  | .thrown => (.normal, r.2)
  | .fatal => if k != .try_ && r.2.interrupted == s.interrupted then (.normal, r.2) else r
  | _ => r

def apiNode (lf : Nat) (runF : RunF) (k : Boundary) (b : Beh) (s : Vm) : Res :=
  match k with
  | .try_ => tryB runF b s
  | .runWrapped => runWrapped runF lf b s
  | .runProgramRec => runProgramRec runF 7 b s
  | .runProgram => if s.callStack.length > 0 then runProgramRec runF 7 b s else runProgramOuter runF lf 7 b s

def step (lf : Nat) (runF : RunF) : Beh → Vm → Res
  | .skip, s => (.normal, s)
  | .seq a b, s => seqRes runF a b s
  | .probe id, s => probe id s
  | .break_, s => (.exit .brk, s)
  | .return_, s => (.exit .ret, s)
  | .throw_, s => (.thrown, s)
  | .intr, s => (.fatal, { s with interrupted := true })
  | .frame k ret body, s =>
    match k.pre ret s with
    | none => (.fatal, s)
    | some s1 =>
      let r := runF body s1
      match r.1 with
      | .normal => (.normal, k.post r.2)
      | .exit e => frameExit runF k ret e r.2
      | .yielded => frameYield k ret r.2
      | o => (o, r.2)
  | .try_ hc hf body handler fin, s =>
    if hc || hf then tryStmt runF hc hf body handler fin s else runF body s
  | .goCall n f b, s => goCall runF n f b s
  | .api k b, s => apiNode lf runF k b s
  | .swallow k b, s => swallowRes k s (apiNode lf runF k b s)
  | .job b, s => (.normal, { s with jobQueue := s.jobQueue ++ [b] })
  | .yieldThen a b, s => yieldThenRes runF a b s
  | .yield_, s => (.yielded, { s with resid := .resumePoint })
  | .resumePoint, s => (.normal, s)
  | .tryH hf cur fin, s => tryResumeH runF hf cur fin s
  | .tryF p cur, s => tryResumeF runF p cur s
  | .genNew slot n f body, s => genNew slot n f body s
  | .genNext slot, s => genResume runF slot none false s
  | .genThrow slot, s => genResume runF slot (some .throw_) true s
  | .genReturn slot, s => genResume runF slot (some .return_) false s
  | .asyncNew n f body, s => asyncNew runF n f body s
  | .asyncResume id, s => asyncResumeCA runF id s

def run : Nat → RunF
  | 0 => fun _ s => (.fatal, s)
  | fuel + 1 => step fuel (run fuel)

/-! ### API calls made by the host between which the runtime must be idle -/

inductive TopApi
  | runProgram      -- Runtime.RunProgram (outermost or recursive by len(callStack))
  | callable (n : Nat) (f : FnInfo)      -- AssertFunction(v)(this, args…) / ExportTo'd func
  | constructor (n : Nat) (f : FnInfo)   -- AssertConstructor(v)(newTarget, args…)
  | try_            -- Runtime.Try(func(){ … }) around Go-side operations
  | tryGet (f : FnInfo)   -- Runtime.Try(func(){ obj.Get("x") }) with a JS getter
deriving Repr

/-- Runtime.Try (with fix 9e5aa04: leaveAbrupt when an uncatchable passes at depth 0) -/
def runtimeTry (fuel : Nat) (b : Beh) (s : Vm) : Res :=
  let r := tryB (run fuel) b s
  match r.1 with
  | .fatal => (.fatal, if r.2.callStack.length = 0 then leaveAbrupt r.2 else r.2)
  | _ => r

def apiCall (fuel : Nat) (k : TopApi) (b : Beh) (s : Vm) : Res :=
  match k with
  | .runProgram =>
    if s.callStack.length > 0 then runProgramRec (run fuel) 7 b s
    else runProgramOuter (run fuel) fuel 7 b s
  | .callable n f => runWrapped (run fuel) fuel (.goCall n f b) s
  | .constructor n f => runWrapped (run fuel) fuel (.goCall n f b) s
  | .try_ => runtimeTry fuel b s
  | .tryGet f => runtimeTry fuel (.goCall 0 f b) s

/-! ### what must hold between API calls -/

/-- The control state that no call may leak (the fields of VerifC03VMState that are compared). -/
structure CtlState where
  sp : Int
  sb : Int
  prg : Option Nat
  stash : List Nat
  privEnv : List Nat
  callStack : List Ctx
  tryLen : Nat
  iterLen : Nat
  refLen : Nat
  args : Nat
  newTarget : Nat
deriving DecidableEq, Repr

def ctlState (s : Vm) : CtlState :=
  ⟨s.sp, s.sb, s.prg, s.stash, s.privEnv, s.callStack, s.tryStack.length, s.iterStack.length,
   s.refStack.length, s.args, s.newTarget⟩

/-- Control is outside the runtime. -/
def Idle (s : Vm) : Prop :=
  s.sp = 0 ∧ s.sb = -1 ∧ s.prg = none ∧ s.stash = globalStash ∧ s.privEnv = [] ∧
  s.callStack = [] ∧ s.tryStack = [] ∧ s.iterStack = [] ∧ s.refStack = [] ∧
  s.jobQueue = [] ∧ s.interrupted = false

instance (s : Vm) : Decidable (Idle s) := by
  unfold Idle
  have : Decidable (s.jobQueue = []) := by
    cases h : s.jobQueue with
    | nil => exact isTrue rfl
    | cons a b => exact isFalse (by simp)
  have : Decidable (s.iterStack = []) := by
    cases h : s.iterStack with
    | nil => exact isTrue rfl
    | cons a b => exact isFalse (by simp)
  infer_instance

end GojaModel.C03
