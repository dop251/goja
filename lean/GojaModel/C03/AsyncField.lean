/-
  C03 — vm.curAsyncRunner (`Vm.curAsync`): only asyncRunner.onFulfilled / onRejected set it, and their deferred
  function clears it on every exit; nothing else touches it.  Hence: clear before ⇒ clear after, for every behaviour,
  every ending, every API call.

  The property does not depend on the outcome, so every lemma has the shape `Clears f`: the state operations keep the
  field (`*_ca` equations; where the operation is a record update of other fields the proofs below use that by
  computation), and a function that branches on outcomes is `Clears` because every branch is.  The one step that is not
  of this kind is the bracket itself, `asyncResumeCA_clears`.
-/
import GojaModel.C03.Activation
import GojaModel.C03.Discipline

namespace GojaModel.C03

def Clears {α : Type} (f : Vm → α × Vm) : Prop := ∀ s, s.curAsync = false → (f s).2.curAsync = false

def CAok (runF : RunF) : Prop := ∀ b, Clears (runF b)

/-- used with hypotheses about the state the branches update: a record update of other fields does not change the
field, by computation -/
theorem ite_ca {α : Type} {c : Prop} [Decidable c] {a b : α × Vm} (ha : a.2.curAsync = false)
    (hb : b.2.curAsync = false) : (if c then a else b).2.curAsync = false := by
  split <;> assumption

theorem ite_vm_ca {c : Prop} [Decidable c] {a b : Vm} (ha : a.curAsync = false) (hb : b.curAsync = false) :
    (if c then a else b).curAsync = false := by
  split <;> assumption

theorem pushCtx_ca {s t : Vm} (h : pushCtx s = some t) : t.curAsync = s.curAsync := by
  unfold pushCtx at h
  split at h
  · cases h
  · cases h; rfl

theorem restoreCtx_ca (c : Ctx) (s : Vm) : (restoreCtx c s).curAsync = s.curAsync := rfl

theorem popCtx_ca (s : Vm) : (popCtx s).curAsync = s.curAsync := by
  unfold popCtx
  split <;> rfl

theorem pushTryFrame_ca (a b : Int) (s : Vm) : (pushTryFrame a b s).curAsync = s.curAsync := rfl
theorem popTryFrame_ca (s : Vm) : (popTryFrame s).curAsync = s.curAsync := rfl

theorem restoreFrame_ca (tf : TryFrame) (s : Vm) : (restoreFrame tf s).curAsync = s.curAsync := by
  unfold restoreFrame
  split <;> rfl

theorem leaveAbrupt_ca (s : Vm) : (leaveAbrupt s).curAsync = s.curAsync := rfl
theorem setGen_ca (s : Vm) (k : Nat) (g : GenObj) : (setGen s k g).curAsync = s.curAsync := rfl
theorem observe_ca (id : Nat) (s : Vm) : (observe id s).curAsync = s.curAsync := rfl
theorem recEnter_ca (p : Nat) (s : Vm) : (recEnter p s).curAsync = s.curAsync := rfl
theorem recExit_ca (s : Vm) : (recExit s).curAsync = s.curAsync := popCtx_ca _
theorem outerEnter_ca (p : Nat) (s : Vm) : (outerEnter p s).curAsync = s.curAsync := rfl
theorem outerPop_ca (s : Vm) : (outerPop s).curAsync = s.curAsync := rfl
theorem goCallRet_ca (b : Bool) (s : Vm) : (goCallRet b s).curAsync = s.curAsync := by
  cases b <;> simp [goCallRet, popTryFrame, popCtx_ca]
theorem genFinish_ca (s : Vm) : (genFinish s).curAsync = s.curAsync := by
  simp [genFinish, popTryFrame, popCtx_ca]
theorem genLeave_ca (a b c : Nat) (s : Vm) : (genLeave a b c s).curAsync = s.curAsync := popCtx_ca _
theorem actBack_ca (s t : Vm) : (actBack s t).curAsync = t.curAsync := popCtx_ca _

theorem post_ca (k : FrameKind) (s : Vm) : (k.post s).curAsync = s.curAsync := by
  cases k <;> simp [FrameKind.post, popCtx_ca]

theorem pre_ca {k : FrameKind} {ret : Beh} {s t : Vm} (h : k.pre ret s = some t) : t.curAsync = s.curAsync := by
  cases k with
  | call n f => cases map_pushCtx_some h; rfl
  | native n => cases map_pushCtx_some h; rfl
  | _ => cases h; rfl

theorem genEnterNext_ca {g : GenObj} {s t : Vm} (h : genEnterNext g s = some t) : t.curAsync = s.curAsync := by
  cases map_pushCtx_some h; rfl

theorem actEnter_ca {n : Nat} {s t : Vm} (h : actEnter n s = some t) : t.curAsync = s.curAsync := by
  cases map_pushCtx_some h; rfl

theorem actCall_ca {n : Nat} {f : FnInfo} {s t : Vm} (h : actCall n f s = some t) : t.curAsync = s.curAsync := by
  cases map_pushCtx_some h; rfl

theorem goCallEnter_ca {n : Nat} {f : FnInfo} {s t : Vm} {b : Bool} (h : goCallEnter n f s = some (t, b)) :
    t.curAsync = s.curAsync := by
  unfold goCallEnter at h
  obtain ⟨⟨u, b2⟩, hp, heq⟩ := Option.map_eq_some_iff.mp h
  cases heq
  split at hp
  · cases map_pushCtx_some hp; rfl
  · cases map_pushCtx_some hp; rfl

theorem probe_ca (id : Nat) : Clears (probe id) := by
  intro s h
  unfold probe
  cases hp : FrameKind.pre (.native 1) .skip s with
  | none => exact h
  | some s1 =>
    have h1 : (observe id s1).curAsync = false := (pre_ca hp).trans h
    have h2 : (FrameKind.post (.native 1) (observe id s1)).curAsync = false := (post_ca _ _).trans h1
    dsimp only
    split
    · refine ite_ca ?_ h2
      split
      · exact h1
      · exact h2
    · exact h2

theorem runJobs_ca {runF : RunF} (H : CAok runF) : ∀ jobs, Clears (runJobs runF jobs) := by
  intro jobs
  induction jobs with
  | nil => exact fun s h => h
  | cons j js ih =>
    intro s h
    have h1 := H (.api .try_ j) s h
    unfold runJobs
    generalize runF (.api .try_ j) s = r at h1 ⊢
    obtain ⟨o, s1⟩ := r
    cases o <;> first | exact ih s1 h1 | exact h1

theorem closeIters_ca {runF : RunF} (H : CAok runF) (items : List IterItem) : Clears (closeIters runF items) :=
  fun s h => closeIters_eq_runJobs runF items s ▸ runJobs_ca H _ s h

theorem restoreStacks_ca {runF : RunF} (H : CAok runF) (d : Bool) (a b : Nat) : Clears (restoreStacks runF d a b) := by
  intro s h
  unfold restoreStacks
  cases d with
  | false => exact h
  | true => exact closeIters_ca H _ s h

theorem handleThrowLoop_ca {runF : RunF} (H : CAok runF) (c : Bool) : ∀ fs, Clears (handleThrowLoop runF c fs) := by
  intro fs
  induction fs with
  | nil => exact fun s h => h
  | cons tf rest ih =>
    intro s h
    unfold handleThrowLoop
    have h2 := restoreStacks_ca H c tf.iterLen tf.refLen (restoreFrame tf { s with tryStack := tf :: rest })
      ((restoreFrame_ca _ _).trans h)
    exact ite_ca (ih _ h) (ite_ca h2 (ite_ca h2 (ite_ca h2 (ite_ca h2 h2))))

theorem handleThrow_ca {runF : RunF} (H : CAok runF) (c : Bool) : Clears (handleThrow runF c) :=
  fun s h => handleThrowLoop_ca H c _ s h

theorem unwindAtMarker_ca {runF : RunF} (H : CAok runF) (o : Outcome) : Clears (unwindAtMarker runF o) := by
  intro s h
  have h1 := handleThrow_ca H (o == .thrown) s h
  unfold unwindAtMarker
  generalize handleThrow runF (o == .thrown) s = r at h1 ⊢
  obtain ⟨ht, s1⟩ := r
  cases ht <;> exact h1

theorem finPhase_ca {runF : RunF} (H : CAok runF) (fin : Beh) : Clears (finPhase runF fin) := by
  intro s h
  have h1 := H fin s h
  unfold finPhase
  generalize runF fin s = r at h1 ⊢
  obtain ⟨o, s1⟩ := r
  cases o with
  | normal =>
    dsimp only
    split
    · exact ite_ca h1 h1
    · exact h1
  | exit e => dsimp only; split <;> exact h1
  | yielded => dsimp only; split <;> exact h1
  | _ => exact h1

theorem leaveTry_ca {runF : RunF} (H : CAok runF) (fin : Beh) : Clears (leaveTry runF fin) := by
  intro s h
  unfold leaveTry
  split
  · exact ite_ca (finPhase_ca H fin _ h) h
  · exact h

theorem throwToFinally_ca {runF : RunF} (H : CAok runF) (fin : Beh) (d : Nat) : Clears (throwToFinally runF fin d) := by
  intro s h
  have h1 := handleThrow_ca H true s h
  unfold throwToFinally
  generalize handleThrow runF true s = r at h1 ⊢
  obtain ⟨ht, s1⟩ := r
  cases ht with
  | fin => exact ite_ca (finPhase_ca H fin _ h1) h1
  | _ => exact h1

theorem exitThrough_ca (e : ExitKind) (r : Res) (h : r.2.curAsync = false) : (exitThrough e r).2.curAsync = false := by
  obtain ⟨o, s⟩ := r
  cases o <;> exact h

theorem afterHandler_ca {runF : RunF} (H : CAok runF) (hf : Bool) (fin : Beh) (d : Nat) (r : Res)
    (h : r.2.curAsync = false) : (afterHandler runF hf fin d r).2.curAsync = false := by
  obtain ⟨o, s⟩ := r
  cases o with
  | normal => exact leaveTry_ca H fin _ h
  | exit e => exact exitThrough_ca _ _ (leaveTry_ca H fin _ h)
  | thrown => exact ite_ca (throwToFinally_ca H fin d _ h) h
  | _ => exact h

theorem tryStmt_ca {runF : RunF} (H : CAok runF) (hc hf : Bool) (body handler fin : Beh) :
    Clears (tryStmt runF hc hf body handler fin) := by
  intro s h
  have h1 := H body (pushTryFrame (if hc then 10 else -1) (if hf then 20 else -1) s) h
  dsimp only [tryStmt]
  generalize runF body _ = r at h1 ⊢
  obtain ⟨o, s1⟩ := r
  cases o with
  | normal => exact leaveTry_ca H fin _ h1
  | exit e => exact exitThrough_ca _ _ (leaveTry_ca H fin _ h1)
  | thrown =>
    refine ite_ca ?_ (ite_ca (throwToFinally_ca H fin _ _ h1) h1)
    have h2 := handleThrow_ca H true s1 h1
    generalize handleThrow runF true s1 = hh at h2 ⊢
    obtain ⟨ht, s2⟩ := hh
    cases ht with
    | caught => exact ite_ca (afterHandler_ca H hf fin _ _ (H handler _ h2)) h2
    | _ => exact h2
  | _ => exact h1

theorem tryResumeH_ca {runF : RunF} (H : CAok runF) (hf : Bool) (cur fin : Beh) : Clears (tryResumeH runF hf cur fin) :=
  fun s h => afterHandler_ca H hf fin _ _ (H cur (pushTryFrame (-1) (if hf then 20 else -1) s) h)

theorem tryResumeF_ca {runF : RunF} (H : CAok runF) (p : Bool) (cur : Beh) : Clears (tryResumeF runF p cur) :=
  fun _ h => finPhase_ca H cur _ h

theorem tryB_ca {runF : RunF} (H : CAok runF) (b : Beh) : Clears (tryB runF b) := by
  intro s h
  have h1 := H b (pushTryFrame tryPanicMarker (-1) s) h
  have h2 := fun o => unwindAtMarker_ca H o _ h1
  unfold tryB
  generalize runF b _ = r at h1 h2 ⊢
  obtain ⟨o, s1⟩ := r
  cases o <;> first | exact h1 | exact h2 _

theorem runTryB_ca {runF : RunF} (H : CAok runF) (b : Beh) : Clears (runTryB runF b) :=
  fun s h => ite_ca (unwindAtMarker_ca H _ (pushTryFrame tryPanicMarker (-1) s) h) (tryB_ca H b s h)

theorem onThrow_ca {u : Res} {onThrow : Vm → Res} (ht : Clears onThrow) (h : u.2.curAsync = false) :
    (match u.1 with | .thrown => onThrow u.2 | _ => u).2.curAsync = false := by
  obtain ⟨o, s⟩ := u
  cases o <;> first | exact h | exact ht _ h

theorem activation_ca {runF : RunF} (H : CAok runF) (b : Beh) (s : Vm) (h : s.curAsync = false)
    {susp ret : Vm → Vm} {onThrow : Vm → Res} (hs : ∀ t, (susp t).curAsync = t.curAsync)
    (hr : ∀ t, (ret t).curAsync = t.curAsync) (ht : Clears onThrow) :
    (activation runF b s susp ret onThrow).2.curAsync = false := by
  have h1 := ite_ca (c := s.interrupted) (a := (Outcome.fatal, s)) h (H b s h)
  have h2 := fun o => unwindAtMarker_ca H o _ h1
  unfold activation
  generalize (if s.interrupted then (Outcome.fatal, s) else runF b s) = r at h1 h2 ⊢
  obtain ⟨o, s1⟩ := r
  cases o with
  | yielded => exact (hs _).trans h1
  | normal => exact (hr _).trans h1
  | exit e => exact (hr _).trans h1
  | stuck => exact h1
  | _ => exact onThrow_ca ht (h2 _)

theorem goCall_ca {runF : RunF} (H : CAok runF) (n : Nat) (f : FnInfo) (b : Beh) : Clears (goCall runF n f b) := by
  intro s h
  dsimp only [goCall]
  cases he : goCallEnter n f (pushTryFrame tryPanicMarker (-1) { s with sp := s.sp + 2 + n }) with
  | none => exact h
  | some pr =>
    obtain ⟨s3, np⟩ := pr
    have h3 : s3.curAsync = false := (goCallEnter_ca he).trans h
    have h1 := ite_ca (c := s3.interrupted) (a := (Outcome.fatal, s3)) h3 (H b s3 h3)
    have h2 := fun o => unwindAtMarker_ca H o _ h1
    dsimp only
    generalize (if s3.interrupted then (Outcome.fatal, s3) else runF b s3) = r at h1 h2 ⊢
    obtain ⟨o, s4⟩ := r
    cases o with
    | normal => exact (goCallRet_ca _ _).trans h1
    | exit e => exact (goCallRet_ca _ _).trans h1
    | stuck => exact h1
    | _ => exact h2 _

theorem leaveLoop_ca {runF : RunF} (H : CAok runF) : ∀ lf, Clears (leaveLoop runF lf) := by
  intro lf
  induction lf with
  | zero => exact fun s h => h
  | succ n ih =>
    intro s h
    have h1 := runJobs_ca H s.jobQueue { s with jobQueue := [] } h
    unfold leaveLoop
    split
    · exact h
    · generalize runJobs runF _ _ = r at h1 ⊢
      obtain ⟨o, s1⟩ := r
      cases o <;> first | exact ih s1 h1 | exact h1

theorem leaveOrClear_ca {runF : RunF} (H : CAok runF) (lf : Nat) (o : Outcome) : Clears (leaveOrClear runF lf o) := by
  intro s h
  have h1 := leaveLoop_ca H lf s h
  unfold leaveOrClear
  refine ite_ca ?_ h
  generalize leaveLoop runF lf s = l at h1 ⊢
  obtain ⟨ol, sl⟩ := l
  cases ol <;> exact h1

theorem runWrapped_ca {runF : RunF} (H : CAok runF) (lf : Nat) (b : Beh) : Clears (runWrapped runF lf b) := by
  intro s h
  have h1 := tryB_ca H b s h
  have h2 := fun o => leaveOrClear_ca H lf o _ h1
  unfold runWrapped
  generalize tryB runF b s = r at h1 h2 ⊢
  obtain ⟨o, s1⟩ := r
  cases o with
  | normal => exact h2 _
  | thrown => exact h2 _
  | stuck => exact h1
  | _ => exact ite_vm_ca h1 h1

theorem runProgramRec_ca {runF : RunF} (H : CAok runF) (p : Nat) (b : Beh) : Clears (runProgramRec runF p b) := by
  intro s h
  unfold runProgramRec
  cases hp : pushCtx s with
  | none => exact h
  | some s1 => exact (recExit_ca _).trans (runTryB_ca H b (recEnter p s1) ((pushCtx_ca hp).trans h))

/-- the tail of `runProgramOuter` once `leave()` answered `l` -/
theorem outerLeave_ca (o : Outcome) (l : Res) (h : l.2.curAsync = false) :
    (match l.1 with
      | .normal => (o, outerPop l.2)
      | .stuck => (.stuck, l.2)
      | o' => (o', if (outerPop l.2).callStack.length = 0 then leaveAbrupt (outerPop l.2) else outerPop l.2) : Res).2.curAsync
      = false := by
  obtain ⟨ol, sl⟩ := l
  cases ol with
  | normal => exact h
  | stuck => exact h
  | _ => exact ite_vm_ca h h

theorem runProgramOuter_ca {runF : RunF} (H : CAok runF) (lf p : Nat) (b : Beh) :
    Clears (runProgramOuter runF lf p b) := by
  intro s h
  have h1 := runTryB_ca H b (outerEnter p s) h
  unfold runProgramOuter
  generalize runTryB runF b _ = r at h1 ⊢
  obtain ⟨o, s1⟩ := r
  cases o with
  | normal => exact outerLeave_ca _ _ (leaveLoop_ca H lf _ h1)
  | thrown => exact outerLeave_ca _ _ (leaveLoop_ca H lf _ h1)
  | stuck => exact h1
  | _ => exact ite_vm_ca h1 h1

theorem genNew_ca (slot n : Nat) (f : FnInfo) (body : Beh) : Clears (genNew slot n f body) := by
  intro s h
  dsimp only [genNew]
  cases h1 : pushCtx { s with sp := s.sp + 2 + n } with
  | none => exact h
  | some s2 =>
    have c2 : s2.curAsync = false := (pushCtx_ca h1).trans h
    dsimp only
    split
    · exact c2
    · exact (popCtx_ca _).trans c2

theorem genResume_ca {runF : RunF} (H : CAok runF) (slot : Nat) (what : Option Beh) (isThrow : Bool) :
    Clears (genResume runF slot what isThrow) := by
  intro s h
  rw [genResume_def]
  cases getGen s slot with
  | none => exact ite_ca h h
  | some g =>
    dsimp only
    cases g.state with
    | completed => exact ite_ca h h
    | executing => exact h
    | suspended =>
      refine ite_ca h ?_
      cases he : genEnterNext g s with
      | none => exact h
      | some s4 =>
        refine activation_ca H _ _ ?_ ?_ ?_ ?_
        · exact (genEnterNext_ca he).trans h
        · exact fun t => popCtx_ca _
        · exact genFinish_ca
        · exact fun t ht => (popCtx_ca t).trans ht

theorem asyncNew_ca {runF : RunF} (H : CAok runF) (n : Nat) (f : FnInfo) (body : Beh) :
    Clears (asyncNew runF n f body) := by
  intro s h
  rw [asyncNew_def]
  cases h1 : actEnter n s with
  | none => exact h
  | some s3 =>
    have c3 : s3.curAsync = false := (actEnter_ca h1).trans h
    dsimp only
    cases h2 : actCall n f s3 with
    | none => exact c3
    | some s5 =>
      refine activation_ca H _ _ ((actCall_ca h2).trans c3) ?_ ?_ ?_
      · exact fun t => actBack_ca s _
      · exact fun t => (actBack_ca s _).trans (popCtx_ca _)
      · exact fun t ht => (actBack_ca s t).trans ht

/-- the deferred function of onFulfilled / onRejected clears the field on EVERY exit -/
theorem asyncResumeCA_clears (runF : RunF) (id : Nat) (s : Vm) : (asyncResumeCA runF id s).2.curAsync = false := rfl

theorem seqRes_ca {runF : RunF} (H : CAok runF) (a b : Beh) : Clears (seqRes runF a b) := by
  intro s h
  have h1 := H a s h
  have h2 := H b _ h1
  unfold seqRes
  generalize runF a s = r at h1 h2 ⊢
  obtain ⟨o, s1⟩ := r
  cases o <;> first | exact h2 | exact h1

theorem yieldThenRes_ca {runF : RunF} (H : CAok runF) (a b : Beh) : Clears (yieldThenRes runF a b) := by
  intro s h
  have h1 := H a s h
  unfold yieldThenRes
  generalize runF a s = r at h1 ⊢
  obtain ⟨o, s1⟩ := r
  cases o <;> exact h1

theorem frameExit_ca {runF : RunF} (H : CAok runF) (k : FrameKind) (ret : Beh) (e : ExitKind) :
    Clears (frameExit runF k ret e) := by
  intro s h
  have h1 : (k.post s).curAsync = false := (post_ca k s).trans h
  cases k with
  | forOf c =>
    have h2 := ite_ca (c := c = true) (b := (Outcome.normal, FrameKind.post (.forOf c) s)) (H ret _ h1) h1
    dsimp only [frameExit]
    generalize (if c = true then runF ret (FrameKind.post (.forOf c) s) else (Outcome.normal, FrameKind.post (.forOf c) s)) = r
      at h2 ⊢
    obtain ⟨o, s1⟩ := r
    cases o <;> first | exact h2 | (cases e <;> exact h2)
  | _ => exact h1

theorem frameYield_ca (k : FrameKind) (ret : Beh) : Clears (frameYield k ret) := by
  intro s h
  cases k <;> exact h

theorem swallowRes_ca (k : Boundary) (s : Vm) (r : Res) (h : r.2.curAsync = false) :
    (swallowRes k s r).2.curAsync = false := by
  obtain ⟨o, s1⟩ := r
  cases o <;> first | exact h | exact ite_ca h h

theorem apiNode_ca {runF : RunF} (H : CAok runF) (lf : Nat) (k : Boundary) (b : Beh) : Clears (apiNode lf runF k b) := by
  intro s h
  cases k with
  | try_ => exact tryB_ca H b s h
  | runWrapped => exact runWrapped_ca H lf b s h
  | runProgramRec => exact runProgramRec_ca H _ b s h
  | runProgram => exact ite_ca (runProgramRec_ca H _ b s h) (runProgramOuter_ca H lf _ b s h)

theorem frame_ca {runF : RunF} (H : CAok runF) (lf : Nat) (k : FrameKind) (ret body : Beh) :
    Clears (step lf runF (.frame k ret body)) := by
  intro s h
  dsimp only [step]
  cases hp : k.pre ret s with
  | none => exact h
  | some s1 =>
    have h1 := H body s1 ((pre_ca hp).trans h)
    have h2 := fun e => frameExit_ca H k ret e _ h1
    have h3 := frameYield_ca k ret _ h1
    dsimp only
    generalize runF body s1 = r at h1 h2 h3 ⊢
    obtain ⟨o, s2⟩ := r
    cases o with
    | normal => exact (post_ca _ _).trans h1
    | exit e => exact h2 _
    | yielded => exact h3
    | _ => exact h1

theorem step_ca {runF : RunF} (H : CAok runF) (lf : Nat) : CAok (step lf runF) := by
  intro b s h
  cases b with
  | seq a b => exact seqRes_ca H a b s h
  | probe id => exact probe_ca id s h
  | frame k ret body => exact frame_ca H lf k ret body s h
  | try_ hc hf body handler fin => exact ite_ca (tryStmt_ca H hc hf body handler fin s h) (H body s h)
  | goCall n f b => exact goCall_ca H n f b s h
  | api k b => exact apiNode_ca H lf k b s h
  | swallow k b => exact swallowRes_ca k s _ (apiNode_ca H lf k b s h)
  | yieldThen a b => exact yieldThenRes_ca H a b s h
  | tryH hf cur fin => exact tryResumeH_ca H hf cur fin s h
  | tryF p cur => exact tryResumeF_ca H p cur s h
  | genNew slot n f body => exact genNew_ca slot n f body s h
  | genNext slot => exact genResume_ca H slot none false s h
  | genThrow slot => exact genResume_ca H slot (some .throw_) true s h
  | genReturn slot => exact genResume_ca H slot (some .return_) false s h
  | asyncNew n f body => exact asyncNew_ca H n f body s h
  | asyncResume id => exact asyncResumeCA_clears runF id s
  | _ => exact h

theorem run_ca : ∀ fuel, CAok (run fuel) := by
  intro fuel
  induction fuel with
  | zero => exact fun b s h => h
  | succ n ih => exact step_ca ih n

theorem runtimeTry_ca (fuel : Nat) (b : Beh) : Clears (runtimeTry fuel b) := by
  intro s h
  have h1 := tryB_ca (run_ca fuel) b s h
  unfold runtimeTry
  generalize tryB (run fuel) b s = r at h1 ⊢
  obtain ⟨o, s1⟩ := r
  cases o with
  | fatal => exact ite_vm_ca h1 h1
  | _ => exact h1

theorem apiCall_ca (fuel : Nat) (k : TopApi) (b : Beh) : Clears (apiCall fuel k b) := by
  intro s h
  have H := run_ca fuel
  cases k with
  | runProgram => exact apiNode_ca H fuel .runProgram b s h
  | callable n f => exact apiNode_ca H fuel .runWrapped _ s h
  | constructor n f => exact apiNode_ca H fuel .runWrapped _ s h
  | try_ => exact runtimeTry_ca fuel b s h
  | tryGet f => exact runtimeTry_ca fuel _ s h

end GojaModel.C03
