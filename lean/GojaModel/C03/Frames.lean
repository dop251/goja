/-
  C03 — per-node lemmas: bracketing frame operations and the native probe.
-/
import GojaModel.C03.Discipline

namespace GojaModel.C03

theorem pre_spec (k : FrameKind) (ret : Beh) (s s1 : Vm) (h : k.pre ret s = some s1) :
    Ext true s s1 ∧ s1.interrupted = s.interrupted := by
  cases k with
  | call n f =>
    cases map_pushCtx_some h
    exact ⟨Ext.of_push rfl rfl rfl rfl rfl, rfl⟩
  | native n =>
    cases map_pushCtx_some h
    exact ⟨Ext.of_push rfl rfl rfl rfl rfl, rfl⟩
  | forOf c => cases h; exact ⟨Ext.of_cs rfl rfl ⟨_, rfl⟩ ⟨[], (List.append_nil _).symm⟩ rfl, rfl⟩
  | ref => cases h; exact ⟨Ext.of_cs rfl rfl ⟨[], (List.append_nil _).symm⟩ ⟨_, rfl⟩ rfl, rfl⟩
  | _ => cases h; exact ⟨Ext.of_stacks rfl rfl rfl rfl rfl, rfl⟩

theorem post_spec (k : FrameKind) (ret : Beh) (s s1 s2 : Vm) (h : k.pre ret s = some s1)
    (hs : Same s1 s2) : Same s (k.post s2) ∧ (k.post s2).interrupted = s2.interrupted := by
  cases k with
  | tmp n =>
    cases h
    have hsp : s2.sp = s.sp + n := hs.sp
    exact ⟨⟨show s2.sp - n = s.sp from hsp ▸ Int.add_sub_cancel _ _, hs.regs, hs.stash, hs.privEnv, hs.cs, hs.ts, hs.is, hs.rs⟩, rfl⟩
  | call n f =>
    cases map_pushCtx_some h
    have hsb : s2.sb = s.sp + 2 + n - n - 1 := congrArg Regs.sb hs.regs
    exact ⟨popCtx_same _ hs.cs rfl rfl rfl (by rw [popCtx_sp]; show s2.sb - 1 = s.sp; rw [hsb, callee_sb]; exact Int.add_sub_cancel _ _) hs.ts hs.is hs.rs,
      popCtx_intr _⟩
  | native n =>
    cases map_pushCtx_some h
    have hsp : s2.sp = s.sp + 2 + n := hs.sp
    exact ⟨popCtx_same _ hs.cs rfl rfl rfl (by rw [popCtx_sp]; omega) hs.ts hs.is hs.rs, popCtx_intr _⟩
  | forOf c =>
    cases h
    exact ⟨⟨hs.sp, hs.regs, hs.stash, hs.privEnv, hs.cs, hs.ts,
      (congrArg List.dropLast hs.is).trans List.dropLast_concat, hs.rs⟩, rfl⟩
  | ref =>
    cases h
    exact ⟨⟨hs.sp, hs.regs, hs.stash, hs.privEnv, hs.cs, hs.ts, hs.is,
      (congrArg List.dropLast hs.rs).trans List.dropLast_concat⟩, rfl⟩
  | block =>
    cases h
    exact ⟨⟨hs.sp, hs.regs, congrArg List.tail hs.stash, hs.privEnv, hs.cs, hs.ts, hs.is, hs.rs⟩, rfl⟩
  | priv =>
    cases h
    exact ⟨⟨hs.sp, hs.regs, hs.stash, congrArg List.tail hs.privEnv, hs.cs, hs.ts, hs.is, hs.rs⟩, rfl⟩

theorem pre_cs (k : FrameKind) (ret : Beh) (s s1 : Vm) (h : k.pre ret s = some s1)
    (hk : (∀ n f, k ≠ .call n f) ∧ ∀ n, k ≠ .native n) : s1.callStack = s.callStack := by
  cases k with
  | call n f => exact absurd rfl (hk.1 n f)
  | native n => exact absurd rfl (hk.2 n)
  | _ => cases h; rfl

theorem frameYield_good {s s2 : Vm} (k : FrameKind) (ret : Beh) (he : Ext false s s2)
    (hcs : ((∀ n f, k ≠ .call n f) ∧ ∀ n, k ≠ .native n) → s2.callStack = s.callStack)
    (hq : s2.interrupted = s.interrupted) : Good s (frameYield k ret s2) := by
  cases k with
  | call n f => exact Good.fatal he
  | native n => exact Good.fatal he
  | _ => exact Good.yielded (he.resid _) (hcs ⟨nofun, nofun⟩) hq

theorem frameExit_good {runF : RunF} (HG : HypG runF) {s s2 : Vm} (hI : Inv s) (k : FrameKind) (ret : Beh)
    (e : ExitKind) (hsame : Same s (k.post s2)) (hq : (k.post s2).interrupted = s.interrupted) :
    Good s (frameExit runF k ret e s2) := by
  cases k with
  | call n f => exact Good.normal hsame hq
  | native n => exact Good.normal hsame hq
  | forOf c =>
    dsimp only [frameExit]
    cases c with
    | false => exact Good.brkOrRet e hsame hq
    | true =>
      have hg := Good.same_left hsame hq (HG ret _ (hsame.inv hI))
      simp only [if_true]
      generalize runF ret (FrameKind.post (.forOf true) s2) = r3 at hg
      obtain ⟨o3, s3⟩ := r3
      cases o3 with
      | normal => exact Good.brkOrRet e hg.1 (hg.2 nofun)
      | exit e3 => exact Good.brkOrRet e hg.1 (hg.2 nofun)
      | _ => exact hg
  | _ => exact Good.exit e hsame hq

theorem frame_good {runF : RunF} (HG : HypG runF) (lf : Nat) (k : FrameKind) (ret body : Beh) (s : Vm)
    (hI : Inv s) : Good s (step lf runF (.frame k ret body) s) := by
  dsimp only [step]
  cases hp : k.pre ret s with
  | none => exact Good.fatal ((Same.refl s).toExt false)
  | some s1 =>
    obtain ⟨hext, hq⟩ := pre_spec k ret s s1 hp
    have hg := HG body s1 (hext.inv hI)
    dsimp only
    generalize runF body s1 = r at hg
    obtain ⟨o, s2⟩ := r
    obtain ⟨hc, hqq⟩ := hg
    cases o with
    | normal =>
      obtain ⟨hsame, hpq⟩ := post_spec k ret s s1 s2 hp hc
      exact Good.normal hsame (hpq.trans ((hqq nofun).trans hq))
    | thrown => exact Good.thrown (hext.trans hc) ((hqq nofun).trans hq)
    | fatal => exact Good.fatal ((hext.mono false).trans hc)
    | stuck => exact hc.elim
    | yielded =>
      exact frameYield_good k ret ((hext.mono false).trans hc.1) (fun hk => hc.2.trans (pre_cs _ ret s s1 hp hk))
        ((hqq nofun).trans hq)
    | exit e =>
      obtain ⟨hsame, hpq⟩ := post_spec k ret s s1 s2 hp hc
      exact frameExit_good HG hI k ret e hsame (hpq.trans ((hqq nofun).trans hq))

theorem probe_good (id : Nat) (s : Vm) : Good s (probe id s) := by
  unfold probe
  cases hp : FrameKind.pre (.native 1) .skip s with
  | none => exact Good.fatal (Ext.of_stacks rfl rfl rfl rfl rfl)
  | some s1 =>
    obtain ⟨hext, hq⟩ := pre_spec (.native 1) .skip s s1 hp
    have hobs : Same s1 (observe id s1) := ⟨rfl, rfl, rfl, rfl, rfl, rfl, rfl, rfl⟩
    obtain ⟨hsame, hpq⟩ := post_spec (.native 1) .skip s s1 (observe id s1) hp hobs
    have hpq' : (FrameKind.post (.native 1) (observe id s1)).interrupted = s.interrupted := hpq.trans hq
    dsimp only
    split
    · split
      · split
        · exact Good.thrown (hext.trans (hobs.toExt true)) hq
        · exact Good.fatal (Same.toExt false
            ⟨hsame.sp, hsame.regs, hsame.stash, hsame.privEnv, hsame.cs, hsame.ts, hsame.is, hsame.rs⟩)
      · exact Good.normal hsame hpq'
    · exact Good.normal hsame hpq'

end GojaModel.C03
