/-
  C03 — the discipline inside one run loop (`Good`: `Same` after a normal ending, `Ext` after an abrupt one) and at a
  Go-side boundary (`ApiGood`: `Same` after every ending); the job loop, which also closes iterators.
-/
import GojaModel.C03.Model

namespace GojaModel.C03

/-- the per-level registers that a call saves and handleThrow restores from the saved context -/
structure Regs where
  prg : Option Nat
  sb : Int
  args : Nat
  newTarget : Nat
deriving DecidableEq

def Vm.regs (s : Vm) : Regs := ⟨s.prg, s.sb, s.args, s.newTarget⟩
def Ctx.regs (c : Ctx) : Regs := ⟨c.prg, c.sb, c.args, c.newTarget⟩

/-- registers of the level that owned `s.callStack` before `e` was appended -/
def levelRegs (e : List Ctx) (s : Vm) : Regs :=
  match e with
  | [] => s.regs
  | c :: _ => c.regs

/-- true in every reachable state: the outermost RunProgram keeps an empty context on the call stack while it runs,
`__call` from idle pushes one -/
def Inv (s : Vm) : Prop := s.callStack = [] → s.prg = none ∧ s.sb = -1

/-- pc, result, job queue, interrupt flag and ghost fields are not compared -/
structure Same (s s' : Vm) : Prop where
  sp : s'.sp = s.sp
  regs : s'.regs = s.regs
  stash : s'.stash = s.stash
  privEnv : s'.privEnv = s.privEnv
  cs : s'.callStack = s.callStack
  ts : s'.tryStack = s.tryStack
  is : s'.iterStack = s.iterStack
  rs : s'.refStack = s.refStack

/-- what an abrupt ending inside one run loop leaves; `cons` is set for a catchable throw, which leaves only consumed
try frames behind -/
structure Ext (cons : Bool) (s s' : Vm) : Prop where
  cs : ∃ e, s'.callStack = s.callStack ++ e ∧ levelRegs e s' = s.regs
  is : ∃ e, s'.iterStack = s.iterStack ++ e
  rs : ∃ e, s'.refStack = s.refStack ++ e
  ts : ∃ e, s'.tryStack = e ++ s.tryStack ∧
        ∀ f ∈ e, f.catchPos ≠ tryPanicMarker ∧ (cons = true → isConsumed f = true)

def Quiet (s : Vm) (r : Res) : Prop := r.1 ≠ .fatal → r.2.interrupted = s.interrupted

def GoodCtl (s : Vm) (r : Res) : Prop :=
  match r.1 with
  | .normal => Same s r.2
  | .thrown => Ext true s r.2
  | .fatal => Ext false s r.2
  | .stuck => False
  | .exit _ => Same s r.2
  | .yielded => Ext false s r.2 ∧ r.2.callStack = s.callStack

def Good (s : Vm) (r : Res) : Prop := GoodCtl s r ∧ Quiet s r

def ApiGood (s : Vm) (r : Res) : Prop :=
  (r.1 ≠ .stuck ∧ (∀ e, r.1 ≠ .exit e) ∧ r.1 ≠ .yielded) ∧ Same s r.2 ∧ Quiet s r

theorem Same.refl (s : Vm) : Same s s := ⟨rfl, rfl, rfl, rfl, rfl, rfl, rfl, rfl⟩

theorem Same.trans {a b c : Vm} (h1 : Same a b) (h2 : Same b c) : Same a c :=
  ⟨h2.sp.trans h1.sp, h2.regs.trans h1.regs, h2.stash.trans h1.stash, h2.privEnv.trans h1.privEnv,
   h2.cs.trans h1.cs, h2.ts.trans h1.ts, h2.is.trans h1.is, h2.rs.trans h1.rs⟩

theorem Same.withJobs {s t : Vm} (h : Same s t) (q : List Beh) : Same s { t with jobQueue := q } :=
  ⟨h.sp, h.regs, h.stash, h.privEnv, h.cs, h.ts, h.is, h.rs⟩

theorem inv_of_eq {a b : Vm} (hr : b.regs = a.regs) (hc : b.callStack = a.callStack) (hi : Inv a) : Inv b :=
  fun h =>
    have := hi (hc.symm.trans h)
    ⟨(congrArg Regs.prg hr).trans this.1, (congrArg Regs.sb hr).trans this.2⟩

theorem Same.inv {a b : Vm} (h : Same a b) (hi : Inv a) : Inv b := inv_of_eq h.regs h.cs hi

theorem inv_of_ne {b : Vm} (h : b.callStack ≠ []) : Inv b := fun hc => absurd hc h

theorem Same.toExt {a b : Vm} (c : Bool) (h : Same a b) : Ext c a b :=
  ⟨⟨[], by simp [h.cs, levelRegs, h.regs]⟩, ⟨[], by simp [h.is]⟩, ⟨[], by simp [h.rs]⟩,
   ⟨[], by simp [h.ts]⟩⟩

theorem Ext.mono {a b : Vm} (c : Bool) (h : Ext true a b) : Ext c a b :=
  ⟨h.cs, h.is, h.rs, by
    obtain ⟨e, he, hf⟩ := h.ts
    exact ⟨e, he, fun f hm => ⟨(hf f hm).1, fun _ => (hf f hm).2 rfl⟩⟩⟩

theorem Ext.inv {c : Bool} {a b : Vm} (h : Ext c a b) (hi : Inv a) : Inv b := by
  obtain ⟨e, he, hr⟩ := h.cs
  cases e with
  | nil => exact inv_of_eq hr (he.trans (List.append_nil _)) hi
  | cons x xs => exact inv_of_ne (he ▸ List.append_ne_nil_of_right_ne_nil _ (List.cons_ne_nil _ _))

theorem levelRegs_append {e1 e2 : List Ctx} {b c : Vm}
    (h1 : levelRegs e2 c = b.regs) : levelRegs (e1 ++ e2) c = levelRegs e1 b := by
  cases e1 with
  | nil => simpa [levelRegs] using h1
  | cons x xs => simp [levelRegs]

theorem Ext.trans {a b c : Vm} {k : Bool} (h1 : Ext k a b) (h2 : Ext k b c) : Ext k a c := by
  obtain ⟨e1, he1, hr1⟩ := h1.cs
  obtain ⟨e2, he2, hr2⟩ := h2.cs
  obtain ⟨i1, hi1⟩ := h1.is
  obtain ⟨i2, hi2⟩ := h2.is
  obtain ⟨r1, hr1'⟩ := h1.rs
  obtain ⟨r2, hr2'⟩ := h2.rs
  obtain ⟨t1, ht1, hf1⟩ := h1.ts
  obtain ⟨t2, ht2, hf2⟩ := h2.ts
  refine ⟨⟨e1 ++ e2, by simp [he2, he1], ?_⟩, ⟨i1 ++ i2, by simp [hi2, hi1]⟩,
    ⟨r1 ++ r2, by simp [hr2', hr1']⟩, ⟨t2 ++ t1, by simp [ht2, ht1], ?_⟩⟩
  · rw [levelRegs_append hr2]; exact hr1
  · intro f hm
    rcases List.mem_append.mp hm with h | h
    · exact hf2 f h
    · exact hf1 f h

theorem Same.ext_left {a b c : Vm} {k : Bool} (h1 : Same a b) (h2 : Ext k b c) : Ext k a c :=
  (h1.toExt k).trans h2

theorem Ext.resid {c : Bool} {s t : Vm} (h : Ext c s t) (r : Beh) : Ext c s { t with resid := r } :=
  ⟨h.cs, h.is, h.rs, h.ts⟩

theorem Ext.of_cs {c : Bool} {s t : Vm} (hcs : t.callStack = s.callStack) (hr : t.regs = s.regs)
    (his : ∃ e, t.iterStack = s.iterStack ++ e) (hrs : ∃ e, t.refStack = s.refStack ++ e)
    (hts : t.tryStack = s.tryStack) : Ext c s t :=
  ⟨⟨[], hcs.trans (List.append_nil _).symm, hr⟩, his, hrs, [], hts, fun _ h => absurd h List.not_mem_nil⟩

theorem Ext.of_stacks {c : Bool} {s t : Vm} (hcs : t.callStack = s.callStack) (hr : t.regs = s.regs)
    (his : t.iterStack = s.iterStack) (hrs : t.refStack = s.refStack) (hts : t.tryStack = s.tryStack) : Ext c s t :=
  Ext.of_cs hcs hr ⟨[], his.trans (List.append_nil _).symm⟩ ⟨[], hrs.trans (List.append_nil _).symm⟩ hts

theorem Ext.of_push {c : Bool} {s t : Vm} {x : Ctx} {xs : List Ctx} (hcs : t.callStack = s.callStack ++ x :: xs)
    (hr : x.regs = s.regs) (his : t.iterStack = s.iterStack) (hrs : t.refStack = s.refStack)
    (hts : t.tryStack = s.tryStack) : Ext c s t :=
  ⟨⟨x :: xs, hcs, hr⟩, ⟨[], his.trans (List.append_nil _).symm⟩, ⟨[], hrs.trans (List.append_nil _).symm⟩, [], hts,
   fun _ h => absurd h List.not_mem_nil⟩

/-! vm.curAsyncRunner is not control state: the discipline is insensitive to it. -/

theorem Same.caL {s t : Vm} (b : Bool) (h : Same ({ s with curAsync := b } : Vm) t) : Same s t :=
  ⟨h.sp, h.regs, h.stash, h.privEnv, h.cs, h.ts, h.is, h.rs⟩

theorem Same.caR {s t : Vm} (b : Bool) (h : Same s t) : Same s ({ t with curAsync := b } : Vm) :=
  ⟨h.sp, h.regs, h.stash, h.privEnv, h.cs, h.ts, h.is, h.rs⟩

theorem Ext.caL {c : Bool} {s t : Vm} (b : Bool) (h : Ext c ({ s with curAsync := b } : Vm) t) : Ext c s t :=
  ⟨h.cs, h.is, h.rs, h.ts⟩

theorem Ext.caR {c : Bool} {s t : Vm} (b : Bool) (h : Ext c s t) : Ext c s ({ t with curAsync := b } : Vm) :=
  ⟨h.cs, h.is, h.rs, h.ts⟩

theorem Good.normal {s t : Vm} (h : Same s t) (hq : t.interrupted = s.interrupted) : Good s (.normal, t) :=
  ⟨h, fun _ => hq⟩

theorem Good.exit {s t : Vm} (e : ExitKind) (h : Same s t) (hq : t.interrupted = s.interrupted) :
    Good s (.exit e, t) :=
  ⟨h, fun _ => hq⟩

theorem Good.thrown {s t : Vm} (h : Ext true s t) (hq : t.interrupted = s.interrupted) : Good s (.thrown, t) :=
  ⟨h, fun _ => hq⟩

theorem Good.fatal {s t : Vm} (h : Ext false s t) : Good s (.fatal, t) :=
  ⟨h, fun hn => absurd rfl hn⟩

theorem Good.yielded {s t : Vm} (h : Ext false s t) (hcs : t.callStack = s.callStack)
    (hq : t.interrupted = s.interrupted) : Good s (.yielded, t) :=
  ⟨⟨h, hcs⟩, fun _ => hq⟩

theorem Good.brkOrRet {s t : Vm} (e : ExitKind) (h : Same s t) (hq : t.interrupted = s.interrupted) :
    Good s (match e with | .brk => (.normal, t) | .ret => (.exit .ret, t)) := by
  cases e <;> exact ⟨h, fun _ => hq⟩

theorem Good.same_left {s s1 : Vm} {r : Res} (h : Same s s1) (hq : s1.interrupted = s.interrupted) (hg : Good s1 r) :
    Good s r := by
  obtain ⟨o, t⟩ := r
  refine ⟨?_, fun hn => (hg.2 hn).trans hq⟩
  have hc := hg.1
  cases o with
  | normal => exact h.trans hc
  | exit e => exact h.trans hc
  | thrown => exact h.ext_left hc
  | fatal => exact h.ext_left hc
  | stuck => exact hc
  | yielded => exact ⟨h.ext_left hc.1, hc.2.trans h.cs⟩

theorem ApiGood.normal {s t : Vm} (h : Same s t) (hq : t.interrupted = s.interrupted) : ApiGood s (.normal, t) :=
  ⟨⟨nofun, nofun, nofun⟩, h, fun _ => hq⟩

theorem ApiGood.thrown {s t : Vm} (h : Same s t) (hq : t.interrupted = s.interrupted) : ApiGood s (.thrown, t) :=
  ⟨⟨nofun, nofun, nofun⟩, h, fun _ => hq⟩

theorem ApiGood.fatal {s t : Vm} (h : Same s t) : ApiGood s (.fatal, t) :=
  ⟨⟨nofun, nofun, nofun⟩, h, fun hn => absurd rfl hn⟩

theorem ApiGood.cases {s : Vm} {r : Res} (h : ApiGood s r) :
    ∃ t, Same s t ∧ (r = (.fatal, t) ∨ (t.interrupted = s.interrupted ∧ (r = (.normal, t) ∨ r = (.thrown, t)))) := by
  obtain ⟨o, t⟩ := r
  obtain ⟨h1, h2, h3⟩ := h
  refine ⟨t, h2, ?_⟩
  cases o with
  | normal => exact Or.inr ⟨h3 nofun, Or.inl rfl⟩
  | thrown => exact Or.inr ⟨h3 nofun, Or.inr rfl⟩
  | fatal => exact Or.inl rfl
  | stuck => exact absurd rfl h1.1
  | exit e => exact absurd rfl (h1.2.1 e)
  | yielded => exact absurd rfl h1.2.2

theorem ApiGood.same_left {s t : Vm} {r : Res} (h : Same s t) (hq : t.interrupted = s.interrupted) (ha : ApiGood t r) :
    ApiGood s r :=
  ⟨ha.1, h.trans ha.2.1, fun hn => (ha.2.2 hn).trans hq⟩

theorem ApiGood.toGood {s : Vm} {r : Res} (h : ApiGood s r) : Good s r := by
  obtain ⟨t, h2, rfl | ⟨h3, rfl | rfl⟩⟩ := h.cases
  · exact Good.fatal (h2.toExt false)
  · exact Good.normal h2 h3
  · exact Good.thrown (h2.toExt true) h3

theorem popCtx_snoc (s : Vm) (l : List Ctx) (c : Ctx) (h : s.callStack = l ++ [c]) :
    popCtx s = { restoreCtx c s with callStack := l } := by
  simp [popCtx, h]

theorem pushCtx_some {s t : Vm} (h : pushCtx s = some t) :
    t = { s with callStack := s.callStack ++ [saveCtx s] } := by
  unfold pushCtx at h
  split at h
  · cases h
  · cases h; rfl

/-- every entry sequence of the model is `(pushCtx s).map f`: where it succeeds, `f` ran on `s` with its context saved -/
theorem map_pushCtx_some {α : Type} {s : Vm} {f : Vm → α} {a : α} (h : (pushCtx s).map f = some a) :
    a = f { s with callStack := s.callStack ++ [saveCtx s] } := by
  obtain ⟨t, ht, rfl⟩ := Option.map_eq_some_iff.mp h
  rw [pushCtx_some ht]

theorem popCtx_sp (s : Vm) : (popCtx s).sp = s.sp := by
  unfold popCtx
  split <;> rfl

theorem popCtx_intr (s : Vm) : (popCtx s).interrupted = s.interrupted := by
  unfold popCtx
  split <;> rfl

/-- a callee's stack base is just above the caller's stack pointer: callee, `this` and `n` arguments are pushed,
`sb := sp - n - 1` -/
theorem callee_sb (a : Int) (n : Nat) : a + 2 + n - n - 1 = a + 1 := by omega

/-- `sp` is not saved in a context: the caller resets it, to `x` -/
theorem popCtx_same {s t : Vm} {c : Ctx} (x : Int) (hcs : t.callStack = s.callStack ++ [c]) (hc : c.regs = s.regs)
    (hst : c.stash = s.stash) (hpe : c.privEnv = s.privEnv) (hx : x = s.sp) (hts : t.tryStack = s.tryStack)
    (his : t.iterStack = s.iterStack) (hrs : t.refStack = s.refStack) : Same s { popCtx t with sp := x } := by
  rw [popCtx_snoc t _ c hcs]
  exact ⟨hx, hc, hst, hpe, rfl, hts, his, hrs⟩

/-- what the closing induction assumes of the interpreter for sub-behaviours (open recursion) -/
def HypG (runF : RunF) : Prop := ∀ b s, Inv s → Good s (runF b s)
def HypA (runF : RunF) : Prop := ∀ b s, Inv s → ApiGood s (runF (.api .try_ b) s)

/-- a run loop looks at the interrupt flag before its first instruction (`__call`, generator.step) -/
theorem HypG.guarded {runF : RunF} (HG : HypG runF) (b : Beh) (s : Vm) (hI : Inv s) :
    Good s (if s.interrupted then (Outcome.fatal, s) else runF b s) := by
  split
  · exact Good.fatal ((Same.refl s).toExt false)
  · exact HG b s hI

theorem runJobs_spec {runF : RunF} (HA : HypA runF) : ∀ (jobs : List Beh) (s : Vm), Inv s →
    ApiGood s (runJobs runF jobs s) ∧ (runJobs runF jobs s).1 ≠ .thrown := by
  intro jobs
  induction jobs with
  | nil => exact fun s _ => ⟨ApiGood.normal (Same.refl s) rfl, nofun⟩
  | cons j js ih =>
    intro s hI
    unfold runJobs
    obtain ⟨t, h2, hr | ⟨h3, hr | hr⟩⟩ := ApiGood.cases (HA j s hI) <;> rw [hr]
    · exact ⟨ApiGood.fatal h2, nofun⟩
    · exact (ih t (h2.inv hI)).imp (.same_left h2 h3) id
    · exact (ih t (h2.inv hI)).imp (.same_left h2 h3) id

theorem closeIters_eq_runJobs (runF : RunF) : ∀ (items : List IterItem) (s : Vm),
    closeIters runF items s =
      ((runJobs runF ((items.filter (·.hasIter)).map (·.ret)) s).1 != .normal,
       (runJobs runF ((items.filter (·.hasIter)).map (·.ret)) s).2) := by
  intro items
  induction items with
  | nil => exact fun s => rfl
  | cons it rest ih =>
    intro s
    unfold closeIters
    cases h : it.hasIter with
    | false => simpa [List.filter_cons, h] using ih s
    | true =>
      simp only [List.filter_cons, h, if_true, List.map_cons, runJobs]
      generalize runF (.api .try_ it.ret) s = r
      obtain ⟨o, s1⟩ := r
      cases o <;> first | exact ih s1 | rfl

theorem closeIters_spec {runF : RunF} (HA : HypA runF) (items : List IterItem) (s : Vm) (hI : Inv s) :
    Same s (closeIters runF items s).2 ∧
    ((closeIters runF items s).1 = false → (closeIters runF items s).2.interrupted = s.interrupted) := by
  rw [closeIters_eq_runJobs]
  obtain ⟨⟨_, hs, hq⟩, _⟩ := runJobs_spec HA ((items.filter (·.hasIter)).map (·.ret)) s hI
  exact ⟨hs, fun h => hq fun hf => absurd (hf ▸ h : (Outcome.fatal != Outcome.normal) = false) (by decide)⟩

end GojaModel.C03
