/-
  C03 — the try statement obeys the run-loop discipline.
-/
import GojaModel.C03.Unwind

namespace GojaModel.C03

theorem exitThrough_good {s : Vm} (e : ExitKind) (r : Res) (h : Good s r) : Good s (exitThrough e r) := by
  obtain ⟨o, s1⟩ := r
  cases o with
  | normal => exact ⟨h.1, fun _ => h.2 nofun⟩
  | _ => exact h

theorem finPhase_good {runF : RunF} (HG : HypG runF) (fin : Beh) (s sX : Vm) (tf : TryFrame) (hI : Inv s)
    (hA : AtFrame s sX tf) (hqX : sX.interrupted = s.interrupted) (hjs : tf.catchPos ≠ tryPanicMarker)
    (hcons : isConsumed tf = true) : Good s (finPhase runF fin sX) := by
  unfold finPhase
  have hg := HG fin sX (hA.inv hI)
  generalize runF fin sX = r at hg
  obtain ⟨o, s1⟩ := r
  obtain ⟨hc, hq⟩ := hg
  have hq1 := fun hn => (hq hn).trans hqX
  cases o with
  | normal =>
    have hts : s1.tryStack = tf :: s.tryStack := (hA.of_same hc).ts
    simp only [hts]
    split
    · exact Good.thrown ((same_of_atFrame_pop hA hc).toExt true) (hq1 nofun)
    · exact Good.normal (same_of_atFrame_pop hA hc) (hq1 nofun)
  | thrown => exact Good.thrown ((hA.toExt true hjs fun _ => hcons).trans hc) (hq1 nofun)
  | fatal => exact Good.fatal ((hA.toExt false hjs nofun).trans hc)
  | stuck => exact hc.elim
  | exit e =>
    have hts : s1.tryStack = tf :: s.tryStack := (hA.of_same hc).ts
    simp only [hts]
    exact Good.exit e (same_of_atFrame_pop hA hc) (hq1 nofun)
  | yielded =>
    have hext := (hA.toExt false hjs nofun).trans hc.1
    dsimp only
    split
    · exact Good.yielded (hext.resid _) (hc.2.trans hA.cs) (hq1 nofun)
    · rename_i h0
      obtain ⟨e, he, _⟩ := hc.1.ts
      exact absurd (he.symm.trans h0) (hA.ts ▸ List.append_ne_nil_of_right_ne_nil _ (List.cons_ne_nil _ _))

theorem leaveTry_good {runF : RunF} (HG : HypG runF) (fin : Beh) (s sX : Vm) (tf : TryFrame) (hI : Inv s)
    (hA : AtFrame s sX tf) (hqX : sX.interrupted = s.interrupted) (hsp : tf.sp = s.sp) (hst : tf.stash = s.stash) :
    Good s (leaveTry runF fin sX) := by
  unfold leaveTry
  simp only [hA.ts]
  split
  · exact finPhase_good HG fin s _ { tf with finallyRet := sX.pc + 1, finallyPos := -1, catchPos := -1 } hI
      ⟨hsp, hA.regs, hst, hA.privEnv, hA.cs, hA.is, hA.rs, rfl⟩ hqX (by simp [tryPanicMarker]) rfl
  · exact Good.normal (hA.cut rfl) hqX

theorem throwToFinally_good {runF : RunF} (HG : HypG runF) (HA : HypA runF) (fin : Beh) (s sX s1 : Vm)
    (tf : TryFrame) (hI : Inv s) (hA : AtFrame s sX tf) (hF : FrameOf s tf) (hcp : tf.catchPos = -1)
    (hfp : tf.finallyPos ≥ 0) (hext : Ext true sX s1) (hq1 : s1.interrupted = s.interrupted) :
    Good s (throwToFinally runF fin s.tryStack.length s1) := by
  have hjs : tf.catchPos ≠ tryPanicMarker := hcp ▸ (by decide)
  have hs := handleThrow_lands HA hI hA hF (.inr ⟨rfl, .inr hfp⟩) hext
  unfold throwToFinally
  generalize handleThrow runF true s1 = h at hs ⊢
  obtain ⟨ht, s2⟩ := h
  obtain ⟨hL, aq⟩ := hs
  cases ht with
  | fin =>
    obtain ⟨_, _, hA2⟩ := hL
    have hlen : s2.tryStack.length = s.tryStack.length + 1 := congrArg List.length hA2.ts
    simp only [hlen, if_true]
    exact finPhase_good HG fin s s2 _ hI hA2 ((aq nofun).trans hq1) hjs (by simp [isConsumed, hcp])
  | aborted => exact Good.fatal (hL.toExt false hjs nofun)
  | caught => exact absurd (hcp ▸ hL.1 : (-1 : Int) ≥ 0) (by decide)
  | atMarker => exact absurd hL.1 hjs
  | empty => exact hL.elim

theorem afterHandler_good {runF : RunF} (HG : HypG runF) (HA : HypA runF) (hasFin : Bool) (fin : Beh)
    (s sH : Vm) (tf : TryFrame) (r : Res) (hI : Inv s) (hA : AtFrame s sH tf) (hqH : sH.interrupted = s.interrupted)
    (hF : FrameOf s tf)
    (hcp : tf.catchPos = -1) {p : Int} (hp : p ≥ 0) (hfp : tf.finallyPos = if hasFin then p else -1)
    (hg : Good sH r) :
    Good s (afterHandler runF hasFin fin s.tryStack.length r) := by
  obtain ⟨o, s1⟩ := r
  obtain ⟨hc, hq⟩ := hg
  have hq1 := fun hn => (hq hn).trans hqH
  have hjs : tf.catchPos ≠ tryPanicMarker := hcp ▸ (by decide)
  unfold afterHandler
  cases o with
  | normal => exact leaveTry_good HG fin s s1 tf hI (hA.of_same hc) (hq1 nofun) hF.sp hF.stash
  | exit e =>
    exact exitThrough_good e _ (leaveTry_good HG fin s s1 tf hI (hA.of_same hc) (hq1 nofun) hF.sp hF.stash)
  | thrown =>
    cases hasFin with
    | true => exact throwToFinally_good HG HA fin s sH s1 tf hI hA hF hcp (hfp ▸ hp) hc (hq1 nofun)
    | false =>
      exact Good.thrown ((hA.toExt true hjs fun _ => by simp [isConsumed, hcp, hfp]).trans hc) (hq1 nofun)
  | fatal => exact Good.fatal ((hA.toExt false hjs nofun).trans hc)
  | stuck => exact hc.elim
  | yielded => exact Good.yielded (((hA.toExt false hjs nofun).trans hc.1).resid _) (hc.2.trans hA.cs) (hq1 nofun)

theorem tryStmt_good {runF : RunF} (HG : HypG runF) (HA : HypA runF) (hc hf : Bool) (hcf : (hc || hf) = true)
    (body handler fin : Beh) (s : Vm) (hI : Inv s) : Good s (tryStmt runF hc hf body handler fin s) := by
  unfold tryStmt
  -- 10 and 20 stand for the catch and finally positions the compiler would emit: only that they are ≥ 0 matters
  obtain ⟨tf, hA0, hF, hcat, hfinp, -⟩ := pushTryFrame_atFrame (if hc then 10 else -1) (if hf then 20 else -1) s
  have hjs : tf.catchPos ≠ tryPanicMarker := by rw [hcat]; split <;> decide
  have hg := HG body _ (hA0.inv hI)
  dsimp only
  generalize runF body _ = r1 at hg
  obtain ⟨o, s1⟩ := r1
  obtain ⟨hctl, hq⟩ := hg
  cases o with
  | normal => exact leaveTry_good HG fin s s1 tf hI (hA0.of_same hctl) (hq nofun) hF.sp hF.stash
  | exit e =>
    exact exitThrough_good e _ (leaveTry_good HG fin s s1 tf hI (hA0.of_same hctl) (hq nofun) hF.sp hF.stash)
  | stuck => exact hctl.elim
  | fatal => exact Good.fatal ((hA0.toExt false hjs nofun).trans hctl)
  | yielded =>
    exact Good.yielded (((hA0.toExt false hjs nofun).trans hctl.1).resid _) (hctl.2.trans hA0.cs) (hq nofun)
  | thrown =>
    have hq1 : s1.interrupted = s.interrupted := hq nofun
    cases hc with
    | false =>
      cases (by simpa using hcf : hf = true)
      exact throwToFinally_good HG HA fin s _ s1 tf hI hA0 hF hcat (by simp [hfinp]) hctl hq1
    | true =>
      have hcat' : tf.catchPos = 10 := hcat
      have hpos : tf.catchPos ≥ 0 := hcat' ▸ by decide
      have hs := handleThrow_lands HA hI hA0 hF (.inr ⟨rfl, .inl hpos⟩) hctl
      simp only [if_true]
      generalize handleThrow runF true s1 = h at hs ⊢
      obtain ⟨ht, s2⟩ := h
      obtain ⟨hL, aq⟩ := hs
      cases ht with
      | caught =>
        obtain ⟨_, hAH⟩ := hL
        have hlen : s2.tryStack.length = s.tryStack.length + 1 := congrArg List.length hAH.ts
        simp only [hlen, if_true]
        exact afterHandler_good HG HA hf fin s _ _ _ hI hAH ((aq nofun).trans hq1)
          ⟨hF.cs, hF.is, hF.rs, hF.sp, hF.stash, hF.privEnv⟩ rfl (by decide) hfinp (HG handler _ (hAH.inv hI))
      | aborted => exact Good.fatal (hL.toExt false hjs nofun)
      | fin => exact absurd hpos hL.2.1
      | atMarker => exact absurd hL.1 hjs
      | empty => exact hL.elim

theorem tryResumeH_good {runF : RunF} (HG : HypG runF) (HA : HypA runF) (hf : Bool) (cur fin : Beh) (s : Vm)
    (hI : Inv s) : Good s (tryResumeH runF hf cur fin s) := by
  obtain ⟨tf, hA0, hF, hcat, hfinp, -⟩ := pushTryFrame_atFrame (-1) (if hf then 20 else -1) s
  exact afterHandler_good HG HA hf fin s (pushTryFrame (-1) (if hf then 20 else -1) s) tf _ hI hA0 rfl hF hcat (by decide) hfinp
    (HG cur _ (hA0.inv hI))

theorem tryResumeF_good {runF : RunF} (HG : HypG runF) (pending : Bool) (cur : Beh) (s : Vm) (hI : Inv s) :
    Good s (tryResumeF runF pending cur s) :=
  finPhase_good HG cur s { s with tryStack := _ :: s.tryStack } _ hI ⟨rfl, rfl, rfl, rfl, rfl, rfl, rfl, rfl⟩ rfl
    (by simp [tryPanicMarker]) rfl

end GojaModel.C03
