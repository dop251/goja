/-
  C03 — generators and async functions: create / next / throw / return / start / continuation obey the run-loop
  discipline.
-/
import GojaModel.C03.Unwind
import GojaModel.C03.Activation

namespace GojaModel.C03

theorem setGen_sp (s : Vm) (k : Nat) (g : GenObj) : (setGen s k g).sp = s.sp := rfl
theorem setGen_regs (s : Vm) (k : Nat) (g : GenObj) : (setGen s k g).regs = s.regs := rfl
theorem setGen_stash (s : Vm) (k : Nat) (g : GenObj) : (setGen s k g).stash = s.stash := rfl
theorem setGen_privEnv (s : Vm) (k : Nat) (g : GenObj) : (setGen s k g).privEnv = s.privEnv := rfl
theorem setGen_cs (s : Vm) (k : Nat) (g : GenObj) : (setGen s k g).callStack = s.callStack := rfl
theorem setGen_ts (s : Vm) (k : Nat) (g : GenObj) : (setGen s k g).tryStack = s.tryStack := rfl
theorem setGen_is (s : Vm) (k : Nat) (g : GenObj) : (setGen s k g).iterStack = s.iterStack := rfl
theorem setGen_rs (s : Vm) (k : Nat) (g : GenObj) : (setGen s k g).refStack = s.refStack := rfl
theorem setGen_intr (s : Vm) (k : Nat) (g : GenObj) : (setGen s k g).interrupted = s.interrupted := rfl
theorem setGen_sb (s : Vm) (k : Nat) (g : GenObj) : (setGen s k g).sb = s.sb := rfl

theorem Same.withGen {s t : Vm} (h : Same s t) (k : Nat) (g : GenObj) : Same s (setGen t k g) :=
  ⟨h.sp, h.regs, h.stash, h.privEnv, h.cs, h.ts, h.is, h.rs⟩

theorem Same.dropGen {s t : Vm} (k : Nat) (g : GenObj) (h : Same (setGen s k g) t) : Same s t :=
  ⟨h.sp, h.regs, h.stash, h.privEnv, h.cs, h.ts, h.is, h.rs⟩

theorem Ext.withGen {c : Bool} {s t : Vm} (h : Ext c s t) (k : Nat) (g : GenObj) : Ext c s (setGen t k g) :=
  ⟨h.cs, h.is, h.rs, h.ts⟩

/-- `s` is the caller; the marker was pushed in `sF`, which extends `s` by the caller's saved context; the activation
starts in `s4`. -/
theorem activation_good {runF : RunF} (HG : HypG runF) (HA : HypA runF) (b : Beh) {s sF s4 : Vm}
    {susp ret : Vm → Vm} {onThrow : Vm → Res}
    (hE : Ext false s sF) (hqF : sF.interrupted = s.interrupted) (hIF : Inv sF)
    (hB : Ext true (pushTryFrame tryPanicMarker (-1) sF) s4) (hq4 : s4.interrupted = s.interrupted)
    (hsusp : ∀ t, Ext false s4 t → t.callStack = s4.callStack →
      Same s (susp t) ∧ (susp t).interrupted = t.interrupted)
    (hret : ∀ t, Same s4 t → Same s (ret t) ∧ (ret t).interrupted = t.interrupted)
    (hthrow : ∀ t, Same sF t → t.interrupted = s.interrupted → Good s (onThrow t)) :
    Good s (activation runF b s4 susp ret onThrow) := by
  have unwind : ∀ (o : Outcome) (t : Vm), Ext (o == .thrown) s4 t → (o = .thrown → t.interrupted = s4.interrupted) →
      Good s (match (unwindAtMarker runF o t).1 with
        | .thrown => onThrow (unwindAtMarker runF o t).2
        | _ => unwindAtMarker runF o t) := by
    intro o t hext hq
    obtain ⟨ha, hn⟩ := unwind_after_body HA o hIF hB hext fun ho => ((hq ho).trans hq4).trans hqF.symm
    generalize unwindAtMarker runF o t = u at ha hn
    obtain ⟨su, h1, rfl | ⟨hi, rfl | rfl⟩⟩ := ha.cases
    · exact Good.fatal (hE.trans (h1.toExt false))
    · exact absurd rfl hn
    · exact hthrow su h1 (hi.trans hqF)
  have hg := HG.guarded b s4 (hB.inv (pushTryFrame_inv _ _ hIF))
  unfold activation
  generalize (if s4.interrupted then (Outcome.fatal, s4) else runF b s4) = r at hg
  obtain ⟨o, t⟩ := r
  obtain ⟨hc, hq⟩ := hg
  cases o with
  | yielded =>
    have ⟨h1, h2⟩ := hsusp t hc.1 hc.2
    exact Good.normal h1 (h2.trans ((hq nofun).trans hq4))
  | normal =>
    have ⟨h1, h2⟩ := hret t hc
    exact Good.normal h1 (h2.trans ((hq nofun).trans hq4))
  | exit e =>
    have ⟨h1, h2⟩ := hret t hc
    exact Good.normal h1 (h2.trans ((hq nofun).trans hq4))
  | stuck => exact hc.elim
  | thrown => exact unwind .thrown t hc fun _ => hq nofun
  | fatal => exact unwind .fatal t hc nofun

theorem drop_len_append {α : Type} (e l : List α) : (e ++ l).drop ((e ++ l).length - l.length) = l := by
  rw [List.length_append, Nat.add_sub_cancel, List.drop_left]

theorem suspendable {s4 s5 : Vm} (h : Ext false s4 s5) (hcs : s5.callStack = s4.callStack) :
    s5.regs = s4.regs ∧ (∃ e, s5.tryStack = e ++ s4.tryStack) ∧ (∃ e, s5.iterStack = s4.iterStack ++ e) ∧
    (∃ e, s5.refStack = s4.refStack ++ e) := by
  obtain ⟨e1, he1, hr1⟩ := h.cs
  cases List.append_right_eq_self.mp (he1.symm.trans hcs)
  obtain ⟨e4, he4, _⟩ := h.ts
  exact ⟨hr1, ⟨e4, he4⟩, h.is, h.rs⟩

theorem cutBack_spec {s5 t : Vm} (h : Ext false s5 t) (hcs : t.callStack = s5.callStack) :
    (cutBack s5 t).tryStack = s5.tryStack ∧ (cutBack s5 t).iterStack = s5.iterStack ∧
    (cutBack s5 t).refStack = s5.refStack ∧ (cutBack s5 t).sp = s5.sb - 1 := by
  obtain ⟨hr, ⟨e4, he4⟩, ⟨e2, he2⟩, ⟨e3, he3⟩⟩ := suspendable h hcs
  refine ⟨?_, ?_, ?_, congrArg (fun r : Regs => r.sb - 1) hr⟩
  · show t.tryStack.drop (t.tryStack.length - s5.tryStack.length) = s5.tryStack
    rw [he4]; exact drop_len_append e4 _
  · show t.iterStack.take s5.iterStack.length = s5.iterStack
    rw [he2]; exact List.take_left
  · show t.refStack.take s5.refStack.length = s5.refStack
    rw [he3]; exact List.take_left

/-- the state in which enterNext's marker is pushed, with the registers the halt frame will give back (`ctxHalt`:
no program, `sb`, `args`, `newTarget` 0) -/
def markerState (s : Vm) : Vm :=
  { s with callStack := s.callStack ++ [saveCtx s], prg := none, sb := 0, args := 0, newTarget := 0 }

/-- `s4`: the resumed activation of a generator called from `s` (generator.enterNext + vm.resume), above the marker
`tf` and the halt frame -/
structure Resumed (s s4 : Vm) (tf : TryFrame) : Prop where
  cs : s4.callStack = s.callStack ++ [saveCtx s, ctxHalt]
  ts : s4.tryStack = tf :: s.tryStack
  is : s4.iterStack = s.iterStack
  rs : s4.refStack = s.refStack
  sb : s4.sb = s.sp + 1

theorem genEnterNext_spec (g : GenObj) (s s4 : Vm) (h : genEnterNext g s = some s4) :
    (∃ tf, Resumed s s4 tf) ∧ s4.interrupted = s.interrupted ∧
    Ext true (pushTryFrame tryPanicMarker (-1) (markerState s)) s4 := by
  cases map_pushCtx_some h
  exact ⟨⟨_, List.append_assoc s.callStack [saveCtx s] [ctxHalt], rfl, rfl, rfl, rfl⟩, rfl,
    Ext.of_push (x := ctxHalt) rfl rfl rfl rfl rfl⟩

theorem popCtx_markerState {s t : Vm} (h : Same (markerState s) t) :
    Same s (popCtx t) ∧ (popCtx t).interrupted = t.interrupted :=
  ⟨popCtx_same _ h.cs rfl rfl rfl ((popCtx_sp _).trans h.sp) h.ts h.is h.rs, popCtx_intr _⟩

theorem genLeave_spec {s s4 t : Vm} {tf : TryFrame} (hR : Resumed s s4 tf) (h : Ext false s4 t)
    (hcs : t.callStack = s4.callStack) :
    Same s (genLeave s4.tryStack.length s4.iterStack.length s4.refStack.length t) ∧
    (genLeave s4.tryStack.length s4.iterStack.length s4.refStack.length t).interrupted = t.interrupted := by
  -- `genLeave` with the lengths of `s4` is `cutBack s4`, then the two pops
  show Same s (popCtx (popTryFrame (cutBack s4 t))) ∧ (popCtx (popTryFrame (cutBack s4 t))).interrupted = t.interrupted
  obtain ⟨c1, c2, c3, c4⟩ := cutBack_spec h hcs
  refine ⟨popCtx_same (c := saveCtx s) _ ?_ rfl rfl rfl ((popCtx_sp _).trans (c4.trans (hR.sb ▸ Int.add_sub_cancel _ _)))
    ((congrArg List.tail (c1.trans hR.ts))) (c2.trans hR.is) (c3.trans hR.rs), popCtx_intr _⟩
  show t.callStack.dropLast = _
  rw [hcs, hR.cs]
  exact List.dropLast_append_cons

theorem genFinish_spec {s s4 t : Vm} {tf : TryFrame} (hR : Resumed s s4 tf) (h : Same s4 t) :
    Same s (genFinish t) ∧ (genFinish t).interrupted = t.interrupted := by
  have e0 : ({ t with sp := t.sb } : Vm).callStack = (s.callStack ++ [saveCtx s]) ++ [ctxHalt] :=
    (h.cs.trans hR.cs).trans (List.append_assoc s.callStack [_] [_]).symm
  have hsb : t.sb - 1 = s.sp := by
    have e : t.sb = s4.sb := congrArg Regs.sb h.regs
    rw [e, hR.sb]; exact Int.add_sub_cancel _ _
  unfold genFinish
  rw [popCtx_snoc _ _ _ e0]
  exact ⟨popCtx_same _ rfl rfl rfl rfl ((popCtx_sp _).trans hsb) (congrArg List.tail (h.ts.trans hR.ts))
    (h.is.trans hR.is) (h.rs.trans hR.rs), popCtx_intr _⟩

theorem genNew_good (slot n : Nat) (f : FnInfo) (body : Beh) (s : Vm) : Good s (genNew slot n f body s) := by
  dsimp only [genNew]
  cases h1 : pushCtx { s with sp := s.sp + 2 + n } with
  | none => exact Good.fatal (Ext.of_stacks rfl rfl rfl rfl rfl)
  | some s2 =>
    cases pushCtx_some h1
    dsimp only
    split
    · exact Good.fatal (Ext.of_push rfl rfl rfl rfl rfl)
    · refine Good.normal (Same.withGen ?_ slot _) (popCtx_intr _)
      exact popCtx_same (c := saveCtx { s with sp := s.sp + 2 + n }) s.sp rfl rfl rfl rfl rfl rfl rfl rfl

theorem genResume_good {runF : RunF} (HG : HypG runF) (HA : HypA runF) (slot : Nat) (what : Option Beh)
    (isThrow : Bool) (s : Vm) : Good s (genResume runF slot what isThrow s) := by
  rw [genResume_def]
  have thr : ∀ {t}, Same s t → t.interrupted = s.interrupted → Good s (.thrown, t) :=
    fun h hq => Good.thrown (h.toExt true) hq
  have either : Good s (if isThrow then (Outcome.thrown, s) else (Outcome.normal, s)) := by
    cases isThrow
    · exact Good.normal (Same.refl s) rfl
    · exact thr (Same.refl s) rfl
  cases getGen s slot with
  | none => exact either
  | some g =>
    dsimp only
    cases g.state with
    | completed => exact either
    | executing => exact thr (Same.refl s) rfl
    | suspended =>
      dsimp only
      split
      · cases isThrow
        · exact Good.normal ((Same.refl s).withGen slot _) rfl
        · exact thr ((Same.refl s).withGen slot _) rfl
      · cases he : genEnterNext g s with
        | none => exact Good.fatal (((Same.refl s).withGen slot _).toExt false)
        | some s4 =>
          obtain ⟨⟨tf, hR⟩, hq4, hB⟩ := genEnterNext_spec g s s4 he
          refine activation_good HG HA _ (sF := markerState s) (Ext.of_push rfl rfl rfl rfl rfl) rfl
            (inv_of_ne (List.concat_ne_nil _ _)) (hB.withGen slot _) hq4 ?_ ?_ ?_
          · intro t h hcs
            have ⟨h1, h2⟩ := genLeave_spec (s4 := setGen s4 slot _) ⟨hR.cs, hR.ts, hR.is, hR.rs, hR.sb⟩ h hcs
            exact ⟨h1.withGen slot _, h2⟩
          · intro t h
            have ⟨h1, h2⟩ := genFinish_spec hR (h.dropGen slot _)
            exact ⟨h1.withGen slot _, h2⟩
          · intro t h hq
            have ⟨h1, h2⟩ := popCtx_markerState h
            exact thr (h1.withGen slot _) (h2.trans hq)

theorem asyncResume_good {runF : RunF} (HG : HypG runF) (HA : HypA runF) (id : Nat) (s : Vm) :
    Good s (asyncResume runF id s) := by
  rw [asyncResume_def]
  cases getGen s id with
  | none => exact Good.normal (Same.refl s) rfl
  | some g =>
    dsimp only
    cases he : genEnterNext g s with
    | none => exact Good.fatal ((Same.refl s).toExt false)
    | some s4 =>
      obtain ⟨⟨tf, hR⟩, hq4, hB⟩ := genEnterNext_spec g s s4 he
      refine activation_good HG HA _ (sF := markerState s) (Ext.of_push rfl rfl rfl rfl rfl) rfl
        (inv_of_ne (List.concat_ne_nil _ _)) hB hq4 ?_ ?_ ?_
      · intro t h hcs
        have ⟨h1, h2⟩ := genLeave_spec hR h hcs
        exact ⟨(h1.withGen id _).withJobs _, h2⟩
      · intro t h
        have ⟨h1, h2⟩ := genFinish_spec hR h
        exact ⟨h1.withGen id _, h2⟩
      · intro t h hq
        have ⟨h1, h2⟩ := popCtx_markerState h
        exact Good.normal (h1.withGen id _) (h2.trans hq)   -- promiseCap.reject: the job returns normally

theorem asyncResumeCA_good {runF : RunF} (HG : HypG runF) (HA : HypA runF) (id : Nat) (s : Vm) :
    Good s (asyncResumeCA runF id s) := by
  have h := asyncResume_good HG HA id { s with curAsync := true }
  unfold asyncResumeCA
  generalize asyncResume runF id { s with curAsync := true } = r at h
  obtain ⟨o, s1⟩ := r
  obtain ⟨hc, hq⟩ := h
  refine ⟨?_, hq⟩
  cases o with
  | normal => exact (hc.caL true).caR false
  | thrown => exact (hc.caL true).caR false
  | fatal => exact (hc.caL true).caR false
  | stuck => exact hc.elim
  | exit e => exact (hc.caL true).caR false
  | yielded => exact ⟨(hc.1.caL true).caR false, hc.2⟩

/-- the state in which enter()'s marker is pushed, with the registers the callee's saved context gives back -/
def enterState (n : Nat) (s : Vm) : Vm :=
  { s with sp := s.sp + 2 + n, callStack := s.callStack ++ [saveCtx s], prg := none, sb := -1 }

theorem actBack_spec {s t : Vm} (hcs : t.callStack = s.callStack ++ [saveCtx s]) (hts : t.tryStack = s.tryStack)
    (his : t.iterStack = s.iterStack) (hrs : t.refStack = s.refStack) :
    Same s (actBack s t) ∧ (actBack s t).interrupted = t.interrupted :=
  ⟨popCtx_same s.sp hcs rfl rfl rfl rfl hts his hrs, popCtx_intr _⟩

theorem actEnter_spec {n : Nat} {s s3 : Vm} (h : actEnter n s = some s3) :
    s3 = { pushTryFrame tryPanicMarker (-1) (enterState n s) with pc := -2 } := by
  cases map_pushCtx_some h
  rfl

theorem actCall_spec {n : Nat} {f : FnInfo} {s3 s5 : Vm} (h : actCall n f s3 = some s5) :
    s5.callStack = s3.callStack ++ [saveCtx s3] ∧ s5.tryStack = s3.tryStack ∧ s5.iterStack = s3.iterStack ∧
    s5.refStack = s3.refStack ∧ s5.interrupted = s3.interrupted := by
  cases map_pushCtx_some h
  exact ⟨rfl, rfl, rfl, rfl, rfl⟩

theorem asyncNew_good {runF : RunF} (HG : HypG runF) (HA : HypA runF) (n : Nat) (f : FnInfo) (body : Beh) (s : Vm) :
    Good s (asyncNew runF n f body s) := by
  rw [asyncNew_def]
  cases h1 : actEnter n s with
  | none => exact Good.fatal (Ext.of_stacks rfl rfl rfl rfl rfl)
  | some s3 =>
    cases actEnter_spec h1
    dsimp only
    cases h2 : actCall n f _ with
    | none =>    -- dropMarkerOnPanic
      exact Good.fatal (Ext.of_push (x := saveCtx s) rfl rfl rfl rfl rfl)
    | some s5 =>
      obtain ⟨cs5, ts5, is5, rs5, q5⟩ := actCall_spec h2
      -- the callee starts above the caller's context, the marker and its own saved context (which makes `ret` halt)
      refine activation_good HG HA _ (sF := enterState n s)
        (Ext.of_push (x := saveCtx s) rfl rfl rfl rfl rfl) rfl
        (inv_of_ne (List.concat_ne_nil _ _)) (Ext.of_push cs5 rfl is5 rs5 ts5) q5 ?_ ?_ ?_
      · intro t h hcs
        obtain ⟨c1, c2, c3, _⟩ := cutBack_spec h hcs
        exact actBack_spec ((congrArg List.dropLast (hcs.trans cs5)).trans List.dropLast_concat)
          (congrArg List.tail (c1.trans ts5)) (c2.trans is5) (c3.trans rs5)
      · intro t h
        rw [popCtx_snoc { t with sp := t.sb } _ _ (h.cs.trans cs5)]
        exact actBack_spec rfl (congrArg List.tail (h.ts.trans ts5)) (h.is.trans is5) (h.rs.trans rs5)
      · intro t h hq
        have ⟨h1, h2⟩ := actBack_spec h.cs h.ts h.is h.rs
        exact Good.normal h1 (h2.trans hq)    -- the promise is rejected: NORMAL return

end GojaModel.C03
