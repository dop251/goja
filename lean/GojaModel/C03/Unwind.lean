/-
  C03 — try frames and unwinding: where handleThrow lands (`handleThrow_lands`) and what the deferred recover of a
  Go-side boundary restores (`unwind_after_body`).
-/
import GojaModel.C03.Discipline

namespace GojaModel.C03

structure AtFrame (s sX : Vm) (tf : TryFrame) : Prop where
  sp : sX.sp = s.sp
  regs : sX.regs = s.regs
  stash : sX.stash = s.stash
  privEnv : sX.privEnv = s.privEnv
  cs : sX.callStack = s.callStack
  is : sX.iterStack = s.iterStack
  rs : sX.refStack = s.refStack
  ts : sX.tryStack = tf :: s.tryStack

theorem AtFrame.cut {s sX : Vm} {tf : TryFrame} (h : AtFrame s sX tf) {l : List TryFrame} (hl : l = s.tryStack) :
    Same s { sX with tryStack := l } :=
  ⟨h.sp, h.regs, h.stash, h.privEnv, h.cs, hl, h.is, h.rs⟩

theorem AtFrame.pop {s sX : Vm} {tf : TryFrame} (h : AtFrame s sX tf) : Same s (popTryFrame sX) :=
  h.cut (congrArg List.tail h.ts)

theorem AtFrame.inv {s sX : Vm} {tf : TryFrame} (h : AtFrame s sX tf) (hI : Inv s) : Inv sX :=
  inv_of_eq h.regs h.cs hI

theorem AtFrame.of_same {s sX t : Vm} {tf : TryFrame} (hA : AtFrame s sX tf) (h : Same sX t) : AtFrame s t tf :=
  ⟨h.sp.trans hA.sp, h.regs.trans hA.regs, h.stash.trans hA.stash, h.privEnv.trans hA.privEnv, h.cs.trans hA.cs,
   h.is.trans hA.is, h.rs.trans hA.rs, h.ts.trans hA.ts⟩

theorem AtFrame.toExt {s sX : Vm} {tf : TryFrame} (c : Bool) (h : AtFrame s sX tf)
    (hjs : tf.catchPos ≠ tryPanicMarker) (hc : c = true → isConsumed tf = true) : Ext c s sX :=
  ⟨⟨[], h.cs.trans (List.append_nil _).symm, h.regs⟩, ⟨[], h.is.trans (List.append_nil _).symm⟩,
   ⟨[], h.rs.trans (List.append_nil _).symm⟩, [tf], h.ts,
   fun f hm => by cases List.mem_singleton.mp hm; exact ⟨hjs, hc⟩⟩

theorem Same.atFrame {tf : TryFrame} {s t : Vm} (h : Same { s with tryStack := tf :: s.tryStack } t) : AtFrame s t tf :=
  ⟨h.sp, h.regs, h.stash, h.privEnv, h.cs, h.is, h.rs, h.ts⟩

theorem same_of_atFrame_pop {s sX t : Vm} {tf : TryFrame} (hA : AtFrame s sX tf) (hs : Same sX t) :
    Same s { t with tryStack := s.tryStack } :=
  (hA.of_same hs).cut rfl

theorem same_pop_of_push {cp fp : Int} {s s1 : Vm} (h : Same (pushTryFrame cp fp s) s1) :
    Same s (popTryFrame s1) :=
  (Same.atFrame (tf := _) h).pop

/-- `tf` is (a later state of) the frame that `pushTryFrame` created in state `s0` -/
structure FrameOf (s0 : Vm) (tf : TryFrame) : Prop where
  cs : tf.callStackLen = s0.callStack.length
  is : tf.iterLen = s0.iterStack.length
  rs : tf.refLen = s0.refStack.length
  sp : tf.sp = s0.sp
  stash : tf.stash = s0.stash
  privEnv : tf.privEnv = s0.privEnv

theorem pushTryFrame_atFrame (cp fp : Int) (s : Vm) :
    ∃ tf, AtFrame s (pushTryFrame cp fp s) tf ∧ FrameOf s tf ∧ tf.catchPos = cp ∧ tf.finallyPos = fp ∧
      tf.exception = none ∧ (pushTryFrame cp fp s).interrupted = s.interrupted :=
  ⟨_, ⟨rfl, rfl, rfl, rfl, rfl, rfl, rfl, rfl⟩, ⟨rfl, rfl, rfl, rfl, rfl, rfl⟩, rfl, rfl, rfl, rfl⟩

theorem pushTryFrame_inv (cp fp : Int) {s : Vm} (h : Inv s) : Inv (pushTryFrame cp fp s) :=
  inv_of_eq rfl rfl h

/-- handleThrow skips this frame (vm.go handleThrow, first `if`) -/
def skipped (catchable : Bool) (tf : TryFrame) : Bool :=
  isConsumed tf || (!catchable && tf.catchPos != tryPanicMarker)

theorem skipped_marker (c : Bool) (tf : TryFrame) (h : tf.catchPos = tryPanicMarker) :
    skipped c tf = false := by
  simp [skipped, isConsumed, h, tryPanicMarker]

theorem skipped_of_consumed (c : Bool) {f : TryFrame} (h : isConsumed f = true) : skipped c f = true := by
  unfold skipped; rw [h]; rfl

theorem live_of_entry {tf : TryFrame} (h : tf.catchPos ≥ 0 ∨ tf.finallyPos ≥ 0) : skipped true tf = false := by
  have hc : isConsumed tf = false := by
    unfold isConsumed
    rcases h with h | h
    · rw [beq_false_of_ne (show tf.catchPos ≠ -1 by omega), Bool.false_and]
    · rw [beq_false_of_ne (show tf.finallyPos ≠ -1 by omega), Bool.and_false]
  unfold skipped; rw [hc]; rfl

/-- the iterator and reference stacks are overwritten in the statement: `_restoreStacks` cuts them next -/
theorem restoreFrame_spec (s0 s1 : Vm) (tf : TryFrame) (hF : FrameOf s0 tf) (ec : List Ctx)
    (hcs : s1.callStack = s0.callStack ++ ec) (hregs : levelRegs ec s1 = s0.regs)
    (hts : s1.tryStack = tf :: s0.tryStack) :
    AtFrame s0 { restoreFrame tf s1 with iterStack := s0.iterStack, refStack := s0.refStack } tf ∧
    (restoreFrame tf s1).iterStack = s1.iterStack ∧ (restoreFrame tf s1).refStack = s1.refStack ∧
    (restoreFrame tf s1).interrupted = s1.interrupted := by
  unfold restoreFrame
  cases ec with
  | nil =>
    have h0 : s1.callStack[tf.callStackLen]? = none := by simp [hcs, hF.cs]
    rw [h0]
    exact ⟨⟨hF.sp, hregs, hF.stash, hF.privEnv, hcs.trans (List.append_nil _), rfl, rfl, hts⟩, rfl, rfl, rfl⟩
  | cons c rest =>
    have h0 : s1.callStack[tf.callStackLen]? = some c := by simp [hcs, hF.cs]
    rw [h0]
    exact ⟨⟨hF.sp, hregs, hF.stash, hF.privEnv, by rw [hcs, hF.cs]; exact List.take_left, rfl, rfl, hts⟩, rfl, rfl, rfl⟩

theorem restoreStacks_spec {runF : RunF} (HA : HypA runF) (doClose : Bool) (s1 : Vm) (hI : Inv s1)
    (bi ei : List IterItem) (br er : List Nat) (hi : s1.iterStack = bi ++ ei) (hr : s1.refStack = br ++ er) :
    Same { s1 with iterStack := bi, refStack := br } (restoreStacks runF doClose bi.length br.length s1).2 ∧
    ((restoreStacks runF doClose bi.length br.length s1).1 = false →
      (restoreStacks runF doClose bi.length br.length s1).2.interrupted = s1.interrupted) := by
  unfold restoreStacks
  cases doClose with
  | false => exact ⟨⟨rfl, rfl, rfl, rfl, rfl, rfl, by simp [hi], by simp [hr]⟩, fun _ => rfl⟩
  | true =>
    have hc := closeIters_spec HA (s1.iterStack.drop bi.length).reverse s1 hI
    simp only [if_true]
    generalize closeIters runF (s1.iterStack.drop bi.length).reverse s1 = cl at hc ⊢
    obtain ⟨h, hq⟩ := hc
    exact ⟨⟨h.sp, h.regs, h.stash, h.privEnv, h.cs, h.ts, by simp [h.is, hi], by simp [h.rs, hr]⟩, hq⟩

theorem handleThrow_unfold {runF : RunF} {c : Bool} {s : Vm} {l : List TryFrame} (h : s.tryStack = l) :
    handleThrow runF c s = handleThrowLoop runF c l s := h ▸ rfl

/-- what handleThrow answers when it stops at the frame `tf` that was pushed in `s0` -/
def Landed (s0 : Vm) (tf : TryFrame) (r : HT × Vm) : Prop :=
  match r.1 with
  | .empty => False
  | .aborted => AtFrame s0 r.2 tf
  | .atMarker => tf.catchPos = tryPanicMarker ∧ AtFrame s0 r.2 tf
  | .caught => tf.catchPos ≥ 0 ∧ AtFrame s0 { r.2 with sp := r.2.sp - 1 } { tf with catchPos := -1 }
  | .fin => tf.catchPos ≠ tryPanicMarker ∧ ¬ tf.catchPos ≥ 0 ∧
      AtFrame s0 r.2 { tf with exception := some 1, finallyPos := -1, finallyRet := -1 }

/-- `Landed` field by field, as `handleThrow_restores` states it -/
theorem Landed.restores {s0 : Vm} {tf : TryFrame} {r : HT × Vm} (h : Landed s0 tf r) :
    r.2.regs = s0.regs ∧ r.2.stash = s0.stash ∧ r.2.privEnv = s0.privEnv ∧ r.2.callStack = s0.callStack ∧
    r.2.iterStack = s0.iterStack ∧ r.2.refStack = s0.refStack ∧ r.1 ≠ .empty ∧
    (r.1 = .caught → r.2.sp = s0.sp + 1) ∧ (r.1 ≠ .caught → r.2.sp = s0.sp) ∧
    r.2.tryStack.length = s0.tryStack.length + 1 := by
  obtain ⟨ht, s2⟩ := r
  have key : ∀ {X : Vm} {tf' : TryFrame} {A B : Prop}, AtFrame s0 X tf' → ht ≠ .empty → (X.sp = s0.sp → A) →
      (X.sp = s0.sp → B) →
      X.regs = s0.regs ∧ X.stash = s0.stash ∧ X.privEnv = s0.privEnv ∧ X.callStack = s0.callStack ∧
      X.iterStack = s0.iterStack ∧ X.refStack = s0.refStack ∧ ht ≠ .empty ∧ A ∧ B ∧
      X.tryStack.length = s0.tryStack.length + 1 :=
    fun hA hne hP hQ =>
      ⟨hA.regs, hA.stash, hA.privEnv, hA.cs, hA.is, hA.rs, hne, hP hA.sp, hQ hA.sp, congrArg List.length hA.ts⟩
  cases ht with
  | empty => exact h.elim
  | aborted => exact key h nofun nofun fun hsp _ => hsp
  | atMarker => exact key h.2 nofun nofun fun hsp _ => hsp
  | fin => exact key h.2.2 nofun nofun fun hsp _ => hsp
  | caught =>
    exact key (X := { s2 with sp := s2.sp - 1 }) h.2 nofun (fun hsp _ => Int.sub_eq_iff_eq_add.mp hsp)
      fun _ hn => absurd rfl hn

/-- the tail of one round of handleThrow's loop (vm.go:858-881), `r` being what `_restoreStacks` returned -/
def land (tf : TryFrame) (rest : List TryFrame) (r : Bool × Vm) : HT × Vm :=
  if r.1 then (.aborted, r.2)
  else if tf.catchPos == tryPanicMarker then (.atMarker, r.2)
  else if tf.catchPos ≥ 0 then
    (.caught, { r.2 with sp := r.2.sp + 1, pc := tf.catchPos, tryStack := { tf with catchPos := -1 } :: rest })
  else if tf.finallyPos ≥ 0 then
    (.fin, { r.2 with pc := tf.finallyPos,
                      tryStack := { tf with exception := some 1, finallyPos := -1, finallyRet := -1 } :: rest })
  else (.empty, r.2)

theorem handleThrowLoop_cons (runF : RunF) (c : Bool) (tf : TryFrame) (rest : List TryFrame) (s : Vm) :
    handleThrowLoop runF c (tf :: rest) s =
      if skipped c tf then handleThrowLoop runF c rest { s with tryStack := rest }
      else land tf rest (restoreStacks runF c tf.iterLen tf.refLen (restoreFrame tf { s with tryStack := tf :: rest })) :=
  rfl

theorem land_spec {s0 : Vm} {tf : TryFrame} {r : Bool × Vm} {q : Bool} (hA : AtFrame s0 r.2 tf)
    (hq : r.1 = false → r.2.interrupted = q)
    (hwf : tf.catchPos = tryPanicMarker ∨ tf.catchPos ≥ 0 ∨ tf.finallyPos ≥ 0) :
    Landed s0 tf (land tf s0.tryStack r) ∧
    ((land tf s0.tryStack r).1 ≠ .aborted → (land tf s0.tryStack r).2.interrupted = q) := by
  obtain ⟨ab, t⟩ := r
  unfold land
  cases ab with
  | true => exact ⟨hA, fun h => absurd rfl h⟩
  | false =>
    have hq := hq rfl
    have hsp : t.sp = s0.sp := hA.sp
    rw [if_neg Bool.false_ne_true]
    by_cases hm : (tf.catchPos == tryPanicMarker) = true
    · rw [if_pos hm]
      exact ⟨⟨eq_of_beq hm, hA⟩, fun _ => hq⟩
    · rw [if_neg hm]
      by_cases hc : tf.catchPos ≥ 0
      · rw [if_pos hc]
        exact ⟨⟨hc, (show t.sp + 1 - 1 = s0.sp from hsp ▸ Int.add_sub_cancel _ _), hA.regs, hA.stash, hA.privEnv, hA.cs,
          hA.is, hA.rs, rfl⟩, fun _ => hq⟩
      · have hfin : tf.finallyPos ≥ 0 := by
          rcases hwf with h | h | h
          · exact absurd (beq_iff_eq.mpr h) hm
          · exact absurd h hc
          · exact h
        rw [if_neg hc, if_pos hfin]
        exact ⟨⟨fun h => hm (beq_iff_eq.mpr h), hc, hA.sp, hA.regs, hA.stash, hA.privEnv, hA.cs, hA.is, hA.rs, rfl⟩,
          fun _ => hq⟩

theorem handleThrowLoop_spec {runF : RunF} (HA : HypA runF) (catchable : Bool)
    (s0 : Vm) (hI : Inv s0) (tf : TryFrame) (hF : FrameOf s0 tf)
    (hlive : skipped catchable tf = false)
    (hwf : tf.catchPos = tryPanicMarker ∨ tf.catchPos ≥ 0 ∨ tf.finallyPos ≥ 0) :
    ∀ (e : List TryFrame) (s1 : Vm),
      (∀ f ∈ e, skipped catchable f = true) →
      (∃ ec, s1.callStack = s0.callStack ++ ec ∧ levelRegs ec s1 = s0.regs) →
      (∃ ei, s1.iterStack = s0.iterStack ++ ei) → (∃ er, s1.refStack = s0.refStack ++ er) →
      Landed s0 tf (handleThrowLoop runF catchable (e ++ tf :: s0.tryStack) s1) ∧
      ((handleThrowLoop runF catchable (e ++ tf :: s0.tryStack) s1).1 ≠ .aborted →
        (handleThrowLoop runF catchable (e ++ tf :: s0.tryStack) s1).2.interrupted = s1.interrupted) := by
  intro e
  induction e with
  | cons f rest ih =>
    intro s1 hsk hcs his hrs
    rw [List.cons_append, handleThrowLoop_cons, hsk f List.mem_cons_self, if_pos rfl]
    exact ih { s1 with tryStack := rest ++ tf :: s0.tryStack } (fun g hg => hsk g (List.mem_cons_of_mem _ hg)) hcs his hrs
  | nil =>
    intro s1 _ hcs his hrs
    obtain ⟨ec, hec, hregs⟩ := hcs
    obtain ⟨ei, hei⟩ := his
    obtain ⟨er, her⟩ := hrs
    rw [List.nil_append, handleThrowLoop_cons, hlive, if_neg Bool.false_ne_true]
    have hrf := restoreFrame_spec s0 { s1 with tryStack := tf :: s0.tryStack } tf hF ec hec hregs rfl
    generalize restoreFrame tf { s1 with tryStack := tf :: s0.tryStack } = s2 at hrf ⊢
    obtain ⟨hA, h7, h8, h9⟩ := hrf
    have hrs := restoreStacks_spec HA catchable s2 (hA.inv hI) s0.iterStack ei s0.refStack er
      (h7.trans hei) (h8.trans her)
    rw [hF.is, hF.rs]
    generalize restoreStacks runF catchable s0.iterStack.length s0.refStack.length s2 = rs at hrs ⊢
    exact land_spec (hA.of_same hrs.1) (fun h => (hrs.2 h).trans h9) hwf

theorem handleThrow_lands {runF : RunF} (HA : HypA runF) {c : Bool} {s sX s1 : Vm} {tf : TryFrame} (hI : Inv s)
    (hA : AtFrame s sX tf) (hF : FrameOf s tf)
    (hstop : tf.catchPos = tryPanicMarker ∨ (c = true ∧ (tf.catchPos ≥ 0 ∨ tf.finallyPos ≥ 0)))
    (hext : Ext c sX s1) :
    Landed s tf (handleThrow runF c s1) ∧
    ((handleThrow runF c s1).1 ≠ .aborted → (handleThrow runF c s1).2.interrupted = s1.interrupted) := by
  have hlive : skipped c tf = false := by
    rcases hstop with h | ⟨rfl, h⟩
    · exact skipped_marker c tf h
    · exact live_of_entry h
  have hwf : tf.catchPos = tryPanicMarker ∨ tf.catchPos ≥ 0 ∨ tf.finallyPos ≥ 0 := hstop.imp id (·.2)
  obtain ⟨e, he, hfr⟩ := hext.ts
  obtain ⟨ec, hec, hregs⟩ := hext.cs
  obtain ⟨ei, hei⟩ := hext.is
  obtain ⟨er, her⟩ := hext.rs
  rw [handleThrow_unfold (he.trans (congrArg (e ++ ·) hA.ts))]
  refine handleThrowLoop_spec HA c s hI tf hF hlive hwf e s1 (fun f hm => ?_)
    ⟨ec, hec.trans (congrArg (· ++ ec) hA.cs), hregs.trans hA.regs⟩ ⟨ei, hei.trans (congrArg (· ++ ei) hA.is)⟩
    ⟨er, her.trans (congrArg (· ++ er) hA.rs)⟩
  -- a frame that `Ext c` allows is skipped: consumed for a catchable throw, not a marker for an uncatchable one
  cases c with
  | true => exact skipped_of_consumed true ((hfr f hm).2 rfl)
  | false => simp [skipped, (hfr f hm).1]

theorem unwind_no_exit (runF : RunF) (o : Outcome) (s : Vm) :
    (∀ e, (unwindAtMarker runF o s).1 ≠ .exit e) ∧ (unwindAtMarker runF o s).1 ≠ .yielded := by
  unfold unwindAtMarker
  generalize handleThrow runF (o == .thrown) s = h
  obtain ⟨ht, t⟩ := h
  cases ht <;> dsimp only <;> (try split) <;> exact ⟨nofun, nofun⟩

/-- the deferred recover of a boundary that pushed its marker in `sF` gives the boundary's guarantee for `sF` and
never answers `normal`.  `sB`, where the body starts, may extend the state with the marker (`__call` pushes its
contexts after it) -/
theorem unwind_after_body {runF : RunF} (HA : HypA runF) (o : Outcome) {sF sB s1 : Vm} (hI : Inv sF)
    (hB : Ext true (pushTryFrame tryPanicMarker (-1) sF) sB) (hext : Ext (o == .thrown) sB s1)
    (hq : o = .thrown → s1.interrupted = sF.interrupted) :
    ApiGood sF (unwindAtMarker runF o s1) ∧ (unwindAtMarker runF o s1).1 ≠ .normal := by
  obtain ⟨tf, hA, hF, hm, -⟩ := pushTryFrame_atFrame tryPanicMarker (-1) sF
  have hs := handleThrow_lands HA hI hA hF (.inl hm) ((hB.mono _).trans hext)
  unfold unwindAtMarker
  generalize handleThrow runF (o == .thrown) s1 = h at hs ⊢
  obtain ⟨ht, s2⟩ := h
  obtain ⟨hL, aq⟩ := hs
  cases ht with
  | atMarker =>
    by_cases ho : o = .thrown
    · subst ho
      exact ⟨ApiGood.thrown hL.2.pop ((aq nofun).trans (hq rfl)), nofun⟩
    · rw [beq_false_of_ne ho]
      exact ⟨ApiGood.fatal hL.2.pop, nofun⟩
  | aborted => exact ⟨ApiGood.fatal hL.pop, nofun⟩
  | caught => exact absurd (hm ▸ hL.1 : tryPanicMarker ≥ 0) (by decide)
  | fin => exact absurd hm hL.1
  | empty => exact hL.elim

/-- an abrupt ending with a boundary's guarantee for `sF`, seen from a state `s` that `sF` extends -/
theorem ApiGood.abrupt {s sF : Vm} {u : Res} (h : ApiGood sF u) (hn : u.1 ≠ .normal) (hE : Ext true s sF)
    (hq : sF.interrupted = s.interrupted) : Good s u := by
  obtain ⟨t, hsame, rfl | ⟨hi, rfl | rfl⟩⟩ := h.cases
  · exact Good.fatal ((hE.mono false).trans (hsame.toExt false))
  · exact absurd rfl hn
  · exact Good.thrown (hE.trans (hsame.toExt true)) (hi.trans hq)

end GojaModel.C03
