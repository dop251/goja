/-
  C03 — per-node lemmas, Go-side boundaries: vm.try, the run loop under a marker, __call, RunProgram (recursive and
  outermost), leave, runWrapped.
-/
import GojaModel.C03.Unwind

namespace GojaModel.C03

theorem tryB_spec {runF : RunF} (HG : HypG runF) (HA : HypA runF) (b : Beh) (s : Vm) (hI : Inv s) :
    ApiGood s (tryB runF b s) := by
  unfold tryB
  have hg := HG b (pushTryFrame tryPanicMarker (-1) s) (pushTryFrame_inv _ _ hI)
  generalize runF b _ = r at hg
  obtain ⟨o, s1⟩ := r
  obtain ⟨hc, hq⟩ := hg
  have key : ∀ (o' : Outcome), Ext (o' == .thrown) (pushTryFrame tryPanicMarker (-1) s) s1 →
      (o' = .thrown → s1.interrupted = s.interrupted) → ApiGood s (unwindAtMarker runF o' s1) := fun o' hext hq1 =>
    (unwind_after_body HA o' hI ((Same.refl _).toExt true) hext hq1).1
  cases o with
  | normal => exact ApiGood.normal (same_pop_of_push hc) (hq nofun)
  | exit e => exact ApiGood.normal (same_pop_of_push hc) (hq nofun)
  | stuck => exact hc.elim
  | thrown => exact key .thrown hc (fun _ => hq nofun)
  | fatal => exact key .fatal hc nofun
  | yielded => exact key .fatal hc.1 nofun

theorem runTryB_spec {runF : RunF} (HG : HypG runF) (HA : HypA runF) (b : Beh) (s : Vm) (hI : Inv s) :
    ApiGood s (runTryB runF b s) := by
  unfold runTryB
  split
  · exact (unwind_after_body HA .fatal hI ((Same.refl _).toExt true) ((Same.refl _).toExt false) nofun).1
  · exact tryB_spec HG HA b s hI

theorem goCallEnter_spec (n : Nat) (f : FnInfo) (s1 s3 : Vm) (np : Bool)
    (h : goCallEnter n f s1 = some (s3, np)) :
    ∃ c1 : Ctx, c1.regs = s1.regs ∧ c1.stash = s1.stash ∧ c1.privEnv = s1.privEnv ∧
      s3.callStack = s1.callStack ++ c1 :: (if np then [ctxHalt] else []) ∧
      s3.tryStack = s1.tryStack ∧ s3.iterStack = s1.iterStack ∧ s3.refStack = s1.refStack ∧
      s3.interrupted = s1.interrupted ∧ s3.sb = s1.sp - n - 1 := by
  unfold goCallEnter at h
  obtain ⟨⟨s2, np2⟩, hp, heq⟩ := Option.map_eq_some_iff.mp h
  cases heq
  split at hp
  · cases map_pushCtx_some hp
    exact ⟨saveCtx s1, rfl, rfl, rfl, List.append_assoc .., rfl, rfl, rfl, rfl, rfl⟩
  · cases map_pushCtx_some hp
    exact ⟨saveCtx { s1 with pc := -2 }, rfl, rfl, rfl, rfl, rfl, rfl, rfl, rfl, rfl⟩

theorem goCallRet_spec {s s3 s4 : Vm} {np : Bool} {c1 : Ctx} {tf : TryFrame}
    (hc1 : c1.regs = s.regs) (hst : c1.stash = s.stash) (hpe : c1.privEnv = s.privEnv)
    (hcs : s3.callStack = s.callStack ++ c1 :: (if np then [ctxHalt] else []))
    (hts : s3.tryStack = tf :: s.tryStack) (his : s3.iterStack = s.iterStack) (hrs : s3.refStack = s.refStack)
    (hsb : s3.sb = s.sp + 1) (h4 : Same s3 s4) :
    Same s (goCallRet np s4) ∧ (goCallRet np s4).interrupted = s4.interrupted := by
  have hsb4 : s4.sb - 1 = s.sp := by
    have e : s4.sb = s3.sb := congrArg Regs.sb h4.regs
    rw [e, hsb]; exact Int.add_sub_cancel _ _
  cases np with
  | false =>
    exact ⟨AtFrame.pop (tf := tf) (Same.atFrame (popCtx_same _ (h4.cs.trans hcs) hc1 hst hpe
      ((popCtx_sp _).symm ▸ hsb4) (h4.ts.trans hts) (h4.is.trans his) (h4.rs.trans hrs))), popCtx_intr _⟩
  | true =>
    have e1 : ({ s4 with sp := s4.sb } : Vm).callStack = (s.callStack ++ [c1]) ++ [ctxHalt] :=
      (h4.cs.trans hcs).trans (List.append_assoc s.callStack [c1] [_]).symm
    unfold goCallRet
    rw [popCtx_snoc _ _ _ e1]
    exact ⟨AtFrame.pop (tf := tf) (Same.atFrame (popCtx_same _ rfl hc1 hst hpe ((popCtx_sp _).symm ▸ hsb4)
      (h4.ts.trans hts) (h4.is.trans his) (h4.rs.trans hrs))), popCtx_intr _⟩

/-- after a throw or an uncatchable `sp` is not back (`Ext` leaves it free): the pushed callee/this/args stay until the
enclosing frame restores its snapshot -/
theorem goCall_good {runF : RunF} (HG : HypG runF) (HA : HypA runF) (n : Nat) (f : FnInfo) (b : Beh)
    (s : Vm) (hI : Inv s) : Good s (goCall runF n f b s) := by
  -- the marker is pushed in `sF`, which is `s` with the call's operands on the stack
  have hE : Ext true s { s with sp := s.sp + 2 + n } := Ext.of_stacks rfl rfl rfl rfl rfl
  have hIF : Inv ({ s with sp := s.sp + 2 + n } : Vm) := inv_of_eq rfl rfl hI
  dsimp only [goCall]
  cases he : goCallEnter n f (pushTryFrame tryPanicMarker (-1) { s with sp := s.sp + 2 + n }) with
  | none => exact Good.fatal (hE.mono false)
  | some pr =>
    obtain ⟨s3, np⟩ := pr
    obtain ⟨c1, hc1, hst, hpe, hcs, hts, his, hrs, hq3, hsb⟩ := goCallEnter_spec n f _ s3 np he
    have hB : Ext true (pushTryFrame tryPanicMarker (-1) { s with sp := s.sp + 2 + n }) s3 :=
      Ext.of_push hcs hc1 his hrs hts
    have unwind : ∀ (o : Outcome) (s4 : Vm), Ext (o == .thrown) s3 s4 →
        (o = .thrown → s4.interrupted = s3.interrupted) → Good s (unwindAtMarker runF o s4) :=
      fun o s4 hext hq4 =>
        have ⟨ha, hn⟩ := unwind_after_body HA o hIF hB hext fun ho => (hq4 ho).trans hq3
        ha.abrupt hn hE rfl
    have hg := HG.guarded b s3 (hB.inv (pushTryFrame_inv _ _ hIF))
    dsimp only
    generalize (if s3.interrupted then (Outcome.fatal, s3) else runF b s3) = r at hg
    obtain ⟨o, s4⟩ := r
    obtain ⟨hc, hq⟩ := hg
    have hsb' : s3.sb = s.sp + 1 := hsb.trans (callee_sb s.sp n)
    have ret : Same s3 s4 → s4.interrupted = s3.interrupted → Good s (.normal, goCallRet np s4) := fun hc hq =>
      have ⟨hsame, hqq⟩ := goCallRet_spec (s := s) hc1 hst hpe hcs hts his hrs hsb' hc
      Good.normal hsame (hqq.trans (hq.trans hq3))
    cases o with
    | normal => exact ret hc (hq nofun)
    | exit e => exact ret hc (hq nofun)
    | stuck => exact hc.elim
    | thrown => exact unwind .thrown s4 hc fun _ => hq nofun
    | fatal => exact unwind .fatal s4 hc nofun
    | yielded => exact unwind .fatal s4 hc.1 nofun

theorem runProgramRec_spec {runF : RunF} (HG : HypG runF) (HA : HypA runF) (p : Nat) (b : Beh)
    (s : Vm) : ApiGood s (runProgramRec runF p b s) := by
  unfold runProgramRec
  cases hp : pushCtx s with
  | none => exact ApiGood.fatal (Same.refl s)
  | some s1 =>
    cases pushCtx_some hp
    have ha := runTryB_spec HG HA b (recEnter p { s with callStack := s.callStack ++ [saveCtx s] })
      (inv_of_ne (List.concat_ne_nil _ _))
    dsimp only
    generalize runTryB runF b _ = r at ha
    obtain ⟨o, s4⟩ := r
    obtain ⟨h1, h2, h3⟩ := ha
    have hsp : s4.sp = s.sp + 2 := h2.sp
    exact ⟨h1, popCtx_same _ h2.cs rfl rfl rfl ((popCtx_sp _).trans (show s4.sp - 2 = s.sp from hsp ▸ Int.add_sub_cancel _ _)) h2.ts h2.is h2.rs,
      fun hnf => (popCtx_intr _).trans (h3 hnf)⟩

theorem leaveLoop_drains (runF : RunF) : ∀ (lf : Nat) (s : Vm),
    (leaveLoop runF lf s).1 = .normal → (leaveLoop runF lf s).2.jobQueue = [] := by
  intro lf
  induction lf with
  | zero => exact fun s h => nomatch h
  | succ n ih =>
    intro s
    unfold leaveLoop
    split
    · rename_i hq; exact fun _ => hq
    · dsimp only
      generalize runJobs runF _ _ = r
      obtain ⟨o, s1⟩ := r
      cases o <;> first | exact ih s1 | exact fun h => nomatch h

theorem leaveLoop_spec {runF : RunF} (HA : HypA runF) : ∀ (lf : Nat) (s : Vm), Inv s →
    ApiGood s (leaveLoop runF lf s) ∧ (leaveLoop runF lf s).1 ≠ .thrown := by
  intro lf
  induction lf with
  | zero => exact fun s _ => ⟨ApiGood.fatal (Same.refl s), nofun⟩
  | succ n ih =>
    intro s hI
    unfold leaveLoop
    split
    · exact ⟨ApiGood.normal (Same.refl s) rfl, nofun⟩
    · have h0 : Same s { s with jobQueue := [] } := (Same.refl s).withJobs []
      have hj := runJobs_spec HA s.jobQueue _ (h0.inv hI)
      dsimp only
      generalize runJobs runF _ _ = r at hj
      obtain ⟨hj, j4⟩ := hj
      obtain ⟨s1, j2, rfl | ⟨j3, rfl | rfl⟩⟩ := ApiGood.cases (hj.same_left h0 rfl)
      · exact ⟨ApiGood.fatal j2, nofun⟩
      · exact (ih s1 (j2.inv hI)).imp (.same_left j2 j3) id
      · exact absurd rfl j4

theorem leaveAbrupt_same {s : Vm} (hI : Inv s) (h0 : s.callStack.length = 0) : Same s (leaveAbrupt s) := by
  obtain ⟨hp, hb⟩ := hI (List.length_eq_zero_iff.mp h0)
  exact ⟨rfl, by simp [leaveAbrupt, Vm.regs, hp, hb], rfl, rfl, rfl, rfl, rfl, rfl⟩

/-- the deferred recover of runWrapped, RunProgram and Runtime.Try, which runs leaveAbrupt at depth 0 -/
theorem leaveAbrupt_at_depth0 {s t : Vm} (hI : Inv s) (h : Same s t) :
    Same s (if t.callStack.length = 0 then leaveAbrupt t else t) ∧
    (s.callStack = [] → (if t.callStack.length = 0 then leaveAbrupt t else t).jobQueue = [] ∧
      (if t.callStack.length = 0 then leaveAbrupt t else t).interrupted = false) := by
  split
  · rename_i hl0; exact ⟨h.trans (leaveAbrupt_same (h.inv hI) hl0), fun _ => ⟨rfl, rfl⟩⟩
  · rename_i hl0; exact ⟨h, fun h0 => absurd (by rw [h.cs, h0]; rfl) hl0⟩

theorem leaveOrClear_spec {runF : RunF} (HA : HypA runF) (lf : Nat) {s s1 : Vm} {o : Outcome} (hI : Inv s)
    (ho : ApiGood s (o, s1)) (hnf : o ≠ .fatal) :
    ApiGood s (leaveOrClear runF lf o s1) ∧
    (s.callStack = [] → (leaveOrClear runF lf o s1).2.jobQueue = [] ∧
      ((leaveOrClear runF lf o s1).1 = .fatal → (leaveOrClear runF lf o s1).2.interrupted = false)) := by
  have h2 : Same s s1 := ho.2.1
  have hI1 := h2.inv hI
  unfold leaveOrClear
  split
  · rename_i hl0
    obtain ⟨hl, l2⟩ := leaveLoop_spec HA lf s1 hI1
    have l5 := leaveLoop_drains runF lf s1
    dsimp only
    generalize leaveLoop runF lf s1 = l at hl l2 l5
    obtain ⟨sl, l3, rfl | ⟨l4, rfl | rfl⟩⟩ := ApiGood.cases hl
    · exact ⟨ApiGood.fatal ((h2.trans l3).trans (leaveAbrupt_same (l3.inv hI1) (l3.cs ▸ hl0))),
        fun _ => ⟨rfl, fun _ => rfl⟩⟩
    · exact ⟨⟨ho.1, h2.trans l3, fun _ => l4.trans (ho.2.2 hnf)⟩, fun _ => ⟨l5 rfl, fun h => absurd h hnf⟩⟩
    · exact absurd rfl l2
  · rename_i hl0
    exact ⟨ho, fun h0 => absurd (by rw [h2.cs, h0]; rfl) hl0⟩

theorem runWrapped_spec {runF : RunF} (HG : HypG runF) (HA : HypA runF) (lf : Nat) (b : Beh) (s : Vm)
    (hI : Inv s) :
    ApiGood s (runWrapped runF lf b s) ∧
    (s.callStack = [] → (runWrapped runF lf b s).2.jobQueue = [] ∧
      ((runWrapped runF lf b s).1 = .fatal → (runWrapped runF lf b s).2.interrupted = false)) := by
  unfold runWrapped
  have ha := tryB_spec HG HA b s hI
  generalize tryB runF b s = r at ha
  obtain ⟨s1, h2, rfl | ⟨h3, rfl | rfl⟩⟩ := ApiGood.cases ha
  · obtain ⟨e1, e2⟩ := leaveAbrupt_at_depth0 hI h2
    exact ⟨ApiGood.fatal e1, fun h0 => ⟨(e2 h0).1, fun _ => (e2 h0).2⟩⟩
  · exact leaveOrClear_spec HA lf hI (ApiGood.normal h2 h3) nofun
  · exact leaveOrClear_spec HA lf hI (ApiGood.thrown h2 h3) nofun

theorem runWrapped_exit {runF : RunF} (HG : HypG runF) (HA : HypA runF) (lf : Nat) (b : Beh) (s : Vm)
    (hI : Inv s) (h0 : s.callStack = []) :
    (runWrapped runF lf b s).2.jobQueue = [] ∧
    ((runWrapped runF lf b s).1 = .fatal → (runWrapped runF lf b s).2.interrupted = false) :=
  (runWrapped_spec HG HA lf b s hI).2 h0

/-- RunProgram (outermost) clears `prg` / `sb` before `leave()`, hence the state in `h` -/
theorem outerPop_same {p : Nat} {s t : Vm} (hprg : s.prg = none) (hsb : s.sb = -1)
    (h : Same { outerEnter p s with prg := none, sb := -1 } t) : Same s (outerPop t) :=
  ⟨h.sp, h.regs.trans (by simp [Vm.regs, hprg, hsb, outerEnter]), h.stash, h.privEnv,
   (congrArg List.dropLast h.cs).trans List.dropLast_concat, h.ts, h.is, h.rs⟩

theorem Same.clearPrg {a b : Vm} (h : Same a b) : Same { a with prg := none, sb := -1 } { b with prg := none, sb := -1 } :=
  ⟨h.sp, congrArg (fun r : Regs => (⟨none, -1, r.args, r.newTarget⟩ : Regs)) h.regs, h.stash, h.privEnv, h.cs, h.ts,
   h.is, h.rs⟩

theorem runProgramOuter_spec {runF : RunF} (HG : HypG runF) (HA : HypA runF) (lf p : Nat) (b : Beh)
    (s : Vm) (hI : Inv s) (h0 : s.callStack = []) :
    ApiGood s (runProgramOuter runF lf p b s) ∧ (runProgramOuter runF lf p b s).2.jobQueue = [] ∧
    ((runProgramOuter runF lf p b s).1 = .fatal → (runProgramOuter runF lf p b s).2.interrupted = false) := by
  obtain ⟨hprg, hsb⟩ := hI h0
  unfold runProgramOuter
  have ha := runTryB_spec HG HA b _ (inv_of_ne (List.concat_ne_nil _ _) : Inv (outerEnter p s))
  generalize runTryB runF b _ = r at ha
  obtain ⟨s4, h2, hr⟩ := ApiGood.cases ha
  have hcs4 : s4.callStack = [] ++ [_] := h2.cs.trans (congrArg (· ++ [_]) h0)
  have tail : ∀ oo : Outcome, oo ≠ .fatal → (oo ≠ .stuck ∧ (∀ e, oo ≠ .exit e) ∧ oo ≠ .yielded) →
      s4.interrupted = s.interrupted →
      let l := leaveLoop runF lf { s4 with prg := none, sb := -1 }
      let res : Res := (match l.1 with
        | .normal => (oo, outerPop l.2)
        | .stuck => (.stuck, l.2)
        | o => (o, if (outerPop l.2).callStack.length = 0 then leaveAbrupt (outerPop l.2) else outerPop l.2))
      ApiGood s res ∧ res.2.jobQueue = [] ∧ (res.1 = .fatal → res.2.interrupted = false) := by
    intro oo hnf hns hq4
    obtain ⟨hl, l2⟩ := leaveLoop_spec HA lf { s4 with prg := none, sb := -1 }
      (inv_of_ne (hcs4 ▸ List.concat_ne_nil _ _))
    have l5 := leaveLoop_drains runF lf { s4 with prg := none, sb := -1 }
    dsimp only
    generalize leaveLoop runF lf _ = l at hl l2 l5
    obtain ⟨sl, l3, hrl⟩ := ApiGood.cases hl
    have hsame : Same s (outerPop sl) := outerPop_same hprg hsb (h2.clearPrg.trans l3)
    rcases hrl with rfl | ⟨l4, rfl | rfl⟩
    · obtain ⟨e1, e2⟩ := leaveAbrupt_at_depth0 hI hsame
      exact ⟨ApiGood.fatal e1, (e2 h0).1, fun _ => (e2 h0).2⟩
    · exact ⟨⟨hns, hsame, fun _ => l4.trans hq4⟩, l5 rfl, fun h => absurd h hnf⟩
    · exact absurd rfl l2
  rcases hr with rfl | ⟨h3, rfl | rfl⟩
  · have hl0 : (outerPop s4).callStack.length = 0 := congrArg (fun l => l.dropLast.length) hcs4
    simp only [hl0, if_true]
    have hsame : Same s (outerPop { s4 with jobQueue := [], interrupted := false, prg := none, sb := -1 }) :=
      outerPop_same hprg hsb ⟨h2.sp, h2.clearPrg.regs, h2.stash, h2.privEnv, h2.cs, h2.ts, h2.is, h2.rs⟩
    exact ⟨ApiGood.fatal hsame, rfl, fun _ => rfl⟩
  · exact tail .normal nofun ⟨nofun, nofun, nofun⟩ h3
  · exact tail .thrown nofun ⟨nofun, nofun, nofun⟩ h3

theorem apiNode_spec {runF : RunF} (HG : HypG runF) (HA : HypA runF) (lf : Nat) (k : Boundary) (b : Beh)
    (s : Vm) (hI : Inv s) : ApiGood s (apiNode lf runF k b s) := by
  -- the program id that `apiNode` passes to RunProgram (7) plays no role
  cases k with
  | try_ => exact tryB_spec HG HA b s hI
  | runWrapped => exact (runWrapped_spec HG HA lf b s hI).1
  | runProgramRec => exact runProgramRec_spec HG HA _ b s
  | runProgram =>
    dsimp only [apiNode]
    split
    · exact runProgramRec_spec HG HA _ b s
    · rename_i h
      exact (runProgramOuter_spec HG HA lf _ b s hI (List.eq_nil_of_length_eq_zero (Nat.eq_zero_of_not_pos h))).1

end GojaModel.C03
