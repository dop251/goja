/-
  C03 — property theorems.  Every `theorem` here is one audited proof obligation.
  The model (`Model.lean`) transcribes /repo with its fix commits applied; all statements are full strength
  and hold for every fuel, every inner behaviour (unbounded nesting) and every ending.
-/
import GojaModel.C03.Closing
import GojaModel.C03.AsyncField

namespace GojaModel.C03

/-- `handleThrow_restores`, the register part (vm.go handleThrow): at the frame where handleThrow stops,
`sp`, `stash`, `privEnv` equal the snapshot; if the call stack grew since the snapshot
(`callStackLen < |callStack|`) it is cut back to the snapshot length and `prg, pc, sb, args, newTarget,
result` come from the saved context at that index; otherwise registers and call stack are untouched. -/
theorem handleThrow_restores_frame (tf : TryFrame) (s : Vm) :
    (restoreFrame tf s).sp = tf.sp ∧ (restoreFrame tf s).stash = tf.stash ∧
    (restoreFrame tf s).privEnv = tf.privEnv ∧
    (∀ ctx, s.callStack[tf.callStackLen]? = some ctx →
        (restoreFrame tf s).callStack.length = tf.callStackLen ∧
        (restoreFrame tf s).prg = ctx.prg ∧ (restoreFrame tf s).pc = ctx.pc ∧
        (restoreFrame tf s).sb = ctx.sb ∧ (restoreFrame tf s).args = ctx.args ∧
        (restoreFrame tf s).newTarget = ctx.newTarget ∧ (restoreFrame tf s).result = ctx.result) ∧
    (s.callStack.length ≤ tf.callStackLen →
        (restoreFrame tf s).callStack = s.callStack ∧ (restoreFrame tf s).prg = s.prg ∧
        (restoreFrame tf s).sb = s.sb) := by
  refine ⟨by simp [restoreFrame], by simp [restoreFrame], by simp [restoreFrame], ?_, ?_⟩
  · intro ctx h
    have hlt : tf.callStackLen < s.callStack.length := by
      have := List.getElem?_eq_some_iff.mp h
      exact this.1
    simp [restoreFrame, h, List.length_take, Nat.min_eq_left (Nat.le_of_lt hlt)]
  · intro h
    have : s.callStack[tf.callStackLen]? = none := by simp [h]
    simp [restoreFrame, this]

/-- `handleThrow_restores`, complete (for the real interpreter `run fuel`, any fuel): whatever number of
skippable frames lie above it, handleThrow lands on the innermost live frame `tf` (snapshot of `s0`) and
`prg sb args newTarget`, `stash`, `privEnv`, the whole call stack, the iterator and reference stacks equal
the snapshot — the last two even when an iterator's `return()` aborted the unwinding; `sp` is the snapshot
(+1 for the pushed exception value when caught); the loop never falls through (`≠ empty`) and the try
stack is cut to the landing frame. -/
theorem handleThrow_restores (fuel : Nat) (catchable : Bool)
    (s0 : Vm) (hI : Inv s0) (tf : TryFrame) (base e : List TryFrame) (s1 : Vm) (hF : FrameOf s0 tf)
    (hlive : skipped catchable tf = false)
    (hwf : tf.catchPos = tryPanicMarker ∨ tf.catchPos ≥ 0 ∨ tf.finallyPos ≥ 0)
    (hts : s1.tryStack = e ++ tf :: base) (hsk : ∀ f ∈ e, skipped catchable f = true)
    (hcs : ∃ ec, s1.callStack = s0.callStack ++ ec ∧ levelRegs ec s1 = s0.regs)
    (his : ∃ ei, s1.iterStack = s0.iterStack ++ ei) (hrs : ∃ er, s1.refStack = s0.refStack ++ er) :
    (handleThrow (run fuel) catchable s1).2.regs = s0.regs ∧
    (handleThrow (run fuel) catchable s1).2.stash = s0.stash ∧
    (handleThrow (run fuel) catchable s1).2.privEnv = s0.privEnv ∧
    (handleThrow (run fuel) catchable s1).2.callStack = s0.callStack ∧
    (handleThrow (run fuel) catchable s1).2.iterStack = s0.iterStack ∧
    (handleThrow (run fuel) catchable s1).2.refStack = s0.refStack ∧
    (handleThrow (run fuel) catchable s1).1 ≠ .empty ∧
    ((handleThrow (run fuel) catchable s1).1 = .caught → (handleThrow (run fuel) catchable s1).2.sp = s0.sp + 1) ∧
    ((handleThrow (run fuel) catchable s1).1 ≠ .caught → (handleThrow (run fuel) catchable s1).2.sp = s0.sp) ∧
    (handleThrow (run fuel) catchable s1).2.tryStack.length = base.length + 1 := by
  have hs := handleThrowLoop_spec (run_good fuel).2 catchable { s0 with tryStack := base } (inv_of_eq rfl rfl hI) tf
    ⟨hF.cs, hF.is, hF.rs, hF.sp, hF.stash, hF.privEnv⟩ hlive hwf e s1 hsk hcs his hrs
  exact (handleThrow_unfold (s := s1) hts ▸ hs.1).restores

/-- uncatchables close no iterator (fix 5d979ec): unwinding for an interrupt / stack overflow is a pure
truncation and runs no script code, whatever the interpreter -/
theorem uncatchable_closes_no_iterator (runF : RunF) (il rl : Nat) (s : Vm) :
    restoreStacks runF false il rl s =
      (false, { s with iterStack := s.iterStack.take il, refStack := s.refStack.take rl }) := by
  simp [restoreStacks]

/-- `_restoreStacks` cuts both stacks back even when an iterator close leaves it with an uncatchable
(fix 570c7df), for every interpreter and iterator behaviour -/
theorem restoreStacks_truncates_always (runF : RunF) (doClose : Bool) (il rl : Nat) (s : Vm) :
    (restoreStacks runF doClose il rl s).2.iterStack.length ≤ il ∧
    (restoreStacks runF doClose il rl s).2.refStack.length ≤ rl := by
  simp [restoreStacks, List.length_take]
  exact ⟨Nat.min_le_left _ _, Nat.min_le_left _ _⟩

/-- every behaviour, at every fuel, from every state satisfying `Inv`: normal ending ⇒ control state
unchanged; throw ⇒ the stacks only grew, extra try frames are consumed JS frames; uncatchable ⇒ the stacks
only grew, no boundary marker was left behind; `stuck` (handleThrow landing on a foreign frame) never
happens; a non-uncatchable ending leaves the interrupt flag alone. -/
theorem run_obeys_discipline (fuel : Nat) (b : Beh) (s : Vm) (hI : Inv s) : Good s (run fuel b s) :=
  (run_good fuel).1 b s hI

theorem never_stuck (fuel : Nat) (b : Beh) (s : Vm) (hI : Inv s) : (run fuel b s).1 ≠ .stuck := by
  have h := (run_good fuel).1 b s hI
  intro hs
  have := h.1
  simp [GoodCtl, hs] at this

/-- **boundary_balanced, vm.try** (Runtime.Try, builtins shielding a callback, promise reaction jobs,
iterator close): ∀ inner behaviour, ∀ ending — normal, caught or uncaught throw, interrupt, stack overflow —
the control state after equals the control state before. -/
theorem boundary_balanced_try (fuel : Nat) (b : Beh) (s : Vm) (hI : Inv s) :
    (tryB (run fuel) b s).1 ≠ .stuck ∧ ctlState (tryB (run fuel) b s).2 = ctlState s :=
  (tryB_spec (run_good fuel).1 (run_good fuel).2 b s hI).balanced

/-- **boundary_balanced, runWrapped** (at any depth: nested from a native frame or outermost) -/
theorem boundary_balanced_runWrapped (fuel lf : Nat) (b : Beh) (s : Vm) (hI : Inv s) :
    (runWrapped (run fuel) lf b s).1 ≠ .stuck ∧ ctlState (runWrapped (run fuel) lf b s).2 = ctlState s :=
  (runWrapped_spec (run_good fuel).1 (run_good fuel).2 lf b s hI).1.balanced

/-- **boundary_balanced**, all host API calls at once (RunProgram picks its branch by the call-stack length;
`try_`/`tryGet` are Runtime.Try around Go-side operations / a getter) -/
theorem boundary_balanced (fuel : Nat) (k : TopApi) (b : Beh) (s : Vm) (hI : Inv s) :
    (apiCall fuel k b s).1 ≠ .stuck ∧ ctlState (apiCall fuel k b s).2 = ctlState s :=
  (apiCall_spec fuel k b s hI).balanced

/-- **boundary_balanced, Callable** (`AssertFunction(v)(this, args…)`, ExportTo'd functions) -/
theorem boundary_balanced_callable (fuel : Nat) (n : Nat) (f : FnInfo) (b : Beh) (s : Vm) (hI : Inv s) :
    (apiCall fuel (.callable n f) b s).1 ≠ .stuck ∧
    ctlState (apiCall fuel (.callable n f) b s).2 = ctlState s :=
  boundary_balanced fuel (.callable n f) b s hI

/-- **boundary_balanced, Constructor** (`AssertConstructor(v)(newTarget, args…)`) -/
theorem boundary_balanced_constructor (fuel : Nat) (n : Nat) (f : FnInfo) (b : Beh) (s : Vm) (hI : Inv s) :
    (apiCall fuel (.constructor n f) b s).1 ≠ .stuck ∧
    ctlState (apiCall fuel (.constructor n f) b s).2 = ctlState s :=
  boundary_balanced fuel (.constructor n f) b s hI

/-- **boundary_balanced, RunProgram recursive** (from a native frame), including the overflow of its own
pushCtx at the depth limit (fix 195a32b).  `hI` is not needed: the run loop starts above the context this branch pushed. -/
theorem boundary_balanced_runProgram_recursive (fuel p : Nat) (b : Beh) (s : Vm) (hI : Inv s) :
    (runProgramRec (run fuel) p b s).1 ≠ .stuck ∧ ctlState (runProgramRec (run fuel) p b s).2 = ctlState s :=
  (runProgramRec_spec (run_good fuel).1 (run_good fuel).2 p b s).balanced

/-- **boundary_balanced, RunProgram outermost**: also `prg` and `sb` are back (fix e71ffae), for every ending -/
theorem boundary_balanced_runProgram_outermost (fuel lf p : Nat) (b : Beh) (s : Vm) (hI : Inv s)
    (h0 : s.callStack = []) :
    (runProgramOuter (run fuel) lf p b s).1 ≠ .stuck ∧
    ctlState (runProgramOuter (run fuel) lf p b s).2 = ctlState s :=
  (runProgramOuter_spec (run_good fuel).1 (run_good fuel).2 lf p b s hI h0).1.balanced

/-- `leave` (runtime.go) returns normally only with the job queue empty.  `HA` and `hI` are not needed: this is
`leaveLoop_drains`, which holds for every interpreter and state. -/
theorem leave_drains (runF : RunF) (HA : HypA runF) (lf : Nat) (s : Vm) (hI : Inv s) :
    (leaveLoop runF lf s).1 = .normal → (leaveLoop runF lf s).2.jobQueue = [] :=
  leaveLoop_drains runF lf s

theorem leaveAbrupt_clears (s : Vm) :
    (leaveAbrupt s).jobQueue = [] ∧ (leaveAbrupt s).interrupted = false ∧
    (leaveAbrupt s).prg = none ∧ (leaveAbrupt s).sb = -1 := by
  simp [leaveAbrupt]

/-- pushCtx refuses exactly when the call stack is longer than the limit, whatever else the state contains; when
it accepts, it appends the saved context and touches no other stack -/
theorem depth_limit_uniform (s : Vm) :
    (pushCtx s = none ↔ s.callStack.length > s.maxCallStackSize) ∧
    (∀ t, pushCtx s = some t → t.callStack = s.callStack ++ [saveCtx s] ∧ t.sp = s.sp ∧
        t.tryStack = s.tryStack ∧ t.iterStack = s.iterStack ∧ t.refStack = s.refStack) := by
  unfold pushCtx
  constructor
  · split <;> simp_all
  · intro t h
    split at h
    · simp at h
    · simp at h; subst h; simp

/-- at every JS→JS / JS→native call of a plain function (`frame` nodes; `__call`, generator and async calls and the
recursive RunProgram have overflow arms of their own), at any depth and any limit, the overflow is an *uncatchable*
ending of that node with the state it started in -/
theorem depth_limit_is_uncatchable (lf : Nat) (runF : RunF) (k : FrameKind) (ret body : Beh)
    (s : Vm) (h : k.pre ret s = none) :
    step lf runF (.frame k ret body) s = (.fatal, s) := by
  dsimp only [step]
  rw [h]

/-- the overflow of a re-entrant RunProgram's own pushCtx is an uncatchable ending that changed nothing
(fix 195a32b) -/
theorem runProgramRec_overflow_noop (runF : RunF) (p : Nat) (b : Beh) (s : Vm) (h : pushCtx s = none) :
    runProgramRec runF p b s = (.fatal, s) := by
  simp [runProgramRec, h]

/-- Idle without the job-queue clause: Runtime.Try does not call leave(), jobs queued under it wait for the
next leave (that is C10's concern) -/
def IdleCtl (s : Vm) : Prop :=
  s.sp = 0 ∧ s.sb = -1 ∧ s.prg = none ∧ s.stash = globalStash ∧ s.privEnv = [] ∧
  s.callStack = [] ∧ s.tryStack = [] ∧ s.iterStack = [] ∧ s.refStack = [] ∧ s.interrupted = false

theorem fresh_idle (m : Nat) : Idle (Vm.fresh m) := by
  simp [Idle, Vm.fresh, globalStash]

theorem idle_iff (s : Vm) : Idle s ↔ IdleCtl s ∧ s.jobQueue = [] := by
  unfold Idle IdleCtl
  constructor
  · rintro ⟨a, b, c, d, e, f, g, h, i, j, k⟩; exact ⟨⟨a, b, c, d, e, f, g, h, i, k⟩, j⟩
  · rintro ⟨⟨a, b, c, d, e, f, g, h, i, k⟩, j⟩; exact ⟨a, b, c, d, e, f, g, h, i, j, k⟩

/-- **idle_after_any_api_call**: from an idle runtime (jobs possibly pending from an earlier Try), after ANY
API call with ANY inner behaviour and ANY ending the runtime is idle again: no frame, no try / iterator /
reference record, global scope, no current program, interrupt flag clear; and the job queue is empty after
every call that leaves (RunProgram, Callable, Constructor) and after every uncatchable ending. -/
theorem idle_after_any_api_call (fuel : Nat) (k : TopApi) (b : Beh) (s : Vm) (hs : IdleCtl s) :
    (apiCall fuel k b s).1 ≠ .stuck ∧ IdleCtl (apiCall fuel k b s).2 ∧
    ((apiCall fuel k b s).1 = .fatal → (apiCall fuel k b s).2.jobQueue = []) ∧
    ((k matches .runProgram | .callable .. | .constructor ..) → (apiCall fuel k b s).2.jobQueue = []) := by
  obtain ⟨a, b1, c, d, e, f, g, h, i, j⟩ := hs
  have hI : Inv s := fun _ => ⟨c, b1⟩
  have hg := apiCall_spec fuel k b s hI
  have hx := apiCall_exit fuel k b s hI f
  generalize apiCall fuel k b s = r at hg hx ⊢
  obtain ⟨h1, h2, h3⟩ := hg
  obtain ⟨x1, x2⟩ := hx
  refine ⟨h1.1, ⟨h2.sp.trans a, (congrArg Regs.sb h2.regs).trans b1, (congrArg Regs.prg h2.regs).trans c,
    h2.stash.trans d, h2.privEnv.trans e, h2.cs.trans f, h2.ts.trans g, h2.is.trans h, h2.rs.trans i, ?_⟩,
    fun hf => (x1 hf).1, x2⟩
  by_cases hf : r.1 = .fatal
  · exact (x1 hf).2
  · exact (h3 hf).trans j

def runHistory (fuel : Nat) : List (TopApi × Beh) → Vm → Vm
  | [], s => s
  | (k, b) :: rest, s => runHistory fuel rest (apiCall fuel k b s).2

/-- Idle including `vm.curAsyncRunner == nil` (the field the async stack-trace capture reads at depth 0) -/
def IdleAll (s : Vm) : Prop := IdleCtl s ∧ s.curAsync = false

theorem fresh_idleAll (m : Nat) : IdleAll (Vm.fresh m) :=
  ⟨((idle_iff _).mp (fresh_idle m)).1, rfl⟩

/-- the continuation of an async function runs with the field set, and the deferred function of
asyncRunner.onFulfilled / onRejected clears it however the continuation ends — for any interpreter -/
theorem asyncResume_sets_then_clears (runF : RunF) (id : Nat) (s : Vm) :
    asyncResumeCA runF id s =
      ((asyncResume runF id { s with curAsync := true }).1,
       { (asyncResume runF id { s with curAsync := true }).2 with curAsync := false }) := rfl

/-- **curAsyncRunner_clear_after_any_api_call**: with the field clear before, it is clear after ANY API call with
ANY inner behaviour (async continuations run from the job queue, nested API calls from inside a continuation,
interrupts, stack overflows, uncatchable endings inside a continuation) -/
theorem curAsyncRunner_clear_after_any_api_call (fuel : Nat) (k : TopApi) (b : Beh) (s : Vm)
    (h : s.curAsync = false) : (apiCall fuel k b s).2.curAsync = false :=
  apiCall_ca fuel k b s h

/-- … and the same at every node inside a call, at every fuel -/
theorem curAsyncRunner_clear_after_any_node (fuel : Nat) (b : Beh) (s : Vm) (h : s.curAsync = false) :
    (run fuel b s).2.curAsync = false :=
  run_ca fuel b s h

/-- the idle theorem with the field included -/
theorem idleAll_after_any_api_call (fuel : Nat) (k : TopApi) (b : Beh) (s : Vm) (hs : IdleAll s) :
    IdleAll (apiCall fuel k b s).2 :=
  ⟨(idle_after_any_api_call fuel k b s hs.1).2.1, apiCall_ca fuel k b s hs.2⟩

theorem idleAll_after_any_history (fuel : Nat) (h : List (TopApi × Beh)) (m : Nat) :
    IdleAll (runHistory fuel h (Vm.fresh m)) := by
  have hfresh := fresh_idleAll m
  generalize Vm.fresh m = s at hfresh
  induction h generalizing s with
  | nil => exact hfresh
  | cons c rest ih =>
    obtain ⟨k, b⟩ := c
    exact ih _ (idleAll_after_any_api_call fuel k b s hfresh)

/-- after any history of any length, with any behaviours and endings, `IdleCtl` holds (the job queue is left out:
jobs queued under a Runtime.Try wait for the next leave) -/
theorem idle_after_any_history (fuel : Nat) (h : List (TopApi × Beh)) (m : Nat) :
    IdleCtl (runHistory fuel h (Vm.fresh m)) :=
  (idleAll_after_any_history fuel h m).1

/-- **rebasing meets its spec** (vm.go suspend / resume): a try frame pushed in state `sA` of a generator activation,
moved into the generator object by vm.suspend (lengths stored by enterNext: `il`, `rl`; stack base `sb - 1`) and
reinstalled by vm.resume in a later activation, is exactly the frame `pushTryFrame` would create in the corresponding
state `sB` of the new activation (same scope, call stack of the new activation, iterator / reference / operand
stacks shifted to the new bases) — with the handler positions and the pending exception carried over.  This is the
record the model's resumed constructs (`tryResumeH`, `tryResumeF`, a re-entered `try_`) work with. -/
theorem rebase_meets_spec (sA sB : Vm) (tf : TryFrame) (il rl il' rl' : Nat) (sb sp' : Int)
    (hF : FrameOf sA tf) (_hil : il ≤ sA.iterStack.length) (_hrl : rl ≤ sA.refStack.length)  -- (uint32 subtraction in Go)
    (hi : sB.iterStack.length = il' + (sA.iterStack.length - il))
    (hr : sB.refStack.length = rl' + (sA.refStack.length - rl))
    (hsp : sB.sp = sp' + (sA.sp - (sb - 1))) (hst : sB.stash = sA.stash) (hpe : sB.privEnv = sA.privEnv) :
    resumeFrame sB.callStack.length il' rl' sp' (suspendFrame il rl sb tf) =
      { exception := tf.exception, callStackLen := sB.callStack.length, iterLen := sB.iterStack.length,
        refLen := sB.refStack.length, sp := sB.sp, stash := sB.stash, privEnv := sB.privEnv,
        catchPos := tf.catchPos, finallyPos := tf.finallyPos, finallyRet := tf.finallyRet } ∧
    FrameOf sB (resumeFrame sB.callStack.length il' rl' sp' (suspendFrame il rl sb tf)) := by
  have e1 : tf.iterLen - il + il' = sB.iterStack.length := by rw [hF.is, hi]; exact Nat.add_comm _ _
  have e2 : tf.refLen - rl + rl' = sB.refStack.length := by rw [hF.rs, hr]; exact Nat.add_comm _ _
  have e3 : tf.sp - (sb - 1) + sp' = sB.sp := by rw [hF.sp, hsp]; exact Int.add_comm _ _
  refine ⟨?_, ⟨rfl, e1, e2, e3, hF.stash.trans hst.symm, hF.privEnv.trans hpe.symm⟩⟩
  simp only [resumeFrame, suspendFrame]
  rw [e1, e2, e3, hst, hpe, hF.stash, hF.privEnv]

/-- the iterator / reference records above the stored length are moved out and back unchanged -/
theorem suspend_resume_records {α : Type} (base e base' : List α) :
    (base ++ e).take base.length = base ∧ base' ++ (base ++ e).drop base.length = base' ++ e := by
  simp

/-- Runtime.Try at depth 0 clears flag and queue when an uncatchable passes (fix 9e5aa04) -/
theorem runtimeTry_fatal_clears (fuel : Nat) (b : Beh) (s : Vm) (hI : Inv s) (h0 : s.callStack = [])
    (h : (runtimeTry fuel b s).1 = .fatal) :
    (runtimeTry fuel b s).2.jobQueue = [] ∧ (runtimeTry fuel b s).2.interrupted = false :=
  (runtimeTry_spec fuel b s hI).2 h h0

/-- regression lemma about the mechanism BEFORE fix 404e270 (`defect:unwind-abort-in-recover`, design/C03.md): handleThrow reports
`aborted` with the JS frame `tf` it stopped at still on the try stack, above the boundary's marker `m` (this is what
`handleThrow_restores` says about `aborted`).  The model then unwinds for the uncatchable at the same boundary
(`unwindAtMarker`), which pops both — as the code does since 404e270 (deferred recover in handleThrow).  Before, this
happened only when the first handleThrow ran inside the run loop; when it ran inside a `recover()` the boundary merely
ran its deferred `popTryFrame()` — and that leaves the boundary's own marker behind: -/
theorem unwind_abort_in_recover_prefix_witness (tf m : TryFrame) (rest : List TryFrame) (s : Vm)
    (h : s.tryStack = tf :: m :: rest) :
    (popTryFrame s).tryStack = m :: rest ∧ (popTryFrame s).tryStack ≠ rest := by
  have h1 : (popTryFrame s).tryStack = m :: rest := by simp [popTryFrame, h]
  refine ⟨h1, ?_⟩
  rw [h1]
  intro hc
  have := congrArg List.length hc
  simp at this

/-- the hypotheses of the boundary theorems are satisfiable by non-trivial states: any state with a
non-empty call stack satisfies `Inv`, so does every idle state -/
example (s : Vm) (h : s.callStack ≠ []) : Inv s := inv_of_ne h
example (m : Nat) : Inv (Vm.fresh m) := fun _ => ⟨rfl, rfl⟩

end GojaModel.C03
