/-
  C03 — what generator.next, asyncRunner.start and the continuation job of an async function have in common once the
  activation is entered (func.go generator.step / asyncRunner.step).
-/
import GojaModel.C03.Model

namespace GojaModel.C03

def activation (runF : RunF) (b : Beh) (s : Vm) (susp ret : Vm → Vm) (onThrow : Vm → Res) : Res :=
  let r := if s.interrupted then (Outcome.fatal, s) else runF b s
  match r.1 with
  | .yielded => (.normal, susp r.2)
  | .normal => (.normal, ret r.2)
  | .exit _ => (.normal, ret r.2)
  | .stuck => r
  | o =>
    let u := unwindAtMarker runF o r.2
    match u.1 with
    | .thrown => onThrow u.2
    | _ => u

def suspended (t : Vm) : GenObj :=
  { rest := t.resid, ctx := saveCtx t, stackLen := (t.sp - t.sb + 1).toNat, state := .suspended, started := true }

/-- vm.suspend as the interpreter sees it: the records above the lengths stored at entry (in `s5`) move into the
generator object; the model drops them, the residual implies them -/
def cutBack (s5 t : Vm) : Vm :=
  { t with sp := t.sb - 1, callStack := t.callStack.dropLast,
           tryStack := t.tryStack.drop (t.tryStack.length - s5.tryStack.length),
           iterStack := t.iterStack.take s5.iterStack.length, refStack := t.refStack.take s5.refStack.length }

theorem genResume_def (runF : RunF) (slot : Nat) (what : Option Beh) (isThrow : Bool) (s : Vm) :
    genResume runF slot what isThrow s =
      match getGen s slot with
      | none => if isThrow then (.thrown, s) else (.normal, s)
      | some g =>
        match g.state with
        | .completed => if isThrow then (.thrown, s) else (.normal, s)
        | .executing => (.thrown, s)
        | .suspended =>
          if what.isSome && !g.started then (if isThrow then .thrown else .normal, setGen s slot (genDone g))
          else
            match genEnterNext g s with
            | none => (.fatal, setGen s slot { g with state := .executing })
            | some s4' =>
              let s4 := setGen s4' slot { g with state := .executing, started := true }
              activation runF (resumeBody what g.rest) s4
                (fun t => setGen (popCtx (popTryFrame (cutBack s4 t))) slot (suspended t))
                (fun t => setGen (genFinish t) slot (genDone g))
                (fun t => (.thrown, setGen (popCtx t) slot (genDone g))) := rfl

theorem asyncResume_def (runF : RunF) (id : Nat) (s : Vm) :
    asyncResume runF id s =
      match getGen s id with
      | none => (.normal, s)
      | some g =>
        match genEnterNext g s with
        | none => (.fatal, s)
        | some s4 =>
          activation runF g.rest s4
            (fun t =>
              let u := setGen (popCtx (popTryFrame (cutBack s4 t))) id (suspended t)
              { u with jobQueue := u.jobQueue ++ [.asyncResume id] })
            (fun t => setGen (genFinish t) id (genDone g))
            (fun t => (.normal, setGen (popCtx t) id (genDone g))) := rfl

theorem asyncNew_def (runF : RunF) (n : Nat) (f : FnInfo) (body : Beh) (s : Vm) :
    asyncNew runF n f body s =
      match actEnter n s with
      | none => (.fatal, { s with sp := s.sp + 2 + n })
      | some s3 =>
        match actCall n f s3 with
        | none => (.fatal, popTryFrame s3)
        | some s5 =>
          activation runF body s5
            (fun t =>
              -- runners share the heap `gens` with the generator slots g1, g2, …; 1000 + n keeps clear of them
              let id := 1000 + t.gens.length
              let u := setGen (cutBack s5 t) id (suspended t)
              actBack s (popTryFrame { u with jobQueue := u.jobQueue ++ [.asyncResume id] }))
            (fun t => actBack s (popTryFrame (popCtx { t with sp := t.sb })))
            (fun t => (.normal, actBack s t)) := rfl

end GojaModel.C03
