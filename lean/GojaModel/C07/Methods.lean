/-
  C07 — Array.prototype methods with a no-holes fast path (builtin_array.go), as pairs
  (fast path over `arrayObject.values`, generic algorithm over HasProperty/Get/Set).
  The fast path is taken when `checkStdArrayObj` accepts the receiver (`Dense.stdGuard`) and — for
  the methods that run user code (argument coercion) between reading `length` and choosing the
  path — the re-check `len(values) == length` added by a9604fe / 61fb8fc / f0b16cb holds.
  Values are opaque; `eq` is the comparison with the search element (StrictEquals / SameValueZero).
-/
import GojaModel.C07.Model

namespace GojaModel.C07

/-- what a fast path sees in a slot of `values`: the Go `Value` or nil. -/
def slotVal : Option Elem → Option Val
  | some (.plain v) => some v
  | _ => none

/-- the receiver as the generic algorithms see it: HasProperty and Get through the own element and
the prototype chain (`proto k` = inherited value, `gr` = result of calling a getter). -/
structure View where
  has : Nat → Bool
  get : Nat → Option Val      -- none = undefined

def Dense.view (a : Dense) (proto : Nat → Option Val) (gr : VProp → Option Val) : View :=
  { has := fun k => (a.slot k).isSome || (proto k).isSome,
    get := fun k => genericGet (a.slot k) (proto k) gr }

/-! ### indexOf (builtin_array.go:600) -/

/-- `for i, val := range arr.values[n:] { if StrictEquals(val) { return n+i } }` -/
def scanFirst (eq : Val → Bool) : Nat → List (Option Elem) → Option Nat
  | _, [] => none
  | i, o :: t => if (match slotVal o with | some v => eq v | none => false) then some i else scanFirst eq (i + 1) t

def indexOfFast (vals : List (Option Elem)) (eq : Val → Bool) (n : Nat) : Option Nat := scanFirst eq n (vals.drop n)

/-- `for ; n < length; n++ { if hasPropertyIdx(n) { if val := getIdx(n); val != nil && StrictEquals(val) {return n} } }` -/
def indexOfGeneric (w : View) (eq : Val → Bool) : Nat → Nat → Option Nat
  | _, 0 => none
  | n, c + 1 =>
    if w.has n && (match w.get n with | some v => eq v | none => false) then some n
    else indexOfGeneric w eq (n + 1) c

/-! ### includes (builtin_array.go:641): SameValueZero, reads every index with Get (undefined = 0) -/

def includesFast (vals : List (Option Elem)) (eq : Val → Bool) (n : Nat) : Bool :=
  (vals.drop n).any (fun o => match slotVal o with | some v => eq v | none => false)

def includesGeneric (w : View) (eq : Val → Bool) : Nat → Nat → Bool
  | _, 0 => false
  | n, c + 1 => eq ((w.get n).getD 0) || includesGeneric w eq (n + 1) c

/-! ### lastIndexOf (builtin_array.go:688): downwards from `fromIndex` -/

/-- `for k := fromIndex; k >= 0; k-- { if v := vals[k]; v != nil && StrictEquals(v) { return k } }`
(`c` = fromIndex + 1 iterations). -/
def lastIndexOfFast (vals : List (Option Elem)) (eq : Val → Bool) : Nat → Option Nat
  | 0 => none
  | c + 1 =>
    if (match slotVal ((vals[c]?).join) with | some v => eq v | none => false) then some c
    else lastIndexOfFast vals eq c

def lastIndexOfGeneric (w : View) (eq : Val → Bool) : Nat → Option Nat
  | 0 => none
  | c + 1 =>
    if w.has c && (match w.get c with | some v => eq v | none => false) then some c
    else lastIndexOfGeneric w eq c

/-! ### with / toReversed / toSpliced: new arrays built from reads (builtin_array.go:1270, 1315, 1379) -/

/-- element list of the result array; `none` = undefined. Fast: `src.values[k]`. -/
def withFast (vals : List (Option Elem)) (len idx : Nat) (v : Val) : List (Option Val) :=
  (List.range len).map (fun k => if k = idx then some v else slotVal ((vals[k]?).join))

def withGeneric (w : View) (len idx : Nat) (v : Val) : List (Option Val) :=
  (List.range len).map (fun k => if k = idx then some v else w.get k)

def toReversedFast (vals : List (Option Elem)) (len : Nat) : List (Option Val) :=
  (List.range len).map (fun k => slotVal ((vals[len - k - 1]?).join))

def toReversedGeneric (w : View) (len : Nat) : List (Option Val) :=
  (List.range len).map (fun k => w.get (len - k - 1))

/-- builtin_array.go:1395–1408: `values[:start] ++ items ++ values[start+skip:]`. -/
def toSplicedFast (vals : List (Option Elem)) (start skip : Nat) (items : List Val) : List (Option Val) :=
  (vals.take start).map slotVal ++ items.map some ++ (vals.drop (start + skip)).map slotVal

/-- builtin_array.go:1409–1438: three loops of `getIdx` + `createDataPropertyOrThrow`. -/
def toSplicedGeneric (w : View) (len start skip : Nat) (items : List Val) : List (Option Val) :=
  (List.range start).map w.get ++ items.map some ++
    (List.range (len - (start + skip))).map (fun j => w.get (start + skip + j))

/-! ### fill (builtin_array.go:1107) -/

/-- fast: `for ; k < final; k++ { arr.values[k] = value }` (`c` = final − k iterations). -/
def fillFast (vals : List (Option Elem)) (v : Val) : Nat → Nat → List (Option Elem)
  | _, 0 => vals
  | k, c + 1 => fillFast (vals.set k (some (.plain v))) v (k + 1) c

/-- generic: `for ; k < final; k++ { o.self.setOwnIdx(k, value, true) }` on the mechanism store
(prototype answer `pa k` for indices whose own element is absent). Stops at the first failing Set
(`throw = true`). -/
def fillGeneric (s : Store) (v : Val) (pa : Nat → Option Bool) : Nat → Nat → Store × Bool
  | _, 0 => (s, true)
  | k, c + 1 =>
    let r := s.setOwnIdx k v (pa k)
    if !r.2 then r else fillGeneric r.1 v pa (k + 1) c

/-! ### copyWithin (builtin_array.go:1063) -/

/-- fast path: Go's `copy(values[to:to+count], values[from:from+count])` — memmove semantics. -/
def memmove (vals : List (Option Elem)) (from_ to count : Nat) : List (Option Elem) :=
  (List.range vals.length).map (fun i => if to ≤ i ∧ i < to + count then (vals[from_ + (i - to)]?).join else (vals[i]?).join)

/-- generic loop, forward direction (`dir = 1`): `for count > 0 { set(to, get(from)); from++; to++ }`
on a receiver all of whose indices are present plain values (each `setOwnIdx` is `values[to] = v`). -/
def cwFwd : List (Option Elem) → Nat → Nat → Nat → List (Option Elem)
  | vals, _, _, 0 => vals
  | vals, f, t, c + 1 => cwFwd (vals.set t ((vals[f]?).join)) (f + 1) (t + 1) c

/-- generic loop, backward direction (`dir = -1`, taken when `from < to < from+count`): starts at the
last element. -/
def cwBwd : List (Option Elem) → Nat → Nat → Nat → List (Option Elem)
  | vals, _, _, 0 => vals
  | vals, f, t, c + 1 => cwBwd (vals.set (t + c) ((vals[f + c]?).join)) f t c

/-- builtin_array.go:1082–1098: the direction choice. -/
def copyWithinGeneric (vals : List (Option Elem)) (from_ to count : Nat) : List (Option Elem) :=
  if from_ < to ∧ to < from_ + count then cwBwd vals from_ to count else cwFwd vals from_ to count

/-! ### splice (builtin_array.go:439) on the element sequence

On a receiver without holes, extensible, with writable length and nothing indexed on the prototype
chain, every `setOwnIdx(i, v)` of the generic algorithm is "store at i, extending with holes if
needed" (`dense_set_refines` / `sparse_set_refines`) and every `deleteIdx` + final `length =` is a
truncation. -/

def setExt (l : List (Option Elem)) (i : Nat) (x : Option Elem) : List (Option Elem) :=
  if i < l.length then l.set i x else l ++ List.replicate (i - l.length) none ++ [x]

/-- `for i, item := range items { setOwnIdx(start+i, item) }` (builtin_array.go:530). -/
def writeItems : List (Option Elem) → Nat → List Val → List (Option Elem)
  | vals, _, [] => vals
  | vals, start, v :: t => writeItems (setExt vals start (some (.plain v))) (start + 1) t

/-- the backward move loop of the growing case (builtin_array.go:518): `for k := c; k > 0; k--`
`set(t+k-1, get(f+k-1))`. -/
def bwdExt : List (Option Elem) → Nat → Nat → Nat → List (Option Elem)
  | vals, _, _, 0 => vals
  | vals, f, t, c + 1 => bwdExt (setExt vals (t + c) ((vals[f + c]?).join)) f t c

/-- generic splice (the element moves of builtin_array.go:504–534 followed by `length = newLength`). -/
def spliceGeneric (vals : List (Option Elem)) (start del : Nat) (items : List Val) : List (Option Elem) :=
  let len := vals.length
  let ic := items.length
  if ic < del then
    writeItems ((cwFwd vals (start + del) (start + ic) (len - del - start)).take (len - del + ic)) start items
  else if ic > del then
    writeItems (bwdExt vals (start + del) (start + ic) (len - del - start)) start items
  else writeItems vals start items

/-- fast path (builtin_array.go:469–493): the new `values`. -/
def spliceFast (vals : List (Option Elem)) (start del : Nat) (items : List Val) : List (Option Elem) :=
  vals.take start ++ items.map (fun v => some (.plain v)) ++ vals.drop (start + del)

end GojaModel.C07
