/-
  Runs of a step function that answers every operation with a Boolean, given by their two equations: `Store.run`,
  `SpecArray.run`, `Store.runP`, `SpecArray.runP` all satisfy them by `rfl`.  What holds of every step holds of
  every run, proved here once.
-/
namespace GojaModel.C07

structure IsRun {S O : Type} (step : S → O → S × Bool) (run : S → List O → S × List Bool) : Prop where
  nil : ∀ s, run s [] = (s, [])
  cons : ∀ s o rest, run s (o :: rest) = ((run (step s o).1 rest).1, (step s o).2 :: (run (step s o).1 rest).2)

variable {S A O : Type}

theorem IsRun.inv {step : S → O → S × Bool} {run : S → List O → S × List Bool} (hr : IsRun step run)
    (P : S → Prop) (V : O → Prop) (hstep : ∀ s o, P s → V o → P (step s o).1) :
    ∀ (ops : List O) (s : S), P s → (∀ o ∈ ops, V o) → P (run s ops).1 := by
  intro ops
  induction ops with
  | nil => intro s hs _; rw [hr.nil]; exact hs
  | cons o rest ih =>
    intro s hs hv
    rw [hr.cons]
    exact ih _ (hstep s o hs (hv o (List.mem_cons_self ..))) fun x hx => hv x (List.mem_cons_of_mem _ hx)

theorem IsRun.refines {stepC : S → O → S × Bool} {runC : S → List O → S × List Bool}
    {stepA : A → O → A × Bool} {runA : A → List O → A × List Bool} (hC : IsRun stepC runC) (hA : IsRun stepA runA)
    (abs : S → A) (G : S → Prop) (V : O → Prop)
    (hstep : ∀ s, G s → ∀ o, V o → (abs (stepC s o).1, (stepC s o).2) = stepA (abs s) o ∧ G (stepC s o).1) :
    ∀ (ops : List O) (s : S), G s → (∀ o ∈ ops, V o) →
      (abs (runC s ops).1, (runC s ops).2) = runA (abs s) ops ∧ G (runC s ops).1 := by
  intro ops
  induction ops with
  | nil => intro s hg _; rw [hC.nil, hA.nil]; exact ⟨rfl, hg⟩
  | cons o rest ih =>
    intro s hg hv
    obtain ⟨h1, h2⟩ := hstep s hg o (hv o (List.mem_cons_self ..))
    obtain ⟨i1, i2⟩ := ih (stepC s o).1 h2 fun x hx => hv x (List.mem_cons_of_mem _ hx)
    rw [hC.cons, hA.cons, ← h1, ← i1]
    exact ⟨rfl, i2⟩

end GojaModel.C07
