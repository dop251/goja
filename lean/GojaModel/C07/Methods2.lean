/-
  C07 — more Array.prototype methods (deepening round 2): reverse, the write-back loop of sort,
  toSorted.  Receivers are seen as lists of slots (`none` = hole); where a loop's hole / delete
  branches are modelled, the receiver has no inherited indexed properties at those indices (then
  HasProperty = "own slot present", Set on an index below `length` = store into the slot, Delete =
  empty the slot — `dense_set_refines` / `sparse_set_refines` / `*_delete_refines`).
-/
import GojaModel.C07.Methods

namespace GojaModel.C07

/-! ### reverse (builtin_array.go:992 generic, :1000 fast path) -/

/-- fast path: `a.values[lower], a.values[upper] = a.values[upper], a.values[lower]`. -/
def swapSlots (vals : List (Option Elem)) (i j : Nat) : List (Option Elem) :=
  (vals.set i ((vals[j]?).join)).set j ((vals[i]?).join)

/-- `arrayproto_reverse_generic_step`: the four cases on lowerExists / upperExists
(set+set, set+delete, delete+set, nothing). -/
def reverseStep (vals : List (Option Elem)) (lower upper : Nat) : List (Option Elem) :=
  match (vals[lower]?).join, (vals[upper]?).join with
  | some lv, some uv => (vals.set lower (some uv)).set upper (some lv)
  | none, some uv => (vals.set lower (some uv)).set upper none
  | some lv, none => (vals.set lower none).set upper (some lv)
  | none, none => vals

/-- `for lower := start; lower != middle; lower++ { step(lower, l-lower-1) }` with `l = n`. -/
def reverseLoop (step : List (Option Elem) → Nat → Nat → List (Option Elem)) (n : Nat) :
    List (Option Elem) → Nat → Nat → List (Option Elem)
  | vals, _, 0 => vals
  | vals, lower, c + 1 => reverseLoop step n (step vals lower (n - lower - 1)) (lower + 1) c

def reverseFast (vals : List (Option Elem)) : List (Option Elem) := reverseLoop swapSlots vals.length vals 0 (vals.length / 2)
def reverseGeneric (vals : List (Option Elem)) : List (Option Elem) := reverseLoop reverseStep vals.length vals 0 (vals.length / 2)

/-! ### sort: collecting and writing back (builtin_array.go:407–434) -/

/-- generic collection: `for i < length { if hasPropertyIdx(i) { a = append(a, nilSafe(getIdx(i))) } }`. -/
def sortCollect (w : View) (len : Nat) : List SortVal :=
  (List.range len).filterMap (fun k => if w.has k then some (w.get k) else none)

/-- fast collection: `copy(a, src.values)`. -/
def sortCollectFast (vals : List (Option Elem)) : List SortVal := vals.map slotVal

/-- a sorted value as a slot (`undefined` is a present element holding the value 0). -/
def slotOfSortVal (x : SortVal) : Option Elem := some (.plain (x.getD 0))

/-- `for i < len(a) { setOwnIdx(i, a[i]) }`. -/
def writeBackSet : List (Option Elem) → Nat → List SortVal → List (Option Elem)
  | vals, _, [] => vals
  | vals, i, x :: t => writeBackSet (vals.set i (slotOfSortVal x)) (i + 1) t

/-- `for i := len(a); i < length; i++ { deleteIdx(i) }`. -/
def writeBackDelete : List (Option Elem) → Nat → Nat → List (Option Elem)
  | vals, _, 0 => vals
  | vals, i, c + 1 => writeBackDelete (vals.set i none) (i + 1) c

def sortWriteBack (vals : List (Option Elem)) (sorted : List SortVal) : List (Option Elem) :=
  writeBackDelete (writeBackSet vals 0 sorted) sorted.length (vals.length - sorted.length)

/-! ### toSorted (builtin_array.go:1339): the list handed to the sort -/

def toSortedCollectFast (vals : List (Option Elem)) (len : Nat) : List SortVal :=
  (List.range len).map (fun k => slotVal ((vals[k]?).join))

def toSortedCollectGeneric (w : View) (len : Nat) : List SortVal := (List.range len).map w.get

/-! ### the element move with its hole branch (copyWithin :1090, splice :504/:518, shift, unshift)

`if hasPropertyIdx(from) { setOwnIdx(to, getIdx(from)) } else { deleteIdx(to) }` -/

def moveStep (vals : List (Option Elem)) (f t : Nat) : List (Option Elem) :=
  match (vals[f]?).join with
  | some x => vals.set t (some x)      -- present: Set(to, Get(from))
  | none => vals.set t none            -- hole: DeletePropertyOrThrow(to)

/-- copyWithin's forward loop written with the generic step. -/
def cwFwdGeneric : List (Option Elem) → Nat → Nat → Nat → List (Option Elem)
  | vals, _, _, 0 => vals
  | vals, f, t, c + 1 => cwFwdGeneric (moveStep vals f t) (f + 1) (t + 1) c

def cwBwdGeneric : List (Option Elem) → Nat → Nat → Nat → List (Option Elem)
  | vals, _, _, 0 => vals
  | vals, f, t, c + 1 => cwBwdGeneric (moveStep vals (f + c) (t + c)) f t c

end GojaModel.C07
