/-
  The method loops of Methods.lean / Methods2.lean on the slot list cut into
  segments at the indices a loop works between (`a ++ b` with the cursor at `a.length`): no index
  arithmetic is left once the list is written that way.  copyWithin is the exception: `memmove` is
  defined pointwise, so its loops are characterised by window offset.
-/
import GojaModel.C07.Methods2

namespace GojaModel.C07

theorem cwFwd_get (c : Nat) : ∀ (vals : List (Option Elem)) (f t : Nat),
    (t ≤ f ∨ f + c ≤ t) → t + c ≤ vals.length →
    (∀ k, k < c → (cwFwd vals f t c)[t + k]? = some ((vals[f + k]?).join)) ∧
    (∀ i, (i < t ∨ t + c ≤ i) → (cwFwd vals f t c)[i]? = vals[i]?) := by
  induction c with
  | zero => intro vals f t _ _; exact ⟨fun k hk => absurd hk (Nat.not_lt_zero _), fun i _ => rfl⟩
  | succ c ih =>
    intro vals f t hcond ht
    obtain ⟨hin, hout⟩ := ih (vals.set t ((vals[f]?).join)) (f + 1) (t + 1) (by omega) (by simp; omega)
    refine ⟨fun k hk => ?_, fun i hi => ?_⟩
    · cases k with
      | zero =>
        show (cwFwd _ (f + 1) (t + 1) c)[t]? = some ((vals[f]?).join)
        rw [hout t (.inl (Nat.lt_succ_self t)), List.getElem?_set_self (by omega)]
      | succ k =>
        have := hin k (Nat.lt_of_succ_lt_succ hk)
        rw [List.getElem?_set_ne (by omega)] at this
        rw [cwFwd, show t + (k + 1) = t + 1 + k by omega, show f + (k + 1) = f + 1 + k by omega, this]
    · rw [cwFwd, hout i (by omega), List.getElem?_set_ne (by omega)]

theorem cwBwd_get (c : Nat) : ∀ (vals : List (Option Elem)) (f t : Nat), f < t → t + c ≤ vals.length →
    (∀ k, k < c → (cwBwd vals f t c)[t + k]? = some ((vals[f + k]?).join)) ∧
    (∀ i, (i < t ∨ t + c ≤ i) → (cwBwd vals f t c)[i]? = vals[i]?) := by
  induction c with
  | zero => intro vals f t _ _; exact ⟨fun k hk => absurd hk (Nat.not_lt_zero _), fun i _ => rfl⟩
  | succ c ih =>
    intro vals f t hft ht
    obtain ⟨hin, hout⟩ := ih (vals.set (t + c) ((vals[f + c]?).join)) f t hft (by simp; omega)
    refine ⟨fun k hk => ?_, fun i hi => ?_⟩
    · rcases Nat.lt_succ_iff_lt_or_eq.mp hk with hk | rfl
      · rw [cwBwd, hin k hk, List.getElem?_set_ne (by omega)]
      · rw [cwBwd, hout _ (.inr (Nat.le_refl _)), List.getElem?_set_self (by omega)]
    · rw [cwBwd, hout i (by omega), List.getElem?_set_ne (by omega)]

/-- No bound on `from_ + count`: a source range that runs past the end reads holes on both sides. -/
theorem memmove_eq_copyWithinGeneric (vals : List (Option Elem)) (from_ to count : Nat)
    (ht : to + count ≤ vals.length) :
    memmove vals from_ to count = copyWithinGeneric vals from_ to count := by
  have key : ∀ (res : List (Option Elem)),
      (∀ k, k < count → res[to + k]? = some ((vals[from_ + k]?).join)) →
      (∀ i, (i < to ∨ to + count ≤ i) → res[i]? = vals[i]?) → memmove vals from_ to count = res := by
    intro res hin hout
    apply List.ext_getElem?
    intro i
    unfold memmove
    by_cases h1 : to ≤ i ∧ i < to + count
    · obtain ⟨k, rfl⟩ : ∃ k, i = to + k := ⟨i - to, by omega⟩
      rw [hin k (by omega), List.getElem?_map, List.getElem?_range (by omega), Option.map_some, if_pos h1,
        Nat.add_sub_cancel_left]
    · rw [hout i (by omega), List.getElem?_map]
      by_cases hi : i < vals.length
      · rw [List.getElem?_range hi, Option.map_some, if_neg h1, List.getElem?_eq_getElem hi]; rfl
      · rw [List.getElem?_eq_none (by simpa using hi), List.getElem?_eq_none (by omega)]; rfl
  unfold copyWithinGeneric
  split
  · next hb =>
    obtain ⟨hin, hout⟩ := cwBwd_get count vals from_ to hb.1 ht
    exact key _ hin hout
  · next hb =>
    obtain ⟨hin, hout⟩ := cwFwd_get count vals from_ to (by omega) ht
    exact key _ hin hout

theorem setExt_at (a b : List (Option Elem)) (x : Option Elem) :
    setExt (a ++ b) a.length x = a ++ x :: b.drop 1 := by
  cases b <;> simp [setExt]

theorem writeItems_append (items : List Val) : ∀ a b : List (Option Elem),
    writeItems (a ++ b) a.length items = a ++ (items.map (fun v => some (.plain v)) ++ b.drop items.length) := by
  induction items with
  | nil => intro a b; rfl
  | cons v t ih =>
    intro a b
    have := ih (a ++ [some (.plain v)]) (b.drop 1)
    simpa [writeItems, setExt_at] using this

theorem cwFwd_left (m : List (Option Elem)) : ∀ a g : List (Option Elem), ∃ junk, junk.length = g.length ∧
    cwFwd (a ++ (g ++ m)) (a.length + g.length) a.length m.length = a ++ (m ++ junk) := by
  induction m with
  | nil => intro a g; exact ⟨g, rfl, by simp [cwFwd]⟩
  | cons x m ih =>
    intro a g
    obtain ⟨junk, hl, h⟩ := ih (a ++ [x]) ((g ++ [x]).drop 1)
    refine ⟨junk, by simpa using hl, ?_⟩
    have hset : (a ++ (g ++ x :: m)).set a.length x = a ++ [x] ++ ((g ++ [x]).drop 1 ++ m) := by
      cases g <;> simp
    simpa [cwFwd, hset, Nat.add_right_comm] using h

/-- `P` is the untouched prefix, `T` the block that moves right over `z` (last element first), `s` what lies behind;
`z'` is what is left in the slots `T` came from. -/
theorem bwdExt_inner (c : Nat) : ∀ P T z s : List (Option Elem), T.length = c → z ≠ [] →
    ∃ z', z'.length = z.length ∧
      bwdExt (P ++ (T ++ (z ++ s))) P.length (P.length + z.length) c = P ++ (z' ++ (T ++ s)) := by
  induction c with
  | zero =>
    intro P T z s hT _
    cases T with
    | nil => exact ⟨z, rfl, rfl⟩
    | cons => cases hT
  | succ c ih =>
    intro P T z s hT hz
    rcases List.eq_nil_or_concat T with rfl | ⟨T, x, rfl⟩
    · cases hT
    rcases List.eq_nil_or_concat z with rfl | ⟨z, w, rfl⟩
    · exact absurd rfl hz
    have hc : T.length = c := by simpa using hT
    obtain ⟨z', hl, h⟩ := ih P T (x :: z) (x :: s) hc (List.cons_ne_nil _ _)
    refine ⟨z', by simpa using hl, ?_⟩
    have hrd : (P ++ (T.concat x ++ (z.concat w ++ s)))[P.length + c]? = some x := by
      simp [← hc]
    have hidx : P.length + (z.concat w).length + c = (P ++ (T ++ x :: z)).length := by
      simp [hc]; omega
    have hwr : P ++ (T.concat x ++ (z.concat w ++ s)) = (P ++ (T ++ x :: z)) ++ (w :: s) := by simp
    simp only [bwdExt, hrd, hidx, Option.join_some]
    rw [hwr, setExt_at]
    simpa [Nat.add_right_comm] using h

/-- The first write extends the list; the rest is `bwdExt_inner`. -/
theorem bwdExt_right (P T : List (Option Elem)) (k : Nat) (hT : T ≠ []) :
    ∃ pad, pad.length = k + 1 ∧ bwdExt (P ++ T) P.length (P.length + (k + 1)) T.length = P ++ (pad ++ T) := by
  rcases List.eq_nil_or_concat T with rfl | ⟨T, x, rfl⟩
  · exact absurd rfl hT
  obtain ⟨z', hl, h⟩ := bwdExt_inner T.length P T (x :: List.replicate k none) [x] rfl (List.cons_ne_nil _ _)
  refine ⟨z', by simpa using hl, ?_⟩
  have hrd : (P ++ T.concat x)[P.length + T.length]? = some x := by simp
  have hext : setExt (P ++ T.concat x) (P.length + (k + 1) + T.length) x =
      P ++ (T ++ (x :: List.replicate k none ++ [x])) := by
    have : ¬ P.length + (k + 1) + T.length < P.length + (T.length + 1) ∧
        P.length + (k + 1) + T.length - (P.length + (T.length + 1)) = k := by omega
    simp [setExt, this]
  simp only [List.length_concat, bwdExt, hrd, Option.join_some, hext]
  simpa using h

theorem splice_segments (a D T : List (Option Elem)) (items : List Val) :
    spliceGeneric (a ++ (D ++ T)) a.length D.length items = a ++ (items.map (fun v => some (.plain v)) ++ T) := by
  unfold spliceGeneric
  have hT : (a ++ (D ++ T)).length - D.length - a.length = T.length := by
    rw [List.length_append, List.length_append, Nat.add_comm, Nat.add_assoc, Nat.add_sub_cancel_left, Nat.add_sub_cancel]
  simp only [hT]
  split
  · -- shrinking: `D = D1 ++ G`, the items replace `D1`, the tail moves left over `G`
    next hlt =>
    obtain ⟨D1, G, rfl, hD1⟩ : ∃ D1 G, D = D1 ++ G ∧ D1.length = items.length :=
      ⟨D.take items.length, D.drop items.length, (List.take_append_drop ..).symm,
        List.length_take_of_le (Nat.le_of_lt hlt)⟩
    obtain ⟨junk, _, hcw⟩ := cwFwd_left T (a ++ D1) G
    have hcw' : cwFwd (a ++ (D1 ++ G ++ T)) (a.length + (D1 ++ G).length) (a.length + items.length) T.length =
        (a ++ (D1 ++ T)) ++ junk := by simpa [hD1, Nat.add_assoc] using hcw
    have hn : (a ++ (D1 ++ G ++ T)).length - (D1 ++ G).length + items.length = (a ++ (D1 ++ T)).length := by
      simp; omega
    rw [hn, hcw', List.take_left, writeItems_append, ← hD1, List.drop_left]
  · split
    · -- growing: the tail moves right, the items replace `D` and the slots it left behind
      next hgt =>
      obtain ⟨k, hk⟩ : ∃ k, items.length = D.length + (k + 1) := ⟨items.length - D.length - 1, by omega⟩
      rcases T with _ | ⟨t, T⟩
      · simp [bwdExt, writeItems_append]; omega
      obtain ⟨pad, hp, hb⟩ := bwdExt_right (a ++ D) (t :: T) k (List.cons_ne_nil _ _)
      have hb' : bwdExt (a ++ (D ++ t :: T)) (a.length + D.length) (a.length + items.length) (t :: T).length =
          a ++ ((D ++ pad) ++ t :: T) := by simpa [hk, Nat.add_assoc] using hb
      have hl : items.length = (D ++ pad).length := by simp [hk, hp]
      rw [hb', writeItems_append, hl, List.drop_left]
    · next h1 h2 =>
      have : items.length = D.length := Nat.le_antisymm (Nat.le_of_not_lt h2) (Nat.le_of_not_lt h1)
      rw [writeItems_append, this, List.drop_left]

theorem swapSlots_ends (a m b : List (Option Elem)) (x y : Option Elem) :
    swapSlots (a ++ x :: (m ++ y :: b)) a.length (a.length + (m.length + 1)) = a ++ y :: (m ++ x :: b) := by
  unfold swapSlots
  simp

theorem reverseLoop_swap (c : Nat) : ∀ (a m b : List (Option Elem)), a.length = b.length → m.length / 2 = c →
    reverseLoop swapSlots (a ++ (m ++ b)).length (a ++ (m ++ b)) a.length c = a ++ (m.reverse ++ b) := by
  induction c with
  | zero =>
    intro a m b _ hc
    match m, hc with
    | [], _ | [_], _ => rfl
    | _ :: _ :: _, hc => simp at hc; omega
  | succ c ih =>
    intro a m b hab hc
    rcases m with _ | ⟨x, m⟩
    · cases hc
    rcases List.eq_nil_or_concat m with rfl | ⟨m, y, rfl⟩
    · simp at hc
    have hu : (a ++ (x :: m.concat y ++ b)).length - a.length - 1 = a.length + (m.length + 1) := by
      simp; omega
    have hm : m.length / 2 = c := by simp at hc; omega
    have := ih (a ++ [y]) m (x :: b) (by simp [hab]) hm
    simp only [reverseLoop, hu]
    simp only [List.concat_eq_append, List.cons_append, List.append_assoc, swapSlots_ends]
    simpa using this

theorem writeBackSet_append (s : List SortVal) : ∀ (a b : List (Option Elem)), s.length ≤ b.length →
    writeBackSet (a ++ b) a.length s = a ++ (s.map slotOfSortVal ++ b.drop s.length) := by
  induction s with
  | nil => intro a b _; rfl
  | cons x t ih =>
    intro a b h
    rcases b with _ | ⟨y, b⟩
    · cases h
    have := ih (a ++ [slotOfSortVal x]) b (Nat.le_of_succ_le_succ h)
    simpa [writeBackSet] using this

theorem writeBackDelete_append (c : Nat) : ∀ (a b : List (Option Elem)), c ≤ b.length →
    writeBackDelete (a ++ b) a.length c = a ++ (List.replicate c none ++ b.drop c) := by
  induction c with
  | zero => intro a b _; rfl
  | succ c ih =>
    intro a b h
    rcases b with _ | ⟨y, b⟩
    · cases h
    have := ih (a ++ [none]) b (Nat.le_of_succ_le_succ h)
    simpa [writeBackDelete, List.replicate_succ] using this

end GojaModel.C07
