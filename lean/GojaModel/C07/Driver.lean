/-
  C07 model driver (line protocol).  One case per line:

    seq <op>;<op>;…        run an op sequence on a fresh `[]`, print results + final observation
    inv <dense|sparse> length n objCount pvc present props sorted maxIdxP1 nilItems
                           evaluate `invSummaryOk` on a white-box summary of the implementation
    sort <variant> <cmp> v,v,…   run the sort model (insertion phase) — see `runSort`

  ops:  S idx val pa | L len | D idx v w e c g s | DL v w e c acc | X idx | F | P | POP
        FILL from count val | DS (dense→sparse detour) | DD (sparse→dense detour) | PROTO … (ignored)
-/
import GojaModel.Base.Proto
import GojaModel.C07.Model

namespace GojaModel.C07.Driver
open GojaModel.Proto GojaModel.C07

def tf (b : Bool) : String := if b then "T" else "F"

def optBool? (s : String) : Option (Option Bool) :=
  if s == "-" then some none else if s == "T" then some (some true) else if s == "F" then some (some false) else none

def optNat? (s : String) : Option (Option Nat) :=
  if s == "-" then some none else s.toNat?.map some

/-- getter/setter field: `-` absent, `u` undefined, number = function id. -/
def optFn? (s : String) : Option (Option (Option Nat)) :=
  if s == "-" then some none else if s == "u" then some (some none) else s.toNat?.map (fun n => some (some n))

def fnStr : Option Val → String
  | none => "u"
  | some f => toString f

def spropStr : SProp → String
  | .data v w e c => s!"d{v}.{tf w}{tf e}{tf c}"
  | .acc g s e c => s!"a{fnStr g}.{fnStr s}.{tf e}{tf c}"

def Store.items : Store → Items
  | .dense a => enumSome 0 a.values
  | .sparse a => a.items

def Store.getOwn : Store → Nat → Option Elem
  | .dense a, i => a.slot i
  | .sparse a, i => sFind a.items i

def Store.ext : Store → Bool
  | .dense a => a.ext
  | .sparse a => a.ext

def Store.tag : Store → String
  | .dense _ => "dense"
  | .sparse _ => "sparse"

structure St where
  s : Store
  res : String := ""
  quirk : String := "-"
  tags : String := ""       -- storage tag after every op (d/s)
  bad : Bool := false

def St.push (st : St) (r : Store × Bool) : St :=
  { st with s := r.1, res := st.res ++ tf r.2 }

def classifyQuirk (e : Option Elem) (d : Desc) (ext : Bool) : Option String :=
  if (mechDefine e d ext).map Elem.abs == specDefine (e.map Elem.abs) d ext then none
  else
    match e with
    | some (.prop p) =>
      if p.accessor && p.writable && d.value.isSome && d.writable.isNone then some "stale-writable"
      else if !p.configurable then some "kind-change-nonconfigurable"
      else some "other"
    | _ => some "other"

def doSet (st : St) (i v : Nat) (pa : Option Bool) : St := st.push (st.s.setOwnIdx i v pa)

def fillLoop (st : St) (from_ : Nat) (v : Nat) : Nat → St
  | 0 => st
  | n + 1 =>
    let st' := fillLoop st from_ v n
    let r := st'.s.setOwnIdx (from_ + n) v none
    { st' with s := r.1 }

def delLoop (st : St) (from_ : Nat) : Nat → St
  | 0 => st
  | n + 1 =>
    let st' := delLoop st from_ n
    { st' with s := (st'.s.deleteIdx (from_ + n)).1 }

def detourIdxSparse : Nat := 70000
def detourFillFrom : Nat := 100
def detourFillCount : Nat := 1300

def step (st : St) (op : String) : St :=
  let st1 : St :=
  match words op with
  | ["S", i, v, pa] =>
    match i.toNat?, v.toNat?, (if pa == "n" then some none else if pa == "t" then some (some true) else if pa == "f" then some (some false) else none) with
    | some i, some v, some pa =>
      -- spec: an accessor without a setter rejects [[Set]]; goja consults a stale `writable` flag
      let q := match Store.getOwn st.s i with
        | some (.prop p) => if p.accessor && p.writable && p.setter.isNone && st.quirk == "-" then "stale-writable" else st.quirk
        | _ => st.quirk
      { doSet st i v pa with quirk := q }
    | _, _, _ => { st with bad := true }
  | ["L", l] =>
    match l.toNat? with
    | some l => st.push (st.s.setLength l)
    | none => { st with bad := true }
  | ["D", i, v, w, e, c, g, s] =>
    match i.toNat?, optNat? v, optBool? w, optBool? e, optBool? c, optFn? g, optFn? s with
    | some i, some v, some w, some e, some c, some g, some s =>
      let d : Desc := { value := v, writable := w, enumerable := e, configurable := c, getter := g, setter := s }
      let q := if st.quirk == "-" then (classifyQuirk (Store.getOwn st.s i) d (Store.ext st.s)).getD "-" else st.quirk
      { st.push (st.s.defineIdx mechDefine i d) with quirk := q }
    | _, _, _, _, _, _, _ => { st with bad := true }
  | ["DL", v, w, e, c, acc] =>
    match optNat? v, optBool? w, optBool? e, optBool? c with
    | some v, some w, some e, some c =>
      st.push (st.s.defineLength { value := v, writable := w, enumerable := e, configurable := c, hasAccessor := acc == "1" })
    | _, _, _, _ => { st with bad := true }
  | ["X", i] =>
    match i.toNat? with
    | some i => st.push (st.s.deleteIdx i)
    | none => { st with bad := true }
  | ["POP"] => st.push (st.s.pop true)
  | ["F"] => { st with s := st.s.freeze, res := st.res ++ "T" }
  | ["P"] => { st with s := st.s.preventExtensions, res := st.res ++ "T" }
  | ["FILL", f, n, v] =>
    match f.toNat?, n.toNat?, v.toNat? with
    | some f, some n, some v => { fillLoop st f v n with res := st.res ++ "T" }
    | _, _, _ => { st with bad := true }
  | ["DS"] =>
    -- var L=a.length; a[70000]=1; delete a[70000]; a.length=L
    let l := st.s.length
    let s1 := (st.s.setOwnIdx detourIdxSparse 1 none).1
    let s2 := (s1.deleteIdx detourIdxSparse).1
    let s3 := (s2.setLength l).1
    { st with s := s3 }
  | ["DD"] =>
    -- var L=a.length; for(i=100;i<1400;i++)a[i]=1; for(…)delete a[i]; a.length=L
    let l := st.s.length
    let st2 := fillLoop st detourFillFrom 1 detourFillCount
    let tagMid := Store.tag st2.s
    let st3 := delLoop st2 detourFillFrom detourFillCount
    { st3 with s := (st3.s.setLength l).1, tags := st3.tags ++ (if tagMid == "dense" then "D" else "S") }
  | "PROTO" :: _ => st
  | _ => { st with bad := true }
  if (words op).head? == some "PROTO" then st1
  else { st1 with tags := st1.tags ++ (if Store.tag st1.s == "dense" then "d" else "s") }

def obs (st : St) : String :=
  let keys := ",".intercalate ((Store.items st.s).map (fun p => s!"{p.1}:{spropStr p.2.abs}"))
  s!"r={st.res}|len={st.s.length}|lw={tf st.s.lenW}|ext={tf (Store.ext st.s)}|keys={keys}|tag={Store.tag st.s}|tags={st.tags}|q={st.quirk}"

def runSeq (body : String) : String :=
  let ops := (body.splitOn ";").filter (fun s => (words s) ≠ [])
  let st := ops.foldl step { s := Store.empty }
  if st.bad then "BADOP" else obs st

def runInv (ws : List String) : String :=
  match ws with
  | [tag, length, n, oc, pvc, present, props, sorted, mx, nils] =>
    match length.toNat?, n.toNat?, oc.toNat?, pvc.toNat?, present.toNat?, props.toNat?, mx.toNat?, nils.toNat? with
    | some length, some n, some oc, some pvc, some present, some props, some mx, some nils =>
      if invSummaryOk (tag == "dense") length n oc pvc present props (sorted == "T") mx nils then "ok" else "BAD"
    | _, _, _, _, _, _, _, _ => "BAD(parse)"
  | _ => "BADOP"

/-- sort model: `sort <mech|spec> <cmpname> e,e,…`; elements `n` (nil), `u` (undefined) or `k.tag`
(key k ≥ 0, tag for identity). Comparator classes on keys: `asc` (a-b), `negzero` (always −0),
`nan` (always NaN), `desc-negate` (−(a−b), i.e. −0 for equal keys), `poszero` (always +0). -/
def cmpByName (name : String) (a b : Nat) : CmpRes :=
  -- a, b are encoded (key*1000 + tag + 1); compare keys
  let ka := (a - 1) / 1000
  let kb := (b - 1) / 1000
  if name == "asc" then (if ka < kb then .neg else if ka > kb then .pos else .posZero)
  else if name == "desc-negate" then (if ka < kb then .pos else if ka > kb then .neg else .negZero)
  else if name == "negzero" then .negZero
  else if name == "nan" then .nan
  else .posZero

def parseSortElem (s : String) : Option SortVal :=
  if s == "n" then some none
  else if s == "u" then some (some 0)
  else match s.splitOn "." with
    | [k, t] => match k.toNat?, t.toNat? with
      | some k, some t => some (some (k * 1000 + t + 1))
      | _, _ => none
    | _ => none

def sortElemStr : SortVal → String
  | none => "n"
  | some 0 => "u"
  | some (v + 1) => s!"{v / 1000}.{v % 1000}"

def runSort (ws : List String) : String :=
  match ws with
  | [variant, cmp, elems] =>
    let es := (elems.splitOn ",").filterMap parseSortElem
    let less := if variant == "mech" then mechLess (cmpByName cmp) else specLess (cmpByName cmp)
    ",".intercalate ((isort less es).map sortElemStr)
  | _ => "BADOP"

def handle (line : String) : String :=
  if line.startsWith "seq " then runSeq (line.drop 4).toString
  else match words line with
    | "inv" :: ws => runInv ws
    | "sort" :: ws => runSort ws
    | _ => "BADOP"

def main : IO Unit := lineMap handle

end GojaModel.C07.Driver
