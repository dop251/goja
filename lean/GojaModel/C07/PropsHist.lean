/-
  Whole histories.  For goja's own `_defineOwnProperty`
  (`mechDefine`) and the spec's ValidateAndApplyPropertyDescriptor (`specDefine`):
  every operation — and therefore every finite sequence of operations — on a store that satisfies
  `Good` (= `Inv` + all elements well-formed) yields exactly the results and the abstract state the
  ECMA-262 Array exotic object prescribes, and ends in a `Good` store again, whatever storage
  strategy is in use and however often it switches on the way.
-/
import GojaModel.C07.PropsElem
import GojaModel.C07.Run

namespace GojaModel.C07

def Dense.AllWF (a : Dense) : Prop := ∀ e, some e ∈ a.values → e.WF
def Sparse.AllWF (a : Sparse) : Prop := ∀ p ∈ a.items, p.2.WF

def Store.AllWF : Store → Prop
  | .dense a => a.AllWF
  | .sparse a => a.AllWF

structure Store.Good (s : Store) : Prop where
  inv : s.Inv
  wf : s.AllWF

/-- `Inv` is needed for the sparse half: sortedness is what makes every item its index's own element. -/
theorem Store.allWF_iff (s : Store) (h : s.Inv) : s.AllWF ↔ s.All Elem.WF := by
  cases s with
  | dense a =>
    constructor
    · intro hw i e he
      exact hw e (List.mem_of_getElem? (slot_some_lt he).2)
    · intro hw e he
      obtain ⟨i, hi, hget⟩ := List.getElem_of_mem he
      exact hw i e (by simp [Store.own, Dense.slot, List.getElem?_eq_getElem hi, hget])
  | sparse a =>
    constructor
    · intro hw i e he; exact hw (i, e) (aGet_some_mem he)
    · intro hw p hp; exact hw p.1 p.2 (aGet_of_mem h.sorted hp)

private theorem freeze_wf (e : Elem) (h : e.WF) : e.freeze.WF := by
  cases e with
  | plain v => exact ⟨fun h => Bool.noConfusion h, fun _ => ⟨rfl, rfl⟩⟩
  | prop p =>
    obtain ⟨pv, bw, be, bc, ba, pg, ps⟩ := p
    obtain ⟨h1, h2⟩ := h
    cases ba
    · exact ⟨fun h => Bool.noConfusion h, fun _ => h2 rfl⟩
    · obtain ⟨rfl, rfl⟩ := h1 rfl
      exact ⟨fun _ => ⟨rfl, rfl⟩, fun h => Bool.noConfusion h⟩

private theorem setValue_wf (p : VProp) (v : Val) (h : p.WF) (hw : p.isWritable = true) : (p.setValue v).WF := by
  obtain ⟨pv, bw, be, bc, ba, pg, ps⟩ := p
  obtain ⟨h1, h2⟩ := h
  cases ba
  · obtain ⟨rfl, rfl⟩ := h2 rfl
    exact ⟨fun h => Bool.noConfusion h, fun _ => ⟨rfl, rfl⟩⟩
  · obtain ⟨rfl, rfl⟩ := h1 rfl
    cases ps with
    | none => simp [VProp.isWritable] at hw
    | some f => exact ⟨fun _ => ⟨rfl, rfl⟩, fun h => Bool.noConfusion h⟩

private theorem assign_wf {e e' : Elem} {v : Val} (h : e.WF) (ha : e.assign v = some e') : e'.WF := by
  cases e with
  | plain v0 => cases ha; trivial
  | prop p =>
    simp only [Elem.assign] at ha
    split at ha
    · next hw => cases ha; exact setValue_wf p v h hw
    · cases ha

private theorem Dense.toSparse_wf (a : Dense) (h : a.AllWF) : a.toSparse.AllWF := by
  intro p hp; exact h p.2 (mem_enumSome hp)

inductive Op where
  | set (idx : Nat) (v : Val) (protoAns : Option Bool)
  | define (idx : Nat) (d : Desc)
  | delete (idx : Nat)
  | setLength (l : Nat)
  | defineLength (d : LenDesc)
  | freeze
  | preventExtensions

def Op.Valid : Op → Prop
  | .define _ d => d.Valid
  | _ => True

/-- the mechanism: goja's array object under either storage. -/
def Store.step (s : Store) : Op → Store × Bool
  | .set i v pa => s.setOwnIdx i v pa
  | .define i d => s.defineIdx mechDefine i d
  | .delete i => s.deleteIdx i
  | .setLength l => s.setLength l
  | .defineLength d => s.defineLength d
  | .freeze => (s.freeze, true)
  | .preventExtensions => (s.preventExtensions, true)

/-- the specification: the ECMA-262 Array exotic object. -/
def SpecArray.step (a : SpecArray) : Op → SpecArray × Bool
  | .set i v pa => a.set specDefine i v pa
  | .define i d => a.defineIdx specDefine i d
  | .delete i => a.delete i
  | .setLength l => a.setLength l
  | .defineLength d => a.defineLength d
  | .freeze => (a.freeze, true)
  | .preventExtensions => (a.preventExtensions, true)

private theorem specDefine_full (v : Val) (ext : Bool) :
    specDefine none (fullDesc v) ext = if ext then some (.data v true true true) else none := by
  cases ext <;> rfl

/-- one operation: the mechanism (any storage) does what the spec prescribes, and `Good` is kept. -/
theorem step_refines (s : Store) (hg : s.Good) (op : Op) (hv : op.Valid) :
    ((s.step op).1.abs, (s.step op).2) = s.abs.step op ∧ (s.step op).1.Good := by
  obtain ⟨hinv, hwf⟩ := hg
  have hall := (s.allWF_iff hinv).mp hwf
  cases op with
  | set i v pa =>
    have ho := Store.setOwnIdx_outcome s hinv i v pa
    obtain ⟨r1, r2⟩ := ho.refines (sd := specDefine) hinv (specDefine_full v) fun p hp =>
      ⟨fun hacc => ((hall i _ hp).1 hacc).1, fun hacc => ((hall i _ hp).2 hacc).2⟩
    exact ⟨r1, r2, (Store.allWF_iff _ r2).mpr (ho.all hall trivial fun e e' he ha => assign_wf (hall i e he) ha)⟩
  | define i d =>
    have ho := Store.defineIdx_outcome mechDefine s hinv i d
    obtain ⟨r1, r2⟩ := ho.refines (sd := specDefine) hinv (mechDefine_refines (s.own i) d _ (hall i) hv)
    exact ⟨r1, r2, (Store.allWF_iff _ r2).mpr (ho.all hall (mechDefine_wf _ d _ (hall i) hv))⟩
  | delete i =>
    have ho := Store.deleteIdx_outcome s hinv i
    have hi := Store.deleteIdx_inv s hinv i
    exact ⟨ho.refines, hi, (Store.allWF_iff _ hi).mpr (ho.all hall)⟩
  | setLength l =>
    obtain ⟨r1, r2⟩ := store_setLength_refines s hinv l
    exact ⟨r1, r2, (Store.allWF_iff _ r2).mpr (hall.mono (s.setLength_sub hinv l))⟩
  | defineLength d =>
    obtain ⟨r1, r2⟩ := defineLength_refines s hinv d
    exact ⟨r1, r2, (Store.allWF_iff _ r2).mpr (hall.mono (s.defineLength_sub hinv d))⟩
  | freeze =>
    obtain ⟨r1, r2⟩ := freeze_refines s hinv
    refine ⟨Prod.ext r1 rfl, r2, (Store.allWF_iff _ r2).mpr fun i e he => ?_⟩
    have he' : s.freeze.own i = some e := he
    rw [Store.freeze_own s hinv] at he'
    cases ho : s.own i with
    | none => rw [ho] at he'; cases he'
    | some e0 => rw [ho] at he'; cases he'; exact freeze_wf e0 (hall i e0 ho)
  | preventExtensions =>
    cases s with
    | dense a => exact ⟨rfl, ⟨hinv.lenValues, hinv.objCount, hinv.pvc⟩, hwf⟩
    | sparse a => exact ⟨rfl, ⟨hinv.sorted, hinv.below, hinv.pvc⟩, hwf⟩

def Store.run (s : Store) : List Op → Store × List Bool
  | [] => (s, [])
  | op :: rest =>
    let r := s.step op
    let q := r.1.run rest
    (q.1, r.2 :: q.2)

def SpecArray.run (a : SpecArray) : List Op → SpecArray × List Bool
  | [] => (a, [])
  | op :: rest =>
    let r := a.step op
    let q := r.1.run rest
    (q.1, r.2 :: q.2)

theorem Store.isRun : IsRun Store.step Store.run := ⟨fun _ => rfl, fun _ _ _ => rfl⟩
theorem SpecArray.isRun : IsRun SpecArray.step SpecArray.run := ⟨fun _ => rfl, fun _ _ _ => rfl⟩

/-- THE property, for the modelled operations: any finite sequence of indexed writes, length
changes, defineProperty on elements and on length, deletes, freeze and preventExtensions, run on
goja's array object (dense or sparse, switching storage in either direction as its heuristics
decide), produces exactly the per-operation results and the final abstract array that the
ECMA-262 Array exotic object produces — the storage strategy is never observable. -/
theorem history_refines (ops : List Op) (s : Store) (hg : s.Good) (hv : ∀ op ∈ ops, op.Valid) :
    ((s.run ops).1.abs, (s.run ops).2) = s.abs.run ops ∧ (s.run ops).1.Good :=
  Store.isRun.refines SpecArray.isRun Store.abs Store.Good Op.Valid step_refines ops s hg hv

/-- the empty array literal is `Good`, so the theorem applies to every history from `[]`. -/
theorem empty_good : Store.empty.Good :=
  ⟨⟨Nat.le_refl _, rfl, Nat.le_refl _⟩, fun _ h => by cases h⟩

/-- a twin pushed through the other storage is indistinguishable: two `Good` stores with the same
abstraction (e.g. `a` and `a.toSparse`) answer every history identically. -/
theorem twin_indistinguishable (ops : List Op) (s t : Store) (hs : s.Good) (ht : t.Good) (hab : s.abs = t.abs)
    (hv : ∀ op ∈ ops, op.Valid) :
    (s.run ops).2 = (t.run ops).2 ∧ (s.run ops).1.abs = (t.run ops).1.abs := by
  obtain ⟨a1, _⟩ := history_refines ops s hs hv
  obtain ⟨b1, _⟩ := history_refines ops t ht hv
  rw [hab] at a1
  have := a1.trans b1.symm
  exact ⟨(Prod.mk.inj this).2, (Prod.mk.inj this).1⟩

end GojaModel.C07
