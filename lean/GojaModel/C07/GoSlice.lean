/-
  C07 — the Go `[]interface{}` wrapper (object_goslice.go): a window `data = backing[:len]` onto a
  backing array whose spare capacity may hold stale values.  Model of `grow` / `shrink` / `putIdx` /
  `putLength`; the theorem (PropsGoSlice.lean) is that the script-visible window behaves like a plain
  list whatever the spare capacity contains.
-/
import GojaModel.C07.Model

namespace GojaModel.C07

structure GoSlice where
  backing : List (Option Val)     -- the backing array, `cap = backing.length`; `none` = nil
  len : Nat

def GoSlice.WF (g : GoSlice) : Prop := g.len ≤ g.backing.length

/-- what scripts (and Go code holding the slice) see. -/
def GoSlice.view (g : GoSlice) : List (Option Val) := g.backing.take g.len

/-- set the slots `from_ … from_+n-1` of the backing array to nil. -/
def clearRange (b : List (Option Val)) : Nat → Nat → List (Option Val)
  | _, 0 => b
  | from_, n + 1 => clearRange (b.set from_ none) (from_ + 1) n

/-- object_goslice.go:105 `grow(size)` (callers guarantee `size > len`). -/
def GoSlice.grow (g : GoSlice) (size : Nat) : GoSlice :=
  if g.backing.length < size then
    -- n := make([]interface{}, size, growCap(size, len, oldcap)); copy(n, *o.data)
    let cap' := max size (growCap size g.len g.backing.length)
    { backing := g.view ++ List.replicate (cap' - g.len) none, len := size }
  else
    -- tail := (*o.data)[len:size]; for k := range tail { tail[k] = nil }; *o.data = (*o.data)[:size]
    { backing := clearRange g.backing g.len (size - g.len), len := size }

/-- the red team's m4: reslice first, so the "tail" is empty and nothing is cleared. -/
def GoSlice.growM4 (g : GoSlice) (size : Nat) : GoSlice :=
  if g.backing.length < size then g.grow size else { backing := g.backing, len := size }

/-- object_goslice.go:120 `shrink(size)` (`size ≤ len`): clear the dropped tail, reslice. -/
def GoSlice.shrink (g : GoSlice) (size : Nat) : GoSlice :=
  { backing := clearRange g.backing size (g.len - size), len := size }

/-- object_goslice.go:128 `putIdx`. -/
def GoSlice.putIdx (g : GoSlice) (idx : Nat) (v : Option Val) : GoSlice :=
  let g1 := if idx ≥ g.len then g.grow (idx + 1) else g
  { g1 with backing := g1.backing.set idx v }

/-- object_goslice.go:135 `putLength`. -/
def GoSlice.putLength (g : GoSlice) (n : Nat) : GoSlice :=
  if n > g.len then g.grow n else if n < g.len then g.shrink n else g

/-! spec: a plain list of optional values -/

def listGrow (l : List (Option Val)) (size : Nat) : List (Option Val) := l ++ List.replicate (size - l.length) none
def listPut (l : List (Option Val)) (idx : Nat) (v : Option Val) : List (Option Val) :=
  (if idx ≥ l.length then listGrow l (idx + 1) else l).set idx v
def listSetLength (l : List (Option Val)) (n : Nat) : List (Option Val) :=
  if n > l.length then listGrow l n else l.take n

end GojaModel.C07
