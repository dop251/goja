/-
  Element writes (`[[DefineOwnProperty]]` on an index, `[[Set]]`),
  including the storage switches that happen inside them; `defineArrayLength`; freeze; the insertion phase of sort.
  `md`/`sd` are the element-level define functions (parameters; `mechDefine_refines` in Props.lean shows
  that goja's `_defineOwnProperty` and the spec's ValidateAndApply satisfy the hypothesis `hD`).
-/
import GojaModel.C07.Props

namespace GojaModel.C07

/-- What `_defineIdxProperty` can do, for either storage. -/
inductive DefineOutcome (md : MechDefine) (s : Store) (idx : Nat) (d : Desc) : Store × Bool → Prop
  | reject : md (s.own idx) d s.abs.extensible = none → DefineOutcome md s idx d (s, false)
  | readOnly : s.abs.length ≤ idx → s.abs.lengthWritable = false → DefineOutcome md s idx d (s, false)
  | put (e : Elem) (t : Store) : md (s.own idx) d s.abs.extensible = some e →
      (idx < s.abs.length ∨ s.abs.lengthWritable = true) →
      s.Upd idx (some e) (if idx < s.abs.length then s.abs.length else idx + 1) t → t.Inv →
      DefineOutcome md s idx d (t, true)

theorem DefineOutcome.refines {md : MechDefine} {sd : SpecDefine} {s : Store} {idx : Nat} {d : Desc} {r : Store × Bool}
    (h : DefineOutcome md s idx d r) (hi : s.Inv)
    (hD : (md (s.own idx) d s.abs.extensible).map Elem.abs = sd ((s.own idx).map Elem.abs) d s.abs.extensible) :
    (r.1.abs, r.2) = s.abs.defineIdx sd idx d ∧ r.1.Inv := by
  rw [← Store.abs_get] at hD
  cases h with
  | reject hm => rw [hm] at hD; exact ⟨(s.abs.defineIdx_none sd idx d hD.symm).symm, hi⟩
  | readOnly hge hw => exact ⟨(s.abs.defineIdx_ro sd idx d hge hw).symm, hi⟩
  | put e t hm hok hu ht =>
    rw [hm] at hD
    refine ⟨?_, ht⟩
    rw [s.abs.defineIdx_put sd idx d _ hD.symm hok, hu.abs]
    rfl

theorem DefineOutcome.all {P : Elem → Prop} {md : MechDefine} {s : Store} {idx : Nat} {d : Desc} {r : Store × Bool}
    (h : DefineOutcome md s idx d r) (hs : s.All P) (hmd : ∀ y, md (s.own idx) d s.abs.extensible = some y → P y) :
    r.1.All P := by
  cases h with
  | reject => exact hs
  | readOnly => exact hs
  | put e t hm _ hu _ => exact hu.all hs fun _ he => Option.some.inj he ▸ hmd e hm

theorem Store.defineIdx_outcome (md : MechDefine) (s : Store) (h : s.Inv) (idx : Nat) (d : Desc) :
    DefineOutcome md s idx d (s.defineIdx md idx d) := by
  cases s with
  | dense a =>
    show DefineOutcome md (.dense a) idx d (a.defineIdx md idx d)
    rw [dense_define_eq]
    cases hm : md (a.slot idx) d a.ext with
    | none => exact .reject hm
    | some prop =>
      dsimp only
      by_cases hge : idx ≥ a.length
      · rw [if_pos hge]
        cases hw : a.lenW
        · rw [Dense.setLengthInt_ro a idx hge hw]; exact .readOnly hge hw
        · rw [Dense.setLengthInt_grow a h idx hge hw]
          have h1 : ({ a with length := idx + 1 } : Dense).Inv :=
            ⟨Nat.le_succ_of_le (Nat.le_trans h.lenValues hge), h.objCount, h.pvc⟩
          obtain ⟨hu, hinv⟩ :=
            Dense.place_upd { a with length := idx + 1 } h1 idx (Nat.lt_succ_self idx) prop (a.slot idx).isNone rfl
          refine .put prop _ hm (.inr hw) ?_ hinv
          rw [if_neg (show ¬ idx < (Store.dense a).abs.length from Nat.not_lt_of_le hge)]
          exact hu.of_source (fun _ => rfl) rfl rfl
      · rw [if_neg hge]
        have hlt : idx < (Store.dense a).abs.length := Nat.lt_of_not_le hge
        obtain ⟨hu, hinv⟩ := Dense.place_upd a h idx hlt prop _ rfl
        refine .put prop _ hm (.inl hlt) ?_ hinv
        rw [if_pos hlt]
        exact hu
  | sparse a =>
    show DefineOutcome md (.sparse a) idx d (a.defineIdx md idx d)
    rw [sparse_define_eq, sFind_eq_aGet h.sorted idx]
    cases hm : md (aGet a.items idx) d a.ext with
    | none => exact .reject hm
    | some prop =>
      dsimp only
      by_cases hge : idx ≥ a.length
      · have habsent : aGet a.items idx = none := aGet_none_of_below h.below hge
        rw [if_pos hge]
        cases hw : a.lenW
        · rw [Sparse.setLengthInt_ro a idx hge hw]; exact .readOnly hge hw
        · rw [Sparse.setLengthInt_grow a h idx hge hw]
          have h1 : ({ a with length := idx + 1 } : Sparse).Inv :=
            ⟨h.sorted, fun p hp => Nat.lt_succ_of_lt (Nat.lt_of_lt_of_le (h.below p hp) hge), h.pvc⟩
          obtain ⟨hu, hinv⟩ := Sparse.place_upd { a with length := idx + 1 } h1 idx (Nat.lt_succ_self idx) prop habsent
          simp only [habsent, Bool.not_true, Bool.false_eq_true, if_false, Option.isNone_none, if_true]
          refine .put prop _ hm (.inr hw) ?_ hinv
          rw [if_neg (show ¬ idx < (Store.sparse a).abs.length from Nat.not_lt_of_le hge)]
          exact hu.of_source (fun _ => rfl) rfl rfl
      · have hlt : idx < (Store.sparse a).abs.length := Nat.lt_of_not_le hge
        rw [if_neg hge]
        simp only [Bool.not_true, Bool.false_eq_true, if_false]
        cases hs : aGet a.items idx with
        | none =>
          obtain ⟨hu, hinv⟩ := Sparse.place_upd a h idx hlt prop hs
          refine .put prop _ hm (.inl hlt) ?_ hinv
          rw [if_pos hlt]
          exact hu
        | some old =>
          have hp : (aGet a.items idx).isSome := by rw [hs]; rfl
          refine .put prop _ hm (.inl hlt) ?_
            (Sparse.replace_inv a h idx prop _ ?_)
          · rw [if_pos hlt]
            exact Sparse.replace_upd a h idx prop _ hp
          · have h1 := countProp_sSetAt_le a.items idx prop
            have h2 := h.pvc
            cases hip : prop.isProp <;> rw [hip] at h1 <;>
              simp only [Bool.false_eq_true, if_false, if_true] at h1 ⊢ <;> omega

/-- dense `_defineIdxProperty` (array.go:432) refines the Array `[[DefineOwnProperty]]` for an index
and preserves `Inv` — including the case where `expand` switches to sparse storage. -/
theorem dense_define_refines (md : MechDefine) (sd : SpecDefine) (a : Dense) (h : a.Inv) (idx : Nat) (d : Desc)
    (hD : (md (a.slot idx) d a.ext).map Elem.abs = sd ((a.slot idx).map Elem.abs) d a.ext) :
    ((a.defineIdx md idx d).1.abs, (a.defineIdx md idx d).2) = a.abs.defineIdx sd idx d ∧
    (a.defineIdx md idx d).1.Inv :=
  (Store.defineIdx_outcome md (.dense a) h idx d).refines h hD

/-- sparse `_defineIdxProperty` (array_sparse.go:344) refines the Array `[[DefineOwnProperty]]` for
an index and preserves `Inv` — including the case where `expand` switches to dense storage. -/
theorem sparse_define_refines (md : MechDefine) (sd : SpecDefine) (a : Sparse) (h : a.Inv) (idx : Nat) (d : Desc)
    (hD : (md (sFind a.items idx) d a.ext).map Elem.abs = sd ((sFind a.items idx).map Elem.abs) d a.ext) :
    ((a.defineIdx md idx d).1.abs, (a.defineIdx md idx d).2) = a.abs.defineIdx sd idx d ∧
    (a.defineIdx md idx d).1.Inv :=
  (Store.defineIdx_outcome md (.sparse a) h idx d).refines h (by
    rw [sFind_eq_aGet h.sorted idx] at hD; exact hD)

/-- the descriptor of CreateDataProperty. -/
def fullDesc (v : Val) : Desc :=
  { value := some v, writable := some true, enumerable := some true, configurable := some true }

/-- the element-level effect of the "new property" branch of `_setOwnIdx`. It ignores the existing element and the
descriptor: the branch runs on an absent index only and always stores the plain value, so the extensibility test is
all that `_defineOwnProperty` would add. -/
def mdPlain (v : Val) : MechDefine := fun _ _ ext => if ext then some (.plain v) else none

private theorem dense_set_tail (a1 : Dense) (idx : Nat) (v : Val) :
    (match (if idx ≥ a1.values.length then a1.expand idx else some a1) with
      | none => ((Store.sparse (a1.toSparse.add idx (.plain v)), true) : Store × Bool)
      | some a2 => (.dense { a2 with objCount := a2.objCount + 1, values := a2.values.set idx (some (.plain v)) }, true)) =
    (a1.place idx (.plain v) true, true) := by
  unfold Dense.place
  by_cases hge : idx ≥ a1.values.length
  · simp only [hge, if_true]
    cases a1.expand idx <;> rfl
  · simp only [hge, if_false]
    rw [Dense.expand_of_lt a1 idx (by omega)]
    rfl

/-- The new-element branch of `_setOwnIdx` repeats the tail of `_defineIdxProperty`, with `mdPlain` in the place of
`_defineOwnProperty`. -/
theorem dense_set_absent_eq (a : Dense) (idx : Nat) (v : Val) (hs : a.slot idx = none) :
    a.setOwnIdx idx v none = a.defineIdx (mdPlain v) idx (fullDesc v) := by
  rw [dense_define_eq]
  unfold Dense.setOwnIdx mdPlain
  rw [hs]
  dsimp only
  cases a.ext
  · rfl
  · simp only [Bool.not_true, Bool.false_eq_true, if_false, if_true, Option.isNone_none]
    by_cases hge : idx ≥ a.length
    · simp only [hge, if_true]
      cases (a.setLengthInt (idx + 1)).2
      · rfl
      · simp only [Bool.not_true, Bool.false_eq_true, if_false]
        exact dense_set_tail _ idx v
    · simp only [hge, if_false, Bool.not_true, Bool.false_eq_true]
      exact dense_set_tail _ idx v

private theorem sparse_set_tail (a1 : Sparse) (idx : Nat) (v : Val) (hlt : idx < a1.length) :
    (match a1.expand idx with
      | none => ((Store.sparse (a1.add idx (.plain v)), true) : Store × Bool)
      | some ar => (.dense { ar with values := ar.values.set idx (some (.plain v)), objCount := ar.objCount + 1 }, true)) =
    (a1.place idx (.plain v), true) := by
  unfold Sparse.place
  have hnl : ¬ idx ≥ a1.length := by omega
  cases a1.expand idx with
  | none => simp [Sparse.add, hnl, Elem.isProp]
  | some ar => rfl

theorem sparse_set_absent_eq (a : Sparse) (h : a.Inv) (idx : Nat) (v : Val) (hs : sFind a.items idx = none) :
    a.setOwnIdx idx v none = a.defineIdx (mdPlain v) idx (fullDesc v) := by
  rw [sparse_define_eq]
  unfold Sparse.setOwnIdx mdPlain
  rw [hs]
  dsimp only
  cases a.ext
  · rfl
  · simp only [Bool.not_true, Bool.false_eq_true, if_false, if_true, Option.isNone_none]
    by_cases hge : idx ≥ a.length
    · simp only [hge, if_true]
      cases hw : a.lenW
      · rw [Sparse.setLengthInt_ro a idx hge hw]; rfl
      · rw [Sparse.setLengthInt_grow a h idx hge hw]
        simp only [Bool.not_true, Bool.false_eq_true, if_false]
        exact sparse_set_tail _ idx v (Nat.lt_succ_self idx)
    · simp only [hge, if_false, Bool.not_true, Bool.false_eq_true]
      exact sparse_set_tail a idx v (by omega)

private theorem SpecArray.set_absent (sd : SpecDefine) (A : SpecArray) (idx : Nat) (v : Val) (pa : Option Bool)
    (h : A.get idx = none) :
    A.set sd idx v pa = match pa with
      | some r => (A, r)
      | none => A.defineIdx sd idx (fullDesc v) := by
  unfold SpecArray.set; rw [h]; rfl

private theorem mdPlain_refines (sd : SpecDefine) (v : Val) (ext : Bool)
    (hsd : ∀ ext, sd none (fullDesc v) ext = if ext then some (.data v true true true) else none) :
    (mdPlain v none (fullDesc v) ext).map Elem.abs = sd ((none : Option Elem).map Elem.abs) (fullDesc v) ext := by
  rw [Option.map_none, hsd]; unfold mdPlain; cases ext <;> rfl

/-- What `_setOwnIdx` can do, for either storage. -/
inductive SetOutcome (s : Store) (idx : Nat) (v : Val) (pa : Option Bool) : Store × Bool → Prop
  | inherited (r : Bool) : s.own idx = none → pa = some r → SetOutcome s idx v pa (s, r)
  | create (res : Store × Bool) : s.own idx = none → pa = none →
      DefineOutcome (mdPlain v) s idx (fullDesc v) res → SetOutcome s idx v pa res
  | readOnly (e : Elem) : s.own idx = some e → e.assign v = none → SetOutcome s idx v pa (s, false)
  | store (e e' : Elem) (t : Store) : s.own idx = some e → e.assign v = some e' →
      s.Upd idx (some e') s.abs.length t → t.Inv → SetOutcome s idx v pa (t, true)

/-- The hypotheses on the touched element are what `VProp.WF` gives. -/
theorem SetOutcome.refines {sd : SpecDefine} {s : Store} {idx : Nat} {v : Val} {pa : Option Bool} {r : Store × Bool}
    (h : SetOutcome s idx v pa r) (hi : s.Inv)
    (hsd : ∀ ext, sd none (fullDesc v) ext = if ext then some (.data v true true true) else none)
    (hwf : ∀ p, s.own idx = some (.prop p) →
      (p.accessor = true → p.writable = false) ∧ (p.accessor = false → p.setter = none)) :
    (r.1.abs, r.2) = s.abs.set sd idx v pa ∧ r.1.Inv := by
  have hget : s.abs.get idx = (s.own idx).map Elem.abs := s.abs_get idx
  cases h with
  | inherited r h0 hpa =>
    subst hpa
    rw [SpecArray.set_absent sd s.abs idx v _ (by rw [hget, h0]; rfl)]
    exact ⟨rfl, hi⟩
  | create res h0 hpa ho =>
    subst hpa
    rw [SpecArray.set_absent sd s.abs idx v _ (by rw [hget, h0]; rfl)]
    exact ho.refines hi (h0 ▸ mdPlain_refines sd v _ hsd)
  | readOnly e he ha =>
    rw [s.abs.set_elem sd idx v pa e (by rw [hget, he]; rfl) (fun p hp => hwf p (hp ▸ he)), ha]
    exact ⟨rfl, hi⟩
  | store e e' t he ha hu ht =>
    rw [s.abs.set_elem sd idx v pa e (by rw [hget, he]; rfl) (fun p hp => hwf p (hp ▸ he)), ha, hu.abs]
    exact ⟨rfl, ht⟩

theorem SetOutcome.all {P : Elem → Prop} {s : Store} {idx : Nat} {v : Val} {pa : Option Bool} {r : Store × Bool}
    (h : SetOutcome s idx v pa r) (hs : s.All P) (hnew : P (.plain v))
    (hassign : ∀ e e', s.own idx = some e → e.assign v = some e' → P e') : r.1.All P := by
  cases h with
  | inherited => exact hs
  | create res _ _ ho =>
    exact ho.all hs fun y hy => by
      unfold mdPlain at hy
      split at hy <;> cases hy
      exact hnew
  | readOnly => exact hs
  | store e e' t he ha hu _ => exact hu.all hs fun _ h => Option.some.inj h ▸ hassign e e' he ha

theorem Store.setOwnIdx_outcome (s : Store) (h : s.Inv) (idx : Nat) (v : Val) (pa : Option Bool) :
    SetOutcome s idx v pa (s.setOwnIdx idx v pa) := by
  cases s with
  | dense a =>
    show SetOutcome (.dense a) idx v pa (a.setOwnIdx idx v pa)
    cases hs : a.slot idx with
    | none =>
      cases pa with
      | some r => simp only [Dense.setOwnIdx, hs]; exact .inherited r hs rfl
      | none =>
        rw [dense_set_absent_eq a idx v hs]
        exact .create _ hs rfl (Store.defineIdx_outcome _ (.dense a) h idx _)
    | some e =>
      obtain ⟨hlt, _⟩ := slot_some_lt hs
      have hst : ∀ e' : Elem, e.assign v = some e' → e'.isProp = e.isProp →
          SetOutcome (.dense a) idx v pa (.dense (a.write idx e' a.objCount a.pvc), true) :=
        fun e' ha hip => .store e e' _ hs ha (Dense.write_upd a idx e' _ _ hlt)
          (Dense.write_inv a h idx e' _ _ hlt (by simp [hs]) (by rw [hs, isPropSlot_some, hip]; exact Nat.le_refl _))
      cases e with
      | plain v0 => simp only [Dense.setOwnIdx, hs]; exact hst (.plain v) rfl rfl
      | prop p =>
        simp only [Dense.setOwnIdx, hs]
        cases hw : p.isWritable
        · exact .readOnly _ hs (by simp [Elem.assign, hw])
        · exact hst (.prop (p.setValue v)) (by simp [Elem.assign, hw]) rfl
  | sparse a =>
    show SetOutcome (.sparse a) idx v pa (a.setOwnIdx idx v pa)
    have hfind : sFind a.items idx = aGet a.items idx := sFind_eq_aGet h.sorted idx
    cases hs : sFind a.items idx with
    | none =>
      have h0 : (Store.sparse a).own idx = none := hfind.symm.trans hs
      cases pa with
      | some r => simp only [Sparse.setOwnIdx, hs]; exact .inherited r h0 rfl
      | none =>
        rw [sparse_set_absent_eq a h idx v hs]
        exact .create _ h0 rfl (Store.defineIdx_outcome _ (.sparse a) h idx _)
    | some e =>
      have he : (Store.sparse a).own idx = some e := hfind.symm.trans hs
      have hp : (aGet a.items idx).isSome := by rw [← hfind, hs]; rfl
      have hst : ∀ e' : Elem, e.assign v = some e' → e'.isProp = e.isProp →
          SetOutcome (.sparse a) idx v pa (.sparse { a with items := sSetAt a.items idx e' }, true) :=
        fun e' ha hip => .store e e' _ he ha (Sparse.replace_upd a h idx e' a.pvc hp)
          (Sparse.replace_inv a h idx e' a.pvc (by rw [countProp_sSetAt_same hs hip]; exact h.pvc))
      cases e with
      | plain v0 => simp only [Sparse.setOwnIdx, hs]; exact hst (.plain v) rfl rfl
      | prop p =>
        simp only [Sparse.setOwnIdx, hs]
        cases hw : p.isWritable
        · exact .readOnly _ he (by simp [Elem.assign, hw])
        · exact hst (.prop (p.setValue v)) (by simp [Elem.assign, hw]) rfl

/-- dense `_setOwnIdx` (array.go:219) refines OrdinarySet on an Array for an index key and preserves
`Inv`; `pa` is the answer of the prototype chain (see `SpecArray.set`). -/
theorem dense_set_refines (sd : SpecDefine) (a : Dense) (h : a.Inv) (idx : Nat) (v : Val) (pa : Option Bool)
    (hsd : ∀ ext, sd none (fullDesc v) ext = if ext then some (.data v true true true) else none)
    (hwf : ∀ p, a.slot idx = some (.prop p) → p.accessor = true → p.writable = false)
    (hwf2 : ∀ p, a.slot idx = some (.prop p) → p.accessor = false → p.setter = none) :
    ((a.setOwnIdx idx v pa).1.abs, (a.setOwnIdx idx v pa).2) = a.abs.set sd idx v pa ∧
    (a.setOwnIdx idx v pa).1.Inv :=
  (Store.setOwnIdx_outcome (.dense a) h idx v pa).refines h hsd fun p hp => ⟨hwf p hp, hwf2 p hp⟩

/-- sparse `_setOwnIdx` (array_sparse.go:152) refines OrdinarySet on an Array for an index key and
preserves `Inv` (the sparse→dense switch inside it included). -/
theorem sparse_set_refines (sd : SpecDefine) (a : Sparse) (h : a.Inv) (idx : Nat) (v : Val) (pa : Option Bool)
    (hsd : ∀ ext, sd none (fullDesc v) ext = if ext then some (.data v true true true) else none)
    (hwf : ∀ p, sFind a.items idx = some (.prop p) → p.accessor = true → p.writable = false)
    (hwf2 : ∀ p, sFind a.items idx = some (.prop p) → p.accessor = false → p.setter = none) :
    ((a.setOwnIdx idx v pa).1.abs, (a.setOwnIdx idx v pa).2) = a.abs.set sd idx v pa ∧
    (a.setOwnIdx idx v pa).1.Inv :=
  (Store.setOwnIdx_outcome (.sparse a) h idx v pa).refines h hsd fun p hp =>
    have hp' := (sFind_eq_aGet h.sorted idx).trans hp
    ⟨hwf p hp', hwf2 p hp'⟩

/-- whenever sparse `expand` (array_sparse.go:322) decides to switch, the new dense object denotes
the same array and satisfies the dense invariant — in particular `objCount = len(items)` is exact. -/
theorem sparse_expand_transition (a : Sparse) (h : a.Inv) (idx : Nat) (hlt : idx < a.length) (ar : Dense)
    (hex : a.expand idx = some ar) : ar.abs = a.abs ∧ ar.Inv := by
  obtain ⟨h1, h2, _⟩ := Sparse.expand_transition a h idx hlt ar hex
  exact ⟨h1, h2⟩

theorem store_setLength_refines (s : Store) (h : s.Inv) (l : Nat) :
    ((s.setLength l).1.abs, (s.setLength l).2) = s.abs.setLength l ∧ (s.setLength l).1.Inv := by
  cases s with
  | dense a =>
    refine ⟨dense_setLength_refines a h l, ?_⟩
    show (a.setLength l).1.Inv
    unfold Dense.setLength
    split
    · exact h
    · exact dense_setLengthInt_inv a h l
  | sparse a =>
    refine ⟨sparse_setLength_refines a h l, ?_⟩
    show (a.setLength l).1.Inv
    unfold Sparse.setLength
    split
    · exact h
    · exact sparse_setLengthInt_inv a h l

theorem Dense.applyScan_sub (a : Dense) (r : Scan) (i : Nat) (e : Elem) :
    (a.applyScan r).1.slot i = some e → a.slot i = some e := by
  unfold Dense.applyScan
  split
  · show ((a.values.take r.len)[i]?).join = some e → _
    rw [List.getElem?_take]
    split
    · exact id
    · exact fun h => nomatch h
  · exact id

theorem Store.setLength_sub (s : Store) (h : s.Inv) (l i : Nat) (e : Elem) :
    (s.setLength l).1.own i = some e → s.own i = some e := by
  cases s with
  | dense a =>
    show (a.setLength l).1.slot i = some e → a.slot i = some e
    unfold Dense.setLength
    split
    · exact id
    · exact Dense.applyScan_sub a _ i e
  | sparse a =>
    show aGet (a.setLength l).1.items i = some e → aGet a.items i = some e
    unfold Sparse.setLength
    split
    · exact id
    · show aGet (sTake a.items (a.scan l).len) i = some e → _
      rw [aGet_sTake _ h.sorted]
      split
      · exact id
      · exact fun h => nomatch h

private theorem setLenW_abs (s : Store) (w : Bool) : (s.setLenW w).abs = { s.abs with lengthWritable := w } := by
  cases s <;> rfl

private theorem setLenW_inv (s : Store) (h : s.Inv) (w : Bool) : (s.setLenW w).Inv := by
  cases s with
  | dense a => exact ⟨h.lenValues, h.objCount, h.pvc⟩
  | sparse a => exact ⟨h.sorted, h.below, h.pvc⟩

/-- array.go:412–422, the mechanism's side of `SpecArray.applyLenW`. -/
def Store.applyLenW (r : Store × Bool) : Option Bool → Store × Bool
  | none => r
  | some w => if r.1.lenW then (r.1.setLenW w, r.2) else if w then (r.1, false) else r

theorem Store.defineLength_eq (s : Store) (d : LenDesc) :
    s.defineLength d =
      if d.configurable == some true || d.enumerable == some true || d.hasAccessor then (s, false)
      else Store.applyLenW
        (match d.value with
          | some newLen => if s.length != newLen then s.setLength newLen else (s, true)
          | none => (s, true)) d.writable := rfl

theorem Store.applyLenW_refines {r : Store × Bool} {R : SpecArray × Bool} (hr : (r.1.abs, r.2) = R ∧ r.1.Inv)
    (w : Option Bool) :
    ((Store.applyLenW r w).1.abs, (Store.applyLenW r w).2) = SpecArray.applyLenW R w ∧ (Store.applyLenW r w).1.Inv := by
  obtain ⟨rfl, h⟩ := hr
  cases w with
  | none => exact ⟨rfl, h⟩
  | some w =>
    unfold Store.applyLenW SpecArray.applyLenW
    rw [Store.lenW_eq]
    dsimp only
    split
    · exact ⟨Prod.ext (setLenW_abs r.1 w) rfl, setLenW_inv r.1 h w⟩
    · split <;> exact ⟨rfl, h⟩

theorem Store.applyLenW_own (r : Store × Bool) (w : Option Bool) (i : Nat) :
    (Store.applyLenW r w).1.own i = r.1.own i := by
  cases w with
  | none => rfl
  | some w =>
    unfold Store.applyLenW
    dsimp only
    split
    · cases r.1 <;> rfl
    · split <;> rfl

/-- `defineArrayLength` (array.go:391) with `setter = setLength` refines ArraySetLength with a full
descriptor (ECMA-262 10.4.2.4), for both storages, and preserves `Inv`. -/
theorem defineLength_refines (s : Store) (h : s.Inv) (d : LenDesc) :
    ((s.defineLength d).1.abs, (s.defineLength d).2) = s.abs.defineLength d ∧ (s.defineLength d).1.Inv := by
  rw [Store.defineLength_eq, SpecArray.defineLength_eq]
  split
  · exact ⟨rfl, h⟩
  · apply Store.applyLenW_refines
    rw [Store.length_eq]
    cases d.value with
    | none => exact ⟨rfl, h⟩
    | some newLen =>
      dsimp only
      split
      · exact store_setLength_refines s h newLen
      · exact ⟨rfl, h⟩

theorem Store.defineLength_sub (s : Store) (h : s.Inv) (d : LenDesc) (i : Nat) (e : Elem)
    (he : (s.defineLength d).1.own i = some e) : s.own i = some e := by
  rw [Store.defineLength_eq] at he
  split at he
  · exact he
  · rw [Store.applyLenW_own] at he
    split at he
    · split at he
      · exact s.setLength_sub h _ i e he
      · exact he
    · exact he

private theorem freeze_abs_elem (e : Elem) : e.freeze.abs = e.abs.freeze := by
  cases e with
  | plain v => rfl
  | prop p =>
    obtain ⟨pv, bw, be, bc, ba, pg, ps⟩ := p
    cases ba <;> rfl

private theorem counts_freeze (vs : List (Option Elem)) :
    countSome (vs.map (Option.map Elem.freeze)) = countSome vs ∧
    countProp (vs.map (Option.map Elem.freeze)) = countSome vs ∧
    countSome vs = countProp vs + countPlain vs := by
  have h1 : (Option.isSome ∘ Option.map Elem.freeze) = Option.isSome := by
    funext o; cases o <;> rfl
  have h2 : (isPropSlot ∘ Option.map Elem.freeze) = Option.isSome := by
    funext o; rcases o with _ | _ | _ <;> rfl
  refine ⟨by rw [countSome, List.countP_map, h1]; rfl, by rw [countProp, List.countP_map, h2]; rfl, ?_⟩
  induction vs with
  | nil => rfl
  | cons o t ih =>
    simp only [countSome, countProp, countPlain, List.countP_cons] at ih ⊢
    rcases o with _ | _ | _ <;> simp only [Option.isSome, isPropSlot, Bool.false_eq_true, if_false, if_true] <;> omega

private theorem items_freeze (l : Items) (lo : Nat) (hs : SortedFrom lo l) :
    SortedFrom lo (l.map (fun p => (p.1, p.2.freeze))) ∧
    (∀ i, aGet (l.map (fun p => (p.1, p.2.freeze))) i = (aGet l i).map Elem.freeze) ∧
    countPropItems (l.map (fun p => (p.1, p.2.freeze))) = countPropItems l + l.countP (fun p => !p.2.isProp) := by
  induction l generalizing lo with
  | nil => exact ⟨trivial, fun _ => rfl, rfl⟩
  | cons q t ih =>
    obtain ⟨k, x⟩ := q
    obtain ⟨i1, i2, i3⟩ := ih (k + 1) hs.2
    refine ⟨⟨hs.1, i1⟩, ?_, ?_⟩
    · intro i
      simp only [List.map_cons, aGet]
      split
      · rfl
      · exact i2 i
    · simp only [countPropItems, List.map_cons, List.countP_cons] at i3 ⊢
      have f1 : ∀ v, (Elem.plain v).freeze.isProp = true := fun _ => rfl
      have f2 : ∀ v, (Elem.plain v).isProp = false := fun _ => rfl
      have f3 : ∀ q, (Elem.prop q).freeze.isProp = true := fun _ => rfl
      have f4 : ∀ q, (Elem.prop q).isProp = true := fun _ => rfl
      cases x <;>
        simp only [f1, f2, f3, f4, Bool.not_false, Bool.not_true, Bool.false_eq_true, if_false, if_true] <;>
        omega

theorem Store.freeze_own (s : Store) (h : s.Inv) (i : Nat) : s.freeze.own i = (s.own i).map Elem.freeze := by
  cases s with
  | dense a =>
    show ((a.values.map (Option.map Elem.freeze))[i]?).join = ((a.values[i]?).join).map Elem.freeze
    rw [List.getElem?_map]
    rcases a.values[i]? with _ | _ | _ <;> rfl
  | sparse a => exact (items_freeze a.items 0 h.sorted).2.1 i

/-- `Object.freeze` on an array (builtin_object.go:281, element by element) = SetIntegrityLevel
"frozen"; `Inv` is preserved (every former plain value is now counted in `propValueCount`). -/
theorem freeze_refines (s : Store) (h : s.Inv) : s.freeze.abs = s.abs.freeze ∧ s.freeze.Inv := by
  refine ⟨Store.abs_of_own (fun i => ?_) (by cases s <;> rfl) (by cases s <;> rfl) (by cases s <;> rfl), ?_⟩
  · show _ = (s.abs.get i).map SProp.freeze
    rw [Store.freeze_own s h, s.abs_get]
    cases s.own i with
    | none => rfl
    | some e => simp [freeze_abs_elem]
  · cases s with
    | dense a =>
      obtain ⟨c1, c2, c3⟩ := counts_freeze a.values
      refine ⟨?_, ?_, ?_⟩
      · show (a.values.map _).length ≤ a.length
        simpa using h.lenValues
      · show a.objCount = countSome (a.values.map _)
        rw [c1]; exact h.objCount
      · show countProp (a.values.map _) ≤ a.pvc + countPlain a.values
        rw [c2, c3]; have := h.pvc; omega
    | sparse a =>
      obtain ⟨i1, _, i3⟩ := items_freeze a.items 0 h.sorted
      refine ⟨i1, ?_, ?_⟩
      · intro p hp
        obtain ⟨q, hq, rfl⟩ := List.mem_map.mp hp
        exact h.below q hq
      · show countPropItems (a.items.map _) ≤ a.pvc + _
        rw [i3]; have := h.pvc; omega

private theorem insertRev_perm (less : α → α → Bool) (x : α) (l : List α) :
    (insertRev less x l).Perm (x :: l) := by
  induction l with
  | nil => exact List.Perm.refl _
  | cons y t ih =>
    simp only [insertRev]
    split
    · exact (List.Perm.cons y ih).trans (List.Perm.swap x y t)
    · exact List.Perm.refl _

private theorem isortRev_perm (less : α → α → Bool) (acc l : List α) :
    (isortRev less acc l).Perm (l ++ acc) := by
  induction l generalizing acc with
  | nil => exact List.Perm.refl _
  | cons x t ih =>
    simp only [isortRev]
    refine (ih _).trans ?_
    refine (List.Perm.append_left t (insertRev_perm less x acc)).trans ?_
    exact List.perm_middle

/-- the insertion phase of `sort.Stable` loses and duplicates nothing, for ANY `less`
(inconsistent comparators included). -/
theorem sort_perm (less : α → α → Bool) (l : List α) : (isort less l).Perm l := by
  simp only [isort]
  refine (List.reverse_perm _).trans ?_
  simpa using isortRev_perm less [] l

private theorem insertRev_filter (less : α → α → Bool) (p : α → Bool)
    (hp : ∀ a b, p a = true → p b = true → less a b = false) (x : α) (l : List α) :
    (insertRev less x l).filter p = if p x then x :: l.filter p else l.filter p := by
  fun_induction insertRev less x l with
  | case1 => simp only [List.filter]; split <;> simp_all
  | case2 y t hxy ih =>
    rw [List.filter_cons, List.filter_cons, ih]
    cases hpx : p x
    · rfl
    · -- x passes y, so y is not in the class of x
      have hpy : p y = false := by
        cases hpy : p y
        · rfl
        · rw [hp x y hpx hpy] at hxy; cases hxy
      simp [hpy]
  | case3 y t _ => rw [List.filter_cons]

private theorem isortRev_filter (less : α → α → Bool) (p : α → Bool)
    (hp : ∀ a b, p a = true → p b = true → less a b = false) (acc l : List α) :
    (isortRev less acc l).filter p = (l.filter p).reverse ++ acc.filter p := by
  induction l generalizing acc with
  | nil => simp [isortRev]
  | cons x t ih =>
    simp only [isortRev, ih, insertRev_filter less p hp, List.filter_cons]
    cases p x <;> simp

/-- a comparator under which nothing is ever "less" (all elements equal: always NaN / ±0 by the
spec's reading) leaves the input untouched: all elements are in one class, which keeps its order. -/
theorem sort_identity_when_all_equal (less : α → α → Bool) (h : ∀ x y, less x y = false) (l : List α) :
    isort less l = l := by
  have := isortRev_filter less (fun _ => true) (fun a b _ _ => h a b) [] l
  simp only [List.filter_eq_self.mpr, List.append_nil, implies_true] at this
  rw [isort, this, List.reverse_reverse]

/-- with the spec's SortCompare a comparator that always answers −0 makes all (defined) elements
equal, so the sort must be the identity … -/
theorem specLess_negzero_all_equal (x y : Val) :
    specLess (fun _ _ => CmpRes.negZero) (some (x + 1)) (some (y + 1)) = false := rfl

/-- … but goja's `sortCompare` reads −0 as "less" (`math.Signbit`): concrete witness of the known
finding `sort-comparator-negzero-treated-as-less` (the property `sort is stable for every
consistent comparator` does NOT hold for the mechanism model; kept as a witness, not a theorem
about stability). -/
theorem sort_negzero_witness :
    ¬ (isort (mechLess (fun _ _ => CmpRes.negZero)) [some 1, some 2] = [some 1, some 2]) := by
  decide

section SortSec
variable {α : Type}

/-- What the proofs use of a consistent comparator in the sense of ECMA-262 23.1.3.30: it induces a strict weak
order. -/
structure Consistent (less : α → α → Bool) : Prop where
  asymm : ∀ a b, less a b = true → less b a = false
  negTrans : ∀ a b c, less a b = false → less b c = false → less a c = false

/-- Invariant of the accumulator of `isortRev`, which is kept reversed: head = latest position. -/
def SortedRev (less : α → α → Bool) : List α → Prop
  | [] => True
  | y :: t => (∀ z ∈ t, less y z = false) ∧ SortedRev less t

private theorem insertRev_mem (less : α → α → Bool) (x : α) (l : List α) (z : α) (h : z ∈ insertRev less x l) :
    z = x ∨ z ∈ l :=
  List.mem_cons.mp ((insertRev_perm less x l).mem_iff.mp h)

private theorem insertRev_sorted (less : α → α → Bool) (hc : Consistent less) (x : α) (l : List α)
    (hs : SortedRev less l) : SortedRev less (insertRev less x l) := by
  fun_induction insertRev less x l with
  | case1 => exact ⟨fun _ h => (nomatch h), trivial⟩
  | case2 y t hxy ih =>
    refine ⟨fun z hz => ?_, ih hs.2⟩
    rcases insertRev_mem less x t z hz with rfl | hz
    · exact hc.asymm _ _ hxy
    · exact hs.1 z hz
  | case3 y t hxy =>
    -- x stays behind y: it is not less than y, hence (negative transitivity) not less than anything before y
    have hxy : less x y = false := by simpa using hxy
    refine ⟨fun z hz => ?_, hs⟩
    rcases List.mem_cons.mp hz with rfl | hz
    · exact hxy
    · exact hc.negTrans x y z hxy (hs.1 z hz)

private theorem isortRev_sorted (less : α → α → Bool) (hc : Consistent less) (acc l : List α)
    (hs : SortedRev less acc) : SortedRev less (isortRev less acc l) := by
  induction l generalizing acc with
  | nil => exact hs
  | cons x t ih => exact ih _ (insertRev_sorted less hc x acc hs)

private theorem sortedRev_pairwise (less : α → α → Bool) (l : List α) (h : SortedRev less l) :
    l.Pairwise (fun later earlier => less later earlier = false) := by
  induction l with
  | nil => exact List.Pairwise.nil
  | cons y t ih => exact List.Pairwise.cons h.1 (ih h.2)

/-- the insertion phase of `sort.Stable` yields a sorted list for every consistent comparator:
no element is `less` than one placed before it. -/
theorem sort_sorted (less : α → α → Bool) (hc : Consistent less) (l : List α) :
    (isort less l).Pairwise (fun earlier later => less later earlier = false) := by
  unfold isort
  rw [List.pairwise_reverse]
  exact sortedRev_pairwise less _ (isortRev_sorted less hc [] l trivial)

/-- stability for every consistent comparator: the elements of any class of mutually
non-`less` elements (e.g. all elements comparing equal to some `c`) keep their input order. -/
theorem sort_stable (less : α → α → Bool) (p : α → Bool)
    (hp : ∀ a b, p a = true → p b = true → less a b = false) (l : List α) :
    (isort less l).filter p = l.filter p := by
  unfold isort
  rw [List.filter_reverse, isortRev_filter less p hp]
  simp

/-- the classes of a consistent comparator qualify: "equivalent to `c`" is such a `p`. -/
theorem equivClass_ok (less : α → α → Bool) (hc : Consistent less) (c : α) (a b : α)
    (ha : (!less a c && !less c a) = true) (hb : (!less b c && !less c b) = true) : less a b = false := by
  simp only [Bool.and_eq_true, Bool.not_eq_true'] at ha hb
  exact hc.negTrans a c b ha.1 hb.2

/-- goja's `mechLess` differs from the spec's SortCompare (`specLess`) exactly when the comparator answers −0
(known finding). That `specLess` of a consistent comparator function is `Consistent`, so that `sort_sorted` /
`sort_stable` apply to it, is not proved. -/
theorem mechLess_eq_specLess_of_no_negzero (cmp : Val → Val → CmpRes) (h : ∀ a b, cmp a b ≠ .negZero)
    (x y : SortVal) : mechLess cmp x y = specLess cmp x y := by
  cases x with
  | none => rfl
  | some a =>
    cases y with
    | none => rfl
    | some b =>
      cases a with
      | zero => rfl
      | succ a =>
        cases b with
        | zero => rfl
        | succ b =>
          simp only [mechLess, specLess]
          cases hcmp : cmp (a + 1) (b + 1) <;> simp_all

variable {σ : Type}

private theorem insertRevM_perm (cmp : σ → α → α → Bool × σ) (x : α) (l : List α) (s : σ) :
    (insertRevM cmp x l s).1.Perm (x :: l) := by
  induction l generalizing s with
  | nil => exact List.Perm.refl _
  | cons y t ih =>
    simp only [insertRevM]
    split
    · exact (List.Perm.cons y (ih _)).trans (List.Perm.swap x y t)
    · exact List.Perm.refl _

private theorem isortRevM_perm (cmp : σ → α → α → Bool × σ) (acc l : List α) (s : σ) :
    (isortRevM cmp acc l s).1.Perm (l ++ acc) := by
  induction l generalizing acc s with
  | nil => exact List.Perm.refl _
  | cons x t ih =>
    simp only [isortRevM]
    refine (ih _ _).trans ?_
    refine (List.Perm.append_left t (insertRevM_perm cmp x acc s)).trans ?_
    exact List.perm_middle

/-- totality under mutation: whatever the comparator does to the receiver (state `σ`) at every
call, the sort runs to completion on its private copy and returns a permutation of the snapshot —
in particular a list of the same length, so every index used by the write-back loop is in range. -/
theorem sort_total_under_mutation (cmp : σ → α → α → Bool × σ) (l : List α) (s : σ) :
    (isortM cmp l s).1.Perm l ∧ (isortM cmp l s).1.length = l.length := by
  have hp : (isortM cmp l s).1.Perm l := by
    unfold isortM
    refine (List.reverse_perm _).trans ?_
    simpa using isortRevM_perm cmp [] l s
  exact ⟨hp, hp.length_eq⟩

end SortSec

end GojaModel.C07
