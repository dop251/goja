/-
  C07 — arrays are spec arrays whatever the storage.   Executable model (core Lean only).

  Two levels:
  * spec level  : the ECMA-262 Array exotic object over an index → property map (`SpecArray`,
                  `ArraySetLength`, `[[DefineOwnProperty]]`, `[[Set]]`, `[[Delete]]`, freeze);
  * mechanism   : goja's two storage strategies, function by function
                  dense  = /repo/array.go        (`arrayObject`:  values, length, objCount, propValueCount, lengthProp.writable)
                  sparse = /repo/array_sparse.go (`sparseArrayObject`: items sorted by idx, length, propValueCount)
                  with the strategy switches `expand` in both directions and the real thresholds.
  Values are opaque identities (`Val = Nat`): the mechanism only moves them around (parametricity).
  `_defineOwnProperty` (object.go:650, property C04) is a *parameter* of the array model
  (`MechDefine`); a transcription of it (`mechDefine`) instantiates the parameter in the driver.
-/
namespace GojaModel.C07

abbrev Val := Nat

/-- goja `valueProperty` (object.go): a descriptor-carrying element. -/
structure VProp where
  value : Val
  writable : Bool
  enumerable : Bool
  configurable : Bool
  accessor : Bool
  getter : Option Val
  setter : Option Val
deriving DecidableEq, Repr, Inhabited

/-- an element slot of an array: a plain value (implicitly writable/enumerable/configurable) or a
`*valueProperty`. -/
inductive Elem where
  | plain (v : Val)
  | prop (p : VProp)
deriving DecidableEq, Repr, Inhabited

/-- spec-level property (ECMA-262 6.1.7.1): data or accessor. -/
inductive SProp where
  | data (v : Val) (w e c : Bool)
  | acc (g s : Option Val) (e c : Bool)
deriving DecidableEq, Repr, Inhabited

def SProp.configurable : SProp → Bool
  | .data _ _ _ c => c
  | .acc _ _ _ c => c

def SProp.enumerable : SProp → Bool
  | .data _ _ e _ => e
  | .acc _ _ e _ => e

def Elem.abs : Elem → SProp
  | .plain v => .data v true true true
  | .prop p => if p.accessor then .acc p.getter p.setter p.enumerable p.configurable
               else .data p.value p.writable p.enumerable p.configurable

def Elem.isProp : Elem → Bool
  | .plain _ => false
  | .prop _ => true

def Elem.configurable : Elem → Bool
  | .plain _ => true
  | .prop p => p.configurable

/-- partial property descriptor (`PropertyDescriptor`, tri-state flags). `getter`/`setter`:
`none` = field absent, `some none` = present and `undefined`, `some (some f)` = function `f`. -/
structure Desc where
  value : Option Val := none
  writable : Option Bool := none
  enumerable : Option Bool := none
  configurable : Option Bool := none
  getter : Option (Option Val) := none
  setter : Option (Option Val) := none
deriving DecidableEq, Repr, Inhabited

/-! ## Thresholds (regenerated from the Go source and compared in `Tie.lean`) -/

structure Thresholds where
  denseMinIdx : Nat      -- array.go expand: `idx > 4096`
  denseRatio : Nat       -- array.go expand: `idx/objCount > 10`
  sparseMinItems : Nat   -- array_sparse.go expand: `len(items) >= 1024`
  sparseShift : Nat      -- array_sparse.go expand: `idx>>3 < len(items)`
  shrinkMinLen : Nat     -- array.go _setLengthInt: `l >= 16`
  shrinkCapShift : Nat   -- array.go _setLengthInt: `l < cap>>2`
  growSmall : Nat        -- runtime.go growCap: `oldSize < 1024`
  growDiv : Nat          -- runtime.go growCap: `cap += cap/4`
  maxIdx : Nat           -- array.go toIdx: indices are `< math.MaxUint32`
deriving DecidableEq, Repr

def thr : Thresholds :=
  { denseMinIdx := 4096, denseRatio := 10, sparseMinItems := 1024, sparseShift := 3,
    shrinkMinLen := 16, shrinkCapShift := 2, growSmall := 1024, growDiv := 4, maxIdx := 4294967295 }

/-! ## Spec level -/

structure SpecArray where
  get : Nat → Option SProp
  length : Nat
  lengthWritable : Bool
  extensible : Bool

/-- ArraySetLength step 17 (ECMA-262 10.4.2.4): "for each own property key P of A that is an array
index ≥ newLen, in descending numeric order: delete; if the delete fails, stop with length P+1".
`cutoff get l d` walks the indices `l+d-1, …, l` downwards and returns the final length. -/
def cutoff (get : Nat → Option SProp) (l : Nat) : Nat → Nat
  | 0 => l
  | d + 1 =>
    match get (l + d) with
    | some p => if p.configurable then cutoff get l d else l + d + 1
    | none => cutoff get l d

/-- the deletion part of ArraySetLength (oldLen ≥ newLen, length writable): returns the array and
whether every delete succeeded. -/
def SpecArray.truncate (a : SpecArray) (newLen : Nat) : SpecArray × Bool :=
  let c := cutoff a.get newLen (a.length - newLen)
  ({ a with get := fun i => if i < c then a.get i else none, length := c }, c == newLen)

/-- `[[Set]]` of "length" with an already converted uint32 (OrdinarySet 10.1.9.2: a non-writable
data property rejects whatever the value; otherwise ArraySetLength with `{[[Value]]: l}`). -/
def SpecArray.setLength (a : SpecArray) (l : Nat) : SpecArray × Bool :=
  if !a.lengthWritable then (a, false)           -- OrdinarySet: non-writable data property
  else if l ≥ a.length then ({ a with length := l }, true)
  else a.truncate l

/-- descriptor for `Object.defineProperty(a, "length", …)` after ToPropertyDescriptor and the
ToUint32/ToNumber RangeError test (C05's concern). -/
structure LenDesc where
  value : Option Nat := none
  writable : Option Bool := none
  enumerable : Option Bool := none
  configurable : Option Bool := none
  hasAccessor : Bool := false
deriving DecidableEq, Repr, Inhabited

/-- ArraySetLength (10.4.2.4) with a full descriptor. "length" is `{value, writable, enumerable:false,
configurable:false}`. -/
def SpecArray.defineLength (a : SpecArray) (d : LenDesc) : SpecArray × Bool :=
  -- generic validation against a non-configurable, non-enumerable data property
  if d.configurable == some true || d.enumerable == some true || d.hasAccessor then (a, false)
  else
    match d.value with
    | none =>
      -- step 1: OrdinaryDefineOwnProperty(A, "length", Desc)
      match d.writable with
      | none => (a, true)
      | some w => if a.lengthWritable then ({ a with lengthWritable := w }, true)
                  else (a, !w)
    | some newLen =>
      if newLen ≥ a.length then
        -- step 11: OrdinaryDefineOwnProperty with the new value
        if a.lengthWritable then
          ({ a with length := newLen, lengthWritable := d.writable.getD true }, true)
        else (a, newLen == a.length && d.writable != some true)
      else if !a.lengthWritable then (a, false)     -- step 12
      else
        let r := a.truncate newLen
        -- steps 13–18: writable:false is applied after the deletions, also when a deletion failed
        ({ r.1 with lengthWritable := d.writable.getD true }, r.2)

/-- OrdinaryDefineOwnProperty on an element = ValidateAndApplyPropertyDescriptor (10.1.6.3):
`none` = rejected. Parameter of the spec array (C04's subject). -/
abbrev SpecDefine := Option SProp → Desc → Bool → Option SProp
/-- goja `_defineOwnProperty(name, existing, descr)` (object.go:650) restricted to what the array
code sees: `none` = rejected, `some e` = the new element slot. -/
abbrev MechDefine := Option Elem → Desc → Bool → Option Elem

/-- Array `[[DefineOwnProperty]]` for an array index (10.4.2.1 step 2). -/
def SpecArray.defineIdx (sd : SpecDefine) (a : SpecArray) (idx : Nat) (d : Desc) : SpecArray × Bool :=
  if idx ≥ a.length && !a.lengthWritable then (a, false)
  else
    match sd (a.get idx) d a.extensible with
    | none => (a, false)
    | some p =>
      ({ a with get := fun i => if i = idx then some p else a.get i,
                length := if idx ≥ a.length then idx + 1 else a.length }, true)

/-- `[[Set]](idx, v, receiver = A)` (OrdinarySet 10.1.9). `protoAns` summarises the prototype chain:
`some r` = an inherited accessor / non-writable data property decided the outcome `r` without
touching A; `none` = nothing inherited or an inherited writable data property (CreateDataProperty
on the receiver). -/
def SpecArray.set (sd : SpecDefine) (a : SpecArray) (idx : Nat) (v : Val) (protoAns : Option Bool) :
    SpecArray × Bool :=
  match a.get idx with
  | none =>
    match protoAns with
    | some r => (a, r)
    | none => a.defineIdx sd idx { value := some v, writable := some true, enumerable := some true, configurable := some true }
  | some (.data _ w e c) =>
    if !w then (a, false)
    else ({ a with get := fun i => if i = idx then some (.data v w e c) else a.get i }, true)
  | some (.acc _ s _ _) => (a, s.isSome)

/-- `[[Delete]]` (OrdinaryDelete 10.1.10). -/
def SpecArray.delete (a : SpecArray) (idx : Nat) : SpecArray × Bool :=
  match a.get idx with
  | none => (a, true)
  | some p =>
    if p.configurable then ({ a with get := fun i => if i = idx then none else a.get i }, true)
    else (a, false)

def SProp.freeze : SProp → SProp
  | .data v _ e _ => .data v false e false
  | .acc g s e _ => .acc g s e false

/-- SetIntegrityLevel(A, frozen) (7.3.15). -/
def SpecArray.freeze (a : SpecArray) : SpecArray :=
  { get := fun i => (a.get i).map SProp.freeze, length := a.length, lengthWritable := false, extensible := false }

def SpecArray.preventExtensions (a : SpecArray) : SpecArray := { a with extensible := false }

/-! ## Mechanism level: shared helpers over the sparse representation

`items` is a list of `(idx, element)` sorted by `idx`.  goja finds positions with a binary search
(`findIdx` = first position whose idx is ≥ the key); on a sorted list this is the linear "first
position with idx ≥ key" used below (sortedness is part of `Inv`). -/

abbrev Items := List (Nat × Elem)

/-- `_getIdx` (array_sparse.go:88): `i := findIdx(idx); i < len && items[i].idx == idx`. -/
def sFind : Items → Nat → Option Elem
  | [], _ => none
  | (k, x) :: t, idx => if k < idx then sFind t idx else if k = idx then some x else none

/-- `add` (array_sparse.go:142): insert at position `findIdx(idx)`. -/
def sIns : Items → Nat → Elem → Items
  | [], idx, e => [(idx, e)]
  | (k, x) :: t, idx, e => if k < idx then (k, x) :: sIns t idx e else (idx, e) :: (k, x) :: t

/-- `items[findIdx(idx)].value = e` (caller has checked that the key is present). -/
def sSetAt : Items → Nat → Elem → Items
  | [], _, _ => []
  | (k, x) :: t, idx, e => if k < idx then (k, x) :: sSetAt t idx e else (k, e) :: t

/-- remove `items[findIdx(idx)]` (array_sparse.go:414). -/
def sDel : Items → Nat → Items
  | [], _ => []
  | (k, x) :: t, idx => if k < idx then (k, x) :: sDel t idx else t

/-- `items[:findIdx(l)]` (array_sparse.go:55–61). -/
def sTake : Items → Nat → Items
  | [], _ => []
  | (k, x) :: t, l => if k < l then (k, x) :: sTake t l else []

/-- result of the "slow path" scan of `_setLengthInt`: final length, success flag, new propValueCount. -/
structure Scan where
  len : Nat
  ok : Bool
  pvc : Nat
deriving DecidableEq, Repr

/-- array_sparse.go:38–51: `for i := len(items)-1; i >= 0; i--` with `break` at `idx < l` and at the
first non-configurable `*valueProperty`.  Written as a right fold: the tail (higher indices) is
processed first; once the loop has stopped (`ok = false`) nothing below is visited. -/
def sScan (l : Nat) : Items → Nat → Scan
  | [], pvc => ⟨l, true, pvc⟩
  | (k, e) :: t, pvc =>
    let r := sScan l t pvc
    if !r.ok then r
    else if k < l then r
    else match e with
      | .prop p => if !p.configurable then ⟨k + 1, false, r.pvc⟩ else ⟨r.len, true, r.pvc - 1⟩
      | .plain _ => r

/-- dense `values` as an index-tagged list of the non-nil slots (`setValues`, array_sparse.go:280). -/
def enumSome : Nat → List (Option Elem) → Items
  | _, [] => []
  | i, none :: t => enumSome (i + 1) t
  | i, some e :: t => (i, e) :: enumSome (i + 1) t

/-- array.go:86–95: `for i := len(values)-1; i >= int(l); i--` (same right-fold reading). -/
def dScan (l : Nat) : Nat → List (Option Elem) → Nat → Scan
  | _, [], pvc => ⟨l, true, pvc⟩
  | i, e :: t, pvc =>
    let r := dScan l (i + 1) t pvc
    if !r.ok then r
    else if i < l then r
    else match e with
      | some (.prop p) => if !p.configurable then ⟨i + 1, false, r.pvc⟩ else ⟨r.len, true, r.pvc - 1⟩
      | _ => r

def countSome (l : List (Option Elem)) : Nat := l.countP Option.isSome

def isPropSlot : Option Elem → Bool
  | some (.prop _) => true
  | _ => false

def countProp (l : List (Option Elem)) : Nat := l.countP isPropSlot

def countPropItems (l : Items) : Nat := l.countP (fun p => p.2.isProp)

/-! ## Dense storage (array.go) -/

structure Dense where
  values : List (Option Elem)
  cap : Nat
  length : Nat
  objCount : Nat
  pvc : Nat
  lenW : Bool
  ext : Bool
deriving DecidableEq, Repr

structure Sparse where
  items : Items
  length : Nat
  pvc : Nat
  lenW : Bool
  ext : Bool
deriving DecidableEq, Repr

inductive Store where
  | dense (d : Dense)
  | sparse (s : Sparse)
deriving DecidableEq, Repr

def Dense.slot (a : Dense) (idx : Nat) : Option Elem := (a.values[idx]?).join

/-- array.go:82–97: the slow-path scan, taken only when shrinking and `propValueCount > 0`. -/
def Dense.scan (a : Dense) (l : Nat) : Scan :=
  if l ≤ a.length ∧ a.pvc > 0 then dScan l 0 a.values a.pvc else ⟨l, true, a.pvc⟩

/-- array.go:98–120: slice `values`, fix `objCount`, store the length. -/
def Dense.applyScan (a : Dense) (r : Scan) : Dense × Bool :=
  if r.len ≤ a.values.length then
    ({ a with values := a.values.take r.len,
              cap := if r.len ≥ thr.shrinkMinLen ∧ r.len < a.cap / 2 ^ thr.shrinkCapShift then r.len else a.cap,
              objCount := a.objCount - countSome (a.values.drop r.len),
              pvc := r.pvc, length := r.len }, r.ok)
  else ({ a with pvc := r.pvc, length := r.len }, r.ok)

/-- array.go:81 `_setLengthInt`. -/
def Dense.setLengthInt_ (a : Dense) (l : Nat) : Dense × Bool := a.applyScan (a.scan l)

/-- array.go:123 `setLengthInt`. -/
def Dense.setLengthInt (a : Dense) (l : Nat) : Dense × Bool :=
  if l = a.length then (a, true)
  else if !a.lenW then (a, false)
  else a.setLengthInt_ l

/-- array.go:134 `setLength`. -/
def Dense.setLength (a : Dense) (l : Nat) : Dense × Bool :=
  if !a.lenW then (a, false) else a.setLengthInt_ l

/-- runtime.go:2985 `growCap`; the `for` loop is bounded by fuel (cap grows by ≥ 25 % per step). -/
def growLoop (newSize : Nat) : Nat → Nat → Nat
  | 0, cap => cap
  | fuel + 1, cap => if 0 < cap ∧ cap < newSize then growLoop newSize fuel (cap + cap / thr.growDiv) else cap

def growCap (newSize oldSize oldCap : Nat) : Nat :=
  let doublecap := oldCap + oldCap
  if newSize > doublecap then newSize
  else if oldSize < thr.growSmall then doublecap
  else growLoop newSize 64 oldCap

def Dense.toSparse (a : Dense) : Sparse :=
  { items := enumSome 0 a.values, length := a.length, pvc := a.pvc, lenW := a.lenW, ext := a.ext }

/-- the strategy decision of array.go:363. -/
def Dense.wantsSparse (a : Dense) (idx : Nat) : Bool :=
  idx > thr.denseMinIdx && (a.objCount == 0 || idx / a.objCount > thr.denseRatio)

/-- array.go:357 `expand`: `none` = switched to sparse storage (the caller continues on
`a.toSparse`), `some a'` = still dense with `len(values) > idx`. -/
def Dense.expand (a : Dense) (idx : Nat) : Option Dense :=
  let targetLen := idx + 1
  if targetLen > a.values.length then
    if targetLen < a.cap then
      some { a with values := a.values ++ List.replicate (targetLen - a.values.length) none }
    else if a.wantsSparse idx then none
    else some { a with values := a.values ++ List.replicate (targetLen - a.values.length) none,
                       cap := growCap targetLen a.values.length a.cap }
  else some a

/-- value.go:509 `isWritable`: `p.writable || p.setterFunc != nil` (NB: for an accessor without a
setter this consults the `writable` flag left over from before the element became an accessor). -/
def VProp.isWritable (p : VProp) : Bool := p.writable || p.setter.isSome
/-- value.go:526 `valueProperty.set`: without a setter the value is stored, otherwise the setter runs. -/
def VProp.setValue (p : VProp) (v : Val) : VProp := if p.setter.isSome then p else { p with value := v }

def Sparse.add (s : Sparse) (idx : Nat) (e : Elem) : Sparse := { s with items := sIns s.items idx e }

/-- array.go:219 `_setOwnIdx`. -/
def Dense.setOwnIdx (a : Dense) (idx : Nat) (v : Val) (protoAns : Option Bool) : Store × Bool :=
  match a.slot idx with
  | none =>
    match protoAns with
    | some r => (.dense a, r)
    | none =>
      if !a.ext then (.dense a, false)
      else
        let r := if idx ≥ a.length then a.setLengthInt (idx + 1) else (a, true)
        if !r.2 then (.dense r.1, false)
        else
          let a1 := r.1
          match (if idx ≥ a1.values.length then a1.expand idx else some a1) with
          | none => (.sparse (a1.toSparse.add idx (.plain v)), true)
          | some a2 => (.dense { a2 with objCount := a2.objCount + 1, values := a2.values.set idx (some (.plain v)) }, true)
  | some (.prop p) =>
    if !p.isWritable then (.dense a, false)
    else (.dense { a with values := a.values.set idx (some (.prop (p.setValue v))) }, true)
  | some (.plain _) => (.dense { a with values := a.values.set idx (some (.plain v)) }, true)

/-- array.go:432 `_defineIdxProperty`. -/
def Dense.defineIdx (md : MechDefine) (a : Dense) (idx : Nat) (d : Desc) : Store × Bool :=
  let existing := a.slot idx
  match md existing d a.ext with
  | none => (.dense a, false)
  | some prop =>
    let r := if idx ≥ a.length then a.setLengthInt (idx + 1) else (a, true)
    if !r.2 then (.dense r.1, false)
    else
      let a1 := r.1
      match a1.expand idx with
      | some a2 =>
        (.dense { a2 with values := a2.values.set idx (some prop),
                          objCount := if existing.isNone then a2.objCount + 1 else a2.objCount,
                          pvc := if prop.isProp then a2.pvc + 1 else a2.pvc }, true)
      | none =>
        let sa := a1.toSparse.add idx prop
        (.sparse { sa with pvc := if prop.isProp then sa.pvc + 1 else sa.pvc }, true)

/-- array.go:480 `_deleteIdxProp`. -/
def Dense.deleteIdx (a : Dense) (idx : Nat) : Dense × Bool :=
  match a.slot idx with
  | none => (a, true)
  | some (.prop p) =>
    if !p.configurable then (a, false)
    else ({ a with pvc := a.pvc - 1, values := a.values.set idx none, objCount := a.objCount - 1 }, true)
  | some (.plain _) => ({ a with values := a.values.set idx none, objCount := a.objCount - 1 }, true)

def VProp.freeze (p : VProp) : VProp :=
  { p with configurable := false, writable := if p.accessor then p.writable else false }

/-- builtin_object.go:281 `object_freeze` on one element slot: a `*valueProperty` is mutated in
place, a plain value goes through `defineOwnProperty {configurable:false, writable:false}`. -/
def Elem.freeze : Elem → Elem
  | .plain v => .prop { value := v, writable := false, enumerable := true, configurable := false,
                        accessor := false, getter := none, setter := none }
  | .prop p => .prop p.freeze

def countPlain (l : List (Option Elem)) : Nat := l.countP (fun o => match o with | some (.plain _) => true | _ => false)

def Dense.freeze (a : Dense) : Dense :=
  { a with values := a.values.map (Option.map Elem.freeze), pvc := a.pvc + countPlain a.values,
           lenW := false, ext := false }

/-! ## Sparse storage (array_sparse.go) -/

/-- array_sparse.go:35–53: the slow-path scan. -/
def Sparse.scan (a : Sparse) (l : Nat) : Scan :=
  if l ≤ a.length ∧ a.pvc > 0 then sScan l a.items a.pvc else ⟨l, true, a.pvc⟩

/-- array_sparse.go:55–66: `items = items[:findIdx(l)]`, store the length. -/
def Sparse.applyScan (a : Sparse) (r : Scan) : Sparse × Bool :=
  ({ a with items := sTake a.items r.len, pvc := r.pvc, length := r.len }, r.ok)

/-- array_sparse.go:33 `_setLengthInt`. -/
def Sparse.setLengthInt_ (a : Sparse) (l : Nat) : Sparse × Bool := a.applyScan (a.scan l)

def Sparse.setLengthInt (a : Sparse) (l : Nat) : Sparse × Bool :=
  if l = a.length then (a, true)
  else if !a.lenW then (a, false)
  else a.setLengthInt_ l

def Sparse.setLength (a : Sparse) (l : Nat) : Sparse × Bool :=
  if !a.lenW then (a, false) else a.setLengthInt_ l

/-- `setValuesFromSparse` (array.go:572): `values = make([]Value, newMaxIdx+1)`, filled from items. -/
def fromItems : Items → Nat → List (Option Elem)
  | items, n => (List.range n).map (fun i => sFind items i)

def Sparse.lastIdx (a : Sparse) : Nat := match a.items.getLast? with | some p => p.1 | none => 0

def Sparse.toDense (a : Sparse) (maxIdx : Nat) : Dense :=
  { values := fromItems a.items (maxIdx + 1), cap := maxIdx + 1, length := a.length,
    objCount := a.items.length, pvc := a.pvc, lenW := a.lenW, ext := a.ext }

/-- array_sparse.go:322 `expand`: `none` = stay sparse, `some d` = switched to dense storage `d`
(64-bit build: the `bits.UintSize == 64` disjunct is true). -/
def Sparse.expand (a : Sparse) (idx : Nat) : Option Dense :=
  let l := a.items.length
  if l ≥ thr.sparseMinItems then
    let idx' := if a.lastIdx > idx then a.lastIdx else idx
    if idx' / 2 ^ thr.sparseShift < l then some (a.toDense idx') else none
  else none

/-- array_sparse.go:152 `_setOwnIdx`. -/
def Sparse.setOwnIdx (a : Sparse) (idx : Nat) (v : Val) (protoAns : Option Bool) : Store × Bool :=
  match sFind a.items idx with
  | none =>
    match protoAns with
    | some r => (.sparse a, r)
    | none =>
      if !a.ext then (.sparse a, false)
      else
        let r := if idx ≥ a.length then a.setLengthInt (idx + 1) else (a, true)
        if !r.2 then (.sparse r.1, false)
        else
          let a1 := r.1
          match a1.expand idx with
          | none => (.sparse (a1.add idx (.plain v)), true)
          | some ar => (.dense { ar with values := ar.values.set idx (some (.plain v)), objCount := ar.objCount + 1 }, true)
  | some (.prop p) =>
    if !p.isWritable then (.sparse a, false)
    else (.sparse { a with items := sSetAt a.items idx (.prop (p.setValue v)) }, true)
  | some (.plain _) => (.sparse { a with items := sSetAt a.items idx (.plain v) }, true)

/-- array_sparse.go:344 `_defineIdxProperty`. -/
def Sparse.defineIdx (md : MechDefine) (a : Sparse) (idx : Nat) (d : Desc) : Store × Bool :=
  let existing := sFind a.items idx
  match md existing d a.ext with
  | none => (.sparse a, false)
  | some prop =>
    let r := if idx ≥ a.length then a.setLengthInt (idx + 1) else (a, true)
    if !r.2 then (.sparse r.1, false)
    else
      let a1 := r.1
      if existing.isNone then
        match a1.expand idx with
        | none =>
          (.sparse { a1 with items := sIns a1.items idx prop,
                             length := if idx ≥ a1.length then idx + 1 else a1.length,
                             pvc := if prop.isProp then a1.pvc + 1 else a1.pvc }, true)
        | some ar =>
          (.dense { ar with values := ar.values.set idx (some prop), objCount := ar.objCount + 1,
                            pvc := if prop.isProp then ar.pvc + 1 else ar.pvc }, true)
      else
        (.sparse { a1 with items := sSetAt a1.items idx prop,
                           pvc := if prop.isProp then a1.pvc + 1 else a1.pvc }, true)

/-- array_sparse.go:404 `_deleteIdxProp`. -/
def Sparse.deleteIdx (a : Sparse) (idx : Nat) : Sparse × Bool :=
  match sFind a.items idx with
  | none => (a, true)
  | some (.prop p) =>
    if !p.configurable then (a, false)
    else ({ a with pvc := a.pvc - 1, items := sDel a.items idx }, true)
  | some (.plain _) => ({ a with items := sDel a.items idx }, true)

def Sparse.freeze (a : Sparse) : Sparse :=
  { a with items := a.items.map (fun p => (p.1, p.2.freeze)),
           pvc := a.pvc + a.items.countP (fun p => !p.2.isProp), lenW := false, ext := false }

/-! ## Storage-independent operations -/

def Store.setLength : Store → Nat → Store × Bool
  | .dense a, l => let r := a.setLength l; (.dense r.1, r.2)
  | .sparse a, l => let r := a.setLength l; (.sparse r.1, r.2)

def Store.setOwnIdx : Store → Nat → Val → Option Bool → Store × Bool
  | .dense a, i, v, p => a.setOwnIdx i v p
  | .sparse a, i, v, p => a.setOwnIdx i v p

def Store.defineIdx (md : MechDefine) : Store → Nat → Desc → Store × Bool
  | .dense a, i, d => a.defineIdx md i d
  | .sparse a, i, d => a.defineIdx md i d

def Store.deleteIdx : Store → Nat → Store × Bool
  | .dense a, i => let r := a.deleteIdx i; (.dense r.1, r.2)
  | .sparse a, i => let r := a.deleteIdx i; (.sparse r.1, r.2)

def Store.freeze : Store → Store
  | .dense a => .dense a.freeze
  | .sparse a => .sparse a.freeze

def Store.preventExtensions : Store → Store
  | .dense a => .dense { a with ext := false }
  | .sparse a => .sparse { a with ext := false }

def Store.lenW : Store → Bool
  | .dense a => a.lenW
  | .sparse a => a.lenW

def Store.length : Store → Nat
  | .dense a => a.length
  | .sparse a => a.length

def Store.setLenW : Store → Bool → Store
  | .dense a, w => .dense { a with lenW := w }
  | .sparse a, w => .sparse { a with lenW := w }

/-- array.go:391 `defineArrayLength` with `setter = a.setLength`. -/
def Store.defineLength (s : Store) (d : LenDesc) : Store × Bool :=
  if d.configurable == some true || d.enumerable == some true || d.hasAccessor then (s, false)
  else
    let r : Store × Bool :=
      match d.value with
      | some newLen => if s.length != newLen then s.setLength newLen else (s, true)
      | none => (s, true)
    match d.writable with
    | none => r
    | some w =>
      if r.1.lenW then (r.1.setLenW w, r.2)
      else if w then (r.1, false) else r

def Store.empty : Store :=
  .dense { values := [], cap := 0, length := 0, objCount := 0, pvc := 0, lenW := true, ext := true }

/-! ## Abstraction -/

/-- association lookup (the meaning of a sorted item list). -/
def aGet : Items → Nat → Option Elem
  | [], _ => none
  | (k, x) :: t, i => if k = i then some x else aGet t i

def Sparse.abs (a : Sparse) : SpecArray :=
  { get := fun i => (aGet a.items i).map Elem.abs, length := a.length,
    lengthWritable := a.lenW, extensible := a.ext }

def Dense.abs (a : Dense) : SpecArray :=
  { get := fun i => (a.slot i).map Elem.abs, length := a.length,
    lengthWritable := a.lenW, extensible := a.ext }

def Store.abs : Store → SpecArray
  | .dense a => a.abs
  | .sparse a => a.abs

/-! ## Invariants -/

/-- strictly ascending keys, all ≥ `lo`. -/
def SortedFrom : Nat → Items → Prop
  | _, [] => True
  | lo, (k, _) :: t => lo ≤ k ∧ SortedFrom (k + 1) t

def AllBelow (hi : Nat) (l : Items) : Prop := ∀ p ∈ l, p.1 < hi

structure Dense.Inv (a : Dense) : Prop where
  lenValues : a.values.length ≤ a.length            -- length > every index
  objCount : a.objCount = countSome a.values         -- exactness: what `checkStdArrayObj` / export need
  pvc : countProp a.values ≤ a.pvc                   -- soundness of the `_setLengthInt` fast path

structure Sparse.Inv (a : Sparse) : Prop where
  sorted : SortedFrom 0 a.items
  below : AllBelow a.length a.items                  -- length > every index
  pvc : countPropItems a.items ≤ a.pvc

def Store.Inv : Store → Prop
  | .dense a => a.Inv
  | .sparse a => a.Inv

/-- executable check of `Inv` from the summary the white-box hook reports
(`VerifC07ArrayInfo`): tag, length, n, objCount, pvc, actualPresent, actualProps, sorted,
maxIdx+1, nilItems. -/
def invSummaryOk (dense : Bool) (length n objCount pvc present props : Nat) (sorted : Bool)
    (maxIdxP1 nilItems : Nat) : Bool :=
  if dense then n ≤ length && objCount == present && props ≤ pvc
  else sorted && maxIdxP1 ≤ length && props ≤ pvc && nilItems == 0 && present == n

/-! ## Fast-path guards (builtin_array.go:1441 `checkStdArrayObj`, array.go:517 export) -/

def Dense.stdGuard (a : Dense) : Bool :=
  a.pvc == 0 && a.length == a.values.length && a.objCount == a.length

/-- the generic read of index `i` as the slow paths do it: own element, else the prototype chain
(`proto i`). `none` = undefined/hole all the way up. -/
def genericGet (own : Option Elem) (proto : Option Val) (getterResult : VProp → Option Val) : Option Val :=
  match own with
  | some (.plain v) => some v
  | some (.prop p) => if p.accessor then getterResult p else some p.value
  | none => proto

/-- array.go:517 fast path of `export`: reads `values[i]` directly, never the prototype. -/
def fastGet (own : Option Elem) : Option Val :=
  match own with
  | some (.plain v) => some v
  | some (.prop p) => some p.value     -- (fast path would export the property object itself)
  | none => none

/-! ## `_defineOwnProperty` (object.go:650) transcription and the spec's ValidateAndApply -/

def flagIs (o : Option Bool) (b : Bool) : Bool := o == some b

def Desc.isData (d : Desc) : Bool := d.value.isSome || d.writable.isSome      -- object.go:74
def Desc.isAccessor (d : Desc) : Bool := d.getter.isSome || d.setter.isSome   -- object.go:70

/-- a plain value seen as the `valueProperty` that object.go:665 builds for it. -/
def Elem.toVProp : Elem → VProp
  | .prop p => p
  | .plain v => { value := v, writable := true, enumerable := true, configurable := true,
                  accessor := false, getter := none, setter := none }

/-- object.go:673–702: the validation of a redefinition against the existing property. `true` = Reject. -/
def mechReject (ex : VProp) (d : Desc) : Bool :=
  (!ex.configurable &&
    (flagIs d.configurable true ||
     (match d.enumerable with | some e => e != ex.enumerable | none => false))) ||
  (if (ex.accessor && d.isData) || (!ex.accessor && d.isAccessor) then
     !ex.configurable
   else if !ex.accessor then
     !ex.configurable && !ex.writable &&
       (flagIs d.writable true || (match d.value with | some v => v != ex.value | none => false))
   else
     !ex.configurable &&
       ((match d.getter with | some g => ex.getter != g | none => false) ||
        (match d.setter with | some s => ex.setter != s | none => false)))

/-- object.go:705–758: applying the descriptor (value 0 encodes `undefined` / Go `nil`). -/
def mechApply (ex : VProp) (d : Desc) : Elem :=
  if flagIs d.writable true && flagIs d.enumerable true && flagIs d.configurable true && d.value.isSome then
    .plain (d.value.getD 0)                                                      -- :705
  else
    let ex := { ex with writable := d.writable.getD ex.writable,               -- :709–717
                        enumerable := d.enumerable.getD ex.enumerable,
                        configurable := d.configurable.getD ex.configurable }
    let ex := match d.value with                                                 -- :719
      | some v => { ex with value := v, getter := none, setter := none }
      | none => ex
    let ex :=                                                                    -- :725–735
      if d.isData then
        if ex.accessor then
          { ex with getter := none, setter := none,
                    writable := if d.writable.isNone then false else ex.writable, accessor := false }
        else { ex with accessor := false }
      else ex
    let ex := if d.isAccessor && !ex.accessor then { ex with writable := false } else ex   -- :737
    let ex := match d.getter with                                                -- :742
      | some g => { ex with getter := g, value := 0, accessor := true }
      | none => ex
    let ex := match d.setter with                                                -- :748
      | some s => { ex with setter := s, value := 0, accessor := true }
      | none => ex
    .prop ex

/-- object.go:650–764 `_defineOwnProperty` for string/index keys, values compared by identity
(`SameAs` on opaque ids). A fresh property starts from the zero `valueProperty` (:662). -/
def mechDefine : MechDefine := fun existingValue d extensible =>
  match existingValue with
  | none =>
    if !extensible then none
    else some (mechApply { value := 0, writable := false, enumerable := false, configurable := false,
                           accessor := false, getter := none, setter := none } d)
  | some ev => if mechReject ev.toVProp d then none else some (mechApply ev.toVProp d)

/-- ValidateAndApplyPropertyDescriptor (ECMA-262 10.1.6.3), `none` = false. Value 0 = undefined. -/
def specDefine : SpecDefine := fun current d extensible =>
  let isAccDesc := d.getter.isSome || d.setter.isSome
  let isDataDesc := d.value.isSome || d.writable.isSome
  match current with
  | none =>
    if !extensible then none
    else if isAccDesc then
      some (.acc (d.getter.getD none) (d.setter.getD none) (d.enumerable.getD false) (d.configurable.getD false))
    else
      some (.data (d.value.getD 0) (d.writable.getD false) (d.enumerable.getD false) (d.configurable.getD false))
  | some cur =>
    let rejC := !cur.configurable &&
      (flagIs d.configurable true ||
       (match d.enumerable with | some e => e != cur.enumerable | none => false))
    if rejC then none
    else
      let e' := d.enumerable.getD cur.enumerable
      let c' := d.configurable.getD cur.configurable
      match cur with
      | .data v w _ _ =>
        if isAccDesc then
          if !cur.configurable then none
          else some (.acc (d.getter.getD none) (d.setter.getD none) e' c')
        else
          if !cur.configurable && !w &&
             (flagIs d.writable true || (match d.value with | some v' => v' != v | none => false)) then none
          else some (.data (d.value.getD v) (d.writable.getD w) e' c')
      | .acc g s _ _ =>
        if isDataDesc then
          if !cur.configurable then none
          else some (.data (d.value.getD 0) (d.writable.getD false) e' c')
        else
          if !cur.configurable &&
             ((match d.getter with | some g' => g != g' | none => false) ||
              (match d.setter with | some s' => s != s' | none => false)) then none
          else some (.acc (d.getter.getD g) (d.setter.getD s) e' c')

/-! ## Sort (builtin_array.go:1776 `arraySortCtx`)

A sort element is `none` (a `nil` slot), `some 0` (`undefined`) or `some v`.  The comparator is an
arbitrary function returning a *class* of float result.  `mechLess` is goja's `sortCompare`, `specLess` is
ECMA-262 23.1.3.30.2 SortCompare (`v < 0` ⇒ before, `v > 0` ⇒ after, NaN/±0 ⇒ equal). -/

inductive CmpRes where
  | neg | negZero | posZero | pos | nan
deriving DecidableEq, Repr

abbrev SortVal := Option Val

/-- builtin_array.go:1781 `sortCompare` → "less" (`Less(j,k) = sortCompare(..) < 0`). -/
def mechLess (cmp : Val → Val → CmpRes) (x y : SortVal) : Bool :=
  match x, y with
  | none, _ => false                 -- nil,nil → 0 ; nil,_ → 1
  | some _, none => true             -- _,nil → -1
  | some 0, some _ => false          -- undefined,undefined → 0 ; undefined,_ → 1
  | some (_ + 1), some 0 => true     -- _,undefined → -1
  | some (a + 1), some (b + 1) =>
    match cmp (a + 1) (b + 1) with
    | .neg => true
    | .negZero => true               -- `if math.Signbit(f) { return -1 }`  (the known −0 finding)
    | _ => false

/-- the spec's SortCompare as a "less" test. -/
def specLess (cmp : Val → Val → CmpRes) (x y : SortVal) : Bool :=
  match x, y with
  | none, _ => false
  | some _, none => true
  | some 0, some _ => false
  | some (_ + 1), some 0 => true
  | some (a + 1), some (b + 1) =>
    match cmp (a + 1) (b + 1) with
    | .neg => true
    | _ => false

/-- insertion of `x` into an already processed prefix, as `insertionSort` of Go's `sort.Stable`
does it from the right: `x` moves left past every element `y` with `less x y`. The list is the
prefix reversed (nearest neighbour first). -/
def insertRev (less : α → α → Bool) (x : α) : List α → List α
  | [] => [x]
  | y :: t => if less x y then y :: insertRev less x t else x :: y :: t

/-- insertion sort, left to right (prefix kept reversed). -/
def isortRev (less : α → α → Bool) : List α → List α → List α
  | acc, [] => acc
  | acc, x :: t => isortRev less (insertRev less x acc) t

def isort (less : α → α → Bool) (l : List α) : List α := (isortRev less [] l).reverse

/-- stable merge of two runs (`symMerge`'s observable effect for a consistent comparator; for an
arbitrary one still a permutation): take from the right run only when strictly less. -/
def merge (less : α → α → Bool) : List α → List α → List α
  | [], r => r
  | l, [] => l
  | x :: l, y :: r =>
    if less y x then y :: merge less (x :: l) r else x :: merge less l (y :: r)
termination_by l r => l.length + r.length

/-! ### `findIdx` = `sort.Search` (array_sparse.go:27, Go sort/search.go) -/

/-- Go's `sort.Search` loop: `for i < j { h := int(uint(i+j) >> 1); if !f(h) { i = h+1 } else { j = h } }`
(fuel = an upper bound of the number of iterations; `n` suffices). -/
def searchLoop (f : Nat → Bool) : Nat → Nat → Nat → Nat
  | 0, i, _ => i
  | fuel + 1, i, j =>
    if i < j then
      let h := (i + j) / 2
      if !f h then searchLoop f fuel (h + 1) j else searchLoop f fuel i h
    else i

def goSearch (n : Nat) (f : Nat → Bool) : Nat := searchLoop f n 0 n

/-- array_sparse.go:27 `findIdx`: `sort.Search(len(items), func(i) bool { return items[i].idx >= idx })`. -/
def findIdx (items : Items) (idx : Nat) : Nat :=
  goSearch items.length (fun i => match items[i]? with | some p => decide (p.1 ≥ idx) | none => true)

/-- the linear reading used by `sFind`/`sIns`/`sSetAt`/`sDel`/`sTake`: first position whose key is ≥ idx. -/
def sPos : Items → Nat → Nat
  | [], _ => 0
  | (k, _) :: t, idx => if k < idx then sPos t idx + 1 else 0

/-! ### `Array.prototype.pop` (builtin_array.go:117 generic, :130 fast path on `*arrayObject`) -/

/-- builtin_array.go:130–160: the fast path. `none` = "optimisation bail-out" to the generic path
(last slot empty or a `*valueProperty`). `decr = true` is the code as it is (`a.objCount--`, since 4d714fc);
`decr = false` is the code before that repair (kept for the regression lemma `pop_prefix_witness`). -/
def Dense.popFast (a : Dense) (decr : Bool) : Option (Dense × Bool) :=
  if a.length > 0 then
    let l := a.length - 1
    match a.slot l with
    | some (.plain _) =>
      let a1 : Dense := { a with values := a.values.take l, objCount := if decr then a.objCount - 1 else a.objCount }
      if a.lenW then some ({ a1 with length := l }, true)
      else some (a1, false)                      -- `a.setLength(0, true)` throws: length not writable
    | _ => none
  else
    if a.lenW then some (a, true) else some (a, false)

/-- builtin_array.go:117 `arrayproto_pop_generic`, on the mechanism. -/
def Store.popGeneric (s : Store) : Store × Bool :=
  if s.length = 0 then s.setLength 0
  else
    let d := s.deleteIdx (s.length - 1)
    if !d.2 then d else d.1.setLength (s.length - 1)

def Store.pop (s : Store) (decr : Bool) : Store × Bool :=
  match s with
  | .dense a =>
    match a.popFast decr with
    | some r => (.dense r.1, r.2)
    | none => s.popGeneric
  | .sparse _ => s.popGeneric

/-- ECMA-262 23.1.3.22 Array.prototype.pop on the spec array (result value not modelled). -/
def SpecArray.pop (a : SpecArray) : SpecArray × Bool :=
  if a.length = 0 then a.setLength 0
  else
    let d := a.delete (a.length - 1)
    if !d.2 then d else d.1.setLength (a.length - 1)

/-! ### the block structure of Go's `sort.Stable` (sort/sort.go `stable`)

`insertionSort` on blocks (of 20), then passes that merge neighbouring blocks (`symMerge`) with the
block size doubling until one block is left. `symMerge` (Go standard library) is represented by the
stable two-way `merge` above. -/

def mergePass (less : α → α → Bool) : List (List α) → List (List α)
  | a :: b :: rest => merge less a b :: mergePass less rest
  | l => l

/-- iterate the passes (`fuel` ≥ number of blocks suffices) and return the elements in order. -/
def mergeAll (less : α → α → Bool) : Nat → List (List α) → List α
  | 0, cs => cs.flatten
  | fuel + 1, cs => if cs.length ≤ 1 then cs.flatten else mergeAll less fuel (mergePass less cs)

/-- `sort.Stable` on a list already cut into blocks (any block sizes; Go uses 20). -/
def stableSortBlocks (less : α → α → Bool) (blocks : List (List α)) : List α :=
  mergeAll less blocks.length (blocks.map (isort less))

/-! ### sort under an adversarial comparator

After 88d0e7d `arrayproto_sort` sorts a private copy; the comparator is user code that may do
anything to the receiver (shrink it, grow it, switch its storage) — modelled as a state `σ`
threaded through every call.  The sort itself only ever touches the copy. -/

def insertRevM (cmp : σ → α → α → Bool × σ) (x : α) : List α → σ → List α × σ
  | [], s => ([x], s)
  | y :: t, s =>
    let r := cmp s x y
    if r.1 then
      let q := insertRevM cmp x t r.2
      (y :: q.1, q.2)
    else (x :: y :: t, r.2)

def isortRevM (cmp : σ → α → α → Bool × σ) : List α → List α → σ → List α × σ
  | acc, [], s => (acc, s)
  | acc, x :: t, s =>
    let q := insertRevM cmp x acc s
    isortRevM cmp q.1 t q.2

def isortM (cmp : σ → α → α → Bool × σ) (l : List α) (s : σ) : List α × σ :=
  let q := isortRevM cmp [] l s
  (q.1.reverse, q.2)

end GojaModel.C07
