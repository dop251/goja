/-
  Sorted item lists, the truncation scans, counting.  The meaning of an item list is its lookup
  `aGet`: each item operation is characterised by what it does to `aGet`, and a sorted list is determined by it (`sorted_ext`).
-/
import GojaModel.C07.Model

namespace GojaModel.C07

theorem sorted_mono {lo lo' : Nat} {l : Items} (h : lo' ≤ lo) (hs : SortedFrom lo l) : SortedFrom lo' l := by
  cases l with
  | nil => trivial
  | cons p t => obtain ⟨k, x⟩ := p; exact ⟨Nat.le_trans h hs.1, hs.2⟩

theorem aGet_cons_self (k : Nat) (x : Elem) (t : Items) : aGet ((k, x) :: t) k = some x := by rw [aGet, if_pos rfl]

theorem aGet_none_of_lt {lo : Nat} {l : Items} {i : Nat} (hs : SortedFrom lo l) (h : i < lo) : aGet l i = none := by
  fun_induction aGet l i generalizing lo with
  | case1 => rfl
  | case2 x t idx => exact absurd hs.1 (Nat.not_le_of_lt h)
  | case3 k x t idx _ ih => exact ih hs.2 (Nat.lt_succ_of_lt (Nat.lt_of_lt_of_le h hs.1))

theorem sFind_eq_aGet {lo : Nat} {l : Items} (hs : SortedFrom lo l) (i : Nat) : sFind l i = aGet l i := by
  fun_induction sFind l i generalizing lo with
  | case1 => rfl
  | case2 k x t idx h ih => rw [aGet, if_neg (Nat.ne_of_lt h)]; exact ih hs.2
  | case3 x t idx _ => exact (aGet_cons_self ..).symm
  | case4 k x t idx h1 h2 => rw [aGet, if_neg h2]; exact (aGet_none_of_lt hs.2 (by omega)).symm

theorem aGet_sIns (l : Items) (idx : Nat) (e : Elem) (j : Nat) :
    aGet (sIns l idx e) j = if j = idx then some e else aGet l j := by
  fun_induction sIns l idx e with
  | case1 idx e => simp only [aGet, eq_comm]
  | case2 k x t idx e h ih =>
    simp only [aGet, ih]
    split
    · next hk => rw [if_neg (by omega)]
    · rfl
  | case3 k x t idx e h => simp only [aGet, eq_comm]

theorem sorted_sIns {lo : Nat} {l : Items} {idx : Nat} (e : Elem) (hs : SortedFrom lo l) (hlo : lo ≤ idx)
    (habs : aGet l idx = none) : SortedFrom lo (sIns l idx e) := by
  fun_induction sIns l idx e generalizing lo with
  | case1 => exact ⟨hlo, trivial⟩
  | case2 k x t idx e h ih =>
    rw [aGet, if_neg (Nat.ne_of_lt h)] at habs
    exact ⟨hs.1, ih hs.2 h habs⟩
  | case3 k x t idx e h =>
    have hne : k ≠ idx := fun hk => by rw [aGet, if_pos hk] at habs; cases habs
    exact ⟨hlo, by omega, hs.2⟩

theorem mem_sIns {l : Items} {idx : Nat} {e : Elem} {p : Nat × Elem} (h : p ∈ sIns l idx e) :
    p = (idx, e) ∨ p ∈ l := by
  fun_induction sIns l idx e with
  | case1 => exact .inl (List.mem_singleton.mp h)
  | case2 k x t idx e _ ih =>
    rcases List.mem_cons.mp h with h | h
    · exact .inr (h ▸ List.mem_cons_self ..)
    · exact (ih h).imp_right (List.mem_cons_of_mem _)
  | case3 k x t idx e _ => exact (List.mem_cons.mp h)

theorem sorted_sSetAt {lo : Nat} {l : Items} (idx : Nat) (e : Elem) (hs : SortedFrom lo l) :
    SortedFrom lo (sSetAt l idx e) := by
  fun_induction sSetAt l idx e generalizing lo with
  | case1 => trivial
  | case2 k x t idx e _ ih => exact ⟨hs.1, ih hs.2⟩
  | case3 => exact hs

theorem head_eq_of_present {lo k : Nat} {x : Elem} {t : Items} {idx : Nat} (hs : SortedFrom lo ((k, x) :: t))
    (hp : (aGet ((k, x) :: t) idx).isSome) (h : ¬ k < idx) : k = idx := by
  by_cases hk : k = idx
  · exact hk
  · rw [aGet, if_neg hk, aGet_none_of_lt hs.2 (by omega)] at hp; cases hp

theorem aGet_sSetAt {lo : Nat} {l : Items} {idx : Nat} (e : Elem) (hs : SortedFrom lo l)
    (hp : (aGet l idx).isSome) (j : Nat) :
    aGet (sSetAt l idx e) j = if j = idx then some e else aGet l j := by
  fun_induction sSetAt l idx e generalizing lo with
  | case1 => cases hp
  | case2 k x t idx e h ih =>
    rw [aGet, if_neg (Nat.ne_of_lt h)] at hp
    simp only [aGet, ih hs.2 hp]
    split
    · next hk => rw [if_neg (by omega)]
    · rfl
  | case3 k x t idx e h =>
    cases head_eq_of_present hs hp h
    rw [aGet, aGet]
    by_cases hk : k = j
    · rw [if_pos hk, if_pos hk.symm]
    · rw [if_neg hk, if_neg hk, if_neg (Ne.symm hk)]

theorem mem_sSetAt_key {l : Items} {idx : Nat} {e : Elem} {p : Nat × Elem} (h : p ∈ sSetAt l idx e) :
    ∃ q ∈ l, q.1 = p.1 := by
  fun_induction sSetAt l idx e with
  | case1 => cases h
  | case2 k x t idx e _ ih =>
    rcases List.mem_cons.mp h with h | h
    · exact ⟨_, List.mem_cons_self .., h ▸ rfl⟩
    · obtain ⟨q, hq, hk⟩ := ih h
      exact ⟨q, List.mem_cons_of_mem _ hq, hk⟩
  | case3 k x t idx e _ =>
    rcases List.mem_cons.mp h with h | h
    · exact ⟨_, List.mem_cons_self .., h ▸ rfl⟩
    · exact ⟨p, List.mem_cons_of_mem _ h, rfl⟩

theorem mem_sSetAt {l : Items} {idx : Nat} {e : Elem} {p : Nat × Elem} (h : p ∈ sSetAt l idx e) :
    p ∈ l ∨ p.2 = e := by
  fun_induction sSetAt l idx e with
  | case1 => cases h
  | case2 k x t idx e _ ih =>
    rcases List.mem_cons.mp h with h | h
    · exact .inl (h ▸ List.mem_cons_self ..)
    · exact (ih h).imp_left (List.mem_cons_of_mem _)
  | case3 k x t idx e _ =>
    rcases List.mem_cons.mp h with h | h
    · exact .inr (h ▸ rfl)
    · exact .inl (List.mem_cons_of_mem _ h)

theorem sFind_some_mem {l : Items} {i : Nat} {e : Elem} (h : sFind l i = some e) : (i, e) ∈ l := by
  fun_induction sFind l i with
  | case1 => cases h
  | case2 k x t idx _ ih => exact List.mem_cons_of_mem _ (ih h)
  | case3 x t idx _ => cases h; exact List.mem_cons_self ..
  | case4 => cases h

theorem sorted_sDel {lo : Nat} {l : Items} (idx : Nat) (hs : SortedFrom lo l) : SortedFrom lo (sDel l idx) := by
  fun_induction sDel l idx generalizing lo with
  | case1 => trivial
  | case2 k x t idx _ ih => exact ⟨hs.1, ih hs.2⟩
  | case3 k x t idx _ => exact sorted_mono (Nat.le_succ_of_le hs.1) hs.2

theorem aGet_sDel {lo : Nat} {l : Items} {idx : Nat} (hs : SortedFrom lo l) (hp : (aGet l idx).isSome) (j : Nat) :
    aGet (sDel l idx) j = if j = idx then none else aGet l j := by
  fun_induction sDel l idx generalizing lo with
  | case1 => cases hp
  | case2 k x t idx h ih =>
    rw [aGet, if_neg (Nat.ne_of_lt h)] at hp
    simp only [aGet, ih hs.2 hp]
    split
    · next hk => rw [if_neg (by omega)]
    · rfl
  | case3 k x t idx h =>
    cases head_eq_of_present hs hp h
    by_cases hk : k = j
    · subst hk; rw [if_pos rfl]; exact aGet_none_of_lt hs.2 (Nat.lt_succ_self _)
    · rw [if_neg (Ne.symm hk), aGet, if_neg hk]

theorem mem_sDel {l : Items} {idx : Nat} {p : Nat × Elem} (h : p ∈ sDel l idx) : p ∈ l := by
  fun_induction sDel l idx with
  | case1 => cases h
  | case2 k x t idx _ ih =>
    rcases List.mem_cons.mp h with h | h
    · exact h ▸ List.mem_cons_self ..
    · exact List.mem_cons_of_mem _ (ih h)
  | case3 k x t idx _ => exact List.mem_cons_of_mem _ h

theorem sorted_sTake {lo : Nat} {l : Items} (n : Nat) (hs : SortedFrom lo l) : SortedFrom lo (sTake l n) := by
  fun_induction sTake l n generalizing lo with
  | case1 => trivial
  | case2 k x t n _ ih => exact ⟨hs.1, ih hs.2⟩
  | case3 => trivial

theorem mem_sTake {l : Items} {n : Nat} {p : Nat × Elem} (h : p ∈ sTake l n) : p ∈ l ∧ p.1 < n := by
  fun_induction sTake l n with
  | case1 => cases h
  | case2 k x t n hk ih =>
    rcases List.mem_cons.mp h with h | h
    · subst h; exact ⟨List.mem_cons_self .., hk⟩
    · exact ⟨List.mem_cons_of_mem _ (ih h).1, (ih h).2⟩
  | case3 => cases h

theorem below_sTake (l : Items) (n : Nat) : AllBelow n (sTake l n) := fun _ hp => (mem_sTake hp).2

theorem aGet_sTake {lo : Nat} {l : Items} (n : Nat) (hs : SortedFrom lo l) (j : Nat) :
    aGet (sTake l n) j = if j < n then aGet l j else none := by
  fun_induction sTake l n generalizing lo with
  | case1 => simp only [aGet, ite_self]
  | case2 k x t n h ih =>
    simp only [aGet, ih hs.2]
    split
    · next hk => rw [if_pos (hk ▸ h)]
    · rfl
  | case3 k x t n h =>
    split
    · next hj => rw [aGet, aGet, if_neg (by omega)]; exact (aGet_none_of_lt hs.2 (by omega)).symm
    · rfl

theorem sTake_nil_of_le {lo : Nat} {l : Items} {n : Nat} (hs : SortedFrom lo l) (h : n ≤ lo) : sTake l n = [] := by
  cases l with
  | nil => rfl
  | cons p t => rw [sTake, if_neg (Nat.not_lt_of_le (Nat.le_trans h hs.1))]

theorem sTake_all {l : Items} {n : Nat} (h : AllBelow n l) : sTake l n = l := by
  fun_induction sTake l n with
  | case1 => rfl
  | case2 k x t n _ ih => rw [ih fun q hq => h q (List.mem_cons_of_mem _ hq)]
  | case3 k x t n hk => exact absurd (h _ (List.mem_cons_self ..)) hk

theorem aGet_none_of_below {hi : Nat} {l : Items} {j : Nat} (h : AllBelow hi l) (hj : hi ≤ j) : aGet l j = none := by
  fun_induction aGet l j with
  | case1 => rfl
  | case2 x t idx => exact absurd (h _ (List.mem_cons_self ..)) (Nat.not_lt_of_le hj)
  | case3 k x t idx _ ih => exact ih (fun q hq => h q (List.mem_cons_of_mem _ hq)) hj

theorem aGet_some_mem {l : Items} {i : Nat} {e : Elem} (h : aGet l i = some e) : (i, e) ∈ l := by
  fun_induction aGet l i with
  | case1 => cases h
  | case2 x t idx => cases h; exact List.mem_cons_self ..
  | case3 k x t idx _ ih => exact List.mem_cons_of_mem _ (ih h)

theorem aGet_of_mem {lo : Nat} {l : Items} (hs : SortedFrom lo l) {p : Nat × Elem} (hp : p ∈ l) : aGet l p.1 = some p.2 := by
  induction l generalizing lo with
  | nil => cases hp
  | cons q t ih =>
    obtain ⟨k, x⟩ := q
    rcases List.mem_cons.mp hp with rfl | hp
    · exact aGet_cons_self ..
    · have := ih hs.2 hp
      by_cases hk : k = p.1
      · rw [aGet_none_of_lt hs.2 (by omega)] at this; cases this
      · rw [aGet, if_neg hk, this]

theorem sorted_ext {lo : Nat} {l l' : Items} (hs : SortedFrom lo l) (hs' : SortedFrom lo l')
    (h : ∀ i, aGet l i = aGet l' i) : l = l' := by
  induction l generalizing lo l' with
  | nil =>
    cases l' with
    | nil => rfl
    | cons q t => have := h q.1; rw [aGet_cons_self] at this; cases this
  | cons p t ih =>
    obtain ⟨k, x⟩ := p
    cases l' with
    | nil => have := h k; rw [aGet_cons_self] at this; cases this
    | cons q t' =>
      obtain ⟨k', x'⟩ := q
      have h1 := h k
      have h2 := h k'
      rw [aGet_cons_self] at h1 h2
      -- each head key is the least index present
      have hk : k = k' := by
        rcases Nat.lt_trichotomy k k' with hlt | he | hgt
        · rw [aGet, if_neg (by omega), aGet_none_of_lt hs'.2 (by omega)] at h1; cases h1
        · exact he
        · rw [aGet, if_neg (by omega), aGet_none_of_lt hs.2 (by omega)] at h2; cases h2
      subst hk
      rw [aGet_cons_self] at h1
      cases h1
      rw [ih hs.2 hs'.2 fun i => ?_]
      by_cases hi : k = i
      · rw [aGet_none_of_lt hs.2 (by omega), aGet_none_of_lt hs'.2 (by omega)]
      · have := h i
        rwa [aGet, aGet, if_neg hi, if_neg hi] at this

theorem countPropItems_cons (k : Nat) (x : Elem) (t : Items) :
    countPropItems ((k, x) :: t) = countPropItems t + (if x.isProp then 1 else 0) := List.countP_cons ..

theorem countProp_sIns (l : Items) (idx : Nat) (e : Elem) :
    countPropItems (sIns l idx e) = countPropItems l + (if e.isProp then 1 else 0) := by
  fun_induction sIns l idx e with
  | case1 => rw [countPropItems_cons]
  | case2 k x t idx e _ ih => rw [countPropItems_cons, countPropItems_cons, ih]; omega
  | case3 => rw [countPropItems_cons]

theorem countProp_sSetAt_le (l : Items) (idx : Nat) (e : Elem) :
    countPropItems (sSetAt l idx e) ≤ countPropItems l + (if e.isProp then 1 else 0) := by
  fun_induction sSetAt l idx e with
  | case1 => exact Nat.zero_le _
  | case2 k x t idx e _ ih => rw [countPropItems_cons, countPropItems_cons]; omega
  | case3 k x t idx e _ => rw [countPropItems_cons, countPropItems_cons]; omega

theorem countProp_sSetAt_same {l : Items} {idx : Nat} {old new : Elem} (h : sFind l idx = some old)
    (hp : new.isProp = old.isProp) : countPropItems (sSetAt l idx new) = countPropItems l := by
  fun_induction sFind l idx with
  | case1 => cases h
  | case2 k x t idx hk ih => rw [sSetAt, if_pos hk, countPropItems_cons, countPropItems_cons, ih h]
  | case3 x t idx hk => cases h; rw [sSetAt, if_neg hk, countPropItems_cons, countPropItems_cons, hp]
  | case4 => cases h

theorem countProp_sDel_le (l : Items) (idx : Nat) : countPropItems (sDel l idx) ≤ countPropItems l := by
  fun_induction sDel l idx with
  | case1 => exact Nat.le_refl _
  | case2 k x t idx _ ih => rw [countPropItems_cons, countPropItems_cons]; exact Nat.add_le_add_right ih _
  | case3 => rw [countPropItems_cons]; exact Nat.le_add_right _ _

theorem countProp_sDel_prop {l : Items} {idx : Nat} {p : VProp} (h : sFind l idx = some (.prop p)) :
    countPropItems (sDel l idx) + 1 = countPropItems l := by
  fun_induction sFind l idx with
  | case1 => cases h
  | case2 k x t idx hk ih => rw [sDel, if_pos hk, countPropItems_cons, countPropItems_cons, ← ih h]; omega
  | case3 x t idx hk => cases h; rw [sDel, if_neg hk, countPropItems_cons]; rfl
  | case4 => cases h

theorem countProp_sTake_le (l : Items) (n : Nat) : countPropItems (sTake l n) ≤ countPropItems l := by
  fun_induction sTake l n with
  | case1 => exact Nat.le_refl _
  | case2 k x t n _ ih => rw [countPropItems_cons, countPropItems_cons]; exact Nat.add_le_add_right ih _
  | case3 => exact Nat.zero_le _

theorem isProp_false_of_count_zero {l : Items} {i : Nat} {e : Elem} (h0 : countPropItems l = 0)
    (h : aGet l i = some e) : e.isProp = false := by
  fun_induction aGet l i with
  | case1 => cases h
  | case2 x t idx =>
    cases h
    rw [countPropItems_cons] at h0
    cases he : e.isProp
    · rfl
    · rw [he] at h0; cases h0
  | case3 k x t idx _ ih => rw [countPropItems_cons] at h0; exact ih (by omega) h

theorem sScan_ok_len (l : Nat) (items : Items) (pvc : Nat) : (sScan l items pvc).ok = true → (sScan l items pvc).len = l := by
  fun_induction sScan l items pvc with
  | case1 => exact fun _ => rfl
  | case2 k e t pvc r hok => intro h; rw [h] at hok; cases hok
  | case3 k e t pvc r _ _ ih => exact ih
  | case4 k t pvc r _ _ p _ => exact fun h => nomatch h
  | case5 k t pvc r hok _ p _ ih => exact fun _ => ih (by simpa using hok)
  | case6 k t pvc r _ _ v ih => exact ih

/-- "index `i` holds a non-configurable element", for an item list; `ncSpec` is the same for a spec array. -/
def ncItems (items : Items) (i : Nat) : Bool :=
  match aGet items i with
  | some e => !e.configurable
  | none => false

theorem ncItems_cons (k : Nat) (e : Elem) (t : Items) (i : Nat) :
    ncItems ((k, e) :: t) i = if k = i then !e.configurable else ncItems t i := by
  by_cases h : k = i <;> simp [ncItems, aGet, h]

/-- The last conjunct, `lo < r.len`, is for the induction and for `sScan_pvc`: an item below a failed stop survives. -/
theorem sScan_char {lo : Nat} {items : Items} (l pvc : Nat) (hs : SortedFrom lo items) :
    let r := sScan l items pvc
    l ≤ r.len ∧ (∀ i, r.len ≤ i → ncItems items i = false) ∧
    (r.ok = false → ncItems items (r.len - 1) = true ∧ l < r.len ∧ lo < r.len) := by
  fun_induction sScan l items pvc generalizing lo with
  | case1 => exact ⟨Nat.le_refl _, fun _ _ => rfl, fun h => nomatch h⟩
  | case2 k e t pvc r hok =>
    -- the loop had already stopped above `k`
    rename_i ih
    obtain ⟨i1, i2, i3⟩ := ih hs.2
    obtain ⟨h1, h2, h3⟩ := i3 (by simpa using hok)
    have h3 : k + 1 < r.len := h3
    refine ⟨i1, fun i hi => ?_, fun _ => ⟨?_, h2, Nat.lt_of_le_of_lt hs.1 (Nat.lt_of_succ_lt h3)⟩⟩
    · rw [ncItems_cons, if_neg (Nat.ne_of_lt (Nat.lt_of_lt_of_le (Nat.lt_of_succ_lt h3) hi))]; exact i2 i hi
    · rw [ncItems_cons, if_neg (by omega)]; exact h1
  | case3 k e t pvc r hok hk =>
    rename_i ih
    obtain ⟨i1, i2, _⟩ := ih hs.2
    have hl : r.len = l := sScan_ok_len l t pvc (by simpa using hok)
    refine ⟨i1, fun i hi => ?_, fun h => absurd h (by simpa using hok)⟩
    rw [ncItems_cons, if_neg (by have hi : r.len ≤ i := hi; omega)]; exact i2 i hi
  | case4 k t pvc r hok hk p hc =>
    rename_i ih
    obtain ⟨_, i2, _⟩ := ih hs.2
    have hl : r.len = l := sScan_ok_len l t pvc (by simpa using hok)
    refine ⟨by show l ≤ k + 1; omega, fun i hi => ?_,
      fun _ => ⟨?_, by show l < k + 1; omega, by show lo < k + 1; have := hs.1; omega⟩⟩
    · have hi : k + 1 ≤ i := hi
      rw [ncItems_cons, if_neg (by omega)]; exact i2 i (show r.len ≤ i by omega)
    · show ncItems _ (k + 1 - 1) = true
      rw [Nat.add_sub_cancel, ncItems_cons, if_pos rfl]; simpa [Elem.configurable] using hc
  | case5 k t pvc r hok hk p hc =>
    rename_i ih
    obtain ⟨i1, i2, _⟩ := ih hs.2
    refine ⟨i1, fun i hi => ?_, fun h => nomatch h⟩
    rw [ncItems_cons]
    split
    · simpa [Elem.configurable] using hc
    · exact i2 i hi
  | case6 k t pvc r hok hk v =>
    rename_i ih
    obtain ⟨i1, i2, _⟩ := ih hs.2
    refine ⟨i1, fun i hi => ?_, fun h => absurd h (by simpa using hok)⟩
    rw [ncItems_cons]
    split
    · rfl
    · exact i2 i hi

/-- `s` is slack that lets the induction go through: the head item's contribution moves into it. -/
theorem sScan_pvc {lo : Nat} {items : Items} (l pvc s : Nat) (hs : SortedFrom lo items)
    (h : countPropItems items + s ≤ pvc) :
    countPropItems (sTake items (sScan l items pvc).len) + s ≤ (sScan l items pvc).pvc := by
  fun_induction sScan l items pvc generalizing lo s with
  | case1 => exact h
  | case2 k e t pvc r hok =>
    rename_i ih
    -- stopped above `k`: `(k, e)` survives
    have hk : k < r.len := Nat.lt_of_succ_lt ((sScan_char l pvc hs.2).2.2 (by simpa using hok)).2.2
    rw [countPropItems_cons] at h
    have : countPropItems (sTake t r.len) + (s + (if e.isProp then 1 else 0)) ≤ r.pvc := ih _ hs.2 (by omega)
    rw [sTake, if_pos hk, countPropItems_cons]; omega
  | case3 k e t pvc r hok hk =>
    rename_i ih
    have hl : r.len = l := sScan_ok_len l t pvc (by simpa using hok)
    rw [countPropItems_cons] at h
    have : countPropItems (sTake t r.len) + (s + (if e.isProp then 1 else 0)) ≤ r.pvc := ih _ hs.2 (by omega)
    rw [sTake, if_pos (hl ▸ hk), countPropItems_cons]; omega
  | case4 k t pvc r hok hk p hc =>
    rename_i ih
    rw [countPropItems_cons, Elem.isProp, if_pos rfl] at h
    have : countPropItems (sTake t r.len) + (s + 1) ≤ r.pvc := ih _ hs.2 (by omega)
    show countPropItems (sTake _ (k + 1)) + s ≤ r.pvc
    rw [sTake, if_pos (Nat.lt_succ_self k), sTake_nil_of_le hs.2 (Nat.le_refl _), countPropItems_cons]
    simp only [Elem.isProp, if_true, countPropItems, List.countP_nil]; omega
  | case5 k t pvc r hok hk p hc =>
    rename_i ih
    have hl : r.len = l := sScan_ok_len l t pvc (by simpa using hok)
    rw [countPropItems_cons, Elem.isProp, if_pos rfl] at h
    have : countPropItems (sTake t r.len) + (s + 1) ≤ r.pvc := ih _ hs.2 (by omega)
    show countPropItems (sTake _ r.len) + s ≤ r.pvc - 1
    rw [sTake, if_neg (hl ▸ hk)]
    show 0 + s ≤ r.pvc - 1
    omega
  | case6 k t pvc r hok hk v =>
    rename_i ih
    have hl : r.len = l := sScan_ok_len l t pvc (by simpa using hok)
    rw [countPropItems_cons, Elem.isProp, if_neg Bool.false_ne_true] at h
    have : countPropItems (sTake t r.len) + s ≤ r.pvc := ih _ hs.2 h
    rw [sTake, if_neg (hl ▸ hk)]
    show 0 + s ≤ r.pvc
    omega

theorem sScan_of_below {items : Items} {l : Nat} (pvc : Nat) (h : AllBelow l items) :
    sScan l items pvc = ⟨l, true, pvc⟩ := by
  induction items with
  | nil => rfl
  | cons p t ih =>
    obtain ⟨k, e⟩ := p
    have hk : k < l := h (k, e) (by simp)
    simp [sScan, ih (fun q hq => h q (List.mem_cons_of_mem _ hq)), hk]

def ncSpec (get : Nat → Option SProp) (i : Nat) : Bool :=
  match get i with
  | some p => !p.configurable
  | none => false

/-- declarative meaning of "delete downwards, stop at the first non-configurable". -/
structure CutChar (nc : Nat → Bool) (l top c : Nat) : Prop where
  lo : l ≤ c
  above : ∀ i, c ≤ i → i < top → nc i = false
  stop : c = l ∨ (nc (c - 1) = true ∧ c - 1 < top ∧ l < c)

private theorem CutChar.not_lt {nc : Nat → Bool} {l top c1 c2 : Nat} (h1 : CutChar nc l top c1)
    (h2 : CutChar nc l top c2) : ¬ c1 < c2 := by
  intro h
  rcases h2.stop with e | ⟨hn, ht, _⟩
  · exact absurd h1.lo (by omega)
  · rw [h1.above (c2 - 1) (by omega) ht] at hn; cases hn

theorem CutChar.unique {nc : Nat → Bool} {l top c1 c2 : Nat} (h1 : CutChar nc l top c1) (h2 : CutChar nc l top c2) :
    c1 = c2 :=
  Nat.le_antisymm (Nat.le_of_not_lt (h2.not_lt h1)) (Nat.le_of_not_lt (h1.not_lt h2))

theorem CutChar.le_top {nc : Nat → Bool} {l top c : Nat} (h : CutChar nc l top c) (hl : l ≤ top) : c ≤ top := by
  rcases h.stop with rfl | ⟨_, h2, _⟩
  · exact hl
  · omega

theorem cutoff_char (get : Nat → Option SProp) (l d : Nat) : CutChar (ncSpec get) l (l + d) (cutoff get l d) := by
  fun_induction cutoff get l d with
  | case1 => exact ⟨Nat.le_refl _, fun i h1 h2 => absurd h2 (Nat.not_lt_of_le h1), Or.inl rfl⟩
  | case2 d p hg hc ih =>
    refine ⟨ih.lo, fun i h1 h2 => ?_, ih.stop.imp_right fun ⟨a, b, c⟩ => ⟨a, Nat.lt_succ_of_lt b, c⟩⟩
    rcases Nat.lt_succ_iff_lt_or_eq.mp h2 with h3 | rfl
    · exact ih.above i h1 h3
    · simp [ncSpec, hg, hc]
  | case3 d p hg hc =>
    exact ⟨Nat.le_succ_of_le (Nat.le_add_right ..), fun i h1 h2 => absurd h2 (Nat.not_lt_of_le h1),
      Or.inr ⟨by simpa [ncSpec, hg] using hc, Nat.lt_succ_self _, Nat.lt_succ_of_le (Nat.le_add_right ..)⟩⟩
  | case4 d hg ih =>
    refine ⟨ih.lo, fun i h1 h2 => ?_, ih.stop.imp_right fun ⟨a, b, c⟩ => ⟨a, Nat.lt_succ_of_lt b, c⟩⟩
    rcases Nat.lt_succ_iff_lt_or_eq.mp h2 with h3 | rfl
    · exact ih.above i h1 h3
    · simp [ncSpec, hg]

theorem abs_configurable (e : Elem) : e.abs.configurable = e.configurable := by
  cases e with
  | plain v => rfl
  | prop p => simp only [Elem.abs, Elem.configurable]; split <;> rfl

theorem ncSpec_abs (items : Items) (i : Nat) :
    ncSpec (fun i => (aGet items i).map Elem.abs) i = ncItems items i := by
  simp only [ncSpec, ncItems]
  cases aGet items i with
  | none => rfl
  | some e => simp [abs_configurable]

theorem dScan_eq_sScan (l i : Nat) (vs : List (Option Elem)) (pvc : Nat) :
    dScan l i vs pvc = sScan l (enumSome i vs) pvc := by
  induction vs generalizing i with
  | nil => rfl
  | cons e t ih =>
    cases e with
    | none =>
      simp only [dScan, enumSome, ih]
      split
      · rfl
      · split <;> rfl
    | some x =>
      simp only [dScan, enumSome, sScan, ih]
      cases x <;> rfl

theorem sorted_enumSome (i : Nat) (vs : List (Option Elem)) : SortedFrom i (enumSome i vs) := by
  induction vs generalizing i with
  | nil => trivial
  | cons e t ih =>
    cases e with
    | none => exact sorted_mono (Nat.le_succ i) (ih (i + 1))
    | some x => exact ⟨Nat.le_refl _, ih (i + 1)⟩

theorem aGet_enumSome_add (i : Nat) (vs : List (Option Elem)) (k : Nat) :
    aGet (enumSome i vs) (i + k) = (vs[k]?).join := by
  induction vs generalizing i k with
  | nil => rfl
  | cons e t ih =>
    cases k with
    | zero =>
      cases e with
      | none => exact aGet_none_of_lt (sorted_enumSome (i + 1) t) (Nat.lt_succ_self i)
      | some x => simp [enumSome, aGet]
    | succ k =>
      have := ih (i + 1) k
      rw [Nat.add_right_comm, Nat.add_assoc] at this
      cases e with
      | none => exact this
      | some x => simpa [enumSome, aGet] using this

theorem aGet_enumSome (i : Nat) (vs : List (Option Elem)) (j : Nat) :
    aGet (enumSome i vs) j = if j < i then none else (vs[j - i]?).join := by
  split
  · next h => exact aGet_none_of_lt (sorted_enumSome i vs) h
  · next h => rw [← aGet_enumSome_add i vs (j - i), Nat.add_sub_cancel' (Nat.le_of_not_lt h)]

/-- an item of `enumSome i vs` is the content of the slot it is numbered by. -/
theorem getElem?_of_mem_enumSome {i : Nat} {vs : List (Option Elem)} {p : Nat × Elem} (h : p ∈ enumSome i vs) :
    i ≤ p.1 ∧ vs[p.1 - i]? = some (some p.2) := by
  have hg := aGet_of_mem (sorted_enumSome i vs) h
  rw [aGet_enumSome] at hg
  split at hg
  · cases hg
  · next hlt =>
    refine ⟨Nat.le_of_not_lt hlt, ?_⟩
    cases hv : vs[p.1 - i]? with
    | none => rw [hv] at hg; cases hg
    | some o => rw [hv] at hg; exact congrArg some hg

theorem below_enumSome (i : Nat) (vs : List (Option Elem)) : AllBelow (i + vs.length) (enumSome i vs) := fun p hp => by
  obtain ⟨h1, h2⟩ := getElem?_of_mem_enumSome hp
  have := (List.getElem?_eq_some_iff.mp h2).1
  omega

theorem mem_enumSome {i : Nat} {vs : List (Option Elem)} {p : Nat × Elem} (h : p ∈ enumSome i vs) :
    some p.2 ∈ vs := List.mem_of_getElem? (getElem?_of_mem_enumSome h).2

theorem countProp_enumSome (i : Nat) (vs : List (Option Elem)) : countPropItems (enumSome i vs) = countProp vs := by
  induction vs generalizing i with
  | nil => rfl
  | cons e t ih =>
    cases e with
    | none => simp only [enumSome, ih]; simp [countProp, isPropSlot]
    | some x =>
      have := ih (i + 1)
      simp only [countPropItems, countProp] at this
      simp only [enumSome, countPropItems, countProp, List.countP_cons, this]
      cases x <;> rfl

theorem length_enumSome (i : Nat) (vs : List (Option Elem)) : (enumSome i vs).length = countSome vs := by
  induction vs generalizing i with
  | nil => rfl
  | cons e t ih =>
    cases e with
    | none => simp only [enumSome, ih]; simp [countSome]
    | some x => simp [enumSome, ih, countSome]

theorem sTake_enumSome (i : Nat) (vs : List (Option Elem)) (n : Nat) (h : i ≤ n) :
    sTake (enumSome i vs) n = enumSome i (vs.take (n - i)) :=
  sorted_ext (sorted_sTake n (sorted_enumSome i vs)) (sorted_enumSome i _) fun j => by
    rw [aGet_sTake n (sorted_enumSome i vs), aGet_enumSome, aGet_enumSome, List.getElem?_take]
    by_cases h1 : j < i
    · rw [if_pos h1, if_pos h1, ite_self]
    · rw [if_neg h1, if_neg h1]
      by_cases h2 : j < n
      · rw [if_pos h2, if_pos (by omega)]
      · rw [if_neg h2, if_neg (by omega)]; rfl

theorem countP_set' (p : Option Elem → Bool) (vs : List (Option Elem)) (idx : Nat) (old new : Option Elem)
    (h : vs[idx]? = some old) :
    (vs.set idx new).countP p + (if p old then 1 else 0) = vs.countP p + (if p new then 1 else 0) := by
  induction vs generalizing idx with
  | nil => simp at h
  | cons e t ih =>
    cases idx with
    | zero =>
      simp only [List.getElem?_cons_zero, Option.some.injEq] at h
      subst h
      simp only [List.set_cons_zero, List.countP_cons]; omega
    | succ n =>
      simp only [List.getElem?_cons_succ] at h
      have := ih n h
      simp only [List.set_cons_succ, List.countP_cons]; omega

theorem countP_append_replicate_none (p : Option Elem → Bool) (hp : p none = false) (vs : List (Option Elem)) (n : Nat) :
    (vs ++ List.replicate n none).countP p = vs.countP p := by
  rw [List.countP_append]
  have : (List.replicate n (none : Option Elem)).countP p = 0 := by
    induction n with
    | zero => rfl
    | succ n ih => simp [List.replicate_succ, hp, ih]
  omega

end GojaModel.C07
