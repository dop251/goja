/-
  Reverse (fast = generic = list reversal, holes
  included), the write-back of sort, sort as a whole on the own-slot layout, toSorted.
-/
import GojaModel.C07.PropsMethods
import GojaModel.C07.PropsMerge

namespace GojaModel.C07

theorem reverseStep_eq_swap (vals : List (Option Elem)) (lower upper : Nat)
    (hl : lower < vals.length) (hu : upper < vals.length) :
    reverseStep vals lower upper = swapSlots vals lower upper := by
  unfold reverseStep swapSlots
  cases h1 : (vals[lower]?).join <;> cases h2 : (vals[upper]?).join <;> simp only []
  -- none, none: both writes store what is already there
  have set_hole : ∀ {i}, (vals[i]?).join = none → i < vals.length → vals.set i none = vals := by
    intro i h hi
    have := slot_none_cases h hi
    rw [List.getElem?_eq_getElem hi] at this
    rw [← Option.some.inj this, List.set_getElem_self]
  rw [set_hole h1 hl, set_hole h2 hu]

theorem reverseFast_eq_reverse (vals : List (Option Elem)) : reverseFast vals = vals.reverse := by
  simpa [reverseFast] using reverseLoop_swap (vals.length / 2) [] vals [] rfl rfl

private theorem loops_agree (n : Nat) (c : Nat) : ∀ (vals : List (Option Elem)) (lower : Nat),
    vals.length = n → 2 * (lower + c) ≤ n →
    reverseLoop reverseStep n vals lower c = reverseLoop swapSlots n vals lower c := by
  induction c with
  | zero => intro vals lower _ _; rfl
  | succ c ih =>
    intro vals lower hn hc
    simp only [reverseLoop]
    rw [reverseStep_eq_swap vals lower (n - lower - 1) (by omega) (by omega)]
    exact ih _ (lower + 1) (by simp [swapSlots, hn]) (by omega)

/-- reverse: the generic algorithm — including its hole branches (set+delete / delete+set / nothing) —
and the fast path both compute the reversal of the slot list. -/
theorem reverse_fast_eq_generic (vals : List (Option Elem)) :
    reverseFast vals = reverseGeneric vals ∧ reverseGeneric vals = vals.reverse := by
  have h := loops_agree vals.length (vals.length / 2) vals 0 rfl (by omega)
  have hf := reverseFast_eq_reverse vals
  unfold reverseFast at hf
  unfold reverseFast reverseGeneric
  rw [h]
  exact ⟨rfl, hf⟩

theorem sortWriteBack_layout (vals : List (Option Elem)) (sorted : List SortVal) (h : sorted.length ≤ vals.length) :
    sortWriteBack vals sorted = sorted.map slotOfSortVal ++ List.replicate (vals.length - sorted.length) none := by
  have h1 := writeBackSet_append sorted [] vals h
  have h2 := writeBackDelete_append (vals.length - sorted.length) (sorted.map slotOfSortVal) (vals.drop sorted.length)
    (by simp)
  simp only [List.nil_append, List.length_nil, List.length_map] at h1 h2
  unfold sortWriteBack
  rw [h1, h2]
  simp; omega

/-- **`Array.prototype.sort` on the own-slot layout** (ECMA-262 23.1.3.30, SortIndexedProperties +
write-back): for every consistent comparator the receiver ends as "a sorted, stable permutation of
the collected elements (HasProperty + Get through `w`, so inherited values count), as own elements,
followed by holes up to the old length" — whatever blocks `sort.Stable` cuts the input into. -/
theorem sort_array_spec (less : SortVal → SortVal → Bool) (hc : Consistent less) (p : SortVal → Bool)
    (hp : ∀ a b, p a = true → p b = true → less a b = false)
    (vals : List (Option Elem)) (w : View) (blocks : List (List SortVal))
    (hb : blocks.flatten = sortCollect w vals.length) :
    let sorted := stableSortBlocks less blocks
    sortWriteBack vals sorted = sorted.map slotOfSortVal ++ List.replicate (vals.length - sorted.length) none ∧
    SortedBy less sorted ∧ sorted.Perm (sortCollect w vals.length) ∧
    sorted.filter p = (sortCollect w vals.length).filter p := by
  intro sorted
  obtain ⟨s1, s2, s3⟩ := stableSort_sorted_stable_perm less hc p hp blocks
  rw [hb] at s2 s3
  have hlen : sorted.length ≤ vals.length := by
    rw [s3.length_eq]
    unfold sortCollect
    have := List.length_filterMap_le (fun k => if w.has k then some (w.get k) else none) (List.range vals.length)
    simpa using this
  exact ⟨sortWriteBack_layout vals sorted hlen, s1, s3, s2⟩

/-- sort's fast collection (`copy(a, src.values)` under the no-holes guard) is the generic collection. -/
theorem sortCollect_fast_eq_generic (a : Dense) (h : a.Inv) (hg : a.stdGuard = true) (proto : Nat → Option Val)
    (gr : VProp → Option Val) : sortCollectFast a.values = sortCollect (a.view proto gr) a.values.length := by
  obtain ⟨hp, _⟩ := guard_allPlain a h hg
  unfold sortCollectFast sortCollect
  rw [map_slotVal a hp proto gr]
  have hall : ∀ l : List Nat, (∀ k ∈ l, k < a.values.length) →
      l.filterMap (fun k => if (a.view proto gr).has k then some ((a.view proto gr).get k) else none) =
        l.map (a.view proto gr).get := by
    intro l hl
    induction l with
    | nil => rfl
    | cons x t ih =>
      obtain ⟨_, _, h1, _⟩ := view_at a hp proto gr x (hl x (List.mem_cons_self ..))
      rw [List.filterMap_cons, h1, if_pos rfl, List.map_cons, ih fun k hk => hl k (List.mem_cons_of_mem _ hk)]
  exact (hall _ fun k hk => List.mem_range.mp hk).symm

/-- toSorted: the list handed to the sort by the fast path equals the generic one (Get of every index). -/
theorem toSorted_collect_fast_eq_generic (a : Dense) (h : a.Inv) (hg : a.stdGuard = true) (proto : Nat → Option Val)
    (gr : VProp → Option Val) (L : Nat) (hL : a.values.length = L) :
    toSortedCollectFast a.values L = toSortedCollectGeneric (a.view proto gr) L := by
  -- `with` at an index that is never hit
  have := with_fast_eq_generic a h hg proto gr L L 0 hL
  unfold withFast withGeneric at this
  unfold toSortedCollectFast toSortedCollectGeneric
  have e1 : ∀ (f : Nat → Option Val), (List.range L).map (fun k => if k = L then some 0 else f k) = (List.range L).map f := by
    intro f
    apply List.map_congr_left
    intro k hk
    have : ¬ k = L := by have := List.mem_range.mp hk; omega
    simp [this]
  rw [e1, e1] at this
  exact this

theorem moveStep_eq_set (vals : List (Option Elem)) (f t : Nat) : moveStep vals f t = vals.set t ((vals[f]?).join) := by
  unfold moveStep
  cases (vals[f]?).join <;> rfl

/-- hence copyWithin's generic loops on a receiver WITH holes are the slot-copy loops `cwFwd` / `cwBwd`
of `copyWithin_fast_eq_generic` (which therefore describes the generic algorithm on every slot list,
not only on hole-free ones). -/
theorem copyWithin_generic_with_holes (c : Nat) (vals : List (Option Elem)) (f t : Nat) :
    cwFwdGeneric vals f t c = cwFwd vals f t c ∧ cwBwdGeneric vals f t c = cwBwd vals f t c := by
  constructor
  · induction c generalizing vals f t with
    | zero => rfl
    | succ c ih => simp only [cwFwdGeneric, cwFwd, moveStep_eq_set]; exact ih _ _ _
  · induction c generalizing vals with
    | zero => rfl
    | succ c ih => simp only [cwBwdGeneric, cwBwd, moveStep_eq_set]; exact ih _

end GojaModel.C07
