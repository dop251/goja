/-
  The strategy switches, truncation (`_setLengthInt`), delete, the fast-path guard, and
  `_defineOwnProperty` against ValidateAndApplyPropertyDescriptor.
  Spec = ECMA-262 Array exotic object over an index → property function (`SpecArray`);
  mechanism = goja's dense / sparse storage (`Dense`, `Sparse`) — see Model.lean.
  Every public `theorem` of the `Props*` and `Tie*` modules is one audited proof obligation (run/c07.py).
-/
import GojaModel.C07.ArrayLemmas

namespace GojaModel.C07

/-- dense → sparse (`array.go:363` → `setValues`): the abstract array is unchanged. -/
theorem transition_invisible_toSparse (a : Dense) : a.toSparse.abs = a.abs := Dense.toSparse_abs a

/-- sparse → dense (`array_sparse.go:322` → `setValuesFromSparse`): unchanged as well, for every
`maxIdx` that is ≥ all present indices (which `expand` guarantees by taking the last item). -/
theorem transition_invisible_toDense (a : Sparse) (m : Nat) (hs : SortedFrom 0 a.items)
    (hb : AllBelow (m + 1) a.items) : (a.toDense m).abs = a.abs := Sparse.toDense_abs a m hs hb

private theorem sparse_scan_cut (a : Sparse) (h : a.Inv) (l : Nat) (hl : l ≤ a.length) :
    CutChar (ncItems a.items) l a.length (a.scan l).len ∧ ((a.scan l).ok = ((a.scan l).len == l)) := by
  by_cases hp : a.pvc > 0
  · have hr : a.scan l = sScan l a.items a.pvc := by simp [Sparse.scan, hl, hp]
    obtain ⟨c1, c2, c3⟩ := sScan_char l a.pvc h.sorted
    have hok := sScan_ok_len l a.items a.pvc
    rw [hr]
    refine ⟨⟨c1, fun i h1 _ => c2 i h1, ?_⟩, ?_⟩
    · cases hk : (sScan l a.items a.pvc).ok
      · obtain ⟨d1, d2, _⟩ := c3 hk
        refine Or.inr ⟨d1, ?_, d2⟩
        -- the stopping element is present, hence below `length`
        by_cases hlt : (sScan l a.items a.pvc).len - 1 < a.length
        · exact hlt
        · have := aGet_none_of_below h.below (Nat.le_of_not_lt hlt)
          simp [ncItems, this] at d1
      · exact Or.inl (hok hk)
    · cases hk : (sScan l a.items a.pvc).ok
      · obtain ⟨_, d2, _⟩ := c3 hk
        have : ¬ (sScan l a.items a.pvc).len = l := by omega
        simp [this]
      · simp [hok hk]
  · have hr : a.scan l = ⟨l, true, a.pvc⟩ := by simp [Sparse.scan, hp]
    have h0 : countPropItems a.items = 0 := by have := h.pvc; omega
    rw [hr]
    refine ⟨⟨Nat.le_refl _, ?_, Or.inl rfl⟩, by simp⟩
    intro i _ _
    simp only [ncItems]
    cases hg : aGet a.items i with
    | none => rfl
    | some e =>
      have := isProp_false_of_count_zero h0 hg
      cases e with
      | plain v => rfl
      | prop p => simp [Elem.isProp] at this

private theorem sparse_scan_len (a : Sparse) (h : a.Inv) (l : Nat) (hl : l ≤ a.length) :
    (a.scan l).len = cutoff a.abs.get l (a.abs.length - l) := by
  have hc := cutoff_char a.abs.get l (a.abs.length - l)
  rw [show ncSpec a.abs.get = ncItems a.items from funext (ncSpec_abs a.items),
    show l + (a.abs.length - l) = a.length from Nat.add_sub_cancel' hl] at hc
  exact (sparse_scan_cut a h l hl).1.unique hc

/-- sparse `_setLengthInt` refines the deletion part of ArraySetLength (∀ states with `Inv`, ∀ l). -/
theorem sparse_truncate_refines (a : Sparse) (h : a.Inv) (l : Nat) (hl : l ≤ a.length) :
    ((a.setLengthInt_ l).1.abs, (a.setLengthInt_ l).2) = a.abs.truncate l := by
  have h1 := sparse_scan_len a h l hl
  refine Prod.ext ?_ ?_
  · apply SpecArray.ext'
    · funext i
      show (aGet (sTake a.items (a.scan l).len) i).map Elem.abs =
        if i < cutoff a.abs.get l (a.abs.length - l) then a.abs.get i else none
      rw [aGet_sTake _ h.sorted, h1]
      split <;> rfl
    · exact h1
    · rfl
    · rfl
  · show (a.scan l).ok = (cutoff a.abs.get l (a.abs.length - l) == l)
    rw [(sparse_scan_cut a h l hl).2, h1]

theorem sparse_grow_refines (a : Sparse) (h : a.Inv) (l : Nat) (hl : a.length ≤ l) :
    (a.setLengthInt_ l).1.abs = { a.abs with length := l } ∧ (a.setLengthInt_ l).2 = true := by
  rw [sparse_grow_eq a h l hl]
  exact ⟨rfl, rfl⟩

/-- `[[Set]]` of "length" / the setter handed to `defineArrayLength`: sparse storage. -/
theorem sparse_setLength_refines (a : Sparse) (h : a.Inv) (l : Nat) :
    ((a.setLength l).1.abs, (a.setLength l).2) = a.abs.setLength l := by
  unfold Sparse.setLength SpecArray.setLength
  have hW : a.abs.lengthWritable = a.lenW := rfl
  have hL : a.abs.length = a.length := rfl
  rw [hW, hL]
  cases hw : a.lenW
  · rfl
  · simp only [Bool.not_true, Bool.false_eq_true, if_false]
    by_cases hg : l ≥ a.length
    · obtain ⟨g1, g2⟩ := sparse_grow_refines a h l hg
      rw [if_pos hg, g1, g2]
      refine Prod.ext (SpecArray.ext' rfl rfl ?_ rfl) rfl
      exact hw
    · rw [if_neg hg]
      exact sparse_truncate_refines a h l (by omega)

/-- `propValueCount` stays an upper bound, so the fast path `propValueCount == 0` remains sound after
`_setLengthInt`. -/
theorem sparse_setLengthInt_inv (a : Sparse) (h : a.Inv) (l : Nat) : (a.setLengthInt_ l).1.Inv := by
  refine ⟨sorted_sTake _ h.sorted, below_sTake _ _, ?_⟩
  show countPropItems (sTake a.items (a.scan l).len) ≤ (a.scan l).pvc
  unfold Sparse.scan
  split
  · have := sScan_pvc l a.pvc 0 h.sorted (by have := h.pvc; omega)
    omega
  · have := countProp_sTake_le a.items l
    have := h.pvc
    show countPropItems (sTake a.items l) ≤ a.pvc
    omega

/-- the exact statement that `item.idx <= l` for the `<` of array_sparse.go:40 (the defect this check found in sparse
`_setLengthInt`) violates: after a failed shrink the array ends
right after a non-configurable element, which is still there, and nothing below the final length
was removed. -/
theorem setLength_stops_at_nonconfigurable (a : Sparse) (h : a.Inv) (l : Nat) (hl : l ≤ a.length)
    (hfail : (a.setLengthInt_ l).2 = false) :
    let b := (a.setLengthInt_ l).1
    l < b.length ∧
    (∃ e, aGet b.items (b.length - 1) = some e ∧ e.configurable = false) ∧
    (∀ i, i < b.length → aGet b.items i = aGet a.items i) ∧
    (∀ i, b.length ≤ i → aGet b.items i = none) := by
  intro b
  obtain ⟨hc, h2⟩ : CutChar (ncItems a.items) l a.length b.length ∧ (a.setLengthInt_ l).2 = (b.length == l) :=
    sparse_scan_cut a h l hl
  have hbi : b.items = sTake a.items b.length := rfl
  have hne : ¬ b.length = l := fun he => by rw [h2, he, beq_self_eq_true] at hfail; cases hfail
  rcases hc.stop with e | ⟨s1, s2, s3⟩
  · exact absurd e hne
  · refine ⟨s3, ?_, ?_, ?_⟩
    · rw [hbi, aGet_sTake _ h.sorted]
      have : b.length - 1 < b.length := by omega
      simp only [this, if_true]
      simp only [ncItems] at s1
      cases hg : aGet a.items (b.length - 1) with
      | none => simp [hg] at s1
      | some e => exact ⟨e, rfl, by simpa [hg] using s1⟩
    · intro i hi
      rw [hbi, aGet_sTake _ h.sorted]; simp [hi]
    · intro i hi
      rw [hbi, aGet_sTake _ h.sorted]
      have : ¬ i < b.length := by omega
      simp [this]

private theorem dense_scan_eq (a : Dense) (l : Nat) : a.scan l = a.toSparse.scan l := by
  unfold Dense.scan Sparse.scan
  rw [dScan_eq_sScan]
  rfl

private theorem dense_applyScan_commutes (a : Dense) (r : Scan) :
    (a.applyScan r).1.toSparse = (a.toSparse.applyScan r).1 ∧ (a.applyScan r).2 = (a.toSparse.applyScan r).2 := by
  have htake : sTake (enumSome 0 a.values) r.len = enumSome 0 (a.values.take r.len) :=
    sTake_enumSome 0 a.values r.len (Nat.zero_le _)
  unfold Dense.applyScan Sparse.applyScan
  by_cases hle : r.len ≤ a.values.length
  · rw [if_pos hle]
    refine ⟨?_, rfl⟩
    show (⟨enumSome 0 (a.values.take r.len), r.len, r.pvc, a.lenW, a.ext⟩ : Sparse) =
      ⟨sTake (enumSome 0 a.values) r.len, r.len, r.pvc, a.lenW, a.ext⟩
    rw [htake]
  · rw [if_neg hle]
    refine ⟨?_, rfl⟩
    show (⟨enumSome 0 a.values, r.len, r.pvc, a.lenW, a.ext⟩ : Sparse) =
      ⟨sTake (enumSome 0 a.values) r.len, r.len, r.pvc, a.lenW, a.ext⟩
    rw [htake, List.take_of_length_le (by omega)]

/-- Dense truncation is not analysed on its own: it commutes with `toSparse`, result flag included, and the
sparse results carry over. -/
theorem dense_truncate_commutes (a : Dense) (l : Nat) :
    (a.setLengthInt_ l).1.toSparse = (a.toSparse.setLengthInt_ l).1 ∧
    (a.setLengthInt_ l).2 = (a.toSparse.setLengthInt_ l).2 := by
  unfold Dense.setLengthInt_ Sparse.setLengthInt_
  rw [dense_scan_eq]
  exact dense_applyScan_commutes a _

theorem dense_setLength_refines (a : Dense) (h : a.Inv) (l : Nat) :
    ((a.setLength l).1.abs, (a.setLength l).2) = a.abs.setLength l := by
  have hs := sparse_setLength_refines a.toSparse (Dense.toSparse_inv a h) l
  rw [transition_invisible_toSparse] at hs
  rw [← hs]
  obtain ⟨c1, c2⟩ := dense_truncate_commutes a l
  unfold Dense.setLength Sparse.setLength
  have hw : a.toSparse.lenW = a.lenW := rfl
  rw [hw]
  cases hlw : a.lenW
  · simp only [Bool.not_false, if_true]
    rw [transition_invisible_toSparse]
  · simp only [Bool.not_true, Bool.false_eq_true, if_false]
    rw [← c1, ← c2, transition_invisible_toSparse]

theorem dense_setLengthInt_inv (a : Dense) (h : a.Inv) (l : Nat) : (a.setLengthInt_ l).1.Inv := by
  have hsp := sparse_setLengthInt_inv a.toSparse (Dense.toSparse_inv a h) l
  obtain ⟨c1, _⟩ := dense_truncate_commutes a l
  rw [← c1] at hsp
  have hpvc : countProp (a.setLengthInt_ l).1.values ≤ (a.setLengthInt_ l).1.pvc := by
    have := hsp.pvc
    simpa [Dense.toSparse, countProp_enumSome] using this
  unfold Dense.setLengthInt_ at hpvc ⊢
  generalize a.scan l = r at hpvc ⊢
  have hsplit : countSome a.values = countSome (a.values.take r.len) + countSome (a.values.drop r.len) := by
    simp only [countSome]
    rw [← List.countP_append, List.take_append_drop]
  unfold Dense.applyScan at hpvc ⊢
  by_cases hle : r.len ≤ a.values.length
  · rw [if_pos hle] at hpvc ⊢
    refine ⟨?_, ?_, hpvc⟩
    · show (a.values.take r.len).length ≤ r.len
      simp only [List.length_take]; omega
    · show a.objCount - countSome (a.values.drop r.len) = countSome (a.values.take r.len)
      have := h.objCount; omega
  · rw [if_neg hle] at hpvc ⊢
    refine ⟨?_, h.objCount, hpvc⟩
    show a.values.length ≤ r.len
    omega

/-- what `_deleteIdxProp` can do, for either storage (`Inv` is kept as well: `Store.deleteIdx_inv`; it is not part of
the outcome because the dense half holds without `Inv`). -/
inductive DeleteOutcome (s : Store) (idx : Nat) : Store × Bool → Prop
  | absent : s.own idx = none → DeleteOutcome s idx (s, true)
  | fixed (e : Elem) : s.own idx = some e → e.configurable = false → DeleteOutcome s idx (s, false)
  | removed (e : Elem) (t : Store) : s.own idx = some e → e.configurable = true →
      s.Upd idx none s.abs.length t → DeleteOutcome s idx (t, true)

theorem DeleteOutcome.refines {s : Store} {idx : Nat} {r : Store × Bool} (h : DeleteOutcome s idx r) :
    (r.1.abs, r.2) = s.abs.delete idx := by
  unfold SpecArray.delete
  rw [s.abs_get]
  cases h with
  | absent h0 => rw [h0]; rfl
  | fixed e he hc => rw [he]; simp only [Option.map_some, abs_configurable, hc]; rfl
  | removed e t he hc hu => rw [he, hu.abs]; simp only [Option.map_some, abs_configurable, hc, if_true]; rfl

theorem DeleteOutcome.all {P : Elem → Prop} {s : Store} {idx : Nat} {r : Store × Bool} (h : DeleteOutcome s idx r)
    (hs : s.All P) : r.1.All P := by
  cases h with
  | absent => exact hs
  | fixed => exact hs
  | removed e t _ _ hu => exact hu.all hs fun _ h => nomatch h

theorem Dense.deleteIdx_outcome (a : Dense) (idx : Nat) :
    DeleteOutcome (.dense a) idx ((Store.dense a).deleteIdx idx) := by
  show DeleteOutcome _ idx (.dense (a.deleteIdx idx).1, (a.deleteIdx idx).2)
  unfold Dense.deleteIdx
  cases hg : a.slot idx with
  | none => exact .absent hg
  | some e =>
    obtain ⟨hlt, _⟩ := slot_some_lt hg
    have hu : ∀ pv oc, (Store.dense a).Upd idx none a.length
        (.dense { a with pvc := pv, values := a.values.set idx none, objCount := oc }) :=
      fun _ _ => ⟨fun i => slot_set _ _ _ hlt i, rfl, rfl, rfl⟩
    cases e with
    | plain v => exact .removed _ _ hg rfl (hu _ _)
    | prop p =>
      dsimp only
      cases hc : p.configurable
      · exact .fixed _ hg hc
      · exact .removed _ _ hg hc (hu _ _)

theorem Store.deleteIdx_outcome (s : Store) (h : s.Inv) (idx : Nat) : DeleteOutcome s idx (s.deleteIdx idx) := by
  cases s with
  | dense a => exact Dense.deleteIdx_outcome a idx
  | sparse a =>
    show DeleteOutcome _ idx (.sparse (a.deleteIdx idx).1, (a.deleteIdx idx).2)
    unfold Sparse.deleteIdx
    rw [sFind_eq_aGet h.sorted]
    cases hg : aGet a.items idx with
    | none => exact .absent hg
    | some e =>
      have hu : ∀ pv, (Store.sparse a).Upd idx none a.length (.sparse { a with pvc := pv, items := sDel a.items idx }) :=
        fun _ => ⟨aGet_sDel h.sorted (by rw [hg]; rfl), rfl, rfl, rfl⟩
      cases e with
      | plain v => exact .removed _ _ hg rfl (hu _)
      | prop p =>
        dsimp only
        cases hc : p.configurable
        · exact .fixed _ hg hc
        · exact .removed _ _ hg hc (hu _)

theorem sparse_delete_refines (a : Sparse) (h : a.Inv) (idx : Nat) :
    ((a.deleteIdx idx).1.abs, (a.deleteIdx idx).2) = a.abs.delete idx :=
  (Store.deleteIdx_outcome (.sparse a) h idx).refines

theorem sparse_delete_inv (a : Sparse) (h : a.Inv) (idx : Nat) : (a.deleteIdx idx).1.Inv := by
  simp only [Sparse.deleteIdx]
  cases hg : sFind a.items idx with
  | none => exact h
  | some e =>
    have key : ∀ pv, countPropItems (sDel a.items idx) ≤ pv →
        ({ a with pvc := pv, items := sDel a.items idx } : Sparse).Inv :=
      fun pv hpv => ⟨sorted_sDel _ h.sorted, fun p hp => h.below p (mem_sDel hp), hpv⟩
    cases e with
    | plain v => exact key a.pvc (Nat.le_trans (countProp_sDel_le a.items idx) h.pvc)
    | prop p =>
      dsimp only
      split
      · exact h
      · exact key (a.pvc - 1) (by have := countProp_sDel_prop hg; have := h.pvc; omega)

theorem dense_delete_refines (a : Dense) (idx : Nat) :
    ((a.deleteIdx idx).1.abs, (a.deleteIdx idx).2) = a.abs.delete idx :=
  (Dense.deleteIdx_outcome a idx).refines

theorem dense_delete_inv (a : Dense) (h : a.Inv) (idx : Nat) : (a.deleteIdx idx).1.Inv := by
  simp only [Dense.deleteIdx]
  cases hg : a.slot idx with
  | none => exact h
  | some e =>
    obtain ⟨hlt, _⟩ := slot_some_lt hg
    have key : ∀ pv, a.pvc ≤ pv + (if e.isProp then 1 else 0) →
        ({ a with pvc := pv, values := a.values.set idx none, objCount := a.objCount - 1 } : Dense).Inv :=
      fun pv hpv => Dense.set_inv a h idx none _ pv hlt (by simp [hg]) (by rw [hg, isPropSlot_some]; exact hpv)
    cases e with
    | plain v => exact key a.pvc (Nat.le_add_right _ _)
    | prop p =>
      dsimp only
      split
      · exact h
      · exact key (a.pvc - 1) (by simp only [Elem.isProp, if_true]; omega)

theorem Store.deleteIdx_inv (s : Store) (h : s.Inv) (idx : Nat) : (s.deleteIdx idx).1.Inv := by
  cases s with
  | dense a => exact dense_delete_inv a h idx
  | sparse a => exact sparse_delete_inv a h idx

/-- `checkStdArrayObj` (builtin_array.go:1441) and the export fast path (array.go:517) are sound
under `Inv`: the guard implies that every index below `length` holds a plain value — no holes (so
the prototype chain is irrelevant), no accessors, no descriptor-carrying elements. -/
theorem stdGuard_no_holes (a : Dense) (h : a.Inv) (hg : a.stdGuard = true) (i : Nat) (hi : i < a.length) :
    ∃ v, a.slot i = some (.plain v) := by
  simp only [Dense.stdGuard, Bool.and_eq_true, beq_iff_eq] at hg
  obtain ⟨⟨g1, g2⟩, g3⟩ := hg
  have hcnt : countSome a.values = a.values.length := by have := h.objCount; omega
  have hp0 : countProp a.values = 0 := by have := h.pvc; omega
  have hall : ∀ o ∈ a.values, Option.isSome o = true := by
    simpa [countSome] using (List.countP_eq_length (p := Option.isSome) (l := a.values)).mp hcnt
  have hnp : ∀ o ∈ a.values, ¬ isPropSlot o = true := by
    simpa [countProp] using (List.countP_eq_zero (p := isPropSlot) (l := a.values)).mp hp0
  have hlt : i < a.values.length := by omega
  have hm : a.values[i] ∈ a.values := List.getElem_mem hlt
  have h1 := hall _ hm
  have h2 := hnp _ hm
  simp only [Dense.slot, List.getElem?_eq_getElem hlt, Option.join_some]
  cases hv : a.values[i] with
  | none => simp [hv] at h1
  | some e =>
    cases e with
    | plain v => exact ⟨v, rfl⟩
    | prop p => simp [hv, isPropSlot] at h2

/-- the Go-export fast path reads the same value as the generic path under the guard,
whatever the prototype chain holds. -/
theorem export_fast_eq_slow (a : Dense) (h : a.Inv) (hg : a.stdGuard = true) (i : Nat) (hi : i < a.length)
    (proto : Option Val) (gr : VProp → Option Val) :
    fastGet (a.slot i) = genericGet (a.slot i) proto gr := by
  obtain ⟨v, hv⟩ := stdGuard_no_holes a h hg i hi
  rw [hv]; rfl

/-- Representation invariant of a `valueProperty`, the hypothesis of `mechDefine_refines`: established by
`mechDefine` and kept by every array operation. -/
def VProp.WF (p : VProp) : Prop :=
  (p.accessor = true → p.writable = false ∧ p.value = 0) ∧
  (p.accessor = false → p.getter = none ∧ p.setter = none)

def Elem.WF : Elem → Prop
  | .plain _ => True
  | .prop p => p.WF

/-- ToPropertyDescriptor never yields a descriptor with both data and accessor fields. -/
def Desc.Valid (d : Desc) : Prop := ¬ (d.isData = true ∧ d.isAccessor = true)

private theorem VProp.WF.cases {p : VProp} (h : p.WF) :
    (∃ v w e c, p = ⟨v, w, e, c, false, none, none⟩) ∨ (∃ e c g s, p = ⟨0, false, e, c, true, g, s⟩) := by
  obtain ⟨v, w, e, c, a, g, s⟩ := p
  obtain ⟨h1, h2⟩ := h
  cases a
  · obtain ⟨rfl, rfl⟩ := h2 rfl
    exact .inl ⟨v, w, e, c, rfl⟩
  · obtain ⟨rfl, rfl⟩ := h1 rfl
    exact .inr ⟨e, c, g, s, rfl⟩

private theorem Desc.Valid.cases {d : Desc} (h : d.Valid) :
    (∃ e c g s, d = ⟨none, none, e, c, g, s⟩) ∨ (∃ v w e c, d = ⟨v, w, e, c, none, none⟩) := by
  obtain ⟨v, w, e, c, g, s⟩ := d
  cases g <;> cases s
  · exact .inr ⟨v, w, e, c, rfl⟩
  all_goals
    cases v <;> cases w
    · exact .inl ⟨e, c, _, _, rfl⟩
    all_goals exact absurd ⟨rfl, rfl⟩ h

private theorem ite_or_none (p q : Prop) [Decidable p] [Decidable q] (x : Option α) :
    (if p ∨ q then none else x) = if p then none else if q then none else x := by
  by_cases p <;> simp [*]

/- In the two proofs below the case split is: shape of the existing element × kind of descriptor ×
presence of the two fields that `mechApply` matches on; `simp` then computes both sides.  What is left
is object.go:705, where a fully permissive data descriptor stores the bare value instead of a
`valueProperty` with the same abstraction. -/

theorem mechDefine_refines_fresh (d : Desc) (ext : Bool) (hd : d.Valid) :
    (mechDefine none d ext).map Elem.abs = specDefine none d ext := by
  cases ext
  · rfl
  · rcases hd.cases with ⟨e, c, _ | g, _ | s, rfl⟩ | ⟨_ | v, _ | w, e, c, rfl⟩ <;>
      simp [mechDefine, mechApply, specDefine, Elem.abs, flagIs, Desc.isData, Desc.isAccessor]
    by_cases hs : (w = true ∧ e = some true) ∧ c = some true <;> simp [hs]

/-- Refinement and well-formedness in one statement: both need `mechApply` computed, and the case analysis is
made once. -/
private theorem vprop_refines (ex : VProp) (hex : ex.WF) (d : Desc) (hd : d.Valid) (ext : Bool) :
    (if mechReject ex d then none else some (mechApply ex d).abs) =
      specDefine (some (Elem.prop ex).abs) d ext ∧ (mechApply ex d).WF := by
  rcases hex.cases with ⟨pv, bw, be, bc, rfl⟩ | ⟨be, bc, pg, ps, rfl⟩ <;>
    rcases hd.cases with ⟨e, c, _ | g, _ | s, rfl⟩ | ⟨_ | v, _ | w, e, c, rfl⟩ <;>
    simp [mechReject, mechApply, specDefine, Elem.abs, flagIs, Desc.isData, Desc.isAccessor,
      SProp.configurable, SProp.enumerable, ite_or_none, Elem.WF, VProp.WF]
  all_goals
    by_cases hs : (w = true ∧ e = some true) ∧ c = some true <;> simp [hs]

private theorem toVProp_wf {x : Elem} (h : x.WF) : x.toVProp.WF := by
  cases x with
  | plain v => exact ⟨fun h => Bool.noConfusion h, fun _ => ⟨rfl, rfl⟩⟩
  | prop p => exact h

/-- `_defineOwnProperty` (object.go:650, after d72dab1) refines ValidateAndApplyPropertyDescriptor
for every well-formed existing element, every valid descriptor and both extensibility values. -/
theorem mechDefine_refines (e : Option Elem) (d : Desc) (ext : Bool) (hwf : ∀ x, e = some x → x.WF) (hd : d.Valid) :
    (mechDefine e d ext).map Elem.abs = specDefine (e.map Elem.abs) d ext := by
  cases e with
  | none => exact mechDefine_refines_fresh d ext hd
  | some x =>
    have hx : x.abs = (Elem.prop x.toVProp).abs := by cases x <;> rfl
    rw [Option.map_some, hx, ← (vprop_refines _ (toVProp_wf (hwf x rfl)) d hd ext).1]
    simp only [mechDefine]
    split <;> rfl

private theorem mechApply_wf (ex : VProp) (d : Desc) (hex : ex.WF) (hd : d.Valid) : (mechApply ex d).WF :=
  (vprop_refines ex hex d hd true).2

/-- `_defineOwnProperty` keeps elements well-formed (so the hypothesis of `mechDefine_refines`
holds along every history that starts from well-formed elements). -/
theorem mechDefine_wf (e : Option Elem) (d : Desc) (ext : Bool) (hwf : ∀ x, e = some x → x.WF) (hd : d.Valid)
    (y : Elem) (hy : mechDefine e d ext = some y) : y.WF := by
  cases e with
  | none =>
    simp only [mechDefine] at hy
    split at hy
    · cases hy
    · cases hy
      exact mechApply_wf _ d ⟨fun h => Bool.noConfusion h, fun _ => ⟨rfl, rfl⟩⟩ hd
  | some x =>
    simp only [mechDefine] at hy
    split at hy
    · cases hy
    · cases hy
      exact mechApply_wf _ d (toVProp_wf (hwf x rfl)) hd

/-! ## Non-vacuity (tests on literals, not theorems about all states) -/

example : (Store.empty).Inv := ⟨Nat.le_refl _, rfl, Nat.le_refl _⟩

example : (Sparse.mk [(2, .plain 7), (5000, .prop default)] 5001 1 true true).Inv :=
  ⟨⟨Nat.zero_le _, ⟨by decide, trivial⟩⟩, by intro p hp; simp at hp; rcases hp with h | h <;> simp [h], by decide⟩

end GojaModel.C07
