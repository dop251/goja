/-
  Element writes on both storages (growing the length, `expand`, placing a new element, replacing one): `Inv` and
  the effect on the own elements (`Store.Upd`); `_defineIdxProperty` written with `place`; the outcomes of the
  spec's `[[DefineOwnProperty]]` and OrdinarySet on an index, and ArraySetLength, in the terms the mechanism computes with.
-/
import GojaModel.C07.Own

namespace GojaModel.C07

def SpecArray.put (a : SpecArray) (idx : Nat) (p : SProp) : SpecArray :=
  { a with get := fun i => if i = idx then some p else a.get i }

theorem slot_set (vs : List (Option Elem)) (idx : Nat) (x : Option Elem) (hlt : idx < vs.length) (i : Nat) :
    ((vs.set idx x)[i]?).join = if i = idx then x else (vs[i]?).join := by
  rw [List.getElem?_set]
  by_cases h : idx = i
  · subst h; simp [hlt]
  · have : ¬ i = idx := fun e => h e.symm
    simp [h, this]

theorem slot_append_none (vs : List (Option Elem)) (n i : Nat) :
    (((vs ++ List.replicate n none)[i]?).join : Option Elem) = (vs[i]?).join := by
  by_cases h : i < vs.length
  · rw [List.getElem?_append_left h]
  · rw [List.getElem?_append_right (by omega), List.getElem?_eq_none (l := vs) (by omega)]
    by_cases h2 : i - vs.length < n
    · simp [h2]
    · simp [h2]

theorem slot_none_of_ge {vs : List (Option Elem)} {i : Nat} (h : vs.length ≤ i) : ((vs[i]?).join : Option Elem) = none := by
  rw [List.getElem?_eq_none h]; rfl

theorem slot_some_lt {vs : List (Option Elem)} {idx : Nat} {e : Elem} (h : (vs[idx]?).join = some e) :
    idx < vs.length ∧ vs[idx]? = some (some e) := by
  cases hv : vs[idx]? with
  | none => simp [hv] at h
  | some o =>
    have hlt : idx < vs.length := by
      by_cases hl : idx < vs.length
      · exact hl
      · rw [List.getElem?_eq_none (by omega)] at hv; cases hv
    simp [hv] at h
    exact ⟨hlt, by rw [h]⟩

theorem slot_none_cases {vs : List (Option Elem)} {idx : Nat} (h : (vs[idx]?).join = none) (hlt : idx < vs.length) :
    vs[idx]? = some none := by
  cases hv : vs[idx]? with
  | none => rw [List.getElem?_eq_none_iff] at hv; omega
  | some o =>
    cases o with
    | none => rfl
    | some e => simp [hv] at h

theorem isPropSlot_some (e : Elem) : isPropSlot (some e) = e.isProp := by cases e <;> rfl

theorem Dense.setLengthInt_grow (a : Dense) (h : a.Inv) (idx : Nat) (hge : a.length ≤ idx) (hw : a.lenW = true) :
    a.setLengthInt (idx + 1) = ({ a with length := idx + 1 }, true) := by
  have h1 : ¬ idx + 1 = a.length := by omega
  have h2 : ¬ (idx + 1 ≤ a.length ∧ a.pvc > 0) := by omega
  have h3 : ¬ idx + 1 ≤ a.values.length := by have := h.lenValues; omega
  simp only [Dense.setLengthInt, h1, if_false, hw, Bool.not_true, Bool.false_eq_true, Dense.setLengthInt_,
    Dense.scan, h2, Dense.applyScan, h3]

theorem Dense.setLengthInt_ro (a : Dense) (idx : Nat) (hge : a.length ≤ idx) (hw : a.lenW = false) :
    a.setLengthInt (idx + 1) = (a, false) := by
  have h1 : ¬ idx + 1 = a.length := by omega
  simp [Dense.setLengthInt, h1, hw]

theorem Dense.expand_of_lt (a : Dense) (idx : Nat) (h : idx < a.values.length) : a.expand idx = some a := by
  have : ¬ idx + 1 > a.values.length := by omega
  simp [Dense.expand, this]

theorem Dense.expand_some_eq {a a2 : Dense} {idx : Nat} (h : a.expand idx = some a2) :
    a2 = { a with values := a.values ++ List.replicate (idx + 1 - a.values.length) none, cap := a2.cap } := by
  simp only [Dense.expand] at h
  split at h
  · split at h
    · cases h; rfl
    · split at h
      · cases h
      · cases h; rfl
  · next hle =>
    cases h
    rw [Nat.sub_eq_zero_of_le (Nat.le_of_not_lt hle), List.replicate_zero, List.append_nil]

theorem Dense.expand_some {a a2 : Dense} {idx : Nat} (h : a.expand idx = some a2) :
    a2.values = a.values ++ List.replicate (idx + 1 - a.values.length) none ∧ a2.length = a.length ∧
    a2.objCount = a.objCount ∧ a2.pvc = a.pvc ∧ a2.lenW = a.lenW ∧ a2.ext = a.ext := by
  rw [Dense.expand_some_eq h]; exact ⟨rfl, rfl, rfl, rfl, rfl, rfl⟩

theorem Dense.expand_none {a : Dense} {idx : Nat} (h : a.expand idx = none) : a.values.length ≤ idx := by
  simp only [Dense.expand] at h
  split at h
  · omega
  · cases h

def Dense.write (a : Dense) (idx : Nat) (e : Elem) (oc pv : Nat) : Dense :=
  { a with values := a.values.set idx (some e), objCount := oc, pvc := pv }

theorem Dense.write_upd (a : Dense) (idx : Nat) (e : Elem) (oc pv : Nat) (hlt : idx < a.values.length) :
    (Store.dense a).Upd idx (some e) a.length (.dense (a.write idx e oc pv)) :=
  ⟨fun i => slot_set _ _ _ hlt i, rfl, rfl, rfl⟩

theorem Dense.write_abs (a : Dense) (idx : Nat) (e : Elem) (oc pv : Nat) (hlt : idx < a.values.length) :
    (a.write idx e oc pv).abs = a.abs.put idx e.abs :=
  (Dense.write_upd a idx e oc pv hlt).abs

theorem Dense.set_inv (a : Dense) (h : a.Inv) (idx : Nat) (x : Option Elem) (oc pv : Nat) (hlt : idx < a.values.length)
    (hoc : oc = a.objCount + (if x.isSome then 1 else 0) - (if (a.slot idx).isSome then 1 else 0))
    (hpv : a.pvc + (if isPropSlot x then 1 else 0) ≤ pv + (if isPropSlot (a.slot idx) then 1 else 0)) :
    ({ a with values := a.values.set idx x, objCount := oc, pvc := pv } : Dense).Inv := by
  have hv : a.values[idx]? = some (a.slot idx) := by
    simp only [Dense.slot]
    rw [List.getElem?_eq_getElem hlt]; rfl
  have hs := countP_set' Option.isSome a.values idx (a.slot idx) x hv
  have hp := countP_set' isPropSlot a.values idx (a.slot idx) x hv
  have ho := h.objCount
  have hq := h.pvc
  simp only [countSome, countProp] at ho hq
  refine ⟨?_, ?_, ?_⟩
  · show (a.values.set idx x).length ≤ a.length
    simpa using h.lenValues
  · show oc = List.countP Option.isSome (a.values.set idx x)
    omega
  · show List.countP isPropSlot (a.values.set idx x) ≤ pv
    omega

theorem Dense.write_inv (a : Dense) (h : a.Inv) (idx : Nat) (e : Elem) (oc pv : Nat) (hlt : idx < a.values.length)
    (hoc : oc = a.objCount + (if (a.slot idx).isNone then 1 else 0))
    (hpv : a.pvc + (if e.isProp then 1 else 0) ≤ pv + (if isPropSlot (a.slot idx) then 1 else 0)) :
    (a.write idx e oc pv).Inv :=
  Dense.set_inv a h idx (some e) oc pv hlt (by cases hs : a.slot idx <;> simp [hs] at hoc ⊢ <;> exact hoc)
    (by rw [isPropSlot_some]; exact hpv)

theorem Dense.extend_inv (a : Dense) (h : a.Inv) (n : Nat) (c : Nat) (hn : a.values.length + n ≤ a.length) :
    ({ a with values := a.values ++ List.replicate n none, cap := c } : Dense).Inv := by
  refine ⟨?_, ?_, ?_⟩
  · show (a.values ++ List.replicate n none).length ≤ a.length
    simp; omega
  · show a.objCount = countSome (a.values ++ List.replicate n none)
    simp only [countSome]
    rw [countP_append_replicate_none _ rfl]; exact h.objCount
  · show countProp (a.values ++ List.replicate n none) ≤ a.pvc
    simp only [countProp]
    rw [countP_append_replicate_none _ rfl]; exact h.pvc

theorem Dense.expand_some_len {a a2 : Dense} {idx : Nat} (h : a.expand idx = some a2) : idx < a2.values.length := by
  obtain ⟨h1, _⟩ := Dense.expand_some h
  rw [h1]; simp; omega

theorem sparse_grow_eq (a : Sparse) (h : a.Inv) (l : Nat) (hl : a.length ≤ l) :
    a.setLengthInt_ l = ({ a with length := l }, true) := by
  have hb : AllBelow l a.items := fun p hp => Nat.lt_of_lt_of_le (h.below p hp) hl
  have hs : a.scan l = ⟨l, true, a.pvc⟩ := by
    unfold Sparse.scan
    split
    · exact sScan_of_below a.pvc hb
    · rfl
  unfold Sparse.setLengthInt_ Sparse.applyScan
  rw [hs]
  simp only [sTake_all hb]

theorem Sparse.setLengthInt_grow (a : Sparse) (h : a.Inv) (idx : Nat) (hge : a.length ≤ idx) (hw : a.lenW = true) :
    a.setLengthInt (idx + 1) = ({ a with length := idx + 1 }, true) := by
  rw [Sparse.setLengthInt, if_neg (by omega), if_neg (by simp [hw])]
  exact sparse_grow_eq a h (idx + 1) (Nat.le_succ_of_le hge)

theorem Sparse.setLengthInt_ro (a : Sparse) (idx : Nat) (hge : a.length ≤ idx) (hw : a.lenW = false) :
    a.setLengthInt (idx + 1) = (a, false) := by
  have h1 : ¬ idx + 1 = a.length := by omega
  simp [Sparse.setLengthInt, h1, hw]

theorem Sparse.insert_inv (a : Sparse) (h : a.Inv) (idx : Nat) (e : Elem) (l pv : Nat)
    (habs : aGet a.items idx = none) (hl : a.length ≤ l) (hidx : idx < l)
    (hpv : a.pvc + (if e.isProp then 1 else 0) ≤ pv) :
    ({ a with items := sIns a.items idx e, length := l, pvc := pv } : Sparse).Inv := by
  refine ⟨sorted_sIns e h.sorted (Nat.zero_le _) habs, ?_, ?_⟩
  · intro p hp
    rcases mem_sIns hp with rfl | hp
    · exact hidx
    · have := h.below p hp
      show p.1 < l
      omega
  · show countPropItems (sIns a.items idx e) ≤ pv
    rw [countProp_sIns]
    have := h.pvc
    omega

theorem Sparse.replace_upd (a : Sparse) (h : a.Inv) (idx : Nat) (e : Elem) (pv : Nat)
    (hp : (aGet a.items idx).isSome) :
    (Store.sparse a).Upd idx (some e) a.length (.sparse { a with items := sSetAt a.items idx e, pvc := pv }) :=
  ⟨aGet_sSetAt e h.sorted hp, rfl, rfl, rfl⟩

theorem Sparse.replace_abs (a : Sparse) (h : a.Inv) (idx : Nat) (e : Elem) (pv : Nat)
    (hp : (aGet a.items idx).isSome) :
    ({ a with items := sSetAt a.items idx e, pvc := pv } : Sparse).abs = a.abs.put idx e.abs :=
  (Sparse.replace_upd a h idx e pv hp).abs

theorem Sparse.replace_inv (a : Sparse) (h : a.Inv) (idx : Nat) (e : Elem) (pv : Nat)
    (hpv : countPropItems (sSetAt a.items idx e) ≤ pv) :
    ({ a with items := sSetAt a.items idx e, pvc := pv } : Sparse).Inv := by
  refine ⟨sorted_sSetAt idx e h.sorted, ?_, hpv⟩
  intro p hp
  obtain ⟨q, hq, hk⟩ := mem_sSetAt_key hp
  have := h.below q hq
  show p.1 < a.length
  omega

theorem le_lastIdx {lo : Nat} {l : Items} (hs : SortedFrom lo l) (p : Nat × Elem) (hp : p ∈ l) :
    p.1 ≤ (match l.getLast? with | some q => q.1 | none => 0) := by
  induction l generalizing lo p with
  | nil => cases hp
  | cons q t ih =>
    obtain ⟨k, x⟩ := q
    cases t with
    | nil =>
      simp at hp; subst hp; simp
    | cons r t' =>
      have hrec := ih hs.2
      rw [List.getLast?_cons_cons]
      rcases List.mem_cons.mp hp with rfl | hp'
      · have h1 := hrec r (by simp)
        obtain ⟨k', x'⟩ := r
        have : k + 1 ≤ k' := hs.2.1
        simp only at h1 ⊢
        omega
      · exact hrec p hp'

theorem Sparse.expand_some {a : Sparse} {idx : Nat} {ar : Dense} (h : a.expand idx = some ar) :
    ∃ m, ar = a.toDense m ∧ idx ≤ m ∧ a.lastIdx ≤ m ∧ (m = idx ∨ m = a.lastIdx) := by
  unfold Sparse.expand at h
  by_cases hl : a.items.length ≥ thr.sparseMinItems
  · simp only [hl, if_true] at h
    by_cases hi : a.lastIdx > idx
    · simp only [hi, if_true] at h
      split at h
      · cases h; exact ⟨_, rfl, by omega, by omega, Or.inr rfl⟩
      · cases h
    · simp only [hi, if_false] at h
      split at h
      · cases h; exact ⟨_, rfl, by omega, by omega, Or.inl rfl⟩
      · cases h
  · simp only [hl, if_false] at h
    cases h

theorem Dense.toSparse_abs (a : Dense) : a.toSparse.abs = a.abs :=
  Store.abs_of_own (t := .sparse a.toSparse) (fun i => by
    show (aGet (enumSome 0 a.values) i).map Elem.abs = _
    rw [aGet_enumSome, if_neg (Nat.not_lt_zero i), Nat.sub_zero]; rfl) rfl rfl rfl

theorem Dense.toSparse_inv (a : Dense) (h : a.Inv) : a.toSparse.Inv := by
  refine ⟨sorted_enumSome 0 a.values, ?_, ?_⟩
  · intro p hp
    have := below_enumSome 0 a.values p hp
    have := h.lenValues
    simp only [Dense.toSparse]; omega
  · simp only [Dense.toSparse, countProp_enumSome]; exact h.pvc

theorem Sparse.toDense_slot (a : Sparse) (m : Nat) (hs : SortedFrom 0 a.items) (hb : AllBelow (m + 1) a.items) (i : Nat) :
    (a.toDense m).slot i = aGet a.items i := by
  simp only [Sparse.toDense, Dense.slot, fromItems]
  by_cases hi : i < m + 1
  · simp [hi, sFind_eq_aGet hs]
  · have h1 : ((List.range (m + 1)).map (fun i => sFind a.items i))[i]? = none := by
      apply List.getElem?_eq_none; simp; omega
    rw [h1, aGet_none_of_below hb (by omega)]; rfl

theorem Sparse.toDense_inv (a : Sparse) (h : a.Inv) (m : Nat) (hm : m < a.length) (hb : AllBelow (m + 1) a.items) :
    (a.toDense m).Inv := by
  have key : enumSome 0 (a.toDense m).values = a.items :=
    sorted_ext (sorted_enumSome 0 _) h.sorted fun i => by
      rw [aGet_enumSome, if_neg (Nat.not_lt_zero i)]; exact Sparse.toDense_slot a m h.sorted hb i
  refine ⟨?_, ?_, ?_⟩
  · show ((List.range (m + 1)).map (fun j => sFind a.items j)).length ≤ a.length
    simp; omega
  · show a.items.length = countSome (a.toDense m).values
    rw [← length_enumSome 0, key]
  · show countProp (a.toDense m).values ≤ a.pvc
    rw [← countProp_enumSome 0, key]; exact h.pvc

theorem Sparse.toDense_abs (a : Sparse) (m : Nat) (hs : SortedFrom 0 a.items)
    (hb : AllBelow (m + 1) a.items) : (a.toDense m).abs = a.abs :=
  Store.abs_of_own (t := .dense (a.toDense m)) (fun i => congrArg _ (Sparse.toDense_slot a m hs hb i)) rfl rfl rfl

theorem Sparse.expand_own (a : Sparse) (h : a.Inv) (idx : Nat) (hlt : idx < a.length) (ar : Dense)
    (hex : a.expand idx = some ar) :
    (∀ i, ar.slot i = aGet a.items i) ∧ ar.length = a.length ∧ ar.lenW = a.lenW ∧ ar.ext = a.ext ∧ ar.Inv ∧
      idx < ar.values.length := by
  obtain ⟨m, rfl, hm1, hm2, hm3⟩ := Sparse.expand_some hex
  have hb : AllBelow (m + 1) a.items := fun p hp =>
    Nat.lt_succ_of_le (Nat.le_trans (le_lastIdx h.sorted p hp) hm2)
  have hmlt : m < a.length := by
    rcases hm3 with rfl | rfl
    · exact hlt
    · simp only [Sparse.lastIdx]
      cases hgl : a.items.getLast? with
      | none => simp; omega
      | some q =>
        have := h.below q (List.mem_of_getLast? hgl)
        simpa using this
  refine ⟨Sparse.toDense_slot a m h.sorted hb, rfl, rfl, rfl, Sparse.toDense_inv a h m hmlt hb, ?_⟩
  show idx < ((List.range (m + 1)).map (fun j => sFind a.items j)).length
  simp; omega

theorem Sparse.expand_transition (a : Sparse) (h : a.Inv) (idx : Nat) (hlt : idx < a.length) (ar : Dense)
    (hex : a.expand idx = some ar) : ar.abs = a.abs ∧ ar.Inv ∧ idx < ar.values.length := by
  obtain ⟨hown, hl, hw, hx, hinv, hlen⟩ := Sparse.expand_own a h idx hlt ar hex
  exact ⟨Store.abs_of_own (t := .dense ar) (fun i => congrArg _ (hown i)) hl hw hx, hinv, hlen⟩

/-- The common tail of `_setOwnIdx` (new element) and `_defineIdxProperty`, array.go:439–453 (and :242–248,
:260): `expand`, then store into `values` or hand over to the sparse object. `newSlot` says whether the slot
was empty (`objCount++`). -/
def Dense.place (a1 : Dense) (idx : Nat) (e : Elem) (newSlot : Bool) : Store :=
  match a1.expand idx with
  | some a2 =>
    .dense { a2 with values := a2.values.set idx (some e),
                     objCount := if newSlot then a2.objCount + 1 else a2.objCount,
                     pvc := if e.isProp then a2.pvc + 1 else a2.pvc }
  | none =>
    let sa := a1.toSparse.add idx e
    .sparse { sa with pvc := if e.isProp then sa.pvc + 1 else sa.pvc }

theorem Dense.place_upd (a1 : Dense) (h1 : a1.Inv) (idx : Nat) (hlt : idx < a1.length) (e : Elem) (newSlot : Bool)
    (hns : newSlot = (a1.slot idx).isNone) :
    (Store.dense a1).Upd idx (some e) a1.length (a1.place idx e newSlot) ∧ (a1.place idx e newSlot).Inv := by
  unfold Dense.place
  cases hex : a1.expand idx with
  | some a2 =>
    have hlen := Dense.expand_some_len hex
    obtain ⟨hv, hl, hoc, hpv, hw, hx⟩ := Dense.expand_some hex
    have hinv : a2.Inv := by
      rw [Dense.expand_some_eq hex]; exact Dense.extend_inv a1 h1 _ _ (by have := h1.lenValues; omega)
    have hslot : ∀ i, a2.slot i = a1.slot i := fun i => by simp only [Dense.slot, hv, slot_append_none]
    refine ⟨?_, ?_⟩
    · rw [← hl]
      exact (Dense.write_upd a2 idx e _ _ hlen).of_source (s := .dense a1) hslot hw hx
    · show (a2.write idx e _ _).Inv
      apply Dense.write_inv a2 hinv idx e _ _ hlen
      · rw [hslot, hns]; split <;> rfl
      · split <;> omega
  | none =>
    have hge := Dense.expand_none hex
    refine ⟨⟨fun i => ?_, rfl, rfl, rfl⟩, ?_⟩
    · show aGet (sIns (enumSome 0 a1.values) idx e) i = _
      rw [aGet_sIns, aGet_enumSome, if_neg (Nat.not_lt_zero i), Nat.sub_zero]; rfl
    · show ({ a1.toSparse with items := sIns a1.toSparse.items idx e, length := a1.toSparse.length, pvc := _ } : Sparse).Inv
      apply Sparse.insert_inv a1.toSparse (Dense.toSparse_inv a1 h1) idx e _ _
        (aGet_none_of_below (below_enumSome 0 a1.values) (by simpa using hge)) (Nat.le_refl _) hlt
      show a1.pvc + _ ≤ _
      simp only [Sparse.add]
      split <;> simp [Dense.toSparse]

theorem Dense.place_spec (a1 : Dense) (h1 : a1.Inv) (idx : Nat) (hlt : idx < a1.length) (e : Elem) (newSlot : Bool)
    (hns : newSlot = (a1.slot idx).isNone) :
    (a1.place idx e newSlot).abs = a1.abs.put idx e.abs ∧ (a1.place idx e newSlot).Inv :=
  have h := Dense.place_upd a1 h1 idx hlt e newSlot hns
  ⟨h.1.abs, h.2⟩

/-- array_sparse.go:179–191 / :352–371: a new item: `expand`, then insert into `items` or store into
the new dense object. -/
def Sparse.place (a1 : Sparse) (idx : Nat) (e : Elem) : Store :=
  match a1.expand idx with
  | none =>
    .sparse { a1 with items := sIns a1.items idx e,
                      length := if idx ≥ a1.length then idx + 1 else a1.length,
                      pvc := if e.isProp then a1.pvc + 1 else a1.pvc }
  | some ar =>
    .dense { ar with values := ar.values.set idx (some e), objCount := ar.objCount + 1,
                     pvc := if e.isProp then ar.pvc + 1 else ar.pvc }

theorem Sparse.place_upd (a1 : Sparse) (h1 : a1.Inv) (idx : Nat) (hlt : idx < a1.length) (e : Elem)
    (habsent : aGet a1.items idx = none) :
    (Store.sparse a1).Upd idx (some e) a1.length (a1.place idx e) ∧ (a1.place idx e).Inv := by
  unfold Sparse.place
  have hnl : ¬ idx ≥ a1.length := by omega
  cases hex : a1.expand idx with
  | none =>
    simp only [hnl, if_false]
    refine ⟨⟨fun i => aGet_sIns .., rfl, rfl, rfl⟩, ?_⟩
    apply Sparse.insert_inv a1 h1 idx e _ _ habsent (Nat.le_refl _) hlt
    split <;> omega
  | some ar =>
    obtain ⟨hown, hl, hw, hx, hinv, hlen⟩ := Sparse.expand_own a1 h1 idx hlt ar hex
    refine ⟨?_, ?_⟩
    · rw [← hl]
      exact (Dense.write_upd ar idx e _ _ hlen).of_source (s := .sparse a1) hown hw hx
    · show (ar.write idx e _ _).Inv
      apply Dense.write_inv _ hinv idx e _ _ hlen
      · rw [(hown idx).trans habsent]; rfl
      · split <;> omega

theorem Sparse.place_spec (a1 : Sparse) (h1 : a1.Inv) (idx : Nat) (hlt : idx < a1.length) (e : Elem)
    (habsent : aGet a1.items idx = none) :
    (a1.place idx e).abs = a1.abs.put idx e.abs ∧ (a1.place idx e).Inv :=
  have h := Sparse.place_upd a1 h1 idx hlt e habsent
  ⟨h.1.abs, h.2⟩

theorem Sparse.lt_length_of_present (a : Sparse) (h : a.Inv) {idx : Nat} {e : Elem} (hp : aGet a.items idx = some e) :
    idx < a.length := h.below _ (aGet_some_mem hp)

theorem dense_define_eq (md : MechDefine) (a : Dense) (idx : Nat) (d : Desc) :
    a.defineIdx md idx d =
      match md (a.slot idx) d a.ext with
      | none => (.dense a, false)
      | some prop =>
        if idx ≥ a.length then
          if !(a.setLengthInt (idx + 1)).2 then (.dense (a.setLengthInt (idx + 1)).1, false)
          else ((a.setLengthInt (idx + 1)).1.place idx prop (a.slot idx).isNone, true)
        else (a.place idx prop (a.slot idx).isNone, true) := by
  unfold Dense.defineIdx Dense.place
  dsimp only
  cases md (a.slot idx) d a.ext with
  | none => rfl
  | some prop =>
    dsimp only
    by_cases hge : idx ≥ a.length
    · simp only [hge, if_true]
      cases (a.setLengthInt (idx + 1)).2
      · rfl
      · simp only [Bool.not_true, Bool.false_eq_true, if_false]
        cases (a.setLengthInt (idx + 1)).1.expand idx <;> rfl
    · simp only [hge, if_false, Bool.not_true, Bool.false_eq_true]
      cases a.expand idx <;> rfl

theorem sparse_define_eq (md : MechDefine) (a : Sparse) (idx : Nat) (d : Desc) :
    a.defineIdx md idx d =
      match md (sFind a.items idx) d a.ext with
      | none => (.sparse a, false)
      | some prop =>
        let r := if idx ≥ a.length then a.setLengthInt (idx + 1) else (a, true)
        if !r.2 then (.sparse r.1, false)
        else if (sFind a.items idx).isNone then (r.1.place idx prop, true)
        else (.sparse { r.1 with items := sSetAt r.1.items idx prop,
                                 pvc := if prop.isProp then r.1.pvc + 1 else r.1.pvc }, true) := by
  unfold Sparse.defineIdx Sparse.place
  dsimp only
  cases md (sFind a.items idx) d a.ext with
  | none => rfl
  | some prop =>
    dsimp only
    generalize (if idx ≥ a.length then a.setLengthInt (idx + 1) else (a, true)) = r
    obtain ⟨r1, b⟩ := r
    cases b
    · rfl
    · dsimp only
      cases (sFind a.items idx).isNone
      · rfl
      · simp only [Bool.not_true, Bool.false_eq_true, if_false, if_true]
        cases r1.expand idx <;> rfl

theorem SpecArray.put_same (A : SpecArray) (idx : Nat) (p : SProp) (h : A.get idx = some p) : A.put idx p = A := by
  refine SpecArray.ext' (funext fun i => ?_) rfl rfl rfl
  simp only [SpecArray.put]
  split
  · next hi => rw [hi, h]
  · rfl

/-- what `_setOwnIdx` leaves in a slot that holds `e`: a plain value is overwritten, a `*valueProperty` goes through
`isWritable` / `valueProperty.set`; `none` = not writable. -/
def Elem.assign (v : Val) : Elem → Option Elem
  | .plain _ => some (.plain v)
  | .prop p => if p.isWritable then some (.prop (p.setValue v)) else none

theorem SpecArray.set_elem (sd : SpecDefine) (A : SpecArray) (idx : Nat) (v : Val) (pa : Option Bool) (e : Elem)
    (hget : A.get idx = some e.abs)
    (hwf : ∀ p, e = .prop p → (p.accessor = true → p.writable = false) ∧ (p.accessor = false → p.setter = none)) :
    A.set sd idx v pa = match e.assign v with
      | none => (A, false)
      | some e' => (A.put idx e'.abs, true) := by
  unfold SpecArray.set
  rw [hget]
  cases e with
  | plain v0 => rfl
  | prop p =>
    obtain ⟨hwf, hwf2⟩ := hwf p rfl
    cases hacc : p.accessor
    · have hset := hwf2 hacc
      cases hwr : p.writable <;>
        simp [Elem.abs, Elem.assign, hacc, VProp.isWritable, VProp.setValue, hset, hwr, SpecArray.put]
    · have hwr := hwf hacc
      cases hse : p.setter with
      | none => simp [Elem.abs, Elem.assign, hacc, VProp.isWritable, hwr, hse]
      | some f =>
        have : A.put idx (.acc p.getter (some f) p.enumerable p.configurable) = A :=
          SpecArray.put_same A idx _ (by rw [hget]; simp [Elem.abs, hacc, hse])
        simp [Elem.abs, Elem.assign, hacc, VProp.isWritable, VProp.setValue, hwr, hse, this]

theorem SpecArray.defineIdx_none (sd : SpecDefine) (A : SpecArray) (idx : Nat) (d : Desc)
    (h : sd (A.get idx) d A.extensible = none) : A.defineIdx sd idx d = (A, false) := by
  unfold SpecArray.defineIdx; rw [h]; split <;> rfl

theorem SpecArray.defineIdx_ro (sd : SpecDefine) (A : SpecArray) (idx : Nat) (d : Desc)
    (hge : A.length ≤ idx) (hw : A.lengthWritable = false) : A.defineIdx sd idx d = (A, false) := by
  unfold SpecArray.defineIdx
  rw [if_pos (by simp [hge, hw])]

theorem SpecArray.defineIdx_put (sd : SpecDefine) (A : SpecArray) (idx : Nat) (d : Desc) (p : SProp)
    (h : sd (A.get idx) d A.extensible = some p) (hok : idx < A.length ∨ A.lengthWritable = true) :
    A.defineIdx sd idx d =
      ({ A.put idx p with length := if idx < A.length then A.length else idx + 1 }, true) := by
  unfold SpecArray.defineIdx
  rw [if_neg (by rcases hok with h | h <;> simp [h, Nat.not_le_of_lt]), h]
  by_cases hlt : idx < A.length
  · simp [hlt, Nat.not_le_of_lt hlt, SpecArray.put]
  · simp [hlt, Nat.le_of_not_lt hlt, SpecArray.put]

/-- The last step of `defineArrayLength` (array.go:412–422) on a spec array: the `writable` field of the descriptor is
applied to what the setter left. -/
def SpecArray.applyLenW (r : SpecArray × Bool) : Option Bool → SpecArray × Bool
  | none => r
  | some w =>
    if r.1.lengthWritable then ({ r.1 with lengthWritable := w }, r.2)
    else if w then (r.1, false) else r

theorem SpecArray.applyLenW_length (r : SpecArray × Bool) (w : Option Bool) :
    (SpecArray.applyLenW r w).1.length = r.1.length := by
  unfold SpecArray.applyLenW
  split
  · rfl
  · split
    · rfl
    · split <;> rfl

/-- ArraySetLength in goja's order of work: validate, `[[Set]]` the length unless it is unchanged, then apply
`writable`. -/
theorem SpecArray.defineLength_eq (a : SpecArray) (d : LenDesc) :
    a.defineLength d =
      if d.configurable == some true || d.enumerable == some true || d.hasAccessor then (a, false)
      else SpecArray.applyLenW
        (match d.value with
          | some newLen => if a.length != newLen then a.setLength newLen else (a, true)
          | none => (a, true)) d.writable := by
  obtain ⟨g, len, lw, ex⟩ := a
  unfold SpecArray.defineLength
  split
  · rfl
  · cases d.value with
    | none => rcases d.writable with _ | _ | _ <;> cases lw <;> simp [SpecArray.applyLenW]
    | some n =>
      dsimp only
      rcases Nat.lt_trichotomy n len with hlt | rfl | hgt
      · -- shrinking: the setter is `truncate` (steps 12–18), and it keeps the length writable
        have h1 : ¬ n ≥ len := by omega
        have h2 : (len != n) = true := by simp; omega
        cases lw <;> cases d.writable <;>
          simp [SpecArray.applyLenW, SpecArray.setLength, SpecArray.truncate, h1, h2]
      · -- unchanged: no setter call; step 11 stores the length that is there
        cases lw <;> rcases d.writable with _ | _ | _ <;> simp [SpecArray.applyLenW]
      · -- growing: the setter stores `n`, or fails on a read-only length as step 11 does
        have h1 : n ≥ len := by omega
        have h2 : (len != n) = true := by simp; omega
        have h3 : (n == len) = false := by simp; omega
        cases lw <;> rcases d.writable with _ | _ | _ <;>
          simp [SpecArray.applyLenW, SpecArray.setLength, h1, h2, h3]

end GojaModel.C07
