/-
  The merge phase of `sort.Stable`.  For every consistent comparator
  the stable merge of two sorted runs is sorted and keeps every equivalence class in order; hence the
  whole block algorithm (insertion-sorted blocks of any size + merge passes) is a sorted, stable
  permutation of its input.
-/
import GojaModel.C07.PropsElem

namespace GojaModel.C07

/-- the merge phase loses and duplicates nothing, for any `less`. -/
theorem merge_perm (less : α → α → Bool) (l r : List α) : (merge less l r).Perm (l ++ r) := by
  fun_induction merge less l r with
  | case1 r => exact List.Perm.refl _
  | case2 l hl => simp
  | case3 x l y r hlt ih =>
    refine (List.Perm.cons y ih).trans ?_
    exact (List.perm_middle (a := y) (l₁ := x :: l) (l₂ := r)).symm
  | case4 x l y r hlt ih => exact List.Perm.cons x ih

section MergeSec
variable {α : Type}

def SortedBy (less : α → α → Bool) (l : List α) : Prop := l.Pairwise (fun earlier later => less later earlier = false)

private theorem merge_mem (less : α → α → Bool) (l r : List α) (z : α) (h : z ∈ merge less l r) : z ∈ l ∨ z ∈ r := by
  have := (merge_perm less l r).mem_iff (a := z)
  rw [this] at h
  exact List.mem_append.mp h

theorem merge_sorted (less : α → α → Bool) (hc : Consistent less) (l r : List α)
    (hl : SortedBy less l) (hr : SortedBy less r) : SortedBy less (merge less l r) := by
  fun_induction merge less l r with
  | case1 r => exact hr
  | case2 l hne => exact hl
  | case3 x l y r hlt ih =>
    -- y goes first: it loses against nothing that follows
    have hl' := List.pairwise_cons.mp hl
    have hr' := List.pairwise_cons.mp hr
    refine List.Pairwise.cons ?_ (ih hl hr'.2)
    intro z hz
    rcases merge_mem less (x :: l) r z hz with hz | hz
    · rcases List.mem_cons.mp hz with rfl | hz
      · exact hc.asymm _ _ hlt
      · exact hc.negTrans z x y (hl'.1 z hz) (hc.asymm _ _ hlt)
    · exact hr'.1 z hz
  | case4 x l y r hlt ih =>
    have hl' := List.pairwise_cons.mp hl
    have hr' := List.pairwise_cons.mp hr
    have hyx : less y x = false := by simpa using hlt
    refine List.Pairwise.cons ?_ (ih hl'.2 hr)
    intro z hz
    rcases merge_mem less l (y :: r) z hz with hz | hz
    · exact hl'.1 z hz
    · rcases List.mem_cons.mp hz with rfl | hz
      · exact hyx
      · exact hc.negTrans z y x (hr'.1 z hz) hyx

theorem merge_stable (less : α → α → Bool) (hc : Consistent less) (p : α → Bool)
    (hp : ∀ a b, p a = true → p b = true → less a b = false) (l r : List α) (hl : SortedBy less l) :
    (merge less l r).filter p = l.filter p ++ r.filter p := by
  fun_induction merge less l r with
  | case1 r => simp
  | case2 l hne => simp
  | case3 x l y r hlt ih =>
    have hl' := List.pairwise_cons.mp hl
    rw [List.filter_cons, ih hl]
    cases hpy : p y
    · simp [List.filter_cons, hpy]
    · -- nothing of the left run is in y's class: y is less than x, and x never loses against the rest of l
      have hnone : (x :: l).filter p = [] := by
        apply List.filter_eq_nil_iff.mpr
        intro z hz hpz
        rcases List.mem_cons.mp hz with rfl | hz
        · have := hp y z hpy hpz; rw [this] at hlt; cases hlt
        · have h1 := hp y z hpy hpz
          have h2 := hc.negTrans y z x h1 (hl'.1 z hz)
          rw [h2] at hlt; cases hlt
      simp [hnone, hpy]
  | case4 x l y r hlt ih =>
    have hl' := List.pairwise_cons.mp hl
    rw [List.filter_cons, ih hl'.2]
    simp only [List.filter_cons]
    split <;> simp

private theorem perm_flatten_map (f : List α → List α) (hf : ∀ c, (f c).Perm c) (cs : List (List α)) :
    (cs.map f).flatten.Perm cs.flatten := by
  induction cs with
  | nil => exact List.Perm.refl _
  | cons c t ih => simp only [List.map_cons, List.flatten_cons]; exact (hf c).append ih

/-- for an arbitrary (inconsistent) comparator the block algorithm still loses and duplicates nothing. -/
theorem stableSort_perm_any (less : α → α → Bool) (blocks : List (List α)) :
    (stableSortBlocks less blocks).Perm blocks.flatten := by
  unfold stableSortBlocks
  have hpass : ∀ cs : List (List α), (mergePass less cs).flatten.Perm cs.flatten := by
    intro cs
    fun_induction mergePass less cs with
    | case1 a b rest ih =>
      simp only [List.flatten_cons]
      exact ((merge_perm less a b).append ih).trans (by rw [List.append_assoc])
    | case2 l hne => exact List.Perm.refl _
  have hall : ∀ fuel (cs : List (List α)), (mergeAll less fuel cs).Perm cs.flatten := by
    intro fuel
    induction fuel with
    | zero => intro cs; exact List.Perm.refl _
    | succ fuel ih =>
      intro cs
      simp only [mergeAll]
      split
      · exact List.Perm.refl _
      · exact (ih _).trans (hpass cs)
  exact (hall _ _).trans (perm_flatten_map (isort less) (fun c => sort_perm less c) blocks)

private theorem mergePass_props (less : α → α → Bool) (hc : Consistent less) (p : α → Bool)
    (hp : ∀ a b, p a = true → p b = true → less a b = false) (cs : List (List α)) (hs : ∀ c ∈ cs, SortedBy less c) :
    (∀ c ∈ mergePass less cs, SortedBy less c) ∧
    (mergePass less cs).flatten.filter p = cs.flatten.filter p ∧
    ((mergePass less cs).length ≤ cs.length ∧ (2 ≤ cs.length → (mergePass less cs).length < cs.length)) := by
  fun_induction mergePass less cs with
  | case1 a b rest ih =>
    obtain ⟨i1, i2, i4⟩ := ih (fun c hc' => hs c (by simp [hc']))
    have ha := hs a (by simp)
    have hb := hs b (by simp)
    refine ⟨?_, ?_, ?_⟩
    · intro c hc'
      rcases List.mem_cons.mp hc' with rfl | hc'
      · exact merge_sorted less hc a b ha hb
      · exact i1 c hc'
    · simp only [List.flatten_cons, List.filter_append, merge_stable less hc p hp a b ha, i2, List.append_assoc]
    · have h1 := i4.1
      constructor
      · show (mergePass less rest).length + 1 ≤ rest.length + 1 + 1; omega
      · intro _; show (mergePass less rest).length + 1 < rest.length + 1 + 1; omega
  | case2 l hne =>
    refine ⟨hs, rfl, Nat.le_refl _, ?_⟩
    intro h2
    cases l with
    | nil => simp at h2
    | cons a t =>
      cases t with
      | nil => simp at h2
      | cons b t' => exact absurd rfl (hne a b t')

private theorem mergeAll_props (less : α → α → Bool) (hc : Consistent less) (p : α → Bool)
    (hp : ∀ a b, p a = true → p b = true → less a b = false) (fuel : Nat) :
    ∀ (cs : List (List α)), (∀ c ∈ cs, SortedBy less c) → cs.length ≤ fuel + 1 →
      SortedBy less (mergeAll less fuel cs) ∧ (mergeAll less fuel cs).filter p = cs.flatten.filter p := by
  induction fuel with
  | zero =>
    intro cs hs hlen
    unfold mergeAll
    refine ⟨?_, rfl⟩
    cases cs with
    | nil => exact List.Pairwise.nil
    | cons a t =>
      cases t with
      | nil => simpa using hs a (by simp)
      | cons b t' => simp at hlen
  | succ fuel ih =>
    intro cs hs hlen
    unfold mergeAll
    split
    · next h1 =>
      refine ⟨?_, rfl⟩
      cases cs with
      | nil => exact List.Pairwise.nil
      | cons a t =>
        cases t with
        | nil => simpa using hs a (by simp)
        | cons b t' => simp at h1
    · next h1 =>
      obtain ⟨m1, m2, m4⟩ := mergePass_props less hc p hp cs hs
      obtain ⟨r1, r2⟩ := ih (mergePass less cs) m1 (by have := m4.2 (by omega); omega)
      exact ⟨r1, r2.trans m2⟩

private theorem filter_flatten_map (p : α → Bool) (f : List α → List α) (hf : ∀ c, (f c).filter p = c.filter p)
    (cs : List (List α)) : (cs.map f).flatten.filter p = cs.flatten.filter p := by
  induction cs with
  | nil => rfl
  | cons c t ih => simp only [List.map_cons, List.flatten_cons, List.filter_append, hf, ih]

/-- **`sort.Stable` as a whole** (insertion-sorted blocks of any sizes, then merge passes until one block
is left): for every consistent comparator the result is sorted, a permutation of the input, and every
class of mutually non-less elements keeps its input order. -/
theorem stableSort_sorted_stable_perm (less : α → α → Bool) (hc : Consistent less) (p : α → Bool)
    (hp : ∀ a b, p a = true → p b = true → less a b = false) (blocks : List (List α)) :
    SortedBy less (stableSortBlocks less blocks) ∧
    (stableSortBlocks less blocks).filter p = blocks.flatten.filter p ∧
    (stableSortBlocks less blocks).Perm blocks.flatten := by
  unfold stableSortBlocks
  have hs : ∀ c ∈ blocks.map (isort less), SortedBy less c := by
    intro c hc'
    obtain ⟨b, _, rfl⟩ := List.mem_map.mp hc'
    exact sort_sorted less hc b
  obtain ⟨r1, r2⟩ := mergeAll_props less hc p hp blocks.length (blocks.map (isort less)) hs (by simp)
  refine ⟨r1, ?_, stableSort_perm_any less blocks⟩
  rw [r2]; exact filter_flatten_map p (isort less) (fun c => sort_stable less p hp c) blocks

end MergeSec

end GojaModel.C07
