/-
  Histories that also contain
  `Array.prototype.pop` (fast path, bail-out, sparse storage), and the list-level meaning of the generic
  shift / unshift / push loops (hole branches included) as corollaries of the splice theorem.
-/
import GojaModel.C07.PropsMethods2

namespace GojaModel.C07

inductive OpP where
  | op (o : Op)
  | pop

def OpP.Valid : OpP → Prop
  | .op o => o.Valid
  | .pop => True

def Store.stepP (s : Store) : OpP → Store × Bool
  | .op o => s.step o
  | .pop => s.pop true

def SpecArray.stepP (a : SpecArray) : OpP → SpecArray × Bool
  | .op o => a.step o
  | .pop => a.pop

def Store.runP (s : Store) : List OpP → Store × List Bool
  | [] => (s, [])
  | o :: rest =>
    let r := s.stepP o
    let q := r.1.runP rest
    (q.1, r.2 :: q.2)

def SpecArray.runP (a : SpecArray) : List OpP → SpecArray × List Bool
  | [] => (a, [])
  | o :: rest =>
    let r := a.stepP o
    let q := r.1.runP rest
    (q.1, r.2 :: q.2)

theorem Store.isRunP : IsRun Store.stepP Store.runP := ⟨fun _ => rfl, fun _ _ _ => rfl⟩
theorem SpecArray.isRunP : IsRun SpecArray.stepP SpecArray.runP := ⟨fun _ => rfl, fun _ _ _ => rfl⟩

theorem stepP_refines (s : Store) (hg : s.Good) (o : OpP) (hv : o.Valid) :
    ((s.stepP o).1.abs, (s.stepP o).2) = s.abs.stepP o ∧ (s.stepP o).1.Good := by
  cases o with
  | op o => exact step_refines s hg o hv
  | pop => exact pop_refines s hg

/-- `history_refines` extended by pop: every finite sequence of the seven operations AND pops, on
either storage and across any number of storage switches, gives the spec's results and state. -/
theorem historyP_refines (ops : List OpP) (s : Store) (hg : s.Good) (hv : ∀ o ∈ ops, o.Valid) :
    ((s.runP ops).1.abs, (s.runP ops).2) = s.abs.runP ops ∧ (s.runP ops).1.Good :=
  Store.isRunP.refines SpecArray.isRunP Store.abs Store.Good OpP.Valid stepP_refines ops s hg hv

/-- `arrayproto_shift` generic (builtin_array.go:1038): move i → i−1 for 1 ≤ i < len (hole branch:
delete), delete the last index, `length = len−1`. -/
def shiftGeneric (vals : List (Option Elem)) : List (Option Elem) :=
  (cwFwdGeneric vals 1 0 (vals.length - 1)).take (vals.length - 1)

/-- `arrayproto_unshift` generic (builtin_array.go:563): move k → k+argCount from the top down (hole
branch: delete), then store the arguments at 0… -/
def unshiftGeneric (vals : List (Option Elem)) (items : List Val) : List (Option Elem) :=
  writeItems (bwdExt vals 0 items.length vals.length) 0 items

/-- `generic_push`: store the arguments at len, len+1, … -/
def pushGeneric (vals : List (Option Elem)) (items : List Val) : List (Option Elem) :=
  writeItems vals vals.length items

theorem shift_generic_eq_drop (vals : List (Option Elem)) (h : 0 < vals.length) : shiftGeneric vals = vals.drop 1 := by
  have hs := splice_fast_eq_generic vals 0 1 [] (by omega)
  unfold spliceFast spliceGeneric at hs
  simp only [List.length_nil, Nat.zero_lt_one, if_true, List.take_zero, List.map_nil, List.nil_append,
    Nat.zero_add, Nat.add_zero, writeItems] at hs
  unfold shiftGeneric
  rw [(copyWithin_generic_with_holes (vals.length - 1) vals 1 0).1]
  have : vals.length - 1 - 0 = vals.length - 1 := by omega
  rw [this] at hs
  exact hs.symm

theorem unshift_generic_eq (vals : List (Option Elem)) (items : List Val) (h : 0 < items.length) :
    unshiftGeneric vals items = items.map (fun v => some (.plain v)) ++ vals := by
  have hs := splice_fast_eq_generic vals 0 0 items (by omega)
  unfold spliceFast spliceGeneric at hs
  have h1 : ¬ items.length < 0 := by omega
  simp only [h1, if_false, h, if_true, List.take_zero, List.nil_append, Nat.zero_add, Nat.add_zero, List.drop_zero,
    Nat.sub_zero] at hs
  unfold unshiftGeneric
  exact hs.symm

theorem push_generic_eq (vals : List (Option Elem)) (items : List Val) (h : 0 < items.length) :
    pushGeneric vals items = vals ++ items.map (fun v => some (.plain v)) := by
  have hs := splice_fast_eq_generic vals vals.length 0 items (by omega)
  unfold spliceFast spliceGeneric at hs
  have h1 : ¬ items.length < 0 := by omega
  simp only [h1, if_false, h, if_true, Nat.add_zero, List.take_length, List.drop_length, List.append_nil,
    Nat.sub_self, Nat.sub_zero, bwdExt] at hs
  unfold pushGeneric
  exact hs.symm

end GojaModel.C07
