/-
  The binary search `findIdx` (Go `sort.Search`) that the sparse
  storage uses equals the linear "first position with key ≥ idx" that the model's item operations
  are written with — on every sorted item list (which `Inv` guarantees).
-/
import GojaModel.C07.Model

namespace GojaModel.C07

theorem searchLoop_spec (f : Nat → Bool) (n : Nat) (hmono : ∀ a b, a ≤ b → b < n → f a = true → f b = true) :
    ∀ fuel i j, i ≤ j → j ≤ n → j - i ≤ fuel → (∀ m, m < i → f m = false) → (∀ m, j ≤ m → m < n → f m = true) →
      let r := searchLoop f fuel i j
      r ≤ n ∧ (∀ m, m < r → f m = false) ∧ (∀ m, r ≤ m → m < n → f m = true) := by
  intro fuel
  induction fuel with
  | zero =>
    intro i j hij hjn hf hlo hhi
    have : i = j := by omega
    subst this
    exact ⟨hjn, hlo, hhi⟩
  | succ fuel ih =>
    intro i j hij hjn hf hlo hhi
    simp only [searchLoop]
    by_cases hlt : i < j
    · simp only [hlt, if_true]
      obtain ⟨hh1, hh2⟩ : i ≤ (i + j) / 2 ∧ (i + j) / 2 < j := by omega
      generalize (i + j) / 2 = h at hh1 hh2 ⊢
      cases hfh : f h
      · simp only [Bool.not_false, if_true]
        refine ih (h + 1) j hh2 hjn (by omega) (fun m hm => ?_) hhi
        -- m ≤ h and f h = false ⇒ f m = false (monotone)
        cases hfm : f m
        · rfl
        · rw [hmono m h (Nat.le_of_lt_succ hm) (Nat.lt_of_lt_of_le hh2 hjn) hfm] at hfh; cases hfh
      · simp only [Bool.not_true, Bool.false_eq_true, if_false]
        exact ih i h hh1 (by omega) (by omega) hlo (fun m hm1 hm2 => hmono h m hm1 hm2 hfh)
    · have : i = j := by omega
      subst this
      simp only [hlt, if_false]
      exact ⟨hjn, hlo, hhi⟩

private theorem sPos_le (l : Items) (idx : Nat) : sPos l idx ≤ l.length := by
  induction l with
  | nil => exact Nat.le_refl _
  | cons p t ih => obtain ⟨k, x⟩ := p; simp only [sPos]; split <;> simp <;> omega

private theorem SortedFrom.le_key {lo : Nat} {l : Items} (hs : SortedFrom lo l) : ∀ q ∈ l, lo ≤ q.1 := by
  induction l generalizing lo with
  | nil => intro q hq; cases hq
  | cons r u ih =>
    intro q hq
    rcases List.mem_cons.mp hq with rfl | hq
    · exact hs.1
    · exact Nat.le_of_succ_le (Nat.le_trans (Nat.succ_le_succ hs.1) (ih hs.2 q hq))

private theorem sPos_le_iff {lo : Nat} {l : Items} (hs : SortedFrom lo l) (idx : Nat) :
    ∀ m (hm : m < l.length), sPos l idx ≤ m ↔ idx ≤ (l[m]).1 := by
  fun_induction sPos l idx generalizing lo with
  | case1 => intro m hm; cases hm
  | case2 k x t idx hk ih =>
    intro m hm
    cases m with
    | zero => exact ⟨fun h => absurd h (Nat.not_succ_le_zero _), fun h => absurd hk (Nat.not_lt_of_le h)⟩
    | succ m => exact Nat.succ_le_succ_iff.trans (ih hs.2 m (Nat.lt_of_succ_lt_succ hm))
  | case3 k x t idx hk =>
    intro m hm
    refine ⟨fun _ => ?_, fun _ => Nat.zero_le _⟩
    cases m with
    | zero => exact Nat.le_of_not_lt hk
    | succ m =>
      have := hs.2.le_key _ (List.getElem_mem (Nat.lt_of_succ_lt_succ hm))
      exact Nat.le_trans (Nat.le_of_not_lt hk) (Nat.le_of_succ_le this)

/-- **`findIdx` (binary search) = linear first-≥ position** on every sorted item list. -/
theorem findIdx_eq_sPos {lo : Nat} (l : Items) (hs : SortedFrom lo l) (idx : Nat) : findIdx l idx = sPos l idx := by
  have hple := sPos_le l idx
  let f : Nat → Bool := fun i => match l[i]? with | some p => decide (p.1 ≥ idx) | none => true
  have hf : ∀ m, m < l.length → (f m = true ↔ sPos l idx ≤ m) := fun m hm => by
    simp only [f, List.getElem?_eq_getElem hm, decide_eq_true_eq]
    exact (sPos_le_iff hs idx m hm).symm
  have hmono : ∀ a b, a ≤ b → b < l.length → f a = true → f b = true :=
    fun a b hab hb hfa => (hf b hb).mpr (Nat.le_trans ((hf a (Nat.lt_of_le_of_lt hab hb)).mp hfa) hab)
  obtain ⟨r1, r2, r3⟩ := searchLoop_spec f l.length hmono l.length 0 l.length (Nat.zero_le _) (Nat.le_refl _)
    (Nat.le_refl _) (fun m hm => absurd hm (Nat.not_lt_zero _)) (fun m hm1 hm2 => absurd hm2 (Nat.not_lt_of_le hm1))
  show searchLoop f l.length 0 l.length = sPos l idx
  -- both are the boundary of the same monotone predicate
  rcases Nat.lt_trichotomy (searchLoop f l.length 0 l.length) (sPos l idx) with hlt | heq | hgt
  · have := (hf _ (by omega)).mp (r3 _ (Nat.le_refl _) (by omega))
    omega
  · exact heq
  · have := r2 _ hgt
    rw [(hf _ (by omega)).mpr (Nat.le_refl _)] at this
    cases this

/-! the item operations of the model, written with the linear position, are the positional
operations of array_sparse.go at `i = findIdx(idx)` -/

theorem sFind_pos (l : Items) (idx : Nat) :
    sFind l idx = match l[sPos l idx]? with
      | some p => if p.1 = idx then some p.2 else none
      | none => none := by
  fun_induction sFind l idx with
  | case1 => rfl
  | case2 k x t idx h ih => rw [sPos, if_pos h, List.getElem?_cons_succ]; exact ih
  | case3 x t idx h => rw [sPos, if_neg h, List.getElem?_cons_zero]; exact (if_pos rfl).symm
  | case4 k x t idx h hne => rw [sPos, if_neg h, List.getElem?_cons_zero]; exact (if_neg hne).symm

theorem sTake_pos (l : Items) (n : Nat) : sTake l n = l.take (sPos l n) := by
  fun_induction sTake l n with
  | case1 => rfl
  | case2 k x t n h ih => rw [sPos, if_pos h, List.take_succ_cons, ih]
  | case3 k x t n h => rw [sPos, if_neg h, List.take_zero]

theorem sIns_pos (l : Items) (idx : Nat) (e : Elem) :
    sIns l idx e = l.take (sPos l idx) ++ (idx, e) :: l.drop (sPos l idx) := by
  fun_induction sIns l idx e with
  | case1 => rfl
  | case2 k x t idx e h ih => rw [sPos, if_pos h, List.take_succ_cons, List.drop_succ_cons, ih, List.cons_append]
  | case3 k x t idx e h => rw [sPos, if_neg h, List.take_zero, List.drop_zero, List.nil_append]

theorem sDel_pos (l : Items) (idx : Nat) : sDel l idx = l.eraseIdx (sPos l idx) := by
  fun_induction sDel l idx with
  | case1 => rfl
  | case2 k x t idx h ih => rw [sPos, if_pos h, List.eraseIdx_cons_succ, ih]
  | case3 k x t idx h => rw [sPos, if_neg h, List.eraseIdx_cons_zero]

theorem sSetAt_pos (l : Items) (idx : Nat) (e : Elem) :
    sSetAt l idx e = match l[sPos l idx]? with
      | some p => l.set (sPos l idx) (p.1, e)
      | none => l := by
  fun_induction sSetAt l idx e with
  | case1 => rfl
  | case2 k x t idx e h ih =>
    rw [sPos, if_pos h, List.getElem?_cons_succ, ih]
    cases t[sPos t idx]? <;> rfl
  | case3 k x t idx e h => rw [sPos, if_neg h, List.getElem?_cons_zero]; rfl

/-- `_getIdx` (array_sparse.go:88) exactly as written — binary search, then the key test — is the
model's `sFind` on every sorted item list. -/
theorem getIdx_binsearch_eq_sFind {lo : Nat} (l : Items) (hs : SortedFrom lo l) (idx : Nat) :
    (match l[findIdx l idx]? with
      | some p => if p.1 = idx then some p.2 else none
      | none => none) = sFind l idx := by
  rw [findIdx_eq_sPos l hs idx, sFind_pos]

end GojaModel.C07
