/-
  C07 tie: the fast-path guards of sort / toSorted / filter / Array.from as
  regenerated from the Go source.
-/
import GojaModel.Generated.C07_Thresholds

namespace GojaModel.C07

/-- sort and toSorted take their copy-the-values path exactly when `checkStdArrayObj` accepts the
receiver (hypotheses of `sortCollect_fast_eq_generic` / `toSorted_collect_fast_eq_generic`); filter's
guard is on the RESULT array and is evaluated once, before the callbacks run (finding
`filter-fastpath-overwrites-result-array-changed-by-callback`); Array.from's guard is
`checkStdArrayIter`. -/
theorem fastPathGuards2_tie : GojaModel.Generated.C07.fastPathGuards2 =
    [("arrayproto_sort/checkStdArrayObj", "src != nil"),
     ("arrayproto_toSorted/checkStdArrayObj", "src != nil"),
     ("arrayproto_filter/checkStdArrayObj", "arr != nil"),
     ("array_from/checkStdArrayIter", "arr != nil")] := by rfl

/-- `checkStdArrayIter` looks at the array's own `Symbol.iterator` only — not at
`%ArrayIteratorPrototype%.next` (finding `array-from-fastpath-ignores-patched-ArrayIteratorPrototype-next`). -/
theorem stdArrayIterCond_tie : GojaModel.Generated.C07.stdArrayIterCond =
    "arr != nil && arr.getSym(SymIterator, nil) == r.getArrayValues()" := by rfl

end GojaModel.C07
