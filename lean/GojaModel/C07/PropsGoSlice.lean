/-
  The Go slice wrapper's window is a plain list — growth within
  capacity never exposes stale values of the backing array (`grow` clears the slots it uncovers; reslicing without clearing would expose them: witness below).
-/
import GojaModel.C07.GoSlice

namespace GojaModel.C07

private theorem clearRange_append (n : Nat) : ∀ a b : List (Option Val), n ≤ b.length →
    clearRange (a ++ b) a.length n = a ++ (List.replicate n none ++ b.drop n) := by
  induction n with
  | zero => intro a b _; rfl
  | succ n ih =>
    intro a b h
    rcases b with _ | ⟨y, b⟩
    · cases h
    have := ih (a ++ [none]) b (Nat.le_of_succ_le_succ h)
    simpa [clearRange, List.replicate_succ] using this

private theorem GoSlice.WF.split {g : GoSlice} (h : g.WF) :
    ∃ spare, g.backing = g.view ++ spare ∧ g.view.length = g.len :=
  ⟨g.backing.drop g.len, (List.take_append_drop ..).symm, List.length_take_of_le h⟩

/-- `grow`: the window becomes the old window followed by nils — whatever the spare capacity held. -/
theorem grow_view (g : GoSlice) (h : g.WF) (size : Nat) (hs : g.len < size) :
    (g.grow size).view = listGrow g.view size ∧ (g.grow size).WF := by
  obtain ⟨spare, hb, hvl⟩ := h.split
  obtain ⟨k, rfl⟩ : ∃ k, size = g.len + k := ⟨size - g.len, by omega⟩
  unfold GoSlice.grow listGrow
  rw [hvl, Nat.add_sub_cancel_left]
  split
  · -- beyond capacity: a fresh backing array of `cap' ≥ size` slots
    obtain ⟨j, hj⟩ : ∃ j, max (g.len + k) (growCap (g.len + k) g.len g.backing.length) = g.len + k + j :=
      ⟨_, (Nat.add_sub_cancel' (Nat.le_max_left ..)).symm⟩
    simp only [hj, Nat.add_assoc, Nat.add_sub_cancel_left]
    refine ⟨?_, ?_⟩
    · show (g.view ++ List.replicate (k + j) none).take (g.len + k) = _
      rw [← hvl, List.take_append, List.take_replicate, Nat.add_sub_cancel_left,
        Nat.min_eq_left (Nat.le_add_right ..), List.take_of_length_le (Nat.le_add_right ..)]
    · show g.len + k ≤ (g.view ++ List.replicate (k + j) none).length
      rw [List.length_append, List.length_replicate, hvl]; exact Nat.add_le_add_left (Nat.le_add_right ..) _
  · next hc =>
    -- within capacity: the first `k` spare slots are cleared
    have hn : k ≤ spare.length := by
      rw [hb, List.length_append, hvl] at hc; omega
    have hcl := clearRange_append k g.view spare hn
    rw [hvl, ← hb] at hcl
    refine ⟨?_, ?_⟩
    · show (clearRange g.backing g.len k).take (g.len + k) = _
      rw [hcl, ← List.append_assoc, List.take_left' (by rw [List.length_append, List.length_replicate, hvl])]
    · show g.len + k ≤ (clearRange g.backing g.len k).length
      rw [hcl, List.length_append, List.length_append, List.length_replicate, hvl]
      exact Nat.add_le_add_left (Nat.le_add_right ..) _

/-- The dropped tail is cleared as well, which only matters for the GC. -/
theorem shrink_view (g : GoSlice) (h : g.WF) (size : Nat) (hs : size ≤ g.len) :
    (g.shrink size).view = g.view.take size ∧ (g.shrink size).WF := by
  obtain ⟨spare, hb, hvl⟩ := h.split
  have hsplit : g.backing = g.view.take size ++ (g.view.drop size ++ spare) := by
    rw [← List.append_assoc, List.take_append_drop]; exact hb
  have hl : (g.view.take size).length = size := List.length_take_of_le (hvl ▸ hs)
  have hcl := clearRange_append (g.len - size) (g.view.take size) (g.view.drop size ++ spare) (by simp [hvl])
  rw [hl, ← hsplit] at hcl
  refine ⟨?_, ?_⟩
  · show (clearRange g.backing size (g.len - size)).take size = _
    rw [hcl, List.take_left' hl]
  · show size ≤ (clearRange g.backing size (g.len - size)).length
    rw [hcl, List.length_append, hl]; exact Nat.le_add_right _ _

/-- `s.length = n` from script. -/
theorem putLength_view (g : GoSlice) (h : g.WF) (n : Nat) :
    (g.putLength n).view = listSetLength g.view n ∧ (g.putLength n).WF := by
  have hvl : g.view.length = g.len := List.length_take_of_le h
  unfold GoSlice.putLength listSetLength
  rw [hvl]
  by_cases h1 : n > g.len
  · simp only [h1, if_true]; exact grow_view g h n h1
  · simp only [h1, if_false]
    by_cases h2 : n < g.len
    · simp only [h2, if_true]; exact shrink_view g h n (by omega)
    · simp only [h2, if_false]
      have : n = g.len := by omega
      refine ⟨?_, h⟩
      rw [this, ← hvl, List.take_length]

/-- `s[idx] = v` from script (any index: in place, at `len+k` within capacity, beyond capacity). -/
theorem putIdx_view (g : GoSlice) (h : g.WF) (idx : Nat) (v : Option Val) :
    (g.putIdx idx v).view = listPut g.view idx v ∧ (g.putIdx idx v).WF := by
  have hvl : g.view.length = g.len := List.length_take_of_le h
  unfold GoSlice.putIdx listPut
  rw [hvl]
  by_cases h1 : idx ≥ g.len
  · simp only [h1, if_true]
    obtain ⟨gv, gw⟩ := grow_view g h (idx + 1) (by omega)
    constructor
    · show ((g.grow (idx + 1)).backing.set idx v).take (g.grow (idx + 1)).len = (listGrow g.view (idx + 1)).set idx v
      rw [← gv]
      unfold GoSlice.view
      rw [List.take_set]
    · show (g.grow (idx + 1)).len ≤ ((g.grow (idx + 1)).backing.set idx v).length
      simp; exact gw
  · simp only [h1, if_false]
    constructor
    · show (g.backing.set idx v).take g.len = (g.backing.take g.len).set idx v
      rw [List.take_set]
    · show g.len ≤ (g.backing.set idx v).length
      simp; exact h

/-- `grow` written with the reslice before the clearing loop (`growM4`: the tail to clear is then empty)
violates `grow_view`: a stale value of the spare
capacity becomes visible. -/
theorem growM4_exposes_stale_witness :
    let g : GoSlice := { backing := [some 1, some 7, some 8, some 9], len := 1 }
    g.WF ∧ (g.growM4 4).view ≠ listGrow g.view 4 ∧ (g.grow 4).view = listGrow g.view 4 := by
  refine ⟨by show (1 : Nat) ≤ 4; omega, by decide, by decide⟩

end GojaModel.C07
