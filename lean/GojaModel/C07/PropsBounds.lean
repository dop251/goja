/-
  uint32 non-wrapping.  The model computes with natural numbers; goja computes indices and lengths in
  `uint32`.  Along every history whose arguments are legal (array indices ≤ 2^32−2, lengths ≤ 2^32−1 — what
  `toIdx` / `toLengthUint32` let through) the length the mechanism stores stays ≤ 2^32−1 (`history_bounded`: the
  final store; every prefix of a legal history is one), hence by `Inv` so do `len(values)` and every item
  index + 1 (`inv_bounds`); a transient `idx+1` is bounded by `Op.InRange` itself.  That these are all the
  `uint32` expressions of array.go / array_sparse.go is read off the code, not proved; `cap` and `growCap`
  are Go `int`s and not covered.
-/
import GojaModel.C07.PropsHist

namespace GojaModel.C07

/-- `math.MaxUint32`. -/
def maxLen : Nat := 4294967295

theorem maxLen_eq_thr : maxLen = thr.maxIdx := rfl

def Op.InRange : Op → Prop
  | .set i _ _ => i < maxLen
  | .define i _ => i < maxLen
  | .delete i => i < maxLen
  | .setLength l => l ≤ maxLen
  | .defineLength d => ∀ v, d.value = some v → v ≤ maxLen
  | .freeze => True
  | .preventExtensions => True

private theorem cutoff_le (get : Nat → Option SProp) (l d : Nat) : cutoff get l d ≤ l + d :=
  (cutoff_char get l d).le_top (Nat.le_add_right ..)

private theorem truncate_len (a : SpecArray) (l : Nat) (hl : l ≤ a.length) : (a.truncate l).1.length ≤ a.length := by
  show cutoff a.get l (a.length - l) ≤ a.length
  have := cutoff_le a.get l (a.length - l)
  omega

private theorem defineIdx_len (sd : SpecDefine) (a : SpecArray) (i : Nat) (d : Desc) (M : Nat) (ha : a.length ≤ M) (hi : i < M) :
    (a.defineIdx sd i d).1.length ≤ M := by
  unfold SpecArray.defineIdx
  split
  · exact ha
  · split
    · exact ha
    · show (if i ≥ a.length then i + 1 else a.length) ≤ M
      split <;> omega

private theorem setLength_len (a : SpecArray) (l M : Nat) (ha : a.length ≤ M) (hl : l ≤ M) : (a.setLength l).1.length ≤ M := by
  unfold SpecArray.setLength
  split
  · exact ha
  · split
    · exact hl
    · have := truncate_len a l (by omega); omega

theorem spec_step_bounded (a : SpecArray) (op : Op) (ha : a.length ≤ maxLen) (hr : op.InRange) :
    (a.step op).1.length ≤ maxLen := by
  cases op with
  | set i v pa =>
    show (a.set specDefine i v pa).1.length ≤ maxLen
    unfold SpecArray.set
    split
    · split
      · exact ha
      · exact defineIdx_len specDefine a i _ maxLen ha hr
    · split <;> exact ha
    · exact ha
  | define i d => exact defineIdx_len specDefine a i d maxLen ha hr
  | delete i =>
    show (a.delete i).1.length ≤ maxLen
    unfold SpecArray.delete
    split
    · exact ha
    · split <;> exact ha
  | setLength l => exact setLength_len a l maxLen ha hr
  | defineLength d =>
    show (a.defineLength d).1.length ≤ maxLen
    rw [SpecArray.defineLength_eq]
    split
    · exact ha
    · rw [SpecArray.applyLenW_length]
      split
      · next newLen hv =>
        split
        · exact setLength_len a newLen maxLen ha (hr newLen hv)
        · exact ha
      · exact ha
  | freeze => exact ha
  | preventExtensions => exact ha

theorem step_bounded (s : Store) (hg : s.Good) (op : Op) (hv : op.Valid) (hr : op.InRange)
    (hb : s.abs.length ≤ maxLen) : (s.step op).1.abs.length ≤ maxLen := by
  obtain ⟨h1, _⟩ := step_refines s hg op hv
  have e1 : (s.step op).1.abs = (s.abs.step op).1 := congrArg Prod.fst h1
  rw [e1]
  exact spec_step_bounded s.abs op hb hr

theorem spec_history_bounded (ops : List Op) (a : SpecArray) (ha : a.length ≤ maxLen) (hr : ∀ op ∈ ops, op.InRange) :
    (a.run ops).1.length ≤ maxLen :=
  SpecArray.isRun.inv (·.length ≤ maxLen) Op.InRange (fun a op ha hr => spec_step_bounded a op ha hr) ops a ha hr

/-- **no `uint32` wrap-around along any legal history** (from any `Good` store whose length fits,
e.g. `[]`): the final store — and, since every prefix of a legal history is one, every intermediate
store — has `length ≤ 2^32−1`. -/
theorem history_bounded (ops : List Op) (s : Store) (hg : s.Good) (hv : ∀ op ∈ ops, op.Valid)
    (hr : ∀ op ∈ ops, op.InRange) (hb : s.abs.length ≤ maxLen) : (s.run ops).1.abs.length ≤ maxLen := by
  rw [show (s.run ops).1.abs = (s.abs.run ops).1 from congrArg Prod.fst (history_refines ops s hg hv).1]
  exact spec_history_bounded ops s.abs hb hr

/-- what the bound means for the representation: under `Inv` everything the code stores in a
`uint32` or uses as a slice length is bounded by the length. -/
theorem inv_bounds (s : Store) (h : s.Inv) (hb : s.abs.length ≤ maxLen) :
    match s with
    | .dense a => a.values.length ≤ maxLen ∧ a.length ≤ maxLen
    | .sparse a => (∀ p ∈ a.items, p.1 + 1 ≤ maxLen) ∧ a.length ≤ maxLen := by
  cases s with
  | dense a => exact ⟨Nat.le_trans h.lenValues hb, hb⟩
  | sparse a => exact ⟨fun p hp => by have := h.below p hp; have : a.length ≤ maxLen := hb; omega, hb⟩

end GojaModel.C07
