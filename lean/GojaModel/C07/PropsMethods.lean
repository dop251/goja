/-
  Per-method "fast path = generic algorithm" under the guard of
  `checkStdArrayObj` (+ the `len(values) == length` re-check), and `Array.prototype.pop`.
-/
import GojaModel.C07.MethodLemmas
import GojaModel.C07.PropsHist

namespace GojaModel.C07

/-- What `stdGuard` gives under `Inv`. -/
def AllPlain (vals : List (Option Elem)) : Prop := ∀ k (hk : k < vals.length), ∃ v, vals[k] = some (.plain v)

theorem guard_allPlain (a : Dense) (h : a.Inv) (hg : a.stdGuard = true) : AllPlain a.values ∧ a.values.length = a.length := by
  have hlen : a.values.length = a.length := by
    simp only [Dense.stdGuard, Bool.and_eq_true, beq_iff_eq] at hg
    exact hg.1.2.symm
  refine ⟨?_, hlen⟩
  intro k hk
  obtain ⟨v, hv⟩ := stdGuard_no_holes a h hg k (by omega)
  simp only [Dense.slot, List.getElem?_eq_getElem hk, Option.join_some] at hv
  exact ⟨v, hv⟩

theorem view_at (a : Dense) (hp : AllPlain a.values) (proto : Nat → Option Val) (gr : VProp → Option Val)
    (k : Nat) (hk : k < a.values.length) :
    ∃ v, a.values[k] = some (.plain v) ∧ (a.view proto gr).has k = true ∧ (a.view proto gr).get k = some v ∧
      slotVal ((a.values[k]?).join) = some v := by
  obtain ⟨v, hv⟩ := hp k hk
  refine ⟨v, hv, ?_, ?_, ?_⟩ <;>
    simp [Dense.view, Dense.slot, List.getElem?_eq_getElem hk, hv, genericGet, slotVal]

/-- indexOf: the fast path (scan of `values[n:]`) finds exactly what the generic loop
(HasProperty + Get + StrictEquals for n ≤ k < length) finds — whatever the prototype chain holds. -/
theorem indexOf_fast_eq_generic (a : Dense) (h : a.Inv) (hg : a.stdGuard = true) (proto : Nat → Option Val)
    (gr : VProp → Option Val) (eq : Val → Bool) (n L : Nat) (hL : a.values.length = L) (hn : n ≤ L) :
    indexOfFast a.values eq n = indexOfGeneric (a.view proto gr) eq n (L - n) := by
  obtain ⟨hp, _⟩ := guard_allPlain a h hg
  obtain ⟨c, rfl⟩ : ∃ c, L = n + c := ⟨L - n, by omega⟩
  rw [Nat.add_sub_cancel_left]
  unfold indexOfFast
  clear hn
  induction c generalizing n with
  | zero => rw [List.drop_eq_nil_of_le (show a.values.length ≤ n from Nat.le_of_eq hL)]; rfl
  | succ c ih =>
    have hk : n < a.values.length := by omega
    obtain ⟨v, hv, h1, h2, _⟩ := view_at a hp proto gr n hk
    rw [List.drop_eq_getElem_cons hk, hv, scanFirst, indexOfGeneric, h1, h2, ih (n + 1) (by omega)]
    rfl

/-- includes (SameValueZero, every index read with Get): fast = generic. -/
theorem includes_fast_eq_generic (a : Dense) (h : a.Inv) (hg : a.stdGuard = true) (proto : Nat → Option Val)
    (gr : VProp → Option Val) (eq : Val → Bool) (n L : Nat) (hL : a.values.length = L) (hn : n ≤ L) :
    includesFast a.values eq n = includesGeneric (a.view proto gr) eq n (L - n) := by
  obtain ⟨hp, _⟩ := guard_allPlain a h hg
  obtain ⟨c, rfl⟩ : ∃ c, L = n + c := ⟨L - n, by omega⟩
  rw [Nat.add_sub_cancel_left]
  unfold includesFast
  clear hn
  induction c generalizing n with
  | zero => rw [List.drop_eq_nil_of_le (show a.values.length ≤ n from Nat.le_of_eq hL)]; rfl
  | succ c ih =>
    have hk : n < a.values.length := by omega
    obtain ⟨v, hv, _, h2, _⟩ := view_at a hp proto gr n hk
    rw [List.drop_eq_getElem_cons hk, hv, List.any_cons, includesGeneric, h2, ih (n + 1) (by omega)]
    rfl

/-- lastIndexOf (downwards from `fromIndex = c − 1 < length`): fast = generic. -/
theorem lastIndexOf_fast_eq_generic (a : Dense) (h : a.Inv) (hg : a.stdGuard = true) (proto : Nat → Option Val)
    (gr : VProp → Option Val) (eq : Val → Bool) (c : Nat) (hc : c ≤ a.values.length) :
    lastIndexOfFast a.values eq c = lastIndexOfGeneric (a.view proto gr) eq c := by
  obtain ⟨hp, _⟩ := guard_allPlain a h hg
  induction c with
  | zero => rfl
  | succ c ih =>
    have hk : c < a.values.length := by omega
    obtain ⟨v, hv, h1, h2, h3⟩ := view_at a hp proto gr c hk
    simp only [lastIndexOfFast, lastIndexOfGeneric, h1, h2, h3, Bool.true_and]
    split
    · rfl
    · exact ih (by omega)

private theorem map_range_congr (f g : Nat → Option Val) (n : Nat) (hfg : ∀ k, k < n → f k = g k) :
    (List.range n).map f = (List.range n).map g := by
  apply List.map_congr_left
  intro k hk
  exact hfg k (List.mem_range.mp hk)

/-- `with` (after f0b16cb: length first, fast path only if `len(values) == length`): fast = generic. -/
theorem with_fast_eq_generic (a : Dense) (h : a.Inv) (hg : a.stdGuard = true) (proto : Nat → Option Val)
    (gr : VProp → Option Val) (L idx : Nat) (v : Val) (hL : a.values.length = L) :
    withFast a.values L idx v = withGeneric (a.view proto gr) L idx v := by
  obtain ⟨hp, _⟩ := guard_allPlain a h hg
  unfold withFast withGeneric
  apply map_range_congr
  intro k hk
  split
  · rfl
  · obtain ⟨w, _, _, h2, h3⟩ := view_at a hp proto gr k (by omega)
    rw [h2, h3]

theorem toReversed_fast_eq_generic (a : Dense) (h : a.Inv) (hg : a.stdGuard = true) (proto : Nat → Option Val)
    (gr : VProp → Option Val) (L : Nat) (hL : a.values.length = L) :
    toReversedFast a.values L = toReversedGeneric (a.view proto gr) L := by
  obtain ⟨hp, _⟩ := guard_allPlain a h hg
  unfold toReversedFast toReversedGeneric
  apply map_range_congr
  intro k hk
  obtain ⟨w, _, _, h2, h3⟩ := view_at a hp proto gr (L - k - 1) (by omega)
  rw [h2, h3]

theorem map_slotVal (a : Dense) (hp : AllPlain a.values) (proto : Nat → Option Val) (gr : VProp → Option Val) :
    a.values.map slotVal = (List.range a.values.length).map (a.view proto gr).get := by
  apply List.ext_getElem
  · simp
  · intro k h1 h2
    simp only [List.getElem_map, List.getElem_range]
    have hk : k < a.values.length := by simpa using h1
    obtain ⟨w, hv, _, hget, _⟩ := view_at a hp proto gr k hk
    rw [hv, hget]; rfl

/-- toSpliced (after 61fb8fc: fast path only if `len(values) == length`): fast = generic. -/
theorem toSpliced_fast_eq_generic (a : Dense) (h : a.Inv) (hg : a.stdGuard = true) (proto : Nat → Option Val)
    (gr : VProp → Option Val) (L start skip : Nat) (items : List Val) (hL : a.values.length = L)
    (hs : start + skip ≤ L) :
    toSplicedFast a.values start skip items = toSplicedGeneric (a.view proto gr) L start skip items := by
  obtain ⟨hp, _⟩ := guard_allPlain a h hg
  have hm := map_slotVal a hp proto gr
  unfold toSplicedFast toSplicedGeneric
  congr 1
  · congr 1
    rw [List.map_take, hm, ← List.map_take, List.take_range]
    congr 2
    omega
  · rw [List.map_drop, hm, ← List.map_drop]
    apply List.ext_getElem
    · simp; omega
    · intro k h1 h2
      simp only [List.getElem_map, List.getElem_drop, List.getElem_range]

/-- fill: on a no-holes array the fast path (`values[k] = v`) does exactly what the generic loop of
`setOwnIdx` does on the mechanism (which in turn refines the spec's Set by `step_refines`). -/
theorem fill_fast_eq_generic (v : Val) (pa : Nat → Option Bool) (c : Nat) :
    ∀ (a : Dense) (k : Nat), AllPlain a.values → k + c ≤ a.values.length →
      fillGeneric (.dense a) v pa k c = (.dense { a with values := fillFast a.values v k c }, true) := by
  induction c with
  | zero => intro a k _ _; rfl
  | succ c ih =>
    intro a k hp hk
    have hlt : k < a.values.length := by omega
    obtain ⟨w, hw⟩ := hp k hlt
    have hslot : a.slot k = some (.plain w) := by
      simp [Dense.slot, List.getElem?_eq_getElem hlt, hw]
    have hstep : (Store.dense a).setOwnIdx k v (pa k) =
        (.dense { a with values := a.values.set k (some (.plain v)) }, true) := by
      simp only [Store.setOwnIdx, Dense.setOwnIdx, hslot]
    simp only [fillGeneric, hstep, Bool.not_true, Bool.false_eq_true, if_false, fillFast]
    have hp' : AllPlain (a.values.set k (some (.plain v))) := by
      intro j hj
      have hj' : j < a.values.length := by simpa using hj
      by_cases hjk : k = j
      · subst hjk; exact ⟨v, by simp⟩
      · obtain ⟨u, hu⟩ := hp j hj'
        exact ⟨u, by simp [List.getElem_set_ne hjk, hu]⟩
    have := ih { a with values := a.values.set k (some (.plain v)) } (k + 1) hp' (by simp; omega)
    simpa using this

/-- copyWithin: Go's `copy` on the backing slice (memmove) equals the generic element-by-element loop
with its direction choice, for every `from`, `to`, `count` within the array. -/
theorem copyWithin_fast_eq_generic (vals : List (Option Elem)) (from_ to count : Nat)
    (hf : from_ + count ≤ vals.length) (ht : to + count ≤ vals.length) :
    memmove vals from_ to count = copyWithinGeneric vals from_ to count :=
  memmove_eq_copyWithinGeneric vals from_ to count ht

/-- splice: the fast path's new `values` (`values[:start] ++ items ++ values[start+del:]`) is what the
generic element moves + truncation produce, in all three cases (shrinking, growing, same size). -/
theorem splice_fast_eq_generic (vals : List (Option Elem)) (start del : Nat) (items : List Val)
    (hsd : start + del ≤ vals.length) :
    spliceFast vals start del items = spliceGeneric vals start del items := by
  obtain ⟨a, D, T, rfl, rfl, rfl⟩ : ∃ a D T, vals = a ++ (D ++ T) ∧ a.length = start ∧ D.length = del :=
    ⟨vals.take start, (vals.drop start).take del, (vals.drop start).drop del,
      by rw [List.take_append_drop, List.take_append_drop],
      List.length_take_of_le (Nat.le_trans (Nat.le_add_right ..) hsd),
      List.length_take_of_le (by rw [List.length_drop]; omega)⟩
  rw [splice_segments]
  simp [spliceFast]

theorem pop_generic_refines (s : Store) (hg : s.Good) :
    ((s.popGeneric).1.abs, (s.popGeneric).2) = s.abs.pop ∧ (s.popGeneric).1.Good := by
  unfold Store.popGeneric SpecArray.pop
  rw [s.length_eq]
  by_cases h0 : s.abs.length = 0
  · simp only [h0, if_true]
    exact step_refines s hg (.setLength 0) trivial
  · simp only [h0, if_false]
    obtain ⟨d1, d2⟩ := step_refines s hg (.delete (s.abs.length - 1)) trivial
    have e1 : (s.deleteIdx (s.abs.length - 1)).1.abs = (s.abs.delete (s.abs.length - 1)).1 := congrArg Prod.fst d1
    have e2 : (s.deleteIdx (s.abs.length - 1)).2 = (s.abs.delete (s.abs.length - 1)).2 := congrArg Prod.snd d1
    cases hd : (s.abs.delete (s.abs.length - 1)).2
    · have hd' : (s.deleteIdx (s.abs.length - 1)).2 = false := by rw [e2, hd]
      simp only [hd', Bool.not_false, if_true]
      exact ⟨Prod.ext e1 hd.symm, d2⟩
    · have hd' : (s.deleteIdx (s.abs.length - 1)).2 = true := by rw [e2, hd]
      simp only [hd', Bool.not_true, Bool.false_eq_true, if_false]
      obtain ⟨s1, s2⟩ := step_refines (s.deleteIdx (s.abs.length - 1)).1 d2 (.setLength (s.abs.length - 1)) trivial
      refine ⟨?_, s2⟩
      have : ((s.deleteIdx (s.abs.length - 1)).1.step (.setLength (s.abs.length - 1))) =
          (s.deleteIdx (s.abs.length - 1)).1.setLength (s.abs.length - 1) := rfl
      rw [this] at s1
      rw [s1, e1]; rfl

private theorem slot_snoc (P : List (Option Elem)) (x : Option Elem) (i : Nat) :
    ((P ++ [x])[i]?).join = if i = P.length then x else (P[i]?).join := by
  rcases Nat.lt_trichotomy i P.length with h | rfl | h
  · rw [List.getElem?_append_left h, if_neg (Nat.ne_of_lt h)]
  · simp
  · rw [if_neg (Nat.ne_of_gt h), List.getElem?_eq_none (by simp; omega), List.getElem?_eq_none (by omega)]

/-- `pop_fast_refines` on the destructed receiver `P ++ [some (.plain v)]`: on the literal record both sides compute. -/
private theorem pop_last (P : List (Option Elem)) (v : Val) (cap oc pvc : Nat) (lw ex : Bool)
    (h : (⟨P ++ [some (.plain v)], cap, P.length + 1, oc, pvc, lw, ex⟩ : Dense).Inv) :
    ((⟨P, cap, if lw then P.length else P.length + 1, oc - 1, pvc, lw, ex⟩ : Dense).abs, lw) =
      (⟨P ++ [some (.plain v)], cap, P.length + 1, oc, pvc, lw, ex⟩ : Dense).abs.pop ∧
    (⟨P, cap, if lw then P.length else P.length + 1, oc - 1, pvc, lw, ex⟩ : Dense).Inv := by
  constructor
  · cases lw <;>
    simp [SpecArray.pop, SpecArray.delete, SpecArray.setLength, SpecArray.truncate, cutoff, Dense.abs, Dense.slot,
      slot_snoc, Elem.abs, SProp.configurable, Nat.not_succ_le_self] <;>
    funext i <;> split
    -- `lw = false`: the length stays and the last slot is emptied (`i` is that slot, or not);
    -- `lw = true`: truncation to `P.length` (`i` below it, or not)
    · next hi => subst hi; simp
    · rfl
    · next hi => simp [Nat.ne_of_lt hi]
    · next hi => simp [List.getElem?_eq_none (Nat.le_of_not_lt hi)]
  · have ho : oc = countSome P + 1 := by simpa [countSome] using h.objCount
    have hp : countProp P ≤ pvc := by simpa [countProp, isPropSlot] using h.pvc
    refine ⟨?_, ?_, hp⟩
    · show P.length ≤ _
      split
      · exact Nat.le_refl _
      · exact Nat.le_succ _
    · show oc - 1 = countSome P
      rw [ho]; rfl

private theorem last_slot {vals : List (Option Elem)} {n : Nat} {e : Elem} (hlen : vals.length ≤ n)
    (hs : (vals[n - 1]?).join = some e) : ∃ P, vals = P ++ [some e] ∧ n = P.length + 1 := by
  rcases List.eq_nil_or_concat vals with rfl | ⟨P, x, rfl⟩
  · simp at hs
  · have hlt := (slot_some_lt hs).1
    simp only [List.concat_eq_append, List.length_append, List.length_singleton] at hlt hlen
    have hn : n = P.length + 1 := by omega
    subst hn
    simp at hs
    exact ⟨P, by simp [hs], rfl⟩

/-- the fast path of pop as it is in /repo (`objCount--`, 4d714fc) refines the spec's pop
and keeps `Inv`. -/
theorem pop_fast_refines (a : Dense) (h : a.Inv) (r : Dense × Bool) (hr : a.popFast true = some r) :
    (r.1.abs, r.2) = a.abs.pop ∧ r.1.Inv := by
  obtain ⟨vals, cap, n, oc, pvc, lw, ex⟩ := a
  simp only [Dense.popFast, Dense.slot] at hr
  split at hr
  · split at hr
    · next v hs =>
      obtain ⟨P, rfl, rfl⟩ := last_slot h.lenValues hs
      have := pop_last P v cap oc pvc lw ex h
      cases lw <;> cases hr <;> simpa using this
    · cases hr
  · next h0 =>
    have h0 : n = 0 := Nat.eq_zero_of_not_pos h0
    subst h0
    cases lw <;> cases hr <;> exact ⟨by simp [SpecArray.pop, SpecArray.setLength, Dense.abs], h⟩

private theorem popFast_values {a : Dense} {b : Bool} {r : Dense × Bool} (h : a.popFast b = some r) :
    ∃ n, r.1.values = a.values.take n := by
  simp only [Dense.popFast, Dense.slot] at h
  split at h
  · split at h
    · split at h <;> cases h <;> exact ⟨_, rfl⟩
    · cases h
  · split at h <;> cases h <;> exact ⟨_, (List.take_length ..).symm⟩

/-- `Array.prototype.pop` as a whole (fast path, bail-out to the generic path, sparse storage):
refines the spec's pop and keeps `Good` — so pop can be interleaved with the operations of
`history_refines`. -/
theorem pop_refines (s : Store) (hg : s.Good) :
    (((s.pop true).1).abs, (s.pop true).2) = s.abs.pop ∧ ((s.pop true).1).Good := by
  cases s with
  | sparse a => exact pop_generic_refines (.sparse a) hg
  | dense a =>
    cases hp : a.popFast true with
    | none =>
      have : (Store.dense a).pop true = (Store.dense a).popGeneric := by simp [Store.pop, hp]
      rw [this]; exact pop_generic_refines (.dense a) hg
    | some r =>
      have : (Store.dense a).pop true = (.dense r.1, r.2) := by simp [Store.pop, hp]
      rw [this]
      obtain ⟨r1, r2⟩ := pop_fast_refines a hg.inv r hp
      refine ⟨r1, r2, ?_⟩
      obtain ⟨n, hn⟩ := popFast_values hp
      intro e he
      have he' : some e ∈ r.1.values := he
      rw [hn] at he'
      exact hg.wf e (List.mem_of_mem_take he')

/-- regression lemma about the code BEFORE 4d714fc (`decr = false`): it broke `Inv` — the repaired finding
`pop-fastpath-objCount-not-decremented`: `[1,2,3].pop()` leaves `objCount = 3` with two elements. -/
theorem pop_prefix_witness :
    let a : Dense := { values := [some (.plain 1), some (.plain 2), some (.plain 3)], cap := 3, length := 3,
                       objCount := 3, pvc := 0, lenW := true, ext := true }
    a.Inv ∧ ∀ r, a.popFast false = some r → ¬ r.1.Inv := by
  refine ⟨⟨by decide, by decide, by decide⟩, ?_⟩
  intro r hr
  simp [Dense.popFast, Dense.slot] at hr
  subst hr
  intro hinv
  have := hinv.objCount
  simp [countSome] at this

end GojaModel.C07
