/-
  The own element at an index, whatever the storage: the layer between the two storages and `SpecArray`.
  `abs` is `own` mapped through `Elem.abs`.  An operation whose effect is stated on `own` (one slot replaced:
  `Store.Upd`) has its abstract effect, and the preservation of any property of the elements (`Store.All`), as
  consequences; the per-storage work is to show what the list operations do to `own`.
-/
import GojaModel.C07.Lemmas

namespace GojaModel.C07

theorem SpecArray.ext' {a b : SpecArray} (h1 : a.get = b.get) (h2 : a.length = b.length)
    (h3 : a.lengthWritable = b.lengthWritable) (h4 : a.extensible = b.extensible) : a = b := by
  cases a; cases b; simp_all

def Store.own : Store → Nat → Option Elem
  | .dense a, i => a.slot i
  | .sparse a, i => aGet a.items i

theorem Store.abs_get (s : Store) (i : Nat) : s.abs.get i = (s.own i).map Elem.abs := by cases s <;> rfl

theorem Store.length_eq (s : Store) : s.length = s.abs.length := by cases s <;> rfl
theorem Store.lenW_eq (s : Store) : s.lenW = s.abs.lengthWritable := by cases s <;> rfl

theorem Store.abs_of_own {t : Store} {A : SpecArray} (hg : ∀ i, (t.own i).map Elem.abs = A.get i)
    (hl : t.abs.length = A.length) (hw : t.abs.lengthWritable = A.lengthWritable)
    (he : t.abs.extensible = A.extensible) : t.abs = A :=
  SpecArray.ext' (funext fun i => (t.abs_get i).trans (hg i)) hl hw he

def Store.All (P : Elem → Prop) (s : Store) : Prop := ∀ i e, s.own i = some e → P e

theorem Store.All.mono {P : Elem → Prop} {s t : Store} (hs : s.All P) (h : ∀ i e, t.own i = some e → s.own i = some e) :
    t.All P := fun i e he => hs i e (h i e he)

structure Store.Upd (s : Store) (idx : Nat) (o : Option Elem) (len : Nat) (t : Store) : Prop where
  own : ∀ i, t.own i = if i = idx then o else s.own i
  length : t.abs.length = len
  lenW : t.abs.lengthWritable = s.abs.lengthWritable
  ext : t.abs.extensible = s.abs.extensible

theorem Store.Upd.of_source {s s' t : Store} {idx len : Nat} {o : Option Elem} (h : s'.Upd idx o len t)
    (hown : ∀ i, s'.own i = s.own i) (hw : s'.abs.lengthWritable = s.abs.lengthWritable)
    (hx : s'.abs.extensible = s.abs.extensible) : s.Upd idx o len t :=
  ⟨fun i => by rw [h.own, hown], h.length, h.lenW.trans hw, h.ext.trans hx⟩

theorem Store.Upd.abs {s t : Store} {idx len : Nat} {o : Option Elem} (h : s.Upd idx o len t) :
    t.abs = { s.abs with get := fun i => if i = idx then o.map Elem.abs else s.abs.get i, length := len } := by
  refine Store.abs_of_own (fun i => ?_) h.length h.lenW h.ext
  show _ = if i = idx then o.map Elem.abs else s.abs.get i
  rw [h.own, Store.abs_get]
  split <;> rfl

theorem Store.Upd.all {P : Elem → Prop} {s t : Store} {idx len : Nat} {o : Option Elem} (h : s.Upd idx o len t)
    (hs : s.All P) (ho : ∀ e, o = some e → P e) : t.All P := fun i e he => by
  rw [h.own] at he
  split at he
  · exact ho e he
  · exact hs i e he

end GojaModel.C07
