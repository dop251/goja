/-
  C14 Tie: the facts regenerated from /repo's CURRENT source by extract/c14.go
  (lean/GojaModel/Generated/C14_PanicKinds.lean, rewritten on every run) equal the expectations the model was
  transcribed from, and the classifier tables agree with the model's exceptionFromValue /
  asUncatchableException / isUncatchable on one representative per Go dynamic type.

  `Expected` below is a verbatim copy of the generator's output for the source the model was transcribed from; any
  edit of the decision logic of one of these functions makes the corresponding `tie_*` theorem fail (the orchestrator
  then searches for a concrete failing input).  The skeletons hold only what the model transcribes (classification, recover /
  re-panic, try-frame handling, iterator closing, error wrapping / unwrapping): extract/c14.go drops lines that
  belong to other properties' mechanisms (leaveAbrupt / call-stack bookkeeping / pc resets / message texts /
  async-context tracker), and functions the model does not transcribe have no skeleton.
-/
import GojaModel.C14.Model
import GojaModel.Generated.C14_PanicKinds

namespace GojaModel.C14.Expected

/-- (case types, normalised body statements) in source order -/
def efvCases : List (String × List String) := [
  ("*Object", ["ex = &Exception{ val: x1, }", "if er, ok := x1.self.(*errorObject); ok { ex.stack = er.stack }"]),
  ("Value", ["ex = &Exception{ val: x1, }"]),
  ("*Exception", ["ex = x1"]),
  ("typeError", ["ex = &Exception{ val: vm.r.NewTypeError(string(x1)), }"]),
  ("referenceError", ["ex = &Exception{ val: vm.r.newError(vm.r.getReferenceError(), string(x1)), }"]),
  ("rangeError", ["ex = &Exception{ val: vm.r.newError(vm.r.getRangeError(), string(x1)), }"]),
  ("syntaxError", ["ex = &Exception{ val: vm.r.newError(vm.r.getSyntaxError(), string(x1)), }"]),
  ("default", ["return nil"])]

def efvTail : List String := [
  "if ex.stack == nil",
  ".ex.stack = vm.captureStack(make([]StackFrame, 0, len(vm.callStack)+1), 0)",
  "return ex"]

def skel_asUncatchableException : List String := [
  "typeswitch v := v.(type)",
  "case uncatchableException",
  ".return v",
  "case error",
  ".if isUncatchableException(v)",
  "..return v",
  "return nil"]

def skel_isUncatchableException : List String := [
  "return errors.As(e, &u)"]

def skel_handleThrow : List String := [
  "ex := vm.exceptionFromValue(arg)",
  "if ex != nil",
  ".defer func() { if x := recover",
  "..func{",
  "...if x := recover(); x != nil",
  "....ret = vm.handleThrow(x)",
  "..}",
  "for ; len(vm.tryStack) > 0; ",
  ".if tf.catchPos == -1 && tf.finallyPos == -1 || ex == nil && tf.catchPos != tryPanicMarker",
  "..tf.exception = nil",
  "..continue",
  "._ = vm._restoreStacks(tf.iterLen, tf.refLen, ex != nil)",
  ".if tf.catchPos == tryPanicMarker",
  "..break",
  ".if tf.catchPos >= 0",
  "..vm.pc = int(tf.catchPos)",
  "..tf.catchPos = -1",
  "..return nil",
  ".if tf.finallyPos >= 0",
  "..tf.exception = ex",
  "..vm.pc = int(tf.finallyPos)",
  "..tf.finallyPos = -1",
  "..return nil",
  "if ex == nil",
  ".panic(arg)",
  "return ex"]

def skel_vmTry : List String := [
  "defer vm.popTryFrame",
  "defer func() { if x := recover",
  ".func{",
  "..if x := recover(); x != nil",
  "...ex = vm.handleThrow(x)",
  ".}",
  "return"]

def skel_runTry : List String := [
  "defer vm.popTryFrame",
  "for ; ; ",
  ".ex = vm.runTryInner()",
  ".if ex != nil || vm.halted()",
  "..return"]

def skel_runTryInner : List String := [
  "defer func() { if x := recover",
  ".func{",
  "..if x := recover(); x != nil",
  "...ex = vm.handleThrow(x)",
  ".}",
  "return"]

def skel_runWrapped : List String := [
  "defer func() { if x := recover",
  ".func{",
  "..if x := recover(); x != nil",
  "...if ex := asUncatchableException(x); ex != nil",
  "....err = ex",
  "...else",
  "....panic(x)",
  ".}",
  "ex := r.vm.try(f)",
  "if ex != nil",
  ".err = ex",
  "else",
  "return"]

def skel_NewGoError : List String := [
  "e := r.newError(r.getGoError(), err.Error()).(*Object)",
  "e.Set(\"value\", err)",
  "return e"]

def skel_ExceptionUnwrap : List String := [
  "if obj, ok := e.val.(*Object); ok",
  ".if obj.runtime.getGoError().self.hasInstance(obj)",
  "..if val := obj.Get(\"value\"); val != nil",
  "...e1, _ := val.Export().(error)",
  "...return e1",
  "return nil"]

def skel_InterruptedUnwrap : List String := [
  "if err, ok := e.iface.(error); ok",
  ".return err",
  "return nil"]

def skel_throwExec : List String := [
  "ex := &Exception{ val: v, }",
  "if o, ok := v.(*Object); ok",
  ".if e, ok := o.self.(*errorObject); ok",
  "..if len(e.stack) > 0",
  "...ex.stack = e.stack",
  "if ex.stack == nil",
  ".ex.stack = vm.captureStack(make([]StackFrame, 0, len(vm.callStack)+1), 0)",
  "if ex = vm.handleThrow(ex); ex != nil",
  ".panic(ex)"]

def skel_call : List String := [
  "res, ex := f.__call(args, newTarget, this)",
  "if ex != nil",
  ".panic(ex)",
  "return res"]

def skel_ForOf : List String := [
  "for ; ; ",
  ".value, ex := iter.step()",
  ".if ex != nil",
  "..panic(ex)",
  ".if value != nil",
  "..ex := r.vm.try(func)",
  "...func{",
  "...}",
  "..if ex != nil",
  "..._ = r.vm.try(iter.returnIter)",
  "...panic(ex)",
  "..if !continueIteration",
  "...iter.returnIter()",
  "...break",
  ".else",
  "..break"]

def skel_iterStep : List String := [
  "ex = r.vm.try(func)",
  ".func{",
  "..if !done",
  "..else",
  ".}",
  "return"]

def skel_Try : List String := [
  "defer func() { if x := recover",
  ".func{",
  "..if x := recover(); x != nil",
  "...panic(x)",
  ".}",
  "return r.vm.try(f)"]

def skel_rtry : List String := [
  "if ex := r.vm.try(f); ex != nil",
  ".return ex",
  "return nil"]

def skel_AssertFunction : List String := [
  "if obj, ok := v.(*Object); ok",
  ".if f, ok := obj.self.assertCallable(); ok",
  "..return func",
  "...func{",
  "....err = obj.runtime.runWrapped(func)",
  ".....func{",
  "......ret = f(FunctionCall{ This: this, Arguments: args, })",
  ".....}",
  "....return",
  "...}",
  "return nil, false"]

def skel_leave : List String := [
  "for ; len(r.jobQueue) > 0; ",
  ".range jobs"]

def skel_restoreStacks : List String := [
  "defer func() { if int(iterLen)",
  ".func{",
  ".}",
  "for i := len(iterTail) - 1; i >= 0; i--",
  ".if iter := iterTail[i].iter; iter != nil && closeIters",
  "..ex1 := vm.try(func)",
  "...func{",
  "....iter.returnIter()",
  "...}",
  "..if ex1 != nil && ex == nil",
  "...ex = ex1",
  "range refTail",
  "return"]

def skel_generatorObjectStep : List String := [
  "if ex != nil",
  ".panic(ex)",
  "switch resType",
  "case resultYield",
  ".return g.val.runtime.createIterResultObject(res, false)",
  "case resultYieldDelegate",
  ".return g.delegate(res)",
  "case resultYieldRes",
  ".return g.val.runtime.createIterResultObject(res, false)",
  "case resultYieldDelegateRes",
  ".return g.delegate(res)",
  "case resultNormal",
  ".return g.val.runtime.createIterResultObject(res, true)",
  "default",
  ".panic(g.val.runtime.NewTypeError(\"Runtime bug: unexpected result type: %v\", resType))"]

def skel_tryCallDelegated : List String := [
  "ex := g.val.runtime.try(func)",
  ".func{",
  "..ret, done = fn()",
  ".}",
  "if ex != nil",
  ".return g.step(g.gen.nextThrow(ex)), false",
  "return"]

def skel_generatorNextThrow : List String := [
  "ex := g.vm.handleThrow(v)",
  "if ex != nil",
  ".return nil, resultNormal, ex",
  "res, resType, ex := g.step()",
  "return res, resType, ex"]

def skel_asyncRunnerStep : List String := [
  "if done || ex != nil",
  ".if ex == nil",
  "..ar.promiseCap.resolve(res)",
  ".else",
  "..ar.promiseCap.reject(ex.val)",
  ".return"]

def skel_ExceptionError : List String := [
  "if e == nil",
  ".return \"<nil>\"",
  "if e.val != nil",
  ".b.WriteString(e.valueString())",
  "return b.String()"]

def skel_ExceptionString : List String := [
  "if e == nil",
  ".return \"<nil>\"",
  "if e.val != nil",
  ".b.WriteString(e.valueString())",
  "return b.String()"]

def skel_ExceptionValueString : List String := [
  "if !ok",
  ".return e.val.String()",
  "defer func() { if x := recover",
  ".func{",
  "..if x := recover(); x != nil",
  ".}",
  "if ex := obj.runtime.vm.try(func() { s = obj.String() }); ex != nil",
  "return"]

def skel_underscoreCall : List String := [
  "vm.pushTryFrame(tryPanicMarker, -1)",
  "defer vm.popTryFrame",
  "else",
  "for ; ; ",
  ".ex := vm.runTryInner()",
  ".if ex != nil",
  "..return nil, ex",
  ".if vm.halted()",
  "..break",
  "return vm.pop(), nil"]

def skel_RunProgram : List String := [
  ".func{",
  "..else",
  "..if x := recover(); x != nil",
  "...if ex := asUncatchableException(x); ex != nil",
  "....err = ex",
  "...else",
  "....panic(x)",
  ".}",
  "else",
  "ex := vm.runTry()",
  "if ex == nil",
  "else",
  ".err = ex",
  "else",
  "return"]

def skel_wrapReflectErr : List String := [
  "if last := out[len(out)-1]; last.Type() == reflectTypeError",
  ".if !last.IsNil()",
  "..err := last.Interface().(error)",
  "..if _, ok := err.(*Exception); ok",
  "...panic(err)",
  "..if isUncatchableException(err)",
  "...panic(err)",
  "..panic(r.NewGoError(err))"]

def skel_wrapJSFuncErr : List String := [
  "if err != nil",
  ".if numOut > 0 && typ.Out(numOut-1) == reflectTypeError",
  "..if ex, ok := err.(*Exception); ok",
  "...if exo, ok := ex.val.(*Object); ok",
  "....if v := exo.self.getStr(\"value\", nil); v != nil",
  ".....if v.ExportType().AssignableTo(reflectTypeError)",
  "......err = v.Export().(error)",
  "..results[numOut-1] = reflect.ValueOf(err).Convert(typ.Out(numOut - 1))",
  ".else",
  "..panic(err)"]

def skel_promiseReactionJob : List String := [
  "return func",
  ".func{",
  "..if reaction.handler == nil",
  "...handlerResult = argument",
  "...if reaction.typ == promiseReactionFulfill",
  "..else",
  "...ex := r.vm.try(func)",
  "....func{",
  ".....handlerResult = r.callJobCallback(reaction.handler, _undefined, argument)",
  "....}",
  "...if ex != nil",
  "....handlerResult = ex.val",
  "..if reaction.capability != nil",
  "...if fulfill",
  "....reaction.capability.resolve(handlerResult)",
  "...else",
  "....reaction.capability.reject(handlerResult)",
  ".}"]

def uncatchableMarkerReceivers : List String := [
  "*baseUncatchableException"]

def uncatchableTypes : List String := [
  "InterruptedError",
  "StackOverflowError"]

def recoverSites : List String := [
  "builtin_typedarrays.go:allocByteSlice",
  "runtime.go:*Exception.valueString",
  "runtime.go:compileAST",
  "runtime.go:*Runtime.RunProgram",
  "runtime.go:*Runtime.runWrapped",
  "runtime.go:tryFunc",
  "runtime.go:*Runtime.Try",
  "vm.go:*vm.handleThrow",
  "vm.go:*vm.try",
  "vm.go:*vm.runTryInner"]

/-- What handleThrow does with the top try frame, as the ordered if-chain of its loop body. c = tf.catchPos, f = tf.finallyPos (tryPanicMarker = -2). -/
def handleThrowDecision (c f : Int) (exNil : Bool) : String :=
  if (((c == (-1 : Int)) && (f == (-1 : Int))) || (exNil && (c != (-2 : Int)))) then "continue" else
  if (c == (-2 : Int)) then "break" else
  if decide (c ≥ (0 : Int)) then "caught" else
  if decide (f ≥ (0 : Int)) then "finally" else
  "next-iteration"

/-- `_throw.exec` reuses the own stack of an errorObject iff the condition extracted below holds (stackLen =
len(e.stack), allocated = e.stack != nil). -/
def throwReusesOwnStack (stackLen : Nat) (allocated : Bool) : Bool := decide (stackLen > 0)

/-- wrapReflectFunc, non-nil error result: what is panicked, by the ordered checks of the source. -/
def wrapReflectDecision (isException isUncatchable : Bool) : String :=
  if isException then "panic(err)" else
  if isUncatchable then "panic(err)" else
  "panic(r.NewGoError(err))"

/-- runWrapped's deferred recover: the error is returned iff asUncatchableException recognises the panic value, else re-panicked. -/
def runWrappedRecoverDecision (recognised : Bool) : String := if recognised then "err = ex" else "panic(x)"

/-- RunProgram's deferred recover: the error is returned iff asUncatchableException recognises the panic value, else re-panicked. -/
def runProgramRecoverDecision (recognised : Bool) : String := if recognised then "err = ex" else "panic(x)"

/-- asUncatchableException: the ordered cases of its type switch. -/
def asUncatchableDecision (isMarker isError chainUncatchable : Bool) : String :=
  if isMarker then "return v" else
  if isError then (if chainUncatchable then "return v" else "return nil") else
  "return nil"

/-- wrapJSFunc, callee failed with err: what the Go caller of the exported func gets. -/
def wrapJSFuncDecision (hasErrorResult isException valIsObject hasValue assignable : Bool) : String :=
  if hasErrorResult then (if isException && valIsObject && hasValue && assignable then "return v.Export().(error)" else "return err")
  else "panic(err)"

end GojaModel.C14.Expected

namespace GojaModel.C14.Tie
open GojaModel.C14

theorem tie_efvCases : @GojaModel.Generated.C14.efvCases = @Expected.efvCases := by rfl
theorem tie_efvTail : @GojaModel.Generated.C14.efvTail = @Expected.efvTail := by rfl
theorem tie_skel_asUncatchableException : @GojaModel.Generated.C14.skel_asUncatchableException = @Expected.skel_asUncatchableException := by rfl
theorem tie_skel_isUncatchableException : @GojaModel.Generated.C14.skel_isUncatchableException = @Expected.skel_isUncatchableException := by rfl
theorem tie_skel_handleThrow : @GojaModel.Generated.C14.skel_handleThrow = @Expected.skel_handleThrow := by rfl
theorem tie_skel_vmTry : @GojaModel.Generated.C14.skel_vmTry = @Expected.skel_vmTry := by rfl
theorem tie_skel_runTry : @GojaModel.Generated.C14.skel_runTry = @Expected.skel_runTry := by rfl
theorem tie_skel_runTryInner : @GojaModel.Generated.C14.skel_runTryInner = @Expected.skel_runTryInner := by rfl
theorem tie_skel_runWrapped : @GojaModel.Generated.C14.skel_runWrapped = @Expected.skel_runWrapped := by rfl
theorem tie_skel_NewGoError : @GojaModel.Generated.C14.skel_NewGoError = @Expected.skel_NewGoError := by rfl
theorem tie_skel_ExceptionUnwrap : @GojaModel.Generated.C14.skel_ExceptionUnwrap = @Expected.skel_ExceptionUnwrap := by rfl
theorem tie_skel_InterruptedUnwrap : @GojaModel.Generated.C14.skel_InterruptedUnwrap = @Expected.skel_InterruptedUnwrap := by rfl
theorem tie_skel_throwExec : @GojaModel.Generated.C14.skel_throwExec = @Expected.skel_throwExec := by rfl
theorem tie_skel_call : @GojaModel.Generated.C14.skel_call = @Expected.skel_call := by rfl
theorem tie_skel_ForOf : @GojaModel.Generated.C14.skel_ForOf = @Expected.skel_ForOf := by rfl
theorem tie_skel_iterStep : @GojaModel.Generated.C14.skel_iterStep = @Expected.skel_iterStep := by rfl
theorem tie_skel_Try : @GojaModel.Generated.C14.skel_Try = @Expected.skel_Try := by rfl
theorem tie_skel_rtry : @GojaModel.Generated.C14.skel_rtry = @Expected.skel_rtry := by rfl
theorem tie_skel_AssertFunction : @GojaModel.Generated.C14.skel_AssertFunction = @Expected.skel_AssertFunction := by rfl
theorem tie_skel_leave : @GojaModel.Generated.C14.skel_leave = @Expected.skel_leave := by rfl
theorem tie_skel_restoreStacks : @GojaModel.Generated.C14.skel_restoreStacks = @Expected.skel_restoreStacks := by rfl
theorem tie_skel_generatorObjectStep : @GojaModel.Generated.C14.skel_generatorObjectStep = @Expected.skel_generatorObjectStep := by rfl
theorem tie_skel_tryCallDelegated : @GojaModel.Generated.C14.skel_tryCallDelegated = @Expected.skel_tryCallDelegated := by rfl
theorem tie_skel_generatorNextThrow : @GojaModel.Generated.C14.skel_generatorNextThrow = @Expected.skel_generatorNextThrow := by rfl
theorem tie_skel_asyncRunnerStep : @GojaModel.Generated.C14.skel_asyncRunnerStep = @Expected.skel_asyncRunnerStep := by rfl
theorem tie_skel_ExceptionError : @GojaModel.Generated.C14.skel_ExceptionError = @Expected.skel_ExceptionError := by rfl
theorem tie_skel_ExceptionString : @GojaModel.Generated.C14.skel_ExceptionString = @Expected.skel_ExceptionString := by rfl
theorem tie_skel_ExceptionValueString : @GojaModel.Generated.C14.skel_ExceptionValueString = @Expected.skel_ExceptionValueString := by rfl
theorem tie_skel_underscoreCall : @GojaModel.Generated.C14.skel_underscoreCall = @Expected.skel_underscoreCall := by rfl
theorem tie_skel_RunProgram : @GojaModel.Generated.C14.skel_RunProgram = @Expected.skel_RunProgram := by rfl
theorem tie_skel_wrapReflectErr : @GojaModel.Generated.C14.skel_wrapReflectErr = @Expected.skel_wrapReflectErr := by rfl
theorem tie_skel_wrapJSFuncErr : @GojaModel.Generated.C14.skel_wrapJSFuncErr = @Expected.skel_wrapJSFuncErr := by rfl
theorem tie_skel_promiseReactionJob : @GojaModel.Generated.C14.skel_promiseReactionJob = @Expected.skel_promiseReactionJob := by rfl
theorem tie_uncatchableMarkerReceivers : @GojaModel.Generated.C14.uncatchableMarkerReceivers = @Expected.uncatchableMarkerReceivers := by rfl
theorem tie_uncatchableTypes : @GojaModel.Generated.C14.uncatchableTypes = @Expected.uncatchableTypes := by rfl
theorem tie_recoverSites : @GojaModel.Generated.C14.recoverSites = @Expected.recoverSites := by rfl
theorem tie_handleThrowDecision : @GojaModel.Generated.C14.handleThrowDecision = @Expected.handleThrowDecision := by rfl
theorem tie_throwReusesOwnStack : @GojaModel.Generated.C14.throwReusesOwnStack = @Expected.throwReusesOwnStack := by rfl
theorem tie_wrapReflectDecision : @GojaModel.Generated.C14.wrapReflectDecision = @Expected.wrapReflectDecision := by rfl
theorem tie_runWrappedRecoverDecision : @GojaModel.Generated.C14.runWrappedRecoverDecision = @Expected.runWrappedRecoverDecision := by rfl
theorem tie_runProgramRecoverDecision : @GojaModel.Generated.C14.runProgramRecoverDecision = @Expected.runProgramRecoverDecision := by rfl
theorem tie_asUncatchableDecision : @GojaModel.Generated.C14.asUncatchableDecision = @Expected.asUncatchableDecision := by rfl
theorem tie_wrapJSFuncDecision : @GojaModel.Generated.C14.wrapJSFuncDecision = @Expected.wrapJSFuncDecision := by rfl

/-- A line is in a skeleton because it stands at position `i`: only that literal is compared, with itself. -/
theorem contains_of_getElem? {l : List String} {s : String} (i : Nat) (h : l[i]? = some s) : l.contains s = true :=
  List.contains_iff_mem.mpr (List.mem_of_getElem? h)

/-- For each case of exceptionFromValue's type switch (recognised by its exact normalised text): a representative
panic value of that dynamic type and what the model's `exceptionFromValue .thrower` must return for it. -/
def interpCase : String × List String → Option (Pv × Option Exc)
  | ("*Object", ["ex = &Exception{ val: x1, }", "if er, ok := x1.self.(*errorObject); ok { ex.stack = er.stack }"]) =>
    some (.val (.errObj 1 .error), some ⟨.errObj 1 .error, .creation⟩)           -- errorObject: its own stack
  | ("Value", ["ex = &Exception{ val: x1, }"]) =>
    some (.val (.prim 1), some ⟨.prim 1, .thrower⟩)                            -- stack captured now
  | ("*Exception", ["ex = x1"]) =>
    some (.exc ⟨.obj 1, .rethrow 3⟩, some ⟨.obj 1, .rethrow 3⟩)          -- the same exception
  | ("typeError", ["ex = &Exception{ val: vm.r.NewTypeError(string(x1)), }"]) =>
    some (.sentinel .typeE, some ⟨.freshErr .typeError .thrower, .thrower⟩)
  | ("referenceError", ["ex = &Exception{ val: vm.r.newError(vm.r.getReferenceError(), string(x1)), }"]) =>
    some (.sentinel .refE, some ⟨.freshErr .referenceError .thrower, .thrower⟩)
  | ("rangeError", ["ex = &Exception{ val: vm.r.newError(vm.r.getRangeError(), string(x1)), }"]) =>
    some (.sentinel .rangeE, some ⟨.freshErr .rangeError .thrower, .thrower⟩)
  | ("syntaxError", ["ex = &Exception{ val: vm.r.newError(vm.r.getSyntaxError(), string(x1)), }"]) =>
    some (.sentinel .syntaxE, some ⟨.freshErr .syntaxError .thrower, .thrower⟩)
  | ("default", ["return nil"]) => some (.goErr (.plain 1), none)
  | _ => none

def caseAgrees (c : String × List String) : Bool :=
  match interpCase c with
  | some (x, r) => exceptionFromValue .thrower x == r
  | none => false

/-- Every regenerated case is one the model knows, and the model computes what the case body says. -/
theorem tie_efv_model : GojaModel.Generated.C14.efvCases.all caseAgrees = true := by decide +kernel

/-- The case list covers exactly the model's `Pv` constructors (val twice: *Object and Value). -/
theorem tie_efv_names : GojaModel.Generated.C14.efvCases.map (·.1) =
    ["*Object", "Value", "*Exception", "typeError", "referenceError", "rangeError", "syntaxError", "default"] := by
  rw [tie_efvCases]; rfl

/-- The non-object Value case also captures (plain objects fall in the *Object case without an own stack). -/
theorem tie_efv_plain_object : exceptionFromValue .thrower (.val (.obj 1)) = some ⟨.obj 1, .thrower⟩ := by decide

def markerOfType : String → Option GoErr
  | "InterruptedError" => some (.interrupted 0)
  | "StackOverflowError" => some (.stackOverflow 0)
  | _ => none

/-- The uncatchable marker is carried by exactly the model's marker constructors. -/
theorem tie_uncatchable_types :
    GojaModel.Generated.C14.uncatchableTypes.all
      (fun t => match markerOfType t with | some e => e.isMarker && e.isUncatchable | none => false) = true ∧
    GojaModel.Generated.C14.uncatchableTypes.length = 2 := by decide +kernel

/-- asUncatchableException on representatives: marker type, error wrapping a marker, join around a marker
(recognised since fix cbcbe34: errors.As descends into Unwrap() []error), plain error, non-error. -/
theorem tie_asUncatchable_model :
    asUncatchableException (.goErr (.stackOverflow 1)) = some (.go (.stackOverflow 1)) ∧
    asUncatchableException (.goErr (.wrap 2 (.interrupted 1))) = some (.go (.wrap 2 (.interrupted 1))) ∧
    asUncatchableException (.goErr (.join 2 (.interrupted 1) (.plain 3))) =
      some (.go (.join 2 (.interrupted 1) (.plain 3))) ∧
    asUncatchableException (.goErr (.plain 1)) = none ∧
    asUncatchableException (.other 1) = none := by decide

/-- handleThrow closes open iterators exactly when the panic value is a JS exception (`ex != nil`): the model's
`ji` frame logs the iterator's return() only in that case. -/
theorem tie_handleThrow_closeIters :
    GojaModel.Generated.C14.skel_handleThrow.contains "._ = vm._restoreStacks(tf.iterLen, tf.refLen, ex != nil)" = true ∧
    GojaModel.Generated.C14.skel_restoreStacks.contains ".if iter := iterTail[i].iter; iter != nil && closeIters" = true ∧
    (applyFrame 3 .ji true (.panic (.exc ⟨.obj 1, .thrower⟩) .thrower)).2 = [⟨3, .iterReturn⟩] ∧
    (applyFrame 3 .ji true (.panic (.goErr (.interrupted 1)) .thrower)).2 = [] :=
  ⟨contains_of_getElem? 11 rfl, contains_of_getElem? 4 rfl, rfl, rfl⟩

/-- the classifier is `errors.As` (whole wrap tree), not an errors.Unwrap loop -/
theorem tie_isUncatchable_is_errorsAs :
    GojaModel.Generated.C14.skel_isUncatchableException = ["return errors.As(e, &u)"] :=
  tie_skel_isUncatchableException

/-- Error() and String() stringify through the guarded valueString() (vm.try + deferred recover): the model's
`errorPanics` is constantly false. -/
theorem tie_error_method_guarded :
    GojaModel.Generated.C14.skel_ExceptionError.contains ".b.WriteString(e.valueString())" = true ∧
    GojaModel.Generated.C14.skel_ExceptionString.contains ".b.WriteString(e.valueString())" = true ∧
    GojaModel.Generated.C14.skel_ExceptionValueString.contains "..if x := recover(); x != nil" = true ∧
    GojaModel.Generated.C14.skel_ExceptionValueString.contains "if ex := obj.runtime.vm.try(func() { s = obj.String() }); ex != nil" = true ∧
    (∀ ex : Exc, ex.errorPanics = false) :=
  ⟨contains_of_getElem? 3 rfl, contains_of_getElem? 3 rfl, contains_of_getElem? 4 rfl, contains_of_getElem? 6 rfl,
    fun _ => rfl⟩

/-- Runtime.ForOf closes the iterator GUARDED after the step callback threw (fix 51964d9): the model's `fot` frame
lets the original exception through; the pre-fix frame (`fotPrefix`) did not. -/
theorem tie_forOf_return_guarded :
    GojaModel.Generated.C14.skel_ForOf.contains "..._ = r.vm.try(iter.returnIter)" = true ∧
    (applyFrame 2 .fot false (.panic (.exc ⟨.obj 1, .thrower⟩) .thrower)) =
      (.panic (.exc ⟨.obj 1, .thrower⟩) .other, [⟨2, .iterReturn⟩]) ∧
    (fotPrefix 2 false (.panic (.exc ⟨.obj 1, .thrower⟩) .thrower)).1 =
      .panic (.exc ⟨.freshErr .error .other, .other⟩) .other :=
  ⟨contains_of_getElem? 9 rfl, rfl, rfl⟩

/-- `_throw.exec` reuses an Error object's own stack only if it is NON-EMPTY (`len(e.stack) > 0`, not `!= nil`):
the model's `throwExec` captures at the throw site for a host-made Error object (own stack empty), which the trial
change `seeded/C14-m4` (`e.stack != nil`) gets wrong. -/
theorem tie_throw_reuses_nonempty_stack_only :
    GojaModel.Generated.C14.skel_throwExec.contains "..if len(e.stack) > 0" = true ∧
    throwExec .thrower (.goError 1 (.plain 1)) = ⟨.goError 1 (.plain 1), .thrower⟩ ∧
    throwExec .thrower (.errObj 1 .error) = ⟨.errObj 1 .error, .creation⟩ ∧
    exceptionFromValue .other (.val (.goError 1 (.plain 1))) = some ⟨.goError 1 (.plain 1), .empty⟩ :=
  ⟨contains_of_getElem? 3 rfl, rfl, rfl, rfl⟩

/-- yield*: the inner generator's exception is re-thrown inside the delegating generator (`nextThrow`). -/
theorem tie_yield_star_rethrows_inside :
    GojaModel.Generated.C14.skel_tryCallDelegated.contains ".return g.step(g.gen.nextThrow(ex)), false" = true ∧
    (applyFrame 1 .jyf true (.panic (.exc ⟨.obj 1, .thrower⟩) .thrower)) =
      (.panic (.exc ⟨.obj 1, .thrower⟩) .other, [⟨1, .fin⟩]) :=
  ⟨contains_of_getElem? 5 rfl, rfl⟩

/-- The model's try frame for Go's (catchPos, finallyPos). -/
def encTF (c f : Int) : TF := if c == -2 then .marker else .js (decide (c ≥ 0)) (decide (f ≥ 0))

/-- What the model's handleThrowLoop does with a one-frame try stack, in the vocabulary of the Go if-chain. -/
def modelDecision (tf : TF) (exNil : Bool) : String :=
  match handleThrowLoop (if exNil then none else some ⟨.obj 0, .other⟩) (.other 0) [tf] with
  | .caught _ _ => "caught"
  | .toFinally _ _ => "finally"
  | .returned _ (_ :: _) => "break"
  | .repanic _ (_ :: _) => "break"
  | .returned _ [] => "continue"
  | .repanic _ [] => "continue"

/-- For EVERY try frame (catchPos ∈ {marker} ∪ [-1, ∞), finallyPos ∈ [-1, ∞), marker frames have no finally) and both
kinds of panic value, the decision function regenerated from vm.handleThrow's source equals the model's. -/
theorem tie_handleThrow_decision (c f : Int) (n : Bool) (hc : c ≥ -2) (hf : f ≥ -1) (hm : c = -2 → f = -1) :
    GojaModel.Generated.C14.handleThrowDecision c f n = modelDecision (encTF c f) n := by
  have h1 : c = -2 ∨ c = -1 ∨ c ≥ 0 := by omega
  have h2 : f = -1 ∨ f ≥ 0 := by omega
  rcases h1 with rfl | rfl | h1
  · have := hm rfl; subst this
    cases n <;> simp [GojaModel.Generated.C14.handleThrowDecision, modelDecision, encTF, handleThrowLoop]
  · rcases h2 with rfl | h2
    · cases n <;> simp [GojaModel.Generated.C14.handleThrowDecision, modelDecision, encTF, handleThrowLoop]
    · have hf1 : f ≠ -1 := by omega
      cases n <;> simp [GojaModel.Generated.C14.handleThrowDecision, modelDecision, encTF, handleThrowLoop, hf1, h2]
  · have hc1 : c ≠ -1 := by omega
    have hc2 : c ≠ -2 := by omega
    rcases h2 with rfl | h2
    · cases n <;> simp [GojaModel.Generated.C14.handleThrowDecision, modelDecision, encTF, handleThrowLoop, hc1, hc2, h1]
    · cases n <;> simp [GojaModel.Generated.C14.handleThrowDecision, modelDecision, encTF, handleThrowLoop, hc1, hc2, h1, h2]

/-- `_throw.exec` reuses an errorObject's own stack exactly when the model's `throwExec` does (non-empty). -/
theorem tie_throw_reuse_decision :
    (∀ len alloc, GojaModel.Generated.C14.throwReusesOwnStack len alloc = decide (len > 0)) ∧
    (∀ site v s, v.ownStack = some s → s ≠ .empty → (throwExec site v).top = s) ∧
    (∀ site v, v.ownStack = some .empty → (throwExec site v).top = site) := by
  refine ⟨fun _ _ => rfl, ?_, ?_⟩
  · intro site v s h hs; cases s <;> first | exact absurd rfl hs | simp only [throwExec, h]
  · intro site v h; simp [throwExec, h]

/-- What the model's `wrapReflectErr` panics with, in the vocabulary of the regenerated decision function. -/
def reflectOutcome : Flow → String
  | .panic (.exc _) _ => "panic(err)"
  | .panic (.goErr _) _ => "panic(err)"
  | .panic (.val (.freshGoError _)) _ => "panic(r.NewGoError(err))"
  | _ => "?"

/-- wrapReflectFunc's regenerated decision function equals the model's `wrapReflectErr` on EVERY error value. -/
theorem tie_wrapReflect_decision (ev : ErrVal) :
    reflectOutcome (wrapReflectErr (some ev)) =
      GojaModel.Generated.C14.wrapReflectDecision
        (match ev with | .exc _ => true | .go _ => false)
        (match ev with | .exc _ => false | .go e => e.isUncatchable) := by
  cases ev with
  | exc ex => simp [wrapReflectErr, reflectOutcome, GojaModel.Generated.C14.wrapReflectDecision]
  | go e =>
    by_cases h : e.isUncatchable = true <;>
      simp [wrapReflectErr, reflectOutcome, GojaModel.Generated.C14.wrapReflectDecision, h]

/-- The deferred recovers of runWrapped and RunProgram, regenerated as functions, equal the model's
`recoverUncatchable` on EVERY panic value. -/
theorem tie_recover_decision (x : Pv) (o : StackTop) :
    (match recoverUncatchable x o with | .err _ => "err = ex" | .panic _ _ => "panic(x)" | .ok => "?") =
      GojaModel.Generated.C14.runWrappedRecoverDecision (asUncatchableException x).isSome ∧
    GojaModel.Generated.C14.runWrappedRecoverDecision = GojaModel.Generated.C14.runProgramRecoverDecision := by
  refine ⟨?_, rfl⟩
  cases h : asUncatchableException x <;>
    simp [recoverUncatchable, h, GojaModel.Generated.C14.runWrappedRecoverDecision]

/-- wrapJSFunc's regenerated decision function equals the model's `wrapJSFuncE` / `wrapJSFuncN` on EVERY error the
Callable can return.  In the model's value abstraction "ex.val is an object with an own `value` whose export type is
assignable to error" is `ex.val.goErrValue.isSome`. -/
theorem tie_wrapJSFunc_decision (ev : ErrVal) :
    (match wrapJSFuncE (.err ev), ev with
      | .err (.go _), .exc _ => "return v.Export().(error)"
      | .err _, _ => "return err"
      | _, _ => "?") =
      GojaModel.Generated.C14.wrapJSFuncDecision true
        (match ev with | .exc _ => true | .go _ => false)
        (match ev with | .exc ex => ex.val.goErrValue.isSome | .go _ => false)
        (match ev with | .exc ex => ex.val.goErrValue.isSome | .go _ => false)
        (match ev with | .exc ex => ex.val.goErrValue.isSome | .go _ => false) ∧
    (match wrapJSFuncN (.err ev) with | .panic x _ => x == ev.toPv | _ => false) = true ∧
    GojaModel.Generated.C14.wrapJSFuncDecision false true true true true = "panic(err)" := by
  refine ⟨?_, ?_, rfl⟩
  · cases ev with
    | go e => simp [wrapJSFuncE, GojaModel.Generated.C14.wrapJSFuncDecision]
    | exc ex =>
      cases h : ex.val.goErrValue <;>
        simp [wrapJSFuncE, h, GojaModel.Generated.C14.wrapJSFuncDecision]
  · cases ev <;> simp [wrapJSFuncN]

/-- asUncatchableException's regenerated type switch equals the model's `asUncatchableException` on EVERY panic value:
a Value, a sentinel string or any non-error is never recognised; an error is recognised iff its dynamic type carries the
marker or errors.As finds a marker in its wrap tree (for an *Exception: through Exception.Unwrap). -/
theorem tie_asUncatchable_decision (x : Pv) :
    (asUncatchableException x).isSome =
      (GojaModel.Generated.C14.asUncatchableDecision
        (match x with | .goErr e => e.isMarker | _ => false)
        (match x with | .goErr _ => true | .exc _ => true | _ => false)
        (match x with | .goErr e => e.isUncatchable | .exc ex => excIsUncatchable ex | _ => false) == "return v") := by
  cases x with
  | goErr e =>
    by_cases hm : e.isMarker = true
    · have hu : e.isUncatchable = true := by cases e <;> simp_all [GoErr.isMarker, GoErr.isUncatchable]
      simp [asUncatchableException, GojaModel.Generated.C14.asUncatchableDecision, hm, hu]
    · by_cases hu : e.isUncatchable = true <;>
        simp [asUncatchableException, GojaModel.Generated.C14.asUncatchableDecision, hm, hu]
  | exc ex =>
    by_cases hu : excIsUncatchable ex = true <;>
      simp [asUncatchableException, GojaModel.Generated.C14.asUncatchableDecision, hu]
  | val v => simp [asUncatchableException, GojaModel.Generated.C14.asUncatchableDecision]
  | sentinel k => simp [asUncatchableException, GojaModel.Generated.C14.asUncatchableDecision]
  | other n => simp [asUncatchableException, GojaModel.Generated.C14.asUncatchableDecision]

/-- An uncatchable error raised while handleThrow closes iterators for a JS exception is unwound for by handleThrow
itself (deferred recover, only when `ex != nil`; fix 404e270) and vm.try in _restoreStacks re-panics it: the model's
`jiu` frame replaces the exception in flight by that error, and leaves an uncatchable / foreign panic alone. -/
theorem tie_handleThrow_unwinds_for_abort :
    GojaModel.Generated.C14.skel_handleThrow.contains "....ret = vm.handleThrow(x)" = true ∧
    GojaModel.Generated.C14.skel_restoreStacks.contains "..ex1 := vm.try(func)" = true ∧
    (applyFrame 1 .jiu true (.panic (.exc ⟨.obj 1, .thrower⟩) .thrower)) =
      (.panic (.goErr (.stackOverflow 8)) .other, [⟨1, .iterReturn⟩]) ∧
    (applyFrame 1 .jiu true (.panic (.other 42) .other)) = (.panic (.other 42) .other, []) :=
  ⟨contains_of_getElem? 5 rfl, contains_of_getElem? 5 rfl, rfl, rfl⟩

/-- generator.nextThrow raises the VALUE through handleThrow (→ exceptionFromValue) inside the resumed generator: the
model's `jgt` frame captures at the generator's yield unless the value is an Error object with an own stack. -/
theorem tie_generator_throw_raises_value :
    GojaModel.Generated.C14.skel_generatorNextThrow.contains "ex := g.vm.handleThrow(v)" = true ∧
    (applyFrame 2 .jgt true (.panic (.exc ⟨.prim 1, .thrower⟩) .thrower)).1 =
      .panic (.exc ⟨.prim 1, .genYield 2⟩) (.genYield 2) ∧
    (applyFrame 2 .jgt true (.panic (.exc ⟨.goError 1 (.plain 1), .thrower⟩) .thrower)).1 =
      .panic (.exc ⟨.goError 1 (.plain 1), .empty⟩) (.genYield 2) :=
  ⟨contains_of_getElem? 0 rfl, rfl, rfl⟩

end GojaModel.C14.Tie
