/-
  A flow that is about one uncatchable Go error: in flight as a panic, or pending as the interrupt whose flag stays set
  while native code runs (`Flow.goErr?`).  That a Go caller is handed that error; that script reacts to nothing of it
  (`Quiet`); and that a native frame that drops the error value cannot drop a live interrupt (`Live`).
-/
import GojaModel.C14.Unclassifiable

namespace GojaModel.C14

def Flow.goErr? : Flow → Option GoErr
  | .panic (.goErr e) _ => some e
  | .pending e => some e
  | _ => none

theorem runWrapped_goErr {fl : Flow} {e : GoErr} (h : fl.goErr? = some e) (he : e.isUncatchable = true) :
    runWrapped fl = .err (.go e) := by
  cases fl with
  | normal => cases h
  | pending e0 => cases h; exact recoverUncatchable_of_uncatchable he .other
  | panic x o =>
    cases x <;> cases h
    rw [runWrapped_of_none rfl, recoverUncatchable_of_uncatchable he]

theorem applyFrame_pending (idx : Nat) (f : Frame) (cjs : Bool) (e : GoErr) :
    applyFrame idx f cjs (.pending e) =
      if f.pureNative then (.pending e, []) else applyFrame idx f cjs (.panic (.goErr e) .other) := rfl

theorem GoErr.liveInterrupt_spec {e i : GoErr} (h : e.liveInterrupt = some i) :
    i.liveInterrupt = some i ∧ i.isUncatchable = true ∧ e.isUncatchable = true := by
  induction e with
  | interruptedE j f _ => cases h; exact ⟨rfl, rfl, rfl⟩
  | wrap j inner ih => exact ih h
  | join j a b iha ihb =>
    simp only [GoErr.liveInterrupt] at h
    cases ha : a.liveInterrupt with
    | some x =>
      rw [ha] at h; cases h
      exact ⟨(iha ha).1, (iha ha).2.1, (congrArg (· || b.isUncatchable) (iha ha).2.2).trans (Bool.true_or _)⟩
    | none =>
      rw [ha] at h
      exact ⟨(ihb h).1, (ihb h).2.1, (congrArg (a.isUncatchable || ·) (ihb h).2.2).trans (Bool.or_true _)⟩
  | _ => cases h

theorem applyFrame_goErr (idx : Nat) (f : Frame) (cjs : Bool) {fl : Flow} {e : GoErr} (h : fl.goErr? = some e)
    (he : e.isUncatchable = true) :
    (∃ e', (applyFrame idx f cjs fl).1.goErr? = some e' ∧ (e' = e ∨ e' = .wrap 0 e)) ∧
        (applyFrame idx f cjs fl).2 = [] ∨
      applyFrame idx f cjs fl = (match e.liveInterrupt with | some i => .pending i | none => .normal, []) := by
  have inFlight : ∀ o, (∃ e', (applyFrame idx f cjs (.panic (.goErr e) o)).1.goErr? = some e' ∧
        (e' = e ∨ e' = .wrap 0 e)) ∧ (applyFrame idx f cjs (.panic (.goErr e) o)).2 = [] ∨
      applyFrame idx f cjs (.panic (.goErr e) o) =
        (match e.liveInterrupt with | some i => .pending i | none => .normal, []) := by
    intro o
    rcases applyFrame_uncatchable idx f cjs he o with ⟨e', o', h, h'⟩ | ⟨_, h⟩
    · exact Or.inl ⟨⟨e', by rw [h]; rfl, h'.imp_right And.right⟩, by rw [h]⟩
    · exact Or.inr h
  cases fl with
  | normal => cases h
  | pending e0 =>
    cases h
    rw [applyFrame_pending]
    split
    · exact Or.inl ⟨⟨e, rfl, Or.inl rfl⟩, rfl⟩
    · exact inFlight .other
  | panic x o =>
    cases x <;> cases h
    exact inFlight o

def Quiet (fl : Flow) : Prop := fl = .normal ∨ ∃ e, fl.goErr? = some e ∧ e.isUncatchable = true

theorem applyFrame_quiet (idx : Nat) (f : Frame) : Keeps Quiet (·.kind = .fin) idx f := by
  intro cjs fl hq
  rcases hq with rfl | ⟨e, h, he⟩
  · exact (applyFrame_keeps_normal idx f cjs _ rfl).imp_left Or.inl
  · rcases applyFrame_goErr idx f cjs h he with ⟨⟨e', h', he'⟩, hl⟩ | h'
    · refine ⟨Or.inr ⟨e', h', ?_⟩, by rw [hl]; exact fun l hl => nomatch hl⟩
      rcases he' with rfl | rfl <;> exact he
    · rw [h']
      refine ⟨?_, fun l hl => nomatch hl⟩
      cases hl : e.liveInterrupt with
      | none => exact Or.inl rfl
      | some i => exact Or.inr ⟨i, rfl, (GoErr.liveInterrupt_spec hl).2.1⟩

theorem hostRun_quiet (entry : Entry) (chain : List Frame) (p : Payload) (hp : Quiet p.flow) :
    ∀ l ∈ (hostRun entry chain p).log, l.kind = .fin :=
  hostRun_log_step entry chain p (fun f _ i => applyFrame_quiet i f) (fun _ h => h) hp

def Live (i : GoErr) (fl : Flow) : Prop := ∃ e, fl.goErr? = some e ∧ e.liveInterrupt = some i

theorem applyFrame_live (idx : Nat) (f : Frame) (i : GoErr) : Keeps (Live i) (fun _ => False) idx f := by
  intro cjs fl ⟨e, h, hi⟩
  rcases applyFrame_goErr idx f cjs h (GoErr.liveInterrupt_spec hi).2.2 with ⟨⟨e', h', he'⟩, hl⟩ | h'
  · refine ⟨⟨e', h', ?_⟩, by rw [hl]; exact fun l hl => nomatch hl⟩
    rcases he' with rfl | rfl <;> exact hi
  · rw [h', hi]
    exact ⟨⟨i, rfl, (GoErr.liveInterrupt_spec hi).1⟩, fun l hl => nomatch hl⟩

theorem hostRun_live (entry : Entry) (chain : List Frame) (p : Payload) {i : GoErr} (hp : Live i p.flow) :
    ∃ e', hostRun entry chain p = ⟨.err (.go e'), [], normalLogs (allSegs chain).dropLast⟩ ∧
      e'.liveInterrupt = some i := by
  obtain ⟨⟨e, h, hi⟩, c2⟩ := evalSeg_step (lastSeg chain) p.isJS (fun q _ j => applyFrame_live j q.2 i) hp
  rw [hostRun_eq, runWrapped_goErr h (GoErr.liveInterrupt_spec hi).2.2, viaJobs_go, finish_go,
    List.eq_nil_iff_forall_not_mem.mpr c2, List.append_nil]
  exact ⟨e, rfl, hi⟩

end GojaModel.C14
