/-
  What the recover sites (handleThrow at a marker frame, vm.try, __call, the JS frame) do with a panic value, stated
  once for each outcome of `exceptionFromValue`; that every call from Go into script (the Callable, RunProgram, the
  host's entry) is `runWrapped`; what a frame does when its callee returns normally; and the induction that lifts a
  per-frame invariant to a segment (`evalSeg_step`).
-/
import GojaModel.C14.Model

namespace GojaModel.C14

@[simp] theorem exceptionFromValue_exc (o : StackTop) (ex : Exc) : exceptionFromValue o (.exc ex) = some ex := rfl

section classified
variable {ex : Exc} {x : Pv} {o : StackTop} (h : exceptionFromValue o x = some ex)
include h

theorem handleThrow_marker_of_some : handleThrow o x [.marker] = .returned ex [.marker] := by
  simp only [handleThrow, h, handleThrowLoop]

theorem vmTry_of_some : vmTry (.panic x o) = .ex ex := by
  simp only [vmTry, handleThrow_marker_of_some h]

theorem jsCall_of_some : jsCall (.panic x o) = .panic (.exc ex) o := by
  simp only [jsCall, handleThrow_marker_of_some h]

theorem jsFrame_of_some (idx : Nat) (k : JsKind) :
    jsFrame idx k (.panic x o) =
      (if k.hasCatch then
        if k.rethrows then .panic (.exc (throwExec (.rethrow idx) ex.val)) (.rethrow idx) else .normal
       else .panic (.exc ex) o,
       (if k.hasCatch then [⟨idx, .caught ex.val⟩] else []) ++ (if k.hasFinally then [⟨idx, .fin⟩] else [])) := by
  cases k <;>
    simp [jsFrame, handleThrow, handleThrowLoop, h, JsKind.hasCatch, JsKind.hasFinally, JsKind.rethrows]

end classified

section unclassified
variable {x : Pv} {o : StackTop} (h : exceptionFromValue o x = none)
include h

theorem handleThrow_marker_of_none : handleThrow o x [.marker] = .repanic x [.marker] := by
  simp only [handleThrow, h, handleThrowLoop]

theorem vmTry_of_none : vmTry (.panic x o) = .panic x o := by
  simp only [vmTry, handleThrow_marker_of_none h]

theorem jsCall_of_none : jsCall (.panic x o) = .panic x o := by
  simp only [jsCall, handleThrow_marker_of_none h]

theorem runWrapped_of_none : runWrapped (.panic x o) = recoverUncatchable x o := by
  simp only [runWrapped, vmTry_of_none h]

theorem invoke_of_none (b : Bool) : invoke b (.panic x o) = .panic x o := by
  cases b
  · rfl
  · exact jsCall_of_none h

theorem jsFrame_of_none (idx : Nat) (k : JsKind) : jsFrame idx k (.panic x o) = (.panic x o, []) := by
  cases k <;> simp [jsFrame, handleThrow, handleThrowLoop, h, JsKind.hasCatch, JsKind.hasFinally]

theorem shim_of_none : shim (.panic x o) = .panic x o := congrArg Prod.fst (jsFrame_of_none h 0 .j0)

end unclassified

@[simp] theorem vmTry_exc (ex : Exc) (o : StackTop) : vmTry (.panic (.exc ex) o) = .ex ex := vmTry_of_some rfl

@[simp] theorem jsCall_exc (ex : Exc) (o : StackTop) : jsCall (.panic (.exc ex) o) = .panic (.exc ex) o :=
  jsCall_of_some rfl

@[simp] theorem vmTry_normal : vmTry .normal = .ok := rfl
@[simp] theorem jsCall_normal : jsCall .normal = .normal := rfl

/-- Classification is idempotent. -/
theorem vmTry_jsCall (fl : Flow) : vmTry (jsCall fl) = vmTry fl := by
  cases fl with
  | normal => rfl
  | pending e => exact vmTry_of_none rfl
  | panic x o =>
    cases h : exceptionFromValue o x with
    | none => rw [jsCall_of_none h]
    | some ex => rw [jsCall_of_some h, vmTry_of_some h, vmTry_exc]

theorem vmTry_invoke (b : Bool) (fl : Flow) : vmTry (invoke b fl) = vmTry fl := by
  cases b
  · rfl
  · exact vmTry_jsCall fl

theorem callable_eq (b : Bool) (fl : Flow) : callable b fl = runWrapped fl := by
  simp only [callable, runWrapped, vmTry_invoke]

theorem runProgram_eq_runWrapped (fl : Flow) : runProgram fl = runWrapped fl := by
  cases fl <;> rfl

theorem firstCall_eq (entry : Entry) (b : Bool) (fl : Flow) : firstCall entry b fl = runWrapped fl := by
  cases entry <;> simp only [firstCall, callable_eq, runProgram_eq_runWrapped]

theorem runWrapped_normal : runWrapped .normal = .ok := rfl

@[simp] theorem jsFrame_normal (idx : Nat) (k : JsKind) :
    jsFrame idx k .normal = (.normal, if k.hasFinally then [⟨idx, .fin⟩] else []) := rfl

theorem applyFrame_normal (idx : Nat) (f : Frame) (cjs : Bool) :
    (applyFrame idx f cjs .normal).1 = .normal ∧ ∀ l ∈ (applyFrame idx f cjs .normal).2, l = ⟨idx, .fin⟩ := by
  cases f with
  | js k | jgf | jyf =>   -- a finally block around the call (a JS function may have one, `jgf` / `jyf` do) runs
    simp [applyFrame, applyFrameCore]
  | _ =>   -- every other frame returns normally in its turn and logs nothing
    simp [applyFrame, applyFrameCore, callable_eq, runProgram_eq_runWrapped, runWrapped_normal, invoke, panicErr,
      returnErr, wrapReflectErr, wrapJSFuncE, wrapJSFuncN, shim, panicValue, returnWrapped]

def Keeps (P : Flow → Prop) (Q : LogE → Prop) (i : Nat) (f : Frame) : Prop :=
  ∀ cjs fl, P fl → P (applyFrame i f cjs fl).1 ∧ ∀ l ∈ (applyFrame i f cjs fl).2, Q l

theorem evalSeg_step {P : Flow → Prop} {Q : LogE → Prop} (s : Seg) (ijs : Bool) {fl : Flow}
    (step : ∀ q ∈ s, ∀ i, Keeps P Q i q.2) (h : P fl) : P (evalSeg s fl ijs).1 ∧ ∀ l ∈ (evalSeg s fl ijs).2, Q l := by
  induction s with
  | nil => exact ⟨h, fun l hl => nomatch hl⟩
  | cons hd tl ih =>
    obtain ⟨ih1, ih2⟩ := ih (fun q hq => step q (List.mem_cons_of_mem _ hq))
    obtain ⟨a1, a2⟩ := step hd (List.mem_cons_self ..) hd.1 (headIsJS tl ijs) _ ih1
    exact ⟨a1, fun l hl => (List.mem_append.mp hl).elim (ih2 l) (a2 l)⟩

theorem applyFrame_keeps_normal (idx : Nat) (f : Frame) : Keeps (· = .normal) (·.kind = .fin) idx f := by
  rintro cjs _ rfl
  exact ⟨(applyFrame_normal idx f cjs).1, fun l hl => by rw [(applyFrame_normal idx f cjs).2 l hl]⟩

theorem evalSeg_normal (s : Seg) (ijs : Bool) : (evalSeg s .normal ijs).1 = .normal :=
  (evalSeg_step s ijs (fun q _ i => applyFrame_keeps_normal i q.2) rfl).1

theorem evalSeg_normal_log (s : Seg) (ijs : Bool) : ∀ l ∈ (evalSeg s .normal ijs).2, l.kind = .fin :=
  (evalSeg_step s ijs (fun q _ i => applyFrame_keeps_normal i q.2) rfl).2

end GojaModel.C14
