/-
  Panic values that no recover site classifies as a JS exception: foreign panics, which nothing on the way handles, and
  uncatchable errors, which the deferred recovers of the entry points turn into returned errors.  No catch block,
  finally block or iterator return() observes either.
-/
import GojaModel.C14.Run

namespace GojaModel.C14

def Pv.unclassifiable : Pv → Bool
  | .goErr _ | .other _ => true
  | _ => false

theorem exceptionFromValue_unclassifiable {x : Pv} (h : x.unclassifiable = true) (o : StackTop) :
    exceptionFromValue o x = none := by
  cases x <;> simp_all [Pv.unclassifiable, exceptionFromValue]

theorem recoverUncatchable_of_uncatchable {e : GoErr} (he : e.isUncatchable = true) (o : StackTop) :
    recoverUncatchable (.goErr e) o = .err (.go e) := by
  simp only [recoverUncatchable, asUncatchableException, he, if_true]

theorem recover_unclassifiable {x : Pv} (h : x.unclassifiable = true) (o : StackTop) :
    (asUncatchableException x = none ∧ recoverUncatchable x o = .panic x o) ∨
      ∃ e, x = .goErr e ∧ e.isUncatchable = true ∧ recoverUncatchable x o = .err (.go e) := by
  cases x <;> simp [Pv.unclassifiable] at h
  · rename_i e
    by_cases he : e.isUncatchable = true
    · right; exact ⟨e, rfl, he, recoverUncatchable_of_uncatchable he o⟩
    · left; simp [recoverUncatchable, asUncatchableException, he]
  · left; exact ⟨rfl, rfl⟩

theorem finish_go (entry : Entry) (e : GoErr) : finish entry (.err (.go e)) = .err (.go e) := by
  cases entry <;> rfl

/-- Strip the `fmt.Errorf("rfw: %w", ·)` layers made in flight (they carry the reserved id 0). -/
def GoErr.peel : GoErr → GoErr
  | .wrap 0 i => peel i
  | e => e

def Pv.peel : Pv → Pv
  | .goErr e => .goErr e.peel
  | x => x

theorem GoErr.peel_wrap0 (e : GoErr) : (GoErr.wrap 0 e).peel = e.peel := by
  simp [GoErr.peel]

theorem GoErr.isUncatchable_peel (e : GoErr) : e.peel.isUncatchable = e.isUncatchable := by
  induction e with
  | wrap i inner ih =>
    cases i with
    | zero => exact ih
    | succ n => rfl
  | _ => rfl

/-- `x'` is `x`, possibly wrapped in flight if `x` is an uncatchable error (never if it is a foreign panic). -/
def Unc (x x' : Pv) : Prop :=
  x'.unclassifiable = true ∧ x'.peel = x.peel ∧ (asUncatchableException x = none → x' = x)

theorem Unc.refl {x : Pv} (h : x.unclassifiable = true) : Unc x x := ⟨h, rfl, fun _ => rfl⟩

theorem Unc.trans {x y z : Pv} (h1 : Unc x y) (h2 : Unc y z) : Unc x z := by
  refine ⟨h2.1, by rw [h2.2.1, h1.2.1], ?_⟩
  intro hn
  have hy := h1.2.2 hn
  subst hy
  exact h2.2.2 hn

theorem Unc.goErr {e : GoErr} {x' : Pv} (h : Unc (.goErr e) x') : ∃ e', x' = .goErr e' ∧ e'.peel = e.peel := by
  cases x' with
  | goErr e' => exact ⟨e', rfl, Pv.goErr.inj h.2.1⟩
  | _ => exact nomatch h.2.1

theorem applyFrame_foreign (idx : Nat) (f : Frame) (cjs : Bool) {x : Pv} (h : x.unclassifiable = true)
    (hf : asUncatchableException x = none) (o : StackTop) :
    applyFrame idx f cjs (.panic x o) = (.panic x o, []) := by
  have hn := exceptionFromValue_unclassifiable h o
  have hw : runWrapped (.panic x o) = .panic x o := by simp only [runWrapped_of_none hn, recoverUncatchable, hf]
  -- by recover site: `runWrapped` (the Callable, RunProgram) re-panics `x` (`hw`); vm.try, __call and handleThrow at a
  -- marker or JS try frame re-panic it (the `_of_none` lemmas); the native code around them has no arm for a panic
  cases f <;>
    simp only [applyFrame, applyFrameCore, callable_eq, runProgram_eq_runWrapped, hw, invoke_of_none hn,
      shim_of_none hn, vmTry_of_none hn, jsCall_of_none hn, handleThrow_marker_of_none hn, jsFrame_of_none hn, panicErr,
      returnErr, wrapJSFuncE, wrapJSFuncN, panicValue, returnWrapped]

theorem applyFrame_uncatchable (idx : Nat) (f : Frame) (cjs : Bool) {e : GoErr} (he : e.isUncatchable = true)
    (o : StackTop) :
    (∃ e' o', applyFrame idx f cjs (.panic (.goErr e) o) = (.panic (.goErr e') o', []) ∧
      (e' = e ∨ f.rewraps = true ∧ e' = .wrap 0 e)) ∨
    f = .fcs ∧ applyFrame idx f cjs (.panic (.goErr e) o) =
      (match e.liveInterrupt with | some i => .pending i | none => .normal, []) := by
  have hn : ∀ o, exceptionFromValue o (.goErr e) = none := fun _ => rfl
  have hc : runWrapped (.panic (.goErr e) o) = .err (.go e) := by
    rw [runWrapped_of_none rfl, recoverUncatchable_of_uncatchable he]
  have hw : wrapReflectErr (some (.go e)) = .panic (.goErr e) .other := by simp only [wrapReflectErr, he, if_true]
  cases f with
  | fcs => exact Or.inr ⟨rfl, by simp only [applyFrame, applyFrameCore, callable_eq, hc]; rfl⟩   -- drops the error value
  | rfw =>   -- returns `fmt.Errorf("%w", e)`, which the reflect wrapper panics with, being uncatchable too
    refine Or.inl ⟨.wrap 0 e, .other, ?_, Or.inr ⟨rfl, rfl⟩⟩
    simp only [applyFrame, applyFrameCore, callable_eq, hc, returnWrapped, wrapErr, wrapReflectErr, GoErr.isUncatchable,
      he, if_true]
  | _ =>   -- hands `e` itself on: re-panicked by every recover site (the `_of_none` lemmas), returned by `runWrapped`
           -- (`hc`: the Callable, RunProgram) and panicked again (`panicErr` …, `hw` where the reflect wrapper gets it)
    refine Or.inl ⟨e, ?_⟩
    simp only [applyFrame, applyFrameCore, callable_eq, runProgram_eq_runWrapped, hc, hw, invoke_of_none (hn _),
      shim_of_none (hn _), vmTry_of_none (hn _), jsCall_of_none (hn _), handleThrow_marker_of_none (hn _),
      jsFrame_of_none (hn _), panicErr, returnErr, wrapJSFuncE, wrapJSFuncN, panicValue, ErrVal.toPv]
    exact ⟨_, rfl, Or.inl trivial⟩

theorem applyFrame_unclassifiable (idx : Nat) (f : Frame) (cjs : Bool) {x : Pv}
    (h : x.unclassifiable = true) (hd : f.dropsErrors = false ∨ asUncatchableException x = none) (o : StackTop) :
    ∃ x' o', applyFrame idx f cjs (.panic x o) = (.panic x' o', []) ∧ Unc x x' ∧ (f.rewraps = false → x' = x) := by
  rcases recover_unclassifiable h o with ⟨hf, _⟩ | ⟨e, rfl, he, _⟩
  · exact ⟨x, o, applyFrame_foreign idx f cjs h hf o, Unc.refl h, fun _ => rfl⟩
  · rcases applyFrame_uncatchable idx f cjs he o with ⟨e', o', ha, rfl | ⟨hrw, rfl⟩⟩ | ⟨rfl, _⟩
    · exact ⟨_, o', ha, Unc.refl rfl, fun _ => rfl⟩
    · refine ⟨_, o', ha, ⟨rfl, by simp [Pv.peel, GoErr.peel], ?_⟩, fun hf => by rw [hrw] at hf; cases hf⟩
      intro hn; simp [asUncatchableException, he] at hn
    · rcases hd with hd | hd
      · cases hd
      · simp [asUncatchableException, he] at hd

theorem evalSeg_unclassifiable (s : Seg) (ijs : Bool) {x : Pv} (h : x.unclassifiable = true)
    (hdr : (∀ q ∈ s, q.2.dropsErrors = false) ∨ asUncatchableException x = none) (o : StackTop) :
    ∃ x' o', evalSeg s (.panic x o) ijs = (.panic x' o', []) ∧ Unc x x' ∧
      ((∀ q ∈ s, q.2.rewraps = false) → x' = x) := by
  induction s with
  | nil => exact ⟨x, o, rfl, Unc.refl h, fun _ => rfl⟩
  | cons hd tl ih =>
    obtain ⟨i, f⟩ := hd
    obtain ⟨x1, o1, h1, u1, r1⟩ := ih (hdr.imp_left fun h' q hq => h' q (List.mem_cons_of_mem _ hq))
    obtain ⟨x2, o2, h2, u2, r2⟩ := applyFrame_unclassifiable i f (headIsJS tl ijs) u1.1
      (hdr.imp (fun h' => h' (i, f) (List.mem_cons_self ..)) (fun h' => by rw [u1.2.2 h']; exact h')) o1
    refine ⟨x2, o2, by simp [evalSeg, h1, h2], u1.trans u2, ?_⟩
    intro hq
    rw [r2 (hq (i, f) (List.mem_cons_self ..)), r1 (fun q hq' => hq q (List.mem_cons_of_mem _ hq'))]

def escapeHost (x : Pv) : HostOutcome := (recoverUncatchable x .other).toHost

theorem recover_toHost (x : Pv) (o : StackTop) : (recoverUncatchable x o).toHost = escapeHost x := by
  simp only [escapeHost, recoverUncatchable]
  cases asUncatchableException x <;> rfl

theorem escapeHost_of_uncatchable {e : GoErr} (he : e.isUncatchable = true) : escapeHost (.goErr e) = .err (.go e) := by
  rw [escapeHost, recoverUncatchable_of_uncatchable he]; rfl

theorem escapeHost_of_foreign {x : Pv} (hf : asUncatchableException x = none) : escapeHost x = .panic x := by
  simp only [escapeHost, recoverUncatchable, hf]; rfl

theorem hostRun_unclassifiable (entry : Entry) (chain : List Frame) (p : Payload) {x : Pv} {o : StackTop}
    (hp : p.flow = .panic x o) (h : x.unclassifiable = true)
    (hd : (∀ f ∈ chain, f.dropsErrors = false) ∨ asUncatchableException x = none) :
    ∃ x', Unc x x' ∧ ((∀ f ∈ chain, f.rewraps = false) → x' = x) ∧
      (hostRun entry chain p).host = escapeHost x' ∧ (hostRun entry chain p).rej = [] ∧
      (hostRun entry chain p).log = normalLogs (allSegs chain).dropLast := by
  obtain ⟨x', o', he, hu, hrw⟩ := evalSeg_unclassifiable (lastSeg chain) p.isJS h (hd.imp_left lastSeg_frames) o
  have hn := exceptionFromValue_unclassifiable hu.1 o'
  refine ⟨x', hu, fun hq => hrw (lastSeg_frames hq), ?_⟩
  rw [hostRun_eq, hp, he, runWrapped_of_none hn, viaJobs_recover hn, ← recover_toHost x' o']
  -- the deferred recover returns an uncatchable error and re-panics a foreign value; no entry changes either
  refine ⟨?_, rfl, List.append_nil _⟩
  rcases recover_unclassifiable hu.1 o' with ⟨_, hr⟩ | ⟨e, rfl, _, hr⟩ <;> rw [hr] <;> cases entry <;> rfl

end GojaModel.C14
