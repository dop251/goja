/-
  C14 — property theorems about the ErrFlow model (GojaModel.C14.Model).  Every theorem quantifies over ALL
  chains (any depth, any mix of the frame kinds, any host entry).

  Frame predicates used in hypotheses (Model.lean):
    swallows  a catch without rethrow, an async function (its promise is rejected with the value), a native frame that
              drops the error it got, or a for…of whose iterator close is aborted by an uncatchable error
    unwraps   an ExportTo'd func with an error result (wrapJSFunc hands the Go caller the Go error in `.value`)
    rewraps   a native frame that returns fmt.Errorf("%w", err) (the value becomes a GoError around a wrapper)
    rethrows  a catch block with `throw e`, a native frame doing panic(ex.Value()), or g.throw(e) into a suspended
              generator (new *Exception, same value)
    isSplit   the rest of the chain runs as a promise job (Promise.then / `await`)
    dropsErrors
              a native frame that drops the error the Callable returned, an uncatchable one too (`fcs`)
-/
import GojaModel.C14.CarryGo

namespace GojaModel.C14

/-- A catchable payload `v` (thrown by script, or panicked as a Value by a native function) reaches the host as
an *Exception whose Value() is `v` itself — or, if the chain passes through promise jobs, as the rejection
reason `v` — unless a frame swallowed it; every catch block on the way received `v` itself.  Native frames that
re-raise with `panic(ex.Value())`, generator bodies, for-of loops with open iterators are all allowed.
`hu`: the only mechanisms that replace the value are wrapJSFunc's unwrapping of a Go error stored in `v.value`
(covered by `goerror_unwrap_thrown`) and a native frame that wraps the error (`hrw`; covered by
`identity_reachable`). -/
theorem identity_preserved (entry : Entry) (chain : List Frame) (p : Payload) (v : JsVal)
    (hp : p = .jsThrow v ∨ p = .natPanicVal v)
    (hsw : ∀ f ∈ chain, f.swallows = false) (hrw : ∀ f ∈ chain, f.rewraps = false)
    (hu : v.goErrValue = none ∨ (entry ≠ .exported ∧ ∀ f ∈ chain, f.unwraps = false)) :
    (hasSplit chain = false → ∃ ex, (hostRun entry chain p).host = .err (.exc ex) ∧ ex.val = v ∧
        (hostRun entry chain p).rej = []) ∧
    (hasSplit chain = true → (hostRun entry chain p).host = .ok ∧ (hostRun entry chain p).rej = [v]) ∧
    (∀ l ∈ (hostRun entry chain p).log, ∀ w, l.kind = .caught w → w = v) := by
  obtain ⟨t, hr⟩ := (carries_of_payload hp).raises
  obtain ⟨h1, h2⟩ := hostRun_raises entry chain p hr (chain_passes hsw hrw (hu.imp_right And.right))
    (hu.imp_right And.left)
  refine ⟨fun hn => ⟨_, (h1 hn).1, rfl, (h1 hn).2⟩, h2, ?_⟩
  intro l hl w hw
  rcases hostRun_sees_value entry chain p ⟨t, hr⟩ hrw (hu.imp_right And.right) l hl with h | h | h | h <;>
    rw [h] at hw <;> cases hw
  rfl

/-- Even when some frame swallows the exception: what every catch block received, and the reason every async
function's promise was rejected with, is `v` itself. -/
theorem catch_receives_identity (entry : Entry) (chain : List Frame) (p : Payload) (v : JsVal)
    (hp : p = .jsThrow v ∨ p = .natPanicVal v) (hrw : ∀ f ∈ chain, f.rewraps = false)
    (hu : v.goErrValue = none ∨ ∀ f ∈ chain, f.unwraps = false) :
    ∀ l ∈ (hostRun entry chain p).log, ∀ w, (l.kind = .caught w ∨ l.kind = .asyncReject w) → w = v := by
  intro l hl w hw
  rcases hostRun_sees_value entry chain p (carries_of_payload hp).raises hrw hu l hl with h | h | h | h <;>
    rcases hw with hw | hw <;> rw [h] at hw <;> cases hw <;> rfl

/-- What the host receives (no job frame), whatever ends the propagation on the way — a swallowing catch, an async
function, a native frame that drops the error, or an UNCATCHABLE error raised while handleThrow closes an iterator for
the exception (it replaces the exception in flight; fix 404e270 makes handleThrow unwind for it): nothing, the thrown
value `v`, or an uncatchable error — never a different catchable value. -/
theorem identity_or_abort (entry : Entry) (chain : List Frame) (p : Payload) (v : JsVal)
    (hp : p = .jsThrow v ∨ p = .natPanicVal v) (hrw : ∀ f ∈ chain, f.rewraps = false)
    (hu : v.goErrValue = none ∨ (entry ≠ .exported ∧ ∀ f ∈ chain, f.unwraps = false))
    (hn : hasSplit chain = false) :
    (hostRun entry chain p).host = .ok ∨
    (∃ ex, (hostRun entry chain p).host = .err (.exc ex) ∧ ex.val = v) ∨
    (∃ e, (hostRun entry chain p).host = .err (.go e) ∧ e.isUncatchable = true) :=
  hostRun_identity_or_abort entry chain p (carries_of_payload hp).raises hrw hu

/-- Regression lemma about `Runtime.ForOf` BEFORE fix 51964d9 (`iter.returnIter()` unguarded after the step
callback threw): an exception thrown by the iterator's return() replaced the original one.  (The `fot` frame of
the model is an ordinary non-swallowing frame of `identity_preserved`.) -/
theorem forof_return_replaces_exception_prefix_witness :
    ¬ (∀ (v : JsVal) (ex : Exc) (o : StackTop),
        (fotPrefix 0 true (.panic (.exc ⟨v, .thrower⟩) .thrower)).1 = .panic (.exc ex) o → ex.val = v) := by
  intro h
  have := h (.obj 1) ⟨.freshErr .error .other, .other⟩ .other (by decide)
  revert this
  decide

/-- Native frames that wrap the error (`fmt.Errorf("%w", err)`) allowed, any number, mixed with everything else:
the host's error still reaches, by repeated errors.Unwrap, an *Exception whose Value() is `v`. -/
theorem identity_reachable (entry : Entry) (chain : List Frame) (p : Payload) (v : JsVal)
    (hp : p = .jsThrow v ∨ p = .natPanicVal v)
    (hsw : ∀ f ∈ chain, f.swallows = false)
    (hu : v.goErrValue = none ∨ (entry ≠ .exported ∧ ∀ f ∈ chain, f.unwraps = false))
    (hn : hasSplit chain = false) :
    ∃ ev, (hostRun entry chain p).host = .err ev ∧ v ∈ ev.excVals :=
  hostRun_reaches entry chain p (carries_of_payload hp).raises hsw hu hn

/-- A Go error `e` returned by a reflect-wrapped native function: for every chain without a swallowing frame the
host is handed an error that carries a Go error `e'` which reaches `e` by errors.Unwrap (`e' = e` unless a native
frame wrapped it on the way): errors.Is that holds for `e` holds for the host's error; without wrapping frames
errors.Is / errors.As give exactly what they give on `e`.  Through promise jobs: the rejection reason is a GoError
holding `e'` (or the host gets `e'` raw if it is uncatchable). -/
theorem goerror_unwrap (entry : Entry) (chain : List Frame) (e : GoErr)
    (hsw : ∀ f ∈ chain, f.swallows = false) :
    ∃ e', e'.chainHas e = true ∧ ((∀ f ∈ chain, f.rewraps = false) → e' = e) ∧
    (hasSplit chain = false → ∃ ev, (hostRun entry chain (.natReturn (some e))).host = .err ev ∧
        ev.carried = some e' ∧ (∀ t, e.errIs t = true → ev.errIs t = true) ∧
        ((∀ f ∈ chain, f.rewraps = false) → (∀ t, ev.errIs t = e.errIs t) ∧ ev.errAs = e.errAs)) ∧
    (hasSplit chain = true →
      ((hostRun entry chain (.natReturn (some e))).host = .ok ∧
        ∃ w, (hostRun entry chain (.natReturn (some e))).rej = [w] ∧ w.goErrValue = some e' ∧
          w.isGoErrorInstance = true) ∨
      ((hostRun entry chain (.natReturn (some e))).host = .err (.go e') ∧ e'.isUncatchable = true)) := by
  obtain ⟨e', t1, r1, h1, h2⟩ := hostRun_carriesGo entry chain (.natReturn (some e)) (carriesGo_wrapReflectErr e) hsw
  refine ⟨e', t1, r1, fun hn => ?_, h2⟩
  obtain ⟨ev, a, b⟩ := h1 hn
  exact ⟨ev, a, b, (carried_is_as b t1).1, fun hrw => (carried_is_as b t1).2 (r1 hrw)⟩

/-- The same for a GoError object thrown by script (`throw g`) or panicked by a native function, with any number
of ExportTo'd funcs / wrapping frames on the way: the wrapper object may be replaced, the Go error stays
reachable. -/
theorem goerror_unwrap_thrown (entry : Entry) (chain : List Frame) (p : Payload) (g : JsVal) (e : GoErr)
    (hp : p = .jsThrow g ∨ p = .natPanicVal g)
    (hg : g.goErrValue = some e ∧ g.isGoErrorInstance = true)
    (hsw : ∀ f ∈ chain, f.swallows = false) (hn : hasSplit chain = false) :
    ∃ ev, (hostRun entry chain p).host = .err ev ∧ (∀ t, e.errIs t = true → ev.errIs t = true) ∧
      ((∀ f ∈ chain, f.rewraps = false) → ev.carried = some e ∧ (∀ t, ev.errIs t = e.errIs t) ∧ ev.errAs = e.errAs) := by
  obtain ⟨t, hr⟩ := (carries_of_payload hp).raises
  obtain ⟨e', t1, r1, h1, _⟩ := hostRun_carriesGo entry chain p (Or.inr ⟨⟨g, t⟩, hg, hr⟩) hsw
  obtain ⟨ev, a, b⟩ := h1 hn
  exact ⟨ev, a, (carried_is_as b t1).1, fun hrw => ⟨r1 hrw ▸ b, (carried_is_as b t1).2 (r1 hrw)⟩⟩

/-- The classifier (`errors.As` over the whole wrap tree, joins included) equals the spec-level notion "some error
in the wrap tree is an Interrupted/StackOverflow error". -/
theorem isUncatchable_eq_spec (e : GoErr) : e.isUncatchable = e.containsUncatchable := by
  -- the two functions have the same equations
  induction e with
  | wrap _ _ ih => exact ih
  | join _ a b iha ihb =>
    show (a.isUncatchable || b.isUncatchable) = (a.containsUncatchable || b.containsUncatchable)
    rw [iha, ihb]
  | wrapExcGo _ k _ _ ih => exact congrArg (k.isGoErrorInstance && ·) ih
  | _ => rfl

/-- An uncatchable error is returned to the host as that very error (wrapped once more per wrapping native frame
it passed: `e'.peel = e.peel`; exactly `e` if the chain has no such frame), and NO catch block, NO finally block
and NO iterator return() method of the chain observes it: the script-visible log is exactly what the segments
before the throwing one log when they complete normally (nothing at all without a job frame). -/
theorem uncatchable_invisible (entry : Entry) (chain : List Frame) (p : Payload) (e : GoErr) (o : StackTop)
    (hp : p.flow = .panic (.goErr e) o) (he : e.isUncatchable = true)
    (hd : ∀ f ∈ chain, f.dropsErrors = false) :
    ∃ e', (hostRun entry chain p).host = .err (.go e') ∧ e'.peel = e.peel ∧ e'.isUncatchable = true ∧
    ((∀ f ∈ chain, f.rewraps = false) → e' = e) ∧
    (hostRun entry chain p).rej = [] ∧
    (hostRun entry chain p).log = normalLogs (allSegs chain).dropLast ∧
    (∀ l ∈ (hostRun entry chain p).log, l.kind = .fin) ∧
    (hasSplit chain = false → (hostRun entry chain p).log = []) := by
  obtain ⟨x', hu, hr, h1, h2, h3⟩ := hostRun_unclassifiable entry chain p hp (x := .goErr e) rfl (Or.inl hd)
  obtain ⟨e', rfl, hpe⟩ := hu.goErr
  have hue : e'.isUncatchable = true := by
    rw [← GoErr.isUncatchable_peel, hpe, GoErr.isUncatchable_peel]; exact he
  rw [h1, h2, h3, escapeHost_of_uncatchable hue]
  exact ⟨e', rfl, hpe, hue, fun hrw => Pv.goErr.inj (hr hrw), rfl, rfl, normalLogs_fin _, normalLogs_of_noSplit⟩

/-- Instances of `uncatchable_invisible`: a real interrupt, a real stack overflow. -/
theorem uncatchable_invisible_interrupt (entry : Entry) (chain : List Frame) (id : Nat) (iface : GoErr)
    (hd : ∀ f ∈ chain, f.dropsErrors = false) :
    (∃ e', (hostRun entry chain (.jsInterrupt id iface)).host = .err (.go e') ∧
      e'.peel = (GoErr.interruptedE id iface).peel) ∧
    (∀ l ∈ (hostRun entry chain (.jsInterrupt id iface)).log, l.kind = .fin) ∧
    (hasSplit chain = false → (hostRun entry chain (.jsInterrupt id iface)).log = []) := by
  obtain ⟨e', a, b, _, _, _, _, c, d⟩ := uncatchable_invisible entry chain (.jsInterrupt id iface)
    (.interruptedE id iface) .thrower rfl rfl hd
  exact ⟨⟨e', a, b⟩, c, d⟩

theorem uncatchable_invisible_stackOverflow (entry : Entry) (chain : List Frame) (id : Nat)
    (hd : ∀ f ∈ chain, f.dropsErrors = false) :
    (∃ e', (hostRun entry chain (.jsStackOverflow id)).host = .err (.go e') ∧
      e'.peel = (GoErr.stackOverflow id).peel) ∧
    (∀ l ∈ (hostRun entry chain (.jsStackOverflow id)).log, l.kind = .fin) ∧
    (hasSplit chain = false → (hostRun entry chain (.jsStackOverflow id)).log = []) := by
  obtain ⟨e', a, b, _, _, _, _, c, d⟩ := uncatchable_invisible entry chain (.jsStackOverflow id)
    (.stackOverflow id) .thrower rfl rfl hd
  exact ⟨⟨e', a, b⟩, c, d⟩

/-- UNCONDITIONAL (every chain, every entry, also through native frames that drop the error they got): no catch block,
no async rejection and no iterator return() ever observes an uncatchable error; the only log entries are finally
blocks of frames that completed NORMALLY (before a job frame, or outside a native frame that dropped the error). -/
theorem uncatchable_never_observed (entry : Entry) (chain : List Frame) (p : Payload) (e : GoErr) (o : StackTop)
    (hp : p.flow = .panic (.goErr e) o) (he : e.isUncatchable = true) :
    ∀ l ∈ (hostRun entry chain p).log, l.kind = .fin :=
  hostRun_quiet entry chain p (Or.inr ⟨e, by rw [hp]; rfl, he⟩)

/-- The interrupt flag is sticky: even a native frame that DROPS the error it got from the Callable (and any
number of them, anywhere in the chain) cannot hide a real interrupt from a host that entered through RunProgram:
vm.run raises it again at the next script instruction.  The host gets an error carrying the *InterruptedError, and
no catch, finally or iterator return() of the chain runs. -/
theorem interrupt_cannot_be_swallowed (chain : List Frame) (id : Nat) (iface : GoErr)
    (hn : hasSplit chain = false) :
    ∃ e', (hostRun .runString chain (.jsInterrupt id iface)).host = .err (.go e') ∧
      e'.liveInterrupt = some (.interruptedE id iface) ∧
      (hostRun .runString chain (.jsInterrupt id iface)).log = [] ∧
      (hostRun .runString chain (.jsInterrupt id iface)).rej = [] := by
  obtain ⟨e', h, hl⟩ := hostRun_live .runString chain (.jsInterrupt id iface) ⟨_, rfl, rfl⟩
  exact ⟨e', by rw [h], hl, by rw [h]; exact normalLogs_of_noSplit hn, by rw [h]⟩

/-- Full strength, spec-level: ANY Go error whose wrap tree (fmt.Errorf %w, errors.Join, a wrapped *Exception
holding a GoError) contains an Interrupted/StackOverflow error, returned or panicked by a native function, is
handed to the host as an error and is observed by no catch / finally / iterator return() of the chain. -/
theorem uncatchable_invisible_spec (entry : Entry) (chain : List Frame) (e : GoErr) (p : Payload)
    (hp : p = .natReturn (some e) ∨ p = .natPanicErr e) (hc : e.containsUncatchable = true)
    (hd : ∀ f ∈ chain, f.dropsErrors = false) :
    (∃ e', (hostRun entry chain p).host = .err (.go e') ∧ e'.peel = e.peel) ∧
    (∀ l ∈ (hostRun entry chain p).log, l.kind = .fin) ∧
    (hasSplit chain = false → (hostRun entry chain p).log = []) := by
  have he : e.isUncatchable = true := by rw [isUncatchable_eq_spec]; exact hc
  have hf : p.flow = .panic (.goErr e) .other := by
    rcases hp with rfl | rfl <;> simp [Payload.flow, wrapReflectErr, he]
  obtain ⟨e', a, b, _, _, _, _, c, d⟩ := uncatchable_invisible entry chain p e .other hf he hd
  exact ⟨⟨e', a, b⟩, c, d⟩

/-- Regression lemma about the classifier BEFORE fix cbcbe34 (an `errors.Unwrap` loop): it missed an uncatchable
error inside `errors.Join`, which therefore became a catchable GoError. -/
theorem uncatchable_join_observed_prefix_witness :
    ¬ (∀ e : GoErr, e.containsUncatchable = true → e.isUncatchableUnwrapLoop = true) := by
  intro h
  have := h (.join 7 (.interrupted 5) (.plain 1)) (by decide)
  revert this
  decide

/-- A Go panic value that is neither a goja Value / *Exception / sentinel nor an uncatchable error (an arbitrary
Go value, a plain Go error, a runtime.Error) reaches the host as that very panic value, through every chain and
every entry (no frame wraps or replaces it — also not a native frame that swallows the ERRORS it gets: a panic is
not an error value); no catch, finally or iterator return() of the chain runs for it. -/
theorem foreign_panic_passthrough (entry : Entry) (chain : List Frame) (p : Payload) (x : Pv)
    (hp : (∃ id, p = .natPanicOther id ∧ x = .other id) ∨
          (∃ e, p = .natPanicErr e ∧ x = .goErr e ∧ e.isUncatchable = false) ∨
          (∃ id, p = .natRuntimeErr id ∧ x = .goErr (.runtimeErr id))) :
    (hostRun entry chain p).host = .panic x ∧ (hostRun entry chain p).rej = [] ∧
    (∀ l ∈ (hostRun entry chain p).log, l.kind = .fin) ∧
    (hasSplit chain = false → (hostRun entry chain p).log = []) := by
  obtain ⟨hx, hf, ha⟩ : x.unclassifiable = true ∧ p.flow = .panic x .other ∧ asUncatchableException x = none := by
    rcases hp with ⟨id, rfl, rfl⟩ | ⟨e, rfl, rfl, he⟩ | ⟨id, rfl, rfl⟩
    · exact ⟨rfl, rfl, rfl⟩
    · exact ⟨rfl, rfl, by simp [asUncatchableException, he]⟩
    · exact ⟨rfl, rfl, rfl⟩
  obtain ⟨x', hu, _, h1, h2, h3⟩ := hostRun_unclassifiable entry chain p hf hx (Or.inr ha)
  cases hu.2.2 ha
  rw [h1, h2, h3, escapeHost_of_foreign ha]
  exact ⟨rfl, rfl, normalLogs_fin _, normalLogs_of_noSplit⟩

/-- The classifier used at every recover site (exceptionFromValue, then asUncatchableException) is a total
three-way partition of panic values, characterised by the dynamic type alone. -/
theorem classify_total (o : StackTop) (x : Pv) :
    ((∃ ex, classify o x = .catchable ex) ↔ (∃ v, x = .val v) ∨ (∃ ex, x = .exc ex) ∨ (∃ k, x = .sentinel k)) ∧
    ((∃ ev, classify o x = .uncatchable ev) ↔ ∃ e, x = .goErr e ∧ e.isUncatchable = true) ∧
    (classify o x = .foreign ↔ (∃ e, x = .goErr e ∧ e.isUncatchable = false) ∨ ∃ id, x = .other id) := by
  cases x with
  | val v => simp [classify, exceptionFromValue]
  | exc ex => simp [classify, exceptionFromValue]
  | sentinel k => simp [classify, exceptionFromValue]
  | other id => simp [classify, exceptionFromValue, asUncatchableException]
  | goErr e =>
    by_cases he : e.isUncatchable = true <;>
      simp [classify, exceptionFromValue, asUncatchableException, he]

/-- An *Exception is always classified as catchable with that very exception (same value, same stack), and a
Value as an exception with that very value: classification never replaces an identity. -/
theorem classify_preserves_identity (o : StackTop) :
    (∀ ex, classify o (.exc ex) = .catchable ex) ∧
    (∀ v, ∃ ex, classify o (.val v) = .catchable ex ∧ ex.val = v) := by
  constructor
  · intro ex; simp [classify, exceptionFromValue]
  · intro v; simp [classify, exceptionFromValue]

/-- All recover sites agree: RunProgram's (runTry + deferred recover) and runWrapped's (vm.try + deferred
recover) compute the same function, and a `__call` boundary in front of vm.try changes nothing. -/
theorem recover_sites_agree (fl : Flow) (a b : Bool) :
    runProgram fl = runWrapped fl ∧ callable a fl = callable b fl ∧ vmTry (jsCall fl) = vmTry fl :=
  ⟨runProgram_eq_runWrapped fl, (callable_eq a fl).trans (callable_eq b fl).symm, vmTry_jsCall fl⟩

/-- `lastRaise` (defined frame by frame) is what its name says: the top is decided by the OUTERMOST frame that
raises the value anew — a catch block with `throw e` (top = that `throw e` statement, unless `v` is an Error
object with a non-empty own stack), a native `panic(ex.Value())` (top = native position / the Error object's own
stack) or `g.throw(e)` into a suspended generator (top = the generator's yield / the own stack) — and by the innermost
raise (`init`) if there is no such frame. -/
theorem lastRaise_outermost (v : JsVal) (init : StackTop) (s : Seg) :
    lastRaise v init s =
      match s.find? (fun q => q.2.rethrows) with
      | none => init
      | some (i, .fcv) => nativeTop v
      | some (i, .jgt) => genThrowTop i v
      | some (i, _) => (throwExec (.rethrow i) v).top := by
  induction s with
  | nil => rfl
  | cons hd tl ih =>
    obtain ⟨i, f⟩ := hd
    rw [lastRaise, stepTop_eq, ih, List.find?_cons]
    cases hr : f.rethrows with
    | false => rfl
    | true =>
      simp only [if_true]
      cases f <;> first | rfl | cases hr

/-- FULL STRENGTH (top frame, which is what the property text speaks of): for `throw v` by script and for a native
`panic(v)`, through EVERY chain that lets the value through (no swallowing / wrapping frame; ExportTo'd funcs only
if `v` holds no Go error), whatever frames re-throw it on the way, the host's *Exception has value `v` and its
stack top is the LAST RAISE SITE: the outermost re-raising frame's site, else the thrower's site. -/
theorem stack_top_eq_last_raise_site (entry : Entry) (chain : List Frame) (p : Payload) (v : JsVal)
    (hsw : ∀ f ∈ chain, f.swallows = false) (hrw : ∀ f ∈ chain, f.rewraps = false)
    (hu : v.goErrValue = none ∨ (entry ≠ .exported ∧ ∀ f ∈ chain, f.unwraps = false))
    (hn : hasSplit chain = false) :
    (p = .jsThrow v → (hostRun entry chain p).host =
        .err (.exc ⟨v, lastRaise v (throwExec .thrower v).top (indexed 0 chain)⟩)) ∧
    (p = .natPanicVal v → (hostRun entry chain p).host =
        .err (.exc ⟨v, lastRaise v (nativeTop v) (indexed 0 chain)⟩)) := by
  have hc := chain_passes hsw hrw (hu.imp_right And.right)
  constructor
  · rintro rfl
    exact ((hostRun_raises entry chain (.jsThrow v) (t := (throwExec .thrower v).top) rfl hc
      (hu.imp_right And.left)).1 hn).1
  · rintro rfl
    exact ((hostRun_raises entry chain (.natPanicVal v) (raises_val_other v) hc (hu.imp_right And.left)).1 hn).1

/-- Script `throw v`, nobody re-raises: the top is the `throw` statement — for every value that is not an Error
object carrying a non-empty creation stack; in particular for an Error / GoError object the HOST created outside any
running code (own stack allocated but empty: what the trial change `seeded/C14-m4`, `e.stack != nil`, gets wrong). -/
theorem stack_top_is_throw_site (entry : Entry) (chain : List Frame) (v : JsVal)
    (hv : v.ownStack = none ∨ v.ownStack = some .empty)
    (hsw : ∀ f ∈ chain, f.swallows = false) (hr : ∀ f ∈ chain, f.rethrows = false)
    (hrw : ∀ f ∈ chain, f.rewraps = false)
    (hu : v.goErrValue = none ∨ (entry ≠ .exported ∧ ∀ f ∈ chain, f.unwraps = false))
    (hn : hasSplit chain = false) :
    (hostRun entry chain (.jsThrow v)).host = .err (.exc ⟨v, .thrower⟩) := by
  have hfind : (indexed 0 chain).find? (fun q => q.2.rethrows) = none :=
    List.find?_eq_none.mpr fun q hq => by simp [hr _ (indexed_mem chain 0 q hq)]
  rw [(stack_top_eq_last_raise_site entry chain _ v hsw hrw hu hn).1 rfl, lastRaise_outermost, hfind,
    throwExec_top_of_noStack hv]

/-- Re-thrown values: if the outermost re-raising frame is a catch block with `throw e` at frame index `i`, the top is
that `throw e` statement (same class of values). -/
theorem stack_top_is_outermost_rethrow_site (entry : Entry) (chain : List Frame) (p : Payload) (v : JsVal)
    (i : Nat) (k : JsKind)
    (hp : p = .jsThrow v ∨ p = .natPanicVal v)
    (hv : v.ownStack = none ∨ v.ownStack = some .empty)
    (hfind : (indexed 0 chain).find? (fun q => q.2.rethrows) = some (i, .js k))
    (hsw : ∀ f ∈ chain, f.swallows = false) (hrw : ∀ f ∈ chain, f.rewraps = false)
    (hu : v.goErrValue = none ∨ (entry ≠ .exported ∧ ∀ f ∈ chain, f.unwraps = false))
    (hn : hasSplit chain = false) :
    (hostRun entry chain p).host = .err (.exc ⟨v, .rethrow i⟩) := by
  obtain ⟨h1, h2⟩ := stack_top_eq_last_raise_site entry chain p v hsw hrw hu hn
  rcases hp with rfl | rfl
  · rw [h1 rfl, lastRaise_outermost, hfind]; simp [throwExec_top_of_noStack hv]
  · rw [h2 rfl, lastRaise_outermost, hfind]; simp [throwExec_top_of_noStack hv]

/-- Error objects made by running code carry their creation stack: whoever re-throws them (script `throw e`, native
`panic(ex.Value())`) and however often, the top stays the Error object's own stack top. -/
theorem stack_top_of_error_object_is_own_stack (entry : Entry) (chain : List Frame) (p : Payload) (v : JsVal)
    (s : StackTop) (hp : p = .jsThrow v ∨ p = .natPanicVal v)
    (hv : v.ownStack = some s) (hs : s ≠ .empty)
    (hsw : ∀ f ∈ chain, f.swallows = false) (hrw : ∀ f ∈ chain, f.rewraps = false)
    (hu : v.goErrValue = none ∨ (entry ≠ .exported ∧ ∀ f ∈ chain, f.unwraps = false))
    (hn : hasSplit chain = false) :
    (hostRun entry chain p).host = .err (.exc ⟨v, s⟩) := by
  have hte := throwExec_top_of_ownStack hv hs
  have hnt : nativeTop v = s := by simp [nativeTop, hv]
  have hgt : ∀ i, genThrowTop i v = s := by intro i; simp [genThrowTop, hv]
  have hl : ∀ sg : Seg, lastRaise v s sg = s := by
    intro sg
    rw [lastRaise_outermost]
    split <;> simp only [hnt, hgt, hte]
  obtain ⟨h1, h2⟩ := stack_top_eq_last_raise_site entry chain p v hsw hrw hu hn
  rcases hp with rfl | rfl
  · rw [h1 rfl, hte, hl]
  · rw [h2 rfl, hnt, hl]

/-- Native panics: `panic(v)` in a native function, nobody re-raises by `throw e`: the top is a native position
(class `other`) for a value without own stack (`hr`: the only re-raising frames are native `panic(ex.Value())` ones). -/
theorem stack_top_of_native_panic (entry : Entry) (chain : List Frame) (v : JsVal)
    (hv : v.ownStack = none)
    (hsw : ∀ f ∈ chain, f.swallows = false) (hrw : ∀ f ∈ chain, f.rewraps = false)
    (hr : ∀ f ∈ chain, f.rethrows = true → f = .fcv)
    (hu : v.goErrValue = none ∨ (entry ≠ .exported ∧ ∀ f ∈ chain, f.unwraps = false))
    (hn : hasSplit chain = false) :
    (hostRun entry chain (.natPanicVal v)).host = .err (.exc ⟨v, .other⟩) := by
  have hnt : nativeTop v = .other := by simp [nativeTop, hv]
  rw [(stack_top_eq_last_raise_site entry chain _ v hsw hrw hu hn).2 rfl, hnt, lastRaise_outermost]
  cases hfind : (indexed 0 chain).find? (fun q => q.2.rethrows) with
  | none => rfl
  | some q =>
    obtain ⟨i, f⟩ := q
    have hf := List.find?_some hfind
    cases hr f (indexed_mem chain 0 _ (List.mem_of_find?_eq_some hfind)) hf
    rw [hnt]

/-- Through Runtime.Try the host gets the very *Exception: value `v`, top = last raise site (every chain that lets the
value through, no job frame). -/
theorem try_entry_exception (chain : List Frame) (p : Payload) (v : JsVal)
    (hsw : ∀ f ∈ chain, f.swallows = false) (hrw : ∀ f ∈ chain, f.rewraps = false)
    (hu : v.goErrValue = none ∨ ∀ f ∈ chain, f.unwraps = false)
    (hn : hasSplit chain = false) :
    (p = .jsThrow v → (hostRunTry chain p).host =
        .err (.exc ⟨v, lastRaise v (throwExec .thrower v).top (indexed 0 chain)⟩)) ∧
    (p = .natPanicVal v → (hostRunTry chain p).host =
        .err (.exc ⟨v, lastRaise v (nativeTop v) (indexed 0 chain)⟩)) := by
  have hc := chain_passes hsw hrw hu
  constructor
  · rintro rfl
    exact hostRunTry_raises chain (.jsThrow v) (t := (throwExec .thrower v).top) rfl hc hn
  · rintro rfl
    exact hostRunTry_raises chain (.natPanicVal v) (raises_val_other v) hc hn

/-- Runtime.Try does not turn uncatchable errors into returned errors: an interrupt / stack overflow (and every
foreign panic) leaves Try as a Go panic carrying that error; no catch, finally or iterator return() ran. -/
theorem try_entry_repanics_unclassifiable (chain : List Frame) (p : Payload) (x : Pv) (o : StackTop)
    (hp : p.flow = .panic x o) (hx : x.unclassifiable = true)
    (hd : (∀ f ∈ chain, f.dropsErrors = false) ∨ asUncatchableException x = none)
    (hn : hasSplit chain = false) :
    ∃ x', Unc x x' ∧ (hostRunTry chain p).host = .panic x' ∧ (hostRunTry chain p).log = [] := by
  obtain ⟨x', o', he, hu, _⟩ := evalSeg_unclassifiable (indexed 0 chain) p.isJS hx (hd.imp_left indexed_frames) o
  rw [hostRunTry_of_noSplit p hn, hp, he, vmTry_of_none (exceptionFromValue_unclassifiable hu.1 o')]
  exact ⟨x', hu, rfl, rfl⟩

/-- Runtime.Try never drains the job queue: with a job frame in the chain the synchronous part completes normally, the
host gets no error, and nothing of the deferred part runs (no rejection, only the finally blocks of the synchronous
part). -/
theorem try_entry_does_not_run_jobs (chain : List Frame) (p : Payload) (hs : hasSplit chain = true) :
    (hostRunTry chain p).host = .ok ∧ (hostRunTry chain p).rej = [] ∧
    ∀ l ∈ (hostRunTry chain p).log, l.kind = .fin := by
  rw [hostRunTry_of_split p hs]
  exact ⟨rfl, rfl, evalSeg_normal_log _ true⟩

/-- Full strength: whatever was thrown (also an object whose string conversion throws), through every chain and
entry, calling `.Error()` on the error the host was handed returns — no Go panic leaves the method. -/
theorem error_method_total (entry : Entry) (chain : List Frame) (p : Payload) (ev : ErrVal)
    (h : (hostRun entry chain p).host = .err ev) : ev.errorPanics = false := by
  cases ev <;> rfl

/-- Regression lemma about `Error()` BEFORE fix fe5ea29 (unguarded `e.val.String()`): for a thrown object whose
string conversion throws, the host's error is an *Exception on which the old method panicked. -/
theorem error_method_panics_prefix_witness :
    ¬ (∀ (entry : Entry) (chain : List Frame) (p : Payload) (ex : Exc),
        (hostRun entry chain p).host = .err (.exc ex) → ex.errorPanicsPrefix = false) := by
  intro h
  have := h .runString [] (.jsThrow (.objU 1)) ⟨.objU 1, .thrower⟩ (by decide)
  revert this
  decide

/-! Non-vacuity: the hypotheses are satisfiable by non-trivial chains (tests on literals, not proofs) -/

/-- depth-10 chain: JS frames with try/finally and rethrowing catch, a for-of loop with an open iterator, a
generator body with try/finally, six native conventions incl. panic(ex.Value()). -/
example : let chain : List Frame := [.js .jrf, .fc, .js .jf, .rfe, .ct, .js .jr, .ji, .jgf, .fcv, .fo]
    (∀ f ∈ chain, f.swallows = false) ∧ (∀ f ∈ chain, f.rewraps = false) ∧ hasSplit chain = false ∧
    (hostRun .runString chain (.jsThrow (.obj 1))).host = .err (.exc ⟨.obj 1, .rethrow 0⟩) ∧
    (hostRun .runString chain (.jsThrow (.obj 1))).log =
      [⟨7, .fin⟩, ⟨6, .iterReturn⟩, ⟨5, .caught (.obj 1)⟩, ⟨2, .fin⟩, ⟨0, .caught (.obj 1)⟩, ⟨0, .fin⟩] := by decide

/-- through a promise job a Go error returned natively is the rejection reason, inside a GoError made in flight -/
example : (hostRun .exported [.xfe, .js .jf, .pr, .rfe] (.natReturn (some (.wrap 3 (.custom 2))))).rej =
    [.freshGoError (.wrap 3 (.custom 2))] := by decide

/-- an interrupt closes no iterator, runs no catch, no finally, no generator finally -/
example : (hostRun .callable [.js .jcf, .ji, .fc, .jgf, .js .jcf] (.jsInterrupt 10 (.plain 9))).log = [] := by decide

/-- a wrapping native frame: the host's error is a GoError around fmt.Errorf("%w", exception(O1)) -/
example : (hostRun .runString [.js .jf, .rfw, .js .jf] (.jsThrow (.obj 1))).host =
    .err (.exc ⟨.freshGoError (.wrapExc 0 (.obj 1) .thrower), .other⟩) := by decide

/-- an async function absorbs the exception into its promise -/
example : (hostRun .runString [.js .jcf, .ja, .js .jf] (.jsThrow (.prim 1))).log =
    [⟨2, .fin⟩, ⟨1, .asyncReject (.prim 1)⟩, ⟨0, .fin⟩] := by decide

/-- an uncatchable error raised while the iterator is closed for O1 replaces it; the outer catch/finally see nothing -/
example : (hostRun .runString [.js .jcf, .jiu, .js .jf] (.jsThrow (.obj 1))).host = .err (.go (.stackOverflow 8)) ∧
    (hostRun .runString [.js .jcf, .jiu, .js .jf] (.jsThrow (.obj 1))).log = [⟨2, .fin⟩, ⟨1, .iterReturn⟩] := by decide

/-- g.throw(e) raises the caught value at the generator's yield -/
example : (hostRun .runString [.js .jf, .jgt] (.jsThrow (.prim 1))).host = .err (.exc ⟨.prim 1, .genYield 1⟩) := by decide

end GojaModel.C14
