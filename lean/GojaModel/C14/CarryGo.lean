/-
  A Go error returned by a native frame stays reachable (GoError wrapper, unwrapping by ExportTo'd funcs, re-wrapping,
  raw propagation when it wraps an uncatchable error); the thrown value stays reachable through wrapping frames.
-/
import GojaModel.C14.Carry

namespace GojaModel.C14

def JsVal.wrapsGo (w : JsVal) (e : GoErr) : Prop := w.goErrValue = some e ∧ w.isGoErrorInstance = true

def CarriesGo (e : GoErr) (fl : Flow) : Prop :=
  (e.isUncatchable = true ∧ ∃ o, fl = .panic (.goErr e) o) ∨ ∃ ex, ex.val.wrapsGo e ∧ Raises ex fl

theorem carriesGo_wrapReflectErr (e : GoErr) : CarriesGo e (wrapReflectErr (some (.go e))) := by
  cases he : e.isUncatchable with
  | true => exact Or.inl ⟨he, .other, by simp only [wrapReflectErr, he, if_true]⟩
  | false =>
    refine Or.inr ⟨⟨.freshGoError e, .other⟩, ⟨rfl, rfl⟩, ?_⟩
    simp only [wrapReflectErr, he, Bool.false_eq_true, if_false]
    rfl

/-- `e'` reaches `e` by repeated `errors.Unwrap` (through `Exception.Unwrap` where an *Exception is wrapped). -/
def GoErr.chainHas (e' e : GoErr) : Bool :=
  e' == e || (match e' with
    | .wrap _ i => i.chainHas e
    | .interruptedE _ f => f.chainHas e
    | .wrapExcGo _ k _ i => k.isGoErrorInstance && i.chainHas e
    | _ => false)

theorem GoErr.chainHas_refl (e : GoErr) : e.chainHas e = true := by
  unfold GoErr.chainHas; simp

theorem GoErr.chainHas_induction {b : GoErr} {P : GoErr → Prop} (base : P b)
    (wrap : ∀ i a, P a → P (.wrap i a)) (interrupted : ∀ i a, P a → P (.interruptedE i a))
    (wrapExc : ∀ i k t a, k.isGoErrorInstance = true → P a → P (.wrapExcGo i k t a)) :
    ∀ a : GoErr, a.chainHas b = true → P a := by
  intro a
  induction a with
  | wrap i inner ih =>
    intro h; unfold GoErr.chainHas at h
    simp only [Bool.or_eq_true, beq_iff_eq] at h
    exact h.elim (fun h => h ▸ base) (fun h => wrap i inner (ih h))
  | interruptedE i f ih =>
    intro h; unfold GoErr.chainHas at h
    simp only [Bool.or_eq_true, beq_iff_eq] at h
    exact h.elim (fun h => h ▸ base) (fun h => interrupted i f (ih h))
  | wrapExcGo i k t inner ih =>
    intro h; unfold GoErr.chainHas at h
    simp only [Bool.or_eq_true, beq_iff_eq, Bool.and_eq_true] at h
    exact h.elim (fun h => h ▸ base) (fun h => wrapExc i k t inner h.1 (ih h.2))
  | _ =>
    intro h; unfold GoErr.chainHas at h
    simp at h
    exact h ▸ base

theorem GoErr.chainHas_trans {a b c : GoErr} (h1 : a.chainHas b = true) (h2 : b.chainHas c = true) :
    a.chainHas c = true := by
  refine GoErr.chainHas_induction (P := fun a => a.chainHas c = true) h2 ?_ ?_ ?_ a h1
  · intro i a ih; unfold GoErr.chainHas; simp [ih]
  · intro i a ih; unfold GoErr.chainHas; simp [ih]
  · intro i k t a hk ih; unfold GoErr.chainHas; simp [hk, ih]

theorem GoErr.chainHas_errIs {a b : GoErr} (h : a.chainHas b = true) (t : Nat) (hb : b.errIs t = true) :
    a.errIs t = true := by
  refine GoErr.chainHas_induction (P := fun a => a.errIs t = true) hb ?_ ?_ ?_ a h
  · intro i a ih; simp [GoErr.errIs, ih]
  · intro i a ih; simp [GoErr.errIs, ih]
  · intro i k tp a hk ih; simp [GoErr.errIs, hk, ih]

theorem GoErr.chainHas_excVals {a b : GoErr} (h : a.chainHas b = true) (v : JsVal) (hb : v ∈ b.excVals) :
    v ∈ a.excVals := by
  refine GoErr.chainHas_induction (P := fun a => v ∈ a.excVals) hb ?_ ?_ ?_ a h
  · intro i a ih; exact ih
  · intro i a ih; exact ih
  · intro i k tp a hk ih; exact List.mem_cons_of_mem _ (by rw [if_pos hk]; exact ih)

theorem JsVal.ofKey_key (v : JsVal) : JsVal.ofKey v.key v.goErrValue = v := by
  cases v <;> rfl

theorem mem_excVals_wrapErr (ex : Exc) : ex.val ∈ (wrapErr (.exc ex)).excVals := by
  have := JsVal.ofKey_key ex.val
  cases hg : ex.val.goErrValue <;> rw [hg] at this <;> simp [wrapErr, hg, GoErr.excVals, this]

theorem applyFrame_carriesGo (idx : Nat) (f : Frame) (cjs : Bool) {e : GoErr} {fl : Flow}
    (hsw : f.swallows = false) (hc : CarriesGo e fl) :
    ∃ e', CarriesGo e' (applyFrame idx f cjs fl).1 ∧ e'.chainHas e = true ∧ (f.rewraps = false → e' = e) := by
  rcases hc with ⟨hu, o, rfl⟩ | ⟨⟨w, t⟩, hw, hr⟩
  · rcases applyFrame_uncatchable idx f cjs hu o with ⟨e', o', h, rfl | ⟨hrw, rfl⟩⟩ | ⟨rfl, _⟩
    · exact ⟨e', Or.inl ⟨hu, o', by rw [h]⟩, GoErr.chainHas_refl _, fun _ => rfl⟩
    · exact ⟨.wrap 0 e, Or.inl ⟨hu, o', by rw [h]⟩, by unfold GoErr.chainHas; simp [GoErr.chainHas_refl],
        fun h' => by rw [hrw] at h'; cases h'⟩
    · cases hsw
  · cases hrw : f.rewraps with
    | true =>
      cases Frame.eq_rfw_of_rewraps hrw
      have hwe : wrapErr (.exc ⟨w, t⟩) = .wrapExcGo 0 w.key t e := by simp only [wrapErr, hw.1]
      refine ⟨_, by rw [rfw_raises idx cjs hr]; exact carriesGo_wrapReflectErr _, ?_, fun h => nomatch h⟩
      have hk : w.key.isGoErrorInstance = true := hw.2
      rw [hwe]; unfold GoErr.chainHas; simp [hk, GoErr.chainHas_refl]
    | false =>
      refine ⟨e, ?_, GoErr.chainHas_refl e, fun _ => rfl⟩
      cases hun : f.unwraps with
      | true =>
        cases Frame.eq_xfe_of_unwraps hun
        rw [xfe_raises idx cjs hr]
        simp only [wrapJSFuncE, hw.1]
        exact carriesGo_wrapReflectErr e
      | false =>
        exact Or.inr ⟨⟨w, stepTop idx f w t⟩, hw, (applyFrame_passes idx f cjs ⟨hsw, hrw, Or.inr hun⟩ hr).1⟩

theorem evalSeg_carriesGo (s : Seg) (ijs : Bool) {e : GoErr} {fl : Flow}
    (hsw : ∀ q ∈ s, q.2.swallows = false) (hc : CarriesGo e fl) :
    ∃ e', CarriesGo e' (evalSeg s fl ijs).1 ∧ e'.chainHas e = true ∧
      ((∀ q ∈ s, q.2.rewraps = false) → e' = e) := by
  induction s with
  | nil => exact ⟨e, hc, GoErr.chainHas_refl e, fun _ => rfl⟩
  | cons hd tl ih =>
    obtain ⟨i, f⟩ := hd
    obtain ⟨e1, c1, t1, r1⟩ := ih (fun q hq => hsw q (List.mem_cons_of_mem _ hq))
    obtain ⟨e2, c2, t2, r2⟩ := applyFrame_carriesGo i f (headIsJS tl ijs) (hsw (i, f) (List.mem_cons_self ..)) c1
    refine ⟨e2, c2, GoErr.chainHas_trans t2 t1, ?_⟩
    intro h
    rw [r2 (h (i, f) (List.mem_cons_self ..)), r1 (fun q hq => h q (List.mem_cons_of_mem _ hq))]

theorem entry_carriesGo (entry : Entry) {e : GoErr} {fl : Flow} (hc : CarriesGo e fl) :
    ∃ ev, finish entry (runWrapped fl) = .err ev ∧ ev.carried = some e := by
  rcases hc with ⟨hu, o, rfl⟩ | ⟨⟨w, t⟩, hw, hr⟩
  · rw [runWrapped_goErr (fl := .panic (.goErr e) o) rfl hu, finish_go]
    exact ⟨_, rfl, rfl⟩
  · rw [runWrapped_raises hr]
    have hcar : ErrVal.carried (.exc ⟨w, t⟩) = some e := by simp only [ErrVal.carried, Exc.unwrap, hw.2, if_true, hw.1]
    cases entry
    · exact ⟨_, rfl, hcar⟩
    · exact ⟨_, rfl, hcar⟩
    · exact ⟨.go e, by simp only [finish, wrapJSFuncE, hw.1], rfl⟩

theorem hostRun_carriesGo (entry : Entry) (chain : List Frame) (p : Payload) {e : GoErr}
    (hp : CarriesGo e p.flow) (hsw : ∀ f ∈ chain, f.swallows = false) :
    ∃ e', e'.chainHas e = true ∧ ((∀ f ∈ chain, f.rewraps = false) → e' = e) ∧
    (hasSplit chain = false → ∃ ev, (hostRun entry chain p).host = .err ev ∧ ev.carried = some e') ∧
    (hasSplit chain = true →
      ((hostRun entry chain p).host = .ok ∧ ∃ w, (hostRun entry chain p).rej = [w] ∧ w.wrapsGo e') ∨
      ((hostRun entry chain p).host = .err (.go e') ∧ e'.isUncatchable = true)) := by
  obtain ⟨e', c1, t1, r1⟩ := evalSeg_carriesGo (lastSeg chain) p.isJS (lastSeg_frames hsw) hp
  refine ⟨e', t1, fun h => r1 (lastSeg_frames h), fun hs => ?_, fun hs => ?_⟩ <;> rw [hostRun_eq, hs]
  · obtain ⟨ev, h1, h2⟩ := entry_carriesGo entry c1
    exact ⟨ev, congrArg CallRes.toHost h1, h2⟩
  · rcases c1 with ⟨hu, o, h⟩ | ⟨ex, hw, hr⟩
    · rw [runWrapped_goErr (e := e') (by rw [h]; rfl) hu, viaJobs_go, finish_go]
      exact Or.inr ⟨rfl, hu⟩
    · rw [runWrapped_raises hr]
      exact Or.inl ⟨by cases entry <;> rfl, _, rfl, hw⟩

theorem carried_is_as {ev : ErrVal} {e' e : GoErr} (h : ev.carried = some e') (hc : e'.chainHas e = true) :
    (∀ t, e.errIs t = true → ev.errIs t = true) ∧
      (e' = e → (∀ t, ev.errIs t = e.errIs t) ∧ ev.errAs = e.errAs) := by
  have his : ∀ t, ev.errIs t = e'.errIs t := fun t => by
    cases ev <;> simp [ErrVal.carried] at h <;> simp [ErrVal.errIs, h]
  have has : ev.errAs = e'.errAs := by
    cases ev <;> simp [ErrVal.carried] at h <;> simp [ErrVal.errAs, h]
  exact ⟨fun t ht => by rw [his]; exact GoErr.chainHas_errIs hc t ht, fun he => he ▸ ⟨his, has⟩⟩

def Reaches (v : JsVal) (fl : Flow) : Prop :=
  (∃ t, Raises ⟨v, t⟩ fl) ∨ ∃ e, CarriesGo e fl ∧ v ∈ e.excVals

theorem applyFrame_reaches (idx : Nat) (f : Frame) {v : JsVal}
    (hsw : f.swallows = false) (hu : v.goErrValue = none ∨ f.unwraps = false) :
    Keeps (Reaches v) (fun _ => True) idx f := by
  intro cjs fl hc
  refine ⟨?_, fun _ _ => trivial⟩
  rcases hc with ⟨t, hr⟩ | ⟨e, hc, hv⟩
  · cases hrw : f.rewraps with
    | false => exact Or.inl ⟨_, (applyFrame_passes idx f cjs ⟨hsw, hrw, hu⟩ hr).1⟩
    | true =>
      cases Frame.eq_rfw_of_rewraps hrw
      rw [rfw_raises idx cjs hr]
      exact Or.inr ⟨_, carriesGo_wrapReflectErr _, mem_excVals_wrapErr ⟨v, t⟩⟩
  · obtain ⟨e', c, t, _⟩ := applyFrame_carriesGo idx f cjs hsw hc
    exact Or.inr ⟨e', c, GoErr.chainHas_excVals t v hv⟩

theorem carried_excVals {ev : ErrVal} {e : GoErr} (h : ev.carried = some e) (v : JsVal) (hv : v ∈ e.excVals) :
    v ∈ ev.excVals := by
  cases ev with
  | go e' => simp [ErrVal.carried] at h; simp [ErrVal.excVals, h, hv]
  | exc ex => simp [ErrVal.carried] at h; simp [ErrVal.excVals, h, hv]

theorem hostRun_reaches (entry : Entry) (chain : List Frame) (p : Payload) {v : JsVal}
    (hp : ∃ t, Raises ⟨v, t⟩ p.flow) (hsw : ∀ f ∈ chain, f.swallows = false)
    (hu : v.goErrValue = none ∨ (entry ≠ .exported ∧ ∀ f ∈ chain, f.unwraps = false))
    (hn : hasSplit chain = false) :
    ∃ ev, (hostRun entry chain p).host = .err ev ∧ v ∈ ev.excVals := by
  have c1 := (evalSeg_step (lastSeg chain) p.isJS
    (lastSeg_frames fun f hf i => applyFrame_reaches i f (hsw f hf) (hu.imp_right fun h => h.2 f hf))
    (Or.inl hp)).1
  rw [hostRun_eq, hn, viaJobs_false]
  rcases c1 with ⟨t, hr⟩ | ⟨e, c1, hv⟩
  · rw [runWrapped_raises hr, finish_exc entry _ (hu.imp_right And.left)]
    exact ⟨_, rfl, by simp [ErrVal.excVals]⟩
  · obtain ⟨ev, h1, h2⟩ := entry_carriesGo entry c1
    rw [h1]
    exact ⟨ev, rfl, carried_excVals h2 v hv⟩

end GojaModel.C14
