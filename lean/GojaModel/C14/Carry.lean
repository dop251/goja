/-
  A JS exception in flight.  `Raises ex fl` says that every recover site classifies the flow as the *Exception `ex`;
  `applyFrame_raises` says once, for all frame kinds, what a frame does with such a flow.  The invariants about the
  thrown value (its identity, the top of its captured stack, what the catch blocks saw) are read off that theorem and
  lifted to segments, promise jobs and `hostRun`.
-/
import GojaModel.C14.Quiet

namespace GojaModel.C14

@[simp] theorem throwExec_val (s : StackTop) (v : JsVal) : (throwExec s v).val = v := rfl

theorem throwExec_top_of_ownStack {v : JsVal} {s : StackTop} (hv : v.ownStack = some s) (hs : s ≠ .empty)
    (site : StackTop) : (throwExec site v).top = s := by
  cases s <;> first | exact absurd rfl hs | simp only [throwExec, hv]

theorem throwExec_top_of_noStack {v : JsVal} (hv : v.ownStack = none ∨ v.ownStack = some .empty) (site : StackTop) :
    (throwExec site v).top = site := by
  rcases hv with h | h <;> simp [throwExec, h]

def Carries (v : JsVal) : Flow → Prop
  | .panic (.val w) _ => w = v
  | .panic (.exc ex) _ => ex.val = v
  | _ => False

/-- What script may have observed of a propagation that keeps the identity of `v`. -/
def LogOk (v : JsVal) (l : LogE) : Prop :=
  l.kind = .fin ∨ l.kind = .caught v ∨ l.kind = .iterReturn ∨ l.kind = .asyncReject v

theorem carries_of_payload {p : Payload} {v : JsVal} (hp : p = .jsThrow v ∨ p = .natPanicVal v) :
    Carries v p.flow := by
  rcases hp with rfl | rfl <;> rfl

def Raises (ex : Exc) : Flow → Prop
  | .panic x o => exceptionFromValue o x = some ex
  | _ => False

theorem Raises.classified {ex : Exc} {x : Pv} {o : StackTop} (h : Raises ex (.panic x o)) :
    exceptionFromValue o x = some ex := h

@[simp] theorem raises_exc {ex e : Exc} {o : StackTop} : Raises ex (.panic (.exc e) o) ↔ e = ex :=
  Option.some_inj

theorem raises_invoke {ex : Exc} {fl : Flow} (h : Raises ex fl) (b : Bool) : Raises ex (invoke b fl) := by
  cases b
  · exact h
  · match fl, h with
    | .panic x o, h => rw [invoke, if_pos rfl, jsCall_of_some h.classified]; rfl

theorem vmTry_raises {ex : Exc} {fl : Flow} (h : Raises ex fl) : vmTry fl = .ex ex := by
  match fl, h with
  | .panic x o, h => exact vmTry_of_some h.classified

theorem runWrapped_raises {ex : Exc} {fl : Flow} (h : Raises ex fl) : runWrapped fl = .err (.exc ex) := by
  simp only [runWrapped, vmTry_raises h]

theorem Carries.raises {v : JsVal} {fl : Flow} (h : Carries v fl) : ∃ t, Raises ⟨v, t⟩ fl := by
  match fl, h with
  | .panic (.val w) o, h => cases h; exact ⟨_, rfl⟩
  | .panic (.exc ⟨w, t⟩) o, h => cases h; exact ⟨t, rfl⟩

/-- Top recorded when native code panics with the Value `v` (exceptionFromValue at a native position): unlike
`throwExec`, it reuses an empty own stack too. -/
def nativeTop (v : JsVal) : StackTop :=
  match v.ownStack with
  | some s => s
  | none => .other

theorem raises_val_other (v : JsVal) : Raises ⟨v, nativeTop v⟩ (.panic (.val v) .other) := rfl

/-- What one frame does to the top of the *Exception that passes through it. -/
def stepTop (i : Nat) (f : Frame) (v : JsVal) (t : StackTop) : StackTop :=
  match f with
  | .js k => if k.rethrows then (throwExec (.rethrow i) v).top else t
  | .fcv => nativeTop v
  | .jgt => genThrowTop i v
  | _ => t

theorem stepTop_eq (i : Nat) (f : Frame) (v : JsVal) (t : StackTop) :
    stepTop i f v t =
      if f.rethrows then
        match f with
        | .fcv => nativeTop v
        | .jgt => genThrowTop i v
        | _ => (throwExec (.rethrow i) v).top
      else t := by
  cases f <;> rfl

/-- Spec: the site where the exception the host sees was raised LAST (frames listed outermost first). -/
def lastRaise (v : JsVal) (init : StackTop) : Seg → StackTop
  | [] => init
  | (i, f) :: rest => stepTop i f v (lastRaise v init rest)

theorem Frame.swallows_of_replaces {f : Frame} (h : f.replaces = true) : f.swallows = true := by
  cases f <;> first | rfl | cases h

theorem Frame.eq_rfw_of_rewraps {f : Frame} (h : f.rewraps = true) : f = .rfw := by
  cases f <;> first | rfl | cases h

theorem Frame.eq_xfe_of_unwraps {f : Frame} (h : f.unwraps = true) : f = .xfe := by
  cases f <;> first | rfl | cases h

def Frame.passes (v : JsVal) (f : Frame) : Prop :=
  f.swallows = false ∧ f.rewraps = false ∧ (v.goErrValue = none ∨ f.unwraps = false)

/-- `hrw`, `hu` exclude the two frames that put another value in flight instead: see `rfw_raises`, `xfe_raises`. -/
theorem applyFrame_raises (idx : Nat) (f : Frame) (cjs : Bool) {v : JsVal} {t : StackTop} {fl : Flow}
    (h : Raises ⟨v, t⟩ fl) (hrw : f.rewraps = false) (hu : v.goErrValue = none ∨ f.unwraps = false) :
    (if f.replaces then ∃ e o, (applyFrame idx f cjs fl).1 = .panic (.goErr e) o ∧ e.isUncatchable = true
     else if f.swallows then (applyFrame idx f cjs fl).1 = .normal
     else Raises ⟨v, stepTop idx f v t⟩ (applyFrame idx f cjs fl).1) ∧
    ∀ l ∈ (applyFrame idx f cjs fl).2, LogOk v l := by
  have hw := runWrapped_raises h
  match fl, h with
  | .panic x o, h =>
    have he := h.classified
    cases f with
    | rfw => cases hrw
    | js k =>   -- a catch block ends the propagation, or raises `v` anew at its `throw e`; without one `v` goes on
      cases k <;>
        simp [applyFrame, applyFrameCore, jsFrame_of_some he, Frame.replaces, Frame.swallows, JsKind.swallows,
          JsKind.hasCatch, JsKind.rethrows, JsKind.hasFinally, stepTop, LogOk, throwExec]
    | xfe =>   -- `v` holds no Go error that wrapJSFunc could hand on in its place
      have hx : v.goErrValue = none := hu.resolve_right (by simp [Frame.unwraps])
      simp [applyFrame, applyFrameCore, callable_eq, hw, wrapJSFuncE, hx, returnErr, wrapReflectErr,
        Frame.replaces, Frame.swallows, stepTop]
    | jiu =>   -- closing the iterator is aborted by an uncatchable error, which replaces the exception
      simp [applyFrame, applyFrameCore, handleThrow_marker_of_some he, Frame.replaces, LogOk, GoErr.isUncatchable]
    | ja | fcs =>   -- the async function's promise is rejected with `v`; the native frame drops the error
      simp [applyFrame, applyFrameCore, callable_eq, hw, handleThrow_marker_of_some he, Frame.replaces,
        Frame.swallows, LogOk]
    | fcv | jgt =>   -- `v` is raised anew: native `panic(ex.Value())`, `g.throw(e)` at the generator's yield
      simp [applyFrame, applyFrameCore, callable_eq, hw, handleThrow_marker_of_some he, panicValue,
        raises_val_other, Frame.replaces, Frame.swallows, stepTop, LogOk]
    | _ =>   -- every other frame hands the very *Exception on (finally blocks and iterator closes run).
      -- Which rewrite serves which frame goes by its recover site: `runWrapped` for `fc` `rfe` `rfn` `ct` `xfn` `px` `dy`
      -- `fot` (the Callable) and `rp` (RunProgram) (`hw`), a marker frame of its own for `ji` `jit`
      -- (`handleThrow_marker_of_some`), vm.try / __call for `gt` `fo` `jg` `jgf` `jy` `jyf` `tg` (`vmTry_of_some`,
      -- `jsCall_of_some`, `raises_invoke`; `jgf` `jyf` also the JS frame); `pr` `jaw` are the identity (`h`)
      simp [applyFrame, applyFrameCore, callable_eq, runProgram_eq_runWrapped, hw, vmTry_of_some he, jsCall_of_some he,
        handleThrow_marker_of_some he, vmTry_invoke, jsFrame_of_some he,
        jsFrame_of_some (exceptionFromValue_exc _ _), shim,
        panicErr, returnErr, wrapReflectErr, wrapJSFuncN, ErrVal.toPv, raises_invoke h cjs, h,
        Frame.replaces, Frame.swallows, stepTop, LogOk, JsKind.hasCatch, JsKind.hasFinally]

theorem rfw_raises (idx : Nat) (cjs : Bool) {ex : Exc} {fl : Flow} (h : Raises ex fl) :
    (applyFrame idx .rfw cjs fl).1 = wrapReflectErr (some (.go (wrapErr (.exc ex)))) := by
  match fl, h with
  | .panic x o, h => simp only [applyFrame, applyFrameCore, callable_eq, runWrapped_raises h, returnWrapped]

theorem xfe_raises (idx : Nat) (cjs : Bool) {ex : Exc} {fl : Flow} (h : Raises ex fl) :
    (applyFrame idx .xfe cjs fl).1 = returnErr (wrapJSFuncE (.err (.exc ex))) := by
  match fl, h with
  | .panic x o, h => simp only [applyFrame, applyFrameCore, callable_eq, runWrapped_raises h]

theorem applyFrame_passes (idx : Nat) (f : Frame) (cjs : Bool) {v : JsVal} {t : StackTop} {fl : Flow}
    (hf : f.passes v) (h : Raises ⟨v, t⟩ fl) :
    Raises ⟨v, stepTop idx f v t⟩ (applyFrame idx f cjs fl).1 ∧ ∀ l ∈ (applyFrame idx f cjs fl).2, LogOk v l := by
  have hr : f.replaces = false := by
    cases hr : f.replaces
    · rfl
    · rw [← hf.1, Frame.swallows_of_replaces hr]
  simpa only [hr, hf.1, Bool.false_eq_true, if_false] using applyFrame_raises idx f cjs h hf.2.1 hf.2.2

theorem evalSeg_raises (s : Seg) (ijs : Bool) {v : JsVal} {t : StackTop} {fl : Flow}
    (hs : ∀ q ∈ s, q.2.passes v) (h : Raises ⟨v, t⟩ fl) :
    Raises ⟨v, lastRaise v t s⟩ (evalSeg s fl ijs).1 ∧ ∀ l ∈ (evalSeg s fl ijs).2, LogOk v l := by
  induction s with
  | nil => exact ⟨h, fun l hl => nomatch hl⟩
  | cons hd tl ih =>
    obtain ⟨ih1, ih2⟩ := ih (fun q hq => hs q (List.mem_cons_of_mem _ hq))
    obtain ⟨a1, a2⟩ := applyFrame_passes hd.1 hd.2 (headIsJS tl ijs) (hs hd (List.mem_cons_self ..)) ih1
    exact ⟨a1, fun l hl => (List.mem_append.mp hl).elim (ih2 l) (a2 l)⟩

theorem finish_exc (entry : Entry) (e : Exc)
    (h : e.val.goErrValue = none ∨ entry ≠ .exported) :
    finish entry (.err (.exc e)) = .err (.exc e) := by
  cases entry <;> simp [finish, wrapJSFuncE]
  rcases h with h | h
  · simp [h]
  · exact absurd rfl h

theorem chain_passes {v : JsVal} {chain : List Frame}
    (hsw : ∀ f ∈ chain, f.swallows = false) (hrw : ∀ f ∈ chain, f.rewraps = false)
    (hu : v.goErrValue = none ∨ ∀ f ∈ chain, f.unwraps = false) :
    ∀ f ∈ chain, f.passes v :=
  fun f hf => ⟨hsw f hf, hrw f hf, hu.imp_right fun h => h f hf⟩

theorem hostRun_raises (entry : Entry) (chain : List Frame) (p : Payload) {v : JsVal} {t : StackTop}
    (hp : Raises ⟨v, t⟩ p.flow) (hc : ∀ f ∈ chain, f.passes v) (hx : v.goErrValue = none ∨ entry ≠ .exported) :
    (hasSplit chain = false → (hostRun entry chain p).host = .err (.exc ⟨v, lastRaise v t (indexed 0 chain)⟩) ∧
      (hostRun entry chain p).rej = []) ∧
    (hasSplit chain = true → (hostRun entry chain p).host = .ok ∧ (hostRun entry chain p).rej = [v]) := by
  have h1 := (evalSeg_raises (lastSeg chain) p.isJS (lastSeg_frames hc) hp).1
  constructor <;> intro hs <;> rw [hostRun_eq, hs, runWrapped_raises h1]
  · rw [viaJobs_false, finish_exc entry _ hx, lastSeg_of_noSplit hs]
    exact ⟨rfl, rfl⟩
  · exact ⟨by cases entry <;> rfl, rfl⟩

theorem hostRunTry_raises (chain : List Frame) (p : Payload) {v : JsVal} {t : StackTop}
    (hp : Raises ⟨v, t⟩ p.flow) (hc : ∀ f ∈ chain, f.passes v) (hn : hasSplit chain = false) :
    (hostRunTry chain p).host = .err (.exc ⟨v, lastRaise v t (indexed 0 chain)⟩) := by
  rw [hostRunTry_of_noSplit p hn, vmTry_raises (evalSeg_raises (indexed 0 chain) p.isJS (indexed_frames hc) hp).1]
  rfl

theorem applyFrame_carries_or_quiet (idx : Nat) (f : Frame) {v : JsVal}
    (hrw : f.rewraps = false) (hu : v.goErrValue = none ∨ f.unwraps = false) :
    Keeps (fun fl => (∃ t, Raises ⟨v, t⟩ fl) ∨ Quiet fl) (LogOk v) idx f := by
  intro cjs fl h
  rcases h with ⟨t, hr⟩ | hq
  · obtain ⟨a1, a2⟩ := applyFrame_raises idx f cjs hr hrw hu
    refine ⟨?_, a2⟩
    split at a1
    · obtain ⟨e, o, h, he⟩ := a1
      exact Or.inr (Or.inr ⟨e, by rw [h]; rfl, he⟩)
    · split at a1
      · exact Or.inr (Or.inl a1)
      · exact Or.inl ⟨_, a1⟩
  · obtain ⟨a1, a2⟩ := applyFrame_quiet idx f cjs fl hq
    exact ⟨Or.inr a1, fun l hl => Or.inl (a2 l hl)⟩

theorem hostRun_sees_value (entry : Entry) (chain : List Frame) (p : Payload) {v : JsVal}
    (hp : ∃ t, Raises ⟨v, t⟩ p.flow) (hrw : ∀ f ∈ chain, f.rewraps = false)
    (hu : v.goErrValue = none ∨ ∀ f ∈ chain, f.unwraps = false) :
    ∀ l ∈ (hostRun entry chain p).log, LogOk v l :=
  hostRun_log_step (P := fun fl => (∃ t, Raises ⟨v, t⟩ fl) ∨ Quiet fl) entry chain p
    (fun f hf i => applyFrame_carries_or_quiet i f (hrw f hf) (hu.imp_right fun h => h f hf))
    (fun _ h => Or.inl h) (Or.inl hp)

/-- `hostRun_sees_value` for a thrown or panicked value, under a hypothesis it does not use (no frame replaces the
exception). -/
theorem hostRun_log_ok (entry : Entry) (chain : List Frame) (p : Payload) {v : JsVal}
    (hp : Carries v p.flow) (hrw : ∀ f ∈ chain, f.rewraps = false ∧ f.replaces = false)
    (hu : v.goErrValue = none ∨ ∀ f ∈ chain, f.unwraps = false) :
    ∀ l ∈ (hostRun entry chain p).log, LogOk v l :=
  hostRun_sees_value entry chain p hp.raises (fun f hf => (hrw f hf).1) hu

/-- Through promise jobs too: there the exception rejects the job's promise and the host's call returns normally. -/
theorem hostRun_identity_or_abort (entry : Entry) (chain : List Frame) (p : Payload) {v : JsVal}
    (hp : ∃ t, Raises ⟨v, t⟩ p.flow) (hrw : ∀ f ∈ chain, f.rewraps = false)
    (hu : v.goErrValue = none ∨ (entry ≠ .exported ∧ ∀ f ∈ chain, f.unwraps = false)) :
    (hostRun entry chain p).host = .ok ∨
    (∃ ex, (hostRun entry chain p).host = .err (.exc ex) ∧ ex.val = v) ∨
    (∃ e, (hostRun entry chain p).host = .err (.go e) ∧ e.isUncatchable = true) := by
  have c1 := (evalSeg_step (lastSeg chain) p.isJS
    (lastSeg_frames fun f hf i => applyFrame_carries_or_quiet i f (hrw f hf) (hu.imp_right fun h => h.2 f hf))
    (Or.inl hp)).1
  rw [hostRun_eq]
  generalize (evalSeg (lastSeg chain) p.flow p.isJS).1 = fl at c1
  rcases c1 with ⟨t, hr⟩ | rfl | ⟨e, h, he⟩
  · rw [runWrapped_raises hr]
    cases hasSplit chain
    · rw [viaJobs_false, finish_exc entry _ (hu.imp_right And.left)]
      exact Or.inr (Or.inl ⟨_, rfl, rfl⟩)
    · left; cases entry <;> rfl
  · left; cases hasSplit chain <;> cases entry <;> rfl
  · right; right; rw [runWrapped_goErr h he, viaJobs_go, finish_go]; exact ⟨e, rfl, he⟩

end GojaModel.C14
