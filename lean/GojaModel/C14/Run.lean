/-
  `hostRun` in closed form.  Only the last segment of a chain sees the payload: every earlier one ends in the job shim
  and completes normally.  So the run is a function of what `runWrapped` makes of `evalSeg (lastSeg chain)`: the entry
  hands the host just that, and the job loop differs only for an exception, which rejects the job's promise (`viaJobs`).
-/
import GojaModel.C14.Lemmas

namespace GojaModel.C14

def hasSplit (chain : List Frame) : Bool := chain.any Frame.isSplit

theorem indexed_mem (fs : List Frame) : ∀ i q, q ∈ indexed i fs → q.2 ∈ fs := by
  induction fs with
  | nil => intro i q h; simp [indexed] at h
  | cons f tl ih =>
    intro i q h
    simp only [indexed, List.mem_cons] at h
    rcases h with rfl | h
    · exact List.mem_cons_self ..
    · exact List.mem_cons_of_mem _ (ih _ _ h)

theorem indexed_frames {P : Frame → Prop} {chain : List Frame} {i : Nat} (h : ∀ f ∈ chain, P f) :
    ∀ q ∈ indexed i chain, P q.2 :=
  fun q hq => h _ (indexed_mem chain i q hq)

theorem splitSegs_mem (l : List (Nat × Frame)) :
    (∀ q ∈ (splitSegs l).1, q ∈ l) ∧ (∀ s ∈ (splitSegs l).2, ∀ q ∈ s, q ∈ l) := by
  induction l with
  | nil => exact ⟨fun _ h => h, fun _ h => nomatch h⟩
  | cons hd tl ih =>
    obtain ⟨ih1, ih2⟩ := ih
    rw [splitSegs]
    split
    · refine ⟨fun _ h => (nomatch h), fun s hs q hq => List.mem_cons_of_mem _ ?_⟩
      rcases List.mem_cons.mp hs with rfl | hs
      · exact ih1 q hq
      · exact ih2 s hs q hq
    · refine ⟨fun q hq => ?_, fun s hs q hq => List.mem_cons_of_mem _ (ih2 s hs q hq)⟩
      rcases List.mem_cons.mp hq with rfl | hq
      · exact List.mem_cons_self ..
      · exact List.mem_cons_of_mem _ (ih1 q hq)

theorem allSegs_frames {P : Frame → Prop} (chain : List Frame) (h : ∀ f ∈ chain, P f) :
    ∀ s ∈ allSegs chain, ∀ q ∈ s, P q.2 := by
  intro s hs q hq
  have hm := splitSegs_mem (indexed 0 chain)
  simp only [allSegs, List.mem_cons] at hs
  rcases hs with rfl | hs
  · exact indexed_frames h q (hm.1 q hq)
  · exact indexed_frames h q (hm.2 s hs q hq)

theorem splitSegs_snd_nil_iff (fs : List Frame) : ∀ i, (splitSegs (indexed i fs)).2 = [] ↔ hasSplit fs = false := by
  induction fs with
  | nil => intro i; simp [indexed, splitSegs, hasSplit]
  | cons f tl ih =>
    intro i
    by_cases hf : f.isSplit = true
    · simp [indexed, splitSegs, hf, hasSplit]
    · have := ih (i + 1)
      simp only [hasSplit] at this
      simp [indexed, splitSegs, hf, hasSplit, this]

theorem splitSegs_fst_of_noSplit (fs : List Frame) :
    ∀ i, hasSplit fs = false → (splitSegs (indexed i fs)).1 = indexed i fs := by
  induction fs with
  | nil => intro i _; rfl
  | cons f tl ih =>
    intro i h
    simp only [hasSplit, List.any_cons, Bool.or_eq_false_iff] at h
    have := ih (i + 1) (by simpa [hasSplit] using h.2)
    simp [indexed, splitSegs, h.1, this]

def lastSeg (chain : List Frame) : Seg := (allSegs chain).getLast (List.cons_ne_nil _ _)

theorem lastSeg_of_noSplit {chain : List Frame} (hn : hasSplit chain = false) : lastSeg chain = indexed 0 chain := by
  simp only [lastSeg, allSegs, (splitSegs_snd_nil_iff chain 0).mpr hn, splitSegs_fst_of_noSplit chain 0 hn,
    List.getLast_singleton]

theorem lastSeg_frames {P : Frame → Prop} {chain : List Frame} (h : ∀ f ∈ chain, P f) : ∀ q ∈ lastSeg chain, P q.2 :=
  allSegs_frames chain h _ (List.getLast_mem _)

def normalLogs (segs : List Seg) : List LogE :=
  segs.flatMap (fun s => (evalSeg s .normal true).2)

theorem normalLogs_fin (segs : List Seg) : ∀ l ∈ normalLogs segs, l.kind = .fin := by
  intro l hl
  simp only [normalLogs, List.mem_flatMap] at hl
  obtain ⟨s, _, hs⟩ := hl
  exact evalSeg_normal_log s true l hs

theorem normalLogs_of_noSplit {chain : List Frame} (hn : hasSplit chain = false) :
    normalLogs (allSegs chain).dropLast = [] := by
  rw [allSegs, (splitSegs_snd_nil_iff chain 0).mpr hn]; rfl

theorem runJobs_cons_cons (p : Payload) (s s2 : Seg) (tl : List Seg) :
    runJobs p (s :: s2 :: tl) =
      ⟨(runJobs p (s2 :: tl)).host, (runJobs p (s2 :: tl)).rej,
        (evalSeg s .normal true).2 ++ (runJobs p (s2 :: tl)).log⟩ := by
  simp only [runJobs, segInner, List.isEmpty_cons, Bool.false_eq_true, if_false, evalSeg_normal, vmTry_invoke,
    vmTry_normal]

/-- What the host's call returns, and which rejections are reported, when the last segment hands `r` to its Go caller:
run as a promise job (`jobs`), an exception rejects the job's promise and never reaches the host. -/
def viaJobs : Bool → CallRes → CallRes × List JsVal
  | true, .err (.exc ex) => (.ok, [ex.val])
  | _, r => (r, [])

theorem viaJobs_false (r : CallRes) : viaJobs false r = (r, []) := rfl

theorem viaJobs_go (jobs : Bool) (e : GoErr) : viaJobs jobs (.err (.go e)) = (.err (.go e), []) := by
  cases jobs <;> rfl

/-- The deferred recover never returns an *Exception: `exceptionFromValue` would have classified it. -/
theorem viaJobs_recover {x : Pv} {o : StackTop} (h : exceptionFromValue o x = none) (jobs : Bool) (o' : StackTop) :
    viaJobs jobs (recoverUncatchable x o') = (recoverUncatchable x o', []) := by
  cases x with
  | goErr e =>
    cases he : e.isUncatchable <;> cases jobs <;> simp [recoverUncatchable, asUncatchableException, he, viaJobs]
  | other n => cases jobs <;> rfl
  | _ => cases h

/-- vm.try re-panics only what `exceptionFromValue` does not classify. -/
theorem vmTry_eq_panic {fl : Flow} {x : Pv} {o : StackTop} (h : vmTry fl = .panic x o) :
    exceptionFromValue o x = none := by
  cases fl with
  | normal => cases h
  | pending e => cases h; rfl
  | panic y o' =>
    cases hy : exceptionFromValue o' y with
    | some ex => rw [vmTry_of_some hy] at h; cases h
    | none => rw [vmTry_of_none hy] at h; cases h; exact hy

theorem runJobs_eq (p : Payload) : ∀ (ss : List Seg) (hne : ss ≠ []),
    runJobs p ss =
      ⟨(viaJobs true (runWrapped (evalSeg (ss.getLast hne) p.flow p.isJS).1)).1.toHost,
       (viaJobs true (runWrapped (evalSeg (ss.getLast hne) p.flow p.isJS).1)).2,
       normalLogs ss.dropLast ++ (evalSeg (ss.getLast hne) p.flow p.isJS).2⟩ := by
  intro ss
  induction ss with
  | nil => intro hne; exact absurd rfl hne
  | cons s tl ih =>
    intro _
    cases tl with
    | nil =>
      simp only [runJobs, segInner, List.isEmpty_nil, if_true, List.getLast_singleton, List.dropLast_singleton,
        vmTry_invoke, normalLogs, List.flatMap_nil, List.nil_append, List.append_nil]
      cases h : vmTry (evalSeg s p.flow p.isJS).1 with
      | ok => simp only [runWrapped, h]; rfl
      | ex e => simp only [runWrapped, h]; rfl
      | panic x o => simp only [runWrapped, h, viaJobs_recover (vmTry_eq_panic h)]
    | cons s2 tl2 =>
      rw [runJobs_cons_cons, ih (List.cons_ne_nil _ _)]
      simp [normalLogs, List.dropLast, List.getLast_cons]

theorem hostRunSegs_nil (entry : Entry) (p : Payload) (s0 : Seg) :
    hostRunSegs entry p s0 [] =
      ⟨(finish entry (runWrapped (evalSeg s0 p.flow p.isJS).1)).toHost, [], (evalSeg s0 p.flow p.isJS).2⟩ := by
  simp only [hostRunSegs, segInner, List.isEmpty_nil, if_true, runJobs, mergeJobs, List.append_nil, ite_self,
    firstCall_eq]

theorem hostRunSegs_cons (entry : Entry) (p : Payload) (s0 s1 : Seg) (tl : List Seg) :
    hostRunSegs entry p s0 (s1 :: tl) =
      ⟨(finish entry (mergeJobs .ok (runJobs p (s1 :: tl)).host)).toHost, (runJobs p (s1 :: tl)).rej,
        (evalSeg s0 .normal true).2 ++ (runJobs p (s1 :: tl)).log⟩ := by
  simp only [hostRunSegs, segInner, List.isEmpty_cons, Bool.false_eq_true, if_false, evalSeg_normal,
    firstCall_eq, runWrapped_normal, ranLeave, if_true]

theorem hostRun_of_noSplit (entry : Entry) {chain : List Frame} (p : Payload) (hn : hasSplit chain = false) :
    hostRun entry chain p =
      ⟨(finish entry (runWrapped (evalSeg (indexed 0 chain) p.flow p.isJS).1)).toHost, [],
        (evalSeg (indexed 0 chain) p.flow p.isJS).2⟩ := by
  rw [hostRun, (splitSegs_snd_nil_iff chain 0).mpr hn, splitSegs_fst_of_noSplit chain 0 hn, hostRunSegs_nil]

/-- A panic value that escapes a job reaches the host through the entry's deferred recover as if the entry's own
call had ended with it. -/
theorem finish_mergeJobs (entry : Entry) (r : CallRes) :
    (finish entry (mergeJobs .ok r.toHost)).toHost = (finish entry r).toHost := by
  cases r <;> cases entry <;> rfl

theorem hostRun_eq (entry : Entry) (chain : List Frame) (p : Payload) :
    hostRun entry chain p =
      ⟨(finish entry (viaJobs (hasSplit chain) (runWrapped (evalSeg (lastSeg chain) p.flow p.isJS).1)).1).toHost,
       (viaJobs (hasSplit chain) (runWrapped (evalSeg (lastSeg chain) p.flow p.isJS).1)).2,
       normalLogs (allSegs chain).dropLast ++ (evalSeg (lastSeg chain) p.flow p.isJS).2⟩ := by
  cases hs : hasSplit chain with
  | false =>
    rw [hostRun_of_noSplit entry p hs, normalLogs_of_noSplit hs, lastSeg_of_noSplit hs]; rfl
  | true =>
    cases hss : (splitSegs (indexed 0 chain)).2 with
    | nil => rw [(splitSegs_snd_nil_iff chain 0).mp hss] at hs; cases hs
    | cons s1 tl =>
      have hl : lastSeg chain = (s1 :: tl).getLast (List.cons_ne_nil _ _) := by
        simp only [lastSeg, allSegs, hss, List.getLast_cons (List.cons_ne_nil s1 tl)]
      rw [hostRun, hss, hostRunSegs_cons, runJobs_eq p (s1 :: tl) (List.cons_ne_nil _ _), allSegs, hss, ← hl,
        finish_mergeJobs]
      simp [normalLogs, List.dropLast]

/-- `hfin`: the segments before the last one complete normally and log only their finally blocks. -/
theorem hostRun_log_step {P : Flow → Prop} {Q : LogE → Prop} (entry : Entry) (chain : List Frame) (p : Payload)
    (step : ∀ f ∈ chain, ∀ i, Keeps P Q i f) (hfin : ∀ l : LogE, l.kind = .fin → Q l) (hp : P p.flow) :
    ∀ l ∈ (hostRun entry chain p).log, Q l := by
  intro l hl
  rw [hostRun_eq] at hl
  rcases List.mem_append.mp hl with hl | hl
  · exact hfin l (normalLogs_fin _ l hl)
  · exact (evalSeg_step (lastSeg chain) p.isJS (lastSeg_frames step) hp).2 l hl

/-- What `Runtime.Try` hands the host. -/
def TryRes.tryHost : TryRes → HostOutcome
  | .ok => .ok
  | .ex e => .err (.exc e)
  | .panic x _ => .panic x

theorem hostRunTry_of_noSplit {chain : List Frame} (p : Payload) (hn : hasSplit chain = false) :
    hostRunTry chain p =
      ⟨(vmTry (evalSeg (indexed 0 chain) p.flow p.isJS).1).tryHost, [], (evalSeg (indexed 0 chain) p.flow p.isJS).2⟩ := by
  simp only [hostRunTry, (splitSegs_snd_nil_iff chain 0).mpr hn, splitSegs_fst_of_noSplit chain 0 hn, segInner,
    List.isEmpty_nil, ↓reduceIte, vmTry_invoke]
  cases vmTry (evalSeg (indexed 0 chain) p.flow p.isJS).1 <;> rfl

theorem hostRunTry_of_split {chain : List Frame} (p : Payload) (hs : hasSplit chain = true) :
    hostRunTry chain p = ⟨.ok, [], (evalSeg (splitSegs (indexed 0 chain)).1 .normal true).2⟩ := by
  cases hss : (splitSegs (indexed 0 chain)).2 with
  | nil => rw [(splitSegs_snd_nil_iff chain 0).mp hss] at hs; cases hs
  | cons s1 tl =>
    simp only [hostRunTry, hss, segInner, List.isEmpty_cons, Bool.false_eq_true, ↓reduceIte, evalSeg_normal, vmTry_invoke,
      vmTry_normal]

end GojaModel.C14
