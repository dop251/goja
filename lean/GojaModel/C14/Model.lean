/-
  C14 — `ErrFlow`: how a thrown value / Go panic / Go error travels through a chain of JS and native
  frames to the Go host.  Mechanism-level: every boundary is a transcription of the goja function
  that implements it (file:line of /repo cited at each def).  Core Lean only (linked into model_c14).

  Abstractions (stated in design/C14.md):
    * JS values and Go errors are identities (`Nat`) plus exactly the structure the mechanism inspects
      (errorObject? own stack empty? has an own property `value` that exports to a Go error? GoError instance?
       error chain shape: Unwrap() error / Unwrap() []error / uncatchable marker).
    * A captured stack is abstracted to its top frame: the thrower's throw site, a rethrow site, the creation site of
      a script-made Error, the yield of a suspended generator, empty, or "other" (native frame / where native code
      allocated an Error object in flight / any other JS site).
-/
namespace GojaModel.C14

/-! ## Small enumerations used by both Go errors and JS values -/

inductive ErrClass where
  | error | typeError | referenceError | rangeError | syntaxError | myErr
  deriving DecidableEq, Repr, Inhabited

/-- Abstract top frame of a captured stack. -/
inductive StackTop where
  | thrower                 -- the innermost frame's throwing statement
  | rethrow (idx : Nat)     -- the `throw e` statement in the catch block of the rethrowing JS frame with index idx
  | creation                -- the `new Error(..)` expression that made a script-made Error object
  | genYield (idx : Nat)    -- the `yield` at which the generator of frame idx is suspended when `g.throw(e)` raises e there
  | empty                   -- len(stack) == 0 (captured with an idle vm)
  | other                   -- native frame, where native code allocated an Error object in flight, any other JS site
  deriving DecidableEq, Repr, Inhabited

/-- A JS value minus the Go error it may hold in `.value` (so that a Go error can wrap an *Exception without a
mutual inductive type: `GoErr.wrapExc*` store the key and, separately, the inner Go error). -/
inductive JsKey where
  | prim (id : Nat)
  | obj (id : Nat)
  | objU (id : Nat)                       -- object whose ToString throws / has no primitive conversion
  | errObj (id : Nat) (cls : ErrClass)
  | goError (id : Nat)
  | valObj (id : Nat)
  | freshErr (cls : ErrClass) (st : StackTop)
  | freshGoError
  deriving DecidableEq, Repr, Inhabited

/-- `getGoError().self.hasInstance(obj)` (runtime.go Exception.Unwrap). -/
def JsKey.isGoErrorInstance : JsKey → Bool
  | .goError _ | .freshGoError => true
  | _ => false

/-! ## Go errors (everything that implements `error` except *Exception) -/

inductive GoErr where
  | plain (id : Nat)                          -- errors.New
  | custom (id : Nat)                         -- *CustomErr (errors.As target type)
  | customIs (id : Nat) (target : Nat)        -- error type with a method Is(t) that answers true for the error `target`
  | customAs (id : Nat) (gives : Nat)         -- error type with a method As(&*CustomErr) that stores the *CustomErr `gives`
  | wrap (id : Nat) (inner : GoErr)           -- fmt.Errorf("%w"):    Unwrap() error
  | join (id : Nat) (a b : GoErr)             -- errors.Join(a, b):   Unwrap() []error
  | interrupted (id : Nat)                    -- *InterruptedError, iface not an error       runtime.go:325
  | interruptedE (id : Nat) (iface : GoErr)   -- *InterruptedError, iface is an error (Unwrap) runtime.go:330
  | stackOverflow (id : Nat)                  -- *StackOverflowError                          runtime.go:337
  | runtimeErr (id : Nat)                     -- runtime.Error (is an `error`)
  | wrapExc (id : Nat) (k : JsKey) (top : StackTop)                    -- fmt.Errorf("%w", ex): *Exception whose value holds no Go error
  | wrapExcGo (id : Nat) (k : JsKey) (top : StackTop) (inner : GoErr)  -- … whose value holds the Go error `inner` in `.value`
  deriving DecidableEq, Repr, Inhabited

namespace GoErr

def id : GoErr → Nat
  | plain i | custom i | customIs i _ | customAs i _ | wrap i _ | join i _ _ | interrupted i | interruptedE i _ | stackOverflow i | runtimeErr i
  | wrapExc i _ _ | wrapExcGo i _ _ _ => i

/-- `_, ok := e.(uncatchableException)` (runtime.go:309): the dynamic type itself carries the marker method. -/
def isMarker : GoErr → Bool
  | interrupted _ | interruptedE _ _ | stackOverflow _ => true
  | _ => false

/-- The classifier BEFORE fix cbcbe34 (`for ; e != nil; e = errors.Unwrap(e)`): errors.Unwrap follows only
`Unwrap() error`, never `Unwrap() []error`.  Kept for the regression lemma `…_prefix_witness` in Props. -/
def isUncatchableUnwrapLoop : GoErr → Bool
  | wrap _ inner => isUncatchableUnwrapLoop inner
  | wrapExcGo _ k _ inner => k.isGoErrorInstance && isUncatchableUnwrapLoop inner
  | interrupted _ | interruptedE _ _ | stackOverflow _ => true
  | _ => false

/-- isUncatchableException (runtime.go): `var u uncatchableException; return errors.As(e, &u)` — errors.As walks
the whole wrap tree: the error itself, `Unwrap() error`, and every branch of `Unwrap() []error`. -/
def isUncatchable : GoErr → Bool
  | wrap _ inner => isUncatchable inner
  | join _ a b => isUncatchable a || isUncatchable b
  | wrapExcGo _ k _ inner => k.isGoErrorInstance && isUncatchable inner     -- through Exception.Unwrap
  | interrupted _ | interruptedE _ _ | stackOverflow _ => true
  | _ => false

/-- Spec-level: some error in the whole wrap tree (errors.As semantics, joins included) is uncatchable. -/
def containsUncatchable : GoErr → Bool
  | wrap _ inner => containsUncatchable inner
  | join _ a b => containsUncatchable a || containsUncatchable b
  | wrapExcGo _ k _ inner => k.isGoErrorInstance && containsUncatchable inner
  | interrupted _ | interruptedE _ _ | stackOverflow _ => true
  | _ => false

/-- The *InterruptedError raised by vm.run inside this error tree, if any.  Only vm.run can make an InterruptedError
with a non-nil `iface` (the field is unexported), and it does so exactly when the runtime's interrupt flag is set;
the flag stays set until leaveAbrupt / ClearInterrupt.  So `liveInterrupt e = some i` means: the flag is set. -/
def liveInterrupt : GoErr → Option GoErr
  | interruptedE i f => some (interruptedE i f)
  | wrap _ inner => liveInterrupt inner
  | join _ a b => match liveInterrupt a with | some i => some i | none => liveInterrupt b
  | _ => none

/-- `errors.Is(e, target)` with target identified by id (pointer identity; a custom `Is` method is consulted at every
chain node: `customIs`). -/
def errIs : GoErr → Nat → Bool
  | wrap i inner, t => i == t || errIs inner t
  | join i a b, t => i == t || errIs a t || errIs b t
  | interruptedE i f, t => i == t || errIs f t
  | wrapExcGo i k _ inner, t => i == t || (k.isGoErrorInstance && errIs inner t)
  | wrapExc i _ _, t => i == t
  | customIs i tgt, t => i == t || tgt == t              -- `x.Is(target)` (errors.Is consults it at every chain node)
  | customAs i _, t => i == t
  | plain i, t | custom i, t | interrupted i, t | stackOverflow i, t | runtimeErr i, t => i == t

/-- `errors.As(e, &*CustomErr)`: id of the first *CustomErr in depth-first order. -/
def errAs : GoErr → Option Nat
  | custom i => some i
  | customAs _ g => some g                               -- `x.As(target)` stores its own *CustomErr
  | wrap _ inner => errAs inner
  | join _ a b => match errAs a with | some c => some c | none => errAs b
  | interruptedE _ f => errAs f
  | wrapExcGo _ k _ inner => if k.isGoErrorInstance then errAs inner else none
  | _ => none

end GoErr

/-! ## JS values, exceptions, panic payloads -/

inductive JsVal where
  | prim (id : Nat)
  | obj (id : Nat)                        -- ordinary object without a `value` property
  | objU (id : Nat)                       -- ordinary object whose conversion to a string throws (toString throws / no primitive)
  | errObj (id : Nat) (cls : ErrClass)    -- errorObject created by script (`new Error`): own stack = creation site
  | goError (id : Nat) (e : GoErr)        -- GoError made by the host with r.NewGoError(e) while the vm is idle: own stack empty
  | valObj (id : Nat) (e : GoErr)         -- ordinary object with own property value = ToValue(e)
  | freshErr (cls : ErrClass) (st : StackTop)  -- errorObject allocated in flight (sentinel conversion / native NewTypeError); own stack = vm position then
  | freshGoError (e : GoErr)              -- GoError allocated in flight by wrapReflectFunc (runtime.go:2104)
  deriving DecidableEq, Repr, Inhabited

namespace JsVal

/-- `x1.self.(*errorObject)` and its `stack` field (builtin_error.go:101 errorObject.init). -/
def ownStack : JsVal → Option StackTop
  | errObj _ _ => some .creation
  | goError _ _ => some .empty
  | freshErr _ st => some st
  | freshGoError _ => some .other
  | _ => none

/-- own property `value` whose ExportType is assignable to `error` (wrapJSFunc runtime.go:2348; NewGoError runtime.go:579). -/
def goErrValue : JsVal → Option GoErr
  | goError _ e | valObj _ e | freshGoError e => some e
  | _ => none

def key : JsVal → JsKey
  | prim i => .prim i | obj i => .obj i | objU i => .objU i | errObj i c => .errObj i c
  | goError i _ => .goError i | valObj i _ => .valObj i | freshErr c st => .freshErr c st | freshGoError _ => .freshGoError

/-- `getGoError().self.hasInstance(obj)` (runtime.go:442). -/
def isGoErrorInstance (v : JsVal) : Bool := v.key.isGoErrorInstance

/-- Rebuild the value from its key and the Go error held in `.value`. -/
def ofKey : JsKey → Option GoErr → JsVal
  | .prim i, _ => prim i | .obj i, _ => obj i | .objU i, _ => objU i | .errObj i c, _ => errObj i c
  | .goError i, some e => goError i e | .goError i, none => obj i
  | .valObj i, some e => valObj i e | .valObj i, none => obj i
  | .freshErr c st, _ => freshErr c st
  | .freshGoError, some e => freshGoError e | .freshGoError, none => obj 0

/-- `val.String()` panics (script `toString` throws, or the object has no primitive conversion). -/
def unstringifiable : JsVal → Bool
  | objU _ => true
  | _ => false

end JsVal

/-- *Exception (runtime.go:314). -/
structure Exc where
  val : JsVal
  top : StackTop
  deriving DecidableEq, Repr, Inhabited

/-- Exception.Unwrap (runtime.go:440). -/
def Exc.unwrap (ex : Exc) : Option GoErr :=
  if ex.val.isGoErrorInstance then ex.val.goErrValue else none

/-- Exception.Error() / String() (runtime.go) stringify the value through `valueString()` (fix fe5ea29): the
conversion runs under `vm.try` with a deferred recover and falls back to a description of the object, so the
methods return for every thrown value — also when the conversion is interrupted or overflows the stack: the
deferred recover swallows that too (and, since 5151c81, runs leaveAbrupt when control is outside the Runtime). -/
def Exc.errorPanics (_ex : Exc) : Bool := false

/-- Before fix fe5ea29 they called `e.val.String()` unguarded: a thrown object whose string conversion throws made
a Go panic leave `Error()`.  Kept for the regression lemma `…_prefix_witness` in Props. -/
def Exc.errorPanicsPrefix (ex : Exc) : Bool := ex.val.unstringifiable

inductive Sentinel where
  | typeE | refE | rangeE | syntaxE       -- typeError / referenceError / rangeError / syntaxError string types
  deriving DecidableEq, Repr, Inhabited

def Sentinel.cls : Sentinel → ErrClass
  | typeE => .typeError | refE => .referenceError | rangeE => .rangeError | syntaxE => .syntaxError

/-- A Go panic value (`interface{}`) as far as the classifier distinguishes. -/
inductive Pv where
  | val (v : JsVal)            -- *Object / any other Value
  | exc (ex : Exc)             -- *Exception
  | sentinel (k : Sentinel)
  | goErr (e : GoErr)          -- any other `error`
  | other (id : Nat)           -- anything else
  deriving DecidableEq, Repr, Inhabited

/-- An `error` as returned by a goja API. -/
inductive ErrVal where
  | exc (ex : Exc)
  | go (e : GoErr)
  deriving DecidableEq, Repr, Inhabited

def ErrVal.toPv : ErrVal → Pv
  | .exc ex => .exc ex
  | .go e => .goErr e

/-! ## The classifier -/

/-- exceptionFromValue (vm.go:5891).  `o` = what captureStack would record now. -/
def exceptionFromValue (o : StackTop) : Pv → Option Exc
  | .val v =>                                     -- case *Object (errorObject → er.stack) / case Value
    some ⟨v, match v.ownStack with | some s => s | none => o⟩
  | .exc ex => some ex                            -- case *Exception
  | .sentinel k => some ⟨.freshErr k.cls o, o⟩      -- case typeError / referenceError / rangeError / syntaxError
  | .goErr _ => none                              -- default
  | .other _ => none                              -- default

/-- isUncatchableException applied to an *Exception walks Exception.Unwrap (runtime.go:1466 + 440). -/
def excIsUncatchable (ex : Exc) : Bool :=
  match ex.unwrap with
  | some e => e.isUncatchable
  | none => false

/-- asUncatchableException (runtime.go:1472). -/
def asUncatchableException : Pv → Option ErrVal
  | .goErr e => if e.isUncatchable then some (.go e) else none      -- case uncatchableException / case error
  | .exc ex => if excIsUncatchable ex then some (.exc ex) else none -- case error (an *Exception is an error)
  | _ => none

inductive Class where
  | catchable (ex : Exc)
  | uncatchable (ev : ErrVal)
  | foreign
  deriving DecidableEq, Repr

/-- What every recover site does, in its order: exceptionFromValue first (handleThrow), then asUncatchableException. -/
def classify (o : StackTop) (x : Pv) : Class :=
  match exceptionFromValue o x with
  | some ex => .catchable ex
  | none => match asUncatchableException x with
    | some ev => .uncatchable ev
    | none => .foreign

/-! ## handleThrow over an explicit try stack (vm.go:828) -/

inductive TF where
  | marker                               -- catchPos == tryPanicMarker (vm.try / runTry / __call)
  | js (catchPos finallyPos : Bool)      -- JS try frame: catchPos >= 0 / finallyPos >= 0 (false = -1)
  deriving DecidableEq, Repr

inductive HT where
  | caught (ex : Exc) (rest : List TF)       -- vm.push(ex.val); pc = catchPos; tf.catchPos = -1; return nil
  | toFinally (ex : Exc) (rest : List TF)    -- tf.exception = ex; pc = finallyPos; tf.finallyPos = -1; return nil
  | returned (ex : Exc) (rest : List TF)     -- loop left at a marker (or stack exhausted): return ex
  | repanic (x : Pv) (rest : List TF)        -- ex == nil: panic(arg)
  deriving Repr

def handleThrowLoop (ex : Option Exc) (arg : Pv) : List TF → HT
  | [] => match ex with | none => .repanic arg [] | some e => .returned e []
  | .js false false :: rest => handleThrowLoop ex arg rest           -- catchPos == -1 && finallyPos == -1: pop
  | .js c f :: rest =>
    match ex with
    | none => handleThrowLoop ex arg rest                            -- ex == nil && catchPos != marker: pop
    | some e => if c then .caught e (.js false f :: rest) else .toFinally e (.js false false :: rest)
  | .marker :: rest =>
    match ex with
    | none => .repanic arg (.marker :: rest)
    | some e => .returned e (.marker :: rest)

def handleThrow (o : StackTop) (arg : Pv) (ts : List TF) : HT :=
  handleThrowLoop (exceptionFromValue o arg) arg ts

/-- `_throw.exec` (vm.go:4874): own stack of an errorObject is reused only if non-empty. -/
def throwExec (site : StackTop) (v : JsVal) : Exc :=
  ⟨v, match v.ownStack with
      | some .empty => site
      | some s => s
      | none => site⟩

/-! ## Control flow between frames -/

/-- What a callee hands to its caller: normal return, or a Go panic in flight (`o` = vm position at panic time).
A JS-level exception in flight inside a run loop is `panic (.exc ex)`. -/
inductive Flow where
  | normal
  | panic (x : Pv) (o : StackTop)
  | pending (e : GoErr)       -- returned normally to NATIVE code while the interrupt flag is set: vm.run raises `e`
                              -- (a new *InterruptedError with the same iface) at the next script instruction (vm.go run loop)
  deriving DecidableEq, Repr, Inhabited

inductive TryRes where
  | ok | ex (e : Exc) | panic (x : Pv) (o : StackTop)
  deriving Repr

/-- vm.try (vm.go:896): marker frame, recover → handleThrow. -/
def vmTry : Flow → TryRes
  | .pending e => .panic (.goErr e) .other     -- the function run under vm.try is script code here: the interrupt fires in it
  | .normal => .ok
  | .panic x o =>
    match handleThrow o x [.marker] with
    | .returned e _ => .ex e
    | _ => .panic x o

/-- baseJsFuncObject.__call + _call (func.go:408,460): marker frame, runTryInner's recover → handleThrow; `_call` panics ex. -/
def jsCall : Flow → Flow
  | .pending e => .panic (.goErr e) .other     -- a JS callee: the interrupt fires before it returns
  | .normal => .normal
  | .panic x o =>
    match handleThrow o x [.marker] with
    | .returned e _ => .panic (.exc e) o
    | _ => .panic x o

/-- Calling a function object from Go: JS function → `Call` (= _call); native function → the Go func itself. -/
def invoke (calleeIsJS : Bool) (fl : Flow) : Flow := if calleeIsJS then jsCall fl else fl

inductive CallRes where
  | ok | err (e : ErrVal) | panic (x : Pv) (o : StackTop)
  deriving DecidableEq, Repr

/-- The deferred recover shared by runWrapped (runtime.go:2563) and RunProgram (runtime.go:1498):
`if ex := asUncatchableException(x); ex != nil { err = ex } else { panic(x) }`. -/
def recoverUncatchable (x : Pv) (o : StackTop) : CallRes :=
  match asUncatchableException x with
  | some ev => .err ev
  | none => .panic x o

/-- Runtime.runWrapped (runtime.go:2562): vm.try, then the deferred recover with asUncatchableException. -/
def runWrapped (fl : Flow) : CallRes :=
  match vmTry fl with
  | .ok => .ok
  | .ex e => .err (.exc e)
  | .panic x o => recoverUncatchable x o

/-- Runtime.RunProgram (runtime.go:1485): runTry (marker + runTryInner), deferred recover with asUncatchableException. -/
def runProgram (fl : Flow) : CallRes :=
  match handleThrowOpt fl with
  | .ok => .ok
  | .ex e => .err (.exc e)
  | .panic x o => recoverUncatchable x o
where
  handleThrowOpt : Flow → TryRes
    | .pending e => .panic (.goErr e) .other   -- the program is script code: the interrupt fires in it
    | .normal => .ok
    | .panic x o =>
      match handleThrow o x [.marker] with
      | .returned e _ => .ex e
      | _ => .panic x o

/-- Callable returned by AssertFunction (runtime.go:2526). -/
def callable (calleeIsJS : Bool) (fl : Flow) : CallRes := runWrapped (invoke calleeIsJS fl)

/-- wrapReflectFunc, error branch (runtime.go:2095): `last` = the Go func's error result. -/
def wrapReflectErr : Option ErrVal → Flow
  | none => .normal                                             -- last.IsNil()
  | some (.exc ex) => .panic (.exc ex) .other                   -- err.(*Exception) → panic(err)
  | some (.go e) =>
    if e.isUncatchable then .panic (.goErr e) .other            -- isUncatchableException(err) → panic(err)
    else .panic (.val (.freshGoError e)) .other                 -- panic(r.NewGoError(err))

/-- `fmt.Errorf("rfw: %w", err)` in a native frame. -/
def wrapErr : ErrVal → GoErr
  | .go e => .wrap 0 e
  | .exc ex =>
    match ex.val.goErrValue with
    | some i => .wrapExcGo 0 ex.val.key ex.top i
    | none => .wrapExc 0 ex.val.key ex.top

/-- wrapJSFunc for a func type whose last result is `error` (runtime.go:2309..2355). -/
def wrapJSFuncE : CallRes → CallRes
  | .ok => .ok
  | .err (.exc ex) =>
    match ex.val.goErrValue with                                -- ex.val is an object with `value` assignable to error
    | some e => .err (.go e)
    | none => .err (.exc ex)
  | .err (.go e) => .err (.go e)
  | .panic x o => .panic x o

/-- wrapJSFunc for a func type without an error result: `panic(err)` (runtime.go:2357). -/
def wrapJSFuncN : CallRes → Flow
  | .ok => .normal
  | .err ev => .panic ev.toPv .other
  | .panic x o => .panic x o

/-- The harness idiom of a native frame without an error result: `if err != nil { panic(err) }`. -/
def panicErr : CallRes → Flow
  | .ok => .normal
  | .err ev => .panic ev.toPv .other
  | .panic x o => .panic x o

/-- The idiom `if ex, ok := err.(*Exception); ok { panic(ex.Value()) }; panic(err)`: the value is re-thrown, the
*Exception (and its stack) is dropped. -/
def panicValue : CallRes → Flow
  | .ok => .normal
  | .err (.exc ex) => .panic (.val ex.val) .other
  | .err (.go e) => .panic (.goErr e) .other
  | .panic x o => .panic x o

/-- The idiom `return nil, fmt.Errorf("…: %w", err)` through a reflect-wrapped func with an error result. -/
def returnWrapped : CallRes → Flow
  | .ok => wrapReflectErr none
  | .err ev => wrapReflectErr (some (.go (wrapErr ev)))
  | .panic x o => .panic x o

/-- A native frame that returns the Callable's error through a reflect-wrapped func with an error result. -/
def returnErr : CallRes → Flow
  | .ok => wrapReflectErr none
  | .err ev => wrapReflectErr (some ev)
  | .panic x o => .panic x o

/-! ## Frames -/

inductive JsKind where
  | j0 | jc | jr | jf | jcf | jrf
  deriving DecidableEq, Repr, Inhabited

namespace JsKind
def hasCatch : JsKind → Bool | jc | jr | jcf | jrf => true | _ => false
def rethrows : JsKind → Bool | jr | jrf => true | _ => false
def hasFinally : JsKind → Bool | jf | jcf | jrf => true | _ => false
def swallows (k : JsKind) : Bool := k.hasCatch && !k.rethrows
end JsKind

inductive Frame where
  | js (k : JsKind)
  | fc | rfe | rfn | ct | xfe | xfn | px | gt | fo | dy | rp
  | fcv          -- native FunctionCall re-raising with panic(ex.Value())
  | rfw          -- reflect func returning fmt.Errorf("%w", err)
  | ji           -- JS `for (x of it) next()` over an iterator that has a return() method
  | jg | jgf     -- generator body (resumed after a yield) calling next; jgf: inside try/finally
  | ja           -- async function calling next in its synchronous part
  | fot          -- Runtime.ForOf whose step callback calls next, over an iterator whose return() throws
  | jit          -- JS `for (x of it) next()` over an iterator whose return() method itself throws
  | jy | jyf     -- generator delegating with `yield*` to a generator whose body calls next; jyf: the yield* is inside try/finally
  | fcs          -- native FunctionCall that ignores the Callable's error (swallows it) and returns normally
  | jiu          -- JS `for (x of it) next()` over an iterator whose return() raises an UNCATCHABLE error (a native function it
                 --   calls panics with a *StackOverflowError) while handleThrow closes it
  | jgt          -- JS `try { next() } catch (e) { log; g.throw(e) }` with g a generator suspended at a yield inside try/finally
  | tg           -- native FunctionCall doing `ex := r.Try(func(){ obj.Get("x") })` on an accessor whose getter is next; panic(ex)
  | pr           -- Promise.resolve().then(next): the rest runs as a promise job
  | jaw          -- async function: `await null; next()`: the rest runs as a promise job
  deriving DecidableEq, Repr, Inhabited

namespace Frame
/-- Is the function object that represents this frame a JS function (true) or a native one (false)? -/
def isJS : Frame → Bool
  | js _ | ct | px | dy | pr | ji | jg | jgf | ja | jaw | jit | jy | jyf | jiu | jgt => true     -- ct / px / dy / pr are entered through a JS shim
  | _ => false
/-- The frame ends the propagation of a JS exception: a catch without rethrow, an async function (its promise is
rejected with the value instead), a native frame that drops the error it got (`fcs`), or a for…of whose iterator close
is aborted by an uncatchable error (`jiu`). -/
def swallows : Frame → Bool | js k => k.swallows | ja => true | fcs => true | jiu => true | _ => false
/-- A native frame that drops the error the Callable returned — also an uncatchable one. -/
def dropsErrors : Frame → Bool | fcs => true | _ => false
/-- The frame replaces the exception in flight by another error: only `jiu` (an uncatchable error raised while the
iterator is closed).  No frame replaces it by another EXCEPTION since fix 51964d9 (before it, Runtime.ForOf called the
iterator's return() unguarded — see `fotPrefix`). -/
def replaces : Frame → Bool | jiu => true | _ => false
def unwraps : Frame → Bool | xfe => true | _ => false
/-- The frame replaces the *Exception (new stack) while keeping the value. -/
def rethrows : Frame → Bool | js k => k.rethrows | fcv => true | jgt => true | _ => false
/-- The frame replaces the value by a GoError around a Go error that wraps the *Exception. -/
def rewraps : Frame → Bool | rfw => true | _ => false
/-- The rest of the chain runs later, as a promise job. -/
def isSplit : Frame → Bool | pr | jaw => true | _ => false
end Frame

inductive LogKind where
  | caught (v : JsVal)        -- a catch block ran and received v
  | fin                       -- a finally block ran
  | iterReturn                -- the return() method of an open iterator ran (iterator close during unwinding)
  | asyncReject (v : JsVal)   -- the promise of an async function was rejected with v (seen by the rejection tracker)
  deriving DecidableEq, Repr

structure LogE where
  idx : Nat
  kind : LogKind
  deriving DecidableEq, Repr

/-- generatorObject.throw(v): the value is raised inside the suspended generator through exceptionFromValue, i.e. the
own stack of an Error object is used even if empty, else the stack is captured at the generator's yield. -/
def genThrowTop (idx : Nat) (v : JsVal) : StackTop :=
  match v.ownStack with
  | some s => s
  | none => .genYield idx

/-- A JS function `function(){ try { next() } catch(e){ log; [throw e] } finally { log } }` under handleThrow. -/
def jsFrame (idx : Nat) (k : JsKind) : Flow → Flow × List LogE
  | .pending e => (.panic (.goErr e) .other, [])                     -- fires at the instruction after the call: uncatchable
  | .normal => (.normal, if k.hasFinally then [⟨idx, .fin⟩] else [])
  | .panic x o =>
    match handleThrow o x [.js k.hasCatch k.hasFinally, .marker] with
    | .repanic _ _ => (.panic x o, [])                              -- not classifiable: no catch, no finally
    | .returned e _ => (.panic (.exc e) o, [])                       -- no try frame left: up to the loop's entry
    | .toFinally e rest =>                                           -- finally runs, then re-throws tf.exception
      (match handleThrow o (.exc e) rest with
        | .returned e' _ => .panic (.exc e') o
        | _ => .panic (.exc e) o, [⟨idx, .fin⟩])
    | .caught e rest =>
      if k.rethrows then
        let e1 := throwExec (.rethrow idx) e.val            -- `throw e` inside the catch block
        match handleThrow (.rethrow idx) (.exc e1) rest with
        | .toFinally e2 rest2 =>
          (match handleThrow (.rethrow idx) (.exc e2) rest2 with
            | .returned e3 _ => .panic (.exc e3) (.rethrow idx)
            | _ => .panic (.exc e2) (.rethrow idx), [⟨idx, .caught e.val⟩, ⟨idx, .fin⟩])
        | .returned e2 _ => (.panic (.exc e2) (.rethrow idx), [⟨idx, .caught e.val⟩])
        | _ => (.panic (.exc e1) (.rethrow idx), [⟨idx, .caught e.val⟩])
      else
        (.normal, ⟨idx, .caught e.val⟩ :: (if k.hasFinally then [⟨idx, .fin⟩] else []))

/-- A JS shim without try (`function(){ new N() }`, `function(){ p.x }`). -/
def shim (fl : Flow) : Flow := (jsFrame 0 .j0 fl).1

/-- One frame: `cjs` says whether the callee's function object is a JS function. -/
def applyFrameCore (idx : Nat) (f : Frame) (cjs : Bool) (fl : Flow) : Flow × List LogE :=
  match f with
  | .js k => jsFrame idx k fl
  | .fc => (panicErr (callable cjs fl), [])                              -- func(FunctionCall) Value
  | .rfe => (returnErr (callable cjs fl), [])                            -- reflect func() (Value, error)
  | .rfn => (panicErr (callable cjs fl), [])                             -- reflect func() Value
  | .ct => (shim (panicErr (callable cjs fl)), [])                       -- func(ConstructorCall) *Object, `new N()`
  | .xfe => (returnErr (wrapJSFuncE (callable cjs fl)), [])              -- ExportTo'd func() (Value, error)
  | .xfn => (wrapJSFuncN (callable cjs fl), [])                          -- ExportTo'd func() Value
  | .px => (shim (panicErr (callable cjs fl)), [])                       -- ProxyTrapConfig.Get
  | .gt => (invoke cjs fl, [])                                           -- Object.Get on an accessor (value.go:806): no recover
  | .fo =>                                                               -- Runtime.ForOf (runtime.go:2868): iter.step = vm.try(next)
    (match vmTry (jsCall fl) with
      | .ok => .normal
      | .ex e => .panic (.exc e) .other
      | .panic x o => .panic x o, [])
  | .dy => (shim (panicErr (callable cjs fl)), [])                       -- DynamicObject.Get
  | .rp => (panicErr (runProgram fl), [])                                -- nested RunProgram("__c<i>()")
  | .fcv => (panicValue (callable cjs fl), [])                            -- panic(ex.Value())
  | .rfw => (returnWrapped (callable cjs fl), [])                         -- return fmt.Errorf("%w", err)
  | .ji =>                                                               -- handleThrow → _restoreStacks(…, ex != nil) (vm.go)
    (match fl with
      | .pending e => (.panic (.goErr e) .other, [])
      | .normal => (.normal, [])                                         -- iterator exhausted: no return()
      | .panic x o =>
        match handleThrow o x [.marker] with
        | .returned e _ => (.panic (.exc e) o, [⟨idx, .iterReturn⟩])      -- closeIters = true: return() runs
        | _ => (.panic x o, []))                                         -- ex == nil: iterators are dropped, not closed
  | .jg => (jsCall fl, [])                                               -- generator.enterNext marker + generatorObject.step panic(ex)
  | .jgf => ((jsCall (jsFrame idx .jf fl).1), (jsFrame idx .jf fl).2)
  | .ja =>                                                               -- asyncRunner.start/step: ex → promiseCap.reject(ex.val)
    (match fl with
      | .pending e => (.panic (.goErr e) .other, [])
      | .normal => (.normal, [])
      | .panic x o =>
        match handleThrow o x [.marker] with
        | .returned e _ => (.normal, [⟨idx, .asyncReject e.val⟩])
        | _ => (.panic x o, []))
  | .fot =>                                                              -- Runtime.ForOf (runtime.go): step under vm.try, then
    (match vmTry (panicErr (callable cjs fl)) with                       --   `if ex != nil { _ = r.vm.try(iter.returnIter); panic(ex) }`
      | .ok => (.normal, [])                                             -- next iteration: the iterator is exhausted
      | .ex e => (.panic (.exc e) .other, [⟨idx, .iterReturn⟩])          -- return() runs guarded (fix 51964d9): the original wins
      | .panic x o => (.panic x o, []))                                  -- vm.try re-panics what is not a JS exception
  | .jit =>                                                              -- like ji; the exception thrown by return() during unwinding
    (match fl with                                                       --   is discarded: `_ = vm._restoreStacks(..)` (vm.go handleThrow)
      | .pending e => (.panic (.goErr e) .other, [])
      | .normal => (.normal, [])
      | .panic x o =>
        match handleThrow o x [.marker] with
        | .returned e _ => (.panic (.exc e) o, [⟨idx, .iterReturn⟩])
        | _ => (.panic x o, []))
  | .jy =>                                                               -- generatorObject.next → tryCallDelegated (func.go): runtime.try around
    (match vmTry (jsCall fl) with                                        --   the inner generator's next(); ex → gen.nextThrow(ex) resumes the outer
      | .ok => (.normal, [])                                             --   generator by throwing ex at the yield*; its step panics ex
      | .ex e => (jsCall (.panic (.exc e) .other), [])
      | .panic x o => (.panic x o, []))
  | .jyf =>
    (match vmTry (jsCall fl) with
      | .ok => ((jsFrame idx .jf .normal).1, (jsFrame idx .jf .normal).2)
      | .ex e => (jsCall (jsFrame idx .jf (.panic (.exc e) .other)).1, (jsFrame idx .jf (.panic (.exc e) .other)).2)
      | .panic x o => (.panic x o, []))
  | .jiu =>                                                              -- handleThrow closes the iterator for a JS exception; return() is
    (match fl with                                                       --   aborted by an uncatchable error: vm.try in _restoreStacks re-panics
      | .pending e => (.panic (.goErr e) .other, [])                     --   it, handleThrow's deferred recover (404e270) unwinds for it: the
      | .normal => (.normal, [])                                         --   uncatchable error REPLACES the exception in flight
      | .panic x o =>
        match handleThrow o x [.marker] with
        | .returned _ _ => (.panic (.goErr (.stackOverflow 8)) .other, [⟨idx, .iterReturn⟩])
        | _ => (.panic x o, []))
  | .jgt =>                                                              -- generatorObject.throw (func.go): the value is raised anew inside the
    (match fl with                                                       --   suspended generator (exceptionFromValue at its yield), its finally
      | .pending e => (.panic (.goErr e) .other, [])                     --   runs, generatorObject.step panics the exception
      | .normal => (.normal, [])
      | .panic x o =>
        match handleThrow o x [.marker] with
        | .returned e _ =>
          (.panic (.exc ⟨e.val, genThrowTop idx e.val⟩) (.genYield idx),
            [⟨idx, .caught e.val⟩, ⟨idx, .fin⟩])
        | _ => (.panic x o, []))
  | .tg =>                                                               -- Runtime.Try (runtime.go) = vm.try + a deferred recover that
    (match vmTry (invoke cjs fl) with                                    --   re-panics what is not a JS exception; the frame panics ex
      | .ok => .normal
      | .ex e => .panic (.exc e) .other
      | .panic x o => .panic x o, [])
  | .fcs =>                                                              -- `_, _ = fn(undefined)`: the error value is dropped
    (match callable cjs fl with
      | .panic x o => (.panic x o, [])
      | .err (.go e) =>                                                  -- the error is dropped, not the interrupt FLAG
        (match e.liveInterrupt with | some i => .pending i | none => .normal, [])
      | _ => (.normal, []))
  | .pr => (fl, [])                                                      -- never applied (segments are split at pr / jaw)
  | .jaw => (fl, [])

/-- The `fot` frame BEFORE fix 51964d9 (`iter.returnIter()` unguarded): the Error thrown by the iterator's return()
left ForOf instead of the original exception.  Kept for the regression lemma `…_prefix_witness` in Props. -/
def fotPrefix (idx : Nat) (cjs : Bool) (fl : Flow) : Flow × List LogE :=
  match vmTry (panicErr (callable cjs fl)) with
  | .ok => (.normal, [])
  | .ex _ => (.panic (.exc ⟨.freshErr .error .other, .other⟩) .other, [⟨idx, .iterReturn⟩])
  | .panic x o => (.panic x o, [])

/-- Frames made of Go code only between the return of their callee and their own return: an interrupt pending at
that moment stays pending.  Every other frame runs script code first (the JS function itself, a JS shim, the
iterator's next(), the nested program), where vm.run raises it. -/
def Frame.pureNative : Frame → Bool
  | .fc | .rfe | .rfn | .xfe | .xfn | .fcv | .rfw | .fcs | .gt | .tg => true
  | _ => false

/-- One frame, including the sticky interrupt flag. -/
def applyFrame (idx : Nat) (f : Frame) (cjs : Bool) (fl : Flow) : Flow × List LogE :=
  match fl with
  | .pending e => if f.pureNative then (.pending e, []) else applyFrameCore idx f cjs (.panic (.goErr e) .other)
  | fl => applyFrameCore idx f cjs fl

/-! ## Payloads (the innermost function) -/

inductive Payload where
  | jsThrow (v : JsVal)                      -- `throw v`
  | jsSentinel (k : Sentinel)                -- VM / builtin raises a sentinel panic from script code
  | jsInterrupt (id : Nat) (iface : GoErr)   -- r.Interrupt(iface) then a busy loop
  | jsStackOverflow (id : Nat)               -- unbounded recursion
  | natPanicVal (v : JsVal)                  -- native: panic(v)
  | natPanicNewTypeError                     -- native: panic(r.NewTypeError(..))
  | natReturn (e : Option GoErr)             -- reflect-wrapped func returns (undefined, e)
  | natPanicErr (e : GoErr)                  -- native: panic(e)
  | natPanicOther (id : Nat)                 -- native: panic(42)
  | natRuntimeErr (id : Nat)                 -- native: index out of range
  deriving DecidableEq, Repr, Inhabited

namespace Payload

def isJS : Payload → Bool
  | jsThrow _ | jsSentinel _ | jsInterrupt _ _ | jsStackOverflow _ => true
  | _ => false

def flow : Payload → Flow
  | jsThrow v => .panic (.exc (throwExec .thrower v)) .thrower
  | jsSentinel k =>                                   -- typeE/refE raised by an exec method; rangeE/syntaxE inside builtin BigInt
    .panic (.sentinel k) (match k with | .typeE | .refE => .thrower | _ => .other)
  | jsInterrupt id f => .panic (.goErr (.interruptedE id f)) .thrower          -- vm.run (vm.go:643)
  | jsStackOverflow id => .panic (.goErr (.stackOverflow id)) .thrower         -- vm.pushCtx (vm.go:954)
  | natPanicVal v => .panic (.val v) .other
  | natPanicNewTypeError => .panic (.val (.freshErr .typeError .other)) .other
  | natReturn e => wrapReflectErr (e.map .go)
  | natPanicErr e => .panic (.goErr e) .other
  | natPanicOther id => .panic (.other id) .other
  | natRuntimeErr id => .panic (.goErr (.runtimeErr id)) .other

end Payload

/-! ## Chains, promise-job segments, host entries -/

abbrev Seg := List (Nat × Frame)

def indexed : Nat → List Frame → List (Nat × Frame)
  | _, [] => []
  | i, f :: fs => (i, f) :: indexed (i + 1) fs

/-- Split an indexed chain at the `pr` / `jaw` frames: the first segment runs synchronously, every later one as a promise job. -/
def splitSegs : List (Nat × Frame) → Seg × List Seg
  | [] => ([], [])
  | f :: rest => if f.2.isSplit then ([], (splitSegs rest).1 :: (splitSegs rest).2)
                 else (f :: (splitSegs rest).1, (splitSegs rest).2)

def headIsJS : Seg → Bool → Bool
  | [], inner => inner
  | (_, f) :: _, _ => f.isJS

/-- Evaluate one segment inside-out. `ijs`: is the innermost callee a JS function. -/
def evalSeg : Seg → Flow → Bool → Flow × List LogE
  | [], fl, _ => (fl, [])
  | (i, f) :: rest, fl, ijs =>
    let r := evalSeg rest fl ijs
    let a := applyFrame i f (headIsJS rest ijs) r.1
    (a.1, r.2 ++ a.2)

inductive HostOutcome where
  | ok
  | err (e : ErrVal)        -- returned error
  | panic (x : Pv)          -- Go panic escaped to the host
  deriving DecidableEq, Repr

structure Out where
  host : HostOutcome
  rej : List JsVal          -- unhandled promise rejections (tracker), in order
  log : List LogE
  deriving Repr

def CallRes.toHost : CallRes → HostOutcome
  | .ok => .ok
  | .err e => .err e
  | .panic x _ => .panic x

/-- A non-last segment ends in the `pr` shim (a JS function that returns normally); the last one in the thrower. -/
def segInner (p : Payload) (isLast : Bool) : Flow × Bool :=
  if isLast then (p.flow, p.isJS) else (.normal, true)

/-- Runtime.leave (runtime.go, job loop) + newPromiseReactionJob (builtin_promise.go:203): each job runs its
handler under vm.try; an exception rejects the derived promise with ex.val; a panic that is not an exception
leaves `leave()` and reaches the entry's deferred recover. -/
def runJobs (p : Payload) : List Seg → Out
  | [] => ⟨.ok, [], []⟩
  | s :: ss =>
    let inner := segInner p ss.isEmpty
    let r := evalSeg s inner.1 inner.2
    match vmTry (invoke (headIsJS s inner.2) r.1) with
    | .ok => let o := runJobs p ss; ⟨o.host, o.rej, r.2 ++ o.log⟩
    | .ex e => let o := runJobs p ss; ⟨o.host, e.val :: o.rej, r.2 ++ o.log⟩
    | .panic x o => ⟨(recoverUncatchable x o).toHost, [], r.2⟩

inductive Entry where
  | runString     -- r.RunProgram("__entry()")
  | callable      -- AssertFunction(callee)(undefined)
  | exported      -- ExportTo(callee, &func() (Value, error))
  deriving DecidableEq, Repr, Inhabited

/-- All segments of a chain: the synchronous one first, then the promise jobs in order. -/
def allSegs (chain : List Frame) : List Seg :=
  (splitSegs (indexed 0 chain)).1 :: (splitSegs (indexed 0 chain)).2

/-- `leave()` (the job loop) runs only when the call did not leave through the deferred recover
(runtime.go:1539 / 2579): not after an uncatchable error (leaveAbrupt), not while a foreign panic unwinds. -/
def ranLeave : CallRes → Bool
  | .ok => true
  | .err (.exc _) => true
  | .err (.go _) => false
  | .panic _ _ => false

/-- The synchronous part of the outermost call, up to (not including) `leave()`. -/
def firstCall (entry : Entry) (headJS : Bool) (fl : Flow) : CallRes :=
  -- (a pending interrupt reaching a Callable / exported entry fires in the JS trampoline through which the harness
  --  enters chains that contain an error-swallowing native frame; a direct native entry is not modelled)
  match entry with
  | .runString => runProgram fl            -- the top-level script calls the chain: JS → callee
  | .callable => callable headJS fl
  | .exported => callable headJS fl        -- wrapJSFunc calls the Callable first (runtime.go:2333)

/-- A panic value escaping a job overrides the result through the entry's deferred recover. -/
def mergeJobs (first : CallRes) (jobsHost : HostOutcome) : CallRes :=
  match jobsHost with
  | .ok => first
  | .err e => .err e
  | .panic x => .panic x .other

def finish (entry : Entry) (c : CallRes) : CallRes :=
  match entry with
  | .exported => wrapJSFuncE c
  | .runString => c
  | .callable => c

def hostRunSegs (entry : Entry) (p : Payload) (s0 : Seg) (ss : List Seg) : Out :=
  if ranLeave (firstCall entry (headIsJS s0 (segInner p ss.isEmpty).2)
      (evalSeg s0 (segInner p ss.isEmpty).1 (segInner p ss.isEmpty).2).1) then
    ⟨(finish entry (mergeJobs (firstCall entry (headIsJS s0 (segInner p ss.isEmpty).2)
        (evalSeg s0 (segInner p ss.isEmpty).1 (segInner p ss.isEmpty).2).1) (runJobs p ss).host)).toHost,
      (runJobs p ss).rej,
      (evalSeg s0 (segInner p ss.isEmpty).1 (segInner p ss.isEmpty).2).2 ++ (runJobs p ss).log⟩
  else
    ⟨(finish entry (firstCall entry (headIsJS s0 (segInner p ss.isEmpty).2)
        (evalSeg s0 (segInner p ss.isEmpty).1 (segInner p ss.isEmpty).2).1)).toHost, [],
      (evalSeg s0 (segInner p ss.isEmpty).1 (segInner p ss.isEmpty).2).2⟩

/-- The whole run as seen by the Go host. -/
def hostRun (entry : Entry) (chain : List Frame) (p : Payload) : Out :=
  hostRunSegs entry p (splitSegs (indexed 0 chain)).1 (splitSegs (indexed 0 chain)).2

/-- The host enters through Runtime.Try: `ex := r.Try(func() { obj.Get("x") })` on an accessor whose getter is the
head of the chain.  Runtime.Try (runtime.go) is vm.try plus a deferred recover that RE-PANICS everything that is not a
JS exception (uncatchable errors too), and it never calls `leave()`: pending promise jobs stay queued. -/
def hostRunTry (chain : List Frame) (p : Payload) : Out :=
  ⟨match vmTry (invoke (headIsJS (splitSegs (indexed 0 chain)).1 (segInner p (splitSegs (indexed 0 chain)).2.isEmpty).2)
      (evalSeg (splitSegs (indexed 0 chain)).1 (segInner p (splitSegs (indexed 0 chain)).2.isEmpty).1
        (segInner p (splitSegs (indexed 0 chain)).2.isEmpty).2).1) with
    | .ok => .ok
    | .ex e => .err (.exc e)
    | .panic x _ => .panic x,
   [],
   (evalSeg (splitSegs (indexed 0 chain)).1 (segInner p (splitSegs (indexed 0 chain)).2.isEmpty).1
      (segInner p (splitSegs (indexed 0 chain)).2.isEmpty).2).2⟩

/-! ## What the host can ask of the error it got -/

/-- errors.Is(hostErr, target). -/
def ErrVal.errIs : ErrVal → Nat → Bool
  | .go e, t => e.errIs t
  | .exc ex, t => match ex.unwrap with | some e => e.errIs t | none => false

/-- errors.As(hostErr, &*CustomErr). -/
def ErrVal.errAs : ErrVal → Option Nat
  | .go e => e.errAs
  | .exc ex => match ex.unwrap with | some e => e.errAs | none => none

/-- Values of the *Exceptions met while walking `errors.Unwrap` from a Go error (what a host loop
`for e := err; e != nil; e = errors.Unwrap(e) { if ex, ok := e.(*Exception) … }` sees). -/
def GoErr.excVals : GoErr → List JsVal
  | .wrap _ i => excVals i
  | .interruptedE _ f => excVals f
  | .wrapExc _ k _ => [JsVal.ofKey k none]
  | .wrapExcGo _ k _ i => JsVal.ofKey k (some i) :: (if k.isGoErrorInstance then excVals i else [])
  | _ => []

def ErrVal.excVals : ErrVal → List JsVal
  | .go e => e.excVals
  | .exc ex => ex.val :: (match ex.unwrap with | some e => e.excVals | none => [])

/-- Does calling `.Error()` on the host's error panic? (only an *Exception's own Error() stringifies a JS value; a
fmt.Errorf wrapper computed its text when it was made, with fmt's own panic guard). -/
def ErrVal.errorPanics : ErrVal → Bool
  | .go _ => false
  | .exc ex => ex.errorPanics

/-- The Go error the host reaches with errors.Unwrap / Is / As from the error it was handed. -/
def ErrVal.carried : ErrVal → Option GoErr
  | .go e => some e
  | .exc ex => ex.unwrap

end GojaModel.C14
