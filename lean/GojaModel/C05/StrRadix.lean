/-  C05 StringToNumber: the text constants as code-point lists; `_toFloat` with its error result (`toFloatE`); what the two parsers
    and `ToNumber` make of a text with a radix prefix. -/
import GojaModel.C05.StrNum
namespace GojaModel.C05.StrNum

theorem str_Infinity : str "Infinity" = [0x49,0x6E,0x66,0x69,0x6E,0x69,0x74,0x79] := by decide +kernel
theorem str_pInfinity : str "+Infinity" = [0x2B,0x49,0x6E,0x66,0x69,0x6E,0x69,0x74,0x79] := by decide +kernel
theorem str_mInfinity : str "-Infinity" = [0x2D,0x49,0x6E,0x66,0x69,0x6E,0x69,0x74,0x79] := by decide +kernel
theorem str_m0 : str "-0" = [0x2D, 0x30] := by decide +kernel
theorem str_inf : str "inf" = [0x69,0x6E,0x66] := by decide +kernel
theorem str_infinity : str "infinity" = [0x69,0x6E,0x66,0x69,0x6E,0x69,0x74,0x79] := by decide +kernel
theorem str_nan : str "nan" = [0x6E,0x61,0x6E] := by decide +kernel

theorem radixOfLetter_le (p : Nat) : radixOfLetter p ≤ 16 := by
  unfold radixOfLetter; split <;> (try split) <;> (try split) <;> omega

theorem digitVal_sign {c : Nat} (h : c = 0x2B ∨ c = 0x2D) : digitVal c = 36 := by
  rcases h with h | h <;> subst h <;> decide

theorem digitVal_us : digitVal 0x5F = 36 := by decide

theorem not_contains_us {base : Nat} (hb : base ≤ 36) {ds : List Nat} (h : allDigits base ds = true) :
    ds.contains 0x5F = false := by
  induction ds with
  | nil => rfl
  | cons a as ih =>
    simp only [allDigits, List.all_cons, Bool.and_eq_true, decide_eq_true_eq] at h
    have : a ≠ 0x5F := by rintro rfl; rw [digitVal_us] at h; omega
    simp only [List.contains_cons, Bool.or_eq_false_iff]
    refine ⟨by simpa using fun h' => this h'.symm, ih (by simpa [allDigits] using h.2)⟩

theorem splitSign_nosign (c : Nat) (cs : List Nat) (h1 : c ≠ 0x2D) (h2 : c ≠ 0x2B) :
    splitSign (c :: cs) = (false, c :: cs) := by
  unfold splitSign
  split
  · rename_i heq; injection heq with a b; exact absurd a h1
  · rename_i heq; injection heq with a b; exact absurd a h2
  · rfl

theorem goParseInt_nosign (c : Nat) (cs : List Nat) (base : Nat) (h1 : c ≠ 0x2D) (h2 : c ≠ 0x2B) :
    goParseInt (c :: cs) base =
      if !allDigits base (c :: cs) then none
      else if digitsValue base (c :: cs) < 2 ^ 63 then some ((digitsValue base (c :: cs) : Nat) : Int) else none := by
  simp only [goParseInt, splitSign_nosign c cs h1 h2]
  simp

theorem head_infinity_false (c : Nat) (l : List Nat) (h1 : c ≠ 0x49) (h2 : c ≠ 0x2B) (h3 : c ≠ 0x2D) :
    ((c :: l) == str "Infinity" || (c :: l) == str "+Infinity") = false ∧ ((c :: l) == str "-Infinity") = false := by
  rw [str_Infinity, str_pInfinity, str_mInfinity]
  simp [h1, h2, h3]

/-- string_ascii.go `_toFloat` with its error result: `none` = an error is returned (the callers treat that differently
from a successfully parsed NaN) -/
def toFloatE (t : List Nat) : Option Res :=
  if t == str "-0" then some (.num true 0 0)
  else if t.contains 0x5F then none
  else
    let base := radixPrefix t
    if base ≠ 0 then
      (if allDigits base (t.drop 2) then some (Res.exactInt false (digitsValue base (t.drop 2))) else none)
    else
      match (splitSign t).2 with
      | 0x30 :: x :: _ => if x = 0x78 ∨ x = 0x58 then none else tailE t
      | _ => tailE t
where
  tailE (t : List Nat) : Option Res :=
    let l := t.map lower
    if (splitSign l).2 == str "inf" || (splitSign l).2 == str "infinity" then none    -- ParseFloat gives ±Inf: rejected explicitly
    else if l == str "nan" then some .nan                                            -- ParseFloat gives NaN without error
    else match parseDecimal t with
      | some d => some d.toRes                                                         -- (a range error is cleared)
      | none => none

theorem tail_getD (t : List Nat) : toFloat.tail t = (toFloatE.tailE t).getD Res.nan := by
  simp only [toFloat.tail, toFloatE.tailE, goSpecial]
  by_cases h1 : ((splitSign (t.map lower)).2 == str "inf" || (splitSign (t.map lower)).2 == str "infinity") = true
  · simp [h1]
  · have h1' : ((splitSign (t.map lower)).2 == str "inf" || (splitSign (t.map lower)).2 == str "infinity") = false := by
      simpa using h1
    by_cases h2 : (t.map lower == str "nan") = true
    · simp [h1', h2]
    · have h2' : (t.map lower == str "nan") = false := by simpa using h2
      simp only [h1', h2', Bool.or_false, Bool.false_eq_true, if_false]
      cases parseDecimal t <;> rfl

theorem toFloat_getD (t : List Nat) : toFloat t = (toFloatE t).getD Res.nan := by
  simp only [toFloat, toFloatE]
  by_cases h0 : (t == str "-0") = true
  · simp [h0]
  · simp only [h0, Bool.false_eq_true, if_false]
    by_cases h1 : t.contains 0x5F = true
    · simp only [h1, if_true]; rfl
    · simp only [h1, Bool.false_eq_true, if_false]
      by_cases h2 : radixPrefix t ≠ 0
      · simp only [h2, ne_eq, not_false_eq_true, if_true]
        cases allDigits (radixPrefix t) (List.drop 2 t) <;> simp
      · simp only [h2, if_false]
        split
        · rename_i x r heq
          by_cases hx : x = 0x78 ∨ x = 0x58
          · simp [hx, heq]
          · simp only [hx, if_false, heq]; exact tail_getD t
        · rename_i hno
          split
          · rename_i x r heq; exact absurd heq (hno x r)
          · exact tail_getD t

theorem radixPrefix_shape {t : List Nat} (h : radixPrefix t ≠ 0) :
    ∃ p c rest, t = 0x30 :: p :: c :: rest ∧ radixOfLetter p ≠ 0 := by
  unfold radixPrefix at h
  split at h
  · rename_i p c rest; exact ⟨p, c, rest, rfl, h⟩
  · exact absurd rfl h

theorem radix_no_us {p c : Nat} {rest : List Nat} (hp : radixOfLetter p ≠ 0)
    (hall : allDigits (radixOfLetter p) (c :: rest) = true) : (0x30 :: p :: c :: rest).contains 0x5F = false := by
  have hp5 : p ≠ 0x5F := by intro h; subst h; exact hp (by decide)
  have := not_contains_us (Nat.le_trans (radixOfLetter_le p) (by decide)) hall
  simp only [List.contains_cons, Bool.or_eq_false_iff]
  exact ⟨by decide, by simpa using fun h => hp5 h.symm, by simpa [List.contains_cons] using this⟩

theorem stringToInt_radix (p c : Nat) (rest : List Nat) (hp : radixOfLetter p ≠ 0) :
    stringToInt (0x30 :: p :: c :: rest) =
      if allDigits (radixOfLetter p) (c :: rest) = true ∧ digitsValue (radixOfLetter p) (c :: rest) < 2 ^ 63 then
        some ((digitsValue (radixOfLetter p) (c :: rest) : Nat) : Int) else none := by
  have hrp : radixPrefix (0x30 :: p :: c :: rest) = radixOfLetter p := rfl
  simp only [stringToInt, hrp, hp, ne_eq, not_false_eq_true, if_true]
  by_cases hs : c = 0x2B ∨ c = 0x2D
  · have : allDigits (radixOfLetter p) (c :: rest) = false := by
      have hle := radixOfLetter_le p
      simp only [allDigits, List.all_cons, digitVal_sign hs, Bool.and_eq_false_iff, decide_eq_false_iff_not]
      exact Or.inl (by omega)
    rw [if_pos hs, if_neg (by rw [this]; simp)]
  · rw [if_neg hs, goParseInt_nosign c rest _ (by omega) (by omega)]
    cases allDigits (radixOfLetter p) (c :: rest) <;> simp

theorem toFloatE_radix (p c : Nat) (rest : List Nat) (hp : radixOfLetter p ≠ 0) :
    toFloatE (0x30 :: p :: c :: rest) =
      if allDigits (radixOfLetter p) (c :: rest) then
        some (Res.exactInt false (digitsValue (radixOfLetter p) (c :: rest))) else none := by
  have hrp : radixPrefix (0x30 :: p :: c :: rest) = radixOfLetter p := rfl
  have e4 : ((0x30 :: p :: c :: rest) == str "-0") = false := by rw [str_m0]; simp
  cases hall : allDigits (radixOfLetter p) (c :: rest) with
  | true =>
    simp only [toFloatE, e4, radix_no_us hp hall, hrp, hp, Bool.false_eq_true, if_false, ne_eq, not_false_eq_true, if_true,
      List.drop, hall]
  | false =>
    simp only [toFloatE, e4, hrp, hp, Bool.false_eq_true, if_false, ne_eq, not_false_eq_true, if_true, List.drop, hall]
    split <;> rfl

theorem mechT_radix (p c : Nat) (rest : List Nat) (hp : radixOfLetter p ≠ 0) :
    mechT (0x30 :: p :: c :: rest) =
      if allDigits (radixOfLetter p) (c :: rest) then Res.exactInt false (digitsValue (radixOfLetter p) (c :: rest))
      else Res.nan := by
  obtain ⟨i1, i2⟩ := head_infinity_false 0x30 (p :: c :: rest) (by decide) (by decide) (by decide)
  simp only [mechT, List.isEmpty_cons, Bool.false_eq_true, if_false, i1, i2, stringToInt_radix p c rest hp,
    toFloat_getD, toFloatE_radix p c rest hp]
  cases allDigits (radixOfLetter p) (c :: rest)
  · simp
  · by_cases hr : digitsValue (radixOfLetter p) (c :: rest) < 2 ^ 63
    · have : ¬ (((digitsValue (radixOfLetter p) (c :: rest) : Nat) : Int) < 0) := by omega
      simp [hr, Res.exactInt, this]
    · simp [hr]

end GojaModel.C05.StrNum
