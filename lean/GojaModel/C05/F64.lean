/-
  IEEE-754 binary64 as a structure of its three fields (shared number model; core Lean only).

  A double is NOT a `Float` here: every definition is integer arithmetic on the decoded fields, so the
  same definitions are used by the executable driver and by the proofs.

    value(f) = (-1)^neg * sig * 2^(e-1075)      sig = man (+ 2^52 when exp ≠ 0),  e = max exp 1

  Owned by property C05; outside C05 only C18 imports it (through `C05.Lemmas`).
-/
namespace GojaModel

structure F64 where
  neg : Bool
  exp : Nat
  man : Nat
  hexp : exp < 2048
  hman : man < 2 ^ 52
deriving DecidableEq

namespace F64

/-! ### bit codec (the 64-bit pattern as a `Nat` below 2^64) -/

def ofBits (b : Nat) : F64 :=
  { neg := (b / 2 ^ 63) % 2 == 1
    exp := (b / 2 ^ 52) % 2048
    man := b % 2 ^ 52
    hexp := Nat.mod_lt _ (by decide)
    hman := Nat.mod_lt _ (Nat.two_pow_pos 52) }

def toBits (f : F64) : Nat :=
  (if f.neg then 2 ^ 63 else 0) + f.exp * 2 ^ 52 + f.man

def mk' (neg : Bool) (exp man : Nat) (he : exp < 2048 := by decide) (hm : man < 2 ^ 52 := by decide) : F64 :=
  ⟨neg, exp, man, he, hm⟩

def posZero : F64 := mk' false 0 0
def negZero : F64 := mk' true 0 0
def posInf : F64 := mk' false 2047 0
def negInf : F64 := mk' true 2047 0
/-- Go's `math.NaN()` = 0x7FF8000000000001: the one NaN goja stores (`_NaN`, value.go:36). -/
def canonNaN : F64 := mk' false 2047 (2 ^ 51 + 1)

def isNaN (f : F64) : Bool := f.exp == 2047 && f.man != 0
def isInf (f : F64) : Bool := f.exp == 2047 && f.man == 0
def isZero (f : F64) : Bool := f.exp == 0 && f.man == 0
def isFinite (f : F64) : Bool := f.exp != 2047

def sig (f : F64) : Nat := if f.exp = 0 then f.man else 2 ^ 52 + f.man

def eff (f : F64) : Nat := if f.exp = 0 then 1 else f.exp

/-! ### exact integer views of a finite double:  |value| = sig * 2^(eff-1075) -/

/-- `|trunc(value)|` for a finite double (meaningless, but total, on NaN/Inf). -/
def truncNat (f : F64) : Nat :=
  if 1075 ≤ f.eff then f.sig * 2 ^ (f.eff - 1075) else f.sig / 2 ^ (1075 - f.eff)

def isIntegral (f : F64) : Bool :=
  if 1075 ≤ f.eff then true else f.sig % 2 ^ (1075 - f.eff) == 0

def truncInt (f : F64) : Int :=
  if f.neg then - Int.ofNat f.truncNat else Int.ofNat f.truncNat

/-- `-0 ↦ some 0`. -/
def toInt? (f : F64) : Option Int :=
  if f.isFinite && f.isIntegral then some f.truncInt else none

/-! ### comparisons as the hardware does them (NaN unordered, -0 = +0) -/

/-- IEEE `==`. -/
def feq (a b : F64) : Bool :=
  !a.isNaN && !b.isNaN && ((a.isZero && b.isZero) || (a.neg == b.neg && a.exp == b.exp && a.man == b.man))

/-- Magnitude key: monotone in |value| for non-NaN doubles. -/
def magKey (f : F64) : Nat := f.exp * 2 ^ 52 + f.man

/-- IEEE `<`. -/
def flt (a b : F64) : Bool :=
  !a.isNaN && !b.isNaN && !(a.isZero && b.isZero) &&
    (match a.neg, b.neg with
     | true, false => true
     | false, true => false
     | false, false => a.magKey < b.magKey
     | true, true => b.magKey < a.magKey)

def fle (a b : F64) : Bool := a.flt b || a.feq b

/-! ### integer → double (round to nearest, ties to even): Go's `float64(i)` -/

/-- Magnitude `n` with sign `neg`.  Exact when `n ≤ 2^53`; ±Inf when `n` rounds to `2^1024` or beyond (the callers pass an
`int64`, `numberOfBigInt` any BigInt). -/
def ofNatSign (neg : Bool) (n : Nat) : F64 :=
  if h0 : n = 0 then ⟨neg, 0, 0, by decide, by decide⟩ else
  let k := n.log2                       -- 2^k ≤ n < 2^(k+1)
  if hk : k ≤ 52 then
    -- exact: shift left so that the leading bit sits at position 52
    let m := n * 2 ^ (52 - k) - 2 ^ 52
    if hm : m < 2 ^ 52 then
      if he : 1023 + k < 2048 then ⟨neg, 1023 + k, m, he, hm⟩ else ⟨neg, 2047, 0, by decide, by decide⟩
    else ⟨neg, 2047, 0, by decide, by decide⟩   -- unreachable (see `C05.ofNatSign_fields`)
  else
    let s := k - 52
    let q := n / 2 ^ s                  -- 2^52 ≤ q < 2^53
    let r := n % 2 ^ s
    let half := 2 ^ (s - 1)
    let up : Bool := decide (half < r) || (r == half && q % 2 == 1)
    let q' := if up then q + 1 else q
    -- q' may reach 2^53: renormalise
    let (e, m) := if q' ≥ 2 ^ 53 then (1023 + k + 1, 0) else (1023 + k, q' - 2 ^ 52)
    if he : e < 2047 then
      if hm : m < 2 ^ 52 then ⟨neg, e, m, by omega, hm⟩ else ⟨neg, 2047, 0, by decide, by decide⟩
    else ⟨neg, 2047, 0, by decide, by decide⟩

/-- Go's `float64(i)` for an `int64` (and the denotation of `valueInt(i)`, value.go:199 `ToFloat`). -/
def ofInt (i : Int) : F64 :=
  if i < 0 then ofNatSign true i.natAbs else ofNatSign false i.natAbs

end F64
end GojaModel
