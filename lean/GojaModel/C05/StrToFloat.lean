/-
  C05 — `asciiString.ToFloat` (string_ascii.go:238): `_toFloat` first, `_toInt` as fallback; proved to make the same
  decisions as `ToNumber` for every string.
-/
import GojaModel.C05.StrDecimal
namespace GojaModel.C05.StrNum

/-- `asciiString.ToFloat` on the trimmed text (string_ascii.go:238) -/
def mechToFloatT (t : List Nat) : Res :=
  if t.isEmpty then Res.exactInt false 0
  else if t == str "Infinity" || t == str "+Infinity" then .inf false
  else if t == str "-Infinity" then .inf true
  else match toFloatE t with
    | some f => f
    | none => match stringToInt t with
      | some i => Res.exactInt (decide (i < 0)) i.natAbs
      | none => .nan

theorem toFloatE_of_toFloat {t : List Nat} {r : Res} (h : toFloat t = r) (hr : r ≠ Res.nan) : toFloatE t = some r := by
  rw [toFloat_getD] at h
  cases hE : toFloatE t with
  | none => rw [hE] at h; exact absurd h.symm hr
  | some x => rw [hE] at h; simp at h; rw [h]

theorem toFloatE_of_stringToInt {t : List Nat} {i : Int} (h : stringToInt t = some i) :
    toFloatE t = some (Res.exactInt (decide (i < 0)) i.natAbs) := by
  by_cases hrp : radixPrefix t = 0
  · -- decimal: `_toFloat` reads the text as StrDecimalLiteral does, and that is the integer
    obtain ⟨hbinf, hdec⟩ := dec_of_stringToInt hrp h
    exact toFloatE_of_toFloat ((toFloat_eq_dec hrp hbinf).trans hdec) (by simp [Res.exactInt])
  · -- radix literal within int64: both parsers read the value of the digits
    obtain ⟨p, c, rest, rfl, hp⟩ := radixPrefix_shape hrp
    rw [stringToInt_radix p c rest hp] at h
    split at h
    · rename_i hv
      cases h
      have : ¬ (((digitsValue (radixOfLetter p) (c :: rest) : Nat) : Int) < 0) := by omega
      rw [toFloatE_radix p c rest hp, if_pos hv.1, decide_eq_false this, Int.natAbs_natCast]
    · cases h

theorem mechToFloatT_eq_mechT (t : List Nat) : mechToFloatT t = mechT t := by
  simp only [mechToFloatT, mechT]
  by_cases h1 : t.isEmpty = true
  · rw [if_pos h1, if_pos h1]
  rw [if_neg h1, if_neg h1]
  by_cases h2 : (t == str "Infinity" || t == str "+Infinity") = true
  · rw [if_pos h2, if_pos h2]
  rw [if_neg h2, if_neg h2]
  by_cases h3 : (t == str "-Infinity") = true
  · rw [if_pos h3, if_pos h3]
  rw [if_neg h3, if_neg h3]
  cases hs : stringToInt t with
  | some i => rw [toFloatE_of_stringToInt hs]
  | none =>
    simp only
    rw [toFloat_getD]
    cases toFloatE t <;> rfl

end GojaModel.C05.StrNum
