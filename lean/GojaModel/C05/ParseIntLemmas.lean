/-  C05 — `parseInt`: the int64 accumulation never wraps before `parseLargeInt` takes over (`loop_cons`, `loop_spec`), so both paths
    return the exact value of the longest valid digit prefix (`digitsResult_exact`), and the whole function is ECMA-262's
    (`mech_eq_spec`). -/
import GojaModel.C05.ParseInt
namespace GojaModel.C05.ParseInt
open GojaModel GojaModel.Num GojaModel.C05

theorem mul_le_of_lt_cutoff {base : Nat} (hb : 2 ≤ base) {n : Int} (h : ¬ n ≥ cutoff base) : n * (base : Int) ≤ maxInt64 := by
  have hpos : (0 : Int) < (base : Int) := by omega
  have : n ≤ maxInt64 / (base : Int) := by simp only [cutoff] at h; omega
  exact (Int.le_ediv_iff_mul_le hpos).1 this

theorem wrap_add_test {m v : Int} (hm0 : 0 ≤ m) (hm : m ≤ maxInt64) (hv0 : 0 ≤ v) (hv : v < 36) :
    wrapS 64 m = m ∧ ((wrapS 64 (m + v) < m ∨ wrapS 64 (m + v) > maxInt64) ↔ maxInt64 < m + v) ∧
    (m + v ≤ maxInt64 → wrapS 64 (m + v) = m + v) := by
  simp only [wrapS, maxInt64] at *
  omega

theorem loop_cons {base : Nat} (hb : 2 ≤ base) (hb36 : base ≤ 36) {n : Int} (h0 : 0 ≤ n) (c : Nat) (cs : List Nat) :
    loop base n (c :: cs) =
      if n ≥ cutoff base then .large
      else if StrNum.digitVal c ≥ base then .small n
      else if maxInt64 < n * base + StrNum.digitVal c then .large
      else loop base (n * base + StrNum.digitVal c) cs := by
  simp only [loop]
  by_cases hc : n ≥ cutoff base
  · rw [if_pos hc, if_pos hc]
  rw [if_neg hc, if_neg hc]
  by_cases hv : StrNum.digitVal c ≥ base
  · rw [if_pos hv, if_pos hv]
  rw [if_neg hv, if_neg hv]
  obtain ⟨e1, e2, e3⟩ := wrap_add_test (Int.mul_nonneg h0 (Int.natCast_nonneg base)) (mul_le_of_lt_cutoff hb hc)
    (Int.natCast_nonneg (StrNum.digitVal c)) (by omega)
  rw [e1]
  by_cases hov : maxInt64 < n * base + StrNum.digitVal c
  · rw [if_pos (e2.2 hov), if_pos hov]
  · rw [if_neg (fun h => hov (e2.1 h)), if_neg hov, e3 (by omega)]

theorem exact_mono {base : Nat} : ∀ (ds : List Nat) (n : Int), 0 ≤ n → n ≤ exact base n ds := by
  intro ds
  induction ds with
  | nil => intro n _; exact Int.le_refl n
  | cons c cs ih =>
    intro n h0
    simp only [exact]
    split
    · exact Int.le_refl n
    · rename_i hv
      have hb : (1 : Int) ≤ base := by omega
      have h1 : n * 1 ≤ n * (base : Int) := Int.mul_le_mul_of_nonneg_left hb h0
      have := ih (n * (base : Int) + (StrNum.digitVal c : Int)) (by omega)
      omega

theorem cutoff_le {base : Nat} (hb : 2 ≤ base) : cutoff base ≤ maxInt64 := by
  have hq0 : 0 ≤ maxInt64 / (base : Int) := Int.ediv_nonneg (by decide) (by omega)
  have hq1 : maxInt64 / (base : Int) * (base : Int) ≤ maxInt64 := Int.ediv_mul_le _ (by omega)
  have hq2 : maxInt64 / (base : Int) * 2 ≤ maxInt64 / (base : Int) * (base : Int) :=
    Int.mul_le_mul_of_nonneg_left (by omega) hq0
  simp only [cutoff, maxInt64] at *
  omega

/-- The `.large` clause: `parseLargeInt` takes over only when the exact value is at least `cutoff` (> 2^53 for every base ≤ 36: arithmetic, no lemma states it), so
the raw `valueFloat` it builds (an audited NumSites entry) can never be a safe integer -/
theorem loop_spec {base : Nat} (hb : 2 ≤ base) (hb36 : base ≤ 36) :
    ∀ (ds : List Nat) (n : Int), 0 ≤ n → n ≤ maxInt64 →
      match loop base n ds with
      | .small r => r = exact base n ds ∧ 0 ≤ r ∧ r ≤ maxInt64
      | .large => cutoff base ≤ exact base n ds := by
  intro ds
  induction ds with
  | nil => intro n h0 h1; exact ⟨rfl, h0, h1⟩
  | cons c cs ih =>
    intro n h0 h1
    have hnn : 0 ≤ n * (base : Int) + (StrNum.digitVal c : Int) :=
      Int.add_nonneg (Int.mul_nonneg h0 (Int.natCast_nonneg _)) (Int.natCast_nonneg _)
    rw [loop_cons hb hb36 h0]
    by_cases hc : n ≥ cutoff base
    · rw [if_pos hc]; exact Int.le_trans hc (exact_mono (c :: cs) n h0)
    rw [if_neg hc]
    simp only [exact]
    by_cases hv : StrNum.digitVal c ≥ base
    · rw [if_pos hv, if_pos hv]; exact ⟨rfl, h0, h1⟩
    rw [if_neg hv, if_neg hv]
    by_cases hov : maxInt64 < n * base + StrNum.digitVal c
    · -- overflow detected: the exact value exceeds MaxInt64 ≥ cutoff
      rw [if_pos hov]
      exact Int.le_trans (Int.le_trans (cutoff_le hb) (Int.le_of_lt hov)) (exact_mono cs _ hnn)
    · rw [if_neg hov]; exact ih _ hnn (Int.not_lt.1 hov)

theorem digitsResult_exact {base : Nat} (hb : 2 ≤ base) (hb36 : base ≤ 36) (ds : List Nat) :
    digitsResult base ds =
      (match ds with
       | [] => none
       | c :: _ => if StrNum.digitVal c ≥ base then none else some (exact base 0 ds)) := by
  cases ds with
  | nil => rfl
  | cons c cs =>
    simp only [digitsResult]
    split
    · rfl
    · cases h : loop base 0 (c :: cs) with
      | large => rfl
      | small n =>
        have := loop_spec hb hb36 (c :: cs) 0 (by decide) (by decide)
        rw [h] at this
        simp [this.1]

theorem digits_spec {b : Nat} (hb : 2 ≤ b) (hb36 : b ≤ 36) (sign : Bool) (s2 : List Nat) :
    (if s2.isEmpty then PRes.nan else
      match digitsResult b s2 with
      | none => PRes.nan
      | some n => PRes.val sign n) =
    match s2 with
    | [] => PRes.nan
    | c :: _ => if StrNum.digitVal c ≥ b then PRes.nan else PRes.val sign (exact b 0 s2) := by
  cases s2 with
  | nil => rfl
  | cons c cs =>
    rw [digitsResult_exact hb hb36]
    simp only [List.isEmpty_cons, Bool.false_eq_true, if_false]
    by_cases h : StrNum.digitVal c ≥ b
    · simp only [h, if_true]
    · simp only [h, if_false]

theorem mech_eq_spec (t : List Nat) (R : Int) : mech t R = spec t R := by
  unfold mech spec
  generalize hs : (if t.head? = some 0x2D ∨ t.head? = some 0x2B then t.drop 1 else t) = s
  generalize decide (t.head? = some 0x2D) = sign
  have hts : t.isEmpty = true → s = [] := by
    intro h; have : t = [] := by simpa using h
    subst this; subst hs; rfl
  by_cases hR : R ≠ 0 ∧ (R < 2 ∨ R > 36)
  · -- invalid radix: never 0 or 16, so no prefix is stripped and the base test fails
    have h0 : ¬ R = 0 := hR.1
    have h16 : ¬ R = 16 := by omega
    have hv : ¬ (2 ≤ R ∧ R ≤ 36) := by omega
    simp only [if_pos hR, h0, h16, hv, decide_false, Bool.or_false, Bool.and_false, Bool.false_eq_true, if_false]
    simp only [ite_self]
  · rw [if_neg hR]
    -- an empty text has an empty rest: the first test of the Go code is subsumed by the second
    have hte : ∀ X : PRes, (if t.isEmpty then PRes.nan else if s.isEmpty then PRes.nan else X) =
        if s.isEmpty then PRes.nan else X := by
      intro X; by_cases h : t.isEmpty = true
      · rw [if_pos h, hts h]; rfl
      · rw [if_neg h]
    simp only [hte, Bool.and_comm (decide (R = 0) || decide (R = 16))]
    by_cases hstrip : (isHexPrefix s && (decide (R = 0) || decide (R = 16))) = true
    · have hse : s.isEmpty = false := by
        cases s with
        | nil => simp [isHexPrefix] at hstrip
        | cons _ _ => rfl
      have hv : (2 : Int) ≤ 16 ∧ (16 : Int) ≤ 36 := by decide
      simp only [hstrip, hse, if_true, Bool.false_eq_true, if_false, hv, and_self]
      exact digits_spec (b := 16) (by decide) (by decide) sign _
    · simp only [hstrip, Bool.false_eq_true, if_false]
      by_cases h0 : R = 0
      · subst h0
        have hv : ¬ ((2 : Int) ≤ 0 ∧ (0 : Int) ≤ 36) := by decide
        simp only [hv, if_false, if_true]
        cases s with
        | nil => rfl
        | cons c cs => exact digits_spec (b := 10) (by decide) (by decide) sign _
      · have hv : 2 ≤ R ∧ R ≤ 36 := by omega
        simp only [hv, and_self, if_true, h0, if_false]
        cases s with
        | nil => rfl
        | cons c cs => exact digits_spec (by omega) (by omega) sign _

end GojaModel.C05.ParseInt
