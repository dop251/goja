/-  C05 StringToNumber, trimming: the trimmed set is StrWhiteSpaceChar (two finite tables), `trim` removes exactly the maximal
    prefix and suffix of it, and is the spec's trimming. -/
import GojaModel.C05.StrNum
namespace GojaModel.C05.StrNum

/-- both hypotheses are closed by `decide` for concrete lists -/
theorem contains_congr {l₁ l₂ : List Nat} (h₁ : l₁.all l₂.contains = true) (h₂ : l₂.all l₁.contains = true)
    (c : Nat) : l₁.contains c = l₂.contains c := by
  rw [Bool.eq_iff_iff, List.contains_iff_mem, List.contains_iff_mem]
  simp only [List.all_eq_true, List.contains_iff_mem] at h₁ h₂
  exact ⟨h₁ c, h₂ c⟩

theorem between_eq_contains (a n c : Nat) :
    (decide (a ≤ c) && decide (c ≤ a + n)) = (List.range' a (n + 1)).contains c := by
  rw [Bool.eq_iff_iff, List.contains_iff_mem, List.mem_range'_1, Bool.and_eq_true, decide_eq_true_eq,
    decide_eq_true_eq, ← Nat.add_assoc, Nat.lt_add_one_iff]

theorem specIsStrWhiteSpace_eq_contains (c : Nat) :
    specIsStrWhiteSpace c =
      ([0x09, 0x0B, 0x0C, 0xFEFF, 0x20, 0xA0, 0x1680] ++ List.range' 0x2000 11 ++
        [0x202F, 0x205F, 0x3000, 0x0A, 0x0D, 0x2028, 0x2029]).contains c := by
  have hr : (decide (0x2000 ≤ c) && decide (c ≤ 0x200A)) = (List.range' 0x2000 11).contains c :=
    between_eq_contains 0x2000 10 c
  simp only [specIsStrWhiteSpace, isZs, hr, List.contains_append, List.contains_cons, List.contains_nil,
    Bool.or_false, Bool.or_assoc]

/-- Both sets are finite tables of 25 code points: mutual inclusion is checked by evaluation. -/
theorem trimSet_eq_spec' : ∀ c, isTrimChar c = specIsStrWhiteSpace c := by
  intro c
  rw [specIsStrWhiteSpace_eq_contains]
  exact contains_congr (by decide +kernel) (by decide +kernel) c

theorem dropWs_spec (s : List Nat) :
    ∃ pre, s = pre ++ dropWs s ∧ pre.all isTrimChar = true ∧ (∀ c rest, dropWs s = c :: rest → isTrimChar c = false) := by
  induction s with
  | nil => exact ⟨[], rfl, rfl, by intro c rest h; cases h⟩
  | cons a as ih =>
    obtain ⟨pre, h1, h2, h3⟩ := ih
    simp only [dropWs]
    by_cases ha : isTrimChar a = true
    · simp only [ha, if_true]
      refine ⟨a :: pre, by rw [List.cons_append, ← h1], by simp [ha, h2], h3⟩
    · simp only [ha]
      refine ⟨[], rfl, rfl, ?_⟩
      intro c rest h
      cases h
      simpa using ha

theorem trim_correct' (s : List Nat) :
    (∃ pre suf, s = pre ++ trim s ++ suf ∧ pre.all isTrimChar = true ∧ suf.all isTrimChar = true) ∧
    (∀ c rest, trim s = c :: rest → isTrimChar c = false) ∧
    (∀ c, (trim s).getLast? = some c → isTrimChar c = false) := by
  obtain ⟨pre, h1, h2, h3⟩ := dropWs_spec s
  obtain ⟨suf, k1, k2, k3⟩ := dropWs_spec (dropWs s).reverse
  have hrev : dropWs s = (dropWs (dropWs s).reverse).reverse ++ suf.reverse := by
    have := congrArg List.reverse k1
    simpa using this
  refine ⟨⟨pre, suf.reverse, ?_, h2, by simpa using k2⟩, ?_, ?_⟩
  · show s = pre ++ trim s ++ suf.reverse
    unfold trim
    rw [List.append_assoc, ← hrev]; exact h1
  · intro c rest hc
    unfold trim at hc
    -- the first element of trim s is the first element of dropWs s
    rw [hc] at hrev
    exact h3 c (rest ++ suf.reverse) (by rw [hrev]; simp)
  · intro c hc
    unfold trim at hc
    rw [List.getLast?_reverse] at hc
    cases hd : dropWs (dropWs s).reverse with
    | nil => rw [hd] at hc; cases hc
    | cons x xs =>
      rw [hd] at hc; simp at hc; subst hc
      exact k3 x xs hd

theorem dropS_eq_dropWs (s : List Nat) : specTrim.dropS s = dropWs s := by
  induction s with
  | nil => rfl
  | cons a as ih => simp only [specTrim.dropS, dropWs, trimSet_eq_spec' a, ih]

theorem specTrim_eq_trim (s : List Nat) : specTrim s = trim s := by
  simp only [specTrim, trim, dropS_eq_dropWs]

end GojaModel.C05.StrNum
