/-
  C05 model: integer/index conversions and operator result wrappers of goja, as coded (mechanism), next to
  the ECMAScript definitions (spec).  Core Lean only.

  IEEE arithmetic itself (the double `r` produced by `+ - * / %` on the operands' `ToFloat()`) is DATA here:
  it is computed natively outside and passed in.  What the model decides is what goja's code decides:
  which branch is taken, which wrapper produces the result, the representation of the result.
-/
import GojaModel.C05.Num

namespace GojaModel.C05
open GojaModel GojaModel.Num

/-! ## Go integer conversions -/

/-- Two's-complement wrap of an integer to `n` bits, signed: Go's `intN(x)` for an integer `x`. -/
def wrapS (n : Nat) (x : Int) : Int := (x + 2 ^ (n - 1)) % 2 ^ n - 2 ^ (n - 1)
/-- Go's `uintN(x)` for an integer `x`. -/
def wrapU (n : Nat) (x : Int) : Int := x % 2 ^ n

/-- `math.Mod(x, 2^64)` for an integral `x`: magnitude `|x| mod 2^64`, sign of `x` (exact). -/
def goModTwo64 (t : Int) : Int := if t ≥ 0 then t % 2 ^ 64 else -((-t) % 2 ^ 64)

/-- runtime.go `float64ToInt64Mod` (fix c5b41a6) on a finite double: `int64(f)` when `f` fits, else reduce
modulo 2^64 first (`int64(f)` is implementation-defined in Go outside the int64 range).  The comparisons
`f >= -2^63 && f < 2^63` are on the double; both bounds are integers, so they hold iff they hold for trunc(f). -/
def float64ToInt64Mod (f : F64) : Int :=
  let t := f.truncInt
  if -(2 ^ 63) ≤ t ∧ t < 2 ^ 63 then t                 -- return int64(f)
  else
    let m := goModTwo64 t                               -- f = math.Mod(f, two64)   (|f| ≥ 2^63: f is integral)
    if m ≥ 2 ^ 63 then m - 2 ^ 64                       -- f -= two64
    else if m < -(2 ^ 63) then m + 2 ^ 64               -- f += two64
    else m

/-- `int64(f)` for a finite double on amd64 (out of range: the "integer indefinite" -2^63): what the float
branch of `toInt8…toUint32` used BEFORE c5b41a6.  Regression witnesses only. -/
def goInt64Prefix (f : F64) : Int :=
  let t := f.truncInt
  if minInt64 ≤ t ∧ t ≤ maxInt64 then t else minInt64

/-- runtime.go:1063-1175: `toInt8`, `toInt16`, `toInt32` (signed, `n` bits) on a Number. -/
def toIntS (n : Nat) : Num → Int
  | int i => wrapS n i
  | flt f => if !f.isNaN && !f.isInf then wrapS n (float64ToInt64Mod f) else 0

/-- `toUint8`, `toUint16`, `toUint32`. -/
def toIntU (n : Nat) : Num → Int
  | int i => wrapU n i
  | flt f => if !f.isNaN && !f.isInf then wrapU n (float64ToInt64Mod f) else 0

/-- `toInt32` before c5b41a6 (regression witness only). -/
def toInt32Prefix : Num → Int
  | int i => wrapS 32 i
  | flt f => if !f.isNaN && !f.isInf then wrapS 32 (goInt64Prefix f) else 0

/-- value.go:570 `floatToIntClip`. -/
def floatToIntClip (f : F64) : Int :=
  if f.isNaN then 0
  else if f.isInf then (if f.neg then minInt64 else maxInt64)
  else
    let t := f.truncInt
    if t ≥ 2 ^ 63 then maxInt64              -- n >= math.MaxInt64 (the constant converts to 2^63)
    else if t ≤ -(2 ^ 63) then minInt64      -- n <= math.MinInt64
    else t

/-- `Value.ToInteger()` on a Number (value.go:179, 582). -/
def toInteger : Num → Int
  | int i => i
  | flt f => floatToIntClip f

/-- runtime.go:1256 `toLength`. -/
def toLength (a : Num) : Int :=
  let i := toInteger a
  if i < 0 then 0 else if i ≥ maxInt then maxInt - 1 else i

/-- runtime.go:1330 `toIndex` on a 64-bit host: `none` = RangeError. -/
def toIndex (a : Num) : Option Int :=
  let n := toInteger a
  if n ≥ 0 ∧ n < maxInt then some n else none

/-- runtime.go:1270 `toLengthUint32` on a Number: `none` = RangeError "Invalid array length". -/
def toLengthUint32 : Num → Option Int
  | int i => if 0 ≤ i ∧ i ≤ 4294967295 then some i else none
  | flt f =>
      if f.isZero && f.neg then some 0            -- v == _negativeZero (interface ==: float ==, so +0.0 too)
      else if f.isZero then some 0
      else match floatToInt f with
        | some i => if 0 ≤ i ∧ i ≤ 4294967295 then some i else none
        | none => none

/-- runtime.go:1093 `toUint8Clamp`. -/
def toUint8Clamp : Num → Int
  | int i => if i < 0 then 0 else if i ≤ 255 then i else 255
  | flt f =>
      if f.isNaN then 0
      else if f.neg && !f.isZero then 0                       -- num < 0
      else if f.isInf then 255
      else
        -- 0 ≤ num finite:  num = sig * 2^(eff-1075)
        if 1075 ≤ f.eff then (if f.isZero then 0 else 255)      -- num ≥ 2^52 > 255 (or 0)
        else
          let d := 2 ^ (1075 - f.eff)
          let q := f.sig / d                                    -- math.Floor(num)
          let r := f.sig % d
          if q > 255 ∨ (q = 255 ∧ r > 0) then 255               -- num > 255
          else if 2 * r > d then Int.ofNat (q + 1)              -- f + 0.5 < num
          else if 2 * r < d then Int.ofNat q                    -- f + 0.5 > num
          else if q % 2 = 1 then Int.ofNat (q + 1) else Int.ofNat q

/-! ## ECMAScript definitions (ECMA-262 §7.1.5-7.1.12, 7.1.20, 7.1.22) on the denoted double -/

/-- `truncate(ℝ(number))`, and 0 for NaN, ±∞ (steps 1-3 of ToInt32 …). -/
def specIntOrZero (x : F64) : Int := if x.isFinite then x.truncInt else 0

/-- ToInt8/16/32: `int modulo 2^n`, minus `2^n` when `≥ 2^(n-1)`. -/
def specToIntS (n : Nat) (x : F64) : Int :=
  let m := specIntOrZero x % 2 ^ n
  if m ≥ 2 ^ (n - 1) then m - 2 ^ n else m

/-- ToUint8/16/32. -/
def specToIntU (n : Nat) (x : F64) : Int := specIntOrZero x % 2 ^ n

/-- ToIntegerOrInfinity clamped to the `int64` range (what a 64-bit `ToInteger()` can say). -/
def specToIntegerClamped (x : F64) : Int :=
  if x.isNaN then 0
  else if x.isInf then (if x.neg then minInt64 else maxInt64)
  else max minInt64 (min maxInt64 x.truncInt)

/-- ToLength: `min(max(ToIntegerOrInfinity, 0), 2^53 - 1)`. -/
def specToLength (x : F64) : Int :=
  if x.isNaN then 0
  else if x.isInf then (if x.neg then 0 else 2 ^ 53 - 1)
  else min (max x.truncInt 0) (2 ^ 53 - 1)

/-- ToIndex: RangeError unless `0 ≤ ToIntegerOrInfinity ≤ 2^53 - 1`. -/
def specToIndex (x : F64) : Option Int :=
  if x.isNaN then some 0
  else if x.isInf then none
  else if 0 ≤ x.truncInt ∧ x.truncInt ≤ 2 ^ 53 - 1 then some x.truncInt else none

/-- ArraySetLength's number test: `ToUint32(v) = ToNumber(v)`, else RangeError. -/
def specArrayLength (x : F64) : Option Int :=
  match x.toInt? with
  | some i => if 0 ≤ i ∧ i ≤ 4294967295 then some i else none
  | none => none

/-- ToUint8Clamp: clamp to [0,255], round half to even. -/
def specToUint8Clamp (x : F64) : Int :=
  if x.isNaN then 0
  else if x.neg then 0
  else if x.isInf then 255
  else if 1075 ≤ x.eff then (if x.isZero then 0 else 255)
  else
    let d := 2 ^ (1075 - x.eff)
    let q := x.sig / d
    let r := x.sig % d
    -- value = q + r/d
    let rounded := if 2 * r > d then q + 1 else if 2 * r < d then q else (if q % 2 = 0 then q else q + 1)
    if q ≥ 255 then 255 else Int.ofNat rounded

/-! ## Operator result wrappers (vm.go:1300-1865)

`r` is the IEEE result of the float path (`left.ToFloat() op right.ToFloat()`), supplied as data. -/

/-- Go's `%` on `int64` (truncated). -/
def goRem (x y : Int) : Int := Int.tmod x y
/-- Go's `/` on `int64` (truncated). -/
def goQuot (x y : Int) : Int := Int.tdiv x y

/-- vm.go:1300 `_add` on two Numbers (operands are NOT passed through `toNumeric`). -/
def opAdd (a b : Num) (r : F64) : Num :=
  match a, b with
  | int x, int y => intToValue (x + y)
  | _, _ => floatToValue r

/-- vm.go:1359 `_sub`. -/
def opSub (a b : Num) (r : F64) : Num :=
  match toNumeric a, toNumeric b with
  | int x, int y => intToValue (x - y)
  | _, _ => floatToValue r

/-- the condition guarding `result = _negativeZero` in `_mul` (fix bd78985):
`left == 0 && right < 0 || left < 0 && right == 0` -/
def mulNegZero (x y : Int) : Bool := decide ((x = 0 ∧ y < 0) ∨ (x < 0 ∧ y = 0))

/-- the guard BEFORE bd78985 (`left == 0 && right == -1 || left == -1 && right == 0`); regression witness only -/
def mulNegZeroPrefix (x y : Int) : Bool := decide ((x = 0 ∧ y = -1) ∨ (x = -1 ∧ y = 0))

/-- vm.go:1400 `_mul`. -/
def opMul (a b : Num) (r : F64) : Num :=
  match toNumeric a, toNumeric b with
  | int x, int y =>
      if mulNegZero x y then flt F64.negZero
      else
        let res := wrapS 64 (x * y)                      -- res := left * right  (int64, wraps)
        if x = 0 ∨ y = 0 ∨ goQuot res x = y then intToValue res
        else floatToValue r
  | _, _ => floatToValue r

/-- vm.go:1479 `_div`: the explicit special cases, then `floatToValue(left / right)`. -/
def opDiv (a b : Num) (r : F64) : Num :=
  let l := (toNumeric a).toF64
  let rt := (toNumeric b).toF64
  if l.isNaN || rt.isNaN then flt F64.canonNaN
  else if l.isInf && rt.isInf then flt F64.canonNaN
  else if l.isZero && rt.isZero then flt F64.canonNaN
  else if l.isInf then (if l.neg == rt.neg then flt F64.posInf else flt F64.negInf)
  else if rt.isInf then (if l.neg == rt.neg then int 0 else flt F64.negZero)
  else if rt.isZero then (if l.neg == rt.neg then flt F64.posInf else flt F64.negInf)
  else floatToValue r

/-- vm.go:1560 `_mod`. -/
def opMod (a b : Num) (r : F64) : Num :=
  match toNumeric a, toNumeric b with
  | int x, int y =>
      if y = 0 then flt F64.canonNaN
      else
        let m := goRem x y
        if m = 0 ∧ x < 0 then flt F64.negZero else intToValue m
  | _, _ => floatToValue r

/-- vm.go:1616 `_neg` (after fix 7eaf95e). -/
def opNeg (a : Num) (r : F64) : Num :=
  match toNumeric a with
  | int n => if n = 0 then flt F64.negZero else int (-n)
  | flt _ => floatToValue r

/-- vm.go:1655 `_inc` (after fix 7eaf95e). -/
def opInc (a : Num) (r : F64) : Num :=
  match a with
  | int n => intToValue (n + 1)
  | flt _ => floatToValue r

/-- vm.go:1675 `_dec`. -/
def opDec (a : Num) (r : F64) : Num :=
  match a with
  | int n => intToValue (n - 1)
  | flt _ => floatToValue r

def toInt32 (a : Num) : Int := toIntS 32 a
def toUint32 (a : Num) : Int := toIntU 32 a

/-- Bitwise AND/OR/XOR of two int32 values, through their low 32 bits. -/
def bit32 (f : Nat → Nat → Nat) (x y : Int) : Int :=
  wrapS 32 (Int.ofNat (f (wrapU 32 x).toNat (wrapU 32 y).toNat))

/-- vm.go:1695-1865: every bitwise operator is `intToValue(int64(<32-bit result>))`. -/
def opAnd (a b : Num) : Num :=
  intToValue (bit32 Nat.land (toInt32 (toNumeric a)) (toInt32 (toNumeric b)))
def opOr (a b : Num) : Num :=
  intToValue (bit32 Nat.lor (toInt32 (toNumeric a)) (toInt32 (toNumeric b)))
def opXor (a b : Num) : Num :=
  intToValue (bit32 Nat.xor (toInt32 (toNumeric a)) (toInt32 (toNumeric b)))
def opBnot (a : Num) : Num :=
  intToValue (-(toInt32 (toNumeric a)) - 1)
/-- `toInt32(left) << (toUint32(right) & 0x1F)` in `int32` arithmetic. -/
def opShl (a b : Num) : Num :=
  intToValue (wrapS 32 (toInt32 (toNumeric a) * 2 ^ ((toUint32 (toNumeric b)).toNat % 32)))
/-- `toInt32(left) >> (toUint32(right) & 0x1F)` (arithmetic shift = floor division; the Go expression has type
`int32`, hence the outer `wrapS 32`, which is the identity on the quotient). -/
def opSar (a b : Num) : Num :=
  intToValue (wrapS 32 (toInt32 (toNumeric a) / 2 ^ ((toUint32 (toNumeric b)).toNat % 32)))
/-- `toUint32(left) >> (toUint32(right) & 0x1F)` (type `uint32`). -/
def opShr (a b : Num) : Num :=
  intToValue (wrapU 32 (toUint32 (toNumeric a) / 2 ^ ((toUint32 (toNumeric b)).toNat % 32)))

/-! ## Spec results of the operators, on doubles

For `+ - * / %`, unary minus, `++`, `--` the spec result is the IEEE result `r` itself (data); the unique
canonical value denoting `r` is `floatToValue r` (theorems `canon_floatToValue`, `floatToValue_denotes`).
For the bitwise operators the spec result is an integer. -/

def specAnd (x y : F64) : Int := bit32 Nat.land (specToIntS 32 x) (specToIntS 32 y)
def specOr (x y : F64) : Int := bit32 Nat.lor (specToIntS 32 x) (specToIntS 32 y)
def specXor (x y : F64) : Int := bit32 Nat.xor (specToIntS 32 x) (specToIntS 32 y)
def specBnot (x : F64) : Int := -(specToIntS 32 x) - 1
def specShl (x y : F64) : Int := wrapS 32 (specToIntS 32 x * 2 ^ ((specToIntU 32 y).toNat % 32))
def specSar (x y : F64) : Int := wrapS 32 (specToIntS 32 x / 2 ^ ((specToIntU 32 y).toNat % 32))
def specShr (x y : F64) : Int := wrapU 32 (specToIntU 32 x / 2 ^ ((specToIntU 32 y).toNat % 32))

/-! ## BigInt → Number (`Number(bigint)`, `new Number(bigint)`) -/

/-- runtime.go `bigIntToNumber` (fix 9d4b1ca), used by `Number(bigint)` / `new Number(bigint)`:
`if b.IsInt64() { return intToValue(b.Int64()) }; f := big.Float(b).Float64(); return floatToValue(f)` — `Float64()` is
the nearest double, ties to even, ±Inf beyond the range (= `F64.ofInt`) -/
def numberOfBigInt (b : Int) : Num :=
  if minInt64 ≤ b ∧ b ≤ maxInt64 then intToValue b else floatToValue (F64.ofInt b)

/-- the conversion BEFORE 9d4b1ca: `intToValue(b.Int64())`, `Int64()` being the low 64 bits (regression witness only) -/
def numberOfBigIntPrefix (b : Int) : Num := intToValue (wrapS 64 b)

/-- ECMA-262 Number(bigint) = 𝔽(ℝ(b)): the nearest double, as the canonical value -/
def specNumberOfBigInt (b : Int) : Num := floatToValue (F64.ofInt b)

/-- Same-NaN-class equality of doubles: the observable identity of Number values (SameValue). -/
def sameDouble (x y : F64) : Bool := specSameValue x y

end GojaModel.C05
