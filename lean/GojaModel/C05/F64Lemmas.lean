/-  Doubles (of `Num.lean` only the range of a canonical `valueInt` is used, in `ofInt_exact` and `ofInt_neg`): the bit codec round
    trip (`ofBits_toBits`), the classification predicates, the two zeros, IEEE `==`, and integers of magnitude ≤ 2^53 as doubles —
    `ofNatSign` represents them exactly (`ofNatSign_exact`) and nothing else does (`ofNatSign_truncNat`); `ofInt_exact` is the form
    the `valueInt` cases of the conversion and identity theorems use.  IEEE negation (`negF`) of such an integer. -/
import GojaModel.C05.Num
namespace GojaModel.F64

theorem ext' {a b : F64} (h1 : a.neg = b.neg) (h2 : a.exp = b.exp) (h3 : a.man = b.man) : a = b := by
  cases a; cases b; simp_all

theorem div_mod_of_lt {a b c : Nat} (hb : 0 < b) (hc : c < b) : (a * b + c) / b = a ∧ (a * b + c) % b = c := by
  rw [Nat.mul_comm, Nat.mul_add_div hb, Nat.mul_add_mod, Nat.div_eq_of_lt hc, Nat.mod_eq_of_lt hc]; exact ⟨rfl, rfl⟩

theorem bits_fields {s e m b : Nat} (hs : s < 2) (he : e < 2048) (hm : m < 2 ^ 52)
    (hb : b = s * 2 ^ 63 + e * 2 ^ 52 + m) : b / 2 ^ 63 % 2 = s ∧ b / 2 ^ 52 % 2048 = e ∧ b % 2 ^ 52 = m := by
  have hse : s * 2 ^ 63 + e * 2 ^ 52 = (s * 2048 + e) * 2 ^ 52 := by rw [Nat.add_mul, Nat.mul_assoc]
  obtain ⟨d1, m1⟩ := div_mod_of_lt (a := s * 2048 + e) (Nat.two_pow_pos 52) hm
  obtain ⟨d2, m2⟩ := div_mod_of_lt (a := s) (b := 2048) (by decide) he
  rw [hb, hse, m1, d1, m2]
  refine ⟨?_, rfl, rfl⟩
  rw [show (2 : Nat) ^ 63 = 2 ^ 52 * 2048 from rfl, ← Nat.div_div_eq_div_mul, d1, d2, Nat.mod_eq_of_lt hs]

theorem ofBits_toBits (f : F64) : ofBits f.toBits = f := by
  obtain ⟨n, e, m, he, hm⟩ := f
  cases n
  · obtain ⟨h1, h2, h3⟩ := bits_fields (s := 0) (b := 0 + e * 2 ^ 52 + m) (by decide) he hm (by rw [Nat.zero_mul])
    exact ext' (by simp only [ofBits, toBits, Bool.false_eq_true, if_false, h1]; rfl)
      (by simp only [ofBits, toBits, Bool.false_eq_true, if_false, h2])
      (by simp only [ofBits, toBits, Bool.false_eq_true, if_false, h3])
  · obtain ⟨h1, h2, h3⟩ := bits_fields (s := 1) (b := 2 ^ 63 + e * 2 ^ 52 + m) (by decide) he hm (by rw [Nat.one_mul])
    exact ext' (by simp only [ofBits, toBits, if_true, h1]; rfl) (by simp only [ofBits, toBits, if_true, h2])
      (by simp only [ofBits, toBits, if_true, h3])

theorem toBits_lt (f : F64) : f.toBits < 2 ^ 64 := by
  obtain ⟨n, e, m, he, hm⟩ := f
  simp only [toBits]
  cases n <;> simp <;> omega

end GojaModel.F64

namespace GojaModel.C05
open GojaModel GojaModel.Num

theorem finite_iff (f : F64) : (!f.isNaN && !f.isInf) = f.isFinite := by
  simp only [F64.isNaN, F64.isInf, F64.isFinite]
  cases h1 : (f.exp == 2047) <;> cases h2 : (f.man == 0) <;> simp [bne, h1, h2]

theorem inf_fields {f : F64} (h : f.isInf = true) : f.exp = 2047 ∧ f.man = 0 := by
  simpa [F64.isInf] using h

theorem nan_not_finite {f : F64} (h : f.isNaN = true) : f.toInt? = none := by
  simp [F64.isNaN] at h
  simp [F64.toInt?, F64.isFinite, h.1]

theorem toInt_some {f : F64} {i : Int} :
    f.toInt? = some i ↔ f.isFinite = true ∧ f.isIntegral = true ∧ f.truncInt = i := by
  simp only [F64.toInt?, Option.ite_none_right_eq_some, Option.some.injEq, Bool.and_eq_true, and_assoc]

theorem zero_fields {f : F64} (h : f.isZero = true) : f.exp = 0 ∧ f.man = 0 := by
  simpa [F64.isZero] using h

theorem zero_not_nan {f : F64} (h : f.isZero = true) : f.isNaN = false := by
  rw [F64.isNaN, (zero_fields h).1]; rfl

theorem zero_cases {f : F64} (h : f.isZero = true) : f = F64.posZero ∨ f = F64.negZero := by
  obtain ⟨he, hm⟩ := zero_fields h
  cases hs : f.neg
  · exact Or.inl (F64.ext' hs he hm)
  · exact Or.inr (F64.ext' hs he hm)

theorem sig_eff_of_exp_ne {f : F64} (h : f.exp ≠ 0) : f.sig = 2 ^ 52 + f.man ∧ f.eff = f.exp := by
  simp only [F64.sig, F64.eff, if_neg h, and_self]

theorem truncNat_of_le {f : F64} (h : f.eff ≤ 1075) : f.truncNat = f.sig / 2 ^ (1075 - f.eff) := by
  unfold F64.truncNat
  by_cases he : 1075 ≤ f.eff
  · rw [if_pos he, Nat.le_antisymm h he]; simp
  · rw [if_neg he]

theorem isIntegral_of_le {f : F64} (h : f.eff ≤ 1075) : f.isIntegral = (f.sig % 2 ^ (1075 - f.eff) == 0) := by
  unfold F64.isIntegral
  by_cases he : 1075 ≤ f.eff
  · rw [if_pos he, Nat.le_antisymm h he]; simp [Nat.mod_one]
  · rw [if_neg he]

theorem big_integral {f : F64} (hb : 1075 ≤ f.eff) : f.isZero = false ∧ f.isIntegral = true ∧ 2 ^ 52 ≤ f.truncNat := by
  have hexp : f.exp ≠ 0 := by intro he; simp [F64.eff, he] at hb
  refine ⟨by rw [F64.isZero, beq_eq_false_iff_ne.2 hexp, Bool.false_and], by rw [F64.isIntegral, if_pos hb], ?_⟩
  rw [F64.truncNat, if_pos hb, (sig_eff_of_exp_ne hexp).1]
  exact Nat.le_trans (Nat.le_add_right _ _) (Nat.le_mul_of_pos_right _ (Nat.two_pow_pos _))

theorem zero_sig_eff {f : F64} (h : f.isZero = true) : f.sig = 0 ∧ f.eff = 1 := by
  obtain ⟨he, hm⟩ := zero_fields h
  simp only [F64.sig, F64.eff, if_pos he, hm, and_self]

theorem isIntegral_of_zero {f : F64} (h : f.isZero = true) : f.isIntegral = true := by
  obtain ⟨hs, he⟩ := zero_sig_eff h
  rw [isIntegral_of_le (by rw [he]; decide), hs, Nat.zero_mod]; rfl

theorem truncNat_of_zero {f : F64} (h : f.isZero = true) : f.truncNat = 0 := by
  obtain ⟨hs, he⟩ := zero_sig_eff h
  rw [truncNat_of_le (by rw [he]; decide), hs, Nat.zero_div]

theorem natAbs_truncInt (f : F64) : f.truncInt.natAbs = f.truncNat := by
  unfold F64.truncInt; split <;> simp

theorem toInt_of_isZero {f : F64} (h : f.isZero = true) : f.toInt? = some 0 := by
  have hf : f.isFinite = true := by rw [F64.isFinite, (zero_fields h).1]; rfl
  rw [toInt_some, F64.truncInt, truncNat_of_zero h]
  exact ⟨hf, isIntegral_of_zero h, by split <;> rfl⟩

theorem feq_iff {f g : F64} (hf : f.isNaN = false) (hg : g.isNaN = false) :
    F64.feq f g = true ↔ (f.isZero = true ∧ g.isZero = true) ∨ f = g := by
  simp only [F64.feq, hf, hg]
  constructor
  · intro h
    simp at h
    rcases h with h | h
    · exact Or.inl h
    · exact Or.inr (F64.ext' h.1.1 h.1.2 h.2)
  · intro h
    rcases h with h | h
    · simp [h.1, h.2]
    · subst h; simp

theorem two_pow_mul {a b c : Nat} (h : a + b = c) : 2 ^ a * 2 ^ b = 2 ^ c := by rw [← Nat.pow_add, h]

theorem window_iff {n k d : Nat} (h : k + d = 52) :
    (2 ^ k ≤ n ∧ n < 2 ^ (k + 1)) ↔ (2 ^ 52 ≤ n * 2 ^ d ∧ n * 2 ^ d < 2 ^ 53) := by
  rw [← two_pow_mul h, ← two_pow_mul (a := k + 1) (b := d) (c := 53) (by omega),
    Nat.mul_le_mul_right_iff (Nat.two_pow_pos d), Nat.mul_lt_mul_right (Nat.two_pow_pos d)]

theorem ofNatSign_fields (neg : Bool) {n d : Nat} (hd : d ≤ 52) (w1 : 2 ^ 52 ≤ n * 2 ^ d) (w2 : n * 2 ^ d < 2 ^ 53) :
    (F64.ofNatSign neg n).neg = neg ∧ (F64.ofNatSign neg n).exp = 1075 - d ∧
    (F64.ofNatSign neg n).man = n * 2 ^ d - 2 ^ 52 := by
  obtain ⟨h1, h2⟩ := (window_iff (Nat.sub_add_cancel hd)).2 ⟨w1, w2⟩
  have hn : n ≠ 0 := Nat.pos_iff_ne_zero.1 (Nat.lt_of_lt_of_le (Nat.two_pow_pos _) h1)
  have hl : n.log2 = 52 - d := (Nat.log2_eq_iff hn).2 ⟨h1, h2⟩
  have hk : n.log2 ≤ 52 := by rw [hl]; exact Nat.sub_le 52 d
  have hs : 52 - n.log2 = d := by rw [hl]; exact Nat.sub_sub_self hd
  have hm : n * 2 ^ d - 2 ^ 52 < 2 ^ 52 := Nat.sub_lt_left_of_lt_add w1 w2
  have he : 1075 - d < 2048 := Nat.lt_of_le_of_lt (Nat.sub_le _ _) (by decide)
  have hexp : 1023 + n.log2 = 1075 - d := by rw [hl]; exact (Nat.add_sub_assoc hd 1023).symm
  unfold F64.ofNatSign
  simp only [dif_neg hn, dif_pos hk, dif_pos hm, dif_pos he, hs, hexp, and_self]

/-- What "the double `f` is exactly the integer of magnitude `n` with sign `neg`" means. -/
structure ExactNat (f : F64) (neg : Bool) (n : Nat) : Prop where
  hneg : f.neg = neg
  fin : f.isFinite = true
  integral : f.isIntegral = true
  trunc : f.truncNat = n
  nan : f.isNaN = false
  inf : f.isInf = false
  /-- lets `ofInt_exact` say that `float64(i)` is a zero only for `i = 0`, and then `+0` -/
  zero : f.isZero = decide (n = 0)

theorem exactNat_of_fields {f : F64} {neg : Bool} {n d : Nat} (hd : d ≤ 52) (w1 : 2 ^ 52 ≤ n * 2 ^ d)
    (hneg : f.neg = neg) (hexp : f.exp = 1075 - d) (hman : f.man = n * 2 ^ d - 2 ^ 52) : ExactNat f neg n := by
  obtain ⟨he0, he1, hle, hsub⟩ : f.exp ≠ 0 ∧ f.exp ≠ 2047 ∧ f.exp ≤ 1075 ∧ 1075 - f.exp = d := by omega
  obtain ⟨hsig, heff⟩ := sig_eff_of_exp_ne he0
  rw [hman, Nat.add_sub_of_le w1] at hsig
  rw [← heff] at hle hsub
  have hn : n ≠ 0 := by rintro rfl; rw [Nat.zero_mul] at w1; exact absurd w1 (by decide)
  refine ⟨hneg, ?_, ?_, ?_, ?_, ?_, ?_⟩
  · simp only [F64.isFinite, bne_iff_ne, ne_eq, he1, not_false_eq_true]
  · rw [isIntegral_of_le hle, hsub, hsig, Nat.mul_mod_left]; rfl
  · rw [truncNat_of_le hle, hsub, hsig, Nat.mul_div_cancel _ (Nat.two_pow_pos d)]
  · rw [F64.isNaN, beq_eq_false_iff_ne.2 he1, Bool.false_and]
  · rw [F64.isInf, beq_eq_false_iff_ne.2 he1, Bool.false_and]
  · rw [F64.isZero, beq_eq_false_iff_ne.2 he0, Bool.false_and, decide_eq_false hn]

theorem ofNatSign_zero (neg : Bool) : F64.ofNatSign neg 0 = ⟨neg, 0, 0, by decide, by decide⟩ := rfl

theorem ofNatSign_two53 (neg : Bool) : F64.ofNatSign neg (2 ^ 53) = ⟨neg, 1076, 0, by decide, by decide⟩ := by
  cases neg <;> decide

theorem ofNatSign_exact (neg : Bool) {n : Nat} (hle : n ≤ 2 ^ 53) : ExactNat (F64.ofNatSign neg n) neg n := by
  by_cases h0 : n = 0
  · subst h0; rw [ofNatSign_zero]; exact ⟨rfl, rfl, isIntegral_of_zero rfl, truncNat_of_zero rfl, rfl, rfl, rfl⟩
  · by_cases hlt : n < 2 ^ 53
    · have hk : n.log2 ≤ 52 := Nat.le_of_lt_succ ((Nat.log2_lt h0).2 hlt)
      obtain ⟨w1, w2⟩ := (window_iff (Nat.add_sub_of_le hk)).1 ⟨Nat.log2_self_le h0, Nat.lt_log2_self⟩
      obtain ⟨f1, f2, f3⟩ := ofNatSign_fields neg (Nat.sub_le 52 _) w1 w2
      exact exactNat_of_fields (Nat.sub_le 52 _) w1 f1 f2 f3
    · obtain rfl : n = 2 ^ 53 := Nat.le_antisymm hle (Nat.le_of_not_lt hlt)
      rw [ofNatSign_two53]; cases neg <;> exact ⟨rfl, rfl, rfl, by decide, rfl, rfl, rfl⟩

theorem shift_le_of_dvd {s d : Nat} (hs1 : 2 ^ 52 ≤ s) (hs2 : s < 2 ^ 53) (hmod : s % 2 ^ d = 0) : d ≤ 52 := by
  apply Nat.le_of_not_lt; intro hd
  rw [Nat.mod_eq_of_lt (Nat.lt_of_lt_of_le hs2 (Nat.pow_le_pow_right (by decide) hd))] at hmod
  rw [hmod] at hs1; exact absurd hs1 (by decide)

theorem ofNatSign_truncNat {f : F64} (hint : f.isIntegral = true)
    (hnz : f.isZero = false) (hle : f.truncNat ≤ 2 ^ 53) : F64.ofNatSign f.neg f.truncNat = f := by
  by_cases he0 : f.exp = 0
  · -- subnormal: `man < 2^52` is a multiple of `2^1074` only if it is 0
    have heff : f.eff = 1 := by simp only [F64.eff, if_pos he0]
    have hsig : f.sig = f.man := by simp only [F64.sig, if_pos he0]
    rw [isIntegral_of_le (by rw [heff]; decide), heff, hsig, beq_iff_eq,
      Nat.mod_eq_of_lt (Nat.lt_of_lt_of_le f.hman (Nat.pow_le_pow_right (by decide) (by decide)))] at hint
    simp only [F64.isZero, he0, hint, beq_self_eq_true, Bool.and_self] at hnz
    cases hnz
  · obtain ⟨hsig, heff⟩ := sig_eff_of_exp_ne he0
    have hman := f.hman
    by_cases hbig : f.eff ≤ 1075
    · -- below 2^53: `sig = truncNat * 2^d`
      rw [isIntegral_of_le hbig, beq_iff_eq] at hint
      have hs : f.truncNat * 2 ^ (1075 - f.eff) = f.sig := by
        rw [truncNat_of_le hbig]; exact Nat.div_mul_cancel (Nat.dvd_of_mod_eq_zero hint)
      rw [hsig] at hs hint
      have hd := shift_le_of_dvd (Nat.le_add_right _ _) (Nat.add_lt_add_left hman _) hint
      obtain ⟨f1, f2, f3⟩ := ofNatSign_fields f.neg hd (hs ▸ Nat.le_add_right _ _) (hs ▸ Nat.add_lt_add_left hman _)
      refine F64.ext' f1 ?_ ?_
      · rw [f2, Nat.sub_sub_self hbig, heff]
      · rw [f3, hs, Nat.add_sub_cancel_left]
    · -- `(2^52 + man) * 2^e ≤ 2^53` with `e ≥ 1` leaves only `2^53 = 2^52 * 2^1`
      have hlt : 1075 < f.eff := Nat.lt_of_not_le hbig
      have he : 1 ≤ f.eff - 1075 := Nat.sub_pos_of_lt hlt
      have hle' := hle
      rw [F64.truncNat, if_pos (Nat.le_of_lt hlt), hsig] at hle'
      have h2 := Nat.le_trans (Nat.mul_le_mul_left _ (Nat.pow_le_pow_right (by decide) he)) hle'
      have hm0 : f.man = 0 := by omega
      rw [hm0] at hle'
      have he1 : f.eff - 1075 ≤ 1 :=
        (Nat.pow_le_pow_iff_right (by decide)).1 (Nat.le_of_mul_le_mul_left hle' (by decide))
      have ht : f.truncNat = 2 ^ 53 := by
        rw [F64.truncNat, if_pos (Nat.le_of_lt hlt), hsig, hm0, Nat.le_antisymm he1 he]
      rw [ht, ofNatSign_two53]
      exact F64.ext' rfl (by show 1076 = f.exp; omega) hm0.symm

theorem ofInt_eq (i : Int) : F64.ofInt i = F64.ofNatSign (decide (i < 0)) i.natAbs := by
  unfold F64.ofInt; split <;> rename_i h <;> simp only [h, decide_true, decide_false]

/-- What "the double `f` is exactly the integer `i`, and not `-0`" means. -/
structure ExactInt (f : F64) (i : Int) : Prop where
  toInt : f.toInt? = some i
  nan : f.isNaN = false
  inf : f.isInf = false
  fin : f.isFinite = true
  trunc : f.truncInt = i
  zero : f.isZero = true → i = 0 ∧ f.neg = false

theorem ofInt_exact {i : Int} (h : Canon (int i)) : ExactInt (F64.ofInt i) i := by
  have hm : maxInt = 2 ^ 53 := rfl
  obtain ⟨h1, h2⟩ := h
  rw [hm] at h1 h2
  rw [ofInt_eq]
  have ex := ofNatSign_exact (decide (i < 0)) (n := i.natAbs) (by omega)
  have ht : (F64.ofNatSign (decide (i < 0)) i.natAbs).truncInt = i := by
    simp only [F64.truncInt, ex.hneg, ex.trunc, decide_eq_true_eq, Int.ofNat_eq_natCast]; split <;> omega
  refine ⟨toInt_some.2 ⟨ex.fin, ex.integral, ht⟩, ex.nan, ex.inf, ex.fin, ht, fun hz => ?_⟩
  rw [ex.zero, decide_eq_true_eq] at hz
  rw [ex.hneg]; exact ⟨by omega, decide_eq_false (by omega)⟩

def negF (f : F64) : F64 := { f with neg := !f.neg }

theorem negF_fields (f : F64) :
    (negF f).neg = !f.neg ∧ (negF f).isFinite = f.isFinite ∧ (negF f).isIntegral = f.isIntegral ∧
    (negF f).truncNat = f.truncNat ∧ (negF f).isZero = f.isZero := by
  refine ⟨rfl, rfl, rfl, rfl, rfl⟩

/-- `ofNatSign` only copies the sign, so this holds for every `k`; the two hypotheses are what the proof, which goes through uniqueness
(`ofNatSign_truncNat`), needs, and what the one caller has. -/
theorem negF_ofNatSign (s : Bool) {k : Nat} (hk0 : k ≠ 0) (hk : k ≤ 2 ^ 53) :
    negF (F64.ofNatSign s k) = F64.ofNatSign (!s) k := by
  have ex := ofNatSign_exact s hk
  obtain ⟨h1, h2, h3, h4, h5⟩ := negF_fields (F64.ofNatSign s k)
  have hz : (negF (F64.ofNatSign s k)).isZero = false := by
    rw [h5, ex.zero]; simp [hk0]
  have key := ofNatSign_truncNat (f := negF (F64.ofNatSign s k)) (by rw [h3]; exact ex.integral) hz
    (by rw [h4, ex.trunc]; exact hk)
  rw [h1, h4, ex.hneg, ex.trunc] at key
  exact key.symm

theorem ofInt_neg {n : Int} (hn : n ≠ 0) (h : Canon (int n)) : F64.ofInt (-n) = negF (F64.ofInt n) := by
  have hm : maxInt = 2 ^ 53 := rfl
  obtain ⟨h1, h2⟩ := h
  rw [hm] at h1 h2
  rw [ofInt_eq, ofInt_eq, negF_ofNatSign _ (by omega) (by omega), Int.natAbs_neg]
  congr 1
  by_cases h : n < 0 <;> simp [h] <;> omega

end GojaModel.C05
