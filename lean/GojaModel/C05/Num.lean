/-
  goja's two-representation Number (`valueInt` / `valueFloat`), its canonical form, the canonicalisers and the
  identity operations exactly as coded, next to the spec-level notions they must implement.  Core Lean only.

  Owned by property C05; outside C05 only C18 imports it (through `C05.Lemmas`).
-/
import GojaModel.C05.F64

namespace GojaModel

/-- A goja Number value: `valueInt(i)` (an `int64`) or `valueFloat(f)` (a `float64`). -/
inductive Num where
  | int (i : Int)
  | flt (f : F64)
deriving DecidableEq

namespace Num

/-- vm.go:17 `maxInt = 1 << 53`. -/
def maxInt : Int := 2 ^ 53

def minInt64 : Int := -(2 ^ 63)
def maxInt64 : Int := 2 ^ 63 - 1
def InInt64 (i : Int) : Prop := minInt64 ≤ i ∧ i ≤ maxInt64

/-! ### Canonical form

A mathematical Number has exactly one canonical representation:
* an integer of magnitude ≤ 2^53 (other than -0) is a `valueInt`;
* everything else is a `valueFloat`, and NaN is the single bit pattern `_NaN`. -/

def Canon : Num → Prop
  | int i => -maxInt ≤ i ∧ i ≤ maxInt
  | flt f =>
      (f.isNaN = true → f = F64.canonNaN) ∧
      (∀ i, f.toInt? = some i → -maxInt ≤ i → i ≤ maxInt → f = F64.negZero)

instance : DecidablePred Canon := fun a =>
  match a with
  | int i => inferInstanceAs (Decidable (-maxInt ≤ i ∧ i ≤ maxInt))
  | flt f =>
      if hn : f.isNaN = true then
        if h : f = F64.canonNaN then
          isTrue ⟨fun _ => h, by
            intro i hi; subst h; simp [F64.toInt?, F64.canonNaN, F64.mk', F64.isFinite] at hi⟩
        else isFalse (fun c => h (c.1 hn))
      else
        match hti : f.toInt? with
        | none => isTrue ⟨fun h => absurd h hn, by intro i hi; simp [hti] at hi⟩
        | some j =>
            if hr : -maxInt ≤ j ∧ j ≤ maxInt then
              if hz : f = F64.negZero then isTrue ⟨fun h => absurd h hn, fun _ _ _ _ => hz⟩
              else isFalse (fun c => hz (c.2 j hti hr.1 hr.2))
            else isTrue ⟨fun h => absurd h hn, by
              intro i hi h1 h2; rw [hti] at hi; cases hi; exact absurd ⟨h1, h2⟩ hr⟩

/-! ### Denotation: the double a Number value stands for -/

/-- `ToFloat()` (value.go:199 / value.go:602). -/
def toF64 : Num → F64
  | int i => F64.ofInt i
  | flt f => f

/-! ### Spec-level identity on doubles (ECMA-262 7.2.10-7.2.12, 7.2.16 restricted to Numbers) -/

def specSameValue (x y : F64) : Bool := (x.isNaN && y.isNaN) || x == y
def specSameValueZero (x y : F64) : Bool := (x.isNaN && y.isNaN) || (x.isZero && y.isZero) || x == y
def specStrictEq (x y : F64) : Bool := F64.feq x y

/-! ### Mechanism: canonicalisers (vm.go:396-429) -/

/-- vm.go:407 `floatToInt`: the conjuncts in source order. -/
def floatToInt (f : F64) : Option Int :=
  if (!f.isZero || !f.neg)            -- (f != 0 || !math.Signbit(f))
      && !f.isInf                     -- !math.IsInf(f, 0)
      && (!f.isNaN && f.isIntegral)   -- f == math.Trunc(f)      (false for NaN; Inf excluded above)
      && decide (-maxInt ≤ f.truncInt)  -- f >= -maxInt
      && decide (f.truncInt ≤ maxInt)   -- f <= maxInt
  then some f.truncInt else none

/-- The part of `intToValue` below the cache test (the `intCache` fast path returns the same `valueInt`). -/
def intToValueSmall (i : Int) : Num := int i

/-- vm.go:414 `floatToValue`. -/
def floatToValue (f : F64) : Num :=
  match floatToInt f with
  | some i => intToValueSmall i        -- intToValue(i) with |i| ≤ 2^53: always the valueInt branch
  | none =>
    if f.isZero then flt F64.negZero           -- case f == 0: return _negativeZero
    else if f.isNaN then flt F64.canonNaN      -- case math.IsNaN(f): return _NaN
    else if f.isInf && !f.neg then flt F64.posInf
    else if f.isInf && f.neg then flt F64.negInf
    else flt f

/-- vm.go:396 `intToValue` for an `int64` (after fix 287714a): beyond ±2^53 the nearest double may again be a
safe integer (2^53+1 rounds to 2^53), so the tail goes through `floatToValue`. -/
def intToValue (i : Int) : Num :=
  if -maxInt ≤ i ∧ i ≤ maxInt then int i
  else floatToValue (F64.ofInt i)          -- return floatToValue(float64(i))

/-- `intToValue` BEFORE 287714a (`return valueFloat(i)`), kept only for the regression witnesses. -/
def intToValuePrefix (i : Int) : Num :=
  if -maxInt ≤ i ∧ i ≤ maxInt then int i else flt (F64.ofInt i)

/-- vm.go:431 `toNumeric` on a Number. -/
def toNumeric : Num → Num
  | int i => int i
  | flt f => floatToValue f

/-! ### Mechanism: identity (value.go:215-263, 618-696; map.go:26) -/

/-- `a.SameAs(b)`.  value.go:215: `valueInt.SameAs` is interface equality, so an int is never the same as a float. -/
def sameAs : Num → Num → Bool
  | int i, int j => i == j
  | int _, flt _ => false
  | flt f, flt g =>
      if f.isNaN && g.isNaN then true
      else
        let ret := F64.feq f g
        if ret && f.isZero then f.neg == g.neg else ret
  | flt f, int j =>
      let ret := F64.feq f (F64.ofInt j)
      if ret && f.isZero then !f.neg else ret

/-- `a.StrictEquals(b)` (value.go:238, 668). -/
def strictEquals : Num → Num → Bool
  | int i, int j => i == j
  | int i, flt g => F64.feq (F64.ofInt i) g
  | flt f, flt g => F64.feq f g
  | flt f, int j => F64.feq f (F64.ofInt j)

/-- `hash` (value.go:261, 691): `uint64(i)` resp. the raw bits, `0` when `f == _negativeZero` (true for ±0). -/
def hash : Num → Nat
  | int i => (i % (2 ^ 64 : Int)).toNat
  | flt f => if f.isZero then 0 else f.toBits

/-- map.go:27 / builtin_array.go:658: `if key == _negativeZero { key = intToValue(0) }`
(Go interface `==` on two `valueFloat`s is float `==`, so `+0.0` stored as a float matches too; NaN never). -/
def normKey : Num → Num
  | flt f => if f.isZero then int 0 else flt f
  | a => a

/-- Does looking up `probe` find an entry stored under `stored`?  (map.go:26-33: same hash bucket, then
`entry.key.SameAs(key)`; `stored` went through `normKey` when it was inserted.) -/
def mapFinds (stored probe : Num) : Bool :=
  let s := normKey stored
  let p := normKey probe
  hash s == hash p && sameAs s p

/-- builtin_array.go `arrayproto_includes` after dd517b9: the search value AND each element are normalised
(`== _negativeZero → _positiveZero`), then `searchElement.SameAs(val)`. -/
def includesFinds (probe elem : Num) : Bool := sameAs (normKey probe) (normKey elem)

end Num
end GojaModel
