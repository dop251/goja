/-
  C05 — property theorems (every `theorem` here is one audited proof obligation).

  `Num` is goja's two-representation Number, `Canon` its canonical form, `toF64` the double a
  value denotes.  Mechanism definitions (`floatToValue`, `intToValue`, `sameAs`, `strictEquals`, `mapFinds`,
  `toIntS`, …, `opAdd` …, `StrNum.mech`) transcribe the Go code of /repo (with the C05 `fix:` commits);
  `spec…` definitions are the ECMAScript abstract operations on the denoted double.  All statements are for ALL
  doubles / integers / operands; nothing is `_partial`.  `…_prefix_witness` lemmas are regression lemmas
  about the mechanism BEFORE a fix (they say why the fixed shape, pinned by `Tie.lean`, matters).
-/
import GojaModel.C05.StrAgree
import GojaModel.C05.StrToInteger
import GojaModel.C05.ParseIntLemmas
import GojaModel.C05.ModelLemmas

namespace GojaModel.C05.Props
open GojaModel GojaModel.Num GojaModel.C05

/-- `floatToValue` canonicalises EVERY bit pattern (all NaN payloads ↦ the one `_NaN`, integral doubles of
magnitude ≤ 2^53 other than -0 ↦ `valueInt`, +0.0 ↦ int 0, …). -/
theorem canon_floatToValue (f : F64) : Canon (floatToValue f) := C05.canon_floatToValue f

/-- … and keeps the denoted double (SameValue, i.e. up to the NaN payload). -/
theorem floatToValue_denotes (f : F64) : specSameValue (floatToValue f).toF64 f = true := floatToValue_denotes' f

/-- so `floatToValue r` is THE canonical value denoting `r`: any canonical value denoting `r` equals it. -/
theorem floatToValue_unique {a : Num} (ha : Canon a) {r : F64} (h : specSameValue a.toF64 r = true) :
    a = floatToValue r := floatToValue_unique' ha h

/-- `toNumeric` re-canonicalises any `valueFloat`. -/
theorem canon_toNumeric_flt (f : F64) : Canon (toNumeric (flt f)) := C05.canon_floatToValue f

/-- `intToValue` is canonical for every integer … -/
theorem canon_intToValue (i : Int) : Canon (intToValue i) := canon_intToValue' i

/-- … and denotes `float64(i)`: `i` itself up to 2^53, the correctly rounded double beyond. -/
theorem intToValue_denotes (i : Int) : specSameValue (intToValue i).toF64 (F64.ofInt i) = true :=
  intToValue_denotes' i

/-- the int branch of `floatToValue` loses nothing: `floatToInt f = some i` only if `float64(i)` is `f` again. -/
theorem floatToInt_exact {f : F64} {i : Int} (h : floatToInt f = some i) : F64.ofInt i = f := ofInt_of_floatToInt h

/-- Regression lemma (before 287714a `intToValue` ended in `valueFloat(i)`): `intToValue(2^53+1)` was the float
2^53, not canonical, and `SameAs` then disagreed with itself in the two argument orders. -/
theorem intToValue_prefix_witness :
    ¬ Canon (intToValuePrefix (2 ^ 53 + 1)) ∧
    sameAs (int (2 ^ 53)) (intToValuePrefix (2 ^ 53 + 1)) = false ∧
    sameAs (intToValuePrefix (2 ^ 53 + 1)) (int (2 ^ 53)) = true := by decide +kernel

/-- Two canonical values denoting the same double (SameValue) are the same representation. -/
theorem canon_unique {a b : Num} (ha : Canon a) (hb : Canon b)
    (h : specSameValue a.toF64 b.toF64 = true) : a = b := canon_unique' ha hb h

/-- `SameAs` (Object.is, Map/Set bucket scan, includes) is SameValue on canonical values — in particular it is
symmetric there although `valueInt.SameAs` and `valueFloat.SameAs` are coded differently. -/
theorem sameAs_eq_spec {a b : Num} (ha : Canon a) (hb : Canon b) :
    sameAs a b = specSameValue a.toF64 b.toF64 := sameAs_eq_spec' ha hb

theorem sameAs_symm_of_canon {a b : Num} (ha : Canon a) (hb : Canon b) : sameAs a b = sameAs b a := by
  rw [sameAs_eq_spec' ha hb, sameAs_eq_spec' hb ha, specSameValue_comm]

/-- `===` is IEEE equality of the denoted doubles. -/
theorem strictEquals_eq_spec {a b : Num} (ha : Canon a) (hb : Canon b) :
    strictEquals a b = specStrictEq a.toF64 b.toF64 := strictEquals_eq_spec' ha hb

/-- `==` between two Numbers takes the same decisions as `===` (`valueInt.Equals` / `valueFloat.Equals` restricted to Number
operands are `StrictEquals`, tied by translation in `DecTie.equals_tie`, file `DecTie2.lean`), hence is IEEE equality of the denoted doubles. -/
theorem looseEquals_eq_spec {a b : Num} (ha : Canon a) (hb : Canon b) :
    strictEquals a b = specStrictEq a.toF64 b.toF64 := strictEquals_eq_spec ha hb

/-- Map/Set lookup (key normalisation + hash bucket + `SameAs`) is SameValueZero on canonical keys. -/
theorem mapFinds_eq_spec {a b : Num} (ha : Canon a) (hb : Canon b) :
    mapFinds a b = specSameValueZero a.toF64 b.toF64 := by
  rw [mapFinds_eq_includesFinds ha hb, includesFinds_eq_spec' ha hb]

/-- `Array.prototype.includes` after dd517b9 (search value AND element normalised, then `SameAs`) is SameValueZero. -/
theorem includesFinds_eq_spec {a b : Num} (ha : Canon a) (hb : Canon b) :
    includesFinds a b = specSameValueZero a.toF64 b.toF64 := includesFinds_eq_spec' ha hb

/-- Regression lemma (before dd517b9 only the search value was normalised): an element -0 was never found. -/
theorem includes_prefix_witness :
    sameAs (normKey (flt F64.negZero)) (flt F64.negZero) = false ∧
    specSameValueZero F64.negZero F64.negZero = true :=
  ⟨by decide, by decide⟩

/-- SameValueZero-equal canonical keys have the same normalised key, hence land in the same hash bucket. -/
theorem hash_eq_of_sameValueZero {a b : Num} (ha : Canon a) (hb : Canon b)
    (h : specSameValueZero a.toF64 b.toF64 = true) : hash (normKey a) = hash (normKey b) := by
  rw [(normKey_eq_iff_svz ha hb).2 h]

/-- A non-canonical NaN payload would be lost as a Map key: why `Canon` pins the NaN bit pattern. -/
theorem mapFinds_nan_payload_witness :
    mapFinds (flt F64.canonNaN) (flt (F64.mk' true 2047 1)) = false ∧
    specSameValueZero F64.canonNaN (F64.mk' true 2047 1) = true := by decide +kernel

theorem add_canon (a b : Num) (r : F64) : Canon (opAdd a b r) := by
  unfold opAdd; split
  · exact canon_intToValue' _
  · exact canon_floatToValue _
theorem sub_canon (a b : Num) (r : F64) : Canon (opSub a b r) := by
  unfold opSub; split
  · exact canon_intToValue' _
  · exact canon_floatToValue _
theorem mul_canon (a b : Num) (r : F64) : Canon (opMul a b r) := by
  unfold opMul; split
  · split
    · exact canon_negZero
    · simp only
      split
      · exact canon_intToValue' _
      · exact canon_floatToValue _
  · exact canon_floatToValue _
theorem div_canon (a b : Num) (r : F64) : Canon (opDiv a b r) := by
  rw [opDiv_refines']; exact canon_floatToValue _
theorem mod_canon (a b : Num) (r : F64) : Canon (opMod a b r) := by
  unfold opMod; split
  · split
    · exact canon_canonNaN
    · simp only
      split
      · exact canon_negZero
      · exact canon_intToValue' _
  · exact canon_floatToValue _
theorem neg_canon {a : Num} (ha : Canon a) (r : F64) : Canon (opNeg a r) := by
  unfold opNeg
  have hc := canon_toNumeric ha
  split
  · rename_i n hn
    rw [hn] at hc
    split
    · exact canon_negZero
    · exact ⟨by have := hc.2; omega, by have := hc.1; omega⟩
  · exact canon_floatToValue _
theorem inc_canon (a : Num) (r : F64) : Canon (opInc a r) := by
  unfold opInc; split
  · exact canon_intToValue' _
  · exact canon_floatToValue _
theorem dec_canon (a : Num) (r : F64) : Canon (opDec a r) := by
  unfold opDec; split
  · exact canon_intToValue' _
  · exact canon_floatToValue _

/- The bitwise operators end in `intToValue`, canonical for every argument.  A `bit32` term is generalised first, as in `canon_bit32`
(ModelLemmas.lean), where the reason is given; `have := and_canon a b` fails for the same reason.  The shifts and `~` do not need the step. -/
theorem and_canon (a b : Num) : Canon (opAnd a b) := by
  unfold opAnd; generalize bit32 _ _ _ = z; exact canon_intToValue' z
theorem or_canon (a b : Num) : Canon (opOr a b) := by
  unfold opOr; generalize bit32 _ _ _ = z; exact canon_intToValue' z
theorem xor_canon (a b : Num) : Canon (opXor a b) := by
  unfold opXor; generalize bit32 _ _ _ = z; exact canon_intToValue' z
theorem bnot_canon (a : Num) : Canon (opBnot a) := by
  unfold opBnot; exact canon_intToValue' _
theorem shl_canon (a b : Num) : Canon (opShl a b) := by
  unfold opShl; exact canon_intToValue' _
theorem sar_canon (a b : Num) : Canon (opSar a b) := by
  unfold opSar; exact canon_intToValue' _
theorem shr_canon (a b : Num) : Canon (opShr a b) := by
  unfold opShr; exact canon_intToValue' _

/-- Float paths: whatever the operands, when the wrapper applied is `floatToValue r` the result is the unique
canonical value denoting the IEEE result `r` (stated for `+` on a float operand; the other float paths are the
same expression `floatToValue r`). -/
theorem add_float_path_denotes (f : F64) (b : Num) (r : F64) :
    specSameValue (opAdd (flt f) b r).toF64 r = true := by
  simp only [opAdd]; exact floatToValue_denotes' r

/-- Int paths of `+ - ++ --`: the result denotes `float64` of the EXACT integer result (which is what IEEE
addition of two exactly represented integers yields: the correctly rounded exact sum). -/
theorem add_int_path_denotes (x y : Int) (r : F64) :
    specSameValue (opAdd (int x) (int y) r).toF64 (F64.ofInt (x + y)) = true := intToValue_denotes' _
theorem sub_int_path_denotes (x y : Int) (r : F64) :
    specSameValue (opSub (int x) (int y) r).toF64 (F64.ofInt (x - y)) = true := intToValue_denotes' _
theorem inc_int_path_denotes (x : Int) (r : F64) :
    specSameValue (opInc (int x) r).toF64 (F64.ofInt (x + 1)) = true := intToValue_denotes' _
theorem dec_int_path_denotes (x : Int) (r : F64) :
    specSameValue (opDec (int x) r).toF64 (F64.ofInt (x - 1)) = true := intToValue_denotes' _

/-- `intToValue i` IS the canonical value of the double nearest to `i`; hence the int paths of `+ - ++ --` return
exactly what the float path would return on the correctly rounded exact result. -/
theorem intToValue_eq_floatToValue (i : Int) : intToValue i = floatToValue (F64.ofInt i) := int_eq_floatToValue i
theorem add_int_path_exact (x y : Int) (r : F64) : opAdd (int x) (int y) r = floatToValue (F64.ofInt (x + y)) :=
  int_eq_floatToValue _
theorem sub_int_path_exact (x y : Int) (r : F64) : opSub (int x) (int y) r = floatToValue (F64.ofInt (x - y)) :=
  int_eq_floatToValue _

/-- **`/` refines IEEE-754 division**: goja's explicit special cases (NaN operands, ∞/∞, 0/0, ∞/y, x/∞, x/0 with the
XOR of the signs) give exactly the canonical value of the IEEE result (`specDivSpecial`), every other operand pair goes
through `floatToValue r` — for ALL operands. -/
theorem div_refines (a b : Num) (r : F64) :
    opDiv a b r = floatToValue ((specDivSpecial (toNumeric a).toF64 (toNumeric b).toF64).getD r) := opDiv_refines' a b r

/-- **Unary minus on a canonical int is the canonical value of the negated double** (`-0` for `0`; `-MinInt64` cannot arise,
a canonical `valueInt` has magnitude ≤ 2^53). -/
theorem neg_int_exact {n : Int} (hc : Canon (int n)) (r : F64) : opNeg (int n) r = floatToValue (negF (F64.ofInt n)) := by
  by_cases h0 : n = 0
  · subst h0
    have : negF (F64.ofInt 0) = F64.negZero := by decide
    rw [this]
    simp only [opNeg, toNumeric, if_true]
    exact canon_iff.1 canon_negZero
  · simp only [opNeg, toNumeric, h0, if_false]
    rw [← ofInt_neg h0 hc]
    have hc' : Canon (int (-n)) := ⟨by have := hc.2; omega, by have := hc.1; omega⟩
    exact canon_iff.1 hc'

/-- `++` / `--` on an int: `floatToValue` of the correctly rounded exact result. -/
theorem inc_int_path_exact (x : Int) (r : F64) : opInc (int x) r = floatToValue (F64.ofInt (x + 1)) := int_eq_floatToValue _
theorem dec_int_path_exact (x : Int) (r : F64) : opDec (int x) r = floatToValue (F64.ofInt (x - 1)) := int_eq_floatToValue _

/-- `%` on two ints: NaN for a zero divisor, `-0` for a zero remainder of a negative dividend, else the canonical value of the
truncated remainder (sign of the dividend) — what IEEE fmod gives on integer-valued operands (fmod itself is not modelled). -/
theorem mod_int_exact (x y : Int) (r : F64) :
    opMod (int x) (int y) r =
      if y = 0 then flt F64.canonNaN
      else if goRem x y = 0 ∧ x < 0 then flt F64.negZero
      else floatToValue (F64.ofInt (goRem x y)) := by
  simp only [opMod, toNumeric]
  by_cases hy : y = 0
  · simp [hy]
  · simp only [hy, if_false]
    by_cases hz : goRem x y = 0 ∧ x < 0
    · simp only [hz, and_self, if_true]
    · simp only [hz, if_false]; exact int_eq_floatToValue _

/-- **The bitwise operators are ECMAScript's**, for all canonical operands: ToInt32 / ToUint32 of the denoted doubles, the
32-bit operation (shift counts mod 32), result as a canonical int. -/
theorem and_spec {a b : Num} (ha : Canon a) (hb : Canon b) : opAnd a b = int (specAnd a.toF64 b.toF64) := by
  unfold opAnd specAnd; rw [toInt32_eq ha, toInt32_eq hb]; exact intToValue_inrange (wrapS32_range _)
theorem or_spec {a b : Num} (ha : Canon a) (hb : Canon b) : opOr a b = int (specOr a.toF64 b.toF64) := by
  unfold opOr specOr; rw [toInt32_eq ha, toInt32_eq hb]; exact intToValue_inrange (wrapS32_range _)
theorem xor_spec {a b : Num} (ha : Canon a) (hb : Canon b) : opXor a b = int (specXor a.toF64 b.toF64) := by
  unfold opXor specXor; rw [toInt32_eq ha, toInt32_eq hb]; exact intToValue_inrange (wrapS32_range _)
theorem bnot_spec {a : Num} (ha : Canon a) : opBnot a = int (specBnot a.toF64) := by
  have e : specToIntS 32 a.toF64 = wrapS 32 (specIntOrZero a.toF64) := (wrapS_eq (by decide) _).symm
  have h := wrapS_range (n := 32) (by decide) (specIntOrZero a.toF64)
  unfold opBnot specBnot; rw [toInt32_eq ha, e]
  exact intToValue_inrange (by simp only [maxInt]; omega)
theorem shl_spec {a b : Num} (ha : Canon a) (hb : Canon b) : opShl a b = int (specShl a.toF64 b.toF64) := by
  unfold opShl specShl; rw [toInt32_eq ha, toUint32_eq hb]; exact intToValue_inrange (wrapS32_range _)
theorem sar_spec {a b : Num} (ha : Canon a) (hb : Canon b) : opSar a b = int (specSar a.toF64 b.toF64) := by
  unfold opSar specSar; rw [toInt32_eq ha, toUint32_eq hb]; exact intToValue_inrange (wrapS32_range _)
theorem shr_spec {a b : Num} (ha : Canon a) (hb : Canon b) : opShr a b = int (specShr a.toF64 b.toF64) := by
  unfold opShr specShr; rw [toUint32_eq ha, toUint32_eq hb]; exact intToValue_inrange (wrapU32_range _)

/-- `_mul` after bd78985: a zero product of two ints with a negative factor is `-0`, for ALL such operands … -/
theorem mul_int_zero_sign (r : F64) {x y : Int} (h : (x = 0 ∧ y < 0) ∨ (x < 0 ∧ y = 0)) :
    opMul (int x) (int y) r = flt F64.negZero := by
  simp [opMul, mulNegZero, toNumeric, h]

/-- … and every other zero product is `+0` (so the sign of an int×int zero is the IEEE sign, always). -/
theorem mul_int_zero_pos (r : F64) {x y : Int} (hx : -maxInt ≤ x ∧ x ≤ maxInt) (hy : -maxInt ≤ y ∧ y ≤ maxInt)
    (h0 : x * y = 0) (h : ¬ ((x = 0 ∧ y < 0) ∨ (x < 0 ∧ y = 0))) :
    opMul (int x) (int y) r = int 0 := by
  rw [opMul_int_exact hx, if_neg h, h0, if_pos (by decide)]; rfl

/-- **`_mul`'s overflow test is exact**: for canonical int operands the wrapped int64 product divided by `left` gives back
`right` exactly when the true product fits an int64. -/
theorem mul_overflow_test_exact {x y : Int} (hx : -maxInt ≤ x ∧ x ≤ maxInt) (hx0 : x ≠ 0) :
    goQuot (wrapS 64 (x * y)) x = y ↔ InInt64 (x * y) := mul_overflow_test hx hx0

/-- The int×int path of `*`, completely: `-0` for a zero product with a negative factor, the canonical value of the
EXACT product when it fits an int64, `floatToValue r` (IEEE product) only when it does not; a wrapped product is never
used. -/
theorem mul_int_exact {x y : Int} (hx : -maxInt ≤ x ∧ x ≤ maxInt) (hy : -maxInt ≤ y ∧ y ≤ maxInt) (r : F64) :
    opMul (int x) (int y) r =
      if (x = 0 ∧ y < 0) ∨ (x < 0 ∧ y = 0) then flt F64.negZero
      else if InInt64 (x * y) then intToValue (x * y)
      else floatToValue r := opMul_int_exact hx r

/-- Regression lemma (before bd78985 the guard was `0 * -1 | -1 * 0` only): `0 * -5` took the integer path. -/
theorem mul_prefix_witness : mulNegZeroPrefix 0 (-5) = false ∧ mulNegZero 0 (-5) = true := by decide

/-- the helper of c5b41a6 is reduction modulo 2^64 into the int64 range, for every finite double -/
theorem float64ToInt64Mod_spec (f : F64) : float64ToInt64Mod f = wrapS 64 f.truncInt := float64ToInt64Mod_eq f

theorem toInt32_spec {a : Num} (ha : Canon a) : toIntS 32 a = specToIntS 32 a.toF64 := toIntS_spec (by decide) (by decide) ha
theorem toInt16_spec {a : Num} (ha : Canon a) : toIntS 16 a = specToIntS 16 a.toF64 := toIntS_spec (by decide) (by decide) ha
theorem toInt8_spec {a : Num} (ha : Canon a) : toIntS 8 a = specToIntS 8 a.toF64 := toIntS_spec (by decide) (by decide) ha
theorem toUint32_spec {a : Num} (ha : Canon a) : toIntU 32 a = specToIntU 32 a.toF64 := toIntU_spec (by decide) ha
theorem toUint16_spec {a : Num} (ha : Canon a) : toIntU 16 a = specToIntU 16 a.toF64 := toIntU_spec (by decide) ha
theorem toUint8_spec {a : Num} (ha : Canon a) : toIntU 8 a = specToIntU 8 a.toF64 := toIntU_spec (by decide) ha

/-- Regression lemma (before c5b41a6 the float branch was `int32(int64(f))`): ToInt32(2^63 + 2^11) = 2048, the old
code gave 0 on amd64.  Bits 0x43E0000000000001. -/
theorem toInt32_prefix_witness :
    toInt32Prefix (flt (F64.mk' false 1086 1)) = 0 ∧ specToIntS 32 (F64.mk' false 1086 1) = 2048 ∧
    toIntS 32 (flt (F64.mk' false 1086 1)) = 2048 := by decide

/-- `floatToIntClip` (`valueFloat.ToInteger`) is ToIntegerOrInfinity clamped to int64, for all doubles. -/
theorem floatToIntClip_spec (f : F64) : floatToIntClip f = specToIntegerClamped f := floatToIntClip_spec' f

/-- `toLength` = ToLength, `toIndex` = ToIndex, `toUint8Clamp` = ToUint8Clamp, `toLengthUint32` = the ArraySetLength
number test, for all canonical values (all doubles). -/
theorem toLength_spec {a : Num} (ha : Canon a) : toLength a = specToLength a.toF64 := by
  rw [← toLength_flt, toLength, toLength, toInteger_toF64 ha]
theorem toIndex_spec {a : Num} (ha : Canon a) : toIndex a = specToIndex a.toF64 := by
  rw [← toIndex_flt, toIndex, toIndex, toInteger_toF64 ha]
theorem toUint8Clamp_spec {a : Num} (ha : Canon a) : toUint8Clamp a = specToUint8Clamp a.toF64 := by
  cases a with
  | int i =>
    show _ = specToUint8Clamp (F64.ofInt i)
    rw [specClamp_of_integral (ofInt_exact ha).toInt]; rfl
  | flt f => exact toUint8Clamp_flt f
theorem toLengthUint32_spec {a : Num} (ha : Canon a) : toLengthUint32 a = specArrayLength a.toF64 := by
  cases a with
  | int i =>
    simp only [toLengthUint32, specArrayLength, toF64, (ofInt_exact ha).toInt]
  | flt f => exact toLengthUint32_flt f

/-- **`Number(bigint)` = 𝔽(ℝ(b))** for EVERY BigInt (after 9d4b1ca): the canonical value of the nearest double, whichever
branch (`intToValue(Int64())` within int64, `big.Float` beyond) computes it. -/
theorem numberOfBigInt_spec (b : Int) : numberOfBigInt b = specNumberOfBigInt b := by
  simp only [numberOfBigInt, specNumberOfBigInt]
  split
  · exact int_eq_floatToValue b
  · rfl

/-- Regression lemma (before 9d4b1ca the conversion was `intToValue(b.Int64())`): `Number(2n**64n)` was 0, the low 64 bits. -/
theorem numberOfBigInt_prefix_witness :
    numberOfBigIntPrefix (2 ^ 64) = int 0 ∧ specNumberOfBigInt (2 ^ 64) = flt (F64.mk' false 1087 0) ∧
    numberOfBigInt (2 ^ 64) = flt (F64.mk' false 1087 0) := by decide

/-- The set goja trims (`parser.WhitespaceChars`, regenerated into `Tie`) is exactly WhiteSpace ∪ LineTerminator of
ECMA-262 (table check over the whole table, both inclusions). -/
theorem trimSet_eq_spec : ∀ c, StrNum.isTrimChar c = StrNum.specIsStrWhiteSpace c := StrNum.trimSet_eq_spec'

/-- Trimming removes exactly the maximal white-space prefix and suffix: what is left neither starts nor ends with
a trimmed code point, and nothing but trimmed code points was removed. -/
theorem trim_correct (s : List Nat) :
    (∃ pre suf, s = pre ++ StrNum.trim s ++ suf ∧ pre.all StrNum.isTrimChar = true ∧ suf.all StrNum.isTrimChar = true) ∧
    (∀ c rest, StrNum.trim s = c :: rest → StrNum.isTrimChar c = false) ∧
    (∀ c, (StrNum.trim s).getLast? = some c → StrNum.isTrimChar c = false) := StrNum.trim_correct' s

/-- U+0085 (NEL, trimmed by Go's `strings.TrimSpace` before e80e384) is not trimmed. -/
theorem nel_not_trimmed : StrNum.isTrimChar 0x85 = false := by decide

/-- **StringToNumber, full statement: for EVERY string goja's decisions — trim with `parser.WhitespaceChars`, the
Infinity forms, `stringToInt` (radix prefix, sign rules, int64 range, "-0…"), `_toFloat` ("-0", underscore, big radix
literal, hex-float rejection, `strconv.ParseFloat`'s specials and decimal grammar) — yield exactly what ECMA-262
StringToNumber yields (strip StrWhiteSpace, StrNumericLiteral): same NaN-ness, same sign, same exact decimal
value.** -/
theorem strToNum_mech_eq_spec (s : List Nat) : StrNum.mech s = StrNum.spec s := StrNum.mech_eq_spec s

/-- `Value.ToFloat()` of a string (used by `Math.*`, unary minus, `isNaN`, typed-array stores …) tries `_toFloat` first
and `_toInt` second; `ToNumber` tries them in the other order.  Both orders make the same decisions for EVERY string:
whenever the integer parse succeeds `_toFloat` succeeds with the same exact value, and an error of both is NaN. -/
theorem strToFloat_eq_toNumber (t : List Nat) : StrNum.mechToFloatT t = StrNum.mechT t := StrNum.mechToFloatT_eq_mechT t

/-- `Value.ToInteger()` of a string (`asciiString.ToInteger` after c886782), integer-text branch: when `_toInt` succeeds the result
is that exact integer, which is the integer `ToNumber` denotes. -/
theorem strToInteger_int_branch {t : List Nat} {i : Int} (hne : t.isEmpty = false)
    (hinf : (t == StrNum.str "Infinity" || t == StrNum.str "+Infinity") = false) (hminf : (t == StrNum.str "-Infinity") = false)
    (h : StrNum.stringToInt t = some i) :
    StrNum.mechToIntegerT t = i ∧ StrNum.mechT t = StrNum.Res.exactInt (decide (i < 0)) i.natAbs :=
  StrNum.toInteger_int_branch hne hinf hminf h

/-- … and for EVERY other text (empty, Infinity forms, fractions, exponents, integers beyond int64, invalid text): it is
ToIntegerOrInfinity, clamped to int64, of the double `ToNumber` yields (NaN ↦ 0, ±∞ ↦ the int64 limits). -/
theorem strToInteger_float_branch {t : List Nat} (h : StrNum.stringToInt t = none) :
    StrNum.mechToIntegerT t = StrNum.specToIntegerOfRes (StrNum.mechT t) := StrNum.toInteger_float_branch h

/-- the same on an already trimmed string (`mechT`/`specT` are the decisions on the TRIMMED string; `mech = mechT ∘ trim`) -/
theorem strToNum_mechT_eq_specT (t : List Nat) : StrNum.mechT t = StrNum.specT t := StrNum.mechT_eq_specT t

/-- A sign after a radix prefix is never accepted (d6061d6): for every base letter, sign and rest. -/
theorem radix_sign_rejected (p sgn : Nat) (rest : List Nat) (hp : StrNum.radixOfLetter p ≠ 0)
    (hs : sgn = 0x2B ∨ sgn = 0x2D) : StrNum.mechT (0x30 :: p :: sgn :: rest) = StrNum.Res.nan := by
  have hle := StrNum.radixOfLetter_le p
  rw [StrNum.mechT_radix p sgn rest hp, if_neg]
  simp only [StrNum.allDigits, List.all_cons, StrNum.digitVal_sign hs, Bool.and_eq_true, decide_eq_true_eq]
  omega

/-- A radix literal has NO int64 limit (d6061d6): for every base letter and every non-empty list of digits
valid in that base, the result is the exact integer value of the digits (arbitrarily large). -/
theorem radix_literal_exact (p : Nat) (ds : List Nat) (hp : StrNum.radixOfLetter p ≠ 0) (hne : ds ≠ [])
    (hd : ds.all (fun c => decide (StrNum.digitVal c < StrNum.radixOfLetter p)) = true) :
    StrNum.mechT (0x30 :: p :: ds) = StrNum.Res.exactInt false (StrNum.digitsValue (StrNum.radixOfLetter p) ds) := by
  cases ds with
  | nil => exact absurd rfl hne
  | cons d ds' => rw [StrNum.mechT_radix p d ds' hp, if_pos (show StrNum.allDigits _ (d :: ds') = true from hd)]

/-- The mechanism's decisions agree with the spec-level recogniser of StringNumericLiteral on every string made of
an optional sign and decimal digits (7637e2e: "-0", "-00", … are -0; any number of digits is the exact integer). -/
theorem signed_digits_agree (neg : Bool) (ds : List Nat) (hne : ds ≠ [])
    (hd : ds.all StrNum.isDecDigit = true) :
    StrNum.mechT ((if neg then [0x2D] else []) ++ ds) = StrNum.specT ((if neg then [0x2D] else []) ++ ds) :=
  StrNum.mechT_eq_specT _

/-- Whenever the mechanism falls through to `strconv.ParseFloat` (no integer parse, not "-0", no underscore, no radix
prefix, no hex-float prefix, not one of ParseFloat's special words inf/infinity/nan) and the text is not an Infinity
form, its answer is the spec recogniser's — for every such text (fractions, exponents, invalid remainders …). -/
theorem parseFloat_path_agree (t : List Nat) (hne : t.isEmpty = false)
    (hinf : (t == StrNum.str "Infinity" || t == StrNum.str "+Infinity") = false)
    (hminf : (t == StrNum.str "-Infinity") = false)
    (hsti : StrNum.stringToInt t = none) (hm0 : (t == StrNum.str "-0") = false) (hus : t.contains 0x5F = false)
    (hrp : StrNum.radixPrefix t = 0)
    (hhex : ∀ x r, (StrNum.splitSign t).2 = 0x30 :: x :: r → ¬ (x = 0x78 ∨ x = 0x58))
    (hsp : StrNum.goSpecial t = false) (hbinf : ((StrNum.splitSign t).2 == StrNum.str "Infinity") = false) :
    StrNum.mechT t = StrNum.specT t :=
  StrNum.mechT_eq_specT t

/-- non-vacuity of the hypotheses above: "1.5e3" satisfies them all -/
example : StrNum.mechT (StrNum.str "1.5e3") = StrNum.Res.num false 15 2 ∧ StrNum.stringToInt (StrNum.str "1.5e3") = none ∧
    StrNum.goSpecial (StrNum.str "1.5e3") = false := by decide +kernel

/-- `parseInt`'s accumulation loop (cutoff = MaxInt64/base + 1, `n >= cutoff`, `n1 < n || n1 > maxVal`) with Go's
WRAPPING int64 arithmetic never wraps: for every base 2..36 and every digit list, an int64 result is the exact value
of the digits read and lies in [0, MaxInt64]; otherwise `parseLargeInt` (math/big) takes over. -/
theorem parseInt_loop_no_wrap {base : Nat} (hb : 2 ≤ base) (hb36 : base ≤ 36) (ds : List Nat) (r : Int)
    (h : ParseInt.loop base 0 ds = .small r) : r = ParseInt.exact base 0 ds ∧ 0 ≤ r ∧ r ≤ maxInt64 := by
  have := ParseInt.loop_spec hb hb36 ds 0 (by decide) (by decide)
  rw [h] at this; exact this

/-- … and the hand-over happens only for values ≥ cutoff.  (`cutoff` exceeds 2^53 for every base ≤ 36, so `parseLargeInt`'s raw
`valueFloat` is no safe integer: that step is arithmetic and no lemma states it.) -/
theorem parseInt_large_is_big {base : Nat} (hb : 2 ≤ base) (hb36 : base ≤ 36) (ds : List Nat)
    (h : ParseInt.loop base 0 ds = .large) : ParseInt.cutoff base ≤ ParseInt.exact base 0 ds := by
  have := ParseInt.loop_spec hb hb36 ds 0 (by decide) (by decide)
  rw [h] at this; exact this

/-- `parseInt`'s digit phase returns the exact integer value of the longest valid digit prefix (or NaN when there is
none), whichever of its two paths (int64 accumulator / math/big) it takes — every base 2..36, every text. -/
theorem parseInt_digits_exact {base : Nat} (hb : 2 ≤ base) (hb36 : base ≤ 36) (ds : List Nat) :
    ParseInt.digitsResult base ds =
      (match ds with
       | [] => none
       | c :: _ => if StrNum.digitVal c ≥ base then none else some (ParseInt.exact base 0 ds)) :=
  ParseInt.digitsResult_exact hb hb36 ds

/-- **`parseInt(string, radix)` = ECMA-262 parseInt**, for every trimmed text and every radix value: sign, `0x` prefix
(only for radix 0 or 16), radix validation (2..36), and the exact value of the longest digit prefix whichever path
(int64 accumulator / math/big) computes it; NaN exactly when the spec says NaN. -/
theorem parseInt_mech_eq_spec (t : List Nat) (R : Int) : ParseInt.mech t R = ParseInt.spec t R :=
  ParseInt.mech_eq_spec t R

/-- Regression lemma (seeded change m3: `n > cutoff` for `n >= cutoff`): the accumulator wraps —
`parseInt("8000000000000000", 16)` would be -2^63; the real loop hands over. -/
theorem parseInt_gt_prefix_witness :
    ParseInt.loopGt 16 0 (ParseInt.cps "8000000000000000") = .small (-(2 ^ 63)) ∧
    ParseInt.loop 16 0 (ParseInt.cps "8000000000000000") = .large ∧
    ParseInt.exact 16 0 (ParseInt.cps "8000000000000000") = 2 ^ 63 := by decide +kernel

example : Canon (int 7) ∧ Canon (flt F64.negZero) ∧ Canon (flt (F64.mk' false 1030 1)) :=
  ⟨by decide, canon_negZero, by decide⟩
example : ¬ Canon (flt (F64.mk' false 1024 0)) ∧ ¬ Canon (flt (F64.mk' true 2047 5)) := by decide
example : floatToValue (F64.mk' false 1025 (2 ^ 51)) = int 6 := by decide      -- 6.0 ↦ valueInt(6)
example : intToValue (2 ^ 53 + 1) = int (2 ^ 53) := by decide +kernel                  -- the repaired tail
example : toIntS 32 (flt (F64.mk' false 1086 1)) = 2048 := by decide

end GojaModel.C05.Props
