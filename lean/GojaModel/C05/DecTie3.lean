/-
  C05 — Tie for the translated `toUint8Clamp` (runtime.go): `math.Floor`, `f + 0.5 < num` and
  `f + 0.5 > num` are given their exact meaning (`GenPrelude.floorF/halfLt/halfGt`), `uint8` arithmetic wraps.
-/
import GojaModel.C05.DecTie
import GojaModel.C05.ModelLemmas
namespace GojaModel.C05.DecTie
open GojaModel GojaModel.Num GojaModel.C05 GojaModel.C05.Gen

theorem fconst_255 : fconst 255 = 255 := fconst_exact (by decide)

theorem ltI_zero {f : F64} (hfin : f.isFinite = true) (hz : f.isZero = false) : ltI f 0 = f.neg := by
  obtain ⟨hn, hi⟩ := fin_not_nan_inf hfin
  obtain ⟨s1, s2⟩ := trunc_sign f
  simp only [ltI, hn, hi, Bool.not_false, Bool.true_and, Bool.false_eq_true, if_false, floorInt]
  by_cases hs : f.neg = true
  · have := s1 hs
    by_cases hint : f.isIntegral = true
    · have h0 : f.truncInt ≠ 0 := fun h0 => by rw [zero_of_trunc hfin hint h0] at hz; cases hz
      simp only [hs, hint, Bool.not_true, Bool.and_false, Bool.false_eq_true, if_false, decide_eq_true_eq]; omega
    · simp only [hs, hint, Bool.not_false, Bool.and_self, if_true, decide_eq_true_eq]; omega
  · have hs' : f.neg = false := by simpa using hs
    have := s2 hs'
    simp only [hs', Bool.false_and, Bool.false_eq_true, if_false, decide_eq_false_iff_not]; omega

theorem twice_of_le {x : F64} (h : x.eff ≤ 1074) (hs : x.neg = false) :
    twiceNum x = (x.sig : Int) ∧ twiceDenExp x = 1074 - x.eff := by
  unfold twiceNum twiceDenExp
  by_cases h74 : 1074 ≤ x.eff
  · simp [Nat.le_antisymm h h74, hs]
  · simp [h74, hs]

theorem half_small {f : F64} (hfin : f.isFinite = true) (hs : f.neg = false) (hb : ¬ 1075 ≤ f.eff) :
    halfLt ((f.sig / 2 ^ (1075 - f.eff) : Nat) : Int) f = decide (2 * (f.sig % 2 ^ (1075 - f.eff)) > 2 ^ (1075 - f.eff)) ∧
    halfGt ((f.sig / 2 ^ (1075 - f.eff) : Nat) : Int) f = decide (2 * (f.sig % 2 ^ (1075 - f.eff)) < 2 ^ (1075 - f.eff)) := by
  obtain ⟨hn, hi⟩ := fin_not_nan_inf hfin
  obtain ⟨htn, htd⟩ := twice_of_le (Nat.le_of_lt_succ (Nat.lt_of_not_le hb)) hs
  have hd : 2 ^ (1075 - f.eff) = 2 * 2 ^ (1074 - f.eff) := by
    rw [show 1075 - f.eff = (1074 - f.eff) + 1 by omega, Nat.pow_succ, Nat.mul_comm]
  simp only [halfLt, halfGt, hn, hi, Bool.not_false, Bool.true_and, Bool.false_eq_true, if_false, htn, htd, hd]
  have hdm := Nat.div_add_mod f.sig (2 * 2 ^ (1074 - f.eff))
  rw [show (2 : Int) ^ (1074 - f.eff) = ((2 ^ (1074 - f.eff) : Nat) : Int) by push_cast; rfl]
  generalize 2 ^ (1074 - f.eff) = d' at *
  generalize f.sig / (2 * d') = q at *
  generalize f.sig % (2 * d') = r at *
  -- `sig = 2·d'·q + r` and `(2q + 1)·d' = 2·d'·q + d'`: compare `d'` with `r`
  have e : (2 * (q : Int) + 1) * (d' : Int) = 2 * ((d' * q : Nat) : Int) + d' := by
    rw [Int.add_mul, Int.one_mul, Int.mul_assoc, Int.mul_comm (q : Int), Int.natCast_mul]
  rw [Nat.mul_assoc] at hdm
  rw [e, ← hdm]
  generalize d' * q = p
  constructor <;> (rw [decide_eq_decide]; omega)

theorem clamp_small {f : F64} (hfin : f.isFinite = true) (hz : f.isZero = false) (hs : f.neg = false)
    (hb : ¬ 1075 ≤ f.eff) :
    Generated.C05_Decisions.toUint8Clamp (flt f) = C05.toUint8Clamp (flt f) := by
  obtain ⟨hn, hi⟩ := fin_not_nan_inf hfin
  obtain ⟨hl, hg⟩ := half_small hfin hs hb
  have hdpos := Nat.two_pow_pos (1075 - f.eff)
  have hr := Nat.mod_lt f.sig hdpos
  have htr : f.truncInt = ((f.sig / 2 ^ (1075 - f.eff) : Nat) : Int) := by
    simp [F64.truncInt, hs, F64.truncNat, hb]
  have hint : f.isIntegral = decide (f.sig % 2 ^ (1075 - f.eff) = 0) := by
    simp only [F64.isIntegral, hb, if_false]; rw [Bool.eq_iff_iff]; simp
  have hfloor : floorF f = ((f.sig / 2 ^ (1075 - f.eff) : Nat) : Int) := by
    simp [floorF, floorInt, hs, htr]
  have hlt0 : ltI f (fconst 0) = false := by rw [fconst_zero, ltI_zero hfin hz, hs]
  have hgt : gtI f (fconst 255) = decide (f.sig / 2 ^ (1075 - f.eff) > 255 ∨ (f.sig / 2 ^ (1075 - f.eff) = 255 ∧ f.sig % 2 ^ (1075 - f.eff) > 0)) := by
    rw [fconst_255]
    simp only [gtI, hn, hi, Bool.not_false, Bool.true_and, Bool.false_eq_true, if_false, ceilInt, hs, hint, htr]
    rw [Bool.eq_iff_iff]
    simp only [decide_eq_true_eq, Bool.not_eq_true', decide_eq_false_iff_not]
    by_cases h0 : f.sig % 2 ^ (1075 - f.eff) = 0
    · simp only [h0, not_true_eq_false, if_false]; omega
    · simp only [h0, not_false_eq_true, if_true]; omega
  simp only [Generated.C05_Decisions.toUint8Clamp, C05.toUint8Clamp, isNaN, hn, Bool.not_false, if_true, Bool.false_eq_true, if_false, hlt0, hgt,
    hs, Bool.false_and, hi, hb, hfloor, hl, hg, decide_eq_true_eq]
  generalize f.sig / 2 ^ (1075 - f.eff) = q at *
  generalize f.sig % 2 ^ (1075 - f.eff) = r at *
  generalize 2 ^ (1075 - f.eff) = d at *
  by_cases h1 : q > 255 ∨ (q = 255 ∧ r > 0)
  · simp only [h1, if_true]
  · simp only [h1, if_false]
    by_cases h2 : 2 * r > d
    · simp only [h2, if_true]
      rw [wrapU_of_range (by omega) (by omega)]; simp
    · simp only [h2, if_false]
      by_cases h3 : 2 * r < d
      · simp only [h3, if_true]
        rw [wrapU_of_range (by omega) (by omega)]; simp
      · simp only [h3, if_false]
        rw [wrapU_of_range (x := (q : Int)) (by omega) (by omega)]
        have hw : wrapU 8 ((q : Int) + 1) = (q : Int) + 1 := wrapU_of_range (by omega) (by omega)
        rw [hw]
        by_cases h4 : q % 2 = 1
        · have h5 : (q : Int) % 2 ≠ 0 := by omega
          rw [if_pos h5, if_pos h4]; simp
        · have h5 : ¬ ((q : Int) % 2 ≠ 0) := by omega
          rw [if_neg h5, if_neg h4]; simp

theorem toUint8Clamp_tie (v : Num) : Generated.C05_Decisions.toUint8Clamp v = C05.toUint8Clamp v := by
  cases v with
  | int i =>
    simp only [Generated.C05_Decisions.toUint8Clamp, C05.toUint8Clamp, decide_eq_true_eq]
    split
    · rfl
    · split
      · exact wrapU_of_range (by omega) (by omega)
      · rfl
  | flt f =>
    rcases nonfinite_cases f with hfin | hinf | hnan
    · obtain ⟨hn, hi⟩ := fin_not_nan_inf hfin
      by_cases hz : f.isZero = true
      · rcases zero_cases hz with rfl | rfl <;> decide +kernel
      · have hz : f.isZero = false := by simpa using hz
        by_cases hs : f.neg = true
        · have hneg : (f.neg && !f.isZero) = true := by rw [hs, hz]; rfl
          have hlt : ltI f (fconst 0) = true := by rw [fconst_zero, ltI_zero hfin hz, hs]
          simp only [Generated.C05_Decisions.toUint8Clamp, C05.toUint8Clamp, isNaN, hn, Bool.not_false, if_true, hlt, hneg, Bool.false_eq_true, if_false]
        · have hs' : f.neg = false := by simpa using hs
          by_cases hb : 1075 ≤ f.eff
          · -- ≥ 2^52: 255
            obtain ⟨_, hint, hbig⟩ := big_integral hb
            have hlt : ltI f (fconst 0) = false := by rw [fconst_zero, ltI_zero hfin hz, hs']
            have hgt : gtI f (fconst 255) = true := by
              rw [fconst_255]
              simp only [gtI, hn, hi, ceilInt, hint, F64.truncInt, hs', Bool.not_false, Bool.true_and, Bool.false_eq_true, if_false,
                Bool.not_true, Bool.and_false, decide_eq_true_eq, Int.ofNat_eq_natCast]
              omega
            simp only [Generated.C05_Decisions.toUint8Clamp, C05.toUint8Clamp, isNaN, hn, Bool.not_false, if_true, hlt, hgt, Bool.false_eq_true,
              if_false, hs', Bool.false_and, hi, hb, hz]
          · exact clamp_small hfin hz hs' hb
    · obtain ⟨hn, _⟩ := inf_not_nan hinf
      have hz : f.isZero = false := by
        have := inf_fields hinf
        simp [F64.isZero, this.1]
      by_cases hs : f.neg = true
      · have hlt : ltI f (fconst 0) = true := by simp [ltI, hn, hinf, hs]
        simp only [Generated.C05_Decisions.toUint8Clamp, C05.toUint8Clamp, isNaN, hn, Bool.not_false, if_true, hlt, hs, hz, Bool.not_false, Bool.and_self,
          Bool.false_eq_true, if_false]
      · have hs' : f.neg = false := by simpa using hs
        have hlt : ltI f (fconst 0) = false := by simp [ltI, hn, hinf, hs']
        have hgt : gtI f (fconst 255) = true := by simp [gtI, hn, hinf, hs']
        simp only [Generated.C05_Decisions.toUint8Clamp, C05.toUint8Clamp, isNaN, hn, Bool.not_false, if_true, hlt, hgt, hs', Bool.false_and, hinf,
          Bool.false_eq_true, if_false]
    · simp only [Generated.C05_Decisions.toUint8Clamp, C05.toUint8Clamp, isNaN, hnan, Bool.not_true, Bool.false_eq_true, if_false, if_true]

end GojaModel.C05.DecTie
