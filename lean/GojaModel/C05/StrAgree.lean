/-  C05 StringToNumber: mechanism = spec recogniser for ALL strings. -/
import GojaModel.C05.StrTrim
import GojaModel.C05.StrDecimal
namespace GojaModel.C05.StrNum

theorem spec_eq_dec {t : List Nat} (hne : t.isEmpty = false) (hrp : radixPrefix t = 0) : specT t = specT.dec t := by
  unfold specT
  simp only [hne, Bool.false_eq_true, if_false]
  split
  · rename_i p d ds
    have : radixOfLetter p = 0 := hrp
    simp only [this, ne_eq, not_true_eq_false, if_false]
  · rfl

theorem body_inf {t : List Nat} (h : ((splitSign t).2 == str "Infinity") = true) :
    (t == str "Infinity" || t == str "+Infinity") = true ∨ (t == str "-Infinity") = true := by
  have hb : (splitSign t).2 = str "Infinity" := by simpa using h
  rcases splitSign_cases t with ⟨r, h1, h2⟩ | ⟨r, h1, h2⟩ | ⟨h2, _⟩
  · right; rw [h2] at hb; simp only at hb; rw [h1, hb]; decide +kernel
  · left; rw [h2] at hb; simp only at hb; rw [h1, hb]; decide +kernel
  · left; rw [h2] at hb; simp only at hb; rw [hb]; decide +kernel

theorem mechT_eq_specT (t : List Nat) : mechT t = specT t := by
  cases hte : t.isEmpty with
  | true =>
    have : t = [] := by simpa using hte
    subst this; simp only [mechT, specT, List.isEmpty_nil, if_true]
  | false =>
  by_cases hinf : (t == str "Infinity" || t == str "+Infinity") = true
  · have hm : mechT t = Res.inf false := by simp only [mechT, hte, hinf, Bool.false_eq_true, if_false, if_true]
    rw [hm]
    simp only [Bool.or_eq_true, beq_iff_eq] at hinf
    rcases hinf with h | h <;> subst h <;> decide +kernel
  · have hinf' : (t == str "Infinity" || t == str "+Infinity") = false := by simpa using hinf
    by_cases hminf : (t == str "-Infinity") = true
    · have hm : mechT t = Res.inf true := by simp only [mechT, hte, hinf', hminf, Bool.false_eq_true, if_false, if_true]
      rw [hm]
      have : t = str "-Infinity" := by simpa using hminf
      subst this; decide +kernel
    · have hminf' : (t == str "-Infinity") = false := by simpa using hminf
      by_cases hrp : radixPrefix t = 0
      · -- no radix prefix: the integer parse, when it succeeds, and `_toFloat` otherwise both agree with StrDecimalLiteral
        rw [spec_eq_dec hte hrp]
        simp only [mechT, hte, hinf', hminf', Bool.false_eq_true, if_false]
        cases hs : stringToInt t with
        | some i => exact (dec_of_stringToInt hrp hs).2.symm
        | none =>
          have hbinf : ((splitSign t).2 == str "Infinity") = false := by
            cases hb : ((splitSign t).2 == str "Infinity") with
            | false => rfl
            | true => rcases body_inf hb with h | h
                      · rw [hinf'] at h; cases h
                      · rw [hminf'] at h; cases h
          exact toFloat_eq_dec hrp hbinf
      · obtain ⟨p, c, rest, ht, hp⟩ := radixPrefix_shape hrp
        subst ht
        rw [mechT_radix p c rest hp]
        simp only [specT, List.isEmpty_cons, Bool.false_eq_true, if_false, hp, ne_eq, not_false_eq_true, if_true]

theorem mech_eq_spec (s : List Nat) : mech s = spec s := by
  simp only [mech, spec, specTrim_eq_trim, mechT_eq_specT]

end GojaModel.C05.StrNum
