/-
  C05 — Tie for the translated `Runtime.toLengthUint32` (runtime.go; its `goto fail` / labels / mutable
  `intVal` are followed by the translator; the `String` and `default` arms of its type switch concern non-Number values and
  are outside the Number model), and for the translated `Equals` of two Numbers (`equals_tie`).
-/
import GojaModel.C05.DecTie
import GojaModel.C05.ModelLemmas
namespace GojaModel.C05.DecTie
open GojaModel GojaModel.Num GojaModel.C05 GojaModel.C05.Gen

/-- **translated `toLengthUint32` = model**, for every Number value: the final range test with its `uint32` conversion,
shared by all arms, is the model's -/
theorem toLengthUint32_tie (v : Num) : Generated.C05_Decisions.toLengthUint32 v = C05.toLengthUint32 v := by
  have hw : ∀ i : Int, (if (decide (i ≥ 0) && decide (i ≤ 4294967295)) = true then some (wrapU 32 i) else none) =
      if 0 ≤ i ∧ i ≤ 4294967295 then some i else none := by
    intro i
    simp only [Bool.and_eq_true, decide_eq_true_eq, ge_iff_le]
    split
    · rename_i h; rw [wrapU_of_range h.1 (by omega)]
    · rfl
  cases v with
  | int i => exact hw i
  | flt f =>
    simp only [Generated.C05_Decisions.toLengthUint32, C05.toLengthUint32, valueEqFloat, feq_negZero, floatToInt_tie, hw]
    cases f.isZero <;> cases f.neg <;> rfl

/-- **translated `Equals` (`==`) on two Numbers = `StrictEquals`** (the other arms of the type switch — BigInt, String, Boolean,
Object — concern non-Number values) -/
theorem equals_tie (a b : Num) :
    strictEquals a b = (match a with
      | Num.flt f => Generated.C05_Decisions.floatEquals f b
      | Num.int i => Generated.C05_Decisions.intEquals i b) := by
  cases a <;> cases b <;> simp [Generated.C05_Decisions.floatEquals, Generated.C05_Decisions.intEquals, strictEquals, beq_int_decide]

end GojaModel.C05.DecTie
