/-
  C05 — `asciiString.ToInteger` (string_ascii.go, after c886782): `_toInt` first, then `_toFloat` clipped
  to int64, `0` when both fail.
-/
import GojaModel.C05.StrToFloat
import GojaModel.C05.ModelLemmas

namespace GojaModel.C05.StrNum
open GojaModel GojaModel.Num GojaModel.C05

/-- `asciiString.ToInteger` on the trimmed text -/
def mechToIntegerT (t : List Nat) : Int :=
  if t.isEmpty then 0
  else if t == str "Infinity" || t == str "+Infinity" then maxInt64
  else if t == str "-Infinity" then minInt64
  else match stringToInt t with
    | some i => i
    | none => match toFloatE t with
      | some f => floatToIntClip f.toF64          -- floatToIntClip(f)
      | none => 0                                 -- "not a numeric string at all"

def specToIntegerOfRes (r : Res) : Int := specToIntegerClamped r.toF64

/-- Beyond 2^53 `ToInteger` is more precise than ToIntegerOrInfinity(ToNumber), where every consumer clamps to ≤ 2^53 anyway. -/
theorem toInteger_int_branch {t : List Nat} {i : Int} (hne : t.isEmpty = false)
    (hinf : (t == str "Infinity" || t == str "+Infinity") = false) (hminf : (t == str "-Infinity") = false)
    (h : stringToInt t = some i) :
    mechToIntegerT t = i ∧ mechT t = Res.exactInt (decide (i < 0)) i.natAbs := by
  simp only [mechToIntegerT, mechT, hne, hinf, hminf, h, Bool.false_eq_true, if_false, and_self]

theorem toInteger_float_branch {t : List Nat} (h : stringToInt t = none) :
    mechToIntegerT t = specToIntegerOfRes (mechT t) := by
  simp only [mechToIntegerT, mechT, specToIntegerOfRes]
  by_cases h1 : t.isEmpty = true
  · rw [if_pos h1, if_pos h1]; decide +kernel
  rw [if_neg h1, if_neg h1]
  by_cases h2 : (t == str "Infinity" || t == str "+Infinity") = true
  · rw [if_pos h2, if_pos h2]; decide
  rw [if_neg h2, if_neg h2]
  by_cases h3 : (t == str "-Infinity") = true
  · rw [if_pos h3, if_pos h3]; decide
  rw [if_neg h3, if_neg h3]
  simp only [h]
  rw [toFloat_getD]
  cases toFloatE t with
  | some f => simp only [Option.getD_some]; exact floatToIntClip_spec' _
  | none => simp only [Option.getD_none]; decide

end GojaModel.C05.StrNum
