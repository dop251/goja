/-  C05 StringToNumber, texts without a radix prefix: a successful integer parse is what StrDecimalLiteral reads
    (`dec_of_stringToInt`); a text the decimal grammar accepts consists of `allowed` characters, so what `_toFloat` rejects
    beforehand (underscore, hex float, ParseFloat's special words) the grammar rejects too (`toFloat_eq_dec`). -/
import GojaModel.C05.StrRadix
namespace GojaModel.C05.StrNum

theorem takeDigits_all {ds : List Nat} (h : ds.all isDecDigit = true) : takeDigits ds = (ds, []) := by
  induction ds with
  | nil => rfl
  | cons a as ih =>
    simp only [List.all_cons, Bool.and_eq_true] at h
    simp only [takeDigits, h.1, if_true, ih h.2]

def signed (neg : Bool) (ds : List Nat) : List Nat := (if neg then [0x2D] else []) ++ ds

theorem signed_cons (neg : Bool) (d : Nat) (ds : List Nat) :
    signed neg (d :: ds) = if neg then 0x2D :: d :: ds else d :: ds := by cases neg <;> rfl

theorem digitVal_lt10 (c : Nat) : digitVal c < 10 ↔ (0x30 ≤ c ∧ c ≤ 0x39) := by
  unfold digitVal
  split
  · omega
  · split
    · omega
    · split <;> omega

theorem isDec_iff (c : Nat) : decide (digitVal c < 10) = isDecDigit c := by
  rw [Bool.eq_iff_iff]
  simp only [isDecDigit, decide_eq_true_eq, Bool.and_eq_true]
  exact digitVal_lt10 c

theorem allDigits10_eq (ds : List Nat) : allDigits 10 ds = ds.all isDecDigit := by
  induction ds with
  | nil => rfl
  | cons a as ih =>
    simp only [allDigits, List.all_cons] at ih ⊢
    rw [isDec_iff, ih]

theorem goParseInt_some {s : List Nat} {base : Nat} {i : Int} (h : goParseInt s base = some i) :
    (splitSign s).2 ≠ [] ∧ allDigits base (splitSign s).2 = true ∧
    i = (if (splitSign s).1 then -((digitsValue base (splitSign s).2 : Nat) : Int) else ((digitsValue base (splitSign s).2 : Nat) : Int)) ∧
    (if (splitSign s).1 then digitsValue base (splitSign s).2 ≤ 2 ^ 63 else digitsValue base (splitSign s).2 < 2 ^ 63) := by
  simp only [goParseInt] at h
  split at h
  · cases h
  · rename_i hc
    simp only [Bool.or_eq_true, Bool.not_eq_true', not_or] at hc
    have hne : (splitSign s).2 ≠ [] := by
      intro he; rw [he] at hc; simp at hc
    have hall : allDigits base (splitSign s).2 = true := by
      cases hx : allDigits base (splitSign s).2 with
      | true => rfl
      | false => exact absurd hx hc.2
    cases hs : (splitSign s).1
    · simp only [hs, Bool.false_eq_true, if_false] at h ⊢
      split at h
      · rename_i hr; cases h; exact ⟨hne, hall, rfl, hr⟩
      · cases h
    · simp only [hs, if_true] at h ⊢
      split at h
      · rename_i hr; cases h; exact ⟨hne, hall, rfl, hr⟩
      · cases h

theorem splitSign_cases (t : List Nat) :
    (∃ r, t = 0x2D :: r ∧ splitSign t = (true, r)) ∨ (∃ r, t = 0x2B :: r ∧ splitSign t = (false, r)) ∨
    (splitSign t = (false, t) ∧ ∀ c r, t = c :: r → c ≠ 0x2D ∧ c ≠ 0x2B) := by
  unfold splitSign
  split
  · exact Or.inl ⟨_, rfl, rfl⟩
  · exact Or.inr (Or.inl ⟨_, rfl, rfl⟩)
  · rename_i h1 h2
    refine Or.inr (Or.inr ⟨rfl, ?_⟩)
    intro c r hc
    constructor
    · intro h; subst h; exact h1 r hc
    · intro h; subst h; exact h2 r hc

theorem parseDecimal_digits {t : List Nat} (hne : (splitSign t).2 ≠ []) (hd : (splitSign t).2.all isDecDigit = true) :
    parseDecimal t = some ⟨(splitSign t).1, (splitSign t).2, 0, 0⟩ := by
  have he : (splitSign t).2.isEmpty = false := by simpa using hne
  simp only [parseDecimal, takeDigits_all hd, fracPart, parseExp, he, Bool.false_and, Bool.false_eq_true, if_false,
    List.append_nil, List.length_nil]

theorem digits_not_inf {b : List Nat} (hne : b ≠ []) (hd : b.all isDecDigit = true) : (b == str "Infinity") = false := by
  cases b with
  | nil => exact absurd rfl hne
  | cons d ds =>
    simp only [List.all_cons, Bool.and_eq_true, isDecDigit, decide_eq_true_eq] at hd
    rw [str_Infinity]
    have : d ≠ 0x49 := by omega
    simp [this]

/-- the "-0" rule of `stringToInt` makes the sign of the text the sign of `i` -/
theorem dec_of_stringToInt {t : List Nat} {i : Int} (hrp : radixPrefix t = 0) (h : stringToInt t = some i) :
    ((splitSign t).2 == str "Infinity") = false ∧ specT.dec t = Res.exactInt (decide (i < 0)) i.natAbs := by
  simp only [stringToInt, hrp, ne_eq, not_true_eq_false, if_false] at h
  cases hg : goParseInt t 10 with
  | none => rw [hg] at h; cases h
  | some j =>
    rw [hg] at h
    simp only at h
    split at h
    · cases h
    · rename_i hnz
      cases h
      obtain ⟨hne, hall, hj, _⟩ := goParseInt_some hg
      rw [allDigits10_eq] at hall
      have hinf := digits_not_inf hne hall
      refine ⟨hinf, ?_⟩
      simp only [specT.dec, hinf, Bool.false_eq_true, if_false, parseDecimal_digits hne hall, Dec.toRes, Res.exactInt]
      generalize digitsValue 10 (splitSign t).2 = n at *
      cases hs : (splitSign t).1
      · rw [hs] at hj; simp only [Bool.false_eq_true, if_false] at hj
        subst hj
        simp only [Int.natAbs_natCast, Res.num.injEq, true_and]
        exact ⟨(decide_eq_false (by omega)).symm, rfl⟩
      · rw [hs] at hj; simp only [if_true] at hj
        subst hj
        have hhead : t.head? = some 0x2D := by
          rcases splitSign_cases t with ⟨r, h1, _⟩ | ⟨r, _, h2⟩ | ⟨h2, _⟩
          · rw [h1]; rfl
          · rw [h2] at hs; cases hs
          · rw [h2] at hs; cases hs
        have hn0 : n ≠ 0 := fun h0 => hnz ⟨by rw [h0]; rfl, hhead⟩
        simp only [Int.natAbs_neg, Int.natAbs_natCast, Res.num.injEq, true_and]
        exact ⟨(decide_eq_true (by omega)).symm, rfl⟩

/-- the characters a string accepted by the decimal grammar can contain -/
def allowed (c : Nat) : Bool :=
  isDecDigit c || c == 0x2B || c == 0x2D || c == 0x2E || c == 0x65 || c == 0x45

theorem all_allowed_of_digits {ds : List Nat} (h : ds.all isDecDigit = true) : ds.all allowed = true := by
  rw [List.all_eq_true] at h ⊢
  intro c hc; simp [allowed, h c hc]

theorem takeDigits_spec (s : List Nat) :
    s = (takeDigits s).1 ++ (takeDigits s).2 ∧ (takeDigits s).1.all isDecDigit = true := by
  induction s with
  | nil => exact ⟨rfl, rfl⟩
  | cons a as ih =>
    simp only [takeDigits]
    by_cases ha : isDecDigit a = true
    · simp only [ha, if_true]
      refine ⟨?_, ?_⟩
      · show a :: as = a :: ((takeDigits as).1 ++ (takeDigits as).2)
        rw [← ih.1]
      · show (a :: (takeDigits as).1).all isDecDigit = true
        simp only [List.all_cons, ha, ih.2, Bool.and_self]
    · simp only [ha, Bool.false_eq_true, if_false]
      exact ⟨rfl, rfl⟩

theorem splitSign_spec (t : List Nat) :
    ∃ pre, t = pre ++ (splitSign t).2 ∧ pre.all allowed = true := by
  unfold splitSign
  split
  · exact ⟨[0x2D], rfl, by decide⟩
  · exact ⟨[0x2B], rfl, by decide⟩
  · exact ⟨[], rfl, rfl⟩

theorem fracPart_spec (r : List Nat) :
    ∃ pre, r = pre ++ (fracPart r).2 ∧ pre.all allowed = true := by
  unfold fracPart
  split
  · rename_i q
    have := takeDigits_spec q
    refine ⟨0x2E :: (takeDigits q).1, ?_, ?_⟩
    · show 0x2E :: q = 0x2E :: ((takeDigits q).1 ++ (takeDigits q).2)
      rw [← this.1]
    · simp only [List.all_cons, all_allowed_of_digits this.2, Bool.and_true]; decide
  · exact ⟨[], rfl, rfl⟩

theorem parseExp_chars {r : List Nat} {e : Int} (h : parseExp r = some e) : r.all allowed = true := by
  unfold parseExp at h
  split at h
  · rfl
  · rename_i c q
    split at h
    · rename_i hc
      simp only at h
      split at h
      · cases h
      · rename_i hd
        simp only [Bool.or_eq_true, Bool.not_eq_true', not_or] at hd
        have hall : (splitSign q).2.all isDecDigit = true := by
          cases hx : (splitSign q).2.all isDecDigit with
          | true => rfl
          | false => exact absurd hx (by simpa using hd.2)
        obtain ⟨pre, h1, h2⟩ := splitSign_spec q
        have hce : allowed c = true := by rcases hc with h | h <;> subst h <;> decide
        simp only [List.all_cons, hce, Bool.true_and]
        rw [h1, List.all_append, h2, all_allowed_of_digits hall]; rfl
    · cases h

theorem parseDecimal_chars {t : List Nat} {d : Dec} (h : parseDecimal t = some d) : t.all allowed = true := by
  unfold parseDecimal at h
  simp only at h
  split at h
  · cases h
  · split at h
    · rename_i e he
      obtain ⟨p1, a1, a2⟩ := splitSign_spec t
      have b := takeDigits_spec (splitSign t).2
      obtain ⟨p3, c1, c2⟩ := fracPart_spec (takeDigits (splitSign t).2).2
      have d1 := parseExp_chars he
      rw [a1, List.all_append, a2, Bool.true_and, b.1, List.all_append, all_allowed_of_digits b.2, Bool.true_and,
        c1, List.all_append, c2, Bool.true_and]
      exact d1
    · cases h

theorem dec_nan_of_bad {t : List Nat} {c : Nat} (hc : c ∈ t) (hbad : allowed c = false)
    (hinf : ((splitSign t).2 == str "Infinity") = false) : specT.dec t = Res.nan := by
  simp only [specT.dec, hinf, Bool.false_eq_true, if_false]
  cases hp : parseDecimal t with
  | none => rfl
  | some d =>
    have := parseDecimal_chars hp
    rw [List.all_eq_true] at this
    have := this c hc
    rw [hbad] at this; cases this

theorem mem_body {t : List Nat} {c : Nat} (h : c ∈ (splitSign t).2) : c ∈ t := by
  obtain ⟨pre, h1, _⟩ := splitSign_spec t
  rw [h1]; exact List.mem_append_right _ h

theorem goSpecial_has_n {t : List Nat} (h : goSpecial t = true) : ∃ c, c ∈ t ∧ (c = 0x6E ∨ c = 0x4E) := by
  have key : (0x6E : Nat) ∈ t.map lower := by
    simp only [goSpecial, str_inf, str_infinity, str_nan, Bool.or_eq_true, beq_iff_eq] at h
    rcases h with (h | h) | h
    · apply mem_body; rw [h]; decide
    · apply mem_body; rw [h]; decide
    · rw [h]; decide
  obtain ⟨c, hc, hl⟩ := List.mem_map.1 key
  refine ⟨c, hc, ?_⟩
  unfold lower at hl
  split at hl <;> omega

/-- `hbinf`: the Infinity forms are handled by `ToNumber` before `_toFloat` is called -/
theorem toFloat_eq_dec {t : List Nat} (hrp : radixPrefix t = 0) (hbinf : ((splitSign t).2 == str "Infinity") = false) :
    toFloat t = specT.dec t := by
  by_cases hm0 : (t == str "-0") = true
  · have : t = str "-0" := by simpa using hm0
    subst this; decide +kernel
  · by_cases hus : t.contains 0x5F = true
    · have : toFloat t = Res.nan := by simp only [toFloat, hm0, hus, Bool.false_eq_true, if_false, if_true]
      rw [this]
      exact (dec_nan_of_bad (c := 0x5F) (by simpa using hus) (by decide) hbinf).symm
    · have htail : toFloat.tail t = specT.dec t := by
        by_cases hsp : goSpecial t = true
        · obtain ⟨c, hc, hn⟩ := goSpecial_has_n hsp
          simp only [toFloat.tail, hsp, if_true]
          have hbad : allowed c = false := by rcases hn with h | h <;> subst h <;> decide
          exact (dec_nan_of_bad hc hbad hbinf).symm
        · simp only [toFloat.tail, specT.dec, hsp, hbinf, Bool.false_eq_true, if_false]
      simp only [toFloat, hm0, hus, hrp, Bool.false_eq_true, if_false, ne_eq, not_true_eq_false]
      split
      · rename_i x r heq
        by_cases hx : x = 0x78 ∨ x = 0x58
        · simp only [hx, if_true]
          have hmem : x ∈ t := mem_body (by rw [heq]; simp)
          have hbad : allowed x = false := by rcases hx with h | h <;> subst h <;> decide
          exact (dec_nan_of_bad hmem hbad hbinf).symm
        · simp only [hx, if_false]; exact htail
      · exact htail

end GojaModel.C05.StrNum
