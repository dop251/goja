/-
  C05 model driver: line protocol (one op per line in, one canonical answer line out).  Core Lean only.

  value token:  i<decimal int64>   |   f<16 hex digits of the IEEE bit pattern>

    str <units>                    -> <mech> <spec> <hex>                    StrNum.mech, StrNum.spec; <units> = 4 hex digits per code unit, `-` = empty
    pint <radix> <units>           -> nan|val:<±n> spec=same|spec=DIFFERENT <hex>   ParseInt.mech against ParseInt.spec
    canon <v>                      -> 1 | 0
    f2v <hex>                      -> <v>                                    floatToValue
    i2v <dec>                      -> <v> c=<0|1> s=<v>                      intToValue; s = canonical spec value
    f2i <hex>                      -> ok <dec> | no                          floatToInt
    tonum <v>                      -> <v>                                    toNumeric
    conv <name> <v>                -> <mech> <spec>                          (number or `err`)
    id <v1> <v2>                   -> m=<7 bits> s=<3 bits>
    op <name> <v1> <v2|-> <rhex>   -> <v> c=<0|1> s=<v>
-/
import GojaModel.Base.Proto
import GojaModel.C05.Model
import GojaModel.C05.StrNum
import GojaModel.C05.ParseInt

namespace GojaModel.C05.Driver
open GojaModel GojaModel.Num GojaModel.C05 GojaModel.Proto

def showVal : Num → String
  | int i => "i" ++ toString i
  | flt f => "f" ++ toHexW 16 f.toBits

def parseVal? (s : String) : Option Num :=
  match s.toList with
  | 'i' :: rest => (String.ofList rest).toInt?.map Num.int
  | 'f' :: rest => (parseHex? (String.ofList rest)).map (fun b => Num.flt (F64.ofBits b))
  | _ => none

def parseF? (s : String) : Option F64 := (parseHex? s).map F64.ofBits

def bit (b : Bool) : String := if b then "1" else "0"
def showOpt : Option Int → String
  | some i => toString i
  | none => "err"

/-- canonical value denoting the double `x` (the spec answer for a float-valued operation) -/
def specVal (x : F64) : Num := floatToValue x

def conv (name : String) (a : Num) : Option (String × String) :=
  let x := a.toF64
  match name with
  | "int8" => some (toString (toIntS 8 a), toString (specToIntS 8 x))
  | "uint8" => some (toString (toIntU 8 a), toString (specToIntU 8 x))
  | "int16" => some (toString (toIntS 16 a), toString (specToIntS 16 x))
  | "uint16" => some (toString (toIntU 16 a), toString (specToIntU 16 x))
  | "int32" => some (toString (toIntS 32 a), toString (specToIntS 32 x))
  | "uint32" => some (toString (toIntU 32 a), toString (specToIntU 32 x))
  | "clamp8" => some (toString (toUint8Clamp a), toString (specToUint8Clamp x))
  | "length" => some (toString (toLength a), toString (specToLength x))
  | "index" => some (showOpt (toIndex a), showOpt (specToIndex x))
  | "integer" => some (toString (toInteger a), toString (specToIntegerClamped x))
  | "lenu32" => some (showOpt (toLengthUint32 a), showOpt (specArrayLength x))
  | _ => none

def binop (name : String) (a b : Num) (r : F64) : Option (Num × Num) :=
  let x := a.toF64
  let y := b.toF64
  match name with
  | "add" => some (opAdd a b r, specVal r)
  | "sub" => some (opSub a b r, specVal r)
  | "mul" => some (opMul a b r, specVal r)
  | "div" => some (opDiv a b r, specVal r)
  | "mod" => some (opMod a b r, specVal r)
  | "and" => some (opAnd a b, int (specAnd x y))
  | "or" => some (opOr a b, int (specOr x y))
  | "xor" => some (opXor a b, int (specXor x y))
  | "shl" => some (opShl a b, int (specShl x y))
  | "sar" => some (opSar a b, int (specSar x y))
  | "shr" => some (opShr a b, int (specShr x y))
  | _ => none

def unop (name : String) (a : Num) (r : F64) : Option (Num × Num) :=
  match name with
  | "neg" => some (opNeg a r, specVal r)
  | "inc" => some (opInc a r, specVal r)
  | "dec" => some (opDec a r, specVal r)
  | "bnot" => some (opBnot a, int (specBnot a.toF64))
  | _ => none

def showRes (p : Num × Num) : String :=
  showVal p.1 ++ " c=" ++ bit (decide (Canon p.1)) ++ " s=" ++ showVal p.2

def showRes' : StrNum.Res → String
  | .nan => "nan"
  | .inf neg => if neg then "inf-" else "inf+"
  | .num neg m e => "num:" ++ (if neg then "-" else "+") ++ toString m ++ "e" ++ toString e

def parseUnits? (s : String) : Option (List Nat) :=
  if s == "-" then some [] else
  let cs := s.toList
  if cs.length % 4 ≠ 0 then none else
  let rec go (cs : List Char) (fuel : Nat) (acc : List Nat) : Option (List Nat) :=
    match fuel with
    | 0 => some acc.reverse
    | fuel + 1 =>
      match cs with
      | a :: b :: c :: d :: rest =>
          (match parseHex? (String.ofList [a, b, c, d]) with
           | some n => go rest fuel (n :: acc)
           | none => none)
      | [] => some acc.reverse
      | _ => none
  go cs (cs.length / 4 + 1) []

def step (line : String) : String :=
  match words line with
  | ["str", u] => match parseUnits? u with
      | some cps =>
          let m := StrNum.mech cps
          showRes' m ++ " " ++ showRes' (StrNum.spec cps) ++ " " ++ toHexW 16 m.toF64.toBits
      | none => "bad"
  | ["pint", r, u] => match r.toInt?, parseUnits? u with
      | some radix, some cps =>
          let m := ParseInt.mech cps radix
          (match m with
            | .nan => "nan"
            | .val neg n => "val:" ++ (if neg then "-" else "+") ++ toString n)
            ++ " " ++ (if ParseInt.spec cps radix == m then "spec=same" else "spec=DIFFERENT")
            ++ " " ++ toHexW 16 m.toF64.toBits
      | _, _ => "bad"
  | ["canon", v] => match parseVal? v with
      | some a => bit (decide (Canon a))
      | none => "bad"
  | ["f2v", h] => match parseF? h with
      | some f => showVal (floatToValue f)
      | none => "bad"
  | ["i2v", d] => match d.toInt? with
      | some i => showRes (intToValue i, specVal (F64.ofInt i))
      | none => "bad"
  | ["f2i", h] => match parseF? h with
      | some f => (match floatToInt f with | some i => "ok " ++ toString i | none => "no")
      | none => "bad"
  | ["tonum", v] => match parseVal? v with
      | some a => showVal (toNumeric a)
      | none => "bad"
  | ["conv", name, v] => match parseVal? v with
      | some a => (match conv name a with | some (m, s) => m ++ " " ++ s | none => "bad")
      | none => "bad"
  | ["id", v1, v2] => match parseVal? v1, parseVal? v2 with
      | some a, some b =>
          let x := a.toF64
          let y := b.toF64
          "m=" ++ bit (sameAs a b) ++ bit (sameAs b a) ++ bit (strictEquals a b) ++ bit (strictEquals b a)
            ++ bit (mapFinds a b) ++ bit (mapFinds b a) ++ bit (hash (normKey a) == hash (normKey b))
            ++ " s=" ++ bit (specSameValue x y) ++ bit (specSameValueZero x y) ++ bit (specStrictEq x y)
      | _, _ => "bad"
  | ["op", name, v1, v2, rh] => match parseVal? v1, parseF? rh with
      | some a, some r =>
          if v2 == "-" then (match unop name a r with | some p => showRes p | none => "bad")
          else (match parseVal? v2 with
            | some b => (match binop name a b r with | some p => showRes p | none => "bad")
            | none => "bad")
      | _, _ => "bad"
  | _ => "bad"

def main : IO Unit := lineMap step

end GojaModel.C05.Driver
