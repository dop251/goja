/-
  C05 — Tie for the Go → Lean TRANSLATION of the numeric decision functions (extract/c05_translate.go →
  Generated/C05_Decisions.lean): each translated function is proved equal to the hand model the property theorems are
  about, for ALL inputs.  A change of any guard, comparison operator, constant or branch order in the Go source changes
  the generated definition and the corresponding theorem stops checking.
-/
import GojaModel.C05.Lemmas
import GojaModel.C05.StrRadix
import GojaModel.Generated.C05_Decisions
namespace GojaModel.C05.DecTie
open GojaModel GojaModel.Num GojaModel.C05 GojaModel.C05.Gen
namespace D
export GojaModel.Generated.C05_Decisions (floatToInt intToValue floatToValue floatToIntClip toLength toIndex float64ToInt64Mod)
end D

theorem fconst_exact {k : Int} (h : Canon (int k)) : fconst k = k := (ofInt_exact h).trunc

theorem fconst_zero : fconst 0 = 0 := fconst_exact (by decide)

/-- `math.MaxInt64` rounds to 2^63; the other large constants are powers of two -/
theorem fconst_vals : fconst maxInt = maxInt ∧ fconst (-maxInt) = -maxInt ∧ fconst maxInt64 = 2 ^ 63 ∧
    fconst minInt64 = -(2 ^ 63) ∧ fconst two63 = 2 ^ 63 ∧ fconst (-two63) = -(2 ^ 63) :=
  ⟨fconst_exact (by decide), fconst_exact (by decide), by decide +kernel, by decide +kernel, by decide +kernel,
    by decide +kernel⟩

theorem nonfinite_cases (f : F64) : f.isFinite = true ∨ f.isInf = true ∨ f.isNaN = true := by
  simp only [F64.isFinite, F64.isNaN, F64.isInf]
  cases h1 : (f.exp == 2047) <;> cases h2 : (f.man == 0) <;> simp [bne, h1, h2]

theorem fin_not_nan_inf {f : F64} (h : f.isFinite = true) : f.isNaN = false ∧ f.isInf = false := by
  simp only [F64.isFinite, F64.isNaN, F64.isInf] at *
  cases h1 : (f.exp == 2047) <;> simp_all [bne]

theorem inf_not_nan {f : F64} (h : f.isInf = true) : f.isNaN = false ∧ f.isFinite = false := by
  simp only [F64.isFinite, F64.isNaN, F64.isInf] at *
  cases h1 : (f.exp == 2047) <;> cases h2 : (f.man == 0) <;> simp_all [bne]

theorem nan_not_inf {f : F64} (h : f.isNaN = true) : f.isInf = false ∧ f.isFinite = false := by
  simp only [F64.isFinite, F64.isNaN, F64.isInf] at *
  cases h1 : (f.exp == 2047) <;> cases h2 : (f.man == 0) <;> simp_all [bne]

theorem zero_of_trunc {f : F64} (hfin : f.isFinite = true) (hint : f.isIntegral = true) (h0 : f.truncInt = 0) :
    f.isZero = true := by
  have hn : f.truncNat = 0 := by rw [← natAbs_truncInt, h0]; rfl
  cases hz : f.isZero with
  | true => rfl
  | false =>
    have key := ofNatSign_truncNat hint hz (by rw [hn]; decide)
    rw [hn, ofNatSign_zero] at key
    rw [← key] at hz; cases hz

theorem eqI_zero (f : F64) : eqI f 0 = f.isZero := by
  rw [Bool.eq_iff_iff]
  constructor
  · intro h
    simp only [eqI, Bool.and_eq_true, decide_eq_true_eq] at h
    exact zero_of_trunc h.1.1 h.1.2 h.2
  · intro h
    obtain ⟨hf, hi, ht⟩ := toInt_some.1 (toInt_of_isZero h)
    simp [eqI, hf, hi, ht]

theorem floorCeil_of_integral {f : F64} (h : f.isIntegral = true) : floorInt f = f.truncInt ∧ ceilInt f = f.truncInt := by
  simp [floorInt, ceilInt, h]

theorem floatToInt_tie (f : F64) : D.floatToInt f = Num.floatToInt f := by
  obtain ⟨c1, c2, _⟩ := fconst_vals
  simp only [Generated.C05_Decisions.floatToInt, Num.floatToInt, fconst_zero, c1, c2, neI, eqI_zero, signbit, isInfS, eqTrunc,
    geI, leI, toInt64]
  rcases nonfinite_cases f with h | h | h
  · obtain ⟨hn, hi⟩ := fin_not_nan_inf h
    by_cases hint : f.isIntegral = true
    · obtain ⟨e1, e2⟩ := floorCeil_of_integral hint
      simp [hn, hi, hint, e1, e2]
    · simp [hn, hi, hint]
  · obtain ⟨hn, _⟩ := inf_not_nan h
    simp [h, hn]
  · obtain ⟨hi, _⟩ := nan_not_inf h
    simp [h, hi]

/-- the `intCache` fast path returns the same `valueInt` -/
theorem intToValue_tie (i : Int) : D.intToValue i = Num.intToValue i := by
  simp only [Generated.C05_Decisions.intToValue, Num.intToValue, Bool.and_eq_true, decide_eq_true_eq, ge_iff_le]
  split
  · rw [if_pos (by simp only [maxInt]; omega)]; congr 1; omega
  · rfl

theorem floatToValue_tie (f : F64) : D.floatToValue f = Num.floatToValue f := by
  simp only [Generated.C05_Decisions.floatToValue, Num.floatToValue, floatToInt_tie, fconst_zero, eqI_zero, isNaN, isInfS]
  cases hfi : Num.floatToInt f with
  | some i =>
    have := floatToInt_eq_some.1 hfi
    simp only [Num.intToValue, intToValueSmall, this.2.1, this.2.2.1, and_self, if_true]
  | none => simp   -- `isInfS f 1`, `isInfS f (-1)` reduce to the model's sign tests

theorem toLength_tie (a : Num) : C05.toLength a = D.toLength (toInteger a) := by
  simp only [C05.toLength, Generated.C05_Decisions.toLength, decide_eq_true_eq]

/-- (the `64 == 32` test of the Go source is the host word size) -/
theorem toIndex_tie (a : Num) : C05.toIndex a = D.toIndex (toInteger a) := by
  simp only [C05.toIndex, Generated.C05_Decisions.toIndex, Bool.and_eq_true, decide_eq_true_eq,
    (by decide : ¬ (64 : Int) = 32), false_and, if_false]

theorem trunc_sign (f : F64) : (f.neg = true → f.truncInt ≤ 0) ∧ (f.neg = false → 0 ≤ f.truncInt) := by
  constructor <;> intro h <;> simp [F64.truncInt, h]

theorem trunc_small_of_nonintegral {f : F64} (h : f.isIntegral = false) : f.truncNat < 2 ^ 52 := by
  simp only [F64.isIntegral] at h
  split at h
  · cases h
  · rename_i hb
    simp only [F64.truncNat, if_neg hb]
    have hs : f.sig < 2 ^ 53 := by
      have := f.hman
      simp only [F64.sig]; split <;> omega
    have hd : 2 ≤ 2 ^ (1075 - f.eff) := by
      have : 2 ^ 1 ≤ 2 ^ (1075 - f.eff) := Nat.pow_le_pow_right (by decide) (by omega)
      simpa using this
    have h1 : f.sig / 2 ^ (1075 - f.eff) ≤ f.sig / 2 := Nat.div_le_div_left hd (by decide)
    omega

/-- a non-integral double has magnitude below 2^52, so against an integer constant of magnitude ≥ 2^52 its floor, ceiling and
truncation compare alike -/
theorem cmp_big (f : F64) {k : Int} (hk : k ≤ -(2 ^ 52) ∨ 2 ^ 52 ≤ k) :
    (k ≤ floorInt f ↔ k ≤ f.truncInt) ∧ (floorInt f < k ↔ f.truncInt < k) ∧ (ceilInt f ≤ k ↔ f.truncInt ≤ k) := by
  cases hint : f.isIntegral with
  | true => rw [(floorCeil_of_integral hint).1, (floorCeil_of_integral hint).2]; exact ⟨Iff.rfl, Iff.rfl, Iff.rfl⟩
  | false =>
    have hsm := trunc_small_of_nonintegral hint
    have habs := natAbs_truncInt f
    simp only [floorInt, ceilInt, hint]
    generalize f.truncInt = t at *
    generalize f.truncNat = n at *
    cases f.neg <;> simp <;> omega

theorem floatToIntClip_tie (n : F64) : D.floatToIntClip n = C05.floatToIntClip n := by
  obtain ⟨_, _, c3, c4, _, _⟩ := fconst_vals
  simp only [Generated.C05_Decisions.floatToIntClip, C05.floatToIntClip, c3, c4, isNaN, geI, leI, toInt64]
  rcases nonfinite_cases n with h | h | h
  · obtain ⟨hn, hi⟩ := fin_not_nan_inf h
    obtain ⟨k1, _, _⟩ := cmp_big n (k := 2 ^ 63) (Or.inr (by decide))
    obtain ⟨_, _, k3⟩ := cmp_big n (k := -(2 ^ 63)) (Or.inl (by decide))
    simp only [hn, hi, Bool.not_false, Bool.true_and, Bool.false_eq_true, if_false, k1, k3, decide_eq_true_eq, ge_iff_le]
  · obtain ⟨hn, _⟩ := inf_not_nan h
    by_cases hs : n.neg = true <;> simp [h, hn, hs]
  · simp [h]

/-- `hfin`: `float64ToInt64Mod` is called with finite doubles only -/
theorem float64ToInt64Mod_tie {f : F64} (hfin : f.isFinite = true) :
    D.float64ToInt64Mod f = C05.float64ToInt64Mod f := by
  obtain ⟨_, _, _, _, c5, c6⟩ := fconst_vals
  obtain ⟨hn, hi⟩ := fin_not_nan_inf hfin
  obtain ⟨k1, _, _⟩ := cmp_big f (k := -(2 ^ 63)) (Or.inl (by decide))
  obtain ⟨_, k2, _⟩ := cmp_big f (k := 2 ^ 63) (Or.inr (by decide))
  simp only [Generated.C05_Decisions.float64ToInt64Mod, C05.float64ToInt64Mod, c5, c6, geI, ltI, hn, hi, Bool.not_false,
    Bool.true_and, Bool.false_eq_true, if_false, k1, k2, Bool.and_eq_true, decide_eq_true_eq]
  -- `delta`, not `simp`: the names also occur inside the `Decidable` instances of the generated conditions
  delta modTwo64 two63 two64 toInt64
  simp only [ge_iff_le]

/- `_mul`, `_mod`, `parseInt`: their bodies are outside the translatable subset; single guards, selected by content, are translated. -/

/-- `_mul`: the `_negativeZero` guard is the model's -/
theorem mulNegZeroGuard_tie (x y : Int) : Generated.C05_Decisions.mulNegZeroGuard x y = mulNegZero x y := by
  simp only [Generated.C05_Decisions.mulNegZeroGuard, mulNegZero]
  rw [Bool.eq_iff_iff]; simp

/-- `_mul`: the overflow test is the condition `opMul` branches on -/
theorem mulFitsGuard_tie (res x y : Int) :
    Generated.C05_Decisions.mulFitsGuard res x y = decide (x = 0 ∨ y = 0 ∨ goQuot res x = y) := by
  simp only [Generated.C05_Decisions.mulFitsGuard]
  rw [Bool.eq_iff_iff]; simp [or_assoc]

/-- `_mod`: division by zero and the negative-zero guard are the conditions `opMod` branches on -/
theorem modGuards_tie (r x y : Int) :
    Generated.C05_Decisions.modDivZeroGuard y = decide (y = 0) ∧
    Generated.C05_Decisions.modNegZeroGuard r x = decide (r = 0 ∧ x < 0) := by
  refine ⟨rfl, ?_⟩
  simp only [Generated.C05_Decisions.modNegZeroGuard]
  rw [Bool.eq_iff_iff]; simp

/-- `parseInt`: the three guards of the accumulation loop are exactly those of `ParseInt.loop`
(`n >= cutoff` — not `>` —, `v >= base`, `n1 < n || n1 > maxVal`) -/
theorem parseIntGuards_tie (n n1 c v base maxVal : Int) :
    Generated.C05_Decisions.parseIntCutoffGuard n c = decide (n ≥ c) ∧
    Generated.C05_Decisions.parseIntBreakGuard v base = decide (v ≥ base) ∧
    Generated.C05_Decisions.parseIntOverflowGuard n n1 maxVal = decide (n1 < n ∨ n1 > maxVal) := by
  refine ⟨rfl, rfl, ?_⟩
  simp only [Generated.C05_Decisions.parseIntOverflowGuard]
  rw [Bool.eq_iff_iff]; simp

theorem toIntN_tie (v : Num) :
    Generated.C05_Decisions.toInt8 v = toIntS 8 v ∧ Generated.C05_Decisions.toInt16 v = toIntS 16 v ∧
    Generated.C05_Decisions.toInt32 v = toIntS 32 v ∧ Generated.C05_Decisions.toUint8 v = toIntU 8 v ∧
    Generated.C05_Decisions.toUint16 v = toIntU 16 v ∧ Generated.C05_Decisions.toUint32 v = toIntU 32 v := by
  cases v with
  | int i => exact ⟨rfl, rfl, rfl, rfl, rfl, rfl⟩
  | flt f =>
    simp only [Generated.C05_Decisions.toInt8, Generated.C05_Decisions.toInt16, Generated.C05_Decisions.toInt32,
      Generated.C05_Decisions.toUint8, Generated.C05_Decisions.toUint16, Generated.C05_Decisions.toUint32,
      toIntS, toIntU, isNaN, isInfS]
    simp

theorem beq_int_decide (i j : Int) : (i == j) = decide (i = j) := by
  rw [Bool.eq_iff_iff]; simp

theorem feq_negZero (f : F64) : F64.feq f F64.negZero = f.isZero := by
  have hz : F64.negZero.isZero = true := by decide
  have hn : F64.negZero.isNaN = false := by decide
  rw [Bool.eq_iff_iff]
  constructor
  · intro h
    simp only [F64.feq, hz, hn, Bool.and_eq_true, Bool.or_eq_true, Bool.not_eq_true', Bool.and_true, beq_iff_eq] at h
    rcases h.2 with h2 | h2
    · exact h2
    · simp only [F64.isZero, Bool.and_eq_true, beq_iff_eq]
      exact ⟨h2.1.2, h2.2⟩
  · intro h
    simp [F64.feq, hz, hn, zero_not_nan h, h]

theorem sameAs_tie (a b : Num) :
    sameAs a b = (match a with
      | Num.flt f => Generated.C05_Decisions.floatSameAs f b
      | Num.int i => Generated.C05_Decisions.intSameAs i b) := by
  cases a with
  | int i =>
    cases b with
    | int j => simp [Generated.C05_Decisions.intSameAs, sameAs, beq_int_decide]
    | flt g => simp [Generated.C05_Decisions.intSameAs, sameAs]
  | flt f =>
    cases b with
    | int j => simp only [Generated.C05_Decisions.floatSameAs, sameAs, fconst_zero, eqI_zero, signbit]
    | flt g => simp only [Generated.C05_Decisions.floatSameAs, sameAs, fconst_zero, eqI_zero, signbit, isNaN]

theorem strictEquals_tie (a b : Num) :
    strictEquals a b = (match a with
      | Num.flt f => Generated.C05_Decisions.floatStrictEquals f b
      | Num.int i => Generated.C05_Decisions.intStrictEquals i b) := by
  cases a <;> cases b <;> simp [Generated.C05_Decisions.floatStrictEquals, Generated.C05_Decisions.intStrictEquals, strictEquals, beq_int_decide]

theorem hash_tie (a : Num) :
    hash a = (match a with
      | Num.flt f => Generated.C05_Decisions.floatHash f
      | Num.int i => Generated.C05_Decisions.intHash i) := by
  cases a with
  | int i => rfl
  | flt f => simp only [Generated.C05_Decisions.floatHash, Num.hash, feq_negZero]

/-- **the key normalisation of `orderedMap.lookup` and of `includes` is `normKey`** -/
theorem normKey_tie (k : Num) :
    normKey k = (if Generated.C05_Decisions.lookupNormGuard k then int 0 else k) ∧
    Generated.C05_Decisions.includesSearchNormGuard k = Generated.C05_Decisions.lookupNormGuard k := by
  refine ⟨?_, rfl⟩
  cases k with
  | int i => simp [normKey, Generated.C05_Decisions.lookupNormGuard, valueEqFloat]
  | flt f => simp only [normKey, Generated.C05_Decisions.lookupNormGuard, valueEqFloat, feq_negZero]

theorem radixPrefix_tie (ss : List Nat) : Generated.C05_Decisions.radixPrefix ss = (StrNum.radixPrefix ss : Int) := by
  unfold Generated.C05_Decisions.radixPrefix
  match ss with
  | [] => simp [StrNum.radixPrefix]
  | [a] => simp [StrNum.radixPrefix]
  | [a, b] => simp [StrNum.radixPrefix]
  | a :: p :: c :: rest =>
    have hl : ((a :: p :: c :: rest).length : Int) > 2 := by simp; omega
    simp only [hl, decide_true, Bool.true_and, List.getD_cons_zero, List.getD_cons_succ]
    by_cases ha : a = 0x30
    · subst ha
      simp only [decide_true, if_true, StrNum.radixPrefix, StrNum.radixOfLetter, Bool.or_eq_true, decide_eq_true_eq]
      by_cases h1 : p = 0x78 ∨ p = 0x58
      · simp [h1]
      · by_cases h2 : p = 0x6F ∨ p = 0x4F
        · simp [h1, h2]
        · by_cases h3 : p = 0x62 ∨ p = 0x42 <;> simp [h1, h2, h3]
    · have : StrNum.radixPrefix (a :: p :: c :: rest) = 0 := by
        unfold StrNum.radixPrefix
        split
        · rename_i heq; injection heq with h _; exact absurd h ha
        · rfl
      simp [ha, this]

/-- `hne`: `mechT` calls `stringToInt` with a non-empty trimmed string (on `[]` the generated function answers `some 0`, the model `none`) -/
theorem stringToInt_tie {ss : List Nat} (hne : ss ≠ []) :
    Generated.C05_Decisions.stringToInt ss = StrNum.stringToInt ss := by
  cases ss with
  | nil => exact absurd rfl hne
  | cons a as =>
  have hcons : decide (a :: as = ([] : List Nat)) = false := by simp
  by_cases hrp : StrNum.radixPrefix (a :: as) = 0
  · have hb : decide ((Generated.C05_Decisions.radixPrefix (a :: as)) ≠ 0) = false := by
      rw [radixPrefix_tie, hrp]; decide
    unfold Generated.C05_Decisions.stringToInt
    simp only [hcons, hb, Bool.false_eq_true, if_false, StrNum.stringToInt, hrp, ne_eq, not_true_eq_false]
    have h10 : ((10 : Int)).toNat = 10 := rfl
    rw [h10]
    cases hg : StrNum.goParseInt (a :: as) 10 with
    | none => simp
    | some i =>
      simp only [List.getD_cons_zero, List.head?_cons, Option.some.injEq, Bool.true_and]
      by_cases hc : i = 0 ∧ a = 0x2D
      · simp [hc.1, hc.2]
      · by_cases hi : i = 0
        · have ha : ¬ a = 0x2D := fun h => hc ⟨hi, h⟩
          simp [hi, ha]
        · simp [hi]
  · obtain ⟨p, c, rest, ht, hp⟩ := StrNum.radixPrefix_shape hrp
    injection ht with h1 h2
    subst h1; subst h2
    have hrp' : StrNum.radixPrefix (0x30 :: p :: c :: rest) = StrNum.radixOfLetter p := rfl
    unfold Generated.C05_Decisions.stringToInt
    simp only [hcons, Bool.false_eq_true, if_false, radixPrefix_tie, hrp', Int.toNat_natCast]
    simp only [StrNum.stringToInt, hrp', hp, ne_eq, not_false_eq_true, if_true, List.getD_cons_succ, List.getD_cons_zero,
      List.drop, Bool.or_eq_true, decide_eq_true_eq]
    have : ¬ ((StrNum.radixOfLetter p : Int) = 0) := by omega
    rw [if_pos this]

/-- the cache read by `intToValue` holds `valueInt(i - 256)` at index `i` (what the translation of `intCache[idx]` assumes) -/
theorem intCache_tie : Generated.C05_Decisions.intCacheInit = "intCache[i] = valueInt(i - 256)" := by rfl

end GojaModel.C05.DecTie
