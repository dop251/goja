/-
  C05 — builtin_global.go `parseInt`: its int64 accumulation loop (cutoff / maxVal overflow detection) with Go's wrapping
  arithmetic, the exact value of a digit string, the whole function (`mech`: sign, `0x` prefix, base validation, digits; result
  `PRes`, `PRes.toF64`) next to ECMA-262's `spec`.
-/
import GojaModel.C05.Model
import GojaModel.C05.StrNum
namespace GojaModel.C05.ParseInt
open GojaModel GojaModel.Num GojaModel.C05

/-- outcome of the accumulation loop of builtin_global.go `parseInt`: the int64 accumulator when the digits end (or an
invalid digit is met), or the hand-over to `parseLargeInt` (which re-reads the digits with math/big) -/
inductive Out where
  | small (n : Int)
  | large
deriving DecidableEq, Repr

/-- `cutoff = math.MaxInt64/int64(base) + 1` ("the smallest number such that cutoff*base > maxInt64") -/
def cutoff (base : Nat) : Int := maxInt64 / (base : Int) + 1

/-- the loop `for ; i < len(s); i++ { if n >= cutoff {large}; v := digitVal(s[i]); if v >= base {break};
n *= base; n1 := n + v; if n1 < n || n1 > maxVal {large}; n = n1 }` with Go's WRAPPING int64 arithmetic -/
def loop (base : Nat) : Int → List Nat → Out
  | n, [] => .small n
  | n, c :: cs =>
    if n ≥ cutoff base then .large                        -- n >= cutoff
    else
      let v := StrNum.digitVal c
      if v ≥ base then .small n                           -- v >= base: break
      else
        let m := wrapS 64 (n * base)                      -- n *= int64(base)
        let n1 := wrapS 64 (m + v)                        -- n1 := n + int64(v)
        if n1 < m ∨ n1 > maxInt64 then .large             -- n1 < n || n1 > maxVal
        else loop base n1 cs

/-- the same loop with the seeded defect `n > cutoff` (regression witness only) -/
def loopGt (base : Nat) : Int → List Nat → Out
  | n, [] => .small n
  | n, c :: cs =>
    if n > cutoff base then .large
    else
      let v := StrNum.digitVal c
      if v ≥ base then .small n
      else
        let m := wrapS 64 (n * base)
        let n1 := wrapS 64 (m + v)
        if n1 < m ∨ n1 > maxInt64 then .large
        else loopGt base n1 cs

/-- exact (unbounded) value of the longest valid digit prefix, Horner from `n` -/
def exact (base : Nat) : Int → List Nat → Int
  | n, [] => n
  | n, c :: cs => if StrNum.digitVal c ≥ base then n else exact base (n * base + StrNum.digitVal c) cs

/-- what `parseInt` makes of the digits after sign and prefix: NaN when there is no valid leading digit (`i == 0`),
else the int64 accumulator, else (`parseLargeInt`, math/big) the exact value of the longest valid prefix -/
def digitsResult (base : Nat) (ds : List Nat) : Option Int :=
  match ds with
  | [] => none
  | c :: _ =>
    if StrNum.digitVal c ≥ base then none
    else match loop base 0 ds with
      | .small n => some n
      | .large => some (exact base 0 ds)

/-- result of `parseInt`: NaN or a signed exact integer (`neg ∧ n = 0` is `-0`) to be rounded once -/
inductive PRes where
  | nan
  | val (neg : Bool) (n : Int)
deriving DecidableEq, Repr

def isHexPrefix : List Nat → Bool
  | 0x30 :: x :: _ => decide (x = 0x78 ∨ x = 0x58)
  | _ => false

/-- builtin_global.go `parseInt(s, base)` on the trimmed text, `base` = ToInt32(radix) -/
def mech (t : List Nat) (base : Int) : PRes :=
  if t.isEmpty then .nan else                                   -- len(s) < 1
  let sign := decide (t.head? = some 0x2D)
  let s := if t.head? = some 0x2D ∨ t.head? = some 0x2B then t.drop 1 else t
  if s.isEmpty then .nan else                                   -- len(s) < 1 after the sign
  -- "Look for hex prefix": s[0]=='0' && len(s)>1 && (s[1]=='x'||'X'), only when base is 0 or 16
  let strip := isHexPrefix s && (decide (base = 0) || decide (base = 16))
  let s2 := if strip then s.drop 2 else s
  let b2 : Int := if strip then 16 else base
  if s2.isEmpty then .nan                                       -- case len(s) < 1
  else
    let b3 : Option Nat :=
      if 2 ≤ b2 ∧ b2 ≤ 36 then some b2.toNat                    -- valid base
      else if b2 = 0 then some 10                               -- base == 0 (a hex prefix was already consumed above)
      else none                                                 -- invalid base
    match b3 with
    | none => .nan
    | some b =>
      match digitsResult b s2 with
      | none => .nan                                            -- i == 0
      | some n => .val sign n                                   -- sign ∧ n = 0 ↦ _negativeZero, else intToValue(±n)

/-- ECMA-262 19.2.5 parseInt(string, radix), steps 3-16, on the trimmed text; `R` = ToInt32(radix) -/
def spec (t : List Nat) (R : Int) : PRes :=
  let sign := decide (t.head? = some 0x2D)                                              -- 4
  let s := if t.head? = some 0x2D ∨ t.head? = some 0x2B then t.drop 1 else t             -- 5
  if R ≠ 0 ∧ (R < 2 ∨ R > 36) then .nan                                                 -- 8.a
  else
    let stripPrefix := decide (R = 0) || decide (R = 16)                                 -- 7, 8.b
    let R1 : Int := if R = 0 then 10 else R                                             -- 9
    let strip := stripPrefix && isHexPrefix s                                            -- 10
    let s2 := if strip then s.drop 2 else s
    let R2 : Int := if strip then 16 else R1
    -- 11-16: Z = longest prefix of radix-R2 digits; empty → NaN; else the exact value, with the sign (−0 for a zero)
    match s2 with
    | [] => .nan
    | c :: _ =>
      if StrNum.digitVal c ≥ R2.toNat then .nan
      else .val sign (exact R2.toNat 0 s2)

/-- the double `parseInt` returns: the exact value rounded once (ties to even), `-0` for a negative zero -/
def PRes.toF64 : PRes → F64
  | .nan => F64.canonNaN
  | .val neg n => if n = 0 then ⟨neg, 0, 0, by decide, by decide⟩ else F64.ofInt (if neg then -n else n)

def cps (s : String) : List Nat := s.toList.map Char.toNat

end GojaModel.C05.ParseInt
