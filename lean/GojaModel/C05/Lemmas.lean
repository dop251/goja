/-  The canonical form and the identity operations (`Num.lean`): what `floatToInt` tests (`floatToInt_eq_some`); the normaliser
    `floatToValue` lands in the canonical values (`canon_floatToValue`), keeps the denoted double (`floatToValue_denotes'`), fixes exactly
    the canonical values (`canon_iff`) and identifies SameValue-equal doubles (`floatToValue_congr`), so that on canonical values SameValue
    is equality (`canon_unique'`, `denote_inj`) and `SameAs`, `===`, Map/Set lookup and `includes` are the spec's relations. -/
import GojaModel.C05.F64Lemmas
namespace GojaModel.C05
open GojaModel GojaModel.Num

theorem floatToInt_eq_some {f : F64} {i : Int} :
    floatToInt f = some i ↔ f.toInt? = some i ∧ -maxInt ≤ i ∧ i ≤ maxInt ∧ (f.isZero && f.neg) = false := by
  rw [toInt_some, ← finite_iff]
  simp only [floatToInt, Option.ite_none_right_eq_some, Option.some.injEq, Bool.and_eq_true, Bool.or_eq_true,
    Bool.not_eq_true', decide_eq_true_eq, Bool.and_eq_false_iff]
  constructor
  · rintro ⟨⟨⟨⟨⟨h1, h2⟩, h3, h4⟩, h5⟩, h6⟩, rfl⟩; exact ⟨⟨⟨h3, h2⟩, h4, rfl⟩, h5, h6, h1⟩
  · rintro ⟨⟨⟨h3, h2⟩, h4, rfl⟩, h5, h6, h1⟩; exact ⟨⟨⟨⟨⟨h1, h2⟩, h3, h4⟩, h5⟩, h6⟩, rfl⟩

theorem floatToInt_of_toInt {f : F64} {i : Int} (h : f.toInt? = some i) (h1 : -maxInt ≤ i) (h2 : i ≤ maxInt)
    (hz : f.isZero = false) : floatToInt f = some i :=
  floatToInt_eq_some.2 ⟨h, h1, h2, by rw [hz]; rfl⟩

theorem floatToInt_none_of_toInt_none {f : F64} (h : f.toInt? = none) : floatToInt f = none :=
  Option.eq_none_iff_forall_ne_some.2 fun i hi => by rw [(floatToInt_eq_some.1 hi).1] at h; cases h

theorem floatToInt_none_of_nonfinite {f : F64} (h : f.isFinite = false) : floatToInt f = none :=
  floatToInt_none_of_toInt_none (by simp [F64.toInt?, h])

theorem ofInt_of_floatToInt {f : F64} {i : Int} (h : floatToInt f = some i) : F64.ofInt i = f := by
  obtain ⟨hti, h1, h2, hnz⟩ := floatToInt_eq_some.1 h
  obtain ⟨_, hint, rfl⟩ := toInt_some.1 hti
  by_cases hz : f.isZero = true
  · rcases zero_cases hz with rfl | rfl
    · decide +kernel
    · cases hnz
  · have hz' : f.isZero = false := by simpa using hz
    have hm : maxInt = 2 ^ 53 := rfl
    rw [hm] at h1 h2
    have key := ofNatSign_truncNat hint hz' (by rw [← natAbs_truncInt]; omega)
    have hn0 : f.truncNat ≠ 0 := by
      intro h0; rw [h0, ofNatSign_zero] at key; rw [← key] at hz'; cases hz'
    have hs : decide (f.truncInt < 0) = f.neg := by
      simp only [F64.truncInt, Int.ofNat_eq_natCast]; cases f.neg <;> simp <;> omega
    rw [ofInt_eq, hs, natAbs_truncInt]; exact key

/-- the converse of `ofInt_of_floatToInt`: `float64(i)` of a canonical `i` is exactly `i` and not `-0` -/
theorem floatToInt_ofInt {i : Int} (h : Canon (int i)) : floatToInt (F64.ofInt i) = some i := by
  have ex := ofInt_exact h
  refine floatToInt_eq_some.2 ⟨ex.toInt, h.1, h.2, ?_⟩
  cases hz : (F64.ofInt i).isZero with
  | false => rfl
  | true => rw [(ex.zero hz).2]; rfl

theorem zero_floatToInt_none {f : F64} (hz : f.isZero = true) (h : floatToInt f = none) : f = F64.negZero := by
  rcases zero_cases hz with rfl | rfl
  · exact absurd h (by decide +kernel)
  · rfl

theorem canon_negZero : Canon (flt F64.negZero) := by
  refine ⟨by decide, fun _ _ _ _ => rfl⟩
theorem canon_canonNaN : Canon (flt F64.canonNaN) := by
  refine ⟨fun _ => rfl, ?_⟩
  intro i hi; simp [F64.toInt?, F64.canonNaN, F64.mk', F64.isFinite] at hi

theorem floatToValue_of_some {f : F64} {i : Int} (h : floatToInt f = some i) : floatToValue f = int i := by
  simp only [floatToValue, h, intToValueSmall]

/-- What `floatToInt` rejects is returned as it is, except that every NaN becomes `_NaN`: the zero branch returns the zero it is given
(`-0`, `zero_floatToInt_none`), the two infinities are returned as the constants they equal. -/
theorem floatToValue_of_none {f : F64} (h : floatToInt f = none) :
    floatToValue f = flt (if f.isNaN then F64.canonNaN else f) := by
  simp only [floatToValue, h]
  by_cases hz : f.isZero = true
  · rw [if_pos hz, zero_not_nan hz, zero_floatToInt_none hz h]; rfl
  rw [if_neg hz]
  by_cases hn : f.isNaN = true
  · rw [if_pos hn, if_pos hn]
  rw [if_neg hn, if_neg hn]
  by_cases hi : f.isInf = true
  · have e := inf_fields hi
    cases hs : f.neg
    · rw [if_pos (by rw [hi]; rfl), F64.ext' (a := F64.posInf) hs.symm e.1.symm e.2.symm]
    · rw [if_neg (by rw [hi]; decide), if_pos (by rw [hi]; rfl), F64.ext' (a := F64.negInf) hs.symm e.1.symm e.2.symm]
  · rw [if_neg (by simp [hi]), if_neg (by simp [hi])]

theorem floatToValue_zero (neg : Bool) :
    floatToValue ⟨neg, 0, 0, by decide, by decide⟩ = if neg then flt F64.negZero else int 0 := by
  cases neg <;> decide +kernel

theorem canon_floatToValue (f : F64) : Canon (floatToValue f) := by
  cases h : floatToInt f with
  | some i => rw [floatToValue_of_some h]; exact ⟨(floatToInt_eq_some.1 h).2.1, (floatToInt_eq_some.1 h).2.2.1⟩
  | none =>
    rw [floatToValue_of_none h]
    by_cases hn : f.isNaN = true
    · rw [if_pos hn]; exact canon_canonNaN
    · rw [if_neg hn]
      refine ⟨fun h' => absurd h' hn, fun i hi h1 h2 => ?_⟩
      cases hz : f.isZero with
      | true => exact zero_floatToInt_none hz h
      | false => rw [floatToInt_of_toInt hi h1 h2 hz] at h; cases h

theorem canon_toNumeric {a : Num} (ha : Canon a) : Canon (toNumeric a) := by
  cases a with
  | int i => exact ha
  | flt f => exact canon_floatToValue f

theorem intToValue_inrange {z : Int} (h : -maxInt ≤ z ∧ z ≤ maxInt) : intToValue z = int z := by
  simp only [intToValue, h, and_self, if_true]

theorem floatToValue_nan {f : F64} (h : f.isNaN = true) : floatToValue f = flt F64.canonNaN := by
  rw [floatToValue_of_none (floatToInt_none_of_toInt_none (nan_not_finite h)), if_pos h]

/-- The canonical values are the fixed points of the normaliser `floatToValue ∘ toF64`.  With `floatToValue_congr` this is why a
canonical value is determined by the double it denotes (`canon_unique'`). -/
theorem canon_iff {a : Num} : Canon a ↔ a = floatToValue a.toF64 := by
  refine ⟨fun ha => ?_, fun h => h ▸ canon_floatToValue _⟩
  cases a with
  | int i => exact (floatToValue_of_some (floatToInt_ofInt ha)).symm
  | flt f =>
    -- `floatToInt f = some i` would make `f` the `-0` that `floatToInt` rejects; and a canonical NaN is `_NaN`
    have hnone : floatToInt f = none := Option.eq_none_iff_forall_ne_some.2 fun i hi => by
      obtain ⟨hti, h1, h2, hnz⟩ := floatToInt_eq_some.1 hi
      rw [ha.2 i hti h1 h2] at hnz; cases hnz
    show flt f = floatToValue f
    rw [floatToValue_of_none hnone]
    by_cases hn : f.isNaN = true
    · rw [if_pos hn, ha.1 hn]
    · rw [if_neg hn]

theorem int_eq_floatToValue (i : Int) : intToValue i = floatToValue (F64.ofInt i) := by
  unfold intToValue
  split
  · rename_i h; exact (canon_iff (a := int i)).1 h
  · rfl

theorem canon_intToValue' (i : Int) : Canon (intToValue i) := by
  rw [int_eq_floatToValue]; exact canon_floatToValue _

theorem specSameValue_refl (x : F64) : specSameValue x x = true := by simp [specSameValue]

theorem specSameValue_comm (x y : F64) : specSameValue x y = specSameValue y x := by
  rw [specSameValue, specSameValue, Bool.and_comm, BEq.comm]

theorem floatToValue_denotes' (f : F64) : specSameValue (floatToValue f).toF64 f = true := by
  cases h : floatToInt f with
  | some i => rw [floatToValue_of_some h]; show specSameValue (F64.ofInt i) f = true; rw [ofInt_of_floatToInt h]; exact specSameValue_refl f
  | none =>
    rw [floatToValue_of_none h]
    by_cases hn : f.isNaN = true
    · rw [if_pos hn]
      have hc : F64.canonNaN.isNaN = true := by decide
      simp [specSameValue, toF64, hn, hc]
    · rw [if_neg hn]; exact specSameValue_refl f

theorem intToValue_denotes' (i : Int) : specSameValue (intToValue i).toF64 (F64.ofInt i) = true := by
  rw [int_eq_floatToValue]; exact floatToValue_denotes' _

/-- the normaliser does not tell SameValue-equal doubles apart -/
theorem floatToValue_congr {x y : F64} (h : specSameValue x y = true) : floatToValue x = floatToValue y := by
  simp only [specSameValue, Bool.or_eq_true, Bool.and_eq_true, beq_iff_eq] at h
  rcases h with ⟨hx, hy⟩ | rfl
  · rw [floatToValue_nan hx, floatToValue_nan hy]
  · rfl

theorem floatToValue_unique' {a : Num} (ha : Canon a) {r : F64} (h : specSameValue a.toF64 r = true) :
    a = floatToValue r := by
  rw [canon_iff.1 ha, floatToValue_congr h]

theorem canon_unique' {a b : Num} (ha : Canon a) (hb : Canon b)
    (h : specSameValue a.toF64 b.toF64 = true) : a = b := by
  rw [canon_iff.1 ha, canon_iff.1 hb, floatToValue_congr h]

theorem denote_inj {a b : Num} (ha : Canon a) (hb : Canon b) : specSameValue a.toF64 b.toF64 = true ↔ a = b :=
  ⟨canon_unique' ha hb, fun h => h ▸ specSameValue_refl _⟩

theorem toNumeric_of_canon {a : Num} (ha : Canon a) : toNumeric a = a := by
  cases a with
  | int i => rfl
  | flt f => exact (canon_iff.1 ha).symm

/-- `valueFloat.SameAs(valueFloat)` is SameValue on every pair of doubles; canonical form matters only where a `valueInt` takes part -/
theorem sameAs_flt_flt (f g : F64) : sameAs (flt f) (flt g) = specSameValue f g := by
  simp only [sameAs, specSameValue]
  cases hf : f.isNaN <;> cases hg : g.isNaN
  · -- neither is NaN: IEEE `==` differs from equality only on the two zeros, which the sign test separates
    simp only [Bool.and_self, Bool.false_eq_true, if_false, Bool.false_or]
    cases hfe : F64.feq f g
    · have := mt (feq_iff hf hg).2 (by rw [hfe]; simp)
      simp only [Bool.false_and, Bool.false_eq_true, if_false]
      exact (beq_false_of_ne fun h => this (Or.inr h)).symm
    · rcases (feq_iff hf hg).1 hfe with ⟨zf, zg⟩ | rfl
      · obtain ⟨e1, m1⟩ := zero_fields zf
        obtain ⟨e2, m2⟩ := zero_fields zg
        simp only [zf, Bool.and_self, if_true]
        rw [Bool.eq_iff_iff, beq_iff_eq, beq_iff_eq]
        exact ⟨fun h => F64.ext' h (e1.trans e2.symm) (m1.trans m2.symm), fun h => h ▸ rfl⟩
      · simp
  · have : f ≠ g := fun h => by rw [h, hg] at hf; cases hf
    simp [F64.feq, hg, this]
  · have : f ≠ g := fun h => by rw [h, hg] at hf; cases hf
    simp [F64.feq, hf, this]
  · simp

/-- `valueFloat.SameAs(valueInt)` takes a zero `float64(j)` for `+0`: right, as `float64(j)` is never `-0` -/
theorem sameAs_flt_int (f : F64) {j : Int} (hj : Canon (int j)) : sameAs (flt f) (int j) = specSameValue f (F64.ofInt j) := by
  rw [← sameAs_flt_flt]
  simp only [sameAs, (ofInt_exact hj).nan, Bool.and_false, Bool.false_eq_true, if_false]
  cases hfe : F64.feq f (F64.ofInt j) <;> cases hz : f.isZero <;> simp only [Bool.and_self, Bool.and_false, Bool.false_and,
    Bool.false_eq_true, if_false, if_true]
  rcases (feq_iff (zero_not_nan hz) (ofInt_exact hj).nan).1 hfe with ⟨_, zj⟩ | rfl
  · rw [((ofInt_exact hj).zero zj).2]; cases f.neg <;> rfl
  · rw [((ofInt_exact hj).zero hz).2]; rfl

theorem sameAs_eq_spec' {a b : Num} (ha : Canon a) (hb : Canon b) :
    sameAs a b = specSameValue a.toF64 b.toF64 := by
  cases a with
  | flt f =>
    cases b with
    | flt g => exact sameAs_flt_flt f g
    | int j => exact sameAs_flt_int f hb
  | int i =>
    -- `valueInt.SameAs` is equality of representations, which on canonical values is SameValue
    rw [Bool.eq_iff_iff, denote_inj ha hb]
    cases b <;> simp [sameAs]

theorem strictEquals_eq_spec' {a b : Num} (ha : Canon a) (hb : Canon b) :
    strictEquals a b = specStrictEq a.toF64 b.toF64 := by
  cases a with
  | int i =>
    cases b with
    | int j =>
      obtain ⟨ei, ni, _, _, _, zi⟩ := ofInt_exact ha
      obtain ⟨ej, nj, _, _, _, zj⟩ := ofInt_exact hb
      simp only [strictEquals, specStrictEq, toF64]
      by_cases h : i = j
      · subst h; simp; exact (feq_iff ni ni).2 (Or.inr rfl)
      · have : F64.feq (F64.ofInt i) (F64.ofInt j) = false := by
          cases hfe : F64.feq (F64.ofInt i) (F64.ofInt j) with
          | false => rfl
          | true =>
            rcases (feq_iff ni nj).1 hfe with hz | he
            · exact absurd ((zi hz.1).1.trans (zj hz.2).1.symm) h
            · rw [he] at ei; rw [ei] at ej; cases ej; exact absurd rfl h
        rw [this]; simp [h]
    | flt g => rfl
  | flt f =>
    cases b with
    | int j => rfl
    | flt g => rfl

/-- zero-normalisation on doubles (what `key == _negativeZero → intToValue(0)` does to the denotation) -/
def nz (x : F64) : F64 := if x.isZero then F64.posZero else x

theorem specSVZ_eq (x y : F64) : specSameValueZero x y = specSameValue (nz x) (nz y) := by
  have ne : ∀ {a b : F64}, a.isZero = true → ¬ b.isZero = true → (a == b) = false ∧ (b == a) = false :=
    fun ha hb => ⟨beq_false_of_ne fun h => hb (h ▸ ha), beq_false_of_ne fun h => hb (h ▸ ha)⟩
  have hp : F64.posZero.isZero = true := rfl
  simp only [specSameValueZero, specSameValue, nz]
  by_cases hx : x.isZero = true <;> by_cases hy : y.isZero = true
  · simp [hx, hy]
  · simp [hx, hy, zero_not_nan hx, zero_not_nan hp, (ne hx hy).1, (ne hp hy).1]
  · simp [hx, hy, zero_not_nan hy, zero_not_nan hp, (ne hy hx).2, (ne hp hx).2]
  · simp [hx, hy]

theorem canon_normKey {a : Num} (ha : Canon a) : Canon (normKey a) := by
  cases a with
  | int i => exact ha
  | flt f =>
    simp only [normKey]
    split
    · exact ⟨by decide, by decide⟩
    · exact ha

theorem toF64_normKey {a : Num} (ha : Canon a) : (normKey a).toF64 = nz a.toF64 := by
  cases a with
  | int i =>
    show F64.ofInt i = nz (F64.ofInt i)
    unfold nz
    by_cases hz : (F64.ofInt i).isZero = true
    · rw [if_pos hz, ((ofInt_exact ha).zero hz).1]; rfl
    · simp [hz]
  | flt f =>
    show (if f.isZero then int 0 else flt f).toF64 = nz f
    unfold nz
    by_cases hz : f.isZero = true
    · simp only [hz, if_true]; decide
    · simp [hz, toF64]

theorem normKey_eq_iff_svz {a b : Num} (ha : Canon a) (hb : Canon b) :
    normKey a = normKey b ↔ specSameValueZero a.toF64 b.toF64 = true := by
  rw [specSVZ_eq, ← toF64_normKey ha, ← toF64_normKey hb]
  exact (denote_inj (canon_normKey ha) (canon_normKey hb)).symm

theorem includesFinds_eq_spec' {a b : Num} (ha : Canon a) (hb : Canon b) :
    includesFinds a b = specSameValueZero a.toF64 b.toF64 := by
  rw [includesFinds, sameAs_eq_spec' (canon_normKey ha) (canon_normKey hb), toF64_normKey ha, toF64_normKey hb, ← specSVZ_eq]

theorem mapFinds_eq_includesFinds {a b : Num} (ha : Canon a) (hb : Canon b) : mapFinds a b = includesFinds a b := by
  have ca := canon_normKey ha
  have cb := canon_normKey hb
  simp only [mapFinds, includesFinds]
  cases h : sameAs (normKey a) (normKey b) with
  | false => rw [Bool.and_false]
  | true =>
    rw [sameAs_eq_spec' ca cb] at h
    rw [(denote_inj ca cb).1 h, Bool.and_true, beq_self_eq_true]

end GojaModel.C05
