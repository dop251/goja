/-
  C05 tie: facts regenerated from /repo's Go source on every run, compared with what the model transcribes.
  Every expectation is EXACTLY the code of /repo; a revert of any C05 fix, a dropped canonicaliser or a
  changed guard breaks one of these theorems (and the correspondence then supplies the concrete input).

  * `numSites_ok`  : every place where a `valueFloat` is built WITHOUT a canonicaliser is one of the audited sites
                     (constants whose value is non-integral / ±Inf / -0 / the canonical NaN / > 2^53; the tail of
                     `floatToValue`, covered by `canon_floatToValue`; `parseLargeInt`, whose argument is ≥ cutoff, `Props.parseInt_large_is_big`;
                     that `cutoff` exceeds 2^53 for every base ≤ 36 is arithmetic, no lemma states it).
  * `wrappers_ok`  : every result wrapper used by an arithmetic / bitwise / update operator is a canonical producer.
  * `…_tie`        : return expressions / guards / trimming calls of the transcribed functions that are NOT in the
                     translatable subset, as text (the numeric decision functions are translated: `DecTie.lean`).
  * `whitespace_tie`: `parser.WhitespaceChars` is the table `StrNum.trimChars` (proved = WhiteSpace ∪ LineTerminator).
  * `maxInt_tie`   : the threshold the model uses is the one in vm.go.
-/
import GojaModel.C05.Model
import GojaModel.C05.StrNum
import GojaModel.Generated.C05_NumSites
import GojaModel.Generated.C05_Shapes

namespace GojaModel.C05.Tie
open GojaModel
namespace G
export GojaModel.Generated.C05_Shapes (facts_strnum
  facts_includes facts_mathsign facts_bigint facts_parseint whitespaceChars maxIntShift)
end G

def auditedSites : List (String × String × String) := [
  ("builtin_global.go", "parseLargeInt", "n"),
  ("builtin_math.go", "createMathTemplate", "math.E"),
  ("builtin_math.go", "createMathTemplate", "math.Ln10"),
  ("builtin_math.go", "createMathTemplate", "math.Ln2"),
  ("builtin_math.go", "createMathTemplate", "math.Log10E"),
  ("builtin_math.go", "createMathTemplate", "math.Log2E"),
  ("builtin_math.go", "createMathTemplate", "math.Pi"),
  ("builtin_math.go", "createMathTemplate", "sqrt1_2"),
  ("builtin_math.go", "createMathTemplate", "math.Sqrt2"),
  ("builtin_number.go", "createNumberTemplate", "math.SmallestNonzeroFloat64"),
  ("builtin_number.go", "createNumberTemplate", "math.MaxFloat64"),
  ("value.go", "<package>", "math.NaN()"),
  ("value.go", "<package>", "math.Inf(+1)"),
  ("value.go", "<package>", "math.Inf(-1)"),
  ("value.go", "<package>", "negativeZero"),
  ("value.go", "<package>", "2.2204460492503130808472633361816e-16"),
  ("vm.go", "floatToValue", "f")
]

/-- exactly the audited list, in source order: a new raw `valueFloat(…)` site (e.g. a dropped canonicaliser in an
operator, or a raw `valueFloat(i)` tail of `intToValue`) or a removed one changes the regenerated list -/
theorem numSites_ok : Generated.C05_NumSites.sites = auditedSites := by rfl

/-- the result wrappers of every arithmetic / bitwise / update operator, in source order: each is a canonical
producer (`intToValue`, `floatToValue`, `toNumeric`, `pow`, constants; `neg:n` = `-n` on a canonical non-zero int: `neg_canon`) -/
def expectedWrappers : List (String × List String) := [
  ("_add", [".Concat", "intToValue", "floatToValue", "floatToValue"]),
  ("_sub", ["toNumeric", "toNumeric", "intToValue", "floatToValue"]),
  ("_mul", ["toNumeric", "toNumeric", "_negativeZero", "intToValue", "floatToValue"]),
  ("_div", ["toNumeric", "toNumeric", "_NaN", "_NaN", "_NaN", "_positiveInf", "_negativeInf", "_positiveZero", "_negativeZero", "_positiveInf", "_negativeInf", "floatToValue"]),
  ("_mod", ["toNumeric", "toNumeric", "_NaN", "_negativeZero", "intToValue", "floatToValue"]),
  ("_neg", ["toNumeric", "_negativeZero", "neg:n", "floatToValue"]),
  ("_inc", ["intToValue", "floatToValue"]),
  ("_dec", ["intToValue", "floatToValue"]),
  ("_and", ["toNumeric", "toNumeric", "intToValue"]),
  ("_or", ["toNumeric", "toNumeric", "intToValue"]),
  ("_xor", ["toNumeric", "toNumeric", "intToValue"]),
  ("_bnot", ["toNumeric", "intToValue"]),
  ("_sal", ["toNumeric", "toNumeric", "intToValue"]),
  ("_sar", ["toNumeric", "toNumeric", "intToValue"]),
  ("_shr", ["toNumeric", "toNumeric", "toNumeric", "intToValue"]),
  ("_exp", ["toNumeric", "toNumeric", "pow"]),
  ("_plus", [".ToNumber"])
]

theorem wrappers_ok : Generated.C05_NumSites.wrappers = expectedWrappers := by rfl

/-- … and none of them is a raw `valueFloat` / `valueInt` conversion -/
theorem wrappers_canonical :
    expectedWrappers.all (fun p => p.2.all (fun w => w != "valueFloat" && w != "valueInt")) = true := by decide +kernel

theorem maxInt_tie : (2 : Int) ^ G.maxIntShift = Num.maxInt := by decide

theorem whitespace_tie : G.whitespaceChars = StrNum.trimChars := by decide

/-- string → number: every conversion trims with `parser.WhitespaceChars` (never `strings.TrimSpace`, e80e384), `radixPrefix`/`stringToInt` decisions (d6061d6, 7637e2e), `ToInteger` (c886782), UTF-16 strings delegate (6010fc8) -/
theorem strnum_tie : G.facts_strnum = [
  ("trims:trimWhitespace", ["strings.Trim(s, parser.WhitespaceChars)"]),
  ("trims:asciiString.ToNumber", ["trimWhitespace(string(s))"]),
  ("trims:asciiString.ToFloat", ["trimWhitespace(string(s))"]),
  ("trims:asciiString.ToInteger", ["trimWhitespace(string(s))"]),
  ("trims:asciiString.toTrimmedUTF8", ["trimWhitespace(string(s))"]),
  ("trims:unicodeString.toTrimmedUTF8", ["strings.Trim(s.String(), parser.WhitespaceChars)"]),
  ("trims:importedString.toTrimmedUTF8", ["strings.Trim(i.s, parser.WhitespaceChars)"]),
  ("conds:asciiString.ToInteger", ["ss == \"\"", "ss == \"Infinity\" || ss == \"+Infinity\"", "ss == \"-Infinity\"", "err != nil", "err == nil"]),
  ("returns:asciiString.ToInteger", ["0", "math.MaxInt64", "math.MinInt64", "floatToIntClip(f)", "0", "i"]),
  ("conds:asciiString._toFloat", ["trimmed == \"\"", "trimmed == \"-0\"", "strings.ContainsRune(trimmed, '_')", "base != 0", "digitVal(digits[i]) >= base", "!ok", "len(trimmed) >= 2", "trimmed[0] == '-' || trimmed[0] == '+'", "len(prefix) >= 2 && prefix[0] == '0' && (prefix[1] == 'x' || prefix[1] == 'X')", "err == nil && math.IsInf(f, 0)", "strings.HasPrefix(ss, \"inf\") || strings.HasPrefix(ss, \"-inf\") || strings.HasPrefix(ss, \"+inf\")", "isRangeErr(err)"]),
  ("returns:asciiString._toFloat", ["0, nil", "-f, nil", "0, strconv.ErrSyntax", "0, strconv.ErrSyntax", "0, strconv.ErrSyntax", "f, nil", "0, strconv.ErrSyntax", "0, strconv.ErrSyntax", "f, err"]),
  ("conds:asciiString.ToFloat", ["ss == \"\"", "ss == \"Infinity\" || ss == \"+Infinity\"", "ss == \"-Infinity\"", "err != nil", "err == nil"]),
  ("returns:asciiString.ToFloat", ["0", "math.Inf(1)", "math.Inf(-1)", "float64(i)", "f"]),
  ("conds:asciiString.ToNumber", ["ss == \"\"", "ss == \"Infinity\" || ss == \"+Infinity\"", "ss == \"-Infinity\"", "err == nil", "err == nil"]),
  ("returns:asciiString.ToNumber", ["intToValue(0)", "_positiveInf", "_negativeInf", "intToValue(i)", "floatToValue(f)", "_NaN"]),
  ("returns:unicodeString.ToNumber", ["asciiString(s.toTrimmedUTF8()).ToNumber()"]),
  ("returns:unicodeString.ToFloat", ["asciiString(s.toTrimmedUTF8()).ToFloat()"]),
  ("returns:unicodeString.ToInteger", ["asciiString(s.toTrimmedUTF8()).ToInteger()"])
] := by rfl

/-- builtin_array.go `includes`: search value and BOTH element loops normalise -0 (dd517b9) -/
theorem includes_tie : G.facts_includes = [
  ("conds:Runtime.arrayproto_includes", ["length == 0", "n >= length", "n < 0", "searchElement == _negativeZero", "arr != nil && int64(len(arr.values)) == length", "val == _negativeZero", "searchElement.SameAs(val)", "val == _negativeZero", "searchElement.SameAs(val)"])
] := by rfl

/-- builtin_math.go `Math.sign` returns Numbers only (795f82e) -/
theorem mathsign_tie : G.facts_mathsign = [
  ("returns:Runtime.math_sign", ["floatToValue(num)", "intToValue(1)", "intToValue(-1)"])
] := by rfl

/-- builtin_global.go `parseInt`: `cutoff = MaxInt64/base + 1`, `maxVal = MaxInt64`, the wrapping updates, -0 and the
hand-over to `parseLargeInt` — what `ParseInt.loop` transcribes; the sign / `0x`-prefix / base-validation conditions of the part before the loop (which uses `goto`, outside the translatable subset; modelled in `ParseInt.mech`); the three GUARDS of the loop are in addition translated to Lean and tied in `DecTie.parseIntGuards_tie` -/
theorem parseint_tie : G.facts_parseint = [
  ("conds:parseInt", ["len(s) < 1", "len(s) < 1", "s[0] == '0' && len(s) > 1 && (s[1] == 'x' || s[1] == 'X')", "base == 0 || base == 16", "len(s) < 3", "n >= cutoff", "v >= base", "n1 < n || n1 > maxVal", "i == 0", "sign", "n == 0"]),
  ("assigns:parseInt", ["cutoff = math.MaxInt64/10 + 1", "cutoff = math.MaxInt64/16 + 1", "cutoff = math.MaxInt64/int64(base) + 1", "maxVal = math.MaxInt64", "n *= int64(base)", "n1 := n + int64(v)", "n = n1", "n = -n"]),
  ("returns:parseInt", ["parseLargeInt(s, base, sign)", "parseLargeInt(s, base, sign)", "_negativeZero, nil", "intToValue(n), nil", "_NaN, err"]),
  ("returns:parseLargeInt", ["_NaN, strconv.ErrSyntax", "valueFloat(n), nil"])
] := by rfl

/-- runtime.go `bigIntToNumber` (9d4b1ca): `IsInt64()` guard, `intToValue(b.Int64())` within int64, `floatToValue` of the
big.Float value beyond; `Number(bigint)` goes through it — what `numberOfBigInt` transcribes -/
theorem bigint_tie : G.facts_bigint = [
  ("conds:bigIntToNumber", ["b.IsInt64()"]),
  ("returns:bigIntToNumber", ["intToValue(b.Int64())", "floatToValue(f)"]),
  ("returns:Runtime.builtin_Number", ["bigIntToNumber((*big.Int)(bigint))", "primValue.ToNumber()", "bigIntToNumber((*big.Int)(t))", "t.ToNumber()", "valueInt(0)"])
] := by rfl

end GojaModel.C05.Tie
