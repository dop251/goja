/-  Conversions and operators (`Model.lean`): Go's `intN`/`uintN` wrap (`wrapS`, `wrapU`) against ECMA-262's modulo, the integer and
    index conversions against the abstract operations, the int×int path of `*`, the special cases of `/`. -/
import GojaModel.C05.Model
import GojaModel.C05.Lemmas
namespace GojaModel.C05
open GojaModel GojaModel.Num

theorem specIntOrZero_ofInt {i : Int} (h : Canon (int i)) : specIntOrZero (F64.ofInt i) = i := by
  rw [specIntOrZero, (ofInt_exact h).fin, if_pos rfl, (ofInt_exact h).trunc]

theorem two_pow_pred {n : Nat} (hn : 1 ≤ n) : (2 : Int) ^ n = 2 * 2 ^ (n - 1) := by
  obtain ⟨k, rfl⟩ : ∃ k, n = k + 1 := ⟨n - 1, by omega⟩
  rw [Nat.add_sub_cancel, Int.pow_succ, Int.mul_comm]

theorem two_pow_dvd {n k : Nat} (h : n ≤ k) : (2 : Int) ^ n ∣ 2 ^ k :=
  ⟨2 ^ (k - n), by rw [← Int.pow_add]; congr 1; omega⟩

/-- Go's `intN(x)` written the way ECMA-262 writes ToIntN -/
theorem wrapS_eq {n : Nat} (hn : 1 ≤ n) (x : Int) :
    wrapS n x = (let m := x % 2 ^ n; if m ≥ 2 ^ (n - 1) then m - 2 ^ n else m) := by
  have hp : (0 : Int) < 2 ^ (n - 1) := Int.pow_pos (by decide)
  have hM : (0 : Int) < 2 ^ n := Int.pow_pos (by decide)
  have h0 := Int.emod_nonneg x (Int.ne_of_gt hM)
  have h1 := Int.emod_lt_of_pos x hM
  simp only [wrapS]
  rw [← Int.emod_add_emod]
  rw [two_pow_pred hn] at *
  generalize (2 : Int) ^ (n - 1) = h at *
  generalize x % (2 * h) = m at *
  split
  · rw [← Int.sub_emod_right, Int.emod_eq_of_lt (by omega) (by omega)]; omega
  · rw [Int.emod_eq_of_lt (by omega) (by omega)]; omega

theorem wrapS_emod {n k : Nat} (hnk : n ≤ k) (x : Int) : wrapS k x % 2 ^ n = x % 2 ^ n := by
  rw [wrapS, Int.sub_emod, Int.emod_emod_of_dvd _ (two_pow_dvd hnk), ← Int.sub_emod, Int.add_sub_cancel]

theorem wrapS_congr {n : Nat} {x y : Int} (h : x % 2 ^ n = y % 2 ^ n) : wrapS n x = wrapS n y := by
  rw [wrapS, wrapS, ← Int.emod_add_emod, h, Int.emod_add_emod]

theorem wrapS_of_range {n : Nat} (hn : 1 ≤ n) {x : Int} (h1 : -(2 ^ (n - 1)) ≤ x) (h2 : x < 2 ^ (n - 1)) :
    wrapS n x = x := by
  rw [wrapS, two_pow_pred hn, Int.emod_eq_of_lt (by omega) (by omega)]; omega

theorem wrapS_range {n : Nat} (hn : 1 ≤ n) (x : Int) : -(2 ^ (n - 1)) ≤ wrapS n x ∧ wrapS n x < 2 ^ (n - 1) := by
  have hp : (0 : Int) < 2 ^ (n - 1) := Int.pow_pos (by decide)
  have h0 := Int.emod_nonneg (x + 2 ^ (n - 1)) (by omega : 2 * (2 : Int) ^ (n - 1) ≠ 0)
  have h1 := Int.emod_lt_of_pos (x + 2 ^ (n - 1)) (by omega : 0 < 2 * (2 : Int) ^ (n - 1))
  rw [wrapS, two_pow_pred hn]; omega

theorem wrapS_of_inInt64 {p : Int} (h : InInt64 p) : wrapS 64 p = p :=
  wrapS_of_range (by decide) h.1 (Int.lt_of_le_sub_one h.2)

theorem wrapU_of_range {n : Nat} {x : Int} (h0 : 0 ≤ x) (h1 : x < 2 ^ n) : wrapU n x = x := Int.emod_eq_of_lt h0 h1

theorem float64ToInt64Mod_eq (f : F64) : float64ToInt64Mod f = wrapS 64 f.truncInt := by
  simp only [float64ToInt64Mod, goModTwo64, wrapS]
  generalize f.truncInt = t
  split
  · omega
  · split
    · split
      · omega
      · split <;> omega
    · split
      · omega
      · split <;> omega

/-- converting to `int64` first (as the Go code does) loses nothing modulo `2^n`, `n ≤ 64` -/
theorem toIntS_spec {n : Nat} (h1 : 1 ≤ n) (h64 : n ≤ 64) {a : Num} (ha : Canon a) :
    toIntS n a = specToIntS n a.toF64 := by
  cases a with
  | int i => simp only [toIntS, specToIntS, toF64, specIntOrZero_ofInt ha, wrapS_eq h1]
  | flt f =>
    show toIntS n (flt f) = specToIntS n f
    simp only [toIntS, finite_iff, float64ToInt64Mod_eq, specToIntS, specIntOrZero]
    by_cases hf : f.isFinite = true
    · simp only [hf, if_true, wrapS_congr (wrapS_emod h64 _)]; exact wrapS_eq h1 _
    · have hp : (0 : Int) < 2 ^ (n - 1) := Int.pow_pos (by decide)
      simp only [hf, Bool.false_eq_true, if_false, Int.zero_emod]; rw [if_neg (by omega)]

theorem toIntU_spec {n : Nat} (h64 : n ≤ 64) {a : Num} (ha : Canon a) : toIntU n a = specToIntU n a.toF64 := by
  cases a with
  | int i => simp only [toIntU, specToIntU, toF64, specIntOrZero_ofInt ha, wrapU]
  | flt f =>
    show toIntU n (flt f) = specToIntU n f
    simp only [toIntU, finite_iff, float64ToInt64Mod_eq, specToIntU, specIntOrZero, wrapU]
    by_cases hf : f.isFinite = true
    · simp only [hf, if_true, wrapS_emod h64]
    · simp only [hf, Bool.false_eq_true, if_false, Int.zero_emod]

theorem floatToIntClip_spec' (f : F64) : floatToIntClip f = specToIntegerClamped f := by
  unfold floatToIntClip specToIntegerClamped
  by_cases hn : f.isNaN = true
  · rw [if_pos hn, if_pos hn]
  rw [if_neg hn, if_neg hn]
  by_cases hi : f.isInf = true
  · rw [if_pos hi, if_pos hi]
  rw [if_neg hi, if_neg hi]
  simp only [minInt64, maxInt64]
  generalize f.truncInt = t
  by_cases h1 : t ≥ 2 ^ 63
  · rw [if_pos h1, Int.min_eq_left (by omega), Int.max_eq_right (by decide)]
  · rw [if_neg h1, Int.min_eq_right (by omega)]
    by_cases h2 : t ≤ -(2 ^ 63)
    · rw [if_pos h2, Int.max_eq_left h2]
    · rw [if_neg h2, Int.max_eq_right (by omega)]

theorem toInteger_spec {a : Num} (ha : Canon a) : toInteger a = specToIntegerClamped a.toF64 := by
  cases a with
  | int i =>
    have ex := ofInt_exact ha
    have hm : maxInt = 2 ^ 53 := rfl
    obtain ⟨h1, h2⟩ := ha
    rw [hm] at h1 h2
    simp only [toInteger, toF64, specToIntegerClamped, ex.nan, ex.inf, ex.trunc, Bool.false_eq_true, if_false, minInt64, maxInt64]
    rw [Int.min_eq_right (by omega), Int.max_eq_right (by omega)]
  | flt f => exact floatToIntClip_spec' f

/-- `toInteger` does not see the representation: `toLength` and `toIndex`, functions of it, are settled on the float branch -/
theorem toInteger_toF64 {a : Num} (ha : Canon a) : toInteger (flt a.toF64) = toInteger a :=
  (floatToIntClip_spec' _).trans (toInteger_spec ha).symm

theorem toLength_flt (f : F64) : toLength (flt f) = specToLength f := by
  simp only [toLength, toInteger, specToLength, floatToIntClip, maxInt, minInt64, maxInt64]
  by_cases hn : f.isNaN = true
  · simp [hn]
  · by_cases hi : f.isInf = true
    · by_cases hs : f.neg = true <;> simp [hn, hi, hs]
    · simp only [hn, hi]; grind

theorem toLength_int (i : Int) : toLength (int i) = min (max i 0) (2 ^ 53 - 1) := by
  simp only [toLength, toInteger, maxInt]; grind

theorem toIndex_flt (f : F64) : toIndex (flt f) = specToIndex f := by
  simp only [toIndex, toInteger, specToIndex, floatToIntClip, maxInt, minInt64, maxInt64]
  by_cases hn : f.isNaN = true
  · simp [hn]
  · by_cases hi : f.isInf = true
    · by_cases hs : f.neg = true <;> simp [hn, hi, hs]
    · simp only [hn, hi]; grind

theorem toIndex_int (i : Int) : toIndex (int i) = if 0 ≤ i ∧ i ≤ 2 ^ 53 - 1 then some i else none := by
  simp only [toIndex, toInteger, maxInt]; grind

theorem toLengthUint32_flt (f : F64) : toLengthUint32 (flt f) = specArrayLength f := by
  simp only [toLengthUint32, specArrayLength]
  by_cases hz : f.isZero = true
  · have := toInt_of_isZero hz
    simp [hz, this]
  · have hz' : f.isZero = false := by simpa using hz
    simp only [hz', Bool.false_and, Bool.false_eq_true, if_false]
    cases ht : f.toInt? with
    | none => simp [floatToInt_none_of_toInt_none ht]
    | some i =>
      by_cases hr : -maxInt ≤ i ∧ i ≤ maxInt
      · rw [floatToInt_of_toInt ht hr.1 hr.2 hz']
      · have : floatToInt f = none := Option.eq_none_iff_forall_ne_some.2 fun j hj => by
          obtain ⟨e, r1, r2, _⟩ := floatToInt_eq_some.1 hj
          rw [ht] at e; cases e; exact hr ⟨r1, r2⟩
        rw [this]
        simp only [maxInt] at hr
        have : ¬ (0 ≤ i ∧ i ≤ 4294967295) := by omega
        simp [this]

theorem toUint8Clamp_flt (f : F64) : toUint8Clamp (flt f) = specToUint8Clamp f := by
  by_cases hz : f.isZero = true
  · rcases zero_cases hz with rfl | rfl <;> decide +kernel
  have hz' : f.isZero = false := by simpa using hz
  simp only [toUint8Clamp, specToUint8Clamp, hz', Bool.not_false, Bool.and_true]
  by_cases hn : f.isNaN = true
  · simp [hn]
  by_cases hs : f.neg = true
  · simp [hn, hs]
  by_cases hi : f.isInf = true
  · simp [hn, hs, hi]
  by_cases hb : 1075 ≤ f.eff
  · simp [hn, hs, hi, hb]
  simp only [hn, hs, hi, hb, Bool.false_eq_true, if_false]
  -- both sides round `q + r/d` half to even and clamp at 255; they differ only in how the clamp is written
  have hd : 0 < 2 ^ (1075 - f.eff) := Nat.two_pow_pos _
  have hr : f.sig % 2 ^ (1075 - f.eff) < 2 ^ (1075 - f.eff) := Nat.mod_lt _ hd
  generalize f.sig / 2 ^ (1075 - f.eff) = q at *
  generalize f.sig % 2 ^ (1075 - f.eff) = r at *
  generalize 2 ^ (1075 - f.eff) = d at *
  grind

theorem specClamp_of_integral {g : F64} {i : Int} (h : g.toInt? = some i) :
    specToUint8Clamp g = (if i < 0 then 0 else if i ≤ 255 then i else 255) := by
  obtain ⟨hfin, hint, rfl⟩ := toInt_some.1 h
  have hc := finite_iff g
  simp only [hfin, Bool.and_eq_true, Bool.not_eq_true'] at hc
  simp only [specToUint8Clamp, hc.1, hc.2, Bool.false_eq_true, if_false, F64.truncInt, Int.ofNat_eq_natCast]
  cases g.neg
  · simp only [Bool.false_eq_true, if_false]
    by_cases hb : 1075 ≤ g.eff
    · -- at least 2^52: not a zero, and beyond 255
      obtain ⟨hz, _, hbig⟩ := big_integral hb
      simp only [hb, if_true, hz, Bool.false_eq_true, if_false]
      rw [if_neg (by omega), if_neg (by omega)]
    · -- `q = truncNat`, `r = 0`: rounding does nothing
      have hle : g.eff ≤ 1075 := by omega
      rw [isIntegral_of_le hle, beq_iff_eq] at hint
      simp only [hb, if_false, truncNat_of_le hle, hint]
      have hd := Nat.two_pow_pos (1075 - g.eff)
      generalize g.sig / 2 ^ (1075 - g.eff) = q
      generalize 2 ^ (1075 - g.eff) = d at *
      grind
  · simp only [if_true]
    split
    · rfl
    · split <;> omega

theorem wrapS32_range (x : Int) : -maxInt ≤ wrapS 32 x ∧ wrapS 32 x ≤ maxInt :=
  ⟨Int.le_trans (by decide) (wrapS_range (by decide) x).1, Int.le_trans (Int.le_of_lt (wrapS_range (by decide) x).2) (by decide)⟩
theorem wrapU32_range (x : Int) : -maxInt ≤ wrapU 32 x ∧ wrapU 32 x ≤ maxInt := by
  simp only [wrapU, maxInt]; omega

theorem toIntS32_range (a : Num) : -maxInt ≤ toIntS 32 a ∧ toIntS 32 a ≤ maxInt := by
  cases a with
  | int i => exact wrapS32_range _
  | flt f =>
    simp only [toIntS]
    split
    · exact wrapS32_range _
    · decide

/-- The `bit32` term is generalised first: Lean reaches its recursion limit whenever it elaborates a term or hypothesis whose type is
`Canon (intToValue (bit32 …))` — `exact canon_intToValue' _` fails, and so does `have := canon_bit32 f x y` — because reducing that type
takes `wrapS 32 (Int.ofNat …)` apart into arithmetic with `2^31` on an open term (with `bit32` or `wrapS` irreducible it goes through). -/
theorem canon_bit32 (f : Nat → Nat → Nat) (x y : Int) : Canon (intToValue (bit32 f x y)) := by
  generalize bit32 f x y = z
  exact canon_intToValue' z
theorem opAnd_canon' (a b : Num) : Canon (opAnd a b) := by
  unfold opAnd; generalize bit32 _ _ _ = z; exact canon_intToValue' z
theorem opOr_canon' (a b : Num) : Canon (opOr a b) := by
  unfold opOr; generalize bit32 _ _ _ = z; exact canon_intToValue' z
theorem opXor_canon' (a b : Num) : Canon (opXor a b) := by
  unfold opXor; generalize bit32 _ _ _ = z; exact canon_intToValue' z

theorem toInt32_eq {a : Num} (ha : Canon a) : toInt32 (toNumeric a) = specToIntS 32 a.toF64 := by
  rw [toNumeric_of_canon ha]; exact toIntS_spec (by decide) (by decide) ha
theorem toUint32_eq {a : Num} (ha : Canon a) : toUint32 (toNumeric a) = specToIntU 32 a.toF64 := by
  rw [toNumeric_of_canon ha]; exact toIntU_spec (by decide) ha

theorem tmod_abs_lt (a : Int) {b : Int} (hb : b ≠ 0) : -b.natAbs < a.tmod b ∧ a.tmod b < b.natAbs := by
  by_cases hpos : 0 < b
  · have h1 := Int.tmod_lt_of_pos a hpos
    have h2 := Int.lt_tmod_of_pos a hpos
    omega
  · have hneg : 0 < -b := by omega
    have h1 := Int.tmod_lt_of_pos a hneg
    have h2 := Int.lt_tmod_of_pos a hneg
    rw [Int.tmod_neg] at h1 h2
    omega

/-- vm.go `_mul`: `res := left * right; if … res/left == right` -/
theorem mul_overflow_test {x y : Int} (hx : -maxInt ≤ x ∧ x ≤ maxInt) (hx0 : x ≠ 0) :
    goQuot (wrapS 64 (x * y)) x = y ↔ InInt64 (x * y) := by
  have hm : maxInt = 2 ^ 53 := rfl
  rw [hm] at hx
  constructor
  · intro h
    have hdiv := Int.mul_tdiv_add_tmod (wrapS 64 (x * y)) x
    simp only [goQuot] at h
    rw [h] at hdiv
    obtain ⟨t1, t2⟩ := tmod_abs_lt (wrapS 64 (x * y)) hx0
    have hxa : (x.natAbs : Int) ≤ 2 ^ 53 := by omega
    generalize (wrapS 64 (x * y)).tmod x = t at *
    -- wrapS 64 p = p + t, |t| < 2^53, and wrapS 64 p ≡ p (mod 2^64)  ⇒  t = 0
    have hw : wrapS 64 (x * y) = (x * y + 2 ^ 63) % 2 ^ 64 - 2 ^ 63 := by simp [wrapS]
    generalize x * y = p at *
    simp only [InInt64, minInt64, maxInt64]
    omega
  · intro h
    rw [wrapS_of_inInt64 h]; exact Int.mul_tdiv_cancel_left y hx0

instance (i : Int) : Decidable (InInt64 i) := inferInstanceAs (Decidable (minInt64 ≤ i ∧ i ≤ maxInt64))

theorem opMul_int_exact {x y : Int} (hx : -maxInt ≤ x ∧ x ≤ maxInt) (r : F64) :
    opMul (int x) (int y) r =
      if (x = 0 ∧ y < 0) ∨ (x < 0 ∧ y = 0) then flt F64.negZero
      else if InInt64 (x * y) then intToValue (x * y)
      else floatToValue r := by
  by_cases hz : (x = 0 ∧ y < 0) ∨ (x < 0 ∧ y = 0)
  · simp [opMul, toNumeric, mulNegZero, hz]
  · simp only [opMul, toNumeric, mulNegZero, hz, decide_false, Bool.false_eq_true, if_false]
    by_cases hfit : InInt64 (x * y)
    · -- the product fits: it is not wrapped, and the test succeeds (trivially for a zero factor)
      rw [wrapS_of_inInt64 hfit, if_pos hfit, if_pos]
      by_cases hx0 : x = 0
      · exact Or.inl hx0
      · exact Or.inr (Or.inr (Int.mul_tdiv_cancel_left y hx0))
    · -- it does not fit: no factor is zero, and the test fails
      have hx0 : x ≠ 0 := by rintro rfl; exact hfit (by rw [Int.zero_mul]; decide)
      have hy0 : y ≠ 0 := by rintro rfl; exact hfit (by rw [Int.mul_zero]; decide)
      have hq : ¬ goQuot (wrapS 64 (x * y)) x = y := fun h => hfit ((mul_overflow_test hx hx0).1 h)
      rw [if_neg hfit, if_neg (by simp only [hx0, hy0, hq, or_self, not_false_eq_true])]

/-- IEEE-754 division, special operands (§6.1, §6.3, §7.2, §7.3); `none` = ordinary operands (finite / finite non-zero), where
the result is the correctly rounded quotient `r` supplied as data -/
def specDivSpecial (l rt : F64) : Option F64 :=
  if l.isNaN || rt.isNaN then some F64.canonNaN
  else if (l.isInf && rt.isInf) || (l.isZero && rt.isZero) then some F64.canonNaN
  else if l.isInf || rt.isZero then some ⟨l.neg != rt.neg, 2047, 0, by decide, by decide⟩
  else if rt.isInf then some ⟨l.neg != rt.neg, 0, 0, by decide, by decide⟩
  else none

theorem opDiv_refines' (a b : Num) (r : F64) :
    opDiv a b r = floatToValue ((specDivSpecial (toNumeric a).toF64 (toNumeric b).toF64).getD r) := by
  simp only [opDiv, specDivSpecial]
  generalize (toNumeric a).toF64 = l
  generalize (toNumeric b).toF64 = rt
  by_cases h1 : (l.isNaN || rt.isNaN) = true
  · simp only [h1, if_true, Option.getD_some]; decide
  · simp only [h1, Bool.false_eq_true, if_false]
    by_cases h2 : (l.isInf && rt.isInf) = true
    · simp only [h2, if_true, Bool.true_or, Option.getD_some]; decide
    · by_cases h3 : (l.isZero && rt.isZero) = true
      · simp only [h2, h3, Bool.false_eq_true, if_false, if_true, Bool.or_true, Option.getD_some]; decide
      · simp only [h2, h3, Bool.false_eq_true, if_false, Bool.or_self]
        by_cases h4 : l.isInf = true
        · simp only [h4, if_true, Bool.true_or, Option.getD_some]
          cases hl : l.neg <;> cases hr : rt.neg <;> decide
        · simp only [h4, Bool.false_eq_true, if_false, Bool.false_or]
          by_cases h5 : rt.isInf = true
          · have h6 : rt.isZero = false := by rw [F64.isZero, (inf_fields h5).1]; rfl
            simp only [h5, h6, if_true, Bool.false_eq_true, if_false, Option.getD_some, floatToValue_zero]
            cases hl : l.neg <;> cases hr : rt.neg <;> simp
          · simp only [h5, Bool.false_eq_true, if_false]
            by_cases h6 : rt.isZero = true
            · simp only [h6, if_true, Option.getD_some]
              cases hl : l.neg <;> cases hr : rt.neg <;> decide
            · simp only [h6, Bool.false_eq_true, if_false, Option.getD_none]

end GojaModel.C05
