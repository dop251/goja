/-
  C18 — what sits above the symbol-key snapshot iterator when Object.assign / spread / rest copy an object
  (`iterateEnumerableProperties`, object.go:1785): `enumerableIter.next` (object.go:1130-1158) drops non-enumerable
  properties, `enumPropertiesIter.next` (object.go:1763-1783) resolves the value (plain value, data descriptor, or getter
  call).  Restricted to symbol keys, i.e. to items produced by `objectSymbolIter.next` (value present, enumerability
  unknown).  Also the non-`all` branch of `symbols` (object.go:1415-1427).
-/
import GojaModel.C18.SymIter

namespace GojaModel.C18

/-- What the symbol table stores for a key: a plain value, or a `*valueProperty` (value.go:132) — enumerable flag, and
either a data value (`nil` = undefined) or a getter (identified by a number). -/
inductive PV (V : Type) where
  | plain (v : V)
  | desc (enumerable : Bool) (getter : Option Nat) (value : Option V)

/-- What `enumPropertiesIter.next` hands to its caller as `item.value`: a value (`none` = undefined), or the result of
calling getter `g` with `this = o` (`valueProperty.get`, value.go:513-524) — user code, left to the caller. -/
inductive Visit (V : Type) where
  | value (v : Option V)
  | call (g : Nat)

section
variable {K V : Type}

/-- object.go:1150-1154 / 1421-1425: `if prop, ok := v.(*valueProperty); ok { if !prop.enumerable { continue } }`. -/
def PV.isEnum : PV V → Bool
  | .plain _ => true
  | .desc e _ _ => e

/-- object.go:1776-1778 with value.go:513-524. -/
def PV.resolve : PV V → Visit V
  | .plain v => .value (some v)
  | .desc _ none w => .value w
  | .desc _ (some g) _ => .call g

variable [DecidableEq K] (norm : K → K) (hash : K → Nat)

/-- `enumerableIter.next` over `objectSymbolIter.next` (object.go:1130-1158): `for { item := wrapped(); if done return;
if non-enumerable continue; return item }`.  `fuel` bounds the `for`; `ks.length + 1` always suffices. -/
def enumerableNext (m : OMap K (PV V)) : Nat → List K → SymIter K × Option (K × PV V)
  | 0, ks => (⟨ks⟩, none)
  | fuel + 1, ks =>
    match symIterNext norm hash m ks with
    | (it', none) => (it', none)                              -- object.go:1134-1136
    | (it', some (k, pv)) =>
      if pv.isEnum then (it', some (k, pv))                   -- object.go:1156
      else enumerableNext m fuel it'.keys                     -- object.go:1152 continue

/-- `enumPropertiesIter.next` (object.go:1763-1783) on top: resolve the value. -/
def enumPropsNext (m : OMap K (PV V)) (ks : List K) : SymIter K × Option (K × Visit V) :=
  match enumerableNext norm hash m (ks.length + 1) ks with
  | (it', some (k, pv)) => (it', some (k, pv.resolve))
  | (it', none) => (it', none)

/-- The three loops fused, by structural recursion on the remaining snapshot. -/
def enumNext (m : OMap K (PV V)) : List K → SymIter K × Option (K × Visit V)
  | [] => (⟨[]⟩, none)
  | k :: rest =>
    match get norm hash m k with
    | some pv => if pv.isEnum then (⟨rest⟩, some (k, pv.resolve)) else enumNext m rest
    | none => enumNext m rest

namespace Spec

/-- ECMA-262 7.3.26 CopyDataProperties step 4.c / 20.1.2.1 Object.assign step 3.a.iii on symbol keys:
`desc = from.[[GetOwnProperty]](nextKey); if desc is not undefined and desc.[[Enumerable]] is true, then
propValue = Get(from, nextKey)`. -/
def assignEnumNext (d : MapData K (PV V)) : List K → List K × Option (K × Visit V)
  | [] => ([], none)
  | k :: rest =>
    match get norm d k with
    | some pv => if pv.isEnum then (rest, some (k, pv.resolve)) else assignEnumNext d rest
    | none => assignEnumNext d rest

/-- `Object.getOwnPropertySymbols` filtered to enumerable ones (what `symbols(false)` must list: `keys`, for-in
helpers, `JSON`/`Object.entries`-style consumers). -/
def ownEnumKeys (d : MapData K (PV V)) : List K :=
  d.filterMap (fun c => match c with
    | some (k, some pv) => if pv.isEnum then some k else none
    | some (k, none) => some k
    | none => none)

end Spec

/-- `symbols(false, nil)` (object.go:1415-1427): a full iteration that skips non-enumerable `*valueProperty` values. -/
def drainEnum (m : OMap K (PV V)) : Nat → Iter → List K
  | 0, _ => []
  | f + 1, it =>
    match next m it with
    | (it', some c) =>
      match (m.heap c).key with
      | some k =>
        match (m.heap c).val with
        | some pv => if pv.isEnum then k :: drainEnum m f it' else drainEnum m f it'
        | none => k :: drainEnum m f it'
      | none => drainEnum m f it'
    | (_, none) => []

def symbolsEnum (m : OMap K (PV V)) : List K := drainEnum m (m.n + 1) newIter

end
end GojaModel.C18
