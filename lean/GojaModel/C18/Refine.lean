/-
  C18 — refinement: the mechanism's heap, read in allocation order, is the spec's [[MapData]] list; the mechanism's
  `next` (track back over tombstones, then follow iterNext) is the spec's "advance the index to the next non-empty
  record".
-/
import GojaModel.C18.Inv

namespace GojaModel.C18
section
variable {K V : Type}

theorem abs_length (m : OMap K V) : (abs m).length = m.n := by simp [abs]

theorem abs_getElem? (m : OMap K V) (i : Nat) :
    (abs m)[i]? = if i < m.n then some (cellOf (m.heap i)) else none := by
  unfold abs
  rw [List.getElem?_map]
  by_cases h : i < m.n
  · simp [h]
  · simp [h]

theorem abs_getElem (m : OMap K V) (i : Nat) (h : i < (abs m).length) : (abs m)[i] = cellOf (m.heap i) := by
  simp [abs]

theorem cellOf_eq {e e' : Entry K V} (h1 : e'.key = e.key) (h2 : e'.val = e.val) : cellOf e' = cellOf e := by
  simp [cellOf, h1, h2]

theorem abs_eq_set {m m' : OMap K V} {e : Nat} (hn : m'.n = m.n) (he : e < m.n)
    (hc : ∀ i, i ≠ e → cellOf (m'.heap i) = cellOf (m.heap i)) :
    abs m' = (abs m).set e (cellOf (m'.heap e)) := by
  apply List.ext_getElem?
  intro i
  rw [List.getElem?_set, abs_getElem?, abs_getElem?, abs_length, hn]
  by_cases hie : e = i
  · rw [if_pos hie, ← hie, if_pos he]
  · rw [if_neg hie, hc i (Ne.symm hie)]

theorem abs_setWith_some (m : OMap K V) (h e : Nat) (hp : Option Nat) (key : K) (v : Option V) (he : e < m.n) :
    abs (setWith (h, some e, hp) m key v) = (abs m).set e ((m.heap e).key.map (fun k => (k, v))) := by
  have := abs_eq_set (m := m) (m' := setWith (h, some e, hp) m key v) rfl he (fun i hie => by
    show cellOf (setVal m.heap e v i) = _
    rw [setVal_apply]
    exact cellOf_eq rfl (if_neg hie))
  rw [this]
  show (abs m).set e (cellOf (setVal m.heap e v e)) = _
  rw [setVal_apply, cellOf, if_pos rfl]

theorem abs_setWith_none (m : OMap K V) (h : Nat) (hp : Option Nat) (key : K) (v : Option V) :
    abs (setWith (h, none, hp) m key v) = abs m ++ [some (key, v)] := by
  have E := setWith_none_heap h hp m key v
  unfold abs
  rw [setWith_none_n, List.range_succ, List.map_append, List.map_singleton]
  congr 1
  · apply List.map_congr_left
    intro i hi
    have hi := Nat.ne_of_lt (List.mem_range.1 hi)
    rw [E]
    exact cellOf_eq (if_neg hi) (if_neg hi)
  · rw [E]
    simp only [cellOf, if_pos, Option.map_some]

theorem abs_removeWith_some (m : OMap K V) (h e : Nat) (hp : Option Nat) (he : e < m.n) :
    abs (removeWith (h, some e, hp) m).1 = (abs m).set e none := by
  have E := removeWith_some_heap h e hp m
  have := abs_eq_set (m := m) (m' := (removeWith (h, some e, hp) m).1) rfl he (fun i hie => by
    rw [E]
    exact cellOf_eq (if_neg hie) (if_neg hie))
  rw [this, E]
  simp only [cellOf, if_pos, Option.map_none]

theorem abs_clear {m : OMap K V} (h : ∀ i, i < m.n → ((clear m).heap i).key = none) :
    abs (clear m) = Spec.clear (abs m) := by
  apply List.ext_getElem?
  intro i
  rw [Spec.clear, List.getElem?_map, abs_getElem?, abs_getElem?]
  show (if i < m.n then _ else _) = _
  split
  · next hi => rw [cellOf, h i hi]; rfl
  · rfl

/-! The spec's operations after their search, as `setWith/getWith/removeWith` are the mechanism's after `lookup`:
`Spec.set norm d k v` is `Spec.setAt (Spec.find norm d k) d (norm k) v` and `RSpec.set norm f d k v` is
`Spec.setAt (RSpec.find norm f d k) d (norm k) v`, both by unfolding; likewise `get` and `delete`. -/

def Spec.setAt (fd : Option Nat) (d : MapData K V) (key : K) (v : Option V) : MapData K V :=
  match fd with
  | some i => match d[i]? with
    | some (some (k', _)) => d.set i (some (k', v))
    | _ => d
  | none => d ++ [some (key, v)]

def Spec.getAt (fd : Option Nat) (d : MapData K V) : Option V :=
  match fd with
  | some i => match d[i]? with
    | some (some (_, v)) => v
    | _ => none
  | none => none

def Spec.deleteAt (fd : Option Nat) (d : MapData K V) : MapData K V × Bool :=
  match fd with
  | some i => (d.set i none, true)
  | none => (d, false)

/-- The lookup result `r` is what the spec's search `fd` finds in `abs m`, and an entry found is allocated and live. -/
structure Found (m : OMap K V) (fd : Option Nat) (r : Nat × Option Nat × Option Nat) : Prop where
  eq : fd = r.2.1
  live : ∀ e, r.2.1 = some e → e < m.n ∧ ∃ k, (m.heap e).key = some k

section
variable {m : OMap K V} {fd : Option Nat} {r : Nat × Option Nat × Option Nat}

theorem abs_setWith (F : Found m fd r) (key : K) (v : Option V) :
    abs (setWith r m key v) = Spec.setAt fd (abs m) key v := by
  obtain ⟨h, e, hp⟩ := r
  cases F.eq
  cases e with
  | none => exact abs_setWith_none m h hp key v
  | some e =>
    obtain ⟨he, k', hk'⟩ := F.live e rfl
    rw [abs_setWith_some m h e hp key v he, Spec.setAt, abs_getElem?, if_pos he, cellOf, hk']
    rfl

theorem getWith_abs (F : Found m fd r) : getWith r m = Spec.getAt fd (abs m) := by
  obtain ⟨h, e, hp⟩ := r
  cases F.eq
  cases e with
  | none => rfl
  | some e =>
    obtain ⟨he, k', hk'⟩ := F.live e rfl
    rw [Spec.getAt, abs_getElem?, if_pos he, cellOf, hk']
    rfl

theorem abs_removeWith (F : Found m fd r) :
    abs (removeWith r m).1 = (Spec.deleteAt fd (abs m)).1 ∧ (removeWith r m).2 = (Spec.deleteAt fd (abs m)).2 := by
  obtain ⟨h, e, hp⟩ := r
  cases F.eq
  cases e with
  | none => exact ⟨rfl, rfl⟩
  | some e => exact ⟨abs_removeWith_some m h e hp (F.live e rfl).1, rfl⟩

end

def IterWf (m : OMap K V) (it : Iter) : Prop := ∀ c, it.cur = some c → c < m.n

theorem IterWf.mono {m m' : OMap K V} {it : Iter} (h : IterWf m it) (hn : m.n ≤ m'.n) : IterWf m' it :=
  fun c hc => Nat.lt_of_lt_of_le (h c hc) hn

theorem scan_abs (m : OMap K V) : ∀ fuel i, i + fuel = m.n →
    NextSpec m.n (liveOf m.heap) i (Spec.scan (abs m) fuel i) := by
  intro fuel
  induction fuel with
  | zero => intro i hi; exact ⟨fun _ k h1 h2 => by omega, nofun⟩
  | succ f ih =>
    intro i hi
    have hin : i < m.n := by omega
    unfold Spec.scan
    rw [abs_getElem?, if_pos hin, cellOf]
    cases hk : (m.heap i).key with
    | some k =>
      refine ⟨nofun, fun j hj => ?_⟩
      cases hj
      exact ⟨Nat.le_refl _, hin, liveOf_some hk, fun k h1 h2 => absurd h2 (Nat.not_lt.2 h1)⟩
    | none =>
      refine (ih (i + 1) (by omega)).absorb_dead (Nat.le_succ i) (fun k h1 h2 => ?_)
      rw [Nat.le_antisymm (Nat.le_of_lt_succ h2) h1]
      exact liveOf_none hk

end

section
variable {K V : Type} [DecidableEq K] (norm : K → K) (hash : K → Nat)

theorem find_eq_lookup {m : OMap K V} (I : Inv norm hash m) (hnorm : ∀ k, norm (norm k) = norm k) (k : K) :
    Spec.find norm (abs m) k = (lookup norm hash m k).2.1 := by
  obtain ⟨_, h2, h3⟩ := lookup_spec norm hash I k
  have key_of_match : ∀ i, i < m.n → cellMatches norm k (cellOf (m.heap i)) = true →
      (m.heap i).key = some (norm k) := by
    intro i hi hm
    cases hk : (m.heap i).key with
    | none => simp [cellOf, hk, cellMatches] at hm
    | some k' =>
      simp [cellOf, hk, cellMatches] at hm
      rw [I.normed i k' hi hk] at hm
      rw [hm]
  cases hr : (lookup norm hash m k).2.1 with
  | some x =>
    obtain ⟨hx, hkx, _⟩ := h2 x hr
    unfold Spec.find
    rw [List.findIdx?_eq_some_iff_getElem]
    refine ⟨by rw [abs_length]; exact hx, ?_, ?_⟩
    · rw [abs_getElem]; simp [cellOf, hkx, cellMatches, hnorm]
    · intro j hj
      rw [abs_getElem]
      intro hm
      have := key_of_match j (by omega) hm
      have := I.uniq j x (norm k) (by omega) hx this hkx
      omega
  | none =>
    obtain ⟨hfresh, _⟩ := h3 hr
    unfold Spec.find
    rw [List.findIdx?_eq_none_iff]
    intro c hc
    obtain ⟨i, hi, rfl⟩ := List.mem_iff_getElem.mp hc
    rw [abs_getElem]
    rw [abs_length] at hi
    cases hm : cellMatches norm k (cellOf (m.heap i)) with
    | false => rfl
    | true => exact absurd (key_of_match i hi hm) (hfresh i hi)

theorem Inv.found {norm : K → K} {hash : K → Nat} {m : OMap K V} (I : Inv norm hash m) (hnorm : ∀ k, norm (norm k) = norm k) (k : K) :
    Found m (Spec.find norm (abs m) k) (lookup norm hash m k) :=
  ⟨find_eq_lookup norm hash I hnorm k, fun e he =>
    let ⟨a, b, _⟩ := (lookup_spec norm hash I k).2.1 e he; ⟨a, _, b⟩⟩

theorem get_refines {m : OMap K V} (I : Inv norm hash m) (hnorm : ∀ k, norm (norm k) = norm k) (k : K) :
    get norm hash m k = Spec.get norm (abs m) k :=
  getWith_abs (I.found hnorm k)

end

section
variable {K V : Type}

theorem LInv.size_refines {m : OMap K V} (L : LInv m) : m.size = Spec.size (abs m) := by
  rw [L.size, liveCount_eq_countP, Spec.size, abs, List.countP_map]
  congr 1
  funext i
  simp only [Function.comp, cellOf, liveOf, Option.isSome_map]

theorem LInv.iter_target_spec {m : OMap K V} (L : LInv m) (it : Iter) (hw : IterWf m it) :
    NextSpec m.n (liveOf m.heap) (absIter it).index (nextTarget m.heap m.iterFirst it.cur) := by
  unfold absIter
  cases hcur : it.cur with
  | none => exact L.list.first_spec
  | some c => exact nextTarget_spec m.heap L.list c (hw c hcur)

theorem LInv.next_least {m : OMap K V} (L : LInv m) (it : Iter) (hw : IterWf m it) (ho : it.closed = false) :
    NextSpec m.n (liveOf m.heap) (absIter it).index (next m it).2 ∧
    (∀ c, (next m it).2 = some c → (next m it).1 = { closed := false, cur := some c }) := by
  have hT := L.iter_target_spec it hw
  unfold next
  simp only [ho, Bool.false_eq_true, if_false]
  cases h : nextTarget m.heap m.iterFirst it.cur with
  | none => rw [h] at hT; exact ⟨hT, nofun⟩
  | some c => rw [h] at hT; exact ⟨hT, fun c' hc => by cases hc; rfl⟩

theorem LInv.next_refines {m : OMap K V} (L : LInv m) (it : Iter) (hw : IterWf m it) :
    (Spec.next (abs m) (absIter it)).1 = absIter (next m it).1 ∧
    (Spec.next (abs m) (absIter it)).2 = (next m it).2 ∧
    IterWf m (next m it).1 ∧
    (∀ c, (next m it).2 = some c → c < m.n ∧ liveOf m.heap c = true) := by
  unfold Spec.next next
  by_cases hc : it.closed
  · simp [absIter, hc]; exact hw
  · have hd : (absIter it).done = false := by simp [absIter, hc]
    have hle : (absIter it).index ≤ m.n := by
      unfold absIter
      cases hcur : it.cur with
      | none => simp
      | some c => have := hw c hcur; simp; omega
    have hT := L.iter_target_spec it hw
    have hS := scan_abs m (m.n - (absIter it).index) (absIter it).index (by omega)
    simp only [hd, hc, Bool.false_eq_true, if_false, abs_length]
    rw [hS.unique hT]
    cases ho : nextTarget m.heap m.iterFirst it.cur with
    | none => simp [IterWf, absIter]
    | some j =>
      rw [ho] at hT
      obtain ⟨_, a, b, _⟩ := hT.2 j rfl
      refine ⟨by simp [absIter], by simp, ?_, ?_⟩
      · intro c hc; simp at hc; omega
      · intro c hc; simp at hc; subst hc; exact ⟨a, b⟩

end
end GojaModel.C18
