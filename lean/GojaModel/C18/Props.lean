/-
  C18 — property theorems.  Mechanism model = /repo/map.go as transcribed in Model.lean (append-only entry heap,
  iterPrev/iterNext/hNext links, hash table, tombstones that keep their back-links); spec model = ECMA-262 [[MapData]]
  list with `empty` holes and index-based iterators.  The statements about the mechanism are for arbitrary key/value
  types, an arbitrary idempotent canonicaliser `norm` (the -0 ↦ +0 step) and an ARBITRARY hash function; the value-level
  ones are about goja's keys (`Key`: number model of C05, string model of C06) with their per-type hash / SameAs.  None
  is bounded in the number of entries, iterators or operations.
-/
import GojaModel.C18.Sim
import GojaModel.C18.ConcreteV
import GojaModel.C18.SymIterL

namespace GojaModel.C18
section
variable {K V : Type} [DecidableEq K] (norm : K → K) (hash : K → Nat)

/-- The empty map satisfies the invariant (`newOrderedMap`, map.go:143). -/
theorem inv_init : Inv norm hash ({} : OMap K V) := Inv.empty norm hash

/-- `set` preserves the invariant (both the update path and the append path with all four link shapes). -/
theorem inv_preserved_set {m : OMap K V} (I : Inv norm hash m) (hnorm : ∀ k, norm (norm k) = norm k)
    (k : K) (v : Option V) : Inv norm hash (set norm hash m k v) := inv_set norm hash I hnorm k v

/-- `remove` preserves the invariant: the removed entry becomes a tombstone whose iterPrev chain still leads to the
greatest live entry before it; list and bucket neighbours are relinked. -/
theorem inv_preserved_remove {m : OMap K V} (I : Inv norm hash m) (k : K) :
    Inv norm hash (remove norm hash m k).1 := inv_remove norm hash I k

/-- `clear` preserves the invariant: every live entry becomes a tombstone and keeps its iterPrev. -/
theorem inv_preserved_clear {m : OMap K V} (I : Inv norm hash m) : Inv norm hash (clear m) :=
  inv_clear norm hash I

/-- Results and successor states of set/get/has/delete/clear/size equal those of the [[MapData]] list;
in particular `size` is the number of non-empty records. -/
theorem ops_refine_mapdata {m : OMap K V} (I : Inv norm hash m) (hnorm : ∀ k, norm (norm k) = norm k)
    (k : K) (v : Option V) :
    abs (set norm hash m k v) = Spec.set norm (abs m) k v ∧
    get norm hash m k = Spec.get norm (abs m) k ∧
    has norm hash m k = Spec.has norm (abs m) k ∧
    abs (remove norm hash m k).1 = (Spec.delete norm (abs m) k).1 ∧
    (remove norm hash m k).2 = (Spec.delete norm (abs m) k).2 ∧
    abs (clear m) = Spec.clear (abs m) ∧
    m.size = Spec.size (abs m) :=
  have F := I.found hnorm k
  ⟨abs_setWith F (norm k) v, getWith_abs F, congrArg Option.isSome F.eq.symm, (abs_removeWith F).1, (abs_removeWith F).2,
   abs_clear I.linv.clear_key, I.linv.size_refines⟩

/-- One step of a live iterator: the mechanism (`track back over tombstones, then iterNext / iterFirst`) and the spec
(`advance the index to the next non-empty record`) yield the same record and stay related. -/
theorem iter_refines {m : OMap K V} (I : Inv norm hash m) (it : Iter) (hw : IterWf m it) :
    (Spec.next (abs m) (absIter it)).1 = absIter (next m it).1 ∧
    (Spec.next (abs m) (absIter it)).2 = (next m it).2 ∧
    IterWf m (next m it).1 :=
  let ⟨h1, h2, h3, _⟩ := I.linv.next_refines it hw; ⟨h1, h2, h3⟩

/-- No skip, no revisit, insertion order: an open iterator resting on `cur` yields exactly the LEAST live entry
allocated after `cur` (least live entry overall if it has not started), whatever was deleted, cleared or inserted
since it last moved; it finishes only if there is none. -/
theorem iter_yields_least_live_above {m : OMap K V} (I : Inv norm hash m) (it : Iter) (hw : IterWf m it)
    (ho : it.closed = false) :
    NextSpec m.n (liveOf m.heap) (absIter it).index (next m it).2 :=
  (I.linv.next_least it hw ho).1

/-- End-to-end: for EVERY history of set/get/has/delete/clear/size/newIter/next/close, with any number of live
iterators advanced at arbitrary points, the observable results of the mechanism equal those of the spec. -/
theorem history_refines (hnorm : ∀ k, norm (norm k) = norm k) (ops : List (Op K V)) :
    (Sys.run norm hash ({} : Sys K V) ops).2 = (SpecSys.run norm ({} : SpecSys K V) ops).2 :=
  (run_refines norm hash hnorm ops).1

/-- After every history the invariant holds: in particular every stored key is normalised (−0 is never stored),
live keys are pairwise distinct, and `size` is the number of live entries. -/
theorem reachable_inv (hnorm : ∀ k, norm (norm k) = norm k) (ops : List (Op K V)) :
    Inv norm hash (Sys.run norm hash ({} : Sys K V) ops).1.m :=
  (run_refines norm hash hnorm ops).2

end

/-- SameValueZero-equal keys feed the same thing to the hasher after the −0 normalisation of `lookup`:
`1` and a float-computed `1`, `+0`/`−0`, NaN (a canonical number has the one NaN `F64.canonNaN`), ASCII / UTF-16 / imported (scanned or not) strings with the same
code units.  Numbers must be canonical (C05 `Canon`), strings in normal form (C06 `NF`). -/
theorem hash_respects_svz {a b : Key} (ha : a.WF) (hb : b.WF) (h : svz a b = true) :
    hashPreK (normKeyK a) = hashPreK (normKeyK b) := hash_respects_svz' ha hb h

/-- … hence the same bucket, whatever function maphash computes and wherever objects live. -/
theorem hash_respects_svz_any_hasher (mh : List UInt8 → Nat) (ph : Nat → Nat) {a b : Key} (ha : a.WF) (hb : b.WF)
    (h : svz a b = true) : hashK mh ph (normKeyK a) = hashK mh ph (normKeyK b) := by
  unfold hashK; rw [hash_respects_svz' ha hb h]

/-- The `SameAs` test of the bucket walk, applied to normalised keys, is SameValueZero. -/
theorem sameAs_norm_eq_svz {a b : Key} (ha : a.WF) (hb : b.WF) :
    sameAsK (normKeyK a) (normKeyK b) = svz a b := sameAs_norm_eq_svz' ha hb

/-- The whole decision of `lookup` for a stored key `a` and a probe `b` (same bucket ∧ SameAs) is SameValueZero. -/
theorem lookup_decision_eq_svz (mh : List UInt8 → Nat) (ph : Nat → Nat) {a b : Key} (ha : a.WF) (hb : b.WF) :
    (hashK mh ph (normKeyK a) == hashK mh ph (normKeyK b) && sameAsK (normKeyK a) (normKeyK b)) = svz a b := by
  rw [sameAs_norm_eq_svz' ha hb]
  cases h : svz a b with
  | false => simp
  | true => simp [hash_respects_svz_any_hasher mh ph ha hb h]

/-- −0 is normalised to integer +0 at the door, no stored numeric key is a zero float, and SameValueZero-equal
canonical numbers are stored as the very same representation (so it does not matter which one arrived first). -/
theorem neg_zero_normalised :
    normKeyK (.num (.flt F64.negZero)) = .num (.int 0) ∧
    (∀ a f, normKeyK a = .num (.flt f) → f.isZero = false) ∧
    (∀ a b, Num.Canon a → Num.Canon b → Num.specSameValueZero a.toF64 b.toF64 = true →
        normKeyK (.num a) = normKeyK (.num b)) := by
  refine ⟨by simp [normKeyK, Num.normKey, F64.negZero, F64.mk', F64.isZero], ?_, ?_⟩
  · intro a f h
    cases a with
    | num x =>
      cases x with
      | int i => simp [normKeyK, Num.normKey] at h
      | flt g =>
        simp only [normKeyK, Num.normKey] at h
        by_cases hz : g.isZero = true
        · simp [hz] at h
        · simp [hz] at h; subst h; simpa using hz
    | str s => simp [normKeyK] at h
    | big i => simp [normKeyK] at h
    | other i => simp [normKeyK] at h
  · intro a b ha hb h
    simp only [normKeyK]
    rw [(C05.normKey_eq_iff_svz ha hb).2 h]

/-- BigInt keys: distinct BigInts write distinct bytes to the hasher (sign byte + big-endian magnitude), equal ones the
same — so `hash_respects_svz` and `lookup_decision_eq_svz` cover BigInt keys and only a maphash collision can put two
different BigInts into one bucket. -/
theorem bigint_hashpre_iff_eq (i j : Int) : hashPreK (.big i) = hashPreK (.big j) ↔ svz (.big i) (.big j) = true := by
  simp only [hashPreK, svz, HashIn.bytes.injEq, beq_iff_eq]
  exact ⟨bigHashPre_injective, fun h => by rw [h]⟩

/-- Keys are SameValueZero-equal exactly when they are in the same class. -/
theorem cls_eq_iff_svz {a b : Key} (ha : a.WF) (hb : b.WF) : cls a = cls b ↔ svz a b = true :=
  cls_eq_iff_svz' ha hb

/-- Instantiation of the abstract parameters: there is a hash on SameValueZero classes such that the concrete bucket
choice factors through it and the concrete `SameAs` test is equality of classes — i.e. the concrete `lookup` takes the
decisions of the abstract mechanism model at `K := KeyClass`, `norm := id` — and that instance refines the [[MapData]]
spec for every history. -/
theorem value_level_refines (mh : List UInt8 → Nat) (ph : Nat → Nat) (V : Type) :
    ∃ hashC : KeyClass → Nat,
      (∀ a, a.WF → hashK mh ph (normKeyK a) = hashC (cls a)) ∧
      (∀ a b, a.WF → b.WF → sameAsK (normKeyK a) (normKeyK b) = decide (cls a = cls b)) ∧
      (∀ ops : List (Op KeyClass V),
        (Sys.run id hashC ({} : Sys KeyClass V) ops).2 = (SpecSys.run id ({} : SpecSys KeyClass V) ops).2) := by
  classical
  refine ⟨fun c => if h : ∃ a : Key, a.WF ∧ cls a = c then hashK mh ph (normKeyK (Classical.choose h)) else 0,
    ?_, ?_, ?_⟩
  · intro a ha
    have hex : ∃ a' : Key, a'.WF ∧ cls a' = cls a := ⟨a, ha, rfl⟩
    simp only [hex, dite_true]
    obtain ⟨h1, h2⟩ := Classical.choose_spec hex
    exact hash_respects_svz_any_hasher mh ph ha h1 ((cls_eq_iff_svz' ha h1).1 h2.symm)
  · intro a b ha hb
    rw [sameAs_norm_eq_svz' ha hb]
    exact Bool.eq_iff_iff.2 (by simpa using (cls_eq_iff_svz' ha hb).symm)
  · intro ops
    exact history_refines id _ (fun _ => rfl) ops

/-- Generic functional simulation: a structure that stores key representations, hashes them with `hash` and compares
them with an arbitrary dynamic test `eqv` (map.go:31 `entry.key.SameAs(key)`) — sharing all code after `lookup` with the
class-keyed model — yields, for every history whose keys satisfy `W`, the results of the class-keyed model on the same
history read through `f` (that `mapKeys f` maps the states onto each other, step by step, is `stepE_sim`), provided
`Bridge` holds (probes normalise to storable keys, `eqv` on a stored key and a normalised probe is equality of classes,
the hash factors through classes). -/
theorem concrete_simulates_class_model {K K' V : Type} [DecidableEq K'] {eqv : K → K → Bool} {norm : K → K}
    {hash : K → Nat} {f : K → K'} {hash' : K' → Nat} {S W : K → Prop}
    (B : Bridge eqv norm hash f hash' S W) (ops : List (Op K V)) (hok : ∀ o, o ∈ ops → o.keyOk W) :
    (Sys.runE eqv norm hash ({} : Sys K V) ops).2.map (Res.mapKey f) =
      (Sys.run id hash' ({} : Sys K' V) (ops.map (Op.mapKey (fun k => f (norm k))))).2 :=
  runE_sim B ops {} (fun i k h => by simp at h) hok

/-- The instance for goja's values: the real structure — entries holding `valueInt`/`valueFloat`/ASCII/UTF-16/imported
strings/BigInts/objects as they arrived (after the −0 normalisation), bucket chosen by the per-type `hash` with ANY
maphash function, chain walked with the per-type `SameAs` — produces, for every history over well-formed keys and any
number of live iterators, exactly the results of the [[MapData]] spec, keys being read up to SameValueZero class. -/
theorem concrete_refines_spec (mh : List UInt8 → Nat) (ph : Nat → Nat) {V : Type} (ops : List (Op Key V))
    (hok : ∀ o, o ∈ ops → o.keyOk Key.WF) :
    (Sys.runE sameAsK normKeyK (hashK mh ph) ({} : Sys Key V) ops).2.map (Res.mapKey cls) =
      (SpecSys.run id ({} : SpecSys KeyClass V) (ops.map (Op.mapKey cls))).2 := by
  obtain ⟨hashC, hh, _, hr⟩ := value_level_refines mh ph V
  have B := keyBridge mh ph hashC hh
  rw [runE_sim B ops {} (fun i k h => by simp at h) hok]
  have : (fun k => cls (normKeyK k)) = cls := funext cls_normKeyK
  rw [this]
  exact hr _

section
variable {K V : Type} [DecidableEq K] (norm : K → K) (hash : K → Nat)

/-- A fresh `orderedMapIter` driven to the end without interleaved mutation (`symbols(true)`, Map/Set `export`,
`Array.from`, `getOwnPropertySymbols`) yields exactly the live keys in insertion order — the spec's
`[[OwnPropertyKeys]]` / entry list — and no key twice. -/
theorem full_iteration_lists_live_keys {m : OMap K V} (I : Inv norm hash m) :
    symbolsAll m = Spec.ownKeys (abs m) ∧ (symbolsAll m).Nodup := symbolsAll_spec I.linv I.uniq

/-- Go-side `Export()` of a Map/Set (and `ExportTo` a slice/array): `size` slots, at most `size` calls of `next()`
(builtin_map.go:53-71, builtin_set.go:52-93; both first return the copy already made in the same export context, if any —
C13's identity cache — otherwise run this loop).  Because `size` is exactly the number of live entries, this visits
every entry present, once, in insertion order. -/
theorem export_lists_all_entries {m : OMap K V} (I : Inv norm hash m) :
    drain m m.size newIter = Spec.ownKeys (abs m) := I.linv.export_spec

/-- The snapshot iterator refines ECMA-262 CopyDataProperties / Object.assign on symbol keys: creation lists the spec's
`[[OwnPropertyKeys]]`, every `next()` equals the spec's "take the next listed key whose `[[GetOwnProperty]]` is defined". -/
theorem symbol_snapshot_refines {m : OMap K V} (I : Inv norm hash m) (hnorm : ∀ k, norm (norm k) = norm k)
    (ks : List K) :
    (symIterNew m).keys = Spec.ownKeys (abs m) ∧
    (symIterNext norm hash m ks).1.keys = (Spec.assignNext norm (abs m) ks).1 ∧
    (symIterNext norm hash m ks).2 = (Spec.assignNext norm (abs m) ks).2 :=
  ⟨(symbolsAll_spec I.linv I.uniq).1, symIterNext_refines norm hash I hnorm ks⟩

/-- Deleted keys are skipped, present ones are visited with their CURRENT value: one `next()` against an arbitrary
current table pops a prefix of listed keys that are all absent now and stops at the first one that is present. -/
theorem symbol_snapshot_step (m : OMap K V) (ks : List K) : ∃ skipped,
    (∀ s, s ∈ skipped → get norm hash m s = none) ∧
    (match (symIterNext norm hash m ks).2 with
     | some (k, v) => ks = skipped ++ k :: (symIterNext norm hash m ks).1.keys ∧ get norm hash m k = some v
     | none => ks = skipped ∧ (symIterNext norm hash m ks).1.keys = []) :=
  symIterNext_spec norm hash m ks

/-- Keys are listed once and keys added later are never visited: whatever states `ms` the successive `next()` calls
see (arbitrary mutation in between), the visited keys form a sub-sequence of the snapshot taken at creation, which has
no duplicates — so each listed key is visited at most once, in listing order, and nothing else ever is. -/
theorem symbol_snapshot_visits_sublist {m0 : OMap K V} (I : Inv norm hash m0) (ms : List (OMap K V)) :
    (symYields norm hash (symIterNew m0).keys ms).Sublist (symIterNew m0).keys ∧ (symIterNew m0).keys.Nodup :=
  ⟨symYields_sublist norm hash ms _, (symbolsAll_spec I.linv I.uniq).2⟩

end

/-! `Inv` is satisfiable by a non-trivial state: `reachable_inv` at a history on literals (nothing is evaluated). -/
example : Inv (K := Nat) (V := Nat) id (fun k => k % 2)
    (Sys.run id (fun k => k % 2) {} [.set 1 (some 10), .set 3 (some 30), .set 2 none, .delete 3, .newIter]).1.m :=
  reachable_inv id (fun k => k % 2) (fun _ => rfl) _

end GojaModel.C18
