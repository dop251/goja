/-
  C18 — tie to the Go text.  `Generated.C18.shapes` is regenerated on every run by extract/c18.go from /repo: the
  canonical source (go/printer, comments and layout dropped) of the functions that Model.lean, SymIter.lean, EnumIter.lean
  and Values.lean transcribe, and of `mapIterObject.next` / `setIterObject.next`, the callers of `orderedMapIter.next` behind
  the JS iterators, which no Lean file transcribes.  `expectedShapes` is the text those transcriptions were made from (file:line comments in the
  models refer to it).  The theorem fails as soon as one of these functions is edited; the model must then be
  re-transcribed (and the correspondence decides whether behaviour changed).
-/
import GojaModel.Generated.C18_MapGo

namespace GojaModel.C18.Tie

def expectedShapes : List (String × String) := [
  ("orderedMap.lookup", "func (m *orderedMap) lookup(key Value) (h uint64, entry, hPrev *mapEntry) { if key == _negativeZero { key = intToValue(0) } h = key.hash(m.hash) for entry = m.hashTable[h]; entry != nil && !entry.key.SameAs(key); hPrev, entry = entry, entry.hNext { } return }"),
  ("orderedMap.set", "func (m *orderedMap) set(key, value Value) { h, entry, hPrev := m.lookup(key) if entry != nil { entry.value = value } else { if key == _negativeZero { key = intToValue(0) } entry = &mapEntry{key: key, value: value} if hPrev == nil { m.hashTable[h] = entry } else { hPrev.hNext = entry } if m.iterLast != nil { entry.iterPrev = m.iterLast m.iterLast.iterNext = entry } else { m.iterFirst = entry } m.iterLast = entry m.size++ } }"),
  ("orderedMap.get", "func (m *orderedMap) get(key Value) Value { _, entry, _ := m.lookup(key) if entry != nil { return entry.value } return nil }"),
  ("orderedMap.remove", "func (m *orderedMap) remove(key Value) bool { h, entry, hPrev := m.lookup(key) if entry != nil { entry.key = nil entry.value = nil if entry.iterPrev != nil { entry.iterPrev.iterNext = entry.iterNext } else { m.iterFirst = entry.iterNext } if entry.iterNext != nil { entry.iterNext.iterPrev = entry.iterPrev } else { m.iterLast = entry.iterPrev } if hPrev == nil { if entry.hNext == nil { delete(m.hashTable, h) } else { m.hashTable[h] = entry.hNext } } else { hPrev.hNext = entry.hNext } m.size-- return true } return false }"),
  ("orderedMap.has", "func (m *orderedMap) has(key Value) bool { _, entry, _ := m.lookup(key) return entry != nil }"),
  ("orderedMapIter.next", "func (iter *orderedMapIter) next() *mapEntry { if iter.m == nil { return nil } cur := iter.cur for cur != nil && cur.key == nil { cur = cur.iterPrev } if cur != nil { cur = cur.iterNext } else { cur = iter.m.iterFirst } if cur == nil { iter.close() } else { iter.cur = cur } return cur }"),
  ("orderedMapIter.close", "func (iter *orderedMapIter) close() { iter.m = nil iter.cur = nil }"),
  (".newOrderedMap", "func newOrderedMap(h *maphash.Hash) *orderedMap { return &orderedMap{ hash: h, hashTable: make(map[uint64]*mapEntry), } }"),
  ("orderedMap.newIter", "func (m *orderedMap) newIter() *orderedMapIter { iter := &orderedMapIter{ m: m, } return iter }"),
  ("orderedMap.clear", "func (m *orderedMap) clear() { for item := m.iterFirst; item != nil; item = item.iterNext { item.key = nil item.value = nil if item.iterPrev != nil { item.iterPrev.iterNext = nil } } m.iterFirst = nil m.iterLast = nil m.hashTable = make(map[uint64]*mapEntry) m.size = 0 }"),
  ("objectSymbolIter.next", "func (i *objectSymbolIter) next() (propIterItem, iterNextFunc) { for i.idx < len(i.keys) { key := i.keys[i.idx] i.idx++ if val := i.o.symValues.get(key); val != nil { return propIterItem{ name: key, value: val, }, i.next } } return propIterItem{}, nil }"),
  ("baseObject.iterateSymbols", "func (o *baseObject) iterateSymbols() iterNextFunc { if o.symValues != nil { return (&objectSymbolIter{ o: o, keys: o.symbols(true, nil), }).next } return func() (propIterItem, iterNextFunc) { return propIterItem{}, nil } }"),
  ("baseObject.symbols", "func (o *baseObject) symbols(all bool, accum []Value) []Value { if o.symValues != nil { iter := o.symValues.newIter() if all { for { entry := iter.next() if entry == nil { break } accum = append(accum, entry.key) } } else { for { entry := iter.next() if entry == nil { break } if prop, ok := entry.value.(*valueProperty); ok { if !prop.enumerable { continue } } accum = append(accum, entry.key) } } } return accum }"),
  ("mapObject.export", "func (mo *mapObject) export(ctx *objectExportCtx) interface{} { if v, exists := ctx.get(mo.val); exists { return v } m := make([][2]interface{}, mo.m.size) ctx.put(mo.val, m) iter := mo.m.newIter() for i := 0; i < len(m); i++ { entry := iter.next() if entry == nil { break } m[i][0] = exportValue(entry.key, ctx) m[i][1] = exportValue(entry.value, ctx) } return m }"),
  ("setObject.export", "func (so *setObject) export(ctx *objectExportCtx) interface{} { if v, exists := ctx.get(so.val); exists { return v } a := make([]interface{}, so.m.size) ctx.put(so.val, a) iter := so.m.newIter() for i := 0; i < len(a); i++ { entry := iter.next() if entry == nil { break } a[i] = exportValue(entry.key, ctx) } return a }"),
  ("setObject.exportToArrayOrSlice", "func (so *setObject) exportToArrayOrSlice(dst reflect.Value, typ reflect.Type, ctx *objectExportCtx) error { l := so.m.size if typ.Kind() == reflect.Array { if dst.Len() != l { return fmt.Errorf(\"cannot convert a Set into an array, lengths mismatch: have %d, need %d)\", l, dst.Len()) } } else { dst.Set(reflect.MakeSlice(typ, l, l)) } ctx.putTyped(so.val, typ, dst.Interface()) iter := so.m.newIter() r := so.val.runtime for i := 0; i < l; i++ { entry := iter.next() if entry == nil { break } err := r.toReflectValue(entry.key, dst.Index(i), ctx) if err != nil { return err } } return nil }"),
  ("mapIterObject.next", "func (o *mapIterObject) next() Value { if o.iter == nil { return o.val.runtime.createIterResultObject(_undefined, true) } entry := o.iter.next() if entry == nil { o.iter = nil return o.val.runtime.createIterResultObject(_undefined, true) } var result Value switch o.kind { case iterationKindKey: result = entry.key case iterationKindValue: result = entry.value default: result = o.val.runtime.newArrayValues([]Value{entry.key, entry.value}) } return o.val.runtime.createIterResultObject(result, false) }"),
  ("setIterObject.next", "func (o *setIterObject) next() Value { if o.iter == nil { return o.val.runtime.createIterResultObject(_undefined, true) } entry := o.iter.next() if entry == nil { o.iter = nil return o.val.runtime.createIterResultObject(_undefined, true) } var result Value switch o.kind { case iterationKindValue: result = entry.key default: result = o.val.runtime.newArrayValues([]Value{entry.key, entry.key}) } return o.val.runtime.createIterResultObject(result, false) }"),
  ("enumerableIter.next", "func (i *enumerableIter) next() (propIterItem, iterNextFunc) { for { var item propIterItem item, i.wrapped = i.wrapped() if i.wrapped == nil { return item, nil } if item.enumerable == _ENUM_FALSE { continue } if item.enumerable == _ENUM_UNKNOWN { var prop Value if item.value == nil { prop = i.o.getOwnProp(item.name) } else { prop = item.value } if prop == nil { continue } if prop, ok := prop.(*valueProperty); ok { if !prop.enumerable { continue } } } return item, i.next } }"),
  ("enumPropertiesIter.next", "func (i *enumPropertiesIter) next() (propIterItem, iterNextFunc) { for i.wrapped != nil { item, next := i.wrapped() i.wrapped = next if next == nil { break } if item.value == nil { item.value = i.o.get(item.name, nil) if item.value == nil { continue } } else { if prop, ok := item.value.(*valueProperty); ok { item.value = prop.get(i.o) } } return item, i.next } return propIterItem{}, nil }"),
  (".iterateEnumerableProperties", "func iterateEnumerableProperties(o *Object) iterNextFunc { return (&enumPropertiesIter{ o: o, wrapped: (&enumerableIter{ o: o, wrapped: o.self.iterateKeys(), }).next, }).next }"),
  ("valueProperty.get", "func (p *valueProperty) get(this Value) Value { if p.getterFunc == nil { if p.value != nil { return p.value } return _undefined } call, _ := p.getterFunc.self.assertCallable() return call(FunctionCall{ This: this, }) }"),
  ("valueBigInt.hash", "func (v *valueBigInt) hash(hash *maphash.Hash) uint64 { var sign byte if (*big.Int)(v).Sign() < 0 { sign = 0x01 } else { sign = 0x00 } _ = hash.WriteByte(sign) _, _ = hash.Write((*big.Int)(v).Bytes()) h := hash.Sum64() hash.Reset() return h }"),
  ("valueBigInt.SameAs", "func (v *valueBigInt) SameAs(other Value) bool { if o, ok := other.(*valueBigInt); ok { return (*big.Int)(v).Cmp((*big.Int)(o)) == 0 } return false }"),
  ("Symbol.hash", "func (s *Symbol) hash(*maphash.Hash) uint64 { return uint64(uintptr(unsafe.Pointer(s))) }"),
  ("Symbol.SameAs", "func (s *Symbol) SameAs(other Value) bool { if s1, ok := other.(*Symbol); ok { return s == s1 } return false }"),
  ("Object.hash", "func (o *Object) hash(*maphash.Hash) uint64 { return uint64(uintptr(unsafe.Pointer(o))) }"),
  ("valueInt.hash", "func (i valueInt) hash(*maphash.Hash) uint64 { return uint64(i) }"),
  ("valueFloat.hash", "func (f valueFloat) hash(*maphash.Hash) uint64 { if f == _negativeZero { return 0 } return math.Float64bits(float64(f)) }"),
  ("importedString.hash", "func (i *importedString) hash(hasher *maphash.Hash) uint64 { i.ensureScanned() if i.u != nil { return i.u.hash(hasher) } return asciiString(i.s).hash(hasher) }"),
  ("asciiString.hash", "func (s asciiString) hash(hash *maphash.Hash) uint64 { _, _ = hash.WriteString(string(s)) h := hash.Sum64() hash.Reset() return h }"),
  ("unicodeString.hash", "func (s unicodeString) hash(hash *maphash.Hash) uint64 { _, _ = hash.WriteString(string(unistring.FromUtf16(s))) h := hash.Sum64() hash.Reset() return h }")
]

/-- The Go source of the mechanism is the one the Lean model transcribes. -/
theorem map_go_is_the_transcribed_source : GojaModel.Generated.C18.shapes = expectedShapes := by rfl

end GojaModel.C18.Tie
