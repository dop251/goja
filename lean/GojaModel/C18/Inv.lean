/-
  C18 — the invariant `Inv` of the mechanism model and its preservation by `set`, `remove` and `clear`.
-/
import GojaModel.C18.Lemmas
import GojaModel.C18.Heap

namespace GojaModel.C18

def liveCount (live : Nat → Bool) : Nat → Nat
  | 0 => 0
  | k + 1 => liveCount live k + (if live k then 1 else 0)

theorem liveCount_eq_countP (live : Nat → Bool) : ∀ n, liveCount live n = (List.range n).countP live := by
  intro n
  induction n with
  | zero => rfl
  | succ k ih => rw [List.range_succ, List.countP_append, List.countP_singleton, liveCount, ih]

theorem liveCount_congr {l l' : Nat → Bool} (n : Nat) (h : ∀ i, i < n → l' i = l i) : liveCount l' n = liveCount l n := by
  rw [liveCount_eq_countP, liveCount_eq_countP]
  exact List.countP_congr fun i hi => by rw [h i (List.mem_range.1 hi)]

theorem liveCount_kill {l l' : Nat → Bool} {e : Nat} (hl : ∀ i, l' i = if i = e then false else l i) (he : l e = true) :
    ∀ n, e < n → liveCount l' n + 1 = liveCount l n := by
  intro n
  induction n with
  | zero => intro h; exact absurd h (Nat.not_lt_zero e)
  | succ k ih =>
    intro h
    by_cases hek : e = k
    · subst hek
      have := liveCount_congr (l := l) (l' := l') e (fun i hi => by simp [hl, Nat.ne_of_lt hi])
      simp [liveCount, this, hl, he]
    · have := ih (Nat.lt_of_le_of_ne (Nat.le_of_lt_succ h) hek)
      have hk : l' k = l k := by rw [hl]; simp [show k ≠ e from fun h => hek h.symm]
      simp [liveCount, hk]; omega

theorem liveCount_dead {l : Nat → Bool} (n : Nat) (h : ∀ i, i < n → l i = false) : liveCount l n = 0 := by
  rw [liveCount_eq_countP]
  exact List.countP_eq_zero.2 fun i hi => by rw [h i (List.mem_range.1 hi)]; exact Bool.false_ne_true

section
variable {K V : Type}

/-- Loop invariant of `clear`. -/
structure ClearLI (n : Nat) (heap : Nat → Entry K V) (b : Nat) (item : Option Nat) : Prop where
  dead : ∀ i, i < b → liveOf heap i = false
  item : NextSpec n (liveOf heap) b item
  next : ∀ i, i < n → liveOf heap i = true → NextSpec n (liveOf heap) (i + 1) (nextOf heap i)
  prev : ∀ i p, i < n → prevOf heap i = some p → p < i

theorem clearWalk_dead {n : Nat} : ∀ (fuel : Nat) (heap : Nat → Entry K V) (b : Nat) (item : Option Nat),
    ClearLI n heap b item → n - b < fuel → b ≤ n →
    ∀ i, i < n → liveOf (clearWalk fuel heap item) i = false := by
  intro fuel
  induction fuel with
  | zero => intro heap b item _ h; exact absurd h (Nat.not_lt_zero _)
  | succ f ih =>
    intro heap b item L hf hb i hi
    cases item with
    | none =>
      rcases Nat.lt_or_ge i b with hib | hib
      · exact L.dead i hib
      · exact L.item.1 rfl i hib hi
    | some j =>
      obtain ⟨j1, j2, j3, j4⟩ := L.item.2 j rfl
      have E := clearBody_heap heap j
      have hlive : ∀ x, liveOf (clearBody heap j) x = if x = j then false else liveOf heap x := by
        intro x; simp only [liveOf, E]; split <;> rfl
      -- the loop body writes the `iterNext` of an entry below `j` only
      have hnext : ∀ x, j ≤ x → nextOf (clearBody heap j) x = nextOf heap x := by
        intro x hx
        simp only [nextOf, E]
        exact if_neg (fun hp => Nat.not_lt.2 hx (L.prev j x j2 hp))
      have hdead : ∀ x, x < j + 1 → liveOf (clearBody heap j) x = false := by
        intro x hx
        rw [hlive]
        split
        · rfl
        · rcases Nat.lt_or_ge x b with hxb | hxb
          · exact L.dead x hxb
          · next hxj => exact j4 x hxb (Nat.lt_of_le_of_ne (Nat.le_of_lt_succ hx) hxj)
      unfold clearWalk
      rw [show (clearBody heap j j).iterNext = nextOf heap j from hnext j (Nat.le_refl j)]
      refine ih (clearBody heap j) (j + 1) (nextOf heap j) ⟨hdead, ?_, fun x hx hlx => ?_, fun x p hx hp => ?_⟩
        (by omega) (by omega) i hi
      · have h := L.next j j2 j3
        exact h.kill_other (fun hn => Nat.not_succ_le_self j (h.2 j hn).1) hlive
      · have hjx : j < x := by
          rcases Nat.lt_or_ge j x with h | h
          · exact h
          · rw [hdead x (Nat.lt_succ_of_le h)] at hlx; cases hlx
        rw [hlive, if_neg (Nat.ne_of_gt hjx)] at hlx
        have h := L.next x hx hlx
        rw [hnext x (Nat.le_of_lt hjx)]
        exact h.kill_other (fun hn => Nat.lt_irrefl j (Nat.lt_trans hjx (h.2 j hn).1)) hlive
      · simp only [prevOf, E] at hp
        exact L.prev x p hx hp

end

section
variable {K V : Type} (norm : K → K) (hash : K → Nat)

/-- The part of `Inv` that iteration, `clear` and `size` rest on.  No key is compared or hashed in it, so it is the same
fact for the class-keyed model and for the representation-keyed structure of Concrete.lean. -/
structure LInv (m : OMap K V) : Prop where
  list : ListInv m.n (liveOf m.heap) (prevOf m.heap) (nextOf m.heap) m.iterFirst m.iterLast
  size : m.size = liveCount (liveOf m.heap) m.n

theorem LInv.clear_key {m : OMap K V} (L : LInv m) : ∀ i, i < m.n → ((clear m).heap i).key = none := by
  intro i hi
  have : liveOf (clear m).heap i = false :=
    clearWalk_dead (m.n + 1) m.heap 0 m.iterFirst
      ⟨fun i hi => absurd hi (Nat.not_lt_zero i), L.list.first_spec, fun _ => L.list.next_spec,
        fun i p hi hp => (L.list.pSome i p hi hp).1⟩
      (Nat.lt_succ_self _) (Nat.zero_le _) i hi
  cases hk : ((clear m).heap i).key with
  | none => rfl
  | some k => rw [liveOf, hk] at this; cases this

structure Inv (m : OMap K V) : Prop where
  list : ListInv m.n (liveOf m.heap) (prevOf m.heap) (nextOf m.heap) m.iterFirst m.iterLast
  bucket : BucketInv m.n (hkOf hash m.heap) (hnOf m.heap) m.table
  uniq : ∀ i j k, i < m.n → j < m.n → (m.heap i).key = some k → (m.heap j).key = some k → i = j
  normed : ∀ i k, i < m.n → (m.heap i).key = some k → norm k = k
  size : m.size = liveCount (liveOf m.heap) m.n

theorem Inv.linv {norm : K → K} {hash : K → Nat} {m : OMap K V} (I : Inv norm hash m) : LInv m := ⟨I.list, I.size⟩

theorem Inv.empty : Inv norm hash ({} : OMap K V) := by
  constructor
  · exact ListInv.empty
  · exact BucketInv.empty
  · intro i j k hi; simp at hi
  · intro i k hi; simp at hi
  · rfl

theorem inv_setVal {m : OMap K V} (I : Inv norm hash m) (e : Nat) (v : Option V) :
    Inv norm hash { m with heap := setVal m.heap e v } where
  list := I.list.congr (fun i _ => by simp [liveOf]) (fun i _ => by simp [prevOf]) (fun i _ _ => by simp [nextOf])
  bucket := I.bucket.congr (fun i => by simp [hkOf]) (fun i _ _ => by simp [hnOf])
  uniq i j k hi hj h1 h2 := I.uniq i j k hi hj (by simpa using h1) (by simpa using h2)
  normed i k hi h1 := I.normed i k hi (by simpa using h1)
  size := I.size.trans (liveCount_congr m.n fun i _ => by simp [liveOf]).symm

theorem inv_setWith_none {m : OMap K V} (I : Inv norm hash m) {nk : K} {hPrev : Option Nat} (hnk : norm nk = nk)
    (hfresh : ∀ i, i < m.n → (m.heap i).key ≠ some nk)
    (hP : PrevSpec (inH (hkOf hash m.heap) (hash nk)) m.n hPrev) (v : Option V) :
    Inv norm hash (setWith (hash nk, none, hPrev) m nk v) := by
  have E := setWith_none_heap (hash nk) hPrev m nk v
  have hkey : ∀ i, ((setWith (hash nk, none, hPrev) m nk v).heap i).key =
      if i = m.n then some nk else (m.heap i).key := fun i => congrArg Entry.key (E i)
  have hlive : ∀ i, liveOf (setWith (hash nk, none, hPrev) m nk v).heap i =
      if i = m.n then true else liveOf m.heap i := by
    intro i; simp only [liveOf, hkey]; split <;> rfl
  constructor
  · rw [setWith_none_n, setWith_none_iterLast]
    -- `iterLast` and `hPrev` are older than the new entry, so the order of the two tests does not matter
    exact I.list.append hlive (fun i => congrArg Entry.iterPrev (E i))
      (fun i => (congrArg Entry.iterNext (E i)).trans
        (ite_swap (fun h1 h2 => Nat.ne_of_lt (I.list.lSome i h1).1 h2) ..))
      (setWith_none_iterFirst ..)
  · rw [setWith_none_n]
    exact I.bucket.append hP (fun i => by simp only [hkOf, hkey]; split <;> rfl)
      (fun i => (congrArg Entry.hNext (E i)).trans (ite_swap (fun h1 h2 => Nat.ne_of_lt (h1 ▸ hP).live.2 h2) ..))
      (setWith_none_table _ _ _ _ _)
  · intro i j k hi hj h1 h2
    rw [setWith_none_n] at hi hj
    rw [hkey] at h1 h2
    split at h1 <;> split at h2
    · next hi' hj' => rw [hi', hj']
    · next _ hj' => cases h1; exact absurd h2 (hfresh j (Nat.lt_of_le_of_ne (Nat.le_of_lt_succ hj) hj'))
    · next hi' _ => cases h2; exact absurd h1 (hfresh i (Nat.lt_of_le_of_ne (Nat.le_of_lt_succ hi) hi'))
    · next hi' hj' =>
      exact I.uniq i j k (Nat.lt_of_le_of_ne (Nat.le_of_lt_succ hi) hi') (Nat.lt_of_le_of_ne (Nat.le_of_lt_succ hj) hj')
        h1 h2
  · intro i k hi h1
    rw [setWith_none_n] at hi
    rw [hkey] at h1
    split at h1
    · cases h1; exact hnk
    · next hi' => exact I.normed i k (Nat.lt_of_le_of_ne (Nat.le_of_lt_succ hi) hi') h1
  · rw [setWith_none_size, setWith_none_n, I.size]
    simp only [liveCount, hlive, if_true]
    congr 1
    exact (liveCount_congr m.n (fun i hi => by rw [hlive, if_neg (Nat.ne_of_lt hi)])).symm

theorem inv_removeWith_some {m : OMap K V} (I : Inv norm hash m) {e : Nat} {hPrev : Option Nat} (he : e < m.n) {nk : K}
    (hke : (m.heap e).key = some nk)
    (hP : PrevSpec (inH (hkOf hash m.heap) (hash nk)) e hPrev) :
    Inv norm hash (removeWith (hash nk, some e, hPrev) m).1 := by
  have E := removeWith_some_heap (hash nk) e hPrev m
  have hkey : ∀ i, ((removeWith (hash nk, some e, hPrev) m).1.heap i).key =
      if i = e then none else (m.heap i).key := fun i => congrArg Entry.key (E i)
  have hlive : ∀ i, liveOf (removeWith (hash nk, some e, hPrev) m).1.heap i =
      if i = e then false else liveOf m.heap i := by
    intro i; simp only [liveOf, hkey]; split <;> rfl
  have hle : liveOf m.heap e = true := liveOf_some hke
  constructor
  · exact I.list.kill he hle hlive (fun i => congrArg Entry.iterNext (E i)) (fun i => congrArg Entry.iterPrev (E i))
      (removeWith_some_iterFirst ..) (removeWith_some_iterLast ..)
  · exact I.bucket.kill he (by simp only [hkOf, hke, Option.map_some]) hP
      (fun i => by simp only [hkOf, hkey]; split <;> rfl) (fun i => congrArg Entry.hNext (E i))
      (removeWith_some_table _ _ _ _)
  · intro i j k hi hj h1 h2
    rw [hkey] at h1 h2
    split at h1
    · cases h1
    · split at h2
      · cases h2
      · exact I.uniq i j k hi hj h1 h2
  · intro i k hi h1
    rw [hkey] at h1
    split at h1
    · cases h1
    · exact I.normed i k hi h1
  · show m.size - 1 = liveCount _ m.n
    have := liveCount_kill hlive hle m.n he
    rw [I.size]
    omega

variable [DecidableEq K]

theorem lookup_spec {m : OMap K V} (I : Inv norm hash m) (k : K) :
    (lookup norm hash m k).1 = hash (norm k) ∧
    (∀ x, (lookup norm hash m k).2.1 = some x →
        x < m.n ∧ (m.heap x).key = some (norm k) ∧
        PrevSpec (inH (hkOf hash m.heap) (hash (norm k))) x (lookup norm hash m k).2.2) ∧
    ((lookup norm hash m k).2.1 = none →
        (∀ i, i < m.n → (m.heap i).key ≠ some (norm k)) ∧
        PrevSpec (inH (hkOf hash m.heap) (hash (norm k))) m.n (lookup norm hash m k).2.2) := by
  have := walk_spec hash m.heap (norm k) I.bucket (m.n + 1) (m.table (hash (norm k))) none 0
    (I.bucket.head _) (by unfold PrevSpec; simp) (fun m hm => absurd hm (Nat.not_lt_zero m)) (Nat.lt_succ_self _) (Nat.zero_le _)
  unfold lookup
  exact ⟨rfl, this.1, this.2⟩

theorem inv_set {m : OMap K V} (I : Inv norm hash m) (hnorm : ∀ k, norm (norm k) = norm k) (k : K) (v : Option V) :
    Inv norm hash (set norm hash m k v) := by
  obtain ⟨h1, h2, h3⟩ := lookup_spec norm hash I k
  unfold set
  generalize lookup norm hash m k = r at h1 h2 h3
  obtain ⟨h, e, hPrev⟩ := r
  cases e with
  | some e => exact inv_setVal norm hash I e v
  | none =>
    obtain ⟨hfresh, hP⟩ := h3 rfl
    cases h1
    exact inv_setWith_none norm hash I (hnorm k) hfresh hP v

theorem inv_remove {m : OMap K V} (I : Inv norm hash m) (k : K) :
    Inv norm hash (remove norm hash m k).1 := by
  obtain ⟨h1, h2, h3⟩ := lookup_spec norm hash I k
  unfold remove
  generalize lookup norm hash m k = r at h1 h2 h3
  obtain ⟨h, e, hPrev⟩ := r
  cases e with
  | none => exact I
  | some e =>
    obtain ⟨he, hke, hP⟩ := h2 e rfl
    cases h1
    exact inv_removeWith_some norm hash I he hke hP

end

section
variable {K V : Type} [DecidableEq K] (norm : K → K) (hash : K → Nat)

theorem inv_clear {m : OMap K V} (I : Inv norm hash m) : Inv norm hash (clear m) := by
  have hkey := I.linv.clear_key
  have hdead : ∀ i, i < m.n → liveOf (clear m).heap i = false := fun i hi => liveOf_none (hkey i hi)
  constructor
  · refine .of_specs (fun i hi _ => ?_) (fun i hi hl => ?_) (fun i hi hl => ?_)
      ⟨fun _ k _ hk => hdead k hk, fun j h => nomatch h⟩ ⟨fun _ => hdead, fun j h => nomatch h⟩
    · have hp : prevOf (clear m).heap i = prevOf m.heap i := clearWalk_prev _ _ _ i
      rw [hp]
      exact (I.list.prev_below hi).mono (fun k hk _ => hdead k (Nat.lt_trans hk hi))
    · rw [hdead i hi] at hl; cases hl
    · rw [hdead i hi] at hl; cases hl
  · constructor
    · intro h
      exact ⟨fun _ k _ hk => by simp only [inH, hkOf, hkey k hk, Option.map_none, reduceCtorEq, decide_false],
        fun j hj => nomatch hj⟩
    · intro i h hi hki
      simp only [hkOf, hkey i hi, Option.map_none, reduceCtorEq] at hki
  · intro i j k hi hj h1
    rw [hkey i hi] at h1
    cases h1
  · intro i k hi h1
    rw [hkey i hi] at h1
    cases h1
  · exact (liveCount_dead m.n hdead).symm

end
end GojaModel.C18
