/-
  C18 — `mapKeys f` commutes with every operation of the representation-keyed structure, which makes it a functional
  simulation onto the class-keyed model.
-/
import GojaModel.C18.Concrete
import GojaModel.C18.Inv

namespace GojaModel.C18
section
variable {K K' V : Type} (f : K → K')

abbrev mapHeap (f : K → K') (hp : Nat → Entry K V) : Nat → Entry K' V := fun j => mapEntry f (hp j)

@[simp] theorem mapEntry_iterPrev (e : Entry K V) : (mapEntry f e).iterPrev = e.iterPrev := rfl
@[simp] theorem mapEntry_iterNext (e : Entry K V) : (mapEntry f e).iterNext = e.iterNext := rfl
@[simp] theorem mapEntry_hNext (e : Entry K V) : (mapEntry f e).hNext = e.hNext := rfl
@[simp] theorem mapEntry_val (e : Entry K V) : (mapEntry f e).val = e.val := rfl
@[simp] theorem mapEntry_key (e : Entry K V) : (mapEntry f e).key = e.key.map f := rfl

theorem map_setHNext (hp : Nat → Entry K V) (i : Nat) (v : Option Nat) :
    mapHeap f (setHNext hp i v) = setHNext (mapHeap f hp) i v := by
  funext j; simp only [mapHeap, setHNext]; split <;> rfl

theorem map_setIterNext (hp : Nat → Entry K V) (i : Nat) (v : Option Nat) :
    mapHeap f (setIterNext hp i v) = setIterNext (mapHeap f hp) i v := by
  funext j; simp only [mapHeap, setIterNext]; split <;> rfl

theorem map_setIterPrev (hp : Nat → Entry K V) (i : Nat) (v : Option Nat) :
    mapHeap f (setIterPrev hp i v) = setIterPrev (mapHeap f hp) i v := by
  funext j; simp only [mapHeap, setIterPrev]; split <;> rfl

theorem map_setVal (hp : Nat → Entry K V) (i : Nat) (v : Option V) :
    mapHeap f (setVal hp i v) = setVal (mapHeap f hp) i v := by
  funext j; simp only [mapHeap, setVal]; split <;> rfl

theorem map_setKV_none (hp : Nat → Entry K V) (i : Nat) :
    mapHeap f (setKV hp i none none) = setKV (mapHeap f hp) i none none := by
  funext j; simp only [mapHeap, setKV]; split <;> rfl

theorem map_upd_new (hp : Nat → Entry K V) (i : Nat) (k : K) (v : Option V) :
    mapHeap f (upd hp i { key := some k, val := v }) = upd (mapHeap f hp) i { key := some (f k), val := v } := by
  funext j; simp only [mapHeap, upd]; split <;> rfl

theorem setWith_map (r : Nat × Option Nat × Option Nat) (m : OMap K V) (key : K) (v : Option V) :
    mapKeys f (setWith r m key v) = setWith r (mapKeys f m) (f key) v := by
  obtain ⟨h, e, hPrev⟩ := r
  cases e with
  | some e =>
    simp only [setWith, mapKeys]
    congr 1
    exact map_setVal f m.heap e v
  | none =>
    cases hPrev <;> cases hl : m.iterLast <;>
      simp only [setWith, mapKeys, hl] <;> congr 1 <;>
      simp only [← map_setIterNext, ← map_setIterPrev, ← map_setHNext, ← map_upd_new] <;> rfl

theorem getWith_map (r : Nat × Option Nat × Option Nat) (m : OMap K V) :
    getWith r (mapKeys f m) = getWith r m := by
  obtain ⟨h, e, hPrev⟩ := r
  cases e <;> rfl

theorem removeWith_map (r : Nat × Option Nat × Option Nat) (m : OMap K V) :
    (mapKeys f (removeWith r m).1, (removeWith r m).2) = removeWith r (mapKeys f m) := by
  obtain ⟨h, e, hPrev⟩ := r
  cases e with
  | none => rfl
  | some e =>
    cases hPrev <;> cases hp : (m.heap e).iterPrev <;> cases hq : (m.heap e).iterNext <;>
      simp only [removeWith, mapKeys, mapEntry_iterPrev, mapEntry_iterNext, mapEntry_hNext, hp, hq,
        ← map_setIterNext, ← map_setIterPrev, ← map_setHNext, ← map_setKV_none]

theorem clearBody_map (hp : Nat → Entry K V) (i : Nat) : mapHeap f (clearBody hp i) = clearBody (mapHeap f hp) i := by
  unfold clearBody
  cases h : (hp i).iterPrev <;> simp only [mapHeap, mapEntry, h] <;>
    simp only [← map_setIterNext, ← map_setKV_none] <;> rfl

theorem clearWalk_map : ∀ (fuel : Nat) (hp : Nat → Entry K V) (item : Option Nat),
    mapHeap f (clearWalk fuel hp item) = clearWalk fuel (mapHeap f hp) item := by
  intro fuel
  induction fuel with
  | zero => intro hp item; rfl
  | succ n ih =>
    intro hp item
    cases item with
    | none => rfl
    | some i =>
      simp only [clearWalk]
      rw [ih, clearBody_map]
      have h : (clearBody (mapHeap f hp) i i).iterNext = (clearBody hp i i).iterNext := by
        rw [← clearBody_map]; rfl
      rw [h]

theorem clear_map (m : OMap K V) : mapKeys f (clear m) = clear (mapKeys f m) := by
  simp only [clear, mapKeys]
  congr 1
  exact clearWalk_map f _ _ _

theorem liveOf_mapKeys (m : OMap K V) : liveOf (mapKeys f m).heap = liveOf m.heap :=
  funext fun _ => Option.isSome_map ..

variable {f} in
theorem LInv.of_mapKeys {m : OMap K V} (L : LInv (mapKeys f m)) : LInv m := by
  obtain ⟨l, s⟩ := L
  rw [liveOf_mapKeys] at l s
  exact ⟨l, s⟩

theorem backWalk_map (hp : Nat → Entry K V) : ∀ (fuel : Nat) (c : Option Nat),
    backWalk (mapHeap f hp) fuel c = backWalk hp fuel c := by
  intro fuel
  induction fuel with
  | zero => intro c; rfl
  | succ n ih =>
    intro c
    cases c with
    | none => rfl
    | some i =>
      simp only [backWalk, mapHeap, mapEntry, Option.isNone_map]
      rw [← ih]

theorem next_map (m : OMap K V) (it : Iter) : next (mapKeys f m) it = next m it := by
  unfold next
  have : nextTarget (mapKeys f m).heap (mapKeys f m).iterFirst it.cur = nextTarget m.heap m.iterFirst it.cur := by
    cases hc : it.cur with
    | none => rfl
    | some c =>
      simp only [nextTarget, mapKeys]
      rw [show (fun i => mapEntry f (m.heap i)) = mapHeap f m.heap from rfl, backWalk_map]
      cases backWalk m.heap (c + 1) (some c) <;> rfl
  rw [this]

end

section
variable {K K' V : Type} [DecidableEq K']

theorem walkE_eq_walk {eqv : K → K → Bool} {heap : Nat → Entry K V} {heap' : Nat → Entry K' V} {k : K} {k' : K'}
    (hk : ∀ i, keyEqv eqv (heap i).key k = decide ((heap' i).key = some k'))
    (hn : ∀ i, (heap' i).hNext = (heap i).hNext) :
    ∀ fuel o hp, walkE eqv heap k fuel o hp = walk heap' k' fuel o hp := by
  intro fuel
  induction fuel with
  | zero => intro o hp; rfl
  | succ n ih =>
    intro o hp
    cases o with
    | none => rfl
    | some i => simp only [walkE, walk, hk, hn, ih, decide_eq_true_eq]

variable (eqv : K → K → Bool) (norm : K → K) (hash : K → Nat) (f : K → K') (hash' : K' → Nat) (S W : K → Prop)

/-- What the key operations must satisfy for the simulation; `W` holds of the probe keys, `S` of the stored ones. -/
structure Bridge : Prop where
  storable : ∀ k, W k → S (norm k)
  eqv_eq : ∀ k' k, S k' → W k → eqv k' (norm k) = decide (f k' = f (norm k))
  hash_eq : ∀ k, W k → hash (norm k) = hash' (f (norm k))

def Good (m : OMap K V) : Prop := ∀ i k, (m.heap i).key = some k → S k

variable {eqv norm hash f hash' S W}

theorem walk_map (B : Bridge eqv norm hash f hash' S W) {m : OMap K V} (hg : Good S m) {k : K} (hk : W k) :
    ∀ fuel o hp, walkE eqv m.heap (norm k) fuel o hp = walk (mapHeap f m.heap) (f (norm k)) fuel o hp :=
  walkE_eq_walk (fun i => by
    cases hki : (m.heap i).key with
    | none => simp [keyEqv, hki]
    | some k' =>
      simp only [keyEqv, mapEntry_key, hki, Option.map_some, Option.some.injEq, B.eqv_eq k' k (hg i k' hki) hk])
    (fun _ => rfl)

theorem lookup_map (B : Bridge eqv norm hash f hash' S W) {m : OMap K V} (hg : Good S m) {k : K} (hk : W k) :
    lookupE eqv norm hash m k = lookup id hash' (mapKeys f m) (f (norm k)) := by
  simp only [lookupE, lookup, id, mapKeys, B.hash_eq k hk]
  rw [walk_map B hg hk]

theorem set_map (B : Bridge eqv norm hash f hash' S W) {m : OMap K V} (hg : Good S m) {k : K} (hk : W k)
    (v : Option V) : mapKeys f (setE eqv norm hash m k v) = set id hash' (mapKeys f m) (f (norm k)) v := by
  unfold setE set
  rw [setWith_map, lookup_map B hg hk]; rfl

theorem get_map (B : Bridge eqv norm hash f hash' S W) {m : OMap K V} (hg : Good S m) {k : K} (hk : W k) :
    getE eqv norm hash m k = get id hash' (mapKeys f m) (f (norm k)) := by
  unfold getE get
  rw [getWith_map, lookup_map B hg hk]

theorem has_map (B : Bridge eqv norm hash f hash' S W) {m : OMap K V} (hg : Good S m) {k : K} (hk : W k) :
    hasE eqv norm hash m k = has id hash' (mapKeys f m) (f (norm k)) := by
  unfold hasE has
  rw [lookup_map B hg hk]

theorem remove_map (B : Bridge eqv norm hash f hash' S W) {m : OMap K V} (hg : Good S m) {k : K} (hk : W k) :
    (mapKeys f (removeE eqv norm hash m k).1, (removeE eqv norm hash m k).2) =
      remove id hash' (mapKeys f m) (f (norm k)) := by
  unfold removeE remove
  rw [removeWith_map, lookup_map B hg hk]

theorem setWith_keys (r : Nat × Option Nat × Option Nat) (m : OMap K V) (key : K) (v : Option V) (i : Nat) (k0 : K)
    (h : ((setWith r m key v).heap i).key = some k0) : (m.heap i).key = some k0 ∨ k0 = key := by
  obtain ⟨hh, e, hPrev⟩ := r
  cases e with
  | some e =>
    rw [show (setWith (hh, some e, hPrev) m key v).heap i = setVal m.heap e v i from rfl, setVal_apply] at h
    exact Or.inl h
  | none =>
    simp only [setWith_none_heap] at h
    split at h
    · cases h; exact Or.inr rfl
    · exact Or.inl h

theorem removeWith_keys (r : Nat × Option Nat × Option Nat) (m : OMap K V) (i : Nat) (k0 : K)
    (h : ((removeWith r m).1.heap i).key = some k0) : (m.heap i).key = some k0 := by
  obtain ⟨hh, e, hPrev⟩ := r
  cases e with
  | none => exact h
  | some e =>
    simp only [removeWith_some_heap] at h
    split at h
    · cases h
    · exact h

theorem clearWalk_keys : ∀ (fuel : Nat) (hp : Nat → Entry K V) (item : Option Nat) (i : Nat) (k0 : K),
    (clearWalk fuel hp item i).key = some k0 → (hp i).key = some k0 := by
  intro fuel
  induction fuel with
  | zero => intro hp item i k0 h; exact h
  | succ n ih =>
    intro hp item i k0 h
    cases item with
    | none => exact h
    | some j =>
      have := ih _ _ _ _ h
      simp only [clearBody_heap] at this
      split at this
      · cases this
      · exact this

theorem good_set (B : Bridge eqv norm hash f hash' S W) {m : OMap K V} (hg : Good S m) {k : K} (hk : W k)
    (v : Option V) : Good S (setE eqv norm hash m k v) := by
  intro i k0 h
  rcases setWith_keys _ _ _ _ _ _ h with h | h
  · exact hg i k0 h
  · rw [h]; exact B.storable k hk

theorem good_remove {m : OMap K V} (hg : Good S m) (k : K) : Good S (removeE eqv norm hash m k).1 :=
  fun i k0 h => hg i k0 (removeWith_keys _ _ _ _ h)

theorem good_clear {m : OMap K V} (hg : Good S m) : Good S (clear m) :=
  fun i k0 h => hg i k0 (clearWalk_keys _ _ _ _ _ h)

theorem stepE_sim (B : Bridge eqv norm hash f hash' S W) {s : Sys K V} (hg : Good S s.m) (o : Op K V)
    (ho : o.keyOk W) :
    Sys.mapKeys f (s.stepE eqv norm hash o).1 = ((Sys.mapKeys f s).step id hash' (o.mapKey (fun k => f (norm k)))).1 ∧
    Res.mapKey f (s.stepE eqv norm hash o).2 = ((Sys.mapKeys f s).step id hash' (o.mapKey (fun k => f (norm k)))).2 ∧
    Good S (s.stepE eqv norm hash o).1.m := by
  cases o with
  | set k v =>
    refine ⟨?_, rfl, good_set B hg ho v⟩
    simp only [Sys.stepE, Sys.step, Op.mapKey, Sys.mapKeys, set_map B hg ho]
  | get k =>
    refine ⟨rfl, ?_, hg⟩
    simp only [Sys.stepE, Sys.step, Op.mapKey, Sys.mapKeys, Res.mapKey, get_map B hg ho]
  | has k =>
    refine ⟨rfl, ?_, hg⟩
    simp only [Sys.stepE, Sys.step, Op.mapKey, Sys.mapKeys, Res.mapKey, has_map B hg ho]
  | delete k =>
    have := remove_map B hg ho
    refine ⟨?_, ?_, good_remove hg k⟩
    · simp only [Sys.stepE, Sys.step, Op.mapKey, Sys.mapKeys, ← this]
    · simp only [Sys.stepE, Sys.step, Op.mapKey, Sys.mapKeys, Res.mapKey, ← this]
  | clear =>
    refine ⟨?_, rfl, good_clear hg⟩
    simp only [Sys.stepE, Sys.step, Op.mapKey, Sys.mapKeys, clear_map]
  | size => exact ⟨rfl, rfl, hg⟩
  | newIter => exact ⟨rfl, rfl, hg⟩
  | next j =>
    simp only [Sys.stepE, Sys.step, Op.mapKey, Sys.mapKeys]
    cases hj : s.iters[j]? with
    | none => exact ⟨rfl, rfl, hg⟩
    | some it =>
      simp only [next_map]
      refine ⟨trivial, ?_, hg⟩
      cases (next s.m it).2 <;> rfl
  | close j =>
    simp only [Sys.stepE, Sys.step, Op.mapKey, Sys.mapKeys]
    cases hj : s.iters[j]? with
    | none => exact ⟨rfl, rfl, hg⟩
    | some it => exact ⟨rfl, rfl, hg⟩

theorem runE_sim (B : Bridge eqv norm hash f hash' S W) : ∀ (ops : List (Op K V)) (s : Sys K V), Good S s.m →
    (∀ o, o ∈ ops → o.keyOk W) →
    (Sys.runE eqv norm hash s ops).2.map (Res.mapKey f) =
      (Sys.run id hash' (Sys.mapKeys f s) (ops.map (Op.mapKey (fun k => f (norm k))))).2 := by
  intro ops
  induction ops with
  | nil => intro s _ _; rfl
  | cons o os ih =>
    intro s hg hok
    obtain ⟨h1, h2, h3⟩ := stepE_sim B hg o (hok o (List.mem_cons_self ..))
    simp only [Sys.runE, Sys.run, List.map_cons]
    rw [h2, ← h1]
    congr 1
    exact ih _ h3 (fun o' ho' => hok o' (List.mem_cons_of_mem _ ho'))

end
end GojaModel.C18
