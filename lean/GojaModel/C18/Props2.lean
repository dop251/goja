/-
  C18 — property theorems, part 2: which REPRESENTATION of a key is stored and handed back.
-/
import GojaModel.C18.Props
import GojaModel.C18.EnumIterL

namespace GojaModel.C18
open GojaModel

section
variable {K K' V : Type} [DecidableEq K']

/-- Generic: the representation-keyed structure (arbitrary dynamic `SameAs`, arbitrary hash; Concrete.lean) yields, for
every history over keys satisfying `W`, EXACTLY the results of the representation-level [[MapData]] spec `RSpec` — the
same booleans, values, sizes and the very key objects at the same positions — given `Bridge`. -/
theorem concrete_refines_rspec {eqv : K → K → Bool} {norm : K → K} {hash : K → Nat} {f : K → K'} {hash' : K' → Nat}
    {S W : K → Prop} (B : Bridge eqv norm hash f hash' S W) (ops : List (Op K V)) (hok : ∀ o, o ∈ ops → o.keyOk W) :
    (Sys.runE eqv norm hash ({} : Sys K V) ops).2 = (SpecSys.runR norm f ({} : SpecSys K V) ops).2 :=
  (SimOver.run B.refines ops {} {} (.init RInv.empty) hok).1

variable (norm : K → K) (f : K → K')

/-- `set` on a key that is already present (some record's key is in the probe's SameValueZero class) changes that
record's VALUE only: the list keeps its length, the record keeps its position and its original key object, every other
record is untouched. -/
theorem rspec_set_existing_keeps_key_and_position (d : MapData K V) (k : K) (v : Option V) (i : Nat) (k' : K)
    (w : Option V) (hf : RSpec.find norm f d k = some i) (hi : d[i]? = some (some (k', w))) :
    RSpec.set norm f d k v = d.set i (some (k', v)) ∧
    (RSpec.set norm f d k v).length = d.length ∧
    (RSpec.set norm f d k v)[i]? = some (some (k', v)) ∧
    (∀ j, j ≠ i → (RSpec.set norm f d k v)[j]? = d[j]?) := by
  have h : RSpec.set norm f d k v = d.set i (some (k', v)) := by simp [RSpec.set, hf, hi]
  have hlt : i < d.length := by
    rcases Nat.lt_or_ge i d.length with h1 | h1
    · exact h1
    · rw [List.getElem?_eq_none h1] at hi; simp at hi
  refine ⟨h, by rw [h]; simp, by rw [h]; simp [hlt], fun j hj => ?_⟩
  rw [h, List.getElem?_set]
  have hne : ¬ i = j := fun h' => hj h'.symm
  simp only [hne, if_false]

/-- `set` on an absent key appends ONE record whose key is the argument after the −0 ↦ +0 step. -/
theorem rspec_set_new_appends_normalised (d : MapData K V) (k : K) (v : Option V)
    (hf : RSpec.find norm f d k = none) : RSpec.set norm f d k v = d ++ [some (norm k, v)] := by
  simp [RSpec.set, hf]

/-- One `set` never changes the key object of a record: after it, a non-empty record either held the same key object at
the same index before, or is the freshly appended one carrying the normalised argument. -/
theorem rspec_set_keys_stable (d : MapData K V) (k : K) (v : Option V) (i : Nat) (k' : K) (v' : Option V)
    (h : (RSpec.set norm f d k v)[i]? = some (some (k', v'))) :
    (∃ w, d[i]? = some (some (k', w))) ∨ (i = d.length ∧ k' = norm k) := by
  cases hf : RSpec.find norm f d k with
  | none =>
    rw [rspec_set_new_appends_normalised norm f d k v hf, List.getElem?_append] at h
    split at h
    · exact Or.inl ⟨v', h⟩
    · rw [List.getElem?_singleton] at h
      split at h
      · cases h; exact Or.inr ⟨by omega, rfl⟩
      · cases h
  | some j =>
    obtain ⟨k0, w0, hj, _⟩ := RSpec.find_some hf
    obtain ⟨_, _, h3, h4⟩ := rspec_set_existing_keeps_key_and_position norm f d k v j k0 w0 hf hj
    by_cases hij : i = j
    · rw [hij, h3] at h
      cases h
      exact Or.inl ⟨w0, hij ▸ hj⟩
    · exact Or.inl ⟨v', (h4 i hij).symm.trans h⟩

end

/-- The instance for goja's values: for EVERY history over well-formed keys, any maphash function, any number of live
iterators, the real structure (entries holding `valueInt`/`valueFloat`/ASCII/UTF-16/imported strings/BigInts/objects,
per-type `hash`, per-type `SameAs`) returns exactly what the representation-level spec returns: iterators and exports
hand back the first-inserted key object of each entry (after −0 ↦ +0, see `neg_zero_normalised`), `set` on an existing
key keeps that object and its position. -/
theorem concrete_returns_first_inserted_representation (mh : List UInt8 → Nat) (ph : Nat → Nat) {V : Type}
    (ops : List (Op Key V)) (hok : ∀ o, o ∈ ops → o.keyOk Key.WF) :
    (Sys.runE sameAsK normKeyK (hashK mh ph) ({} : Sys Key V) ops).2 =
      (SpecSys.runR normKeyK cls ({} : SpecSys Key V) ops).2 := by
  obtain ⟨hashC, hh, _, _⟩ := value_level_refines mh ph V
  exact (SimOver.run (keyBridge mh ph hashC hh).refines ops {} {} (.init RInv.empty) hok).1

section
variable {K V : Type} [DecidableEq K] (norm : K → K) (hash : K → Nat)

/-- The three nested Go loops (`objectSymbolIter.next` inside `enumerableIter.next` inside `enumPropertiesIter.next`,
object.go:1125-1158, 1758-1793; the middle one bounded by fuel `len(keys)+1`) compute the fused structural recursion
`enumNext`. -/
theorem enum_layers_fuse (m : OMap K (PV V)) (ks : List K) :
    enumPropsNext norm hash m ks = enumNext norm hash m ks :=
  enumerableNext_resolve norm hash m ks _ (Nat.lt_succ_self _)

/-- … which refines ECMA-262 CopyDataProperties / Object.assign on symbol keys INCLUDING the `[[Enumerable]]` test and
`Get` (plain value, data descriptor, or the getter to call): same remaining keys, same delivered key and value. -/
theorem enum_assign_refines {m : OMap K (PV V)} (I : Inv norm hash m) (hnorm : ∀ k, norm (norm k) = norm k)
    (ks : List K) :
    (enumPropsNext norm hash m ks).1.keys = (Spec.assignEnumNext norm (abs m) ks).1 ∧
    (enumPropsNext norm hash m ks).2 = (Spec.assignEnumNext norm (abs m) ks).2 := by
  rw [enum_layers_fuse]
  exact enumNext_refines norm hash I hnorm ks

/-- One step against an ARBITRARY current table (user getters and setters may have run in between): the popped keys are
absent or non-enumerable now, the delivered key is present and enumerable now, with its current resolved value. -/
theorem enum_assign_step (m : OMap K (PV V)) (ks : List K) : ∃ skipped,
    (∀ s, s ∈ skipped → get norm hash m s = none ∨ ∃ pv, get norm hash m s = some pv ∧ pv.isEnum = false) ∧
    (match (enumPropsNext norm hash m ks).2 with
     | some (k, r) => ks = skipped ++ k :: (enumPropsNext norm hash m ks).1.keys ∧
          ∃ pv, get norm hash m k = some pv ∧ pv.isEnum = true ∧ r = pv.resolve
     | none => ks = skipped ∧ (enumPropsNext norm hash m ks).1.keys = []) := by
  rw [enum_layers_fuse]
  exact enumNext_spec norm hash m ks

/-- Whatever the getters/setters do between the steps: the delivered keys are a sub-sequence of the snapshot. -/
theorem enum_assign_visits_sublist (ms : List (OMap K (PV V))) (ks : List K) :
    (enumYields norm hash ks ms).Sublist ks := enumYields_sublist norm hash ms ks

/-- `symbols(false)` (object.go:1415-1427; `Object.keys`-style consumers) lists exactly the enumerable symbol keys, in
insertion order. -/
theorem symbols_enumerable_spec {m : OMap K (PV V)} (I : Inv norm hash m) :
    symbolsEnum m = Spec.ownEnumKeys (abs m) := symbolsEnum_spec I.linv

end

end GojaModel.C18
