/-
  C18 — the symbol-key iterator of ordinary objects after fix a9d0bdc (object.go:1284-1317): a snapshot of the symbol keys
  taken with a full orderedMap iteration (`symbols(true, nil)`, object.go:1404-1414), then one `symValues.get` per key.
  Core Lean only (linked into the driver).  Also `drain` = "drive a fresh orderedMapIter to the end", which is what
  `symbols`, `Map/Set export`, `forEach` without mutation, `Array.from` … do.
-/
import GojaModel.C18.Model

namespace GojaModel.C18
section
variable {K V : Type}

/-- Keys yielded by driving iterator `it` to exhaustion (object.go:1408-1414: `for { entry := iter.next(); if entry == nil
{break}; accum = append(accum, entry.key) }`).  `fuel` bounds the loop; `m.n + 1` always suffices. -/
def drain (m : OMap K V) : Nat → Iter → List K
  | 0, _ => []
  | f + 1, it =>
    match next m it with
    | (it', some c) =>
      match (m.heap c).key with
      | some k => k :: drain m f it'
      | none => drain m f it'          -- unreachable: `next` only returns live entries
    | (_, none) => []

/-- `o.symbols(true, nil)` (object.go:1404): all symbol keys in insertion order. -/
def symbolsAll (m : OMap K V) : List K := drain m (m.n + 1) newIter

/-- `objectSymbolIter` (object.go:1287): the not yet visited part of the snapshot (`keys[idx:]`). -/
structure SymIter (K : Type) where
  keys : List K

variable [DecidableEq K] (norm : K → K) (hash : K → Nat)

/-- `iterateSymbols` (object.go:1307-1313). -/
def symIterNew (m : OMap K V) : SymIter K := ⟨symbolsAll m⟩

/-- `objectSymbolIter.next` (object.go:1293-1305) against the CURRENT state `m` of the symbol table. -/
def symIterNext (m : OMap K V) : List K → SymIter K × Option (K × V)
  | [] => (⟨[]⟩, none)
  | k :: rest =>
    match get norm hash m k with                 -- object.go:1297 `val := symValues.get(key); val != nil`
    | some v => (⟨rest⟩, some (k, v))
    | none => symIterNext m rest

/-! Spec: ECMA-262 7.3.26 CopyDataProperties / 20.1.2.1 Object.assign restricted to symbol keys —
`keys = from.[[OwnPropertyKeys]]()` once; for each `nextKey`: `desc = from.[[GetOwnProperty]](nextKey)`; if defined,
`propValue = Get(from, nextKey)` and the key is visited. -/
namespace Spec

/-- `[[OwnPropertyKeys]]` on the ordered property list. -/
def ownKeys (d : MapData K V) : List K := d.filterMap (fun c => c.map Prod.fst)

def assignNext (d : MapData K V) : List K → List K × Option (K × V)
  | [] => ([], none)
  | k :: rest =>
    match get norm d k with
    | some v => (rest, some (k, v))
    | none => assignNext d rest

end Spec
end
end GojaModel.C18
