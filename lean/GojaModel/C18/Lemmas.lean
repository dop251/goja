/-
  C18 — the two linked structures of `orderedMap`, stated over *projections* of the heap (liveness, iterPrev, iterNext,
  hNext, hash of the stored key) so that each operation is first analysed abstractly (what it does to the projections)
  and then tied to the model.  Both the insertion-order list and every bucket chain are described by the same two
  notions: the least live index from a bound on (`NextSpec`) and the greatest live index below a bound (`PrevSpec`).
-/
import GojaModel.C18.Model

namespace GojaModel.C18

/-- `o` is the least live index in `[b, n)`, or `none` if there is none. -/
def NextSpec (n : Nat) (live : Nat → Bool) (b : Nat) (o : Option Nat) : Prop :=
  (o = none → ∀ k, b ≤ k → k < n → live k = false) ∧
  (∀ j, o = some j → b ≤ j ∧ j < n ∧ live j = true ∧ ∀ k, b ≤ k → k < j → live k = false)

/-- `hp` is the greatest live index below `b`, or `none` if there is none. -/
def PrevSpec (live : Nat → Bool) (b : Nat) (hp : Option Nat) : Prop :=
  (hp = none → ∀ m, m < b → live m = false) ∧
  (∀ p, hp = some p → p < b ∧ live p = true ∧ ∀ m, p < m → m < b → live m = false)

theorem NextSpec.unique {n live b o o'} (h : NextSpec n live b o) (h' : NextSpec n live b o') : o = o' := by
  have clash : ∀ {k : Nat}, live k = true → live k = false → o = o' := fun h1 h2 => Bool.noConfusion (h1.symm.trans h2)
  cases o with
  | none =>
    cases o' with
    | none => rfl
    | some j =>
      obtain ⟨a, a', c, _⟩ := h'.2 j rfl
      exact clash c (h.1 rfl j a a')
  | some i =>
    obtain ⟨a, a', c, d⟩ := h.2 i rfl
    cases o' with
    | none => exact clash c (h'.1 rfl i a a')
    | some j =>
      obtain ⟨e, _, g, d'⟩ := h'.2 j rfl
      rcases Nat.lt_trichotomy i j with hij | hij | hij
      · exact clash c (d' i a hij)
      · rw [hij]
      · exact clash g (d j e hij)

theorem PrevSpec.unique {live b hp hp'} (h : PrevSpec live b hp) (h' : PrevSpec live b hp') : hp = hp' := by
  have clash : ∀ {k : Nat}, live k = true → live k = false → hp = hp' := fun h1 h2 => Bool.noConfusion (h1.symm.trans h2)
  cases hp with
  | none =>
    cases hp' with
    | none => rfl
    | some j =>
      obtain ⟨a, c, _⟩ := h'.2 j rfl
      exact clash c (h.1 rfl j a)
  | some i =>
    obtain ⟨a, c, d⟩ := h.2 i rfl
    cases hp' with
    | none => exact clash c (h'.1 rfl i a)
    | some j =>
      obtain ⟨e, g, d'⟩ := h'.2 j rfl
      rcases Nat.lt_trichotomy i j with hij | hij | hij
      · exact clash g (d j hij e)
      · rw [hij]
      · exact clash c (d' i hij a)

theorem PrevSpec.live {live b p} (hP : PrevSpec live b (some p)) : live p = true ∧ p < b :=
  let ⟨a, b, _⟩ := hP.2 p rfl; ⟨b, a⟩

/-- `PrevSpec` without the claim that `o` itself is live, which is all that the `iterPrev` of a tombstone satisfies. -/
def Below (live : Nat → Bool) (b : Nat) (o : Option Nat) : Prop :=
  (o = none → ∀ k, k < b → live k = false) ∧ ∀ j, o = some j → j < b ∧ ∀ k, j < k → k < b → live k = false

theorem Below.mono {live live' b o} (h : Below live b o) (hd : ∀ k, k < b → live k = false → live' k = false) :
    Below live' b o :=
  ⟨fun ho k hk => hd k hk (h.1 ho k hk), fun j hj =>
    let ⟨a, c⟩ := h.2 j hj
    ⟨a, fun k h1 h2 => hd k h2 (c k h1 h2)⟩⟩

theorem NextSpec.skip_dead {n live b b' o} (h : NextSpec n live b o) (hb : b ≤ b')
    (hd : ∀ k, b ≤ k → k < b' → live k = false) : NextSpec n live b' o :=
  ⟨fun ho k h1 => h.1 ho k (Nat.le_trans hb h1), fun j hj =>
    let ⟨a, a', c, d⟩ := h.2 j hj
    ⟨Nat.le_of_not_lt fun hlt => Bool.noConfusion ((hd j a hlt).symm.trans c), a', c,
      fun k h1 => d k (Nat.le_trans hb h1)⟩⟩

theorem NextSpec.absorb_dead {n live b b' o} (h : NextSpec n live b' o) (hb : b ≤ b')
    (hd : ∀ k, b ≤ k → k < b' → live k = false) : NextSpec n live b o :=
  ⟨fun ho k h1 h2 => (Nat.lt_or_ge k b').elim (hd k h1) (fun h3 => h.1 ho k h3 h2), fun j hj =>
    let ⟨a, a', c, d⟩ := h.2 j hj
    ⟨Nat.le_trans hb a, a', c, fun k h1 h2 => (Nat.lt_or_ge k b').elim (hd k h1) (fun h3 => d k h3 h2)⟩⟩

theorem PrevSpec.skip_dead {live b b' hp} (h : PrevSpec live b hp) (hb : b ≤ b')
    (hd : ∀ k, b ≤ k → k < b' → live k = false) : PrevSpec live b' hp :=
  ⟨fun ho m hm => (Nat.lt_or_ge m b).elim (h.1 ho m) (fun h3 => hd m h3 hm), fun p hp =>
    let ⟨a, c, d⟩ := h.2 p hp
    ⟨Nat.lt_of_lt_of_le a hb, c, fun m h1 h2 => (Nat.lt_or_ge m b).elim (d m h1) (fun h3 => hd m h3 h2)⟩⟩

theorem next_some_iff_prev {n live i e} (hi : live i = true) (hle : live e = true) (he : e < n) :
    NextSpec n live (i + 1) (some e) ↔ PrevSpec live e (some i) := by
  constructor
  · intro h
    obtain ⟨a, _, _, d⟩ := h.2 e rfl
    exact ⟨nofun, fun p hp => by cases hp; exact ⟨a, hi, d⟩⟩
  · intro h
    obtain ⟨a, _, d⟩ := h.2 i rfl
    exact ⟨nofun, fun j hj => by cases hj; exact ⟨a, he, hle, d⟩⟩

theorem head_iff_prev_none {n live e} (hle : live e = true) (he : e < n) :
    NextSpec n live 0 (some e) ↔ PrevSpec live e none := by
  constructor
  · intro h
    exact ⟨fun _ m hm => (h.2 e rfl).2.2.2 m (Nat.zero_le m) hm, nofun⟩
  · intro h
    exact ⟨nofun, fun j hj => by cases hj; exact ⟨Nat.zero_le e, he, hle, fun k _ hk => h.1 rfl k hk⟩⟩

theorem next_none_iff_last {n live i} (hi : live i = true) (hin : i < n) :
    NextSpec n live (i + 1) none ↔ PrevSpec live n (some i) := by
  constructor
  · intro h
    exact ⟨nofun, fun p hp => by cases hp; exact ⟨hin, hi, h.1 rfl⟩⟩
  · intro h
    exact ⟨fun _ => (h.2 i rfl).2.2, nofun⟩

theorem NextSpec.extend {n live live' b o} (h : NextSpec n live b o)
    (e : ∀ k, k < n → live' k = live k) (hn : o = none → live' n = false) : NextSpec (n + 1) live' b o :=
  ⟨fun ho k h1 h2 => (Nat.lt_succ_iff_lt_or_eq.1 h2).elim (fun h3 => (e k h3).trans (h.1 ho k h1 h3))
      (fun h3 => h3 ▸ hn ho), fun j hj =>
    let ⟨a, a', c, d⟩ := h.2 j hj
    ⟨a, Nat.lt_succ_of_lt a', (e j a').trans c, fun k h1 h2 => (e k (Nat.lt_trans h2 a')).trans (d k h1 h2)⟩⟩

theorem NextSpec.extend_last {n live live' b} (h : NextSpec n live b none) (hb : b ≤ n)
    (e : ∀ k, k < n → live' k = live k) (hn : live' n = true) : NextSpec (n + 1) live' b (some n) :=
  ⟨nofun, fun j hj => by
    cases hj
    exact ⟨hb, Nat.lt_succ_self n, hn, fun k h1 h2 => (e k h2).trans (h.1 rfl k h1 h2)⟩⟩

theorem NextSpec.congr {n live live' b o} (h : NextSpec n live b o) (e : ∀ k, k < n → live' k = live k) :
    NextSpec n live' b o :=
  ⟨fun ho k h1 h2 => (e k h2).trans (h.1 ho k h1 h2), fun j hj =>
    let ⟨a, a', c, d⟩ := h.2 j hj
    ⟨a, a', (e j a').trans c, fun k h1 h2 => (e k (Nat.lt_trans h2 a')).trans (d k h1 h2)⟩⟩

theorem PrevSpec.congr {live live' b hp} (h : PrevSpec live b hp) (e : ∀ k, k < b → live' k = live k) :
    PrevSpec live' b hp :=
  ⟨fun ho m hm => (e m hm).trans (h.1 ho m hm), fun p hp =>
    let ⟨a, c, d⟩ := h.2 p hp
    ⟨a, (e p a).trans c, fun m h1 h2 => (e m h2).trans (d m h1 h2)⟩⟩

theorem dead_of_kill {live live' : Nat → Bool} {e : Nat} (hl : ∀ k, live' k = if k = e then false else live k)
    {k : Nat} (hk : live k = false) : live' k = false := by
  rw [hl, hk]
  exact ite_self _

theorem live_of_kill {live live' : Nat → Bool} {e : Nat} (hl : ∀ k, live' k = if k = e then false else live k)
    {k : Nat} (hk : live' k = true) : live k = true := by
  rw [hl] at hk
  split at hk
  · cases hk
  · exact hk

theorem NextSpec.kill_other {n live live' b o e} (h : NextSpec n live b o) (ho : o ≠ some e)
    (hl : ∀ k, live' k = if k = e then false else live k) : NextSpec n live' b o :=
  ⟨fun hn k h1 h2 => dead_of_kill hl (h.1 hn k h1 h2), fun j hj =>
    let ⟨a, a', c, d⟩ := h.2 j hj
    ⟨a, a', by rw [hl, if_neg (fun (hje : j = e) => ho (hje ▸ hj)), c], fun k h1 h2 => dead_of_kill hl (d k h1 h2)⟩⟩

theorem NextSpec.kill_skip {n live live' b o e} (h : NextSpec n live b (some e)) (h2 : NextSpec n live (e + 1) o)
    (hl : ∀ k, live' k = if k = e then false else live k) : NextSpec n live' b o := by
  obtain ⟨hbe, _, _, hd⟩ := h.2 e rfl
  refine (h2.kill_other (fun ho => ?_) hl).absorb_dead (Nat.le_succ_of_le hbe) (fun k h1 h2 => ?_)
  · exact Nat.not_succ_le_self e (h2.2 e ho).1
  · rw [hl]
    split
    · rfl
    · next hke => exact hd k h1 (Nat.lt_of_le_of_ne (Nat.le_of_lt_succ h2) hke)

theorem PrevSpec.kill_other {live live' b hp e} (h : PrevSpec live b hp) (ho : hp ≠ some e)
    (hl : ∀ k, live' k = if k = e then false else live k) : PrevSpec live' b hp :=
  ⟨fun hn m hm => dead_of_kill hl (h.1 hn m hm), fun p hp =>
    let ⟨a, c, d⟩ := h.2 p hp
    ⟨a, by rw [hl, if_neg (fun (hpe : p = e) => ho (hpe ▸ hp)), c], fun m h1 h2 => dead_of_kill hl (d m h1 h2)⟩⟩

theorem PrevSpec.kill_skip {live live' b hp e} (h : PrevSpec live b (some e)) (h2 : PrevSpec live e hp)
    (hl : ∀ k, live' k = if k = e then false else live k) : PrevSpec live' b hp := by
  obtain ⟨heb, _, hd⟩ := h.2 e rfl
  refine (h2.kill_other (fun ho => ?_) hl).skip_dead (Nat.le_of_lt heb) (fun k h1 h2 => ?_)
  · exact Nat.lt_irrefl e (h2.2 e ho).1
  · rw [hl]
    split
    · rfl
    · next hke => exact hd k (Nat.lt_of_le_of_ne h1 (Ne.symm hke)) h2

/-! The insertion-order list (through `iterNext`, from `iterFirst`) and every hash bucket (through `hNext`, from the table
slot) are the same kind of object: a singly linked chain through the live entries, in allocation order. -/

structure Chain (n : Nat) (live : Nat → Bool) (next : Nat → Option Nat) (head : Option Nat) : Prop where
  head : NextSpec n live 0 head
  link : ∀ i, i < n → live i = true → NextSpec n live (i + 1) (next i)

section
variable {n : Nat} {live live' : Nat → Bool} {next next' : Nat → Option Nat} {head head' hp : Option Nat}

theorem Chain.append (C : Chain n live next head) (hP : PrevSpec live n hp)
    (same : ∀ k, k < n → live' k = live k) (new : live' n = true)
    (hn : ∀ i, next' i = if i = n then none else if hp = some i then some n else next i)
    (hh : head' = if hp = none then some n else head) : Chain (n + 1) live' next' head' := by
  constructor
  · rw [hh]
    split
    · next hpn =>
      have : NextSpec n live 0 none := ⟨fun _ k _ hk => (hpn ▸ hP).1 rfl k hk, nofun⟩
      exact this.extend_last (Nat.zero_le n) same new
    · next hpn =>
      -- the chain is not empty, so it has a head
      refine C.head.extend same (fun ho => ?_)
      cases hp with
      | none => exact absurd rfl hpn
      | some p =>
        obtain ⟨a, b⟩ := hP.live
        exact Bool.noConfusion ((C.head.1 ho p (Nat.zero_le p) b).symm.trans a)
  · intro i hi hli
    rw [hn]
    split
    · next hin => rw [hin]; exact ⟨fun _ k h1 h2 => absurd h2 (Nat.not_lt.2 h1), nofun⟩
    · next hin =>
      have hin : i < n := Nat.lt_of_le_of_ne (Nat.le_of_lt_succ hi) hin
      have hli : live i = true := same i hin ▸ hli
      have h := C.link i hin hli
      split
      · next hpi => exact ((next_none_iff_last hli hin).2 (hpi ▸ hP)).extend_last hin same new
      · next hpi =>
        exact h.extend same (fun ho => absurd (hP.unique ((next_none_iff_last hli hin).1 (ho ▸ h))) hpi)

theorem Chain.extend (C : Chain n live next head) (same : ∀ k, k < n → live' k = live k) (new : live' n = false)
    (hn : ∀ i, i < n → live i = true → next' i = next i) : Chain (n + 1) live' next' head := by
  refine ⟨C.head.extend same (fun _ => new), fun i hi hli => ?_⟩
  have hin : i < n := by
    rcases Nat.lt_succ_iff_lt_or_eq.1 hi with h | h
    · exact h
    · rw [h, new] at hli; cases hli
  have hli : live i = true := same i hin ▸ hli
  rw [hn i hin hli]
  exact (C.link i hin hli).extend same (fun _ => new)

theorem Chain.kill (C : Chain n live next head) {e : Nat} (he : e < n) (hle : live e = true) (hP : PrevSpec live e hp)
    (hl : ∀ k, live' k = if k = e then false else live k)
    (hn : ∀ i, next' i = if hp = some i then next e else next i)
    (hh : head' = if hp = none then next e else head) : Chain n live' next' head' := by
  have hN := C.link e he hle
  constructor
  · rw [hh]
    split
    · next hpn => exact ((head_iff_prev_none hle he).2 (hpn ▸ hP)).kill_skip hN hl
    · next hpn =>
      exact C.head.kill_other (fun hte => hpn (hP.unique ((head_iff_prev_none hle he).1 (hte ▸ C.head)))) hl
  · intro i hi hli
    have hli := live_of_kill hl hli
    have h := C.link i hi hli
    rw [hn]
    split
    · next hpi => exact ((next_some_iff_prev hli hle he).2 (hpi ▸ hP)).kill_skip hN hl
    · next hpi =>
      exact h.kill_other (fun hne => hpi (hP.unique ((next_some_iff_prev hli hle he).1 (hne ▸ h)))) hl

theorem Chain.congr (C : Chain n live next head) (hl : ∀ k, k < n → live' k = live k)
    (hn : ∀ i, i < n → live i = true → next' i = next i) : Chain n live' next' head :=
  ⟨C.head.congr hl, fun i hi hli => by
    rw [hl i hi] at hli
    rw [hn i hi hli]
    exact (C.link i hi hli).congr hl⟩

end

/-- `pNone`/`pSome` hold of every entry, dead ones included (they keep their `iterPrev`), so that the `iterPrev` chain
of a dead entry reaches the greatest live entry allocated before it, or nil. -/
structure ListInv (n : Nat) (live : Nat → Bool) (prev next : Nat → Option Nat) (first last : Option Nat) : Prop where
  pNone : ∀ i, i < n → prev i = none → ∀ k, k < i → live k = false
  pSome : ∀ i j, i < n → prev i = some j → j < i ∧ ∀ k, j < k → k < i → live k = false
  pLive : ∀ i j, i < n → live i = true → prev i = some j → live j = true
  nNone : ∀ i, i < n → live i = true → next i = none → ∀ k, i < k → k < n → live k = false
  nSome : ∀ i j, i < n → live i = true → next i = some j →
            i < j ∧ j < n ∧ live j = true ∧ ∀ k, i < k → k < j → live k = false
  fNone : first = none → ∀ k, k < n → live k = false
  fSome : ∀ j, first = some j → j < n ∧ live j = true ∧ ∀ k, k < j → live k = false
  lNone : last = none → ∀ k, k < n → live k = false
  lSome : ∀ j, last = some j → j < n ∧ live j = true ∧ ∀ k, j < k → k < n → live k = false

section
variable {n : Nat} {live : Nat → Bool} {prev next : Nat → Option Nat} {first last : Option Nat}

theorem ListInv.next_spec (I : ListInv n live prev next first last) {i : Nat} (hi : i < n) (hl : live i = true) :
    NextSpec n live (i + 1) (next i) :=
  ⟨fun h k => I.nNone i hi hl h k, fun j h => I.nSome i j hi hl h⟩

theorem ListInv.prev_spec (I : ListInv n live prev next first last) {i : Nat} (hi : i < n) (hl : live i = true) :
    PrevSpec live i (prev i) :=
  ⟨I.pNone i hi, fun j h => let ⟨a, b⟩ := I.pSome i j hi h; ⟨a, I.pLive i j hi hl h, b⟩⟩

theorem ListInv.first_spec (I : ListInv n live prev next first last) : NextSpec n live 0 first :=
  ⟨fun h k _ => I.fNone h k, fun j h => let ⟨a, b, c⟩ := I.fSome j h; ⟨Nat.zero_le j, a, b, fun k _ => c k⟩⟩

theorem ListInv.last_spec (I : ListInv n live prev next first last) : PrevSpec live n last :=
  ⟨I.lNone, I.lSome⟩

theorem ListInv.chain (I : ListInv n live prev next first last) : Chain n live next first :=
  ⟨I.first_spec, fun _ => I.next_spec⟩

theorem ListInv.prev_below (I : ListInv n live prev next first last) {i : Nat} (hi : i < n) : Below live i (prev i) :=
  ⟨I.pNone i hi, fun j => I.pSome i j hi⟩

theorem ListInv.of_specs
    (hT : ∀ i, i < n → live i = false → Below live i (prev i))
    (hP : ∀ i, i < n → live i = true → PrevSpec live i (prev i))
    (hN : ∀ i, i < n → live i = true → NextSpec n live (i + 1) (next i))
    (hF : NextSpec n live 0 first) (hL : PrevSpec live n last) : ListInv n live prev next first last where
  pNone i hi h := by
    cases hl : live i
    · exact (hT i hi hl).1 h
    · exact (hP i hi hl).1 h
  pSome i j hi h := by
    cases hl : live i
    · exact (hT i hi hl).2 j h
    · obtain ⟨a, _, c⟩ := (hP i hi hl).2 j h
      exact ⟨a, c⟩
  pLive i j hi hl h := ((hP i hi hl).2 j h).2.1
  nNone i hi hl h k := (hN i hi hl).1 h k
  nSome i j hi hl h := (hN i hi hl).2 j h
  fNone h k := hF.1 h k (Nat.zero_le k)
  fSome j h := let ⟨_, a, b, c⟩ := hF.2 j h; ⟨a, b, fun k => c k (Nat.zero_le k)⟩
  lNone := hL.1
  lSome := hL.2

theorem ListInv.empty : ListInv 0 (fun _ => false) (fun _ => none) (fun _ => none) none none := by
  constructor <;> simp

end

/-- `set` of a new key: entry `n` is appended behind `last`. -/
theorem ListInv.append {n live prev next first last} (I : ListInv n live prev next first last)
    {live' prev' next' first'}
    (hl : ∀ i, live' i = if i = n then true else live i)
    (hp : ∀ i, prev' i = if i = n then last else prev i)
    (hn : ∀ i, next' i = if i = n then none else if last = some i then some n else next i)
    (hf : first' = match last with | none => some n | some _ => first) :
    ListInv (n + 1) live' prev' next' first' (some n) := by
  have same : ∀ k, k < n → live' k = live k := fun k hk => by rw [hl, if_neg (Nat.ne_of_lt hk)]
  have new : live' n = true := by rw [hl, if_pos rfl]
  have hL := I.last_spec
  have C := I.chain.append hL same new hn (head' := first') (by rw [hf]; cases last <;> rfl)
  refine .of_specs (fun i hi hli => ?_) (fun i hi hli => ?_) C.link C.head
    ⟨nofun, fun p h => by cases h; exact ⟨Nat.lt_succ_self n, new, fun m h1 h2 => absurd h2 (Nat.not_lt.2 h1)⟩⟩
  · have hin : i < n := by
      rcases Nat.lt_succ_iff_lt_or_eq.1 hi with h | h
      · exact h
      · rw [h, new] at hli; cases hli
    rw [hp, if_neg (Nat.ne_of_lt hin)]
    exact (I.prev_below hin).mono (fun k hk h => (same k (Nat.lt_trans hk hin)).trans h)
  · rw [hp]
    split
    · next hin => rw [hin]; exact hL.congr same
    · next hin =>
      have hin : i < n := Nat.lt_of_le_of_ne (Nat.le_of_lt_succ hi) hin
      exact (I.prev_spec hin (same i hin ▸ hli)).congr (fun k hk => same k (Nat.lt_trans hk hin))

/-- Changing `next` of dead entries, or anything about values, is invisible to the invariant. -/
theorem ListInv.congr {n live prev next first last} (I : ListInv n live prev next first last)
    {live' prev' next'}
    (hl : ∀ i, i < n → live' i = live i) (hp : ∀ i, i < n → prev' i = prev i)
    (hn : ∀ i, i < n → live i = true → next' i = next i) :
    ListInv n live' prev' next' first last := by
  have C := I.chain.congr hl hn
  refine .of_specs (fun i hi _ => ?_) (fun i hi hli => ?_) C.link C.head (I.last_spec.congr hl)
  · rw [hp i hi]
    exact (I.prev_below hi).mono (fun k hk h => (hl k (Nat.lt_trans hk hi)).trans h)
  · rw [hp i hi]
    exact (I.prev_spec hi (hl i hi ▸ hli)).congr (fun k hk => hl k (Nat.lt_trans hk hi))

section
variable {n : Nat} {live : Nat → Bool} {prev next : Nat → Option Nat} {first last : Option Nat}

/-- `remove` of live entry `e`: it becomes a tombstone that keeps its own links; its neighbours are relinked. -/
theorem ListInv.kill (I : ListInv n live prev next first last)
    {e : Nat} (he : e < n) (hle : live e = true)
    {live' prev' next' first' last'}
    (hl : ∀ i, live' i = if i = e then false else live i)
    (hn : ∀ i, next' i = if prev e = some i then next e else next i)
    (hp : ∀ i, prev' i = if next e = some i then prev e else prev i)
    (hf : first' = match prev e with | none => next e | some _ => first)
    (hla : last' = match next e with | none => prev e | some _ => last) :
    ListInv n live' prev' next' first' last' := by
  have hP := I.prev_spec he hle
  have hN := I.next_spec he hle
  have C := I.chain.kill he hle hP hl hn (head' := first') (by rw [hf]; cases prev e <;> rfl)
  refine .of_specs (fun i hi hli => ?_) (fun i hi hli => ?_) C.link C.head ?_
  · -- a tombstone is not the successor of `e`, so its `prev` is untouched
    have : prev' i = prev i := by
      rw [hp]
      refine if_neg fun hne => ?_
      obtain ⟨a, _, c, _⟩ := hN.2 i hne
      rw [hl, if_neg (Nat.ne_of_gt a), c] at hli
      cases hli
    rw [this]
    exact (I.prev_below hi).mono (fun k _ => dead_of_kill hl)
  · have hli := live_of_kill hl hli
    have h := I.prev_spec hi hli
    rw [hp]
    split
    · next hne => exact ((next_some_iff_prev hle hli hi).1 (hne ▸ hN)).kill_skip hP hl
    · next hne =>
      exact h.kill_other (fun hpe => hne (hN.unique ((next_some_iff_prev hle hli hi).2 (hpe ▸ h)))) hl
  · rw [hla]
    split
    · next hne => exact ((next_none_iff_last hle he).1 (hne ▸ hN)).kill_skip hP hl
    · next q hne =>
      refine I.last_spec.kill_other (fun hle' => ?_) hl
      have := hN.unique ((next_none_iff_last hle he).2 (hle' ▸ I.last_spec))
      rw [hne] at this
      cases this

end

/-! For every hash value `h` the live entries whose key hashes to `h` form a singly linked list in allocation order:
`table h` is the first one, `hNext` of each is the next one (`set` appends at the end of the chain and new entries have
the greatest index). -/

/-- `hk i = some h` iff entry `i` is live and its key hashes to `h`. -/
def inH (hk : Nat → Option Nat) (h : Nat) : Nat → Bool := fun i => decide (hk i = some h)

structure BucketInv (n : Nat) (hk hn table : Nat → Option Nat) : Prop where
  head : ∀ h, NextSpec n (inH hk h) 0 (table h)
  link : ∀ i h, i < n → hk i = some h → NextSpec n (inH hk h) (i + 1) (hn i)

theorem inH_of_eq {hk : Nat → Option Nat} {i h : Nat} (hki : hk i = some h) : inH hk h i = true :=
  decide_eq_true hki

theorem eq_of_inH {hk : Nat → Option Nat} {i h : Nat} (hi : inH hk h i = true) : hk i = some h :=
  of_decide_eq_true hi

theorem BucketInv.chain {n hk hn table} (B : BucketInv n hk hn table) (h : Nat) : Chain n (inH hk h) hn (table h) :=
  ⟨B.head h, fun i hi hli => B.link i h hi (eq_of_inH hli)⟩

theorem BucketInv.of_chains {n hk hn table} (C : ∀ h, Chain n (inH hk h) hn (table h)) : BucketInv n hk hn table :=
  ⟨fun h => (C h).head, fun i h hi hki => (C h).link i hi (inH_of_eq hki)⟩

theorem BucketInv.empty : BucketInv 0 (fun _ => none) (fun _ => none) (fun _ => none) := by
  constructor <;> simp [NextSpec]

theorem not_inH {hk : Nat → Option Nat} {i h h' : Nat} (hi : inH hk h i = true) (hh : h' ≠ h) : inH hk h' i = false :=
  decide_eq_false fun hki => hh (Option.some.inj ((eq_of_inH hi).symm.trans hki)).symm

/-- `set` of a new key with hash `h`: the new entry `n` goes behind `hPrev`, the last entry of its chain. -/
theorem BucketInv.append {n hk hn table} (B : BucketInv n hk hn table) {h : Nat} {hPrev : Option Nat}
    (hP : PrevSpec (inH hk h) n hPrev)
    {hk' hn' table'}
    (e1 : ∀ i, hk' i = if i = n then some h else hk i)
    (e2 : ∀ i, hn' i = if i = n then none else if hPrev = some i then some n else hn i)
    (e3 : ∀ h', table' h' = if hPrev = none ∧ h' = h then some n else table h') :
    BucketInv (n + 1) hk' hn' table' := by
  have same : ∀ h' k, k < n → inH hk' h' k = inH hk h' k := by
    intro h' k hk; simp [inH, e1, Nat.ne_of_lt hk]
  have atn : ∀ h', inH hk' h' n = decide (h = h') := by
    intro h'; simp [inH, e1]
  refine .of_chains fun h' => ?_
  by_cases hh : h' = h
  · subst hh
    exact (B.chain h').append hP (same h') ((atn h').trans (decide_eq_true rfl)) e2
      ((e3 h').trans (ite_congr (propext (and_iff_left rfl)) (fun _ => rfl) (fun _ => rfl)))
  · rw [e3, if_neg (fun hc => hh hc.2)]
    refine (B.chain h').extend (same h') ((atn h').trans (decide_eq_false (Ne.symm hh))) (fun i hi hli => ?_)
    have : hPrev ≠ some i := fun hpi => Bool.noConfusion ((not_inH (hpi ▸ hP).live.1 hh).symm.trans hli)
    rw [e2, if_neg (Nat.ne_of_lt hi), if_neg this]

theorem BucketInv.kill {n hk hn table} (B : BucketInv n hk hn table) {e h : Nat} {hPrev : Option Nat}
    (he : e < n) (hke : hk e = some h) (hP : PrevSpec (inH hk h) e hPrev)
    {hk' hn' table'}
    (e1 : ∀ i, hk' i = if i = e then none else hk i)
    (e2 : ∀ i, hn' i = if hPrev = some i then hn e else hn i)
    (e3 : ∀ h', table' h' = if hPrev = none ∧ h' = h then hn e else table h') :
    BucketInv n hk' hn' table' := by
  have hle : inH hk h e = true := inH_of_eq hke
  have kl : ∀ h' k, inH hk' h' k = if k = e then false else inH hk h' k := by
    intro h' k; simp only [inH, e1]; split <;> simp
  refine .of_chains fun h' => ?_
  by_cases hh : h' = h
  · subst hh
    exact (B.chain h').kill he hle hP (kl h') e2 ((e3 h').trans (ite_congr (propext (and_iff_left rfl)) (fun _ => rfl) (fun _ => rfl)))
  · -- `e` is not in this chain, and neither is `hPrev`
    rw [e3, if_neg (fun hc => hh hc.2)]
    refine (B.chain h').congr (fun k _ => ?_) (fun i hi hli => ?_)
    · rw [kl]
      split
      · next hke' => rw [hke', not_inH hle hh]
      · rfl
    · have : hPrev ≠ some i := fun hpi => Bool.noConfusion ((not_inH (hpi ▸ hP).live.1 hh).symm.trans hli)
      rw [e2, if_neg this]

theorem BucketInv.congr {n hk hn table} (B : BucketInv n hk hn table) {hk' hn'}
    (e1 : ∀ i, hk' i = hk i) (e2 : ∀ i, i < n → hk i ≠ none → hn' i = hn i) :
    BucketInv n hk' hn' table := by
  obtain ⟨head, link⟩ := B
  have : hk' = hk := funext e1
  subst this
  constructor
  · exact head
  · intro i h' hi hki
    rw [e2 i hi (by simp [hki])]
    exact link i h' hi hki

section
variable {K V : Type}

def liveOf (hp : Nat → Entry K V) : Nat → Bool := fun i => (hp i).key.isSome
def prevOf (hp : Nat → Entry K V) : Nat → Option Nat := fun i => (hp i).iterPrev
def nextOf (hp : Nat → Entry K V) : Nat → Option Nat := fun i => (hp i).iterNext
def hnOf (hp : Nat → Entry K V) : Nat → Option Nat := fun i => (hp i).hNext
def keyOf (hp : Nat → Entry K V) : Nat → Option K := fun i => (hp i).key
def hkOf (hash : K → Nat) (hp : Nat → Entry K V) : Nat → Option Nat := fun i => (hp i).key.map hash

theorem liveOf_some {hp : Nat → Entry K V} {i : Nat} {k : K} (h : (hp i).key = some k) : liveOf hp i = true :=
  congrArg Option.isSome h

theorem liveOf_none {hp : Nat → Entry K V} {i : Nat} (h : (hp i).key = none) : liveOf hp i = false :=
  congrArg Option.isSome h

theorem backWalk_spec {n first last} (hp : Nat → Entry K V)
    (I : ListInv n (liveOf hp) (prevOf hp) (nextOf hp) first last) :
    ∀ fuel o b, b ≤ fuel → b ≤ n → Below (liveOf hp) b o → PrevSpec (liveOf hp) b (backWalk hp fuel o) := by
  intro fuel
  induction fuel with
  | zero => intro o b hb _ _; exact ⟨fun _ m hm => absurd (Nat.lt_of_lt_of_le hm hb) (Nat.not_lt_zero m), nofun⟩
  | succ f ih =>
    intro o b hb hn hB
    cases o with
    | none => exact ⟨fun _ => hB.1 rfl, fun p h => nomatch h⟩
    | some j =>
      obtain ⟨hj, hd⟩ := hB.2 j rfl
      unfold backWalk
      cases hk : (hp j).key with
      | none =>
        have hjn : j < n := Nat.lt_of_lt_of_le hj hn
        have := ih (hp j).iterPrev j (Nat.le_of_lt_succ (Nat.lt_of_lt_of_le hj hb)) (Nat.le_of_lt hjn) (I.prev_below hjn)
        refine this.skip_dead (Nat.le_of_lt hj) (fun k h1 h2 => ?_)
        rcases Nat.eq_or_lt_of_le h1 with h | h
        · exact h ▸ liveOf_none hk
        · exact hd k h h2
      | some k =>
        refine ⟨fun h => (nomatch h), fun p h => ?_⟩
        cases h
        exact ⟨hj, liveOf_some hk, hd⟩

theorem nextTarget_spec {n first last} (hp : Nat → Entry K V)
    (I : ListInv n (liveOf hp) (prevOf hp) (nextOf hp) first last) (c : Nat) (hc : c < n) :
    NextSpec n (liveOf hp) (c + 1) (nextTarget hp first (some c)) := by
  have hb := backWalk_spec hp I (c + 1) (some c) (c + 1) (Nat.le_refl _) hc
    ⟨nofun, fun j h => by cases h; exact ⟨Nat.lt_succ_self _, fun k h1 h2 => absurd h2 (Nat.not_lt.2 h1)⟩⟩
  simp only [nextTarget]
  split
  · next r hr =>
    rw [hr] at hb
    obtain ⟨h1, h2, h3⟩ := hb.2 r rfl
    exact (I.next_spec (Nat.lt_of_le_of_lt (Nat.le_of_lt_succ h1) hc) h2).skip_dead h1 h3
  · next hr =>
    rw [hr] at hb
    exact I.first_spec.skip_dead (Nat.zero_le _) (fun k _ hk => hb.1 rfl k hk)

end

section
variable {K V : Type} [DecidableEq K]

theorem walk_spec (hash : K → Nat) (heap : Nat → Entry K V) (k : K) {n : Nat} {table : Nat → Option Nat}
    (B : BucketInv n (hkOf hash heap) (hnOf heap) table) :
    ∀ fuel o hp b,
      NextSpec n (inH (hkOf hash heap) (hash k)) b o →
      PrevSpec (inH (hkOf hash heap) (hash k)) b hp →
      (∀ m, m < b → (heap m).key ≠ some k) →
      n - b < fuel → b ≤ n →
      (∀ x, (walk heap k fuel o hp).1 = some x →
          x < n ∧ (heap x).key = some k ∧ PrevSpec (inH (hkOf hash heap) (hash k)) x (walk heap k fuel o hp).2) ∧
      ((walk heap k fuel o hp).1 = none →
          (∀ m, m < n → (heap m).key ≠ some k) ∧ PrevSpec (inH (hkOf hash heap) (hash k)) n (walk heap k fuel o hp).2) := by
  intro fuel
  induction fuel with
  | zero => intro o hp b _ _ _ h; exact absurd h (Nat.not_lt_zero _)
  | succ f ih =>
    intro o hp b hN hP hK hf hbn
    -- an entry carrying `k` is in the chain of `hash k`, so `k` is not in the part of the chain already passed
    have passed : ∀ m, inH (hkOf hash heap) (hash k) m = false → (heap m).key ≠ some k := by
      intro m hm hkm
      rw [inH_of_eq (by simp only [hkOf, hkm, Option.map_some])] at hm
      cases hm
    cases o with
    | none =>
      refine ⟨fun x hx => (nomatch hx), fun _ => ⟨fun m hm => ?_, hP.skip_dead hbn (hN.1 rfl)⟩⟩
      rcases Nat.lt_or_ge m b with hmb | hmb
      · exact hK m hmb
      · exact passed m (hN.1 rfl m hmb hm)
    | some j =>
      obtain ⟨hj1, hj2, hj3, hj4⟩ := hN.2 j rfl
      unfold walk
      split
      · next hkj =>
        refine ⟨fun x hx => ?_, fun h => nomatch h⟩
        cases hx
        exact ⟨hj2, hkj, hP.skip_dead hj1 hj4⟩
      · next hkj =>
        refine ih (heap j).hNext (some j) (j + 1) (B.link j (hash k) hj2 (eq_of_inH hj3))
          ⟨fun h => (nomatch h), fun p h => ?_⟩ (fun m hm => ?_) (by omega) hj2
        · cases h
          exact ⟨Nat.lt_succ_self _, hj3, fun m h1 h2 => absurd h2 (Nat.not_lt.2 h1)⟩
        · rcases Nat.lt_or_ge m b with hmb | hmb
          · exact hK m hmb
          · rcases Nat.eq_or_lt_of_le (Nat.le_of_lt_succ hm) with h | h
            · exact h ▸ hkj
            · exact passed m (hj4 m hmb h)

end

end GojaModel.C18
