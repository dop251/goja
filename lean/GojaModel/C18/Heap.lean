/-
  C18 — what the setters and the code after `lookup` (`setWith`, `removeWith`, the loop of `clear`) do to the heap, entry by
  entry: one equation per field, all link shapes at once.  No invariant is involved.
-/
import GojaModel.C18.Model

namespace GojaModel.C18

section
variable {K V : Type}

@[simp] theorem setHNext_apply (hp : Nat → Entry K V) (i : Nat) (v : Option Nat) (j : Nat) :
    setHNext hp i v j = { hp j with hNext := if j = i then v else (hp j).hNext } := by
  unfold setHNext; split <;> rfl

@[simp] theorem setIterNext_apply (hp : Nat → Entry K V) (i : Nat) (v : Option Nat) (j : Nat) :
    setIterNext hp i v j = { hp j with iterNext := if j = i then v else (hp j).iterNext } := by
  unfold setIterNext; split <;> rfl

@[simp] theorem setIterPrev_apply (hp : Nat → Entry K V) (i : Nat) (v : Option Nat) (j : Nat) :
    setIterPrev hp i v j = { hp j with iterPrev := if j = i then v else (hp j).iterPrev } := by
  unfold setIterPrev; split <;> rfl

@[simp] theorem setVal_apply (hp : Nat → Entry K V) (i : Nat) (v : Option V) (j : Nat) :
    setVal hp i v j = { hp j with val := if j = i then v else (hp j).val } := by
  unfold setVal; split <;> rfl

@[simp] theorem setKV_apply (hp : Nat → Entry K V) (i : Nat) (k : Option K) (v : Option V) (j : Nat) :
    setKV hp i k v j =
      { hp j with key := if j = i then k else (hp j).key, val := if j = i then v else (hp j).val } := by
  unfold setKV; split <;> rfl

@[simp] theorem upd_apply {α : Type} (f : Nat → α) (i : Nat) (a : α) (j : Nat) : upd f i a j = if j = i then a else f j := rfl

end

section
variable {K V : Type}

/-- The setters test `j = i`, the statements about the model test `o = some j`. -/
theorem if_some_eq {α : Type} (i p : Nat) (a b : α) : (if some p = some i then a else b) = if i = p then a else b := by
  by_cases h : i = p
  · rw [if_pos h, if_pos (h ▸ rfl)]
  · rw [if_neg h, if_neg (fun h' => h (Option.some.inj h').symm)]

theorem ite_else_same {α : Type} (c : Prop) [Decidable c] (a b x : α) :
    (if c then a else if c then b else x) = if c then a else x := by
  by_cases h : c
  · rw [if_pos h, if_pos h]
  · rw [if_neg h, if_neg h, if_neg h]

theorem ite_swap {α : Type} {c d : Prop} [Decidable c] [Decidable d] (h : c → ¬d) (a b x : α) :
    (if c then a else if d then b else x) = if d then b else if c then a else x := by
  by_cases hc : c
  · rw [if_pos hc, if_neg (h hc), if_pos hc]
  · rw [if_neg hc, if_neg hc]

/-- Allocation of the new entry (map.go:44). -/
theorem upd_new_apply (hp : Nat → Entry K V) (x : Nat) (k : K) (v : Option V) (j : Nat) :
    upd hp x { key := some k, val := v } j =
      { key := if j = x then some k else (hp j).key
        val := if j = x then v else (hp j).val
        iterPrev := if j = x then none else (hp j).iterPrev
        iterNext := if j = x then none else (hp j).iterNext
        hNext := if j = x then none else (hp j).hNext } := by
  unfold upd; split <;> rfl

theorem setWith_none_heap (h : Nat) (hPrev : Option Nat) (m : OMap K V) (key : K) (v : Option V) (i : Nat) :
    (setWith (h, none, hPrev) m key v).heap i =
      { key := if i = m.n then some key else (m.heap i).key
        val := if i = m.n then v else (m.heap i).val
        iterPrev := if i = m.n then m.iterLast else (m.heap i).iterPrev
        iterNext := if m.iterLast = some i then some m.n else if i = m.n then none else (m.heap i).iterNext
        hNext := if hPrev = some i then some m.n else if i = m.n then none else (m.heap i).hNext } := by
  cases hPrev <;> cases hl : m.iterLast <;>
    simp only [setWith, hl, setIterNext_apply, setIterPrev_apply, setHNext_apply, upd_new_apply, if_some_eq,
      ite_else_same, reduceCtorEq, if_false]

section
variable (h : Nat) (hPrev : Option Nat) (m : OMap K V) (key : K) (v : Option V)

theorem setWith_none_n : (setWith (h, none, hPrev) m key v).n = m.n + 1 := by
  obtain ⟨_, _, _, _, last, _⟩ := m
  cases hPrev <;> cases last <;> rfl

theorem setWith_none_size : (setWith (h, none, hPrev) m key v).size = m.size + 1 := by
  obtain ⟨_, _, _, _, last, _⟩ := m
  cases hPrev <;> cases last <;> rfl

theorem setWith_none_iterLast : (setWith (h, none, hPrev) m key v).iterLast = some m.n := by
  obtain ⟨_, _, _, _, last, _⟩ := m
  cases hPrev <;> cases last <;> rfl

theorem setWith_none_iterFirst :
    (setWith (h, none, hPrev) m key v).iterFirst = match m.iterLast with | none => some m.n | some _ => m.iterFirst := by
  obtain ⟨_, _, _, _, last, _⟩ := m
  cases hPrev <;> cases last <;> rfl

theorem setWith_none_table (h' : Nat) :
    (setWith (h, none, hPrev) m key v).table h' = if hPrev = none ∧ h' = h then some m.n else m.table h' := by
  cases hPrev <;> cases hl : m.iterLast <;>
    simp only [setWith, hl, upd_apply, true_and, reduceCtorEq, false_and, if_false]

end

theorem removeWith_some_heap (h e : Nat) (hPrev : Option Nat) (m : OMap K V) (i : Nat) :
    (removeWith (h, some e, hPrev) m).1.heap i =
      { key := if i = e then none else (m.heap i).key
        val := if i = e then none else (m.heap i).val
        iterPrev := if (m.heap e).iterNext = some i then (m.heap e).iterPrev else (m.heap i).iterPrev
        iterNext := if (m.heap e).iterPrev = some i then (m.heap e).iterNext else (m.heap i).iterNext
        hNext := if hPrev = some i then (m.heap e).hNext else (m.heap i).hNext } := by
  cases hPrev <;> cases hp : (m.heap e).iterPrev <;> cases hq : (m.heap e).iterNext <;>
    simp only [removeWith, hp, hq, setIterNext_apply, setIterPrev_apply, setHNext_apply, setKV_apply, if_some_eq,
      reduceCtorEq, if_false]

section
variable (h e : Nat) (hPrev : Option Nat) (m : OMap K V)

theorem removeWith_some_iterFirst : (removeWith (h, some e, hPrev) m).1.iterFirst =
    match (m.heap e).iterPrev with | none => (m.heap e).iterNext | some _ => m.iterFirst := by
  simp only [removeWith]
  cases (m.heap e).iterPrev <;> rfl

theorem removeWith_some_iterLast : (removeWith (h, some e, hPrev) m).1.iterLast =
    match (m.heap e).iterNext with | none => (m.heap e).iterPrev | some _ => m.iterLast := by
  simp only [removeWith]
  cases (m.heap e).iterNext <;> rfl

theorem removeWith_some_table (h' : Nat) : (removeWith (h, some e, hPrev) m).1.table h' =
    if hPrev = none ∧ h' = h then (m.heap e).hNext else m.table h' := by
  cases hPrev <;> simp only [removeWith, upd_apply, true_and, reduceCtorEq, false_and, if_false]

end

theorem setWith_n_le (r : Nat × Option Nat × Option Nat) (m : OMap K V) (key : K) (v : Option V) :
    m.n ≤ (setWith r m key v).n := by
  obtain ⟨h, e, hPrev⟩ := r
  cases e with
  | some e => exact Nat.le_refl _
  | none => rw [setWith_none_n]; exact Nat.le_succ _

theorem removeWith_n (r : Nat × Option Nat × Option Nat) (m : OMap K V) : (removeWith r m).1.n = m.n := by
  obtain ⟨h, e, hPrev⟩ := r
  cases e <;> rfl

theorem clearBody_heap (heap : Nat → Entry K V) (j i : Nat) :
    clearBody heap j i =
      { key := if i = j then none else (heap i).key
        val := if i = j then none else (heap i).val
        iterPrev := (heap i).iterPrev
        iterNext := if (heap j).iterPrev = some i then none else (heap i).iterNext
        hNext := (heap i).hNext } := by
  cases hp : (heap j).iterPrev <;>
    simp only [clearBody, hp, setIterNext_apply, setKV_apply, if_some_eq, reduceCtorEq, if_false]

theorem clearWalk_prev : ∀ (fuel : Nat) (heap : Nat → Entry K V) (item : Option Nat) (i : Nat),
    (clearWalk fuel heap item i).iterPrev = (heap i).iterPrev := by
  intro fuel
  induction fuel with
  | zero => intro heap item i; rfl
  | succ f ih =>
    intro heap item i
    cases item with
    | none => rfl
    | some j =>
      unfold clearWalk
      rw [ih, clearBody_heap]

end
end GojaModel.C18
