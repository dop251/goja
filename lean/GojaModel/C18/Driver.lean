/-
  C18 model driver: one case per line
      <mode> <pool> <op> <op> ...
  pool element = <rep>/<hash>/<repr> (repr ignored here).  Keys are pool indices, `norm` = class representative,
  `hash` = the number given for the representative.  Output: one token per op
      <mechanism result>@<dump of the mechanism state>@<spec result>
-/
import GojaModel.Base.Proto
import GojaModel.C18.Model
import GojaModel.C18.SymIter

namespace GojaModel.C18.Driver
open GojaModel.C18

structure St where
  sys : Sys Nat Nat := {}
  ssys : SpecSys Nat Nat := {}
  slots : List (Option Nat) := [none, none, none, none]
  /-- Object.assign-style snapshot iterators (kind `a`): `none` = slot is not of that kind, `some none` = created but
  not started (the snapshot is taken when the copy starts), `some (some (mechanism keys, spec keys))`. -/
  aslots : List (Option (Option (List Nat × List Nat))) := [none, none, none, none]

def optNat (o : Option Nat) : String := match o with | some i => toString i | none => "-"

def showKey (k : Option Nat) : String := match k with | some k => "K" ++ toString k | none => "x"
def showVal (v : Option Nat) : String := match v with | some v => "v" ++ toString v | none => "-"

def showRes : Res Nat Nat → String
  | .unit => "ok"
  | .val (some v) => "v" ++ toString v
  | .val none => "u"
  | .bool true => "t"
  | .bool false => "f"
  | .nat n => "n" ++ toString n
  | .entry _ k v => showKey k ++ ":" ++ showVal v
  | .done => "done"
  | .noiter => "err:noiter"

def insertSorted (x : Nat) : List Nat → List Nat
  | [] => [x]
  | y :: ys => if x < y then x :: y :: ys else if x = y then y :: ys else y :: insertSorted x ys

def dump (hashes : List Nat) (m : OMap Nat Nat) : String :=
  let heads := hashes.foldl (fun acc h => match m.table h with | some i => insertSorted i acc | none => acc) []
  let ents := (List.range m.n).map (fun i =>
    let e := m.heap i
    showKey e.key ++ "~" ++ optNat e.iterPrev ++ "~" ++ optNat e.iterNext ++ "~" ++ optNat e.hNext)
  "sz=" ++ toString m.size ++ ",F=" ++ optNat m.iterFirst ++ ",L=" ++ optNat m.iterLast ++
  ",T=" ++ ".".intercalate (heads.map toString) ++ ",E=" ++ "_".intercalate ents

/-- Mechanism-side "list everything": a fresh iterator driven to exhaustion (what `export` does). -/
def listAllMech (m : OMap Nat Nat) : Nat → Iter → List String → List String
  | 0, _, acc => acc.reverse
  | f + 1, it, acc =>
    match next m it with
    | (it', some c) => listAllMech m f it' ((showKey (m.heap c).key ++ ":" ++ showVal (m.heap c).val) :: acc)
    | (_, none) => acc.reverse

def listAllSpec (d : MapData Nat Nat) : List String :=
  d.filterMap (fun c => c.map (fun (k, v) => showKey (some k) ++ ":" ++ showVal v))

def parsePool (s : String) : List (Nat × Nat) :=
  (s.splitOn ",").map (fun el =>
    match el.splitOn "/" with
    | r :: h :: _ => (r.toNat?.getD 0, h.toNat?.getD 0)
    | _ => (0, 0))

def stepBoth (norm : Nat → Nat) (hash : Nat → Nat) (st : St) (o : Op Nat Nat) : St × String × String :=
  let r := st.sys.step norm hash o
  let s := st.ssys.step norm o
  ({ st with sys := r.1, ssys := s.1 }, showRes r.2, showRes s.2)

def runOp (setMode : Bool) (norm hash : Nat → Nat) (st : St) (tok : String) : St × String × String :=
  let c := tok.front
  let rest := (tok.drop 1).toString
  let err : St × String × String := (st, "err:parse", "err:parse")
  match c with
  | 's' => match rest.splitOn "." with
    | [k, v] => match k.toNat?, v.toNat? with
      | some k, some v => stepBoth norm hash st (.set k (if setMode then none else some v))
      | _, _ => err
    | _ => err
  | 'g' => match rest.toNat? with | some k => stepBoth norm hash st (.get k) | none => err
  | 'h' => match rest.toNat? with | some k => stepBoth norm hash st (.has k) | none => err
  | 'd' => match rest.toNat? with | some k => stepBoth norm hash st (.delete k) | none => err
  | 'c' => stepBoth norm hash st .clear
  | 'z' => stepBoth norm hash st .size
  | 'i' => match (rest.take 1).toString.toNat? with
    | some j =>
      if (rest.drop 1).toString == "a" then
        ({ st with aslots := st.aslots.set j (some none) }, "ok", "ok")
      else
      let st := { st with aslots := st.aslots.set j none }
      let idx := st.sys.iters.length
      let (st', a, b) := stepBoth norm hash st .newIter
      ({ st' with slots := st'.slots.set j (some idx) }, a, b)
    | none => err
  | 'n' => match rest.toNat? with
    | some j =>
      match st.aslots[j]? with
      | some (some a) =>
        let (mk, sk) := match a with
          | none => ((symIterNew st.sys.m).keys, Spec.ownKeys st.ssys.d)     -- object.go:1307 iterateSymbols
          | some p => p
        let (it', r) := symIterNext norm hash st.sys.m mk
        let (sk', rs) := Spec.assignNext norm st.ssys.d sk
        let sh : Option (Nat × Nat) → String := fun x => match x with
          | some (k, v) => "K" ++ toString k ++ ":v" ++ toString v
          | none => "done"
        ({ st with aslots := st.aslots.set j (some (some (it'.keys, sk'))) }, sh r, sh rs)
      | _ =>
      match st.slots[j]? with
      | some (some idx) => stepBoth norm hash st (.next idx)
      | _ => (st, "err:noiter", "err:noiter")
    | none => err
  | 'x' => match rest.toNat? with
    | some j => match st.slots[j]? with
      | some (some idx) => stepBoth norm hash st (.close idx)
      | _ => (st, "err:noiter", "err:noiter")
    | none => err
  | 'e' =>
    let a := "[" ++ "|".intercalate (listAllMech st.sys.m (st.sys.m.n + 2) newIter []) ++ "]"
    let b := "[" ++ "|".intercalate (listAllSpec st.ssys.d) ++ "]"
    (st, a, b)
  | _ => err

def runLine (line : String) : String :=
  match Proto.words line with
  | "ping" :: _ => "pong"
  | mode :: pool :: ops =>
    let pl := parsePool pool
    let norm : Nat → Nat := fun k => match pl[k]? with | some (r, _) => r | none => k
    let hash : Nat → Nat := fun k => match pl[k]? with | some (_, h) => h | none => 0
    let hashes := pl.map (·.2)
    let setMode := mode == "set"
    let (_, outs) := ops.foldl (fun (acc : St × List String) tok =>
      let (st, outs) := acc
      let (st', a, b) := runOp setMode norm hash st tok
      (st', (a ++ "@" ++ dump hashes st'.sys.m ++ "@" ++ b) :: outs)) (({} : St), [])
    " ".intercalate outs.reverse
  | _ => "ERR malformed"

def main : IO Unit := Proto.lineMap runLine

end GojaModel.C18.Driver
