/-
  C18 — lemmas about full iteration (`drain`) and the snapshot iterator of symbol keys.
-/
import GojaModel.C18.Refine
import GojaModel.C18.SymIter

namespace GojaModel.C18
section
variable {K V : Type}

/-- The entries that `fuel` successive calls of `next` return, starting from `it`. -/
def visit (m : OMap K V) : Nat → Iter → List Nat
  | 0, _ => []
  | f + 1, it =>
    match next m it with
    | (it', some c) => c :: visit m f it'
    | (_, none) => []

theorem drain_eq_visit (m : OMap K V) : ∀ fuel it,
    drain m fuel it = (visit m fuel it).filterMap (fun c => (m.heap c).key) := by
  intro fuel
  induction fuel with
  | zero => intro it; rfl
  | succ f ih =>
    intro it
    simp only [drain, visit]
    cases next m it with
    | mk it' r =>
      cases r with
      | none => rfl
      | some c =>
        simp only [List.filterMap_cons, ih]
        cases (m.heap c).key <;> rfl

/-- The live entries from `b` on, in allocation order. -/
def liveFrom (m : OMap K V) (b : Nat) : List Nat := (List.range' b (m.n - b)).filter (liveOf m.heap)

theorem liveFrom_nil {m : OMap K V} {b : Nat} (h : NextSpec m.n (liveOf m.heap) b none) : liveFrom m b = [] :=
  List.filter_eq_nil_iff.2 fun k hk => by
    obtain ⟨h1, h2⟩ := List.mem_range'_1.1 hk
    rw [h.1 rfl k h1 (by omega)]
    exact Bool.false_ne_true

theorem liveFrom_cons {m : OMap K V} {b c : Nat} (h : NextSpec m.n (liveOf m.heap) b (some c)) :
    liveFrom m b = c :: liveFrom m (c + 1) := by
  obtain ⟨h1, h2, h3, h4⟩ := h.2 c rfl
  unfold liveFrom
  rw [show m.n - b = (c - b) + ((m.n - (c + 1)) + 1) by omega, ← List.range'_append_1, List.filter_append,
    show b + (c - b) = c by omega, List.range'_succ, List.filter_cons_of_pos h3]
  refine (congrArg (· ++ _) (List.filter_eq_nil_iff.2 fun k hk => ?_)).trans (List.nil_append _)
  obtain ⟨k1, k2⟩ := List.mem_range'_1.1 hk
  rw [h4 k k1 (by omega)]
  exact Bool.false_ne_true

theorem filterMap_liveFrom {β : Type} (m : OMap K V) (g : Entry K V → Option β) (hg : ∀ e, e.key = none → g e = none) :
    (liveFrom m 0).filterMap (fun c => g (m.heap c)) = (List.range m.n).filterMap (fun c => g (m.heap c)) := by
  rw [liveFrom, Nat.sub_zero, ← List.range_eq_range', List.filterMap_filter]
  congr 1
  funext c
  split
  · rfl
  · next hc => exact (hg _ (Option.not_isSome_iff_eq_none.1 hc)).symm

theorem length_liveFrom (m : OMap K V) : (liveFrom m 0).length = liveCount (liveOf m.heap) m.n := by
  rw [liveFrom, Nat.sub_zero, ← List.range_eq_range', ← List.countP_eq_length_filter, liveCount_eq_countP]

theorem ownKeys_abs (m : OMap K V) : Spec.ownKeys (abs m) = (List.range m.n).filterMap (fun c => (m.heap c).key) := by
  simp only [Spec.ownKeys, abs, List.filterMap_map]
  congr 1
  funext i
  simp only [Function.comp, cellOf]
  cases (m.heap i).key <;> rfl

theorem LInv.visit_spec {m : OMap K V} (L : LInv m) : ∀ fuel (it : Iter), IterWf m it → it.closed = false →
    visit m fuel it = (liveFrom m (absIter it).index).take fuel := by
  intro fuel
  induction fuel with
  | zero => intro it _ _; rfl
  | succ f ih =>
    intro it hw ho
    obtain ⟨hN, hS⟩ := L.next_least it hw ho
    simp only [visit]
    cases hr : (next m it).2 with
    | none =>
      rw [show next m it = ((next m it).1, none) from Prod.ext rfl hr, liveFrom_nil (hr ▸ hN)]
      rfl
    | some c =>
      rw [show next m it = ({ closed := false, cur := some c }, some c) from Prod.ext (hS c hr) hr,
        liveFrom_cons (hr ▸ hN), List.take_succ_cons]
      have hc := ((hr ▸ hN : NextSpec _ _ _ (some c)).2 c rfl).2.1
      exact congrArg (c :: ·) (ih _ (fun x hx => by cases hx; exact hc) rfl)

theorem LInv.visit_newIter {m : OMap K V} (L : LInv m) (fuel : Nat) :
    visit m fuel newIter = (liveFrom m 0).take fuel :=
  L.visit_spec fuel newIter (fun _ hc => nomatch hc) rfl

theorem LInv.visit_all {m : OMap K V} (L : LInv m) : visit m (m.n + 1) newIter = liveFrom m 0 := by
  rw [L.visit_newIter, List.take_of_length_le]
  exact Nat.le_succ_of_le (Nat.le_trans (List.length_filter_le ..) (by rw [List.length_range']; omega))

theorem symbolsAll_spec {m : OMap K V} (L : LInv m)
    (uniq : ∀ i j k, i < m.n → j < m.n → (m.heap i).key = some k → (m.heap j).key = some k → i = j) :
    symbolsAll m = Spec.ownKeys (abs m) ∧ (symbolsAll m).Nodup := by
  have h : symbolsAll m = Spec.ownKeys (abs m) := by
    rw [symbolsAll, drain_eq_visit, L.visit_all, filterMap_liveFrom m _ (fun _ h => h), ownKeys_abs]
  refine ⟨h, ?_⟩
  rw [h, ownKeys_abs]
  refine (List.Pairwise.and_mem.1 List.nodup_range).filterMap _ (fun a a' haa b hb b' hb' hbb => ?_)
  exact haa.2.2 (uniq a a' b (List.mem_range.1 haa.1) (List.mem_range.1 haa.2.1) hb (hbb ▸ hb'))

theorem LInv.export_spec {m : OMap K V} (L : LInv m) : drain m m.size newIter = Spec.ownKeys (abs m) := by
  rw [drain_eq_visit, L.visit_newIter,
    List.take_of_length_le (by rw [length_liveFrom, L.size]; exact Nat.le_refl _),
    filterMap_liveFrom m _ (fun _ h => h), ownKeys_abs]

end

section
variable {K V : Type} [DecidableEq K] (norm : K → K) (hash : K → Nat)

theorem symIterNext_refines {m : OMap K V} (I : Inv norm hash m) (hnorm : ∀ k, norm (norm k) = norm k) :
    ∀ ks, (symIterNext norm hash m ks).1.keys = (Spec.assignNext norm (abs m) ks).1 ∧
          (symIterNext norm hash m ks).2 = (Spec.assignNext norm (abs m) ks).2 := by
  intro ks
  induction ks with
  | nil => exact ⟨rfl, rfl⟩
  | cons k rest ih =>
    simp only [symIterNext, Spec.assignNext, get_refines norm hash I hnorm k]
    cases Spec.get norm (abs m) k with
    | none => exact ih
    | some v => exact ⟨rfl, rfl⟩

theorem symIterNext_spec (m : OMap K V) : ∀ ks, ∃ skipped,
    (∀ s, s ∈ skipped → get norm hash m s = none) ∧
    (match (symIterNext norm hash m ks).2 with
     | some (k, v) => ks = skipped ++ k :: (symIterNext norm hash m ks).1.keys ∧ get norm hash m k = some v
     | none => ks = skipped ∧ (symIterNext norm hash m ks).1.keys = []) := by
  intro ks
  induction ks with
  | nil => exact ⟨[], fun s h => by simp at h, by simp [symIterNext]⟩
  | cons k rest ih =>
    simp only [symIterNext]
    cases hg : get norm hash m k with
    | some v => exact ⟨[], fun s h => by simp at h, by simp [hg]⟩
    | none =>
      obtain ⟨sk, h1, h2⟩ := ih
      refine ⟨k :: sk, ?_, ?_⟩
      · intro s hs
        simp only [List.mem_cons] at hs
        rcases hs with hs | hs
        · rw [hs]; exact hg
        · exact h1 s hs
      · simp only
        cases hr : (symIterNext norm hash m rest).2 with
        | none => rw [hr] at h2; simp only at h2 ⊢; exact ⟨congrArg (List.cons k) h2.1, h2.2⟩
        | some kv =>
          obtain ⟨k', v'⟩ := kv
          rw [hr] at h2; simp only at h2 ⊢
          exact ⟨congrArg (List.cons k) h2.1, h2.2⟩

/-- Keys visited by successive `next()` calls, the i-th call seeing the (arbitrary) state `ms[i]`. -/
def symYields : List K → List (OMap K V) → List K
  | _, [] => []
  | ks, m :: ms =>
    match symIterNext norm hash m ks with
    | (it', some (k, _)) => k :: symYields it'.keys ms
    | (_, none) => []

theorem symYields_sublist : ∀ (ms : List (OMap K V)) (ks : List K), (symYields norm hash ks ms).Sublist ks := by
  intro ms
  induction ms with
  | nil => intro ks; simp [symYields]
  | cons m ms ih =>
    intro ks
    obtain ⟨sk, _, h2⟩ := symIterNext_spec norm hash m ks
    simp only [symYields]
    cases hr : symIterNext norm hash m ks with
    | mk it' r =>
      cases r with
      | none => simp
      | some kv =>
        obtain ⟨k, v⟩ := kv
        rw [hr] at h2; simp only at h2
        simp only
        rw [h2.1]
        exact ((ih it'.keys).cons_cons k).trans (List.sublist_append_right sk _)

end
end GojaModel.C18
