/-
  C18 — which REPRESENTATION of a key is stored and handed back.  `RSpec` is ECMA-262 §24.1 [[MapData]] over key
  representations: a record is found when its key is in the SameValueZero class of the probe (`f k' = f (norm k)`);
  `set` on an existing key replaces the VALUE only — the record keeps its key object and its position — and a new key is
  appended after the −0 ↦ +0 step (`norm`).  The representation-keyed structure of Concrete.lean refines it EXACTLY
  (no reading through classes): every result, including the key objects returned by iterators, is the spec's.
-/
import GojaModel.C18.Model

namespace GojaModel.C18
section
variable {K K' V : Type} [DecidableEq K'] (norm : K → K) (f : K → K')

/-- `p.[[Key]] is not empty and SameValueZero(p.[[Key]], key)` on representations. -/
def rmatch (k : K) : Cell K V → Bool
  | some (k', _) => decide (f k' = f (norm k))
  | none => false

namespace RSpec

def find (d : MapData K V) (k : K) : Option Nat := d.findIdx? (rmatch norm f k)

/-- Map.prototype.set §24.1.3.9: step 4.a.i `Set p.[[Value]] to value` (key and position stay), step 5 `-0 → +0`,
step 6 append. -/
def set (d : MapData K V) (k : K) (v : Option V) : MapData K V :=
  match find norm f d k with
  | some i => match d[i]? with
    | some (some (k', _)) => d.set i (some (k', v))
    | _ => d
  | none => d ++ [some (norm k, v)]

def get (d : MapData K V) (k : K) : Option V :=
  match find norm f d k with
  | some i => match d[i]? with
    | some (some (_, v)) => v
    | _ => none
  | none => none

def has (d : MapData K V) (k : K) : Bool := (find norm f d k).isSome

def delete (d : MapData K V) (k : K) : MapData K V × Bool :=
  match find norm f d k with
  | some i => (d.set i none, true)
  | none => (d, false)

end RSpec

variable {norm f} in
/-- The record found is not empty, so the inner fallback branches of `set` and `get` are never taken. -/
theorem RSpec.find_some {d : MapData K V} {k : K} {i : Nat} (h : RSpec.find norm f d k = some i) :
    ∃ k' w, d[i]? = some (some (k', w)) ∧ f k' = f (norm k) := by
  obtain ⟨hi, hm, _⟩ := List.findIdx?_eq_some_iff_getElem.1 h
  rw [List.getElem?_eq_getElem hi]
  cases hc : d[i] with
  | none => rw [hc] at hm; cases hm
  | some p => rw [hc] at hm; exact ⟨p.1, p.2, rfl, of_decide_eq_true hm⟩

/-- The representation-level spec system (iterators, clear and size do not look at keys: `Spec.next/clear/size`). -/
def SpecSys.stepR (s : SpecSys K V) : Op K V → SpecSys K V × Res K V
  | .set k v => ({ s with d := RSpec.set norm f s.d k v }, .unit)
  | .get k => (s, .val (RSpec.get norm f s.d k))
  | .has k => (s, .bool (RSpec.has norm f s.d k))
  | .delete k => let r := RSpec.delete norm f s.d k; ({ s with d := r.1 }, .bool r.2)
  | .clear => ({ s with d := Spec.clear s.d }, .unit)
  | .size => (s, .nat (Spec.size s.d))
  | .newIter => ({ s with iters := s.iters ++ [{}] }, .unit)
  | .next j => match s.iters[j]? with
    | none => (s, .noiter)
    | some it =>
      let r := Spec.next s.d it
      ({ s with iters := s.iters.set j r.1 },
        match r.2 with
        | some c => match s.d[c]? with
          | some (some (k, v)) => .entry c (some k) v
          | _ => .entry c none none
        | none => .done)
  | .close j => match s.iters[j]? with
    | none => (s, .noiter)
    | some _ => ({ s with iters := s.iters.set j { done := true, index := 0 } }, .unit)

def SpecSys.runR (s : SpecSys K V) : List (Op K V) → SpecSys K V × List (Res K V)
  | [] => (s, [])
  | o :: os =>
    let r := s.stepR norm f o
    let rs := SpecSys.runR r.1 os
    (rs.1, r.2 :: rs.2)

end
end GojaModel.C18
