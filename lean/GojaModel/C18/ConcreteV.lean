/-
  C18 — the instance of the second-level refinement: goja's values (`Key`), `sameAsK`, `normKeyK`, `hashK`, read through
  `cls`, satisfy `Bridge`.
-/
import GojaModel.C18.ConcreteL
import GojaModel.C18.Values

namespace GojaModel.C18
open GojaModel

theorem normKey_idem (a : Num) : Num.normKey (Num.normKey a) = Num.normKey a := by
  cases a with
  | int i => rfl
  | flt f =>
    simp only [Num.normKey]
    by_cases hz : f.isZero = true
    · simp [hz]
    · simp [hz]

theorem normKeyK_idem (k : Key) : normKeyK (normKeyK k) = normKeyK k := by
  cases k <;> simp [normKeyK, normKey_idem]

theorem wf_normKeyK {k : Key} (h : k.WF) : (normKeyK k).WF := by
  cases k <;> simp [normKeyK, Key.WF] at *
  · exact C05.canon_normKey h
  · exact h

theorem cls_normKeyK (k : Key) : cls (normKeyK k) = cls k := by
  cases k <;> simp [normKeyK, cls, normKey_idem]

/-- The keys that `set` writes into an entry. -/
def Storable (k : Key) : Prop := k.WF ∧ normKeyK k = k

theorem keyBridge (mh : List UInt8 → Nat) (ph : Nat → Nat) (hashC : KeyClass → Nat)
    (hh : ∀ a : Key, a.WF → hashK mh ph (normKeyK a) = hashC (cls a)) :
    Bridge sameAsK normKeyK (hashK mh ph) cls hashC Storable Key.WF := by
  constructor
  · intro k hk; exact ⟨wf_normKeyK hk, normKeyK_idem k⟩
  · intro k' k hs hk
    have h1 := sameAs_norm_eq_svz' hs.1 hk
    rw [hs.2] at h1
    rw [h1, cls_normKeyK]
    exact Bool.eq_iff_iff.2 (by simpa using (cls_eq_iff_svz' hs.1 hk).symm)
  · intro k hk
    rw [hh k hk, cls_normKeyK]

end GojaModel.C18
