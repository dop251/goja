/-
  C18 — whole-system simulation: one map, any number of iterators, any interleaving of operations.  `SimOver.run` is
  proved once, for the representation-keyed structure (`stepE`) against `RSpec` (`stepR`) over any invariant `P` of the
  map that satisfies `Refines`.  Its two instances: `Inv norm hash` with equality as `SameAs`, which is the class-keyed
  mechanism against the [[MapData]] spec (`run_refines`), and `RInv` under `Bridge` (`Bridge.refines`).  The functional
  simulation onto the class-keyed model, `runE_sim` of ConcreteL.lean, is a separate induction over histories.
-/
import GojaModel.C18.Repr
import GojaModel.C18.ConcreteL
import GojaModel.C18.Refine

namespace GojaModel.C18

section
variable {K K' V : Type} [DecidableEq K']
variable {eqv : K → K → Bool} {norm : K → K} {hash : K → Nat} {f : K → K'} {W : K → Prop}

/-- The spec system is the mechanism system read through `abs` and `absIter`; `P` is what is known of the map. -/
structure SimOver (P : OMap K V → Prop) (s : Sys K V) (ss : SpecSys K V) : Prop where
  inv : P s.m
  data : ss.d = abs s.m
  iters : ss.iters = s.iters.map absIter
  wf : ∀ it, it ∈ s.iters → IterWf s.m it

/-- What `SimOver.step` needs of `P`: the key-free part of `Inv`, a correct `lookupE` on keys satisfying `W`, and
preservation by the three mutators. -/
structure Refines (P : OMap K V → Prop) (W : K → Prop) (eqv : K → K → Bool) (norm : K → K) (hash : K → Nat)
    (f : K → K') : Prop where
  linv : ∀ {m}, P m → LInv m
  found : ∀ {m k}, P m → W k → Found m (RSpec.find norm f (abs m) k) (lookupE eqv norm hash m k)
  set : ∀ {m k} (v : Option V), P m → W k → P (setE eqv norm hash m k v)
  remove : ∀ {m k}, P m → W k → P (removeE eqv norm hash m k).1
  clear : ∀ {m}, P m → P (clear m)

theorem SimOver.init {P : OMap K V → Prop} (h : P {}) : SimOver P ({} : Sys K V) ({} : SpecSys K V) :=
  ⟨h, rfl, rfl, fun it h => by simp at h⟩

theorem SimOver.step {P : OMap K V → Prop} (H : Refines P W eqv norm hash f) {s : Sys K V} {ss : SpecSys K V}
    (R : SimOver P s ss) (o : Op K V) (ho : o.keyOk W) :
    SimOver P (s.stepE eqv norm hash o).1 (ss.stepR norm f o).1 ∧
      (s.stepE eqv norm hash o).2 = (ss.stepR norm f o).2 := by
  obtain ⟨I, hd, hi, hw⟩ := R
  have L := H.linv I
  cases o with
  | set k v =>
    refine ⟨⟨H.set v I ho, ?_, hi, fun it h => (hw it h).mono (setWith_n_le ..)⟩, rfl⟩
    -- `RSpec.set norm f d k v` unfolds to `Spec.setAt (RSpec.find norm f d k) d (norm k) v`; likewise `get`, `delete` below
    exact (congrArg (RSpec.set norm f · k v) hd).trans (abs_setWith (H.found I ho) (norm k) v).symm
  | get k =>
    exact ⟨⟨I, hd, hi, hw⟩,
      congrArg Res.val ((getWith_abs (H.found I ho)).trans (congrArg (RSpec.get norm f · k) hd.symm))⟩
  | has k =>
    exact ⟨⟨I, hd, hi, hw⟩,
      congrArg Res.bool ((congrArg Option.isSome (H.found I ho).eq.symm).trans (congrArg (RSpec.has norm f · k) hd.symm))⟩
  | delete k =>
    obtain ⟨r1, r2⟩ := abs_removeWith (H.found I ho)
    refine ⟨⟨H.remove I ho, ?_, hi, fun it h c hc => ?_⟩, ?_⟩
    · exact (congrArg (fun d => (RSpec.delete norm f d k).1) hd).trans r1.symm
    · show c < (removeE eqv norm hash s.m k).1.n
      rw [removeE, removeWith_n]; exact hw it h c hc
    · exact congrArg Res.bool (r2.trans (congrArg (fun d => (RSpec.delete norm f d k).2) hd.symm))
  | clear =>
    refine ⟨⟨H.clear I, ?_, hi, fun it h => hw it h⟩, rfl⟩
    simp only [SpecSys.stepR, Sys.stepE, hd]
    exact (abs_clear L.clear_key).symm
  | size =>
    refine ⟨⟨I, hd, hi, hw⟩, ?_⟩
    simp only [SpecSys.stepR, Sys.stepE, hd, L.size_refines]
  | newIter =>
    refine ⟨⟨I, hd, ?_, ?_⟩, rfl⟩
    · simp only [SpecSys.stepR, Sys.stepE, hi, List.map_append, List.map_cons, List.map_nil]; rfl
    · intro it h
      simp only [Sys.stepE, List.mem_append, List.mem_singleton] at h
      rcases h with h | h
      · exact hw it h
      · subst h; intro c hc; simp [newIter] at hc
  | next j =>
    simp only [SpecSys.stepR, Sys.stepE, hi, List.getElem?_map]
    cases hj : s.iters[j]? with
    | none => exact ⟨⟨I, hd, hi, hw⟩, rfl⟩
    | some it =>
      have hmem : it ∈ s.iters := List.mem_of_getElem? hj
      obtain ⟨n1, n2, n3, n4⟩ := L.next_refines it (hw it hmem)
      simp only [Option.map_some, hd]
      refine ⟨⟨I, rfl, ?_, ?_⟩, ?_⟩
      · simp only [List.map_set, n1]
      · intro it' h
        rcases List.mem_or_eq_of_mem_set h with h | h
        · exact hw it' h
        · subst h; exact n3
      · rw [n2]
        cases hr : (next s.m it).2 with
        | none => rfl
        | some c =>
          obtain ⟨c1, c2⟩ := n4 c hr
          simp only [abs_getElem?, c1, if_true]
          simp only [liveOf] at c2
          cases hk : (s.m.heap c).key with
          | none => simp [hk] at c2
          | some k => simp [cellOf, hk]
  | close j =>
    simp only [SpecSys.stepR, Sys.stepE, hi, List.getElem?_map]
    cases hj : s.iters[j]? with
    | none => exact ⟨⟨I, hd, hi, hw⟩, rfl⟩
    | some it =>
      simp only [Option.map_some]
      refine ⟨⟨I, hd, ?_, ?_⟩, trivial⟩
      · simp only [List.map_set]; rfl
      · intro it' h
        rcases List.mem_or_eq_of_mem_set h with h | h
        · exact hw it' h
        · subst h; intro c hc; simp [Iter.close] at hc

theorem SimOver.run {P : OMap K V → Prop} (H : Refines P W eqv norm hash f) : ∀ (ops : List (Op K V)) (s : Sys K V)
    (ss : SpecSys K V), SimOver P s ss → (∀ o, o ∈ ops → o.keyOk W) →
    (Sys.runE eqv norm hash s ops).2 = (SpecSys.runR norm f ss ops).2 ∧
    SimOver P (Sys.runE eqv norm hash s ops).1 (SpecSys.runR norm f ss ops).1 := by
  intro ops
  induction ops with
  | nil => intro s ss R _; exact ⟨rfl, R⟩
  | cons o os ih =>
    intro s ss R hok
    obtain ⟨R', hr⟩ := R.step H o (hok o (List.mem_cons_self ..))
    obtain ⟨h1, h2⟩ := ih _ _ R' (fun o' ho' => hok o' (List.mem_cons_of_mem _ ho'))
    simp only [Sys.runE, SpecSys.runR]
    exact ⟨by rw [hr, h1], h2⟩

end

section
variable {K V : Type} [DecidableEq K] (norm : K → K) (hash : K → Nat)

theorem walkE_eq (heap : Nat → Entry K V) (k : K) : ∀ fuel o hp,
    walkE (fun a b => decide (a = b)) heap k fuel o hp = walk heap k fuel o hp :=
  walkE_eq_walk (fun i => by cases (heap i).key <;> simp [keyEqv]) (fun _ => rfl)

theorem lookupE_eq (m : OMap K V) (k : K) :
    lookupE (fun a b => decide (a = b)) norm hash m k = lookup norm hash m k := by
  simp only [lookupE, lookup, walkE_eq]

theorem stepE_eq (s : Sys K V) (o : Op K V) :
    s.stepE (fun a b => decide (a = b)) norm hash o = s.step norm hash o := by
  cases o <;> simp only [Sys.stepE, setE, getE, hasE, removeE, lookupE_eq] <;> rfl

theorem runE_eq : ∀ (ops : List (Op K V)) (s : Sys K V),
    s.runE (fun a b => decide (a = b)) norm hash ops = s.run norm hash ops := by
  intro ops
  induction ops with
  | nil => intro s; rfl
  | cons o os ih => intro s; simp only [Sys.runE, Sys.run, stepE_eq, ih]

variable (hnorm : ∀ k, norm (norm k) = norm k)
include hnorm

theorem rfind_norm (d : MapData K V) (k : K) : RSpec.find norm norm d k = Spec.find norm d k := by
  unfold RSpec.find Spec.find
  congr 1
  funext c
  cases c with
  | none => rfl
  | some p => simp only [rmatch, cellMatches, hnorm]

theorem stepR_norm (ss : SpecSys K V) (o : Op K V) : ss.stepR norm norm o = ss.step norm o := by
  cases o <;>
    simp only [SpecSys.stepR, RSpec.set, RSpec.get, RSpec.has, RSpec.delete, rfind_norm norm hnorm] <;> rfl

theorem runR_norm : ∀ (ops : List (Op K V)) (ss : SpecSys K V), ss.runR norm norm ops = ss.run norm ops := by
  intro ops
  induction ops with
  | nil => intro s; rfl
  | cons o os ih => intro s; simp only [SpecSys.runR, SpecSys.run, stepR_norm norm hnorm, ih]

theorem Inv.refines : Refines (V := V) (Inv norm hash) (fun _ => True) (fun a b => decide (a = b)) norm hash norm where
  linv := Inv.linv
  found {m k} I _ := by rw [rfind_norm norm hnorm, lookupE_eq]; exact I.found hnorm k
  set {m k} v I _ := by rw [setE, lookupE_eq]; exact inv_set norm hash I hnorm k v
  remove {m k} I _ := by rw [removeE, lookupE_eq]; exact inv_remove norm hash I k
  clear I := inv_clear norm hash I

theorem run_refines (ops : List (Op K V)) :
    (Sys.run norm hash ({} : Sys K V) ops).2 = (SpecSys.run norm ({} : SpecSys K V) ops).2 ∧
    Inv norm hash (Sys.run norm hash ({} : Sys K V) ops).1.m := by
  have := SimOver.run (Inv.refines norm hash hnorm) ops {} {} (.init (Inv.empty norm hash))
    (fun _ _ => by cases ‹Op K V› <;> trivial)
  rw [runE_eq, runR_norm norm hnorm] at this
  exact ⟨this.1, this.2.inv⟩

end

section
variable {K K' V : Type}

def cmap (f : K → K') : Cell K V → Cell K' V := fun c => c.map (fun p => (f p.1, p.2))

theorem abs_mapKeys (f : K → K') (m : OMap K V) : abs (mapKeys f m) = (abs m).map (cmap f) := by
  apply List.ext_getElem?
  intro i
  rw [List.getElem?_map, abs_getElem?, abs_getElem?]
  by_cases h : i < m.n
  · simp only [h, if_true, Option.map_some, mapKeys, cellOf, mapEntry, cmap]
    cases (m.heap i).key <;> rfl
  · have h' : ¬ i < (mapKeys f m).n := h
    simp [h, h']

end

section
variable {K K' V : Type} [DecidableEq K']

theorem rfind_eq (norm : K → K) (f : K → K') (d : MapData K V) (k : K) :
    RSpec.find norm f d k = Spec.find id (d.map (cmap f)) (f (norm k)) := by
  unfold RSpec.find Spec.find
  rw [List.findIdx?_map]
  congr 1
  funext c
  cases c with
  | none => rfl
  | some p => rfl

variable {eqv : K → K → Bool} {norm : K → K} {hash : K → Nat} {f : K → K'} {hash' : K' → Nat} {S W : K → Prop}

structure RInv (f : K → K') (hash' : K' → Nat) (S : K → Prop) (m : OMap K V) : Prop where
  good : Good S m
  inv : Inv id hash' (mapKeys f m)

omit [DecidableEq K'] in
theorem RInv.empty : RInv f hash' S ({} : OMap K V) :=
  ⟨fun i k h => by simp at h, Inv.empty id hash'⟩

omit [DecidableEq K'] in
theorem RInv.linv {m : OMap K V} (R : RInv f hash' S m) : LInv m := R.inv.linv.of_mapKeys

theorem RInv.found (B : Bridge eqv norm hash f hash' S W) {m : OMap K V} (R : RInv f hash' S m) {k : K} (hk : W k) :
    Found m (RSpec.find norm f (abs m) k) (lookupE eqv norm hash m k) := by
  have F := R.inv.found (fun _ => rfl) (f (norm k))
  rw [← lookup_map B R.good hk, abs_mapKeys, ← rfind_eq] at F
  exact ⟨F.eq, fun e he => let ⟨a, _, hk'⟩ := F.live e he; ⟨a, (Option.map_eq_some_iff.1 hk').imp fun _ h => h.1⟩⟩

theorem getE_refines (B : Bridge eqv norm hash f hash' S W) {m : OMap K V} (R : RInv f hash' S m) {k : K} (hk : W k) :
    getE eqv norm hash m k = RSpec.get norm f (abs m) k :=
  getWith_abs (R.found B hk)

theorem Bridge.refines (B : Bridge eqv norm hash f hash' S W) : Refines (V := V) (RInv f hash' S) W eqv norm hash f where
  linv := RInv.linv
  found R hk := R.found B hk
  set v R hk := ⟨good_set B R.good hk v, by rw [set_map B R.good hk]; exact inv_set id hash' R.inv (fun _ => rfl) _ v⟩
  remove {m k} R hk := ⟨good_remove R.good k, by
    rw [show mapKeys f (removeE eqv norm hash m k).1 = _ from congrArg Prod.fst (remove_map B R.good hk)]
    exact inv_remove id hash' R.inv _⟩
  clear R := ⟨good_clear R.good, by rw [clear_map]; exact inv_clear id hash' R.inv⟩

end

end GojaModel.C18
