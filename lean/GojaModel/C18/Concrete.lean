/-
  C18 — second-level refinement.  The real `orderedMap` stores key REPRESENTATIONS and compares them with the dynamic
  `SameAs` (map.go:31), after hashing them with the per-type `hash`.  `…E` below is that structure: same heap, same
  code after `lookup` (`setWith`/`getWith`/`removeWith` of Model.lean are shared), but the bucket walk tests an arbitrary
  `eqv stored probe`, and nothing assumes that `eqv` is equality.  ConcreteL.lean proves that reading every stored key
  through a class map `f` is a functional simulation onto the class-keyed model of Model.lean, for every operation and
  every history; ConcreteV.lean supplies the instance `eqv := sameAsK`, `f := cls` (`keyBridge`).
-/
import GojaModel.C18.Model

namespace GojaModel.C18
section
variable {K K' V : Type}

/-! ### The representation-keyed structure -/

/-- `entry.key.SameAs(key)` for an entry's key slot (a removed entry never sits in a chain). -/
def keyEqv (eqv : K → K → Bool) (ko : Option K) (k : K) : Bool :=
  match ko with
  | some k' => eqv k' k
  | none => false

/-- The loop of `lookup` (map.go:31) with the dynamic `entry.key.SameAs(key)`. -/
def walkE (eqv : K → K → Bool) (heap : Nat → Entry K V) (k : K) : Nat → Option Nat → Option Nat → Option Nat × Option Nat
  | 0, _, hp => (none, hp)
  | _ + 1, none, hp => (none, hp)
  | f + 1, some i, hp =>
    if keyEqv eqv (heap i).key k then (some i, hp)
    else walkE eqv heap k f (heap i).hNext (some i)

variable (eqv : K → K → Bool) (norm : K → K) (hash : K → Nat)

/-- `lookup` (map.go:26-34). -/
def lookupE (m : OMap K V) (key : K) : Nat × Option Nat × Option Nat :=
  let key := norm key
  let h := hash key
  let r := walkE eqv m.heap key (m.n + 1) (m.table h) none
  (h, r.1, r.2)

def setE (m : OMap K V) (key : K) (value : Option V) : OMap K V :=
  setWith (lookupE eqv norm hash m key) m (norm key) value
def getE (m : OMap K V) (key : K) : Option V := getWith (lookupE eqv norm hash m key) m
def hasE (m : OMap K V) (key : K) : Bool := (lookupE eqv norm hash m key).2.1.isSome
def removeE (m : OMap K V) (key : K) : OMap K V × Bool := removeWith (lookupE eqv norm hash m key) m

/-- One step of the representation-keyed system (same shape as `Sys.step`). -/
def Sys.stepE (s : Sys K V) : Op K V → Sys K V × Res K V
  | .set k v => ({ s with m := setE eqv norm hash s.m k v }, .unit)
  | .get k => (s, .val (getE eqv norm hash s.m k))
  | .has k => (s, .bool (hasE eqv norm hash s.m k))
  | .delete k => let r := removeE eqv norm hash s.m k; ({ s with m := r.1 }, .bool r.2)
  | .clear => ({ s with m := clear s.m }, .unit)
  | .size => (s, .nat s.m.size)
  | .newIter => ({ s with iters := s.iters ++ [newIter] }, .unit)
  | .next j => match s.iters[j]? with
    | none => (s, .noiter)
    | some it =>
      let r := next s.m it
      ({ s with iters := s.iters.set j r.1 },
        match r.2 with
        | some c => .entry c (s.m.heap c).key (s.m.heap c).val
        | none => .done)
  | .close j => match s.iters[j]? with
    | none => (s, .noiter)
    | some it => ({ s with iters := s.iters.set j it.close }, .unit)

def Sys.runE (s : Sys K V) : List (Op K V) → Sys K V × List (Res K V)
  | [] => (s, [])
  | o :: os =>
    let r := s.stepE eqv norm hash o
    let rs := Sys.runE r.1 os
    (rs.1, r.2 :: rs.2)

/-! ### Reading keys through a class map -/

def mapEntry (f : K → K') (e : Entry K V) : Entry K' V :=
  { key := e.key.map f, val := e.val, iterPrev := e.iterPrev, iterNext := e.iterNext, hNext := e.hNext }

def mapKeys (f : K → K') (m : OMap K V) : OMap K' V :=
  { n := m.n, heap := fun i => mapEntry f (m.heap i), table := m.table, iterFirst := m.iterFirst,
    iterLast := m.iterLast, size := m.size }

def Sys.mapKeys (f : K → K') (s : Sys K V) : Sys K' V := { m := GojaModel.C18.mapKeys f s.m, iters := s.iters }

def Op.mapKey (f : K → K') : Op K V → Op K' V
  | .set k v => .set (f k) v
  | .get k => .get (f k)
  | .has k => .has (f k)
  | .delete k => .delete (f k)
  | .clear => .clear
  | .size => .size
  | .newIter => .newIter
  | .next j => .next j
  | .close j => .close j

def Res.mapKey (f : K → K') : Res K V → Res K' V
  | .unit => .unit
  | .val v => .val v
  | .bool b => .bool b
  | .nat n => .nat n
  | .entry i k v => .entry i (k.map f) v
  | .done => .done
  | .noiter => .noiter

/-- Every key the operation mentions satisfies `W`. -/
def Op.keyOk (W : K → Prop) : Op K V → Prop
  | .set k _ => W k
  | .get k => W k
  | .has k => W k
  | .delete k => W k
  | _ => True

end
end GojaModel.C18
