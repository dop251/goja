/-
  C18 — mechanism model of /repo/map.go (`orderedMap`, `orderedMapIter`) and the spec model
  (ECMA-262 [[MapData]] list with `empty` holes and index-based iterators).  Core Lean only.

  Mechanism: an append-only entry heap indexed by allocation order.  `heap i` is the i-th `mapEntry`
  ever allocated by `set` (map.go:44); pointers are `Option Nat`.  Keys are abstract: `K` with decidable
  equality stands for SameValueZero classes' representatives, `norm` for the canonicalisation done at the
  door (map.go:27-29, 41-43: -0 ↦ +0), `hash` is an arbitrary function (only ever applied to normalised keys).
-/
namespace GojaModel.C18

/-- `mapEntry` (map.go:7-12).  `key = none` is Go's `entry.key == nil` (removed entry). -/
structure Entry (K V : Type) where
  key : Option K := none
  val : Option V := none
  iterPrev : Option Nat := none
  iterNext : Option Nat := none
  hNext : Option Nat := none

/-- `orderedMap` (map.go:14-19).  `heap`/`n` are the Go heap restricted to this map's entries;
`table` is `hashTable map[uint64]*mapEntry`. -/
structure OMap (K V : Type) where
  n : Nat := 0
  heap : Nat → Entry K V := fun _ => {}
  table : Nat → Option Nat := fun _ => none
  iterFirst : Option Nat := none
  iterLast : Option Nat := none
  size : Nat := 0

/-- `orderedMapIter` (map.go:21-24); `closed` is `iter.m == nil`. -/
structure Iter where
  closed : Bool := false
  cur : Option Nat := none
deriving DecidableEq, Repr

section
variable {K V : Type}

def upd {α : Type} (f : Nat → α) (i : Nat) (a : α) : Nat → α := fun j => if j = i then a else f j

def setHNext (hp : Nat → Entry K V) (i : Nat) (v : Option Nat) : Nat → Entry K V :=
  fun j => if j = i then { hp j with hNext := v } else hp j
def setIterNext (hp : Nat → Entry K V) (i : Nat) (v : Option Nat) : Nat → Entry K V :=
  fun j => if j = i then { hp j with iterNext := v } else hp j
def setIterPrev (hp : Nat → Entry K V) (i : Nat) (v : Option Nat) : Nat → Entry K V :=
  fun j => if j = i then { hp j with iterPrev := v } else hp j
def setKV (hp : Nat → Entry K V) (i : Nat) (k : Option K) (v : Option V) : Nat → Entry K V :=
  fun j => if j = i then { hp j with key := k, val := v } else hp j
def setVal (hp : Nat → Entry K V) (i : Nat) (v : Option V) : Nat → Entry K V :=
  fun j => if j = i then { hp j with val := v } else hp j

/-- Body of `set` after the `lookup` call (map.go:38-58), for a lookup result `r` and the already normalised `key`
(map.go:41-43).  Shared by the class-keyed model below and the representation-keyed model of Concrete.lean. -/
def setWith (r : Nat × Option Nat × Option Nat) (m : OMap K V) (key : K) (value : Option V) : OMap K V :=
  match r with
  | (_, some e, _) => { m with heap := setVal m.heap e value }            -- map.go:38-39
  | (h, none, hPrev) =>
    let x := m.n                                                          -- the new entry's address
    let heap0 := upd m.heap x { key := some key, val := value }           -- map.go:44
    let heap1 := match hPrev with
      | none => heap0                                                     -- map.go:46
      | some p => setHNext heap0 p (some x)                               -- map.go:48
    let table := match hPrev with
      | none => upd m.table h (some x)
      | some _ => m.table
    match m.iterLast with
    | some l =>                                                           -- map.go:50-52
      let heap2 := setIterPrev heap1 x (some l)
      let heap3 := setIterNext heap2 l (some x)
      { n := m.n + 1, heap := heap3, table := table, iterFirst := m.iterFirst,
        iterLast := some x, size := m.size + 1 }
    | none =>                                                             -- map.go:54
      { n := m.n + 1, heap := heap1, table := table, iterFirst := some x,
        iterLast := some x, size := m.size + 1 }

/-- Body of `get` after the `lookup` call (map.go:63-67). -/
def getWith (r : Nat × Option Nat × Option Nat) (m : OMap K V) : Option V :=
  match r with
  | (_, some e, _) => (m.heap e).val
  | _ => none

/-- Body of `remove` after the `lookup` call (map.go:72-103). -/
def removeWith (r : Nat × Option Nat × Option Nat) (m : OMap K V) : OMap K V × Bool :=
  match r with
  | (h, some e, hPrev) =>
    let ent := m.heap e
    let heap0 := setKV m.heap e none none                                  -- map.go:73-74
    let heap1 := match ent.iterPrev with                                   -- map.go:77-81
      | some p => setIterNext heap0 p ent.iterNext
      | none => heap0
    let iterFirst := match ent.iterPrev with
      | some _ => m.iterFirst
      | none => ent.iterNext
    let heap2 := match ent.iterNext with                                   -- map.go:82-86
      | some q => setIterPrev heap1 q ent.iterPrev
      | none => heap1
    let iterLast := match ent.iterNext with
      | some _ => m.iterLast
      | none => ent.iterPrev
    let heap3 := match hPrev with                                          -- map.go:89-97
      | none => heap2
      | some p => setHNext heap2 p ent.hNext
    let table := match hPrev with
      | none => upd m.table h ent.hNext        -- delete(m.hashTable, h) when hNext == nil
      | some _ => m.table
    ({ n := m.n, heap := heap3, table := table, iterFirst := iterFirst, iterLast := iterLast,
       size := m.size - 1 }, true)                                         -- map.go:99-100
  | (_, none, _) => (m, false)

variable [DecidableEq K] (norm : K → K) (hash : K → Nat)

/-- The loop of `lookup` (map.go:31): walk the bucket chain until an entry with `SameAs` key.
Returns `(entry, hPrev)`.  `fuel` bounds the walk (chains are strictly increasing in allocation index,
`walk_spec` in Lemmas shows `n+1` always suffices under `Inv`).  A removed entry inside a chain would make Go
dereference a nil key; under `Inv` chains only contain live entries, so the case is unreachable. -/
def walk (heap : Nat → Entry K V) (k : K) : Nat → Option Nat → Option Nat → Option Nat × Option Nat
  | 0, _, hp => (none, hp)
  | _ + 1, none, hp => (none, hp)
  | f + 1, some i, hp =>
    if (heap i).key = some k then (some i, hp) else walk heap k f (heap i).hNext (some i)

/-- `lookup` (map.go:26-34): `(h, entry, hPrev)`. -/
def lookup (m : OMap K V) (key : K) : Nat × Option Nat × Option Nat :=
  let key := norm key                       -- map.go:27-29
  let h := hash key                         -- map.go:30
  let r := walk m.heap key (m.n + 1) (m.table h) none
  (h, r.1, r.2)

/-- `set` (map.go:36-59). -/
def set (m : OMap K V) (key : K) (value : Option V) : OMap K V :=
  setWith (lookup norm hash m key) m (norm key) value

/-- `get` (map.go:61-68): `none` is Go `nil`. -/
def get (m : OMap K V) (key : K) : Option V :=
  getWith (lookup norm hash m key) m

/-- `has` (map.go:106-109). -/
def has (m : OMap K V) (key : K) : Bool :=
  (lookup norm hash m key).2.1.isSome

/-- `remove` (map.go:70-104). -/
def remove (m : OMap K V) (key : K) : OMap K V × Bool :=
  removeWith (lookup norm hash m key) m

/-- Body of the loop of `clear` (map.go:159-163) for `item = i`. -/
def clearBody (heap : Nat → Entry K V) (i : Nat) : Nat → Entry K V :=
  match (heap i).iterPrev with
  | some p => setIterNext (setKV heap i none none) p none
  | none => setKV heap i none none

/-- The loop of `clear` (map.go:158-164). -/
def clearWalk : Nat → (Nat → Entry K V) → Option Nat → (Nat → Entry K V)
  | 0, heap, _ => heap
  | _ + 1, heap, none => heap
  | f + 1, heap, some i => clearWalk f (clearBody heap i) (clearBody heap i i).iterNext

/-- `clear` (map.go:157-169). -/
def clear (m : OMap K V) : OMap K V :=
  { n := m.n, heap := clearWalk (m.n + 1) m.heap m.iterFirst, table := fun _ => none,
    iterFirst := none, iterLast := none, size := 0 }

/-- The back-tracking loop of `next` (map.go:119-121). -/
def backWalk (heap : Nat → Entry K V) : Nat → Option Nat → Option Nat
  | 0, _ => none
  | _ + 1, none => none
  | f + 1, some i => if (heap i).key.isNone then backWalk heap f (heap i).iterPrev else some i

/-- `newIter` (map.go:150-155). -/
def newIter : Iter := { closed := false, cur := none }

/-- map.go:117-127: from `iter.cur`, track back over removed entries (`backWalk`), then step to `iterNext`
(or start from `iterFirst`).  Returns the entry `next` will rest on (`none` = nil). -/
def nextTarget (heap : Nat → Entry K V) (first : Option Nat) : Option Nat → Option Nat
  | none => first                                                          -- map.go:126
  | some c => match backWalk heap (c + 1) (some c) with                    -- map.go:119-121
    | some r => (heap r).iterNext                                          -- map.go:124
    | none => first                                                        -- map.go:126

/-- `orderedMapIter.next` (map.go:111-136): new iterator state and the entry returned (`none` = nil). -/
def next (m : OMap K V) (it : Iter) : Iter × Option Nat :=
  if it.closed then (it, none) else                                        -- map.go:112-115
  match nextTarget m.heap m.iterFirst it.cur with
  | none => ({ closed := true, cur := none }, none)                        -- map.go:130, 138-141
  | some c => ({ closed := false, cur := some c }, some c)                 -- map.go:132

/-- `close` (map.go:138-141). -/
def Iter.close (_ : Iter) : Iter := { closed := true, cur := none }

/-! ### Spec model: ECMA-262 §24.1 [[MapData]] -/

/-- One record of [[MapData]]; `none` is the spec's `empty`. -/
abbrev Cell (K V : Type) := Option (K × Option V)
abbrev MapData (K V : Type) := List (Cell K V)

/-- `p.[[Key]] is not empty and SameValueZero(p.[[Key]], key)`. -/
def cellMatches (k : K) : Cell K V → Bool
  | some (k', _) => decide (norm k' = norm k)
  | none => false

namespace Spec

def find (d : MapData K V) (k : K) : Option Nat := d.findIdx? (cellMatches norm k)

/-- Map.prototype.set / Set.prototype.add (§24.1.3.9): update in place or append, -0 ↦ +0. -/
def set (d : MapData K V) (k : K) (v : Option V) : MapData K V :=
  match find norm d k with
  | some i => match d[i]? with
    | some (some (k', _)) => d.set i (some (k', v))
    | _ => d
  | none => d ++ [some (norm k, v)]

def get (d : MapData K V) (k : K) : Option V :=
  match find norm d k with
  | some i => match d[i]? with
    | some (some (_, v)) => v
    | _ => none
  | none => none

def has (d : MapData K V) (k : K) : Bool := (find norm d k).isSome

/-- Map.prototype.delete (§24.1.3.3): the record becomes `empty`, the list keeps its length. -/
def delete (d : MapData K V) (k : K) : MapData K V × Bool :=
  match find norm d k with
  | some i => (d.set i none, true)
  | none => (d, false)

/-- Map.prototype.clear (§24.1.3.1): every record becomes `empty`. -/
def clear (d : MapData K V) : MapData K V := d.map (fun _ => none)

/-- get Map.prototype.size (§24.1.3.10): number of non-empty records. -/
def size (d : MapData K V) : Nat := d.countP (·.isSome)

/-- Spec iterator (CreateMapIterator §24.1.5.1): an index into [[MapData]] and the generator's done state. -/
structure SIter where
  done : Bool := false
  index : Nat := 0
deriving DecidableEq, Repr

/-- `Repeat, while index < numEntries: e := entries[index]; index := index+1; if e.[[Key]] is not empty, yield`.
`fuel` is the number of records still to scan. -/
def scan (d : MapData K V) : Nat → Nat → Option Nat
  | 0, _ => none
  | f + 1, i => match d[i]? with
    | some (some _) => some i
    | _ => scan d f (i + 1)

/-- One `next()` of the spec iterator: yields the index of the record produced, or finishes for good. -/
def next (d : MapData K V) (it : SIter) : SIter × Option Nat :=
  if it.done then (it, none) else
  match scan d (d.length - it.index) it.index with
  | some j => ({ done := false, index := j + 1 }, some j)
  | none => ({ done := true, index := 0 }, none)      -- the index is dead once the generator has returned

end Spec

/-! ### Abstraction -/

def cellOf (e : Entry K V) : Cell K V := e.key.map (fun k => (k, e.val))

/-- Abstraction function: the heap in allocation order is the [[MapData]] list. -/
def abs (m : OMap K V) : MapData K V := (List.range m.n).map (fun i => cellOf (m.heap i))

/-- Iterator abstraction: the spec index is one past the entry the mechanism iterator rests on. -/
def absIter (it : Iter) : Spec.SIter :=
  { done := it.closed, index := match it.cur with | none => 0 | some c => c + 1 }

/-! ### Whole-system runs: one map, any number of iterators, arbitrary interleavings -/

inductive Op (K V : Type) where
  | set (k : K) (v : Option V)
  | get (k : K)
  | has (k : K)
  | delete (k : K)
  | clear
  | size
  | newIter
  | next (j : Nat)      -- advance iterator number j (ignored if there is no such iterator)
  | close (j : Nat)     -- Go-side close of iterator j

/-- Observable result of one operation. -/
inductive Res (K V : Type) where
  | unit
  | val (v : Option V)
  | bool (b : Bool)
  | nat (n : Nat)
  | entry (idx : Nat) (k : Option K) (v : Option V)   -- iterator produced the record at `idx`
  | done
  | noiter
deriving DecidableEq

structure Sys (K V : Type) where
  m : OMap K V := {}
  iters : List Iter := []

structure SpecSys (K V : Type) where
  d : MapData K V := []
  iters : List Spec.SIter := []

def Sys.step (s : Sys K V) : Op K V → Sys K V × Res K V
  | .set k v => ({ s with m := set norm hash s.m k v }, .unit)
  | .get k => (s, .val (get norm hash s.m k))
  | .has k => (s, .bool (has norm hash s.m k))
  | .delete k => let r := remove norm hash s.m k; ({ s with m := r.1 }, .bool r.2)
  | .clear => ({ s with m := clear s.m }, .unit)
  | .size => (s, .nat s.m.size)
  | .newIter => ({ s with iters := s.iters ++ [newIter] }, .unit)
  | .next j => match s.iters[j]? with
    | none => (s, .noiter)
    | some it =>
      let r := next s.m it
      ({ s with iters := s.iters.set j r.1 },
        match r.2 with
        | some c => .entry c (s.m.heap c).key (s.m.heap c).val
        | none => .done)
  | .close j => match s.iters[j]? with
    | none => (s, .noiter)
    | some it => ({ s with iters := s.iters.set j it.close }, .unit)

def SpecSys.step (s : SpecSys K V) : Op K V → SpecSys K V × Res K V
  | .set k v => ({ s with d := Spec.set norm s.d k v }, .unit)
  | .get k => (s, .val (Spec.get norm s.d k))
  | .has k => (s, .bool (Spec.has norm s.d k))
  | .delete k => let r := Spec.delete norm s.d k; ({ s with d := r.1 }, .bool r.2)
  | .clear => ({ s with d := Spec.clear s.d }, .unit)
  | .size => (s, .nat (Spec.size s.d))
  | .newIter => ({ s with iters := s.iters ++ [{}] }, .unit)
  | .next j => match s.iters[j]? with
    | none => (s, .noiter)
    | some it =>
      let r := Spec.next s.d it
      ({ s with iters := s.iters.set j r.1 },
        match r.2 with
        | some c => match s.d[c]? with
          | some (some (k, v)) => .entry c (some k) v
          | _ => .entry c none none
        | none => .done)
  | .close j => match s.iters[j]? with
    | none => (s, .noiter)
    | some _ => ({ s with iters := s.iters.set j { done := true, index := 0 } }, .unit)

/-- Run a whole history, collecting the observable results. -/
def Sys.run (s : Sys K V) : List (Op K V) → Sys K V × List (Res K V)
  | [] => (s, [])
  | o :: os =>
    let r := s.step norm hash o
    let rs := Sys.run r.1 os
    (rs.1, r.2 :: rs.2)

def SpecSys.run (s : SpecSys K V) : List (Op K V) → SpecSys K V × List (Res K V)
  | [] => (s, [])
  | o :: os =>
    let r := s.step norm o
    let rs := SpecSys.run r.1 os
    (rs.1, r.2 :: rs.2)

end
end GojaModel.C18
