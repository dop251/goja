/-
  C18 — lemmas about the enumerable / value-resolving layers above the symbol-key snapshot iterator.
-/
import GojaModel.C18.EnumIter
import GojaModel.C18.SymIterL

namespace GojaModel.C18
section
variable {K V : Type} [DecidableEq K] (norm : K → K) (hash : K → Nat)

/-- The left-hand side is `enumPropsNext` unfolded, its fuel generalised for the induction. -/
theorem enumerableNext_resolve (m : OMap K (PV V)) : ∀ (ks : List K) (fuel : Nat), ks.length < fuel →
    (match enumerableNext norm hash m fuel ks with
     | (it', some (k, pv)) => (it', some (k, pv.resolve))
     | (it', none) => (it', none)) = enumNext norm hash m ks := by
  intro ks
  induction ks with
  | nil =>
    intro fuel h
    cases fuel with
    | zero => simp at h
    | succ f => simp [enumerableNext, symIterNext, enumNext]
  | cons k rest ih =>
    intro fuel h
    cases fuel with
    | zero => simp at h
    | succ f =>
      simp only [List.length_cons] at h
      simp only [enumerableNext, symIterNext, enumNext]
      cases hg : get norm hash m k with
      | some pv =>
        simp only
        by_cases he : pv.isEnum = true
        · simp [he]
        · simp only [he, if_false, Bool.false_eq_true]
          exact ih f (by omega)
      | none =>
        -- the inner loop goes on without the middle one spending fuel
        simp only
        have := ih (f + 1) (by omega)
        simp only [enumerableNext] at this
        exact this

theorem enumNext_refines {m : OMap K (PV V)} (I : Inv norm hash m) (hnorm : ∀ k, norm (norm k) = norm k) :
    ∀ ks, (enumNext norm hash m ks).1.keys = (Spec.assignEnumNext norm (abs m) ks).1 ∧
          (enumNext norm hash m ks).2 = (Spec.assignEnumNext norm (abs m) ks).2 := by
  intro ks
  induction ks with
  | nil => exact ⟨rfl, rfl⟩
  | cons k rest ih =>
    simp only [enumNext, Spec.assignEnumNext, get_refines norm hash I hnorm k]
    cases Spec.get norm (abs m) k with
    | none => exact ih
    | some pv =>
      simp only
      by_cases he : pv.isEnum = true
      · simp [he]
      · simp only [he, if_false, Bool.false_eq_true]; exact ih

theorem enumNext_spec (m : OMap K (PV V)) : ∀ ks, ∃ skipped,
    (∀ s, s ∈ skipped → get norm hash m s = none ∨ ∃ pv, get norm hash m s = some pv ∧ pv.isEnum = false) ∧
    (match (enumNext norm hash m ks).2 with
     | some (k, r) => ks = skipped ++ k :: (enumNext norm hash m ks).1.keys ∧
          ∃ pv, get norm hash m k = some pv ∧ pv.isEnum = true ∧ r = pv.resolve
     | none => ks = skipped ∧ (enumNext norm hash m ks).1.keys = []) := by
  intro ks
  induction ks with
  | nil => exact ⟨[], fun s h => by simp at h, by simp [enumNext]⟩
  | cons k rest ih =>
    by_cases hstop : ∃ pv, get norm hash m k = some pv ∧ pv.isEnum = true
    · obtain ⟨pv, hg, he⟩ := hstop
      exact ⟨[], fun s h => by simp at h, by simp [enumNext, hg, he]⟩
    · have hk : get norm hash m k = none ∨ ∃ pv, get norm hash m k = some pv ∧ pv.isEnum = false := by
        cases hg : get norm hash m k with
        | none => exact Or.inl rfl
        | some pv => exact Or.inr ⟨pv, rfl, Bool.eq_false_iff.2 fun he => hstop ⟨pv, hg, he⟩⟩
      have hrec : enumNext norm hash m (k :: rest) = enumNext norm hash m rest := by
        rcases hk with hg | ⟨pv, hg, he⟩
        · simp only [enumNext, hg]
        · simp only [enumNext, hg, he, Bool.false_eq_true, if_false]
      obtain ⟨sk, h1, h2⟩ := ih
      rw [hrec]
      refine ⟨k :: sk, fun s hs => ?_, ?_⟩
      · rcases List.mem_cons.1 hs with hs | hs
        · rw [hs]; exact hk
        · exact h1 s hs
      · cases hr : (enumNext norm hash m rest).2 with
        | none => rw [hr] at h2; simp only at h2 ⊢; exact ⟨congrArg (List.cons k) h2.1, h2.2⟩
        | some kv =>
          obtain ⟨k', r'⟩ := kv
          rw [hr] at h2; simp only at h2 ⊢
          exact ⟨congrArg (List.cons k) h2.1, h2.2⟩

/-- Keys delivered by successive calls, the i-th call seeing the (arbitrary) state `ms[i]`. -/
def enumYields : List K → List (OMap K (PV V)) → List K
  | _, [] => []
  | ks, m :: ms =>
    match enumNext norm hash m ks with
    | (it', some (k, _)) => k :: enumYields it'.keys ms
    | (_, none) => []

theorem enumYields_sublist : ∀ (ms : List (OMap K (PV V))) (ks : List K),
    (enumYields norm hash ks ms).Sublist ks := by
  intro ms
  induction ms with
  | nil => intro ks; simp [enumYields]
  | cons m ms ih =>
    intro ks
    obtain ⟨sk, _, h2⟩ := enumNext_spec norm hash m ks
    simp only [enumYields]
    cases hr : enumNext norm hash m ks with
    | mk it' r =>
      cases r with
      | none => simp
      | some kv =>
        obtain ⟨k, v⟩ := kv
        rw [hr] at h2; simp only at h2
        simp only
        rw [h2.1]
        exact ((ih it'.keys).cons_cons k).trans (List.sublist_append_right sk _)

end

section
variable {K V : Type}

def enumCell : Cell K (PV V) → Option K
  | some (k, some pv) => if pv.isEnum then some k else none
  | some (k, none) => some k
  | none => none

theorem ownEnumKeys_eq (d : MapData K (PV V)) : Spec.ownEnumKeys d = d.filterMap enumCell := rfl

theorem drainEnum_eq_visit (m : OMap K (PV V)) : ∀ fuel it,
    drainEnum m fuel it = (visit m fuel it).filterMap (fun c => enumCell (cellOf (m.heap c))) := by
  intro fuel
  induction fuel with
  | zero => intro it; rfl
  | succ f ih =>
    intro it
    simp only [drainEnum, visit]
    cases next m it with
    | mk it' r =>
      cases r with
      | none => rfl
      | some c =>
        simp only [List.filterMap_cons, ih, cellOf]
        cases (m.heap c).key with
        | none => rfl
        | some k =>
          cases (m.heap c).val with
          | none => rfl
          | some pv => cases h : pv.isEnum <;> simp [enumCell, h]

theorem symbolsEnum_spec {m : OMap K (PV V)} (L : LInv m) : symbolsEnum m = Spec.ownEnumKeys (abs m) := by
  rw [symbolsEnum, drainEnum_eq_visit, L.visit_all,
    filterMap_liveFrom m (fun e => enumCell (cellOf e)) (fun e h => by rw [cellOf, h]; rfl),
    ownEnumKeys_eq, abs, List.filterMap_map]
  rfl

end
end GojaModel.C18
