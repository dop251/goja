/-
  C18 — value level: goja's per-type `hash` / `SameAs` (as transcribed by the number model of C05 and the string model
  of C06) agree with SameValueZero on canonical numbers and normal-form strings, so that the decisions `lookup` takes on
  concrete representations (bucket choice, `SameAs` test, −0 normalisation) are exactly those of the abstract mechanism
  model of Model.lean instantiated at SameValueZero classes.
-/
import GojaModel.C05.Lemmas
import GojaModel.C06.Props

namespace GojaModel.C18
open GojaModel

/-- A Map/Set key as far as `lookup` (map.go:26) can tell: a Number (two representations), a String (three
representations), or something compared by identity (objects, symbols; booleans/null/undefined are singletons). -/
inductive Key where
  | num (a : Num)
  | str (s : C06.Str)
  | big (i : Int)          -- *valueBigInt: a math/big.Int (sign + normalised magnitude; there is no −0n)
  | other (id : Nat)

/-- `(*big.Int).Bytes()`: big-endian magnitude without leading zero bytes (empty for 0). -/
def beBytes (n : Nat) : List UInt8 :=
  if h : n = 0 then [] else beBytes (n / 256) ++ [UInt8.ofNat (n % 256)]
termination_by n
decreasing_by omega

/-- What `valueBigInt.hash` writes to the hasher (builtin_bigint.go:111-123): a sign byte, then `Bytes()`. -/
def bigHashPre (i : Int) : List UInt8 := (if i < 0 then 1 else 0) :: beBytes i.natAbs

def fromBE (l : List UInt8) : Nat := l.foldl (fun acc b => acc * 256 + b.toNat) 0

theorem fromBE_beBytes (n : Nat) : fromBE (beBytes n) = n := by
  induction n using Nat.strongRecOn with
  | _ n ih =>
    unfold beBytes
    by_cases h : n = 0
    · simp [h, fromBE]
    · simp only [h, dite_false]
      unfold fromBE
      rw [List.foldl_append]
      have := ih (n / 256) (by omega)
      unfold fromBE at this
      rw [this]
      simp only [List.foldl_cons, List.foldl_nil]
      have : (UInt8.ofNat (n % 256)).toNat = n % 256 := by
        simp [UInt8.toNat_ofNat']
      rw [this]; omega

theorem bigHashPre_injective {i j : Int} (h : bigHashPre i = bigHashPre j) : i = j := by
  unfold bigHashPre at h
  simp only [List.cons.injEq] at h
  obtain ⟨h1, h2⟩ := h
  have h3 : i.natAbs = j.natAbs := by rw [← fromBE_beBytes i.natAbs, ← fromBE_beBytes j.natAbs, h2]
  by_cases hi : i < 0 <;> by_cases hj : j < 0 <;> simp [hi, hj] at h1 <;> omega

/-- Producers hand out canonical numbers (C05 `Canon`) and normal-form strings (C06 `NF`). -/
def Key.WF : Key → Prop
  | .num a => Num.Canon a
  | .str s => C06.NF s
  | .big _ => True
  | .other _ => True

/-- map.go:27-29 / 41-43: `if key == _negativeZero { key = intToValue(0) }`. -/
def normKeyK : Key → Key
  | .num a => .num (Num.normKey a)
  | k => k

/-- `entry.key.SameAs(key)` (map.go:31) by dynamic type: value.go:215/618, string_*.go SameAs, pointer identity. -/
def sameAsK : Key → Key → Bool
  | .num a, .num b => Num.sameAs a b
  | .str s, .str t => C06.sameAs s t
  | .big i, .big j => i == j               -- builtin_bigint.go:55: Cmp == 0
  | .other i, .other j => i == j
  | _, _ => false

/-- What `key.hash(m.hash)` is computed from: the word returned directly (numbers), the bytes written to maphash
(strings), the address / per-process random constant (everything else). -/
inductive HashIn where
  | word (n : Nat)
  | bytes (b : List UInt8)
  | addr (id : Nat)
deriving DecidableEq

def hashPreK : Key → HashIn
  | .num a => .word (Num.hash a)
  | .str s => .bytes (C06.hashPre s)
  | .big i => .bytes (bigHashPre i)
  | .other i => .addr i

/-- The hash itself, for an ARBITRARY maphash function `mh` and address/constant map `ph`. -/
def hashK (mh : List UInt8 → Nat) (ph : Nat → Nat) (k : Key) : Nat :=
  match hashPreK k with
  | .word n => n
  | .bytes b => mh b
  | .addr i => ph i

/-- Spec: SameValueZero (ECMA-262 7.2.12) on the denoted values. -/
def svz : Key → Key → Bool
  | .num a, .num b => Num.specSameValueZero a.toF64 b.toF64
  | .str s, .str t => decide (C06.units s = C06.units t)
  | .big i, .big j => i == j               -- BigInt::sameValueZero = BigInt::equal
  | .other i, .other j => i == j
  | _, _ => false

/-- SameValueZero class of a key: the normalised canonical number, the code-unit sequence, the identity. -/
inductive KeyClass where
  | num (n : Num)
  | str (u : List UInt16)
  | big (i : Int)
  | other (id : Nat)
deriving DecidableEq

def cls : Key → KeyClass
  | .num a => .num (Num.normKey a)
  | .str s => .str (C06.units s)
  | .big i => .big i
  | .other i => .other i

theorem cls_eq_iff_svz' {a b : Key} (ha : a.WF) (hb : b.WF) : cls a = cls b ↔ svz a b = true := by
  cases a <;> cases b <;> simp [cls, svz, Key.WF] at *
  · exact C05.normKey_eq_iff_svz ha hb

theorem sameAs_norm_eq_svz' {a b : Key} (ha : a.WF) (hb : b.WF) :
    sameAsK (normKeyK a) (normKeyK b) = svz a b := by
  cases a <;> cases b <;> simp [normKeyK, sameAsK, svz, Key.WF] at *
  · rename_i x y
    rw [C05.sameAs_eq_spec' (C05.canon_normKey ha) (C05.canon_normKey hb), C05.toF64_normKey ha,
      C05.toF64_normKey hb, ← C05.specSVZ_eq]
  · rename_i s t
    rw [C06.sameAs_eq_strictEq]
    exact Bool.eq_iff_iff.2 (by simpa using C06.eq_iff_units ha hb)

theorem hash_respects_svz' {a b : Key} (ha : a.WF) (hb : b.WF) (h : svz a b = true) :
    hashPreK (normKeyK a) = hashPreK (normKeyK b) := by
  cases a <;> cases b <;> simp [normKeyK, hashPreK, svz, Key.WF] at *
  · rw [(C05.normKey_eq_iff_svz ha hb).2 h]
  · exact (C06.hashpre_iff_units ha hb).2 h
  · rw [h]
  · exact h

end GojaModel.C18
