/-
  C20 — the position maps (core Lean only).  `bounds` (prefix sums of the rune sizes) is the specification: the loop
  of `buildPosMap` produces it, the start position lands where `sort.SearchInts` finds it in `bounds`, which is what
  `posMapReverseLookup` computes on the stored map; the UTF-8 map pairs the same prefix sums with those of `utf8Len`.
-/
import GojaModel.C20.Defs
namespace GojaModel.C20

theorem encodeRune_small {c : Nat} (h : c < 0x10000) : encodeRune c = [c] := by
  simp [encodeRune, h]

theorem encodeRune_combine {c d : Nat} (hc : isHi c = true) (hd : isLo d = true) :
    encodeRune (combine c d) = [c, d] := by
  simp only [isHi, isLo, Bool.and_eq_true, decide_eq_true_eq] at hc hd
  have hb : d - 0xDC00 < 0x400 := by omega
  -- quotient and remainder of (c − D800)·400 + (d − DC00) by 400 (hexadecimal)
  rw [encodeRune, combine, if_neg (Nat.not_lt.mpr (Nat.le_add_left _ _)), Nat.add_sub_cancel, Nat.mul_comm,
    Nat.mul_add_div (by decide), Nat.mul_add_mod, Nat.div_eq_of_lt hb, Nat.mod_eq_of_lt hb, Nat.add_zero,
    Nat.add_sub_cancel' hc.1, Nat.add_sub_cancel' hd.1]

theorem decode_size_eq_encode : ∀ (units : List Nat), (∀ u ∈ units, u < 0x10000) →
    ∀ p ∈ decode units, p.2 = (encodeRune p.1).length := by
  intro units
  fun_induction decode units with
  | case1 => exact fun _ _ hp => nomatch hp
  | case2 c => exact fun h => List.forall_mem_cons.mpr ⟨by simp [encodeRune_small (h c (by simp))], fun _ hp => nomatch hp⟩
  | case3 c d rest hp ih =>
    intro h
    simp only [Bool.and_eq_true] at hp
    exact List.forall_mem_cons.mpr ⟨by simp [encodeRune_combine hp.1 hp.2], ih fun u hu => h u (by simp [hu])⟩
  | case4 c d rest hp ih =>
    intro h
    exact List.forall_mem_cons.mpr
      ⟨by simp [encodeRune_small (h c (by simp))], ih fun u hu => h u (List.mem_cons_of_mem _ hu)⟩

theorem decode_pair {c d : Nat} (rest : List Nat) (hc : isHi c = true) (hd : isLo d = true) :
    decode (c :: d :: rest) = (combine c d, 2) :: decode rest := by
  simp [decode, hc, hd]

theorem decode_single {c : Nat} (rest : List Nat) (hc : ¬ isHi c = true) : decode (c :: rest) = (c, 1) :: decode rest := by
  cases rest <;> simp [decode, hc]

theorem decode_size_pos : ∀ (units : List Nat), ∀ p ∈ decode units, 1 ≤ p.2 := by
  intro units
  fun_induction decode units with
  | case1 => exact fun _ hp => nomatch hp
  | case2 c => exact List.forall_mem_cons.mpr ⟨Nat.le_refl 1, fun _ hp => nomatch hp⟩
  | case3 c d rest hp ih => exact List.forall_mem_cons.mpr ⟨Nat.le_succ 1, ih⟩
  | case4 c d rest hp ih => exact List.forall_mem_cons.mpr ⟨Nat.le_refl 1, ih⟩

theorem totalSize_nil : totalSize [] = 0 := rfl
theorem totalSize_cons (r sz : Nat) (l : List (Nat × Nat)) : totalSize ((r, sz) :: l) = sz + totalSize l := rfl

theorem totalSize_decode : ∀ (units : List Nat), totalSize (decode units) = units.length := by
  intro units
  fun_induction decode units with
  | case1 => rfl
  | case2 c => simp [totalSize]
  | case3 c d rest hp ih => rw [totalSize_cons, ih]; simp; omega
  | case4 c d rest hp ih => rw [totalSize_cons, ih]; simp; omega

theorem totalSize_eq_encode_len : ∀ (l : List (Nat × Nat)), (∀ p ∈ l, p.2 = (encodeRune p.1).length) →
    totalSize l = (encodeAll (l.map Prod.fst)).length := by
  intro l
  induction l with
  | nil => intro _; rfl
  | cons p l ih =>
    intro h
    obtain ⟨r, sz⟩ := p
    have h1 := h (r, sz) (by simp)
    have ih' := ih (fun q hq => h q (by simp [hq]))
    simp only [encodeAll, List.map_cons, List.flatMap_cons, List.length_append] at ih' ⊢
    rw [totalSize_cons, ih']
    simp at h1
    omega

theorem checkStart_eq (start : Nat) (st : PM) : ∃ ms sp sf,
    checkStart start st = { st with mappedStart := ms, splitPair := sp, startFound := sf } := by
  unfold checkStart
  split
  · exact ⟨_, _, _, rfl⟩
  · split
    · exact ⟨_, _, _, rfl⟩
    · split <;> exact ⟨_, _, _, rfl⟩

theorem buildLoop_posMap (start : Nat) : ∀ (l : List (Nat × Nat)) (st : PM),
    (buildLoop start l st).posMap = st.posMap ++ bounds st.curPos l ∧
    (buildLoop start l st).runes = st.runes ++ l.map Prod.fst := by
  intro l
  induction l with
  | nil =>
    intro st
    obtain ⟨ms, sp, sf, h⟩ := checkStart_eq start st
    simp [buildLoop, bounds, h]
  | cons p l ih =>
    intro st
    obtain ⟨r, sz⟩ := p
    obtain ⟨ms, sp, sf, h⟩ := checkStart_eq start st
    simp only [buildLoop, h]
    rw [(ih _).1, (ih _).2]
    simp [bounds]

theorem buildPosMap_posMap (units : List Nat) (start : Nat) : (buildPosMap units start).posMap = bounds 0 (decode units) := by
  simpa [buildPosMap] using (buildLoop_posMap start (decode units) {}).1

theorem buildPosMap_runes (units : List Nat) (start : Nat) :
    (buildPosMap units start).runes = (decode units).map Prod.fst := by
  simpa [buildPosMap] using (buildLoop_posMap start (decode units) {}).2

theorem bounds_length (b : Nat) (l : List (Nat × Nat)) : (bounds b l).length = l.length + 1 := by
  induction l generalizing b with
  | nil => rfl
  | cons p l ih => obtain ⟨r, sz⟩ := p; simp [bounds, ih]

theorem bounds_get : ∀ (l : List (Nat × Nat)) (b k : Nat), k ≤ l.length →
    (bounds b l)[k]? = some (b + totalSize (l.take k)) := by
  intro l
  induction l with
  | nil => intro b k hk; simp at hk; subst hk; simp [bounds, totalSize]
  | cons p l ih =>
    intro b k hk
    obtain ⟨r, sz⟩ := p
    cases k with
    | zero => simp [bounds, totalSize]
    | succ k =>
      simp only [List.length_cons] at hk
      simp only [bounds, List.getElem?_cons_succ, List.take_succ_cons]
      rw [ih (b + sz) k (by omega), totalSize_cons]
      congr 1; omega

theorem getD_of_lt (a : List Nat) (j : Nat) (h : j < a.length) : a[j]? = some (a.getD j 0) := by
  simp [List.getD, List.getElem?_eq_getElem h]

theorem totalSize_take_le (l : List (Nat × Nat)) (k : Nat) : totalSize (l.take k) ≤ totalSize l := by
  induction l generalizing k with
  | nil => simp [totalSize]
  | cons p l ih =>
    obtain ⟨r, sz⟩ := p
    cases k with
    | zero => simp [totalSize]
    | succ k => simp only [List.take_succ_cons, totalSize_cons]; have := ih k; omega

theorem totalSize_take_mono (l : List (Nat × Nat)) {a b : Nat} (h : a ≤ b) :
    totalSize (l.take a) ≤ totalSize (l.take b) := by
  rw [← Nat.min_eq_left h, ← List.take_take]
  exact totalSize_take_le _ a

theorem bounds_head (b : Nat) (l : List (Nat × Nat)) : (bounds b l).getD 0 0 = b := by
  cases l <;> rfl

theorem bounds_span (l : List (Nat × Nat)) (base a b : Nat) (hab : a ≤ b) (hb : b ≤ l.length) :
    ∃ s e, (bounds base l)[a]? = some s ∧ (bounds base l)[b]? = some e ∧ s ≤ e ∧ e ≤ base + totalSize l :=
  ⟨_, _, bounds_get l base a (Nat.le_trans hab hb), bounds_get l base b hb,
    Nat.add_le_add_left (totalSize_take_mono l hab) _, Nat.add_le_add_left (totalSize_take_le l b) _⟩

theorem bounds_ge (l : List (Nat × Nat)) (b : Nat) : ∀ x ∈ bounds b l, b ≤ x := by
  induction l generalizing b with
  | nil => exact List.forall_mem_cons.mpr ⟨Nat.le_refl b, fun _ hx => nomatch hx⟩
  | cons p l ih =>
    obtain ⟨r, sz⟩ := p
    exact List.forall_mem_cons.mpr
      ⟨Nat.le_refl b, fun x hx => Nat.le_trans (Nat.le_add_right b sz) (ih (b + sz) x hx)⟩

theorem bounds_pairwise (l : List (Nat × Nat)) (b : Nat) (hpos : ∀ p ∈ l, 1 ≤ p.2) :
    List.Pairwise (· < ·) (bounds b l) := by
  induction l generalizing b with
  | nil => simp [bounds]
  | cons p l ih =>
    obtain ⟨r, sz⟩ := p
    have hsz : 1 ≤ sz := hpos (r, sz) List.mem_cons_self
    exact List.pairwise_cons.mpr
      ⟨fun x hx => Nat.lt_of_lt_of_le (Nat.lt_add_of_pos_right hsz) (bounds_ge l (b + sz) x hx),
        ih (b + sz) fun q hq => hpos q (List.mem_cons_of_mem _ hq)⟩

section checkStart
variable {start : Nat} {st : PM}

theorem checkStart_found (h : st.startFound = true) : checkStart start st = st := by
  simp [checkStart, h]

theorem checkStart_at (hf : st.startFound = false) (h : st.curPos = start) :
    checkStart start st = { st with mappedStart := st.runes.length, startFound := true } := by
  simp [checkStart, hf, h]

theorem checkStart_past (hf : st.startFound = false) (h : start < st.curPos) :
    checkStart start st = { st with mappedStart := st.runes.length - 1, splitPair := true, startFound := true } := by
  simp [checkStart, hf, Nat.ne_of_gt h, h]

theorem checkStart_before (hf : st.startFound = false) (h : st.curPos < start) : checkStart start st = st := by
  simp [checkStart, hf, Nat.ne_of_lt h, Nat.not_lt_of_gt h]

end checkStart

theorem buildLoop_found (start : Nat) : ∀ (l : List (Nat × Nat)) (st : PM), (checkStart start st).startFound = true →
    (buildLoop start l st).mappedStart = (checkStart start st).mappedStart ∧
    (buildLoop start l st).splitPair = (checkStart start st).splitPair := by
  intro l
  induction l with
  | nil => intro st _; exact ⟨rfl, rfl⟩
  | cons p l ih =>
    intro st h
    obtain ⟨r, sz⟩ := p
    rw [buildLoop]
    generalize checkStart start st = cs at h ⊢
    simpa [checkStart_found, h] using
      ih { cs with runes := cs.runes ++ [r], posMap := cs.posMap ++ [cs.curPos], curPos := cs.curPos + sz }

theorem buildLoop_here (start : Nat) (l : List (Nat × Nat)) (st : PM) (hf : st.startFound = false)
    (hs : st.splitPair = false) (h : start ≤ st.curPos) :
    ((buildLoop start l st).mappedStart, (buildLoop start l st).splitPair) =
      if st.curPos = start then (st.runes.length, false) else (st.runes.length - 1, true) := by
  by_cases h1 : st.curPos = start
  · have e := checkStart_at hf h1
    have := buildLoop_found start l st (by rw [e])
    rw [this.1, this.2, e, if_pos h1, ← hs]
  · have e := checkStart_past hf (Nat.lt_of_le_of_ne h (Ne.symm h1))
    have := buildLoop_found start l st (by rw [e])
    rw [this.1, this.2, e, if_neg h1]

theorem buildLoop_start (start : Nat) : ∀ (l : List (Nat × Nat)) (st : PM), st.startFound = false →
    st.splitPair = false → start ≤ st.curPos + totalSize l →
    ((buildLoop start l st).mappedStart, (buildLoop start l st).splitPair) =
      (let j := searchInts (bounds st.curPos l) start
       if (bounds st.curPos l).getD j 0 == start then (st.runes.length + j, false) else (st.runes.length + j - 1, true)) := by
  intro l
  induction l with
  | nil =>
    intro st hf hs h
    rw [totalSize_nil, Nat.add_zero] at h
    rw [buildLoop_here start [] st hf hs h]
    simp [bounds, searchInts, h]
  | cons p l ih =>
    intro st hf hs h
    obtain ⟨r, sz⟩ := p
    by_cases h3 : st.curPos < start
    · -- the start lies further right: the check does nothing, and the search passes over the entry of this boundary
      rw [totalSize_cons] at h
      rw [buildLoop, checkStart_before hf h3,
        ih { st with runes := st.runes ++ [r], posMap := st.posMap ++ [st.curPos], curPos := st.curPos + sz } hf hs
          (by simp only; omega)]
      simp only [bounds, searchInts, if_neg (Nat.not_le_of_gt h3), List.length_append, List.length_singleton]
      rw [Nat.add_comm 1, List.getD_cons_succ]
      split <;> (congr 1; omega)
    · rw [buildLoop_here start _ st hf hs (Nat.le_of_not_lt h3)]
      simp [bounds, searchInts, Nat.le_of_not_lt h3]

theorem searchInts_lt (start : Nat) : ∀ (l : List (Nat × Nat)) (cur : Nat), start ≤ cur + totalSize l →
    searchInts (bounds cur l) start < (bounds cur l).length := by
  intro l
  induction l with
  | nil => intro cur h; simp [totalSize] at h; simp [bounds, searchInts, h]
  | cons p l ih =>
    intro cur h
    obtain ⟨r, sz⟩ := p
    rw [totalSize_cons] at h
    simp only [bounds, searchInts, List.length_cons]
    split
    · omega
    · have := ih (cur + sz) (by omega); omega

theorem buildPosMap_start (units : List Nat) (start : Nat) (h : start ≤ units.length) :
    ((buildPosMap units start).mappedStart, (buildPosMap units start).splitPair) =
      reverseLookup (bounds 0 (decode units)) start := by
  have htot : start ≤ 0 + totalSize (decode units) := by rw [totalSize_decode]; omega
  unfold buildPosMap
  rw [buildLoop_start start (decode units) {} rfl rfl htot]
  simp only [reverseLookup, searchInts_lt start (decode units) 0 htot, decide_true, Bool.true_and]
  generalize (bounds 0 (decode units)).getD (searchInts (bounds 0 (decode units)) start) 0 = v
  by_cases hv : v = start <;> simp [hv]

theorem searchInts_spec : ∀ (a : List Nat) (x : Nat), searchInts a x < a.length →
    a.getD (searchInts a x) 0 ≥ x ∧ ∀ i, i < searchInts a x → a.getD i 0 < x := by
  intro a
  induction a with
  | nil => intro x h; simp at h
  | cons y ys ih =>
    intro x h
    simp only [searchInts] at h ⊢
    by_cases hy : y ≥ x
    · simp [hy]
    · simp only [hy, if_false] at h ⊢
      simp only [List.length_cons] at h
      have := ih x (by omega)
      constructor
      · rw [Nat.add_comm]; exact this.1
      · intro i hi
        cases i with
        | zero => simp; omega
        | succ i => simp only [List.getD_cons_succ]; exact this.2 i (by omega)

theorem reverseLookup_spec (pm : List Nat) (pos : Nat) (h0 : pm.getD 0 0 ≤ pos) (hlt : searchInts pm pos < pm.length) :
    ((reverseLookup pm pos).2 = false → pm[(reverseLookup pm pos).1]? = some pos) ∧
    ((reverseLookup pm pos).2 = true → ∃ a b, pm[(reverseLookup pm pos).1]? = some a ∧
        pm[(reverseLookup pm pos).1 + 1]? = some b ∧ a < pos ∧ pos < b) := by
  obtain ⟨hge, hbelow⟩ := searchInts_spec pm pos hlt
  have hj := getD_of_lt pm _ hlt
  simp only [reverseLookup, hlt, decide_true, Bool.true_and]
  generalize searchInts pm pos = j at *
  by_cases heq : pm.getD j 0 = pos
  · rw [if_neg (by simpa using heq)]
    exact ⟨fun _ => heq ▸ hj, fun h => nomatch h⟩
  · rw [if_pos (by simpa using heq)]
    -- the entry at `j` is above `pos`, so `j ≠ 0`, and the entry before it is below
    have hj0 : j ≠ 0 := fun e => by subst e; omega
    refine ⟨(fun h => nomatch h), fun _ => ⟨pm.getD (j - 1) 0, pm.getD j 0, getD_of_lt pm (j - 1) (by omega), ?_,
      hbelow (j - 1) (by omega), by omega⟩⟩
    rw [Nat.sub_add_cancel (Nat.pos_of_ne_zero hj0)]
    exact hj

theorem utf8Len_pos (r : Nat) : 1 ≤ utf8Len r := by
  unfold utf8Len; split <;> (try omega); split <;> (try omega); split <;> omega

theorem pre8_cons (r sz : Nat) (l : List (Nat × Nat)) (k : Nat) :
    pre8 ((r, sz) :: l) (k + 1) = utf8Len r + pre8 l k := rfl

theorem pre8_pos : ∀ (l : List (Nat × Nat)) (k : Nat), 1 ≤ k → k ≤ l.length → 1 ≤ pre8 l k := by
  intro l
  induction l with
  | nil => intro k h1 h2; simp at h2; omega
  | cons p l ih =>
    intro k h1 h2
    obtain ⟨r, sz⟩ := p
    cases k with
    | zero => omega
    | succ k => rw [pre8_cons]; have := utf8Len_pos r; omega

theorem searchSrc_utf8Loop : ∀ (l : List (Nat × Nat)) (s u k : Nat), 1 ≤ k → k ≤ l.length →
    searchSrc (utf8Loop l s u) (u + pre8 l k) = some (u + pre8 l k, s + totalSize (l.take k)) := by
  intro l
  induction l with
  | nil => intro s u k h1 h2; simp at h2; omega
  | cons p l ih =>
    intro s u k h1 h2
    obtain ⟨r, sz⟩ := p
    cases k with
    | zero => omega
    | succ k =>
      simp only [utf8Loop, searchSrc, pre8_cons, List.take_succ_cons, totalSize_cons]
      cases k with
      | zero =>
        have h0 : pre8 l 0 = 0 := by simp [pre8]
        simp [h0, totalSize]
      | succ k =>
        simp only [List.length_cons] at h2
        have hpos := pre8_pos l (k + 1) (by omega) (by omega)
        have hlt : ¬ (u + utf8Len r ≥ u + (utf8Len r + pre8 l (k + 1))) := by omega
        simp only [hlt, if_false]
        have := ih (s + sz) (u + utf8Len r) (k + 1) (by omega) (by omega)
        rw [Nat.add_assoc, Nat.add_assoc s] at this
        exact this

theorem strictDecode_eq_decode : ∀ (units : List Nat) (l : List (Nat × Nat)),
    strictDecode units = some l → l = decode units := by
  intro units
  fun_induction strictDecode units with
  | case1 => intro l h; cases h; rfl
  | case2 c hc d rest hd ih =>
    intro l h
    obtain ⟨l', h', rfl⟩ := Option.map_eq_some_iff.mp h
    rw [decode_pair rest hc hd, ih l' h']
  | case3 => intro l h; cases h
  | case4 => intro l h; cases h
  | case5 => intro l h; cases h
  | case6 c rest hc _ ih =>
    intro l h
    obtain ⟨l', h', rfl⟩ := Option.map_eq_some_iff.mp h
    rw [decode_single rest hc, ih l' h']

end GojaModel.C20
