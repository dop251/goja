/-
  C20 — lemmas about the reference matcher (Ref.lean): the three engine-forcing rewrites are neutral, every match
  and every capture lies inside the input, and the matcher's own finder is `Leftmost`.
-/
import GojaModel.C20.Defs
namespace GojaModel.C20.Ref
open GojaModel.C20

section equations
variable (o : Opts) (inp : Array Nat) (n : Nat) (st : St) (k : St → Option St)

theorem run_seq (ns : List Node) :
    run o inp (n + 1) (.seq ns) st k = (ns.foldr (fun p kont => fun s => run o inp n p s kont) k) st := rfl

theorem run_alt (ns : List Node) :
    run o inp (n + 1) (.alt ns) st k = firstSome ns (fun p => run o inp n p st k) := rfl

theorem run_grp (idx : Nat) (p : Node) :
    run o inp (n + 1) (.grp idx p) st k =
      run o inp n p st (fun st2 =>
        k (if idx > 0 then { st2 with caps := setCap st2.caps idx (some (st.pos, st2.pos)) } else st2)) := rfl

theorem run_la (neg : Bool) (p : Node) :
    run o inp (n + 1) (.la neg p) st k =
      match run o inp n p st (fun s => some s) with
      | some r => if neg then none else k { st with caps := r.caps }
      | none => if neg then k st else none := rfl

theorem run_q (min : Nat) (max : Option Nat) (lazy : Bool) (firstCap nCaps : Nat) (p : Node) :
    run o inp (n + 1) (.q min max lazy firstCap nCaps p) st k =
      if max == some 0 then k st
      else
        let d : St → Option St := fun st2 =>
          if !o.perlLoops && min == 0 && st2.pos == st.pos then none
          else if o.perlLoops && st2.pos == st.pos then k st2
          else run o inp n (.q (min - 1) (max.map (· - 1)) lazy firstCap nCaps p) st2 k
        let st' := if o.perlLoops then st else { st with caps := clearCaps st.caps firstCap nCaps }
        if min > 0 then run o inp n p st' d
        else if lazy then
          match k st with
          | some r => some r
          | none => run o inp n p st' d
        else
          match run o inp n p st' d with
          | some r => some r
          | none => k st := rfl

end equations

theorem run_empty (o : Opts) (inp : Array Nat) (n : Nat) (st : St) (k : St → Option St) :
    run o inp (n + 1) emptyNode st k = k st := rfl

theorem neutral_v3 (o : Opts) (inp : Array Nat) (n : Nat) (p : Node) (st : St) (k : St → Option St) :
    run o inp (n + 4) (variant3 p) st k = run o inp (n + 2) p st k := by
  -- `(?!)` fails, so the alternation returns what `p` returns
  have h : ∀ k', run o inp (n + 3) (.alt [p, .la true emptyNode]) st k' = run o inp (n + 2) p st k' := by
    intro k'
    rw [run_alt]
    simp only [firstSome]
    rw [show run o inp (n + 2) (.la true emptyNode) st k' = none from rfl]
    cases run o inp (n + 2) p st k' <;> rfl
  exact h _

theorem capsIn_set (inp : Array Nat) (caps : List (Option (Nat × Nat))) (i : Nat) (v : Option (Nat × Nat))
    (h : CapsIn inp caps) (hv : ∀ a b, v = some (a, b) → a ≤ b ∧ b ≤ inp.size) : CapsIn inp (caps.set i v) := by
  intro c hc a b hcab
  rcases List.mem_or_eq_of_mem_set hc with h1 | h1
  · exact h c h1 a b hcab
  · subst h1; exact hv a b hcab

theorem capsIn_clear (inp : Array Nat) (first : Nat) : ∀ (n : Nat) (caps : List (Option (Nat × Nat))),
    CapsIn inp caps → CapsIn inp (clearCaps caps first n) := by
  intro n caps h
  unfold clearCaps
  generalize List.range n = l
  induction l generalizing caps with
  | nil => simpa using h
  | cons j l ih =>
    simp only [List.foldl]
    exact ih _ (capsIn_set inp caps _ none h (by intro a b hh; simp at hh))

/-- what a continuation-passing run guarantees about the state its continuation finally accepted -/
def Reaches (inp : Array Nat) (st : St) (k : St → Option St) (r : St) : Prop :=
  ∃ s', st.pos ≤ s'.pos ∧ s'.pos ≤ inp.size ∧ CapsIn inp s'.caps ∧ k s' = some r

section reaches
variable {inp : Array Nat} {st : St} {k : St → Option St} {r : St}

theorem reaches_trans {s1 : St} (h1 : st.pos ≤ s1.pos) (h : Reaches inp s1 k r) : Reaches inp st k r := by
  obtain ⟨s', a, b, c, d⟩ := h
  exact ⟨s', by omega, b, c, d⟩

theorem guard_reaches {c : Prop} [Decidable c] (hp : st.pos ≤ inp.size) (hc : CapsIn inp st.caps)
    (h : (if c then k st else none) = some r) : Reaches inp st k r := by
  split at h
  · exact ⟨st, Nat.le_refl _, hp, hc, h⟩
  · simp at h

theorem one_reaches (test : Nat → Bool) (hc : CapsIn inp st.caps)
    (h : (if st.pos < inp.size && test inp[st.pos]! then k { st with pos := st.pos + 1 } else none) = some r) :
    Reaches inp st k r := by
  split at h
  · rename_i hcond
    simp only [Bool.and_eq_true, decide_eq_true_eq] at hcond
    exact ⟨{ st with pos := st.pos + 1 }, by simp, by simp; omega, hc, h⟩
  · simp at h

end reaches

abbrev RunReaches (o : Opts) (inp : Array Nat) (fuel : Nat) : Prop :=
  ∀ (node : Node) (st : St) (k : St → Option St) (r : St), st.pos ≤ inp.size → CapsIn inp st.caps →
      run o inp fuel node st k = some r → Reaches inp st k r

theorem foldr_reaches (o : Opts) (inp : Array Nat) (fuel : Nat) (ih : RunReaches o inp fuel) :
    ∀ (ns : List Node) (st : St) (k : St → Option St) (r : St), st.pos ≤ inp.size → CapsIn inp st.caps →
      (ns.foldr (fun n kont => fun s => run o inp fuel n s kont) k) st = some r → Reaches inp st k r := by
  intro ns
  induction ns with
  | nil => intro st k r hp hc h; exact ⟨st, Nat.le_refl _, hp, hc, h⟩
  | cons n ns ihn =>
    intro st k r hp hc h
    obtain ⟨s1, a, b, c, d⟩ := ih n st _ r hp hc h
    exact reaches_trans a (ihn s1 k r b c d)

theorem firstSome_reaches (o : Opts) (inp : Array Nat) (fuel : Nat) (ih : RunReaches o inp fuel) :
    ∀ (ns : List Node) (st : St) (k : St → Option St) (r : St), st.pos ≤ inp.size → CapsIn inp st.caps →
      firstSome ns (fun n => run o inp fuel n st k) = some r → Reaches inp st k r := by
  intro ns
  induction ns with
  | nil => intro st k r hp hc h; simp [firstSome] at h
  | cons n ns ihn =>
    intro st k r hp hc h
    simp only [firstSome] at h
    cases hn : run o inp fuel n st k with
    | some r' => rw [hn] at h; simp at h; subst h; exact ih n st k r' hp hc hn
    | none => rw [hn] at h; exact ihn st k r hp hc h

theorem run_reaches (o : Opts) (inp : Array Nat) : ∀ (fuel : Nat), RunReaches o inp fuel := by
  intro fuel
  induction fuel with
  | zero => intro node st k r _ _ h; cases h
  | succ fuel ih =>
    intro node st k r hp hc h
    -- `h` is read through the defining equation of `run` for each kind of node
    cases node with
    | chr cp => exact one_reaches (setMatch o (fun c => c == cp)) hc h
    | dot => exact one_reaches (fun c => o.dotAll || !isLineTerm c) hc h
    | esc x => exact one_reaches (setMatch o (escMatch x)) hc h
    | cls neg items =>
      exact one_reaches (fun c => (setMatch o (fun d => items.any (fun it => itemMatch it d)) c) != neg) hc h
    | wb neg => exact guard_reaches hp hc h
    | bol => exact guard_reaches hp hc h
    | eol => exact guard_reaches hp hc h
    | grp idx n =>
      rw [run_grp] at h
      obtain ⟨s2, a, b, c, d⟩ := ih n st _ r hp hc h
      refine ⟨_, ?_, ?_, ?_, d⟩
      · split <;> simpa using a
      · split <;> simpa using b
      · split
        · exact capsIn_set inp s2.caps idx _ c (by intro x y hxy; simp at hxy; omega)
        · exact c
    | seq ns => exact foldr_reaches o inp fuel ih ns st k r hp hc (run_seq o inp fuel st k ns ▸ h)
    | alt ns => exact firstSome_reaches o inp fuel ih ns st k r hp hc (run_alt o inp fuel st k ns ▸ h)
    | la neg n =>
      rw [run_la] at h
      cases hn : run o inp fuel n st (fun s => some s) with
      | some r0 =>
        rw [hn] at h
        simp only at h
        split at h
        · simp at h
        · obtain ⟨s0, _, _, c0, d0⟩ := ih n st _ r0 hp hc hn
          simp at d0; subst d0
          exact ⟨{ st with caps := s0.caps }, by simp, by simpa using hp, c0, h⟩
      | none =>
        rw [hn] at h
        exact guard_reaches hp hc h
    | q min max lazy firstCap nCaps n =>
      rw [run_q] at h
      dsimp only at h
      -- `X`: one more iteration, run from `st` (captures of the group reset) with the loop as continuation
      generalize hX : run o inp fuel n _ _ = X at h
      have hd : ∀ r', X = some r' → Reaches inp st k r' := by
        intro r' hr
        subst hX
        have hpos : (if o.perlLoops = true then st else { st with caps := clearCaps st.caps firstCap nCaps }).pos = st.pos := by
          split <;> rfl
        have hclear : CapsIn inp (if o.perlLoops = true then st else { st with caps := clearCaps st.caps firstCap nCaps }).caps := by
          split
          · exact hc
          · exact capsIn_clear inp firstCap nCaps st.caps hc
        obtain ⟨s2, a, b, c2, c⟩ := ih n _ _ r' (Nat.le_trans (Nat.le_of_eq hpos) hp) hclear hr
        simp only at c
        split at c
        · simp at c
        · split at c
          · exact ⟨s2, by omega, b, c2, c⟩
          · exact reaches_trans (by omega) (ih _ s2 k r' b c2 c)
      have h0 : ∀ r', k st = some r' → Reaches inp st k r' := fun r' h' => ⟨st, Nat.le_refl _, hp, hc, h'⟩
      split at h
      · exact h0 r h
      · split at h
        · exact hd r h
        · split at h <;> split at h
          · rename_i r1 hk; exact h0 r (hk.trans h)
          · exact hd r h
          · exact hd r h
          · exact h0 r h

section finder
variable {o : Opts} {inp : Array Nat} {ncaps : Nat} {node : Node}

theorem findFrom_sound : ∀ {fuel i j : Nat} {r : St}, findFrom o inp ncaps node fuel i = some (j, r) →
      (i ≤ j ∧ j ≤ r.pos ∧ r.pos ≤ inp.size) ∧ CapsIn inp r.caps := by
  intro fuel
  induction fuel with
  | zero => intro i j r h; simp [findFrom] at h
  | succ fuel ih =>
    intro i j r h
    simp only [findFrom] at h
    split at h
    · simp at h
    · rename_i hi
      split at h
      · rename_i r0 hr
        simp at h
        obtain ⟨h1, h2⟩ := h
        subst h1 h2
        have hinit : CapsIn inp (List.replicate (ncaps + 1) (none : Option (Nat × Nat))) := by
          intro c hcm a b hcab
          rw [List.eq_of_mem_replicate hcm] at hcab; simp at hcab
        obtain ⟨s', a, b, c, d⟩ := run_reaches o inp _ node _ _ r0 (by simp; omega) hinit hr
        simp at d; subst d
        exact ⟨⟨Nat.le_refl _, by simpa using a, b⟩, c⟩
      · have := ih h
        exact ⟨by omega, this.2⟩

theorem findFrom_bounds {fuel i j : Nat} {r : St} (h : findFrom o inp ncaps node fuel i = some (j, r)) :
    i ≤ j ∧ j ≤ r.pos ∧ r.pos ≤ inp.size :=
  (findFrom_sound h).1

/-- one attempt at position `i`, the `run` call of `findFrom`; a run that uses up the fuel 100000 reads as "no match at `i`"
and the scan moves on -/
def tryAt (o : Opts) (inp : Array Nat) (ncaps : Nat) (node : Node) (i : Nat) : Option St :=
  run o inp 100000 node { pos := i, caps := List.replicate (ncaps + 1) none } (fun s => some s)

theorem findFrom_step (F i : Nat) :
    findFrom o inp ncaps node (F + 1) i =
      if i > inp.size then none
      else match tryAt o inp ncaps node i with
        | some r => some (i, r)
        | none => findFrom o inp ncaps node F (i + 1) := rfl

theorem findFrom_enough : ∀ (F F' i : Nat),
    inp.size + 2 - i ≤ F → inp.size + 2 - i ≤ F' →
    findFrom o inp ncaps node F i = findFrom o inp ncaps node F' i := by
  intro F
  induction F with
  | zero =>
    intro F' i h h'
    have hi : i > inp.size := by omega
    cases F' with
    | zero => rfl
    | succ k => rw [findFrom_step]; simp [hi, findFrom]
  | succ F ih =>
    intro F' i h h'
    cases F' with
    | zero =>
      have hi : i > inp.size := by omega
      rw [findFrom_step]; simp [hi, findFrom]
    | succ k =>
      rw [findFrom_step, findFrom_step]
      by_cases hi : i > inp.size
      · simp [hi]
      · simp only [hi, if_false]
        cases tryAt o inp ncaps node i with
        | some r => rfl
        | none => exact ih k (i + 1) (by omega) (by omega)

theorem refFind_unfold {i : Nat} (hi : i ≤ inp.size) :
    refFind o inp ncaps node i =
      match tryAt o inp ncaps node i with
      | some r => some (i, r)
      | none => refFind o inp ncaps node (i + 1) := by
  have hnot : ¬ i > inp.size := by omega
  simp only [refFind]
  rw [show inp.size + 2 = (inp.size + 1) + 1 from rfl, findFrom_step]
  simp only [hnot, if_false]
  cases tryAt o inp ncaps node i with
  | some r => rfl
  | none => exact findFrom_enough _ _ (i + 1) (by omega) (by omega)

theorem refFind_stable {i j : Nat} {r : St} (h : refFind o inp ncaps node i = some (j, r)) :
    ∀ i', i ≤ i' → i' ≤ j → refFind o inp ncaps node i' = some (j, r) := by
  intro i' hle
  induction hle with
  | refl => intro _; exact h
  | @step m _ ih =>
    intro hj
    have hm := ih (by omega)
    have hb : m ≤ inp.size := by have := findFrom_bounds hm; omega
    rw [refFind_unfold hb] at hm
    cases ht : tryAt o inp ncaps node m with
    | some r0 => rw [ht] at hm; simp at hm; omega
    | none => rw [ht] at hm; exact hm

theorem refFind_none_up {i : Nat} (h : refFind o inp ncaps node i = none) :
    ∀ i', i ≤ i' → refFind o inp ncaps node i' = none := by
  intro i' hle
  induction hle with
  | refl => exact h
  | @step m _ ih =>
    by_cases hm : m ≤ inp.size
    · rw [refFind_unfold hm] at ih
      cases ht : tryAt o inp ncaps node m with
      | some r0 => rw [ht] at ih; cases ih
      | none => rw [ht] at ih; exact ih
    · rw [refFind, findFrom_step, if_pos (by omega)]

end finder

theorem toMatchR_start (j : Nat) (st : St) : (toMatchR j st).start = j := rfl

theorem toMatchR_stop (j : Nat) (st : St) : (toMatchR j st).stop = st.pos := rfl

theorem refFinderCU_eq_some {o : Opts} {ncaps : Nat} {node : Node} {units : List Nat} {i : Nat} {r : MatchR}
    (h : refFinderCU o ncaps node units i = some r) :
    ∃ j st, refFind o units.toArray ncaps node i = some (j, st) ∧ r = toMatchR j st := by
  simp only [refFinderCU] at h
  cases hf : refFind o units.toArray ncaps node i with
  | none => rw [hf] at h; cases h
  | some p => rw [hf] at h; cases h; exact ⟨p.1, p.2, rfl, rfl⟩

theorem refFinderCU_leftmost (o : Opts) (ncaps : Nat) (node : Node) (units : List Nat) :
    Leftmost (refFinderCU o ncaps node units) units.length := by
  constructor
  · intro i r h
    obtain ⟨j, st, hf, rfl⟩ := refFinderCU_eq_some h
    rw [toMatchR_start]
    exact (findFrom_bounds hf).1
  · intro i r h
    obtain ⟨j, st, hf, rfl⟩ := refFinderCU_eq_some h
    have := findFrom_bounds hf
    rw [toMatchR_start, toMatchR_stop]
    exact ⟨this.2.1, by simpa using this.2.2⟩
  · intro i r j' h h1 h2
    obtain ⟨j, st, hf, rfl⟩ := refFinderCU_eq_some h
    rw [toMatchR_start] at h2
    simp only [refFinderCU, refFind_stable hf j' h1 h2, Option.map_some]
  · intro i j' h h1 _
    simp only [refFinderCU, Option.map_eq_none_iff] at h ⊢
    exact refFind_none_up h j' h1

end GojaModel.C20.Ref
