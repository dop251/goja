/-
  C20 — the notions, beyond the model, that the statements of Props.lean are written with: what is assumed of the opaque
  finder (`Leftmost`, `CapsAgree`, `OnChain`) and of raw result lists (`Ordered`, `NoAdjEmpty`, `CapsWF`), the UTF-8 offsets `pre8`, and, for the reference
  matcher, the three neutral rewrites, `CapsIn`, and its finder `refFind` / `refFinderCU`.  No theorem here.
  (`mechNamed`, how the Go callbacks present namedCaptures, stands in SubstLemmas.lean; `witnessFinder`, `witnessFinder2` in Props.lean.)
-/
import GojaModel.C20.Model
import GojaModel.C20.Ref
namespace GojaModel.C20

/-- What the protocol theorems assume about the opaque engine: matches lie inside the subject and
`f i` is the leftmost match at or after `i` (so it does not change while `i` moves up to its start).  `i` ranges over
every code-unit position: goja's own finder in unicode mode does not satisfy `ge` at a start that splits a surrogate pair
(it matches from the start of the pair: `/./gu` with `lastIndex = 1` on "\u{1F600}b" reports index 0), so the check
validates the four conditions in unicode mode at code point boundaries only. -/
structure Leftmost (f : Finder) (n : Nat) : Prop where
  ge : ∀ i r, f i = some r → i ≤ r.start
  inside : ∀ i r, f i = some r → r.start ≤ r.stop ∧ r.stop ≤ n
  stable : ∀ i r j, f i = some r → i ≤ j → j ≤ r.start → f j = some r
  none_up : ∀ i j, f i = none → i ≤ j → j ≤ n → f j = none

/-- UTF-8 offset of the boundary after the first k runes. -/
def pre8 (l : List (Nat × Nat)) (k : Nat) : Nat := ((l.take k).map (fun p => utf8Len p.1)).sum

/-- start of a raw engine result, `result.indexes[0]` (written out as `(r.getD 0 0).toNat` in Model.lean) -/
def rS (r : List Int) : Nat := (r.getD 0 0).toNat
/-- its end, `result.indexes[1]` -/
def rE (r : List Int) : Nat := (r.getD 1 0).toNat

def Ordered (n : Nat) : List (List Int) → Nat → Prop
  | [], li => li ≤ n
  | r :: rest, li => li ≤ rS r ∧ rS r ≤ rE r ∧ Ordered n rest (rE r)

def NoAdjEmpty : List MatchR → Option Nat → Prop
  | [], _ => True
  | r :: rest, prev => ¬ (r.stop = r.start ∧ prev = some r.start) ∧ NoAdjEmpty rest (some r.stop)

/-- the situation in which exec's `lowerBound` rule (regexp.go execResultToArray) hides nothing -/
def CapsWF : List Int → Nat → Prop
  | s :: e :: rest, lower => (s = -1 ∧ CapsWF rest lower) ∨ (0 ≤ s ∧ (lower : Int) ≤ e ∧ CapsWF rest s.toNat)
  | _, _ => True

def iterAdv (units : List Nat) (u : Bool) : Nat → Nat → Nat
  | 0, q => q
  | d + 1, q => iterAdv units u d (advance units q u)

/-- what the theorem needs from captures: exec's `lowerBound` rule changes nothing (captures in order) -/
def CapsAgree (f : Finder) (units : List Nat) : Prop :=
  ∀ i r, f i = some r → captureVals units (r.idx.drop 2) 0 = captureValsPlain units (r.idx.drop 2)

/-- matches start on the AdvanceStringIndex chain of the position they were searched from (code point
boundaries in unicode mode; trivial in code-unit mode, see `onChain_false`). -/
def OnChain (f : Finder) (units : List Nat) (u : Bool) : Prop :=
  ∀ q r, f q = some r → ∃ d, iterAdv units u d q = r.start ∧ ∀ i, i < d → iterAdv units u i q < r.start

end GojaModel.C20

namespace GojaModel.C20.Ref
open GojaModel.C20

def emptyNode : Node := .seq []

/-- `(?=)(?:P)` -/
def variant1 (p : Node) : Node := .seq [.la false emptyNode, .grp 0 p]
/-- `(?:P)(?=)` -/
def variant2 (p : Node) : Node := .seq [.grp 0 p, .la false emptyNode]
/-- `(?:P|(?!))` -/
def variant3 (p : Node) : Node := .grp 0 (.alt [p, .la true emptyNode])

def CapsIn (inp : Array Nat) (caps : List (Option (Nat × Nat))) : Prop :=
  ∀ c ∈ caps, ∀ a b, c = some (a, b) → a ≤ b ∧ b ≤ inp.size

/-- the reference matcher's finder: the `findFrom` call that `Ref.table` makes for each start, with the same fuel -/
def refFind (o : Opts) (inp : Array Nat) (ncaps : Nat) (node : Node) (i : Nat) : Option (Nat × St) :=
  findFrom o inp ncaps node (inp.size + 2) i

/-- a reference match as an engine result (code-unit mode: input positions are UTF-16 indices) -/
def toMatchR (j : Nat) (st : St) : MatchR :=
  { idx := [Int.ofNat j, Int.ofNat st.pos] ++ (st.caps.drop 1).flatMap (fun c => match c with
      | some (a, b) => [Int.ofNat a, Int.ofNat b]
      | none => [-1, -1]),
    names := none }

def refFinderCU (o : Opts) (ncaps : Nat) (node : Node) (units : List Nat) : Finder :=
  fun i => (refFind o units.toArray ncaps node i).map (fun p => toMatchR p.1 p.2)

end GojaModel.C20.Ref
