/-
  C20 — the fast `Symbol.split` loop over the complete sweep of the finder simulates the generic algorithm
  (ECMA-262 22.2.6.14), with or without a limit, in code-unit and in code-point (unicode) mode.

  `SplitAgree q` is the simulation claim at search position `q`, proved by induction on the distance of `q` from
  the end of the subject from one lemma per situation at `q`.
-/
import GojaModel.C20.ProtocolLemmas
namespace GojaModel.C20

theorem le_ite {c : Prop} [Decidable c] {a x y : Nat} (hx : a ≤ x) (hy : a ≤ y) : a ≤ if c then x else y := by
  split <;> assumption

/-- every branch of `advance` returns `pos + 1`, the last one `pos + 2` -/
theorem advance_ge (units : List Nat) (q : Nat) (u : Bool) : q + 1 ≤ advance units q u :=
  le_ite (Nat.le_refl _) (le_ite (Nat.le_refl _) (le_ite (Nat.le_refl _) (le_ite (Nat.le_refl _) (Nat.le_succ _))))

theorem iterAdv_ge (units : List Nat) (u : Bool) : ∀ (d q : Nat), q + d ≤ iterAdv units u d q := by
  intro d
  induction d with
  | zero => intro q; simp [iterAdv]
  | succ d ih =>
    intro q
    have h1 := advance_ge units q u
    have h2 := ih (advance units q u)
    simp only [iterAdv]; omega

theorem iterAdv_false (units : List Nat) : ∀ (d q : Nat), iterAdv units false d q = q + d := by
  intro d
  induction d with
  | zero => intro q; rfl
  | succ d ih => intro q; simp only [iterAdv]; rw [ih]; simp [advance]; omega

/-- The limit tests made once a piece has been appended to the result `acc` (ECMA-262 22.2.6.14 steps
"if lengthA = lim, return A", builtin_regexp.go and `stdSplitter` alike): `some` = the array to return, after as many
of the captures `caps` as still fit; `none` = all captures are appended and the loop goes on. -/
def emit (lim : Option Nat) (acc caps : List (Option (List Nat))) : Option (List (Option (List Nat))) :=
  if lim == some acc.length then some acc
  else if caps.length ≥ (match lim with | some l => l - acc.length | none => caps.length + 1) then
    some (acc ++ caps.take (match lim with | some l => l - acc.length | none => caps.length + 1))
  else none

section generic
variable {f : Finder} {units : List Nat} {u : Bool} {lim : Option Nat} {fuel p q : Nat}
  {acc : List (Option (List Nat))} {r : MatchR}

theorem splitLoop_end (h : units.length ≤ q) :
    splitLoop f units u lim (fuel + 1) p q acc = acc ++ [some (sub units p units.length)] := by
  simp [splitLoop, h]

theorem splitLoop_miss (h : q < units.length) (hm : matchAt f q = none) :
    splitLoop f units u lim (fuel + 1) p q acc = splitLoop f units u lim fuel p (advance units q u) acc := by
  simp [splitLoop, Nat.not_le_of_gt h, hm]

theorem splitLoop_same (h : q < units.length) (hm : matchAt f q = some r) (hr : r.stop ≤ units.length) (he : r.stop = p) :
    splitLoop f units u lim (fuel + 1) p q acc = splitLoop f units u lim fuel p (advance units q u) acc := by
  subst he
  simp [splitLoop, Nat.not_le_of_gt h, hm, Nat.min_eq_left hr]

theorem splitLoop_split (h : q < units.length) (hm : matchAt f q = some r) (hr : r.stop ≤ units.length) (he : r.stop ≠ p) :
    splitLoop f units u lim (fuel + 1) p q acc =
      match emit lim (acc ++ [some (sub units p q)]) ((resultArray units r).drop 1) with
      | some res => res
      | none => splitLoop f units u lim fuel r.stop r.stop
          ((acc ++ [some (sub units p q)]) ++ (resultArray units r).drop 1) := by
  cases lim
  all_goals simp only [splitLoop, Nat.not_le_of_gt h, hm, Nat.min_eq_left hr, beq_eq_false_iff_ne.mpr he, emit, if_false,
    Bool.false_eq_true]
  · -- no limit: neither test fires
    simp only [ge_iff_le, Nat.not_succ_le_self, if_false]
    rfl
  · -- a limit: the two tests of `emit`, in the same order on both sides
    split
    · rfl
    · split <;> rfl

theorem splitLoop_skip : ∀ (d fuel q : Nat),
    (∀ i, i < d → iterAdv units u i q < units.length ∧ matchAt f (iterAdv units u i q) = none) →
    splitLoop f units u lim (fuel + d) p q acc = splitLoop f units u lim fuel p (iterAdv units u d q) acc := by
  intro d
  induction d with
  | zero => intro fuel q _; rfl
  | succ d ih =>
    intro fuel q hnone
    have h0 : q < units.length ∧ matchAt f q = none := hnone 0 (Nat.succ_pos d)
    rw [← Nat.add_assoc, splitLoop_miss h0.1 h0.2]
    exact ih fuel (advance units q u) fun i hi => hnone (i + 1) (Nat.succ_lt_succ hi)

theorem splitLoop_none : ∀ (fuel q : Nat), units.length ≤ q + fuel →
    (∀ j, q ≤ j → j ≤ units.length → matchAt f j = none) →
    splitLoop f units u lim (fuel + 1) p q acc = acc ++ [some (sub units p units.length)] := by
  intro fuel
  induction fuel with
  | zero => intro q hq _; exact splitLoop_end hq
  | succ fuel ih =>
    intro q hq hnone
    by_cases hlt : q < units.length
    · have hadv := advance_ge units q u
      rw [splitLoop_miss hlt (hnone q (Nat.le_refl q) (Nat.le_of_lt hlt))]
      exact ih _ (by omega) fun j hj => hnone j (by omega)
    · exact splitLoop_end (Nat.le_of_not_lt hlt)

end generic

section fast
variable {units : List Nat} {lim : Option Nat} {r : List Int} {rest : List (List Int)} {li found : Nat}
  {acc : List (Option (List Nat))}

theorem fastSplitLoop_skip (h : rS r = rE r ∧ (rS r = li ∨ rS r = units.length)) :
    fastSplitLoop units lim (r :: rest) li found acc = fastSplitLoop units lim rest li found acc := by
  have : ((r.getD 0 0).toNat == (r.getD 1 0).toNat &&
      ((r.getD 0 0).toNat == li || (r.getD 0 0).toNat == units.length)) = true := by
    simpa [rS, rE] using h
  simp only [fastSplitLoop, this, if_true]

/-- `found` counts the entries of the array, hence `acc.length` -/
theorem fastSplitLoop_take (h : ¬ (rS r = rE r ∧ (rS r = li ∨ rS r = units.length))) :
    fastSplitLoop units lim (r :: rest) li acc.length acc =
      match emit lim (acc ++ [some (sub units li (rS r))]) (captureValsPlain units (r.drop 2)) with
      | some res => (res, true, rE r)
      | none => fastSplitLoop units lim rest (rE r)
          ((acc ++ [some (sub units li (rS r))]) ++ captureValsPlain units (r.drop 2)).length
          ((acc ++ [some (sub units li (rS r))]) ++ captureValsPlain units (r.drop 2)) := by
  have : ((r.getD 0 0).toNat == (r.getD 1 0).toNat &&
      ((r.getD 0 0).toNat == li || (r.getD 0 0).toNat == units.length)) = false := by
    simpa [rS, rE] using h
  cases lim
  all_goals simp only [fastSplitLoop, this, Bool.false_eq_true, if_false, emit, List.length_append, List.length_singleton]
  · simp only [ge_iff_le, Nat.not_succ_le_self, if_false]
    rfl
  · split
    · rfl
    · split <;> rfl

end fast

/-- the tail of `stdSplitter`: the rest of the subject is the last piece unless the limit was reached -/
def finish (units : List Nat) (x : List (Option (List Nat)) × Bool × Nat) : List (Option (List Nat)) :=
  if x.2.1 then x.1 else x.1 ++ [some (sub units x.2.2 units.length)]

theorem onChain_false (f : Finder) (units : List Nat) (hf : Leftmost f units.length) : OnChain f units false := by
  intro q r h
  have := hf.ge q r h
  refine ⟨r.start - q, ?_, ?_⟩
  · rw [iterAdv_false]; omega
  · intro i hi; rw [iterAdv_false]; omega

/-- The claim at search position `q`: from there the generic loop, with any end `p ≤ q` of the last piece and any
array `acc` built so far, returns what the fast loop makes of the sweep from `q`.  Fuel: one unit of the sweep and
two of the generic loop for every position up to the end (an empty match is met twice, when it splits and again as a
match that ends where the last piece ended). -/
def SplitAgree (fl : RFlags) (f : Finder) (units : List Nat) (lim : Option Nat) (q : Nat) : Prop :=
  ∀ (p : Nat) (acc : List (Option (List Nat))) (fg fs : Nat),
    p ≤ q → units.length + 1 ≤ q + fs → 2 * units.length + 3 ≤ 2 * q + fg →
    splitLoop f units fl.unicode lim (fg + 1) p q acc =
      finish units (fastSplitLoop units lim ((idealAllLoop fl f units false (fs + 1) q none).map (·.idx)) p acc.length acc)

section agree
variable {fl : RFlags} {f : Finder} {units : List Nat} {lim : Option Nat} {q : Nat} {r : MatchR}

theorem splitAgree_end (h : units.length < q) : SplitAgree fl f units lim q := by
  intro p acc fg fs _ _ _
  rw [splitLoop_end (Nat.le_of_lt h), idealAllLoop_end h]
  rfl

theorem splitAgree_none (hf : Leftmost f units.length) (hfq : f q = none) : SplitAgree fl f units lim q := by
  intro p acc fg fs _ _ hG
  rw [idealAllLoop_none hfq, splitLoop_none fg q (by omega) fun j h1 h2 => by simp [matchAt, hf.none_up q j hfq h1 h2]]
  rfl

theorem matchAt_before (hf : Leftmost f units.length) (hfq : f q = some r) (j : Nat) (h1 : q ≤ j) (h2 : j < r.start) :
    matchAt f j = none := by
  simp [matchAt, hf.stable q r j hfq h1 (Nat.le_of_lt h2), Nat.ne_of_gt h2]

/-- from `q` the generic loop walks down the chain to the start of the match the finder reports, where the sweep
finds the same match -/
theorem splitAgree_of_start (hf : Leftmost f units.length) (hch : OnChain f units fl.unicode) (hfq : f q = some r)
    (h : SplitAgree fl f units lim r.start) : SplitAgree fl f units lim q := by
  intro p acc fg fs hp hS hG
  have hge := hf.ge q r hfq
  have hin := hf.inside q r hfq
  have hrN : r.start ≤ units.length := Nat.le_trans hin.1 hin.2
  obtain ⟨d, hd1, hd2⟩ := hch q r hfq
  have hdle : q + d ≤ r.start := hd1 ▸ iterAdv_ge units fl.unicode d q
  obtain ⟨fg, rfl⟩ : ∃ k, fg = k + d := ⟨fg - d, by omega⟩
  rw [idealAllLoop_some (Nat.le_trans hge hrN) hfq,
    ← idealAllLoop_some hrN (hf.stable q r r.start hfq hge (Nat.le_refl _)),
    Nat.add_right_comm, splitLoop_skip d (fg + 1) q fun i hi =>
      ⟨Nat.lt_of_lt_of_le (hd2 i hi) hrN,
        matchAt_before hf hfq _ (Nat.le_trans (Nat.le_add_right q i) (iterAdv_ge units fl.unicode i q)) (hd2 i hi)⟩,
    hd1]
  exact h p acc fg fs (Nat.le_trans hp hge) (by omega) (by omega)

theorem splitAgree_at_match (hf : Leftmost f units.length) (hc : CapsAgree f units) (hfq : f q = some r)
    (hs : r.start = q) (ih : ∀ q', q < q' → SplitAgree fl f units lim q') : SplitAgree fl f units lim q := by
  intro p acc fg fs hp hS hG
  have hin := hf.inside q r hfq
  have hat : matchAt f q = some r := by simp [matchAt, hfq, hs]
  have hadv := advance_ge units q fl.unicode
  have hS' : rS r.idx = q := hs
  have hq : q ≤ units.length := hs ▸ Nat.le_trans hin.1 hin.2
  rw [idealAllLoop_some hq hfq, List.map_cons]
  by_cases hend : q = units.length
  · -- a match at the very end never splits
    have hemp : r.stop = r.start := by omega
    rw [splitLoop_end (Nat.le_of_eq hend.symm), fastSplitLoop_skip ⟨hemp.symm, Or.inr (hS'.trans hend)⟩, if_pos hemp,
      hemp, hs, idealAllLoop_end (by omega)]
    rfl
  have hlt : q < units.length := Nat.lt_of_le_of_ne hq hend
  obtain ⟨fg, rfl⟩ : ∃ k, fg = k + 2 := ⟨fg - 2, by omega⟩
  obtain ⟨fs, rfl⟩ : ∃ k, fs = k + 1 := ⟨fs - 1, by omega⟩
  -- further right one unit less of the sweep and two less of the generic loop are enough
  have next : ∀ (q' p' : Nat) (acc' : List (Option (List Nat))) (k : Nat), q < q' → p' ≤ q' →
      splitLoop f units fl.unicode lim (fg + k + 1) p' q' acc' =
        finish units (fastSplitLoop units lim ((idealAllLoop fl f units false (fs + 1) q' none).map (·.idx)) p'
          acc'.length acc') :=
    fun q' p' acc' k hq hp' => ih q' hq p' acc' (fg + k) fs hp' (by omega) (by omega)
  by_cases hsk : r.stop = r.start ∧ r.start = p
  · rw [splitLoop_same hlt hat hin.2 (hsk.1.trans hsk.2), fastSplitLoop_skip ⟨hsk.1.symm, Or.inl hsk.2⟩, if_pos hsk.1,
      hsk.1, hs]
    exact next _ p acc 1 hadv (Nat.le_trans hp (Nat.le_of_lt hadv))
  · have hcaps : (resultArray units r).drop 1 = captureValsPlain units (r.idx.drop 2) := hc q r hfq
    rw [splitLoop_split hlt hat hin.2 (fun h => hsk (by omega)),
      fastSplitLoop_take (fun h => h.2.elim (fun b => hsk ⟨h.1.symm, b⟩) (fun b => hend (hS'.symm.trans b))), hS', hcaps,
      show rE r.idx = r.stop from rfl]
    cases emit lim (acc ++ [some (sub units p q)]) (captureValsPlain units (r.idx.drop 2)) with
    | some res => rfl
    | none =>
      by_cases hemp : r.stop = r.start
      · -- an empty match that splits is met once more, now ending where the last piece ended
        simp only [if_pos hemp]
        rw [hemp, hs, splitLoop_same hlt hat hin.2 (hemp.trans hs)]
        exact next _ q _ 0 hadv (Nat.le_of_lt hadv)
      · simp only [if_neg hemp]
        exact next r.stop r.stop _ 1 (by omega) (Nat.le_refl _)

end agree

theorem split_main (fl : RFlags) (f : Finder) (units : List Nat) (lim : Option Nat)
    (hf : Leftmost f units.length) (hc : CapsAgree f units) (hch : OnChain f units fl.unicode) :
    ∀ (m q : Nat), units.length + 1 ≤ q + m → SplitAgree fl f units lim q := by
  intro m
  induction m with
  | zero => intro q hm; exact splitAgree_end hm
  | succ m ih =>
    intro q hm
    by_cases hq : units.length < q
    · exact splitAgree_end hq
    cases hfq : f q with
    | none => exact splitAgree_none hf hfq
    | some r =>
      have hge := hf.ge q r hfq
      exact splitAgree_of_start hf hch hfq <|
        splitAgree_at_match hf hc (hf.stable q r r.start hfq hge (Nat.le_refl _)) rfl fun q' hq' => ih q' (by omega)

end GojaModel.C20
