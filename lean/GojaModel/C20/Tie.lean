/-
  C20 tie: what extract/c20.go regenerates from /repo's builtin_regexp.go and regexp.go on every run is what the model
  transcribes — the flag loop of compileRegexp (GojaModel/Generated/C20_Flags.lean, the function `parseFlags_spec`
  talks about), the decision trees of `findSubmatchIndex` / `findAllSubmatchIndex` (C20_Routing.lean) and the guard
  expressions of the lastIndex protocol and of the fast-path selection (C20_Guards.lean).
-/
import GojaModel.C20.Model
import GojaModel.Generated.C20_Flags
import GojaModel.Generated.C20_Routing
import GojaModel.Generated.C20_Guards
namespace GojaModel.C20

/-- generated = model, for every state and every character. -/
theorem tie_flagStep : GojaModel.Generated.C20.flagStep = flagStep := by
  funext st chr; rfl

/-- the switch has exactly one case per letter of the flag alphabet (plus `default`). -/
theorem tie_caseCount : GojaModel.Generated.C20.caseCount = flagAlphabet.length := by decide

/-- `regexpPattern.findAllSubmatchIndex` as regenerated from regexp.go decides exactly like the hand model
`findAllRoute` (which the raw-list correspondence and the theorems about sweeps assume), for all 128 inputs. -/
theorem tie_findAllRoute : ∀ (a b c d e f g : Bool),
    evalNode (RouteIn.env ⟨a, b, c, d, e, f, g⟩) GojaModel.Generated.C20.findAllTree = findAllRoute ⟨a, b, c, d, e, f, g⟩ := by
  decide

/-- `regexpPattern.findSubmatchIndex`: the linear engine is used only from start 0. -/
theorem tie_findRoute : ∀ (a b c d e f g : Bool),
    evalNode (RouteIn.env ⟨a, b, c, d, e, f, g⟩) GojaModel.Generated.C20.findTree = findRoute ⟨a, b, c, d, e, f, g⟩ := by
  intro a b c d e f g
  cases a <;> cases b <;> rfl

/-- The guard expressions the protocol / fast-path models were transcribed from (Model.lean: `getLastIndex`,
`execRegexp` — range test `index ≤ n`, match test incl. the sticky position test, write-back under g ∨ y of the
match END —, `fastGlobalMatches` / replace (sticky ⇒ generic), `fastSearch` (lastIndex restored on every path),
`fastSplitLoop` (which empty matches do not split)). -/
def expectedGuards : List (String × String) := [
  ("getLastIndex.zero", "!r.pattern.global && !r.pattern.sticky"),
  ("execRegexp.range", "index >= 0 && index <= int64(target.Length())"),
  ("execRegexp.writeBack", "r.pattern.global || r.pattern.sticky"),
  ("execRegexp.ifMatch", "match"),
  ("execRegexp.newLastIndex", "newLastIndex = int64(result.indexes[1])"),
  ("execRegexp.match", "len(result.indexes) > 0 && (!r.pattern.sticky || int64(result.indexes[0]) == index)"),
  ("stdMatcher.generic", "rx == nil || (rx.pattern.global && rx.pattern.sticky)"),
  ("stdReplacer.generic", "rx == nil || rx.pattern.sticky"),
  ("stdSearch.generic", "rx == nil"),
  ("stdSearch.restoreBeforeNoMatchReturn", "true"),
  ("stdSplitter.skipEmpty", "result.indexes[0] == lastIndex || result.indexes[0] == targetLength")
]

/-- the guards regenerated from the Go source are the ones the model transcribes -/
theorem tie_guards : GojaModel.Generated.C20.guards = expectedGuards := rfl

end GojaModel.C20
