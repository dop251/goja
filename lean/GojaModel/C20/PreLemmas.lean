/-
  C20 — lemmas about the pattern pre-processing model (Pre.lean), up to `convSimple_denote`: the conversion of astral
  characters preserves the code units a literal pattern matches.
-/
import GojaModel.C20.Pre
namespace GojaModel.C20.Pre

theorem hexDigitChar_le (d : Nat) (h : d < 16) : hexDigitChar d ≤ 0xFFFF := by
  unfold hexDigitChar; split <;> omega

theorem hexVal_hexDigitChar : ∀ d, d < 16 → hexVal (hexDigitChar d) = some d := by decide

theorem writeHex4_le (v : Nat) : ∀ x ∈ writeHex4 v, x ≤ 0xFFFF := by
  intro x hx
  simp only [writeHex4, List.mem_cons, List.not_mem_nil, or_false] at hx
  rcases hx with h | h | h | h <;> subst h <;> exact hexDigitChar_le _ (Nat.mod_lt _ (by omega))

theorem escText_le (r : Nat) : ∀ x ∈ escText r, x ≤ 0xFFFF := by
  simp only [escText, List.forall_mem_append]
  exact ⟨⟨⟨by decide, writeHex4_le _⟩, by decide⟩, writeHex4_le _⟩

theorem convertLoop_bmp : ∀ (p : List Nat) (prev : Nat), ∀ x ∈ convertLoop p prev, x ≤ 0xFFFF := by
  intro p
  induction p with
  | nil => exact fun _ _ hx => nomatch hx
  | cons r rest ih =>
    intro prev
    rw [convertLoop]
    split
    · simp only [List.forall_mem_append]
      refine ⟨⟨?_, escText_le r⟩, ih r⟩
      split
      · exact List.forall_mem_cons.mpr ⟨by decide, fun _ hx => nomatch hx⟩
      · exact fun _ hx => nomatch hx
    · exact List.forall_mem_cons.mpr ⟨by omega, ih r⟩

theorem convertLoop_id : ∀ (p : List Nat) (prev : Nat), (∀ x ∈ p, x ≤ 0xFFFF) → convertLoop p prev = p := by
  intro p
  induction p with
  | nil => intro _ _; rfl
  | cons r rest ih =>
    intro prev h
    have hr : ¬ r > 0xFFFF := by have := h r (by simp); omega
    simp only [convertLoop, hr, if_false]
    rw [ih r (fun x hx => h x (by simp [hx]))]

theorem noEsc_tail {a : Nat} {l : List Nat} (h : NoEscAstral (a :: l)) : NoEscAstral l := by
  cases l with
  | nil => simp [NoEscAstral]
  | cons b rest => simp only [NoEscAstral] at h; exact h.2

theorem noEsc_head {r prev : Nat} {rest : List Nat} (h : NoEscAstral (prev :: r :: rest)) :
    ¬ (prev = 92 ∧ r > 0xFFFF) := by
  simp only [NoEscAstral] at h
  exact h.1

theorem convertLoop_cons (r prev : Nat) (rest : List Nat) :
    convertLoop (r :: rest) prev =
      (if r > 0xFFFF then (if prev = 92 then [92] else []) ++ escText r ++ convertLoop rest r else r :: convertLoop rest r) := rfl

theorem convSimple_cons (r : Nat) (rest : List Nat) :
    convSimple (r :: rest) = (if r > 0xFFFF then escText r else [r]) ++ convSimple rest := rfl

theorem convertLoop_eq_simple : ∀ (p : List Nat) (prev : Nat), NoEscAstral (prev :: p) →
    convertLoop p prev = convSimple p := by
  intro p
  induction p with
  | nil => intro _ _; rfl
  | cons r rest ih =>
    intro prev h
    have h1 := noEsc_head h
    have h2 := noEsc_tail h
    rw [convertLoop_cons, convSimple_cons, ih r h2]
    by_cases hr : r > 0xFFFF
    · have hp : ¬ prev = 92 := fun e => h1 ⟨e, hr⟩
      rw [if_pos hr, if_pos hr, if_neg hp, List.nil_append]
    · rw [if_neg hr, if_neg hr]
      rfl

theorem hex4_roundtrip (v : Nat) (hv : v < 65536) :
    ((((v / 4096 % 16) * 16 + v / 256 % 16) * 16 + v / 16 % 16) * 16 + v % 16) = v := by
  -- three times `m / 16 * 16 + m % 16 = m`, for m = v / 256, v / 16, v
  have h1 : v / 4096 % 16 = v / 256 / 16 := by
    rw [Nat.mod_eq_of_lt (Nat.div_lt_of_lt_mul hv), Nat.div_div_eq_div_mul]
  have h2 : v / 256 = v / 16 / 16 := by rw [Nat.div_div_eq_div_mul]
  rw [h1, Nat.div_add_mod', h2, Nat.div_add_mod', Nat.div_add_mod']

theorem denote_plain (c : Nat) (rest : List Nat) (h : c ≠ 92) :
    denote (c :: rest) = (denote rest).map (fun l => units c ++ l) := by
  rw [denote.eq_def]; simp [h]

theorem denote_esc (e : Nat) (rest : List Nat) (h : e ≠ 117) :
    denote (92 :: e :: rest) =
      if e = 92 ∨ e = 45 ∨ e > 0xFFFF then (denote rest).map (fun l => units e ++ l) else none := by
  rw [denote.eq_def]; simp [h]

theorem denote_hex_some {a b c d x y z w : Nat} (rest : List Nat)
    (ha : hexVal a = some x) (hb : hexVal b = some y) (hc : hexVal c = some z) (hd : hexVal d = some w) :
    denote (92 :: 117 :: a :: b :: c :: d :: rest) = (denote rest).map (fun l => (((x * 16 + y) * 16 + z) * 16 + w) :: l) := by
  rw [denote.eq_def]
  simp [ha, hb, hc, hd]

theorem denote_u (v : Nat) (hv : v < 65536) (rest : List Nat) :
    denote ([92, 117] ++ writeHex4 v ++ rest) = (denote rest).map (fun l => v :: l) := by
  have h := denote_hex_some rest
    (hexVal_hexDigitChar (v / 4096 % 16) (Nat.mod_lt _ (by decide)))
    (hexVal_hexDigitChar (v / 256 % 16) (Nat.mod_lt _ (by decide)))
    (hexVal_hexDigitChar (v / 16 % 16) (Nat.mod_lt _ (by decide)))
    (hexVal_hexDigitChar (v % 16) (Nat.mod_lt _ (by decide)))
  rw [hex4_roundtrip v hv] at h
  exact h

theorem hi_lt (r : Nat) (h : r ≤ 0x10FFFF) : hi r < 65536 := by unfold hi; omega
theorem lo_lt (r : Nat) : lo r < 65536 := by unfold lo; omega

theorem denote_escText (r : Nat) (hr : r > 0xFFFF) (hmax : r ≤ 0x10FFFF) (rest : List Nat) :
    denote (escText r ++ rest) = (denote rest).map (fun l => units r ++ l) := by
  have e : escText r ++ rest = [92, 117] ++ writeHex4 (hi r) ++ ([92, 117] ++ writeHex4 (lo r) ++ rest) := by
    simp [escText]
  rw [e, denote_u _ (hi_lt r hmax), denote_u _ (lo_lt r)]
  cases denote rest <;> simp [units, hr]

theorem hexVal_le {a x : Nat} (h : hexVal a = some x) : a ≤ 102 := by
  unfold hexVal at h
  split at h
  · omega
  · split at h
    · omega
    · split at h
      · omega
      · simp at h

theorem convSimple_small (c : Nat) (rest : List Nat) (h : c ≤ 0xFFFF) : convSimple (c :: rest) = c :: convSimple rest := by
  have : ¬ c > 0xFFFF := by omega
  simp [convSimple, this]

theorem convSimple_denote (p : List Nat) : NoEscAstral p → (∀ r ∈ p, r ≤ 0x10FFFF) →
    denote p ≠ none → denote (convSimple p) = denote p := by
  fun_induction denote p with
  | case1 => intro _ _ _; rfl
  | case2 c rest hc ih =>
    intro hne hmax hden
    have ihr := ih (noEsc_tail hne) (fun r hr => hmax r (by simp [hr])) (mt Option.map_eq_none_iff.mpr hden)
    by_cases hca : c > 0xFFFF
    · rw [convSimple_cons, if_pos hca, denote_escText c hca (hmax c (by simp)), ihr]
    · rw [convSimple_small c rest (by omega), denote_plain c _ hc, ihr]
  | case3 r hr => intro _ _ hden; exact absurd rfl hden
  | case4 r hr a b c' d rest3 x y z w hd hc hb ha ih =>
    intro hne hmax hden
    have la := hexVal_le ha
    have lb := hexVal_le hb
    have lc := hexVal_le hc
    have ld := hexVal_le hd
    have hr : r = 92 := Decidable.not_not.mp hr
    have e3_ne : NoEscAstral rest3 :=
      noEsc_tail (noEsc_tail (noEsc_tail (noEsc_tail (noEsc_tail (noEsc_tail hne)))))
    rw [convSimple_small r _ (by omega), convSimple_small 117 _ (by omega), convSimple_small a _ (by omega),
      convSimple_small b _ (by omega), convSimple_small c' _ (by omega), convSimple_small d _ (by omega), hr,
      denote_hex_some _ ha hb hc hd,
      ih e3_ne (fun r hr => hmax r (by simp [hr])) (mt Option.map_eq_none_iff.mpr hden)]
  | case5 => intro _ _ hden; exact absurd rfl hden
  | case6 => intro _ _ hden; exact absurd rfl hden
  | case7 r hr e rest he hcond ih =>
    intro hne hmax hden
    have hr : r = 92 := Decidable.not_not.mp hr
    subst hr
    have hsmall : e ≤ 0xFFFF := by
      rcases hcond with h | h | h
      · omega
      · omega
      · exact absurd ⟨rfl, h⟩ (noEsc_head hne)
    rw [convSimple_small 92 _ (by omega), convSimple_small e _ hsmall, denote_esc e _ he, if_pos hcond,
      ih (noEsc_tail (noEsc_tail hne)) (fun r hr => hmax r (by simp [hr])) (mt Option.map_eq_none_iff.mpr hden)]
  | case8 => intro _ _ hden; exact absurd rfl hden

end GojaModel.C20.Pre
