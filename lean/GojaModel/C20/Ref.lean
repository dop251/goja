/-
  C20 — reference backtracking matcher for the syntax shared by both engines, written from the
  continuation semantics of ECMA-262 §22.2.2 (CompileSubpattern, RepeatMatcher, CharacterSetMatcher; the shared
  syntax has no back-references, so BackreferenceMatcher is not needed).  It is the third party of the three-way comparison: when the
  linear-time engine and the backtracking engine disagree, the one that differs from this matcher is the
  deviating one.  Core Lean only; executed by the driver (`ref` op), fuel-bounded (subjects are short).

  Input characters are UTF-16 code units, or code points in unicode mode (lenient decoding, `decode` of
  Model.lean); reported indices are translated back to UTF-16 with the position map of `buildPosMap`.
-/
import GojaModel.C20.Model
namespace GojaModel.C20.Ref

inductive CItem where
  | c (cp : Nat)
  | r (lo hi : Nat)
  | e (x : Char)
  deriving Repr, Inhabited

inductive Node where
  | chr (cp : Nat)
  | dot
  | esc (x : Char)
  | cls (neg : Bool) (items : List CItem)
  | wb (neg : Bool)
  | bol
  | eol
  | grp (idx : Nat) (n : Node)                                   -- idx 0: non-capturing
  | q (min : Nat) (max : Option Nat) (lazy : Bool) (firstCap nCaps : Nat) (n : Node)
  | seq (ns : List Node)
  | alt (ns : List Node)
  | la (neg : Bool) (n : Node)
  deriving Inhabited

structure Opts where
  ignoreCase : Bool := false
  multiline : Bool := false
  dotAll : Bool := false
  unicode : Bool := false
  /-- deviation switch: `\b`/`\B` use Unicode letters/digits as word characters (what regexp2 does) -/
  wbUnicode : Bool := false
  /-- deviation switch: no empty-iteration check and no capture reset in quantifiers (Perl/RE2-like) -/
  perlLoops : Bool := false

structure St where
  pos : Nat
  caps : List (Option (Nat × Nat))
  deriving Inhabited

def isLineTerm (c : Nat) : Bool := c == 10 || c == 13 || c == 0x2028 || c == 0x2029

def isAsciiWord (c : Nat) : Bool :=
  (48 ≤ c && c ≤ 57) || (65 ≤ c && c ≤ 90) || (97 ≤ c && c ≤ 122) || c == 95

/-- Unicode categories L / Mn / Nd / Pc restricted to the blocks the generator's alphabets use. -/
def isUnicodeWord (c : Nat) : Bool :=
  isAsciiWord c || c == 0xAA || c == 0xB5 || c == 0xBA ||
  (0xC0 ≤ c && c ≤ 0x24F && c != 0xD7 && c != 0xF7) ||
  (0x400 ≤ c && c ≤ 0x481) || (0x48A ≤ c && c ≤ 0x52F) ||
  (0x1D400 ≤ c && c ≤ 0x1D7FF)

/-- parser.WhitespaceChars (ECMA-262 WhiteSpace ∪ LineTerminator). -/
def isSpace (c : Nat) : Bool :=
  c == 32 || c == 12 || c == 10 || c == 13 || c == 9 || c == 11 || c == 0xA0 || c == 0x1680 ||
  (0x2000 ≤ c && c ≤ 0x200A) || c == 0x2028 || c == 0x2029 || c == 0x202F || c == 0x205F || c == 0x3000 || c == 0xFEFF

def isDigitC (c : Nat) : Bool := 48 ≤ c && c ≤ 57

/-- simple upper-casing for ASCII, Latin-1 and basic Cyrillic (Canonicalize of the generated alphabets). -/
def upper (c : Nat) : Nat :=
  if 97 ≤ c && c ≤ 122 then c - 32
  else if 0xE0 ≤ c && c ≤ 0xFE && c != 0xF7 then c - 32
  else if 0x430 ≤ c && c ≤ 0x44F then c - 32
  else if 0x450 ≤ c && c ≤ 0x45F then c - 80
  else c

def lower (c : Nat) : Nat :=
  if 65 ≤ c && c ≤ 90 then c + 32
  else if 0xC0 ≤ c && c ≤ 0xDE && c != 0xD7 then c + 32
  else if 0x410 ≤ c && c ≤ 0x42F then c + 32
  else if 0x400 ≤ c && c ≤ 0x40F then c + 80
  else c

def escMatch (x : Char) (c : Nat) : Bool :=
  match x with
  | 'd' => isDigitC c
  | 'D' => !isDigitC c
  | 'w' => isAsciiWord c
  | 'W' => !isAsciiWord c
  | 's' => isSpace c
  | 'S' => !isSpace c
  | _ => false

def itemMatch (it : CItem) (c : Nat) : Bool :=
  match it with
  | .c cp => cp == c
  | .r lo hi => lo ≤ c && c ≤ hi
  | .e x => escMatch x c

/-- membership with the case-insensitive reading "some member canonicalises like c". -/
def setMatch (o : Opts) (test : Nat → Bool) (c : Nat) : Bool :=
  if o.ignoreCase then test c || test (upper c) || test (lower c) else test c

def setCap (caps : List (Option (Nat × Nat))) (i : Nat) (v : Option (Nat × Nat)) : List (Option (Nat × Nat)) :=
  caps.set i v

def clearCaps (caps : List (Option (Nat × Nat))) (first n : Nat) : List (Option (Nat × Nat)) :=
  (List.range n).foldl (fun cs j => cs.set (first + j) none) caps

def firstSome {α β : Type} : List α → (α → Option β) → Option β
  | [], _ => none
  | a :: as, f => match f a with
    | some r => some r
    | none => firstSome as f

def wordAt (o : Opts) (inp : Array Nat) (i : Nat) : Bool :=
  if i < inp.size then (if o.wbUnicode then isUnicodeWord inp[i]! else isAsciiWord inp[i]!) else false

/-- m(x, c) of ECMA-262: run node `n` at state `st` with continuation `k`. -/
def run (o : Opts) (inp : Array Nat) : Nat → Node → St → (St → Option St) → Option St
  | 0, _, _, _ => none
  | fuel + 1, node, st, k =>
    let one (test : Nat → Bool) : Option St :=
      if st.pos < inp.size && test inp[st.pos]! then k { st with pos := st.pos + 1 } else none
    match node with
    | .chr cp => one (setMatch o (fun c => c == cp))
    | .dot => one (fun c => o.dotAll || !isLineTerm c)
    | .esc x => one (setMatch o (escMatch x))
    | .cls neg items =>
      one (fun c => (setMatch o (fun d => items.any (fun it => itemMatch it d)) c) != neg)
    | .wb neg =>
      let a := st.pos > 0 && wordAt o inp (st.pos - 1)
      let b := wordAt o inp st.pos
      if (a != b) != neg then k st else none
    | .bol =>
      if st.pos == 0 || (o.multiline && isLineTerm inp[st.pos - 1]!) then k st else none
    | .eol =>
      if st.pos == inp.size || (o.multiline && isLineTerm inp[st.pos]!) then k st else none
    | .grp idx n =>
      run o inp fuel n st (fun st2 =>
        k (if idx > 0 then { st2 with caps := setCap st2.caps idx (some (st.pos, st2.pos)) } else st2))
    | .seq ns =>
      (ns.foldr (fun n kont => fun s => run o inp fuel n s kont) k) st
    | .alt ns => firstSome ns (fun n => run o inp fuel n st k)
    | .la neg n =>
      match run o inp fuel n st (fun s => some s) with
      | some r => if neg then none else k { st with caps := r.caps }
      | none => if neg then k st else none
    | .q min max lazy firstCap nCaps n =>
      if max == some 0 then k st
      else
        let d : St → Option St := fun st2 =>
          if !o.perlLoops && min == 0 && st2.pos == st.pos then none     -- RepeatMatcher step 2.b: empty iteration
          else if o.perlLoops && st2.pos == st.pos then k st2             -- Perl-like: accept it once and leave the loop
          else run o inp fuel (.q (min - 1) (max.map (· - 1)) lazy firstCap nCaps n) st2 k
        let st' := if o.perlLoops then st else { st with caps := clearCaps st.caps firstCap nCaps }
        if min > 0 then run o inp fuel n st' d
        else if lazy then
          match k st with
          | some r => some r
          | none => run o inp fuel n st' d
        else
          match run o inp fuel n st' d with
          | some r => some r
          | none => k st

/-- leftmost match at or after input position `i` (scan of RegExpBuiltinExec). -/
def findFrom (o : Opts) (inp : Array Nat) (ncaps : Nat) (node : Node) : Nat → Nat → Option (Nat × St)
  | 0, _ => none
  | fuel + 1, i =>
    if i > inp.size then none
    else match run o inp 100000 node { pos := i, caps := List.replicate (ncaps + 1) none } (fun s => some s) with
      | some r => some (i, r)
      | none => findFrom o inp ncaps node fuel (i + 1)

/-! ### token parser for the AST sent by run/c20.py (`render_lean`) -/

def parseItems : Nat → List String → List CItem × List String
  | 0, ts => ([], ts)
  | n + 1, ts =>
    match ts with
    | "c" :: cp :: rest => let (l, r) := parseItems n rest; (.c (cp.toNat?.getD 0) :: l, r)
    | "r" :: lo :: hi :: rest => let (l, r) := parseItems n rest; (.r (lo.toNat?.getD 0) (hi.toNat?.getD 0) :: l, r)
    | "e" :: x :: rest => let (l, r) := parseItems n rest; (.e (x.toList.getD 0 'd') :: l, r)
    | _ => ([], ts)

def parseNode : Nat → List String → Node × List String
  | 0, ts => (.seq [], ts)
  | fuel + 1, ts =>
    let many (cnt : Nat) (ts : List String) : List Node × List String :=
      (List.range cnt).foldl (fun (acc : List Node × List String) _ =>
        let (n, r) := parseNode fuel acc.2
        (acc.1 ++ [n], r)) ([], ts)
    match ts with
    | "chr" :: cp :: rest => (.chr (cp.toNat?.getD 0), rest)
    | "dot" :: rest => (.dot, rest)
    | "esc" :: x :: rest => (.esc (x.toList.getD 0 'd'), rest)
    | "cls" :: neg :: cnt :: rest =>
      let (items, r) := parseItems (cnt.toNat?.getD 0) rest
      (.cls (neg == "1") items, r)
    | "wb" :: neg :: rest => (.wb (neg == "1"), rest)
    | "bol" :: rest => (.bol, rest)
    | "eol" :: rest => (.eol, rest)
    | "grp" :: idx :: rest => let (n, r) := parseNode fuel rest; (.grp (idx.toNat?.getD 0) n, r)
    | "q" :: mn :: mx :: lz :: fc :: nc :: rest =>
      let (n, r) := parseNode fuel rest
      (.q (mn.toNat?.getD 0) (mx.toNat?) (lz == "1") (fc.toNat?.getD 0) (nc.toNat?.getD 0) n, r)
    | "seq" :: cnt :: rest => let (ns, r) := many (cnt.toNat?.getD 0) rest; (.seq ns, r)
    | "alt" :: cnt :: rest => let (ns, r) := many (cnt.toNat?.getD 0) rest; (.alt ns, r)
    | "la" :: neg :: rest => let (n, r) := parseNode fuel rest; (.la (neg == "1") n, r)
    | _ => (.seq [], ts)

/-- All rows of the finder table (one per start 0..|units|): UTF-16 indices, −1 for unset captures;
`none` = no match; `some none` = not applicable (unicode-mode start inside a surrogate pair). -/
def table (o : Opts) (ncaps : Nat) (node : Node) (units : List Nat) : List (Option (Option (List Int))) :=
  let dec := GojaModel.C20.decode units
  let inpL := if o.unicode then dec.map Prod.fst else units
  let pm := if o.unicode then GojaModel.C20.bounds 0 dec else List.range (units.length + 1)
  let inp := inpL.toArray
  (List.range (units.length + 1)).map (fun start =>
    match pm.idxOf? start with
    | none => some none
    | some i =>
      match findFrom o inp ncaps node (inp.size + 2) i with
      | none => none
      | some (s, st) =>
        let tr := fun (x : Nat) => Int.ofNat (pm.getD x 0)
        let whole := [tr s, tr st.pos]
        let caps := (st.caps.drop 1).flatMap (fun c => match c with
          | some (a, b) => [tr a, tr b]
          | none => [-1, -1])
        some (some (whole ++ caps)))

end GojaModel.C20.Ref
