/-
  C20 — property theorems about the pattern pre-processing for non-unicode regexps (`convertRegexpToUtf16`).
  Audited like Props.lean (run/c20.py audits both modules).
-/
import GojaModel.C20.PreLemmas
namespace GojaModel.C20.Pre

/-- The converted pattern never contains a character above U+FFFF: what reaches the engines in non-unicode mode is a
pattern over UTF-16 code units (for every input pattern). -/
theorem convert16_bmp (p : List Nat) : ∀ x ∈ convert16 p, x ≤ 0xFFFF :=
  convertLoop_bmp p 0

/-- Idempotence: converting a converted pattern changes nothing. -/
theorem convert16_idempotent (p : List Nat) : convert16 (convert16 p) = convert16 p :=
  convertLoop_id _ 0 (convert16_bmp p)

/-- When no backslash stands directly before an astral character the conversion is exactly "replace each astral
character by the text \uHHHH\uLLLL of its surrogate pair" … -/
theorem convert16_eq_simple (p : List Nat) (h : NoEscAstral (0 :: p)) : convert16 p = convSimple p :=
  convertLoop_eq_simple p 0 h

/-- … and that text denotes exactly the two code units of the character (the hex digits written by `writeHex4` read
back to the surrogate values), in front of any remaining pattern. -/
theorem escText_denotes_pair (r : Nat) (hr : r > 0xFFFF) (hmax : r ≤ 0x10FFFF) (rest : List Nat) :
    denote (escText r ++ rest) = (denote rest).map (fun l => units r ++ l) :=
  denote_escText r hr hmax rest

/-- Main statement: for every literal pattern (plain characters, `\\\\`, `\\-`, `\\uXXXX`, astral characters) in which
no backslash stands directly before an astral character, the pattern that reaches the engines denotes EXACTLY the same
UTF-16 code-unit sequence as the source (unbounded: every length, every mix; induction on the pattern with the hex
digits of `writeHex4` read back). The excluded case is precisely the known finding below. -/
theorem convert16_preserves_denotation (p : List Nat) (h : NoEscAstral (0 :: p)) (hmax : ∀ r ∈ p, r ≤ 0x10FFFF)
    (hd : denote p ≠ none) : denote (convert16 p) = denote p := by
  rw [convert16_eq_simple p h]
  exact convSimple_denote p (noEsc_tail h) hmax hd

/-- DEFECT witness (known finding `pre:escaped-astral-nonunicode`): an escaped astral character. By ECMA-262 (no u flag:
the pattern is a sequence of code units) /\😀/ is an identity escape of the high surrogate followed by the low one and
matches "😀"; the converted pattern is `\\` `😀` and matches a backslash followed by "😀". -/
theorem convert16_escaped_astral_witness :
    denote [92, 0x1F600] = some [0xD83D, 0xDE00] ∧
    denote (convert16 [92, 0x1F600]) = some [92, 0xD83D, 0xDE00] := by
  constructor <;> decide

/-- DEFECT witness, other parity: /\\😀/ (escaped backslash, then the character) should match "\😀"; the converted
pattern is `\\` `\\` `ud83d` `\ude00` and matches the text "\\ud83d" followed by the low surrogate. -/
theorem convert16_backslash_astral_witness :
    denote [92, 92, 0x1F600] = some [92, 0xD83D, 0xDE00] ∧
    denote (convert16 [92, 92, 0x1F600]) = some [92, 92, 117, 100, 56, 51, 100, 0xDE00] := by
  constructor <;> decide

end GojaModel.C20.Pre
