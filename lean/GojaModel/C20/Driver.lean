/-
  C20 model driver: same line protocol as harness/cmd/c20 (see its header).  Core Lean only.
    posmap / utf8map / flags / adv   — mechanism models of Model.lean, printed like the harness prints them
    pred <flags> <subject> <starts> <limit> <template> <rows> <allm> <alls> <allr>
        prediction (ECMA-262 generic protocol with goja's `execRegexp` as exec, over the finder table `rows`; the fast
        paths over the raw lists `allm`, `alls`, `allr`) of the structural dump produced by harness/cmd/c20/dump.js for
        the ops E T M A S F R P PL.
    iter / routes / pre16 / ref   — described at `opIter`, `opRoutes`, `opPre16`, `opRef` below
-/
import GojaModel.Base.Proto
import GojaModel.C20.Model
import GojaModel.C20.Ref
import GojaModel.C20.Pre
namespace GojaModel.C20.Driver
open GojaModel.Proto GojaModel.C20

def parseUnits (h : String) : List Nat :=
  if h == "-" || h == "" then [] else
  let cs := h.toList
  let rec go (cs : List Char) (fuel : Nat) : List Nat :=
    match fuel with
    | 0 => []
    | fuel + 1 =>
      match cs with
      | a :: b :: c :: d :: rest => ((parseHex? (String.ofList [a, b, c, d])).getD 0) :: go rest fuel
      | _ => []
  go cs cs.length

def hx (u : List Nat) : String :=
  if u.isEmpty then "-" else String.join (u.map (toHexW 4))

def hxo : Option (List Nat) → String
  | none => "u"
  | some u => hx u

def joinWith (sep : String) (l : List String) : String := sep.intercalate l

def natList (s : String) : List Nat :=
  if s == "-" || s == "" then [] else (s.splitOn ",").map (fun x => x.toNat?.getD 0)

def b2s (b : Bool) : String := if b then "1" else "0"

def hexOf (n : Nat) : String :=
  if n == 0 then "0" else
  let rec go (n fuel : Nat) (acc : List Char) : List Char :=
    match fuel with
    | 0 => acc
    | fuel + 1 => if n == 0 then acc else go (n / 16) fuel (hexChar (n % 16) :: acc)
  String.ofList (go n 16 [])

def opPosmap (f : List String) : String :=
  let units := parseUnits (f.getD 1 "-")
  let start := (f.getD 2 "0").toNat?.getD 0
  let r := buildPosMap units start
  let rl := reverseLookup r.posMap start
  s!"posmap pm={joinWith "," (r.posMap.map toString)} runes={joinWith "," (r.runes.map hexOf)} ms={r.mappedStart} sp={b2s r.splitPair} rl={rl.1},{b2s rl.2}"

def opUtf8map (f : List String) : String :=
  let units := parseUnits (f.getD 1 "-")
  match buildUTF8PosMap units with
  | none => "utf8map ok=0"
  | some m =>
    let qs := natList (f.getD 2 "-")
    let gets := qs.map (fun q => match pmGet m q with | some d => toString d | none => "x")
    let len := match m.getLast? with | some (s, _) => s | none => 0
    s!"utf8map ok=1 src={joinWith "," (m.map (fun p => toString p.1))} dst={joinWith "," (m.map (fun p => toString p.2))} len={len} get={joinWith "," gets}"

def opFlags (f : List String) : String :=
  let fs := (parseUnits (f.getD 1 "-")).map Char.ofNat
  match parseFlags fs with
  | none => "flags ok=0"
  | some st => s!"flags ok=1 bits={b2s st.global}{b2s st.ignoreCase}{b2s st.multiline}{b2s st.dotAll}{b2s st.unicode}{b2s st.sticky}"

def opAdv (f : List String) : String :=
  let units := parseUnits (f.getD 1 "-")
  s!"adv {advance units ((f.getD 2 "0").toNat?.getD 0) (f.getD 3 "0" == "1")}"

/-! ### pred -/

def parseRow (s : String) : Option MatchR :=
  if s == "x" then none else
  match s.splitOn ":" with
  | ints :: rest =>
    let idx := (ints.splitOn ".").map (fun x => x.toInt?.getD 0)
    let nm := ":".intercalate rest
    some { idx := idx, names := if nm == "!" then none else some (nm.splitOn ",") }
  | [] => none

/-- `createRegexpGroupsObj` (regexp.go:549): named captures, `none` when there is no named group. -/
def groupsOf (vals : List (Option (List Nat))) (names : Option (List String)) : Option (List (String × Option (List Nat))) :=
  match names with
  | none => none
  | some ns =>
    let pairs := (List.range vals.length).filterMap (fun i =>
      if i == 0 then none else
      match ns[i]? with
      | some nm => if nm == "" then none else some (nm, vals.getD i none)
      | none => none)
    if pairs.isEmpty then none else some pairs

def grp : Option (List (String × Option (List Nat))) → String
  | none => "{u}"
  | some ps => "{" ++ joinWith "," (ps.map (fun p => p.1 ++ "=" ++ hxo p.2)) ++ "}"

def mr (units : List Nat) (r : MatchR) : String :=
  let vals := resultArray units r
  s!"{r.start}[{joinWith "," (vals.map hxo)}]" ++ grp (groupsOf vals r.names)

def mro (units : List Nat) : Option MatchR → String
  | none => "n"
  | some r => mr units r

structure Cx where
  fl : RFlags
  f : Finder
  units : List Nat

/-- exec as goja's `execRegexp`; by `exec_lastIndex_protocol` this IS RegExpBuiltinExec whenever the finder is
leftmost (the check validates that on every table; the only exception seen is a unicode-mode lastIndex that splits
a surrogate pair, where goja — like V8 — snaps back to the start of the pair). -/
def Cx.exec (c : Cx) (li : Nat) : Option MatchR × Nat := execRegexp c.fl c.f c.units.length li

def execChain (c : Cx) : Nat → Nat → List String
  | 0, _ => []
  | fuel + 1, li =>
    let (r, li') := c.exec li
    let s := mro c.units r ++ s!"@{li'}"
    match r with
    | none => [s]
    | some _ => s :: execChain c fuel li'

def testChain (c : Cx) : Nat → Nat → List String
  | 0, _ => []
  | fuel + 1, li =>
    let (r, li') := c.exec li
    (b2s r.isSome ++ s!"@{li'}") :: testChain c fuel li'

/-- generic global loop (getGlobalRegexpMatches) over `Cx.exec`. -/
def gloop (c : Cx) : Nat → Nat → List MatchR × Nat
  | 0, li => ([], li)
  | fuel + 1, li =>
    match c.exec li with
    | (none, li') => ([], li')
    | (some r, li') =>
      let li'' := if r.stop == r.start then advance c.units li' c.fl.unicode else li'
      let (rest, fin) := gloop c fuel li''
      (r :: rest, fin)

def opM (c : Cx) (k : Nat) : String :=
  if c.fl.global then
    let (ms, fin) := gloop c (c.units.length + 3) 0
    if ms.isEmpty then s!"n@{fin}"
    else "g[" ++ joinWith "," (ms.map (fun r => hx (sub c.units r.start r.stop))) ++ s!"]@{fin}"
  else
    let (r, li') := c.exec k
    mro c.units r ++ s!"@{li'}"

/-- RegExpStringIterator over a clone whose lastIndex starts at k. -/
def opA (c : Cx) (k : Nat) : String :=
  let recs :=
    if c.fl.global then ((gloop c 40 k).1.take 40).map (mr c.units)
    else match (c.exec k).1 with
      | some r => [mr c.units r]
      | none => []
  joinWith ">" recs ++ s!"@{k}"

def opS (c : Cx) (k : Nat) : String :=
  match (c.exec 0).1 with
  | some r => s!"{r.start}@{k}"
  | none => s!"-1@{k}"

def strUnits (s : String) : List Nat := s.toList.map Char.toNat

/-- results of the generic protocol for replace: global loop or one exec. -/
def genResults (c : Cx) (k : Nat) : List MatchR × Nat :=
  if c.fl.global then gloop c (c.units.length + 3) 0
  else match c.exec k with
    | (some r, li') => ([r], li')
    | (none, li') => ([], li')

def callRec (vals : List (Option (List Nat))) (pos : Nat) (names : Option (List String)) : String :=
  s!"{pos}[{joinWith "," (vals.map hxo)}]" ++ grp (groupsOf vals names)

/-- generic Symbol.replace with a function replacer returning "<position>". -/
def opF (c : Cx) (k : Nat) : String :=
  let (results, fin) := genResults c k
  let n := c.units.length
  let buf := genericReplace c.units (results.map (fun r =>
    let position := min r.start n
    (position, r.stop - r.start, strUnits s!"<{position}>")))
  let calls := results.map (fun r => callRec (resultArray c.units r) r.start r.names)
  hx buf ++ "|" ++ joinWith ">" calls ++ s!"@{fin}"

/-- generic replace-with-function where exec's captures are taken as reported by the engine (no `lowerBound`
rule): used only to attribute a fast ≠ generic difference to that rule. -/
def opFplain (c : Cx) (k : Nat) : String :=
  let (results, fin) := genResults c k
  let n := c.units.length
  let buf := genericReplace c.units (results.map (fun r =>
    let position := min r.start n
    (position, r.stop - r.start, strUnits s!"<{position}>")))
  let calls := results.map (fun r =>
    callRec (some (sub c.units r.start r.stop) :: captureValsPlain c.units (r.idx.drop 2)) r.start r.names)
  hx buf ++ "|" ++ joinWith ">" calls ++ s!"@{fin}"

def namedLookup (groups : Option (List (String × Option (List Nat)))) (ref : List Nat) : Option (List Nat) :=
  match groups with
  | none => none
  | some ps =>
    match ps.find? (fun p => strUnits p.1 == ref) with
    | some (_, some v) => some v
    | _ => some []

/-- generic Symbol.replace with a `$` template. -/
def opR (c : Cx) (k : Nat) (tmpl : List Nat) : String :=
  let (results, fin) := genResults c k
  let n := c.units.length
  let buf := genericReplace c.units (results.map (fun r =>
    let position := min r.start n
    let vals := resultArray c.units r
    (position, r.stop - r.start, substitute c.units position vals (namedLookup (groupsOf vals r.names)) tmpl)))
  hx buf ++ s!"@{fin}"

def opRplain (c : Cx) (k : Nat) (tmpl : List Nat) : String :=
  let (results, fin) := genResults c k
  let n := c.units.length
  let buf := genericReplace c.units (results.map (fun r =>
    let position := min r.start n
    let vals := some (sub c.units r.start r.stop) :: captureValsPlain c.units (r.idx.drop 2)
    (position, r.stop - r.start, substitute c.units position vals (namedLookup (groupsOf vals r.names)) tmpl)))
  hx buf ++ s!"@{fin}"

def opP (c : Cx) (lim : Option Nat) : String :=
  "[" ++ joinWith "," ((genericSplit c.f c.units c.fl.unicode lim).map hxo) ++ "]@0"

/-! ### fast paths: post-processing of the raw findAll lists -/

def parseRaw (s : String) : List (List Int) :=
  if s == "-" || s == "" then [] else (s.splitOn "|").map (fun r => (r.splitOn ".").map (fun x => x.toInt?.getD 0))

def plainVals (units : List Nat) (r : List Int) : List (Option (List Nat)) :=
  some (sub units (r.getD 0 0).toNat (r.getD 1 0).toNat) :: captureValsPlain units (r.drop 2)

def fastM (c : Cx) (raw : List (List Int)) : String :=
  match fastMatchStrings c.units raw with
  | none => "n@0"
  | some l => "g[" ++ joinWith "," (l.map hx) ++ "]@0"

def fastF (c : Cx) (k : Nat) (raw : List (List Int)) (names : Option (List String)) : String :=
  let buf := fastReplace c.units (fun r => strUnits s!"<{(r.getD 0 0).toNat}>") raw
  let calls := raw.map (fun r => callRec (plainVals c.units r) (r.getD 0 0).toNat names)
  hx buf ++ "|" ++ joinWith ">" calls ++ s!"@{fastReplaceLastIndex c.fl raw k}"

/-- `createRegexpGroupsMap` (regexp.go:568) + the named-capture callback of `stringReplace`. -/
def fastNamed (r : List Int) (names : Option (List String)) (units : List Nat) (ref : List Nat) : Option (List Nat) :=
  match names with
  | none => none
  | some ns =>
    if ns.isEmpty then none else
    let entries := (List.range ns.length).filterMap (fun i =>
      if i == 0 then none else
      let nm := ns.getD i ""
      if nm != "" && i * 2 + 1 < r.length then some (nm, i * 2) else none)
    if entries.isEmpty then none else
    match entries.find? (fun p => strUnits p.1 == ref) with
    | some (_, idx) =>
      if r.getD idx 0 != -1 then some (sub units (r.getD idx 0).toNat (r.getD (idx + 1) 0).toNat) else some []
    | none => some []

def fastR (c : Cx) (k : Nat) (raw : List (List Int)) (names : Option (List String)) (tmpl : List Nat) : String :=
  let buf := fastReplace c.units (fun r =>
    substitute c.units (r.getD 0 0).toNat (plainVals c.units r) (fastNamed r names c.units) tmpl) raw
  hx buf ++ s!"@{fastReplaceLastIndex c.fl raw k}"

def fastP (c : Cx) (raw : List (List Int)) (lim : Option Nat) : String :=
  "[" ++ joinWith "," ((fastSplit c.units raw lim).map hxo) ++ "]@0"

def opPred (f : List String) : String :=
  let flags := f.getD 1 "-"
  let units := parseUnits (f.getD 2 "-")
  let starts := natList (f.getD 3 "-")
  let limit := (f.getD 4 "0").toNat?.getD 0
  let tmpl := parseUnits (f.getD 5 "-")
  let rows := ((f.getD 6 "x").splitOn "|").map parseRow
  let allm := parseRaw (f.getD 7 "-")
  let alls := parseRaw (f.getD 8 "-")
  let allr := ((f.getD 9 "").splitOn ";").filterMap (fun e =>
    match e.splitOn ":" with
    | [k, l] => some (k.toNat?.getD 0, l)
    | _ => none)
  let names := match rows.find? (fun r => r.isSome) with
    | some (some r) => r.names
    | _ => none
  let fl : RFlags := { global := flags.contains 'g', sticky := flags.contains 'y', unicode := flags.contains 'u' }
  let c : Cx := { fl := fl, f := fun i => (rows.getD i none), units := units }
  let per := starts.flatMap (fun k => [
    s!"E{k}=" ++ joinWith ">" (execChain c 3 k),
    s!"T{k}=" ++ joinWith ">" (testChain c 2 k),
    s!"M{k}=" ++ opM c k,
    s!"A{k}=" ++ opA c k,
    s!"S{k}=" ++ opS c k,
    s!"F{k}=" ++ opF c k,
    s!"R{k}=" ++ opR c k tmpl])
  let gen := joinWith ";" (per ++ ["P=" ++ opP c none, s!"PL{limit}=" ++ opP c (some limit)])
  let fper := starts.flatMap (fun k =>
    let rawk := match allr.find? (fun p => p.1 == k) with
      | some (_, l) => if l == "beyond" then [] else parseRaw l
      | none => []
    [ s!"M{k}=" ++ (if fl.global then fastM c allm else opM c k),
      s!"F{k}=" ++ fastF c k rawk names,
      s!"R{k}=" ++ fastR c k rawk names tmpl ])
  let fast := joinWith ";" (fper ++ ["P=" ++ fastP c alls none, s!"PL{limit}=" ++ fastP c alls (some limit)])
  let plain := joinWith ";" (starts.flatMap (fun k => [s!"F{k}=" ++ opFplain c k, s!"R{k}=" ++ opRplain c k tmpl]))
  gen ++ "\t" ++ fast ++ "\t" ++ plain

def fmtList (l : List MatchR) : String :=
  if l.isEmpty then "-" else joinWith "|" (l.map (fun r => joinWith "." (r.idx.map toString)))

/-- iter <flags> <subject> <start> <limit|-1> <sticky 0|1> <rows>: the "find all" iterations over a finder table:
coded = regexp2 wrapper loops as coded; ideal = with the protocol's sticky test; go = Go allMatches (limit, then
goja's sticky prefix filter). -/
def opIter (f : List String) : String :=
  let flags := f.getD 1 "-"
  let units := parseUnits (f.getD 2 "-")
  let start := (f.getD 3 "0").toNat?.getD 0
  let limit : Option Nat := match (f.getD 4 "-1").toNat? with | some l => some l | none => none
  let sticky := f.getD 5 "0" == "1"
  let rows := ((f.getD 6 "x").splitOn "|").map (fun r => if r == "na" then none else parseRow r)
  let fl : RFlags := { global := flags.contains 'g', sticky := flags.contains 'y', unicode := flags.contains 'u' }
  let fn : Finder := fun i => rows.getD i none
  let go0 := goAll fl fn units
  let go1 := match limit with | some l => go0.take l | none => go0
  let go2 := if sticky then stickyPrefix go1 0 else go1
  s!"coded={fmtList (r2All fl fn units start limit sticky)};ideal={fmtList (idealAll fl fn units start limit sticky)};go={fmtList go2}"

/-- ref <flags> <subject> <ncaps> <wbUnicode> <perlLoops> <ast>: finder table of the reference matcher. -/
def opRef (f : List String) : String :=
  let flags := f.getD 1 "-"
  let units := parseUnits (f.getD 2 "-")
  let ncaps := (f.getD 3 "0").toNat?.getD 0
  let o : Ref.Opts := { ignoreCase := flags.contains 'i', multiline := flags.contains 'm', dotAll := flags.contains 's',
                        unicode := flags.contains 'u', wbUnicode := f.getD 4 "0" == "1", perlLoops := f.getD 5 "0" == "1" }
  let toks := (f.getD 6 "").splitOn ","
  let (node, _) := Ref.parseNode 200 toks
  let rows := Ref.table o ncaps node units
  joinWith "|" (rows.map (fun r => match r with
    | none => "x"
    | some none => "na"
    | some (some l) => joinWith "." (l.map toString)))

/-- routes: `findAllRoute` (Tie-proved equal to the tree regenerated from regexp.go) on all 64 inputs, in the order
hasLinear, startZero, ascii, limitOne, unicode, pmOk (most significant first): r = regexp2 sweep, g = Go FindAll,
s = single-match shortcut. -/
def opRoutes : String :=
  let bs := [false, true]
  String.ofList (bs.flatMap fun a => bs.flatMap fun b => bs.flatMap fun c => bs.flatMap fun d => bs.flatMap fun e => bs.map fun f =>
    match findAllRoute ⟨a, b, c, d, e, f, false⟩ with
    | .r2All => 'r'
    | .goAllAscii => 'g'
    | .goAllUtf8 => 'g'
    | .linearSingle => 's'
    | _ => '?')

/-- pre16 <runes as dot-separated hex>: `convertRegexpToUtf16` of a pattern source, the code units the converted
literal pattern matches (mechanism) and the code units the original one matches per ECMA-262 (spec); "x" = outside
the literal fragment. -/
def opPre16 (f : List String) : String :=
  let runes := if f.getD 1 "-" == "-" then [] else ((f.getD 1 "").splitOn ".").map (fun x => (parseHex? x).getD 0)
  let conv := Pre.convert16 runes
  let show_ := fun (o : Option (List Nat)) => match o with | some l => hx l | none => "x"
  s!"pre16 conv={joinWith "." (conv.map hexOf)} mech={show_ (Pre.denote conv)} spec={show_ (Pre.denote runes)}"

def step (line : String) : String :=
  let f := words line
  match f.getD 0 "" with
  | "posmap" => opPosmap f
  | "utf8map" => opUtf8map f
  | "flags" => opFlags f
  | "adv" => opAdv f
  | "pred" => opPred f
  | "iter" => opIter f
  | "routes" => opRoutes
  | "pre16" => opPre16 f
  | "ref" => opRef f
  | _ => "unknown-op"

def main : IO Unit := lineMap step

end GojaModel.C20.Driver
