/-
  C20 — the flag loop of `compileRegexp`: the state is read as the set of letters seen (`seen`), one step adds a
  letter of the alphabet that is not yet in it and fails otherwise.
-/
import GojaModel.C20.Model
namespace GojaModel.C20

theorem flagStep_none_of_not_alpha (st : FlagSt) (c : Char) (h : c ∉ flagAlphabet) : flagStep st c = none := by
  simp only [flagAlphabet, List.mem_cons, List.not_mem_nil, or_false, not_or] at h
  obtain ⟨h1, h2, h3, h4, h5, h6⟩ := h
  simp [flagStep, h1, h2, h3, h4, h5, h6]

def seen (st : FlagSt) (c : Char) : Bool :=
  if c = 'g' then st.global else if c = 'm' then st.multiline else if c = 's' then st.dotAll
  else if c = 'i' then st.ignoreCase else if c = 'y' then st.sticky else if c = 'u' then st.unicode else false

theorem flagStep_case (st : FlagSt) (c : Char) (b : Bool) (st1 : FlagSt)
    (hstep : flagStep st c = if b then none else some st1) (hmem : c ∈ flagAlphabet) (hseen : seen st c = b)
    (herr : st1.err = st.err) (hnew : seen st1 c = true) (hold : ∀ d, d ≠ c → seen st1 d = seen st d) :
    (flagStep st c = none ↔ (c ∉ flagAlphabet ∨ seen st c = true)) ∧
    (∀ st', flagStep st c = some st' → st'.err = st.err ∧ ∀ d, seen st' d = (seen st d || d == c)) := by
  rw [hstep, hseen]
  cases b
  · refine ⟨by simp [hmem], fun st' h => ?_⟩
    cases h
    refine ⟨herr, fun d => ?_⟩
    by_cases hd : d = c
    · rw [hd, hnew, beq_self_eq_true, Bool.or_true]
    · rw [hold d hd, beq_eq_false_iff_ne.mpr hd, Bool.or_false]
  · simp

theorem flagStep_spec (st : FlagSt) (c : Char) :
    (flagStep st c = none ↔ (c ∉ flagAlphabet ∨ seen st c = true)) ∧
    (∀ st', flagStep st c = some st' →
        st'.err = st.err ∧ ∀ d, seen st' d = (seen st d || d == c)) := by
  by_cases hg : c = 'g'
  · subst hg
    exact flagStep_case st 'g' st.global { st with global := true } rfl (by decide) rfl rfl rfl
      fun d hd => by rw [seen, seen, if_neg hd, if_neg hd]
  by_cases hm : c = 'm'
  · subst hm
    exact flagStep_case st 'm' st.multiline { st with multiline := true } rfl (by decide) rfl rfl rfl
      fun d hd => by rw [seen, seen, if_neg hd, if_neg hd]
  by_cases hs : c = 's'
  · subst hs
    exact flagStep_case st 's' st.dotAll { st with dotAll := true } rfl (by decide) rfl rfl rfl
      fun d hd => by rw [seen, seen, if_neg hd, if_neg hd]
  by_cases hi : c = 'i'
  · subst hi
    exact flagStep_case st 'i' st.ignoreCase { st with ignoreCase := true } rfl (by decide) rfl rfl rfl
      fun d hd => by rw [seen, seen, if_neg hd, if_neg hd]
  by_cases hy : c = 'y'
  · subst hy
    exact flagStep_case st 'y' st.sticky { st with sticky := true } rfl (by decide) rfl rfl rfl
      fun d hd => by rw [seen, seen, if_neg hd, if_neg hd]
  by_cases hu : c = 'u'
  · subst hu
    exact flagStep_case st 'u' st.unicode { st with unicode := true } rfl (by decide) rfl rfl rfl
      fun d hd => by rw [seen, seen, if_neg hd, if_neg hd]
  · have : c ∉ flagAlphabet := by simp [flagAlphabet, hg, hm, hs, hi, hy, hu]
    simp [flagStep_none_of_not_alpha st c this, this]

theorem flagLoop_spec : ∀ (fs : List Char) (st : FlagSt),
    ((flagLoop fs st).isSome = true ↔ (fs.Nodup ∧ ∀ c ∈ fs, c ∈ flagAlphabet ∧ seen st c = false)) ∧
    (∀ st', flagLoop fs st = some st' → st'.err = st.err ∧ ∀ d, seen st' d = (seen st d || decide (d ∈ fs))) := by
  intro fs
  induction fs with
  | nil => intro st; simp [flagLoop]
  | cons c cs ih =>
    intro st
    have hs := flagStep_spec st c
    cases hstep : flagStep st c with
    | none =>
      simp only [flagLoop, hstep]
      refine ⟨⟨(fun h => nomatch h), fun h => ?_⟩, fun st' h => nomatch h⟩
      have hc := h.2 c List.mem_cons_self
      rcases hs.1.mp hstep with hbad | hbad
      · exact absurd hc.1 hbad
      · rw [hbad] at hc; exact nomatch hc.2
    | some st1 =>
      have hc : c ∈ flagAlphabet ∧ seen st c = false := by
        have := mt hs.1.mpr (by rw [hstep]; exact Option.some_ne_none _)
        simpa [not_or] using this
      obtain ⟨herr, hseen⟩ := hs.2 st1 hstep
      -- `st1` has seen what `st` has and `c`: unseen in `st1` is unseen in `st` and different from `c`, which turns
      -- the claim for `cs` from `st1` into the claim for `c :: cs` from `st`
      have hun : ∀ x, seen st1 x = false ↔ seen st x = false ∧ x ≠ c := fun x => by
        rw [hseen, Bool.or_eq_false_iff, beq_eq_false_iff_ne]
      obtain ⟨ih1, ih2⟩ := ih st1
      simp only [flagLoop, hstep]
      constructor
      · rw [ih1]
        simp only [List.nodup_cons, List.forall_mem_cons, hun, hc.1, hc.2, true_and]
        constructor
        · intro ⟨hnd, hall⟩
          exact ⟨⟨fun hm => (hall c hm).2.2 rfl, hnd⟩, fun x hx => ⟨(hall x hx).1, (hall x hx).2.1⟩⟩
        · intro ⟨⟨hnc, hnd⟩, hall⟩
          exact ⟨hnd, fun x hx => ⟨(hall x hx).1, (hall x hx).2, fun e => hnc (e ▸ hx)⟩⟩
      · intro st' h
        obtain ⟨e1, e2⟩ := ih2 st' h
        refine ⟨e1.trans herr, fun d => ?_⟩
        rw [e2, hseen]
        by_cases hd : d = c
        · subst hd; simp
        · have : (d == c) = false := by simp [hd]
          simp [this, hd]

/-- the loop never sets `err` (only `invalidFlags()` does, and every branch that calls it returns), so the final test
of `parseFlags` is idle -/
theorem parseFlags_eq_flagLoop (fs : List Char) : parseFlags fs = flagLoop fs {} := by
  unfold parseFlags
  cases hl : flagLoop fs {} with
  | none => rfl
  | some st => simp only [((flagLoop_spec fs {}).2 st hl).1]; rfl

end GojaModel.C20
