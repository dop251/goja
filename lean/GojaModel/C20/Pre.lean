/-
  C20 — pattern pre-processing for non-unicode regexps: `convertRegexpToUtf16` (builtin_regexp.go:101-127).
  A pattern source is a list of runes (code points of the UTF-8 Go string).  Core Lean only (used by the driver).

  Mechanism: every rune above U+FFFF is replaced by the text `\uHHHH\uLLLL` of its surrogate pair, and a second
  backslash is inserted when the previous rune was a backslash (`prevRune == '\\'`).
  Spec side: `denote`, the code-unit sequence a LITERAL pattern (plain characters, `\\`, `\-`, `\uXXXX`, and — per
  ECMA-262 without the u flag, where the pattern is a sequence of code units — a backslash before an astral
  character = identity escape of its high surrogate followed by the literal low surrogate) matches.
-/
namespace GojaModel.C20.Pre

def hexDigitChar (d : Nat) : Nat := if d < 10 then 48 + d else 87 + d        -- '0'..'9', 'a'..'f'  (var hex = "0123456789abcdef")

/-- `writeHex4` (builtin_regexp.go:57) -/
def writeHex4 (v : Nat) : List Nat :=
  [hexDigitChar (v / 4096 % 16), hexDigitChar (v / 256 % 16), hexDigitChar (v / 16 % 16), hexDigitChar (v % 16)]

def hi (r : Nat) : Nat := 0xD800 + (r - 0x10000) / 0x400
def lo (r : Nat) : Nat := 0xDC00 + (r - 0x10000) % 0x400

/-- the text `\uHHHH\uLLLL` -/
def escText (r : Nat) : List Nat := [92, 117] ++ writeHex4 (hi r) ++ [92, 117] ++ writeHex4 (lo r)

/-- `convertRegexpToUtf16`, rune by rune, `prev` = prevRune (0 initially) -/
def convertLoop : List Nat → Nat → List Nat
  | [], _ => []
  | r :: rest, prev =>
    if r > 0xFFFF then (if prev = 92 then [92] else []) ++ escText r ++ convertLoop rest r
    else r :: convertLoop rest r

def convert16 (p : List Nat) : List Nat := convertLoop p 0

/-- the conversion without the `prevRune` special case -/
def convSimple : List Nat → List Nat
  | [] => []
  | r :: rest => (if r > 0xFFFF then escText r else [r]) ++ convSimple rest

def hexVal (c : Nat) : Option Nat :=
  if 48 ≤ c ∧ c ≤ 57 then some (c - 48)
  else if 97 ≤ c ∧ c ≤ 102 then some (c - 87)
  else if 65 ≤ c ∧ c ≤ 70 then some (c - 55)
  else none

def units (r : Nat) : List Nat := if r > 0xFFFF then [hi r, lo r] else [r]

/-- Code units matched by a literal pattern (no u flag); `none` = not in the literal fragment. -/
def denote : List Nat → Option (List Nat)
  | [] => some []
  | c :: rest =>
    if c ≠ 92 then (denote rest).map (fun l => units c ++ l)                    -- plain character
    else match rest with
      | [] => none                                                               -- trailing backslash
      | e :: rest2 =>
        if e = 117 then                                                          -- \uXXXX
          match rest2 with
          | a :: b :: c' :: d :: rest3 =>
            (match hexVal a, hexVal b, hexVal c', hexVal d with
             | some x, some y, some z, some w => (denote rest3).map (fun l => (((x * 16 + y) * 16 + z) * 16 + w) :: l)
             | _, _, _, _ => none)
          | _ => none
        else if e = 92 ∨ e = 45 ∨ e > 0xFFFF then (denote rest2).map (fun l => units e ++ l)   -- \\  \-  identity escape of an astral character
        else none

/-- no backslash stands directly before a rune above U+FFFF -/
def NoEscAstral : List Nat → Prop
  | [] => True
  | [_] => True
  | a :: b :: rest => ¬ (a = 92 ∧ b > 0xFFFF) ∧ NoEscAstral (b :: rest)

end GojaModel.C20.Pre
