/-
  C20 — RegExp results independent of engine and fast path; indices UTF-16 exact.
  Executable model (core Lean only).  What is transcribed from /repo, by section:

  (1) PosMap: `lenientUtf16Decoder.ReadRune` (string_unicode.go:81), `buildPosMap` (regexp.go:397),
      `posMapReverseLookup` (regexp.go:427), `buildUTF8PosMap` (regexp.go:125), `positionMap.get`
      (regexp.go:34): the translation between UTF-8 byte offsets / rune offsets and UTF-16 indices.
  (2) the flag loop of `compileRegexp` (builtin_regexp.go:193-240).
  (3) `regexpObject.getLastIndex/execRegexp` (regexp.go:620-644), `getGlobalRegexpMatches`
      (builtin_regexp.go:702), `stdMatcher` / `stdSearch` / `stdReplacer` / `stdSplitter` fast paths and their
      generic counterparts, `advanceStringIndex` (builtin_regexp.go:972), with the regex engine as an
      opaque *finder* `Nat → Option MatchR` (start position ↦ leftmost match at or after it).
  (4) the fast paths as post-processing of the raw `findAllSubmatchIndex` results (`stdSplitter`, `stdMatcher`,
      `stringReplace`, `writeSubstitution`), the "find all" sweeps of the two engines as goja wraps them, and, spec
      side, GetSubstitution of ECMA-262.
  (5) the engine routing of `findSubmatchIndex` / `findAllSubmatchIndex` as decision trees.
  The two regex engines themselves are NOT modelled.
-/
namespace GojaModel.C20

/-! ## 1. PosMap -/

def isHi (c : Nat) : Bool := 0xD800 ≤ c && c ≤ 0xDBFF      -- isUTF16FirstSurrogate  (string.go:80)
def isLo (c : Nat) : Bool := 0xDC00 ≤ c && c ≤ 0xDFFF      -- isUTF16SecondSurrogate (string.go:84)

/-- utf16.DecodeRune on a valid pair. -/
def combine (hi lo : Nat) : Nat := (hi - 0xD800) * 0x400 + (lo - 0xDC00) + 0x10000

/-- `lenientUtf16Decoder.ReadRune` iterated to EOF: the list of (rune, size in code units).
A high surrogate followed by a low one is one rune of size 2; every other unit (lone surrogates
included) is passed through as a rune of size 1 (the `prev/prevSet` push-back of the Go code is the
`decode rest` call on the un-consumed unit). -/
def decode : List Nat → List (Nat × Nat)
  | [] => []
  | [c] => [(c, 1)]
  | c :: d :: rest' =>
    if isHi c && isLo d then (combine c d, 2) :: decode rest'
    else (c, 1) :: decode (d :: rest')

/-- utf16.EncodeRune / identity on the BMP (a lone surrogate is "encoded" as itself: lenient). -/
def encodeRune (r : Nat) : List Nat :=
  if r < 0x10000 then [r] else [0xD800 + (r - 0x10000) / 0x400, 0xDC00 + (r - 0x10000) % 0x400]

def encodeAll (rs : List Nat) : List Nat := rs.flatMap encodeRune

/-- Loop state of `buildPosMap` (regexp.go:397-425). -/
structure PM where
  posMap : List Nat := []
  runes : List Nat := []
  curPos : Nat := 0
  startFound : Bool := false
  mappedStart : Nat := 0
  splitPair : Bool := false
  deriving Repr, DecidableEq

/-- regexp.go:403-414 (the two `if`s are mutually exclusive, so `else if` is the same function). -/
def checkStart (start : Nat) (st : PM) : PM :=
  if st.startFound then st
  else if st.curPos == start then { st with mappedStart := st.runes.length, startFound := true }
  else if st.curPos > start then
    { st with mappedStart := st.runes.length - 1, splitPair := true, startFound := true }
  else st

/-- The `for` loop of `buildPosMap` over the runes still to be read. -/
def buildLoop (start : Nat) : List (Nat × Nat) → PM → PM
  | [], st =>
    let st := checkStart start st                            -- the check precedes the failing ReadRune
    { st with posMap := st.posMap ++ [st.curPos] }           -- regexp.go:423
  | (r, sz) :: rest, st =>
    let st := checkStart start st
    buildLoop start rest
      { st with runes := st.runes ++ [r], posMap := st.posMap ++ [st.curPos], curPos := st.curPos + sz }

def buildPosMap (units : List Nat) (start : Nat) : PM := buildLoop start (decode units) {}

/-- `sort.SearchInts` on an ascending slice: smallest index whose element is ≥ x (length if none).
(Specification of the library call; ascending-ness of posMap is theorem `posmap_strict_mono`.) -/
def searchInts : List Nat → Nat → Nat
  | [], _ => 0
  | a :: as, x => if a ≥ x then 0 else 1 + searchInts as x

/-- `posMapReverseLookup` (regexp.go:427). -/
def reverseLookup (pm : List Nat) (pos : Nat) : Nat × Bool :=
  let mapped := searchInts pm pos
  if mapped < pm.length && pm.getD mapped 0 != pos then (mapped - 1, true) else (mapped, false)

/-- Prefix sums: UTF-16 index of every rune boundary, starting at `base`. (spec side) -/
def bounds (base : Nat) : List (Nat × Nat) → List Nat
  | [] => [base]
  | (_, sz) :: rest => base :: bounds (base + sz) rest

def totalSize (l : List (Nat × Nat)) : Nat := (l.map Prod.snd).sum

/-! ### UTF-8 map -/

/-- `unicodeRuneReader.ReadRune` iterated (string_unicode.go:116): strict — `none` on a lone surrogate. -/
def strictDecode : List Nat → Option (List (Nat × Nat))
  | [] => some []
  | c :: rest =>
    if isHi c then
      match rest with
      | d :: rest' => if isLo d then (strictDecode rest').map (fun l => (combine c d, 2) :: l) else none
      | [] => none
    else if isLo c then none
    else (strictDecode rest).map (fun l => (c, 1) :: l)

/-- Number of bytes `strings.Builder.WriteRune` writes. -/
def utf8Len (r : Nat) : Nat := if r < 0x80 then 1 else if r < 0x800 then 2 else if r < 0x10000 then 3 else 4

/-- Loop of `buildUTF8PosMap` (regexp.go:130-143): items (src = UTF-8 offset, dst = UTF-16 offset)
after each rune. -/
def utf8Loop : List (Nat × Nat) → Nat → Nat → List (Nat × Nat)
  | [], _, _ => []
  | (r, sz) :: rest, sPos, u8 =>
    let sPos := sPos + sz
    let u8 := u8 + utf8Len r
    (u8, sPos) :: utf8Loop rest sPos u8

def buildUTF8PosMap (units : List Nat) : Option (List (Nat × Nat)) :=
  (strictDecode units).map (fun l => utf8Loop l 0 0)

/-- `sort.Search(len(m), m[n].src >= src)` on ascending src. -/
def searchSrc : List (Nat × Nat) → Nat → Option (Nat × Nat)
  | [], _ => none
  | (s, d) :: rest, x => if s ≥ x then some (s, d) else searchSrc rest x

/-- `positionMap.get` (regexp.go:34); `none` = the Go code panics ("index not found"). -/
def pmGet (m : List (Nat × Nat)) (src : Nat) : Option Nat :=
  if src = 0 then some 0
  else match searchSrc m src with
    | some (s, d) => if s = src then some d else none
    | none => none

/-! ## 2. Flag loop of compileRegexp -/

/-- The six booleans declared at builtin_regexp.go:189 plus "err was set by invalidFlags()". -/
structure FlagSt where
  global : Bool := false
  ignoreCase : Bool := false
  multiline : Bool := false
  dotAll : Bool := false
  sticky : Bool := false
  unicode : Bool := false
  err : Bool := false
  deriving Repr, DecidableEq

/-- One iteration of `for _, chr := range flags { switch chr {…} }` (builtin_regexp.go:197-239).
`none` = `return` (always with the error set).  Written in the shape the extractor emits, so the
Tie theorem is by unfolding. -/
def flagStep (st : FlagSt) (chr : Char) : Option FlagSt :=
  if chr = 'g' then
    (if st.global then none else some { st with global := true })
  else if chr = 'm' then
    (if st.multiline then none else some { st with multiline := true })
  else if chr = 's' then
    (if st.dotAll then none else some { st with dotAll := true })
  else if chr = 'i' then
    (if st.ignoreCase then none else some { st with ignoreCase := true })
  else if chr = 'y' then
    (if st.sticky then none else some { st with sticky := true })
  else if chr = 'u' then
    (if st.unicode then none else some { st with unicode := true })
  else none

def flagLoop : List Char → FlagSt → Option FlagSt
  | [], st => some st
  | c :: cs, st => match flagStep st c with
    | some st' => flagLoop cs st'
    | none => none

/-- Acceptance of a flags string by the constructor: the loop ran to completion with no error. -/
def parseFlags (fs : List Char) : Option FlagSt :=
  match flagLoop fs {} with
  | some st => if st.err then none else some st
  | none => none

def flagAlphabet : List Char := ['g', 'i', 'm', 's', 'u', 'y']

/-! ## 3. exec / lastIndex protocol with an opaque finder -/

/-- A raw engine result: `regexpResult.indexes` (2 entries per group, −1 = did not participate) and
`regexpResult.groups` (`none` = nil slice). -/
structure MatchR where
  idx : List Int
  names : Option (List String) := none
  deriving Repr, DecidableEq, Inhabited

def MatchR.start (r : MatchR) : Nat := (r.idx.getD 0 0).toNat
def MatchR.stop (r : MatchR) : Nat := (r.idx.getD 1 0).toNat

/-- `pattern.findSubmatchIndex(s, start)` for a fixed pattern and subject. -/
abbrev Finder := Nat → Option MatchR

structure RFlags where
  global : Bool := false
  sticky : Bool := false
  unicode : Bool := false
  deriving Repr, DecidableEq

/-- regexp.go:620 -/
def getLastIndex (fl : RFlags) (li : Nat) : Nat :=
  if !fl.global && !fl.sticky then 0 else li

/-- `regexpObject.execRegexp` (regexp.go:628-644): result and the new value of `lastIndex`.
`n` = length of the subject in code units. -/
def execRegexp (fl : RFlags) (f : Finder) (n li : Nat) : Option MatchR × Nat :=
  let index := getLastIndex fl li
  let result := if index ≤ n then f index else none
  let res := match result with
    | some r => if !fl.sticky || r.start == index then some r else none
    | none => none
  let li' := if fl.global || fl.sticky then (match res with | some r => r.stop | none => 0) else li
  (res, li')

/-- The ECMA-262 matcher at one position, derived from the finder. -/
def matchAt (f : Finder) (i : Nat) : Option MatchR :=
  match f i with
  | some r => if r.start == i then some r else none
  | none => none

/-- ECMA-262 22.2.7.2 RegExpBuiltinExec steps 9-12 as a scan over candidate positions
`lastIndex, lastIndex+1, …, n` (fuel = number of candidates left).  In unicode mode the specification steps with
AdvanceStringIndex; this scan also visits the positions inside a surrogate pair, where no match of a code-point matcher starts. -/
def specScan (f : Finder) (sticky : Bool) (n : Nat) : Nat → Nat → Option MatchR
  | 0, _ => none
  | fuel + 1, i =>
    if i > n then none
    else match matchAt f i with
      | some r => some r
      | none => if sticky then none else specScan f sticky n fuel (i + 1)

def specExec (fl : RFlags) (f : Finder) (n li : Nat) : Option MatchR × Nat :=
  let lastIndex := if fl.global || fl.sticky then li else 0
  let res := specScan f fl.sticky n (n + 1 - lastIndex) lastIndex
  let li' := if fl.global || fl.sticky then (match res with | some r => r.stop | none => 0) else li
  (res, li')

/-- builtin_regexp.go:972 `advanceStringIndex` (and ECMA-262 AdvanceStringIndex). -/
def advance (units : List Nat) (pos : Nat) (unicode : Bool) : Nat :=
  let next := pos + 1
  if !unicode then next
  else if next ≥ units.length then next
  else if !isHi (units.getD pos 0) then next
  else if !isLo (units.getD next 0) then next
  else next + 1

/-- `getGlobalRegexpMatches` (builtin_regexp.go:702-723) — the generic global loop: exec until null,
stepping `lastIndex` with AdvanceStringIndex after an empty match.  Returns matches and final lastIndex. -/
def globalLoop (fl : RFlags) (f : Finder) (units : List Nat) : Nat → Nat → List MatchR × Nat
  | 0, li => ([], li)
  | fuel + 1, li =>
    match execRegexp fl f units.length li with
    | (none, li') => ([], li')
    | (some r, li') =>
      let li'' := if r.stop == r.start then advance units li' fl.unicode else li'
      let (rest, fin) := globalLoop fl f units fuel li''
      (r :: rest, fin)

def genericGlobalMatches (fl : RFlags) (f : Finder) (units : List Nat) : List MatchR × Nat :=
  globalLoop fl f units (units.length + 2) 0

/-- The engines' "find all" iteration as goja uses it (regexp2 `FindNextMatch`: continue at the end of
the previous match, one position further after an empty match; position = code unit, or code point
in unicode mode) with goja's sticky filter (regexp.go:377-382 / 463-468 / 504-513). -/
def findAllLoop (fl : RFlags) (f : Finder) (units : List Nat) (sticky : Bool) : Nat → Nat → Nat → List MatchR
  | 0, _, _ => []
  | fuel + 1, pos, expect =>
    if pos > units.length then []
    else match f pos with
      | none => []
      | some r =>
        if sticky && r.start != expect then []
        else
          let next := if r.stop == r.start then advance units r.stop fl.unicode else r.stop
          r :: findAllLoop fl f units sticky fuel next r.stop

def findAll (fl : RFlags) (f : Finder) (units : List Nat) (start : Nat) (sticky : Bool) : List MatchR :=
  findAllLoop fl f units sticky (units.length + 2) start start

/-- `stdSearch` fast path (builtin_regexp.go:902-911) and generic (793-816): index of the first match
from position 0 (sticky: at 0), `lastIndex` restored. -/
def fastSearch (fl : RFlags) (f : Finder) (n li : Nat) : Int × Nat :=
  match (execRegexp fl f n 0).1 with
  | some r => (r.start, li)
  | none => (-1, li)

def genericSearch (fl : RFlags) (f : Finder) (n li : Nat) : Int × Nat :=
  -- lastIndex := 0 (if different); exec; lastIndex := previous (if different)
  match (specExec fl f n 0).1 with
  | some r => (r.start, li)
  | none => (-1, li)

/-! ### result array construction -/

def sub (units : List Nat) (a b : Nat) : List Nat := (units.drop a).take (b - a)

/-- `execResultToArray` (regexp.go:583-597): capture i is `undefined` unless its start is ≥ 0 and its
end is ≥ the start of the last defined capture (`lowerBound`). -/
def captureVals (units : List Nat) : List Int → Nat → List (Option (List Nat))
  | s :: e :: rest, lower =>
    if s ≥ 0 && e ≥ (lower : Int) then some (sub units s.toNat e.toNat) :: captureVals units rest s.toNat
    else none :: captureVals units rest lower
  | _, _ => []

def resultArray (units : List Nat) (r : MatchR) : List (Option (List Nat)) :=
  some (sub units r.start r.stop) :: captureVals units (r.idx.drop 2) 0

/-- Plain capture extraction used by the fast replace / split paths (`!= -1` test only). -/
def captureValsPlain (units : List Nat) : List Int → List (Option (List Nat))
  | s :: e :: rest => (if s != -1 then some (sub units s.toNat e.toNat) else none) :: captureValsPlain units rest
  | _ => []

/-- Generic `Symbol.split` (ECMA-262 22.2.6.14 / builtin_regexp.go:914-970) with a sticky splitter whose
exec at position q is `matchAt f q`.  `lim = none` ⇔ no limit given (the Go code uses maxInt−1, unreachable).
Output: list of pieces (`none` = undefined capture). -/
def splitLoop (f : Finder) (units : List Nat) (unicode : Bool) (lim : Option Nat) :
    Nat → Nat → Nat → List (Option (List Nat)) → List (Option (List Nat))
  | 0, _, _, acc => acc
  | fuel + 1, p, q, acc =>
    let size := units.length
    if q ≥ size then acc ++ [some (sub units p size)]
    else match matchAt f q with
      | none => splitLoop f units unicode lim fuel p (advance units q unicode) acc
      | some r =>
        let e := min r.stop size
        if e == p then splitLoop f units unicode lim fuel p (advance units q unicode) acc
        else
          let acc := acc ++ [some (sub units p q)]
          if lim == some acc.length then acc
          else
            let caps := (resultArray units r).drop 1
            let room := match lim with | some l => l - acc.length | none => caps.length + 1
            if caps.length ≥ room then acc ++ caps.take room
            else splitLoop f units unicode lim fuel e e (acc ++ caps)

def genericSplit (f : Finder) (units : List Nat) (unicode : Bool) (lim : Option Nat) : List (Option (List Nat)) :=
  if lim == some 0 then []
  else if units.length == 0 then
    (match matchAt f 0 with | none => [some []] | some _ => [])
  else splitLoop f units unicode lim (2 * units.length + 4) 0 0 []

/-! ## 4. fast paths as coded: post-processing of raw `findAllSubmatchIndex` results

`raw` below is what `regexpPattern.findAllSubmatchIndex` returned (a list of index arrays); how the
engines and goja's wrappers produce it is a separate question (see `r2All`, `goAll` below). -/

/-- `stdSplitter` fast loop of the parent commit of /repo 5a3ab73 (kept only for the regression lemma
`fastSplit_prefix_witness`): an empty match was skipped only at index 0 or at the end. `lim = none` ⇔ limit −1. -/
def fastSplitLoopOld (units : List Nat) (lim : Option Nat) :
    List (List Int) → Nat → Nat → List (Option (List Nat)) → List (Option (List Nat)) × Bool
  -- returns (valueArray, reachedLimit); `found` is tracked separately as in the Go code
  | [], _, _, acc => (acc, false)
  | r :: rest, lastIndex, found, acc =>
    let s := (r.getD 0 0).toNat
    let e := (r.getD 1 0).toNat
    let n := units.length
    if s == e && (s == 0 || s == n) then fastSplitLoopOld units lim rest lastIndex found acc
    else
      -- both branches of the Go `if lastIndex != idx0 … else if lastIndex == idx0` push exactly s[lastIndex:idx0]
      let acc := acc ++ [some (sub units lastIndex s)]
      let found := found + 1
      if lim == some found then (acc, true)
      else
        let caps := captureValsPlain units (r.drop 2)
        let room := match lim with | some l => l - found | none => caps.length + 1
        if caps.length ≥ room then (acc ++ caps.take room, true)
        else fastSplitLoopOld units lim rest e (found + caps.length) (acc ++ caps)

/-- the tail of `stdSplitter` needs the last `lastIndex`; recomputed from the consumed matches. -/
def fastSplitLastOld (units : List Nat) : List (List Int) → Nat → Nat
  | [], lastIndex => lastIndex
  | r :: rest, lastIndex =>
    let s := (r.getD 0 0).toNat
    let e := (r.getD 1 0).toNat
    if s == e && (s == 0 || s == units.length) then fastSplitLastOld units rest lastIndex
    else fastSplitLastOld units rest e

def fastSplitOld (units : List Nat) (raw : List (List Int)) (lim : Option Nat) : List (Option (List Nat)) :=
  if lim == some 0 then []
  else if units.length == 0 then (if raw.isEmpty then [some []] else [])
  else
    let (acc, hit) := fastSplitLoopOld units lim raw 0 0 []
    if hit then acc
    else acc ++ [some (sub units (fastSplitLastOld units raw 0) units.length)]

/-- `stdMatcher`, global branch: the matched substrings (`none` = the method returns null). -/
def fastMatchStrings (units : List Nat) (raw : List (List Int)) : Option (List (List Nat)) :=
  if raw.isEmpty then none
  else some (raw.map (fun r => sub units (r.getD 0 0).toNat (r.getD 1 0).toNat))

/-- `stdReplacer`'s lastIndex write-back (builtin_regexp.go:1288-1294). -/
def fastReplaceLastIndex (fl : RFlags) (raw : List (List Int)) (li : Nat) : Nat :=
  if fl.global || fl.sticky then
    (if !fl.global then (match raw.getLast? with | some r => (r.getD 1 0).toNat | none => 0) else 0)
  else li

/-- `stringReplace` (builtin_string.go:596) with a replacer: `repl i r` is the replacement text of
match number i.  Pieces between matches are copied when `idx0 != lastIndex` (sic). -/
def fastReplaceLoop (units : List Nat) (repl : List Int → List Nat) : List (List Int) → Nat → List Nat → List Nat × Nat
  | [], lastIndex, buf => (buf, lastIndex)
  | r :: rest, lastIndex, buf =>
    let s := (r.getD 0 0).toNat
    let buf := if s != lastIndex then buf ++ sub units lastIndex s else buf
    fastReplaceLoop units repl rest (r.getD 1 0).toNat (buf ++ repl r)

def fastReplace (units : List Nat) (repl : List Int → List Nat) (raw : List (List Int)) : List Nat :=
  if raw.isEmpty then units
  else
    let (buf, lastIndex) := fastReplaceLoop units repl raw 0 []
    if lastIndex != units.length then buf ++ sub units lastIndex units.length else buf

/-- Generic `Symbol.replace` accumulation (builtin_regexp.go:1120-1189): `results` are (position, matchLength,
replacement) in order; a result whose position lies before `nextSourcePosition` is ignored. -/
def genericReplaceLoop (units : List Nat) : List (Nat × Nat × List Nat) → Nat → List Nat → List Nat × Nat
  | [], next, buf => (buf, next)
  | (pos, mlen, rep) :: rest, next, buf =>
    if pos ≥ next then genericReplaceLoop units rest (pos + mlen) (buf ++ sub units next pos ++ rep)
    else genericReplaceLoop units rest next buf

def genericReplace (units : List Nat) (results : List (Nat × Nat × List Nat)) : List Nat :=
  let (buf, next) := genericReplaceLoop units results 0 []
  if next < units.length then buf ++ sub units next units.length else buf

/-! ### `$` templates: `writeSubstitution` (builtin_regexp.go:1191-1263) -/

def isDigit (c : Nat) : Bool := 48 ≤ c && c ≤ 57

/-- position of the first '>' at or after j (`none` if there is none). -/
def findGt (repl : List Nat) : Nat → Nat → Option Nat
  | 0, _ => none
  | fuel + 1, j => if j ≥ repl.length then none else if repl.getD j 0 == 62 then some j else findGt repl fuel (j + 1)

/-- `caps` are the captures as the caller sees them (index 0 = matched text, `none` = undefined);
`named ref` = `none` when there is no groups object / map, else the text to insert. -/
def substLoop (units : List Nat) (position : Nat) (caps : List (Option (List Nat)))
    (named : List Nat → Option (List Nat)) (repl : List Nat) : Nat → Nat → List Nat → List Nat
  | 0, _, buf => buf
  | fuel + 1, i, buf =>
    let rl := repl.length
    if i ≥ rl then buf
    else
      let c := repl.getD i 0
      let matched := (caps.getD 0 none).getD []
      let cap := fun (k : Nat) => (caps.getD k none).getD []
      if c == 36 && i + 1 < rl then
        let ch := repl.getD (i + 1) 0
        if ch == 36 then substLoop units position caps named repl fuel (i + 2) (buf ++ [36])
        else if ch == 96 then substLoop units position caps named repl fuel (i + 2) (buf ++ sub units 0 position)
        else if ch == 39 then
          let tailPos := position + matched.length
          substLoop units position caps named repl fuel (i + 2)
            (if tailPos < units.length then buf ++ sub units tailPos units.length else buf)
        else if ch == 38 then substLoop units position caps named repl fuel (i + 2) (buf ++ matched)
        else if ch == 60 then
          match findGt repl (rl + 1) (i + 2) with
          | some j =>
            (match named (sub repl (i + 2) j) with
             | some t => substLoop units position caps named repl fuel (j + 1) (buf ++ t)
             | none => substLoop units position caps named repl fuel (i + 2) (buf ++ [36, 60]))
          | none => substLoop units position caps named repl fuel (i + 2) (buf ++ [36, 60])
        else
          -- up to two digits, longest prefix whose value is a valid capture number
          let d1 := repl.getD (i + 1) 0
          let v1 := if isDigit d1 && d1 - 48 < caps.length then some (d1 - 48) else none
          match v1 with
          | none => substLoop units position caps named repl fuel (i + 2) (buf ++ [36, ch])
          | some a =>
            let d2 := repl.getD (i + 2) 0
            let two := i + 2 < rl && isDigit d2 && a * 10 + (d2 - 48) < caps.length
            let index := if two then a * 10 + (d2 - 48) else a
            let j := if two then i + 3 else i + 2
            if index > 0 then substLoop units position caps named repl fuel j (buf ++ cap index)
            else substLoop units position caps named repl fuel (i + 2) (buf ++ [36, ch])
      else substLoop units position caps named repl fuel (i + 1) (buf ++ [c])

def substitute (units : List Nat) (position : Nat) (caps : List (Option (List Nat)))
    (named : List Nat → Option (List Nat)) (repl : List Nat) : List Nat :=
  substLoop units position caps named repl (repl.length + 1) 0 []

/-! ### the engines' own "find all" iterations -/

/-- Go `regexp.(*Regexp).allMatches`: continue at the end of the match, one position further after an
empty match, and **drop an empty match that starts where the previous match ended**.  `f` is the
linear-time engine's finder, positions are code units (ASCII / UTF-16-as-runes input). -/
def goAllLoop (f : Finder) (n : Nat) : Nat → Nat → Option Nat → List MatchR
  | 0, _, _ => []
  | fuel + 1, pos, prevEnd =>
    if pos > n then []
    else match f pos with
      | none => []
      | some r =>
        let empty := r.stop == r.start
        let accept := !(empty && prevEnd == some r.start)
        let next := if empty then r.stop + 1 else r.stop
        let rest := goAllLoop f n fuel next (some r.stop)
        if accept then r :: rest else rest

def goAllMatches (f : Finder) (n : Nat) : List MatchR := goAllLoop f n (n + 2) 0 none

/-- goja's sticky post-filter over a complete list (regexp.go:504-513). -/
def stickyPrefix : List MatchR → Nat → List MatchR
  | [], _ => []
  | r :: rest, pos => if r.start != pos then [] else r :: stickyPrefix rest r.stop

/-- The wrapper loops `findAllSubmatchIndexUTF16/Unicode` (regexp.go:349-395, 435-481) over regexp2's
FindRunesMatchStartingAt / FindNextMatch, exactly as coded: `limit` (none = −1), and the sticky filter that
compares the match start with the END of the previous match (`expect`). -/
def r2AllLoop (fl : RFlags) (f : Finder) (units : List Nat) (sticky : Bool) :
    Nat → Nat → Nat → Option Nat → List MatchR
  | 0, _, _, _ => []
  | fuel + 1, pos, expect, limit =>
    if pos > units.length then []
    else match f pos with
      | none => []
      | some r =>
        if sticky && r.start != expect then []
        else if limit == some 1 then [r]
        else
          let next := if r.stop == r.start then advance units r.stop fl.unicode else r.stop
          r :: r2AllLoop fl f units sticky fuel next r.stop (limit.map (· - 1))

def r2All (fl : RFlags) (f : Finder) (units : List Nat) (start : Nat) (limit : Option Nat) (sticky : Bool) : List MatchR :=
  r2AllLoop fl f units sticky (units.length + 2) start start limit

/-- The same sweep with the sticky test the generic protocol implies: a match must start exactly where the
search resumed (`pos`), not where the previous match ended.  (From /repo 15617dc on the built-ins hand a sticky RegExp to the generic protocol and do not reach the coded test.) -/
def idealAllLoop (fl : RFlags) (f : Finder) (units : List Nat) (sticky : Bool) :
    Nat → Nat → Option Nat → List MatchR
  | 0, _, _ => []
  | fuel + 1, pos, limit =>
    if pos > units.length then []
    else match f pos with
      | none => []
      | some r =>
        if sticky && r.start != pos then []
        else if limit == some 1 then [r]
        else
          let next := if r.stop == r.start then advance units r.stop fl.unicode else r.stop
          r :: idealAllLoop fl f units sticky fuel next (limit.map (· - 1))

def idealAll (fl : RFlags) (f : Finder) (units : List Nat) (start : Nat) (limit : Option Nat) (sticky : Bool) : List MatchR :=
  idealAllLoop fl f units sticky (units.length + 2) start limit

/-- `stdMatcher`, global branch (builtin_regexp.go; /repo 15617dc): a sticky RegExp is handed to the generic
protocol; otherwise lastIndex := 0 and one sweep `findAllSubmatchIndex(s, 0, -1, false)` — here over the regexp2
wrapper loops as coded. -/
def fastGlobalMatches (fl : RFlags) (f : Finder) (units : List Nat) : List MatchR × Nat :=
  if fl.sticky then genericGlobalMatches fl f units
  else (r2All fl f units 0 none false, 0)

/-- Go's allMatches with code-point steps (UTF-8 input in unicode mode). -/
def goAllLoopU (fl : RFlags) (f : Finder) (units : List Nat) : Nat → Nat → Option Nat → List MatchR
  | 0, _, _ => []
  | fuel + 1, pos, prevEnd =>
    if pos > units.length then []
    else match f pos with
      | none => []
      | some r =>
        let empty := r.stop == r.start
        let accept := !(empty && prevEnd == some r.start)
        let next := if empty then advance units r.stop fl.unicode else r.stop
        let rest := goAllLoopU fl f units fuel next (some r.stop)
        if accept then r :: rest else rest

def goAll (fl : RFlags) (f : Finder) (units : List Nat) : List MatchR := goAllLoopU fl f units (units.length + 2) 0 none

/-- `stdSplitter` fast path (builtin_regexp.go, loop over `findAllSubmatchIndex(s,0,-1,false)`; /repo 5a3ab73): an
empty match located where the previous piece ended (`lastIndex`, initially 0) or at the end of the subject is
skipped — ECMA-262's `e = p` test. `lim = none` ⇔ limit −1 (undefined). -/
def fastSplitLoop (units : List Nat) (lim : Option Nat) :
    List (List Int) → Nat → Nat → List (Option (List Nat)) → List (Option (List Nat)) × Bool × Nat
  | [], lastIndex, _, acc => (acc, false, lastIndex)
  | r :: rest, lastIndex, found, acc =>
    let s := (r.getD 0 0).toNat
    let e := (r.getD 1 0).toNat
    let n := units.length
    if s == e && (s == lastIndex || s == n) then fastSplitLoop units lim rest lastIndex found acc
    else
      let acc := acc ++ [some (sub units lastIndex s)]
      let found := found + 1
      if lim == some found then (acc, true, e)
      else
        let caps := captureValsPlain units (r.drop 2)
        let room := match lim with | some l => l - found | none => caps.length + 1
        if caps.length ≥ room then (acc ++ caps.take room, true, e)
        else fastSplitLoop units lim rest e (found + caps.length) (acc ++ caps)

def fastSplit (units : List Nat) (raw : List (List Int)) (lim : Option Nat) : List (Option (List Nat)) :=
  if lim == some 0 then []
  else if units.length == 0 then (if raw.isEmpty then [some []] else [])
  else
    let (acc, hit, last) := fastSplitLoop units lim raw 0 0 []
    if hit then acc else acc ++ [some (sub units last units.length)]

/-! ### GetSubstitution, spec side (ECMA-262 22.1.3.19.1, ES2024 wording)

`templateRemainder` is consumed from the front ("starts with …").  `captures` does NOT contain the whole match
(captures[0] is group 1), `named = none` ⇔ namedCaptures is undefined, a lookup yielding `none` ⇔ the property is
undefined (replaced by the empty string). -/

def digitVal (c : Nat) : Nat := c - 48

/-- StringIndexOf(templateRemainder, ">", 0) -/
def indexOfGt : List Nat → Option Nat
  | [] => none
  | c :: rest => if c == 62 then some 0 else (indexOfGt rest).map (· + 1)

def getSubstitution (units : List Nat) (position : Nat) (matched : List Nat) (captures : List (Option (List Nat)))
    (named : Option (List Nat → Option (List Nat))) : Nat → List Nat → List Nat
  | 0, _ => []
  | _ + 1, [] => []
  | fuel + 1, c :: rest =>
    if c != 36 then c :: getSubstitution units position matched captures named fuel rest       -- step 5.h: any other char
    else match rest with
      | [] => [36]
      | ch :: rest2 =>
        if ch == 36 then 36 :: getSubstitution units position matched captures named fuel rest2            -- "$$"
        else if ch == 96 then                                                                               -- "$`"
          sub units 0 position ++ getSubstitution units position matched captures named fuel rest2
        else if ch == 38 then matched ++ getSubstitution units position matched captures named fuel rest2   -- "$&"
        else if ch == 39 then                                                                               -- "$'"
          sub units (min (position + matched.length) units.length) units.length ++
            getSubstitution units position matched captures named fuel rest2
        else if isDigit ch then                                                                             -- "$n", "$nn"
          let captureLen := captures.length
          let twoDigits := match rest2 with | d2 :: _ => isDigit d2 | [] => false
          let idx2 := digitVal ch * 10 + digitVal (rest2.headD 0)
          -- "If index > captureLen and digitCount = 2, set digitCount to 1"
          let digitCount := if twoDigits && Nat.ble idx2 captureLen then 2 else 1
          let index := if digitCount == 2 then idx2 else digitVal ch
          let after := if digitCount == 2 then rest2.drop 1 else rest2
          let ref := 36 :: ch :: (if digitCount == 2 then [rest2.headD 0] else [])
          (if Nat.ble 1 index && Nat.ble index captureLen then (captures.getD (index - 1) none).getD [] else ref) ++
            getSubstitution units position matched captures named fuel after
        else if ch == 60 then                                                                               -- "$<"
          match named with
          | none => 36 :: 60 :: getSubstitution units position matched captures named fuel rest2
          | some lookup =>
            match indexOfGt rest2 with
            | none => 36 :: 60 :: getSubstitution units position matched captures named fuel rest2
            | some g => (lookup (rest2.take g)).getD [] ++
                getSubstitution units position matched captures named fuel (rest2.drop (g + 1))
        else 36 :: getSubstitution units position matched captures named fuel rest                          -- lone "$"

/-! ## 5. engine routing (regexp.go `findSubmatchIndex`, `findAllSubmatchIndex`)

The decision structure of the two routing functions is regenerated from the Go source on every run
(extract/c20.go → Generated/C20_Routing.lean) as a tree over the vocabulary below and proved equal to the hand
model by the Tie theorems. -/

inductive RCond where
  | noLinear        -- p.regexpWrapper == nil
  | startZero       -- start == 0
  | startNonZero    -- start != 0
  | asciiSubject    -- u == nil  (after devirtualizeString)
  | limitOne        -- limit == 1
  | unicodeFlag     -- p.unicode
  | pmOk            -- pm != nil  (buildUTF8PosMap succeeded: no lone surrogate)
  | noMatch         -- result.indexes == nil
  deriving DecidableEq, Repr

inductive RCall where
  | r2All           -- p.regexp2Wrapper.findAllSubmatchIndex(s, start, limit, sticky, p.unicode)
  | goAllAscii      -- p.regexpWrapper.findAllSubmatchIndex(string(a), limit, sticky)
  | linearSingle    -- [p.regexpWrapper.findSubmatchIndexUnicode(u, p.unicode)]
  | goAllUtf8       -- p.regexpWrapper.findAllSubmatchIndex(str, limit, sticky)  + position map
  | r2Find          -- p.regexp2Wrapper.findSubmatchIndex(s, start, p.unicode, p.global || p.sticky)
  | linearFind      -- p.regexpWrapper.findSubmatchIndex(s, p.unicode)
  | nilResult
  | other (text : String)
  deriving DecidableEq, Repr

inductive RNode where
  | ret (c : RCall)
  | ite (c : RCond) (t e : RNode)
  | bad (why : String)
  deriving Repr

def evalNode (env : RCond → Bool) : RNode → RCall
  | .ret c => c
  | .ite c t e => if env c then evalNode env t else evalNode env e
  | .bad why => .other why

structure RouteIn where
  hasLinear : Bool
  startZero : Bool
  ascii : Bool
  limitOne : Bool
  unicode : Bool
  pmOk : Bool
  noMatch : Bool := false

def RouteIn.env (x : RouteIn) : RCond → Bool
  | .noLinear => !x.hasLinear
  | .startZero => x.startZero
  | .startNonZero => !x.startZero
  | .asciiSubject => x.ascii
  | .limitOne => x.limitOne
  | .unicodeFlag => x.unicode
  | .pmOk => x.pmOk
  | .noMatch => x.noMatch

/-- hand model of `regexpPattern.findAllSubmatchIndex` routing (what run/c20.py `find_path` and the raw-list
correspondence assume) -/
def findAllRoute (x : RouteIn) : RCall :=
  if !x.hasLinear then .r2All
  else if !x.startZero then .r2All
  else if x.ascii then .goAllAscii
  else if x.limitOne then (if x.noMatch then .nilResult else .linearSingle)
  else if x.unicode && x.pmOk then .goAllUtf8
  else .r2All

/-- hand model of `regexpPattern.findSubmatchIndex` routing: linear engine only from start 0 -/
def findRoute (x : RouteIn) : RCall :=
  if !x.hasLinear then .r2Find else if !x.startZero then .r2Find else .linearFind

end GojaModel.C20
