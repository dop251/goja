/-
  C20 — the lastIndex protocol over an opaque finder (core Lean only), for a finder that is `Leftmost` (Defs.lean):
  the one exec test `execCore` that `execRegexp`, the generic global loop and the "find all" sweep make at a position,
  `execRegexp` against the scan of RegExpBuiltinExec, the two replace accumulations, Go's FindAll sweep.
-/
import GojaModel.C20.Defs
namespace GojaModel.C20

theorem specScan_nonsticky (f : Finder) (n : Nat) (hf : Leftmost f n) : ∀ (fuel i : Nat), i + fuel = n + 1 →
    specScan f false n fuel i = if i ≤ n then f i else none := by
  intro fuel
  induction fuel with
  | zero => intro i h; rw [specScan, if_neg (by omega)]
  | succ fuel ih =>
    intro i h
    have hin : i ≤ n := by omega
    rw [specScan, if_neg (Nat.not_lt.mpr hin), if_pos hin, ih (i + 1) (by omega), matchAt]
    -- an answer that does not start at `i` is still the answer at `i + 1`
    cases hfi : f i with
    | none =>
      show (if i + 1 ≤ n then f (i + 1) else none) = none
      by_cases h1 : i + 1 ≤ n
      · rw [if_pos h1]; exact hf.none_up i (i + 1) hfi (Nat.le_succ i) h1
      · rw [if_neg h1]
    | some r =>
      have hge := hf.ge i r hfi
      have hin2 := hf.inside i r hfi
      by_cases hs : r.start = i
      · simp [hs]
      · have h1 : i + 1 ≤ n := by omega
        simp only [beq_eq_false_iff_ne.mpr hs, Bool.false_eq_true, if_false, if_pos h1]
        exact hf.stable i r (i + 1) hfi (Nat.le_succ i) (by omega)

def execCore (sticky : Bool) (f : Finder) (n index : Nat) : Option MatchR :=
  match (if index ≤ n then f index else none) with
  | some r => if !sticky || r.start == index then some r else none
  | none => none

theorem execRegexp_core (fl : RFlags) (f : Finder) (n li : Nat) :
    execRegexp fl f n li =
      (execCore fl.sticky f n (getLastIndex fl li),
       if fl.global || fl.sticky then
         (match execCore fl.sticky f n (getLastIndex fl li) with | some r => r.stop | none => 0) else li) := rfl

theorem getLastIndex_eq (fl : RFlags) (li : Nat) :
    getLastIndex fl li = if fl.global || fl.sticky then li else 0 := by
  obtain ⟨g, y, u⟩ := fl
  cases g <;> cases y <;> simp [getLastIndex]

section core
variable {f : Finder} {n i : Nat}

theorem execCore_out (y : Bool) (h : n < i) : execCore y f n i = none := by
  simp [execCore, Nat.not_le_of_gt h]

theorem execCore_false (h : i ≤ n) : execCore false f n i = f i := by
  simp only [execCore, if_pos h]
  cases f i <;> rfl

theorem execCore_true (h : i ≤ n) : execCore true f n i = matchAt f i := by
  simp only [execCore, if_pos h, matchAt]
  rfl

end core

theorem idealAllLoop_succ (fl : RFlags) (f : Finder) (units : List Nat) (y : Bool) (fuel pos : Nat) (lim : Option Nat) :
    idealAllLoop fl f units y (fuel + 1) pos lim =
      match execCore y f units.length pos with
      | none => []
      | some r =>
        if lim == some 1 then [r]
        else r :: idealAllLoop fl f units y fuel (if r.stop == r.start then advance units r.stop fl.unicode else r.stop)
          (lim.map (· - 1)) := by
  by_cases hp : pos ≤ units.length
  · simp only [idealAllLoop, execCore, if_pos hp, if_neg (Nat.not_lt.mpr hp)]
    cases f pos with
    | none => rfl
    | some r => by_cases hs : r.start = pos <;> cases y <;> simp [hs]
  · rw [execCore_out y (Nat.lt_of_not_le hp)]
    simp [idealAllLoop, Nat.lt_of_not_le hp]

theorem globalLoop_succ (fl : RFlags) (f : Finder) (units : List Nat) (hg : fl.global = true) (fuel li : Nat) :
    (globalLoop fl f units (fuel + 1) li).1 =
      match execCore fl.sticky f units.length li with
      | none => []
      | some r => r :: (globalLoop fl f units fuel
          (if r.stop == r.start then advance units r.stop fl.unicode else r.stop)).1 := by
  rw [globalLoop, execRegexp_core, getLastIndex_eq, hg]
  simp only [Bool.true_or, if_true]
  cases execCore fl.sticky f units.length li <;> rfl

theorem execCore_eq_specScan (y : Bool) (f : Finder) (n : Nat) (hf : Leftmost f n) (index : Nat) :
    execCore y f n index = specScan f y n (n + 1 - index) index := by
  by_cases hin : index ≤ n
  · cases y with
    | false => rw [specScan_nonsticky f n hf (n + 1 - index) index (by omega), if_pos hin, execCore_false hin]
    | true =>
      rw [execCore_true hin, show n + 1 - index = (n - index) + 1 by omega, specScan, if_neg (Nat.not_lt.mpr hin)]
      cases matchAt f index <;> rfl
  · rw [execCore_out y (Nat.lt_of_not_le hin), show n + 1 - index = 0 by omega]
    rfl

section sweep
variable {fl : RFlags} {f : Finder} {units : List Nat} {fuel q : Nat} {r : MatchR}

theorem idealAllLoop_end (h : units.length < q) : idealAllLoop fl f units false fuel q none = [] := by
  cases fuel with
  | zero => rfl
  | succ k => rw [idealAllLoop_succ, execCore_out _ h]

theorem idealAllLoop_none (h : f q = none) : idealAllLoop fl f units false (fuel + 1) q none = [] := by
  rw [idealAllLoop_succ]
  by_cases hq : q ≤ units.length
  · rw [execCore_false hq, h]
  · rw [execCore_out _ (Nat.lt_of_not_le hq)]

theorem idealAllLoop_some (hq : q ≤ units.length) (h : f q = some r) :
    idealAllLoop fl f units false (fuel + 1) q none =
      r :: idealAllLoop fl f units false fuel (if r.stop = r.start then advance units r.stop fl.unicode else r.stop) none := by
  rw [idealAllLoop_succ, execCore_false hq, h]
  simp

end sweep

theorem sub_self (units : List Nat) (a : Nat) : sub units a a = [] := by simp [sub]

theorem sub_all (units : List Nat) : sub units 0 units.length = units := by simp [sub]

theorem copy_piece (units : List Nat) (x li : Nat) (buf : List Nat) :
    (if (x != li) = true then buf ++ sub units li x else buf) = buf ++ sub units li x := by
  by_cases he : x = li
  · subst he; simp [sub_self]
  · simp [he]

theorem fastReplaceLoop_eq (units : List Nat) (repl : List Int → List Nat) (n : Nat) :
    ∀ (raw : List (List Int)) (li : Nat) (buf : List Nat), Ordered n raw li →
      fastReplaceLoop units repl raw li buf =
        genericReplaceLoop units (raw.map (fun r => (rS r, rE r - rS r, repl r))) li buf ∧
      (fastReplaceLoop units repl raw li buf).2 ≤ n := by
  intro raw
  induction raw with
  | nil => intro li buf h; simp [fastReplaceLoop, genericReplaceLoop]; exact h
  | cons r rest ih =>
    intro li buf h
    obtain ⟨h1, h2, h3⟩ := h
    simp only [fastReplaceLoop, List.map_cons, genericReplaceLoop]
    have hge : rS r ≥ li := h1
    have hsum : rS r + (rE r - rS r) = rE r := by omega
    simp only [hge, if_true, hsum]
    rw [copy_piece units (r.getD 0 0).toNat li buf]
    exact ih (rE r) (buf ++ sub units li (rS r) ++ repl r) h3

theorem goAllLoop_eq_ideal (fl : RFlags) (f : Finder) (units : List Nat) : ∀ (fuel pos : Nat) (prev : Option Nat),
    NoAdjEmpty (idealAllLoop fl f units false fuel pos none) prev →
    goAllLoopU fl f units fuel pos prev = idealAllLoop fl f units false fuel pos none := by
  intro fuel
  induction fuel with
  | zero => intro pos prev _; rfl
  | succ fuel ih =>
    intro pos prev h
    rw [idealAllLoop_succ] at h ⊢
    rw [goAllLoopU]
    by_cases hp : pos ≤ units.length
    · rw [execCore_false hp] at h ⊢
      rw [if_neg (Nat.not_lt.mpr hp)]
      cases hf : f pos with
      | none => rfl
      | some r =>
        rw [hf] at h
        obtain ⟨h1, h2⟩ : ¬ (r.stop = r.start ∧ prev = some r.start) ∧
            NoAdjEmpty (idealAllLoop fl f units false fuel
              (if r.stop == r.start then advance units r.stop fl.unicode else r.stop) none) (some r.stop) := h
        -- Go's loop accepts the match, since it is not an empty one at the previous end
        have hacc : (!(r.stop == r.start && prev == some r.start)) = true := by
          cases he : (r.stop == r.start) <;> cases hq : (prev == some r.start) <;> simp
          exact h1 ⟨by simpa using he, by simpa using hq⟩
        simp only [hacc, if_true]
        rw [ih _ _ h2]
        rfl
    · rw [execCore_out _ (Nat.lt_of_not_le hp), if_pos (Nat.lt_of_not_le hp)]

end GojaModel.C20
