/-
  C20 property theorems.  Every `theorem` here is one audited proof obligation.
  The regex engines are opaque (`Finder`); theorems whose name ends in `_partial` say what is missing.
-/
import GojaModel.C20.PosMapLemmas
import GojaModel.C20.FlagLemmas
import GojaModel.C20.ProtocolLemmas
import GojaModel.C20.SplitLemmas
import GojaModel.C20.SubstLemmas
import GojaModel.C20.RefLemmas
namespace GojaModel.C20

/-- The lenient decoder loses nothing: re-encoding the runes gives back the code units
(lone surrogates included). -/
theorem decode_lossless (units : List Nat) (h : ∀ u ∈ units, u < 0x10000) :
    encodeAll ((decode units).map Prod.fst) = units := by
  revert h
  fun_induction decode units with
  | case1 => intro _; rfl
  | case2 c => intro h; simp [encodeAll, encodeRune_small (h c (by simp))]
  | case3 c d rest hp ih =>
    intro h
    simp only [Bool.and_eq_true] at hp
    have ih' := ih (fun u hu => h u (by simp [hu]))
    simp only [encodeAll, List.map_cons, List.flatMap_cons] at ih' ⊢
    rw [encodeRune_combine hp.1 hp.2, ih']
    rfl
  | case4 c d rest hp ih =>
    intro h
    have ih' := ih (fun u hu => h u (List.mem_cons_of_mem _ hu))
    simp only [encodeAll, List.map_cons, List.flatMap_cons] at ih' ⊢
    rw [encodeRune_small (h c (by simp)), ih']
    rfl

/-- `buildPosMap`: entry k of the map is the UTF-16 index of the boundary after k runes, for every k;
the map has one more entry than there are runes and ends at the length of the subject. -/
theorem posmap_correct (units : List Nat) (start : Nat) (h : ∀ u ∈ units, u < 0x10000) :
    let r := buildPosMap units start
    encodeAll r.runes = units ∧
    r.posMap.length = r.runes.length + 1 ∧
    (∀ k, k ≤ r.runes.length → r.posMap[k]? = some (encodeAll (r.runes.take k)).length) ∧
    r.posMap[r.runes.length]? = some units.length := by
  intro r
  have hpm : r.posMap = bounds 0 (decode units) := buildPosMap_posMap units start
  have hrn : r.runes = (decode units).map Prod.fst := buildPosMap_runes units start
  have hlen : r.runes.length = (decode units).length := by rw [hrn]; simp
  refine ⟨?_, ?_, ?_, ?_⟩
  · rw [hrn]; exact decode_lossless units h
  · rw [hpm, bounds_length, hlen]
  · intro k hk
    rw [hpm, bounds_get (decode units) 0 k (by omega), hrn, ← List.map_take]
    rw [totalSize_eq_encode_len]
    · simp
    · intro p hp
      exact decode_size_eq_encode units h p (List.mem_of_mem_take hp)
  · rw [hpm, hlen, bounds_get (decode units) 0 _ (Nat.le_refl _)]
    simp [totalSize_decode]

/-- The map is strictly increasing (so `sort.SearchInts` is applicable and boundaries are distinct). -/
theorem posmap_strict_mono (units : List Nat) (start : Nat) :
    List.Pairwise (· < ·) (buildPosMap units start).posMap := by
  rw [buildPosMap_posMap]
  exact bounds_pairwise _ _ (decode_size_pos units)

/-- Index translation preserves order and stays inside the subject: a rune-level span a ≤ b maps to
UTF-16 indices s ≤ e ≤ |subject| (hence 0 ≤ start ≤ end ≤ |s| for the match and every capture, and a
capture inside the match at rune level stays inside it at code-unit level). -/
theorem span_match_bounds (units : List Nat) (start a b : Nat) (hab : a ≤ b)
    (hb : b ≤ (buildPosMap units start).runes.length) :
    ∃ s e, (buildPosMap units start).posMap[a]? = some s ∧ (buildPosMap units start).posMap[b]? = some e ∧
      s ≤ e ∧ e ≤ units.length := by
  rw [buildPosMap_runes, List.length_map] at hb
  rw [buildPosMap_posMap]
  obtain ⟨s, e, h1, h2, h3, h4⟩ := bounds_span (decode units) 0 a b hab hb
  exact ⟨s, e, h1, h2, h3, by rwa [Nat.zero_add, totalSize_decode] at h4⟩

/-- The cached path (`posMapReverseLookup` on the stored map) computes the same `(mappedStart,
splitPair)` as a fresh `buildPosMap`, for every start position inside the subject. -/
theorem reverse_lookup_correct (units : List Nat) (start : Nat) (h : start ≤ units.length) :
    let r := buildPosMap units start
    reverseLookup r.posMap start = (r.mappedStart, r.splitPair) := by
  intro r
  rw [show r.posMap = _ from buildPosMap_posMap units start]
  exact (buildPosMap_start units start h).symm

/-- Where the start position lands: on a boundary (`splitPair = false`, the map sends `mappedStart`
back to `start`) or strictly inside the rune at `mappedStart` (`splitPair = true`). -/
theorem start_located (units : List Nat) (start : Nat) (h : start ≤ units.length) :
    let r := buildPosMap units start
    (r.splitPair = false → r.posMap[r.mappedStart]? = some start) ∧
    (r.splitPair = true → ∃ a b, r.posMap[r.mappedStart]? = some a ∧ r.posMap[r.mappedStart + 1]? = some b ∧
        a < start ∧ start < b) := by
  intro r
  have := reverseLookup_spec r.posMap start
    (by rw [buildPosMap_posMap, bounds_head]; exact Nat.zero_le _)
    (by rw [buildPosMap_posMap]; exact searchInts_lt start _ 0 (by rw [totalSize_decode]; omega))
  rwa [reverse_lookup_correct units start h] at this

/-- The constructor accepts a flags string iff it is a duplicate-free string over "gimsuy". -/
theorem parseFlags_spec (fs : List Char) :
    (parseFlags fs).isSome = true ↔ (fs.Nodup ∧ ∀ c ∈ fs, c ∈ flagAlphabet) := by
  rw [parseFlags_eq_flagLoop, (flagLoop_spec fs {}).1]
  exact and_congr_right fun _ => forall₂_congr fun c _ => and_iff_left (by simp [seen])

/-- When the constructor accepts a flags string, each pattern flag is set exactly when its letter occurs. -/
theorem parseFlags_bits (fs : List Char) (st : FlagSt) (h : parseFlags fs = some st) :
    st.global = decide ('g' ∈ fs) ∧ st.ignoreCase = decide ('i' ∈ fs) ∧ st.multiline = decide ('m' ∈ fs) ∧
    st.dotAll = decide ('s' ∈ fs) ∧ st.unicode = decide ('u' ∈ fs) ∧ st.sticky = decide ('y' ∈ fs) := by
  -- each field is `seen` at its letter
  have hseen := ((flagLoop_spec fs {}).2 st (parseFlags_eq_flagLoop fs ▸ h)).2
  exact ⟨hseen 'g', hseen 'i', hseen 'm', hseen 's', hseen 'u', hseen 'y'⟩

/-- `regexpObject.execRegexp` refines RegExpBuiltinExec (position scan from `lastIndex`, sticky = only
at `lastIndex`, `lastIndex > length ⇒ null and reset`, g/y write-back, non-global leaves `lastIndex`
alone), for every finder that returns leftmost matches. -/
theorem exec_lastIndex_protocol (fl : RFlags) (f : Finder) (n li : Nat) (hf : Leftmost f n) :
    execRegexp fl f n li = specExec fl f n li := by
  rw [execRegexp_core, getLastIndex_eq, execCore_eq_specScan fl.sticky f n hf]
  rfl

/-- The same protocol spelled out case by case (no assumption on the finder). -/
theorem exec_lastIndex_cases (fl : RFlags) (f : Finder) (n li : Nat) :
    (fl.global = false → fl.sticky = false → execRegexp fl f n li = (f 0, li)) ∧
    ((fl.global = true ∨ fl.sticky = true) → li > n → execRegexp fl f n li = (none, 0)) ∧
    (fl.global = true → fl.sticky = false → li ≤ n →
        execRegexp fl f n li = (f li, match f li with | some r => r.stop | none => 0)) ∧
    (fl.sticky = true → li ≤ n →
        execRegexp fl f n li = (matchAt f li, match matchAt f li with | some r => r.stop | none => 0)) := by
  rw [execRegexp_core, getLastIndex_eq]
  refine ⟨fun hg hy => ?_, fun hgy hli => ?_, fun hg hy hli => ?_, fun hy hli => ?_⟩
  · simp only [hg, hy, Bool.or_self, Bool.false_eq_true, if_false, execCore_false (Nat.zero_le n)]
  · have : (fl.global || fl.sticky) = true := by simpa using hgy
    simp only [this, if_true, execCore_out _ hli]
  · simp only [hg, hy, Bool.or_false, if_true, execCore_false hli]; rfl
  · simp only [hy, Bool.or_true, if_true, execCore_true hli]; rfl

/-- AdvanceStringIndex moves by one code unit, or by two exactly over a surrogate pair in unicode mode. -/
theorem advance_spec (units : List Nat) (pos : Nat) (u : Bool) :
    (advance units pos u = pos + 1 ∨ advance units pos u = pos + 2) ∧
    (advance units pos u = pos + 2 ↔
      (u = true ∧ pos + 1 < units.length ∧ isHi (units.getD pos 0) = true ∧ isLo (units.getD (pos + 1) 0) = true)) := by
  unfold advance
  cases u with
  | false => simp
  | true =>
    by_cases h1 : pos + 1 ≥ units.length
    · have : ¬ pos + 1 < units.length := by omega
      simp [h1, this]
    · have h1' : pos + 1 < units.length := by omega
      cases isHi (units.getD pos 0) <;> cases h3 : isLo (units.getD (pos + 1) 0) <;>
        simp [-List.getD_eq_getElem?_getD, h1, h1', h3]

/-- Fast path of `Symbol.search` = generic path (same index, `lastIndex` restored). -/
theorem fastSearch_eq_generic (fl : RFlags) (f : Finder) (n li : Nat) (hf : Leftmost f n) :
    fastSearch fl f n li = genericSearch fl f n li := by
  simp only [fastSearch, genericSearch, exec_lastIndex_protocol fl f n 0 hf]

/-- The sweep the generic protocol performs for a global RegExp (`getGlobalRegexpMatches`: exec until null,
AdvanceStringIndex after an empty match, code-point steps in unicode mode) is the single "find all" sweep
`idealAll` — for EVERY flag combination, sticky included, and every finder.  This is the sweep
fixes/C20-sticky-fast-paths-use-generic-protocol.diff makes the sticky case use. -/
theorem idealSweep_eq_generic (fl : RFlags) (f : Finder) (units : List Nat) (hg : fl.global = true) :
    (genericGlobalMatches fl f units).1 = idealAll fl f units 0 none fl.sticky := by
  -- lock-step: both loops make the same exec test at `li` and go on from the same position
  have key : ∀ (fuel li : Nat), (globalLoop fl f units fuel li).1 = idealAllLoop fl f units fl.sticky fuel li none := by
    intro fuel
    induction fuel with
    | zero => intro li; rfl
    | succ fuel ih =>
      intro li
      rw [globalLoop_succ fl f units hg, idealAllLoop_succ]
      cases execCore fl.sticky f units.length li with
      | none => rfl
      | some r => exact congrArg (r :: ·) (ih _)
  exact key _ 0

/-- The regexp2 wrapper loops as coded (`r2All`: sticky test against the END of the previous match) coincide
with the ideal sweep whenever the sticky filter is off. -/
theorem r2All_eq_ideal_nonsticky (fl : RFlags) (f : Finder) (units : List Nat) (start : Nat) (limit : Option Nat) :
    r2All fl f units start limit false = idealAll fl f units start limit false := by
  simp only [r2All, idealAll]
  have key : ∀ (fuel pos expect : Nat) (lim : Option Nat),
      r2AllLoop fl f units false fuel pos expect lim = idealAllLoop fl f units false fuel pos lim := by
    intro fuel
    induction fuel with
    | zero => intro pos expect lim; rfl
    | succ fuel ih =>
      intro pos expect lim
      simp only [r2AllLoop, idealAllLoop, Bool.false_and, Bool.false_eq_true, if_false, ih]
  exact key _ _ _ _

/-- `Symbol.match` of a global RegExp: optimised path = generic path, for every flag combination (sticky regexps are
routed to the generic protocol, /repo 15617dc) and every finder.  PARTIAL only because the engines' own
iteration is taken to be regexp2's FindNextMatch sweep as wrapped by goja (`r2All`); Go's FindAll is a different sweep
(`goAll_adjacent_empty_witness`, known finding go-adjacent-empty). -/
theorem fastMatch_eq_generic_partial (fl : RFlags) (f : Finder) (units : List Nat) (hg : fl.global = true) :
    (genericGlobalMatches fl f units).1 = (fastGlobalMatches fl f units).1 := by
  cases hy : fl.sticky with
  | true => simp [fastGlobalMatches, hy]
  | false =>
    rw [idealSweep_eq_generic fl f units hg]
    simp only [fastGlobalMatches, hy, Bool.false_eq_true, if_false]
    exact (r2All_eq_ideal_nonsticky fl f units 0 none).symm

/-- The idealised finder of /a*/ on "baa" (leftmost-longest at each start). -/
def witnessFinder : Finder := fun i =>
  if i = 0 then some ⟨[0, 0], none⟩ else if i = 1 then some ⟨[1, 3], none⟩
  else if i = 2 then some ⟨[2, 3], none⟩ else if i = 3 then some ⟨[3, 3], none⟩ else none

/-- The sticky filter of the findAll wrappers (the next match must start at the END of the previous one) is NOT the
protocol's sweep — for /a*/gy on "baa" the protocol finds "", "aa", "" and the coded sticky sweep stops after "".  This is
the defect /repo 15617dc repairs by handing sticky regexps to the generic protocol: the built-ins do not reach the coded
sweep with sticky = true. -/
theorem stickySweep_prefix_witness :
    ¬ (∀ (fl : RFlags) (f : Finder) (units : List Nat), fl.global = true →
        (genericGlobalMatches fl f units).1 = r2All fl f units 0 none fl.sticky) := by
  intro h
  have := h ⟨true, true, false⟩ witnessFinder [98, 97, 97] rfl
  revert this
  decide

/-- The finder of /a*/ on "baaac". -/
def witnessFinder2 : Finder := fun i =>
  if i = 0 then some ⟨[0, 0], none⟩ else if i = 1 then some ⟨[1, 4], none⟩ else if i = 2 then some ⟨[2, 4], none⟩
  else if i = 3 then some ⟨[3, 4], none⟩ else if i = 4 then some ⟨[4, 4], none⟩ else if i = 5 then some ⟨[5, 5], none⟩ else none

/-- Defect witness (known finding `fast-vs-generic:go-adjacent-empty`): Go's `FindAll` drops the empty match
at 4 that follows "aaa" in "baaac"; the protocol's sweep keeps it. -/
theorem goAll_adjacent_empty_witness :
    ¬ (∀ (fl : RFlags) (f : Finder) (units : List Nat), goAll fl f units = idealAll fl f units 0 none false) := by
  intro h
  have := h ⟨true, false, false⟩ witnessFinder2 [98, 97, 97, 97, 99]
  revert this
  decide

/-- The fast `Symbol.split` loop of goja before /repo 5a3ab73 (`fastSplitOld`), applied to the complete sweep of /a*/
over "baaac", yields "b","","c"; the generic algorithm "b","c" — the defect that commit repairs. -/
theorem fastSplit_prefix_witness :
    ¬ (∀ (f : Finder) (units : List Nat),
        fastSplitOld units ((idealAll {} f units 0 none false).map (·.idx)) none = genericSplit f units false none) := by
  intro h
  have := h witnessFinder2 [98, 97, 97, 97, 99]
  revert this
  decide

/-- Fast path of `Symbol.split` (the loop of `stdSplitter`, /repo 5a3ab73) applied to the complete sweep of the finder
IS the generic algorithm (ECMA-262 22.2.6.14) — with ANY limit (none, 0, n) and in BOTH modes (code units, and code
points under the u flag) — for every leftmost finder whose captures exec reports unchanged (`CapsAgree`) and whose
matches start on the AdvanceStringIndex chain of the search position (`OnChain`: code point boundaries in unicode
mode; automatic in code-unit mode, see the corollary). -/
theorem fastSplit_eq_generic (fl : RFlags) (f : Finder) (units : List Nat) (lim : Option Nat)
    (hf : Leftmost f units.length) (hc : CapsAgree f units) (hch : OnChain f units fl.unicode) :
    fastSplit units ((idealAll fl f units 0 none false).map (·.idx)) lim = genericSplit f units fl.unicode lim := by
  by_cases h0 : lim = some 0
  · subst h0; simp [fastSplit, genericSplit]
  have hl : (lim == some 0) = false := beq_eq_false_iff_ne.mpr h0
  by_cases hn : units.length = 0
  · simp only [fastSplit, genericSplit, hn, hl]
    simp only [idealAll, hn]
    cases h00 : f 0 with
    | none => rw [idealAllLoop_none h00]; simp [matchAt, h00]
    | some r =>
      have hin := hf.inside 0 r h00
      have hs : r.start = 0 := by omega
      rw [idealAllLoop_some (Nat.zero_le _) h00]; simp [matchAt, h00, hs]
  · have hne : (units.length == 0) = false := by simp [hn]
    simp only [fastSplit, genericSplit, hne, hl]
    exact (split_main fl f units lim hf hc hch (units.length + 1) 0 (by omega) 0 [] (2 * units.length + 3)
      (units.length + 1) (Nat.le_refl 0) (by omega) (by omega)).symm

/-- Code-unit mode (no u flag): the chain hypothesis is automatic. -/
theorem fastSplit_eq_generic_codeunits (fl : RFlags) (f : Finder) (units : List Nat) (lim : Option Nat)
    (hu : fl.unicode = false) (hf : Leftmost f units.length) (hc : CapsAgree f units) :
    fastSplit units ((idealAll fl f units 0 none false).map (·.idx)) lim = genericSplit f units false lim := by
  have := fastSplit_eq_generic fl f units lim hf hc (by rw [hu]; exact onChain_false f units hf)
  rw [hu] at this
  exact this

/-- Fast `Symbol.replace` accumulation (`stringReplace`: copy the piece before each match when
`start != lastIndex`, then the replacement, then the tail when `lastIndex != length`) = the generic
accumulation (`position ≥ nextSourcePosition`, `nextSourcePosition < length`) for every list of raw results
that is ordered, non-overlapping and inside the subject, and every replacement function. -/
theorem fastReplace_eq_generic (units : List Nat) (repl : List Int → List Nat) (raw : List (List Int))
    (h : Ordered units.length raw 0) :
    fastReplace units repl raw = genericReplace units (raw.map (fun r => (rS r, rE r - rS r, repl r))) := by
  cases raw with
  | nil =>
    simp only [fastReplace, genericReplace, genericReplaceLoop, List.map_nil, List.isEmpty_nil, if_true]
    by_cases hn : 0 < units.length
    · simp [hn, sub_all]
    · have : units = [] := List.eq_nil_of_length_eq_zero (by omega)
      simp [this]
  | cons r rest =>
    have hl := fastReplaceLoop_eq units repl units.length (r :: rest) 0 [] h
    simp only [fastReplace, genericReplace, List.isEmpty_cons, Bool.false_eq_true, if_false]
    rw [← hl.1]
    have hle := hl.2
    generalize fastReplaceLoop units repl (r :: rest) 0 [] = res at hle
    obtain ⟨buf, last⟩ := res
    simp only at hle ⊢
    by_cases hlast : last = units.length
    · simp [hlast]
    · have : last < units.length := by omega
      simp [hlast, this]

/-- `$` templates: `writeSubstitution` (the index loop of builtin_regexp.go, used by both replace paths) computes
exactly GetSubstitution of ECMA-262 22.1.3.19.1 (ES2024 wording: `$$`, `` $` ``, `$&`, `$'`, `$n`/`$nn` with the
two-digit fallback, `$<name>`), for every subject, position, match, capture list, namedCaptures and template.
`mechNamed ns` is how the Go callbacks present namedCaptures (nil ⇔ undefined; a missing/undefined property ⇔ ""). -/
theorem substitute_eq_getSubstitution (units : List Nat) (position : Nat) (matched : List Nat)
    (captures : List (Option (List Nat))) (ns : Option (List Nat → Option (List Nat))) (repl : List Nat) :
    substitute units position (some matched :: captures) (mechNamed ns) repl =
      getSubstitution units position matched captures ns (repl.length + 1) repl :=
  subst_main units position matched captures ns repl (repl.length + 1) 0 [] (repl.length + 1) (Nat.le_refl _) (Nat.le_refl _)

/-- `buildUTF8PosMap` / `positionMap.get` (the path that runs Go's FindAll over a UTF-8 copy of a well-formed
subject): the strict decoding is the lenient one, offset 0 maps to 0, and the UTF-8 offset of every rune
boundary maps to the UTF-16 offset of the same boundary. -/
theorem utf8map_correct (units : List Nat) (l : List (Nat × Nat)) (h : strictDecode units = some l) :
    l = decode units ∧
    buildUTF8PosMap units = some (utf8Loop l 0 0) ∧
    pmGet (utf8Loop l 0 0) 0 = some 0 ∧
    ∀ k, 1 ≤ k → k ≤ l.length → pmGet (utf8Loop l 0 0) (pre8 l k) = some (totalSize (l.take k)) := by
  refine ⟨strictDecode_eq_decode units l h, by simp [buildUTF8PosMap, h], by simp [pmGet], ?_⟩
  intro k h1 h2
  have hpos := pre8_pos l k h1 h2
  have hs := searchSrc_utf8Loop l 0 0 k h1 h2
  simp only [Nat.zero_add] at hs
  have hne : pre8 l k ≠ 0 := by omega
  simp [pmGet, hne, hs]

/-- Go's `FindAll` sweep (linear engine, start 0) IS the protocol's sweep whenever no empty match starts exactly where
the previous match ended — the precise circumstance of the remaining known finding go-adjacent-empty
(`goAll_adjacent_empty_witness` shows the hypothesis cannot be dropped). -/
theorem goAll_eq_ideal_of_no_adjacent_empty (fl : RFlags) (f : Finder) (units : List Nat)
    (h : NoAdjEmpty (idealAll fl f units 0 none false) none) :
    goAll fl f units = idealAll fl f units 0 none false :=
  goAllLoop_eq_ideal fl f units _ 0 none h

/-- `Symbol.match` through Go's FindAll = the generic protocol for a global non-sticky RegExp whenever no empty match
starts exactly where the previous match ended (by `goAll_eq_ideal_of_no_adjacent_empty`). -/
theorem fastMatch_go_eq_generic (fl : RFlags) (f : Finder) (units : List Nat) (hg : fl.global = true) (hy : fl.sticky = false)
    (h : NoAdjEmpty (idealAll fl f units 0 none false) none) :
    (genericGlobalMatches fl f units).1 = goAll fl f units := by
  rw [idealSweep_eq_generic fl f units hg, hy, goAll_eq_ideal_of_no_adjacent_empty fl f units h]

/-- exec's `lowerBound` rule (execResultToArray) changes nothing when captures are unset or listed in order — a
sufficient, checkable condition for the `CapsAgree` hypothesis of `fastSplit_eq_generic`. -/
theorem execCaptures_eq_plain (units : List Nat) (idx : List Int) (lower : Nat) (h : CapsWF idx lower) :
    captureVals units idx lower = captureValsPlain units idx := by
  revert lower
  fun_induction captureValsPlain units idx with
  | case1 s e rest ih =>
    intro lower h
    simp only [CapsWF] at h
    rcases h with ⟨h1, h2⟩ | ⟨h1, h2, h3⟩
    · subst h1
      simp [captureVals, ih lower h2]
    · have hne : s ≠ -1 := by omega
      have hc : (decide (s ≥ 0) && decide (e ≥ (lower : Int))) = true := by simp [h1, h2]
      simp [captureVals, hc, hne, ih s.toNat h3]
  | case2 idx hnot =>
    intro lower _
    cases idx with
    | nil => simp [captureVals]
    | cons a t =>
      cases t with
      | nil => simp [captureVals]
      | cons b t' => exact absurd rfl (hnot a b t')

/-- Fast `Symbol.replace` with a `$` template, end to end: `stringReplace` + `writeSubstitution` over an ordered raw
list = the spec's accumulation of GetSubstitution results (composition of `fastReplace_eq_generic` and
`substitute_eq_getSubstitution`). -/
theorem fastReplaceTemplate_eq_spec (units : List Nat) (raw : List (List Int)) (tmpl : List Nat)
    (ns : List Int → Option (List Nat → Option (List Nat)))
    (h : Ordered units.length raw 0) :
    fastReplace units
        (fun r => substitute units (rS r) (some (sub units (rS r) (rE r)) :: captureValsPlain units (r.drop 2))
          (mechNamed (ns r)) tmpl) raw
      = genericReplace units (raw.map (fun r => (rS r, rE r - rS r,
          getSubstitution units (rS r) (sub units (rS r) (rE r)) (captureValsPlain units (r.drop 2)) (ns r)
            (tmpl.length + 1) tmpl))) := by
  rw [fastReplace_eq_generic units _ raw h]
  congr 1
  apply List.map_congr_left
  intro r _
  rw [substitute_eq_getSubstitution]

/-- The three engine-forcing rewrites used by the check are semantically neutral for the reference semantics
(ECMA-262 continuation matcher): `(?=)(?:P)`, `(?:P)(?=)` and `(?:P|(?!))` run exactly like `P` from every state
and with every continuation (the fuel offsets are the extra AST levels). -/
theorem neutral_variants_equiv (o : Ref.Opts) (inp : Array Nat) (n : Nat) (p : Ref.Node) (st : Ref.St)
    (k : Ref.St → Option Ref.St) :
    Ref.run o inp (n + 3) (Ref.variant1 p) st k = Ref.run o inp (n + 1) p st k ∧
    Ref.run o inp (n + 3) (Ref.variant2 p) st k = Ref.run o inp (n + 1) p st k ∧
    Ref.run o inp (n + 4) (Ref.variant3 p) st k = Ref.run o inp (n + 2) p st k :=
  -- the first two by computation: `(?=)` succeeds without moving and a non-capturing group adds nothing
  ⟨rfl, rfl, Ref.neutral_v3 o inp n p st k⟩

/-- Bounds of the reference matcher: a match searched from input position i starts at j ≥ i and ends at e with
j ≤ e ≤ |input| — for every pattern, option set (deviation switches included) and input. -/
theorem ref_match_bounds (o : Ref.Opts) (inp : Array Nat) (ncaps : Nat) (node : Ref.Node) (fuel i j : Nat) (r : Ref.St)
    (h : Ref.findFrom o inp ncaps node fuel i = some (j, r)) : i ≤ j ∧ j ≤ r.pos ∧ r.pos ≤ inp.size :=
  Ref.findFrom_bounds h

/-- Every capture the reference matcher reports is a span a ≤ b ≤ |input| (look-ahead captures and captures cleared by
quantifier iterations included). -/
theorem ref_caps_bounds (o : Ref.Opts) (inp : Array Nat) (ncaps : Nat) (node : Ref.Node) (fuel i j : Nat) (r : Ref.St)
    (h : Ref.findFrom o inp ncaps node fuel i = some (j, r)) : Ref.CapsIn inp r.caps :=
  (Ref.findFrom_sound h).2

/-- The reference matcher's own finder (`Ref.refFind`, the `findFrom` call `Ref.table` tabulates) satisfies, for
EVERY pattern and input, three conditions on raw (start, state) answers: a match lies at or after the start and
inside the input; the answer does not change while the start moves up to the match; no match from i ⇒ no match from
any later start.  They are what the four fields of `Leftmost` ask of an engine; the `Leftmost` instance itself (code-unit
mode, answers as `MatchR`) is `Ref.refFinderCU_leftmost`, used in `exec_protocol_for_reference`.  So the hypotheses of
`exec_lastIndex_protocol`, `fastSplit_eq_generic`, … are satisfiable by the ECMA-262 semantics itself, not only by
hand-made finders. -/
theorem ref_finder_leftmost (o : Ref.Opts) (inp : Array Nat) (ncaps : Nat) (node : Ref.Node) :
    (∀ i j r, Ref.refFind o inp ncaps node i = some (j, r) → i ≤ j ∧ j ≤ r.pos ∧ r.pos ≤ inp.size) ∧
    (∀ i j r i', Ref.refFind o inp ncaps node i = some (j, r) → i ≤ i' → i' ≤ j →
        Ref.refFind o inp ncaps node i' = some (j, r)) ∧
    (∀ i i', Ref.refFind o inp ncaps node i = none → i ≤ i' → Ref.refFind o inp ncaps node i' = none) :=
  ⟨fun _ _ _ h => Ref.findFrom_bounds h,
    fun _ _ _ i' h h1 h2 => Ref.refFind_stable h i' h1 h2,
    fun _ i' h h1 => Ref.refFind_none_up h i' h1⟩

/-- With the ECMA-262 reference matcher itself as the engine (code-unit mode) goja's `execRegexp` IS
RegExpBuiltinExec and the fast `Symbol.search` IS the generic one — no hypothesis left: the reference finder is
`Leftmost` (`Ref.refFinderCU_leftmost`). -/
theorem exec_protocol_for_reference (o : Ref.Opts) (ncaps : Nat) (node : Ref.Node) (units : List Nat)
    (fl : RFlags) (li : Nat) :
    execRegexp fl (Ref.refFinderCU o ncaps node units) units.length li =
        specExec fl (Ref.refFinderCU o ncaps node units) units.length li ∧
    fastSearch fl (Ref.refFinderCU o ncaps node units) units.length li =
        genericSearch fl (Ref.refFinderCU o ncaps node units) units.length li :=
  ⟨exec_lastIndex_protocol fl _ _ li (Ref.refFinderCU_leftmost o ncaps node units),
   fastSearch_eq_generic fl _ _ li (Ref.refFinderCU_leftmost o ncaps node units)⟩

/-- Unicode mode, reference matcher + position map together: a match found from the rune position i and reported
through `bounds 0 (decode units)` (the map `buildPosMap` builds, `posmap_correct`) has UTF-16 indices
start ≤ s ≤ e ≤ |units| — the UTF-16 exactness the property demands, for the spec side. -/
theorem ref_unicode_indices (o : Ref.Opts) (ncaps : Nat) (node : Ref.Node) (units : List Nat) (i j : Nat) (st : Ref.St)
    (h : Ref.refFind o ((decode units).map Prod.fst).toArray ncaps node i = some (j, st)) :
    (bounds 0 (decode units)).getD i 0 ≤ (bounds 0 (decode units)).getD j 0 ∧
    (bounds 0 (decode units)).getD j 0 ≤ (bounds 0 (decode units)).getD st.pos 0 ∧
    (bounds 0 (decode units)).getD st.pos 0 ≤ units.length := by
  have hb := Ref.findFrom_bounds h
  rw [List.size_toArray, List.length_map] at hb
  obtain ⟨s, e, h1, h2, h3, _⟩ := bounds_span (decode units) 0 i j hb.1 (by omega)
  obtain ⟨s', e', h1', h2', h3', h4'⟩ := bounds_span (decode units) 0 j st.pos hb.2.1 hb.2.2
  rw [totalSize_decode, Nat.zero_add] at h4'
  simp only [List.getD, h1, h2, h2', Option.getD_some]
  rw [h2] at h1'
  cases h1'
  exact ⟨h3, h3', h4'⟩

/-! ## non-vacuity examples (tests on literals, not theorems) -/

example : Leftmost witnessFinder 3 := by
  -- the finder answers exactly at the positions 0..3, each time with a match that starts there and ends by 3
  have tab : ∀ i, i < 4 → (witnessFinder i).isSome = true ∧
      ∀ r ∈ witnessFinder i, r.start = i ∧ i ≤ r.stop ∧ r.stop ≤ 3 := by decide
  have lt4 : ∀ i r, witnessFinder i = some r → i < 4 := by
    intro i r h
    apply Decidable.byContradiction
    intro hi
    rw [witnessFinder, if_neg (by omega), if_neg (by omega), if_neg (by omega), if_neg (by omega)] at h
    cases h
  have key : ∀ i r, witnessFinder i = some r → r.start = i ∧ i ≤ r.stop ∧ r.stop ≤ 3 :=
    fun i r h => (tab i (lt4 i r h)).2 r h
  have none4 : ∀ i, witnessFinder i = none → 4 ≤ i := fun i h =>
    Nat.le_of_not_lt fun hi => by have := (tab i hi).1; rw [h] at this; cases this
  constructor
  · intro i r h; have := key i r h; omega
  · intro i r h; have := key i r h; omega
  · intro i r j h h1 h2
    have := key i r h
    have : j = i := by omega
    rw [this]; exact h
  · intro i j h h1 h2; have := none4 i h; omega

example : (buildPosMap [0x61, 0xD83D, 0xDE00, 0x62] 2).posMap = [0, 1, 3, 4] ∧
    (buildPosMap [0x61, 0xD83D, 0xDE00, 0x62] 2).mappedStart = 1 ∧
    (buildPosMap [0x61, 0xD83D, 0xDE00, 0x62] 2).splitPair = true := by decide

example : (parseFlags "gimsuy".toList).isSome = true ∧ parseFlags "uu".toList = none := by decide

end GojaModel.C20
