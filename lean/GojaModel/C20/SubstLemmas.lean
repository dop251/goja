/-
  C20 — `writeSubstitution` (index loop over the replacement template, builtin_regexp.go) refines
  GetSubstitution (ECMA-262 22.1.3.19.1, prefix consumption of templateRemainder).

  Both sides are cut into one equation per form of the template's head (`substLoop_*` for the index loop,
  `getSub_*` for the specification); `subst_main` is an induction on the loop's fuel that pairs them up.
  The loop reads the template by index, the specification consumes it from the front: `drop_cons_getD` shows the
  suffix `repl.drop i` as the unit at `i` followed by `repl.drop (i + 1)`.  Where a form looks further ahead the
  equation of the loop speaks of that suffix as well, so that the pair agrees on what it found there: the position
  of `>` after `$<` (`indexOfGt`), the capture a `$` before a digit refers to (`capRef`).
-/
import GojaModel.C20.ProtocolLemmas
namespace GojaModel.C20

theorem drop_cons_getD (l : List Nat) (i : Nat) (h : i < l.length) : l.drop i = l.getD i 0 :: l.drop (i + 1) := by
  rw [List.drop_eq_getElem_cons h]
  simp [List.getD, List.getElem?_eq_getElem h]

theorem drop_cons_cons_getD (l : List Nat) (i : Nat) (h : i + 1 < l.length) :
    l.drop i = l.getD i 0 :: l.getD (i + 1) 0 :: l.drop (i + 2) := by
  rw [drop_cons_getD l i (by omega), drop_cons_getD l (i + 1) h]

/-- the two-digit test of `getSubstitution` (`twoDigits`) on a suffix of the template, by index -/
theorem twoDigits_drop (repl : List Nat) (i : Nat) :
    (match repl.drop i with | d :: _ => isDigit d | [] => false) = (decide (i < repl.length) && isDigit (repl.getD i 0)) := by
  by_cases h : i < repl.length
  · rw [drop_cons_getD repl i h]; simp [h]
  · rw [List.drop_eq_nil_of_le (by omega)]; simp [h]

theorem headD_drop (repl : List Nat) (i : Nat) : (repl.drop i).headD 0 = repl.getD i 0 := by
  by_cases h : i < repl.length
  · rw [drop_cons_getD repl i h]; rfl
  · rw [List.drop_eq_nil_of_le (by omega)]
    simp [List.getD, List.getElem?_eq_none (by omega : repl.length ≤ i)]

theorem drop1_drop (repl : List Nat) (i : Nat) : (repl.drop i).drop 1 = repl.drop (i + 1) := by
  rw [List.drop_drop]

theorem findGt_spec (repl : List Nat) : ∀ (fuel j : Nat), repl.length - j + 1 ≤ fuel →
    findGt repl fuel j = (indexOfGt (repl.drop j)).map (· + j) := by
  intro fuel
  induction fuel with
  | zero => intro j h; omega
  | succ fuel ih =>
    intro j h
    simp only [findGt]
    by_cases hj : j ≥ repl.length
    · simp [hj, List.drop_eq_nil_of_le hj, indexOfGt]
    · have hlt : j < repl.length := by omega
      rw [drop_cons_getD repl j hlt]
      simp only [hj, if_false, indexOfGt]
      generalize repl.getD j 0 = c
      by_cases hc : c = 62
      · subst hc; simp
      · have : (c == 62) = false := by simp [hc]
        simp only [this, Bool.false_eq_true, if_false]
        rw [ih (j + 1) (by omega)]
        cases indexOfGt (repl.drop (j + 1)) with
        | none => rfl
        | some g => simp; omega

theorem isDigit_plain {c : Nat} (h : isDigit c = true) : c ≠ 36 ∧ c ≠ 96 ∧ c ≠ 39 ∧ c ≠ 38 ∧ c ≠ 60 := by
  have : 48 ≤ c ∧ c ≤ 57 := by simpa [isDigit] using h
  omega

section spec
variable {units : List Nat} {position : Nat} {matched : List Nat} {captures : List (Option (List Nat))}
  {ns : Option (List Nat → Option (List Nat))} {s : Nat} {rest : List Nat}

theorem getSub_nil (fuel : Nat) : getSubstitution units position matched captures ns fuel [] = [] := by
  cases fuel <;> rfl

theorem getSub_lit (c : Nat) (h : c ≠ 36) :
    getSubstitution units position matched captures ns (s + 1) (c :: rest) =
      c :: getSubstitution units position matched captures ns s rest := by
  simp [getSubstitution, h]

theorem getSub_last : getSubstitution units position matched captures ns (s + 1) [36] = [36] := rfl

theorem getSub_dollar :
    getSubstitution units position matched captures ns (s + 1) (36 :: 36 :: rest) =
      36 :: getSubstitution units position matched captures ns s rest := rfl

theorem getSub_before :
    getSubstitution units position matched captures ns (s + 1) (36 :: 96 :: rest) =
      sub units 0 position ++ getSubstitution units position matched captures ns s rest := rfl

theorem getSub_match :
    getSubstitution units position matched captures ns (s + 1) (36 :: 38 :: rest) =
      matched ++ getSubstitution units position matched captures ns s rest := rfl

theorem getSub_after :
    getSubstitution units position matched captures ns (s + 1) (36 :: 39 :: rest) =
      sub units (min (position + matched.length) units.length) units.length ++
        getSubstitution units position matched captures ns s rest := rfl

theorem getSub_named :
    getSubstitution units position matched captures ns (s + 1) (36 :: 60 :: rest) =
      match ns with
      | none => 36 :: 60 :: getSubstitution units position matched captures ns s rest
      | some lookup =>
        match indexOfGt rest with
        | none => 36 :: 60 :: getSubstitution units position matched captures ns s rest
        | some g => (lookup (rest.take g)).getD [] ++
            getSubstitution units position matched captures ns s (rest.drop (g + 1)) := rfl

theorem getSub_plain (ch : Nat) (hch : ch ≠ 36 ∧ ch ≠ 96 ∧ ch ≠ 39 ∧ ch ≠ 38 ∧ ch ≠ 60) (hd : isDigit ch = false) :
    getSubstitution units position matched captures ns (s + 1) (36 :: ch :: rest) =
      36 :: getSubstitution units position matched captures ns s (ch :: rest) := by
  simp [getSubstitution, hch, hd]

/-- What a `$` before the digit `ch` refers to when there are `n` captures and `t` follows the digit (ECMA-262
GetSubstitution): the capture number, and how many further digits belong to it: one when a digit follows and the
two-digit number is at most `n`, none otherwise. -/
def capRef (n ch : Nat) (t : List Nat) : Nat × Nat :=
  if t ≠ [] ∧ isDigit (t.headD 0) = true ∧ (ch - 48) * 10 + (t.headD 0 - 48) ≤ n then
    ((ch - 48) * 10 + (t.headD 0 - 48), 1)
  else (ch - 48, 0)

theorem capRef_more {n ch idx e : Nat} {t : List Nat} (h : capRef n ch t = (idx, e)) :
    e = 0 ∨ e = 1 ∧ ∃ d2 tl, t = d2 :: tl ∧ isDigit d2 = true := by
  unfold capRef at h
  split at h
  · rename_i h2
    obtain ⟨d2, tl, rfl⟩ := List.exists_cons_of_ne_nil h2.1
    exact Or.inr ⟨(Prod.mk.inj h).2.symm, d2, tl, rfl, h2.2.1⟩
  · exact Or.inl (Prod.mk.inj h).2.symm

theorem getSub_digit (ch : Nat) (hd : isDigit ch = true) {idx e : Nat} (hr : capRef captures.length ch rest = (idx, e)) :
    getSubstitution units position matched captures ns (s + 1) (36 :: ch :: rest) =
      (if 0 < idx ∧ idx ≤ captures.length then (captures.getD (idx - 1) none).getD [] else 36 :: ch :: rest.take e) ++
        getSubstitution units position matched captures ns s (rest.drop e) := by
  unfold capRef at hr
  cases rest with
  | nil =>
    rw [if_neg (fun h => h.1 rfl)] at hr; cases hr
    simp [getSubstitution, digitVal, isDigit_plain hd, hd, Nat.lt_iff_add_one_le]
  | cons d2 tl =>
    by_cases h2 : isDigit d2 = true ∧ (ch - 48) * 10 + (d2 - 48) ≤ captures.length
    · rw [if_pos ⟨List.cons_ne_nil _ _, h2⟩] at hr; cases hr
      simp [getSubstitution, digitVal, isDigit_plain hd, hd, h2, Nat.lt_iff_add_one_le]
    · rw [if_neg (fun h => h2 h.2)] at hr; cases hr
      simp [getSubstitution, digitVal, isDigit_plain hd, hd, h2, Nat.lt_iff_add_one_le]

end spec

theorem append_tail (units buf : List Nat) (t : Nat) :
    (if t < units.length then buf ++ sub units t units.length else buf) =
      buf ++ sub units (min t units.length) units.length := by
  by_cases h : t < units.length
  · rw [if_pos h, Nat.min_eq_left (Nat.le_of_lt h)]
  · rw [if_neg h, Nat.min_eq_right (by omega), sub_self, List.append_nil]

section mech
variable {units : List Nat} {position : Nat} {caps : List (Option (List Nat))}
  {named : List Nat → Option (List Nat)} {repl : List Nat} {f i : Nat} {buf : List Nat}

theorem substLoop_done (h : repl.length ≤ i) :
    substLoop units position caps named repl (f + 1) i buf = buf := by
  simp [substLoop, h]

theorem substLoop_copy (h : i < repl.length) (hc : ¬ (repl.getD i 0 = 36 ∧ i + 1 < repl.length)) :
    substLoop units position caps named repl (f + 1) i buf =
      substLoop units position caps named repl f (i + 1) (buf ++ [repl.getD i 0]) := by
  have hc' : (repl.getD i 0 == 36 && decide (i + 1 < repl.length)) = false := by simpa using hc
  simp [-List.getD_eq_getElem?_getD, substLoop, Nat.not_le_of_gt h, hc']

variable (h : i + 1 < repl.length) (hc : repl.getD i 0 = 36)
include h hc

theorem substLoop_dollar (hx : repl.getD (i + 1) 0 = 36) :
    substLoop units position caps named repl (f + 1) i buf =
      substLoop units position caps named repl f (i + 2) (buf ++ [36]) := by
  simp [-List.getD_eq_getElem?_getD, substLoop, Nat.not_le_of_gt (Nat.lt_of_succ_lt h), h, hc, hx]

theorem substLoop_before (hx : repl.getD (i + 1) 0 = 96) :
    substLoop units position caps named repl (f + 1) i buf =
      substLoop units position caps named repl f (i + 2) (buf ++ sub units 0 position) := by
  simp [-List.getD_eq_getElem?_getD, substLoop, Nat.not_le_of_gt (Nat.lt_of_succ_lt h), h, hc, hx]

theorem substLoop_match (hx : repl.getD (i + 1) 0 = 38) :
    substLoop units position caps named repl (f + 1) i buf =
      substLoop units position caps named repl f (i + 2) (buf ++ (caps.getD 0 none).getD []) := by
  simp [-List.getD_eq_getElem?_getD, substLoop, Nat.not_le_of_gt (Nat.lt_of_succ_lt h), h, hc, hx]

theorem substLoop_after (hx : repl.getD (i + 1) 0 = 39) :
    substLoop units position caps named repl (f + 1) i buf =
      substLoop units position caps named repl f (i + 2)
        (buf ++ sub units (min (position + ((caps.getD 0 none).getD []).length) units.length) units.length) := by
  rw [← append_tail]
  simp [-List.getD_eq_getElem?_getD, substLoop, Nat.not_le_of_gt (Nat.lt_of_succ_lt h), h, hc, hx]

theorem substLoop_named (hx : repl.getD (i + 1) 0 = 60) :
    substLoop units position caps named repl (f + 1) i buf =
      match indexOfGt (repl.drop (i + 2)) with
      | some g =>
        (match named ((repl.drop (i + 2)).take g) with
         | some t => substLoop units position caps named repl f (i + 2 + (g + 1)) (buf ++ t)
         | none => substLoop units position caps named repl f (i + 2) (buf ++ [36, 60]))
      | none => substLoop units position caps named repl f (i + 2) (buf ++ [36, 60]) := by
  simp only [substLoop, Nat.not_le_of_gt (Nat.lt_of_succ_lt h), h, hc, hx,
    findGt_spec repl (repl.length + 1) (i + 2) (by omega)]
  cases indexOfGt (repl.drop (i + 2)) with
  | none => rfl
  | some g => simp only [Option.map_some, sub, Nat.add_sub_cancel, show g + (i + 2) + 1 = i + 2 + (g + 1) by omega]; rfl

theorem substLoop_plain (ch : Nat) (hx : repl.getD (i + 1) 0 = ch)
    (hch : ch ≠ 36 ∧ ch ≠ 96 ∧ ch ≠ 39 ∧ ch ≠ 38 ∧ ch ≠ 60) (hd : ¬ (isDigit ch = true ∧ ch - 48 < caps.length)) :
    substLoop units position caps named repl (f + 1) i buf =
      substLoop units position caps named repl f (i + 2) (buf ++ [36, ch]) := by
  have hd' : (isDigit ch && decide (ch - 48 < caps.length)) = false := by simpa using hd
  simp [-List.getD_eq_getElem?_getD, substLoop, Nat.not_le_of_gt (Nat.lt_of_succ_lt h), h, hc, hx, hch, hd']

/-- `caps` holds the matched text at index 0 and the `n` captures after it -/
theorem substLoop_digit (ch : Nat) (hx : repl.getD (i + 1) 0 = ch) (hd : isDigit ch = true) {n idx e : Nat}
    (hn : caps.length = n + 1) (hr : capRef n ch (repl.drop (i + 2)) = (idx, e)) :
    substLoop units position caps named repl (f + 1) i buf =
      if 0 < idx ∧ idx ≤ n then
        substLoop units position caps named repl f (i + 2 + e) (buf ++ (caps.getD idx none).getD [])
      else substLoop units position caps named repl f (i + 2) (buf ++ [36, ch]) := by
  unfold capRef at hr
  simp only [headD_drop, ne_eq, List.drop_eq_nil_iff, Nat.not_le] at hr
  by_cases ha : ch - 48 ≤ n
  case neg =>
    -- a digit too large to name a capture is an ordinary character to the loop; no two-digit number starts with it
    have : ¬ (0 < idx ∧ idx ≤ n) := by split at hr <;> cases hr <;> omega
    rw [substLoop_plain h hc ch hx (isDigit_plain hd) (fun h' => ha (by omega)), if_neg this]
  have ha' : ch - 48 < caps.length := by omega
  split at hr <;> rename_i h2 <;> cases hr
  · have hv : (ch - 48) * 10 + (repl.getD (i + 2) 0 - 48) < caps.length := by omega
    simp [-List.getD_eq_getElem?_getD, substLoop, Nat.not_le_of_gt (Nat.lt_of_succ_lt h), h, hc, hx, isDigit_plain hd, hd,
      ha', h2.1, h2.2.1, hv, h2.2.2]
  · have h2' : (decide (i + 2 < repl.length) && isDigit (repl.getD (i + 2) 0) &&
        decide ((ch - 48) * 10 + (repl.getD (i + 2) 0 - 48) < caps.length)) = false := by
      simpa [and_assoc, hn, Nat.lt_succ_iff] using h2
    simp [-List.getD_eq_getElem?_getD, substLoop, Nat.not_le_of_gt (Nat.lt_of_succ_lt h), h, hc, hx, isDigit_plain hd, hd,
      ha, ha', h2']

end mech

theorem cap_succ (matched : List Nat) (captures : List (Option (List Nat))) (k : Nat) (hk : 0 < k) :
    ((some matched :: captures).getD k none) = captures.getD (k - 1) none := by
  obtain ⟨j, rfl⟩ : ∃ j, k = j + 1 := ⟨k - 1, by omega⟩
  simp

/-- how the mechanism's callback sees the spec's namedCaptures -/
def mechNamed (ns : Option (List Nat → Option (List Nat))) : List Nat → Option (List Nat) :=
  fun ref => match ns with
    | none => none
    | some lk => some ((lk ref).getD [])

theorem subst_main (units : List Nat) (position : Nat) (matched : List Nat) (captures : List (Option (List Nat)))
    (ns : Option (List Nat → Option (List Nat))) (repl : List Nat) :
    ∀ (fm i : Nat) (buf : List Nat) (fs : Nat), repl.length - i + 1 ≤ fm → repl.length - i + 1 ≤ fs →
      substLoop units position (some matched :: captures) (mechNamed ns) repl fm i buf =
        buf ++ getSubstitution units position matched captures ns fs (repl.drop i) := by
  intro fm
  induction fm with
  | zero => intro i buf fs h; omega
  | succ f ih =>
    intro i buf fs hfm hfs
    obtain ⟨s, rfl⟩ : ∃ s, fs = s + 1 := ⟨fs - 1, by omega⟩
    by_cases hi : repl.length ≤ i
    · rw [substLoop_done hi, List.drop_eq_nil_of_le hi, getSub_nil, List.append_nil]
    replace hi : i < repl.length := Nat.lt_of_not_le hi
    -- every step re-enters the loop further right, where one unit of fuel less is enough on both sides
    have IH : ∀ (d : Nat) (b : List Nat), 0 < d →
        substLoop units position (some matched :: captures) (mechNamed ns) repl f (i + d) b =
          b ++ getSubstitution units position matched captures ns s (repl.drop (i + d)) :=
      fun d b hd => ih (i + d) b s (by omega) (by omega)
    by_cases hc : repl.getD i 0 = 36 ∧ i + 1 < repl.length
    case neg =>
      rw [substLoop_copy hi hc, IH 1 _ Nat.one_pos, drop_cons_getD repl i hi]
      by_cases h36 : repl.getD i 0 = 36
      · have : repl.length ≤ i + 1 := Nat.le_of_not_lt fun h => hc ⟨h36, h⟩
        rw [h36, List.drop_eq_nil_of_le this, getSub_nil, getSub_last, List.append_nil]
      · rw [getSub_lit _ h36, List.append_assoc]; rfl
    obtain ⟨hc, h1⟩ := hc
    -- two characters are left, hence fuel for two steps: the specification reads `$` before an ordinary character
    -- and then that character, where the loop copies both at once, and the other way round for `$00`
    obtain ⟨s, rfl⟩ : ∃ s', s = s' + 1 := ⟨s - 1, by omega⟩
    have IH2 : ∀ (b : List Nat) (fs' : Nat), s ≤ fs' →
        substLoop units position (some matched :: captures) (mechNamed ns) repl f (i + 2) b =
          b ++ getSubstitution units position matched captures ns fs' (repl.drop (i + 2)) :=
      fun b fs' h => ih (i + 2) b fs' (by omega) (by omega)
    rw [drop_cons_cons_getD repl i h1, hc]
    generalize hx : repl.getD (i + 1) 0 = ch
    by_cases hd : isDigit ch = true
    · generalize hr : capRef captures.length ch (repl.drop (i + 2)) = p
      obtain ⟨idx, e⟩ := p
      rw [substLoop_digit h1 hc ch hx hd List.length_cons hr, getSub_digit ch hd hr]
      by_cases hp : 0 < idx ∧ idx ≤ captures.length
      · rw [if_pos hp, if_pos hp, Nat.add_assoc, IH (2 + e) _ (by omega), cap_succ matched captures _ hp.1,
          List.append_assoc, List.drop_drop, Nat.add_assoc]
      · rw [if_neg hp, if_neg hp]
        -- the reference is copied: the loop copies `$` and the first digit, and meets the second digit of `$00` again
        -- as an ordinary character
        rcases capRef_more hr with rfl | ⟨rfl, d2, tl, htl, hd2⟩
        · rw [IH 2 _ Nat.two_pos, List.append_assoc]; rfl
        · rw [IH2 _ (s + 2) (Nat.le_add_right s 2), htl, getSub_lit d2 (isDigit_plain hd2).1, List.append_assoc]; rfl
    by_cases e1 : ch = 36
    · subst e1
      rw [substLoop_dollar h1 hc hx, IH 2 _ Nat.two_pos, getSub_dollar, List.append_assoc]; rfl
    by_cases e2 : ch = 96
    · subst e2
      rw [substLoop_before h1 hc hx, IH 2 _ Nat.two_pos, getSub_before, List.append_assoc]
    by_cases e3 : ch = 39
    · subst e3
      rw [substLoop_after h1 hc hx, IH 2 _ Nat.two_pos, getSub_after, List.append_assoc]; rfl
    by_cases e4 : ch = 38
    · subst e4
      rw [substLoop_match h1 hc hx, IH 2 _ Nat.two_pos, getSub_match, List.append_assoc]; rfl
    by_cases e5 : ch = 60
    · subst e5
      rw [substLoop_named h1 hc hx, getSub_named]
      -- without a groups object, or without a closing `>`, the two characters are copied
      have lit : substLoop units position (some matched :: captures) (mechNamed ns) repl f (i + 2) (buf ++ [36, 60]) =
          buf ++ 36 :: 60 :: getSubstitution units position matched captures ns (s + 1) (repl.drop (i + 2)) := by
        rw [IH 2 _ Nat.two_pos, List.append_assoc]; rfl
      cases ns with
      | none => cases indexOfGt (repl.drop (i + 2)) <;> exact lit
      | some lookup =>
        cases indexOfGt (repl.drop (i + 2)) with
        | none => exact lit
        | some g =>
          simp only [mechNamed]
          rw [Nat.add_assoc, IH (2 + (g + 1)) _ (Nat.succ_pos _), List.append_assoc, List.drop_drop, Nat.add_assoc]
    rw [substLoop_plain h1 hc ch hx ⟨e1, e2, e3, e4, e5⟩ (fun h => hd h.1), IH2 _ s (Nat.le_refl s),
      getSub_plain ch ⟨e1, e2, e3, e4, e5⟩ (by simpa using hd), getSub_lit ch e1, List.append_assoc]; rfl

end GojaModel.C20
