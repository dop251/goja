/-
  C08 — model `TryFin`, parts (ii) and (iii):
  (ii)  `compileCF`: the control-flow code emission of /repo/compiler_stmt.go for function bodies
        (needResult = false everywhere), mirroring compileTryStatement (:105), loop emission
        (:221 do, :262 for, :417 for-in/of, :509 while), findBreakBlock (:582, incl. the `breaking`
        block of a finally that itself exits), emitBlockExitCode (:628), compileReturnStatement (:740),
        compileGenericLabeledStatement (:1031), compileBlockStatement (:1042), compileWithStatement (:1077),
        compileSwitchStatement (:1097), leaveScopeBlock / leaveBlock (compiler.go:333/347).
  (iii) a mini-VM with the instructions of /repo/vm.go: try (:4805), leaveTry (:4823), enterFinally
        (:4840), leaveFinally (:4849), jump/jneP/jeqP, iterateP (:5155), iterNext (:5174), enumPop
        (:5129), enumPopClose (:5140), enumerate/enumNext, leaveWith, leaveBlock, ret, throw and
        handleThrow (:828) incl. restoreStacks (:782) closing iterators and discarding their errors.
  Core Lean only.
-/
import GojaModel.C08.Model

namespace GojaModel.C08

inductive Instr
  -- non-control (erased in the skeleton correspondence): expression code
  | emit (e : Ev)
  | loadVal (v : Val) | saveResult | loadResult | pop | dup | strictEq
  | cntReset (id : Nat) | cntZero (id : Nat) | cntInc (id : Nat)
  | cntLt (id n : Nat) | cntEq (id m : Nat) | loadSel (useEnv : Bool) (k cur : Nat)
  | enumGet (id : Nat) | catchLog (i : Nat) | fatal
  -- control
  | try_ (catchOff finOff : Nat)
  | leaveTry | enterFinally | leaveFinally
  | jump (off : Int) | jneP (off : Int) | jeqP (off : Int)
  | iterateP (sp : IterSpec) | iterNext (off : Int) | enumPop | enumPopClose
  | enumerate (n : Nat) | enumNext (off : Int)
  | enterWith | leaveWith | enterBlock (n : Nat) | leaveBlock (n : Nat) | copyStash
  | ret | throw
  | nop   -- placeholder `nil` that was never patched (ill-formed program)
  deriving DecidableEq, Repr

inductive BT | loop | loopEnum | try_ | label | switch_ | with_ | scope | iterScope
  deriving DecidableEq, Repr

/-- compiler.go:322 `type block struct` (needResult omitted: always false in function bodies);
`breaking` is the height (distance from the bottom of the block stack) of the target block. -/
structure Block where
  typ : BT
  label : Option Label := none
  cont : Nat := 0
  breaks : List Nat := []
  conts : List Nat := []
  breaking : Option Nat := none
  deriving Repr

structure CS where
  code : Array Instr := #[]
  blocks : List Block := []      -- head = c.block (innermost)
  deriving Repr

namespace CS

def size (cs : CS) : Nat := cs.code.size
def emit (cs : CS) (i : Instr) : CS := { cs with code := cs.code.push i }
def patch (cs : CS) (pc : Nat) (i : Instr) : CS := { cs with code := cs.code.setIfInBounds pc i }
def push (cs : CS) (b : Block) : CS := { cs with blocks := b :: cs.blocks }
def modTop (cs : CS) (f : Block → Block) : CS :=
  match cs.blocks with
  | b :: r => { cs with blocks := f b :: r }
  | [] => cs

def rel (target src : Nat) : Int := (target : Int) - (src : Int)

/-- compiler.go:347 leaveBlock -/
def leaveBlock (cs : CS) : CS :=
  match cs.blocks with
  | [] => cs
  | b :: r =>
    let lbl := cs.size
    let code := b.breaks.foldl (fun c item => c.setIfInBounds item (Instr.jump (rel lbl item))) cs.code
    let code := if b.typ = BT.loop ∨ b.typ = BT.loopEnum then
        b.conts.foldl (fun c item => c.setIfInBounds item (Instr.jump (rel b.cont item))) code
      else code
    { code := code, blocks := r }

/-- compiler.go:333 leaveScopeBlock -/
def leaveScopeBlock (cs : CS) (n : Nat) : CS :=
  let cs := cs.emit (Instr.leaveBlock n)
  match cs.blocks with
  | [] => cs
  | b :: r =>
    let code := b.breaks.foldl (fun c pc => c.setIfInBounds pc (Instr.leaveBlock n)) cs.code
    leaveBlock { code := code, blocks := { b with breaks := [] } :: r }

end CS

/-- compiler_stmt.go:582 findBreakBlock, labelled branch; walks from the innermost block.
Returns the height of the block. `res` = already chosen `breaking` target. -/
def findLabelled (label : Label) (isBreak : Bool) : List Block → Option Nat → Option Nat
  | [], res => res
  | b :: rest, res =>
    let res' := match res with
      | some r => some r
      | none => b.breaking
    if res.isNone ∧ b.breaking.isSome ∧ isBreak then res'
    else if b.label = some label then
      (match res' with | some r => some r | none => some rest.length)
    else findLabelled label isBreak rest res'

/-- compiler_stmt.go:582 findBreakBlock, unlabelled branch -/
def findUnlabelled (isBreak : Bool) : List Block → Option Nat
  | [] => none
  | b :: rest =>
    match b.breaking with
    | some bb => some bb
    | none =>
      if b.typ = BT.loop ∨ b.typ = BT.loopEnum then some rest.length
      else if b.typ = BT.switch_ ∧ isBreak then some rest.length
      else findUnlabelled isBreak rest

def findBreakBlock (label : Option Label) (isBreak : Bool) (blocks : List Block) : Option Nat :=
  match label with
  | some l => findLabelled l isBreak blocks none
  | none => findUnlabelled isBreak blocks

/-- compiler_stmt.go:628 emitBlockExitCode: walk from the innermost block to the block of height `t`.
`cfl` = contForLoop (`continue` targeting a plain loop): the walk then stops at the target loop's own
per-iteration scope (`b.typ == blockIterScope && b.outer == block`), which `continue` must not leave. -/
def exitWalk (t : Nat) (cfl : Bool) : List Block → Array Instr → List Block × Array Instr
  | [], code => ([], code)
  | b :: rest, code =>
    if rest.length = t then (b :: rest, code)
    else if b.typ = BT.iterScope ∧ cfl ∧ rest.length = t + 1 then (b :: rest, code)
    else
      let (b', code') : Block × Array Instr := match b.typ with
        | BT.scope => ({ b with breaks := b.breaks ++ [code.size] }, code.push Instr.nop)
        | BT.iterScope => ({ b with breaks := b.breaks ++ [code.size] }, code.push Instr.nop)
        | BT.try_ => (b, code.push Instr.leaveTry)
        | BT.with_ => (b, code.push Instr.leaveWith)
        | BT.loopEnum => (b, code.push Instr.enumPopClose)
        | _ => (b, code)
      let (rest', code'') := exitWalk t cfl rest code'
      (b' :: rest', code'')

def typAtHeight (t : Nat) : List Block → Option BT
  | [] => none
  | b :: rest => if rest.length = t then some b.typ else typAtHeight t rest

def modAtHeight (t : Nat) (f : Block → Block) : List Block → List Block
  | [] => []
  | b :: rest => if rest.length = t then f b :: rest else b :: modAtHeight t f rest

/-- compiler_stmt.go:659/665 compileBreak / compileContinue -/
def compileBranch (label : Option Label) (isBreak : Bool) (cs : CS) : CS :=
  match findBreakBlock label isBreak cs.blocks with
  | none => cs.emit Instr.nop        -- "Could not find block" (syntax error in goja)
  | some t =>
    let cfl := !isBreak && typAtHeight t cs.blocks == some BT.loop
    let (blocks, code) := exitWalk t cfl cs.blocks cs.code
    let pc := code.size
    let blocks := modAtHeight t (fun b =>
      if isBreak then { b with breaks := b.breaks ++ [pc] } else { b with conts := b.conts ++ [pc] }) blocks
    { code := code.push Instr.nop, blocks := blocks }

/-- compiler_stmt.go:749 the loop of compileReturnStatement -/
def returnExits : List Block → Array Instr → Array Instr
  | [], code => code
  | b :: rest, code =>
    let code := match b.typ with
      | BT.try_ => ((code.push Instr.saveResult).push Instr.leaveTry).push Instr.loadResult
      | BT.loopEnum => code.push Instr.enumPopClose
      | _ => code
    returnExits rest code

/-- statement list of a block as the JS translation prints it (`seq` is juxtaposition, `skip` nothing) -/
def flatten : Stmt → List Stmt
  | .seq a b => flatten a ++ flatten b
  | .skip => []
  | s => [s]

/-- compiler_stmt.go:922 scanStatements (only the breaking-block part): first top-level branch statement -/
def firstBranch : List Stmt → Option (Option Label × Bool)
  | [] => none
  | .brk l :: _ => some (l, true)
  | .cont l :: _ => some (l, false)
  | _ :: r => firstBranch r

/-- The code emission.  `cur` = id of the counter variable of the innermost enclosing loop,
`lab` = label attached directly to this statement (compileLabeledStatement passes it to loops). -/
def compileCF (cur : Nat) (lab : Option Label) : Stmt → CS → CS
  | .skip, cs => cs
  | .log k, cs => cs.emit (.emit (.log k))
  | .seq a b, cs => compileCF cur none b (compileCF cur none a cs)
  | .brk l, cs => compileBranch l true cs
  | .cont l, cs => compileBranch l false cs
  | .ret v, cs =>
    let cs := cs.emit (.loadVal v)
    { cs with code := (returnExits cs.blocks cs.code).push Instr.ret }
  | .thr v, cs => (cs.emit (.loadVal v)).emit .throw
  | .fatal, cs => cs.emit .fatal
  | .tryS i b hasC c hasF f, cs =>
    -- compiler_stmt.go:105 compileTryStatement
    let cs := cs.push { typ := BT.try_ }
    let fb : Option Nat := if hasF then
        (match firstBranch (flatten f) with
         | some (l, isBreak) => findBreakBlock l isBreak cs.blocks
         | none => none)
      else none
    let cs := cs.modTop (fun blk => { blk with breaking := fb })
    let lbl := cs.size
    let cs := cs.emit .nop
    let cs := if hasF then cs.emit (.emit (.tryE i)) else cs
    let cs := compileCF cur none b cs
    let (cs, catchOff) : CS × Nat := if hasC then
        let lbl2 := cs.size
        let cs := cs.emit .nop
        let catchOff := cs.size - lbl
        let cs := cs.push { typ := BT.scope }
        let cs := cs.emit (.enterBlock 0)
        let cs := cs.emit (.catchLog i)
        let cs := compileCF cur none c cs
        let cs := cs.leaveScopeBlock 1
        (cs.patch lbl2 (.jump (CS.rel cs.size lbl2)), catchOff)
      else (cs, 0)
    let (cs, finOff) : CS × Nat := if hasF then
        let cs := cs.emit .enterFinally
        let finOff := cs.size - lbl
        let cs := cs.emit (.emit (.finE i))
        -- compiler_stmt.go (7631e60): the override applies to the try block and the catch clause only
        let cs := cs.modTop (fun blk => { blk with breaking := none })
        let cs := compileCF cur none f cs
        (cs.emit .leaveFinally, finOff)
      else (cs.emit .leaveTry, 0)
    (cs.patch lbl (.try_ catchOff finOff)).leaveBlock
  | .loop .while_ id n body, cs =>
    -- compiler_stmt.go:509 compileLabeledWhileStatement;  JS: c=-1; while(++c<n) body
    let cs := cs.emit (.cntReset id)
    let cs := cs.push { typ := BT.loop, label := lab }
    let start := cs.size
    let cs := cs.modTop (fun b => { b with cont := start })
    let cs := (cs.emit (.cntInc id)).emit (.cntLt id n)
    let j := cs.size
    let cs := cs.emit .nop
    let cs := compileCF id none body cs
    let cs := cs.emit (.jump (CS.rel start cs.size))
    (cs.patch j (.jneP (CS.rel cs.size j))).leaveBlock
  | .loop .do_ id n body, cs =>
    -- compiler_stmt.go:221 compileLabeledDoWhileStatement;  JS: c=0; do body while(++c<n)
    let cs := cs.emit (.cntZero id)
    let cs := cs.push { typ := BT.loop, label := lab }
    let start := cs.size
    let cs := compileCF id none body cs
    let cs := cs.modTop (fun b => { b with cont := cs.size })
    let cs := (cs.emit (.cntInc id)).emit (.cntLt id n)
    (cs.emit (.jeqP (CS.rel start cs.size))).leaveBlock
  | .loop .for_ id n body, cs =>
    -- compiler_stmt.go:262 compileLabeledForStatement;  JS: for(c=0;c<n;c++) body
    let cs := cs.push { typ := BT.loop, label := lab }
    let cs := cs.emit (.cntZero id)
    let start := cs.size
    let cs := cs.emit (.cntLt id n)
    let j := cs.size
    let cs := cs.emit .nop
    let cs := compileCF id none body cs
    let cs := cs.modTop (fun b => { b with cont := cs.size })
    let cs := cs.emit (.cntInc id)
    let cs := cs.emit (.jump (CS.rel start cs.size))
    (cs.patch j (.jneP (CS.rel cs.size j))).leaveBlock
  | .loop .forlet id n body, cs =>
    -- compiler_stmt.go:262 compileLabeledForStatement with a lexical head declaration captured by a closure:
    -- JS: for (let q = 0; q < n; q++) { var c = q; var _f = function(){ return q }; body }
    let cs := cs.push { typ := BT.loop, label := lab }
    let cs := cs.push { typ := BT.iterScope }            -- compileForHeadLexDecl (:247)
    let cs := cs.emit (.enterBlock 1)
    let cs := cs.emit (.cntZero id)
    let cs := cs.emit .copyStash                         -- code[start-1] (jump(1) replaced: the scope needs a stash)
    let start := cs.size
    let cs := cs.emit (.cntLt id n)
    let j := cs.size
    let cs := cs.emit .nop
    let cs := compileCF id none body cs
    let contPc := cs.size
    let cs : CS := { cs with blocks := match cs.blocks with
                                      | sb :: lb :: r => sb :: { lb with cont := contPc } :: r
                                      | bs => bs }
    let cs := cs.emit .copyStash                         -- code[loopBlock.cont]
    let cs := cs.emit (.cntInc id)
    let cs := cs.emit (.jump (CS.rel start cs.size))
    let cs := cs.patch j (.jneP (CS.rel cs.size j))
    (cs.leaveScopeBlock 1).leaveBlock
  | .loop .forin id n body, cs =>
    -- compiler_stmt.go:417 compileLabeledForInOfStatement, iter = false
    let cs := cs.push { typ := BT.loopEnum, label := lab }
    let cs := cs.emit (.enumerate n)
    let start := cs.size
    let cs := cs.modTop (fun b => { b with cont := start })
    let cs := cs.emit .nop
    let cs := cs.emit (.enumGet id)
    let cs := compileCF id none body cs
    let cs := cs.emit (.jump (CS.rel start cs.size))
    let cs := cs.patch start (.enumNext (CS.rel cs.size start))
    let cs := (cs.emit .enumPop).emit (.jump 2)
    cs.leaveBlock.emit .enumPopClose
  | .forOf sp body, cs =>
    -- compiler_stmt.go:417 compileLabeledForInOfStatement, iter = true
    let cs := cs.push { typ := BT.loopEnum, label := lab }
    -- `for (let x of ..)`: head scope for the TDZ of x; the source does not use x, so the scope is dropped
    -- again and its placeholder stays a `jump 1`
    let cs := if sp.lex then cs.emit (.jump 1) else cs
    let cs := cs.emit (.iterateP sp)
    let start := cs.size
    let cs := cs.modTop (fun b => { b with cont := start })
    let cs := cs.emit .nop
    let cs := if sp.lex then (cs.push { typ := BT.iterScope }).emit (.enterBlock 1) else cs   -- compileForInto, ForDeclaration (:384)
    let cs := cs.emit (.enumGet sp.id)
    let cs := compileCF sp.id none body cs
    let cs := if sp.lex then cs.leaveScopeBlock 1 else cs
    let cs := cs.emit (.jump (CS.rel start cs.size))
    let cs := cs.patch start (.iterNext (CS.rel cs.size start))
    let cs := (cs.emit .enumPop).emit (.jump 2)
    cs.leaveBlock.emit .enumPopClose
  | .lbl l s, cs =>
    match s with
    | .loop _ _ _ _ => compileCF cur (some l) s cs      -- compileLabeledStatement: loops take the label
    | .forOf _ _ => compileCF cur (some l) s cs
    | _ =>
      -- compiler_stmt.go:1031 compileGenericLabeledStatement
      let cs := cs.push { typ := BT.label, label := some l }
      (compileCF cur none s cs).leaveBlock
  | .sw u k s0 s1, cs =>
    -- compiler_stmt.go:1097 compileSwitchStatement (no lexical declarations, no default clause)
    let cs := cs.push { typ := BT.switch_ }
    let cs := cs.emit (.loadSel u k cur)
    let cs := ((((cs.emit .dup).emit (.loadVal 0)).emit .strictEq).emit (.jneP 3)).emit .pop
    let j0 := cs.size
    let cs := cs.emit .nop
    let cs := ((((cs.emit .dup).emit (.loadVal 1)).emit .strictEq).emit (.jneP 3)).emit .pop
    let j1 := cs.size
    let cs := cs.emit .nop
    let cs := cs.emit .pop
    let jn := cs.size
    let cs := cs.emit .nop
    let cs := cs.patch j0 (.jump (CS.rel cs.size j0))
    let cs := compileCF cur none s0 cs
    let cs := cs.patch j1 (.jump (CS.rel cs.size j1))
    let cs := compileCF cur none s1 cs
    let cs := cs.patch jn (.jump (CS.rel cs.size jn))
    cs.leaveBlock
  | .withS s, cs =>
    -- compiler_stmt.go:1077 compileWithStatement
    let cs := (cs.emit (.loadVal 0)).emit .enterWith
    let cs := cs.push { typ := BT.with_ }
    let cs := compileCF cur none s cs
    (cs.emit .leaveWith).leaveBlock
  | .blk s, cs =>
    -- compiler_stmt.go:1042 compileBlockStatement with a lexical declaration
    let cs := cs.push { typ := BT.scope }
    let cs := cs.emit (.enterBlock 1)
    (compileCF cur none s cs).leaveScopeBlock 1
  | .ifIter m s, cs =>
    -- compiler_stmt.go:690 compileIfStatement, no else, needResult = false
    let cs := cs.emit (.cntEq cur m)
    let jmp := cs.size
    let cs := cs.emit .nop
    let cs := compileCF cur none s cs
    cs.patch jmp (.jneP (CS.rel cs.size jmp))

/-- compiler_expr.go:1552: the implicit `return undefined` is emitted unless the last statement of the
function body is a return statement -/
def endsWithReturn (p : Stmt) : Bool :=
  match (flatten p).getLast? with
  | some (.ret _) => true
  | _ => false

/-- whole function body: `var c0 = 0; <body>; [return undefined]` -/
def compileProgram (p : Stmt) : Array Instr :=
  let cs : CS := {}
  let cs := cs.emit (.cntZero 0)
  let cs := compileCF 0 none p cs
  if endsWithReturn p then cs.code else ((cs.emit (.loadVal 0)).emit .ret).code

/-! ### mini-VM -/

/-- vm.go:47 tryFrame (fields that matter here) -/
structure TryFrame where
  exc : Option Val := none
  iterLen : Nat
  sp : Nat
  catchPos : Option Nat
  finallyPos : Option Nat
  finallyRet : Option Nat := none
  /-- vm.result at the time leaveTry entered the finally block (921daaa): the parked value of a pending return -/
  result : Val := 0
  deriving Repr

/-- vm.go:115 iterStackItem: `sp = none` is `iter == nil` (for-in enumeration, or a closed record) -/
structure IterItem where
  sp : Option IterSpec
  idx : Nat := 0
  n : Nat := 0
  val : Nat := 0
  deriving Repr

structure VM where
  pc : Nat := 0
  stack : List Val := []          -- head = top
  result : Val := 0
  tries : List TryFrame := []     -- head = top
  iters : List IterItem := []     -- head = top
  cnt : Nat → Option Nat := fun _ => none   -- loop counter variables c<id>
  log : List Ev := []             -- in order
  halted : Option Compl := none

namespace VM

def getCnt (vm : VM) (id : Nat) : Option Nat := vm.cnt id

def setCnt (vm : VM) (id : Nat) (v : Option Nat) : VM :=
  { vm with cnt := fun x => if x = id then v else vm.cnt x }

def out (vm : VM) (e : Ev) : VM := { vm with log := vm.log ++ [e] }
def next (vm : VM) : VM := { vm with pc := vm.pc + 1 }
def jmp (vm : VM) (off : Int) : VM := { vm with pc := ((vm.pc : Int) + off).toNat }
def pushV (vm : VM) (v : Val) : VM := { vm with stack := v :: vm.stack }
def top (vm : VM) : Val := vm.stack.headD 0
def popV (vm : VM) : VM := { vm with stack := vm.stack.tail }
def setSp (vm : VM) (sp : Nat) : VM := { vm with stack := vm.stack.drop (vm.stack.length - sp) }

/-- vm.go:782 restoreStacks: close the iterators above `len` from the top, errors of return() are
collected but discarded by the caller (vm.go:858 `_ = vm.restoreStacks`). `call` = whether
return() is actually invoked. -/
def closeIters (len : Nat) (call : Bool) (vm : VM) : VM :=
  let rec go : List IterItem → List Ev → List IterItem × List Ev
    | [], acc => ([], acc)
    | it :: rest, acc =>
      if rest.length + 1 ≤ len then (it :: rest, acc)
      else
        let acc := match it.sp with
          | some s => if call then acc ++ [Ev.itRet s.id] else acc
          | none => acc
        go rest acc
  let (its, evs) := go vm.iters []
  { vm with iters := its, log := vm.log ++ evs }

/-- vm.go handleThrow.  `ex = none` is an uncatchable payload (exceptionFromValue returned nil):
ordinary frames are skipped, and the tryPanicMarker frame truncates the iterator stack WITHOUT
calling return() (`_restoreStacks(tf.iterLen, tf.refLen, ex != nil)`). -/
def handleThrow (ex : Option Val) : List TryFrame → VM → VM
  | [], vm =>
    -- the tryPanicMarker frame pushed by runTry: restoreStacks, then the error leaves run()
    let vm := closeIters 0 ex.isSome { vm with tries := [] }
    { vm with halted := some (match ex with | some v => Compl.thr v | none => Compl.fatal) }
  | tf :: rest, vm =>
    if (tf.catchPos.isNone ∧ tf.finallyPos.isNone) ∨ ex.isNone then
      handleThrow ex rest vm
    else
      let vm := closeIters tf.iterLen true (vm.setSp tf.sp)
      match tf.catchPos, ex with
      | some p, some v =>
        let vm' := vm.pushV v
        { vm' with pc := p, tries := { tf with catchPos := none } :: rest }
      | _, _ =>
        match tf.finallyPos with
        | some p => { vm with pc := p, tries := { tf with exc := ex, finallyPos := none, finallyRet := none } :: rest }
        | none => { vm with tries := rest }  -- unreachable

def throwV (ex : Option Val) (vm : VM) : VM := handleThrow ex vm.tries vm

def boolV (b : Bool) : Val := if b then 1 else 0

/-- one instruction -/
def step (vm : VM) : Instr → VM
  | .emit e => (vm.out e).next
  | .loadVal v => (vm.pushV v).next
  | .saveResult =>
    let vm' := vm.popV
    { vm' with result := vm.top }.next
  | .loadResult => (vm.pushV vm.result).next
  | .pop => vm.popV.next
  | .dup => (vm.pushV vm.top).next
  | .strictEq =>
    let b := vm.top; let a := vm.popV.top
    ((vm.popV.popV).pushV (boolV (a == b))).next
  | .cntReset id => (vm.setCnt id none).next
  | .cntZero id => (vm.setCnt id (some 0)).next
  | .cntInc id => (vm.setCnt id (match vm.getCnt id with | none => some 0 | some c => some (c + 1))).next
  | .cntLt id n => (vm.pushV (boolV ((vm.getCnt id).getD 0 < n))).next
  | .cntEq id m => (vm.pushV (boolV ((vm.getCnt id).getD 0 == m))).next
  | .loadSel u k cur => (vm.pushV (if u then (vm.getCnt cur).getD 0 else k)).next
  | .enumGet id =>
    match vm.iters with
    | it :: _ => (vm.setCnt id (some it.val)).next
    | [] => vm.next
  | .catchLog i => (vm.out (Ev.caught i vm.top)).next
  | .fatal => throwV none (vm.out Ev.fatal)
  | .try_ c f =>
    -- vm.go:4805
    { vm with tries := { iterLen := vm.iters.length, sp := vm.stack.length,
                         catchPos := if c > 0 then some (vm.pc + c) else none,
                         finallyPos := if f > 0 then some (vm.pc + f) else none } :: vm.tries }.next
  | .leaveTry =>
    -- vm.go:4823
    match vm.tries with
    | tf :: rest =>
      match tf.finallyPos with
      | some p =>
        let tf' : TryFrame := { tf with finallyRet := some (vm.pc + 1), finallyPos := none, catchPos := none,
                                        result := vm.result }
        let vm' := vm.setSp tf.sp
        { vm' with pc := p, tries := tf' :: rest }
      | none => { vm with tries := rest }.next
    | [] => vm.next
  | .enterFinally =>
    match vm.tries with
    | tf :: rest =>
      -- vm.go enterFinally: finallyPos = -1; catchPos = -1 (an exception thrown inside 'finally' must
      -- not be caught by this statement's own 'catch')
      { vm with tries := { tf with finallyPos := none, catchPos := none } :: rest }.next
    | [] => vm.next
  | .leaveFinally =>
    -- vm.go:4849
    match vm.tries with
    | tf :: rest =>
      let vm := { vm with tries := rest }
      match tf.exc with
      | some v => throwV (some v) vm
      | none => match tf.finallyRet with
        | some r => { vm with pc := r, result := tf.result }   -- `if ret >= 0 { vm.result = res }`
        | none => vm.next
    | [] => vm.next
  | .jump off => vm.jmp off
  | .jneP off => if vm.top == 0 then vm.popV.jmp off else vm.popV.next
  | .jeqP off => if vm.top != 0 then vm.popV.jmp off else vm.popV.next
  | .iterateP sp => ({ vm with iters := { sp := some sp } :: vm.iters }.out (Ev.itOpen sp.id)).next
  | .iterNext off =>
    -- vm.go:5174
    match vm.iters with
    | it :: rest =>
      match it.sp with
      | some s =>
        let vm := vm.out (Ev.itNext s.id)
        if s.nextThrow = some it.idx then
          throwV (some (100 + s.id)) ({ vm with iters := rest }.out (Ev.itFail s.id))
        else if s.n ≤ it.idx then
          ({ vm with iters := { it with sp := none } :: rest }.out (Ev.itDone s.id)).jmp off
        else { vm with iters := { it with val := it.idx, idx := it.idx + 1 } :: rest }.next
      | none => vm.jmp off
    | [] => vm.next
  | .enumPop => { vm with iters := vm.iters.tail }.next
  | .enumPopClose =>
    -- vm.go:5140
    match vm.iters with
    | it :: rest =>
      let vm := { vm with iters := rest }
      match it.sp with
      | some s =>
        let vm := vm.out (Ev.itRet s.id)
        match s.ret with
        | .ok => vm.next
        | .thr => throwV (some (200 + s.id)) vm
        | .nonobj => throwV (some TE) vm
      | none => vm.next
    | [] => vm.next
  | .enumerate n => { vm with iters := { sp := none, n := n } :: vm.iters }.next
  | .enumNext off =>
    match vm.iters with
    | it :: rest =>
      if it.idx < it.n then { vm with iters := { it with val := it.idx, idx := it.idx + 1 } :: rest }.next
      else vm.jmp off
    | [] => vm.next
  | .enterWith => vm.popV.next
  | .leaveWith => vm.next
  | .copyStash => vm.next
  | .enterBlock n => { vm with stack := List.replicate n 0 ++ vm.stack }.next
  | .leaveBlock n => { vm with stack := vm.stack.drop n }.next
  | .ret => { vm with halted := some (Compl.ret vm.top) }
  | .throw => throwV (some vm.top) vm
  | .nop => { vm with halted := some (Compl.thr 998) }   -- executing an unpatched placeholder

def run (code : Array Instr) : Nat → VM → VM
  | 0, vm => vm
  | fuel + 1, vm =>
    match vm.halted with
    | some _ => vm
    | none =>
      if h : vm.pc < code.size then run code fuel (step vm code[vm.pc])
      else { vm with halted := some (Compl.normal none) }

end VM

/-- the observable result of running the compiled function body: the implicit `return undefined`
at the end of a function is a normal completion for the caller. -/
def runProgramWith (fuel : Nat) (p : Stmt) : Res × Nat × Nat :=
  let code := compileProgram p
  let vm := VM.run code fuel {}
  let endPc := code.size - 1
  let c : Compl := match vm.halted with
    | some (Compl.ret v) => if vm.pc = endPc ∧ !endsWithReturn p then Compl.normal none else Compl.ret v
    | some c => c
    | none => Compl.thr 997       -- out of fuel
  ((c, vm.log), vm.tries.length, vm.iters.length)

def runProgram (p : Stmt) : Res := (runProgramWith 200000 p).1

/-! ### listing -/

def showInstr : Instr → String
  | .emit _ => ".emit" | .loadVal _ => ".loadVal" | .saveResult => ".saveResult" | .loadResult => ".loadResult"
  | .pop => ".pop" | .dup => ".dup" | .strictEq => ".strictEq"
  | .cntReset _ => ".cntReset" | .cntZero _ => ".cntZero" | .cntInc _ => ".cntInc"
  | .cntLt _ _ => ".cntLt" | .cntEq _ _ => ".cntEq" | .loadSel _ _ _ => ".loadSel"
  | .enumGet _ => ".enumGet" | .catchLog _ => ".catchLog" | .fatal => ".fatal"
  | .try_ c f => s!"try {c} {f}"
  | .leaveTry => "leaveTry" | .enterFinally => "enterFinally" | .leaveFinally => "leaveFinally"
  | .jump o => s!"jump {o}" | .jneP o => s!"jneP {o}" | .jeqP o => s!"jeqP {o}"
  | .iterateP _ => "iterateP" | .iterNext o => s!"iterNext {o}"
  | .enumPop => "enumPop" | .enumPopClose => "enumPopClose"
  | .enumerate _ => "enumerate" | .enumNext o => s!"enumNext {o}"
  | .enterWith => "enterWith" | .leaveWith => "leaveWith"
  | .enterBlock _ => "enterBlock" | .leaveBlock _ => "leaveBlock" | .copyStash => "copyStash"
  | .ret => "ret" | .throw => "throw" | .nop => "NOP"

def showCode (code : Array Instr) : String := ";".intercalate (code.toList.map showInstr)

end GojaModel.C08
