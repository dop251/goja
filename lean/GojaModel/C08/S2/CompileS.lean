/-
  C08 — `compileS`: a compositional presentation of the code emission for the STAGE-2 fragment
  (try/catch/finally, while/do/for loops, `for (let …;;)` with its per-iteration scope, non-lexical for-of,
  two-clause switch, break/continue [label], return, throw, uncatchable error, labelled statements, if, block
  scope, with; no for-in, no `for (let x of …)`; no finally block with a top-level break/continue).
  It produces the same instruction list as the back-patching `compileCF` (theorem S2.compileS_eq_compileCF in
  S2.Props; the driver evaluates the stage-1 equality on every generated stage-1 program, op `A`, field S1), but jump targets are
  computed up front from statement lengths, so that it can be reasoned about by structural induction
  (GojaModel.C08.S2.Sim, theorem S2.compileS_correct in S2.Props).  Core Lean only.
-/
import GojaModel.C08.Compile

namespace GojaModel.C08.S2

/-- static context entry (innermost first): what compiler.go's block stack knows, with the absolute
break / continue targets that back-patching will eventually produce -/
inductive BI
  | loop (lab : Option Label) (brkPc contPc : Nat)
  | label (l : Label) (brkPc : Nat)
  | try_
  | scope (n : Nat)
  | with_
  /-- per-iteration scope of a `for (let …;;)` loop (blockIterScope); always directly above its loop entry -/
  | iscope
  | switch_ (brkPc : Nat)
  /-- for-of loop (blockLoopEnum): break target = the trailing enumPopClose, continue target = the iterNext -/
  | forof (lab : Option Label) (brkPc contPc : Nat)
  deriving DecidableEq, Repr

/-- shape of a context entry (no positions) -/
inductive BS
  | loop (lab : Option Label)
  | label (l : Label)
  | try_
  | scope
  | with_
  | iscope
  | switch_
  | forof (lab : Option Label)
  deriving DecidableEq, Repr

def BI.shape : BI → BS
  | .loop lab _ _ => .loop lab
  | .label l _ => .label l
  | .try_ => .try_
  | .scope _ => .scope
  | .with_ => .with_
  | .iscope => .iscope
  | .switch_ _ => .switch_
  | .forof lab _ _ => .forof lab

def labMatch (l : Option Label) (lab : Option Label) : Bool :=
  match l with
  | none => true
  | some x => lab == some x

/-- the branch targets the loop whose entry is at the head of the context -/
def hitsHead (l : Option Label) : List BI → Bool
  | .loop lab _ _ :: _ => labMatch l lab
  | _ => false

def hitsHeadS (l : Option Label) : List BS → Bool
  | .loop lab :: _ => labMatch l lab
  | _ => false

/-- findBreakBlock + emitBlockExitCode (compiler_stmt.go:582/628) without `breaking`: the exit
instructions from the innermost block up to (excluding) the target block, and the target pc -/
def findBrk (l : Option Label) (isBreak : Bool) : List BI → Option (List Instr × Nat)
  | [] => none
  | .loop lab bp cp :: rest =>
    if labMatch l lab then some ([], if isBreak then bp else cp) else findBrk l isBreak rest
  | .label x bp :: rest =>
    -- findBreakBlock stops at the FIRST block carrying the label; `continue` to a non-loop is then an error
    if l == some x then (if isBreak then some ([], bp) else none) else findBrk l isBreak rest
  | .try_ :: rest =>
    match findBrk l isBreak rest with
    | some (ex, t) => some (Instr.leaveTry :: ex, t)
    | none => none
  | .scope n :: rest =>
    match findBrk l isBreak rest with
    | some (ex, t) => some (Instr.leaveBlock n :: ex, t)
    | none => none
  | .with_ :: rest =>
    match findBrk l isBreak rest with
    | some (ex, t) => some (Instr.leaveWith :: ex, t)
    | none => none
  | .forof lab bp cp :: rest =>
    -- leaving a for-of loop pops and closes its iterator (emitBlockExitCode: blockLoopEnum → enumPopClose)
    if labMatch l lab then some ([], if isBreak then bp else cp)
    else match findBrk l isBreak rest with
      | some (ex, t) => some (Instr.enumPopClose :: ex, t)
      | none => none
  | .switch_ bp :: rest =>
    -- an unlabelled `break` targets the innermost loop OR switch; `continue` and labelled branches pass through
    if isBreak && l.isNone then some ([], bp) else findBrk l isBreak rest
  | .iscope :: rest =>
    -- emitBlockExitCode:628: `continue` of the loop that owns this per-iteration scope does not leave it
    match findBrk l isBreak rest with
    | some (ex, t) => if !isBreak && hitsHead l rest then some (ex, t) else some (Instr.leaveBlock 1 :: ex, t)
    | none => none

/-- number of exit instructions, on shapes -/
def exitLen (l : Option Label) (isBreak : Bool) : List BS → Option Nat
  | [] => none
  | .loop lab :: rest => if labMatch l lab then some 0 else exitLen l isBreak rest
  | .label x :: rest => if l == some x then (if isBreak then some 0 else none) else exitLen l isBreak rest
  | .try_ :: rest => (exitLen l isBreak rest).map (· + 1)
  | .scope :: rest => (exitLen l isBreak rest).map (· + 1)
  | .with_ :: rest => (exitLen l isBreak rest).map (· + 1)
  | .iscope :: rest => (exitLen l isBreak rest).map (fun k => if !isBreak && hitsHeadS l rest then k else k + 1)
  | .switch_ :: rest => if isBreak && l.isNone then some 0 else exitLen l isBreak rest
  | .forof lab :: rest => if labMatch l lab then some 0 else (exitLen l isBreak rest).map (· + 1)

/-- compileReturnStatement's exit code (compiler_stmt.go:749), stage 2 (for-of, no for-in) -/
def retExitsS : List BI → List Instr
  | [] => []
  | .try_ :: rest => [Instr.saveResult, Instr.leaveTry, Instr.loadResult] ++ retExitsS rest
  | .forof _ _ _ :: rest => Instr.enumPopClose :: retExitsS rest
  | _ :: rest => retExitsS rest

def retLen : List BS → Nat
  | [] => 0
  | .try_ :: rest => 3 + retLen rest
  | .forof _ :: rest => 1 + retLen rest
  | _ :: rest => retLen rest

def isLoop : Stmt → Bool
  | .loop _ _ _ _ => true
  | .forOf _ _ => true
  | _ => false

def isLbl : Stmt → Bool
  | .lbl _ _ => true
  | _ => false

/-- length of the code of a statement; depends on the context only through its shape.
`lab` = label attached directly to a loop (as in `gen`). -/
def glen : Stmt → Option Label → List BS → Nat
  | .skip, _, _ => 0
  | .log _, _, _ => 1
  | .seq a b, _, sh => glen a none sh + glen b none sh
  | .brk l, _, sh => match exitLen l true sh with | some k => k + 1 | none => 1
  | .cont l, _, sh => match exitLen l false sh with | some k => k + 1 | none => 1
  | .ret _, _, sh => 1 + retLen sh + 1
  | .thr _, _, _ => 2
  | .fatal, _, _ => 1
  | .tryS _ b hasC c hasF f, _, sh =>
    1 + (if hasF then 1 else 0) + glen b none (.try_ :: sh)
      + (if hasC then 3 + glen c none (.scope :: .try_ :: sh) + 1 else 0)
      + (if hasF then 2 + glen f none (.try_ :: sh) + 1 else 1)
  | .loop .while_ _ _ body, lab, sh => 4 + glen body none (.loop lab :: sh) + 1
  | .loop .do_ _ _ body, lab, sh => 1 + glen body none (.loop lab :: sh) + 3
  | .loop .for_ _ _ body, lab, sh => 3 + glen body none (.loop lab :: sh) + 2
  | .loop .forin _ _ _, _, _ => 0
  | .loop .forlet _ _ body, lab, sh => 5 + glen body none (.iscope :: .loop lab :: sh) + 4
  | .forOf _ body, lab, sh => 3 + glen body none (.forof lab :: sh) + 4
  | .lbl l s, _, sh => if isLoop s then glen s (some l) sh else glen s none (.label l :: sh)
  | .sw _ _ a b, _, sh => 15 + glen a none (.switch_ :: sh) + glen b none (.switch_ :: sh)
  | .withS s, _, sh => 2 + glen s none (.with_ :: sh) + 1
  | .blk s, _, sh => 1 + glen s none (.scope :: sh) + 1
  | .ifIter _ s, _, sh => 2 + glen s none sh

/-- the code of a statement laid out at absolute position `pc` in context `ctx`.
`cur` = counter id of the innermost enclosing loop, `lab` = label attached directly to a loop. -/
def gen : Stmt → Nat → Option Label → List BI → Nat → List Instr
  | .skip, _, _, _, _ => []
  | .log k, _, _, _, _ => [.emit (.log k)]
  | .seq a b, cur, _, ctx, pc =>
    gen a cur none ctx pc ++ gen b cur none ctx (pc + glen a none (ctx.map BI.shape))
  | .brk l, _, _, ctx, pc =>
    (match findBrk l true ctx with
     | some (ex, t) => ex ++ [.jump (CS.rel t (pc + ex.length))]
     | none => [.nop])
  | .cont l, _, _, ctx, pc =>
    (match findBrk l false ctx with
     | some (ex, t) => ex ++ [.jump (CS.rel t (pc + ex.length))]
     | none => [.nop])
  | .ret v, _, _, ctx, _ => [.loadVal v] ++ retExitsS ctx ++ [.ret]
  | .thr v, _, _, _, _ => [.loadVal v, .throw]
  | .fatal, _, _, _, _ => [.fatal]
  | .tryS i b hasC c hasF f, cur, _, ctx, pc =>
    let sh := ctx.map BI.shape
    let pre := 1 + (if hasF then 1 else 0)
    let lb := glen b none (.try_ :: sh)
    let lc := glen c none (.scope :: .try_ :: sh)
    let catchLen := if hasC then 3 + lc + 1 else 0
    let co := if hasC then pre + lb + 1 else 0
    let fo := if hasF then pre + lb + catchLen + 1 else 0
    [.try_ co fo] ++ (if hasF then [.emit (.tryE i)] else [])
      ++ gen b cur none (.try_ :: ctx) (pc + pre)
      ++ (if hasC then
            [.jump (Int.ofNat (3 + lc + 1)), .enterBlock 0, .catchLog i]
              ++ gen c cur none (.scope 1 :: .try_ :: ctx) (pc + pre + lb + 3) ++ [.leaveBlock 1]
          else [])
      ++ (if hasF then
            [.enterFinally, .emit (.finE i)]
              ++ gen f cur none (.try_ :: ctx) (pc + pre + lb + catchLen + 2) ++ [.leaveFinally]
          else [.leaveTry])
  | .loop .while_ id n body, _, lab, ctx, pc =>
    let lb := glen body none (.loop lab :: ctx.map BI.shape)
    let start := pc + 1
    let e := start + 3 + lb + 1
    [.cntReset id, .cntInc id, .cntLt id n, .jneP (CS.rel e (start + 2))]
      ++ gen body id none (.loop lab e start :: ctx) (start + 3)
      ++ [.jump (CS.rel start (start + 3 + lb))]
  | .loop .do_ id n body, _, lab, ctx, pc =>
    let lb := glen body none (.loop lab :: ctx.map BI.shape)
    let start := pc + 1
    let contPc := start + lb
    let e := contPc + 3
    [.cntZero id] ++ gen body id none (.loop lab e contPc :: ctx) start
      ++ [.cntInc id, .cntLt id n, .jeqP (CS.rel start (contPc + 2))]
  | .loop .for_ id n body, _, lab, ctx, pc =>
    let lb := glen body none (.loop lab :: ctx.map BI.shape)
    let start := pc + 1
    let contPc := start + 2 + lb
    let e := contPc + 2
    [.cntZero id, .cntLt id n, .jneP (CS.rel e (start + 1))]
      ++ gen body id none (.loop lab e contPc :: ctx) (start + 2)
      ++ [.cntInc id, .jump (CS.rel start (contPc + 1))]
  | .loop .forin _ _ _, _, _, _, _ => []
  | .loop .forlet id n body, _, lab, ctx, pc =>
    -- enterBlock 1; c = 0; copyStash; [start] c < n; jneP L; body; [cont] copyStash; c++; jump start; [L] leaveBlock 1; [e]
    let lb := glen body none (.iscope :: .loop lab :: ctx.map BI.shape)
    let start := pc + 3
    let contPc := start + 2 + lb
    let L := contPc + 3
    [.enterBlock 1, .cntZero id, .copyStash, .cntLt id n, .jneP (CS.rel L (start + 1))]
      ++ gen body id none (.iscope :: .loop lab (L + 1) contPc :: ctx) (start + 2)
      ++ [.copyStash, .cntInc id, .jump (CS.rel start (contPc + 2)), .leaveBlock 1]
  | .forOf sp body, _, lab, ctx, pc =>
    -- iterateP; [start] iterNext →L1; enumGet; body; jump start; [L1] enumPop; jump 2; [bp] enumPopClose; [e]
    let lb := glen body none (.forof lab :: ctx.map BI.shape)
    let start := pc + 1
    let L1 := start + 2 + lb + 1
    [.iterateP sp, .iterNext (CS.rel L1 start), .enumGet sp.id]
      ++ gen body sp.id none (.forof lab (L1 + 2) start :: ctx) (start + 2)
      ++ [.jump (CS.rel start (start + 2 + lb)), .enumPop, .jump 2, .enumPopClose]
  | .lbl l s, cur, _, ctx, pc =>
    if isLoop s then gen s cur (some l) ctx pc
    else gen s cur none (.label l (pc + glen s none (.label l :: ctx.map BI.shape)) :: ctx) pc
  | .sw u k a b, cur, _, ctx, pc =>
    -- compiler_stmt.go:1097: selector; per clause `dup; <test>; strictEq; jneP 3; pop; jump body`; `pop; jump end`; bodies
    let la := glen a none (.switch_ :: ctx.map BI.shape)
    let lb := glen b none (.switch_ :: ctx.map BI.shape)
    let e := pc + 15 + la + lb
    [.loadSel u k cur,
     .dup, .loadVal 0, .strictEq, .jneP 3, .pop, .jump (CS.rel (pc + 15) (pc + 6)),
     .dup, .loadVal 1, .strictEq, .jneP 3, .pop, .jump (CS.rel (pc + 15 + la) (pc + 12)),
     .pop, .jump (CS.rel e (pc + 14))]
      ++ gen a cur none (.switch_ e :: ctx) (pc + 15)
      ++ gen b cur none (.switch_ e :: ctx) (pc + 15 + la)
  | .withS s, cur, _, ctx, pc =>
    [.loadVal 0, .enterWith] ++ gen s cur none (.with_ :: ctx) (pc + 2) ++ [.leaveWith]
  | .blk s, cur, _, ctx, pc =>
    [.enterBlock 1] ++ gen s cur none (.scope 1 :: ctx) (pc + 1) ++ [.leaveBlock 1]
  | .ifIter m s, cur, _, ctx, pc =>
    [.cntEq cur m, .jneP (CS.rel (pc + 2 + glen s none (ctx.map BI.shape)) (pc + 1))]
      ++ gen s cur none ctx (pc + 2)

/-- whole function body, as compileProgram -/
def compileS (p : Stmt) : List Instr :=
  [.cntZero 0] ++ gen p 0 none [] 1 ++ (if endsWithReturn p then [] else [.loadVal 0, .ret])

/-- loop counter ids used by a statement -/
def ids : Stmt → List Nat
  | .seq a b => ids a ++ ids b
  | .tryS _ b _ c _ f => ids b ++ ids c ++ ids f
  | .loop _ id _ body => id :: ids body
  | .forOf sp body => sp.id :: ids body
  | .lbl _ s => ids s
  | .sw _ _ a b => ids a ++ ids b
  | .withS s => ids s
  | .blk s => ids s
  | .ifIter _ s => ids s
  | _ => []

/-- no `return` statement inside -/
def retFree : Stmt → Bool
  | .ret _ => false
  | .seq a b => retFree a && retFree b
  | .tryS _ b _ c _ f => retFree b && retFree c && retFree f
  | .loop _ _ _ body => retFree body
  | .forOf _ body => retFree body
  | .lbl _ s => retFree s
  | .sw _ _ a b => retFree a && retFree b
  | .withS s => retFree s
  | .blk s => retFree s
  | .ifIter _ s => retFree s
  | _ => true

/-- the stage-2 fragment (see the header; named after its stage-1 twin), with the side conditions under which goja
accepts and the mechanism is correct: loop counters of nested loops are distinct, a label is attached to a loop
or to a non-labelled statement, every try has a catch or a finally, a finally block has no
top-level break/continue (no `breaking` block). -/
def stage1 : Stmt → Bool
  | .skip | .log _ | .brk _ | .cont _ | .ret _ | .thr _ | .fatal => true
  | .seq a b => stage1 a && stage1 b
  | .tryS _ b hasC c hasF f =>
    (hasC || hasF) && stage1 b && (if hasC then stage1 c else c == .skip)
      && (if hasF then stage1 f && (firstBranch (flatten f)).isNone else f == .skip)
  | .loop k id _ body => k != .forin && stage1 body && !(ids body).contains id
  | .forOf sp body => !sp.lex && stage1 body && !(ids body).contains sp.id
  | .lbl _ s => stage1 s && (isLoop s || !isLbl s)
  | .sw _ _ a b => stage1 a && stage1 b
  | .withS s => stage1 s
  | .blk s => stage1 s
  | .ifIter _ s => stage1 s

/-- every break / continue of the statement has a target in the (shape of the) static context: the source-level
condition under which goja's compiler does not report "Could not find block" -/
def targetsOK : Stmt → Option Label → List BS → Bool
  | .brk l, _, sh => (exitLen l true sh).isSome
  | .cont l, _, sh => (exitLen l false sh).isSome
  | .seq a b, _, sh => targetsOK a none sh && targetsOK b none sh
  | .tryS _ b hasC c hasF f, _, sh =>
    targetsOK b none (.try_ :: sh) && (!hasC || targetsOK c none (.scope :: .try_ :: sh)) && (!hasF || targetsOK f none (.try_ :: sh))
  | .loop .forlet _ _ body, lab, sh => targetsOK body none (.iscope :: .loop lab :: sh)
  | .loop .forin _ _ _, _, _ => true
  | .loop _ _ _ body, lab, sh => targetsOK body none (.loop lab :: sh)
  | .forOf _ body, lab, sh => targetsOK body none (.forof lab :: sh)
  | .lbl l s, _, sh => if isLoop s then targetsOK s (some l) sh else targetsOK s none (.label l :: sh)
  | .sw _ _ a b, _, sh => targetsOK a none (.switch_ :: sh) && targetsOK b none (.switch_ :: sh)
  | .withS s, _, sh => targetsOK s none (.with_ :: sh)
  | .blk s, _, sh => targetsOK s none (.scope :: sh)
  | .ifIter _ s, _, sh => targetsOK s none sh
  | _, _, _ => true

/-- executable check that the compositional emission and the back-patching mirror of compiler_stmt.go
produce the same instruction list for `p` (the driver evaluates the stage-1 twin `sameCode`, not this one) -/
def sameCode (p : Stmt) : Bool := (compileS p).toArray == compileProgram p

end GojaModel.C08.S2
