/-
  C08 — `compileS p = compileCF p` for the stage-2 fragment (stage 1 + for-of), as a theorem.

  On the resolved listing (`S2/Listing.lean`) each emission step of compiler_stmt.go appends to the listing or sets a
  position of it; break / continue append exit code + resolved jump (`EqR.branch`, by `S2/Branch.lean`).  `EqR` / `InR`
  say that a state was obtained from another by emitting a given list, and their rules (`emit`, `run`, `push`, `patchRel`,
  `leave`, …) follow the operations of the compiler; the main theorem `cf_eq` is then list algebra, by structural induction
  on the statement, one lemma per constructor.
-/
import GojaModel.C08.S2.Branch

namespace GojaModel.C08.S2

/-- `cs'` was obtained from `cs` by emitting (the resolved form of) `G`, in the same block context -/
structure EqR (ctx : List BI) (cs cs' : CS) (G : List Instr) : Prop where
  rl : RL ctx cs' = RL ctx cs ++ G
  inv : Inv ctx cs'
  new : ∀ k, k ∈ pendAll cs'.blocks → k ∈ pendAll cs.blocks ∨ cs.code.size ≤ k
  conts : cs'.blocks.map Block.cont = cs.blocks.map Block.cont

theorem BranchOK.eqR {ctx : List BI} {cs F : CS} {G : List Instr} (hi : Inv ctx cs)
    (h : BranchOK ctx cs.blocks cs.code G F) : EqR ctx cs F G := by
  refine ⟨?_, ⟨h.m, fun k hk => (h.new k hk).elim (fun h1 => Nat.lt_of_lt_of_le (hi.p k h1) h.le) (·.2)⟩,
    fun k hk => (h.new k hk).imp_right (·.1), h.conts⟩
  apply List.ext_getElem?
  intro k
  by_cases h1 : k < cs.code.size
  · obtain ⟨ho1, ho2⟩ := h.old k h1
    rw [List.getElem?_append_left (by rw [RL_length]; exact h1), RL_getElem?, RL_getElem?]
    simp only [Nat.lt_of_lt_of_le h1 h.le, h1, if_true, vw, ho1, ho2]
  · have := h.tail (k - cs.code.size)
    rw [show cs.code.size + (k - cs.code.size) = k by omega] at this
    rw [List.getElem?_append_right (by rw [RL_length]; omega), RL_length, this]

theorem EqR.size {ctx : List BI} {cs cs' : CS} {G : List Instr} (h : EqR ctx cs cs' G) :
    cs'.code.size = cs.code.size + G.length := by
  have := congrArg List.length h.rl
  simpa [RL_length] using this

theorem EqR.congrG {ctx : List BI} {cs cs' : CS} {G G' : List Instr} (h : EqR ctx cs cs' G) (e : G = G') :
    EqR ctx cs cs' G' := e ▸ h

theorem EqR.refl {ctx : List BI} {cs : CS} (hi : Inv ctx cs) : EqR ctx cs cs [] :=
  ⟨by simp, hi, fun _ hk => Or.inl hk, rfl⟩

theorem EqR.trans {ctx : List BI} {a b c : CS} {G1 G2 : List Instr} (h1 : EqR ctx a b G1) (h2 : EqR ctx b c G2) :
    EqR ctx a c (G1 ++ G2) := by
  refine ⟨by rw [h2.rl, h1.rl, List.append_assoc], h2.inv, ?_, by rw [h2.conts, h1.conts]⟩
  intro k hk
  rcases h2.new k hk with h | h
  · exact h1.new k h
  · exact Or.inr (by have := h1.size; omega)

theorem EqR.emit {ctx : List BI} {cs : CS} (hi : Inv ctx cs) (i : Instr) : EqR ctx cs (cs.emit i) [i] :=
  ⟨RL_emit hi i, Inv_emit hi i, fun _ hk => Or.inl hk, rfl⟩

theorem EqR.branch {ctx : List BI} {cs : CS} (l : Option Label) (isBreak : Bool) {ex : List Instr} {tgt : Nat}
    (hi : Inv ctx cs) (hf : findBrk l isBreak ctx = some (ex, tgt)) :
    EqR ctx cs (compileBranch l isBreak cs) (ex ++ [Instr.jump (CS.rel tgt (cs.code.size + ex.length))]) := by
  obtain ⟨t, hfb, hok⟩ := branch_walk l isBreak cs.blocks ctx cs.code ex tgt hi.m hi.p hf
  rw [compileBranch_eq, hfb]
  exact hok.eqR hi

theorem EqR.snoc {ctx : List BI} {cs cs' : CS} {G : List Instr} (h : EqR ctx cs cs' G) (i : Instr) :
    EqR ctx cs (cs'.emit i) (G ++ [i]) := h.trans (EqR.emit h.inv i)

theorem EqR.emits {ctx : List BI} {cs : CS} (hi : Inv ctx cs) (L : List Instr) :
    EqR ctx cs { cs with code := L.foldl Array.push cs.code } L := by
  induction L generalizing cs with
  | nil => exact EqR.refl hi
  | cons i L ih =>
    have h1 := EqR.emit hi i
    have h2 := ih (cs := cs.emit i) h1.inv
    have := h1.trans h2
    simpa [CS.emit] using this

/-- induction hypothesis of `cf_eq` for one statement -/
def CfEq (s : Stmt) : Prop :=
  ∀ (cur : Nat) (lab : Option Label) (ctx : List BI) (cs : CS),
    stage1 s = true → (isLoop s = false → lab = none) → Inv ctx cs →
    Instr.nop ∉ gen s cur lab ctx cs.code.size →
    EqR ctx cs (compileCF cur lab s cs) (gen s cur lab ctx cs.code.size)

theorem RL_patchAt {ctx ctx' : List BI} {cs0 cs1 : CS} {G : List Instr} (hrl : RL ctx' cs1 = RL ctx cs0 ++ G)
    (hi : Inv ctx' cs1) (x : Instr) {j : Nat} (hj : G[j]? = some Instr.nop) :
    RL ctx' (cs1.patch (cs0.code.size + j) x) = RL ctx cs0 ++ G.set j x := by
  have hfresh : cs0.code.size + j ∉ pendAll cs1.blocks := hi.not_pending (by
    rw [hrl, List.getElem?_append_right (by rw [RL_length]; exact Nat.le_add_right ..), RL_length, Nat.add_sub_cancel_left, hj])
  rw [RL_patch x hfresh, hrl, List.set_append_right _ _ (by rw [RL_length]; exact Nat.le_add_right ..), RL_length,
    Nat.add_sub_cancel_left]

section
variable {ctx : List BI} {cs0 cs1 : CS} {G : List Instr}

theorem EqR.patchAt (x : Instr) {q : Nat} (j : Nat) (h : EqR ctx cs0 cs1 G) (hq : q = cs0.code.size + j)
    (hj : G[j]? = some Instr.nop) : EqR ctx cs0 (cs1.patch q x) (G.set j x) :=
  hq ▸ ⟨RL_patchAt h.rl h.inv x hj, Inv_patch h.inv _ x, h.new, h.conts⟩

theorem EqR.patchRel {csJ : CS} {j : Nat} (mk : Int → Instr) (h : EqR ctx cs0 cs1 G)
    (hJ : csJ.code.size = cs0.code.size + j) (hj : G[j]? = some Instr.nop) :
    EqR ctx cs0 (cs1.patch csJ.size (mk (CS.rel cs1.size csJ.size)))
      (G.set j (mk (CS.rel (cs0.code.size + G.length) (cs0.code.size + j)))) :=
  (h.patchAt _ j hJ hj).congrG (by rw [CS.size, CS.size, hJ, h.size])

end

/-- `cs2` was obtained from `cs0` by emitting (the resolved form of) `G`, one block `c` having been pushed on the way and
not yet left; `k` is what the `cont` field of that block holds at present -/
structure InR (c : BI) (ctx : List BI) (cs0 cs2 : CS) (G : List Instr) (k : Nat) : Prop where
  rl : RL (c :: ctx) cs2 = RL ctx cs0 ++ G
  inv : Inv (c :: ctx) cs2
  new : ∀ q, q ∈ pendAll cs2.blocks → q ∈ pendAll cs0.blocks ∨ cs0.code.size ≤ q
  ct : cs2.blocks.map Block.cont = k :: cs0.blocks.map Block.cont

section
variable {c : BI} {ctx : List BI} {cs0 cs1 cs2 : CS} {G G' : List Instr} {k : Nat}

theorem InR.congr {k' : Nat} (h : InR c ctx cs0 cs2 G k) (eG : G = G') (ek : k = k') : InR c ctx cs0 cs2 G' k' :=
  eG ▸ ek ▸ h

theorem InR.size (h : InR c ctx cs0 cs2 G k) : cs2.code.size = cs0.code.size + G.length := by
  have := congrArg List.length h.rl
  simpa [RL_length] using this

theorem EqR.push {b0 : Block} (h : EqR ctx cs0 cs1 G) (hm : MatchB c b0) (hbr : b0.breaks = []) (hco : b0.conts = []) :
    InR c ctx cs0 (cs1.push b0) G b0.cont :=
  ⟨by rw [RL_push hbr hco, h.rl], Inv_push h.inv hm hbr hco, fun q hq => h.new q (pendAll_push hbr hco ▸ hq),
    by simp [CS.push, h.conts]⟩

theorem InR.push {b0 : Block} (hi : Inv ctx cs0) (hm : MatchB c b0) (hbr : b0.breaks = []) (hco : b0.conts = []) :
    InR c ctx cs0 (cs0.push b0) [] b0.cont := (EqR.refl hi).push hm hbr hco

theorem InR.step (h : InR c ctx cs0 cs1 G k) (h' : EqR (c :: ctx) cs1 cs2 G') : InR c ctx cs0 cs2 (G ++ G') k := by
  refine ⟨by rw [h'.rl, h.rl, List.append_assoc], h'.inv, ?_, by rw [h'.conts, h.ct]⟩
  intro q hq
  rcases h'.new q hq with hh | hh
  · exact h.new q hh
  · exact Or.inr (by have := h.size; omega)

theorem InR.emit (h : InR c ctx cs0 cs1 G k) (i : Instr) : InR c ctx cs0 (cs1.emit i) (G ++ [i]) k :=
  h.step (EqR.emit h.inv i)

/-- The state is `L.foldl CS.emit cs1`, not `{ cs1 with code := L.foldl Array.push cs1.code }`
as in `EqR.emits`: it unfolds to the `emit` terms of `compileCF`'s text, and the checks `G[j]? = some nop` of later patches,
done by evaluation, are slow over the other form -/
theorem InR.emits (h : InR c ctx cs0 cs1 G k) (L : List Instr) : InR c ctx cs0 (L.foldl CS.emit cs1) (G ++ L) k := by
  induction L generalizing cs1 G with
  | nil => exact h.congr (List.append_nil G).symm rfl
  | cons i L ih => exact (ih (h.emit i)).congr (by simp) rfl

/-- `p` is the position of `s` as `gen` spells it -/
theorem EqR.run {s : Stmt} {cur p : Nat} (h : EqR ctx cs0 cs1 G) (ih : CfEq s) (hst : stage1 s = true)
    (hp : p = cs0.code.size + G.length) (hnop : Instr.nop ∉ gen s cur none ctx p) :
    EqR ctx cs0 (compileCF cur none s cs1) (G ++ gen s cur none ctx p) := by
  subst hp
  rw [← h.size] at hnop ⊢
  exact h.trans (ih cur none ctx cs1 hst (fun _ => rfl) h.inv hnop)

theorem InR.run {s : Stmt} {cur p : Nat} (h : InR c ctx cs0 cs1 G k) (ih : CfEq s) (hst : stage1 s = true)
    (hp : p = cs0.code.size + G.length) (hnop : Instr.nop ∉ gen s cur none (c :: ctx) p) :
    InR c ctx cs0 (compileCF cur none s cs1) (G ++ gen s cur none (c :: ctx) p) k := by
  subst hp
  rw [← h.size] at hnop ⊢
  exact h.step (ih cur none (c :: ctx) cs1 hst (fun _ => rfl) h.inv hnop)

theorem InR.modTop_cont (h : InR c ctx cs0 cs1 G k) (n : Nat) :
    InR c ctx cs0 (cs1.modTop (fun b => { b with cont := n })) G n := by
  refine ⟨by rw [RL_modTop_cont, h.rl], Inv_modTop_cont h.inv n, ?_, ?_⟩
  · intro q hq
    exact h.new q (pendAll_modTop_cont cs1 n ▸ hq)
  · cases hb : cs1.blocks with
    | nil => have := h.ct; simp [hb] at this
    | cons b r =>
      have := h.ct
      rw [hb] at this
      simp only [CS.modTop, hb, List.map_cons, (List.cons.inj this).2]

/-- `for (let …;;)`: the continue target of the LOOP block (second from the top, below its per-iteration scope) is set
after the body has been compiled -/
theorem InR.modSecond {c1 : BI} (h : InR c (c1 :: ctx) cs0 cs1 G k) :
    InR c (c1 :: ctx) (cs0.modTop (fun b => { b with cont := cs1.size }))
      { cs1 with blocks := match cs1.blocks with
                           | sb :: lb :: r => sb :: { lb with cont := cs1.size } :: r
                           | bs => bs } G k := by
  generalize cs1.size = n
  obtain ⟨sb, r1, hb, hm0, hm⟩ := match_cons h.inv.m
  obtain ⟨lb, r, rfl, hm1, hm2⟩ := match_cons hm
  rw [hb]
  have hres : ∀ q, resolveHere c1 { lb with cont := n } q = resolveHere c1 lb q := by
    intro q; cases c1 <;> rfl
  have hpa : pendAll (sb :: { lb with cont := n } :: r) = pendAll cs1.blocks := by
    rw [hb]; simp [pendAll, List.flatMap_cons]
  refine ⟨?_, ⟨⟨hm0, ⟨hm1.1, ?_⟩, hm2⟩, fun q hq => h.inv.p q (hpa ▸ hq)⟩, ?_, ?_⟩
  · rw [RL_modTop_cont, ← h.rl]
    apply RL_ext (ctx := c :: c1 :: ctx) (ctx' := c :: c1 :: ctx) (cs := cs1)
      (cs' := { cs1 with blocks := sb :: { lb with cont := n } :: r }) rfl
    intro q _
    simp only [hb, pend, hres]
  · cases c1 <;> exact hm1.2
  · intro q hq
    rw [pendAll_modTop_cont, code_modTop]
    exact h.new q (hpa ▸ hq)
  · have hct := h.ct
    rw [hb] at hct
    cases hb0 : cs0.blocks with
    | nil => rw [hb0] at hct; simp at hct
    | cons b0 r0 =>
      rw [hb0] at hct
      simp only [List.map_cons, List.cons.injEq] at hct
      simp [CS.modTop, hb0, hct.1, hct.2.2]

theorem InR.patchAt (x : Instr) {q : Nat} (j : Nat) (h : InR c ctx cs0 cs2 G k) (hq : q = cs0.code.size + j)
    (hj : G[j]? = some Instr.nop) : InR c ctx cs0 (cs2.patch q x) (G.set j x) k :=
  hq ▸ ⟨RL_patchAt h.rl h.inv x hj, Inv_patch h.inv _ x, h.new, h.ct⟩

/-- a backward reference: the instruction `mk (rel start here)`, `start` being the size of an earlier state, at offset `j` -/
theorem InR.emitRel {csJ : CS} {j : Nat} (mk : Int → Instr) (h : InR c ctx cs0 cs2 G k)
    (hJ : csJ.code.size = cs0.code.size + j) :
    InR c ctx cs0 (cs2.emit (mk (CS.rel csJ.size cs2.size)))
      (G ++ [mk (CS.rel (cs0.code.size + j) (cs0.code.size + G.length))]) k :=
  (h.emit _).congr (by rw [CS.size, CS.size, hJ, h.size]) rfl

/-- a forward reference resolved: the placeholder emitted at offset `j`, the size of an earlier state, becomes
`mk (rel here there)` -/
theorem InR.patchRel {csJ : CS} {j : Nat} (mk : Int → Instr) (h : InR c ctx cs0 cs2 G k)
    (hJ : csJ.code.size = cs0.code.size + j) (hj : G[j]? = some Instr.nop) :
    InR c ctx cs0 (cs2.patch csJ.size (mk (CS.rel cs2.size csJ.size)))
      (G.set j (mk (CS.rel (cs0.code.size + G.length) (cs0.code.size + j)))) k :=
  (h.patchAt _ j hJ hj).congr (by rw [CS.size, CS.size, hJ, h.size]) rfl

theorem InR.contAt {csJ : CS} {j : Nat} (h : InR c ctx cs0 cs1 G k) (hJ : csJ.code.size = cs0.code.size + j) :
    InR c ctx cs0 (cs1.modTop (fun b => { b with cont := csJ.size })) G (cs0.code.size + j) :=
  (h.modTop_cont _).congr rfl hJ

theorem InR.contHere (h : InR c ctx cs0 cs1 G k) :
    InR c ctx cs0 (cs1.modTop (fun b => { b with cont := cs1.size })) G (cs0.code.size + G.length) :=
  h.contAt h.size

theorem InR.leave (h : InR c ctx cs0 cs2 G k) (hc : LeaveAt c (cs0.code.size + G.length) k) :
    EqR ctx cs0 cs2.leaveBlock G := by
  obtain ⟨b, r, hb, hmb, _⟩ := match_cons h.inv.m
  have hbl := leaveBlock_blocks hb
  have hct := h.ct
  rw [hb] at hct
  obtain ⟨rfl, hcr⟩ := List.cons.inj hct
  have hc' : LeaveOK c cs2.code.size b := by
    rw [h.size]
    cases c
    case scope | iscope => exact hc.elim
    all_goals exact hc
  refine ⟨by rw [RL_leaveBlock hb hmb hc', h.rl], Inv_leaveBlock hb h.inv, ?_, ?_⟩
  · intro q hq
    rw [hbl] at hq
    exact h.new q (by rw [hb]; exact mem_pendAll_cons.2 (Or.inr hq))
  · rw [hbl]; exact hcr

theorem InR.leaveScope {n : Nat} (hc : c = BI.scope n ∨ c = BI.iscope ∧ n = 1) (h : InR c ctx cs0 cs2 G k) :
    EqR ctx cs0 (cs2.leaveScopeBlock n) (G ++ [Instr.leaveBlock n]) := by
  obtain ⟨b, r, hb, hmb, _⟩ := match_cons h.inv.m
  obtain ⟨h1, h2⟩ := RL_leaveScopeBlock hc hb h.inv
  have hbl : (cs2.leaveScopeBlock n).blocks = r := by
    simp [CS.leaveScopeBlock, CS.emit, hb, CS.leaveBlock]
  have hct := h.ct
  rw [hb] at hct
  refine ⟨by rw [h1, h.rl, List.append_assoc], h2, ?_, ?_⟩
  · intro q hq
    rw [hbl] at hq
    exact h.new q (by rw [hb]; exact mem_pendAll_cons.2 (Or.inr hq))
  · rw [hbl]; exact (List.cons.inj hct).2

end

theorem returnExits_eq {ctx : List BI} {blocks : List Block} (hm : Match ctx blocks) (code : Array Instr) :
    returnExits blocks code = (retExitsS ctx).foldl Array.push code := by
  induction blocks generalizing ctx code with
  | nil =>
    cases ctx with
    | nil => rfl
    | cons c ctx => exact absurd hm (by simp [Match])
  | cons b rest ih =>
    cases ctx with
    | nil => exact absurd hm (by simp [Match])
    | cons c ctx =>
      obtain ⟨⟨_, hmb⟩, hmr⟩ := hm
      -- `MatchB` gives the block type for every kind; both sides then take the same step
      cases c
      all_goals
        have ht := hmb.1
        simp only [returnExits, ht, retExitsS, List.foldl_append, List.foldl_cons, List.foldl_nil]
        exact ih hmr _

theorem compileCF_lbl_generic (cur : Nat) (lab : Option Label) (l : Label) (s : Stmt) (cs : CS) (h : isLoop s = false) :
    compileCF cur lab (Stmt.lbl l s) cs =
      (compileCF cur none s (cs.push { typ := BT.label, label := some l })).leaveBlock := by
  cases s <;> first | rfl | (simp [isLoop] at h; done)

theorem compileCF_lbl_loop (cur : Nat) (lab : Option Label) (l : Label) (s : Stmt) (cs : CS) (h : isLoop s = true) :
    compileCF cur lab (Stmt.lbl l s) cs = compileCF cur (some l) s cs := by
  cases s <;> first | rfl | (simp [isLoop] at h; done)

theorem modTop_breaking_none {ctx : List BI} {cs : CS} (hi : Inv ctx cs) :
    cs.modTop (fun blk => { blk with breaking := none }) = cs := by
  cases hb : cs.blocks with
  | nil => simp [CS.modTop, hb]
  | cons b r =>
    have hm := hi.m
    rw [hb] at hm
    cases ctx with
    | nil => exact absurd hm (by simp [Match])
    | cons c ctx =>
      have hbk : b.breaking = none := hm.1.1
      have : ({ b with breaking := none } : Block) = b := by cases b; simp_all
      cases cs
      simp_all [CS.modTop]

theorem cf_eq_skip : CfEq Stmt.skip := by
  intro cur lab ctx cs _ _ hi _; exact EqR.refl hi

theorem cf_eq_log (k : Nat) : CfEq (Stmt.log k) := by
  intro cur lab ctx cs _ _ hi _; exact EqR.emit hi _

theorem cf_eq_seq {a b : Stmt} (iha : CfEq a) (ihb : CfEq b) : CfEq (Stmt.seq a b) := by
  intro cur lab ctx cs hst _ hi hnop
  replace hst := stage1_seq hst
  simp only [gen, List.mem_append, not_or] at hnop
  have A := (EqR.refl hi).run iha hst.1 rfl hnop.1
  exact (A.run ihb hst.2 (by simp [gen_length]) hnop.2).congrG (List.nil_append _ ▸ rfl)

/-- `break` / `continue` as `gen` lists them: a branch without a target is excluded by `nop ∉` -/
theorem EqR.branchStmt {ctx : List BI} {cs : CS} (l : Option Label) (isBreak : Bool) (hi : Inv ctx cs)
    (hnop : Instr.nop ∉ (match findBrk l isBreak ctx with
      | some (ex, t) => ex ++ [Instr.jump (CS.rel t (cs.code.size + ex.length))]
      | none => [Instr.nop])) :
    EqR ctx cs (compileBranch l isBreak cs) (match findBrk l isBreak ctx with
      | some (ex, t) => ex ++ [Instr.jump (CS.rel t (cs.code.size + ex.length))]
      | none => [Instr.nop]) := by
  cases hf : findBrk l isBreak ctx with
  | none => simp [hf] at hnop
  | some p => exact EqR.branch l isBreak hi hf

theorem cf_eq_brk (l : Option Label) : CfEq (Stmt.brk l) :=
  fun _ _ _ _ _ _ hi hnop => EqR.branchStmt l true hi hnop

theorem cf_eq_cont (l : Option Label) : CfEq (Stmt.cont l) :=
  fun _ _ _ _ _ _ hi hnop => EqR.branchStmt l false hi hnop

theorem cf_eq_ret (v : Val) : CfEq (Stmt.ret v) := by
  intro cur lab ctx cs _ _ hi _
  have h1 := EqR.emit hi (Instr.loadVal v)
  have h2 := EqR.emits h1.inv (retExitsS ctx ++ [Instr.ret])
  have := h1.trans h2
  simp only [compileCF, gen]
  have e : (returnExits (cs.emit (Instr.loadVal v)).blocks (cs.emit (Instr.loadVal v)).code).push Instr.ret
      = (retExitsS ctx ++ [Instr.ret]).foldl Array.push (cs.emit (Instr.loadVal v)).code := by
    rw [returnExits_eq h1.inv.m]; simp [List.foldl_append]
  rw [e]
  simpa using this

theorem cf_eq_thr (v : Val) : CfEq (Stmt.thr v) := by
  intro cur lab ctx cs _ _ hi _
  have h1 := EqR.emit hi (Instr.loadVal v)
  have h2 := EqR.emit h1.inv Instr.throw
  exact h1.trans h2

theorem cf_eq_fatal : CfEq Stmt.fatal := by
  intro cur lab ctx cs _ _ hi _
  exact EqR.emit hi Instr.fatal

/- How the constructor lemmas below read.  The chain of `EqR` / `InR` rules follows the text of `compileCF` for the construct,
so the state it ends in is that text up to unfolding, and `exact` / `refine` checks this.  Where the text refers to the size of
an earlier state (a jump back, a placeholder to patch, the `cont` of a loop) the rule takes the size fact `P.size` of that
point of the chain as the label, and returns the instruction with both positions written as `cs.code.size + offset`.  What is
left per construct is to compare offsets with those `gen` computes: once in `LeaveAt` (the targets in the context entry) and
once in the listing, each by linear normalisation (`simp +arith`). -/
section
variable {c : BI} {ctx : List BI} {cs0 cs4 : CS} {G : List Instr} {k : Nat}

theorem InR.emitIf (h : InR c ctx cs0 cs4 G k) (b : Bool) (i : Instr) :
    InR c ctx cs0 (if b then cs4.emit i else cs4) (G ++ if b then [i] else []) k := by
  cases b
  · exact h.congr (List.append_nil G).symm rfl
  · exact h.emit i

/-- compileTryStatement's `breaking` override, which stage 1 excludes -/
theorem InR.setBreaking (h : InR c ctx cs0 cs4 G k) {fb : Option Nat} (hfb : fb = none) :
    InR c ctx cs0 (cs4.modTop (fun blk => { blk with breaking := fb })) G k := by
  rw [hfb, modTop_breaking_none h.inv]; exact h

/-- the catch clause of compileTryStatement (compiler_stmt.go:131-186), if there is one, inside the try block `c`, at
position `p`; with the offset of its first instruction from `lbl`, where the `try` instruction stands -/
theorem catchPartEq {s : Stmt} (ihc : CfEq s) (cur i lbl : Nat) (hasC : Bool) {p d : Nat} (h : InR c ctx cs0 cs4 G k)
    (hp : p = cs0.code.size + G.length) (hl : p = lbl + d) (hst : hasC = true → stage1 s = true)
    (hnop : hasC = true → Instr.nop ∉ gen s cur none (BI.scope 1 :: c :: ctx) (p + 3)) :
    let r : CS × Nat := if hasC then
        let csk := (compileCF cur none s ((((cs4.emit Instr.nop).push { typ := BT.scope }).emit (Instr.enterBlock 0)).emit
          (Instr.catchLog i))).leaveScopeBlock 1
        (csk.patch cs4.size (Instr.jump (CS.rel csk.size cs4.size)), (cs4.emit Instr.nop).size - lbl)
      else (cs4, 0)
    InR c ctx cs0 r.1 (G ++ if hasC then
        [Instr.jump (Int.ofNat (3 + glen s none (BS.scope :: (c :: ctx).map BI.shape) + 1)), Instr.enterBlock 0,
          Instr.catchLog i] ++ gen s cur none (BI.scope 1 :: c :: ctx) (p + 3) ++ [Instr.leaveBlock 1]
      else []) k ∧
    r.2 = if hasC then d + 1 else 0 := by
  cases hasC
  · exact ⟨h.congr (List.append_nil G).symm rfl, rfl⟩
  · have h1 := h.emit Instr.nop
    have Q := (((InR.push (c := BI.scope 1) (b0 := { typ := BT.scope }) h1.inv ⟨rfl, rfl, rfl, rfl⟩ rfl rfl).emit
      (Instr.enterBlock 0)).emit (Instr.catchLog i)).run ihc (hst rfl) (by rw [h1.size, hp]; simp +arith) (hnop rfl)
    refine ⟨((h1.step (Q.leaveScope (.inl rfl))).patchRel Instr.jump h.size (by simp)).congr ?_ rfl, ?_⟩
    · simp +arith [gen_length, BI.shape, CS.rel]
    · show (cs4.emit Instr.nop).code.size - lbl = _
      rw [h1.size, List.length_append, ← Nat.add_assoc, ← hp, hl, Nat.add_assoc]; exact Nat.add_sub_cancel_left ..

/-- the finally block of compileTryStatement (compiler_stmt.go:187-202), or the `leaveTry` that stands in its place -/
theorem finPartEq {s : Stmt} (ihf : CfEq s) (cur i lbl : Nat) (hasF : Bool) {p d : Nat} (h : InR c ctx cs0 cs4 G k)
    (hp : p = cs0.code.size + G.length) (hl : p = lbl + d) (hst : hasF = true → stage1 s = true)
    (hnop : hasF = true → Instr.nop ∉ gen s cur none (c :: ctx) (p + 2)) :
    let r : CS × Nat := if hasF then
        ((compileCF cur none s (((cs4.emit Instr.enterFinally).emit (Instr.emit (Ev.finE i))).modTop
          (fun blk => { blk with breaking := none }))).emit Instr.leaveFinally, (cs4.emit Instr.enterFinally).size - lbl)
      else (cs4.emit Instr.leaveTry, 0)
    InR c ctx cs0 r.1 (G ++ if hasF then
        [Instr.enterFinally, Instr.emit (Ev.finE i)] ++ gen s cur none (c :: ctx) (p + 2) ++ [Instr.leaveFinally]
      else [Instr.leaveTry]) k ∧
    r.2 = if hasF then d + 1 else 0 := by
  cases hasF
  · exact ⟨h.emit _, rfl⟩
  · have h1 := h.emit Instr.enterFinally
    have h2 := (((h1.emit (Instr.emit (Ev.finE i))).setBreaking rfl).run ihf (hst rfl) (by rw [hp]; simp +arith)
      (hnop rfl)).emit Instr.leaveFinally
    refine ⟨h2.congr (by simp) rfl, ?_⟩
    show (cs4.emit Instr.enterFinally).code.size - lbl = _
    rw [h1.size, List.length_append, ← Nat.add_assoc, ← hp, hl, Nat.add_assoc]; exact Nat.add_sub_cancel_left ..

end

theorem cf_eq_tryS (i : Nat) {b : Stmt} (hasC : Bool) {c : Stmt} (hasF : Bool) {f : Stmt} (ihb : CfEq b) (ihc : CfEq c)
    (ihf : CfEq f) : CfEq (Stmt.tryS i b hasC c hasF f) := by
  intro cur lab ctx cs hst _ hi hnop
  obtain ⟨-, hsb, hsc, hsf⟩ := stage1_tryS hst
  simp only [gen] at hnop ⊢
  generalize hlb : glen b none (BS.try_ :: ctx.map BI.shape) = lb at *
  generalize hlc : glen c none (BS.scope :: BS.try_ :: ctx.map BI.shape) = lc at *
  have hfb : (if hasF then match firstBranch (flatten f) with
      | some (l, isBreak) => findBreakBlock l isBreak (cs.push { typ := BT.try_ }).blocks
      | none => none else none) = none := by
    cases hasF
    · rfl
    · simp only [(hsf rfl).2, if_true]
  have hnb : Instr.nop ∉ gen b cur none (BI.try_ :: ctx) (cs.code.size + (1 + if hasF then 1 else 0)) :=
    fun h => hnop (List.mem_append_left _ (List.mem_append_left _ (List.mem_append_right _ h)))
  have PA := ((((InR.push (c := BI.try_) (b0 := { typ := BT.try_ }) hi ⟨rfl, rfl, rfl, rfl, rfl⟩ rfl rfl).setBreaking
    hfb).emit Instr.nop).emitIf hasF (Instr.emit (Ev.tryE i))).run ihb hsb (by cases hasF <;> rfl) hnb
  obtain ⟨PC, hco⟩ := catchPartEq ihc cur i cs.code.size hasC (p := cs.code.size + (1 + if hasF then 1 else 0) + lb) PA
    (by simp +arith [apply_ite List.length, gen_length, BI.shape, hlb]) (Nat.add_assoc ..) hsc
    (fun h hh => hnop (List.mem_append_left _ (List.mem_append_right _ (by
      rw [if_pos h]; exact List.mem_append_left _ (List.mem_append_right _ hh)))))
  obtain ⟨PF, hfo⟩ := finPartEq ihf cur i cs.code.size hasF
    (p := cs.code.size + (1 + if hasF then 1 else 0) + lb + if hasC then 3 + lc + 1 else 0) PC
    (by simp +arith [apply_ite List.length, gen_length, BI.shape, hlb, hlc])
    (by rw [Nat.add_assoc, Nat.add_assoc]) (fun h => (hsf h).1)
    (fun h hh => hnop (List.mem_append_right _ (by
      rw [if_pos h]; exact List.mem_append_left _ (List.mem_append_right _ hh))))
  -- the two offsets, as `compileCF` computes them, are the second components of the pairs above
  refine ((PF.patchAt _ 0 rfl (by simp)).leave trivial).congrG
    ((congrArg (List.set _ 0) (congr (congrArg Instr.try_ hco) hfo)).trans ?_)
  simp +arith [BI.shape, hlc]

theorem cf_eq_loop (k : LoopKind) (id n : Nat) {body : Stmt} (ih : CfEq body) : CfEq (Stmt.loop k id n body) := by
  intro cur lab ctx cs hst _ hi hnop
  obtain ⟨hk1, hstb, -⟩ := stage1_loop hst
  cases k with
  | forin => exact absurd rfl hk1
  | forlet =>
    simp only [gen] at hnop ⊢
    generalize hlb : glen body none (BS.iscope :: BS.loop lab :: ctx.map BI.shape) = lb at *
    let c : BI := BI.loop lab (cs.code.size + 3 + 2 + lb + 3 + 1) (cs.code.size + 3 + 2 + lb)
    have hnb : Instr.nop ∉ gen body id none (BI.iscope :: c :: ctx) (cs.code.size + 3 + 2) :=
      fun h => hnop (List.mem_append_left _ (List.mem_append_right _ h))
    have P0 := InR.push (c := c) (b0 := { typ := BT.loop, label := lab }) hi ⟨rfl, rfl, rfl⟩ rfl rfl
    -- the per-iteration scope, pushed on the state that already holds the loop block
    have P3 := (((InR.push (c := BI.iscope) (b0 := { typ := BT.iterScope }) P0.inv ⟨rfl, rfl, rfl, rfl⟩ rfl rfl).emit
      (Instr.enterBlock 1)).emit (Instr.cntZero id)).emit Instr.copyStash
    have P4 := P3.emit (Instr.cntLt id n)
    have PA := (P4.emit Instr.nop).run ih hstb rfl hnb
    -- `modSecond` changes the state the scope was pushed on, not its code
    have hb := code_modTop (cs.push { typ := BT.loop, label := lab })
    refine (((P0.contAt PA.size).step (((((PA.modSecond.emit Instr.copyStash).emit (Instr.cntInc id)).emitRel Instr.jump
      ((hb _).symm ▸ P3.size)).patchRel Instr.jneP ((hb _).symm ▸ P4.size) rfl).leaveScope (.inr ⟨rfl, rfl⟩))).leave
      ?_).congrG ?_
    · simp +arith [LeaveAt, c, gen_length, BI.shape, hlb]
    · simp +arith [c, code_modTop, CS.push, gen_length, BI.shape, hlb]
  | while_ =>
    simp only [gen] at hnop ⊢
    generalize hlb : glen body none (BS.loop lab :: ctx.map BI.shape) = lb at *
    let c : BI := BI.loop lab (cs.code.size + 1 + 3 + lb + 1) (cs.code.size + 1)
    have hnb : Instr.nop ∉ gen body id none (c :: ctx) (cs.code.size + 1 + 3) :=
      fun h => hnop (List.mem_append_left _ (List.mem_append_right _ h))
    have P1 := (EqR.emit hi (Instr.cntReset id)).push (c := c) (b0 := { typ := BT.loop, label := lab }) ⟨rfl, rfl, rfl⟩
      rfl rfl
    have P3 := (P1.contHere.emit (Instr.cntInc id)).emit (Instr.cntLt id n)
    have PA := (P3.emit Instr.nop).run ih hstb rfl hnb
    refine (((PA.emitRel Instr.jump P1.size).patchRel Instr.jneP P3.size rfl).leave ?_).congrG ?_
    · simp +arith [LeaveAt, c, gen_length, BI.shape, hlb]
    · simp +arith [c, gen_length, BI.shape, hlb]
  | do_ =>
    simp only [gen] at hnop ⊢
    generalize hlb : glen body none (BS.loop lab :: ctx.map BI.shape) = lb at *
    let c : BI := BI.loop lab (cs.code.size + 1 + lb + 3) (cs.code.size + 1 + lb)
    have hnb : Instr.nop ∉ gen body id none (c :: ctx) (cs.code.size + 1) :=
      fun h => hnop (List.mem_append_left _ (List.mem_append_right _ h))
    have P1 := (EqR.emit hi (Instr.cntZero id)).push (c := c) (b0 := { typ := BT.loop, label := lab }) ⟨rfl, rfl, rfl⟩
      rfl rfl
    have PA := P1.run ih hstb rfl hnb
    refine ((((PA.contHere.emit (Instr.cntInc id)).emit (Instr.cntLt id n)).emitRel Instr.jeqP P1.size).leave
      ?_).congrG ?_
    · simp +arith [LeaveAt, c, gen_length, BI.shape, hlb]
    · simp +arith [c, gen_length, BI.shape, hlb]
  | for_ =>
    simp only [gen] at hnop ⊢
    generalize hlb : glen body none (BS.loop lab :: ctx.map BI.shape) = lb at *
    let c : BI := BI.loop lab (cs.code.size + 1 + 2 + lb + 2) (cs.code.size + 1 + 2 + lb)
    have hnb : Instr.nop ∉ gen body id none (c :: ctx) (cs.code.size + 1 + 2) :=
      fun h => hnop (List.mem_append_left _ (List.mem_append_right _ h))
    have P2 := (InR.push (c := c) (b0 := { typ := BT.loop, label := lab }) hi ⟨rfl, rfl, rfl⟩ rfl rfl).emit
      (Instr.cntZero id)
    have P3 := P2.emit (Instr.cntLt id n)
    have PA := (P3.emit Instr.nop).run ih hstb rfl hnb
    refine ((((PA.contHere.emit (Instr.cntInc id)).emitRel Instr.jump P2.size).patchRel Instr.jneP P3.size rfl).leave
      ?_).congrG ?_
    · simp +arith [LeaveAt, c, gen_length, BI.shape, hlb]
    · simp +arith [c, gen_length, BI.shape, hlb]

theorem cf_eq_forOf (sp : IterSpec) {body : Stmt} (ih : CfEq body) : CfEq (Stmt.forOf sp body) := by
  intro cur lab ctx cs hst _ hi hnop
  obtain ⟨hlex, hstb, -⟩ := stage1_forOf hst
  simp only [gen] at hnop ⊢
  generalize hlb : glen body none (BS.forof lab :: ctx.map BI.shape) = lb at *
  let c : BI := BI.forof lab (cs.code.size + 1 + 2 + lb + 1 + 2) (cs.code.size + 1)
  have hnb : Instr.nop ∉ gen body sp.id none (c :: ctx) (cs.code.size + 1 + 2) :=
    fun h => hnop (List.mem_append_left _ (List.mem_append_right _ h))
  have P1 := (InR.push (c := c) (b0 := { typ := BT.loopEnum, label := lab }) hi ⟨rfl, rfl, rfl⟩ rfl rfl).emit
    (Instr.iterateP sp)
  have PA := ((P1.contHere.emit Instr.nop).emit (Instr.enumGet sp.id)).run ih hstb rfl hnb
  simp only [compileCF, hlex, Bool.false_eq_true, if_false]
  refine ((((((PA.emitRel Instr.jump P1.size).patchRel Instr.iterNext P1.size rfl).emit Instr.enumPop).emit
    (Instr.jump 2)).leave ?_).snoc Instr.enumPopClose).congrG ?_
  · simp +arith [LeaveAt, c, gen_length, BI.shape, hlb]
  · simp +arith [c, gen_length, BI.shape, hlb]

theorem cf_eq_lbl (l : Label) {s : Stmt} (ih : CfEq s) : CfEq (Stmt.lbl l s) := by
  intro cur lab ctx cs hst _ hi hnop
  replace hst := stage1_lbl hst
  by_cases hlo : isLoop s = true
  · rw [compileCF_lbl_loop cur lab l s cs hlo]
    simp only [gen, hlo, if_true] at hnop ⊢
    exact ih cur (some l) ctx cs hst.1 (fun h => by simp [hlo] at h) hi hnop
  · have hlo' : isLoop s = false := by simpa using hlo
    rw [compileCF_lbl_generic cur lab l s cs hlo']
    simp only [gen, hlo', Bool.false_eq_true, if_false] at hnop ⊢
    exact (((InR.push (c := BI.label l _) (b0 := { typ := BT.label, label := some l }) hi ⟨rfl, rfl, rfl, rfl⟩ rfl
      rfl).run ih hst.1 rfl hnop).leave (by simp [LeaveAt, gen_length, BI.shape])).congrG (List.nil_append _)

theorem cf_eq_sw (u : Bool) (k : Nat) {a b : Stmt} (iha : CfEq a) (ihb : CfEq b) : CfEq (Stmt.sw u k a b) := by
  intro cur lab ctx cs hst _ hi hnop
  obtain ⟨hsa, hsb⟩ := stage1_sw hst
  simp only [gen] at hnop ⊢
  generalize hla : glen a none (BS.switch_ :: ctx.map BI.shape) = la at *
  generalize hlb : glen b none (BS.switch_ :: ctx.map BI.shape) = lb at *
  let c : BI := BI.switch_ (cs.code.size + 15 + la + lb)
  have hna : Instr.nop ∉ gen a cur none (c :: ctx) (cs.code.size + 15) :=
    fun h => hnop (List.mem_append_left _ (List.mem_append_right _ h))
  have hnb : Instr.nop ∉ gen b cur none (c :: ctx) (cs.code.size + 15 + la) := fun h => hnop (List.mem_append_right _ h)
  -- selector; `case 0` test and placeholder; `case 1` test and placeholder; no match: pop, placeholder
  have P2 := ((InR.push (c := c) (b0 := { typ := BT.switch_ }) hi ⟨rfl, rfl, rfl, rfl⟩ rfl rfl).emit
    (Instr.loadSel u k cur)).emits [Instr.dup, Instr.loadVal 0, Instr.strictEq, Instr.jneP 3, Instr.pop]
  have P3 := P2.emits [Instr.nop, Instr.dup, Instr.loadVal 1, Instr.strictEq, Instr.jneP 3, Instr.pop]
  have P4 := P3.emits [Instr.nop, Instr.pop]
  have PA := ((P4.emit Instr.nop).patchRel Instr.jump P2.size rfl).run iha hsa rfl hna
  have PB := (PA.patchRel Instr.jump P3.size rfl).run ihb hsb (by simp +arith [c, gen_length, BI.shape, hla]) hnb
  refine ((PB.patchRel Instr.jump P4.size rfl).leave ?_).congrG ?_
  · simp +arith [LeaveAt, c, gen_length, BI.shape, hla, hlb]
  · simp +arith [c, gen_length, BI.shape, hla, hlb]

theorem cf_eq_withS {s : Stmt} (ih : CfEq s) : CfEq (Stmt.withS s) := by
  intro cur lab ctx cs hst _ hi hnop
  simp only [gen, List.mem_append, List.mem_cons, not_or] at hnop ⊢
  exact (((((EqR.emit hi (Instr.loadVal 0)).snoc Instr.enterWith).push (c := BI.with_) (b0 := { typ := BT.with_ })
    ⟨rfl, rfl, rfl, rfl, rfl⟩ rfl rfl).run ih hst rfl hnop.1.2).emit Instr.leaveWith).leave trivial

theorem cf_eq_blk {s : Stmt} (ih : CfEq s) : CfEq (Stmt.blk s) := by
  intro cur lab ctx cs hst _ hi hnop
  simp only [gen, List.mem_append, List.mem_cons, not_or] at hnop ⊢
  exact (((InR.push (c := BI.scope 1) (b0 := { typ := BT.scope }) hi ⟨rfl, rfl, rfl, rfl⟩ rfl rfl).emit
    (Instr.enterBlock 1)).run ih hst rfl hnop.1.2).leaveScope (.inl rfl)

theorem cf_eq_ifIter (m : Nat) {s : Stmt} (ih : CfEq s) : CfEq (Stmt.ifIter m s) := by
  intro cur lab ctx cs hst _ hi hnop
  simp only [gen, List.mem_append, List.mem_cons, not_or] at hnop
  have E1 := EqR.emit hi (Instr.cntEq cur m)
  exact (((E1.snoc Instr.nop).run ih hst rfl hnop.2).patchRel Instr.jneP E1.size rfl).congrG (by
    simp +arith [gen, gen_length])

theorem cf_eq (s : Stmt) : ∀ (cur : Nat) (lab : Option Label) (ctx : List BI) (cs : CS),
    stage1 s = true → (isLoop s = false → lab = none) → Inv ctx cs →
    Instr.nop ∉ gen s cur lab ctx cs.code.size →
    EqR ctx cs (compileCF cur lab s cs) (gen s cur lab ctx cs.code.size) := by
  induction s with
  | skip => exact cf_eq_skip
  | log k => exact cf_eq_log k
  | seq a b iha ihb => exact cf_eq_seq iha ihb
  | brk l => exact cf_eq_brk l
  | cont l => exact cf_eq_cont l
  | ret v => exact cf_eq_ret v
  | thr v => exact cf_eq_thr v
  | fatal => exact cf_eq_fatal
  | tryS i b hasC c hasF f ihb ihc ihf => exact cf_eq_tryS i hasC hasF ihb ihc ihf
  | loop k id n body ih => exact cf_eq_loop k id n ih
  | forOf sp body ih => exact cf_eq_forOf sp ih
  | lbl l s ih => exact cf_eq_lbl l ih
  | sw u k a b iha ihb => exact cf_eq_sw u k iha ihb
  | withS s ih => exact cf_eq_withS ih
  | blk s ih => exact cf_eq_blk ih
  | ifIter m s ih => exact cf_eq_ifIter m ih

end GojaModel.C08.S2
