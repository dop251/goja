/-
  C08 — the side condition of the correctness theorems, `nop ∉ compileS p`, from the source: if every break / continue of a
  statement has a target in the shape of its context (`targetsOK`, what goja's compiler enforces with "Could not find
  block"), `gen` leaves no placeholder (`gen_no_nop`).  Used by `compileS_no_nop` of `S2/Props.lean` only.
-/
import GojaModel.C08.S2.Lemmas

namespace GojaModel.C08.S2

theorem findBrk_no_nop (l : Option Label) (b : Bool) : ∀ (ctx : List BI) (ex : List Instr) (t : Nat),
    findBrk l b ctx = some (ex, t) → Instr.nop ∉ ex := by
  intro ctx
  induction ctx with
  | nil => intro ex t h; simp [findBrk] at h
  | cons c rest ih =>
    intro ex t h
    cases c with
    | loop lab bp cp =>
      simp only [findBrk] at h
      by_cases hm : labMatch l lab = true
      · simp [hm] at h; obtain ⟨h1, _⟩ := h; subst h1; simp
      · simp [hm] at h; exact ih ex t h
    | label y bp =>
      simp only [findBrk] at h
      by_cases hy : l = some y
      · cases b <;> simp [hy] at h; obtain ⟨h1, _⟩ := h; subst h1; simp
      · simp [hy] at h; exact ih ex t h
    | try_ | scope n | with_ =>
      simp only [findBrk] at h
      cases hr : findBrk l b rest with
      | none => simp [hr] at h
      | some p => obtain ⟨e', t'⟩ := p; simp [hr] at h; rw [← h.1]; simp [ih e' t' hr]
    | iscope =>
      simp only [findBrk] at h
      cases hr : findBrk l b rest with
      | none => simp [hr] at h
      | some p =>
        obtain ⟨e', t'⟩ := p
        simp only [hr] at h
        by_cases hc : (!b && hitsHead l rest) = true
        · simp [hc] at h; rw [← h.1]; exact ih e' t' hr
        · simp [hc] at h; rw [← h.1]; simp [ih e' t' hr]
    | switch_ bp =>
      simp only [findBrk] at h
      by_cases hc : (b && l.isNone) = true
      · simp [hc] at h; obtain ⟨h1, _⟩ := h; subst h1; simp
      · simp [hc] at h; exact ih ex t h
    | forof lab bp cp =>
      simp only [findBrk] at h
      by_cases hm : labMatch l lab = true
      · simp [hm] at h; obtain ⟨h1, _⟩ := h; subst h1; simp
      · simp only [hm, Bool.false_eq_true, if_false] at h
        cases hr : findBrk l b rest with
        | none => simp [hr] at h
        | some p => obtain ⟨e', t'⟩ := p; simp [hr] at h; rw [← h.1]; simp [ih e' t' hr]

theorem retExitsS_no_nop : ∀ ctx : List BI, Instr.nop ∉ retExitsS ctx := by
  intro ctx
  induction ctx with
  | nil => simp [retExitsS]
  | cons c rest ih => cases c <;> simp [retExitsS, ih]

theorem gen_no_nop (s : Stmt) : ∀ (cur : Nat) (lab : Option Label) (ctx : List BI) (pc : Nat),
    targetsOK s lab (ctx.map BI.shape) = true → Instr.nop ∉ gen s cur lab ctx pc := by
  induction s with
  | skip => intros; simp [gen]
  | log k => intros; simp [gen]
  | seq a b iha ihb =>
    intro cur lab ctx pc h
    simp only [targetsOK, Bool.and_eq_true] at h
    simp only [gen, List.mem_append, not_or]
    exact ⟨iha _ _ _ _ h.1, ihb _ _ _ _ h.2⟩
  | brk l =>
    intro cur lab ctx pc h
    simp only [targetsOK, findBrk_exitLen] at h
    simp only [gen]
    cases hf : findBrk l true ctx with
    | none => simp [hf] at h
    | some p => obtain ⟨ex, t⟩ := p; simp [findBrk_no_nop l true ctx ex t hf]
  | cont l =>
    intro cur lab ctx pc h
    simp only [targetsOK, findBrk_exitLen] at h
    simp only [gen]
    cases hf : findBrk l false ctx with
    | none => simp [hf] at h
    | some p => obtain ⟨ex, t⟩ := p; simp [findBrk_no_nop l false ctx ex t hf]
  | ret v => intros; simp [gen, retExitsS_no_nop]
  | thr v => intros; simp [gen]
  | fatal => intros; simp [gen]
  | tryS i b hasC c hasF f ihb ihc ihf =>
    intro cur lab ctx pc h
    simp only [targetsOK, Bool.and_eq_true, Bool.or_eq_true, Bool.not_eq_true'] at h
    obtain ⟨⟨hb, hc⟩, hf⟩ := h
    have B := fun p => ihb cur none (BI.try_ :: ctx) p (by simpa [BI.shape] using hb)
    have Cc := fun (hC : hasC = true) p =>
      ihc cur none (BI.scope 1 :: BI.try_ :: ctx) p (by simpa [BI.shape, hC] using hc)
    have F := fun (hF : hasF = true) p => ihf cur none (BI.try_ :: ctx) p (by simpa [BI.shape, hF] using hf)
    cases hasC <;> cases hasF <;> simp [gen, B, Cc, F]
  | loop k id n body ih =>
    intro cur lab ctx pc h
    cases k with
    | forin => simp [gen]
    | forlet =>
      simp only [targetsOK] at h
      have B := fun e c p => ih id none (BI.iscope :: BI.loop lab e c :: ctx) p (by simpa [BI.shape] using h)
      simp [gen, B]
    | while_ | do_ | for_ =>
      simp only [targetsOK] at h
      have B := fun e c p => ih id none (BI.loop lab e c :: ctx) p (by simpa [BI.shape] using h)
      simp [gen, B]
  | forOf sp body ih =>
    intro cur lab ctx pc h
    simp only [targetsOK] at h
    have B := fun e c p => ih sp.id none (BI.forof lab e c :: ctx) p (by simpa [BI.shape] using h)
    simp [gen, B]
  | lbl l s ih =>
    intro cur lab ctx pc h
    simp only [targetsOK] at h
    simp only [gen]
    by_cases hl : isLoop s = true
    · simp only [hl, if_true] at h ⊢; exact ih _ _ _ _ h
    · simp only [hl] at h ⊢
      exact ih _ _ _ _ (by simpa [BI.shape] using h)
  | sw u k a b iha ihb =>
    intro cur lab ctx pc h
    simp only [targetsOK, Bool.and_eq_true] at h
    have A := fun e p => iha cur none (BI.switch_ e :: ctx) p (by simpa [BI.shape] using h.1)
    have B := fun e p => ihb cur none (BI.switch_ e :: ctx) p (by simpa [BI.shape] using h.2)
    simp [gen, A, B]
  | withS s ih =>
    intro cur lab ctx pc h
    simp only [targetsOK] at h
    have A := fun p => ih cur none (BI.with_ :: ctx) p (by simpa [BI.shape] using h)
    simp [gen, A]
  | blk s ih =>
    intro cur lab ctx pc h
    simp only [targetsOK] at h
    have A := fun p => ih cur none (BI.scope 1 :: ctx) p (by simpa [BI.shape] using h)
    simp [gen, A]
  | ifIter m s ih =>
    intro cur lab ctx pc h
    simp only [targetsOK] at h
    simp [gen, ih _ _ _ _ h]

end GojaModel.C08.S2
