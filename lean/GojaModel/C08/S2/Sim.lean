/-
  C08 — the simulation theorem `sim` (statement level) for the stage-2 fragment (stage 1 + for-of): leaving one context
  entry (`wrapBlock`, `wrapLabel`, `wrapSwitch`, `peelDead`), the try / loop / for-of / switch assemblies, then one lemma
  per statement constructor (`sim_seq`, `sim_tryS`, `sim_while`, …) and the induction.  What single instructions do is in
  `S2/Step.lean`, what the combinators of `exec` do to completion kinds in `S2/Kind.lean`.  The flag `rf` of `Common` is off
  throughout: nothing needs the result register preserved, the value of a pending `return` is parked in the try frame.
-/
import GojaModel.C08.S2.Step

namespace GojaModel.C08.S2
open Compl

def peeled (i : Instr) : Option (List Instr × Nat) → Option (List Instr × Nat)
  | some (ex, t) => some (i :: ex, t)
  | none => none

theorem peeled_some {o : Option (List Instr × Nat)} {i : Instr} {ex : List Instr} {t : Nat}
    (h : peeled i o = some (ex, t)) : ∃ ex', ex = i :: ex' ∧ o = some (ex', t) := by
  cases o with
  | none => cases h
  | some p => cases h; exact ⟨p.1, rfl, rfl⟩

/-- context entries whose only effect on a branch that passes them is one more exit instruction `i` -/
def Peels (c : BI) (i : Instr) : Prop := ∀ l b rest, findBrk l b (c :: rest) = peeled i (findBrk l b rest)

theorem peels_try : Peels BI.try_ Instr.leaveTry := fun _ _ _ => rfl
theorem peels_scope (n : Nat) : Peels (BI.scope n) (Instr.leaveBlock n) := fun _ _ _ => rfl
theorem peels_with : Peels BI.with_ Instr.leaveWith := fun _ _ _ => rfl

/-- `break` / `continue`: no step is taken, the statement's code is the exit sequence -/
theorem ExitPt.here {C : Code} {ctx : List BI} {σ : VM} {pc : Nat} (l : Option Label) (b : Bool) (hpc : σ.pc = pc)
    (hnop : Instr.nop ∉ (match findBrk l b ctx with
      | some (ex, t) => ex ++ [Instr.jump (CS.rel t (pc + ex.length))]
      | none => [Instr.nop]))
    (hC : CodeAt C pc (match findBrk l b ctx with
      | some (ex, t) => ex ++ [Instr.jump (CS.rel t (pc + ex.length))]
      | none => [Instr.nop])) : ExitPt C ctx σ l b := by
  cases hf : findBrk l b ctx with
  | none => simp [hf] at hnop
  | some p =>
    rw [hf] at hC
    exact ⟨p.1, p.2, hf, hpc ▸ hC⟩

theorem ExitPt.peel {C : Code} {ctx' ctx : List BI} {τ : VM} {lb : Option Label} {b : Bool} {i : Instr}
    (hE : ExitPt C ctx' τ lb b) (h : findBrk lb b ctx' = peeled i (findBrk lb b ctx)) :
    C[τ.pc]? = some i ∧ ∀ τ' : VM, τ'.pc = τ.pc + 1 → ExitPt C ctx τ' lb b := by
  obtain ⟨ex, t, hf, hcd⟩ := hE
  obtain ⟨ex', rfl, hf'⟩ := peeled_some (h ▸ hf)
  refine ⟨codeAt_head hcd, fun τ' hpc => ⟨ex', t, hf', ?_⟩⟩
  have := codeAt_tail hcd
  rw [show τ.pc + (i :: ex').length = τ.pc + 1 + ex'.length by simp; omega] at this
  rw [hpc]
  exact this

theorem ExitPt.jump {C : Code} {ctx : List BI} {τ : VM} {lb : Option Label} {b : Bool} {t : Nat} {I : List Nat} {rf : Bool}
    (hE : ExitPt C ctx τ lb b) (hf : findBrk lb b ctx = some ([], t)) (hh : τ.halted = none) :
    Reach C τ { τ with pc := t } ∧ Common τ { τ with pc := t } [] I rf := by
  obtain ⟨ex, t', hf', hcd⟩ := hE
  obtain ⟨rfl, rfl⟩ : [] = ex ∧ t = t' := by rw [hf] at hf'; cases hf'; exact ⟨rfl, rfl⟩
  exact runJump (q := τ.pc) (codeAt_head hcd) rfl hh

theorem ExitPt.pass {C : Code} {c : BI} {ctx : List BI} {τ : VM} {lb : Option Label} {b : Bool}
    (hE : ExitPt C (c :: ctx) τ lb b) (h : findBrk lb b (c :: ctx) = findBrk lb b ctx) : ExitPt C ctx τ lb b :=
  let ⟨ex, t, hf, hcd⟩ := hE
  ⟨ex, t, h ▸ hf, hcd⟩

/-- leaving a block whose exit is the single quiet instruction `i` (block scope: `leaveBlock n`, `with`: `leaveWith`),
which pops the block's stack slots `ys`: a break / continue passes through `i` as its first exit instruction, return and
throw leave the slots to the frame reset -/
theorem wrapBlock {C : Code} {ctx : List BI} {src base σ1 : VM} {e1 : Nat} {I : List Nat} {rf : Bool}
    {l0 l : List Ev} {k : K} {c : BI} {i : Instr} (ys : List Val) (hp : Peels c i) (hst : straight i = true)
    (hw : writes i = none) (hret : retExitsS (c :: ctx) = retExitsS ctx)
    (hpop : ∀ τ : VM, (VM.step τ i).stack = τ.stack.drop ys.length)
    (hr0 : Reach C src σ1) (hc0 : Common base σ1 l0 I rf) (hs : σ1.stack = ys ++ base.stack)
    (hleave : C[e1]? = some i)
    (hsim : SimK C (c :: ctx) σ1 e1 I rf l k) : SimG C ctx src base (e1 + 1) I rf (l0 ++ l) k := by
  have leave : ∀ τ : VM, Common σ1 τ l I rf → τ.stack = σ1.stack →
      Common base (VM.step τ i) (l0 ++ l) I rf ∧ (VM.step τ i).stack = base.stack ∧ (VM.step τ i).pc = τ.pc + 1 := by
    intro τ h2 h4
    have cq : Common τ (VM.step τ i) [] I rf :=
      Common.quiet (straight_quiet hst) h2.halted (fun x e => by rw [hw] at e; cases e)
    have := hc0.trans (h2.trans cq)
    rw [List.append_nil] at this
    exact ⟨this, by rw [hpop, h4, hs, List.drop_left], step_straight τ hst⟩
  cases k with
  | normal =>
    obtain ⟨τ, h1, h2, h3, h4⟩ := hsim
    obtain ⟨a, b, c'⟩ := leave τ h2 h4
    exact ⟨_, hr0.trans (h1.trans (Reach.one h2.halted (by rw [h3]; exact hleave))), a, by rw [c', h3], b⟩
  | brk lb | cont lb =>
    obtain ⟨τ, h1, h2, h3, hE⟩ := hsim
    obtain ⟨hi, next⟩ := hE.peel (hp _ _ ctx)
    obtain ⟨a, b, c'⟩ := leave τ h2 h3
    exact ⟨_, hr0.trans (h1.trans (Reach.one h2.halted hi)), a, b, next _ c'⟩
  | ret v =>
    obtain ⟨τ, h1, h2, ⟨xs, h3⟩, h4⟩ := hsim
    exact ⟨τ, hr0.trans h1, hc0.weaken.trans h2, ⟨xs ++ ys, by rw [h3, hs, List.append_assoc]⟩, hret ▸ h4⟩
  | thr v =>
    obtain ⟨τ, its, l1, hl, h2, ⟨xs, h3⟩, h4⟩ := hsim
    exact ⟨τ, its, l0 ++ l1, by rw [hl, List.append_assoc], hc0.transT h2, ⟨xs ++ ys, by rw [h3, hs, List.append_assoc]⟩,
      hr0.trans h4⟩
  | fatal =>
    obtain ⟨τ, h1, h2, h3⟩ := hsim
    exact ⟨τ, hr0.trans h1, by rw [h2, hc0.log, List.append_assoc], h3⟩

theorem simSeq {C : Code} {ctx : List BI} {σ : VM} {e1 e2 : Nat} {I : List Nat} {rf : Bool}
    {ra : Res} {rb : Unit → Res}
    (ha : SimK C ctx σ e1 I rf ra.2 (kind ra.1))
    (hb : ∀ τ, Reach C σ τ → Common σ τ ra.2 I rf → τ.pc = e1 → τ.stack = σ.stack →
        SimK C ctx τ e2 I rf (rb ()).2 (kind (rb ()).1)) :
    SimK C ctx σ e2 I rf (seqRes ra rb).2 (kind (seqRes ra rb).1) := by
  obtain ⟨ca, la⟩ := ra
  cases ca with
  | normal va =>
    obtain ⟨τ, h1, h2, h3, h4⟩ := ha
    have hb' := hb τ h1 h2 h3 h4
    simp only [seqRes]
    cases hrb : rb () with
    | mk cb lb =>
      rw [hrb] at hb'
      cases va with
      | none => exact SimK.prepend h1 h2 h4 hb'
      | some v =>
        show SimK C ctx σ e2 I rf (la ++ lb) (kind (cb.updateEmpty v))
        rw [kind_updateEmpty]
        exact SimK.prepend h1 h2 h4 hb'
  | _ => exact SimK.end_irrel (by simp [kind, seqRes]) ha

theorem wrapLabel {C : Code} {ctx : List BI} {σ : VM} {l : Label} {bp : Nat} {I : List Nat} {rf : Bool}
    {lg : List Ev} {k : K}
    (hsim : SimK C (BI.label l bp :: ctx) σ bp I rf lg k) : SimK C ctx σ bp I rf lg (adjK (some l) k) := by
  cases k with
  | normal => exact hsim
  | brk lb =>
    obtain ⟨τ, h1, h2, h3, hE⟩ := hsim
    cases lb with
    | none => exact ⟨τ, h1, h2, h3, hE.pass (by simp [findBrk])⟩
    | some l' =>
      by_cases hl : l' = l
      · subst hl
        obtain ⟨r, c⟩ := hE.jump (I := I) (rf := rf) (t := bp) (by simp [findBrk]) h2.halted
        rw [adjK, if_pos rfl]
        exact ⟨_, h1.trans r, by simpa using h2.trans c, rfl, h3⟩
      · rw [adjK, if_neg (fun h => hl (Option.some.inj h).symm)]
        exact ⟨τ, h1, h2, h3, hE.pass (by simp [findBrk, hl])⟩
  | cont lb =>
    obtain ⟨τ, h1, h2, h3, hE⟩ := hsim
    by_cases hl : lb = some l
    · -- `continue l` to a label that is not on a loop has no target
      obtain ⟨ex, t, hf, -⟩ := hE
      simp [findBrk, hl] at hf
    · exact ⟨τ, h1, h2, h3, hE.pass (by simp [findBrk, hl])⟩
  | ret v | thr v | fatal => exact hsim

/-- a "dead" frame: its finally block is running or absent, its catch clause is disarmed -/
theorem peelDead {C : Code} {ctx : List BI} {src base : VM} {g : TryFrame} {rest : List TryFrame}
    {e e' : Nat} {I : List Nat} {rf : Bool} {l : List Ev} {k : K}
    (hg1 : g.finallyPos = none) (hg2 : ∀ v, k = K.thr v → g.catchPos = none) (hb : base.tries = g :: rest)
    (hk : k ≠ K.normal) (h : SimG C (BI.try_ :: ctx) src base e I rf l k) :
    SimG C ctx src { base with tries := rest } e' I rf l k := by
  cases k with
  | normal => exact absurd rfl hk
  | brk lb | cont lb =>
    obtain ⟨τ, h1, h2, h3, hE⟩ := h
    obtain ⟨hi, next⟩ := hE.peel (peels_try _ _ ctx)
    have hstep := step_leaveTry_dead (h2.tries.trans hb) hg1
    refine ⟨_, h1.trans (Reach.one h2.halted hi), ?_, ?_, next _ (by rw [hstep])⟩
    · rw [hstep]; exact (h2.setTries rest).setPcStack _ _
    · rw [hstep]; exact h3
  | ret v =>
    obtain ⟨τ, h1, h2, ⟨xs, h3⟩, h4⟩ := h
    obtain ⟨r, hc⟩ := retExit_dead h2.halted h3 (h2.tries.trans hb) hg1 h4
    exact ⟨_, h1.trans r, ⟨h2.log, rfl, h2.iters, h2.halted, h2.cnt, nofun⟩, ⟨xs, rfl⟩, hc⟩
  | thr v =>
    obtain ⟨τ, its, l0, hl, h2, h3, h4⟩ := h
    refine ⟨{ τ with tries := rest }, its, l0, hl, h2.setTries rest, h3, ?_⟩
    rw [throwV_dead (h2.tries.trans hb) hg1 (hg2 v rfl)]; exact h4
  | fatal => exact h

theorem noFinallyStage {C : Code} {ctx : List BI} {src base : VM} {g : TryFrame} {rest : List TryFrame}
    {pcF : Nat} {I : List Nat} {rf : Bool} {l : List Ev} {k : K}
    (hg1 : g.finallyPos = none) (hthr : ∀ v, k = K.thr v → g.catchPos = none) (hb : base.tries = g :: rest)
    (hleave : C[pcF]? = some Instr.leaveTry)
    (h : SimG C (BI.try_ :: ctx) src base pcF I rf l k) :
    SimG C ctx src { base with tries := rest } (pcF + 1) I rf l k := by
  by_cases hk : k = K.normal
  · subst hk
    obtain ⟨τ, h1, h2, h3, h4⟩ := h
    have hstep := step_leaveTry_dead (h2.tries.trans hb) hg1
    refine ⟨_, h1.trans (Reach.one h2.halted (by rw [h3]; exact hleave)), ?_, by rw [hstep, ← h3], by rw [hstep]; exact h4⟩
    rw [hstep]; exact (h2.setTries rest).setPcStack _ _
  · exact peelDead hg1 hthr hb hk h

/-- how a pending completion `k` of the try/catch part enters the finally block: the VM reaches `pcF + 1` with the frame
a dead frame `gd` in the place of `g`.  `gd` records how `leaveFinally` resumes `k` (`exc`: rethrow; `finallyRet`: jump back into the
exit sequence and restore the result register; neither: fall through), which is the last conjunct: what happens at a
`leaveFinally` reached with `gd` on top. -/
theorem finEnter {C : Code} {ctx : List BI} {src base : VM} {g : TryFrame} {rest : List TryFrame}
    {pcF : Nat} {I : List Nat} {l : List Ev} {k : K}
    (hg1 : g.finallyPos = some (pcF + 1)) (hgx : g.exc = none) (hgr : g.finallyRet = none)
    (hgsp : g.sp = base.stack.length) (hgil : g.iterLen = base.iters.length)
    (hthr : ∀ v, k = K.thr v → g.catchPos = none) (hnf : k ≠ K.fatal)
    (hb : base.tries = g :: rest) (hE : C[pcF]? = some Instr.enterFinally)
    (h : SimG C (BI.try_ :: ctx) src base pcF I false l k) :
    ∃ (τF : VM) (gd : TryFrame), gd.finallyPos = none ∧ gd.catchPos = none ∧
      Reach C src τF ∧ Common { base with tries := gd :: rest } τF l I false ∧ τF.stack = base.stack ∧ τF.pc = pcF + 1 ∧
      ∀ (τ' : VM) (L : List Ev), Common { base with tries := gd :: rest } τ' L I false → τ'.stack = base.stack →
        C[τ'.pc]? = some Instr.leaveFinally → SimG C ctx τ' { base with tries := rest } (τ'.pc + 1) I false L k := by
  cases k with
  | normal =>
    obtain ⟨τ, h1, h2, h3, h4⟩ := h
    have e0 := step_enterFinally (h2.tries.trans hb)
    refine ⟨_, { g with finallyPos := none, catchPos := none }, rfl, rfl,
      h1.trans (Reach.one h2.halted (h3 ▸ hE)), ?_, by rw [e0]; exact h4, by rw [e0, ← h3], fun τ' L c s hi => ?_⟩
    · rw [e0]; exact (h2.setTries _).setPcStack _ _
    · have e := step_leaveFinally_next (c.tries.trans rfl) hgx hgr
      exact ⟨_, Reach.one c.halted hi, by rw [e]; exact (c.setTries rest).setPcStack _ _, by rw [e], by rw [e]; exact s⟩
  | brk lb | cont lb =>
    obtain ⟨τ, h1, h2, h3, hE⟩ := h
    obtain ⟨hi0, next⟩ := hE.peel (peels_try _ _ ctx)
    have e0 := step_leaveTry_armed (xs := []) (h2.tries.trans hb) hg1 h3 hgsp
    refine ⟨_, { g with finallyRet := some (τ.pc + 1), finallyPos := none, catchPos := none, result := τ.result }, rfl, rfl,
      h1.trans (Reach.one h2.halted hi0), ?_, by rw [e0], by rw [e0], fun τ' L c s hi => ?_⟩
    · rw [e0]; exact (h2.setTries _).setPcStack _ _
    · have e := step_leaveFinally_ret (r := τ.pc + 1) (c.tries.trans rfl) hgx rfl
      refine ⟨_, Reach.one c.halted hi, ?_, by rw [e]; exact s, next _ (by rw [e])⟩
      rw [e]; exact ⟨c.log, rfl, c.iters, c.halted, c.cnt, nofun⟩
  | ret v =>
    obtain ⟨τ, h1, h2, ⟨xs, h3⟩, h4⟩ := h
    have ht : τ.tries = g :: rest := h2.tries.trans hb
    have i1 : C[τ.pc]? = some Instr.saveResult := codeAt_head h4
    have i2 : C[τ.pc + 1]? = some Instr.leaveTry := codeAt_head (codeAt_tail h4)
    have i3 : C[τ.pc + 1 + 1]? = some Instr.loadResult := codeAt_head (codeAt_tail (codeAt_tail h4))
    have h5 : CodeAt C (τ.pc + 1 + 1 + 1) (retExitsS ctx ++ [Instr.ret]) := codeAt_tail (codeAt_tail (codeAt_tail h4))
    have eb := step_leaveTry_armed (τ := { τ with stack := xs ++ base.stack, result := v, pc := τ.pc + 1 }) ht hg1 rfl hgsp
    refine ⟨_, { g with finallyRet := some (τ.pc + 1 + 1), finallyPos := none, catchPos := none, result := v }, rfl, rfl,
      h1.trans (Reach.stepTo h2.halted i1 (step_saveResult h3) (Reach.stepTo h2.halted i2 eb (Reach.refl _))),
      ⟨h2.log, rfl, h2.iters, h2.halted, h2.cnt, nofun⟩, rfl, rfl, fun τ' L c s hi => ?_⟩
    have e := step_leaveFinally_ret (r := τ.pc + 1 + 1) (c.tries.trans rfl) hgx rfl
    exact ⟨{ τ' with tries := rest, pc := τ.pc + 1 + 1 + 1, stack := v :: base.stack, result := v },
      Reach.stepTo c.halted hi e (Reach.stepTo c.halted i3 (by rw [← s]; rfl) (Reach.refl _)),
      ⟨c.log, rfl, c.iters, c.halted, c.cnt, nofun⟩, ⟨[], rfl⟩, h5⟩
  | thr v =>
    obtain ⟨τ, its, l0, hl, h2, ⟨xs, h3⟩, h4⟩ := h
    have hcp : g.catchPos = none := hthr v rfl
    have e0 := throw_to_finally (v := v) (h2.tries.trans hb) hcp hg1 h2.iters hgil h3 hgsp
    refine ⟨_, { g with exc := some v, finallyPos := none, finallyRet := none }, rfl, hcp, h4, ?_, by rw [e0], by rw [e0],
      fun τ' L c s hi => ?_⟩
    · rw [e0]
      exact ⟨by show τ.log ++ clEv its = base.log ++ l; rw [h2.log, hl, List.append_assoc], rfl, rfl, h2.halted, h2.cnt, nofun⟩
    · refine ⟨{ τ' with tries := rest }, [], L, by simp [clEv], c.setTries rest, ⟨[], s⟩, ?_⟩
      rw [← step_leaveFinally_exc (c.tries.trans rfl) rfl]; exact Reach.one c.halted hi
  | fatal => exact absurd rfl hnf

theorem finallyStage {C : Code} {ctx : List BI} {src base : VM} {g : TryFrame} {rest : List TryFrame}
    {pcF lf env cur i : Nat} {I If : List Nat} {l lfl : List Ev} {k kf : K}
    (hg1 : g.finallyPos = some (pcF + 1)) (hgx : g.exc = none) (hgr : g.finallyRet = none)
    (hgsp : g.sp = base.stack.length) (hgil : g.iterLen = base.iters.length)
    (hthr : ∀ v, k = K.thr v → g.catchPos = none) (hnf : k ≠ K.fatal)
    (hb : base.tries = g :: rest) (hbc : base.cnt cur = some env) (hcurI : cur ∉ I)
    (hsubI : ∀ x, x ∈ If → x ∈ I)
    (hE : C[pcF]? = some Instr.enterFinally) (hM : C[pcF + 1]? = some (Instr.emit (Ev.finE i)))
    (hL : C[pcF + 2 + lf]? = some Instr.leaveFinally)
    (hF : ∀ τ : VM, τ.pc = pcF + 2 → τ.halted = none → τ.cnt cur = some env →
        SimK C (BI.try_ :: ctx) τ (pcF + 2 + lf) If false lfl kf)
    (h : SimG C (BI.try_ :: ctx) src base pcF I false l k) :
    SimG C ctx src { base with tries := rest } (pcF + 2 + lf + 1) I false (l ++ Ev.finE i :: lfl)
      (if kf = K.normal then k else kf) := by
  obtain ⟨τF, gd, hd1, hd2, hrF, hcF, hsF, hpF, resume⟩ := finEnter hg1 hgx hgr hgsp hgil hthr hnf hb hE h
  have A := hF (VM.step τF (.emit (.finE i))) (by rw [step_emit, hpF]) hcF.halted
    (by show τF.cnt cur = _; rw [hcF.cnt cur hcurI]; exact hbc)
  have R : SimG C (BI.try_ :: ctx) τF τF (pcF + 2 + lf) I false (Ev.finE i :: lfl) kf :=
    SimK.prepend (Reach.one hcF.halted (by rw [hpF]; exact hM)) (Common.emit _ hcF.halted) rfl (SimK.mono A hsubI)
  by_cases hkf : kf = K.normal
  · subst hkf
    obtain ⟨τ', r1, r2, r3, r4⟩ := R
    have S := resume τ' _ (hcF.trans r2) (r4.trans hsF) (by rw [r3]; exact hL)
    rw [r3] at S
    simpa using SimG.from (hrF.trans r1) S
  · simp only [hkf, if_false]
    exact SimG.prependG (midB := { τF with tries := rest }) (base := { base with tries := rest }) hrF
      (hcF.setTries rest) hsF (peelDead hd1 (fun _ _ => hd2) hcF.tries hkf R)

theorem wrapSwitch {C : Code} {ctx : List BI} {σ : VM} {e : Nat} {I : List Nat} {rf : Bool}
    {lg : List Ev} {k : K}
    (hsim : SimK C (BI.switch_ e :: ctx) σ e I rf lg k) : SimK C ctx σ e I rf lg (exitK k) := by
  cases k with
  | normal => exact hsim
  | brk lb =>
    obtain ⟨τ, h1, h2, h3, hE⟩ := hsim
    cases lb with
    | none =>
      obtain ⟨r, c⟩ := hE.jump (I := I) (rf := rf) (t := e) rfl h2.halted
      exact ⟨_, h1.trans r, by simpa using h2.trans c, rfl, h3⟩
    | some l' => exact ⟨τ, h1, h2, h3, hE.pass (by simp [findBrk])⟩
  | cont lb =>
    obtain ⟨τ, h1, h2, h3, hE⟩ := hsim
    exact ⟨τ, h1, h2, h3, hE.pass (by simp [findBrk])⟩
  | ret v | thr v | fatal => exact hsim

/-- the counting loop, for a body that runs in context `bctx` with the extra stack slots `pre` above `stk`
(plain loops: no slot, `bctx = loop :: ctx`; `for (let …;;)`: one slot, `bctx = iscope :: loop :: ctx`).  What differs
between the two is how the loop is left: `hexit` on normal termination at `L`, `hcont` / `hbrk` for a continue / break
of this loop, `houter` for a branch to an enclosing statement. -/
theorem loopG {C : Code} {ctx bctx : List BI} {lab : Option Label} {e L contPc bodyPc bEnd N id : Nat}
    {I Ib : List Nat} {pre stk : List Val} (run : Nat → Res)
    (hbody : ∀ i τ, τ.pc = bodyPc → τ.halted = none → τ.cnt id = some i →
        SimK C bctx τ bEnd Ib false (run i).2 (kind (run i).1))
    (hnext : ∀ i τ, (τ.pc = bEnd ∨ τ.pc = contPc) → τ.halted = none → τ.cnt id = some i →
        LoopStep C I τ id (i + 1) N bodyPc L)
    (hexit : ∀ (τ τ1 : VM) (l : List Ev), τ.stack = pre ++ stk → Common τ τ1 l I false → τ1.stack = τ.stack → τ1.pc = L →
        ∃ τ2, Reach C τ1 τ2 ∧ Common { τ with stack := stk } τ2 l I false ∧ τ2.pc = e ∧ τ2.stack = stk)
    (hcont : ∀ (τ1 : VM) (lb : Option Label), labMatch lb lab = true → τ1.halted = none → ExitPt C bctx τ1 lb false →
        ∃ τ2, Reach C τ1 τ2 ∧ Common τ1 τ2 [] Ib false ∧ τ2.stack = τ1.stack ∧ τ2.pc = contPc)
    (hbrk : ∀ (τ τ1 : VM) (lb : Option Label) (l : List Ev), labMatch lb lab = true → τ.stack = pre ++ stk →
        Common τ τ1 l I false → τ1.stack = τ.stack → ExitPt C bctx τ1 lb true →
        ∃ τ2, Reach C τ1 τ2 ∧ Common { τ with stack := stk } τ2 l I false ∧ τ2.pc = e ∧ τ2.stack = stk)
    (houter : ∀ (τ τ1 : VM) (lb : Option Label) (b : Bool) (l : List Ev), labMatch lb lab = false → τ.stack = pre ++ stk →
        Common τ τ1 l I false → τ1.stack = τ.stack → ExitPt C bctx τ1 lb b →
        ∃ τ2, Reach C τ1 τ2 ∧ Common { τ with stack := stk } τ2 l I false ∧ τ2.stack = stk ∧ ExitPt C ctx τ2 lb b)
    (hret : retExitsS bctx = retExitsS ctx)
    (hidb : id ∉ Ib) (hsub : ∀ x, x ∈ Ib → x ∈ I) :
    ∀ r i V τ, r + i = N → 0 < r → τ.pc = bodyPc → τ.halted = none → τ.cnt id = some i →
      τ.stack = pre ++ stk →
      SimG C ctx τ { τ with stack := stk } e I false (loopFrom run lab.toList r i V).2
        (adjK lab (kind (loopFrom run lab.toList r i V).1)) := by
  intro r
  induction r with
  | zero => intro i V τ _ h0; exact absurd h0 (Nat.lt_irrefl 0)
  | succ r ih =>
    intro i V τ hN _ hpc hh hcnt hstk
    have hb := hbody i τ hpc hh hcnt
    have cont_from : ∀ (τ1 : VM) (l1 : List Ev) (V' : Val), Reach C τ τ1 → Common τ τ1 l1 I false → τ1.stack = τ.stack →
        (τ1.pc = bEnd ∨ τ1.pc = contPc) → τ1.cnt id = some i →
        SimG C ctx τ { τ with stack := stk } e I false (l1 ++ (loopFrom run lab.toList r (i + 1) V').2)
          (adjK lab (kind (loopFrom run lab.toList r (i + 1) V').1)) := by
      intro τ1 l1 V' hr1 hc1 hs1 hp1 hcnt1
      obtain ⟨τ', ⟨hr', hc'⟩, hs', hif⟩ := hnext i τ1 hp1 hc1.halted hcnt1
      have hcc : Common τ τ' l1 I false := by simpa using hc1.trans hc'
      by_cases hlt : i + 1 < N
      · simp only [hlt, if_true] at hif
        have hr0 : 0 < r := by omega
        have A := ih (i + 1) V' τ' (by omega) hr0 hif.1 hc'.halted hif.2 (by rw [hs', hs1, hstk])
        exact SimG.prependG (midB := { τ' with stack := stk }) (base := { τ with stack := stk }) (hr1.trans hr')
          ((hcc.setPcStack _ _).baseStack _) rfl A
      · simp only [hlt, if_false] at hif
        have hr0 : r = 0 := by omega
        subst hr0
        simp only [loopFrom, kind, adjK, List.append_nil]
        obtain ⟨τ2, r2, c2, p2, s2⟩ := hexit τ τ' l1 hstk hcc (by rw [hs', hs1]) hif
        exact ⟨τ2, (hr1.trans hr').trans r2, c2, p2, s2⟩
    rw [loopFrom_succ]
    cases hri : run i with
    | mk c l =>
      rw [hri] at hb
      simp only at hb ⊢
      cases c with
      | normal v =>
        obtain ⟨τ1, h1, h2, h3, h4⟩ := hb
        have := cont_from τ1 l ((Compl.normal v).value.getD V) h1 (h2.mono hsub) h4 (Or.inl h3)
          (by rw [h2.cnt id hidb]; exact hcnt)
        simpa [loopContinues] using this
      | cont lb v =>
        obtain ⟨τ1, h1, h2, h3, hE⟩ := hb
        have hlc := loopContinues_cont lab lb v
        by_cases hm : labMatch lb lab = true
        · obtain ⟨τ2, rj, hc2, hs2, hp2⟩ := hcont τ1 lb hm h2.halted hE
          have hcc : Common τ τ2 l Ib false := by simpa using h2.trans hc2
          have := cont_from τ2 l ((Compl.cont lb v).value.getD V) (h1.trans rj)
            (hcc.mono hsub) (hs2.trans h3) (Or.inr hp2) (by rw [hcc.cnt id hidb]; exact hcnt)
          simpa [hlc, hm] using this
        · have hm' : labMatch lb lab = false := by simpa using hm
          simp only [hlc, hm', Bool.false_eq_true, if_false]
          rw [kind_exit]
          obtain ⟨τ2, r2, c2, s2, e2⟩ := houter τ τ1 lb false l hm' hstk (h2.mono hsub) h3 hE
          exact ⟨τ2, h1.trans r2, c2, s2, e2⟩
      | brk lb v =>
        obtain ⟨τ1, h1, h2, h3, hE⟩ := hb
        simp only [loopContinues, Bool.false_eq_true, if_false]
        have hk0 : kind ((Compl.brk lb v).updateEmpty V).exitBreakable = exitK (K.brk lb) := kind_exit _ V
        rw [hk0]
        by_cases hm : labMatch lb lab = true
        · rw [adjK_exitK_hit hm]
          obtain ⟨τ2, r2, c2, p2, s2⟩ := hbrk τ τ1 lb l hm hstk (h2.mono hsub) h3 hE
          exact ⟨τ2, h1.trans r2, c2, p2, s2⟩
        · have hm' : labMatch lb lab = false := by simpa using hm
          rw [adjK_exitK_miss hm']
          obtain ⟨τ2, r2, c2, s2, e2⟩ := houter τ τ1 lb true l hm' hstk (h2.mono hsub) h3 hE
          exact ⟨τ2, h1.trans r2, c2, s2, e2⟩
      | ret v =>
        obtain ⟨τ1, h1, h2, ⟨xs, h3⟩, h4⟩ := hb
        simp only [loopContinues, Bool.false_eq_true, if_false]
        rw [kind_exit]
        exact ⟨τ1, h1, (h2.mono hsub).baseStack _, ⟨xs ++ pre, by rw [h3, hstk, List.append_assoc]⟩, hret ▸ h4⟩
      | thr v =>
        obtain ⟨τ1, its, l0, hl, h2, ⟨xs, h3⟩, h4⟩ := hb
        simp only [loopContinues, Bool.false_eq_true, if_false]
        rw [kind_exit]
        exact ⟨τ1, its, l0, hl, (h2.mono hsub).baseStack _, ⟨xs ++ pre, by rw [h3, hstk, List.append_assoc]⟩, h4⟩
      | fatal =>
        simp only [loopContinues, Bool.false_eq_true, if_false]
        exact hb

theorem loopSim {C : Code} {ctx : List BI} {lab : Option Label} {e contPc bodyPc bEnd N id : Nat}
    {I Ib : List Nat} (run : Nat → Res)
    (hbody : ∀ i τ, τ.pc = bodyPc → τ.halted = none → τ.cnt id = some i →
        SimK C (BI.loop lab e contPc :: ctx) τ bEnd Ib false (run i).2 (kind (run i).1))
    (hnext : ∀ i τ, (τ.pc = bEnd ∨ τ.pc = contPc) → τ.halted = none → τ.cnt id = some i →
        LoopStep C I τ id (i + 1) N bodyPc e)
    (hidb : id ∉ Ib) (hsub : ∀ x, x ∈ Ib → x ∈ I) :
    ∀ r i V τ, r + i = N → 0 < r → τ.pc = bodyPc → τ.halted = none → τ.cnt id = some i →
      SimK C ctx τ e I false (loopFrom run lab.toList r i V).2
        (adjK lab (kind (loopFrom run lab.toList r i V).1)) := by
  intro r i V τ hN hr hpc hh hcnt
  refine loopG (ctx := ctx) (bctx := BI.loop lab e contPc :: ctx) (lab := lab) (e := e) (pre := []) (stk := τ.stack) (L := e) run hbody hnext ?_ ?_ ?_ ?_ rfl hidb hsub r i V τ hN hr hpc hh hcnt rfl
  · intro τ0 τ1 l hstk hc hs hp
    exact ⟨τ1, Reach.refl _, hc.baseStack _, hp, hs.trans hstk⟩
  · intro τ1 lb hm hh1 hE
    obtain ⟨rj, cj⟩ := hE.jump (I := Ib) (rf := false) (t := contPc) (by simp [findBrk, hm]) hh1
    exact ⟨_, rj, cj, rfl, rfl⟩
  · intro τ0 τ1 lb l hm hstk hc hs hE
    obtain ⟨rj, cj⟩ := hE.jump (I := I) (rf := false) (t := e) (by simp [findBrk, hm]) hc.halted
    exact ⟨_, rj, by simpa using (hc.trans cj).baseStack _, rfl, hs.trans hstk⟩
  · intro τ0 τ1 lb b l hm hstk hc hs hE
    exact ⟨τ1, Reach.refl _, hc.baseStack _, hs.trans hstk, hE.pass (by simp [findBrk, hm])⟩

theorem loopEnter {C : Code} {ctx : List BI} {lab : Option Label} {e contPc bodyPc bEnd N id : Nat}
    {I Ib : List Nat} (run : Nat → Res) {σ : VM}
    (hbody : ∀ i τ, τ.pc = bodyPc → τ.halted = none → τ.cnt id = some i →
        SimK C (BI.loop lab e contPc :: ctx) τ bEnd Ib false (run i).2 (kind (run i).1))
    (hnext : ∀ i τ, (τ.pc = bEnd ∨ τ.pc = contPc) → τ.halted = none → τ.cnt id = some i →
        LoopStep C I τ id (i + 1) N bodyPc e)
    (hidb : id ∉ Ib) (hsub : ∀ x, x ∈ Ib → x ∈ I)
    (h0 : LoopStep C I σ id 0 N bodyPc e) :
    SimK C ctx σ e I false (loopFrom run lab.toList N 0 0).2 (adjK lab (kind (loopFrom run lab.toList N 0 0).1)) := by
  obtain ⟨τh, ⟨hr, hc⟩, hs, hif⟩ := h0
  by_cases hn : 0 < N
  · rw [if_pos hn] at hif
    exact SimK.prepend (l1 := []) hr hc hs (loopSim run hbody hnext hidb hsub N 0 0 τh rfl hn hif.1 hc.halted hif.2)
  · rw [if_neg hn] at hif
    have hn0 : N = 0 := by omega
    subst hn0
    exact ⟨τh, hr, hc, hif, hs⟩

/-! ### `for (let …;;)`: the loop runs inside its per-iteration scope (one extra stack slot `x`), which break /
outer continue / the normal exit leave with `leaveBlock 1`, and `continue` of the loop itself does not -/

theorem findBrk_iscope_miss {lb lab : Option Label} {b : Bool} {bp cp : Nat} {ctx : List BI} (hm : labMatch lb lab = false) :
    findBrk lb b (BI.iscope :: BI.loop lab bp cp :: ctx) = peeled (Instr.leaveBlock 1) (findBrk lb b ctx) := by
  simp only [findBrk, hitsHead, hm, Bool.false_eq_true, if_false, Bool.and_false]
  cases findBrk lb b ctx <;> rfl

theorem loopSimLet {C : Code} {ctx : List BI} {lab : Option Label} {L contPc bodyPc bEnd N id : Nat}
    {I Ib : List Nat} {x : Val} {stk : List Val} (run : Nat → Res)
    (hbody : ∀ i τ, τ.pc = bodyPc → τ.halted = none → τ.cnt id = some i →
        SimK C (BI.iscope :: BI.loop lab (L + 1) contPc :: ctx) τ bEnd Ib false (run i).2 (kind (run i).1))
    (hnext : ∀ i τ, (τ.pc = bEnd ∨ τ.pc = contPc) → τ.halted = none → τ.cnt id = some i →
        LoopStep C I τ id (i + 1) N bodyPc L)
    (hL : C[L]? = some (Instr.leaveBlock 1))
    (hidb : id ∉ Ib) (hsub : ∀ x, x ∈ Ib → x ∈ I) :
    ∀ r i V τ, r + i = N → 0 < r → τ.pc = bodyPc → τ.halted = none → τ.cnt id = some i →
      τ.stack = x :: stk →
      SimG C ctx τ { τ with stack := stk } (L + 1) I false (loopFrom run lab.toList r i V).2
        (adjK lab (kind (loopFrom run lab.toList r i V).1)) := by
  have leave1 : ∀ (τ τ1 : VM) (l1 : List Ev), τ.stack = [x] ++ stk → Common τ τ1 l1 I false → τ1.stack = τ.stack →
      Common { τ with stack := stk } (VM.step τ1 (.leaveBlock 1)) l1 I false ∧
      (VM.step τ1 (.leaveBlock 1)).stack = stk ∧ (VM.step τ1 (.leaveBlock 1)).pc = τ1.pc + 1 := by
    intro τ τ1 l1 hstk hc hs
    have c := hc.trans (Common.quiet (i := .leaveBlock 1) rfl hc.halted nofun)
    rw [List.append_nil] at c
    exact ⟨c.baseStack _, by show τ1.stack.drop 1 = stk; rw [hs, hstk]; rfl, rfl⟩
  refine loopG (ctx := ctx) (bctx := BI.iscope :: BI.loop lab (L + 1) contPc :: ctx) (lab := lab) (e := L + 1) (pre := [x]) run hbody hnext ?_ ?_ ?_ ?_ rfl hidb hsub
  · intro τ τ1 l hstk hc hs hp
    obtain ⟨c2, s2, p2⟩ := leave1 τ τ1 l hstk hc hs
    exact ⟨_, Reach.one hc.halted (by rw [hp]; exact hL), c2, by rw [p2, hp], s2⟩
  · intro τ1 lb hm hh1 hE
    obtain ⟨rj, cj⟩ := hE.jump (I := Ib) (rf := false) (t := contPc) (by simp [findBrk, hitsHead, hm]) hh1
    exact ⟨_, rj, cj, rfl, rfl⟩
  · intro τ τ1 lb l hm hstk hc hs hE
    obtain ⟨hi, next⟩ := hE.peel (ctx := BI.loop lab (L + 1) contPc :: ctx) (i := Instr.leaveBlock 1) rfl
    obtain ⟨c2, s2, p2⟩ := leave1 τ τ1 l hstk hc hs
    obtain ⟨rj, cj⟩ := (next _ p2).jump (I := I) (rf := false) (t := L + 1) (by simp [findBrk, hm]) c2.halted
    exact ⟨_, (Reach.one hc.halted hi).trans rj, by simpa using c2.trans cj, rfl, s2⟩
  · intro τ τ1 lb b l hm hstk hc hs hE
    obtain ⟨hi, next⟩ := hE.peel (findBrk_iscope_miss hm)
    obtain ⟨c2, s2, p2⟩ := leave1 τ τ1 l hstk hc hs
    exact ⟨_, Reach.one hc.halted hi, c2, s2, next _ p2⟩

theorem findBrk_forof_hit {lb lab : Option Label} {b : Bool} {bp cp : Nat} {ctx : List BI} (hm : labMatch lb lab = true) :
    findBrk lb b (BI.forof lab bp cp :: ctx) = some ([], if b then bp else cp) := by
  simp [findBrk, hm]

theorem findBrk_forof_miss {lb lab : Option Label} {b : Bool} {bp cp : Nat} {ctx : List BI} (hm : labMatch lb lab = false) :
    findBrk lb b (BI.forof lab bp cp :: ctx) = peeled Instr.enumPopClose (findBrk lb b ctx) := by
  simp only [findBrk, hm, Bool.false_eq_true, if_false]
  cases findBrk lb b ctx <;> rfl

/-! ### for-of: the iterator is opened by iterateP, stepped by iterNext, and closed exactly once: by exhaustion
(enumPop), by a failing next() (popped before the throw), by enumPopClose on break / outer continue / return, or by
handleThrow for a throw out of the body -/

/-- the loop from its head on, the iterator on top of the iterator stack.  Layout (`gen`): `start` iterNext, `start + 1` enumGet,
`start + 2` the body (`lb` instructions), then `jump start`, `enumPop`, `jump 2`, `enumPopClose` (the break target), the end -/
theorem forOfSim {C : Code} {ctx : List BI} {lab : Option Label} {start lb : Nat} {sp : IterSpec}
    {I : List Nat} {rf : Bool} {B : List IterItem} (run : Nat → Res)
    (hbody : ∀ i τ, τ.pc = start + 2 → τ.halted = none → τ.cnt sp.id = some i →
        SimK C (BI.forof lab (start + 2 + lb + 1 + 2) start :: ctx) τ (start + 2 + lb) I rf (run i).2 (kind (run i).1))
    (hN : C[start]? = some (Instr.iterNext (CS.rel (start + 2 + lb + 1) start)))
    (hG : C[start + 1]? = some (Instr.enumGet sp.id))
    (hJ : C[start + 2 + lb]? = some (Instr.jump (CS.rel start (start + 2 + lb))))
    (hP : C[start + 2 + lb + 1]? = some Instr.enumPop)
    (hJ2 : C[start + 2 + lb + 1 + 1]? = some (Instr.jump 2))
    (hPC : C[start + 2 + lb + 1 + 2]? = some Instr.enumPopClose)
    (hidI : sp.id ∈ I) (hNR : rf = true → ∀ i, NR (run i)) :
    ∀ r i V (τ : VM) (it : IterItem), i + r = sp.n + 1 → 0 < r → τ.pc = start → τ.halted = none →
      τ.iters = it :: B → it.sp = some sp → it.idx = i →
      SimG C ctx τ { τ with iters := B } (start + 2 + lb + 1 + 2 + 1) I rf (forOfFrom run sp lab.toList r i V).2
        (adjK lab (kind (forOfFrom run sp lab.toList r i V).1)) := by
  intro r
  induction r with
  | zero => intro i V τ it _ h0; exact absurd h0 (Nat.lt_irrefl 0)
  | succ r ih =>
    intro i V τ it hN' _ hpc hh hit hsp hidx
    subst hidx
    rw [forOfFrom_succ]
    have hiN : C[τ.pc]? = some (Instr.iterNext (CS.rel (start + 2 + lb + 1) start)) := by rw [hpc]; exact hN
    by_cases h1 : sp.nextThrow = some it.idx
    · simp only [h1, if_true]
      let τa : VM := { τ with iters := B, log := τ.log ++ [Ev.itNext sp.id, Ev.itFail sp.id] }
      refine ⟨τa, [], [Ev.itNext sp.id, Ev.itFail sp.id], (List.append_nil _).symm,
        ⟨rfl, rfl, rfl, hh, fun _ _ => rfl, fun _ => rfl⟩, ⟨[], rfl⟩, ?_⟩
      rw [← step_iterNext_fail _ hit hsp h1]; exact Reach.one hh hiN
    · by_cases h2 : sp.n ≤ it.idx
      · simp only [h1, h2, if_false, if_true]
        let τ1 : VM := { τ with iters := { it with sp := none } :: B, log := τ.log ++ [Ev.itNext sp.id, Ev.itDone sp.id],
                                pc := start + 2 + lb + 1 }
        let τ2 : VM := { τ1 with iters := B, pc := start + 2 + lb + 1 + 1 }
        let τ3 : VM := { τ2 with pc := start + 2 + lb + 1 + 1 + 2 }
        have s1 : VM.step τ (.iterNext (CS.rel (start + 2 + lb + 1) start)) = τ1 := by
          rw [step_iterNext_done _ hit hsp h1 h2, hpc, jmp_rel]
        refine ⟨τ3, Reach.stepTo hh hiN s1 (Reach.stepTo hh hP (step_enumPop τ1) (Reach.stepTo hh hJ2 (step_jump_nat τ2 2) (Reach.refl _))),
          ?_, rfl, rfl⟩
        exact ⟨rfl, rfl, rfl, hh, fun _ _ => rfl, fun _ => rfl⟩
      · simp only [h1, h2, if_false]
        let it' : IterItem := { it with val := it.idx, idx := it.idx + 1 }
        let τn : VM := { τ with iters := it' :: B, log := τ.log ++ [Ev.itNext sp.id], pc := start + 1 }
        let τb : VM := { τn with cnt := fun x => if x = sp.id then some it.idx else τ.cnt x, pc := start + 1 + 1 }
        have s1 : VM.step τ (.iterNext (CS.rel (start + 2 + lb + 1) start)) = τn := by
          rw [step_iterNext_more _ hit hsp h1 h2, hpc]
        have hrb : Reach C τ τb :=
          Reach.stepTo hh hiN s1 (Reach.stepTo hh hG (step_enumGet (τ := τn) sp.id rfl) (Reach.refl _))
        have hb := hbody it.idx τb rfl hh (if_pos rfl)
        have base_b : Common { τ with iters := B } { τb with iters := B } [Ev.itNext sp.id] I rf :=
          ⟨rfl, rfl, rfl, hh, fun x hx => by
            exact if_neg (fun h : x = sp.id => hx (h ▸ hidI)), fun _ => rfl⟩
        have hr0 : 0 < r := by omega
        have again : ∀ (τ1 : VM) (l1 : List Ev) (V' : Val), Reach C τb τ1 → Common τb τ1 l1 I rf → τ1.stack = τb.stack →
            τ1.pc = start →
            SimG C ctx τ { τ with iters := B } (start + 2 + lb + 1 + 2 + 1) I rf
              (Ev.itNext sp.id :: (l1 ++ (forOfFrom run sp lab.toList r (it.idx + 1) V').2))
              (adjK lab (kind (forOfFrom run sp lab.toList r (it.idx + 1) V').1)) := by
          intro τ1 l1 V' hr1 hc1 hs1 hp1
          have A := ih (it.idx + 1) V' τ1 it' (by omega) hr0 hp1 hc1.halted (by rw [hc1.iters]) hsp rfl
          have hc : Common { τ with iters := B } { τ1 with iters := B } ([Ev.itNext sp.id] ++ l1) I rf :=
            base_b.trans (hc1.setIters B)
          have := SimG.prependG (src := τ) (base := { τ with iters := B }) (midB := { τ1 with iters := B })
            (hrb.trans hr1) hc (by show τ1.stack = τ.stack; rw [hs1]) A
          simpa using this
        -- the iterator is closed by enumPopClose standing at τ1.pc; `st`, of kind `k0`, is the pending completion: if return()
        -- succeeds it goes on from the next pc (`hok`), otherwise the error of return() is thrown in its place
        have closing : ∀ (τ1 : VM) (l1 : List Ev) (st : Compl) (k0 k' : K), kind st = k0 → (∀ w, k0 ≠ K.thr w) → k0 ≠ K.fatal →
            adjK lab (exitK k0) = k' → Reach C τb τ1 → Common τb τ1 l1 I rf →
            C[τ1.pc]? = some Instr.enumPopClose → (∃ xs, τ1.stack = xs ++ τ.stack) →
            (∀ τ2, Reach C τ τ2 → Common { τ with iters := B } τ2 (Ev.itNext sp.id :: (l1 ++ [Ev.itRet sp.id])) I rf →
              τ2.stack = τ1.stack → τ2.pc = τ1.pc + 1 →
              SimG C ctx τ { τ with iters := B } (start + 2 + lb + 1 + 2 + 1) I rf
                (Ev.itNext sp.id :: (l1 ++ [Ev.itRet sp.id])) k') →
            SimG C ctx τ { τ with iters := B } (start + 2 + lb + 1 + 2 + 1) I rf
              (Ev.itNext sp.id :: (l1 ++ (iteratorClose sp st).2))
              (adjK lab (kind (iteratorClose sp st).1.exitBreakable)) := by
          intro τ1 l1 st k0 k' hk0 hnt hnf hk' hr1 hc1 hC1 hstk hok
          let τcl : VM := { τ1 with iters := B, log := τ1.log ++ [Ev.itRet sp.id] }
          have hccl : Common { τ with iters := B } τcl (Ev.itNext sp.id :: (l1 ++ [Ev.itRet sp.id])) I rf := by
            have c3 : Common { τ1 with iters := B } τcl [Ev.itRet sp.id] I rf :=
              ⟨rfl, rfl, rfl, hc1.halted, fun _ _ => rfl, fun _ => rfl⟩
            simpa using (base_b.trans (hc1.setIters B)).trans c3
          have hr := Reach.one hc1.halted hC1
          rw [step_enumPopClose (hc1.iters.trans rfl) (show it'.sp = some sp from hsp)] at hr
          rw [iteratorClose_pending sp st (fun w h => hnt w (by rw [← hk0, h]; rfl)) (fun h => hnf (by rw [← hk0, h]; rfl))]
          revert hr
          cases sp.ret <;> intro hr
          · rw [kind_exitBreakable, hk0, hk']
            exact hok _ (hrb.trans (hr1.trans hr)) (hccl.setPcStack (τ1.pc + 1) τ1.stack) rfl rfl
          · exact ⟨τcl, [], _, (List.append_nil _).symm, hccl.toT, hstk, hrb.trans (hr1.trans hr)⟩
          · exact ⟨τcl, [], _, (List.append_nil _).symm, hccl.toT, hstk, hrb.trans (hr1.trans hr)⟩
        have back : ∀ (τ1 : VM) (l1 : List Ev) (V' : Val), Reach C τb τ1 → Common τb τ1 l1 I rf → τ1.stack = τb.stack →
            Reach C τ1 { τ1 with pc := start } ∧ Common τ1 { τ1 with pc := start } [] I rf →
            SimG C ctx τ { τ with iters := B } (start + 2 + lb + 1 + 2 + 1) I rf
              (Ev.itNext sp.id :: (l1 ++ (forOfFrom run sp lab.toList r (it.idx + 1) V').2))
              (adjK lab (kind (forOfFrom run sp lab.toList r (it.idx + 1) V').1)) := by
          intro τ1 l1 V' hr1 hc1 hs1 ⟨rj, cj⟩
          exact again _ l1 V' (hr1.trans rj) (by simpa using hc1.trans cj) hs1 rfl
        cases hri : run it.idx with
        | mk c l =>
          rw [hri] at hb
          simp only at hb ⊢
          cases c with
          | normal v =>
            obtain ⟨τ1, h1, h2, h3, h4⟩ := hb
            have := back τ1 l ((Compl.normal v).value.getD V) h1 h2 h4 (runJump hJ h3 h2.halted)
            simpa [loopContinues] using this
          | cont lq v =>
            obtain ⟨τ1, h1, h2, h3, hE⟩ := hb
            have hlc := loopContinues_cont lab lq v
            by_cases hm : labMatch lq lab = true
            · have := back τ1 l ((Compl.cont lq v).value.getD V) h1 h2 h3
                (hE.jump (t := start) (findBrk_forof_hit hm) h2.halted)
              simpa [hlc, hm] using this
            · have hm' : labMatch lq lab = false := by simpa using hm
              obtain ⟨hi, next⟩ := hE.peel (findBrk_forof_miss hm')
              simp only [hlc, hm', Bool.false_eq_true, if_false]
              exact closing τ1 l _ (K.cont lq) _ (kind_updateEmpty _ V) (fun _ => nofun) nofun rfl h1 h2 hi ⟨[], h3⟩
                (fun τ2 r1 r2 r3 r4 => ⟨τ2, r1, r2, r3.trans h3, next _ r4⟩)
          | brk lq v =>
            obtain ⟨τ1, h1, h2, h3, hE⟩ := hb
            simp only [loopContinues, Bool.false_eq_true, if_false]
            by_cases hm : labMatch lq lab = true
            · -- break of this loop: jump to the trailing enumPopClose
              obtain ⟨rj, cj⟩ := hE.jump (I := I) (rf := rf) (t := start + 2 + lb + 1 + 2) (findBrk_forof_hit hm)
                h2.halted
              exact closing { τ1 with pc := start + 2 + lb + 1 + 2 } l _ (K.brk lq) _ (kind_updateEmpty _ V) (fun _ => nofun) nofun
                (adjK_exitK_hit hm) (h1.trans rj) (by simpa using h2.trans cj) hPC ⟨[], h3⟩
                (fun τ2 r1 r2 r3 r4 => ⟨τ2, r1, r2, r4, r3.trans h3⟩)
            · have hm' : labMatch lq lab = false := by simpa using hm
              obtain ⟨hi, next⟩ := hE.peel (findBrk_forof_miss hm')
              exact closing τ1 l _ (K.brk lq) _ (kind_updateEmpty _ V) (fun _ => nofun) nofun (adjK_exitK_miss hm') h1 h2
                hi ⟨[], h3⟩ (fun τ2 r1 r2 r3 r4 => ⟨τ2, r1, r2, r3.trans h3, next _ r4⟩)
          | ret v =>
            obtain ⟨τ1, h1, h2, ⟨xs, h3⟩, h4⟩ := hb
            simp only [loopContinues, Bool.false_eq_true, if_false]
            simp only [retExitsS, List.cons_append] at h4
            have hrf : rf = false := by
              cases hr : rf with
              | false => rfl
              | true => exact absurd (by rw [hri]; rfl) (hNR hr it.idx v)
            subst hrf
            exact closing τ1 l _ (K.ret v) _ rfl (fun _ => nofun) nofun rfl h1 h2 (codeAt_head h4) ⟨v :: xs, h3⟩
              (fun τ2 r1 r2 r3 r4 => ⟨τ2, r1, r2, ⟨xs, r3.trans h3⟩, by rw [r4]; exact codeAt_tail h4⟩)
          | thr v =>
            obtain ⟨τ1, its, l0, hl, h2, ⟨xs, h3⟩, h4⟩ := hb
            simp only [loopContinues, Bool.false_eq_true, if_false]
            have hk : adjK lab (kind (iteratorClose sp ((Compl.thr v).updateEmpty V)).1.exitBreakable) = K.thr v := rfl
            rw [hk]
            have hl2 : (iteratorClose sp ((Compl.thr v).updateEmpty V)).2 = [Ev.itRet sp.id] := rfl
            rw [hl2]
            refine ⟨τ1, its ++ [it'], Ev.itNext sp.id :: l0, ?_, ?_, ⟨xs, h3⟩, hrb.trans h4⟩
            · rw [hl, clEv_append]; simp [clEv, it', hsp]
            · have hb2 : Common { τ with iters := (its ++ [it']) ++ B } { τb with iters := its ++ τb.iters } [Ev.itNext sp.id] I rf :=
                ⟨rfl, rfl, by simp [τb, τn], hh, fun x hx => by
                  have : x ≠ sp.id := fun h => hx (by rw [h]; exact hidI)
                  simp [τb, this], fun _ => rfl⟩
              have := hb2.trans h2
              simpa using this
          | fatal =>
            obtain ⟨τ1, h1, h2, h3⟩ := hb
            simp only [loopContinues, Bool.false_eq_true, if_false]
            refine ⟨τ1, hrb.trans h1, ?_, h3⟩
            rw [h2]; simp [τb, τn, iteratorClose, Compl.updateEmpty]

def catchSeg (hasC : Bool) (i lc : Nat) (gc : List Instr) : List Instr :=
  if hasC then [Instr.jump (Int.ofNat (3 + lc + 1)), Instr.enterBlock 0, Instr.catchLog i] ++ gc ++ [Instr.leaveBlock 1] else []

def finSeg (hasF : Bool) (i : Nat) (gf : List Instr) : List Instr :=
  if hasF then [Instr.enterFinally, Instr.emit (Ev.finE i)] ++ gf ++ [Instr.leaveFinally] else [Instr.leaveTry]

theorem catchSeg_length (hasC : Bool) (i : Nat) {lc : Nat} {gc : List Instr} (h : gc.length = lc) :
    (catchSeg hasC i lc gc).length = if hasC then 3 + lc + 1 else 0 := by
  cases hasC <;> simp [catchSeg, h]; omega

theorem catchSeg_parts {C : Code} {p i lc : Nat} {gc : List Instr} (h : gc.length = lc) (hC : CodeAt C p (catchSeg true i lc gc)) :
    C[p]? = some (Instr.jump (Int.ofNat (3 + lc + 1))) ∧ C[p + 1]? = some (Instr.enterBlock 0) ∧
    C[p + 1 + 1]? = some (Instr.catchLog i) ∧ CodeAt C (p + 3) gc ∧ C[p + 3 + lc]? = some (Instr.leaveBlock 1) := by
  obtain ⟨h01, h2⟩ := codeAt_append.1 (show CodeAt C p (_ ++ [Instr.leaveBlock 1]) from hC)
  obtain ⟨h0, h1⟩ := codeAt_append.1 h01
  exact ⟨h0.at 0, h0.at 1, h0.at 2, h1,
    by subst h; have := codeAt_head h2; rw [List.length_append, ← Nat.add_assoc] at this; exact this⟩

theorem finSeg_parts {C : Code} {q i lf : Nat} {gf : List Instr} (h : gf.length = lf) (hC : CodeAt C q (finSeg true i gf)) :
    C[q]? = some Instr.enterFinally ∧ C[q + 1]? = some (Instr.emit (Ev.finE i)) ∧ CodeAt C (q + 2) gf ∧
    C[q + 2 + lf]? = some Instr.leaveFinally := by
  obtain ⟨h01, h2⟩ := codeAt_append.1 (show CodeAt C q (_ ++ [Instr.leaveFinally]) from hC)
  obtain ⟨h0, h1⟩ := codeAt_append.1 h01
  exact ⟨h0.at 0, h0.at 1, h1,
    by subst h; have := codeAt_head h2; rw [List.length_append, ← Nat.add_assoc] at this; exact this⟩

theorem tryParts {C : Code} {pc i lb lc : Nat} {hasC hasF : Bool} {co fo : Nat} {gb gc gf : List Instr}
    (hb : gb.length = lb) (hc : gc.length = lc)
    (h : CodeAt C pc ([Instr.try_ co fo] ++ (if hasF then [Instr.emit (Ev.tryE i)] else []) ++ gb ++ catchSeg hasC i lc gc
          ++ finSeg hasF i gf)) :
    C[pc]? = some (Instr.try_ co fo) ∧ (hasF = true → C[pc + 1]? = some (Instr.emit (Ev.tryE i))) ∧
    CodeAt C (pc + 1 + (if hasF then 1 else 0)) gb ∧
    CodeAt C (pc + 1 + (if hasF then 1 else 0) + lb) (catchSeg hasC i lc gc) ∧
    CodeAt C (pc + 1 + (if hasF then 1 else 0) + lb + (if hasC then 3 + lc + 1 else 0)) (finSeg hasF i gf) := by
  have hl : ([Instr.try_ co fo] ++ (if hasF then [Instr.emit (Ev.tryE i)] else [])).length = 1 + (if hasF then 1 else 0) := by
    cases hasF <;> rfl
  obtain ⟨⟨⟨h01, h2⟩, h3⟩, h4⟩ := (by simpa only [codeAt_append, List.length_append, hl, hb, catchSeg_length hasC i hc,
    ← Nat.add_assoc] using h)
  exact ⟨codeAt_head h01.1, fun hF => by subst hF; exact codeAt_head h01.2, h2, h3, h4⟩

/-- the try block followed by the catch clause: where the VM is afterwards, with the try frame still on the stack; its catch
position `cp` is as it was, or cleared when the clause has run.  `p` = pc after the try block. -/
theorem catchStage {C : Code} {ctx : List BI} {σ1 : VM} {p lc env cur i : Nat} {hasC : Bool}
    {I : List Nat} {g0 : TryFrame} {rest : List TryFrame} {rb : Res} {rc : Unit → Res} {gc : List Instr}
    (ht : σ1.tries = g0 :: rest)
    (hg0c : g0.catchPos = if hasC then some (p + 1) else none) (hg0sp : g0.sp = σ1.stack.length)
    (hg0il : g0.iterLen = σ1.iters.length)
    (hcnt : σ1.cnt cur = some env) (hcurI : cur ∉ I)
    (hB : SimK C (BI.try_ :: ctx) σ1 p I false rb.2 (kind rb.1))
    (hlc : gc.length = lc) (hC : CodeAt C p (catchSeg hasC i lc gc))
    (hCs : hasC = true → ∀ τ : VM, τ.pc = p + 3 → τ.halted = none → τ.cnt cur = some env →
        SimK C (BI.scope 1 :: BI.try_ :: ctx) τ (p + 3 + lc) I false (rc ()).2 (kind (rc ()).1)) :
    ∃ cp : Option Nat, (∀ v, kind (catchPart i rb hasC rc).1 = K.thr v → cp = none) ∧
      SimG C (BI.try_ :: ctx) σ1 { σ1 with tries := { g0 with catchPos := cp } :: rest } (p + (if hasC then 3 + lc + 1 else 0))
        I false (catchPart i rb hasC rc).2 (kind (catchPart i rb hasC rc).1) := by
  have hself : ({ σ1 with tries := { g0 with catchPos := g0.catchPos } :: rest } : VM) = σ1 := by
    show ({ σ1 with tries := g0 :: rest } : VM) = σ1
    rw [← ht]
  cases hasC with
  | false =>
    refine ⟨g0.catchPos, fun _ _ => hg0c, ?_⟩
    rw [catchPart_false, hself]
    exact hB
  | true =>
    obtain ⟨hJ, hEB, hCL, -, hLB⟩ := catchSeg_parts hlc hC
    have hCs := hCs rfl
    simp only [if_true] at hg0c ⊢
    -- unless the try block threw, the catch clause does not run and the frame is as it was
    have skip : (∀ v, kind rb.1 ≠ K.thr v) → kind rb.1 ≠ K.normal → catchPart i rb true rc = rb →
        ∃ cp : Option Nat, (∀ v, kind (catchPart i rb true rc).1 = K.thr v → cp = none) ∧
          SimG C (BI.try_ :: ctx) σ1 { σ1 with tries := { g0 with catchPos := cp } :: rest } (p + (3 + lc + 1)) I false
            (catchPart i rb true rc).2 (kind (catchPart i rb true rc).1) := by
      intro hnt hnn e
      rw [e]
      exact ⟨g0.catchPos, fun v hv => absurd hv (hnt v), by rw [hself]; exact SimK.end_irrel hnn hB⟩
    obtain ⟨cb, lbl⟩ := rb
    cases cb with
    | normal v =>
      refine ⟨g0.catchPos, (fun _ => nofun), ?_⟩
      rw [hself]
      obtain ⟨τ, h1, h2, h3, h4⟩ := hB
      have e := step_jump_nat τ (3 + lc + 1)
      refine ⟨_, h1.trans (Reach.one h2.halted (by rw [h3]; exact hJ)), ?_, by rw [e, h3], by rw [e]; exact h4⟩
      rw [e]; exact h2.setPcStack _ _
    | brk l v | cont l v | ret v | fatal => exact skip (fun _ => nofun) nofun rfl
    | thr v =>
      obtain ⟨τt, its, l0, hl, hc, ⟨xs, hs⟩, hr⟩ := hB
      have hl' : lbl = l0 ++ clEv its := hl
      let gc' : TryFrame := { g0 with catchPos := none }
      -- handleThrow lands in the catch clause; `enterBlock 0; catchLog` lead to the clause body
      have e0 := throw_to_catch (v := v) (hc.tries.trans ht) hg0c hc.iters hg0il hs hg0sp
      let τc2 : VM := { τt with stack := v :: σ1.stack, pc := p + 1 + 1 + 1, tries := gc' :: rest, iters := σ1.iters,
                                log := τt.log ++ clEv its ++ [Ev.caught i v] }
      have hr2 : Reach C σ1 τc2 := by
        refine hr.trans ?_
        rw [e0]
        exact Reach.stepTo hc.halted hEB rfl (Reach.stepTo hc.halted hCL (step_catchLog i rfl) (Reach.refl _))
      have hc0 : Common { σ1 with tries := gc' :: rest } τc2 (lbl ++ [Ev.caught i v]) I false :=
        ⟨by show τt.log ++ clEv its ++ [Ev.caught i v] = σ1.log ++ (lbl ++ [Ev.caught i v])
            rw [hc.log, hl']; simp only [List.append_assoc],
          rfl, rfl, hc.halted, hc.cnt, nofun⟩
      have cs := hCs τc2 rfl hc.halted (by show τt.cnt cur = some env; rw [hc.cnt cur hcurI]; exact hcnt)
      have W := wrapBlock (src := σ1) (base := { σ1 with tries := gc' :: rest }) [v] (peels_scope 1) rfl rfl rfl (fun _ => rfl)
        hr2 hc0 rfl hLB cs
      refine ⟨none, fun _ _ => rfl, ?_⟩
      rw [← Nat.add_assoc, ← Nat.add_assoc]
      simpa [catchPart, List.append_assoc] using W

theorem trySim {C : Code} {ctx : List BI} {σ : VM} {pc lb lc lf env cur i : Nat} {hasC hasF : Bool}
    {I If : List Nat} {rb : Res} {rc rff : Unit → Res} {gb gc gf : List Instr}
    (hpc : σ.pc = pc) (hh : σ.halted = none) (hcnt : σ.cnt cur = some env) (hcurI : cur ∉ I)
    (hsubF : ∀ x, x ∈ If → x ∈ I)
    (hlb : gb.length = lb) (hlc : gc.length = lc) (hlf : gf.length = lf)
    (hC : CodeAt C pc ([Instr.try_ (if hasC then 1 + (if hasF then 1 else 0) + lb + 1 else 0)
            (if hasF then 1 + (if hasF then 1 else 0) + lb + (if hasC then 3 + lc + 1 else 0) + 1 else 0)]
          ++ (if hasF then [Instr.emit (Ev.tryE i)] else []) ++ gb ++ catchSeg hasC i lc gc ++ finSeg hasF i gf))
    (hB : ∀ τ : VM, τ.pc = pc + 1 + (if hasF then 1 else 0) → τ.halted = none → τ.cnt cur = some env →
        SimK C (BI.try_ :: ctx) τ (pc + 1 + (if hasF then 1 else 0) + lb) I false rb.2 (kind rb.1))
    (hCs : hasC = true → ∀ τ : VM, τ.pc = pc + 1 + (if hasF then 1 else 0) + lb + 3 → τ.halted = none → τ.cnt cur = some env →
        SimK C (BI.scope 1 :: BI.try_ :: ctx) τ (pc + 1 + (if hasF then 1 else 0) + lb + 3 + lc) I false (rc ()).2 (kind (rc ()).1))
    (hFs : hasF = true → ∀ τ : VM,
        τ.pc = pc + 1 + (if hasF then 1 else 0) + lb + (if hasC then 3 + lc + 1 else 0) + 2 → τ.halted = none → τ.cnt cur = some env →
        SimK C (BI.try_ :: ctx) τ (pc + 1 + (if hasF then 1 else 0) + lb + (if hasC then 3 + lc + 1 else 0) + 2 + lf) If false
          (rff ()).2 (kind (rff ()).1)) :
    SimK C ctx σ (pc + 1 + (if hasF then 1 else 0) + lb + (if hasC then 3 + lc + 1 else 0) + (if hasF then 2 + lf + 1 else 1))
      I false (tryRes i rb hasC rc hasF rff).2 (kind (tryRes i rb hasC rc hasF rff).1) := by
  obtain ⟨hT, hTE, -, hcs, hfs⟩ := tryParts hlb hlc hC
  generalize hq : pc + 1 + (if hasF then 1 else 0) + lb + (if hasC then 3 + lc + 1 else 0) = q at *
  let tf0 : TryFrame :=
    { iterLen := σ.iters.length, sp := σ.stack.length,
      catchPos := if hasC then some (pc + 1 + (if hasF then 1 else 0) + lb + 1) else none,
      finallyPos := if hasF then some (q + 1) else none }
  let σ1 : VM := { σ with tries := tf0 :: σ.tries, pc := pc + 1 + (if hasF then 1 else 0),
                          log := σ.log ++ (if hasF then [Ev.tryE i] else []) }
  have hr1 : Reach C σ σ1 := by
    have e0 : VM.step σ (.try_ (if hasC then 1 + (if hasF then 1 else 0) + lb + 1 else 0)
        (if hasF then 1 + (if hasF then 1 else 0) + lb + (if hasC then 3 + lc + 1 else 0) + 1 else 0))
        = { σ with tries := tf0 :: σ.tries, pc := pc + 1 } := by
      rw [step_try, hpc]
      subst hq
      cases hasC <;> cases hasF <;> simp [tf0, ← Nat.add_assoc]
    refine Reach.stepTo hh (hpc ▸ hT) e0 ?_
    cases hasF with
    | false => simp only [σ1, Bool.false_eq_true, if_false, List.append_nil, Nat.add_zero]; exact Reach.refl _
    | true => exact Reach.stepTo hh (hTE rfl) rfl (Reach.refl _)
  obtain ⟨cp, hgthr, hA⟩ := catchStage (C := C) (ctx := ctx) (σ1 := σ1) (i := i) (g0 := tf0) (rest := σ.tries)
    (rb := rb) (rc := rc) rfl rfl rfl rfl hcnt hcurI (hB σ1 rfl hh hcnt) hlc hcs hCs
  rw [hq] at hA
  have hc1 : Common σ { σ1 with tries := σ.tries } (if hasF then [Ev.tryE i] else []) I false :=
    ⟨rfl, rfl, rfl, hh, fun _ _ => rfl, nofun⟩
  cases hasF with
  | true =>
    obtain ⟨hE, hM, -, hL⟩ := finSeg_parts hlf hfs
    simp only [tryRes, if_true]
    by_cases hfat : (catchPart i rb hasC rc).1 = .fatal
    · rw [finPart_fatal i rff hfat]
      rw [hfat] at hA
      obtain ⟨τ, h1, h2, h3⟩ := hA
      exact ⟨τ, hr1.trans h1, by rw [h2]; simp [σ1], h3⟩
    · have hnf : kind (catchPart i rb hasC rc).1 ≠ K.fatal := fun h => hfat (kind_eq_fatal h)
      have S := finallyStage (base := { σ1 with tries := { tf0 with catchPos := cp } :: σ.tries }) (cur := cur) (env := env)
        (lf := lf) (i := i) (If := If) rfl rfl rfl rfl rfl hgthr hnf rfl hcnt hcurI hsubF hE hM hL (hFs rfl) hA
      obtain ⟨hk, hl⟩ := kind_finPart i (catchPart i rb hasC rc) rff hfat
      rw [hk, hl, ← Nat.add_assoc q, ← Nat.add_assoc q]
      exact SimG.prependG (src := σ) (base := σ) hr1 hc1 rfl S
  | false =>
    have S := noFinallyStage (base := { σ1 with tries := { tf0 with catchPos := cp } :: σ.tries }) rfl hgthr rfl
      (codeAt_head hfs) hA
    simp only [tryRes, Bool.false_eq_true, if_false]
    rw [kind_updateEmpty]
    exact SimG.prependG (src := σ) (base := σ) hr1 hc1 rfl S

theorem swTest {C : Code} {σ : VM} {p sel m t : Nat} {st : List Val}
    (hC : CodeAt C p [Instr.dup, Instr.loadVal m, Instr.strictEq, Instr.jneP 3, Instr.pop, Instr.jump (CS.rel t (p + 5))])
    (hpc : σ.pc = p) (hh : σ.halted = none) (hst : σ.stack = sel :: st) :
    Reach C σ (if sel = m then { σ with pc := t, stack := st } else { σ with pc := p + 6 }) := by
  subst hpc
  have i0 := hC.at 0
  have i1 := hC.at 1
  have i2 := hC.at 2
  have i3 := hC.at 3
  have i4 := hC.at 4
  have i5 := hC.at 5
  have r3 : Reach C σ { σ with pc := σ.pc + 1 + 1 + 1, stack := VM.boolV (sel == m) :: sel :: st } :=
    Reach.stepTo hh i0 (step_dup hst) (Reach.stepTo hh i1 (step_loadVal _ m) (Reach.stepTo hh i2 (step_strictEq rfl)
      (Reach.refl _)))
  refine r3.trans ?_
  by_cases hs : sel = m
  · rw [if_pos hs, show (sel == m) = true by simpa using hs]
    exact Reach.stepTo hh i3 (step_jneP_next 3 rfl (by decide)) (Reach.stepTo hh i4 (step_pop rfl)
      (Reach.stepTo hh i5 (step_jump_rel t rfl) (Reach.refl _)))
  · rw [if_neg hs, show (sel == m) = false by simpa using hs]
    exact Reach.stepTo hh i3 ((step_jneP_taken 3 rfl).trans (by rw [← hst])) (Reach.refl _)

/-- induction hypothesis of `sim` for one statement.  `lab` is the label a directly enclosing labelled statement hands to a loop
(`gen`, like compileLabeledStatement, lets the loop block carry it; a statement that is no loop gets none), `ls` the label set
`exec` runs the loop with; the compiled loop consumes `break lab` itself, which `exec` leaves to the labelled statement: `adj lab` -/
def SimAt (s : Stmt) : Prop :=
  ∀ (cur : Nat) (lab : Option Label) (ls : List Label) (ctx : List BI) (pc : Nat) (C : Code) (σ : VM) (env : Nat),
    stage1 s = true → ls = lab.toList → (isLoop s = false → lab = none) → cur ∉ ids s →
    Instr.nop ∉ gen s cur lab ctx pc → CodeAt C pc (gen s cur lab ctx pc) →
    σ.pc = pc → σ.halted = none → σ.cnt cur = some env →
    Sim C ctx σ (pc + glen s lab (ctx.map BI.shape)) (ids s) false (adj lab (exec env ls s))

theorem SimAt.run {s : Stmt} (h : SimAt s) {cur : Nat} {ctx : List BI} {pc : Nat} {C : Code} {σ : VM} {env : Nat}
    (hst : stage1 s = true) (hcur : cur ∉ ids s) (hnop : Instr.nop ∉ gen s cur none ctx pc)
    (hC : CodeAt C pc (gen s cur none ctx pc)) (hpc : σ.pc = pc) (hh : σ.halted = none) (hcnt : σ.cnt cur = some env) :
    SimK C ctx σ (pc + glen s none (ctx.map BI.shape)) (ids s) false (exec env [] s).2 (kind (exec env [] s).1) := by
  have := h cur none [] ctx pc C σ env hst rfl (fun _ => rfl) hcur hnop hC hpc hh hcnt
  rwa [adj_none] at this

theorem SimAt.body {s : Stmt} (h : SimAt s) {id : Nat} {bctx : List BI} {p lb : Nat} {C : Code}
    (hst : stage1 s = true) (hid : id ∉ ids s) (hnop : Instr.nop ∉ gen s id none bctx p)
    (hC : CodeAt C p (gen s id none bctx p)) (hlb : glen s none (bctx.map BI.shape) = lb) :
    ∀ (i : Nat) (τ : VM), τ.pc = p → τ.halted = none → τ.cnt id = some i →
      SimK C bctx τ (p + lb) (ids s) false (exec i [] s).2 (kind (exec i [] s).1) :=
  fun _ _ hp hh hc => hlb ▸ h.run hst hid hnop hC hp hh hc

theorem SimAt.of_plain {s : Stmt} (hl : isLoop s = false)
    (h : ∀ (cur : Nat) (ctx : List BI) (pc : Nat) (C : Code) (σ : VM) (env : Nat),
      stage1 s = true → cur ∉ ids s → Instr.nop ∉ gen s cur none ctx pc → CodeAt C pc (gen s cur none ctx pc) →
      σ.pc = pc → σ.halted = none → σ.cnt cur = some env →
      Sim C ctx σ (pc + glen s none (ctx.map BI.shape)) (ids s) false (exec env [] s)) : SimAt s := by
  intro cur lab ls ctx pc C σ env hst hls hlab hcur hnop hC hpc hh hcnt
  obtain rfl := hlab hl
  subst hls
  rw [adj_none]
  exact h cur ctx pc C σ env hst hcur hnop hC hpc hh hcnt

theorem SimAt.of_loop {k : LoopKind} {id n : Nat} {body : Stmt}
    (h : ∀ (cur : Nat) (lab : Option Label) (ctx : List BI) (pc : Nat) (C : Code) (σ : VM),
      stage1 body = true → id ∉ ids body → Instr.nop ∉ gen (Stmt.loop k id n body) cur lab ctx pc →
      CodeAt C pc (gen (Stmt.loop k id n body) cur lab ctx pc) → σ.pc = pc → σ.halted = none →
      SimK C ctx σ (pc + glen (Stmt.loop k id n body) lab (ctx.map BI.shape)) (ids (Stmt.loop k id n body))
        false (loopFrom (fun i => exec i [] body) lab.toList (iterations k n) 0 0).2
        (adjK lab (kind (loopFrom (fun i => exec i [] body) lab.toList (iterations k n) 0 0).1))) :
    SimAt (Stmt.loop k id n body) := by
  intro cur lab ls ctx pc C σ env hst hls hlab hcur hnop hC hpc hh hcnt
  subst hls
  unfold Sim
  rw [kind_adj, adj_snd]
  exact h cur lab ctx pc C σ (stage1_loop hst).2.1 (stage1_loop hst).2.2 hnop hC hpc hh

theorem sim_skip : SimAt Stmt.skip := by
  refine SimAt.of_plain rfl fun cur ctx pc C σ env hst hcur hnop hC hpc hh hcnt => ?_
  exact ⟨σ, Reach.refl σ, Common.rfl' hh, hpc, rfl⟩

theorem sim_log (k : Nat) : SimAt (Stmt.log k) := by
  refine SimAt.of_plain rfl fun cur ctx pc C σ env hst hcur hnop hC hpc hh hcnt => ?_
  obtain ⟨r, c⟩ := Run.emit (I := ids (Stmt.log k)) (hpc ▸ codeAt_head hC) hh
  exact ⟨_, r, c, congrArg (· + 1) hpc, rfl⟩

theorem sim_seq {a b : Stmt} (iha : SimAt a) (ihb : SimAt b) : SimAt (Stmt.seq a b) := by
  refine SimAt.of_plain rfl fun cur ctx pc C σ env hst hcur hnop hC hpc hh hcnt => ?_
  replace hst := stage1_seq hst
  have hcurI := hcur
  simp only [ids, List.mem_append, not_or] at hcur
  simp only [gen] at hnop hC
  rw [codeAt_append, gen_length] at hC
  have hna : Instr.nop ∉ gen a cur none ctx pc := fun h => hnop (List.mem_append_left _ h)
  have hnb : Instr.nop ∉ gen b cur none ctx (pc + glen a none (ctx.map BI.shape)) :=
    fun h => hnop (List.mem_append_right _ h)
  have A := iha.run hst.1 hcur.1 hna hC.1 hpc hh hcnt
  have hIa : ∀ x, x ∈ ids a → x ∈ ids (Stmt.seq a b) := fun x hx => by simp [ids, hx]
  have hIb : ∀ x, x ∈ ids b → x ∈ ids (Stmt.seq a b) := fun x hx => by simp [ids, hx]
  have := simSeq (e2 := pc + glen (Stmt.seq a b) none (ctx.map BI.shape))
    (ra := exec env [] a) (rb := fun _ => exec env [] b) (SimK.mono A hIa)
    (fun τ hr hc hp hs => by
      have hcn : τ.cnt cur = some env := (hc.cnt cur hcurI).trans hcnt
      have B := ihb.run hst.2 hcur.2 hnb hC.2 hp hc.halted hcn
      have e : pc + glen (Stmt.seq a b) none (ctx.map BI.shape)
          = pc + glen a none (ctx.map BI.shape) + glen b none (ctx.map BI.shape) := by
        simp [glen, Nat.add_assoc]
      rw [e]
      exact SimK.mono B hIb)
  simpa [Sim, exec] using this

theorem sim_brk (l : Option Label) : SimAt (Stmt.brk l) :=
  SimAt.of_plain rfl fun _ _ _ _ σ _ _ _ hnop hC hpc hh _ =>
    ⟨σ, Reach.refl σ, Common.rfl' hh, rfl, ExitPt.here l true hpc hnop hC⟩

theorem sim_cont (l : Option Label) : SimAt (Stmt.cont l) :=
  SimAt.of_plain rfl fun _ _ _ _ σ _ _ _ hnop hC hpc hh _ =>
    ⟨σ, Reach.refl σ, Common.rfl' hh, rfl, ExitPt.here l false hpc hnop hC⟩

theorem sim_ret (v : Val) : SimAt (Stmt.ret v) := by
  refine SimAt.of_plain rfl fun cur ctx pc C σ env hst hcur hnop hC hpc hh hcnt => ?_
  subst hpc
  exact ⟨_, Reach.one hh (codeAt_head hC), Common.quiet rfl hh nofun, ⟨[], rfl⟩, codeAt_tail hC⟩

theorem sim_thr (v : Val) : SimAt (Stmt.thr v) := by
  refine SimAt.of_plain rfl fun cur ctx pc C σ env hst hcur hnop hC hpc hh hcnt => ?_
  subst hpc
  exact ⟨_, [], [], rfl, (Common.quiet (i := .loadVal v) rfl hh nofun).toT, ⟨[v], rfl⟩,
    Reach.step hh (codeAt_head hC) (Reach.one (σ := VM.step σ (.loadVal v)) hh (codeAt_head (codeAt_tail hC)))⟩

theorem sim_fatal : SimAt Stmt.fatal := by
  refine SimAt.of_plain rfl fun cur ctx pc C σ env hst hcur hnop hC hpc hh hcnt => ?_
  obtain ⟨hT, hlog⟩ := handleThrow_none σ.tries { σ with log := σ.log ++ [Ev.fatal] }
  exact ⟨_, Reach.stepTo hh (hpc ▸ codeAt_head hC) (step_fatal σ) (Reach.refl _), hlog, hT⟩

theorem sim_tryS (i : Nat) {b : Stmt} (hasC : Bool) {c : Stmt} (hasF : Bool) {f : Stmt} (ihb : SimAt b) (ihc : SimAt c) (ihf : SimAt f) : SimAt (Stmt.tryS i b hasC c hasF f) := by
  refine SimAt.of_plain rfl fun cur ctx pc C σ env hst hcur hnop hC hpc hh hcnt => ?_
  obtain ⟨-, hsb, hsc', hsf'⟩ := stage1_tryS hst
  have hcurI := hcur
  simp only [ids, List.mem_append, not_or] at hcur
  obtain ⟨⟨hcb, hcc⟩, hcfi⟩ := hcur
  simp only [gen, ← Nat.add_assoc] at hnop hC
  generalize hlb : glen b none (BS.try_ :: ctx.map BI.shape) = lb at *
  generalize hlc : glen c none (BS.scope :: BS.try_ :: ctx.map BI.shape) = lc at *
  generalize hlf : glen f none (BS.try_ :: ctx.map BI.shape) = lf at *
  have lenB := fun p => (gen_length b cur none (BI.try_ :: ctx) p).trans hlb
  have lenC := fun p => (gen_length c cur none (BI.scope 1 :: BI.try_ :: ctx) p).trans hlc
  have lenF := fun p => (gen_length f cur none (BI.try_ :: ctx) p).trans hlf
  obtain ⟨-, -, hCb, hCc, hCf⟩ := tryParts (lenB _) (lenC _) hC
  simp only [List.mem_append, not_or] at hnop
  obtain ⟨⟨⟨-, hnb⟩, hnc⟩, hnf⟩ := hnop
  have T := trySim (ctx := ctx) (i := i) (I := ids (Stmt.tryS i b hasC c hasF f)) (If := ids f)
    (rb := exec env [] b) (rc := fun _ => exec env [] c) (rff := fun _ => exec env [] f)
    hpc hh hcnt hcurI (fun x hx => by simp [ids, hx]) (lenB _) (lenC _) (lenF _) hC
    (fun τ hp hhh hcc' => SimK.mono (ihb.body hsb hcb hnb hCb hlb env τ hp hhh hcc') (fun x hx => by simp [ids, hx]))
    (fun hC' τ hp hhh hcc' => by
      subst hC'
      exact SimK.mono (ihc.body (hsc' rfl) hcc (fun h => hnc (by simp [h])) (catchSeg_parts (lenC _) hCc).2.2.2.1 hlc env τ hp hhh hcc')
        (fun x hx => by simp [ids, hx]))
    (fun hF' τ hp hhh hcc' => by
      subst hF'
      exact ihf.body (hsf' rfl).1 hcfi (fun h => hnf (List.mem_append_left _ (List.mem_append_right _ h))) (finSeg_parts (lenF _) hCf).2.2.1 hlf env τ hp hhh hcc')
  have e : pc + glen (Stmt.tryS i b hasC c hasF f) none (ctx.map BI.shape)
      = pc + 1 + (if hasF then 1 else 0) + lb + (if hasC then 3 + lc + 1 else 0) + (if hasF then 2 + lf + 1 else 1) := by
    simp only [glen, hlb, hlc, hlf, ← Nat.add_assoc]
  rw [e]
  simpa [Sim, exec] using T

theorem sim_while (id n : Nat) {body : Stmt} (ih : SimAt body) : SimAt (Stmt.loop .while_ id n body) := by
  refine SimAt.of_loop fun cur lab ctx pc C σ hstb hidb hnop hC hpc hh => ?_
  have hidI : ∀ x, x ∈ [id] → x ∈ ids (Stmt.loop .while_ id n body) := fun _ h => List.mem_singleton.1 h ▸ List.mem_cons_self ..
  simp only [iterations, gen] at hnop hC ⊢
  generalize hlb : glen body none (BS.loop lab :: ctx.map BI.shape) = lb at *
  obtain ⟨hH, hB, hT⟩ := codeAt_sandwich ((gen_length ..).trans hlb) hC
  have hbody := ih.body hstb hidb (fun h => hnop (List.mem_append_left _ (List.mem_append_right _ h))) hB hlb
  have head : ∀ (τ : VM) (i' : Nat), τ.pc = pc + 1 → τ.halted = none → (VM.step τ (.cntInc id)).cnt id = some i' →
      LoopStep C (ids (Stmt.loop .while_ id n body)) τ id i' n (pc + 1 + 3) (pc + 1 + 3 + lb + 1) := by
    intro τ i' hp hhh hv
    obtain ⟨r1, p1⟩ := Run.straight [.cntInc id] (by rw [hp]; exact hH.sub 1 1) rfl hidI hhh
    exact LoopStep.prepend r1 rfl (LoopStep.head (hH.sub 2 2) (p1.trans (hp ▸ rfl)) r1.common.halted hv)
  have hnext : ∀ (i : Nat) (τ : VM), (τ.pc = pc + 4 + lb ∨ τ.pc = pc + 1) → τ.halted = none → τ.cnt id = some i →
      LoopStep C (ids (Stmt.loop .while_ id n body)) τ id (i + 1) n (pc + 1 + 3) (pc + 1 + 3 + lb + 1) := by
    intro i τ hp hhh hcc
    rcases hp with hp | hp
    · exact LoopStep.prepend (Run.jump (codeAt_head hT) hp hhh) rfl (head _ (i + 1) rfl hhh (step_cntInc_cnt hcc))
    · exact head τ (i + 1) hp hhh (step_cntInc_cnt hcc)
  obtain ⟨r0, p0⟩ := Run.straight (I := ids (Stmt.loop .while_ id n body)) [.cntReset id] (by rw [hpc]; exact hH.sub 0 1) rfl hidI hh
  have e : pc + glen (Stmt.loop .while_ id n body) lab (ctx.map BI.shape) = pc + 1 + 3 + lb + 1 := by
    simp [glen, hlb]; omega
  rw [e]
  exact loopEnter (fun i => exec i [] body) hbody hnext hidb (fun x hx => List.mem_cons_of_mem _ hx)
    (LoopStep.prepend r0 rfl (head _ 0 (p0.trans (hpc ▸ rfl)) r0.common.halted (step_cntInc_cnt_unset (if_pos rfl))))

theorem sim_for (id n : Nat) {body : Stmt} (ih : SimAt body) : SimAt (Stmt.loop .for_ id n body) := by
  refine SimAt.of_loop fun cur lab ctx pc C σ hstb hidb hnop hC hpc hh => ?_
  have hidI : ∀ x, x ∈ [id] → x ∈ ids (Stmt.loop .for_ id n body) := fun _ h => List.mem_singleton.1 h ▸ List.mem_cons_self ..
  simp only [iterations, gen] at hnop hC ⊢
  generalize hlb : glen body none (BS.loop lab :: ctx.map BI.shape) = lb at *
  obtain ⟨hH, hB, hT⟩ := codeAt_sandwich ((gen_length ..).trans hlb) hC
  have hbody := ih.body hstb hidb (fun h => hnop (List.mem_append_left _ (List.mem_append_right _ h))) hB hlb
  have head := fun (τ : VM) (i' : Nat) (hp : τ.pc = pc + 1) (hhh : τ.halted = none) (hv : τ.cnt id = some i') =>
    LoopStep.head (I := ids (Stmt.loop .for_ id n body)) (hH.sub 1 2) hp hhh hv
  have hnext : ∀ (i : Nat) (τ : VM), (τ.pc = pc + 3 + lb ∨ τ.pc = pc + 3 + lb) → τ.halted = none → τ.cnt id = some i →
      LoopStep C (ids (Stmt.loop .for_ id n body)) τ id (i + 1) n (pc + 1 + 2) (pc + 1 + 2 + lb + 2) := by
    intro i τ hp hhh hcc
    have hp : τ.pc = pc + 3 + lb := hp.elim (fun h => h) (fun h => h)
    obtain ⟨r1, p1⟩ := Run.straight [.cntInc id] (by rw [hp]; exact hT.sub 0 1) rfl hidI hhh
    exact LoopStep.prepend (r1.trans (Run.jump (hT.at 1) (p1.trans (hp ▸ rfl)) r1.common.halted)) rfl
      (head _ (i + 1) rfl r1.common.halted (step_cntInc_cnt hcc))
  obtain ⟨r0, p0⟩ := Run.straight (I := ids (Stmt.loop .for_ id n body)) [.cntZero id] (by rw [hpc]; exact hH.sub 0 1) rfl hidI hh
  have e : pc + glen (Stmt.loop .for_ id n body) lab (ctx.map BI.shape) = pc + 1 + 2 + lb + 2 := by
    simp [glen, hlb]; omega
  rw [e]
  exact loopEnter (fun i => exec i [] body) hbody hnext hidb (fun x hx => List.mem_cons_of_mem _ hx)
    (LoopStep.prepend r0 rfl (head _ 0 (p0.trans (hpc ▸ rfl)) r0.common.halted (if_pos rfl)))

theorem sim_do (id n : Nat) {body : Stmt} (ih : SimAt body) : SimAt (Stmt.loop .do_ id n body) := by
  refine SimAt.of_loop fun cur lab ctx pc C σ hstb hidb hnop hC hpc hh => ?_
  have hidI : ∀ x, x ∈ [id] → x ∈ ids (Stmt.loop .do_ id n body) := fun _ h => List.mem_singleton.1 h ▸ List.mem_cons_self ..
  simp only [gen] at hnop hC
  generalize hlb : glen body none (BS.loop lab :: ctx.map BI.shape) = lb at *
  obtain ⟨hH, hB, hT⟩ := codeAt_sandwich ((gen_length ..).trans hlb) hC
  have hbody := ih.body hstb hidb (fun h => hnop (List.mem_append_left _ (List.mem_append_right _ h))) hB hlb
  -- a do-while body runs at least once: `iterations` is `max n 1`
  have hiter : ∀ i, (i + 1 < iterations .do_ n) ↔ (i + 1 < n) := by
    intro i
    simp only [iterations]
    by_cases h0 : n = 0 <;> simp [h0]
  have hnext : ∀ (i : Nat) (τ : VM), (τ.pc = pc + 1 + lb ∨ τ.pc = pc + 1 + lb) → τ.halted = none → τ.cnt id = some i →
      LoopStep C (ids (Stmt.loop .do_ id n body)) τ id (i + 1) (iterations .do_ n) (pc + 1) (pc + 1 + lb + 3) := by
    intro i τ hp hhh hcc
    have hp : τ.pc = pc + 1 + lb := hp.elim (fun h => h) (fun h => h)
    obtain ⟨r1, p1⟩ := Run.straight [.cntInc id] (by rw [hp]; exact hT.sub 0 1) rfl hidI hhh
    have hv := step_cntInc_cnt hcc
    refine ⟨_, r1.trans (Run.loopTest false (t := pc + 1) (hT.sub 1 2) (p1.trans (hp ▸ rfl)) r1.common.halted hv), rfl, ?_⟩
    by_cases hlt : i + 1 < n
    · rw [if_pos ((hiter i).2 hlt)]; exact ⟨if_neg (by simpa using hlt), hv⟩
    · rw [if_neg (fun h => hlt ((hiter i).1 h))]; exact if_pos (by simpa using hlt)
  obtain ⟨r0, p0⟩ := Run.straight (I := ids (Stmt.loop .do_ id n body)) [.cntZero id] (by rw [hpc]; exact hH) rfl hidI hh
  have e : pc + glen (Stmt.loop .do_ id n body) lab (ctx.map BI.shape) = pc + 1 + lb + 3 := by
    simp [glen, hlb]; omega
  rw [e]
  have hN : 0 < iterations .do_ n := by
    simp only [iterations]; by_cases h0 : n = 0 <;> simp [h0]; omega
  exact loopEnter (fun i => exec i [] body) hbody hnext hidb (fun x hx => List.mem_cons_of_mem _ hx)
    ⟨_, r0, rfl, by rw [if_pos hN]; exact ⟨p0.trans (hpc ▸ rfl), if_pos rfl⟩⟩

theorem sim_forlet (id n : Nat) {body : Stmt} (ih : SimAt body) : SimAt (Stmt.loop .forlet id n body) := by
  refine SimAt.of_loop fun cur lab ctx pc C σ hstb hidb hnop hC hpc hh => ?_
  have hidI : ∀ x, x ∈ [id] → x ∈ ids (Stmt.loop .forlet id n body) := fun _ h => List.mem_singleton.1 h ▸ List.mem_cons_self ..
  simp only [iterations, gen] at hnop hC ⊢
  generalize hlb : glen body none (BS.iscope :: BS.loop lab :: ctx.map BI.shape) = lb at *
  obtain ⟨hH, hB, hT⟩ := codeAt_sandwich ((gen_length ..).trans hlb) hC
  have hbody := ih.body hstb hidb (fun h => hnop (List.mem_append_left _ (List.mem_append_right _ h))) hB hlb
  have hT3 : C[pc + 3 + 2 + lb + 3]? = some (Instr.leaveBlock 1) := hT.at 3
  have head := fun (τ : VM) (i' : Nat) (hp : τ.pc = pc + 3) (hhh : τ.halted = none) (hv : τ.cnt id = some i') =>
    LoopStep.head (I := ids (Stmt.loop .forlet id n body)) (hH.sub 3 2) hp hhh hv
  have hnext : ∀ (i : Nat) (τ : VM), (τ.pc = pc + 5 + lb ∨ τ.pc = pc + 5 + lb) → τ.halted = none → τ.cnt id = some i →
      LoopStep C (ids (Stmt.loop .forlet id n body)) τ id (i + 1) n (pc + 3 + 2) (pc + 3 + 2 + lb + 3) := by
    intro i τ hp hhh hcc
    have hp : τ.pc = pc + 5 + lb := hp.elim (fun h => h) (fun h => h)
    obtain ⟨r1, p1⟩ := Run.straight [.copyStash, .cntInc id] (by rw [hp]; exact hT.sub 0 2) rfl hidI hhh
    exact LoopStep.prepend (r1.trans (Run.jump (hT.at 2) (p1.trans (hp ▸ rfl)) r1.common.halted)) rfl
      (head _ (i + 1) rfl r1.common.halted (step_cntInc_cnt (τ := VM.step τ .copyStash) hcc))
  obtain ⟨r0, p0⟩ := Run.straight (I := ids (Stmt.loop .forlet id n body)) [.enterBlock 1, .cntZero id, .copyStash]
    (by rw [hpc]; exact hH.sub 0 3) rfl hidI hh
  obtain ⟨τh, rh, hsh, hif⟩ := head _ 0 (p0.trans (hpc ▸ rfl)) r0.common.halted (if_pos rfl)
  have e : pc + glen (Stmt.loop .forlet id n body) lab (ctx.map BI.shape) = pc + 3 + 2 + lb + 3 + 1 := by
    simp [glen, hlb]; omega
  rw [e]
  have r0h := r0.trans rh
  have hs0 : τh.stack = 0 :: σ.stack := hsh
  by_cases hn : 0 < n
  · rw [if_pos hn] at hif
    exact SimG.prependG (l1 := []) (midB := { τh with stack := σ.stack }) (base := σ) r0h.reach (r0h.common.setPcStack _ _) rfl
      (loopSimLet (L := pc + 3 + 2 + lb + 3) (fun i => exec i [] body) hbody hnext hT3 hidb (fun x hx => List.mem_cons_of_mem _ hx)
        n 0 0 τh (by omega) hn hif.1 rh.common.halted hif.2 hs0)
  · -- no iteration: leave the scope again
    rw [if_neg hn] at hif
    have hn0 : n = 0 := by omega
    subst hn0
    obtain ⟨re, pe⟩ := Run.straight (I := ids (Stmt.loop .forlet id 0 body)) [.leaveBlock 1]
      (by rw [hif]; exact hT.sub 3 1) rfl nofun rh.common.halted
    have := r0h.trans re
    exact ⟨_, this.reach, this.common, pe.trans (hif ▸ rfl), by show τh.stack.drop 1 = _; rw [hs0]; rfl⟩

theorem sim_loop (k : LoopKind) (id n : Nat) {body : Stmt} (ih : SimAt body) : SimAt (Stmt.loop k id n body) := by
  cases k with
  | forin => intro cur lab ls ctx pc C σ env hst; exact absurd rfl (stage1_loop hst).1
  | forlet => exact sim_forlet id n ih
  | while_ => exact sim_while id n ih
  | do_ => exact sim_do id n ih
  | for_ => exact sim_for id n ih

theorem sim_forOf (sp : IterSpec) {body : Stmt} (ih : SimAt body) : SimAt (Stmt.forOf sp body) := by
  intro cur lab ls ctx pc C σ env hst hls hlab hcur hnop hC hpc hh hcnt
  subst hls
  obtain ⟨-, hstb, hidb⟩ := stage1_forOf hst
  have hIsub : ∀ x, x ∈ ids body → x ∈ ids (Stmt.forOf sp body) := fun x hx => by simp [ids, hx]
  have hidI : sp.id ∈ ids (Stmt.forOf sp body) := by simp [ids]
  unfold Sim
  rw [kind_adj, adj_snd]
  simp only [gen] at hnop hC
  generalize hlb : glen body none (BS.forof lab :: ctx.map BI.shape) = lb at *
  obtain ⟨hH, hB, hT⟩ := codeAt_sandwich ((gen_length ..).trans hlb) hC
  have hbody := fun i τ hp hhh hcc => SimK.mono (I' := ids (Stmt.forOf sp body))
    (ih.body hstb hidb (fun h => hnop (List.mem_append_left _ (List.mem_append_right _ h))) hB hlb i τ hp hhh hcc) hIsub
  subst hpc
  let σ0 : VM := { σ with iters := { sp := some sp } :: σ.iters, log := σ.log ++ [Ev.itOpen sp.id], pc := σ.pc + 1 }
  have hr0 : Reach C σ σ0 := Reach.stepTo hh (codeAt_head hH) (step_iterateP σ sp) (Reach.refl _)
  have L := forOfSim (C := C) (ctx := ctx) (lab := lab) (start := σ.pc + 1) (lb := lb) (sp := sp) (B := σ.iters)
    (fun i => exec i [] body) hbody (hH.at 1) (hH.at 2) (hT.at 0) (hT.at 1) (hT.at 2) (hT.at 3) hidI nofun
    (sp.n + 1) 0 0 σ0 { sp := some sp } (by omega) (by omega) rfl hh rfl rfl rfl
  have hc0 : Common σ { σ0 with iters := σ.iters } [Ev.itOpen sp.id] (ids (Stmt.forOf sp body)) false :=
    ⟨rfl, rfl, rfl, hh, fun _ _ => rfl, fun _ => rfl⟩
  have R := SimG.prependG (src := σ) (base := σ) (midB := { σ0 with iters := σ.iters }) hr0 hc0 rfl L
  have e : σ.pc + glen (Stmt.forOf sp body) lab (ctx.map BI.shape) = σ.pc + 1 + 2 + lb + 1 + 2 + 1 := by
    simp [glen, hlb]; omega
  rw [e]
  simp only [exec]
  cases hf : forOfFrom (fun i => exec i [] body) sp lab.toList (sp.n + 1) 0 0 with
  | mk c l =>
    rw [hf] at R
    exact R

theorem sim_lbl (l : Label) {s : Stmt} (ih : SimAt s) : SimAt (Stmt.lbl l s) := by
  refine SimAt.of_plain rfl fun cur ctx pc C σ env hst hcur hnop hC hpc hh hcnt => ?_
  replace hst := stage1_lbl hst
  simp only [ids] at hcur
  by_cases hlo : isLoop s = true
  · -- a labelled loop: the loop block carries the label
    simp only [gen, hlo, if_true] at hnop hC
    have A := ih cur (some l) [l] ctx pc C σ env hst.1 rfl (fun h => by simp [hlo] at h) hcur hnop hC hpc hh hcnt
    rw [exec_lbl_adj]
    have e : glen (Stmt.lbl l s) none (ctx.map BI.shape) = glen s (some l) (ctx.map BI.shape) := by
      simp [glen, hlo]
    rw [e]
    exact SimK.mono A (fun x hx => by simpa [ids] using hx)
  · have hlo' : isLoop s = false := by simpa using hlo
    have hlb : isLbl s = false := hst.2.resolve_left hlo
    simp only [gen, hlo', Bool.false_eq_true, if_false] at hnop hC
    have e : glen (Stmt.lbl l s) none (ctx.map BI.shape) = glen s none (BS.label l :: ctx.map BI.shape) := by
      simp [glen, hlo']
    rw [e]
    have A := ih.run (ctx := BI.label l (pc + glen s none (BS.label l :: ctx.map BI.shape)) :: ctx) hst.1 hcur hnop hC hpc hh hcnt
    unfold Sim
    rw [exec_lbl_adj, kind_adj, adj_snd, exec_ls_irrel s env [l] hlo' hlb]
    exact wrapLabel (SimK.mono A (I' := ids (Stmt.lbl l s)) (fun x hx => by simpa [ids] using hx))

theorem sim_sw (u : Bool) (k : Nat) {a b : Stmt} (iha : SimAt a) (ihb : SimAt b) : SimAt (Stmt.sw u k a b) := by
  refine SimAt.of_plain rfl fun cur ctx pc C σ env hst hcur hnop hC hpc hh hcnt => ?_
  replace hst := stage1_sw hst
  have hcurI := hcur
  simp only [ids, List.mem_append, not_or] at hcur
  simp only [gen] at hnop hC
  generalize hla : glen a none (BS.switch_ :: ctx.map BI.shape) = la at *
  generalize hlb : glen b none (BS.switch_ :: ctx.map BI.shape) = lb at *
  obtain ⟨hH, hCa, hCb⟩ := codeAt_sandwich ((gen_length ..).trans hla) hC
  simp only [List.mem_append, not_or] at hnop
  have he : pc + glen (Stmt.sw u k a b) none (ctx.map BI.shape) = pc + 15 + la + lb := by
    simp only [glen, hla, hlb, ← Nat.add_assoc]
  -- clause bodies from their entry points; clause 0 falls through into clause 1
  have runB := fun τ hp hhh hcc => SimK.mono (I' := ids (Stmt.sw u k a b))
    (ihb.body hst.2 hcur.2 hnop.2 hCb hlb env τ hp hhh hcc) (fun x hx => by simp [ids, hx])
  have runA := fun τ hp hhh hcc => simSeq (ra := exec env [] a) (rb := fun _ => exec env [] b)
    (SimK.mono (I' := ids (Stmt.sw u k a b)) (iha.body hst.1 hcur.1 hnop.1.2 hCa hla env τ hp hhh hcc)
      (fun x hx => by simp [ids, hx]))
    (fun τ' _ hc hp' _ => runB τ' hp' hc.halted ((hc.cnt cur hcurI).trans hcc))
  subst hpc
  let sel : Nat := if u then env else k
  have s0 : VM.step σ (.loadSel u k cur) = { σ with pc := σ.pc + 1, stack := sel :: σ.stack } := step_loadSel u k hcnt
  let τd : VM := { σ with pc := if sel = 0 then σ.pc + 15 else if sel = 1 then σ.pc + 15 + la else σ.pc + 15 + la + lb }
  have hrd : Reach C σ τd := by
    refine Reach.stepTo hh (codeAt_head hH) s0 ?_
    have t0 := swTest (σ := { σ with pc := σ.pc + 1, stack := sel :: σ.stack }) (sel := sel) (st := σ.stack) (hH.sub 1 6) rfl hh rfl
    have t1 := swTest (σ := { σ with pc := σ.pc + 1 + 6, stack := sel :: σ.stack }) (sel := sel) (st := σ.stack) (hH.sub 7 6) rfl hh rfl
    simp only [τd]
    by_cases h0 : sel = 0
    · rw [if_pos h0] at t0 ⊢; exact t0
    · rw [if_neg h0] at t0 ⊢
      by_cases h1 : sel = 1
      · rw [if_pos h1] at t1 ⊢; exact t0.trans t1
      · rw [if_neg h1] at t1 ⊢
        exact t0.trans (t1.trans (Reach.stepTo hh (hH.at 13) (step_pop rfl)
          (Reach.stepTo hh (hH.at 14) (step_jump_rel _ rfl) (Reach.refl _))))
  have hcd : Common σ τd [] (ids (Stmt.sw u k a b)) false := ⟨(List.append_nil _).symm, rfl, rfl, hh, fun _ _ => rfl, nofun⟩
  unfold Sim
  simp only [exec]
  obtain ⟨hk, hlg⟩ := kind_swRes sel (fun _ => exec env [] a) (fun _ => exec env [] b)
  rw [he, hk, hlg]
  by_cases h0 : sel = 0
  · rw [if_pos h0, if_pos h0]
    exact SimK.prepend (l1 := []) hrd hcd rfl (wrapSwitch (runA τd (if_pos h0) hh hcnt))
  · rw [if_neg h0, if_neg h0]
    by_cases h1 : sel = 1
    · rw [if_pos h1, if_pos h1]
      exact SimK.prepend (l1 := []) hrd hcd rfl (wrapSwitch (runB τd ((if_neg h0).trans (if_pos h1)) hh hcnt))
    · rw [if_neg h1, if_neg h1]
      exact ⟨τd, hrd, hcd, (if_neg h0).trans (if_neg h1), rfl⟩

theorem sim_withS {s : Stmt} (ih : SimAt s) : SimAt (Stmt.withS s) := by
  refine SimAt.of_plain rfl fun cur ctx pc C σ env hst hcur hnop hC hpc hh hcnt => ?_
  simp only [gen] at hnop hC
  obtain ⟨hH, hB, hT⟩ := codeAt_sandwich (gen_length ..) hC
  obtain ⟨r0, p0⟩ := Run.straight (I := ids (Stmt.withS s)) [.loadVal 0, .enterWith] (hpc ▸ hH) rfl nofun hh
  have A := ih.run hst hcur (fun h => hnop (List.mem_append_left _ (List.mem_append_right _ h))) hB (p0.trans (hpc ▸ rfl))
    r0.common.halted hcnt
  have W := wrapBlock (l0 := []) [] peels_with rfl rfl rfl (fun _ => rfl) r0.reach r0.common rfl (codeAt_head hT) A
  simp only [List.map_cons, BI.shape] at W
  have e : pc + glen (Stmt.withS s) none (ctx.map BI.shape)
      = pc + 2 + glen s none (BS.with_ :: ctx.map BI.shape) + 1 := by simp only [glen]; omega
  rw [e]
  unfold Sim
  simp only [exec]
  rw [kind_updateEmpty]
  exact W

theorem sim_blk {s : Stmt} (ih : SimAt s) : SimAt (Stmt.blk s) := by
  refine SimAt.of_plain rfl fun cur ctx pc C σ env hst hcur hnop hC hpc hh hcnt => ?_
  simp only [gen] at hnop hC
  obtain ⟨hH, hB, hT⟩ := codeAt_sandwich (gen_length ..) hC
  obtain ⟨r0, p0⟩ := Run.straight (I := ids (Stmt.blk s)) [.enterBlock 1] (hpc ▸ hH) rfl nofun hh
  have A := ih.run hst hcur (fun h => hnop (List.mem_append_left _ (List.mem_append_right _ h))) hB (p0.trans (hpc ▸ rfl))
    r0.common.halted hcnt
  have W := wrapBlock (l0 := []) [0] (peels_scope 1) rfl rfl rfl (fun _ => rfl) r0.reach r0.common rfl (codeAt_head hT) A
  simp only [List.map_cons, BI.shape] at W
  have e : pc + glen (Stmt.blk s) none (ctx.map BI.shape)
      = pc + 1 + glen s none (BS.scope :: ctx.map BI.shape) + 1 := by simp only [glen]; omega
  rw [e]
  exact W

theorem sim_ifIter (m : Nat) {s : Stmt} (ih : SimAt s) : SimAt (Stmt.ifIter m s) := by
  refine SimAt.of_plain rfl fun cur ctx pc C σ env hst hcur hnop hC hpc hh hcnt => ?_
  simp only [gen] at hnop hC
  rw [codeAt_append] at hC
  obtain ⟨hC0, hC1⟩ := hC
  have hns : Instr.nop ∉ gen s cur none ctx (pc + 2) := fun h => hnop (List.mem_append_right _ h)
  have e : pc + glen (Stmt.ifIter m s) none (ctx.map BI.shape) = pc + 2 + glen s none (ctx.map BI.shape) := by
    simp only [glen]; omega
  rw [e]
  obtain ⟨r0, c0⟩ := Run.test (I := ids (Stmt.ifIter m s)) (.cntEq cur m) (env == m) true
    (t := pc + 2 + glen s none (ctx.map BI.shape)) (step_cntEq m hcnt) hC0 hpc hh
  unfold Sim
  by_cases hem : env = m
  · have hb : (env == m) = true := by simpa using hem
    rw [hb, if_pos rfl] at r0 c0
    have A := ih.run (σ := { σ with pc := pc + 2 }) hst hcur hns hC1 rfl hh hcnt
    have P := SimK.prepend (l1 := []) r0 c0 rfl A
    simp only [exec, hem, if_true] at P ⊢
    rw [kind_updateEmpty]
    exact P
  · have hb : (env == m) = false := by simpa using hem
    rw [hb, if_neg (by decide)] at r0 c0
    simp only [exec, hem, if_false]
    exact ⟨_, r0, c0, rfl, rfl⟩

theorem sim (s : Stmt) : SimAt s := by
  induction s with
  | skip => exact sim_skip
  | log k => exact sim_log k
  | seq a b iha ihb => exact sim_seq iha ihb
  | brk l => exact sim_brk l
  | cont l => exact sim_cont l
  | ret v => exact sim_ret v
  | thr v => exact sim_thr v
  | fatal => exact sim_fatal
  | tryS i b hasC c hasF f ihb ihc ihf => exact sim_tryS i hasC hasF ihb ihc ihf
  | loop k id n body ih => exact sim_loop k id n ih
  | forOf sp body ih => exact sim_forOf sp ih
  | lbl l s ih => exact sim_lbl l ih
  | sw u k a b iha ihb => exact sim_sw u k iha ihb
  | withS s ih => exact sim_withS ih
  | blk s ih => exact sim_blk ih
  | ifIter m s ih => exact sim_ifIter m ih

end GojaModel.C08.S2
