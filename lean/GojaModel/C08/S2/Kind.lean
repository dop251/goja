/-
  C08 — completion kinds: what the mini-VM can tell of a completion record, and the reference semantics read through
  them.  `kind` forgets the values of normal / break / continue completions; each combinator of `exec` (`seqRes`, `swRes`,
  `finPart`, the labelled statement, `loopFrom`, `forOfFrom`, `iteratorClose`) is then a function on kinds (`exitK`,
  `adjK`), which is the form in which the simulation (`S2/Sim.lean`) meets it.  Nothing here mentions the VM.
-/
import GojaModel.C08.S2.CompileS
import GojaModel.C08.Lemmas

namespace GojaModel.C08.S2
open Compl

/-- completion kinds (values of normal/break/continue completions are not observable by the VM in
function bodies) -/
inductive K
  | normal
  | brk (l : Option Label)
  | cont (l : Option Label)
  | ret (v : Val)
  | thr (v : Val)
  | fatal
  deriving DecidableEq

def kind : Compl → K
  | .normal _ => .normal
  | .brk l _ => .brk l
  | .cont l _ => .cont l
  | .ret v => .ret v
  | .thr v => .thr v
  | .fatal => .fatal

theorem kind_updateEmpty (c : Compl) (v : Val) : kind (c.updateEmpty v) = kind c := by
  cases c with
  | normal o => cases o <;> rfl
  | brk l o => cases o <;> rfl
  | cont l o => cases o <;> rfl
  | _ => rfl

theorem kind_eq_fatal {c : Compl} (h : kind c = K.fatal) : c = .fatal := by
  cases c <;> first | rfl | cases h

def exitK : K → K
  | .brk none => .normal
  | k => k

theorem kind_exitBreakable (c : Compl) : kind c.exitBreakable = exitK (kind c) := by
  cases c with
  | brk lb v => cases lb <;> rfl
  | _ => rfl

theorem kind_exit (c : Compl) (V : Val) : kind (c.updateEmpty V).exitBreakable = exitK (kind c) := by
  rw [kind_exitBreakable, kind_updateEmpty]

theorem kind_seqRes (ra : Res) (rb : Unit → Res) :
    kind (seqRes ra rb).1 = (if kind ra.1 = K.normal then kind (rb ()).1 else kind ra.1) ∧
    (seqRes ra rb).2 = (if kind ra.1 = K.normal then ra.2 ++ (rb ()).2 else ra.2) := by
  obtain ⟨ca, la⟩ := ra
  cases ca with
  | normal va =>
    have hkn : kind (Compl.normal va, la).1 = K.normal := rfl
    rw [if_pos hkn, if_pos hkn]
    cases hrb : rb () with
    | mk cb lb =>
      cases va with
      | none => simp [seqRes, hrb]
      | some x => simp [seqRes, hrb, kind_updateEmpty]
  | _ => simp [seqRes, kind]

theorem kind_swTail (V : Val) (r1 : Res) : kind (swTail V r1).1 = exitK (kind r1.1) ∧ (swTail V r1).2 = r1.2 := by
  obtain ⟨c, l⟩ := r1
  cases c with
  | normal v => exact ⟨rfl, rfl⟩
  | brk lb v | cont lb v => exact ⟨kind_exit _ V, rfl⟩
  | ret v | thr v | fatal => exact ⟨rfl, rfl⟩

theorem kind_swRes (sel : Nat) (r0 r1 : Unit → Res) :
    kind (swRes sel r0 r1).1 = (if sel = 0 then exitK (kind (seqRes (r0 ()) r1).1) else if sel = 1 then exitK (kind (r1 ()).1) else K.normal) ∧
    (swRes sel r0 r1).2 = (if sel = 0 then (seqRes (r0 ()) r1).2 else if sel = 1 then (r1 ()).2 else []) := by
  by_cases h0 : sel = 0
  · subst h0
    rw [if_pos rfl, if_pos rfl]
    obtain ⟨hk, hl⟩ := kind_seqRes (r0 ()) r1
    by_cases hn : kind (r0 ()).1 = K.normal
    · obtain ⟨v, hv⟩ : ∃ v, (r0 ()).1 = Compl.normal v := by
        cases hc : (r0 ()).1 with
        | normal v => exact ⟨v, rfl⟩
        | _ => rw [hc] at hn; simp [kind] at hn
      have e : swRes 0 r0 r1 = ((swTail (v.getD 0) (r1 ())).1, (r0 ()).2 ++ (swTail (v.getD 0) (r1 ())).2) := by
        simp [swRes, hv]
      rw [e, hk, hl, if_pos hn, if_pos hn]
      exact ⟨(kind_swTail _ _).1, by rw [(kind_swTail _ _).2]⟩
    · have e : swRes 0 r0 r1 = (((r0 ()).1.updateEmpty 0).exitBreakable, (r0 ()).2) := by
        cases hc : (r0 ()).1 with
        | normal v => rw [hc] at hn; exact absurd rfl hn
        | _ => simp [swRes, hc]
      rw [e, hk, hl, if_neg hn, if_neg hn]
      exact ⟨kind_exit _ 0, rfl⟩
  · by_cases h1 : sel = 1
    · subst h1
      simp only [swRes, h0, if_false, if_true]
      exact kind_swTail 0 (r1 ())
    · simp [swRes, h0, h1, kind]

theorem kind_finPart (i : Nat) (rbc : Res) (rf : Unit → Res) (h : rbc.1 ≠ .fatal) :
    kind (finPart i rbc rf).1 = (if kind (rf ()).1 = K.normal then kind rbc.1 else kind (rf ()).1) ∧
    (finPart i rbc rf).2 = Ev.tryE i :: (rbc.2 ++ Ev.finE i :: (rf ()).2) := by
  rw [finPart_nonfatal i rf h]
  refine ⟨?_, rfl⟩
  show kind ((match (rf ()).1 with | .normal _ => rbc.1 | c => c).updateEmpty 0) = _
  rw [kind_updateEmpty]
  cases (rf ()).1 <;> simp [kind]

theorem exec_ls_irrel (s : Stmt) (env : Nat) (ls : List Label) (h1 : isLoop s = false) (h2 : isLbl s = false) :
    exec env ls s = exec env [] s := by
  cases s <;> first | rfl | (simp [isLoop] at h1; done) | (simp [isLbl] at h2; done)

/-- a labelled loop consumes `break l` itself; `exec` leaves that to the enclosing labelled statement -/
def adj (lab : Option Label) (r : Res) : Res :=
  (match r.1 with
   | .brk (some l') v => if lab = some l' then .normal v else r.1
   | c => c, r.2)

theorem adj_none (r : Res) : adj none r = r := by
  obtain ⟨c, l⟩ := r
  cases c with
  | brk lb v => cases lb <;> simp [adj]
  | _ => rfl

theorem adj_snd (lab : Option Label) (r : Res) : (adj lab r).2 = r.2 := rfl

theorem exec_lbl_adj (env : Nat) (l : Label) (s : Stmt) :
    exec env [] (Stmt.lbl l s) = adj (some l) (exec env [l] s) := by
  simp only [exec, adj]
  cases h : exec env [l] s with
  | mk c lg =>
    cases c with
    | brk lb v =>
      cases lb with
      | none => rfl
      | some l' =>
        by_cases hl : l' = l
        · subst hl; simp
        · have : ¬ (l = l') := fun h => hl h.symm
          simp [hl, this]
    | _ => rfl

def adjK (lab : Option Label) : K → K
  | .brk (some l') => if lab = some l' then .normal else .brk (some l')
  | k => k

theorem kind_adj (lab : Option Label) (r : Res) : kind (adj lab r).1 = adjK lab (kind r.1) := by
  obtain ⟨c, l⟩ := r
  cases c with
  | brk lb v =>
    cases lb with
    | none => rfl
    | some l' => by_cases h : lab = some l' <;> simp [adj, adjK, kind, h]
  | _ => rfl

theorem loopContinues_cont (lab lb : Option Label) (v : Option Val) :
    (Compl.cont lb v).loopContinues lab.toList = labMatch lb lab := by
  cases lb with
  | none => simp [loopContinues, labMatch]
  | some x =>
    cases lab with
    | none => simp [loopContinues, labMatch]
    | some y =>
      simp only [loopContinues, Option.toList, labMatch]
      by_cases h : y = x
      · subst h; simp
      · have h' : ¬ (x = y) := fun hh => h hh.symm
        simp [h, h']

theorem adjK_exitK_hit {lab lb : Option Label} (hm : labMatch lb lab = true) : adjK lab (exitK (K.brk lb)) = K.normal := by
  cases lb with
  | none => rfl
  | some x =>
    have : lab = some x := by
      cases lab with
      | none => simp [labMatch] at hm
      | some y => simp [labMatch] at hm; rw [hm]
    simp [exitK, adjK, this]

theorem adjK_exitK_miss {lab lb : Option Label} (hm : labMatch lb lab = false) : adjK lab (exitK (K.brk lb)) = K.brk lb := by
  cases lb with
  | none => simp [labMatch] at hm
  | some x =>
    have : ¬ (lab = some x) := by
      intro h; subst h; simp [labMatch] at hm
    simp [exitK, adjK, this]

theorem loopFrom_succ (run : Nat → Res) (ls : List Label) (r i : Nat) (V : Val) :
    loopFrom run ls (r + 1) i V =
      if (run i).1.loopContinues ls = true then
        ((loopFrom run ls r (i + 1) ((run i).1.value.getD V)).1,
         (run i).2 ++ (loopFrom run ls r (i + 1) ((run i).1.value.getD V)).2)
      else (((run i).1.updateEmpty V).exitBreakable, (run i).2) := by
  cases h : run i with
  | mk c l =>
    by_cases hc : c.loopContinues ls = true <;> simp [loopFrom, h, hc]

theorem forOfFrom_succ (run : Nat → Res) (sp : IterSpec) (ls : List Label) (r i : Nat) (V : Val) :
    forOfFrom run sp ls (r + 1) i V =
      if sp.nextThrow = some i then (.thr (100 + sp.id), [Ev.itNext sp.id, Ev.itFail sp.id])
      else if sp.n ≤ i then (.normal (some V), [Ev.itNext sp.id, Ev.itDone sp.id])
      else if (run i).1.loopContinues ls then
        ((forOfFrom run sp ls r (i + 1) ((run i).1.value.getD V)).1,
          Ev.itNext sp.id :: ((run i).2 ++ (forOfFrom run sp ls r (i + 1) ((run i).1.value.getD V)).2))
      else
        ((iteratorClose sp ((run i).1.updateEmpty V)).1.exitBreakable,
          Ev.itNext sp.id :: ((run i).2 ++ (iteratorClose sp ((run i).1.updateEmpty V)).2)) := by
  simp only [forOfFrom]

theorem iteratorClose_pending (sp : IterSpec) (st : Compl) (hnt : ∀ v, st ≠ .thr v) (hnf : st ≠ .fatal) :
    iteratorClose sp st =
      (match sp.ret with
       | .ok => st
       | .thr => .thr (200 + sp.id)
       | .nonobj => .thr TE, [Ev.itRet sp.id]) := by
  cases st <;> first | exact absurd rfl (hnt _) | exact absurd rfl hnf | (cases h : sp.ret <;> simp only [iteratorClose, h])

def NR (r : Res) : Prop := ∀ v, kind r.1 ≠ K.ret v

theorem flatten_last_not_normal (p : Stmt) : endsWithReturn p = true → ∀ env ls, kind (exec env ls p).1 ≠ K.normal := by
  induction p with
  | seq a b iha ihb =>
    intro h env ls
    simp only [exec]
    have hcase : endsWithReturn b = true ∨ (flatten b = [] ∧ endsWithReturn a = true) := by
      simp only [endsWithReturn, flatten] at h ⊢
      cases hb : flatten b with
      | nil => rw [hb, List.append_nil] at h; right; exact ⟨rfl, h⟩
      | cons x xs =>
        left
        have : (flatten a ++ x :: xs).getLast? = (x :: xs).getLast? := by
          rw [List.getLast?_append]
          have hne : (x :: xs).getLast? = some ((x :: xs).getLast (by simp)) := List.getLast?_eq_some_getLast (by simp)
          rw [hne]; rfl
        rw [hb, this] at h; exact h
    cases hra : exec env [] a with
    | mk ca la =>
      rcases hcase with hb | ⟨_, ha⟩
      · have hbn := ihb hb env []
        cases ca with
        | normal va =>
          simp only [seqRes]
          cases va with
          | none => exact hbn
          | some x =>
            show kind ((exec env [] b).1.updateEmpty x) ≠ K.normal
            rw [kind_updateEmpty]; exact hbn
        | _ => simp [seqRes, kind]
      · have han := iha ha env []
        rw [hra] at han
        cases ca with
        | normal va => exact absurd rfl han
        | _ => simp [seqRes, kind]
  | ret v => intro _ env ls; simp [exec, kind]
  | skip => intro h; simp [endsWithReturn, flatten] at h
  | _ => intro h; simp [endsWithReturn, flatten] at h

end GojaModel.C08.S2
