/-
  C08 — compileBreak / compileContinue on the resolved listing: findBreakBlock (compiler_stmt.go:582) and emitBlockExitCode
  (:628) on a block stack that matches `ctx` do what `findBrk` does on `ctx` (`branch_walk`).  Both are read one entry at a
  time (`fbb_cons`, `findBrk_cons`: the entry is the target, `hitC`, or is passed at the cost `exitC`); `BranchOK` is the
  invariant of the walk, block by block (`here` at the target; `pass` over another block, through `lift0` / `lift1` /
  `liftScope` by what the block emits; `lift0` again where the walk stops early).
-/
import GojaModel.C08.S2.Listing
import GojaModel.C08.CompileProps

namespace GojaModel.C08.S2

def branchF (t : Nat) (isBreak cfl : Bool) (blocks : List Block) (code : Array Instr) : CS :=
  { code := (exitWalk t cfl blocks code).2.push Instr.nop,
    blocks := modAtHeight t (fun b =>
      if isBreak then { b with breaks := b.breaks ++ [(exitWalk t cfl blocks code).2.size] }
      else { b with conts := b.conts ++ [(exitWalk t cfl blocks code).2.size] }) (exitWalk t cfl blocks code).1 }

theorem compileBranch_eq (l : Option Label) (isBreak : Bool) (cs : CS) :
    compileBranch l isBreak cs =
      match findBreakBlock l isBreak cs.blocks with
      | none => cs.emit Instr.nop
      | some t => branchF t isBreak (!isBreak && typAtHeight t cs.blocks == some BT.loop) cs.blocks cs.code := by
  simp only [compileBranch, branchF]
  cases findBreakBlock l isBreak cs.blocks <;> rfl

def stepB (b : Block) (code : Array Instr) : Block × Array Instr :=
  match b.typ with
  | BT.scope => ({ b with breaks := b.breaks ++ [code.size] }, code.push Instr.nop)
  | BT.iterScope => ({ b with breaks := b.breaks ++ [code.size] }, code.push Instr.nop)
  | BT.try_ => (b, code.push Instr.leaveTry)
  | BT.with_ => (b, code.push Instr.leaveWith)
  | BT.loopEnum => (b, code.push Instr.enumPopClose)
  | _ => (b, code)

theorem branchF_cons (t : Nat) (isBreak cfl : Bool) (b : Block) (rest : List Block) (code : Array Instr)
    (ht : rest.length ≠ t) (hns : ¬ (b.typ = BT.iterScope ∧ cfl = true ∧ rest.length = t + 1)) :
    branchF t isBreak cfl (b :: rest) code =
      { code := (branchF t isBreak cfl rest (stepB b code).2).code,
        blocks := (stepB b code).1 :: (branchF t isBreak cfl rest (stepB b code).2).blocks } := by
  have hw : exitWalk t cfl (b :: rest) code =
      ((stepB b code).1 :: (exitWalk t cfl rest (stepB b code).2).1, (exitWalk t cfl rest (stepB b code).2).2) := by
    simp only [exitWalk, ht, if_false, hns, stepB]
    cases hb : b.typ <;> simp_all
  simp only [branchF, hw]
  have hl : (exitWalk t cfl rest (stepB b code).2).1.length ≠ t := by rw [exitWalk_len]; exact ht
  simp [modAtHeight, hl]

/-- emitBlockExitCode:628: a `continue` of a plain loop does not leave that loop's own per-iteration scope -/
theorem branchF_stop (t : Nat) (isBreak : Bool) (b : Block) (rest : List Block) (code : Array Instr)
    (hty : b.typ = BT.iterScope) (ht : rest.length = t + 1) :
    branchF t isBreak true (b :: rest) code =
      { code := (branchF t isBreak true rest code).code,
        blocks := b :: (branchF t isBreak true rest code).blocks } := by
  cases rest with
  | nil => simp at ht
  | cons lb r =>
    have hr : r.length = t := by simpa using ht
    simp [branchF, exitWalk, modAtHeight, hty, hr, ht]

theorem branchF_here (isBreak cfl : Bool) (b : Block) (rest : List Block) (code : Array Instr) :
    branchF rest.length isBreak cfl (b :: rest) code =
      { code := code.push Instr.nop,
        blocks := (if isBreak then { b with breaks := b.breaks ++ [code.size] }
                   else { b with conts := b.conts ++ [code.size] }) :: rest } := by
  simp [branchF, exitWalk, modAtHeight]

def hitC (l : Option Label) (isBreak : Bool) : BI → Bool
  | .loop lab _ _ | .forof lab _ _ => labMatch l lab
  | .label x _ => l == some x
  | .switch_ _ => isBreak && l.isNone
  | _ => false

def hitTgt (isBreak : Bool) : BI → Option Nat
  | .loop _ bp cp | .forof _ bp cp => some (if isBreak then bp else cp)
  | .label _ bp | .switch_ bp => if isBreak then some bp else none
  | _ => none

def exitC (l : Option Label) (isBreak : Bool) (c : BI) (ctx : List BI) : List Instr :=
  match c with
  | .try_ => [Instr.leaveTry]
  | .scope n => [Instr.leaveBlock n]
  | .with_ => [Instr.leaveWith]
  | .forof _ _ _ => [Instr.enumPopClose]
  | .iscope => if !isBreak && hitsHead l ctx then [] else [Instr.leaveBlock 1]
  | _ => []

theorem findBrk_cons (l : Option Label) (isBreak : Bool) (c : BI) (ctx : List BI) :
    findBrk l isBreak (c :: ctx) =
      if hitC l isBreak c then (hitTgt isBreak c).map (([], ·))
      else (findBrk l isBreak ctx).map fun p => (exitC l isBreak c ctx ++ p.1, p.2) := by
  cases c
  case iscope =>
    simp only [findBrk, hitC, exitC]
    cases findBrk l isBreak ctx <;> cases isBreak <;> cases hitsHead l ctx <;> rfl
  all_goals simp only [findBrk, hitC, hitTgt, exitC] <;> cases findBrk l isBreak ctx <;> cases isBreak <;> simp

/-- compiler_stmt.go:582 findBreakBlock on a block that matches `c` (so is not `breaking`) -/
theorem fbb_cons {c : BI} {b : Block} (l : Option Label) (isBreak : Bool) (rest : List Block) (h : MatchB c b) :
    findBreakBlock l isBreak (b :: rest) =
      if hitC l isBreak c then some rest.length else findBreakBlock l isBreak rest := by
  obtain ⟨hb, h⟩ := h
  cases c <;> cases l <;>
    simp_all [findBreakBlock, findLabelled, findUnlabelled, hitC, labMatch, Bool.beq_comm (a := (_ : Label))]

theorem stepB_size {c : BI} {b : Block} (l : Option Label) (isBreak : Bool) (ctx : List BI) (code : Array Instr)
    (hm : MatchB c b) (hs : c = BI.iscope → (!isBreak && hitsHead l ctx) = false) :
    (stepB b code).2.size = code.size + (exitC l isBreak c ctx).length := by
  have hty := hm.2
  cases c
  case iscope => simp [stepB, exitC, hty.1, hs rfl]
  all_goals simp [stepB, exitC, hty.1]

theorem matchB_typ_ne_iter {c : BI} {b : Block} (h : MatchB c b) (hc : c ≠ BI.iscope) : b.typ ≠ BT.iterScope := by
  obtain ⟨_, h2⟩ := h
  cases c <;> first | exact absurd rfl hc | (intro hh; simp [hh] at h2)

theorem fbb_lt (l : Option Label) (isBreak : Bool) {t : Nat} :
    ∀ (blocks : List Block) (ctx : List BI), Match ctx blocks → findBreakBlock l isBreak blocks = some t →
      t < blocks.length := by
  intro blocks
  induction blocks with
  | nil => intro ctx _ h; cases l <;> simp [findBreakBlock, findLabelled, findUnlabelled] at h
  | cons b rest ih =>
    intro ctx hm h
    cases ctx with
    | nil => exact absurd hm (by simp [Match])
    | cons c ctx =>
      obtain ⟨hmb, hmr⟩ := hm
      rw [fbb_cons l isBreak rest hmb] at h
      by_cases htb : hitC l isBreak c = true
      · simp only [htb, if_true, Option.some.injEq] at h
        simp [← h]
      · simp only [htb, Bool.false_eq_true, if_false] at h
        have := ih ctx hmr h
        simp; omega

/-- emitBlockExitCode:628 against the `.iscope` clause of `findBrk`: the walk stops at a per-iteration scope exactly when
the branch is a `continue` whose target is the plain loop directly below it -/
theorem stop_iff {l : Option Label} {isBreak : Bool} {ctx : List BI} {rest : List Block} {t : Nat} (b : Block)
    (hm : Match ctx rest) (hfb : findBreakBlock l isBreak rest = some t) :
    ((!isBreak && typAtHeight t (b :: rest) == some BT.loop) = true ∧ rest.length = t + 1) ↔
      (!isBreak && hitsHead l ctx) = true := by
  have hlt := fbb_lt l isBreak rest ctx hm hfb
  cases rest with
  | nil => simp at hlt
  | cons lb r =>
    cases ctx with
    | nil => exact absurd hm (by simp [Match])
    | cons c1 ctx1 =>
      obtain ⟨hm1, hmr⟩ := hm
      rw [fbb_cons l isBreak r hm1] at hfb
      by_cases hh : hitC l isBreak c1 = true
      · -- the block below is the target: it is a plain loop iff its entry is one
        simp only [hh, if_true, Option.some.injEq] at hfb
        subst hfb
        obtain ⟨_, hm1⟩ := hm1
        cases c1 <;> simp_all [typAtHeight, hitsHead, hitC]
      · simp only [hh, Bool.false_eq_true, if_false] at hfb
        have := fbb_lt l isBreak r ctx1 hmr hfb
        have hne : (lb :: r).length ≠ t + 1 := by simp; omega
        cases c1 <;> simp_all [hitsHead, hitC]

/-- `F` is `⟨code, blocks⟩` after emitting (the resolved form of) `G`: what `EqR ctx ⟨code, blocks⟩ F G` says, position
by position.  `old` says more than the listing equality does (`pend` agrees as an `Option`, not only after `getD`):
passing an outer block needs it, since the outermost block wins. -/
structure BranchOK (ctx : List BI) (blocks : List Block) (code : Array Instr) (G : List Instr) (F : CS) : Prop where
  m : Match ctx F.blocks
  new : ∀ k, k ∈ pendAll F.blocks → k ∈ pendAll blocks ∨ code.size ≤ k ∧ k < F.code.size
  old : ∀ k, k < code.size → pend ctx F.blocks k = pend ctx blocks k ∧ F.code[k]? = code[k]?
  le : code.size ≤ F.code.size
  tail : ∀ j, (RL ctx F)[code.size + j]? = G[j]?
  conts : F.blocks.map Block.cont = blocks.map Block.cont

theorem BranchOK.refl {ctx : List BI} {blocks : List Block} {code : Array Instr} (hm : Match ctx blocks) :
    BranchOK ctx blocks code [] ⟨code, blocks⟩ :=
  ⟨hm, fun _ hk => Or.inl hk, fun _ _ => ⟨rfl, rfl⟩, Nat.le_refl _,
    fun _ => List.getElem?_eq_none (by rw [RL_length]; exact Nat.le_add_right ..), rfl⟩

theorem resolveHere_fresh {c : BI} {b : Block} {n k : Nat} (hb : ∀ x, x ∈ b.breaks ++ b.conts → x < n) (hk : n ≤ k) :
    resolveHere c b k = none := by
  have h1 : k ∉ b.breaks := fun h => Nat.lt_irrefl k (Nat.lt_of_lt_of_le (hb k (List.mem_append_left _ h)) hk)
  have h2 : k ∉ b.conts := fun h => Nat.lt_irrefl k (Nat.lt_of_lt_of_le (hb k (List.mem_append_right _ h)) hk)
  cases c <;> simp [resolveHere, h1, h2]

theorem pend_cons_none {c : BI} {ctx : List BI} {b : Block} {bs : List Block} {k : Nat}
    (h : resolveHere c b k = none) : pend (c :: ctx) (b :: bs) k = pend ctx bs k := by
  simp only [pend]
  cases pend ctx bs k with
  | some i => rfl
  | none => exact h

theorem RL_cons_fresh {c : BI} {ctx : List BI} {b : Block} {bs : List Block} {code : Array Instr} {k : Nat}
    (h : resolveHere c b k = none) : (RL (c :: ctx) ⟨code, b :: bs⟩)[k]? = (RL ctx ⟨code, bs⟩)[k]? := by
  simp only [RL_getElem?, vw, pend_cons_none h]

theorem BranchOK.lift0 {c : BI} {ctx : List BI} {b : Block} {rest : List Block} {code : Array Instr}
    {G : List Instr} {F' : CS} (hm : MatchB c b) (hp : ∀ k, k ∈ pendAll (b :: rest) → k < code.size)
    (h : BranchOK ctx rest code G F') :
    BranchOK (c :: ctx) (b :: rest) code G { code := F'.code, blocks := b :: F'.blocks } := by
  have hbf : ∀ x, x ∈ b.breaks ++ b.conts → x < code.size := fun x hx => hp x (mem_pendAll_cons.2 (Or.inl hx))
  refine ⟨⟨hm, h.m⟩, ?_, ?_, h.le, ?_, by simp [h.conts]⟩
  · intro k hk
    rcases mem_pendAll_cons.1 hk with hk | hk
    · exact Or.inl (mem_pendAll_cons.2 (Or.inl hk))
    · exact (h.new k hk).imp_left fun h1 => mem_pendAll_cons.2 (Or.inr h1)
  · intro k hk
    refine ⟨?_, (h.old k hk).2⟩
    simp only [pend, (h.old k hk).1]
  · exact fun j => (RL_cons_fresh (resolveHere_fresh hbf (Nat.le_add_right _ _))).trans (h.tail j)

/-- passing a block that gets one more position, `code.size`, where `i1` is emitted: it reads `x` there, as the block
resolves it (`i1` itself if the block does not list the position) -/
theorem BranchOK.lift1 {c : BI} {ctx : List BI} {b b' : Block} {rest : List Block} {code : Array Instr}
    {i1 x : Instr} {G' : List Instr} {F' : CS} (hm' : MatchB c b')
    (hp : ∀ k, k ∈ pendAll (b :: rest) → k < code.size)
    (hb' : ∀ k, k ∈ b'.breaks ++ b'.conts → k ∈ b.breaks ++ b.conts ∨ k = code.size)
    (hres : ∀ k, k ≠ code.size → resolveHere c b' k = resolveHere c b k)
    (hx : (resolveHere c b' code.size).getD i1 = x) (hb'c : b'.cont = b.cont)
    (h : BranchOK ctx rest (code.push i1) G' F') :
    BranchOK (c :: ctx) (b :: rest) code (x :: G') { code := F'.code, blocks := b' :: F'.blocks } := by
  have hbf : ∀ k, k ∈ b.breaks ++ b.conts → k < code.size := fun k hk => hp k (mem_pendAll_cons.2 (Or.inl hk))
  have hb'f : ∀ k, k ∈ b'.breaks ++ b'.conts → k < code.size + 1 := by
    intro k hk
    rcases hb' k hk with h1 | h1
    · exact Nat.lt_succ_of_lt (hbf k h1)
    · rw [h1]; exact Nat.lt_succ_self _
  have hsz : (code.push i1).size = code.size + 1 := by simp
  have hrestp : ∀ k, k ∈ pendAll rest → k < code.size := fun k hk => hp k (mem_pendAll_cons.2 (Or.inr hk))
  have hle : code.size + 1 ≤ F'.code.size := hsz ▸ h.le
  refine ⟨⟨hm', h.m⟩, ?_, ?_, Nat.le_of_succ_le hle, ?_, by simp [h.conts, hb'c]⟩
  · intro k hk
    rcases mem_pendAll_cons.1 hk with hk | hk
    · rcases hb' k hk with h1 | h1
      · exact Or.inl (mem_pendAll_cons.2 (Or.inl h1))
      · exact Or.inr ⟨Nat.le_of_eq h1.symm, h1 ▸ hle⟩
    · rcases h.new k hk with h1 | ⟨h1, h2⟩
      · exact Or.inl (mem_pendAll_cons.2 (Or.inr h1))
      · exact Or.inr ⟨Nat.le_of_succ_le (Nat.le_trans (Nat.le_of_eq hsz.symm) h1), h2⟩
  · intro k hk
    have hk1 : k < (code.push i1).size := by rw [hsz]; omega
    obtain ⟨h1, h2⟩ := h.old k hk1
    refine ⟨?_, ?_⟩
    · simp only [pend, h1, hres k (Nat.ne_of_lt hk)]
    · rw [h2]; simp [Array.getElem?_push, Nat.ne_of_lt hk]
  · intro j
    cases j with
    | zero =>
      -- the exit instruction itself: below this block nothing is pending there, so it reads as this block resolves it
      obtain ⟨h1, h2⟩ := h.old code.size (by rw [hsz]; omega)
      have hnone : pend ctx rest code.size = none := pend_none (fun hh => Nat.lt_irrefl _ (hrestp _ hh))
      have hlt : code.size < F'.code.size := hle
      simp only [RL_getElem?, hlt, if_true, vw, Nat.add_zero, pend, h1, hnone, h2, List.getElem?_cons_zero, Option.some.injEq]
      rw [← hx]
      cases resolveHere c b' code.size with
      | some y => rfl
      | none => simp
    | succ j =>
      have := h.tail j
      rw [hsz] at this
      rw [RL_cons_fresh (resolveHere_fresh hb'f (by omega)), List.getElem?_cons_succ,
        show code.size + (j + 1) = code.size + 1 + j by omega, this]

theorem BranchOK.here {c : BI} {ctx : List BI} {b : Block} {rest : List Block} {code : Array Instr}
    {isBreak : Bool} {tgt : Nat} (hm : MatchB c b) (hm2 : Match ctx rest)
    (hp : ∀ k, k ∈ pendAll (b :: rest) → k < code.size) (hc : hitTgt isBreak c = some tgt) :
    BranchOK (c :: ctx) (b :: rest) code [Instr.jump (CS.rel tgt code.size)]
      { code := code.push Instr.nop,
        blocks := (if isBreak then { b with breaks := b.breaks ++ [code.size] }
                   else { b with conts := b.conts ++ [code.size] }) :: rest } := by
  have hnc : code.size ∉ b.conts :=
    fun h => Nat.lt_irrefl _ (hp _ (mem_pendAll_cons.2 (Or.inl (List.mem_append_right _ h))))
  obtain ⟨h1, h2⟩ := hm
  refine BranchOK.lift1 (i1 := Instr.nop) (x := Instr.jump (CS.rel tgt code.size)) ?_ hp
    (fun k => by cases isBreak <;> simp [or_comm, or_left_comm]) (fun k hne => ?_) ?_ (by cases isBreak <;> rfl)
    (BranchOK.refl hm2)
  · cases c <;> cases isBreak <;> simp [hitTgt] at hc <;> exact ⟨h1, h2⟩
  · cases c <;> cases isBreak <;> simp [resolveHere, hne]
  · cases c <;> cases isBreak <;> simp [hitTgt] at hc <;> simp [resolveHere, hnc, hc]

/-- passing a scope: a placeholder that `leaveScopeBlock n` will patch to `leaveBlock n` (lexical scope, per-iteration
scope) -/
theorem BranchOK.liftScope {c : BI} {ctx : List BI} {b : Block} {rest : List Block} {code : Array Instr} {n : Nat}
    {G' : List Instr} {F' : CS} (hc : c = BI.scope n ∨ c = BI.iscope ∧ n = 1) (hm : MatchB c b)
    (hp : ∀ k, k ∈ pendAll (b :: rest) → k < code.size) (hok : BranchOK ctx rest (code.push Instr.nop) G' F') :
    BranchOK (c :: ctx) (b :: rest) code (Instr.leaveBlock n :: G')
      ⟨F'.code, { b with breaks := b.breaks ++ [code.size] } :: F'.blocks⟩ := by
  have hres : ∀ b' k, resolveHere c b' k = if k ∈ b'.breaks then some (Instr.leaveBlock n) else none := by
    rcases hc with rfl | ⟨rfl, rfl⟩ <;> exact fun _ _ => rfl
  have hco : b.conts = [] := by
    rcases hc with rfl | ⟨rfl, rfl⟩ <;> exact hm.2.2.2
  have hm' : MatchB c { b with breaks := b.breaks ++ [code.size] } := by
    rcases hc with rfl | ⟨rfl, rfl⟩ <;> exact ⟨hm.1, hm.2⟩
  exact BranchOK.lift1 (i1 := Instr.nop) hm' hp (fun k => by simp [hco]) (fun k hk => by simp [hres, hk]) (by simp [hres])
    rfl hok

theorem BranchOK.pass {c : BI} {ctx : List BI} {b : Block} {rest : List Block} {code : Array Instr} {G' : List Instr}
    {F' : CS} (l : Option Label) (isBreak : Bool) (hm : MatchB c b)
    (hp : ∀ k, k ∈ pendAll (b :: rest) → k < code.size) (hs : c = BI.iscope → (!isBreak && hitsHead l ctx) = false)
    (h : BranchOK ctx rest (stepB b code).2 G' F') :
    BranchOK (c :: ctx) (b :: rest) code (exitC l isBreak c ctx ++ G') ⟨F'.code, (stepB b code).1 :: F'.blocks⟩ := by
  have hres : resolveHere c b code.size = none :=
    resolveHere_fresh (fun x hx => hp x (mem_pendAll_cons.2 (Or.inl hx))) (Nat.le_refl _)
  have hty := hm.2
  cases c
  case loop | label | switch_ =>
    simp only [stepB, hty.1] at h ⊢
    exact BranchOK.lift0 hm hp h
  case try_ | with_ | forof =>
    simp only [stepB, hty.1] at h ⊢
    exact BranchOK.lift1 hm hp (fun _ => Or.inl) (fun _ _ => rfl) (by simp [hres]) rfl h
  case scope n =>
    rw [show stepB b code = ({ b with breaks := b.breaks ++ [code.size] }, code.push Instr.nop) by simp [stepB, hty.1]] at h ⊢
    exact BranchOK.liftScope (.inl rfl) hm hp h
  case iscope =>
    rw [show stepB b code = ({ b with breaks := b.breaks ++ [code.size] }, code.push Instr.nop) by simp [stepB, hty.1]] at h ⊢
    simp only [exitC, hs rfl, Bool.false_eq_true, if_false]
    exact BranchOK.liftScope (.inr ⟨rfl, rfl⟩) hm hp h

theorem branch_walk (l : Option Label) (isBreak : Bool) :
    ∀ (blocks : List Block) (ctx : List BI) (code : Array Instr) (ex : List Instr) (tgt : Nat),
      Match ctx blocks → (∀ k, k ∈ pendAll blocks → k < code.size) → findBrk l isBreak ctx = some (ex, tgt) →
      ∃ t, findBreakBlock l isBreak blocks = some t ∧
        BranchOK ctx blocks code (ex ++ [Instr.jump (CS.rel tgt (code.size + ex.length))])
          (branchF t isBreak (!isBreak && typAtHeight t blocks == some BT.loop) blocks code) := by
  intro blocks
  induction blocks with
  | nil =>
    intro ctx code ex tgt hm _ hf
    cases ctx with
    | nil => simp [findBrk] at hf
    | cons c ctx => exact absurd hm (by simp [Match])
  | cons b rest ih =>
    intro ctx code ex tgt hm hp hf
    cases ctx with
    | nil => exact absurd hm (by simp [Match])
    | cons c ctx =>
      obtain ⟨hmb, hmr⟩ := hm
      rw [findBrk_cons] at hf
      rw [fbb_cons l isBreak rest hmb]
      by_cases hh : hitC l isBreak c = true
      · rw [if_pos hh] at hf ⊢
        obtain ⟨tg, htg, hex⟩ := Option.map_eq_some_iff.1 hf
        cases hex
        exact ⟨rest.length, rfl, by rw [branchF_here]; exact BranchOK.here hmb hmr hp htg⟩
      · rw [if_neg hh] at hf ⊢
        obtain ⟨⟨ex', t'⟩, hfr, hex⟩ := Option.map_eq_some_iff.1 hf
        obtain ⟨rfl, rfl⟩ := Prod.mk.inj hex
        -- the walk below this block, from whatever code this block leaves
        have below : ∀ code1 : Array Instr, code.size ≤ code1.size →
            ∃ t, findBreakBlock l isBreak rest = some t ∧ rest.length ≠ t ∧
              BranchOK ctx rest code1 (ex' ++ [Instr.jump (CS.rel t' (code1.size + ex'.length))])
                (branchF t isBreak (!isBreak && typAtHeight t (b :: rest) == some BT.loop) rest code1) := by
          intro code1 hle
          obtain ⟨t, hfb, hok⟩ := ih ctx code1 ex' t' hmr
            (fun k hk => Nat.lt_of_lt_of_le (hp k (mem_pendAll_cons.2 (Or.inr hk))) hle) hfr
          have hne : rest.length ≠ t := Nat.ne_of_gt (fbb_lt l isBreak rest ctx hmr hfb)
          exact ⟨t, hfb, hne, by rw [show typAtHeight t (b :: rest) = typAtHeight t rest from if_neg hne]; exact hok⟩
        by_cases hs : c = BI.iscope ∧ (!isBreak && hitsHead l ctx) = true
        · -- `continue` of the loop that owns this per-iteration scope: the walk stops here
          obtain ⟨rfl, hs⟩ := hs
          obtain ⟨t, hfb, hne, hok⟩ := below code (Nat.le_refl _)
          obtain ⟨hcfl, hlen⟩ := (stop_iff b hmr hfb).2 hs
          refine ⟨t, hfb, ?_⟩
          rw [hcfl] at hok ⊢
          rw [branchF_stop t isBreak b rest code hmb.2.1 hlen]
          simp only [exitC, hs, if_true, List.nil_append]
          exact BranchOK.lift0 hmb hp hok
        · have hs' : c = BI.iscope → (!isBreak && hitsHead l ctx) = false :=
            fun hc => Bool.eq_false_iff.2 fun h => hs ⟨hc, h⟩
          have hsz := stepB_size l isBreak ctx code hmb hs'
          obtain ⟨t, hfb, hne, hok⟩ := below (stepB b code).2 (by rw [hsz]; exact Nat.le_add_right ..)
          refine ⟨t, hfb, ?_⟩
          rw [branchF_cons t isBreak _ b rest code hne fun ⟨hty, hcf, hlen⟩ =>
            hs ⟨Decidable.byContradiction fun h => matchB_typ_ne_iter hmb h hty, (stop_iff b hmr hfb).1 ⟨hcf, hlen⟩⟩]
          rw [hsz, Nat.add_assoc, ← List.length_append] at hok
          rw [List.append_assoc]
          exact BranchOK.pass l isBreak hmb hp hs' hok

end GojaModel.C08.S2
