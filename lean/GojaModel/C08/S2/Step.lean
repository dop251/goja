/-
  C08 — what the instructions of the mini-VM do, below the simulation (`S2/Sim.lean`).  One equation of `VM.step` per
  instruction form (`step_<instr>`, with a suffix where the instruction branches), stated over variables; the instructions
  that only move the pc, the operand stack or a loop counter are also covered as a class (`quiet`, `straight`), which is
  all the simulation needs of them outside the switch dispatch.  handleThrow on a frame stack whose top frame is known.
  `Run`, a segment of execution (`Reach` together with what it preserves), with its sequencing rules; `LoopStep`, where a
  counting loop stands after its test.

  `CompileProps.lean` is imported for `handleThrow_none`; it is also the first module to unfold `VM.step` by `simp`, which
  generates the equation lemmas of that 40-way `match` once for every module above it.  A module that has to generate them
  itself pays for them again in each proof that unfolds `VM.step` (each equation below would cost several times as much to check).
-/
import GojaModel.C08.S2.Lemmas
import GojaModel.C08.CompileProps

namespace GojaModel.C08.S2
open Compl

theorem drop_ext (xs b : List Val) : (xs ++ b).drop ((xs ++ b).length - b.length) = b := by
  rw [List.length_append, Nat.add_sub_cancel, List.drop_left]

theorem jmp_rel (a b : Nat) : ((a : Int) + CS.rel b a).toNat = b := by
  simp [CS.rel]; omega

theorem Reach.stepTo {C : Code} {σ τ ρ : VM} {i : Instr} (hh : σ.halted = none) (hi : C[σ.pc]? = some i)
    (he : VM.step σ i = τ) (hr : Reach C τ ρ) : Reach C σ ρ := by
  subst he; exact Reach.step hh hi hr

/-- one ordinary instruction: the successor state and what it preserves -/
theorem one_step {C : Code} {σ : VM} {i : Instr} {l : List Ev} {I : List Nat} {rf : Bool}
    (hh : σ.halted = none) (hi : C[σ.pc]? = some i)
    (hc : Common σ (VM.step σ i) l I rf) : Reach C σ (VM.step σ i) ∧ Common σ (VM.step σ i) l I rf :=
  ⟨Reach.one hh hi, hc⟩

section step
variable {τ : VM} {g : TryFrame} {rest : List TryFrame}

theorem step_emit (τ : VM) (e : Ev) : VM.step τ (.emit e) = { τ with log := τ.log ++ [e], pc := τ.pc + 1 } := rfl

theorem step_catchLog {v : Val} {st : List Val} (i : Nat) (hs : τ.stack = v :: st) :
    VM.step τ (.catchLog i) = { τ with log := τ.log ++ [Ev.caught i v], pc := τ.pc + 1 } := by
  simp only [VM.step, VM.out, VM.top, VM.next, hs, List.headD_cons]

theorem step_fatal (τ : VM) : VM.step τ .fatal = VM.throwV none { τ with log := τ.log ++ [Ev.fatal] } := rfl

theorem step_try (τ : VM) (c f : Nat) :
    VM.step τ (.try_ c f) =
      { τ with tries := { iterLen := τ.iters.length, sp := τ.stack.length,
                          catchPos := if c > 0 then some (τ.pc + c) else none,
                          finallyPos := if f > 0 then some (τ.pc + f) else none } :: τ.tries,
               pc := τ.pc + 1 } := rfl

theorem step_leaveTry_dead (ht : τ.tries = g :: rest) (hg : g.finallyPos = none) :
    VM.step τ .leaveTry = { τ with tries := rest, pc := τ.pc + 1 } := by
  simp only [VM.step, ht, hg, VM.next]

theorem step_leaveTry_armed {p : Nat} {xs S : List Val} (ht : τ.tries = g :: rest) (hg : g.finallyPos = some p)
    (hs : τ.stack = xs ++ S) (hsp : g.sp = S.length) :
    VM.step τ .leaveTry =
      { τ with stack := S, pc := p,
               tries := { g with finallyRet := some (τ.pc + 1), finallyPos := none, catchPos := none,
                                 result := τ.result } :: rest } := by
  simp only [VM.step, ht, hg, VM.setSp, hs, hsp, drop_ext]

theorem step_saveResult {v : Val} {st : List Val} (hs : τ.stack = v :: st) :
    VM.step τ .saveResult = { τ with stack := st, result := v, pc := τ.pc + 1 } := by
  simp only [VM.step, VM.popV, VM.top, VM.next, hs, List.tail_cons, List.headD_cons]

theorem step_loadResult (τ : VM) : VM.step τ .loadResult = { τ with stack := τ.result :: τ.stack, pc := τ.pc + 1 } := rfl

theorem step_enterFinally (ht : τ.tries = g :: rest) :
    VM.step τ .enterFinally = { τ with tries := { g with finallyPos := none, catchPos := none } :: rest, pc := τ.pc + 1 } := by
  simp only [VM.step, ht, VM.next]

theorem step_leaveFinally_exc {v : Val} (ht : τ.tries = g :: rest) (hx : g.exc = some v) :
    VM.step τ .leaveFinally = VM.throwV (some v) { τ with tries := rest } := by
  simp only [VM.step, ht, hx]

theorem step_leaveFinally_ret {r : Nat} (ht : τ.tries = g :: rest) (hx : g.exc = none) (hr : g.finallyRet = some r) :
    VM.step τ .leaveFinally = { τ with tries := rest, pc := r, result := g.result } := by
  simp only [VM.step, ht, hx, hr]

theorem step_leaveFinally_next (ht : τ.tries = g :: rest) (hx : g.exc = none) (hr : g.finallyRet = none) :
    VM.step τ .leaveFinally = { τ with tries := rest, pc := τ.pc + 1 } := by
  simp only [VM.step, ht, hx, hr, VM.next]

theorem step_loadVal (τ : VM) (v : Val) : VM.step τ (.loadVal v) = { τ with stack := v :: τ.stack, pc := τ.pc + 1 } := rfl

theorem step_dup {v : Val} {st : List Val} (hs : τ.stack = v :: st) :
    VM.step τ .dup = { τ with stack := v :: v :: st, pc := τ.pc + 1 } := by
  simp only [VM.step, VM.pushV, VM.top, VM.next, hs, List.headD_cons]

theorem step_pop {v : Val} {st : List Val} (hs : τ.stack = v :: st) :
    VM.step τ .pop = { τ with stack := st, pc := τ.pc + 1 } := by
  simp only [VM.step, VM.popV, VM.next, hs, List.tail_cons]

theorem step_strictEq {a b : Val} {st : List Val} (hs : τ.stack = b :: a :: st) :
    VM.step τ .strictEq = { τ with stack := VM.boolV (a == b) :: st, pc := τ.pc + 1 } := by
  simp only [VM.step, VM.pushV, VM.popV, VM.top, VM.next, hs, List.tail_cons, List.headD_cons]

theorem step_ret (τ : VM) : VM.step τ .ret = { τ with halted := some (Compl.ret (τ.stack.headD 0)) } := rfl

theorem step_cntZero (τ : VM) (id : Nat) :
    VM.step τ (.cntZero id) = { τ with cnt := fun x => if x = id then some 0 else τ.cnt x, pc := τ.pc + 1 } := rfl

theorem step_loadSel {cur env : Nat} (u : Bool) (k : Nat) (hv : τ.cnt cur = some env) :
    VM.step τ (.loadSel u k cur) = { τ with pc := τ.pc + 1, stack := (if u then env else k) :: τ.stack } := by
  simp only [VM.step, VM.pushV, VM.next, VM.getCnt, hv, Option.getD_some]

/-- the two tests push their flag; `Run.test` takes them in this form -/
theorem step_cntLt {id i : Nat} (n : Nat) (hv : τ.cnt id = some i) :
    VM.step τ (.cntLt id n) = { τ with pc := τ.pc + 1, stack := VM.boolV (decide (i < n)) :: τ.stack } := by
  simp only [VM.step, VM.pushV, VM.next, VM.getCnt, hv, Option.getD_some]

theorem step_cntEq {cur env : Nat} (m : Nat) (hv : τ.cnt cur = some env) :
    VM.step τ (.cntEq cur m) = { τ with pc := τ.pc + 1, stack := VM.boolV (env == m) :: τ.stack } := by
  simp only [VM.step, VM.pushV, VM.next, VM.getCnt, hv, Option.getD_some]

theorem step_cntInc_cnt {id i : Nat} (h : τ.cnt id = some i) : (VM.step τ (.cntInc id)).cnt id = some (i + 1) := by
  simp only [VM.step, VM.next, VM.setCnt, VM.getCnt, h, if_true]

/-- `cntReset` leaves the counter unset, and the first `cntInc` then makes it 0 (`c = -1; ++c`) -/
theorem step_cntInc_cnt_unset {id : Nat} (h : τ.cnt id = none) : (VM.step τ (.cntInc id)).cnt id = some 0 := by
  simp only [VM.step, VM.next, VM.setCnt, VM.getCnt, h, if_true]

theorem step_jneP_taken {st : List Val} (n : Nat) (hs : τ.stack = 0 :: st) :
    VM.step τ (.jneP (Int.ofNat n)) = { τ with stack := st, pc := τ.pc + n } := by
  have : ((τ.pc : Int) + (n : Int)).toNat = τ.pc + n := by omega
  simp [VM.step, VM.popV, VM.top, VM.jmp, hs, this]

theorem step_jneP_next {x : Val} {st : List Val} (off : Int) (hs : τ.stack = x :: st) (hx : x ≠ 0) :
    VM.step τ (.jneP off) = { τ with stack := st, pc := τ.pc + 1 } := by
  simp [VM.step, VM.popV, VM.top, VM.next, hs, hx]

theorem step_jump_rel {q : Nat} (t : Nat) (hpc : τ.pc = q) : VM.step τ (.jump (CS.rel t q)) = { τ with pc := t } := by
  show ({ τ with pc := ((τ.pc : Int) + CS.rel t q).toNat } : VM) = _
  rw [hpc, jmp_rel]

theorem step_jump_nat (τ : VM) (n : Nat) : VM.step τ (.jump (Int.ofNat n)) = { τ with pc := τ.pc + n } := by
  have : ((τ.pc : Int) + Int.ofNat n).toNat = τ.pc + n := by simp only [Int.ofNat_eq_natCast]; omega
  simp only [VM.step, VM.jmp, this]

theorem step_iterateP (τ : VM) (sp : IterSpec) :
    VM.step τ (.iterateP sp) =
      { τ with iters := { sp := some sp } :: τ.iters, log := τ.log ++ [Ev.itOpen sp.id], pc := τ.pc + 1 } := rfl

variable {it : IterItem} {B : List IterItem} {sp : IterSpec}

/-- next() throws: the iterator is dropped before the throw, so nobody calls return() on it -/
theorem step_iterNext_fail (off : Int) (hi : τ.iters = it :: B) (hsp : it.sp = some sp) (h : sp.nextThrow = some it.idx) :
    VM.step τ (.iterNext off) =
      VM.throwV (some (100 + sp.id)) { τ with iters := B, log := τ.log ++ [Ev.itNext sp.id, Ev.itFail sp.id] } := by
  simp [VM.step, VM.out, hi, hsp, h]

theorem step_iterNext_done (off : Int) (hi : τ.iters = it :: B) (hsp : it.sp = some sp) (h1 : sp.nextThrow ≠ some it.idx)
    (h2 : sp.n ≤ it.idx) :
    VM.step τ (.iterNext off) =
      { τ with iters := { it with sp := none } :: B, log := τ.log ++ [Ev.itNext sp.id, Ev.itDone sp.id],
               pc := ((τ.pc : Int) + off).toNat } := by
  simp [VM.step, VM.out, VM.jmp, hi, hsp, h1, h2]

theorem step_iterNext_more (off : Int) (hi : τ.iters = it :: B) (hsp : it.sp = some sp) (h1 : sp.nextThrow ≠ some it.idx)
    (h2 : ¬ sp.n ≤ it.idx) :
    VM.step τ (.iterNext off) =
      { τ with iters := { it with val := it.idx, idx := it.idx + 1 } :: B, log := τ.log ++ [Ev.itNext sp.id],
               pc := τ.pc + 1 } := by
  simp [VM.step, VM.out, VM.next, hi, hsp, h1, h2]

theorem step_enumGet (id : Nat) (hi : τ.iters = it :: B) :
    VM.step τ (.enumGet id) = { τ with cnt := fun x => if x = id then some it.val else τ.cnt x, pc := τ.pc + 1 } := by
  simp only [VM.step, hi, VM.setCnt, VM.next]

theorem step_enumPop (τ : VM) : VM.step τ .enumPop = { τ with iters := τ.iters.tail, pc := τ.pc + 1 } := rfl

theorem step_enumPopClose (hi : τ.iters = it :: B) (hsp : it.sp = some sp) :
    VM.step τ .enumPopClose =
      match sp.ret with
      | .ok => { τ with iters := B, log := τ.log ++ [Ev.itRet sp.id], pc := τ.pc + 1 }
      | .thr => VM.throwV (some (200 + sp.id)) { τ with iters := B, log := τ.log ++ [Ev.itRet sp.id] }
      | .nonobj => VM.throwV (some TE) { τ with iters := B, log := τ.log ++ [Ev.itRet sp.id] } := by
  simp only [VM.step, hi, hsp, VM.out, VM.next]
  cases sp.ret <;> rfl

end step

def quiet : Instr → Bool
  | .loadVal _ | .loadResult | .pop | .dup | .strictEq | .cntReset _ | .cntZero _ | .cntInc _ | .cntLt _ _
  | .cntEq _ _ | .loadSel _ _ _ | .jump _ | .jneP _ | .jeqP _ | .enterWith | .leaveWith | .copyStash
  | .enterBlock _ | .leaveBlock _ => true
  | _ => false

def writes : Instr → Option Nat
  | .cntReset id | .cntZero id | .cntInc id => some id
  | _ => none

theorem step_quiet (σ : VM) {i : Instr} (hq : quiet i = true) :
    ∃ pc st cnt, VM.step σ i = { σ with pc := pc, stack := st, cnt := cnt } ∧
      ∀ x, writes i ≠ some x → cnt x = σ.cnt x := by
  cases i with
  | cntReset id | cntZero id | cntInc id =>
    exact ⟨_, _, _, rfl, fun x hx => if_neg (fun e => hx (by rw [e]; rfl))⟩
  | jneP off | jeqP off => simp only [VM.step]; split <;> exact ⟨_, _, _, rfl, fun _ _ => rfl⟩
  | loadVal _ | loadResult | pop | dup | strictEq | cntLt _ _ | cntEq _ _ | loadSel _ _ _ | jump _ | enterWith
  | leaveWith | copyStash | enterBlock _ | leaveBlock _ => exact ⟨_, _, _, rfl, fun _ _ => rfl⟩
  | _ => exact absurd hq Bool.false_ne_true

def straight : Instr → Bool
  | .jump _ | .jneP _ | .jeqP _ => false
  | i => quiet i

theorem straight_quiet {i : Instr} (h : straight i = true) : quiet i = true := by
  cases i <;> first | exact h | exact absurd h Bool.false_ne_true

theorem step_straight (σ : VM) {i : Instr} (h : straight i = true) : (VM.step σ i).pc = σ.pc + 1 := by
  cases i with
  | loadVal _ | loadResult | pop | dup | strictEq | cntReset _ | cntZero _ | cntInc _ | cntLt _ _ | cntEq _ _
  | loadSel _ _ _ | enterWith | leaveWith | copyStash | enterBlock _ | leaveBlock _ => rfl
  | _ => exact absurd h Bool.false_ne_true

theorem Common.quiet {σ : VM} {i : Instr} {I : List Nat} {rf : Bool} (hq : quiet i = true) (hh : σ.halted = none)
    (hw : ∀ x, writes i = some x → x ∈ I) : Common σ (VM.step σ i) [] I rf := by
  obtain ⟨pc, st, cnt, e, hc⟩ := step_quiet σ hq
  rw [e]
  exact ⟨(List.append_nil _).symm, rfl, rfl, hh, fun x hx => hc x (fun e => hx (hw x e)), fun _ => rfl⟩

theorem Common.emit {τ : VM} {I : List Nat} {rf : Bool} (e : Ev) (hh : τ.halted = none) :
    Common τ (VM.step τ (.emit e)) [e] I rf := ⟨rfl, rfl, rfl, hh, fun _ _ => rfl, fun _ => rfl⟩

theorem handleThrow_tries_irrel (ex : Option Val) (fs : List TryFrame) (vm : VM) (x : List TryFrame) :
    VM.handleThrow ex fs { vm with tries := x } = VM.handleThrow ex fs vm := by
  induction fs generalizing vm with
  | nil => simp [VM.handleThrow, VM.closeIters]
  | cons tf rest ih =>
    simp only [VM.handleThrow]
    split
    · exact ih vm
    · simp only [VM.closeIters, VM.setSp]
      split
      · rfl
      · split <;> rfl

theorem closeIters_go_above (xs B : List IterItem) (acc : List Ev) :
    VM.closeIters.go B.length true (xs ++ B) acc = (B, acc ++ clEv xs) := by
  induction xs generalizing acc with
  | nil =>
    cases B with
    | nil => simp [VM.closeIters.go, clEv]
    | cons b r => simp [VM.closeIters.go, clEv]
  | cons x r ih =>
    simp only [List.cons_append, VM.closeIters.go]
    have h : ¬ ((r ++ B).length + 1 ≤ B.length) := by simp; omega
    simp only [h, if_false]
    cases hs : x.sp <;> simp [ih, clEv, hs]

theorem closeIters_above (vm : VM) (xs B : List IterItem) (n : Nat) (hi : vm.iters = xs ++ B) (hn : n = B.length) :
    VM.closeIters n true vm = { vm with iters := B, log := vm.log ++ clEv xs } := by
  subst hn
  simp [VM.closeIters, hi, closeIters_go_above]

theorem throw_to_finally {v : Val} {τ : VM} {g : TryFrame} {rest : List TryFrame} {p : Nat} {xs B : List IterItem}
    {ys S : List Val} (ht : τ.tries = g :: rest) (hcp : g.catchPos = none) (hfp : g.finallyPos = some p)
    (hi : τ.iters = xs ++ B) (hil : g.iterLen = B.length) (hs : τ.stack = ys ++ S) (hsp : g.sp = S.length) :
    VM.throwV (some v) τ =
      { τ with stack := S
               pc := p
               tries := ({ g with exc := some v, finallyPos := none, finallyRet := none } : TryFrame) :: rest
               iters := B
               log := τ.log ++ clEv xs } := by
  have hc := closeIters_above (τ.setSp g.sp) xs B g.iterLen (by simpa [VM.setSp] using hi) hil
  simp only [VM.throwV, ht, VM.handleThrow, hcp, hfp, hc]
  simp [VM.setSp, hs, hsp]

theorem throw_to_catch {v : Val} {τ : VM} {g : TryFrame} {rest : List TryFrame} {p : Nat} {xs B : List IterItem}
    {ys S : List Val} (ht : τ.tries = g :: rest) (hcp : g.catchPos = some p)
    (hi : τ.iters = xs ++ B) (hil : g.iterLen = B.length) (hs : τ.stack = ys ++ S) (hsp : g.sp = S.length) :
    VM.throwV (some v) τ =
      { τ with stack := v :: S
               pc := p
               tries := ({ g with catchPos := none } : TryFrame) :: rest
               iters := B
               log := τ.log ++ clEv xs } := by
  have hc := closeIters_above (τ.setSp g.sp) xs B g.iterLen (by simpa [VM.setSp] using hi) hil
  simp only [VM.throwV, ht, VM.handleThrow, hcp, hc]
  simp [VM.setSp, VM.pushV, hs, hsp]

theorem throw_uncaught {v : Val} {τ : VM} (ht : τ.tries = []) (xs : List IterItem) (hi : τ.iters = xs) :
    VM.throwV (some v) τ = { τ with tries := [], iters := [], log := τ.log ++ clEv xs, halted := some (Compl.thr v) } := by
  have hc := closeIters_above { τ with tries := [] } xs [] 0 (by simpa using hi) rfl
  simp only [VM.throwV, ht, VM.handleThrow, Option.isSome_some, hc]

theorem throwV_dead {v : Val} {τ : VM} {g : TryFrame} {rest : List TryFrame} (ht : τ.tries = g :: rest)
    (hf : g.finallyPos = none) (hc : g.catchPos = none) :
    VM.throwV (some v) { τ with tries := rest } = VM.throwV (some v) τ := by
  simp only [VM.throwV, ht]
  rw [handleThrow_tries_irrel]
  simp [VM.handleThrow, hf, hc]

/-- for any flag `rf` (`Run.jump` has `false`), as `forOfSim` is stated for any -/
theorem runJump {C : Code} {σ : VM} {q t : Nat} {I : List Nat} {rf : Bool} (hi : C[q]? = some (Instr.jump (CS.rel t q)))
    (hpc : σ.pc = q) (hh : σ.halted = none) :
    Reach C σ { σ with pc := t } ∧ Common σ { σ with pc := t } [] I rf :=
  ⟨step_jump_rel t hpc ▸ Reach.one hh (hpc ▸ hi), ⟨(List.append_nil _).symm, rfl, rfl, hh, fun _ _ => rfl, fun _ => rfl⟩⟩

structure Run (C : Code) (I : List Nat) (σ τ : VM) (l : List Ev) : Prop where
  reach : Reach C σ τ
  common : Common σ τ l I false

namespace Run
variable {C : Code} {I : List Nat} {σ τ ρ : VM} {l l' : List Ev}

theorem trans (h1 : Run C I σ τ l) (h2 : Run C I τ ρ l') : Run C I σ ρ (l ++ l') :=
  ⟨h1.reach.trans h2.reach, h1.common.trans h2.common⟩

theorem emit {e : Ev} (hi : C[σ.pc]? = some (Instr.emit e)) (hh : σ.halted = none) :
    Run C I σ (VM.step σ (.emit e)) [e] :=
  ⟨Reach.one hh hi, Common.emit e hh⟩

theorem straight (is : List Instr) (hC : CodeAt C σ.pc is) (hs : is.all S2.straight = true)
    (hw : ∀ x, x ∈ is.filterMap writes → x ∈ I) (hh : σ.halted = none) :
    Run C I σ (is.foldl VM.step σ) [] ∧ (is.foldl VM.step σ).pc = σ.pc + is.length := by
  induction is generalizing σ with
  | nil => exact ⟨⟨Reach.refl σ, Common.rfl' hh⟩, rfl⟩
  | cons i is ih =>
    rw [List.all_cons, Bool.and_eq_true] at hs
    have c1 : Common σ (VM.step σ i) [] I false :=
      Common.quiet (straight_quiet hs.1) hh (fun x e => hw x (by rw [List.filterMap_cons, e]; exact List.mem_cons_self ..))
    have hp := step_straight σ hs.1
    obtain ⟨r, e⟩ := ih (σ := VM.step σ i) (hp ▸ codeAt_tail hC) hs.2
      (fun x hx => hw x (by
        rw [List.filterMap_cons]; split
        · exact hx
        · exact List.mem_cons_of_mem _ hx)) c1.halted
    exact ⟨⟨Reach.step hh (codeAt_head hC) r.reach, c1.trans r.common⟩,
      by rw [List.foldl_cons, e, hp, List.length_cons]; omega⟩

theorem jump {q t : Nat} (hi : C[q]? = some (Instr.jump (CS.rel t q))) (hpc : σ.pc = q) (hh : σ.halted = none) :
    Run C I σ { σ with pc := t } [] :=
  let ⟨r, c⟩ := runJump hi hpc hh
  ⟨r, c⟩

theorem test {p t : Nat} (tst : Instr) (b ne : Bool)
    (htst : VM.step σ tst = { σ with pc := σ.pc + 1, stack := VM.boolV b :: σ.stack })
    (hC : CodeAt C p [tst, if ne then Instr.jneP (CS.rel t (p + 1)) else Instr.jeqP (CS.rel t (p + 1))])
    (hpc : σ.pc = p) (hh : σ.halted = none) : Run C I σ { σ with pc := if b = ne then p + 2 else t } [] := by
  have e : VM.step (VM.step σ tst) (if ne then Instr.jneP (CS.rel t (p + 1)) else Instr.jeqP (CS.rel t (p + 1)))
      = { σ with pc := if b = ne then p + 2 else t } := by
    have hj : ((p : Int) + 1 + CS.rel t (p + 1)).toNat = t := by simp [CS.rel]; omega
    rw [htst]
    cases ne <;> cases b <;> simp [VM.step, VM.next, VM.popV, VM.top, VM.jmp, VM.boolV, hpc, hj]
  have i2 : C[(VM.step σ tst).pc]? = some (if ne then Instr.jneP (CS.rel t (p + 1)) else Instr.jeqP (CS.rel t (p + 1))) := by
    rw [htst]; show C[σ.pc + 1]? = _; rw [hpc]; exact codeAt_head (codeAt_tail hC)
  exact ⟨Reach.step hh (hpc ▸ codeAt_head hC) (e ▸ Reach.one (htst ▸ hh) i2),
    ⟨(List.append_nil _).symm, rfl, rfl, hh, fun _ _ => rfl, fun _ => rfl⟩⟩

theorem loopTest {p t id n i : Nat} (ne : Bool)
    (hC : CodeAt C p [Instr.cntLt id n, if ne then Instr.jneP (CS.rel t (p + 1)) else Instr.jeqP (CS.rel t (p + 1))])
    (hpc : σ.pc = p) (hh : σ.halted = none) (hv : σ.cnt id = some i) :
    Run C I σ { σ with pc := if decide (i < n) = ne then p + 2 else t } [] :=
  test (.cntLt id n) (decide (i < n)) ne (step_cntLt n hv) hC hpc hh

end Run

/-- where a counting loop stands after its test with the counter `id` at `j`, `N` being the number of iterations: in the body at
`bodyPc` (counter untouched) if `j < N`, else past the loop at `L`; reached from `τ` without events, operand stack as it was -/
def LoopStep (C : Code) (I : List Nat) (τ : VM) (id j N bodyPc L : Nat) : Prop :=
  ∃ τ', Run C I τ τ' [] ∧ τ'.stack = τ.stack ∧ (if j < N then τ'.pc = bodyPc ∧ τ'.cnt id = some j else τ'.pc = L)

theorem LoopStep.prepend {C : Code} {I : List Nat} {σ τ : VM} {id j N bodyPc L : Nat} (h0 : Run C I σ τ [])
    (hs : τ.stack = σ.stack) (h : LoopStep C I τ id j N bodyPc L) : LoopStep C I σ id j N bodyPc L :=
  let ⟨τ', r, s, c⟩ := h
  ⟨τ', h0.trans r, s.trans hs, c⟩

theorem LoopStep.head {C : Code} {σ : VM} {p t id n i : Nat} {I : List Nat}
    (hC : CodeAt C p [Instr.cntLt id n, Instr.jneP (CS.rel t (p + 1))])
    (hpc : σ.pc = p) (hh : σ.halted = none) (hv : σ.cnt id = some i) : LoopStep C I σ id i n (p + 2) t := by
  refine ⟨_, Run.loopTest true hC hpc hh hv, rfl, ?_⟩
  by_cases hlt : i < n
  · rw [if_pos hlt]; exact ⟨if_pos (decide_eq_true hlt), hv⟩
  · rw [if_neg hlt]; exact if_neg (by simpa using hlt)

theorem retExit_dead {C : Code} {τ : VM} {g : TryFrame} {rest : List TryFrame} {v : Val} {st : List Val} {R : List Instr}
    (hh : τ.halted = none) (hs : τ.stack = v :: st) (ht : τ.tries = g :: rest) (hg : g.finallyPos = none)
    (hC : CodeAt C τ.pc ([Instr.saveResult, Instr.leaveTry, Instr.loadResult] ++ R)) :
    Reach C τ { τ with stack := v :: st, result := v, pc := τ.pc + 1 + 1 + 1, tries := rest } ∧
    CodeAt C (τ.pc + 1 + 1 + 1) R := by
  refine ⟨?_, codeAt_tail (codeAt_tail (codeAt_tail hC))⟩
  refine Reach.stepTo hh (codeAt_head hC) (step_saveResult hs) ?_
  refine Reach.stepTo hh (codeAt_head (codeAt_tail hC))
    (step_leaveTry_dead (τ := { τ with stack := st, result := v, pc := τ.pc + 1 }) ht hg) ?_
  exact Reach.stepTo hh (codeAt_head (codeAt_tail (codeAt_tail hC))) (step_loadResult _) (Reach.refl _)

end GojaModel.C08.S2
