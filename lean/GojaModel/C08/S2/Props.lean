/-
  C08 — compiler correctness, STAGE 2: stage 1 + for-of over instrumented iterators.

  Stage 1 is the for-of-free part of this (head of `CompileSUp.lean`).  Relative to the stage-1 vocabulary the proofs have
    * the simulation invariant's iterator stack relative to the start state (`Common.iters : σ'.iters = σ.iters`),
    * a throw post-condition that carries the iterators still open above the base at the throw point; handleThrow closes
      exactly those above the catching frame's recorded height, innermost first (`closeIters_go_above`, `throw_to_catch`,
      `throw_to_finally`, `throw_uncaught`),
    * a context entry `BI.forof` (blockLoopEnum: break / outer continue / return leave the loop through `enumPopClose`),
      `forOfSim` (induction on the remaining calls of next(): failing next() drops the iterator without return();
      exhaustion pops it; break, outer continue, return call return() once, whose own error replaces the completion;
      a throw out of the body is closed by handleThrow), and the for-of case of `cf_eq`.

  compileCF_correct_stage2 : for EVERY program of the stage-2 fragment (`stage1` of this namespace: try/catch/finally,
  while/do/for, for (let ..;;), for-of (non-lexical head), two-clause switch, break/continue [label], return, throw,
  uncatchable error, labels, if, block scope, with) the mini-VM run on the code of the back-patching `compileCF` has the
  reference event log, halts with the reference completion and leaves empty try and iterator stacks.
  Not in the fragment: for-in, `for (let x of ..)`, finally blocks with a top-level break/continue.
-/
import GojaModel.C08.S2.Sim
import GojaModel.C08.S2.Eq
import GojaModel.C08.S2.NoNop
import GojaModel.C08.Props

namespace GojaModel.C08.S2
open Compl

/-- what the caller of the function observes: falling off the end is `return undefined` -/
def obsCompl : Compl → Compl
  | .normal _ => .ret 0
  | c => c

/-- Compiler correctness, stage 2, for the compositional emission.  For every stage-2 program whose loop counters are not the
reserved id 0 and whose code has no unresolved placeholder: with enough fuel the mini-VM halts, its
event log is the reference log and its completion is the reference completion (as the caller of the
function observes it). -/
theorem compileS_correct (p : Stmt) (hst : stage1 p = true) (h0 : 0 ∉ ids p) (hnop : Instr.nop ∉ compileS p) :
    ∃ fuel, (VM.run (compileS p).toArray fuel {}).log = (refSem p).2 ∧
            (VM.run (compileS p).toArray fuel {}).halted = some (obsCompl (refSem p).1) ∧
            (VM.run (compileS p).toArray fuel {}).tries = [] ∧ (VM.run (compileS p).toArray fuel {}).iters = [] := by
  let C : Code := (compileS p).toArray
  have hC : CodeAt C 0 (compileS p) := codeAt_toArray _
  simp only [compileS] at hC hnop
  rw [codeAt_append, codeAt_append] at hC
  obtain ⟨⟨hC0, hC1⟩, hC2⟩ := hC
  simp only [List.length_append, List.length_cons, List.length_nil, gen_length, List.map_nil, Nat.zero_add] at hC1 hC2
  have hnp : Instr.nop ∉ gen p 0 none [] 1 := fun h => hnop (List.mem_append_left _ (List.mem_append_right _ h))
  -- the prologue `c0 = 0`; the body then runs from `σ1`, whose log and stacks are empty
  let σ1 : VM := { cnt := fun x => if x = 0 then some 0 else none, pc := 1 }
  have hr1 : Reach C {} σ1 := Reach.stepTo rfl (codeAt_head hC0) (step_cntZero {} 0) (Reach.refl _)
  have S := sim p 0 none [] [] 1 C σ1 0 hst rfl (fun _ => rfl) h0 hnp hC1 rfl rfl rfl
  rw [adj_none] at S
  unfold Sim at S
  simp only [List.map_nil] at S
  show ∃ fuel, (VM.run C fuel {}).log = (refSem p).2 ∧ (VM.run C fuel {}).halted = some (obsCompl (refSem p).1) ∧
    (VM.run C fuel {}).tries = [] ∧ (VM.run C fuel {}).iters = []
  simp only [refSem]
  cases hex : exec 0 [] p with
  | mk c l =>
    rw [hex] at S
    cases c with
    | normal v =>
      obtain ⟨τ, h1, h2, h3, h4⟩ := S
      by_cases hew : endsWithReturn p = true
      · exact absurd (by rw [hex]; rfl) (flatten_last_not_normal p hew 0 [])
      · -- the implicit `return undefined`
        have hew' : endsWithReturn p = false := by simpa using hew
        simp only [hew', Bool.false_eq_true, if_false] at hC2
        have i1 : C[τ.pc]? = some (Instr.loadVal 0) := by
          have := codeAt_head hC2; rw [h3]; simpa [Nat.add_comm] using this
        have i2 : C[τ.pc + 1]? = some Instr.ret := by
          have := codeAt_head (codeAt_tail hC2); rw [h3]; simpa [Nat.add_comm] using this
        obtain ⟨fuel, hf⟩ := reach_run (hr1.trans (h1.trans (Reach.stepTo h2.halted i1 (step_loadVal τ 0)
          (Reach.stepTo h2.halted i2 (step_ret _) (Reach.refl _))))) rfl
        refine ⟨fuel, ?_⟩
        rw [hf]
        exact ⟨h2.log, rfl, h2.tries, h2.iters⟩
    | brk lb v =>
      obtain ⟨τ, _, _, _, ex, t, hf, _⟩ := S
      simp [findBrk] at hf
    | cont lb v =>
      obtain ⟨τ, _, _, _, ex, t, hf, _⟩ := S
      simp [findBrk] at hf
    | ret v =>
      obtain ⟨τ, h1, h2, ⟨xs, h3⟩, h4⟩ := S
      obtain ⟨fuel, hf⟩ := reach_run (hr1.trans (h1.trans (Reach.stepTo h2.halted (codeAt_head h4) (step_ret τ) (Reach.refl _)))) rfl
      refine ⟨fuel, ?_⟩
      rw [hf]
      exact ⟨h2.log, by show some (Compl.ret (τ.stack.headD 0)) = _; rw [h3]; rfl, h2.tries, h2.iters⟩
    | thr v =>
      obtain ⟨τ, its, l0, hl, h2, _, h4⟩ := S
      have hstep := throw_uncaught (v := v) h2.tries its (h2.iters.trans (List.append_nil its))
      obtain ⟨fuel, hf⟩ := reach_run (hr1.trans h4) (by rw [hstep]; rfl)
      refine ⟨fuel, ?_⟩
      rw [hf, hstep]
      exact ⟨by show τ.log ++ clEv its = l; rw [h2.log, show l = l0 ++ clEv its from hl]; rfl, rfl, rfl, rfl⟩
    | fatal =>
      obtain ⟨τ, h1, h2, h3, h4, h5⟩ := S
      obtain ⟨fuel, hf⟩ := reach_run (hr1.trans h1) (by rw [h3]; rfl)
      refine ⟨fuel, ?_⟩
      rw [hf]
      exact ⟨h2, h3, h4, h5⟩

/-- `compileS_correct` as one equation on (completion, log), for the compositional presentation of the emission;
the statement is in terms of `obsCompl` (a normal completion is `return undefined`), not of `CompileCFCorrect`. -/
theorem compileS_correct_partial₂ :
    ∀ p : Stmt, stage1 p = true → 0 ∉ ids p → Instr.nop ∉ compileS p →
      ∃ fuel, ((VM.run (compileS p).toArray fuel {}).halted, (VM.run (compileS p).toArray fuel {}).log)
        = (some (obsCompl (refSem p).1), (refSem p).2) := by
  intro p h1 h2 h3
  obtain ⟨fuel, ha, hb, _, _⟩ := compileS_correct p h1 h2 h3
  exact ⟨fuel, by rw [ha, hb]⟩

/-- For EVERY stage-2 program (no executable check, no hypothesis on the run) the
instruction list written down compositionally by `compileS` is exactly what the back-patching compiler
`compileProgram` (mirror of compiler_stmt.go) leaves in the code array after all its patches. The only side
condition is that the compositional listing has no unpatched placeholder left (`nop ∉`), which is decidable
on the listing alone. -/
theorem compileS_eq_compileCF (p : Stmt) (hst : stage1 p = true) (hnop : Instr.nop ∉ compileS p) :
    (compileS p).toArray = compileProgram p := by
  have hi : Inv [] ({ code := #[Instr.cntZero 0], blocks := [] } : CS) :=
    ⟨trivial, by intro k hk; simp [pendAll] at hk⟩
  have hn : Instr.nop ∉ gen p 0 none [] 1 := fun h => hnop (by simp [compileS, h])
  have E := cf_eq p 0 none [] _ hst (fun _ => rfl) hi hn
  have hrl := E.rl
  rw [RL_nil, RL_nil] at hrl
  have hcode : (compileCF 0 none p { code := #[Instr.cntZero 0], blocks := [] }).code
      = ([Instr.cntZero 0] ++ gen p 0 none [] 1).toArray := by
    apply Array.ext'
    simpa using hrl
  have h0 : (({} : CS).emit (Instr.cntZero 0)) = { code := #[Instr.cntZero 0], blocks := [] } := rfl
  unfold compileProgram compileS
  simp only [h0]
  by_cases he : endsWithReturn p = true
  · simp [he, hcode]
  · simp [he, hcode, CS.emit]

/-- Compiler correctness, stage 2, for the BACK-PATCHING compiler `compileCF` itself
(the mirror of compiler_stmt.go), with no executable side check: for every stage-2 program whose
break/continue targets all resolve, the mini-VM run on `compileProgram p` has the reference log, halts
with the reference completion, and leaves no try frame and no iterator on its stacks. -/
theorem compileCF_correct_stage2 (p : Stmt) (hst : stage1 p = true) (h0 : 0 ∉ ids p)
    (hnop : Instr.nop ∉ compileS p) :
    ∃ fuel, (VM.run (compileProgram p) fuel {}).log = (refSem p).2 ∧
            (VM.run (compileProgram p) fuel {}).halted = some (obsCompl (refSem p).1) ∧
            (VM.run (compileProgram p) fuel {}).tries = [] ∧ (VM.run (compileProgram p) fuel {}).iters = [] := by
  rw [← compileS_eq_compileCF p hst hnop]
  exact compileS_correct p hst h0 hnop

/-- `targetsOK`: every break / continue has a target, what goja's parser/compiler enforce with a SyntaxError -/
theorem compileS_no_nop (p : Stmt) (h : targetsOK p none [] = true) : Instr.nop ∉ compileS p := by
  have := gen_no_nop p 0 none [] 1 (by simpa using h)
  simp only [compileS, List.mem_append, List.mem_cons, not_or]
  refine ⟨⟨by simp, this⟩, ?_⟩
  split <;> simp

/-- compileCF_correct_stage2 with purely syntactic hypotheses on the source program -/
theorem compileCF_correct_stage2_wf (p : Stmt) (hst : stage1 p = true) (h0 : 0 ∉ ids p)
    (ht : targetsOK p none [] = true) :
    ∃ fuel, (VM.run (compileProgram p) fuel {}).log = (refSem p).2 ∧
            (VM.run (compileProgram p) fuel {}).halted = some (obsCompl (refSem p).1) ∧
            (VM.run (compileProgram p) fuel {}).tries = [] ∧ (VM.run (compileProgram p) fuel {}).iters = [] :=
  compileCF_correct_stage2 p hst h0 (compileS_no_nop p ht)

/-- the executable check `S2.sameCode` holds of every stage-2 program (the driver evaluates only its stage-1 twin) -/
theorem sameCode_stage1 (p : Stmt) (hst : stage1 p = true) (hnop : Instr.nop ∉ compileS p) : sameCode p = true := by
  simp [sameCode, compileS_eq_compileCF p hst hnop]

/-- Running the code `compileCF` emits for a stage-2 program whose reference
completion is not the uncatchable one, the mini-VM halts with that completion and its event log is a balanced
bracket sequence (each finally entry closes the innermost pending try) with, for every try statement `i`, exactly
as many finally entries as statement entries, and for every iterator `j` as many openings as exhaustions, failing
next() calls and return() calls together. -/
theorem compiled_finally_and_return_once_in_order (p : Stmt) (hst : stage1 p = true) (h0 : 0 ∉ ids p)
    (hnop : Instr.nop ∉ compileS p) (hnf : (refSem p).1 ≠ .fatal) :
    ∃ fuel, (VM.run (compileProgram p) fuel {}).halted = some (obsCompl (refSem p).1) ∧
      (∀ st, scan st (VM.run (compileProgram p) fuel {}).log = some st) ∧
      (∀ i, (VM.run (compileProgram p) fuel {}).log.count (Ev.finE i)
            = (VM.run (compileProgram p) fuel {}).log.count (Ev.tryE i)) ∧
      (∀ j, (VM.run (compileProgram p) fuel {}).log.count (Ev.itOpen j)
            = (VM.run (compileProgram p) fuel {}).log.count (Ev.itDone j)
              + (VM.run (compileProgram p) fuel {}).log.count (Ev.itFail j)
              + (VM.run (compileProgram p) fuel {}).log.count (Ev.itRet j)) := by
  obtain ⟨fuel, hl, hh, _, _⟩ := compileCF_correct_stage2 p hst h0 hnop
  refine ⟨fuel, hh, ?_, ?_, ?_⟩
  · rw [hl]; exact finally_inner_to_outer p 0 [] hnf
  · intro i; rw [hl]; exact finally_exactly_once p 0 [] hnf i
  · intro j; rw [hl]; exact iter_return_exactly_once p 0 [] hnf j

/-- If the reference completion of a stage-2 program is the uncatchable one,
the mini-VM run on compileCF's code halts with it and `fatal` is the LAST event of its log: no catch clause and
no finally block of any enclosing try statement ran after it. -/
theorem compiled_uncatchable_runs_nothing (p : Stmt) (hst : stage1 p = true) (h0 : 0 ∉ ids p)
    (hnop : Instr.nop ∉ compileS p) (hf : (refSem p).1 = .fatal) :
    ∃ fuel pre, (VM.run (compileProgram p) fuel {}).halted = some Compl.fatal ∧
      (VM.run (compileProgram p) fuel {}).log = pre ++ [Ev.fatal] := by
  obtain ⟨fuel, hl, hh, _, _⟩ := compileCF_correct_stage2 p hst h0 hnop
  obtain ⟨pre, hpre⟩ := (uncatchable_runs_nothing p 0 [] hf).1
  refine ⟨fuel, pre, ?_, ?_⟩
  · rw [hh, hf]; rfl
  · rw [hl]; exact hpre

/-- `compileS_eq_compileCF` on a literal with nested for-of loops; fragment membership and the resolution of the
branch targets are evaluated -/
theorem compileS_eq_compileCF_example_forof :
    let sp1 : IterSpec := { id := 1, n := 2, nextThrow := none, ret := .thr }
    let sp2 : IterSpec := { id := 2, n := 3, nextThrow := some 1, ret := .ok }
    let p : Stmt := .lbl 7 (.forOf sp1 (.tryS 1 (.seq (.forOf sp2 (.ifIter 0 (.cont (some 7)))) (.ifIter 1 (.brk (some 7))))
      true (.ret 3) true (.log 2)))
    (compileS p).toArray = compileProgram p ∧ stage1 p = true := by
  intro sp1 sp2 p
  have hst : stage1 p = true := by decide
  exact ⟨compileS_eq_compileCF p hst (compileS_no_nop p (by decide)), hst⟩

end GojaModel.C08.S2
