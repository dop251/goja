/-
  C08 — the resolved listing of a state of the back-patching compiler.

  The compiler keeps, per open block, the positions of placeholders that will be patched when the block is left (`breaks`,
  `conts`).  `RL ctx cs` is the code of `cs` as it will read once every open block has been left, given the final targets
  `ctx` of the open blocks: a pending position reads as the instruction it will be patched with (the OUTERMOST block that
  lists it wins, as it is patched last).  `Inv ctx cs` says that the block stack is the one `ctx` describes.  Each operation
  of compiler.go on the state is characterised on `RL` and `Inv`: emit = append, patch = set, push = no change, leaveBlock =
  dropping the head of `ctx`, leaveScopeBlock = the same after one `leaveBlock n`.
-/
import GojaModel.C08.S2.Lemmas

namespace GojaModel.C08.S2

/-- what a pending position of block `b` will be patched with when the block is left (conts are patched
after breaks: compiler.go:347) -/
def resolveHere (c : BI) (b : Block) (k : Nat) : Option Instr :=
  match c with
  | .loop _ bp cp =>
    if k ∈ b.conts then some (Instr.jump (CS.rel cp k))
    else if k ∈ b.breaks then some (Instr.jump (CS.rel bp k)) else none
  | .label _ bp => if k ∈ b.breaks then some (Instr.jump (CS.rel bp k)) else none
  | .scope n => if k ∈ b.breaks then some (Instr.leaveBlock n) else none
  | .iscope => if k ∈ b.breaks then some (Instr.leaveBlock 1) else none
  | .switch_ bp => if k ∈ b.breaks then some (Instr.jump (CS.rel bp k)) else none
  | .forof _ bp cp =>
    if k ∈ b.conts then some (Instr.jump (CS.rel cp k))
    else if k ∈ b.breaks then some (Instr.jump (CS.rel bp k)) else none
  | .try_ => none
  | .with_ => none

def pend : List BI → List Block → Nat → Option Instr
  | c :: ctx, b :: bs, k =>
    match pend ctx bs k with
    | some i => some i
    | none => resolveHere c b k
  | _, _, _ => none

def RL (ctx : List BI) (cs : CS) : List Instr :=
  (List.range cs.code.size).map (fun k => (pend ctx cs.blocks k).getD (cs.code[k]?.getD Instr.nop))

def pendAll (bs : List Block) : List Nat := bs.flatMap (fun b => b.breaks ++ b.conts)

def MatchB (c : BI) (b : Block) : Prop :=
  b.breaking = none ∧
  match c with
  | .loop lab _ _ => b.typ = BT.loop ∧ b.label = lab
  | .label l _ => b.typ = BT.label ∧ b.label = some l ∧ b.conts = []
  | .try_ => b.typ = BT.try_ ∧ b.label = none ∧ b.breaks = [] ∧ b.conts = []
  | .scope _ => b.typ = BT.scope ∧ b.label = none ∧ b.conts = []
  | .with_ => b.typ = BT.with_ ∧ b.label = none ∧ b.breaks = [] ∧ b.conts = []
  | .iscope => b.typ = BT.iterScope ∧ b.label = none ∧ b.conts = []
  | .switch_ _ => b.typ = BT.switch_ ∧ b.label = none ∧ b.conts = []
  | .forof lab _ _ => b.typ = BT.loopEnum ∧ b.label = lab

def Match : List BI → List Block → Prop
  | [], [] => True
  | c :: cs, b :: bs => MatchB c b ∧ Match cs bs
  | _, _ => False

structure Inv (ctx : List BI) (cs : CS) : Prop where
  m : Match ctx cs.blocks
  p : ∀ k, k ∈ pendAll cs.blocks → k < cs.code.size

theorem RL_length (ctx : List BI) (cs : CS) : (RL ctx cs).length = cs.code.size := by simp [RL]

theorem pend_none {ctx : List BI} {bs : List Block} {k : Nat} (h : k ∉ pendAll bs) : pend ctx bs k = none := by
  induction bs generalizing ctx with
  | nil => cases ctx <;> rfl
  | cons b rest ih =>
    cases ctx with
    | nil => rfl
    | cons c ctx =>
      simp only [pendAll, List.flatMap_cons, List.mem_append, not_or] at h
      have hr : pend ctx rest k = none := ih (by simpa [pendAll] using h.2)
      simp only [pend, hr]
      cases c <;> simp [resolveHere, h.1.1, h.1.2]

theorem RL_ext {ctx ctx' : List BI} {cs cs' : CS} (hs : cs'.code.size = cs.code.size)
    (h : ∀ k, k < cs.code.size →
      (pend ctx' cs'.blocks k).getD (cs'.code[k]?.getD Instr.nop) = (pend ctx cs.blocks k).getD (cs.code[k]?.getD Instr.nop)) :
    RL ctx' cs' = RL ctx cs := by
  simp only [RL, hs]
  apply List.map_congr_left
  intro k hk
  exact h k (by simpa using hk)

/-- how position `k` reads in the resolved listing -/
def vw (ctx : List BI) (bs : List Block) (code : Array Instr) (k : Nat) : Instr :=
  (pend ctx bs k).getD (code[k]?.getD Instr.nop)

theorem RL_getElem? (ctx : List BI) (cs : CS) (k : Nat) :
    (RL ctx cs)[k]? = if k < cs.code.size then some (vw ctx cs.blocks cs.code k) else none := by
  simp only [RL, vw, List.getElem?_map]
  by_cases hk : k < cs.code.size
  · simp [hk]
  · simp [hk]

theorem mem_pendAll_cons {b : Block} {r : List Block} {k : Nat} :
    k ∈ pendAll (b :: r) ↔ k ∈ b.breaks ++ b.conts ∨ k ∈ pendAll r := by
  simp only [pendAll, List.flatMap_cons, List.mem_append]

theorem match_cons {c : BI} {ctx : List BI} {bs : List Block} (h : Match (c :: ctx) bs) :
    ∃ b r, bs = b :: r ∧ MatchB c b ∧ Match ctx r := by
  cases bs with
  | nil => exact absurd h (by simp [Match])
  | cons b r => exact ⟨b, r, rfl, h.1, h.2⟩

theorem pend_ne_nop {ctx : List BI} {bs : List Block} {k : Nat} (hm : Match ctx bs) (hk : k ∈ pendAll bs) :
    ∃ i, pend ctx bs k = some i ∧ i ≠ Instr.nop := by
  induction bs generalizing ctx with
  | nil => simp [pendAll] at hk
  | cons b r ih =>
    cases ctx with
    | nil => exact absurd hm (by simp [Match])
    | cons c ctx =>
      obtain ⟨⟨_, hmb⟩, hmr⟩ := hm
      by_cases hr : k ∈ pendAll r
      · obtain ⟨i, hi, hne⟩ := ih hmr hr
        exact ⟨i, by simp only [pend, hi], hne⟩
      · have hb : k ∈ b.breaks ++ b.conts := (mem_pendAll_cons.1 hk).resolve_right hr
        simp only [pend, pend_none hr]
        rw [List.mem_append] at hb
        cases c
        case loop | forof =>
          by_cases h1 : k ∈ b.conts
          · exact ⟨_, if_pos h1, nofun⟩
          · exact ⟨_, (if_neg h1).trans (if_pos (hb.resolve_right h1)), nofun⟩
        case try_ | with_ =>
          rw [hmb.2.2.1, hmb.2.2.2] at hb
          simp at hb
        all_goals exact ⟨_, if_pos (hb.resolve_right (by rw [hmb.2.2]; exact List.not_mem_nil)), nofun⟩

theorem Inv.not_pending {ctx : List BI} {cs : CS} {q : Nat} (hi : Inv ctx cs) (h : (RL ctx cs)[q]? = some Instr.nop) :
    q ∉ pendAll cs.blocks := by
  intro hq
  obtain ⟨i, hp, hne⟩ := pend_ne_nop hi.m hq
  rw [RL_getElem?] at h
  split at h
  · simp only [vw, hp, Option.getD_some, Option.some.injEq] at h
    exact hne h
  · cases h

theorem RL_emit {ctx : List BI} {cs : CS} (hi : Inv ctx cs) (i : Instr) : RL ctx (cs.emit i) = RL ctx cs ++ [i] := by
  simp only [RL, CS.emit, Array.size_push, List.range_succ, List.map_append, List.map_cons, List.map_nil]
  congr 1
  · apply List.map_congr_left
    intro k hk
    have hk' : k < cs.code.size := by simpa using hk
    simp [Array.getElem?_push, Nat.ne_of_lt hk']
  · have hn : cs.code.size ∉ pendAll cs.blocks := fun h => Nat.lt_irrefl _ (hi.p _ h)
    simp [pend_none hn]

theorem Inv_emit {ctx : List BI} {cs : CS} (hi : Inv ctx cs) (i : Instr) : Inv ctx (cs.emit i) :=
  ⟨hi.m, fun k hk => by simp only [CS.emit, Array.size_push]; exact Nat.lt_succ_of_lt (hi.p k hk)⟩

theorem RL_patch {ctx : List BI} {cs : CS} {q : Nat} (i : Instr) (hq : q ∉ pendAll cs.blocks) :
    RL ctx (cs.patch q i) = (RL ctx cs).set q i := by
  apply List.ext_getElem?
  intro k
  simp only [RL, CS.patch, Array.size_setIfInBounds, List.getElem?_set, List.getElem?_map, List.length_map, List.length_range]
  by_cases hk : k < cs.code.size
  · by_cases hqk : q = k
    · subst hqk
      simp [hk, pend_none hq, Array.getElem?_setIfInBounds]
    · simp [hk, hqk, Array.getElem?_setIfInBounds]
  · have : ¬ (k < cs.code.size) := hk
    by_cases hqk : q = k
    · subst hqk; simp [hk]
    · simp [hk, hqk]

theorem Inv_patch {ctx : List BI} {cs : CS} (hi : Inv ctx cs) (q : Nat) (i : Instr) : Inv ctx (cs.patch q i) :=
  ⟨hi.m, fun k hk => by simp only [CS.patch, Array.size_setIfInBounds]; exact hi.p k hk⟩

theorem foldl_set_size (l : List Nat) (f : Nat → Instr) (code : Array Instr) :
    (l.foldl (fun a item => a.setIfInBounds item (f item)) code).size = code.size := by
  induction l generalizing code with
  | nil => rfl
  | cons x xs ih => simp [List.foldl_cons, ih]

theorem foldl_set_getElem? (l : List Nat) (f : Nat → Instr) (code : Array Instr) (k : Nat) :
    (l.foldl (fun a item => a.setIfInBounds item (f item)) code)[k]? =
      if k ∈ l ∧ k < code.size then some (f k) else code[k]? := by
  induction l generalizing code with
  | nil => simp
  | cons x xs ih =>
    simp only [List.foldl_cons, ih, Array.size_setIfInBounds, List.mem_cons]
    by_cases hk : k < code.size
    · by_cases hx : k ∈ xs
      · simp [hx, hk]
      · by_cases hxk : x = k
        · subst hxk; simp [hx, hk]
        · have : ¬ (k = x) := fun h => hxk h.symm
          simp [hx, hk, this, hxk]
    · by_cases hxk : x = k
      · subst hxk; simp [hk]
      · simp [hk]

theorem RL_push {c : BI} {ctx : List BI} {cs : CS} {b : Block} (hbr : b.breaks = []) (hco : b.conts = []) :
    RL (c :: ctx) (cs.push b) = RL ctx cs := by
  apply RL_ext (ctx := ctx) (ctx' := c :: ctx) (cs := cs) (cs' := cs.push b) rfl
  intro k _
  simp only [CS.push, pend]
  cases hp : pend ctx cs.blocks k with
  | some i => rfl
  | none => cases c <;> simp [resolveHere, hbr, hco]

theorem pendAll_push {cs : CS} {b : Block} (hbr : b.breaks = []) (hco : b.conts = []) :
    pendAll (cs.push b).blocks = pendAll cs.blocks := by
  simp [CS.push, pendAll, hbr, hco]

theorem Inv_push {c : BI} {ctx : List BI} {cs : CS} {b : Block} (hi : Inv ctx cs) (hm : MatchB c b)
    (hbr : b.breaks = []) (hco : b.conts = []) : Inv (c :: ctx) (cs.push b) :=
  ⟨⟨hm, hi.m⟩, fun k hk => hi.p k (pendAll_push hbr hco ▸ hk)⟩

/-- do / for loops set `cont` after the body -/
theorem RL_modTop_cont {ctx : List BI} {cs : CS} (n : Nat) :
    RL ctx (cs.modTop (fun b => { b with cont := n })) = RL ctx cs := by
  cases hb : cs.blocks with
  | nil => simp [CS.modTop, hb, RL]
  | cons b r =>
    apply RL_ext (by simp [CS.modTop, hb])
    intro k _
    simp only [CS.modTop, hb]
    cases ctx with
    | nil => rfl
    | cons c ctx =>
      simp only [pend]
      cases hp : pend ctx r k with
      | some i => rfl
      | none => cases c <;> rfl

theorem Inv_modTop_cont {ctx : List BI} {cs : CS} (hi : Inv ctx cs) (n : Nat) :
    Inv ctx (cs.modTop (fun b => { b with cont := n })) := by
  cases hb : cs.blocks with
  | nil => simpa [CS.modTop, hb] using hi
  | cons b r =>
    have hm := hi.m
    have hp := hi.p
    rw [hb] at hm hp
    cases ctx with
    | nil => exact absurd hm (by simp [Match])
    | cons c ctx =>
      refine ⟨?_, ?_⟩
      · simp only [CS.modTop, hb, Match]
        refine ⟨?_, hm.2⟩
        obtain ⟨h1, h2⟩ := hm.1
        exact ⟨h1, by cases c <;> exact h2⟩
      · intro k hk
        simp only [CS.modTop, hb, pendAll, List.flatMap_cons] at hk ⊢
        exact hp k (by simpa [pendAll] using hk)

theorem code_modTop (cs : CS) (f : Block → Block) : (cs.modTop f).code = cs.code := by
  simp only [CS.modTop]; split <;> rfl

theorem pendAll_modTop_cont (cs : CS) (n : Nat) :
    pendAll (cs.modTop (fun b => { b with cont := n })).blocks = pendAll cs.blocks := by
  cases hb : cs.blocks with
  | nil => simp [CS.modTop, hb]
  | cons b r => simp [CS.modTop, hb, pendAll, List.flatMap_cons]

theorem leaveBlock_blocks {cs : CS} {b : Block} {r : List Block} (hb : cs.blocks = b :: r) : cs.leaveBlock.blocks = r := by
  simp [CS.leaveBlock, hb]

theorem leaveBlock_size (cs : CS) : cs.leaveBlock.code.size = cs.code.size := by
  simp only [CS.leaveBlock]
  split
  · rfl
  · split <;> simp [foldl_set_size]

/-- the targets recorded in `c` are the end of the code, `sz`, and the `cont` of the block, `k`: what `leaveBlock` patches
the placeholders of a loop / label / switch block with -/
def LeaveAt (c : BI) (sz k : Nat) : Prop :=
  match c with
  | .loop _ bp cp | .forof _ bp cp => bp = sz ∧ cp = k
  | .label _ bp | .switch_ bp => bp = sz
  | .try_ | .with_ => True
  | _ => False

/-- for a scope none is left to patch: `leaveScopeBlock` has done it -/
def LeaveOK (c : BI) (sz : Nat) (b : Block) : Prop :=
  match c with
  | .scope _ | .iscope => b.breaks = []
  | _ => LeaveAt c sz b.cont

/-- compiler.go:347 leaveBlock: patching the head block's placeholders = dropping the head of `ctx` -/
theorem RL_leaveBlock {c : BI} {ctx : List BI} {cs : CS} {b : Block} {r : List Block}
    (hb : cs.blocks = b :: r) (hm : MatchB c b) (hc : LeaveOK c cs.code.size b) :
    RL ctx cs.leaveBlock = RL (c :: ctx) cs := by
  apply RL_ext (leaveBlock_size cs)
  intro k hk
  simp only [hb, pend]
  rw [leaveBlock_blocks hb]
  cases hp : pend ctx r k with
  | some i => rfl
  | none =>
    simp only [Option.getD_none]
    obtain ⟨_, hm2⟩ := hm
    -- the eight kinds patch in four ways: breaks and conts, breaks only, breaks to `leaveBlock` (none left here), nothing
    cases c
    case loop lab bp cp | forof lab bp cp =>
      have hc1 : bp = cs.code.size := hc.1
      have hc2 : cp = b.cont := hc.2
      have ht := hm2.1
      simp only [CS.leaveBlock, hb, ht, true_or, or_true, if_true, resolveHere, CS.size, hc1, hc2]
      rw [foldl_set_getElem?, foldl_set_getElem?, foldl_set_size]
      by_cases h1 : k ∈ b.conts
      · simp [h1, hk]
      · by_cases h2 : k ∈ b.breaks
        · simp [h1, h2, hk]
        · simp [h1, h2]
    case label l bp | switch_ bp =>
      have hc1 : bp = cs.code.size := hc
      have ht := hm2.1
      simp only [CS.leaveBlock, hb, ht, resolveHere, CS.size, hc1]
      simp only [reduceCtorEq, or_self, if_false]
      rw [foldl_set_getElem?]
      by_cases h2 : k ∈ b.breaks
      · simp [h2, hk]
      · simp [h2]
    case scope n | iscope =>
      have ht := hm2.1
      have hbr : b.breaks = [] := hc
      simp only [CS.leaveBlock, hb, ht, resolveHere, hbr]
      simp
    case try_ | with_ =>
      have ht := hm2.1
      simp only [CS.leaveBlock, hb, ht, resolveHere, hm2.2.2.1]
      simp

theorem Inv_leaveBlock {c : BI} {ctx : List BI} {cs : CS} {b : Block} {r : List Block}
    (hb : cs.blocks = b :: r) (hi : Inv (c :: ctx) cs) : Inv ctx cs.leaveBlock := by
  have hm := hi.m
  rw [hb] at hm
  refine ⟨by rw [leaveBlock_blocks hb]; exact hm.2, fun k hk => ?_⟩
  rw [leaveBlock_blocks hb] at hk
  rw [leaveBlock_size]
  exact hi.p k (by rw [hb]; exact mem_pendAll_cons.2 (Or.inr hk))

/-- compiler.go:333 leaveScopeBlock, for the two block kinds it is used on: a lexical scope of `n` bindings and the
per-iteration scope of a `for (let …)` loop (`n = 1`) -/
theorem RL_leaveScopeBlock {c : BI} {ctx : List BI} {cs : CS} {b : Block} {r : List Block} {n : Nat}
    (hc : c = BI.scope n ∨ c = BI.iscope ∧ n = 1) (hb : cs.blocks = b :: r) (hi : Inv (c :: ctx) cs) :
    RL ctx (cs.leaveScopeBlock n) = RL (c :: ctx) cs ++ [Instr.leaveBlock n] ∧
    Inv ctx (cs.leaveScopeBlock n) := by
  have hm := hi.m
  rw [hb] at hm
  -- all that is used of `c`
  have hres : ∀ b' k, resolveHere c b' k = if k ∈ b'.breaks then some (Instr.leaveBlock n) else none := by
    rcases hc with rfl | ⟨rfl, rfl⟩ <;> exact fun _ _ => rfl
  have hm2 : MatchB c { b with breaks := [] } := by
    rcases hc with rfl | ⟨rfl, rfl⟩ <;> exact ⟨hm.1.1, hm.1.2⟩
  have hlo : ∀ sz, LeaveOK c sz { b with breaks := [] } := by
    rcases hc with rfl | ⟨rfl, rfl⟩ <;> exact fun _ => rfl
  let cs1 := cs.emit (Instr.leaveBlock n)
  have hb1 : cs1.blocks = b :: r := hb
  let cs2 : CS := { code := b.breaks.foldl (fun c pc => c.setIfInBounds pc (Instr.leaveBlock n)) cs1.code,
                    blocks := { b with breaks := [] } :: r }
  have hunf : cs.leaveScopeBlock n = cs2.leaveBlock := by
    simp only [CS.leaveScopeBlock]
    show (match cs1.blocks with
          | [] => cs1
          | b :: r => CS.leaveBlock { code := b.breaks.foldl (fun c pc => c.setIfInBounds pc (Instr.leaveBlock n)) cs1.code,
                                      blocks := { b with breaks := [] } :: r }) = cs2.leaveBlock
    rw [hb1]
  have hA : RL (c :: ctx) cs2 = RL (c :: ctx) cs1 := by
    apply RL_ext (ctx := c :: ctx) (ctx' := c :: ctx) (cs := cs1) (cs' := cs2) (by simp [cs2, foldl_set_size])
    intro k hk
    simp only [cs2, hb1, pend]
    cases hp : pend ctx r k with
    | some i => rfl
    | none =>
      simp only [hres, List.not_mem_nil, if_false, Option.getD_none]
      rw [foldl_set_getElem?]
      by_cases h2 : k ∈ b.breaks
      · simp [h2, hk]
      · simp [h2]
  have hB : RL ctx cs2.leaveBlock = RL (c :: ctx) cs2 :=
    RL_leaveBlock (b := { b with breaks := [] }) (r := r) rfl hm2 (hlo _)
  have hC : RL (c :: ctx) cs1 = RL (c :: ctx) cs ++ [Instr.leaveBlock n] := RL_emit hi _
  refine ⟨by rw [hunf, hB, hA, hC], ?_⟩
  rw [hunf]
  have hi2 : Inv (c :: ctx) cs2 := by
    refine ⟨⟨hm2, hm.2⟩, fun k hk => ?_⟩
    have : k ∈ pendAll cs1.blocks :=
      hb1 ▸ mem_pendAll_cons.2 ((mem_pendAll_cons.1 hk).imp_left (List.mem_append_right b.breaks))
    have := (Inv_emit hi (Instr.leaveBlock n)).p k this
    simpa [cs2, foldl_set_size] using this
  exact Inv_leaveBlock (b := { b with breaks := [] }) (r := r) rfl hi2

/-- so `cf_eq` at top level says that the compositional emission IS the back-patching compiler's output -/
theorem RL_nil (cs : CS) : RL [] cs = cs.code.toList := by
  apply List.ext_getElem
  · simp [RL]
  · intro k h1 h2
    have hk : k < cs.code.size := by simpa [RL] using h1
    simp [RL, pend, hk]

end GojaModel.C08.S2
