/-
  C08 — the vocabulary of the simulation for the stage-2 fragment (stage 1 + for-of; `stage1` of this namespace is
  that fragment, see the head of `CompileSUp.lean`): `Reach`, `CodeAt` with the parts of a listing, the invariant
  `Common` (sequencing, and replacement of the fields it compares), exit points, the post-condition `SimG` with its
  prefixing rules; and what can be read off the source and `gen` alone: the length of the emitted code (`gen_length`),
  what `stage1` gives for the parts of a statement.  Abrupt completions are described by "exit points":
  the VM has reached the first instruction of the exit sequence that the compiler emitted for that completion in the
  current static context (break/continue: emitBlockExitCode + jump; return: the saveResult/leaveTry/loadResult chain +
  ret; throw: the state handed to handleThrow).  What instructions do is in `S2/Step.lean`, the induction in
  `S2/Sim.lean`.
-/
import GojaModel.C08.S2.Kind

namespace GojaModel.C08.S2
open Compl

abbrev Code := Array Instr

inductive Reach (C : Code) : VM → VM → Prop
  | refl (σ : VM) : Reach C σ σ
  | step {σ τ : VM} {i : Instr} : σ.halted = none → C[σ.pc]? = some i → Reach C (VM.step σ i) τ → Reach C σ τ

theorem Reach.trans {C : Code} {a b c : VM} (h1 : Reach C a b) (h2 : Reach C b c) : Reach C a c := by
  induction h1 with
  | refl => exact h2
  | step hh hi _ ih => exact Reach.step hh hi (ih h2)

theorem Reach.one {C : Code} {σ : VM} {i : Instr} (hh : σ.halted = none) (hi : C[σ.pc]? = some i) :
    Reach C σ (VM.step σ i) := Reach.step hh hi (Reach.refl _)

theorem reach_run {C : Code} {σ τ : VM} (h : Reach C σ τ) (ht : τ.halted.isSome) :
    ∃ fuel, VM.run C fuel σ = τ := by
  induction h with
  | refl σ =>
    refine ⟨1, ?_⟩
    cases hh : σ.halted with
    | none => simp [hh] at ht
    | some c => simp [VM.run, hh]
  | @step σ τ i hh hi _ ih =>
    obtain ⟨fuel, hf⟩ := ih ht
    refine ⟨fuel + 1, ?_⟩
    have hlt : σ.pc < C.size := by
      rcases Nat.lt_or_ge σ.pc C.size with h | h
      · exact h
      · simp [Array.getElem?_eq_none h] at hi
    have hget : C[σ.pc] = i := by
      have := Array.getElem?_eq_getElem hlt
      rw [this] at hi
      exact Option.some.inj hi
    simp [VM.run, hh, hlt, hget, hf]

def CodeAt (C : Code) (pc : Nat) (is : List Instr) : Prop :=
  ∀ k (h : k < is.length), C[pc + k]? = some is[k]

theorem CodeAt.nil (C : Code) (pc : Nat) : CodeAt C pc [] := by
  intro k h; simp at h

theorem codeAt_cons {C : Code} {pc : Nat} {i : Instr} {is : List Instr} :
    CodeAt C pc (i :: is) ↔ C[pc]? = some i ∧ CodeAt C (pc + 1) is := by
  constructor
  · intro h
    refine ⟨?_, ?_⟩
    · have := h 0 (by simp)
      simpa only [Nat.add_zero, List.getElem_cons_zero] using this
    intro k hk
    have := h (k + 1) (by simp; omega)
    simpa [Nat.add_assoc, Nat.add_comm 1 k] using this
  · intro ⟨h0, h1⟩ k hk
    cases k with
    | zero => simpa using h0
    | succ k =>
      have := h1 k (by simpa using hk)
      simpa [Nat.add_assoc, Nat.add_comm 1 k] using this

theorem codeAt_head {C : Code} {pc : Nat} {i : Instr} {is : List Instr} (h : CodeAt C pc (i :: is)) :
    C[pc]? = some i := (codeAt_cons.1 h).1

theorem codeAt_tail {C : Code} {pc : Nat} {i : Instr} {is : List Instr} (h : CodeAt C pc (i :: is)) :
    CodeAt C (pc + 1) is := (codeAt_cons.1 h).2

/-- for a listing written out, the default of `hk` finds the bound by evaluating its length -/
theorem CodeAt.at {C : Code} {pc : Nat} {is : List Instr} (h : CodeAt C pc is) (k : Nat)
    (hk : k < is.length := by exact Nat.le_of_ble_eq_true rfl) : C[pc + k]? = some is[k] := h k hk

theorem codeAt_append {C : Code} {pc : Nat} {a b : List Instr} :
    CodeAt C pc (a ++ b) ↔ CodeAt C pc a ∧ CodeAt C (pc + a.length) b := by
  induction a generalizing pc with
  | nil => simp [CodeAt.nil]
  | cons i is ih =>
    simp only [List.cons_append, codeAt_cons, ih, List.length_cons]
    have : pc + 1 + is.length = pc + (is.length + 1) := by omega
    rw [this]
    constructor
    · intro ⟨h0, h1, h2⟩; exact ⟨⟨h0, h1⟩, h2⟩
    · intro ⟨⟨h0, h1⟩, h2⟩; exact ⟨h0, h1, h2⟩

theorem codeAt_sandwich {C : Code} {p lb : Nat} {H gb T : List Instr} (hb : gb.length = lb) (h : CodeAt C p (H ++ gb ++ T)) :
    CodeAt C p H ∧ CodeAt C (p + H.length) gb ∧ CodeAt C (p + H.length + lb) T := by
  obtain ⟨h01, h2⟩ := codeAt_append.1 h
  obtain ⟨h0, h1⟩ := codeAt_append.1 h01
  exact ⟨h0, h1, by rw [List.length_append, hb, ← Nat.add_assoc] at h2; exact h2⟩

theorem CodeAt.sub {C : Code} {p : Nat} {l : List Instr} (n k : Nat) (h : CodeAt C p l) :
    CodeAt C (p + n) ((l.drop n).take k) := by
  intro j hj
  have hj' : n + j < l.length := by
    simp only [List.length_take, List.length_drop] at hj; omega
  rw [Nat.add_assoc, h (n + j) hj']
  simp [List.getElem_take, List.getElem_drop]

theorem codeAt_toArray (L : List Instr) : CodeAt L.toArray 0 L := by
  intro k hk
  simp [hk]

theorem hitsHead_shape (l : Option Label) (rest : List BI) : hitsHeadS l (rest.map BI.shape) = hitsHead l rest := by
  cases rest with
  | nil => rfl
  | cons y ys => cases y <;> rfl

theorem findBrk_exitLen (l : Option Label) (b : Bool) (ctx : List BI) :
    exitLen l b (ctx.map BI.shape) = (findBrk l b ctx).map (fun p => p.1.length) := by
  induction ctx with
  | nil => rfl
  | cons x rest ih =>
    cases x with
    | loop lab bp cp =>
      simp only [List.map_cons, BI.shape, exitLen, findBrk]
      by_cases h : labMatch l lab = true
      · simp [h]
      · simp [h, ih]
    | label y bp =>
      simp only [List.map_cons, BI.shape, exitLen, findBrk]
      by_cases h : l = some y
      · cases b <;> simp [h]
      · simp [h, ih]
    | try_ | scope n | with_ =>
      simp only [List.map_cons, BI.shape, exitLen, findBrk, ih]
      cases findBrk l b rest with
      | none => rfl
      | some p => simp
    | switch_ bp =>
      simp only [List.map_cons, BI.shape, exitLen, findBrk]
      by_cases h : (b && l.isNone) = true
      · simp [h]
      · simp [h, ih]
    | forof lab bp cp =>
      simp only [List.map_cons, BI.shape, exitLen, findBrk]
      by_cases h : labMatch l lab = true
      · simp [h]
      · simp only [h, Bool.false_eq_true, if_false, ih]
        cases findBrk l b rest with
        | none => rfl
        | some p => simp
    | iscope =>
      simp only [List.map_cons, BI.shape, exitLen, findBrk, ih, hitsHead_shape]
      cases findBrk l b rest with
      | none => rfl
      | some p =>
        by_cases hc : (!b && hitsHead l rest) = true
        · simp [hc]
        · simp [hc]

theorem retExitsS_length (ctx : List BI) : (retExitsS ctx).length = retLen (ctx.map BI.shape) := by
  induction ctx with
  | nil => rfl
  | cons x rest ih =>
    cases x <;> simp [retExitsS, retLen, BI.shape, ih] <;> omega

theorem gen_length (s : Stmt) : ∀ (cur : Nat) (lab : Option Label) (ctx : List BI) (pc : Nat),
    (gen s cur lab ctx pc).length = glen s lab (ctx.map BI.shape) := by
  induction s with
  | skip => intros; rfl
  | log k => intros; rfl
  | seq a b iha ihb => intro cur lab ctx pc; simp only [gen, glen, List.length_append, iha, ihb]
  | brk l =>
    intro cur lab ctx pc
    simp only [gen, glen, findBrk_exitLen]
    cases findBrk l true ctx with
    | none => rfl
    | some p => simp
  | cont l =>
    intro cur lab ctx pc
    simp only [gen, glen, findBrk_exitLen]
    cases findBrk l false ctx with
    | none => rfl
    | some p => simp
  | ret v => intro cur lab ctx pc; simp only [gen, glen, List.length_append, List.length_cons, List.length_nil, retExitsS_length]
  | thr v => intros; rfl
  | fatal => intros; rfl
  | tryS i b hasC c hasF f ihb ihc ihf =>
    intro cur lab ctx pc
    cases hasC <;> cases hasF <;>
      simp only [gen, glen, List.length_append, List.length_cons, List.length_nil, List.map_cons, BI.shape, ihb, ihc, ihf, if_true, if_false, Bool.false_eq_true] <;> omega
  | loop k id n body ih =>
    intro cur lab ctx pc
    cases k <;> simp only [gen, glen, List.length_append, List.length_cons, List.length_nil, List.map_cons, BI.shape, ih] <;> omega
  | forOf sp body ih => intro cur lab ctx pc; simp only [gen, glen, List.length_append, List.length_cons, List.length_nil, List.map_cons, BI.shape, ih]
  | lbl l s ih =>
    intro cur lab ctx pc
    simp only [gen, glen]
    by_cases h : isLoop s = true
    · simp [h, ih]
    · simp [h, ih, BI.shape]
  | sw u k a b iha ihb => intro cur lab ctx pc; simp only [gen, glen, List.length_append, List.length_cons, List.length_nil, List.map_cons, BI.shape, iha, ihb]
  | withS s ih => intro cur lab ctx pc; simp only [gen, glen, List.length_append, List.length_cons, List.length_nil, List.map_cons, BI.shape, ih]
  | blk s ih => intro cur lab ctx pc; simp only [gen, glen, List.length_append, List.length_cons, List.length_nil, List.map_cons, BI.shape, ih]
  | ifIter m s ih => intro cur lab ctx pc; simp only [gen, glen, List.length_append, List.length_cons, List.length_nil, ih]

theorem stage1_seq {a b : Stmt} (h : stage1 (.seq a b) = true) : stage1 a = true ∧ stage1 b = true := by
  simpa only [stage1, Bool.and_eq_true] using h

theorem stage1_sw {u : Bool} {k : Nat} {a b : Stmt} (h : stage1 (.sw u k a b) = true) :
    stage1 a = true ∧ stage1 b = true := by
  simpa only [stage1, Bool.and_eq_true] using h

theorem stage1_tryS {i : Nat} {b c f : Stmt} {hasC hasF : Bool} (h : stage1 (.tryS i b hasC c hasF f) = true) :
    (hasC || hasF) = true ∧ stage1 b = true ∧ (hasC = true → stage1 c = true) ∧
      (hasF = true → stage1 f = true ∧ firstBranch (flatten f) = none) := by
  simp only [stage1, Bool.and_eq_true] at h
  obtain ⟨⟨⟨hcf, hb⟩, hc⟩, hf⟩ := h
  exact ⟨hcf, hb, fun e => by simpa [e] using hc, fun e => by simpa [e] using hf⟩

theorem stage1_loop {k : LoopKind} {id n : Nat} {body : Stmt} (h : stage1 (.loop k id n body) = true) :
    k ≠ .forin ∧ stage1 body = true ∧ id ∉ ids body := by
  simp only [stage1, Bool.and_eq_true, bne_iff_ne, ne_eq] at h
  exact ⟨h.1.1, h.1.2, by simpa using h.2⟩

theorem stage1_forOf {sp : IterSpec} {body : Stmt} (h : stage1 (.forOf sp body) = true) :
    sp.lex = false ∧ stage1 body = true ∧ sp.id ∉ ids body := by
  simp only [stage1, Bool.and_eq_true, Bool.not_eq_true'] at h
  exact ⟨h.1.1, h.1.2, by simpa using h.2⟩

theorem stage1_lbl {l : Label} {s : Stmt} (h : stage1 (.lbl l s) = true) :
    stage1 s = true ∧ (isLoop s = true ∨ isLbl s = false) := by
  simpa only [stage1, Bool.and_eq_true, Bool.or_eq_true, Bool.not_eq_true'] using h

structure Common (σ σ' : VM) (l : List Ev) (I : List Nat) (rf : Bool) : Prop where
  log : σ'.log = σ.log ++ l
  tries : σ'.tries = σ.tries
  iters : σ'.iters = σ.iters
  halted : σ'.halted = none
  cnt : ∀ x, x ∉ I → σ'.cnt x = σ.cnt x
  res : rf = true → σ'.result = σ.result

theorem Common.rfl' {σ : VM} {I : List Nat} {rf : Bool} (hh : σ.halted = none) :
    Common σ σ [] I rf :=
  ⟨by simp, rfl, rfl, hh, fun _ _ => rfl, fun _ => rfl⟩

theorem Common.trans {a b c : VM} {l1 l2 : List Ev} {I : List Nat} {rf : Bool}
    (h1 : Common a b l1 I rf) (h2 : Common b c l2 I rf) : Common a c (l1 ++ l2) I rf :=
  ⟨by rw [h2.log, h1.log, List.append_assoc], by rw [h2.tries, h1.tries], by rw [h2.iters, h1.iters], h2.halted,
   fun x hx => by rw [h2.cnt x hx, h1.cnt x hx], fun hr => by rw [h2.res hr, h1.res hr]⟩

theorem Common.mono {a b : VM} {l : List Ev} {I I' : List Nat} {rf : Bool}
    (h : Common a b l I rf) (hI : ∀ x, x ∈ I → x ∈ I') : Common a b l I' rf :=
  ⟨h.log, h.tries, h.iters, h.halted, fun x hx => h.cnt x (fun hh => hx (hI x hh)), h.res⟩

theorem Common.weaken {a b : VM} {l : List Ev} {I : List Nat} {rf : Bool} (h : Common a b l I rf) :
    Common a b l I false := ⟨h.log, h.tries, h.iters, h.halted, h.cnt, nofun⟩

section common
variable {a b : VM} {l : List Ev} {I : List Nat} {rf : Bool}

theorem Common.setTries (h : Common a b l I rf) (T : List TryFrame) :
    Common { a with tries := T } { b with tries := T } l I rf :=
  ⟨h.log, rfl, h.iters, h.halted, h.cnt, h.res⟩

theorem Common.setIters (h : Common a b l I rf) (X : List IterItem) :
    Common { a with iters := X } { b with iters := X } l I rf :=
  ⟨h.log, h.tries, rfl, h.halted, h.cnt, h.res⟩

theorem Common.setPcStack (h : Common a b l I rf) (p : Nat) (s : List Val) :
    Common a { b with pc := p, stack := s } l I rf :=
  ⟨h.log, h.tries, h.iters, h.halted, h.cnt, h.res⟩

theorem Common.baseStack (h : Common a b l I rf) (s : List Val) : Common { a with stack := s } b l I rf :=
  ⟨h.log, h.tries, h.iters, h.halted, h.cnt, h.res⟩

end common

/-- the return() calls handleThrow makes for the iterators `xs` it closes (innermost first) -/
def clEv : List IterItem → List Ev
  | [] => []
  | it :: rest => (match it.sp with | some s => [Ev.itRet s.id] | none => []) ++ clEv rest

theorem clEv_append (xs ys : List IterItem) : clEv (xs ++ ys) = clEv xs ++ clEv ys := by
  induction xs with
  | nil => rfl
  | cons x r ih => simp [clEv, ih]

/-- `Common` up to a throw point: the state at the throw has the iterators `xs` still open above the base -/
theorem Common.transT {a b c : VM} {l1 l2 : List Ev} {I : List Nat} {rf : Bool} {xs : List IterItem}
    (h1 : Common a b l1 I rf) (h2 : Common { b with iters := xs ++ b.iters } c l2 I rf) :
    Common { a with iters := xs ++ a.iters } c (l1 ++ l2) I rf :=
  ⟨by rw [h2.log]; show b.log ++ l2 = a.log ++ (l1 ++ l2); rw [h1.log, List.append_assoc],
   by rw [h2.tries]; exact h1.tries,
   by rw [h2.iters]; show xs ++ b.iters = xs ++ a.iters; rw [h1.iters],
   h2.halted,
   fun x hx => by rw [h2.cnt x hx]; exact h1.cnt x hx,
   fun hr => by rw [h2.res hr]; exact h1.res hr⟩

/-- no iterator open above the base: the same `Common`, in the form the throw case of `SimG` asks for (`[] ++ xs` and the
structure update reduce away) -/
theorem Common.toT {a b : VM} {l : List Ev} {I : List Nat} {rf : Bool} (h : Common a b l I rf) :
    Common { a with iters := [] ++ a.iters } b l I rf := h

def ExitPt (C : Code) (ctx : List BI) (τ : VM) (lb : Option Label) (isBreak : Bool) : Prop :=
  ∃ ex t, findBrk lb isBreak ctx = some (ex, t) ∧
    CodeAt C τ.pc (ex ++ [Instr.jump (CS.rel t (τ.pc + ex.length))])

/-- The VM started in `src`; what is preserved is stated relative to `base` (same as `src` except in the
middle of a try statement).  A `return` completion makes no promise about the parked value `result`
(the exit sequence of `return` overwrites it on purpose). -/
def SimG (C : Code) (ctx : List BI) (src base : VM) (e : Nat) (I : List Nat) (rf : Bool) (l : List Ev) : K → Prop
  | .normal => ∃ τ, Reach C src τ ∧ Common base τ l I rf ∧ τ.pc = e ∧ τ.stack = base.stack
  | .brk lb => ∃ τ, Reach C src τ ∧ Common base τ l I rf ∧ τ.stack = base.stack ∧ ExitPt C ctx τ lb true
  | .cont lb => ∃ τ, Reach C src τ ∧ Common base τ l I rf ∧ τ.stack = base.stack ∧ ExitPt C ctx τ lb false
  | .ret v => ∃ τ, Reach C src τ ∧ Common base τ l I false ∧ (∃ xs, τ.stack = v :: (xs ++ base.stack)) ∧
        CodeAt C τ.pc (retExitsS ctx ++ [Instr.ret])
  | .thr v => ∃ τ its l0, l = l0 ++ clEv its ∧ Common { base with iters := its ++ base.iters } τ l0 I rf ∧
        (∃ xs, τ.stack = xs ++ base.stack) ∧ Reach C src (VM.throwV (some v) τ)
  | .fatal => ∃ τ, Reach C src τ ∧ τ.log = base.log ++ l ∧ (τ.halted = some Compl.fatal ∧ τ.tries = [] ∧ τ.iters = [])

def SimK (C : Code) (ctx : List BI) (σ : VM) (e : Nat) (I : List Nat) (rf : Bool) (l : List Ev) (k : K) : Prop :=
  SimG C ctx σ σ e I rf l k

def Sim (C : Code) (ctx : List BI) (σ : VM) (e : Nat) (I : List Nat) (rf : Bool) (r : Res) : Prop :=
  SimK C ctx σ e I rf r.2 (kind r.1)

theorem SimG.end_irrel {C : Code} {ctx : List BI} {src base : VM} {e e' : Nat} {I : List Nat} {rf : Bool}
    {l : List Ev} {k : K} (hk : k ≠ K.normal) (h : SimG C ctx src base e I rf l k) : SimG C ctx src base e' I rf l k := by
  cases k with
  | normal => exact absurd rfl hk
  | _ => exact h

theorem SimK.end_irrel {C : Code} {ctx : List BI} {σ : VM} {e e' : Nat} {I : List Nat} {rf : Bool}
    {l : List Ev} {k : K} (hk : k ≠ K.normal) (h : SimK C ctx σ e I rf l k) : SimK C ctx σ e' I rf l k :=
  SimG.end_irrel hk h

theorem SimK.mono {C : Code} {ctx : List BI} {σ : VM} {e : Nat} {I I' : List Nat} {rf : Bool}
    {l : List Ev} {k : K} (h : SimK C ctx σ e I rf l k) (hI : ∀ x, x ∈ I → x ∈ I') : SimK C ctx σ e I' rf l k := by
  cases k with
  | normal | brk lb | cont lb | ret v => obtain ⟨τ, h1, h2, h3, h4⟩ := h; exact ⟨τ, h1, h2.mono hI, h3, h4⟩
  | thr v => obtain ⟨τ, its, l0, hl, h2, h3, h4⟩ := h; exact ⟨τ, its, l0, hl, h2.mono hI, h3, h4⟩
  | fatal => exact h

theorem SimG.prependG {C : Code} {ctx : List BI} {src mid base midB : VM} {e : Nat} {I : List Nat} {rf : Bool}
    {l1 l2 : List Ev} {k : K} (hr : Reach C src mid) (hc : Common base midB l1 I rf) (hs : midB.stack = base.stack)
    (h : SimG C ctx mid midB e I rf l2 k) : SimG C ctx src base e I rf (l1 ++ l2) k := by
  cases k with
  | normal => obtain ⟨τ, h1, h2, h3, h4⟩ := h; exact ⟨τ, hr.trans h1, hc.trans h2, h3, by rw [h4, hs]⟩
  | brk lb | cont lb => obtain ⟨τ, h1, h2, h3, h4⟩ := h; exact ⟨τ, hr.trans h1, hc.trans h2, by rw [h3, hs], h4⟩
  | ret v =>
    obtain ⟨τ, h1, h2, ⟨xs, h3⟩, h4⟩ := h
    exact ⟨τ, hr.trans h1, hc.weaken.trans h2, ⟨xs, by rw [h3, hs]⟩, h4⟩
  | thr v =>
    obtain ⟨τ, its, l0, hl, h2, ⟨xs, h3⟩, h4⟩ := h
    exact ⟨τ, its, l1 ++ l0, by rw [hl, List.append_assoc], hc.transT h2, ⟨xs, by rw [h3, hs]⟩, hr.trans h4⟩
  | fatal =>
    obtain ⟨τ, h1, h2, h3⟩ := h
    exact ⟨τ, hr.trans h1, by rw [h2, hc.log, List.append_assoc], h3⟩

theorem SimG.from {C : Code} {ctx : List BI} {src mid base : VM} {e : Nat} {I : List Nat} {rf : Bool} {l : List Ev} {k : K}
    (hr : Reach C src mid) (h : SimG C ctx mid base e I rf l k) : SimG C ctx src base e I rf l k := by
  cases k with
  | thr v => obtain ⟨τ, its, l0, a, b, c, h4⟩ := h; exact ⟨τ, its, l0, a, b, c, hr.trans h4⟩
  | _ => obtain ⟨τ, h1, r⟩ := h; exact ⟨τ, hr.trans h1, r⟩

theorem SimK.prepend {C : Code} {ctx : List BI} {σ σ1 : VM} {e : Nat} {I : List Nat} {rf : Bool}
    {l1 l2 : List Ev} {k : K} (hr : Reach C σ σ1) (hc : Common σ σ1 l1 I rf) (hs : σ1.stack = σ.stack)
    (h : SimK C ctx σ1 e I rf l2 k) : SimK C ctx σ e I rf (l1 ++ l2) k :=
  SimG.prependG hr hc hs h

end GojaModel.C08.S2
