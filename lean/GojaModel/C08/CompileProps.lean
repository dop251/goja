/-
  C08 — theorems about the mechanism model (compileCF + mini-VM).

  `CompileCFCorrect` is the full compiler-correctness statement, as a definition only: no theorem is stated
  through it.  What is proved are stage 1 (`compileCF_correct_stage1`, CompileSProps) and stage 2
  (`S2.compileCF_correct_stage2`, S2/Props), in terms of `obsCompl`.  Here: for all block stacks / VM states, the compile-time half of "exactly once, inner
  to outer" (exit-code emission) and the run-time single-shot behaviour of leaveTry / enterFinally /
  restoreStacks / handleThrow, plus regression lemmas about the mechanism before the repairs.
-/
import GojaModel.C08.Compile

namespace GojaModel.C08

/-- Full statement of compiler correctness for the modelled fragment (same log, same completion).
`WF` = the syntactic side conditions under which goja accepts the program (every break/continue
has a target; ids unique).  Not proved in this generality; see the header. -/
def CompileCFCorrect (WF : Stmt → Prop) : Prop :=
  ∀ p : Stmt, WF p → ∃ fuel, (runProgramWith fuel p).1 = ((match (refSem p).1 with
      | .normal _ => Compl.normal none
      | c => c), (refSem p).2)

/-- what compileReturnStatement emits for one enclosing block -/
def retExit (b : Block) : List Instr :=
  match b.typ with
  | BT.try_ => [Instr.saveResult, Instr.leaveTry, Instr.loadResult]
  | BT.loopEnum => [Instr.enumPopClose]
  | _ => []

/-- what emitBlockExitCode emits for one block strictly between source and target -/
def brkExit (b : Block) : List Instr :=
  match b.typ with
  | BT.scope => [Instr.nop]          -- placeholder later patched with that scope's leaveBlock
  | BT.iterScope => [Instr.nop]
  | BT.try_ => [Instr.leaveTry]
  | BT.with_ => [Instr.leaveWith]
  | BT.loopEnum => [Instr.enumPopClose]
  | _ => []

/-- For EVERY block stack, `return` emits exactly one
saveResult/leaveTry/loadResult per enclosing try block and exactly one enumPopClose per enclosing
for-in/of loop, from the innermost block to the outermost, and nothing else. -/
theorem return_exits_each_block_once (blocks : List Block) (code : Array Instr) :
    (returnExits blocks code).toList = code.toList ++ blocks.flatMap retExit := by
  induction blocks generalizing code with
  | nil => simp [returnExits]
  | cons b rest ih =>
    simp only [returnExits, List.flatMap_cons]
    rw [ih]
    cases h : b.typ <;> simp [retExit, h]

/-- For EVERY block stack and target height `t` inside it,
break/continue emits exactly one exit instruction per try / with / for-in-of / scope block
strictly between the current block and the target block, innermost first, none for the target
(`cfl = false`: break, or continue of a for-in/of loop; a `continue` of a plain loop additionally stops
at that loop's own per-iteration scope). -/
theorem branch_exits_each_block_once (t : Nat) (blocks : List Block) (code : Array Instr)
    (ht : t < blocks.length) :
    (exitWalk t false blocks code).2.toList =
      code.toList ++ (blocks.take (blocks.length - 1 - t)).flatMap brkExit := by
  induction blocks generalizing code with
  | nil => simp at ht
  | cons b rest ih =>
    simp only [exitWalk]
    by_cases h : rest.length = t
    · simp [h]
    · simp only [h, if_false]
      have ht' : t < rest.length := by simp at ht; omega
      have hlen : (b :: rest).length - 1 - t = (rest.length - 1 - t) + 1 := by simp; omega
      rw [hlen, List.take_succ_cons, List.flatMap_cons]
      cases hb : b.typ <;> simp [brkExit, hb, ih _ ht', List.append_assoc]

theorem exitWalk_len (t : Nat) (cfl : Bool) (blocks : List Block) (code : Array Instr) :
    (exitWalk t cfl blocks code).1.length = blocks.length := by
  induction blocks generalizing code with
  | nil => simp [exitWalk]
  | cons b rest ih =>
    simp only [exitWalk]
    split
    · rfl
    · split
      · rfl
      · cases hb : b.typ <;> simp [ih]

/-- the walk keeps the number of blocks -/
theorem exitWalk_length (t : Nat) (blocks : List Block) (code : Array Instr) :
    (exitWalk t false blocks code).1.length = blocks.length :=
  exitWalk_len t false blocks code

/-- LeaveTry on a frame whose finally block has not run yet transfers to it
and disarms the frame (finallyPos = none, catchPos = none, finallyRet = pc+1); on a frame whose
finally block is running or absent it just pops the frame. -/
theorem leaveTry_single_shot (vm : VM) (tf : TryFrame) (rest : List TryFrame)
    (h : vm.tries = tf :: rest) :
    (∀ p, tf.finallyPos = some p →
        (VM.step vm .leaveTry).pc = p ∧
        (VM.step vm .leaveTry).tries =
          { tf with finallyRet := some (vm.pc + 1), finallyPos := none, catchPos := none, result := vm.result } :: rest) ∧
    (tf.finallyPos = none →
        (VM.step vm .leaveTry).tries = rest ∧ (VM.step vm .leaveTry).pc = vm.pc + 1) := by
  constructor
  · intro p hp
    simp [VM.step, h, hp, VM.setSp]
  · intro hp
    simp [VM.step, h, hp, VM.next]

/-- the return() events restoreStacks produces: one per still-open iterator above `len`, top first -/
def closeEvents (len : Nat) : List IterItem → List Ev
  | [] => []
  | it :: rest =>
    if rest.length + 1 ≤ len then []
    else (match it.sp with | some s => [Ev.itRet s.id] | none => []) ++ closeEvents len rest

theorem closeIters_go (len : Nat) (its : List IterItem) (acc : List Ev) :
    (VM.closeIters.go len true its acc).2 = acc ++ closeEvents len its ∧
    (VM.closeIters.go len true its acc).1 = its.drop (its.length - len) := by
  induction its generalizing acc with
  | nil => simp [VM.closeIters.go, closeEvents]
  | cons it rest ih =>
    simp only [VM.closeIters.go, closeEvents]
    by_cases h : rest.length + 1 ≤ len
    · simp only [h, if_true, List.append_nil, true_and]
      have : (it :: rest).length - len = 0 := by simp; omega
      rw [this]; rfl
    · simp only [h, if_false]
      have hd : (it :: rest).length - len = (rest.length - len) + 1 := by simp; omega
      rw [hd, List.drop_succ_cons]
      cases hs : it.sp with
      | none => simpa using ih acc
      | some s =>
        have := ih (acc ++ [Ev.itRet s.id])
        simpa [List.append_assoc] using this

/-- RestoreStacks(len) calls return() exactly once on every
still-open iterator above `len`, innermost first, appends nothing else to the log, and leaves
exactly the `len` bottom entries of the iterator stack. -/
theorem restoreStacks_closes_each_once (len : Nat) (vm : VM) :
    (VM.closeIters len true vm).log = vm.log ++ closeEvents len vm.iters ∧
    (VM.closeIters len true vm).iters = vm.iters.drop (vm.iters.length - len) := by
  have := closeIters_go len vm.iters []
  simp only [VM.closeIters]
  constructor
  · simp [this.1]
  · simp [this.2]

theorem closeIters_go_zero_nocall (its : List IterItem) (acc : List Ev) :
    VM.closeIters.go 0 false its acc = ([], acc) := by
  induction its generalizing acc with
  | nil => simp [VM.closeIters.go]
  | cons it rest ih =>
    simp only [VM.closeIters.go]
    have h : ¬ (rest.length + 1 ≤ 0) := by omega
    simp only [h, if_false]
    cases hs : it.sp <;> simp [ih]

theorem handleThrow_none (fs : List TryFrame) (vm : VM) :
    ((VM.handleThrow none fs vm).halted = some Compl.fatal ∧ (VM.handleThrow none fs vm).tries = [] ∧
      (VM.handleThrow none fs vm).iters = []) ∧ (VM.handleThrow none fs vm).log = vm.log := by
  induction fs with
  | nil => simp [VM.handleThrow, VM.closeIters, closeIters_go_zero_nocall]
  | cons tf rest ih => simpa [VM.handleThrow] using ih

/-- HandleThrow with an uncatchable
payload appends NOTHING to the log — no catch, no finally, no return() — for every try stack and
every VM state, and halts the run with the fatal completion. -/
theorem uncatchable_unwinds_silently (tries : List TryFrame) (vm : VM) :
    (VM.handleThrow none tries vm).log = vm.log ∧
    (VM.handleThrow none tries vm).halted = some Compl.fatal :=
  ⟨(handleThrow_none tries vm).2, (handleThrow_none tries vm).1.1⟩

/-- After enterFinally neither the catch clause nor the finally block of
the statement can be entered again by an exception or a leaveTry (vm.go enterFinally, as repaired
by 379f30d). -/
theorem enterFinally_disarms_frame (vm : VM) (tf : TryFrame) (rest : List TryFrame)
    (h : vm.tries = tf :: rest) :
    (VM.step vm .enterFinally).tries = { tf with finallyPos := none, catchPos := none } :: rest := by
  simp [VM.step, h, VM.next]

/-- Had enterFinally reset only `finallyPos` (the code before 379f30d), a
frame whose try block completed normally would still deliver an exception thrown inside its
finally block to its own catch clause at `p`. -/
theorem keepCatch_prefix_witness (p : Nat) (v : Val) :
    let tf : TryFrame := { iterLen := 0, sp := 0, catchPos := some p, finallyPos := some 9 }
    let old : TryFrame := { tf with finallyPos := none }          -- pre-fix enterFinally
    (VM.handleThrow (some v) [old] {}).pc = p ∧ (VM.handleThrow (some v) [old] {}).halted = none := by
  simp [VM.handleThrow, VM.closeIters, VM.closeIters.go, VM.setSp, VM.pushV]

/-- Closing the iterator stack WITH calls (what the marker frame did
for uncatchable payloads before 5d979ec) logs a return() event for an open iterator, whereas
handleThrow now logs nothing (uncatchable_unwinds_silently). -/
theorem closeOnFatal_prefix_witness (sp : IterSpec) :
    (VM.closeIters 0 true { iters := [{ sp := some sp }] }).log = [Ev.itRet sp.id] ∧
    (VM.handleThrow none [] { iters := [{ sp := some sp }] }).log = [] := by
  simp [VM.closeIters, VM.closeIters.go, VM.handleThrow]

/-- `try { log 1 } catch { log 2 } finally { throw 8 }` and `for (x of it) { <stack overflow> }`:
the mini-VM agrees with the reference semantics on the original failing inputs (test on literals) -/
def witnessQ1 : Stmt := .tryS 1 (.log 1) true (.log 2) true (.thr 8)
def witnessQ2 : Stmt := .forOf ⟨1, 2, none, .ok, false⟩ .fatal

theorem vm_on_repaired_inputs :
    (runProgramWith 100 witnessQ1).1 = (.thr 8, (refSem witnessQ1).2) ∧
    (runProgramWith 100 witnessQ2).1 = (.fatal, (refSem witnessQ2).2) := by
  decide

end GojaModel.C08
