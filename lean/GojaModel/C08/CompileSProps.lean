/-
  C08 — compiler correctness, stage 1, as a theorem.

  compileCF_correct_partial₁ : for EVERY program p of the stage-1 fragment (try/catch/finally, while/do/for,
  for (let …;;), two-clause switch, break/continue [label], return, throw, uncatchable error, labelled statements,
  if, block scope, with — `stage1 p`), whose code
  contains no unresolved branch placeholder (goja: "Could not find block"), the mini-VM run on the emitted
  code produces exactly the event log of the reference semantics and halts with the specified completion
  (function result: a normal completion is `return undefined`).

  It is `_partial₁` because the fragment excludes for-in/of (lexical or not) and finally blocks with a
  top-level break/continue anywhere in their statement list (see `stage1`).

  compileS_eq_compileCF: the compositional listing `compileS p` IS the code array the
  back-patching `compileCF` (mirror of compiler_stmt.go) ends with, for every stage-1 program; the driver's
  executable check (op `A`, field S1) is a regression test of it.
  compileCF_correct_stage1 combines the two: stage 1 of compiler correctness for compileCF itself.

  All of them are the stage-2 theorems of `S2/Props.lean` read on programs without for-of (head of `CompileSUp.lean`).
-/
import GojaModel.C08.CompileSUp
import GojaModel.C08.S2.Props

namespace GojaModel.C08
open Compl

/-- what the caller of the function observes: falling off the end is `return undefined` -/
def obsCompl : Compl → Compl
  | .normal _ => .ret 0
  | c => c

theorem obsCompl_up : S2.obsCompl = obsCompl := by funext c; cases c <;> rfl

/-- Compiler correctness, stage 1, for the compositional emission.  For every stage-1 program whose loop counters are not the
reserved id 0 and whose code has no unresolved placeholder: with enough fuel the mini-VM halts, its
event log is the reference log and its completion is the reference completion (as the caller of the
function observes it). -/
theorem compileS_correct (p : Stmt) (hst : stage1 p = true) (h0 : 0 ∉ ids p) (hnop : Instr.nop ∉ compileS p) :
    ∃ fuel, (VM.run (compileS p).toArray fuel {}).log = (refSem p).2 ∧
            (VM.run (compileS p).toArray fuel {}).halted = some (obsCompl (refSem p).1) ∧
            (VM.run (compileS p).toArray fuel {}).tries = [] ∧ (VM.run (compileS p).toArray fuel {}).iters = [] := by
  have hf := stage1_forOfFree p hst
  rw [← compileS_up p hf] at hnop ⊢
  rw [← obsCompl_up]
  exact S2.compileS_correct p (by rw [stage1_up p hf]; exact hst) (by rw [ids_up]; exact h0) hnop

/-- `compileS_correct` as one equation on (completion, log), for the compositional presentation of the emission;
the statement is in terms of `obsCompl` (a normal completion is `return undefined`), not of `CompileCFCorrect`. -/
theorem compileCF_correct_partial₁ :
    ∀ p : Stmt, stage1 p = true → 0 ∉ ids p → Instr.nop ∉ compileS p →
      ∃ fuel, ((VM.run (compileS p).toArray fuel {}).halted, (VM.run (compileS p).toArray fuel {}).log)
        = (some (obsCompl (refSem p).1), (refSem p).2) := by
  intro p h1 h2 h3
  obtain ⟨fuel, ha, hb, _, _⟩ := compileS_correct p h1 h2 h3
  exact ⟨fuel, by rw [ha, hb]⟩

/-- For EVERY stage-1 program (no executable check, no hypothesis on the run) the
instruction list written down compositionally by `compileS` is exactly what the back-patching compiler
`compileProgram` (mirror of compiler_stmt.go) leaves in the code array after all its patches. The only side
condition is that the compositional listing has no unpatched placeholder left (`nop ∉`), which is decidable
on the listing alone. -/
theorem compileS_eq_compileCF (p : Stmt) (hst : stage1 p = true) (hnop : Instr.nop ∉ compileS p) :
    (compileS p).toArray = compileProgram p := by
  have hf := stage1_forOfFree p hst
  rw [← compileS_up p hf] at hnop ⊢
  exact S2.compileS_eq_compileCF p (by rw [stage1_up p hf]; exact hst) hnop

/-- Compiler correctness, stage 1, for the BACK-PATCHING compiler `compileCF` itself
(the mirror of compiler_stmt.go), with no executable side check: for every stage-1 program whose
break/continue targets all resolve, the mini-VM run on `compileProgram p` has the reference log, halts
with the reference completion, and leaves no try frame and no iterator on its stacks. -/
theorem compileCF_correct_stage1 (p : Stmt) (hst : stage1 p = true) (h0 : 0 ∉ ids p)
    (hnop : Instr.nop ∉ compileS p) :
    ∃ fuel, (VM.run (compileProgram p) fuel {}).log = (refSem p).2 ∧
            (VM.run (compileProgram p) fuel {}).halted = some (obsCompl (refSem p).1) ∧
            (VM.run (compileProgram p) fuel {}).tries = [] ∧ (VM.run (compileProgram p) fuel {}).iters = [] := by
  rw [← compileS_eq_compileCF p hst hnop]
  exact compileS_correct p hst h0 hnop

/-- `targetsOK`: every break / continue has a target, what goja's parser/compiler enforce with a SyntaxError -/
theorem compileS_no_nop (p : Stmt) (hf : forOfFree p = true) (h : targetsOK p none [] = true) : Instr.nop ∉ compileS p := by
  rw [← compileS_up p hf]
  exact S2.compileS_no_nop p (by rw [← targetsOK_up p none [] hf] at h; exact h)

/-- compileCF_correct_stage1 with purely syntactic hypotheses on the source program -/
theorem compileCF_correct_stage1_wf (p : Stmt) (hst : stage1 p = true) (h0 : 0 ∉ ids p)
    (ht : targetsOK p none [] = true) :
    ∃ fuel, (VM.run (compileProgram p) fuel {}).log = (refSem p).2 ∧
            (VM.run (compileProgram p) fuel {}).halted = some (obsCompl (refSem p).1) ∧
            (VM.run (compileProgram p) fuel {}).tries = [] ∧ (VM.run (compileProgram p) fuel {}).iters = [] :=
  compileCF_correct_stage1 p hst h0 (compileS_no_nop p (stage1_forOfFree p hst) ht)

/-- the executable check `sameCode`, which the driver evaluates on every generated stage-1 program, always succeeds -/
theorem sameCode_stage1 (p : Stmt) (hst : stage1 p = true) (hnop : Instr.nop ∉ compileS p) : sameCode p = true := by
  simp [sameCode, compileS_eq_compileCF p hst hnop]

/-- Running the code `compileCF` emits for a stage-1 program whose reference
completion is not the uncatchable one, the mini-VM halts with that completion and its event log is a balanced
bracket sequence (each finally entry closes the innermost pending try) with, for every try statement `i`, exactly
as many finally entries as statement entries. -/
theorem compiled_finally_once_in_order (p : Stmt) (hst : stage1 p = true) (h0 : 0 ∉ ids p)
    (hnop : Instr.nop ∉ compileS p) (hnf : (refSem p).1 ≠ .fatal) :
    ∃ fuel, (VM.run (compileProgram p) fuel {}).halted = some (obsCompl (refSem p).1) ∧
      (∀ st, scan st (VM.run (compileProgram p) fuel {}).log = some st) ∧
      ∀ i, (VM.run (compileProgram p) fuel {}).log.count (Ev.finE i)
            = (VM.run (compileProgram p) fuel {}).log.count (Ev.tryE i) := by
  obtain ⟨fuel, hl, hh, _, _⟩ := compileCF_correct_stage1 p hst h0 hnop
  refine ⟨fuel, hh, ?_, ?_⟩
  · rw [hl]; exact finally_inner_to_outer p 0 [] hnf
  · intro i; rw [hl]; exact finally_exactly_once p 0 [] hnf i

/-- If the reference completion of a stage-1 program is the uncatchable one,
the mini-VM run on compileCF's code halts with it and `fatal` is the LAST event of its log: no catch clause and
no finally block of any enclosing try statement ran after it. -/
theorem compiled_uncatchable_runs_nothing (p : Stmt) (hst : stage1 p = true) (h0 : 0 ∉ ids p)
    (hnop : Instr.nop ∉ compileS p) (hf : (refSem p).1 = .fatal) :
    ∃ fuel pre, (VM.run (compileProgram p) fuel {}).halted = some Compl.fatal ∧
      (VM.run (compileProgram p) fuel {}).log = pre ++ [Ev.fatal] := by
  obtain ⟨fuel, hl, hh, _, _⟩ := compileCF_correct_stage1 p hst h0 hnop
  obtain ⟨pre, hpre⟩ := (uncatchable_runs_nothing p 0 [] hf).1
  refine ⟨fuel, pre, ?_, ?_⟩
  · rw [hh, hf]; rfl
  · rw [hl]; exact hpre

/-- `compileS_eq_compileCF` on four literals; their fragment membership and the resolution of their branch
targets are evaluated (the driver checks the same equality on every generated stage-1 program) -/
theorem compileS_eq_compileCF_examples :
    let p1 : Stmt := .lbl 7 (.loop .while_ 1 2 (.tryS 1 (.seq (.log 1) (.brk (some 7))) true (.cont none) true (.log 2)))
    let p2 : Stmt := .loop .for_ 1 3 (.tryS 1 (.ifIter 1 (.thr 5)) true (.seq (.log 3) (.cont none)) true (.ifIter 2 (.log 4)))
    let p3 : Stmt := .tryS 1 (.blk (.withS (.ret 4))) false .skip true (.lbl 3 (.seq (.log 1) (.brk (some 3))))
    let p4 : Stmt := .lbl 3 (.loop .forlet 1 3 (.sw true 0 (.blk (.brk none)) (.tryS 1 (.cont (some 3)) true (.ret 3) true .fatal)))
    (compileS p1).toArray = compileProgram p1 ∧ (compileS p2).toArray = compileProgram p2 ∧
    (compileS p3).toArray = compileProgram p3 ∧ (compileS p4).toArray = compileProgram p4 ∧
    stage1 p1 = true ∧ stage1 p2 = true ∧ stage1 p3 = true ∧ stage1 p4 = true := by
  intro p1 p2 p3 p4
  have eq : ∀ p, stage1 p = true → targetsOK p none [] = true → (compileS p).toArray = compileProgram p :=
    fun p hst ht => compileS_eq_compileCF p hst (compileS_no_nop p (stage1_forOfFree p hst) ht)
  have s1 : stage1 p1 = true := by decide
  have s2 : stage1 p2 = true := by decide
  have s3 : stage1 p3 = true := by decide
  have s4 : stage1 p4 = true := by decide
  exact ⟨eq p1 s1 (by decide), eq p2 s2 (by decide), eq p3 s3 (by decide), eq p4 s4 (by decide), s1, s2, s3, s4⟩

end GojaModel.C08
