/-
  C08 — property theorems about the reference semantics (for ALL programs, by structural
  induction; no bounds).  Every `theorem` here is one audited proof obligation.

  Compiler correctness (mini-VM on compileCF output ≈ refSem) is in CompileSProps and S2/Props.
-/
import GojaModel.C08.Lemmas

namespace GojaModel.C08
open Compl

/-- Finally blocks and iterator closes obey one common stack discipline.  For every program,
every environment and label set: if the completion is not `fatal`, the event log is a BALANCED
bracket sequence — each `finE i` closes the most recently opened, still pending `tryE i`, each of
`itDone j | itFail j | itRet j` closes the most recently opened, still open `itOpen j`; hence
pending finally blocks and open iterators are left from innermost to outermost, and all of them
are left when the statement completes (normally or abruptly, whatever the kind). -/
theorem finally_inner_to_outer (s : Stmt) (env : Nat) (ls : List Label)
    (h : (exec env ls s).1 ≠ .fatal) : ∀ st, scan st (exec env ls s).2 = some st :=
  ((exec_good s env ls).1 h).1

/-- In the log of any non-fatal run, for every try statement id `i` the
number of entries into its finally block equals the number of entries into the statement. -/
theorem finally_exactly_once (s : Stmt) (env : Nat) (ls : List Label)
    (h : (exec env ls s).1 ≠ .fatal) (i : Nat) :
    (exec env ls s).2.count (Ev.finE i) = (exec env ls s).2.count (Ev.tryE i) := by
  have hb := ((exec_good s env ls).1 h).1
  have := bal_count hb (Fr.tr i)
  have e1 : ∀ l : List Ev, sumBy (opens (Fr.tr i)) l = l.count (Ev.tryE i) := by
    intro l; induction l with
    | nil => rfl
    | cons e es ih =>
      cases e <;> simp [sumBy, opens, List.count_cons, ih] <;> omega
  have e2 : ∀ l : List Ev, sumBy (closes (Fr.tr i)) l = l.count (Ev.finE i) := by
    intro l; induction l with
    | nil => rfl
    | cons e es ih =>
      cases e <;> simp [sumBy, closes, List.count_cons, ih] <;> omega
  rw [e1, e2] at this
  omega

/-- In any non-fatal run every opened iterator `j` ends in exactly one
of three ways: exhaustion (`itDone`, no return()), a throwing next() (`itFail`, no return()), or
one call of return() (`itRet`). -/
theorem iter_return_exactly_once (s : Stmt) (env : Nat) (ls : List Label)
    (h : (exec env ls s).1 ≠ .fatal) (j : Nat) :
    (exec env ls s).2.count (Ev.itOpen j) =
      (exec env ls s).2.count (Ev.itDone j) + (exec env ls s).2.count (Ev.itFail j)
        + (exec env ls s).2.count (Ev.itRet j) := by
  have hb := ((exec_good s env ls).1 h).1
  have := bal_count hb (Fr.it j)
  have e1 : ∀ l : List Ev, sumBy (opens (Fr.it j)) l = l.count (Ev.itOpen j) := by
    intro l; induction l with
    | nil => rfl
    | cons e es ih =>
      cases e <;> simp [sumBy, opens, List.count_cons, ih] <;> omega
  have e2 : ∀ l : List Ev, sumBy (closes (Fr.it j)) l =
      l.count (Ev.itDone j) + l.count (Ev.itFail j) + l.count (Ev.itRet j) := by
    intro l; induction l with
    | nil => rfl
    | cons e es ih =>
      cases e <;> simp [sumBy, closes, List.count_cons, ih] <;> omega
  rw [e1, e2] at this
  omega

/-- The completion of `try B [catch C] finally F` is F's completion
when F completes abruptly, and otherwise that of the try/catch part (UpdateEmpty'd) — whatever
kind (normal, break, continue, return, throw) the latter is. -/
theorem finally_completion_overrides (i : Nat) (b c f : Stmt) (hasC : Bool) (env : Nat) (ls : List Label)
    (h : (exec env ls (.tryS i b hasC c false .skip)).1 ≠ .fatal) :
    (exec env ls (.tryS i b hasC c true f)).1 =
      (if (exec env [] f).1.isNormal then (exec env ls (.tryS i b hasC c false .skip)).1
       else (exec env [] f).1.updateEmpty 0) := by
  simp only [exec, tryRes, if_true, Bool.false_eq_true, if_false] at h ⊢
  have h' : (catchPart i (exec env [] b) hasC fun _ => exec env [] c).1 ≠ .fatal := by
    intro hh; exact h ((updateEmpty_fatal_iff _ 0).2 hh)
  rw [finPart_nonfatal i _ h']
  cases hf : (exec env [] f).1 <;> simp [isNormal]

/-- the finally block's events are exactly the tail of the statement's log (it runs after the
try/catch part, once) -/
theorem finally_runs_after (i : Nat) (b c f : Stmt) (hasC : Bool) (env : Nat) (ls : List Label)
    (h : (exec env ls (.tryS i b hasC c false .skip)).1 ≠ .fatal) :
    (exec env ls (.tryS i b hasC c true f)).2 =
      Ev.tryE i :: ((exec env ls (.tryS i b hasC c false .skip)).2 ++ Ev.finE i :: (exec env [] f).2) := by
  simp only [exec, tryRes, if_true, Bool.false_eq_true, if_false] at h ⊢
  have h' : (catchPart i (exec env [] b) hasC fun _ => exec env [] c).1 ≠ .fatal := by
    intro hh; exact h ((updateEmpty_fatal_iff _ 0).2 hh)
  rw [finPart_nonfatal i _ h']

/-- If a run ends with the uncatchable completion, the `fatal` event is
the LAST event of the log — no catch clause, no finally block, no iterator return() ran after it —
and the log is still a prefix of a balanced sequence (nothing ran out of order before it). -/
theorem uncatchable_runs_nothing (s : Stmt) (env : Nat) (ls : List Label)
    (h : (exec env ls s).1 = .fatal) :
    (∃ pre, (exec env ls s).2 = pre ++ [Ev.fatal]) ∧ ∀ st, ∃ st', scan st (exec env ls s).2 = some (st' ++ st) :=
  ⟨((exec_good s env ls).2 h).2, ((exec_good s env ls).2 h).1⟩

/-- An uncatchable error can be neither caught nor overridden by a
finally block or an iterator close: if the `fatal` event is in the log the completion is `fatal`. -/
theorem uncatchable_not_swallowed (s : Stmt) (env : Nat) (ls : List Label)
    (h : Ev.fatal ∈ (exec env ls s).2) : (exec env ls s).1 = .fatal := by
  false_or_by_contra
  rename_i hc
  exact ((exec_good s env ls).1 hc).2 h

/-- `try B catch C finally F` means the same as `try { try B catch C } finally F` (same log, same completion):
the rewrite that separates goja's single frame for catch+finally. -/
theorem try_split (i : Nat) (b c f : Stmt) (env : Nat) (ls : List Label) :
    exec env ls (.tryS i b true c true f) =
      exec env ls (.tryS i (.tryS i b true c false .skip) false .skip true f) := by
  simp only [exec, tryRes, if_true, Bool.false_eq_true, if_false, catchPart_false]
  exact (finPart_updateEmpty i _ _ _).symm

/-- `L: for-of(3 items) { try { try { break L } finally { log 1 } } finally { log 2 } }` -/
def ex1 : Stmt :=
  .lbl 7 (.forOf ⟨1, 3, none, .ok, false⟩
    (.tryS 1 (.tryS 2 (.brk (some 7)) false .skip true (.log 1)) false .skip true (.log 2)))

example : refSem ex1 =
    (.normal (some 0), [.itOpen 1, .itNext 1, .tryE 1, .tryE 2, .finE 2, .log 1, .finE 1, .log 2, .itRet 1]) := by
  decide

example : (refSem (.forOf ⟨1, 3, none, .ok, false⟩ (.tryS 1 .fatal true (.log 1) true (.log 2)))).2
    = [.itOpen 1, .itNext 1, .tryE 1, .fatal] := by decide

end GojaModel.C08
