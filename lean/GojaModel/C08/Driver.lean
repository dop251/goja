/-
  C08 model driver.  Line protocol (one op per line, one answer line per op):
    B <mode> <program tokens>   reference semantics: "<completion> | <events>"   (mode F|S|G)
    K <program tokens>          compileCF listing (function mode), instructions separated by ';'
    A <mode> <prog>             B ## V ## W ## K ## S1 in one line (V/W/K/S1 only for mode F; S1 = stage-1 program and compileS p = compileCF p)
    W <prog>                    mini-VM on compileCF output: "<completion> | <events>"
    V <program tokens>          model-internal: runVM (compileCF p) vs refSem p -> "ok" | "DIFF ..."
  Anything after a token "@@" is ignored (the Go harness reads its JavaScript from there).
-/
import GojaModel.Base.Proto
import GojaModel.C08.Model
import GojaModel.C08.Compile
import GojaModel.C08.CompileS

namespace GojaModel.C08.Driver
open GojaModel.C08

def optNat? (t : String) : Option (Option Nat) :=
  if t == "-" then some none else (t.toNat?).map some

/-- recursive-descent parser over the token list (prefix notation); `fuel` bounds the depth. -/
def parseStmt : Nat → List String → Option (Stmt × List String)
  | 0, _ => none
  | fuel + 1, toks =>
    match toks with
    | "skip" :: r => some (.skip, r)
    | "fatal" :: r => some (.fatal, r)
    | "log" :: k :: r => k.toNat?.map (fun k => (.log k, r))
    | "ret" :: k :: r => k.toNat?.map (fun k => (.ret k, r))
    | "thr" :: k :: r => k.toNat?.map (fun k => (.thr k, r))
    | "brk" :: l :: r => (optNat? l).map (fun l => (.brk l, r))
    | "cont" :: l :: r => (optNat? l).map (fun l => (.cont l, r))
    | "seq" :: r => do
      let (a, r) ← parseStmt fuel r
      let (b, r) ← parseStmt fuel r
      pure (.seq a b, r)
    | "try" :: i :: r => do
      let i ← i.toNat?
      let (b, r) ← parseStmt fuel r
      match r with
      | hc :: r => do
        let (c, r) ← parseStmt fuel r
        match r with
        | hf :: r => do
          let (f, r) ← parseStmt fuel r
          pure (.tryS i b (hc == "1") c (hf == "1") f, r)
        | [] => none
      | [] => none
    | "loop" :: k :: id :: n :: r => do
      let kind ← (match k with
        | "w" => some LoopKind.while_ | "d" => some LoopKind.do_
        | "f" => some LoopKind.for_ | "i" => some LoopKind.forin | "l" => some LoopKind.forlet | _ => none)
      let id ← id.toNat?
      let n ← n.toNat?
      let (b, r) ← parseStmt fuel r
      pure (.loop kind id n b, r)
    | "forof" :: id :: n :: nt :: rm :: r => do
      let id ← id.toNat?
      let n ← n.toNat?
      let nt ← optNat? nt
      let lex := rm == "O" || rm == "T" || rm == "N"
      let rm ← (match rm with
        | "o" => some RetMode.ok | "t" => some RetMode.thr | "n" => some RetMode.nonobj
        | "O" => some RetMode.ok | "T" => some RetMode.thr | "N" => some RetMode.nonobj | _ => none)
      let (b, r) ← parseStmt fuel r
      pure (.forOf ⟨id, n, nt, rm, lex⟩ b, r)
    | "lbl" :: l :: r => do
      let l ← l.toNat?
      let (s, r) ← parseStmt fuel r
      pure (.lbl l s, r)
    | "sw" :: u :: k :: r => do
      let k ← k.toNat?
      let (a, r) ← parseStmt fuel r
      let (b, r) ← parseStmt fuel r
      pure (.sw (u == "1") k a b, r)
    | "with" :: r => do
      let (s, r) ← parseStmt fuel r
      pure (.withS s, r)
    | "blk" :: r => do
      let (s, r) ← parseStmt fuel r
      pure (.blk s, r)
    | "if" :: m :: r => do
      let m ← m.toNat?
      let (s, r) ← parseStmt fuel r
      pure (.ifIter m s, r)
    | _ => none

def parseProg (toks : List String) : Option Stmt :=
  match parseStmt (toks.length + 1) toks with
  | some (s, []) => some s
  | _ => none

def showEv : Ev → String
  | .log k => s!"L{k}"
  | .tryE i => s!"T{i}"
  | .finE i => s!"F{i}"
  | .caught i v => s!"C{i}:{v}"
  | .itOpen j => s!"O{j}"
  | .itNext j => s!"N{j}"
  | .itDone j => s!"D{j}"
  | .itFail j => s!"X{j}"
  | .itRet j => s!"R{j}"
  | .fatal => "!"

def showLog (l : List Ev) : String := " ".intercalate (l.map showEv)

def showOptL : Option Nat → String
  | none => "-"
  | some l => toString l

/-- what the caller of the program can observe, per run mode -/
def showCompl (mode : String) : Compl → String
  | .normal v => if mode.startsWith "S" then s!"N:{v.getD 0}" else "N"
  | .brk l _ => s!"B:{showOptL l}"
  | .cont l _ => s!"C:{showOptL l}"
  | .ret v => s!"R:{v}"
  | .thr v => s!"T:{v}"
  | .fatal => "F"

def showRes (mode : String) (r : Res) : String := showCompl mode r.1 ++ " | " ++ showLog r.2

def cutAt (toks : List String) : List String := toks.takeWhile (· != "@@")

def handle (line : String) : String :=
  match cutAt (GojaModel.Proto.words line) with
  | "B" :: mode :: toks =>
    match parseProg toks with
    | some p => showRes mode (refSem p)
    | none => "PARSE-ERROR"
  | "K" :: toks =>
    match parseProg toks with
    | some p => showCode (compileProgram p)
    | none => "PARSE-ERROR"
  | "V" :: toks =>
    match parseProg toks with
    | some p =>
      let r := refSem p
      let v := runProgram p
      let rs := showRes "F" r
      let vs := showRes "F" v
      if rs == vs then "ok" else s!"DIFF ref[{rs}] vm[{vs}]"
    | none => "PARSE-ERROR"
  | "A" :: mode :: toks =>
    -- all answers for one program in one line: B ## V ## W ## K ## S1  (V/W/K/S1 only in mode F)
    match parseProg toks with
    | some p =>
      let r := refSem p
      let b := showRes mode r
      if mode.startsWith "F" then
        let (v, nt, ni) := runProgramWith 200000 p
        let rs := showRes "F" r
        let vs := showRes "F" v
        let vres := if rs == vs then "ok" else s!"DIFF ref[{rs}] vm[{vs}]"
        let wres := vs ++ (if nt != 0 || ni != 0 then s!" LEAK={nt},{ni}" else "")
        let sres := if stage1 p then (if sameCode p then "S1=" else "S1-DIFF") else "-"
        b ++ " ## " ++ vres ++ " ## " ++ wres ++ " ## " ++ showCode (compileProgram p) ++ " ## " ++ sres
      else b
    | none => "PARSE-ERROR"
  | "W" :: toks =>
    match parseProg toks with
    | some p =>
      let (r, nt, ni) := runProgramWith 200000 p
      showRes "F" r ++ (if nt != 0 || ni != 0 then s!" LEAK={nt},{ni}" else "")
    | none => "PARSE-ERROR"
  | _ => "BAD-OP"

def main : IO Unit := GojaModel.Proto.lineMap handle

end GojaModel.C08.Driver
