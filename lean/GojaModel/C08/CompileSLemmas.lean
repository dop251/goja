/-
  C08 — the stage-1 vocabulary of the forward simulation: reachability in a code array, code placement, the invariant
  `Common` of an execution segment, exit points, and the post-condition `SimG` by completion kind, for stage-1 contexts
  `BI`.  Its theorems are the small stage-1 theorems below (`hitsHead_shape`, `one_step`, `SimG.end_irrel`, `drop_ext`);
  the simulation itself is `S2/Sim.lean` (see the head of `CompileSUp.lean`).
-/
import GojaModel.C08.CompileS

namespace GojaModel.C08
open Compl

abbrev Code := Array Instr

inductive Reach (C : Code) : VM → VM → Prop
  | refl (σ : VM) : Reach C σ σ
  | step {σ τ : VM} {i : Instr} : σ.halted = none → C[σ.pc]? = some i → Reach C (VM.step σ i) τ → Reach C σ τ

def CodeAt (C : Code) (pc : Nat) (is : List Instr) : Prop :=
  ∀ k (h : k < is.length), C[pc + k]? = some is[k]

theorem hitsHead_shape (l : Option Label) (rest : List BI) : hitsHeadS l (rest.map BI.shape) = hitsHead l rest := by
  cases rest with
  | nil => rfl
  | cons y ys => cases y <;> rfl

structure Common (σ σ' : VM) (l : List Ev) (I : List Nat) (rf : Bool) : Prop where
  log : σ'.log = σ.log ++ l
  tries : σ'.tries = σ.tries
  iters : σ'.iters = []
  halted : σ'.halted = none
  cnt : ∀ x, x ∉ I → σ'.cnt x = σ.cnt x
  res : rf = true → σ'.result = σ.result

/-- completion kinds (values of normal/break/continue completions are not observable by the VM in
function bodies) -/
inductive K
  | normal
  | brk (l : Option Label)
  | cont (l : Option Label)
  | ret (v : Val)
  | thr (v : Val)
  | fatal
  deriving DecidableEq

def ExitPt (C : Code) (ctx : List BI) (τ : VM) (lb : Option Label) (isBreak : Bool) : Prop :=
  ∃ ex t, findBrk lb isBreak ctx = some (ex, t) ∧
    CodeAt C τ.pc (ex ++ [Instr.jump (CS.rel t (τ.pc + ex.length))])

/-- The VM started in `src`; what is preserved is stated relative to `base` (same as `src` except in the
middle of a try statement).  A `return` completion makes no promise about the parked value `result`
(the exit sequence of `return` overwrites it on purpose). -/
def SimG (C : Code) (ctx : List BI) (src base : VM) (e : Nat) (I : List Nat) (rf : Bool) (l : List Ev) : K → Prop
  | .normal => ∃ τ, Reach C src τ ∧ Common base τ l I rf ∧ τ.pc = e ∧ τ.stack = base.stack
  | .brk lb => ∃ τ, Reach C src τ ∧ Common base τ l I rf ∧ τ.stack = base.stack ∧ ExitPt C ctx τ lb true
  | .cont lb => ∃ τ, Reach C src τ ∧ Common base τ l I rf ∧ τ.stack = base.stack ∧ ExitPt C ctx τ lb false
  | .ret v => ∃ τ, Reach C src τ ∧ Common base τ l I false ∧ (∃ xs, τ.stack = v :: (xs ++ base.stack)) ∧
        CodeAt C τ.pc (retExitsS ctx ++ [Instr.ret])
  | .thr v => ∃ τ, Common base τ l I rf ∧ (∃ xs, τ.stack = xs ++ base.stack) ∧ Reach C src (VM.throwV (some v) τ)
  | .fatal => ∃ τ, Reach C src τ ∧ τ.log = base.log ++ l ∧ (τ.halted = some Compl.fatal ∧ τ.tries = [] ∧ τ.iters = [])

theorem one_step {C : Code} {σ : VM} {i : Instr} {l : List Ev} {I : List Nat} {rf : Bool}
    (hh : σ.halted = none) (hi : C[σ.pc]? = some i)
    (hc : Common σ (VM.step σ i) l I rf) : Reach C σ (VM.step σ i) ∧ Common σ (VM.step σ i) l I rf :=
  ⟨Reach.step hh hi (Reach.refl _), hc⟩

theorem SimG.end_irrel {C : Code} {ctx : List BI} {src base : VM} {e e' : Nat} {I : List Nat} {rf : Bool}
    {l : List Ev} {k : K} (hk : k ≠ K.normal) (h : SimG C ctx src base e I rf l k) : SimG C ctx src base e' I rf l k := by
  cases k with
  | normal => exact absurd rfl hk
  | _ => exact h

theorem drop_ext (xs b : List Val) : (xs ++ b).drop ((xs ++ b).length - b.length) = b := by
  rw [List.length_append, Nat.add_sub_cancel, List.drop_left]

end GojaModel.C08
