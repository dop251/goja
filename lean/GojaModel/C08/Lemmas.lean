/-
  C08 — lemmas about the reference semantics: the event log of every statement is a balanced
  bracket sequence over {tryE/finE, itOpen/(itDone|itFail|itRet)} unless the completion is `fatal`,
  in which case it is a prefix of one and ends with the `fatal` event.  Also the equations of the try combinators
  (`catchPart_false`, `finPart_nonfatal`, `finPart_fatal`, `finPart_updateEmpty`) that `Props.lean` and `S2/` use.
-/
import GojaModel.C08.Model

namespace GojaModel.C08
open Compl

def Bal (l : List Ev) : Prop := ∀ st, scan st l = some st
def Pre (l : List Ev) : Prop := ∀ st, ∃ st', scan st l = some (st' ++ st)
def EndsFatal (l : List Ev) : Prop := ∃ pre, l = pre ++ [Ev.fatal]

def Good (r : Res) : Prop :=
  (r.1 ≠ .fatal → Bal r.2 ∧ Ev.fatal ∉ r.2) ∧ (r.1 = .fatal → Pre r.2 ∧ EndsFatal r.2)

theorem scan_append (st : List Fr) (a b : List Ev) :
    scan st (a ++ b) = (scan st a).bind (fun st' => scan st' b) := by
  induction a generalizing st with
  | nil => simp [scan]
  | cons e es ih =>
    simp only [List.cons_append, scan]
    cases h : stepEv st e with
    | none => simp
    | some st' => simpa using ih st'

theorem Bal.nil : Bal [] := fun _ => rfl

theorem Bal.append {a b : List Ev} (ha : Bal a) (hb : Bal b) : Bal (a ++ b) := by
  intro st; rw [scan_append, ha st]; simpa using hb st

theorem Bal.pre {a : List Ev} (ha : Bal a) : Pre a := fun st => ⟨[], by simpa using ha st⟩

theorem Pre.append {a b : List Ev} (ha : Pre a) (hb : Pre b) : Pre (a ++ b) := by
  intro st
  obtain ⟨s1, h1⟩ := ha st
  obtain ⟨s2, h2⟩ := hb (s1 ++ st)
  exact ⟨s2 ++ s1, by rw [scan_append, h1]; simpa [List.append_assoc] using h2⟩

theorem Pre.tryE (i : Nat) : Pre [Ev.tryE i] := fun _ => ⟨[Fr.tr i], rfl⟩
theorem Pre.itOpen (j : Nat) : Pre [Ev.itOpen j] := fun _ => ⟨[Fr.it j], rfl⟩

theorem EndsFatal.append {b : List Ev} (a : List Ev) (hb : EndsFatal b) : EndsFatal (a ++ b) := by
  obtain ⟨p, hp⟩ := hb
  exact ⟨a ++ p, by rw [hp, List.append_assoc]⟩

theorem Bal.neutral {e : Ev} (h : ∀ st, stepEv st e = some st) : Bal [e] := by
  intro st; simp [scan, h st]

theorem Bal.log (k : Nat) : Bal [Ev.log k] := Bal.neutral (fun _ => rfl)
theorem Bal.caught (i v : Nat) : Bal [Ev.caught i v] := Bal.neutral (fun _ => rfl)
theorem Bal.itNext (j : Nat) : Bal [Ev.itNext j] := Bal.neutral (fun _ => rfl)

theorem Bal.wrapTry {l : List Ev} (i : Nat) (h : Bal l) : Bal (Ev.tryE i :: (l ++ [Ev.finE i])) := by
  intro st
  simp only [scan, stepEv]
  rw [scan_append, h (Fr.tr i :: st)]
  simp [scan, stepEv, closeTop]

def Closes (j : Nat) (l : List Ev) : Prop := ∀ st, scan (Fr.it j :: st) l = some st

theorem Closes.wrap {j : Nat} {l : List Ev} (h : Closes j l) : Bal (Ev.itOpen j :: l) := by
  intro st; simpa [scan, stepEv] using h st

theorem Closes.cons_bal {j : Nat} {a l : List Ev} (ha : Bal a) (h : Closes j l) : Closes j (a ++ l) := by
  intro st; rw [scan_append, ha (Fr.it j :: st)]; simpa using h st

theorem closes_single (j : Nat) (e : Ev) (h : e = Ev.itDone j ∨ e = Ev.itFail j ∨ e = Ev.itRet j) :
    Closes j [e] := by
  intro st
  rcases h with h | h | h <;> subst h <;> simp [scan, stepEv, closeTop]

theorem updateEmpty_fatal_iff (c : Compl) (v : Val) : c.updateEmpty v = .fatal ↔ c = .fatal := by
  cases c with
  | normal o => cases o <;> simp [updateEmpty]
  | brk l o => cases o <;> simp [updateEmpty]
  | cont l o => cases o <;> simp [updateEmpty]
  | ret v => simp [updateEmpty]
  | thr v => simp [updateEmpty]
  | fatal => simp [updateEmpty]

theorem exitBreakable_fatal_iff (c : Compl) : c.exitBreakable = .fatal ↔ c = .fatal := by
  cases c with
  | brk l o => cases l <;> simp [exitBreakable]
  | _ => simp [exitBreakable]

theorem loopContinues_not_fatal {c : Compl} {ls : List Label} (h : c.loopContinues ls = true) : c ≠ .fatal := by
  intro hc; subst hc; simp [loopContinues] at h

theorem Good.of_nonfatal {c : Compl} {l : List Ev} (hc : c ≠ .fatal) (hb : Bal l) (hn : Ev.fatal ∉ l) :
    Good (c, l) := ⟨fun _ => ⟨hb, hn⟩, fun h => absurd h hc⟩

theorem Good.of_fatal {l : List Ev} (hp : Pre l) (he : EndsFatal l) : Good (.fatal, l) :=
  ⟨fun h => absurd rfl h, fun _ => ⟨hp, he⟩⟩

theorem Good.map {c c' : Compl} {l : List Ev} (h : Good (c, l)) (hf : c' = .fatal ↔ c = .fatal) : Good (c', l) := by
  constructor
  · intro hc; exact h.1 (fun hh => hc (hf.2 hh))
  · intro hc; exact h.2 (hf.1 hc)

theorem Good.prepend {a : List Ev} {r : Res} (ha : Bal a) (hn : Ev.fatal ∉ a) (h : Good r) :
    Good (r.1, a ++ r.2) := by
  constructor
  · intro hc
    obtain ⟨hb, hnf⟩ := h.1 hc
    exact ⟨ha.append hb, by simp [List.mem_append, hn, hnf]⟩
  · intro hc
    obtain ⟨hp, he⟩ := h.2 hc
    exact ⟨ha.pre.append hp, he.append a⟩

theorem good_seqRes {ra : Res} {rb : Unit → Res} (ha : Good ra) (hb : Good (rb ())) : Good (seqRes ra rb) := by
  obtain ⟨ca, la⟩ := ra
  cases ca with
  | normal va =>
    simp only [seqRes]
    obtain ⟨hba, hna⟩ := ha.1 (by simp)
    have := Good.prepend hba hna hb
    cases hrb : rb () with
    | mk cb lb =>
      rw [hrb] at this
      cases va with
      | none => simpa using this
      | some v => exact Good.map this (updateEmpty_fatal_iff cb v)
  | _ => simpa [seqRes] using ha

theorem good_iteratorClose_log (sp : IterSpec) (st : Compl) (h : st ≠ .fatal) :
    (iteratorClose sp st).1 ≠ .fatal ∧ (iteratorClose sp st).2 = [Ev.itRet sp.id] := by
  cases st with
  | fatal => exact absurd rfl h
  | thr v => simp [iteratorClose]
  | normal v => cases hr : sp.ret <;> simp [iteratorClose, hr]
  | brk l v => cases hr : sp.ret <;> simp [iteratorClose, hr]
  | cont l v => cases hr : sp.ret <;> simp [iteratorClose, hr]
  | ret v => cases hr : sp.ret <;> simp [iteratorClose, hr]

theorem good_loopFrom (run : Nat → Res) (ls : List Label) (hrun : ∀ i, Good (run i)) :
    ∀ r i V, Good (loopFrom run ls r i V) := by
  intro r
  induction r with
  | zero => intro i V; exact Good.of_nonfatal (by simp) Bal.nil (by simp)
  | succ r ih =>
    intro i V
    simp only [loopFrom]
    cases hr : run i with
    | mk c l =>
      have hg := hrun i
      rw [hr] at hg
      by_cases hc : c.loopContinues ls = true
      · simp only [hc, if_true]
        obtain ⟨hb, hn⟩ := hg.1 (loopContinues_not_fatal hc)
        have := Good.prepend hb hn (ih (i + 1) (c.value.getD V))
        cases h2 : loopFrom run ls r (i + 1) (c.value.getD V) with
        | mk c2 l2 => rw [h2] at this; simpa using this
      · have hc' : c.loopContinues ls = false := by simpa using hc
        simp only [hc', Bool.false_eq_true, if_false]
        exact Good.map hg (by rw [exitBreakable_fatal_iff, updateEmpty_fatal_iff])

def GoodIt (j : Nat) (r : Res) : Prop :=
  (r.1 ≠ .fatal → Closes j r.2 ∧ Ev.fatal ∉ r.2) ∧ (r.1 = .fatal → Pre r.2 ∧ EndsFatal r.2)

theorem goodIt_forOfFrom (run : Nat → Res) (sp : IterSpec) (ls : List Label) (hrun : ∀ i, Good (run i)) :
    ∀ r i V, GoodIt sp.id (forOfFrom run sp ls r i V) := by
  intro r
  induction r with
  | zero =>
    intro i V
    simp only [forOfFrom]
    refine ⟨fun _ => ⟨?_, by simp⟩, fun h => by simp at h⟩
    exact Closes.cons_bal (a := [Ev.itNext sp.id]) (Bal.itNext _) (closes_single _ _ (Or.inl rfl))
  | succ r ih =>
    intro i V
    simp only [forOfFrom]
    by_cases h1 : sp.nextThrow = some i
    · simp only [h1, if_true]
      refine ⟨fun _ => ⟨?_, by simp⟩, fun h => by simp at h⟩
      exact Closes.cons_bal (a := [Ev.itNext sp.id]) (Bal.itNext _) (closes_single _ _ (Or.inr (Or.inl rfl)))
    · simp only [h1, if_false]
      by_cases h2 : sp.n ≤ i
      · simp only [h2, if_true]
        refine ⟨fun _ => ⟨?_, by simp⟩, fun h => by simp at h⟩
        exact Closes.cons_bal (a := [Ev.itNext sp.id]) (Bal.itNext _) (closes_single _ _ (Or.inl rfl))
      · simp only [h2, if_false]
        cases hr : run i with
        | mk c l =>
          have hg := hrun i
          rw [hr] at hg
          by_cases hc : c.loopContinues ls = true
          · simp only [hc, if_true]
            obtain ⟨hb, hn⟩ := hg.1 (loopContinues_not_fatal hc)
            have ih' := ih (i + 1) (c.value.getD V)
            cases h2 : forOfFrom run sp ls r (i + 1) (c.value.getD V) with
            | mk c2 l2 =>
              rw [h2] at ih'
              have hbal : Bal (Ev.itNext sp.id :: l) := Bal.append (a := [Ev.itNext sp.id]) (Bal.itNext _) hb
              constructor
              · intro hc2
                obtain ⟨hcl, hn2⟩ := ih'.1 hc2
                refine ⟨?_, ?_⟩
                · have := Closes.cons_bal hbal hcl
                  simpa using this
                · simp only [List.mem_cons, List.mem_append, not_or]
                  exact ⟨by simp, hn, hn2⟩
              · intro hc2
                obtain ⟨hp, he⟩ := ih'.2 hc2
                refine ⟨?_, ?_⟩
                · have := hbal.pre.append hp
                  simpa using this
                · have := he.append (Ev.itNext sp.id :: l)
                  simpa using this
          · have hc' : c.loopContinues ls = false := by simpa using hc
            simp only [hc', Bool.false_eq_true, if_false]
            by_cases hf : c = .fatal
            · subst hf
              obtain ⟨hp, he⟩ := hg.2 rfl
              simp only [updateEmpty, iteratorClose, exitBreakable, List.append_nil]
              refine ⟨fun h => absurd rfl h, fun _ => ⟨?_, ?_⟩⟩
              · have := (Bal.itNext sp.id).pre.append hp
                simpa using this
              · have := he.append [Ev.itNext sp.id]
                simpa using this
            · obtain ⟨hb, hn⟩ := hg.1 hf
              have hu : c.updateEmpty V ≠ .fatal := by
                intro h; exact hf ((updateEmpty_fatal_iff c V).1 h)
              obtain ⟨hnf, hl⟩ := good_iteratorClose_log sp _ hu
              cases h3 : iteratorClose sp (c.updateEmpty V) with
              | mk c3 l3 =>
                rw [h3] at hnf hl
                simp only at hnf hl
                subst hl
                have hc3 : c3.exitBreakable ≠ .fatal := by
                  intro h; exact hnf ((exitBreakable_fatal_iff c3).1 h)
                refine ⟨fun _ => ⟨?_, ?_⟩, fun h => absurd h hc3⟩
                · have hbal : Bal (Ev.itNext sp.id :: l) := Bal.append (a := [Ev.itNext sp.id]) (Bal.itNext _) hb
                  have := Closes.cons_bal hbal (closes_single sp.id (Ev.itRet sp.id) (Or.inr (Or.inr rfl)))
                  simpa using this
                · simp only [List.mem_cons, List.mem_append, not_or]
                  exact ⟨by simp, hn, by simp, by simp⟩

theorem good_catchPart (i : Nat) {rb : Res} (hasC : Bool) {rc : Unit → Res}
    (hb : Good rb) (hc : Good (rc ())) : Good (catchPart i rb hasC rc) := by
  obtain ⟨cb, lb⟩ := rb
  cases cb with
  | thr v =>
    cases hasC with
    | true =>
      simp only [catchPart]
      obtain ⟨hbb, hbn⟩ := hb.1 (by simp)
      have h1 : Bal (lb ++ [Ev.caught i v]) := hbb.append (Bal.caught i v)
      have := Good.prepend (r := rc ()) h1 (by simp [hbn]) hc
      simpa using this
    | false => simpa [catchPart] using hb
  | normal v => simpa [catchPart] using hb
  | brk l v => simpa [catchPart] using hb
  | cont l v => simpa [catchPart] using hb
  | ret v => simpa [catchPart] using hb
  | fatal => simpa [catchPart] using hb

theorem catchPart_false (i : Nat) (rb : Res) (rc : Unit → Res) : catchPart i rb false rc = rb := by
  obtain ⟨cb, l⟩ := rb
  cases cb <;> rfl

theorem finPart_nonfatal (i : Nat) {rbc : Res} (rf : Unit → Res) (h : rbc.1 ≠ .fatal) :
    finPart i rbc rf = ((match (rf ()).1 with | .normal _ => rbc.1 | c => c).updateEmpty 0,
           Ev.tryE i :: (rbc.2 ++ Ev.finE i :: (rf ()).2)) := by
  obtain ⟨cc, l⟩ := rbc
  cases cc <;> first | rfl | exact absurd rfl h

theorem finPart_fatal (i : Nat) {rbc : Res} (rf : Unit → Res) (h : rbc.1 = .fatal) :
    finPart i rbc rf = (.fatal, Ev.tryE i :: rbc.2) := by
  obtain ⟨cc, l⟩ := rbc
  cases h; rfl

theorem updateEmpty_idem (c : Compl) (v : Val) : (c.updateEmpty v).updateEmpty v = c.updateEmpty v := by
  rcases c with (_|_)|⟨_,(_|_)⟩|⟨_,(_|_)⟩|_|_|_ <;> rfl

theorem finPart_updateEmpty (i : Nat) (cc : Compl) (l : List Ev) (rf : Unit → Res) :
    finPart i (cc.updateEmpty 0, l) rf = finPart i (cc, l) rf := by
  by_cases h : cc = .fatal
  · subst h; rfl
  · rw [finPart_nonfatal i rf (rbc := (cc.updateEmpty 0, l)) (fun e => h ((updateEmpty_fatal_iff cc 0).1 e)),
      finPart_nonfatal i rf (rbc := (cc, l)) h]
    cases (rf ()).1 <;> simp only [updateEmpty_idem]

theorem good_finPart (i : Nat) {rbc : Res} {rf : Unit → Res}
    (hg : Good rbc) (hf : Good (rf ())) : Good (finPart i rbc rf) := by
  by_cases hfat : rbc.1 = .fatal
  · obtain ⟨hp, he⟩ := hg.2 hfat
    rw [finPart_fatal i rf hfat]
    refine Good.of_fatal ?_ ?_
    · have := (Pre.tryE i).append hp
      simpa using this
    · have := he.append [Ev.tryE i]
      simpa using this
  · rw [finPart_nonfatal i rf hfat]
    obtain ⟨hbal, hnf⟩ := hg.1 hfat
    have hwrap : Bal (Ev.tryE i :: (rbc.2 ++ [Ev.finE i])) := Bal.wrapTry i hbal
    have hn : Ev.fatal ∉ (Ev.tryE i :: (rbc.2 ++ [Ev.finE i])) := by
      simp [hnf]
    have h2 := Good.prepend (r := rf ()) hwrap hn hf
    have hlog : Ev.tryE i :: (rbc.2 ++ Ev.finE i :: (rf ()).2) = (Ev.tryE i :: (rbc.2 ++ [Ev.finE i])) ++ (rf ()).2 := by
      simp [List.append_assoc]
    rw [hlog]
    refine Good.map h2 ?_
    rw [updateEmpty_fatal_iff]
    cases hcf : (rf ()).1 with
    | normal v => simp [hfat]
    | _ => simp

theorem good_tryRes (i : Nat) {rb : Res} (hasC : Bool) {rc : Unit → Res} (hasF : Bool) {rf : Unit → Res}
    (hb : Good rb) (hc : Good (rc ())) (hf : Good (rf ())) : Good (tryRes i rb hasC rc hasF rf) := by
  have hcp := good_catchPart i hasC hb hc
  cases hasF with
  | true => simp only [tryRes, if_true]; exact good_finPart i hcp hf
  | false =>
    simp only [tryRes, Bool.false_eq_true, if_false]
    exact Good.map hcp (updateEmpty_fatal_iff _ 0)

theorem good_swTail (V : Val) {r1 : Res} (h1 : Good r1) : Good (swTail V r1) := by
  obtain ⟨c1, l1⟩ := r1
  cases c1 with
  | normal v => exact Good.map h1 (by simp)
  | fatal => exact Good.map h1 (by simp [updateEmpty, exitBreakable])
  | brk l v => exact Good.map h1 (by rw [exitBreakable_fatal_iff, updateEmpty_fatal_iff])
  | cont l v => exact Good.map h1 (by rw [exitBreakable_fatal_iff, updateEmpty_fatal_iff])
  | ret v => exact Good.map h1 (by rw [exitBreakable_fatal_iff, updateEmpty_fatal_iff])
  | thr v => exact Good.map h1 (by rw [exitBreakable_fatal_iff, updateEmpty_fatal_iff])

theorem good_swRes (sel : Nat) {r0 r1 : Unit → Res} (h0 : Good (r0 ())) (h1 : Good (r1 ())) :
    Good (swRes sel r0 r1) := by
  simp only [swRes]
  by_cases hs0 : sel = 0
  · simp only [hs0, if_true]
    cases hr : r0 () with
    | mk c0 l0 =>
      rw [hr] at h0
      cases c0 with
      | normal v =>
        obtain ⟨hb, hn⟩ := h0.1 (by simp)
        exact Good.prepend hb hn (good_swTail (v.getD 0) h1)
      | fatal => exact Good.map h0 (by simp [updateEmpty, exitBreakable])
      | brk l v => exact Good.map h0 (by rw [exitBreakable_fatal_iff, updateEmpty_fatal_iff])
      | cont l v => exact Good.map h0 (by rw [exitBreakable_fatal_iff, updateEmpty_fatal_iff])
      | ret v => exact Good.map h0 (by rw [exitBreakable_fatal_iff, updateEmpty_fatal_iff])
      | thr v => exact Good.map h0 (by rw [exitBreakable_fatal_iff, updateEmpty_fatal_iff])
  · simp only [hs0, if_false]
    by_cases hs1 : sel = 1
    · simp only [hs1, if_true]; exact good_swTail 0 h1
    · simp only [hs1, if_false]
      exact Good.of_nonfatal (by simp) Bal.nil (by simp)

theorem exec_good : ∀ (s : Stmt) (env : Nat) (ls : List Label), Good (exec env ls s) := by
  intro s
  induction s with
  | skip | brk l | cont l | ret v | thr v => intro env ls; exact Good.of_nonfatal (by simp) Bal.nil (by simp)
  | log k => intro env ls; exact Good.of_nonfatal (by simp) (Bal.log k) (by simp)
  | seq a b iha ihb => intro env ls; simp only [exec]; exact good_seqRes (iha env []) (ihb env [])
  | fatal =>
    intro env ls
    exact Good.of_fatal (Bal.neutral (e := Ev.fatal) (fun _ => rfl)).pre ⟨[], rfl⟩
  | tryS i b hasC c hasF f ihb ihc ihf =>
    intro env ls; simp only [exec]
    exact good_tryRes i hasC hasF (ihb env []) (ihc env []) (ihf env [])
  | loop k id n body ih =>
    intro env ls; simp only [exec]
    exact good_loopFrom _ ls (fun i => ih i []) _ _ _
  | forOf sp body ih =>
    intro env ls; simp only [exec]
    have h := goodIt_forOfFrom (fun i => exec i [] body) sp ls (fun i => ih i []) (sp.n + 1) 0 0
    cases hr : forOfFrom (fun i => exec i [] body) sp ls (sp.n + 1) 0 0 with
    | mk c l =>
      rw [hr] at h
      constructor
      · intro hc
        obtain ⟨hcl, hn⟩ := h.1 hc
        exact ⟨hcl.wrap, by simp [hn]⟩
      · intro hc
        obtain ⟨hp, he⟩ := h.2 hc
        refine ⟨?_, ?_⟩
        · have := (Pre.itOpen sp.id).append hp
          simpa using this
        · have := he.append [Ev.itOpen sp.id]
          simpa using this
  | lbl l s ih =>
    intro env ls; simp only [exec]
    have h := ih env (l :: ls)
    cases hr : exec env (l :: ls) s with
    | mk c lg =>
      rw [hr] at h
      refine Good.map h ?_
      cases c with
      | brk l' v =>
        cases l' with
        | none => simp
        | some l'' => by_cases hl : l'' = l <;> simp [hl]
      | _ => simp
  | sw u k s0 s1 ih0 ih1 => intro env ls; simp only [exec]; exact good_swRes _ (ih0 env []) (ih1 env [])
  | withS s ih =>
    intro env ls; simp only [exec]
    have h := ih env []
    cases hr : exec env [] s with
    | mk c lg => rw [hr] at h; exact Good.map h (updateEmpty_fatal_iff c 0)
  | blk s ih => intro env ls; simp only [exec]; exact ih env []
  | ifIter m s ih =>
    intro env ls; simp only [exec]
    by_cases he : env = m
    · simp only [he, if_true]
      have h := ih m []
      cases hr : exec m [] s with
      | mk c lg => rw [hr] at h; exact Good.map h (updateEmpty_fatal_iff c 0)
    · simp only [he, if_false]
      exact Good.of_nonfatal (by simp) Bal.nil (by simp)

def cntFr (f : Fr) (st : List Fr) : Nat := st.count f

def opens (f : Fr) : Ev → Nat
  | .tryE i => if Fr.tr i = f then 1 else 0
  | .itOpen j => if Fr.it j = f then 1 else 0
  | _ => 0

def closes (f : Fr) : Ev → Nat
  | .finE i => if Fr.tr i = f then 1 else 0
  | .itDone j => if Fr.it j = f then 1 else 0
  | .itFail j => if Fr.it j = f then 1 else 0
  | .itRet j => if Fr.it j = f then 1 else 0
  | _ => 0

def sumBy (g : Ev → Nat) : List Ev → Nat
  | [] => 0
  | e :: es => g e + sumBy g es

theorem closeTop_count {st st' : List Fr} {g f : Fr} (h : closeTop st g = some st') :
    cntFr f st = cntFr f st' + (if g = f then 1 else 0) := by
  cases st with
  | nil => simp [closeTop] at h
  | cons x r =>
    simp only [closeTop] at h
    by_cases hx : x = g
    · simp only [hx, if_true, Option.some.injEq] at h
      subst h; subst hx
      by_cases hf : f = x
      · subst hf; simp [cntFr]
      · have : ¬ (x = f) := fun h => hf h.symm
        simp [cntFr, this]
    · simp [hx] at h

theorem stepEv_count {st st' : List Fr} {e : Ev} (f : Fr) (h : stepEv st e = some st') :
    cntFr f st + opens f e = cntFr f st' + closes f e := by
  cases e with
  | tryE i =>
    simp only [stepEv, Option.some.injEq] at h; subst h
    by_cases hf : f = Fr.tr i
    · subst hf; simp [opens, closes, cntFr]
    · have : ¬ (Fr.tr i = f) := fun h => hf h.symm
      simp [opens, closes, cntFr, this]
  | itOpen j =>
    simp only [stepEv, Option.some.injEq] at h; subst h
    by_cases hf : f = Fr.it j
    · subst hf; simp [opens, closes, cntFr]
    · have : ¬ (Fr.it j = f) := fun h => hf h.symm
      simp [opens, closes, cntFr, this]
  | finE i => simp only [stepEv] at h; have := closeTop_count (f := f) h; simp [opens, closes]; omega
  | itDone j => simp only [stepEv] at h; have := closeTop_count (f := f) h; simp [opens, closes]; omega
  | itFail j => simp only [stepEv] at h; have := closeTop_count (f := f) h; simp [opens, closes]; omega
  | itRet j => simp only [stepEv] at h; have := closeTop_count (f := f) h; simp [opens, closes]; omega
  | log k => simp only [stepEv, Option.some.injEq] at h; subst h; simp [opens, closes]
  | caught i v => simp only [stepEv, Option.some.injEq] at h; subst h; simp [opens, closes]
  | itNext j => simp only [stepEv, Option.some.injEq] at h; subst h; simp [opens, closes]
  | fatal => simp only [stepEv, Option.some.injEq] at h; subst h; simp [opens, closes]

theorem scan_count (f : Fr) : ∀ (l : List Ev) (st st' : List Fr), scan st l = some st' →
    cntFr f st + sumBy (opens f) l = cntFr f st' + sumBy (closes f) l := by
  intro l
  induction l with
  | nil => intro st st' h; simp only [scan, Option.some.injEq] at h; subst h; simp [sumBy]
  | cons e es ih =>
    intro st st' h
    simp only [scan] at h
    cases hs : stepEv st e with
    | none => simp [hs] at h
    | some st1 =>
      simp only [hs] at h
      have h1 := stepEv_count f hs
      have h2 := ih st1 st' h
      simp only [sumBy]; omega

theorem bal_count {l : List Ev} (h : Bal l) (f : Fr) : sumBy (opens f) l = sumBy (closes f) l := by
  have := scan_count f l [] [] (h [])
  omega

end GojaModel.C08
