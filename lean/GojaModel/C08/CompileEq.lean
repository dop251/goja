/-
  C08 — the stage-1 vocabulary of the listing equality: the resolved listing `RL`, `Match`, `Inv`, `EqR`, for stage-1
  contexts `BI` (the notions of `S2/Listing.lean` and `S2/Eq.lean` without for-of entries).  Its theorems are
  `matchB_typ_ne_iter` below and `EqR.branch` (in `CompileSUp.lean`, read off its stage-2 twin); see the head of
  `CompileSUp.lean`.

  The back-patching compiler keeps, per open block, the positions of placeholders that will be patched when
  the block is left (`breaks`, `conts`).  `RL ctx cs` is the code of `cs` as it will read once every open
  block has been left, given the final targets `ctx` of the open blocks: a pending position reads as the
  instruction it will be patched with (the OUTERMOST block that lists it wins, as it is patched last).
-/
import GojaModel.C08.CompileS

namespace GojaModel.C08

/-- what a pending position of block `b` will be patched with when the block is left (conts are patched
after breaks: compiler.go:347) -/
def resolveHere (c : BI) (b : Block) (k : Nat) : Option Instr :=
  match c with
  | .loop _ bp cp =>
    if k ∈ b.conts then some (Instr.jump (CS.rel cp k))
    else if k ∈ b.breaks then some (Instr.jump (CS.rel bp k)) else none
  | .label _ bp => if k ∈ b.breaks then some (Instr.jump (CS.rel bp k)) else none
  | .scope n => if k ∈ b.breaks then some (Instr.leaveBlock n) else none
  | .iscope => if k ∈ b.breaks then some (Instr.leaveBlock 1) else none
  | .switch_ bp => if k ∈ b.breaks then some (Instr.jump (CS.rel bp k)) else none
  | .try_ => none
  | .with_ => none

def pend : List BI → List Block → Nat → Option Instr
  | c :: ctx, b :: bs, k =>
    match pend ctx bs k with
    | some i => some i
    | none => resolveHere c b k
  | _, _, _ => none

def RL (ctx : List BI) (cs : CS) : List Instr :=
  (List.range cs.code.size).map (fun k => (pend ctx cs.blocks k).getD (cs.code[k]?.getD Instr.nop))

def pendAll (bs : List Block) : List Nat := bs.flatMap (fun b => b.breaks ++ b.conts)

def MatchB (c : BI) (b : Block) : Prop :=
  b.breaking = none ∧
  match c with
  | .loop lab _ _ => b.typ = BT.loop ∧ b.label = lab
  | .label l _ => b.typ = BT.label ∧ b.label = some l ∧ b.conts = []
  | .try_ => b.typ = BT.try_ ∧ b.label = none ∧ b.breaks = [] ∧ b.conts = []
  | .scope _ => b.typ = BT.scope ∧ b.label = none ∧ b.conts = []
  | .with_ => b.typ = BT.with_ ∧ b.label = none ∧ b.breaks = [] ∧ b.conts = []
  | .iscope => b.typ = BT.iterScope ∧ b.label = none ∧ b.conts = []
  | .switch_ _ => b.typ = BT.switch_ ∧ b.label = none ∧ b.conts = []

def Match : List BI → List Block → Prop
  | [], [] => True
  | c :: cs, b :: bs => MatchB c b ∧ Match cs bs
  | _, _ => False

structure Inv (ctx : List BI) (cs : CS) : Prop where
  m : Match ctx cs.blocks
  p : ∀ k, k ∈ pendAll cs.blocks → k < cs.code.size

/-- `cs'` was obtained from `cs` by emitting (the resolved form of) `G`, in the same block context -/
structure EqR (ctx : List BI) (cs cs' : CS) (G : List Instr) : Prop where
  rl : RL ctx cs' = RL ctx cs ++ G
  inv : Inv ctx cs'
  new : ∀ k, k ∈ pendAll cs'.blocks → k ∈ pendAll cs.blocks ∨ cs.code.size ≤ k
  conts : cs'.blocks.map Block.cont = cs.blocks.map Block.cont

theorem matchB_typ_ne_iter {c : BI} {b : Block} (h : MatchB c b) (hc : c ≠ BI.iscope) : b.typ ≠ BT.iterScope := by
  obtain ⟨_, h2⟩ := h
  cases c <;> first | exact absurd rfl hc | (intro hh; simp [hh] at h2)

end GojaModel.C08
