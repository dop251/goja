/-
  C08 — how stage 1 relates to stage 2 (the one place where this is said).

  The simulation (`S2/Sim.lean`) and the listing equality (`S2/Eq.lean`) are proved ONCE, for the stage-2 fragment
  = stage 1 + non-lexical for-of, in namespace `GojaModel.C08.S2` (whose `stage1` predicate is therefore the STAGE-2
  fragment).  Stage 1 is its for-of-free part: the stage-1 emission (`gen`, contexts `BI`) and the stage-2 emission
  (`S2.gen`, contexts `S2.BI` = `BI` + `forof`) are the same function on statements without for-of, along the
  embedding `BI.up` of contexts (`gen_up`, `compileS_up`); so are the fragment predicates (`stage1_up`), the target
  check (`targetsOK_up`) and the resolved listing (`RL_up`, `inv_up`).  `compileCF`, the mini-VM and `exec` are shared.
  That is why the stage-1 theorem files import `S2/`: `CompileSProps.lean` reads the stage-2 theorems through the
  equations of this file.  `CompileSLemmas.lean` and `CompileEq.lean` only keep the stage-1 vocabulary (`SimG`,
  `Common`, `EqR`, `Inv`, …) that a few small stage-1 theorems (`SimG.end_irrel`, `one_step`, `EqR.branch`, …) speak
  of; no proof of the stage-1 correctness theorems goes through them.
-/
import GojaModel.C08.CompileSLemmas
import GojaModel.C08.CompileEq
import GojaModel.C08.S2.Eq

namespace GojaModel.C08

def BI.up : BI → S2.BI
  | .loop lab bp cp => .loop lab bp cp
  | .label l bp => .label l bp
  | .try_ => .try_
  | .scope n => .scope n
  | .with_ => .with_
  | .iscope => .iscope
  | .switch_ bp => .switch_ bp

def BS.up : BS → S2.BS
  | .loop lab => .loop lab
  | .label l => .label l
  | .try_ => .try_
  | .scope => .scope
  | .with_ => .with_
  | .iscope => .iscope
  | .switch_ => .switch_

def forOfFree : Stmt → Bool
  | .forOf _ _ => false
  | .seq a b => forOfFree a && forOfFree b
  | .tryS _ b _ c _ f => forOfFree b && forOfFree c && forOfFree f
  | .loop _ _ _ body => forOfFree body
  | .lbl _ s => forOfFree s
  | .sw _ _ a b => forOfFree a && forOfFree b
  | .withS s => forOfFree s
  | .blk s => forOfFree s
  | .ifIter _ s => forOfFree s
  | _ => true

theorem labMatch_up : S2.labMatch = labMatch := rfl
theorem isLoop_up : S2.isLoop = isLoop := by funext s; cases s <;> rfl
theorem isLbl_up : S2.isLbl = isLbl := by funext s; cases s <;> rfl

theorem shape_up (ctx : List BI) : (ctx.map BI.up).map S2.BI.shape = (ctx.map BI.shape).map BS.up := by
  simp only [List.map_map]
  apply List.map_congr_left
  intro c _
  cases c <;> rfl

theorem hitsHead_up (l : Option Label) (ctx : List BI) : S2.hitsHead l (ctx.map BI.up) = hitsHead l ctx := by
  cases ctx with
  | nil => rfl
  | cons c r => cases c <;> rfl

theorem hitsHeadS_up (l : Option Label) (sh : List BS) : S2.hitsHeadS l (sh.map BS.up) = hitsHeadS l sh := by
  cases sh with
  | nil => rfl
  | cons c r => cases c <;> rfl

theorem findBrk_up (l : Option Label) (b : Bool) (ctx : List BI) :
    S2.findBrk l b (ctx.map BI.up) = findBrk l b ctx := by
  induction ctx with
  | nil => rfl
  | cons c r ih =>
    cases c <;> simp only [List.map_cons, BI.up, S2.findBrk, findBrk, ih, hitsHead_up, labMatch_up] <;> rfl

theorem exitLen_up (l : Option Label) (b : Bool) (sh : List BS) :
    S2.exitLen l b (sh.map BS.up) = exitLen l b sh := by
  induction sh with
  | nil => rfl
  | cons c r ih =>
    cases c <;> simp only [List.map_cons, BS.up, S2.exitLen, exitLen, ih, hitsHeadS_up, labMatch_up]

theorem retExitsS_up (ctx : List BI) : S2.retExitsS (ctx.map BI.up) = retExitsS ctx := by
  induction ctx with
  | nil => rfl
  | cons c r ih => cases c <;> simp only [List.map_cons, BI.up, S2.retExitsS, retExitsS, ih]

theorem retLen_up (sh : List BS) : S2.retLen (sh.map BS.up) = retLen sh := by
  induction sh with
  | nil => rfl
  | cons c r ih => cases c <;> simp only [List.map_cons, BS.up, S2.retLen, retLen, ih]

/-- the code length and the target check see the context only through its shape, and recurse alike -/
theorem glen_targetsOK_up (s : Stmt) : ∀ (lab : Option Label) (sh : List BS), forOfFree s = true →
    S2.glen s lab (sh.map BS.up) = glen s lab sh ∧ S2.targetsOK s lab (sh.map BS.up) = targetsOK s lab sh := by
  induction s with
  | forOf sp body => intro lab sh h; simp [forOfFree] at h
  | seq a b iha ihb =>
    intro lab sh h
    simp only [forOfFree, Bool.and_eq_true] at h
    simp only [S2.glen, glen, S2.targetsOK, targetsOK, iha _ _ h.1, ihb _ _ h.2, and_self]
  | brk l | cont l =>
    intro lab sh _
    simp only [S2.glen, glen, S2.targetsOK, targetsOK, exitLen_up, and_true]; rfl
  | ret v => intro lab sh _; simp only [S2.glen, glen, S2.targetsOK, targetsOK, retLen_up, and_self]
  | tryS i b hasC c hasF f ihb ihc ihf =>
    intro lab sh h
    simp only [forOfFree, Bool.and_eq_true] at h
    have hb := ihb none (.try_ :: sh) h.1.1
    have hc := ihc none (.scope :: .try_ :: sh) h.1.2
    have hf := ihf none (.try_ :: sh) h.2
    simp only [List.map_cons, BS.up] at hb hc hf
    simp only [S2.glen, glen, S2.targetsOK, targetsOK, hb, hc, hf, and_self]
  | loop k id n body ih =>
    intro lab sh h
    have h1 := ih none (.loop lab :: sh) h
    have h2 := ih none (.iscope :: .loop lab :: sh) h
    simp only [List.map_cons, BS.up] at h1 h2
    cases k <;> simp only [S2.glen, glen, S2.targetsOK, targetsOK, h1, h2, and_self]
  | lbl l s ih =>
    intro lab sh h
    have h1 := ih (some l) sh h
    have h2 := ih none (.label l :: sh) h
    simp only [List.map_cons, BS.up] at h2
    simp only [S2.glen, glen, S2.targetsOK, targetsOK, isLoop_up, h1, h2, and_self]
  | sw u k a b iha ihb =>
    intro lab sh h
    simp only [forOfFree, Bool.and_eq_true] at h
    have ha := iha none (.switch_ :: sh) h.1
    have hb := ihb none (.switch_ :: sh) h.2
    simp only [List.map_cons, BS.up] at ha hb
    simp only [S2.glen, glen, S2.targetsOK, targetsOK, ha, hb, and_self]
  | withS s ih =>
    intro lab sh h
    have h1 := ih none (.with_ :: sh) h
    simp only [List.map_cons, BS.up] at h1
    simp only [S2.glen, glen, S2.targetsOK, targetsOK, h1, and_self]
  | blk s ih =>
    intro lab sh h
    have h1 := ih none (.scope :: sh) h
    simp only [List.map_cons, BS.up] at h1
    simp only [S2.glen, glen, S2.targetsOK, targetsOK, h1, and_self]
  | ifIter m s ih => intro lab sh h; simp only [S2.glen, glen, S2.targetsOK, targetsOK, ih none sh h, and_self]
  | _ => intros; exact ⟨rfl, rfl⟩

theorem glen_up (s : Stmt) (lab : Option Label) (sh : List BS) (h : forOfFree s = true) :
    S2.glen s lab (sh.map BS.up) = glen s lab sh := (glen_targetsOK_up s lab sh h).1

theorem targetsOK_up (s : Stmt) (lab : Option Label) (sh : List BS) (h : forOfFree s = true) :
    S2.targetsOK s lab (sh.map BS.up) = targetsOK s lab sh := (glen_targetsOK_up s lab sh h).2

theorem glen_up' (s : Stmt) (lab : Option Label) (pre : List BS) (ctx : List BI) (h : forOfFree s = true) :
    S2.glen s lab (pre.map BS.up ++ (ctx.map BI.up).map S2.BI.shape) = glen s lab (pre ++ ctx.map BI.shape) := by
  rw [shape_up, ← List.map_append, glen_up s _ _ h]

theorem gen_up (s : Stmt) : ∀ (cur : Nat) (lab : Option Label) (ctx : List BI) (pc : Nat), forOfFree s = true →
    S2.gen s cur lab (ctx.map BI.up) pc = gen s cur lab ctx pc := by
  induction s with
  | forOf sp body => intro cur lab ctx pc h; simp [forOfFree] at h
  | seq a b iha ihb =>
    intro cur lab ctx pc h
    simp only [forOfFree, Bool.and_eq_true] at h
    have la := glen_up' a none [] ctx h.1
    simp only [List.map_nil, List.nil_append] at la
    simp only [S2.gen, gen, iha _ _ _ _ h.1, ihb _ _ _ _ h.2, la]
  | brk l => intro cur lab ctx pc _; simp only [S2.gen, gen, findBrk_up]; rfl
  | cont l => intro cur lab ctx pc _; simp only [S2.gen, gen, findBrk_up]; rfl
  | ret v => intro cur lab ctx pc _; simp only [S2.gen, gen, retExitsS_up]
  | tryS i b hasC c hasF f ihb ihc ihf =>
    intro cur lab ctx pc h
    simp only [forOfFree, Bool.and_eq_true] at h
    have hb := fun pc => ihb cur none (.try_ :: ctx) pc h.1.1
    have hc := fun pc => ihc cur none (.scope 1 :: .try_ :: ctx) pc h.1.2
    have hf := fun pc => ihf cur none (.try_ :: ctx) pc h.2
    have lb := glen_up' b none [.try_] ctx h.1.1
    have lc := glen_up' c none [.scope, .try_] ctx h.1.2
    simp only [List.map_cons, List.map_nil, BI.up, BS.up, List.cons_append, List.nil_append] at hb hc hf lb lc
    simp only [S2.gen, gen, hb, hc, hf, lb, lc]
  | loop k id n body ih =>
    intro cur lab ctx pc h
    have h1 := fun bp cp pc => ih id none (.loop lab bp cp :: ctx) pc h
    have h2 := fun bp cp pc => ih id none (.iscope :: .loop lab bp cp :: ctx) pc h
    have l1 := glen_up' body none [.loop lab] ctx h
    have l2 := glen_up' body none [.iscope, .loop lab] ctx h
    simp only [List.map_cons, List.map_nil, BI.up, BS.up, List.cons_append, List.nil_append] at h1 h2 l1 l2
    cases k <;> simp only [S2.gen, gen, h1, h2, l1, l2]
  | lbl l s ih =>
    intro cur lab ctx pc h
    have h1 := ih cur (some l) ctx pc h
    have h2 := fun bp => ih cur none (.label l bp :: ctx) pc h
    have l2 := glen_up' s none [.label l] ctx h
    simp only [List.map_cons, List.map_nil, BI.up, BS.up, List.cons_append, List.nil_append] at h2 l2
    simp only [S2.gen, gen, isLoop_up, h1, h2, l2]
  | sw u k a b iha ihb =>
    intro cur lab ctx pc h
    simp only [forOfFree, Bool.and_eq_true] at h
    have ha := fun e pc => iha cur none (.switch_ e :: ctx) pc h.1
    have hb := fun e pc => ihb cur none (.switch_ e :: ctx) pc h.2
    have la := glen_up' a none [.switch_] ctx h.1
    have lb := glen_up' b none [.switch_] ctx h.2
    simp only [List.map_cons, List.map_nil, BI.up, BS.up, List.cons_append, List.nil_append] at ha hb la lb
    simp only [S2.gen, gen, ha, hb, la, lb]
  | withS s ih =>
    intro cur lab ctx pc h
    have h1 := fun pc => ih cur none (.with_ :: ctx) pc h
    simp only [List.map_cons, BI.up] at h1
    simp only [S2.gen, gen, h1]
  | blk s ih =>
    intro cur lab ctx pc h
    have h1 := fun pc => ih cur none (.scope 1 :: ctx) pc h
    simp only [List.map_cons, BI.up] at h1
    simp only [S2.gen, gen, h1]
  | ifIter m s ih =>
    intro cur lab ctx pc h
    have l1 := glen_up' s none [] ctx h
    simp only [List.map_nil, List.nil_append] at l1
    simp only [S2.gen, gen, ih _ _ _ _ h, l1]
  | _ => intros; rfl

theorem ids_up : S2.ids = ids := by
  funext s
  induction s <;> simp only [S2.ids, ids, *]

theorem stage1_forOfFree (s : Stmt) : stage1 s = true → forOfFree s = true := by
  induction s with
  | forOf sp body => intro h; cases h
  | seq a b iha ihb | sw u k a b iha ihb =>
    intro h
    simp only [stage1, Bool.and_eq_true] at h
    simp only [forOfFree, iha h.1, ihb h.2, Bool.and_self]
  | tryS i b hasC c hasF f ihb ihc ihf =>
    intro h
    simp only [stage1, Bool.and_eq_true] at h
    obtain ⟨⟨⟨_, hb⟩, hc⟩, hf⟩ := h
    -- an absent catch clause / finally block is `skip`
    have hc' : forOfFree c = true := by
      cases hasC
      · rw [beq_iff_eq.1 hc]; rfl
      · exact ihc hc
    have hf' : forOfFree f = true := by
      cases hasF
      · rw [beq_iff_eq.1 hf]; rfl
      · exact ihf (Bool.and_eq_true _ _ ▸ hf).1
    simp only [forOfFree, ihb hb, hc', hf', Bool.and_self]
  | loop k id n body ih => intro h; simp only [stage1, Bool.and_eq_true] at h; exact ih h.1.2
  | lbl l s ih => intro h; simp only [stage1, Bool.and_eq_true] at h; exact ih h.1
  | withS s ih | blk s ih | ifIter m s ih => exact ih
  | _ => intro _; rfl

theorem stage1_up (s : Stmt) : forOfFree s = true → S2.stage1 s = stage1 s := by
  induction s with
  | forOf sp body => intro h; simp [forOfFree] at h
  | seq a b iha ihb | sw u k a b iha ihb =>
    intro h
    simp only [forOfFree, Bool.and_eq_true] at h
    simp only [S2.stage1, stage1, iha h.1, ihb h.2]
  | tryS i b hasC c hasF f ihb ihc ihf =>
    intro h
    simp only [forOfFree, Bool.and_eq_true] at h
    simp only [S2.stage1, stage1, ihb h.1.1, ihc h.1.2, ihf h.2]
  | loop k id n body ih => intro h; simp only [S2.stage1, stage1, ih h, ids_up]
  | lbl l s ih => intro h; simp only [S2.stage1, stage1, ih h, isLoop_up, isLbl_up]
  | withS s ih | blk s ih | ifIter m s ih => intro h; simp only [S2.stage1, stage1, ih h]
  | _ => intros; rfl

theorem compileS_up (p : Stmt) (h : forOfFree p = true) : S2.compileS p = compileS p := by
  simp only [S2.compileS, compileS, ← gen_up p 0 none [] 1 h, List.map_nil]


theorem pend_up (ctx : List BI) : ∀ (bs : List Block) (k : Nat), S2.pend (ctx.map BI.up) bs k = pend ctx bs k := by
  induction ctx with
  | nil => intros; rfl
  | cons c r ih =>
    intro bs k
    cases bs with
    | nil => rfl
    | cons b bs =>
      have hr : S2.resolveHere c.up b k = resolveHere c b k := by cases c <;> rfl
      simp only [List.map_cons, S2.pend, pend, ih, hr]
      rfl

theorem RL_up (ctx : List BI) (cs : CS) : S2.RL (ctx.map BI.up) cs = RL ctx cs := by
  simp only [S2.RL, RL, pend_up]

theorem match_up (ctx : List BI) : ∀ bs : List Block, S2.Match (ctx.map BI.up) bs ↔ Match ctx bs := by
  induction ctx with
  | nil => intro bs; cases bs <;> exact Iff.rfl
  | cons c r ih =>
    intro bs
    cases bs with
    | nil => exact Iff.rfl
    | cons b bs =>
      have hb : S2.MatchB c.up b ↔ MatchB c b := by cases c <;> exact Iff.rfl
      simp only [List.map_cons, S2.Match, Match, ih, hb]

theorem inv_up {ctx : List BI} {cs : CS} : S2.Inv (ctx.map BI.up) cs ↔ Inv ctx cs :=
  ⟨fun h => ⟨(match_up _ _).1 h.m, h.p⟩, fun h => ⟨(match_up _ _).2 h.m, h.p⟩⟩

theorem EqR.of_up {ctx : List BI} {cs cs' : CS} {G : List Instr} (h : S2.EqR (ctx.map BI.up) cs cs' G) :
    EqR ctx cs cs' G :=
  ⟨by rw [← RL_up, ← RL_up]; exact h.rl, inv_up.1 h.inv, h.new, h.conts⟩

theorem EqR.branch {ctx : List BI} {cs : CS} (l : Option Label) (isBreak : Bool) {ex : List Instr} {tgt : Nat}
    (hi : Inv ctx cs) (hf : findBrk l isBreak ctx = some (ex, tgt)) :
    EqR ctx cs (compileBranch l isBreak cs) (ex ++ [Instr.jump (CS.rel tgt (cs.code.size + ex.length))]) :=
  EqR.of_up (S2.EqR.branch l isBreak (inv_up.2 hi) (by rw [findBrk_up]; exact hf))

end GojaModel.C08
