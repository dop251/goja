/-
  C02 driver: one program per line, as an S-expression (the format is what `toProg` below accepts;
  produced by class `SX` of run/c02gen.py), one outcome line per program.

      run <fuel> <sexp>          -> Res.show (run P fuel)
      rw <name> <fuel> <sexp>    -> Res.show (run (R P) fuel)  for the Lean-defined rewrite R
                                     (deadcode | iffalse | noop | blockwrap | exprvoid | exprcomma), "changed=0|1" appended
                                     (always 1 for exprvoid and exprcomma)
                                     (the last three change the evaluation depth and are run with 2 * fuel)

  Parsing is IO glue (partial defs); it is not part of any theorem.
-/
import GojaModel.Base.Proto
import GojaModel.C02.Model
import GojaModel.C02.Rewrites
import GojaModel.C02.Wrap
import GojaModel.C02.Erase
import GojaModel.C02.Comma

namespace GojaModel.C02.Driver
open GojaModel.C02

inductive SExp where
  | atom (s : String)
  | str (s : String)
  | list (xs : List SExp)
  deriving Inhabited

inductive Tok where
  | lp | rp | atom (s : String) | str (s : String)

partial def tokenize (cs : List Char) (acc : Array Tok) : Array Tok :=
  match cs with
  | [] => acc
  | '(' :: r => tokenize r (acc.push .lp)
  | ')' :: r => tokenize r (acc.push .rp)
  | ' ' :: r => tokenize r acc
  | '"' :: r =>
    let rec go (cs : List Char) (s : List Char) : List Char × List Char :=
      match cs with
      | [] => (s.reverse, [])
      | '\\' :: c :: r => go r (c :: s)
      | '"' :: r => (s.reverse, r)
      | c :: r => go r (c :: s)
    let (s, r') := go r []
    tokenize r' (acc.push (.str (String.ofList s)))
  | c :: r =>
    let rec goA (cs : List Char) (s : List Char) : List Char × List Char :=
      match cs with
      | [] => (s.reverse, [])
      | c :: r => if c == '(' || c == ')' || c == ' ' then (s.reverse, c :: r) else goA r (c :: s)
    let (s, r') := goA r [c]
    tokenize r' (acc.push (.atom (String.ofList s)))

/-- Parse one S-expression starting at token index `i`. -/
partial def parseSExp (ts : Array Tok) (i : Nat) : Option (SExp × Nat) :=
  match ts[i]? with
  | none => none
  | some .rp => none
  | some (.atom s) => some (.atom s, i + 1)
  | some (.str s) => some (.str s, i + 1)
  | some .lp =>
    let rec items (j : Nat) (acc : Array SExp) : Option (SExp × Nat) :=
      match ts[j]? with
      | none => none
      | some .rp => some (.list acc.toList, j + 1)
      | _ => match parseSExp ts j with
        | none => none
        | some (x, j') => items j' (acc.push x)
    items (i + 1) #[]

def atomInt (s : String) : Option Int := s.toInt?
def atomNat (s : String) : Option Nat := s.toNat?

def optName : SExp → Option Name
  | .atom "_" => none
  | .atom s => some s
  | _ => none

def unop? : String → Option UnOp
  | "neg" => some .neg | "plus" => some .plus | "not" => some .not
  | "typeof" => some .typeof | "void" => some .void | _ => none
def binop? : String → Option BinOp
  | "add" => some .add | "sub" => some .sub | "mul" => some .mul | "mod" => some .mod
  | "lt" => some .lt | "le" => some .le | "gt" => some .gt | "ge" => some .ge
  | "seq" => some .seq | "sne" => some .sne | _ => none
def logop? : String → Option LogOp
  | "and" => some .and | "or" => some .or | "nullish" => some .nullish | _ => none
def declKind? : String → Option DeclKind
  | "var" => some .var | "let" => some .let | "const" => some .const | _ => none

mutual
partial def toExpr : SExp → Option Expr
  | .list [.atom "undef"] => some (.lit .undef)
  | .list [.atom "null"] => some (.lit .null)
  | .list [.atom "bool", .atom b] => some (.lit (.bool (b == "1")))
  | .list [.atom "num", .atom n] => (atomInt n).map fun i => .lit (.num i)
  | .list [.atom "str", .str s] => some (.lit (.str s))
  | .list [.atom "var", .atom x] => some (.var x)
  | .list [.atom "this"] => some .this
  | .list [.atom "func", .atom k] => (atomNat k).map .func
  | .list [.atom "log", e] => (toExpr e).map .log
  | .list [.atom "un", .atom op, e] => do some (.unop (← unop? op) (← toExpr e))
  | .list [.atom "bin", .atom op, a, b] => do some (.binop (← binop? op) (← toExpr a) (← toExpr b))
  | .list [.atom "logic", .atom op, a, b] => do some (.logic (← logop? op) (← toExpr a) (← toExpr b))
  | .list [.atom "cond", c, a, b] => do some (.cond (← toExpr c) (← toExpr a) (← toExpr b))
  | .list [.atom "comma", a, b] => do some (.comma (← toExpr a) (← toExpr b))
  | .list [.atom "assign", .atom x, e] => do some (.assign x (← toExpr e))
  | .list [.atom "assignop", .atom op, .atom x, e] => do some (.assignOp (← binop? op) x (← toExpr e))
  | .list [.atom "update", .atom inc, .atom pre, .atom x] => some (.update (inc == "1") (pre == "1") x)
  | .list [.atom "call", f, .list args] => do some (.call (← toExpr f) (← toExprs args))
  | .list [.atom "mcall", o, .atom k, .list args] => do some (.mcall (← toExpr o) k (← toExprs args))
  | .list [.atom "obj", .list ps] => do some (.obj (← toProps ps))
  | .list [.atom "arr", .list es] => do some (.arr (← toExprs es))
  | .list [.atom "get", o, .atom k] => do some (.get (← toExpr o) k)
  | .list [.atom "idx", o, i] => do some (.idx (← toExpr o) (← toExpr i))
  | .list [.atom "set", o, .atom k, v] => do some (.set (← toExpr o) k (← toExpr v))
  | .list [.atom "setidx", o, i, v] => do some (.setIdx (← toExpr o) (← toExpr i) (← toExpr v))
  | .list [.atom "opaque", .str w] => some (.outside w)
  | _ => none
partial def toExprs : List SExp → Option (List Expr)
  | [] => some []
  | x :: xs => do some ((← toExpr x) :: (← toExprs xs))
partial def toProps : List SExp → Option (List PropDef)
  | [] => some []
  | (.list [.atom kind, .atom k, e]) :: xs => do
    let pk ← (match kind with
      | "data" => some PropKind.data | "getter" => some .getter | "setter" => some .setter | _ => none)
    some (.mk pk k (← toExpr e) :: (← toProps xs))
  | _ => none
end

def toOptExpr : SExp → Option (Option Expr)
  | .atom "_" => some none
  | x => (toExpr x).map some

def toDeclrs : List SExp → Option (List Declr)
  | [] => some []
  | (.list [.atom "d", .atom x]) :: r => do some (⟨x, none⟩ :: (← toDeclrs r))
  | (.list [.atom "d", .atom x, e]) :: r => do some (⟨x, some (← toExpr e)⟩ :: (← toDeclrs r))
  | _ => none

def toForInit : SExp → Option ForInit
  | .list [.atom "none"] => some .none
  | .list [.atom "expr", e] => (toExpr e).map .expr
  | .list [.atom "decl", .atom k, .list ds] => do some (.decl (← declKind? k) (← toDeclrs ds))
  | _ => none

mutual
partial def toStmt : SExp → Option Stmt
  | .list [.atom "expr", e] => (toExpr e).map .expr
  | .list [.atom "decl", .atom k, .list ds] => do some (.decl (← declKind? k) (← toDeclrs ds))
  | .list [.atom "fdecl", .atom x, .atom k] => (atomNat k).map (.fdecl x)
  | .list [.atom "empty"] => some .empty
  | .list [.atom "block", .list ss] => do some (.block (← toStmts ss))
  | .list [.atom "if", c, t, e] => do some (.ite (← toExpr c) (← toStmt t) (← toStmt e))
  | .list [.atom "while", c, b] => do some (.while (← toExpr c) (← toStmt b))
  | .list [.atom "do", b, c] => do some (.doWhile (← toStmt b) (← toExpr c))
  | .list [.atom "for", i, t, u, b] => do
      some (.for (← toForInit i) (← toOptExpr t) (← toOptExpr u) (← toStmt b))
  | .list [.atom "forof", .atom k, .atom x, e, b] => do
      some (.forOf (← declKind? k) x (← toExpr e) (← toStmt b))
  | .list [.atom "break", l] => some (.brk (optName l))
  | .list [.atom "continue", l] => some (.cont (optName l))
  | .list [.atom "return", e] => do some (.ret (← toOptExpr e))
  | .list [.atom "throw", e] => (toExpr e).map .throw
  | .list [.atom "try", .list b, .atom hc, p, .list cb, .atom hf, .list fb] => do
      some (.try (← toStmts b) (hc == "1") (optName p) (← toStmts cb) (hf == "1") (← toStmts fb))
  | .list [.atom "label", .atom l, s] => do some (.labeled l (← toStmt s))
  | .list [.atom "switch", e, .list cs] => do some (.switch (← toExpr e) (← toCases cs))
  | .list [.atom "sopaque", .str w] => some (.outside w)
  | _ => none
partial def toStmts : List SExp → Option (List Stmt)
  | [] => some []
  | x :: xs => do some ((← toStmt x) :: (← toStmts xs))
partial def toCases : List SExp → Option (List Case)
  | [] => some []
  | (.list [.atom "case", t, .list ss]) :: r => do
      some (.mk (← toOptExpr t) (← toStmts ss) :: (← toCases r))
  | _ => none
end

def toParams : List SExp → Option (List Param)
  | [] => some []
  | (.list [.atom "p", .atom x]) :: r => do some (⟨x, none⟩ :: (← toParams r))
  | (.list [.atom "p", .atom x, e]) :: r => do some (⟨x, some (← toExpr e)⟩ :: (← toParams r))
  | _ => none

def toFuns : List SExp → Option (List FunDef)
  | [] => some []
  | (.list [.atom "fn", .atom kind, .list ps, rest, .list body]) :: r => do
      let k := if kind == "arrow" then FunKind.arrow else .normal
      some (⟨k, ← toParams ps, optName rest, ← toStmts body⟩ :: (← toFuns r))
  | _ => none

def toProg : SExp → Option Prog
  | .list [.atom "prog", .atom strict, .list fs, .list body] => do
      some ⟨strict == "1", ← toFuns fs, ← toStmts body⟩
  | _ => none

def parseProg (s : String) : Option Prog :=
  match parseSExp (tokenize s.toList #[]) 0 with
  | some (x, _) => toProg x
  | none => none

def splitWord (s : String) : String × String :=
  let cs := s.toList
  (String.ofList (cs.takeWhile (· != ' ')), String.ofList ((cs.dropWhile (· != ' ')).drop 1))

def handle (line : String) : String :=
  let (cmd, rest) := splitWord line
  if cmd == "run" then
    let (fuel, src) := splitWord rest
    match fuel.toNat?, parseProg src with
    | some n, some P => (run P n).show
    | _, _ => "parse-error"
  else if cmd == "rw" then
    let (name, rest2) := splitWord rest
    let (fuel, src) := splitWord rest2
    if name == "exprcomma" then
      match fuel.toNat?, parseProg src with
      | some n, some P => (run (exprStmtComma P) (2 * n)).show ++ " | changed=1"
      | _, _ => "parse-error"
    else if name == "exprvoid" then
      -- depth-changing rewrite (theorem expr_stmt_void_ge): doubled fuel
      match fuel.toNat?, parseProg src with
      | some n, some P => (run (exprStmtVoid P) (2 * n)).show ++ " | changed=1"
      | _, _ => "parse-error"
    else if name == "blockwrap" then
      -- depth-changing rewrite: run the wrapped program with twice the fuel (theorem block_wrap_ge)
      match fuel.toNat?, parseProg src with
      | some n, some P =>
        let P' := blockWrap P
        (run P' (2 * n)).show ++ " | changed=" ++ (if progSize P' == progSize P then "0" else "1")
      | _, _ => "parse-error"
    else
    match fuel.toNat?, parseProg src, rewriteByName name with
    | some n, some P, some R =>
      let P' := R P
      (run P' n).show ++ " | changed=" ++ (if progSize P' == progSize P then "0" else "1")
    | _, _, _ => "parse-error"
  else "bad-command"

def main : IO Unit := GojaModel.Proto.lineMap handle

end GojaModel.C02.Driver
