/-
  C02 — the catalogue rewrites satisfy the side conditions of the generic soundness theorem (`dcAct_ok`; `isDeadIf_ok`,
  `isNoopClosure_ok`).  For the two that drop a statement, in between: what makes a statement droppable in front of a
  valued statement (`Res.valued`, `Noop`, `elAct_ok`).
-/
import GojaModel.C02.Sound

namespace GojaModel.C02

theorem dcAct_ok : ActOK dcAct where
  cut := by
    intro s ss h
    unfold dcAct at h
    split at h
    · rename_i hc; simpa using hc
    · cases h
  drop_decl := by
    intro s ss h; unfold dcAct at h; split at h <;> cases h
  drop_sem := by
    intro s ss h; unfold dcAct at h; split at h <;> cases h

/-- All that a "valued" statement (expression statement, throw, return e) can produce, `timeout` and `unsup` included;
after such a result the running completion value before the statement is irrelevant. -/
def Res.valued : Res → Prop
  | .done (.normal none) _ => False
  | .done (.brk _ _) _ => False
  | .done (.cont _ _) _ => False
  | _ => True

theorem bindVal_valued {r : Res} {k : Val → St → Res} (hk : ∀ v st, (k v st).valued) :
    (bindVal r k).valued :=
  bindVal_cases hk trivial (fun _ => trivial) (fun _ _ => trivial)

theorem eval_valued_bind {E : Stmt} {tl : List Stmt} (h : startsValued (E :: tl) = true) :
    ∃ e k, (∀ v st, (k v st).valued) ∧ ∀ (P : Prog) n l env st,
      eval P (n + 1) (.stmt E l) env st = bindVal (eval P n (.expr e) env st) k := by
  cases E with
  | expr e => exact ⟨e, Res.val, fun _ _ => trivial, fun _ _ _ _ _ => rfl⟩
  | throw e => exact ⟨e, fun v st => .done (.thr v) st, fun _ _ => trivial, fun _ _ _ _ _ => rfl⟩
  | ret e =>
    cases e with
    | none => cases h
    | some e => exact ⟨e, fun v st => .done (.ret v) st, fun _ _ => trivial, fun _ _ _ _ _ => rfl⟩
  | _ => cases h

theorem eval_valued (P : Prog) {E : Stmt} {tl : List Stmt} (h : startsValued (E :: tl) = true) :
    ∀ (n : Nat) (l : List Name) (env : Env) (st : St), (eval P n (.stmt E l) env st).valued
  | 0, _, _, _ => trivial
  | n + 1, l, env, st => by
    obtain ⟨e, k, hk, hE⟩ := eval_valued_bind h
    rw [hE]; exact bindVal_valued hk

theorem eval_valued_fuel1 (P : Prog) {E : Stmt} {tl : List Stmt} (h : startsValued (E :: tl) = true)
    (l : List Name) (env : Env) (st : St) : eval P 1 (.stmt E l) env st = .timeout := by
  obtain ⟨e, k, _, hE⟩ := eval_valued_bind h
  exact hE P 0 l env st

theorem evalStmts_head_valued (recS : RecS) (E : Stmt) (tl : List Stmt) (V1 V2 : Option Val) (env : Env)
    (st : St) (h : (recS E [] env st).valued) :
    evalStmts recS (E :: tl) V1 env st = evalStmts recS (E :: tl) V2 env st := by
  unfold evalStmts
  cases hr : recS E [] env st with
  | timeout => rfl
  | unsup w => rfl
  | done c st1 =>
    rw [hr] at h
    cases c with
    | normal v =>
      cases v with
      | none => simp [Res.valued] at h
      | some v => simp [Option.orElse]
    | brk l v => simp [Res.valued] at h
    | cont l v => simp [Res.valued] at h
    | ret v => simp [Compl.updateEmpty]
    | thr v => simp [Compl.updateEmpty]

/-- A statement that may be dropped in front of a valued statement (which times out with fuel 1 as well: `fuel1`).
`sem` starts at fuel 2 because `ActOK.drop_sem` is an equality at equal fuel: with fuel 0 and 1 both lists time out,
from 2 on the dropped statement has finished. -/
structure Noop (s : Stmt) : Prop where
  decl : varNamesS s = [] ∧ lexDeclsS s = [] ∧ funDeclsS s = []
  fuel1 : ∀ (P : Prog) (l : List Name) (env : Env) (st : St), eval P 1 (.stmt s l) env st = .timeout
  sem : ∀ (P : Prog) (n : Nat) (env : Env) (st : St),
    ∃ v, eval P (n + 2) (.stmt s []) env st = .done (.normal (some v)) st

theorem elAct_dropHead {p : Stmt → Bool} {s : Stmt} {ss : List Stmt} (h : elAct p s ss = .dropHead) :
    p s = true ∧ startsValued ss = true := by
  unfold elAct at h
  split at h
  · rename_i hc; simpa using hc
  · cases h

theorem elAct_ok {p : Stmt → Bool} (hp : ∀ s, p s = true → Noop s) : ActOK (elAct p) where
  cut := by
    intro s ss h; unfold elAct at h; split at h <;> cases h
  drop_decl s ss h := (hp s (elAct_dropHead h).1).decl
  drop_sem := by
    intro s ss h rest P n V env st
    obtain ⟨hps, hv⟩ := elAct_dropHead h
    cases ss with
    | nil => cases hv
    | cons E tl =>
      simp only [List.cons_append]
      match n with
      | 0 => simp [evalStmts, evalS, eval]
      | 1 =>
        have h1 := (hp s hps).fuel1 P [] env st
        have h2 := eval_valued_fuel1 P hv [] env st
        simp only [evalStmts, evalS, h1, h2]
      | n + 2 =>
        obtain ⟨v, hv2⟩ := (hp s hps).sem P n env st
        have := evalStmts_head_valued (evalS P (n + 2)) E (tl ++ rest)
          ((some v).orElse fun _ => V) V env st (eval_valued P hv (n + 2) [] env st)
        conv => lhs; unfold evalStmts
        simp only [evalS] at this ⊢
        rw [hv2]
        exact this

theorem isDeadIf_ok (s : Stmt) (h : isDeadIf s = true) : Noop s := by
  unfold isDeadIf at h
  split at h
  · simp only [List.isEmpty_iff] at h
    exact ⟨by simp [varNamesS, h, lexDeclsS, funDeclsS], fun _ _ _ _ => rfl, fun _ _ _ _ => ⟨.undef, rfl⟩⟩
  · cases h

theorem isNoopClosure_ok (s : Stmt) (h : isNoopClosure s = true) : Noop s := by
  unfold isNoopClosure at h
  split at h
  · rename_i k
    exact ⟨⟨rfl, rfl, rfl⟩, fun _ _ _ _ => rfl, fun _ _ env _ => ⟨.clos k env, rfl⟩⟩
  · cases h

end GojaModel.C02
