/-
  C02 — block_wrap: wrapping statements into blocks (`s` ↦ `{ s }`) preserves the outcome.

  Unlike the list rewrites of Sound.lean this rewrite changes the evaluation depth, so the result is an
  INEQUATIONAL simulation in both directions (`Res.le` = "timeout or equal"):
      eval (blockWrap P) n (wMap.T t)  ≤  eval P n t     (what the wrapped program finishes, the original finishes too)
      eval P n t  ≤  eval (blockWrap P) (2n) (wMap.T t)   (and conversely, with twice the fuel)
  `blockWrap` wraps EVERY wrappable statement (at every depth, in every function body) in its own block; wrappable =
  not a lexical/function declaration (a block would change its scope) and not a loop / labelled statement
  (the label set of an enclosing label must still reach the loop).

  All that is shown of the rewrite itself is that `{ s' }` with one more level of fuel evaluates like `s'`
  (`eval_wrapped`, `wrap_depthOne`); the two inductions on the fuel are those of Depth.lean.
-/
import GojaModel.C02.Depth

namespace GojaModel.C02

-- Statements that ignore the label set they are evaluated with; a block passes none on, so only these may be wrapped.
def lblFree : Stmt → Bool
  | .while _ _ => false
  | .doWhile _ _ => false
  | .for _ _ _ _ => false
  | .forOf _ _ _ _ => false
  | .labeled _ _ => false
  | _ => true

def wrappable (s : Stmt) : Bool := lblFree s && (lexDeclsS s).isEmpty && (funDeclsS s).isEmpty

def wrapIf (orig inner : Stmt) : Stmt := if wrappable orig then .block [inner] else inner

mutual
def wI : Stmt → Stmt
  | .block ss => .block (wL ss)
  | .ite c t e => .ite c (wrapIf t (wI t)) (wrapIf e (wI e))
  | .while c b => .while c (wrapIf b (wI b))
  | .doWhile b c => .doWhile (wrapIf b (wI b)) c
  | .for i t u b => .for i t u (wrapIf b (wI b))
  | .forOf k x e b => .forOf k x e (wrapIf b (wI b))
  | .try b hc p cb hf fb => .try (wL b) hc p (wL cb) hf (wL fb)
  | .labeled l s => .labeled l (wrapIf s (wI s))
  | .switch e cs => .switch e (wC cs)
  | s => s
def wL : List Stmt → List Stmt
  | [] => []
  | s :: ss => wrapIf s (wI s) :: wL ss
def wC : List Case → List Case
  | [] => []
  | (.mk t b) :: cs => .mk t (wL b) :: wC cs
end

def wS (s : Stmt) : Stmt := wrapIf s (wI s)

def wMap : SMap := ⟨wS, wI, wL, wC⟩

def blockWrap (P : Prog) : Prog := P.mapBodies wL

theorem wMap_eqs : SMapEqs wMap where
  I_eq s := by cases s <;> rfl
  L_nil := rfl
  L_cons _ _ := rfl
  C_map := ⟨rfl, fun _ _ _ => rfl⟩

theorem wrappable_elim {s : Stmt} (h : wrappable s = true) :
    lblFree s = true ∧ lexDeclsS s = [] ∧ funDeclsS s = [] := by
  simp only [wrappable, Bool.and_eq_true, List.isEmpty_iff] at h
  exact ⟨h.1.1, h.1.2, h.2⟩

theorem wMap_ok : SMapOK wMap where
  toSMapEqs := wMap_eqs
  decl_S s := by
    show lexDeclsS (wrapIf s (wI s)) = _ ∧ funDeclsS (wrapIf s (wI s)) = _ ∧ varNamesS (wrapIf s (wI s)) = _
    unfold wrapIf; split
    · rename_i h
      rw [(wMap_eqs.declsI s).1, (wMap_eqs.declsI s).2, (wrappable_elim h).2.1, (wrappable_elim h).2.2]
      exact ⟨rfl, rfl, by simp only [varNamesS, varNamesL, List.append_nil]; rfl⟩
    · exact ⟨rfl, rfl, rfl⟩

theorem wI_var : ∀ s, varNamesS (wI s) = varNamesS s := wMap_ok.keeps.varI
theorem wL_var : ∀ ss, varNamesL (wL ss) = varNamesL ss := wMap_ok.keeps.varL
theorem wC_var : ∀ cs, varNamesC (wC cs) = varNamesC cs := wMap_ok.keeps.varC

theorem evalBlock_single (recS : RecS) (x : Stmt) (hl : lexDeclsS x = []) (hf : funDeclsS x = [])
    (env : Env) (st : St) : evalBlock recS [x] env st = recS x [] env st := by
  have h1 : lexDeclsL [x] = [] := by rw [lexDeclsL_cons, hl]; rfl
  have h2 : funDeclsL [x] = [] := by rw [funDeclsL_cons, hf]; rfl
  simp only [evalBlock, enterBlock, h1, h2, allocLex, allocNames, List.foldl, List.map, evalStmts]
  cases hr : recS x [] env st with
  | timeout => rfl
  | unsup w => rfl
  | done c st1 =>
    cases c with
    | normal v => cases v <;> rfl
    | brk l v => cases v <;> rfl
    | cont l v => cases v <;> rfl
    | ret v => rfl
    | thr v => rfl

theorem eval_stmt_lbl (P : Prog) {s : Stmt} (h : lblFree s = true) (l : List Name) :
    ∀ (n : Nat) (env : Env) (st : St), eval P n (.stmt s l) env st = eval P n (.stmt s []) env st
  | 0, _, _ => rfl
  | n + 1, env, st => by
    cases s with
    | ret e => cases e <;> rfl
    | «while» _ _ | doWhile _ _ | «for» _ _ _ _ | forOf _ _ _ _ | labeled _ _ => cases h
    | _ => rfl

theorem wI_lblFree (s : Stmt) : lblFree (wI s) = lblFree s := by
  cases s <;> rfl

theorem eval_wrapped (P' : Prog) (n : Nat) {s : Stmt} (h : wrappable s = true) (l : List Name) (env : Env) (st : St) :
    eval P' (n + 1) (.stmt (wS s) l) env st = eval P' n (.stmt (wI s) l) env st := by
  obtain ⟨hlbl, hl, hf⟩ := wrappable_elim h
  have : wS s = .block [wI s] := by simp [wS, wrapIf, h]
  rw [this, eval_stmt_lbl P' ((wI_lblFree s).trans hlbl) l]
  simp only [eval, step, stepStmt]
  exact evalBlock_single _ _ ((wMap_eqs.declsI s).1.trans hl) ((wMap_eqs.declsI s).2.trans hf) env st

theorem wS_not_wrappable {s : Stmt} (h : wrappable s = false) : wS s = wI s := by
  simp [wS, wrapIf, h]

theorem wrap_depthOne (P' : Prog) : DepthOne Res.le wMap P' :=
  .of_exact le_simRel fun s => by
    cases hw : wrappable s with
    | false => exact .inl (wS_not_wrappable hw)
    | true => exact .inr fun n l env st => eval_wrapped P' n hw l env st ▸ ⟨Res.le_refl _, Res.le_refl _⟩

theorem wrap_inv_le (P : Prog) (n : Nat) : RwInv Res.le Eq wMap idMap (eval (blockWrap P) n) (eval P n) :=
  rwInv_le le_simRel wMap_ok (P' := blockWrap P) (P := P) rfl rfl (wrap_depthOne _) n

theorem wrap_inv_ge (P : Prog) (n : Nat) : RwInv Res.le Eq idMap wMap (eval P n) (eval (blockWrap P) (2 * n)) :=
  rwInv_ge le_simRel wMap_ok (P' := blockWrap P) (P := P) rfl rfl (wrap_depthOne _) n

theorem run_wrap_le (P : Prog) (n : Nat) : Res.le (run (blockWrap P) n) (run P n) :=
  run_sim le_simRel wMap_ok.keeps idMap_ok.keeps
    (.pointwise le_simRel wMap_eqs idMap_ok.toSMapEqs (wrap_inv_le P n).stmt) rfl rfl

theorem run_le_wrap (P : Prog) (n : Nat) : Res.le (run P n) (run (blockWrap P) (2 * n)) :=
  run_sim le_simRel idMap_ok.keeps wMap_ok.keeps
    (.pointwise le_simRel idMap_ok.toSMapEqs wMap_eqs (wrap_inv_ge P n).stmt) rfl rfl

end GojaModel.C02
