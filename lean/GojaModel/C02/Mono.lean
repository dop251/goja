/-
  C02 — `Res.le a b` : `a` is `timeout` or equal to `b` (information order on results).
  The result combinators and the one-level evaluators of expressions, declarators, case selectors and parameter
  lists are monotone in the evaluators they receive for sub-tasks.  (Statements: Sim.lean.)  With the binds: what
  `bindVal` can return (`bindVal_cases`).
-/
import GojaModel.C02.Model

namespace GojaModel.C02

def Res.le (a b : Res) : Prop := a = .timeout ∨ a = b

theorem Res.le_refl (a : Res) : Res.le a a := Or.inr rfl
theorem Res.timeout_le (a : Res) : Res.le .timeout a := Or.inl rfl

theorem Res.le_trans {a b c : Res} (h1 : Res.le a b) (h2 : Res.le b c) : Res.le a c := by
  rcases h1 with h | h
  · exact Or.inl h
  · subst h; exact h2

theorem Res.le.map {a b : Res} (h : Res.le a b) {F : Res → Res} (hF : F .timeout = .timeout) :
    Res.le (F a) (F b) := by
  rcases h with rfl | rfl
  · exact Or.inl hF
  · exact Or.inr rfl

theorem Res.le_antisymm {a b : Res} (h1 : Res.le a b) (h2 : Res.le b a) : a = b := by
  rcases h1 with rfl | rfl
  · exact h2.elim Eq.symm Eq.symm
  · rfl

theorem Res.le.eq_of_ne {a b : Res} (h : Res.le a b) (ha : a ≠ .timeout) : a = b :=
  h.resolve_left ha

theorem Res.finished_iff {r1 r2 : Nat → Res} {k : Nat → Nat} (h1 : ∀ n, Res.le (r1 n) (r2 n))
    (h2 : ∀ n, Res.le (r2 n) (r1 (k n))) {r : Res} (hfin : r ≠ .timeout) :
    (∃ n, r1 n = r) ↔ (∃ n, r2 n = r) := by
  constructor
  · rintro ⟨n, h⟩; exact ⟨n, by rw [← (h1 n).eq_of_ne (h ▸ hfin), h]⟩
  · rintro ⟨n, h⟩; exact ⟨k n, by rw [← (h2 n).eq_of_ne (h ▸ hfin), h]⟩

theorem ite_rel {α β : Type} {R : α → β → Prop} {c : Prop} [Decidable c] {a b : α} {a' b' : β}
    (ha : R a a') (hb : R b b') : R (if c then a else b) (if c then a' else b') := by
  split
  · exact ha
  · exact hb

section
variable {R : Res → Res → Prop} (hle : ∀ {x y}, Res.le x y → R x y)
include hle

theorem bindVal_rel {r1 r2 : Res} {k1 k2 : Val → St → Res} (h : Res.le r1 r2)
    (hk : ∀ v st, R (k1 v st) (k2 v st)) : R (bindVal r1 k1) (bindVal r2 k2) := by
  rcases h with rfl | rfl
  · exact hle (Or.inl rfl)
  · unfold bindVal; split <;> first | exact hk _ _ | exact hle (Or.inr rfl)

theorem bindSt_rel {r1 r2 : Res} {k1 k2 : St → Res} (h : Res.le r1 r2)
    (hk : ∀ st, R (k1 st) (k2 st)) : R (bindSt r1 k1) (bindSt r2 k2) := by
  rcases h with rfl | rfl
  · exact hle (Or.inl rfl)
  · unfold bindSt; split <;> first | exact hk _ | exact hle (Or.inr rfl)

end

theorem bindVal_cases {Q : Res → Prop} {r : Res} {k : Val → St → Res} (hk : ∀ v st, Q (k v st))
    (ht : Q .timeout) (hu : ∀ w, Q (.unsup w)) (hthr : ∀ v st, Q (.done (.thr v) st)) : Q (bindVal r k) := by
  unfold bindVal
  split
  · exact hk _ _
  · exact hthr _ _
  · exact hu _
  · cases r with
    | timeout => exact ht
    | unsup w => exact hu w
    | done c st => rename_i h; exact absurd rfl (h c st)

theorem bindVal_ne_normal {r : Res} {k : Val → St → Res} {x : Option Val} {y : St}
    (hk : ∀ v st, k v st ≠ .done (.normal x) y) : bindVal r k ≠ .done (.normal x) y :=
  bindVal_cases (Q := (· ≠ .done (.normal x) y)) hk (fun h => nomatch h) (fun _ h => nomatch h)
    (fun _ _ h => nomatch h)

theorem bindVal_mono {r1 r2 : Res} {k1 k2 : Val → St → Res}
    (h : Res.le r1 r2) (hk : ∀ v st, Res.le (k1 v st) (k2 v st)) :
    Res.le (bindVal r1 k1) (bindVal r2 k2) :=
  bindVal_rel id h hk

theorem bindSt_mono {r1 r2 : Res} {k1 k2 : St → Res}
    (h : Res.le r1 r2) (hk : ∀ st, Res.le (k1 st) (k2 st)) :
    Res.le (bindSt r1 k1) (bindSt r2 k2) :=
  bindSt_rel id h hk

theorem updEmpty_mono {r1 r2 : Res} (V : Val) (h : Res.le r1 r2) :
    Res.le (updEmpty r1 V) (updEmpty r2 V) :=
  h.map (F := (updEmpty · V)) rfl

theorem afterBody_mono {r1 r2 : Res} {lbls : List Name} {V : Val} {k1 k2 : Val → St → Res}
    (h : Res.le r1 r2) (hk : ∀ v st, Res.le (k1 v st) (k2 v st)) :
    Res.le (afterBody r1 lbls V k1) (afterBody r2 lbls V k2) := by
  rcases h with h | h
  · subst h; exact Or.inl rfl
  · subst h; unfold afterBody; split
    · exact ite_rel (hk _ _) (Res.le_refl _)
    · exact Res.le_refl _

theorem finishCall_mono {r1 r2 : Res} (h : Res.le r1 r2) : Res.le (finishCall r1) (finishCall r2) :=
  h.map (F := finishCall) rfl

theorem evalFinally_mono {s1 s2 : RecS} {r1 r2 : Res} {fb1 fb2 : List Stmt} {env : Env} (h : Res.le r1 r2)
    (hb : ∀ st, Res.le (evalBlock s1 fb1 env st) (evalBlock s2 fb2 env st)) (hf : Bool) :
    Res.le (evalFinally s1 r1 hf fb1 env) (evalFinally s2 r2 hf fb2 env) := by
  unfold evalFinally
  rcases h with h | h
  · subst h; split <;> exact Or.inl rfl
  · subst h
    split
    · exact Res.le_refl _
    · split
      · rcases hb ‹St› with h | h
        · rw [h]; exact Or.inl rfl
        · rw [h]; exact Res.le_refl _
      · exact Res.le_refl _

section
variable {e1 e2 : RecE} {c1 c2 : RecC}

theorem callVal_mono (hC : ∀ f t a st, Res.le (c1 f t a st) (c2 f t a st)) (f t : Val) (a : List Val) (st : St) :
    Res.le (callVal c1 f t a st) (callVal c2 f t a st) := by
  unfold callVal
  split
  · exact hC _ _ _ _
  · exact Res.le_refl _

theorem getProp_mono (hC : ∀ f t a st, Res.le (c1 f t a st) (c2 f t a st)) (ov : Val) (k : Name) (st : St) :
    Res.le (getProp c1 ov k st) (getProp c2 ov k st) := by
  unfold getProp
  split
  · split
    · exact Res.le_refl _
    · split
      · exact Res.le_refl _
      · exact callVal_mono hC _ _ _ _
      · exact Res.le_refl _
      · exact Res.le_refl _
  all_goals exact Res.le_refl _

theorem setProp_mono (hC : ∀ f t a st, Res.le (c1 f t a st) (c2 f t a st)) (b : Bool) (ov : Val) (k : Name)
    (v : Val) (st : St) : Res.le (setProp b c1 ov k v st) (setProp b c2 ov k v st) := by
  unfold setProp
  split
  · split
    · exact Res.le_refl _
    · split
      · exact bindVal_mono (callVal_mono hC _ _ _ _) (fun _ _ => Res.le_refl _)
      · exact Res.le_refl _
      · exact Res.le_refl _
  all_goals exact Res.le_refl _

theorem getIdx_mono (hC : ∀ f t a st, Res.le (c1 f t a st) (c2 f t a st)) (ov iv : Val) (st : St) :
    Res.le (getIdx c1 ov iv st) (getIdx c2 ov iv st) := by
  unfold getIdx
  split
  · split
    · exact Res.le_refl _
    · exact ite_rel (Res.le_refl _) (getProp_mono hC _ _ _)
  · exact getProp_mono hC _ _ _
  all_goals exact Res.le_refl _

theorem setIdx_mono (hC : ∀ f t a st, Res.le (c1 f t a st) (c2 f t a st)) (b : Bool) (ov iv v : Val) (st : St) :
    Res.le (setIdx b c1 ov iv v st) (setIdx b c2 ov iv v st) := by
  unfold setIdx
  split
  · split
    · exact Res.le_refl _
    · exact ite_rel (Res.le_refl _) (setProp_mono hC _ _ _ _ _)
  · exact setProp_mono hC _ _ _ _ _
  all_goals exact Res.le_refl _

theorem evalArgs_mono (hE : ∀ e env st, Res.le (e1 e env st) (e2 e env st)) :
    ∀ (es : List Expr) (env : Env) (st : St) (acc : List Val) (k1 k2 : List Val → St → Res),
      (∀ vs st, Res.le (k1 vs st) (k2 vs st)) →
      Res.le (evalArgs e1 es env st acc k1) (evalArgs e2 es env st acc k2)
  | [], _, _, _, _, _, hk => hk _ _
  | e :: es, env, st, acc, k1, k2, hk => by
    unfold evalArgs
    apply bindVal_mono (hE _ _ _)
    intro v st1
    exact evalArgs_mono hE es env st1 (v :: acc) k1 k2 hk

theorem evalProps_mono (hE : ∀ e env st, Res.le (e1 e env st) (e2 e env st)) :
    ∀ (ps : List PropDef) (env : Env) (st : St) (acc : List (Name × Slot))
      (k1 k2 : List (Name × Slot) → St → Res),
      (∀ vs st, Res.le (k1 vs st) (k2 vs st)) →
      Res.le (evalProps e1 ps env st acc k1) (evalProps e2 ps env st acc k2)
  | [], _, _, _, _, _, hk => hk _ _
  | (.mk kind name e) :: ps, env, st, acc, k1, k2, hk => by
    unfold evalProps
    apply bindVal_mono (hE _ _ _)
    intro v st1
    exact evalProps_mono hE ps env st1 _ k1 k2 hk

theorem evalUnopExpr_mono (hE : ∀ e env st, Res.le (e1 e env st) (e2 e env st))
    (op : UnOp) (a : Expr) (env : Env) (st : St) :
    Res.le (evalUnopExpr e1 op a env st) (evalUnopExpr e2 op a env st) := by
  unfold evalUnopExpr
  split
  · exact Res.le_refl _
  · apply bindVal_mono (hE _ _ _); intro _ _; exact Res.le_refl _

theorem evalExpr_mono (hE : ∀ e env st, Res.le (e1 e env st) (e2 e env st))
    (hC : ∀ f t a st, Res.le (c1 f t a st) (c2 f t a st)) (b : Bool) (e : Expr) (env : Env) (st : St) :
    Res.le (evalExpr b e1 c1 e env st) (evalExpr b e2 c2 e env st) := by
  cases e with
  | lit _ | var _ | this | func _ | outside _ | update _ _ _ => exact Res.le_refl _
  | log a | assign _ a => exact bindVal_mono (hE _ _ _) fun _ _ => Res.le_refl _
  | unop op a => exact evalUnopExpr_mono hE op a env st
  | binop _ a b | cond _ a b | comma a b =>
    exact bindVal_mono (hE _ _ _) fun _ _ => bindVal_mono (hE _ _ _) fun _ _ => Res.le_refl _
  | logic op a b =>
    exact bindVal_mono (hE _ _ _) fun _ _ => ite_rel (Res.le_refl _) (bindVal_mono (hE _ _ _) fun _ _ => Res.le_refl _)
  | assignOp op x a =>
    exact bindVal_mono (Res.le_refl _) fun _ _ => bindVal_mono (hE _ _ _) fun _ _ => Res.le_refl _
  | call f args =>
    exact bindVal_mono (hE _ _ _) fun _ _ => evalArgs_mono hE _ _ _ _ _ _ fun _ _ => callVal_mono hC _ _ _ _
  | mcall o k args =>
    exact bindVal_mono (hE _ _ _) fun _ _ => bindVal_mono (getProp_mono hC _ _ _) fun _ _ =>
      evalArgs_mono hE _ _ _ _ _ _ fun _ _ => callVal_mono hC _ _ _ _
  | obj ps => exact evalProps_mono hE _ _ _ _ _ _ fun _ _ => Res.le_refl _
  | arr es => exact evalArgs_mono hE _ _ _ _ _ _ fun _ _ => Res.le_refl _
  | get o k => exact bindVal_mono (hE _ _ _) fun _ _ => getProp_mono hC _ _ _
  | idx o i => exact bindVal_mono (hE _ _ _) fun _ _ => bindVal_mono (hE _ _ _) fun _ _ => getIdx_mono hC _ _ _
  | set o k v =>
    exact bindVal_mono (hE _ _ _) fun _ _ => bindVal_mono (hE _ _ _) fun _ _ => setProp_mono hC _ _ _ _ _
  | setIdx o i v =>
    exact bindVal_mono (hE _ _ _) fun _ _ => bindVal_mono (hE _ _ _) fun _ _ =>
      bindVal_mono (hE _ _ _) fun _ _ => setIdx_mono hC _ _ _ _ _

theorem evalDeclrs_mono (hE : ∀ e env st, Res.le (e1 e env st) (e2 e env st)) :
    ∀ (ds : List Declr) (b : Bool) (env : Env) (st : St),
      Res.le (evalDeclrs e1 ds b env st) (evalDeclrs e2 ds b env st)
  | [], _, _, _ => Res.le_refl _
  | d :: ds, b, env, st => by
    unfold evalDeclrs
    split
    · apply bindVal_mono (hE _ _ _); intro v st1; exact evalDeclrs_mono hE ds b env _
    · split
      · exact evalDeclrs_mono hE ds b env _
      · exact evalDeclrs_mono hE ds b env _

theorem findCase_mono (hE : ∀ e env st, Res.le (e1 e env st) (e2 e env st)) (dv : Val) :
    ∀ (cs : List Case) (i : Nat) (env : Env) (st : St),
      Res.le (findCase e1 dv cs i env st) (findCase e2 dv cs i env st)
  | [], _, _, _ => Res.le_refl _
  | (.mk none _) :: cs, i, env, st => by
    unfold findCase; exact findCase_mono hE dv cs (i + 1) env st
  | (.mk (some t) _) :: cs, i, env, st => by
    unfold findCase
    apply bindVal_mono (hE _ _ _); intro tv st1
    split
    · exact Res.le_refl _
    · exact Res.le_refl _
    · exact findCase_mono hE dv cs (i + 1) env st1

theorem bindParams_mono (hE : ∀ e env st, Res.le (e1 e env st) (e2 e env st)) :
    ∀ (ps : List Param) (args : List Val) (env : Env) (st : St),
      Res.le (bindParams e1 ps args env st) (bindParams e2 ps args env st)
  | [], _, _, _ => Res.le_refl _
  | p :: ps, args, env, st => by
    unfold bindParams
    split
    · apply bindVal_mono (hE _ _ _); intro v st1; exact bindParams_mono hE ps _ env _
    · exact bindParams_mono hE ps _ env _

end
end GojaModel.C02
