/-
  C02 — statement maps.  A rewrite of statements is given by what it does to a statement in statement position, to the
  inside of a statement, to statement lists and to case lists (`SMap`).  One level of evaluation needs of such a map
  that mapped lists declare what the lists declared (`KeepsDecls`); a map that acts on lists statement by statement
  (`SMapOK`) has that from conditions on single statements.
-/
import GojaModel.C02.Model
import GojaModel.C02.Rewrites

namespace GojaModel.C02

theorem lexDeclsL_cons (s : Stmt) (ss : List Stmt) : lexDeclsL (s :: ss) = lexDeclsS s ++ lexDeclsL ss := by
  simp [lexDeclsL]
theorem funDeclsL_cons (s : Stmt) (ss : List Stmt) : funDeclsL (s :: ss) = funDeclsS s ++ funDeclsL ss := by
  simp [funDeclsL]
theorem lexDeclsL_append (a b : List Stmt) : lexDeclsL (a ++ b) = lexDeclsL a ++ lexDeclsL b := by
  simp [lexDeclsL]
theorem funDeclsL_append (a b : List Stmt) : funDeclsL (a ++ b) = funDeclsL a ++ funDeclsL b := by
  simp [funDeclsL]

theorem varNamesS_for (i : ForInit) (t u : Option Expr) {b b' : Stmt} (h : varNamesS b' = varNamesS b) :
    varNamesS (.for i t u b') = varNamesS (.for i t u b) := by
  cases i with
  | decl k ds => cases k <;> simp only [varNamesS, h]
  | _ => simp only [varNamesS, h]

theorem varNamesS_forOf (k : DeclKind) (x : Name) (e : Expr) {b b' : Stmt} (h : varNamesS b' = varNamesS b) :
    varNamesS (.forOf k x e b') = varNamesS (.forOf k x e b) := by
  cases k <;> simp only [varNamesS, h]

theorem enterBlock_congr {a b : List Stmt} (h1 : lexDeclsL a = lexDeclsL b) (h2 : funDeclsL a = funDeclsL b)
    (env : Env) (st : St) : enterBlock a env st = enterBlock b env st := by
  unfold enterBlock; rw [h1, h2]

structure CaseMap (C : List Case → List Case) (L : List Stmt → List Stmt) : Prop where
  nil : C [] = []
  cons : ∀ t b cs, C (.mk t b :: cs) = .mk t (L b) :: C cs

section
variable {C : List Case → List Case} {L : List Stmt → List Stmt}

theorem CaseMap.drop (h : CaseMap C L) : ∀ (cs : List Case) (i : Nat), (C cs).drop i = C (cs.drop i)
  | [], i => by simp only [List.drop_nil, h.nil]
  | c :: cs, 0 => rfl
  | (.mk t b) :: cs, i + 1 => by rw [h.cons]; exact h.drop cs i

theorem CaseMap.defaultIdx (h : CaseMap C L) : ∀ (cs : List Case) (i : Nat), defaultIdx (C cs) i = defaultIdx cs i
  | [], _ => by rw [h.nil]
  | (.mk none b) :: cs, i => by rw [h.cons]; rfl
  | (.mk (some t) b) :: cs, i => by rw [h.cons]; exact h.defaultIdx cs (i + 1)

theorem CaseMap.findCase (h : CaseMap C L) (recE : RecE) (dv : Val) :
    ∀ (cs : List Case) (i : Nat) (env : Env) (st : St), findCase recE dv (C cs) i env st = findCase recE dv cs i env st
  | [], _, _, _ => by rw [h.nil]
  | (.mk none b) :: cs, i, env, st => by rw [h.cons]; exact h.findCase recE dv cs (i + 1) env st
  | (.mk (some t) b) :: cs, i, env, st => by
    rw [h.cons]; simp only [GojaModel.C02.findCase, h.findCase recE dv cs (i + 1) env]

theorem CaseMap.enterBlock (h : CaseMap C L) (hl : ∀ b, lexDeclsL (L b) = lexDeclsL b)
    (hf : ∀ b, funDeclsL (L b) = funDeclsL b) (cs : List Case) (env : Env) (st : St) :
    enterBlock (caseBodies (C cs)) env st = enterBlock (caseBodies cs) env st := by
  have : ∀ cs, lexDeclsL (caseBodies (C cs)) = lexDeclsL (caseBodies cs) ∧
      funDeclsL (caseBodies (C cs)) = funDeclsL (caseBodies cs) := by
    intro cs
    induction cs with
    | nil => rw [h.nil]; exact ⟨rfl, rfl⟩
    | cons c cs ih =>
      cases c with
      | mk t b =>
        rw [h.cons]
        simp only [caseBodies, lexDeclsL_append, funDeclsL_append, hl, hf, ih.1, ih.2, and_self]
  exact enterBlock_congr (this cs).1 (this cs).2 env st

end

structure SMap where
  S : Stmt → Stmt
  I : Stmt → Stmt
  L : List Stmt → List Stmt
  C : List Case → List Case

def Stmt.mapSub (S : Stmt → Stmt) (L : List Stmt → List Stmt) (C : List Case → List Case) : Stmt → Stmt
  | .block ss => .block (L ss)
  | .ite c t e => .ite c (S t) (S e)
  | .while c b => .while c (S b)
  | .doWhile b c => .doWhile (S b) c
  | .for i t u b => .for i t u (S b)
  | .forOf k x e b => .forOf k x e (S b)
  | .try b hc p cb hf fb => .try (L b) hc p (L cb) hf (L fb)
  | .labeled l s => .labeled l (S s)
  | .switch e cs => .switch e (C cs)
  | s => s

/-- The part of `SMapOK` that holds by computation for a map defined by recursion; `SMapOK` adds what has to be
argued about the extra step `S` takes in statement position. -/
structure SMapEqs (m : SMap) : Prop where
  I_eq : ∀ s, m.I s = s.mapSub m.S m.L m.C
  L_nil : m.L [] = []
  L_cons : ∀ s ss, m.L (s :: ss) = m.S s :: m.L ss
  C_map : CaseMap m.C m.L

structure SMapOK (m : SMap) : Prop extends SMapEqs m where
  decl_S : ∀ s, lexDeclsS (m.S s) = lexDeclsS (m.I s) ∧ funDeclsS (m.S s) = funDeclsS (m.I s) ∧
    varNamesS (m.S s) = varNamesS (m.I s)

/-- What one level of evaluation needs of a map, whether or not it acts on lists statement by statement.  For the
hoisted `var` names it is asked per list step (`var_cons`): what a list keeps depends on the statements inside the
statements it keeps. -/
structure KeepsDecls (m : SMap) : Prop where
  I_eq : ∀ s, m.I s = s.mapSub m.S m.L m.C
  C_map : CaseMap m.C m.L
  L_nil : m.L [] = []
  var_S : ∀ s, varNamesS (m.S s) = varNamesS (m.I s)
  var_cons : ∀ s ss, varNamesS (m.S s) = varNamesS s → varNamesL (m.L ss) = varNamesL ss →
    varNamesL (m.L (s :: ss)) = varNamesS s ++ varNamesL ss
  lexL : ∀ ss, lexDeclsL (m.L ss) = lexDeclsL ss
  funL : ∀ ss, funDeclsL (m.L ss) = funDeclsL ss

def SMap.T (m : SMap) : Task → Task
  | .expr e => .expr e
  | .stmt s l => .stmt (m.S s) l
  | .call f t a => .call f t a
  | .whileLoop c b l V => .whileLoop c (m.S b) l V
  | .doLoop b c l V => .doLoop (m.S b) c l V
  | .forLoop per t u b l V => .forLoop per t u (m.S b) l V
  | .forOfLoop k x arr i b l V => .forOfLoop k x arr i (m.S b) l V

section
variable {m : SMap}

theorem SMapEqs.declsI (ok : SMapEqs m) (s : Stmt) :
    lexDeclsS (m.I s) = lexDeclsS s ∧ funDeclsS (m.I s) = funDeclsS s := by
  rw [ok.I_eq]; cases s <;> exact ⟨rfl, rfl⟩

mutual
theorem KeepsDecls.varI (ok : KeepsDecls m) : ∀ s, varNamesS (m.I s) = varNamesS s
  | .expr _ | .decl _ _ | .fdecl _ _ | .empty | .brk _ | .cont _ | .ret _ | .throw _ | .outside _ => by
    rw [ok.I_eq]; rfl
  | .block ss => by rw [ok.I_eq]; simp only [Stmt.mapSub, varNamesS, KeepsDecls.varL ok ss]
  | .ite _ t e => by
    rw [ok.I_eq]; simp only [Stmt.mapSub, varNamesS, ok.var_S, KeepsDecls.varI ok t, KeepsDecls.varI ok e]
  | .while _ b => by rw [ok.I_eq]; simp only [Stmt.mapSub, varNamesS, ok.var_S, KeepsDecls.varI ok b]
  | .doWhile b _ => by rw [ok.I_eq]; simp only [Stmt.mapSub, varNamesS, ok.var_S, KeepsDecls.varI ok b]
  | .for i t u b => by rw [ok.I_eq]; exact varNamesS_for i t u ((ok.var_S b).trans (KeepsDecls.varI ok b))
  | .forOf k x e b => by rw [ok.I_eq]; exact varNamesS_forOf k x e ((ok.var_S b).trans (KeepsDecls.varI ok b))
  | .try b _ _ cb _ fb => by
    rw [ok.I_eq]; simp only [Stmt.mapSub, varNamesS, KeepsDecls.varL ok b, KeepsDecls.varL ok cb, KeepsDecls.varL ok fb]
  | .labeled _ s => by rw [ok.I_eq]; simp only [Stmt.mapSub, varNamesS, ok.var_S, KeepsDecls.varI ok s]
  | .switch _ cs => by rw [ok.I_eq]; simp only [Stmt.mapSub, varNamesS, KeepsDecls.varC ok cs]
theorem KeepsDecls.varL (ok : KeepsDecls m) : ∀ ss, varNamesL (m.L ss) = varNamesL ss
  | [] => by rw [ok.L_nil]
  | s :: ss => ok.var_cons s ss ((ok.var_S s).trans (KeepsDecls.varI ok s)) (KeepsDecls.varL ok ss)
theorem KeepsDecls.varC (ok : KeepsDecls m) : ∀ cs, varNamesC (m.C cs) = varNamesC cs
  | [] => by rw [ok.C_map.nil]
  | (.mk _ b) :: cs => by rw [ok.C_map.cons]; simp only [varNamesC, KeepsDecls.varL ok b, KeepsDecls.varC ok cs]
end

theorem SMapEqs.flatMapL (eqs : SMapEqs m) {α : Type} {f : Stmt → List α} (hf : ∀ s, f (m.S s) = f s) :
    ∀ ss, (m.L ss).flatMap f = ss.flatMap f
  | [] => by rw [eqs.L_nil]
  | s :: ss => by rw [eqs.L_cons, List.flatMap_cons, List.flatMap_cons, hf, eqs.flatMapL hf ss]

theorem SMapOK.keeps (ok : SMapOK m) : KeepsDecls m where
  I_eq := ok.I_eq
  C_map := ok.C_map
  L_nil := ok.L_nil
  var_S s := (ok.decl_S s).2.2
  var_cons s ss h1 h2 := by rw [ok.L_cons]; simp only [varNamesL, h1, h2]
  lexL := ok.flatMapL fun s => (ok.decl_S s).1.trans (ok.declsI s).1
  funL := ok.flatMapL fun s => (ok.decl_S s).2.1.trans (ok.declsI s).2

theorem KeepsDecls.enterBlockL (ok : KeepsDecls m) (ss : List Stmt) (env : Env) (st : St) :
    enterBlock (m.L ss) env st = enterBlock ss env st :=
  enterBlock_congr (ok.lexL ss) (ok.funL ss) env st

end

def idMap : SMap := ⟨fun s => s, fun s => s, fun ss => ss, fun cs => cs⟩

theorem idMap_ok : SMapOK idMap where
  I_eq s := by cases s <;> rfl
  L_nil := rfl
  L_cons _ _ := rfl
  C_map := ⟨rfl, fun _ _ _ => rfl⟩
  decl_S _ := ⟨rfl, rfl, rfl⟩

theorem idMap_T (t : Task) : idMap.T t = t := by cases t <;> rfl

theorem map_mapBody_id (funs : List FunDef) : funs.map (FunDef.mapBody idMap.L) = funs := by
  induction funs with
  | nil => rfl
  | cons fd fs ih => simp only [List.map, ih]; rfl

theorem mapBodies_id (P : Prog) : P.mapBodies idMap.L = P := by
  simp only [Prog.mapBodies, map_mapBody_id]; rfl

end GojaModel.C02
