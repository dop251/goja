/-
  C02 — expr_stmt_vs_value_position, second form: inside function bodies `e;` may be replaced by `(e, 0);`
  (the statement then has the value 0 instead of the value of e): the second instance of `ExprStmtRw` (Erase.lean).
-/
import GojaModel.C02.Erase

namespace GojaModel.C02

def commaTop (orig inner : Stmt) : Stmt :=
  match orig with
  | .expr e => .expr (.comma e (.lit (.num 0)))
  | _ => inner

mutual
def cI : Stmt → Stmt
  | .block ss => .block (cL ss)
  | .ite c t e => .ite c (commaTop t (cI t)) (commaTop e (cI e))
  | .while c b => .while c (commaTop b (cI b))
  | .doWhile b c => .doWhile (commaTop b (cI b)) c
  | .for i t u b => .for i t u (commaTop b (cI b))
  | .forOf k x e b => .forOf k x e (commaTop b (cI b))
  | .try b hc p cb hf fb => .try (cL b) hc p (cL cb) hf (cL fb)
  | .labeled l s => .labeled l (commaTop s (cI s))
  | .switch e cs => .switch e (cC cs)
  | s => s
def cL : List Stmt → List Stmt
  | [] => []
  | s :: ss => commaTop s (cI s) :: cL ss
def cC : List Case → List Case
  | [] => []
  | (.mk t b) :: cs => .mk t (cL b) :: cC cs
end

def cS (s : Stmt) : Stmt := commaTop s (cI s)
def cMap : SMap := ⟨cS, cI, cL, cC⟩

/-- Function bodies rewritten, script body untouched (its completion value is observable). -/
def exprStmtComma (P : Prog) : Prog := { P with funs := P.funs.map (FunDef.mapBody cL) }

theorem exprStmtComma_eq (P : Prog) : exprStmtComma P = cMap.onFuns P := rfl

theorem cMap_eqs : SMapEqs cMap where
  I_eq s := by cases s <;> rfl
  L_nil := rfl
  L_cons _ _ := rfl
  C_map := ⟨rfl, fun _ _ _ => rfl⟩

theorem cI_lex (s : Stmt) : lexDeclsS (cI s) = lexDeclsS s := (cMap_eqs.declsI s).1
theorem cI_fun (s : Stmt) : funDeclsS (cI s) = funDeclsS s := (cMap_eqs.declsI s).2

/-- The comma expression spends a level on its operands; the literal needs one as well, which the operand's
level pays for: with fuel 0 for the operand both sides time out. -/
theorem eval_comma_expr (P : Prog) (n : Nat) (e : Expr) (env : Env) (st : St) :
    eval P (n + 1 + 1) (.expr (.comma e (.lit (.num 0)))) env st =
      bindVal (eval P (n + 1) (.expr e) env st) fun (_ : Val) st1 => bindVal (Res.val (.num 0) st1) Res.val := by
  simp only [eval, step, evalExpr, litVal]

theorem comma_rw : ExprStmtRw (fun e => .comma e (.lit (.num 0))) cMap where
  eqs := cMap_eqs
  S_eq s := by cases s <;> rfl
  sem P n e env st := by
    cases n with
    | zero => rfl
    | succ n => rw [eval_comma_expr]; exact bindVal_val_erase _ fun _ _ => ⟨.num 0, rfl⟩

theorem cI_var : ∀ s, varNamesS (cI s) = varNamesS s := comma_rw.ok.keeps.varI
theorem cL_var : ∀ ss, varNamesL (cL ss) = varNamesL ss := comma_rw.ok.keeps.varL
theorem cC_var : ∀ cs, varNamesC (cC cs) = varNamesC cs := comma_rw.ok.keeps.varC

end GojaModel.C02
