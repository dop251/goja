/-
  C02 — the list rewrites of the catalogue as syntactic functions on MiniJS programs (`blockWrap`, `exprStmtVoid`
  and `exprStmtComma` are defined next to their proofs: Wrap.lean, Erase.lean, Comma.lean).

  Every rewrite is applied EVERYWHERE it is applicable (all statement lists of the script body and
  of every function body, at any nesting depth, including `switch` case lists); the side condition is
  decided per site by the rewrite itself, a site that fails it is left alone.  The generator's
  metamorphic variants INSERT dead code / no-op statements / blocks; the functions here go the other
  way (ELIMINATE); the soundness theorems of Props.lean license the comparison.
-/
import GojaModel.C02.Syntax

namespace GojaModel.C02

def isAbrupt : Stmt → Bool
  | .ret _ => true | .throw _ => true | .brk _ => true | .cont _ => true | _ => false

/-- A statement list that declares nothing (no hoisted `var`, no let/const, no function). -/
def noDecls (ss : List Stmt) : Bool :=
  (varNamesL ss).isEmpty && (lexDeclsL ss).isEmpty && (funDeclsL ss).isEmpty

/-- The first statement certainly produces a value or a throw/return (so the running completion
value in front of it is irrelevant). -/
def startsValued : List Stmt → Bool
  | (.expr _) :: _ => true
  | (.throw _) :: _ => true
  | (.ret (some _)) :: _ => true
  | _ => false

/-! ### The generic traversal: one pass over every statement list, deciding per position -/

inductive Action where
  | keep        -- keep the statement (rewritten inside), go on
  | cutAfter    -- keep the statement, drop the rest of the list
  | dropHead    -- drop the statement, go on
  deriving DecidableEq

mutual
def gS (act : Stmt → List Stmt → Action) : Stmt → Stmt
  | .block ss => .block (gL act ss)
  | .ite c t e => .ite c (gS act t) (gS act e)
  | .while c b => .while c (gS act b)
  | .doWhile b c => .doWhile (gS act b) c
  | .for i t u b => .for i t u (gS act b)
  | .forOf k x e b => .forOf k x e (gS act b)
  | .try b hc p cb hf fb => .try (gL act b) hc p (gL act cb) hf (gL act fb)
  | .labeled l s => .labeled l (gS act s)
  | .switch e cs => .switch e (gC act cs)
  | s => s
def gL (act : Stmt → List Stmt → Action) : List Stmt → List Stmt
  | [] => []
  | s :: ss =>
    match act s ss with
    | .keep => gS act s :: gL act ss
    | .cutAfter => [gS act s]
    | .dropHead => gL act ss
def gC (act : Stmt → List Stmt → Action) : List Case → List Case
  | [] => []
  | (.mk t b) :: cs => .mk t (gL act b) :: gC act cs
end

/-! ### dead_code_after_abrupt -/

def dcAct (s : Stmt) (ss : List Stmt) : Action :=
  if isAbrupt s && noDecls ss then .cutAfter else .keep

/-! ### elimination of no-op statements in front of a valued statement
    (`if(false){…}` dead branches, `(()=>x);` closure creations) -/

/-- `if (false) S` without else, `S` declaring no `var` (S may contain `eval`/`with` = outside). -/
def isDeadIf : Stmt → Bool
  | .ite (.lit (.bool false)) t .empty => (varNamesS t).isEmpty
  | _ => false

/-- An expression statement that only creates a closure. -/
def isNoopClosure : Stmt → Bool
  | .expr (.func _) => true
  | _ => false

def elAct (p : Stmt → Bool) (s : Stmt) (ss : List Stmt) : Action :=
  if p s && startsValued ss then .dropHead else .keep

/-! ### Programs -/

def FunDef.mapBody (f : List Stmt → List Stmt) (fd : FunDef) : FunDef := { fd with body := f fd.body }

def Prog.mapBodies (f : List Stmt → List Stmt) (P : Prog) : Prog :=
  { P with funs := P.funs.map (FunDef.mapBody f), body := f P.body }

def deadCodeAfterAbrupt (P : Prog) : Prog := P.mapBodies (gL dcAct)
def ifFalseDeadBranch (P : Prog) : Prog := P.mapBodies (gL (elAct isDeadIf))
def noopClosureCapture (P : Prog) : Prog := P.mapBodies (gL (elAct isNoopClosure))

/-! ### size (driver only: did the rewrite change anything?) -/
mutual
def sizeS : Stmt → Nat
  | .block ss => 1 + sizeL ss
  | .ite _ t e => 1 + sizeS t + sizeS e
  | .while _ b => 1 + sizeS b
  | .doWhile b _ => 1 + sizeS b
  | .for _ _ _ b => 1 + sizeS b
  | .forOf _ _ _ b => 1 + sizeS b
  | .try b _ _ cb _ fb => 1 + sizeL b + sizeL cb + sizeL fb
  | .labeled _ s => 1 + sizeS s
  | .switch _ cs => 1 + sizeC cs
  | _ => 1
def sizeL : List Stmt → Nat
  | [] => 0
  | s :: ss => sizeS s + sizeL ss
def sizeC : List Case → Nat
  | [] => 0
  | (.mk _ b) :: cs => 1 + sizeL b + sizeC cs
end

def progSize (P : Prog) : Nat := sizeL P.body + (P.funs.map (fun fd => sizeL fd.body)).sum

def rewriteByName : String → Option (Prog → Prog)
  | "deadcode" => some deadCodeAfterAbrupt
  | "iffalse" => some ifFalseDeadBranch
  | "noop" => some noopClosureCapture
  | _ => none

end GojaModel.C02
