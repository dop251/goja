/-
  C02 — one level of statement evaluation respects relations between results.

  For two statement maps `a`, `b` that keep what statement lists declare (Maps.lean: `SMap`, `KeepsDecls`) and a
  relation `R` between results that every statement-level combinator of the interpreter preserves (`SimRel`), the
  one-level evaluators send `R`-related evaluators of `a`-mapped and `b`-mapped sub-statements to `R`-related results,
  provided mapped statement LISTS are related (`ListSim`).
  A map that acts on lists statement by statement (`SMapOK`: block wrap, Wrap.lean; `e;` ↦ `f e;`, Erase.lean) has
  that from `SimRel.stmts_cons` (`ListSim.pointwise`); the list rewrites of Sound.lean, which drop and cut, argue for
  it themselves.  Instances of `R`: `Res.le` ("timeout or equal", here) and `Res.qle` (equal up to erased completion
  values, Qle.lean).  With both maps the identity and `R = Res.le` this is fuel monotonicity (`step_mono`,
  `eval_le_of_le`).  The inductions on the fuel of Sound.lean and Depth.lean use all this as an invariant of two
  evaluators (`RwInv`) and its step (`RwInv.succ`).
-/
import GojaModel.C02.Mono
import GojaModel.C02.Maps

namespace GojaModel.C02

abbrev evalS (P : Prog) (n : Nat) : RecS := fun s l => eval P n (.stmt s l)
abbrev evalE (P : Prog) (n : Nat) : RecE := fun e => eval P n (.expr e)
abbrev evalC (P : Prog) (n : Nat) : RecC := fun f t a => eval P n (.call f t a) []

/-- `VR` relates the running completion values on the two sides.  Expression results are always compared by
`Res.le`, so that for the two binds `of_le` is enough (`SimRel.bindVal`, `SimRel.bindSt`). -/
structure SimRel (R : Res → Res → Prop) (VR : Option Val → Option Val → Prop) : Prop where
  of_le : ∀ {x y}, Res.le x y → R x y
  trans : ∀ {x y z}, R x y → R y z → R x z
  vr_refl : ∀ V, VR V V
  normal : ∀ {V1 V2} st, VR V1 V2 → R (.done (.normal V1) st) (.done (.normal V2) st)
  stmts_cons : ∀ {s1 s2 : RecS} {x y : Stmt} {xs ys : List Stmt} {V1 V2 env st},
    R (s1 x [] env st) (s2 y [] env st) → VR V1 V2 →
    (∀ V1' V2' st', VR V1' V2' → R (evalStmts s1 xs V1' env st') (evalStmts s2 ys V2' env st')) →
    R (evalStmts s1 (x :: xs) V1 env st) (evalStmts s2 (y :: ys) V2 env st)
  updEmpty : ∀ {r1 r2} (V : Val), R r1 r2 → R (updEmpty r1 V) (updEmpty r2 V)
  afterBody : ∀ {r1 r2 l V1 V2} {k1 k2 : Val → St → Res}, R r1 r2 → VR (some V1) (some V2) →
    (∀ v1 v2 st, VR (some v1) (some v2) → R (k1 v1 st) (k2 v2 st)) →
    R (afterBody r1 l V1 k1) (afterBody r2 l V2 k2)
  try_ : ∀ {s1 s2 : RecS} {b1 b2 : List Stmt} {hc p} {cb1 cb2 : List Stmt} {hf} {fb1 fb2 : List Stmt} {env st},
    R (evalBlock s1 b1 env st) (evalBlock s2 b2 env st) →
    (∀ v st, R (evalCatch s1 p cb1 v env st) (evalCatch s2 p cb2 v env st)) →
    (∀ st, R (evalBlock s1 fb1 env st) (evalBlock s2 fb2 env st)) →
    R (evalTry s1 b1 hc p cb1 hf fb1 env st) (evalTry s2 b2 hc p cb2 hf fb2 env st)
  labeled : ∀ {e1 e2 : RecE} {s1 s2 : RecS} {t1 t2 : RecT} {l} {x y : Stmt} {ls env st},
    R (s1 x (l :: ls) env st) (s2 y (l :: ls) env st) →
    R (stepStmt e1 s1 t1 (.labeled l x) ls env st) (stepStmt e2 s2 t2 (.labeled l y) ls env st)
  runCases : ∀ {s1 s2 : RecS} {cs1 cs2 : List Case} {i env st},
    R (evalStmts s1 (caseBodies (cs1.drop i)) (some .undef) env st)
      (evalStmts s2 (caseBodies (cs2.drop i)) (some .undef) env st) →
    R (runCases s1 cs1 (some i) env st) (runCases s2 cs2 (some i) env st)
  finishCall : ∀ {r1 r2}, R r1 r2 → Res.le (finishCall r1) (finishCall r2)

/-- The four loop tasks as functions `mk` of the body and the running value, the two places where the sides of a
simulation differ: `LoopRel` and `LoopRel.succ` are then stated once instead of once per loop kind. -/
inductive LoopShape : (Stmt → Val → Task) → Prop
  | while (c : Expr) (l : List Name) : LoopShape fun b V => .whileLoop c b l V
  | do (c : Expr) (l : List Name) : LoopShape fun b V => .doLoop b c l V
  | for (per : List Name) (test upd : Option Expr) (l : List Name) : LoopShape fun b V => .forLoop per test upd b l V
  | forOf (k : DeclKind) (x : Name) (arr i : Nat) (l : List Name) : LoopShape fun b V => .forOfLoop k x arr i b l V

def LoopRel (R : Res → Res → Prop) (VR : Option Val → Option Val → Prop) (a b : SMap) (t1 t2 : RecT) : Prop :=
  ∀ mk, LoopShape mk → ∀ bd V1 V2 env st, VR (some V1) (some V2) →
    R (t1 (mk (a.S bd) V1) env st) (t2 (mk (b.S bd) V2) env st)

section
variable {R : Res → Res → Prop} {VR : Option Val → Option Val → Prop}
variable {a b : SMap} {e1 e2 : RecE} {s1 s2 : RecS} {t1 t2 : RecT}

theorem SimRel.refl (hR : SimRel R VR) (x : Res) : R x x := hR.of_le (Res.le_refl x)

theorem SimRel.bindVal (hR : SimRel R VR) {r1 r2 : Res} {k1 k2 : Val → St → Res} (h : Res.le r1 r2)
    (hk : ∀ v st, R (k1 v st) (k2 v st)) : R (bindVal r1 k1) (bindVal r2 k2) :=
  bindVal_rel hR.of_le h hk

theorem SimRel.bindSt (hR : SimRel R VR) {r1 r2 : Res} {k1 k2 : St → Res} (h : Res.le r1 r2)
    (hk : ∀ st, R (k1 st) (k2 st)) : R (bindSt r1 k1) (bindSt r2 k2) :=
  bindSt_rel hR.of_le h hk

section
variable (hR : SimRel R VR) (hE : ∀ e env st, Res.le (e1 e env st) (e2 e env st))
include hR hE

theorem evalFor_sim (init : ForInit) (test upd : Option Expr) (bd : Stmt) (l : List Name)
    (hT : ∀ per env st, R (t1 (.forLoop per test upd (a.S bd) l .undef) env st)
                           (t2 (.forLoop per test upd (b.S bd) l .undef) env st))
    (env : Env) (st : St) :
    R (evalFor e1 t1 init test upd (a.S bd) l env st) (evalFor e2 t2 init test upd (b.S bd) l env st) := by
  unfold evalFor
  split
  · exact hT _ _ _
  · apply hR.bindVal (hE _ _ _); intro _ _; exact hT _ _ _
  · apply hR.bindSt (evalDeclrs_mono hE _ _ _ _); intro _; exact hT _ _ _
  · apply hR.bindSt (evalDeclrs_mono hE _ _ _ _); intro _; exact hT _ _ _

theorem evalForOf_sim (k : DeclKind) (x : Name) (e : Expr) (bd : Stmt) (l : List Name)
    (hT : ∀ arr env st, R (t1 (.forOfLoop k x arr 0 (a.S bd) l .undef) env st)
                           (t2 (.forOfLoop k x arr 0 (b.S bd) l .undef) env st))
    (env : Env) (st : St) :
    R (evalForOf e1 t1 k x e (a.S bd) l env st) (evalForOf e2 t2 k x e (b.S bd) l env st) := by
  unfold evalForOf
  apply hR.bindVal (hE _ _ _); intro v st1
  split
  · split
    · exact ite_rel (hT _ _ _) (hR.refl _)
    · exact hR.refl _
  · exact hR.refl _
  · exact hR.refl _
  · exact hR.refl _

end

/-- The continuation lists `rest1`, `rest2` are needed for `switch` case blocks. -/
def ListSim (R : Res → Res → Prop) (VR : Option Val → Option Val → Prop) (a b : SMap) (s1 s2 : RecS) : Prop :=
  ∀ (env : Env) (ss rest1 rest2 : List Stmt),
    (∀ V1 V2 st, VR V1 V2 → R (evalStmts s1 rest1 V1 env st) (evalStmts s2 rest2 V2 env st)) →
    ∀ V1 V2 st, VR V1 V2 →
      R (evalStmts s1 (a.L ss ++ rest1) V1 env st) (evalStmts s2 (b.L ss ++ rest2) V2 env st)

theorem ListSim.pointwise (hR : SimRel R VR) (ha : SMapEqs a) (hb : SMapEqs b)
    (hS : ∀ s l env st, R (s1 (a.S s) l env st) (s2 (b.S s) l env st)) : ListSim R VR a b s1 s2 := by
  intro env ss rest1 rest2 h
  induction ss with
  | nil => rw [ha.L_nil, hb.L_nil]; exact h
  | cons s ss ih => rw [ha.L_cons, hb.L_cons]; exact fun V1 V2 st hV => hR.stmts_cons (hS s [] env st) hV ih

theorem ListSim.idMap (hR : SimRel R VR) (hS : ∀ s l env st, R (s1 s l env st) (s2 s l env st)) :
    ListSim R VR idMap idMap s1 s2 :=
  .pointwise hR idMap_ok.toSMapEqs idMap_ok.toSMapEqs hS

variable (hR : SimRel R VR) (ha : KeepsDecls a) (hb : KeepsDecls b) (hL : ListSim R VR a b s1 s2)
include hR ha hb hL

theorem evalBlock_sim (ss : List Stmt) (env : Env) (st : St) :
    R (evalBlock s1 (a.L ss) env st) (evalBlock s2 (b.L ss) env st) := by
  have := hL (enterBlock ss env st).1 ss [] [] (fun _ _ st hV => hR.normal st hV)
    none none (enterBlock ss env st).2 (hR.vr_refl _)
  simpa only [evalBlock, ha.enterBlockL, hb.enterBlockL, List.append_nil] using this

theorem evalStmts_caseBodies_sim (env : Env) :
    ∀ (cs : List Case) (V1 V2 : Option Val) (st : St), VR V1 V2 →
      R (evalStmts s1 (caseBodies (a.C cs)) V1 env st) (evalStmts s2 (caseBodies (b.C cs)) V2 env st)
  | [], _, _, st, hV => by rw [ha.C_map.nil, hb.C_map.nil]; exact hR.normal st hV
  | (.mk t bd) :: cs, V1, V2, st, hV => by
    rw [ha.C_map.cons, hb.C_map.cons]
    exact hL env bd _ _ (evalStmts_caseBodies_sim env cs) V1 V2 st hV

theorem evalTry_sim (bd : List Stmt) (hc : Bool) (p : Option Name) (cb : List Stmt) (hf : Bool) (fb : List Stmt)
    (env : Env) (st : St) :
    R (evalTry s1 (a.L bd) hc p (a.L cb) hf (a.L fb) env st)
      (evalTry s2 (b.L bd) hc p (b.L cb) hf (b.L fb) env st) := by
  refine hR.try_ (evalBlock_sim hR ha hb hL _ _ _) (fun v st => ?_) (fun st => evalBlock_sim hR ha hb hL _ _ _)
  unfold evalCatch
  split
  · exact evalBlock_sim hR ha hb hL _ _ _
  · exact evalBlock_sim hR ha hb hL _ _ _

variable (hE : ∀ e env st, Res.le (e1 e env st) (e2 e env st))
include hE

theorem evalSwitch_sim (e : Expr) (cs : List Case) (env : Env) (st : St) :
    R (evalSwitch e1 s1 e (a.C cs) env st) (evalSwitch e2 s2 e (b.C cs) env st) := by
  unfold evalSwitch
  apply hR.bindVal (hE _ _ _); intro dv st1
  rw [ha.C_map.enterBlock ha.lexL ha.funL, hb.C_map.enterBlock hb.lexL hb.funL]
  simp only [ha.C_map.findCase, hb.C_map.findCase]
  apply hR.bindVal (findCase_mono hE _ _ _ _ _); intro r st3
  have hcs : caseStart r (a.C cs) = caseStart r (b.C cs) := by
    unfold caseStart; split
    · rfl
    · rw [ha.C_map.defaultIdx, hb.C_map.defaultIdx]
  rw [hcs]
  cases caseStart r (b.C cs) with
  | none => exact hR.refl _
  | some i =>
    apply hR.runCases
    rw [ha.C_map.drop, hb.C_map.drop]
    exact evalStmts_caseBodies_sim hR ha hb hL _ _ _ _ _ (hR.vr_refl _)

theorem stepStmt_sim (hS : ∀ s l env st, R (s1 (a.S s) l env st) (s2 (b.S s) l env st))
    (hT : LoopRel R VR a b t1 t2) (s : Stmt) (l : List Name) (env : Env) (st : St) :
    R (stepStmt e1 s1 t1 (a.I s) l env st) (stepStmt e2 s2 t2 (b.I s) l env st) := by
  have hV := hR.vr_refl (some Val.undef)
  rw [ha.I_eq, hb.I_eq]
  cases s with
  | fdecl _ _ | empty | brk _ | cont _ | outside _ => exact hR.refl _
  | expr e | throw e => exact hR.bindVal (hE _ _ _) (fun _ _ => hR.refl _)
  | ret e =>
    cases e with
    | none => exact hR.refl _
    | some e => exact hR.bindVal (hE _ _ _) (fun _ _ => hR.refl _)
  | decl k ds => exact hR.of_le (evalDeclrs_mono hE _ _ _ _)
  | block ss => exact evalBlock_sim hR ha hb hL _ _ _
  | ite c t e =>
    refine hR.bindVal (hE _ _ _) fun v st1 => hR.updEmpty _ ?_
    split
    · exact hS _ _ _ _
    · exact hS _ _ _ _
  | «while» c bd => exact hT _ (.while c l) bd _ _ env st hV
  | doWhile bd c => exact hT _ (.do c l) bd _ _ env st hV
  | «for» i t u bd =>
    exact evalFor_sim hR hE i t u bd l (fun per env st => hT _ (.for per t u l) bd _ _ env st hV) env st
  | forOf k x e bd =>
    exact evalForOf_sim hR hE k x e bd l (fun arr env st => hT _ (.forOf k x arr 0 l) bd _ _ env st hV) env st
  | «try» bd hc p cb hf fb => exact evalTry_sim hR ha hb hL _ _ _ _ _ _ _ _
  | labeled l' s => exact hR.labeled (hS s (l' :: l) env st)
  | switch e cs => exact evalSwitch_sim hR ha hb hL hE _ _ _ _

theorem stepCall_sim (funs : List FunDef) (f t : Val) (args : List Val) (st : St) :
    Res.le (stepCall (funs.map (FunDef.mapBody a.L)) e1 s1 f t args st)
           (stepCall (funs.map (FunDef.mapBody b.L)) e2 s2 f t args st) := by
  cases f with
  | clos idx cenv =>
    simp only [stepCall, List.getElem?_map]
    cases h : funs[idx]? with
    | none => exact Res.le_refl _
    | some fd =>
      simp only [Option.map, FunDef.mapBody, ha.varL, hb.varL]
      apply bindSt_mono (bindParams_mono hE _ _ _ _); intro st3
      exact hR.finishCall (evalBlock_sim hR ha hb hL _ _ _)
  | _ => exact Res.le_refl _

end

section
variable {R : Res → Res → Prop} {VR : Option Val → Option Val → Prop} {a b : SMap} {t1 t2 : RecT}

/-- A script run is the evaluation of its body as a block, one level up: what holds of every task holds of `run`. -/
theorem run_eq_eval (P : Prog) (n : Nat) :
    run P n =
      let p := allocNames (varNamesL P.body).eraseDups ⟨some .undef, true⟩ [] emptySt
      eval P (n + 1) (.stmt (.block P.body) []) p.1 p.2 := rfl

theorem run_sim (hR : SimRel R VR) (ha : KeepsDecls a) (hb : KeepsDecls b) {P1 P2 : Prog} {n1 n2 : Nat}
    (hL : ListSim R VR a b (evalS P1 n1) (evalS P2 n2))
    {body : List Stmt} (h1 : P1.body = a.L body) (h2 : P2.body = b.L body) : R (run P1 n1) (run P2 n2) := by
  simp only [run, h1, h2, ha.varL, hb.varL]
  exact evalBlock_sim hR ha hb hL body _ _

theorem LoopRel.succ (hR : SimRel R VR) (hE : ∀ e env st, Res.le (t1 (.expr e) env st) (t2 (.expr e) env st))
    (hS : ∀ s l env st, R (t1 (.stmt (a.S s) l) env st) (t2 (.stmt (b.S s) l) env st))
    (hT : LoopRel R VR a b t1 t2) (P1 P2 : Prog) : LoopRel R VR a b (step P1 t1) (step P2 t2) := by
  intro mk hmk bd V1 V2 env st hV
  cases hmk with
  | «while» c l =>
    simp only [step, stepWhile]
    exact hR.bindVal (hE _ _ _) fun tv st1 => ite_rel (hR.normal _ hV)
      (hR.afterBody (hS _ _ _ _) hV fun v1 v2 st2 hv => hT _ (.while c l) bd v1 v2 env st2 hv)
  | «do» c l =>
    simp only [step, stepDo]
    apply hR.afterBody (hS _ _ _ _) hV; intro v1 v2 st2 hv
    exact hR.bindVal (hE _ _ _) fun tv st3 => ite_rel (hR.normal _ hv) (hT _ (.do c l) bd v1 v2 env st3 hv)
  | «for» per test upd l =>
    have hbody : ∀ env st1, R
        (forBody (fun e => t1 (.expr e)) (fun s l => t1 (.stmt s l)) t1 per test upd (a.S bd) l V1 env st1)
        (forBody (fun e => t2 (.expr e)) (fun s l => t2 (.stmt s l)) t2 per test upd (b.S bd) l V2 env st1) := by
      intro env st1
      unfold forBody
      apply hR.afterBody (hS _ _ _ _) hV; intro v1 v2 st2 hv
      split
      · exact hT _ (.for per test _ l) bd v1 v2 _ _ hv
      · apply hR.bindVal (hE _ _ _); intro _ st4; exact hT _ (.for per test _ l) bd v1 v2 _ _ hv
    simp only [step, stepFor]
    split
    · exact hbody _ _
    · exact hR.bindVal (hE _ _ _) fun tv st1 => ite_rel (hR.normal _ hV) (hbody _ _)
  | forOf k x arr i l =>
    simp only [step, stepForOf]
    split
    · exact hR.refl _
    · exact ite_rel
        (hR.afterBody (hS _ _ _ _) hV fun v1 v2 st2 hv => hT _ (.forOf k x arr (i + 1) l) bd v1 v2 env st2 hv)
        (hR.normal _ hV)

end

theorem le_simRel : SimRel Res.le Eq where
  of_le h := h
  trans := Res.le_trans
  vr_refl _ := rfl
  normal st h := by subst h; exact Res.le_refl _
  stmts_cons h hV hk := by
    subst hV
    unfold evalStmts
    rcases h with h | h
    · rw [h]; exact Or.inl rfl
    · rw [h]; split
      · exact hk _ _ _ rfl
      · exact Res.le_refl _
      · exact Res.le_refl _
  updEmpty V h := updEmpty_mono V h
  afterBody h hV hk := by cases hV; exact afterBody_mono h (fun v st => hk v v st rfl)
  try_ hb hc hf := by
    unfold evalTry
    apply evalFinally_mono _ hf
    rcases hb with h | h
    · rw [h]; exact Or.inl rfl
    · rw [h]; split
      · split
        · exact hc _ _
        · exact Res.le_refl _
      · exact Res.le_refl _
  labeled h := by
    simp only [stepStmt]
    rcases h with h | h
    · rw [h]; exact Or.inl rfl
    · rw [h]; exact Res.le_refl _
  runCases h := by
    simp only [runCases]
    rcases h with h | h
    · rw [h]; exact Or.inl rfl
    · rw [h]; exact Res.le_refl _
  finishCall := finishCall_mono

section
variable {t1 t2 : RecT}

theorem step_mono_of_calls {P1 P2 : Prog} (hs : P1.strict = P2.strict)
    (hT : ∀ t env st, Res.le (t1 t env st) (t2 t env st))
    (hcall : ∀ f th args st,
      Res.le (stepCall P1.funs (fun e => t1 (.expr e)) (fun s l => t1 (.stmt s l)) f th args st)
             (stepCall P2.funs (fun e => t2 (.expr e)) (fun s l => t2 (.stmt s l)) f th args st))
    (t : Task) (env : Env) (st : St) : Res.le (step P1 t1 t env st) (step P2 t2 t env st) := by
  have hE : ∀ e env st, Res.le (t1 (.expr e) env st) (t2 (.expr e) env st) := fun e => hT (.expr e)
  have hS : ∀ s l env st, Res.le (t1 (.stmt s l) env st) (t2 (.stmt s l) env st) := fun s l => hT (.stmt s l)
  have hL : LoopRel Res.le Eq idMap idMap t1 t2 := fun mk _ bd V _ env st h => by cases h; exact hT (mk bd V) env st
  have hL' := hL.succ le_simRel hE hS P1 P2
  cases t with
  | stmt s l => exact stepStmt_sim le_simRel idMap_ok.keeps idMap_ok.keeps (.idMap le_simRel hS) hE hS hL s l env st
  | expr e => simp only [step, hs]; exact evalExpr_mono hE (fun f t args => hT (.call f t args) []) _ _ _ _
  | call f th args => exact hcall f th args st
  | whileLoop c bd l V => exact hL' _ (.while c l) bd V V env st rfl
  | doLoop bd c l V => exact hL' _ (.do c l) bd V V env st rfl
  | forLoop per test upd bd l V => exact hL' _ (.for per test upd l) bd V V env st rfl
  | forOfLoop k x arr i bd l V => exact hL' _ (.forOf k x arr i l) bd V V env st rfl

theorem step_mono (P : Prog) (hT : ∀ t env st, Res.le (t1 t env st) (t2 t env st))
    (t : Task) (env : Env) (st : St) : Res.le (step P t1 t env st) (step P t2 t env st) := by
  refine step_mono_of_calls rfl hT (fun f th args st => ?_) t env st
  have := stepCall_sim le_simRel idMap_ok.keeps idMap_ok.keeps (s1 := fun s l => t1 (.stmt s l))
    (s2 := fun s l => t2 (.stmt s l)) (.idMap le_simRel fun s l => hT (.stmt s l)) (fun e => hT (.expr e))
    P.funs f th args st
  rwa [map_mapBody_id] at this

end

theorem eval_succ_le (P : Prog) : ∀ (n : Nat) (t : Task) (env : Env) (st : St),
    Res.le (eval P n t env st) (eval P (n + 1) t env st)
  | 0, _, _, _ => Res.timeout_le _
  | n + 1, t, env, st => step_mono P (eval_succ_le P n) t env st

theorem eval_le_of_le (P : Prog) {n m : Nat} (h : n ≤ m) (t : Task) (env : Env) (st : St) :
    Res.le (eval P n t env st) (eval P m t env st) := by
  induction h with
  | refl => exact Res.le_refl _
  | step _ ih => exact Res.le_trans ih (eval_succ_le P _ t env st)

theorem run_mono {P1 P2 : Prog} {n1 n2 : Nat} (hb : P1.body = P2.body)
    (hS : ∀ s l env st, Res.le (eval P1 n1 (.stmt s l) env st) (eval P2 n2 (.stmt s l) env st)) :
    Res.le (run P1 n1) (run P2 n2) :=
  run_sim le_simRel idMap_ok.keeps idMap_ok.keeps (.idMap le_simRel hS) hb rfl

/-- What an induction on the fuel carries for two evaluators `t1`, `t2` of two programs that differ only in their
function tables (bodies mapped by `a` and by `b`).  `all` compares the SAME task on both sides: a task carries its
syntax, so only calls reach the mapped bodies, and at a call `finishCall` has brought `R` back to `Res.le`.  Statements
and loops that are themselves mapped are compared by `R`, for running values related by `VR`. -/
structure RwInv (R : Res → Res → Prop) (VR : Option Val → Option Val → Prop) (a b : SMap) (t1 t2 : RecT) : Prop where
  all : ∀ t env st, Res.le (t1 t env st) (t2 t env st)
  stmt : ∀ s l env st, R (t1 (.stmt (a.S s) l) env st) (t2 (.stmt (b.S s) l) env st)
  loop : LoopRel R VR a b t1 t2

theorem RwInv.mapped {a b : SMap} {t1 t2 : RecT} (h : RwInv Res.le Eq a b t1 t2) (t : Task) (env : Env) (st : St) :
    Res.le (t1 (a.T t) env st) (t2 (b.T t) env st) := by
  cases t with
  | stmt s l => exact h.stmt s l env st
  | expr e => exact h.all _ env st
  | call f th args => exact h.all _ env st
  | whileLoop c bd l V => exact h.loop _ (.while c l) bd V V env st rfl
  | doLoop bd c l V => exact h.loop _ (.do c l) bd V V env st rfl
  | forLoop per test upd bd l V => exact h.loop _ (.for per test upd l) bd V V env st rfl
  | forOfLoop k x arr i bd l V => exact h.loop _ (.forOf k x arr i l) bd V V env st rfl

section
variable {R : Res → Res → Prop} {VR : Option Val → Option Val → Prop} (hR : SimRel R VR) {a b : SMap} {t1 t2 : RecT}
include hR

theorem RwInv.bot (a b : SMap) (t2 : RecT) : RwInv R VR a b (fun _ _ _ => .timeout) t2 :=
  ⟨fun _ _ _ => Or.inl rfl, fun _ _ _ _ => hR.of_le (Or.inl rfl), fun _ _ _ _ _ _ _ _ => hR.of_le (Or.inl rfl)⟩

/-- For statements the conclusion speaks of `I`: where `S` differs from `I` the caller has to bridge the difference. -/
theorem RwInv.succ (ha : KeepsDecls a) (hb : KeepsDecls b) {P1 P2 : Prog} (hs : P1.strict = P2.strict)
    (funs : List FunDef) (h1 : P1.funs = funs.map (FunDef.mapBody a.L)) (h2 : P2.funs = funs.map (FunDef.mapBody b.L))
    (h : RwInv R VR a b t1 t2) (hL : ListSim R VR a b (fun s l => t1 (.stmt s l)) (fun s l => t2 (.stmt s l))) :
    (∀ t env st, Res.le (step P1 t1 t env st) (step P2 t2 t env st)) ∧
    (∀ s l env st, R (step P1 t1 (.stmt (a.I s) l) env st) (step P2 t2 (.stmt (b.I s) l) env st)) ∧
    LoopRel R VR a b (step P1 t1) (step P2 t2) :=
  have hE : ∀ e env st, Res.le (t1 (.expr e) env st) (t2 (.expr e) env st) := fun _ env st => h.all _ env st
  ⟨step_mono_of_calls hs h.all fun f th args st => by
     rw [h1, h2]; exact stepCall_sim hR ha hb hL hE funs f th args st,
   fun s l env st => stepStmt_sim hR ha hb hL hE h.stmt h.loop s l env st,
   h.loop.succ hR hE h.stmt _ _⟩

end

end GojaModel.C02
