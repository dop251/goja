/-
  C02 — the evaluation depth of a rewritten program: the inductions on the fuel, each carrying `RwInv` of Sim.lean.

  A map that does in statement position what it does inside keeps the depth: two such maps simulate each other with
  the same fuel as soon as their statement lists do (`rwInv_mapBodies`; the list rewrites, Sound.lean).

  Other rewrites make a statement at most one level deeper (a block around it, Wrap.lean; `f e;` for `e;`,
  Erase.lean).  The rewritten program `P'` has the function bodies mapped by a statement-by-statement map `m`; all
  that is asked of the rewrite itself is said inside `P'` (`DepthOne`): a statement in statement position (`S`) is
  never ahead of its inside (`I`) and at most one level of fuel behind.  Then `P'` finishes with fuel `n` only what
  the original finishes (`rwInv_le`), and the original with fuel `n` only what `P'` finishes with fuel `2 n`
  (`rwInv_ge`), up to the relation `R` of Sim.lean in which the statements of function bodies are compared.
-/
import GojaModel.C02.Sim

namespace GojaModel.C02

theorem rwInv_mapBodies {a b : SMap} (ha : KeepsDecls a) (hb : KeepsDecls b) (haS : ∀ s, a.S s = a.I s)
    (hbS : ∀ s, b.S s = b.I s) (P : Prog)
    (hL : ∀ n, RwInv Res.le Eq a b (eval (P.mapBodies a.L) n) (eval (P.mapBodies b.L) n) →
      ListSim Res.le Eq a b (evalS (P.mapBodies a.L) n) (evalS (P.mapBodies b.L) n)) :
    ∀ n, RwInv Res.le Eq a b (eval (P.mapBodies a.L) n) (eval (P.mapBodies b.L) n)
  | 0 => .bot le_simRel _ _ _
  | n + 1 => by
    have ih := rwInv_mapBodies ha hb haS hbS P hL n
    obtain ⟨hA, hS, hT⟩ := ih.succ le_simRel ha hb (P1 := P.mapBodies a.L) (P2 := P.mapBodies b.L) rfl P.funs rfl rfl
      (hL n ih)
    exact ⟨hA, fun s l env st => by rw [haS, hbS]; exact hS s l env st, hT⟩

structure DepthOne (R : Res → Res → Prop) (m : SMap) (P' : Prog) : Prop where
  down : ∀ n s l env st, R (eval P' n (.stmt (m.S s) l) env st) (eval P' n (.stmt (m.I s) l) env st)
  up : ∀ n s l env st, R (eval P' n (.stmt (m.I s) l) env st) (eval P' (n + 1) (.stmt (m.S s) l) env st)

section
variable {R : Res → Res → Prop} {VR : Option Val → Option Val → Prop} (hR : SimRel R VR) {m : SMap}
include hR

/-- How both rewrites are of depth one: a statement they touch evaluates like its inside one level lower, up to `R`
in both directions. -/
theorem DepthOne.of_exact {P' : Prog} (h : ∀ s, m.S s = m.I s ∨ ∀ n l env st,
      R (eval P' (n + 1) (.stmt (m.S s) l) env st) (eval P' n (.stmt (m.I s) l) env st) ∧
      R (eval P' n (.stmt (m.I s) l) env st) (eval P' (n + 1) (.stmt (m.S s) l) env st)) : DepthOne R m P' where
  down n s l env st := by
    rcases h s with h | h
    · rw [h]; exact hR.refl _
    · cases n with
      | zero => exact hR.of_le (Or.inl rfl)
      | succ n => exact hR.trans (h n l env st).1 (hR.of_le (eval_succ_le P' n _ env st))
  up n s l env st := by
    rcases h s with h | h
    · rw [h]; exact hR.of_le (eval_succ_le P' n _ env st)
    · exact (h n l env st).2

variable (hm : SMapOK m) {P' P : Prog} (hs : P'.strict = P.strict) (hf : P'.funs = P.funs.map (FunDef.mapBody m.L))
  (hd : DepthOne R m P')
include hm hs hf hd

theorem rwInv_le : ∀ n, RwInv R VR m idMap (eval P' n) (eval P n)
  | 0 => RwInv.bot hR _ _ _
  | n + 1 => by
    have ih := rwInv_le n
    obtain ⟨hA, hS, hT⟩ := ih.succ hR hm.keeps idMap_ok.keeps hs P.funs hf (map_mapBody_id _).symm
      (.pointwise hR hm.toSMapEqs idMap_ok.toSMapEqs ih.stmt)
    exact ⟨hA, fun s l env st => hR.trans (hd.down (n + 1) s l env st) (hS s l env st), hT⟩

/-- One step takes the right side from `2 n` to `2 n + 1`; the level that is left goes to every task by monotonicity,
and a statement in statement position spends it on `up`. -/
theorem rwInv_ge : ∀ n, RwInv R VR idMap m (eval P n) (eval P' (2 * n))
  | 0 => RwInv.bot hR _ _ _
  | n + 1 => by
    have ih := rwInv_ge n
    obtain ⟨hA, hS, hT⟩ := ih.succ hR idMap_ok.keeps hm.keeps hs.symm P.funs (map_mapBody_id _).symm hf
      (.pointwise hR idMap_ok.toSMapEqs hm.toSMapEqs ih.stmt)
    have hup := eval_succ_le P' (2 * n + 1)
    exact ⟨fun t env st => Res.le_trans (hA t env st) (hup t env st),
      fun s l env st => hR.trans (hS s l env st) (hd.up (2 * n + 1) s l env st),
      fun mk hmk bd V1 V2 env st hV => hR.trans (hT mk hmk bd V1 V2 env st hV) (hR.of_le (hup _ env st))⟩

end
end GojaModel.C02
