/-
  C02 — property theorems about the MiniJS reference interpreter (`eval`, `run` in Model.lean).

  * interpreter sanity: more fuel never changes a finished outcome (`eval_fuel_mono`, `run_fuel_mono`),
    hence the outcome of a program is unique (`run_outcome_unique`); determinism for a fixed fuel is by
    construction (`eval` is a function).
  * rewrite soundness, for ALL programs of the modelled syntax, ALL fuels, environments and states.  Each
    rewrite is a syntactic function that is applied at every position where its decidable side condition
    holds (the side condition is part of the function).  For the first three the rewritten program
    evaluates in lock-step to the SAME result (same completion, same heap/store, same log) with the SAME
    fuel:
      dead_code_after_abrupt   statements after return/throw/break/continue that declare nothing are dropped
      if_false_dead_branch     `if(false) S` (S without `var`; S may contain eval/with = `outside`) in front
                               of an expression statement / throw / return e is dropped
      noop_closure_capture     `(()=>x);` (any closure-creating expression statement) in front of such a
                               statement is dropped
    `list_rewrite_sound` is the generic theorem they are instances of.  The other two change the evaluation depth, so
    each is a simulation in both directions (same fuel / doubled fuel) and, from them, equality of finished script
    outcomes:
      block_wrap               every wrappable statement (not a let/const/function declaration, not a loop or
                               labelled statement) is put into a block of its own
      expr_stmt_vs_value_position   in every FUNCTION body `e;` becomes `void e;` or, second form, `(e, 0);` (the script
                               body, whose completion value is observable, is left alone); statements inside function
                               bodies are compared up to the values of normal/break/continue completions (`Res.qle`)
  NOT proved (exercised by the correspondence only): iife_wrap, const_inline, toString re-evaluation.
-/
import GojaModel.C02.Instances
import GojaModel.C02.Wrap
import GojaModel.C02.Erase
import GojaModel.C02.Comma

namespace GojaModel.C02

/-- More fuel never changes a finished outcome (any task, environment, state). -/
theorem eval_fuel_mono (P : Prog) {n m : Nat} (h : n ≤ m) (t : Task) (env : Env) (st : St) (r : Res)
    (hr : eval P n t env st = r) (hfin : r ≠ .timeout) : eval P m t env st = r := by
  rw [← (eval_le_of_le P h t env st).eq_of_ne (hr ▸ hfin), hr]

theorem run_fuel_mono (P : Prog) {n m : Nat} (h : n ≤ m) (r : Res)
    (hr : run P n = r) (hfin : r ≠ .timeout) : run P m = r := by
  rw [run_eq_eval] at hr ⊢
  exact eval_fuel_mono P (Nat.succ_le_succ h) _ _ _ r hr hfin

/-- The finished outcome of a script does not depend on the fuel. -/
theorem run_outcome_unique (P : Prog) (n m : Nat) (r1 r2 : Res)
    (h1 : run P n = r1) (h2 : run P m = r2) (f1 : r1 ≠ .timeout) (f2 : r2 ≠ .timeout) : r1 = r2 := by
  rcases Nat.le_total n m with h | h
  · rw [← run_fuel_mono P h r1 h1 f1, h2]
  · rw [← h1, run_fuel_mono P h r2 h2 f2]

/-- Generic: a per-position list rewrite whose decisions satisfy `ActOK` preserves evaluation of every
task in every environment and state, with the same fuel. -/
theorem list_rewrite_sound {act : Stmt → List Stmt → Action} (ok : ActOK act) (P : Prog) (n : Nat)
    (t : Task) (env : Env) (st : St) :
    eval (P.mapBodies (gL act)) n (mapTask act t) env st = eval P n t env st :=
  eval_g ok P n t env st

theorem dead_code_after_abrupt_sound (P : Prog) (n : Nat) : run (deadCodeAfterAbrupt P) n = run P n :=
  run_g dcAct_ok P n

theorem dead_code_after_abrupt_sound_eval (P : Prog) (n : Nat) (t : Task) (env : Env) (st : St) :
    eval (deadCodeAfterAbrupt P) n (mapTask dcAct t) env st = eval P n t env st :=
  eval_g dcAct_ok P n t env st

theorem if_false_dead_branch_sound (P : Prog) (n : Nat) : run (ifFalseDeadBranch P) n = run P n :=
  run_g (elAct_ok isDeadIf_ok) P n

theorem if_false_dead_branch_sound_eval (P : Prog) (n : Nat) (t : Task) (env : Env) (st : St) :
    eval (ifFalseDeadBranch P) n (mapTask (elAct isDeadIf) t) env st = eval P n t env st :=
  eval_g (elAct_ok isDeadIf_ok) P n t env st

theorem noop_closure_capture_sound (P : Prog) (n : Nat) : run (noopClosureCapture P) n = run P n :=
  run_g (elAct_ok isNoopClosure_ok) P n

theorem noop_closure_capture_sound_eval (P : Prog) (n : Nat) (t : Task) (env : Env) (st : St) :
    eval (noopClosureCapture P) n (mapTask (elAct isNoopClosure) t) env st = eval P n t env st :=
  eval_g (elAct_ok isNoopClosure_ok) P n t env st

/-- Observable outcomes (completion kind + rendered value + log) agree as a corollary. -/
theorem rewrites_preserve_outcome (P : Prog) (n : Nat) :
    (run (deadCodeAfterAbrupt P) n).show = (run P n).show ∧
    (run (ifFalseDeadBranch P) n).show = (run P n).show ∧
    (run (noopClosureCapture P) n).show = (run P n).show := by
  rw [dead_code_after_abrupt_sound, if_false_dead_branch_sound, noop_closure_capture_sound]
  exact ⟨rfl, rfl, rfl⟩

/-- Whatever the block-wrapped program finishes with fuel `n`, the original finishes with fuel `n`, equally
(any task, environment, state). -/
theorem block_wrap_le (P : Prog) (n : Nat) (t : Task) (env : Env) (st : St) :
    Res.le (eval (blockWrap P) n (wMap.T t) env st) (eval P n t env st) := by
  have := (wrap_inv_le P n).mapped t env st
  rwa [idMap_T] at this

/-- Whatever the original finishes with fuel `n`, the block-wrapped program finishes with fuel `2n`, equally. -/
theorem block_wrap_ge (P : Prog) (n : Nat) (t : Task) (env : Env) (st : St) :
    Res.le (eval P n t env st) (eval (blockWrap P) (2 * n) (wMap.T t) env st) := by
  have := (wrap_inv_ge P n).mapped t env st
  rwa [idMap_T] at this

/-- A script and its block-wrapped version have the same finished outcomes. -/
theorem block_wrap_sound (P : Prog) (r : Res) (hfin : r ≠ .timeout) :
    (∃ n, run (blockWrap P) n = r) ↔ (∃ n, run P n = r) :=
  Res.finished_iff (run_wrap_le P) (run_le_wrap P) hfin

/-- Every task (script statements, expressions, calls, loops) of the rewritten program finishes, with the same
fuel, only with what the original finishes with. -/
theorem expr_stmt_void_le (P : Prog) (n : Nat) (t : Task) (env : Env) (st : St) :
    Res.le (eval (exprStmtVoid P) n t env st) (eval P n t env st) := by
  rw [exprStmtVoid_eq]; exact (void_rw.inv_le P n).all t env st

theorem expr_stmt_void_ge (P : Prog) (n : Nat) (t : Task) (env : Env) (st : St) :
    Res.le (eval P n t env st) (eval (exprStmtVoid P) (2 * n) t env st) := by
  rw [exprStmtVoid_eq]; exact (void_rw.inv_ge P n).all t env st

/-- Inside function bodies the rewritten statements agree with the originals up to erased completion values. -/
theorem expr_stmt_void_body (P : Prog) (n : Nat) (s : Stmt) (l : List Name) (env : Env) (st : St) :
    Res.qle (eval (exprStmtVoid P) n (.stmt (vS s) l) env st) (eval P n (.stmt s l) env st) := by
  rw [exprStmtVoid_eq]; exact (void_rw.inv_le P n).stmt s l env st

/-- A script and its `void`-rewritten version have the same finished outcomes (completion value included). -/
theorem expr_stmt_vs_value_position_sound (P : Prog) (r : Res) (hfin : r ≠ .timeout) :
    (∃ n, run (exprStmtVoid P) n = r) ↔ (∃ n, run P n = r) := by
  simp only [exprStmtVoid_eq]; exact Res.finished_iff (run_onFuns_le void_rw P) (run_le_onFuns void_rw P) hfin

theorem expr_stmt_comma_le (P : Prog) (n : Nat) (t : Task) (env : Env) (st : St) :
    Res.le (eval (exprStmtComma P) n t env st) (eval P n t env st) := by
  rw [exprStmtComma_eq]; exact (comma_rw.inv_le P n).all t env st

theorem expr_stmt_comma_ge (P : Prog) (n : Nat) (t : Task) (env : Env) (st : St) :
    Res.le (eval P n t env st) (eval (exprStmtComma P) (2 * n) t env st) := by
  rw [exprStmtComma_eq]; exact (comma_rw.inv_ge P n).all t env st

theorem expr_stmt_comma_body (P : Prog) (n : Nat) (s : Stmt) (l : List Name) (env : Env) (st : St) :
    Res.qle (eval (exprStmtComma P) n (.stmt (cS s) l) env st) (eval P n (.stmt s l) env st) := by
  rw [exprStmtComma_eq]; exact (comma_rw.inv_le P n).stmt s l env st

/-- A script and its `(e, 0)`-rewritten version have the same finished outcomes (completion value included). -/
theorem expr_stmt_comma_sound (P : Prog) (r : Res) (hfin : r ≠ .timeout) :
    (∃ n, run (exprStmtComma P) n = r) ↔ (∃ n, run P n = r) := by
  simp only [exprStmtComma_eq]; exact Res.finished_iff (run_onFuns_le comma_rw P) (run_le_onFuns comma_rw P) hfin

/-! ### non-vacuity (tests on a literal program: the list rewrites and block_wrap change its size; block_wrap and the
two expression-statement rewrites keep its outcome) -/

/-- `log(1); if (false) { eval("") } (function(){…}); throw 2; log(3)` inside a function that is called. -/
def demo : Prog :=
  { strict := true,
    funs := [⟨.normal, [], none,
      [.expr (.log (.lit (.num 1))),
       .ite (.lit (.bool false)) (.block [.outside "eval"]) .empty,
       .expr (.func 0),
       .throw (.lit (.num 2)),
       .expr (.log (.lit (.num 3)))]⟩],
    body := [.expr (.call (.func 0) [])] }

example : progSize (deadCodeAfterAbrupt demo) = 8 ∧ progSize demo = 9 := by decide +kernel
example : progSize (ifFalseDeadBranch demo) = 5 := by decide +kernel
example : progSize (noopClosureCapture demo) = 8 := by decide +kernel
example : (run demo 10).show = "T 2 | 1" := by decide +kernel
example : progSize (blockWrap demo) = 18 := by decide +kernel
example : (run (blockWrap demo) 10).show = "T 2 | 1" := by decide +kernel
example : (run (exprStmtVoid demo) 10).show = "T 2 | 1" := by decide +kernel
example : (run (exprStmtComma demo) 10).show = "T 2 | 1" := by decide +kernel
example : progSize (exprStmtVoid demo) = progSize demo ∧ (exprStmtVoid demo).funs.map (fun fd => fd.body.length) = [5] := by decide +kernel

end GojaModel.C02
