/-
  C02 — soundness of the generic list rewrite `gL act` (applied to every statement list of a program)
  under semantic side conditions on the per-position decision `act` (`ActOK`).
  Result: `eval (P.mapBodies (gL act)) n (mapTask act t) = eval P n t` for ALL n, t, environments and
  states — the rewritten program runs in lock-step on EQUAL states (closures hold table indices, not
  syntax), with the same fuel.

  `gS / gL / gC` form a statement map (`gMap`) that keeps the declared names and the evaluation depth, so one level
  of evaluation is the walk of Sim.lean; what is particular to a map that cuts and drops is the list step
  (`listSim_g_id`, `listSim_id_g`).  Equality of results is `Res.le` in both directions (`Res.le_antisymm`), each a
  same-fuel simulation between the rewritten program and the original (`rwInv_mapBodies`, Depth.lean).
-/
import GojaModel.C02.Depth

namespace GojaModel.C02

structure ActOK (act : Stmt → List Stmt → Action) : Prop where
  cut : ∀ s ss, act s ss = .cutAfter → isAbrupt s = true ∧ noDecls ss = true
  drop_decl : ∀ s ss, act s ss = .dropHead → varNamesS s = [] ∧ lexDeclsS s = [] ∧ funDeclsS s = []
  drop_sem : ∀ s ss, act s ss = .dropHead →
    ∀ (rest : List Stmt) (P : Prog) (n : Nat) (V : Option Val) (env : Env) (st : St),
      evalStmts (evalS P n) (s :: (ss ++ rest)) V env st = evalStmts (evalS P n) (ss ++ rest) V env st

theorem noDecls_elim {ss : List Stmt} (h : noDecls ss = true) :
    varNamesL ss = [] ∧ lexDeclsL ss = [] ∧ funDeclsL ss = [] := by
  simp [noDecls, List.isEmpty_iff] at h
  exact ⟨h.1.1, h.1.2, h.2⟩

section
variable {act : Stmt → List Stmt → Action}

theorem lexDeclsS_g (s : Stmt) : lexDeclsS (gS act s) = lexDeclsS s := by
  cases s <;> rfl
theorem funDeclsS_g (s : Stmt) : funDeclsS (gS act s) = funDeclsS s := by
  cases s <;> rfl

theorem flatMap_gL {α : Type} (f : Stmt → List α) (hS : ∀ s, f (gS act s) = f s)
    (hcut : ∀ s ss, act s ss = .cutAfter → ss.flatMap f = [])
    (hdrop : ∀ s ss, act s ss = .dropHead → f s = []) : ∀ ss, (gL act ss).flatMap f = ss.flatMap f
  | [] => rfl
  | s :: ss => by
    have ih := flatMap_gL f hS hcut hdrop ss
    unfold gL
    cases h : act s ss with
    | keep => simp only [List.flatMap_cons, hS, ih]
    | cutAfter => simp only [List.flatMap_cons, List.flatMap_nil, hS, hcut s ss h]
    | dropHead => simp only [List.flatMap_cons, hdrop s ss h, ih, List.nil_append]

theorem gC_map : CaseMap (gC act) (gL act) := ⟨rfl, fun _ _ _ => rfl⟩

theorem eval_abrupt_not_normal (P : Prog) {s : Stmt} (hs : isAbrupt s = true) :
    ∀ (n : Nat) (l : List Name) (env : Env) (st : St) (x : Option Val) (y : St),
      eval P n (.stmt s l) env st ≠ .done (.normal x) y
  | 0, _, _, _, _, _ => by intro h; cases h
  | n + 1, l, env, st, x, y => by
    cases s with
    | ret e =>
      cases e with
      | none => intro h; cases h
      | some e => exact bindVal_ne_normal (by intro v st h; cases h)
    | throw e => exact bindVal_ne_normal (by intro v st h; cases h)
    | brk _ | cont _ => intro h; cases h
    | _ => cases hs

def mapTask (act : Stmt → List Stmt → Action) : Task → Task
  | .expr e => .expr e
  | .stmt s l => .stmt (gS act s) l
  | .call f t a => .call f t a
  | .whileLoop c b l V => .whileLoop c (gS act b) l V
  | .doLoop b c l V => .doLoop (gS act b) c l V
  | .forLoop per t u b l V => .forLoop per t u (gS act b) l V
  | .forOfLoop k x arr i b l V => .forOfLoop k x arr i (gS act b) l V

theorem mapBodies_funs (f : List Stmt → List Stmt) (P : Prog) :
    (P.mapBodies f).funs = P.funs.map (FunDef.mapBody f) := rfl
theorem mapBodies_body (f : List Stmt → List Stmt) (P : Prog) : (P.mapBodies f).body = f P.body := rfl

def gMap (act : Stmt → List Stmt → Action) : SMap := ⟨gS act, gS act, gL act, gC act⟩

theorem gMap_T (t : Task) : (gMap act).T t = mapTask act t := by cases t <;> rfl

theorem gMap_keeps (ok : ActOK act) : KeepsDecls (gMap act) where
  I_eq s := by cases s <;> rfl
  C_map := gC_map
  L_nil := rfl
  var_S _ := rfl
  var_cons s ss h1 h2 := by
    show varNamesL (gL act (s :: ss)) = _
    unfold gL
    cases h : act s ss with
    | keep => exact congr (congrArg _ h1) h2
    | cutAfter => rw [(noDecls_elim (ok.cut s ss h).2).1]; exact congrArg (· ++ []) h1
    | dropHead => rw [(ok.drop_decl s ss h).1]; exact h2
  lexL := flatMap_gL lexDeclsS lexDeclsS_g (fun s ss h => (noDecls_elim (ok.cut s ss h).2).2.1)
    (fun s ss h => (ok.drop_decl s ss h).2.1)
  funL := flatMap_gL funDeclsS funDeclsS_g (fun s ss h => (noDecls_elim (ok.cut s ss h).2).2.2)
    (fun s ss h => (ok.drop_decl s ss h).2.2)

theorem varNamesS_g (ok : ActOK act) : ∀ s, varNamesS (gS act s) = varNamesS s := (gMap_keeps ok).varI
theorem varNamesL_g (ok : ActOK act) : ∀ ss, varNamesL (gL act ss) = varNamesL ss := (gMap_keeps ok).varL
theorem varNamesC_g (ok : ActOK act) : ∀ cs, varNamesC (gC act cs) = varNamesC cs := (gMap_keeps ok).varC

theorem evalStmts_cut_le {s1 s2 : RecS} {x y : Stmt} (xs ys : List Stmt) {V : Option Val} {env : Env} {st : St}
    (h : Res.le (s1 x [] env st) (s2 y [] env st))
    (hn : (∀ v st', s1 x [] env st ≠ .done (.normal v) st') ∨ (∀ v st', s2 y [] env st ≠ .done (.normal v) st')) :
    Res.le (evalStmts s1 (x :: xs) V env st) (evalStmts s2 (y :: ys) V env st) := by
  unfold evalStmts
  rcases h with h | h
  · rw [h]; exact Or.inl rfl
  · rw [h] at hn ⊢
    cases hr : s2 y [] env st with
    | done c st1 =>
      cases c with
      | normal v => exact absurd hr (hn.elim (· v st1) (· v st1))
      | _ => exact Res.le_refl _
    | _ => exact Res.le_refl _

/-- A cut is invisible because the kept head is abrupt in the original, a drop because of `drop_sem` in the original:
the evaluator of the rewritten side is arbitrary. -/
theorem listSim_g_id (ok : ActOK act) (P : Prog) (n : Nat) {s1 : RecS}
    (hS : ∀ s l env st, Res.le (s1 (gS act s) l env st) (evalS P n s l env st)) :
    ListSim Res.le Eq (gMap act) idMap s1 (evalS P n) := by
  intro env ss rest1 rest2 h
  induction ss with
  | nil => exact h
  | cons s ss ih =>
    intro V1 V2 st hV
    show Res.le (evalStmts s1 (gL act (s :: ss) ++ rest1) V1 env st) (evalStmts _ (s :: (ss ++ rest2)) V2 env st)
    unfold gL
    cases hact : act s ss with
    | keep => exact le_simRel.stmts_cons (hS s [] env st) hV ih
    | cutAfter =>
      cases hV
      exact evalStmts_cut_le _ _ (hS s [] env st) (.inr (eval_abrupt_not_normal P (ok.cut s ss hact).1 n [] env st))
    | dropHead => rw [ok.drop_sem s ss hact]; exact ih V1 V2 st hV

theorem listSim_id_g (ok : ActOK act) (P : Prog) (n : Nat) {s2 : RecS}
    (hS : ∀ s l env st, Res.le (evalS P n s l env st) (s2 (gS act s) l env st)) :
    ListSim Res.le Eq idMap (gMap act) (evalS P n) s2 := by
  intro env ss rest1 rest2 h
  induction ss with
  | nil => exact h
  | cons s ss ih =>
    intro V1 V2 st hV
    show Res.le (evalStmts _ (s :: (ss ++ rest1)) V1 env st) (evalStmts s2 (gL act (s :: ss) ++ rest2) V2 env st)
    unfold gL
    cases hact : act s ss with
    | keep => exact le_simRel.stmts_cons (hS s [] env st) hV ih
    | cutAfter =>
      cases hV
      exact evalStmts_cut_le _ _ (hS s [] env st) (.inl (eval_abrupt_not_normal P (ok.cut s ss hact).1 n [] env st))
    | dropHead => rw [ok.drop_sem s ss hact]; exact ih V1 V2 st hV

theorem eval_g (ok : ActOK act) (P : Prog) (n : Nat) (t : Task) (env : Env) (st : St) :
    eval (P.mapBodies (gL act)) n (mapTask act t) env st = eval P n t env st := by
  have h1 := (rwInv_mapBodies (gMap_keeps ok) idMap_ok.keeps (fun _ => rfl) (fun _ => rfl) P
    (fun n ih => listSim_g_id ok _ n ih.stmt) n).mapped t env st
  have h2 := (rwInv_mapBodies idMap_ok.keeps (gMap_keeps ok) (fun _ => rfl) (fun _ => rfl) P
    (fun n ih => listSim_id_g ok _ n ih.stmt) n).mapped t env st
  rw [mapBodies_id, idMap_T, gMap_T] at h1 h2
  exact Res.le_antisymm h1 h2

theorem run_g (ok : ActOK act) (P : Prog) (n : Nat) : run (P.mapBodies (gL act)) n = run P n := by
  rw [run_eq_eval, run_eq_eval, mapBodies_body, varNamesL_g ok]
  exact eval_g ok P (n + 1) (.stmt (.block P.body) []) _ _

end
end GojaModel.C02
