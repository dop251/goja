/-
  C02 — expr_stmt_vs_value_position: inside FUNCTION BODIES an expression statement `e;` may be replaced by
  `f e;` whenever `f e` evaluates like `e` except for its value (`ExprStmtRw`; `void e` here, `(e, 0)` in
  Comma.lean): the result of every call, the log, the heap and the store are unchanged.

  The rewritten and the original body do not run on equal results, only on results equal up to erased completion
  values (`Res.qle`, Qle.lean).  The rewrite also changes the evaluation depth of the statement by one, so — as for
  block_wrap — there are two directions (same fuel / doubled fuel): Depth.lean, of which these rewrites are instances
  (`ExprStmtRw.depthOne`).
-/
import GojaModel.C02.Depth
import GojaModel.C02.Qle

namespace GojaModel.C02

def SMap.onFuns (m : SMap) (P : Prog) : Prog := { P with funs := P.funs.map (FunDef.mapBody m.L) }

def exprTop (f : Expr → Expr) (orig inner : Stmt) : Stmt :=
  match orig with
  | .expr e => .expr (f e)
  | _ => inner

structure ExprStmtRw (f : Expr → Expr) (m : SMap) : Prop where
  eqs : SMapEqs m
  S_eq : ∀ s, m.S s = exprTop f s (m.I s)
  sem : ∀ (P : Prog) n e env st,
    (bindVal (eval P (n + 1) (.expr (f e)) env st) Res.val).erase = (bindVal (eval P n (.expr e) env st) Res.val).erase

theorem bindVal_val_erase (x : Res) {k : Val → St → Res} (hk : ∀ v st, ∃ w, k v st = .val w st) :
    (bindVal (bindVal x k) Res.val).erase = (bindVal x Res.val).erase := by
  cases x with
  | done c st =>
    cases c with
    | normal v =>
      cases v with
      | none => rfl
      | some v => obtain ⟨w, hw⟩ := hk v st; simp only [bindVal, hw]; rfl
    | _ => rfl
  | _ => rfl

section
variable {f : Expr → Expr} {m : SMap}

theorem ExprStmtRw.ok (h : ExprStmtRw f m) : SMapOK m where
  toSMapEqs := h.eqs
  decl_S s := by
    rw [h.S_eq]; unfold exprTop; split
    · rw [h.eqs.I_eq]; exact ⟨rfl, rfl, rfl⟩
    · exact ⟨rfl, rfl, rfl⟩

theorem ExprStmtRw.depthOne (h : ExprStmtRw f m) (P' : Prog) : DepthOne Res.qle m P' :=
  .of_exact qle_simRel fun s => by
    rw [h.S_eq]
    cases s with
    | expr e =>
      rw [h.eqs.I_eq]
      refine .inr fun n l env st => ?_
      cases n with
      | zero => exact ⟨Or.inr rfl, Or.inr rfl⟩
      | succ n => exact ⟨Or.inr (h.sem P' n e env st), Or.inr (h.sem P' n e env st).symm⟩
    | _ => exact .inl rfl

theorem ExprStmtRw.inv_le (h : ExprStmtRw f m) (P : Prog) (n : Nat) :
    RwInv Res.qle anyV m idMap (eval (m.onFuns P) n) (eval P n) :=
  rwInv_le qle_simRel h.ok (P' := m.onFuns P) (P := P) rfl rfl (h.depthOne _) n

theorem ExprStmtRw.inv_ge (h : ExprStmtRw f m) (P : Prog) (n : Nat) :
    RwInv Res.qle anyV idMap m (eval P n) (eval (m.onFuns P) (2 * n)) :=
  rwInv_ge qle_simRel h.ok (P' := m.onFuns P) (P := P) rfl rfl (h.depthOne _) n

theorem run_onFuns_le (h : ExprStmtRw f m) (P : Prog) (n : Nat) : Res.le (run (m.onFuns P) n) (run P n) :=
  run_mono rfl fun _ _ => (h.inv_le P n).all _

theorem run_le_onFuns (h : ExprStmtRw f m) (P : Prog) (n : Nat) : Res.le (run P n) (run (m.onFuns P) (2 * n)) :=
  run_mono rfl fun _ _ => (h.inv_ge P n).all _

end

def voidTop (orig inner : Stmt) : Stmt :=
  match orig with
  | .expr e => .expr (.unop .void e)
  | _ => inner

mutual
def vI : Stmt → Stmt
  | .block ss => .block (vL ss)
  | .ite c t e => .ite c (voidTop t (vI t)) (voidTop e (vI e))
  | .while c b => .while c (voidTop b (vI b))
  | .doWhile b c => .doWhile (voidTop b (vI b)) c
  | .for i t u b => .for i t u (voidTop b (vI b))
  | .forOf k x e b => .forOf k x e (voidTop b (vI b))
  | .try b hc p cb hf fb => .try (vL b) hc p (vL cb) hf (vL fb)
  | .labeled l s => .labeled l (voidTop s (vI s))
  | .switch e cs => .switch e (vC cs)
  | s => s
def vL : List Stmt → List Stmt
  | [] => []
  | s :: ss => voidTop s (vI s) :: vL ss
def vC : List Case → List Case
  | [] => []
  | (.mk t b) :: cs => .mk t (vL b) :: vC cs
end

def vS (s : Stmt) : Stmt := voidTop s (vI s)
def vMap : SMap := ⟨vS, vI, vL, vC⟩

/-- Function bodies rewritten, script body untouched (its completion value is observable). -/
def exprStmtVoid (P : Prog) : Prog := { P with funs := P.funs.map (FunDef.mapBody vL) }

theorem exprStmtVoid_eq (P : Prog) : exprStmtVoid P = vMap.onFuns P := rfl

theorem vMap_eqs : SMapEqs vMap where
  I_eq s := by cases s <;> rfl
  L_nil := rfl
  L_cons _ _ := rfl
  C_map := ⟨rfl, fun _ _ _ => rfl⟩

theorem vI_lex (s : Stmt) : lexDeclsS (vI s) = lexDeclsS s := (vMap_eqs.declsI s).1
theorem vI_fun (s : Stmt) : funDeclsS (vI s) = funDeclsS s := (vMap_eqs.declsI s).2

theorem eval_void_expr (P : Prog) (n : Nat) (e : Expr) (env : Env) (st : St) :
    eval P (n + 1) (.expr (.unop .void e)) env st =
      bindVal (eval P n (.expr e) env st) fun v st1 => evalUnop .void v st1 := by
  simp only [eval, step, evalExpr, evalUnopExpr]

theorem void_rw : ExprStmtRw (.unop .void) vMap where
  eqs := vMap_eqs
  S_eq s := by cases s <;> rfl
  sem P n e env st := by
    rw [eval_void_expr]; exact bindVal_val_erase _ fun _ _ => ⟨.undef, rfl⟩

theorem vI_var : ∀ s, varNamesS (vI s) = varNamesS s := void_rw.ok.keeps.varI
theorem vL_var : ∀ ss, varNamesL (vL ss) = varNamesL ss := void_rw.ok.keeps.varL
theorem vC_var : ∀ cs, varNamesC (vC cs) = varNamesC cs := void_rw.ok.keeps.varC

end GojaModel.C02
