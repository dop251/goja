/-
  C02 — `Res.qle a b` : `a` is `timeout`, or equal to `b` after erasing the values of normal / break / continue
  completions.  This is the relation in which statements inside function bodies are compared when a rewrite changes
  completion values (Erase.lean): the value of a statement inside a function body is unobservable (a call returns
  through `return` or yields undefined), but it is threaded through statement lists, loops, switch and try.  All result
  combinators respect `Res.qle` for ARBITRARY running values on the two sides, which makes it an instance of the
  relations of Sim.lean (`qle_simRel`); at the call boundary (`finishCall_q`) it collapses to `Res.le`.
-/
import GojaModel.C02.Sim

namespace GojaModel.C02

def Compl.erase : Compl → Compl
  | .normal _ => .normal none
  | .brk l _ => .brk l none
  | .cont l _ => .cont l none
  | c => c

def Res.erase : Res → Res
  | .done c st => .done c.erase st
  | r => r

def Res.qle (a b : Res) : Prop := a = .timeout ∨ a.erase = b.erase

theorem Res.qle_refl (a : Res) : Res.qle a a := Or.inr rfl
theorem Res.timeout_qle (a : Res) : Res.qle .timeout a := Or.inl rfl
theorem Res.qle_of_le {a b : Res} (h : Res.le a b) : Res.qle a b := by
  rcases h with h | h
  · exact Or.inl h
  · subst h; exact Or.inr rfl

theorem Res.qle_trans {a b c : Res} (h1 : Res.qle a b) (h2 : Res.qle b c) : Res.qle a c := by
  rcases h1 with h | h
  · exact Or.inl h
  · rcases h2 with h2 | h2
    · subst h2
      cases a <;> simp [Res.erase] at h
      exact Or.inl rfl
    · exact Or.inr (h.trans h2)

theorem Res.le_trans_qle {a b c : Res} (h1 : Res.le a b) (h2 : Res.qle b c) : Res.qle a c :=
  Res.qle_trans (Res.qle_of_le h1) h2

theorem Compl.erase_updateEmpty (c : Compl) (V : Option Val) : (c.updateEmpty V).erase = c.erase := by
  cases c with
  | normal v => cases v <;> rfl
  | brk l v => cases v <;> rfl
  | cont l v => cases v <;> rfl
  | ret v => rfl
  | thr v => rfl

inductive Compl.SameKind : Compl → Compl → Prop
  | normal (v1 v2 : Option Val) : SameKind (.normal v1) (.normal v2)
  | brk (l : Option Name) (v1 v2 : Option Val) : SameKind (.brk l v1) (.brk l v2)
  | cont (l : Option Name) (v1 v2 : Option Val) : SameKind (.cont l v1) (.cont l v2)
  | ret (v : Val) : SameKind (.ret v) (.ret v)
  | thr (v : Val) : SameKind (.thr v) (.thr v)

theorem Compl.sameKind_of_erase {c1 c2 : Compl} (h : c1.erase = c2.erase) : c1.SameKind c2 := by
  cases c1 <;> cases c2 <;> simp only [Compl.erase, reduceCtorEq] at h
  · exact .normal _ _
  · cases h; exact .brk _ _ _
  · cases h; exact .cont _ _ _
  · cases h; exact .ret _
  · cases h; exact .thr _

theorem Compl.erase_loopContinues {c1 c2 : Compl} (h : c1.erase = c2.erase) (l : List Name) :
    loopContinues c1 l = loopContinues c2 l := by
  cases Compl.sameKind_of_erase h with
  | cont l' v1 v2 => cases l' <;> rfl
  | _ => rfl

theorem Compl.erase_loopExit {c1 c2 : Compl} (h : c1.erase = c2.erase) :
    (loopExit c1).erase = (loopExit c2).erase := by
  cases Compl.sameKind_of_erase h with
  | brk l' v1 v2 => cases l' <;> rfl
  | _ => rfl

theorem Res.qle_elim {a b : Res} (h : Res.qle a b) :
    a = .timeout ∨ (∃ w, a = .unsup w ∧ b = .unsup w) ∨
    (∃ c1 c2 st, a = .done c1 st ∧ b = .done c2 st ∧ c1.erase = c2.erase) := by
  rcases h with h | h
  · exact Or.inl h
  · cases a with
    | timeout => exact Or.inl rfl
    | unsup w =>
      cases b <;> simp [Res.erase] at h
      subst h; exact Or.inr (Or.inl ⟨_, rfl, rfl⟩)
    | done c st =>
      cases b <;> simp [Res.erase] at h
      obtain ⟨h1, h2⟩ := h
      subst h2; exact Or.inr (Or.inr ⟨_, _, _, rfl, rfl, h1⟩)

theorem updEmpty_q {r1 r2 : Res} (V1 V2 : Val) (h : Res.qle r1 r2) :
    Res.qle (updEmpty r1 V1) (updEmpty r2 V2) := by
  rcases Res.qle_elim h with h | ⟨w, h1, h2⟩ | ⟨c1, c2, st, h1, h2, hc⟩
  · subst h; exact Or.inl rfl
  · subst h1; subst h2; exact Or.inr rfl
  · subst h1; subst h2
    exact Or.inr (by simp only [updEmpty, Res.erase, Compl.erase_updateEmpty, hc])

theorem afterBody_q {r1 r2 : Res} {l : List Name} {V1 V2 : Val} {k1 k2 : Val → St → Res}
    (h : Res.qle r1 r2) (hk : ∀ v1 v2 st, Res.qle (k1 v1 st) (k2 v2 st)) :
    Res.qle (afterBody r1 l V1 k1) (afterBody r2 l V2 k2) := by
  rcases Res.qle_elim h with h | ⟨w, h1, h2⟩ | ⟨c1, c2, st, h1, h2, hc⟩
  · subst h; exact Or.inl rfl
  · subst h1; subst h2; exact Or.inr rfl
  · subst h1; subst h2
    simp only [afterBody, Compl.erase_loopContinues hc l]
    split
    · exact hk _ _ _
    · refine Or.inr ?_
      simp only [Res.erase]
      rw [Compl.erase_loopExit (c1 := c1.updateEmpty (some V1)) (c2 := c2.updateEmpty (some V2))
        (by simp only [Compl.erase_updateEmpty, hc])]

theorem finishCall_q {r1 r2 : Res} (h : Res.qle r1 r2) : Res.le (finishCall r1) (finishCall r2) := by
  rcases Res.qle_elim h with h | ⟨w, h1, h2⟩ | ⟨c1, c2, st, h1, h2, hc⟩
  · subst h; exact Or.inl rfl
  · subst h1; subst h2; exact Or.inr rfl
  · subst h1; subst h2
    cases Compl.sameKind_of_erase hc <;> exact Or.inr rfl

theorem evalFinally_q {s1 s2 : RecS} {r1 r2 : Res} {fb1 fb2 : List Stmt} {env : Env} (h : Res.qle r1 r2)
    (hb : ∀ st, Res.qle (evalBlock s1 fb1 env st) (evalBlock s2 fb2 env st)) (hf : Bool) :
    Res.qle (evalFinally s1 r1 hf fb1 env) (evalFinally s2 r2 hf fb2 env) := by
  unfold evalFinally
  split
  · exact updEmpty_q _ _ h
  · rcases Res.qle_elim h with h | ⟨w, h1, h2⟩ | ⟨c1, c2, st, h1, h2, hc⟩
    · subst h; exact Or.inl rfl
    · subst h1; subst h2; exact Or.inr rfl
    · subst h1; subst h2
      simp only []
      rcases Res.qle_elim (hb st) with h | ⟨w, h1, h2⟩ | ⟨d1, d2, st3, h1, h2, hd⟩
      · rw [h]; exact Or.inl rfl
      · rw [h1, h2]; exact Or.inr rfl
      · rw [h1, h2]
        cases Compl.sameKind_of_erase hd with
        | normal => exact Or.inr (by simp only [Res.erase, Compl.erase_updateEmpty, hc])
        | _ => exact Or.inr rfl

abbrev anyV : Option Val → Option Val → Prop := fun _ _ => True

theorem qle_simRel : SimRel Res.qle anyV where
  of_le := Res.qle_of_le
  trans := Res.qle_trans
  vr_refl _ := trivial
  normal _ _ := Or.inr rfl
  stmts_cons h _ hk := by
    unfold evalStmts
    rcases Res.qle_elim h with h1 | ⟨w, h1, h2⟩ | ⟨c1, c2, st1, h1, h2, hc⟩
    · rw [h1]; exact Or.inl rfl
    · rw [h1, h2]; exact Or.inr rfl
    · rw [h1, h2]
      cases Compl.sameKind_of_erase hc with
      | normal => exact hk _ _ _ trivial
      | brk | cont =>
        exact Or.inr (by simp only [Res.erase]; rw [Compl.erase_updateEmpty, Compl.erase_updateEmpty]; rfl)
      | _ => exact Or.inr rfl
  updEmpty V h := updEmpty_q V V h
  afterBody h _ hk := afterBody_q h (fun v1 v2 st => hk v1 v2 st trivial)
  try_ hb hcatch hfin := by
    unfold evalTry
    apply evalFinally_q _ hfin
    rcases Res.qle_elim hb with h | ⟨w, h1, h2⟩ | ⟨c1, c2, st1, h1, h2, hcc⟩
    · rw [h]; exact Or.inl rfl
    · rw [h1, h2]; exact Or.inr rfl
    · rw [h1, h2]
      cases Compl.sameKind_of_erase hcc with
      | thr v =>
        simp only []
        split
        · exact hcatch _ _
        · exact Or.inr rfl
      | _ => exact Or.inr rfl
  labeled h := by
    simp only [stepStmt]
    rcases Res.qle_elim h with h | ⟨w, h1, h2⟩ | ⟨c1, c2, st1, h1, h2, hc⟩
    · rw [h]; exact Or.inl rfl
    · rw [h1, h2]; exact Or.inr rfl
    · rw [h1, h2]
      cases Compl.sameKind_of_erase hc with
      | brk lb v1 v2 =>
        cases lb with
        | none => exact Or.inr rfl
        | some l'' =>
          simp only []
          split
          · exact Or.inr rfl
          · exact Or.inr rfl
      | _ => exact Or.inr rfl
  runCases h := by
    simp only [runCases]
    rcases Res.qle_elim h with h | ⟨w, h1, h2⟩ | ⟨c1, c2, st1, h1, h2, hc⟩
    · rw [h]; exact Or.inl rfl
    · rw [h1, h2]; exact Or.inr rfl
    · rw [h1, h2]; exact Or.inr (by simp only [Res.erase, Compl.erase_loopExit hc])
  finishCall := finishCall_q

end GojaModel.C02
