/-
  C11: exotic targets as `Ops` tables, and their `Lawful` proofs.

  * `fixedOps`  — an ordinary object extended by a FIXED block of non-writable, non-configurable data properties that
                  the exotic [[GetOwnProperty]] synthesises and that no operation can change: the String wrapper
                  (ECMA-262 §10.4.3: the code-unit index properties, and `length`), and equally the non-configurable
                  built-in slots of other wrappers.  [[DefineOwnProperty]] on such a key answers
                  IsCompatiblePropertyDescriptor(extensible, Desc, fixedDesc) and changes nothing (§10.4.3.2 step 2).
  * `arrOps`    — the Array exotic object (§10.4.2): `length` with ArraySetLength (value conversion, truncation that
                  stops at a non-configurable element), index definitions that bump `length` and respect a
                  non-writable `length`.  Lawful ON the admissible inputs (a `length` descriptor whose value is
                  already the canonical uint32 number): for other values ArraySetLength stores a converted value and
                  ECMA-262 itself makes a forwarding proxy non-transparent (`arr_noncanonical_length_witness`).
  * `taOps`     — the Integer-Indexed exotic object (typed array, §10.4.5): numeric keys address the element block
                  (writable, enumerable, configurable data properties whose stored value is CONVERTED), out-of-range
                  numeric keys do not exist and cannot be created; everything else is ordinary ([[OwnPropertyKeys]] too:
                  it lists the ordinary part only, not the indices of §10.4.5.7).  Lawful (no
                  admissibility needed: the element properties are configurable and writable, so no check compares values).
  * `argOps`    — the mapped arguments exotic object (§10.4.4): index properties aliased to the formal parameters
                  through a parameter map; [[GetOwnProperty]] / [[Get]] read the parameter, [[DefineOwnProperty]] /
                  [[Set]] write it, an accessor / non-writable redefinition or a delete removes the mapping.  Lawful.
                  (An unmapped = strict arguments object is an ordinary object: `ordOps`.)
  * functions   — a function object is an ordinary object (its `length`, `name`, `prototype` are ordinary own
                  properties) with [[Call]] / [[Construct]]: `ordOps` with `Env.callable`; nothing to add.
-/
import GojaModel.C11.Ordinary

namespace GojaModel.C11

/-- the fixed block: key, value, enumerable -/
abbrev Fixed := List (Key × Val × Bool)

def fxLookup (fx : Fixed) (k : Key) : Option Cur :=
  match fx with
  | [] => none
  | (k', v, e) :: rest => if k' = k then some (.data v false e false) else fxLookup rest k

def fixedOps (E : Env) (fx : Fixed) : Ops OState where
  getProto := (ordOps E).getProto
  setProto := (ordOps E).setProto
  isExt := (ordOps E).isExt
  prevExt := (ordOps E).prevExt
  getOwn := fun k s =>                                                     -- §10.4.3.1
    match fxLookup fx k with
    | some c => (.ok (some c), s)
    | none => (ordOps E).getOwn k s
  define := fun k d s =>                                                   -- §10.4.3.2
    if d.isAccessorDescriptor && d.isDataDescriptor then (.typeError, s)
    else match fxLookup fx k with
      | some c => (.ok (specIsCompatible s.ext d (some c)), s)
      | none => (ordOps E).define k d s
  has := fun k s =>
    match fxLookup fx k with
    | some _ => (.ok true, s)
    | none => (ordOps E).has k s
  get := fun k rcv s =>
    match fxLookup fx k with
    | some (.data v _ _ _) => (.ok v, s)
    | some (.acc _ _ _ _) => (.ok .undef, s)      -- (the fixed block holds data properties only)
    | none => (ordOps E).get k rcv s
  set := fun k v rcv s =>
    match fxLookup fx k with
    | some _ => (.ok false, s)                    -- not writable
    | none => (ordOps E).set k v rcv s
  delete := fun k s =>                                                     -- §10.4.3 uses OrdinaryDelete on the synthesised descriptor
    match fxLookup fx k with
    | some _ => (.ok false, s)                    -- not configurable
    | none => (ordOps E).delete k s
  ownKeys := fun s => (.ok ((fx.map (·.1) ++ s.props.map (·.1)).eraseDups), s)   -- §10.4.3.3: the fixed keys first
  callable := false
  constructor := false
  call := fun _ _ s => (.typeError, s)
  construct := fun _ _ s => (.typeError, s)

def fixedQueries (fx : Fixed) : Queries OState where
  ext := fun s => s.ext
  own := fun k s => match fxLookup fx k with
    | some c => some c
    | none => oLookup s.props k
  proto := fun s => s.proto
  keys := fun s => (fx.map (·.1) ++ s.props.map (·.1)).eraseDups

theorem fxLookup_shape {fx : Fixed} {k : Key} {c : Cur} (h : fxLookup fx k = some c) : ∃ v e, c = .data v false e false := by
  induction fx with
  | nil => simp [fxLookup] at h
  | cons a rest ih =>
    obtain ⟨k', v, e⟩ := a
    simp only [fxLookup] at h
    split at h
    · injection h with h; exact ⟨v, e, h.symm⟩
    · exact ih h

theorem compat_unchanged_ok (d : PD) (ext : Bool) (v : Val) (e : Bool)
    (h : specIsCompatible ext d (some (.data v false e false)) = true) :
    specDefineCheck (some (.data v false e false)) ext d = .ok () := by
  simp only [specDefineCheck, h]
  simp [Cur.configurable]

theorem fixed_own_ord {fx : Fixed} {k : Key} (hf : fxLookup fx k = none) (s : OState) :
    (fixedQueries fx).own k s = oLookup s.props k := by simp [fixedQueries, hf]

/-- the ordinary part: every state change goes through `ordOps`, whose queries on keys outside the fixed block agree -/
theorem fixed_lawful (E : Env) (fx : Fixed) : Lawful (fixedQueries fx) (fixedOps E fx) where
  isExt_eq := fun _ => rfl
  getOwn_eq := by
    intro k s
    simp only [fixedOps, fixedQueries]
    cases fxLookup fx k <;> rfl
  getProto_eq := fun _ => rfl
  ownKeys_eq := fun _ => rfl
  keys_nodup := fun _ => eraseDups_nodup _
  setProto_inv := (ord_lawful E).setProto_inv
  prevExt_inv := (ord_lawful E).prevExt_inv
  define_wf := by
    intro k d s hwf
    simp only [fixedOps, PD.not_wf hwf, ↓reduceIte]
  define_inv := by
    intro k d s s' h
    simp only [fixedOps] at h
    split at h
    · simp at h
    · rename_i hbad
      cases hf : fxLookup fx k with
      | some c =>
        simp only [hf] at h
        injection h with h1 h2
        subst h2
        obtain ⟨v, e, hc⟩ := fxLookup_shape hf
        subst hc
        simp only [fixedQueries, hf]
        exact compat_unchanged_ok d s.ext v e (by injection h1)
      | none =>
        simp only [hf] at h
        rw [fixed_own_ord hf]
        exact (ord_lawful E).define_inv k d s s' h
  has_inv := by
    intro k s s' h
    simp only [fixedOps] at h
    cases hf : fxLookup fx k with
    | some c => simp [hf] at h
    | none =>
      simp only [hf] at h
      rw [fixed_own_ord hf]
      exact (ord_lawful E).has_inv k s s' h
  get_inv := by
    intro k r s v s' h
    simp only [fixedOps] at h
    cases hf : fxLookup fx k with
    | some c =>
      obtain ⟨v0, e, hc⟩ := fxLookup_shape hf
      subst hc
      simp only [hf] at h
      injection h with h1 h2
      subst h2
      injection h1 with h1
      subst h1
      simp [fixedQueries, hf, specGetCheck]
    | none =>
      simp only [hf] at h
      rw [fixed_own_ord hf]
      exact (ord_lawful E).get_inv k r s v s' h
  set_inv := by
    intro k v r s s' h
    simp only [fixedOps] at h
    cases hf : fxLookup fx k with
    | some c => simp [hf] at h
    | none =>
      simp only [hf] at h
      rw [fixed_own_ord hf]
      exact (ord_lawful E).set_inv k v r s s' h
  delete_inv := by
    intro k s s' h
    simp only [fixedOps] at h
    cases hf : fxLookup fx k with
    | some c => simp [hf] at h
    | none =>
      simp only [hf] at h
      rw [fixed_own_ord hf]
      exact (ord_lawful E).delete_inv k s s' h
  call_nc := fun _ _ _ _ => rfl
  construct_nc := fun _ _ _ _ => rfl

/-- the String wrapper `new String(units)`: index properties (enumerable) and `length` (not enumerable), key ids supplied
by the caller (`idx i` = the key of index i, `lenKey` = the key "length") -/
def stringFixed (idx : Nat → Key) (lenKey : Key) (units : List Val) : Fixed :=
  ((List.range units.length).zip units).map (fun (i, u) => (idx i, u, true)) ++ [(lenKey, .num units.length, false)]


/-- the ordinary part of a step of an object that carries an `OState` inside its state -/
theorem ordPart {α σ : Type} {x : R α × σ} {r : R α} {s' : σ} (o : σ → OState) (h : x = (r, s')) :
    (x.1, o x.2) = (r, o s') := by rw [h]

-- state of an Array: the ordinary part, and `length` kept apart because ArraySetLength rewrites it
structure AState where
  o : OState            -- extensibility, prototype, every own property except `length`
  len : Nat
  lenW : Bool           -- `length` writable
  deriving DecidableEq, Repr

structure AEnv where
  E : Env
  lenKey : Key
  idxOf : Key → Option Nat          -- array index of a key (§6.1.7), none for non-index keys
  toLen : Val → Option Nat          -- ToUint32(v) if it equals ToNumber(v), none otherwise (RangeError)

def lenCur (s : AState) : Cur := .data (.num s.len) s.lenW false false

def lenOf (c : Cur) (s : AState) : Nat × Bool :=
  match c with
  | .data (.num n) w _ _ => (n.toNat, w)
  | .data _ w _ _ => (s.len, w)
  | .acc .. => (s.len, s.lenW)

-- a non-configurable element at index ≥ newLen: truncation cannot go below it (§10.4.2.4 step 17)
def isBlocker (A : AEnv) (newLen : Nat) (kc : Key × Cur) : Bool :=
  match A.idxOf kc.1 with
  | some i => decide (i ≥ newLen) && !kc.2.configurable
  | none => false

def maxBlocker (A : AEnv) (newLen : Nat) (props : List (Key × Cur)) : Option Nat :=
  (props.filter (isBlocker A newLen)).foldl (fun acc kc => match A.idxOf kc.1, acc with
    | some i, some m => some (max i m)
    | some i, none => some i
    | none, acc => acc) none

def dropFrom (A : AEnv) (bound : Nat) (props : List (Key × Cur)) : List (Key × Cur) :=
  props.filter (fun kc => match A.idxOf kc.1 with | some i => decide (i < bound) | none => true)

/-- §10.4.2.4 ArraySetLength, as validate + apply + truncate -/
def arrSetLength (A : AEnv) (d : PD) (s : AState) : R Bool × AState :=
  let dv : Option PD := match d.value with
    | none => some d
    | some v => (A.toLen v).map (fun n => { d with value := some (.num n) })      -- steps 3-6
  match dv with
  | none => (.typeError, s)                                                         -- RangeError (one throw kind in the model)
  | some d' =>
    if !specIsCompatible s.o.ext d' (some (lenCur s)) then (.ok false, s)           -- steps 11/12/15-16
    else
      let post := applyDesc d' (lenCur s)
      let (newLen, newW) := lenOf post s
      if newLen < s.len then
        match maxBlocker A newLen s.o.props with                                    -- step 17
        | some m => (.ok false, { o := { s.o with props := dropFrom A (m + 1) s.o.props }, len := m + 1, lenW := newW })
        | none => (.ok true, { o := { s.o with props := dropFrom A newLen s.o.props }, len := newLen, lenW := newW })
      else (.ok true, { s with len := newLen, lenW := newW })

def liftO {α : Type} (s : AState) (r : R α × OState) : R α × AState := (r.1, { s with o := r.2 })

/-- §10.4.2.1 [[DefineOwnProperty]] of an Array -/
def arrDefine (A : AEnv) (k : Key) (d : PD) (s : AState) : R Bool × AState :=
  if d.isAccessorDescriptor && d.isDataDescriptor then (.typeError, s)
  else if k = A.lenKey then arrSetLength A d s
  else match A.idxOf k with
    | some i =>
      if decide (i ≥ s.len) && !s.lenW then (.ok false, s)                          -- step 2.b
      else
        let r := (ordOps A.E).define k d s.o
        match r.1 with
        | .ok true => (.ok true, { s with o := r.2, len := max s.len (i + 1) })     -- step 2.e
        | _ => liftO s r
    | none => liftO s ((ordOps A.E).define k d s.o)

def arrOps (A : AEnv) : Ops AState where
  getProto := fun s => liftO s ((ordOps A.E).getProto s.o)
  setProto := fun p s => liftO s ((ordOps A.E).setProto p s.o)
  isExt := fun s => liftO s ((ordOps A.E).isExt s.o)
  prevExt := fun s => liftO s ((ordOps A.E).prevExt s.o)
  getOwn := fun k s => if k = A.lenKey then (.ok (some (lenCur s)), s) else liftO s ((ordOps A.E).getOwn k s.o)
  define := arrDefine A
  has := fun k s => if k = A.lenKey then (.ok true, s) else liftO s ((ordOps A.E).has k s.o)
  get := fun k rcv s => if k = A.lenKey then (.ok (.num s.len), s) else liftO s ((ordOps A.E).get k rcv s.o)
  set := fun k v rcv s =>                                                          -- OrdinarySet; creation goes through arrDefine
    if k = A.lenKey then
      if !s.lenW then (.ok false, s)
      else if rcv = .obj A.E.self then
        arrSetLength A { value := some v, writable := none, get := none, set := none, enumerable := none, configurable := none } s
      else (.ok true, s)
    else match oLookup s.o.props k, A.idxOf k with
      | none, some i =>
        match A.E.inhSet s.o.proto k v rcv with
        | some b => (.ok b, s)
        | none =>
          if rcv = .obj A.E.self then
            arrDefine A k { value := some v, writable := some true, get := none, set := none, enumerable := some true, configurable := some true } s
          else (.ok true, s)
      | _, _ => liftO s ((ordOps A.E).set k v rcv s.o)
  delete := fun k s => if k = A.lenKey then (.ok false, s) else liftO s ((ordOps A.E).delete k s.o)
  ownKeys := fun s => (.ok ((s.o.props.map (·.1) ++ [A.lenKey]).eraseDups), s)
  callable := false
  constructor := false
  call := fun _ _ s => (.typeError, s)
  construct := fun _ _ s => (.typeError, s)

def arrQueries (A : AEnv) : Queries AState where
  ext := fun s => s.o.ext
  own := fun k s => if k = A.lenKey then some (lenCur s) else oLookup s.o.props k
  proto := fun s => s.o.proto
  keys := fun s => (s.o.props.map (·.1) ++ [A.lenKey]).eraseDups

/-- admissible [[DefineOwnProperty]] inputs of an Array: a `length` descriptor's value, if present, is the canonical
uint32 number it converts to -/
def arrAdm (A : AEnv) : Key → PD → AState → Prop :=
  fun k d _ => k = A.lenKey → ∀ v, d.value = some v → ∃ n : Nat, v = .num n ∧ A.toLen v = some n


theorem compat_nonconfigurable_data (ext : Bool) (d : PD) (v : Val) (w e : Bool) :
    specIsCompatible ext d (some (.data v w e false)) =
      (!(d.configurable == some true) && !(d.enumerable.isSome && d.enumerable != some e) && !d.isAccessorDescriptor &&
        (w || (!(d.writable == some true) && !(d.value.isSome && d.value != some v)))) := by
  -- step 5.c against a data property, "not generic and of the other kind", says no more than "an accessor descriptor"
  -- (`hk`, with a = accessor, b = data); after that the chain of `if … then false` reads as one conjunction
  have hk : ∀ a b : Bool, (!(!a && !b) && (a != false)) = a := by decide
  simp only [specIsCompatible, Cur.configurable, Cur.enumerable, Cur.isAccessor, PD.isGenericDescriptor, hk,
    Bool.not_false, if_true, Bool.if_false_left, Bool.if_true_right, Bool.decide_eq_true, Bool.or_false, Bool.and_assoc]
  cases w <;> rfl

theorem length_post (d : PD) (ext : Bool) (n : Nat) (w : Bool)
    (hc : specIsCompatible ext d (some (.data (.num n) w false false)) = true) :
    applyDesc d (.data (.num n) w false false) = .data (d.value.getD (.num n)) (d.writable.getD w) false false := by
  simp only [compat_nonconfigurable_data, Bool.and_eq_true, Bool.not_eq_true'] at hc
  obtain ⟨⟨⟨hcf, he⟩, ha⟩, -⟩ := hc
  have hcf' : d.configurable.getD false = false := getD_ne.mp hcf
  rw [applyDesc, if_neg (by simp [ha]), getD_mismatch.mp he, hcf']

/-- §10.4.2.4 steps 3–6, the first thing `arrSetLength` does: the descriptor with its value converted to the number it
denotes; `none` is the RangeError -/
def lenDesc (A : AEnv) (d : PD) : Option PD :=
  match d.value with
  | none => some d
  | some v => (A.toLen v).map (fun n => { d with value := some (.num n) })

theorem arrSetLength_eq (A : AEnv) (d d' : PD) (s : AState) (n : Nat)
    (hd : lenDesc A d = some d')
    (hn : d'.value.getD (.num s.len) = .num n) :
    arrSetLength A d s =
      if !specIsCompatible s.o.ext d' (some (lenCur s)) then (.ok false, s)
      else if n < s.len then
        match maxBlocker A n s.o.props with
        | some m => (.ok false, { o := { s.o with props := dropFrom A (m + 1) s.o.props }, len := m + 1, lenW := d'.writable.getD s.lenW })
        | none => (.ok true, { o := { s.o with props := dropFrom A n s.o.props }, len := n, lenW := d'.writable.getD s.lenW })
      else (.ok true, { s with len := n, lenW := d'.writable.getD s.lenW }) := by
  unfold lenDesc at hd
  simp only [arrSetLength, hd]
  split
  · rfl
  · rename_i hc
    rw [lenCur, length_post d' s.o.ext s.len s.lenW (by simpa [lenCur] using hc), hn]
    simp only [lenOf, Int.toNat_natCast]
    rfl

theorem arrSetLength_outcome (A : AEnv) (d d' : PD) (s : AState) (n : Nat)
    (hd : lenDesc A d = some d')
    (hn : d'.value.getD (.num s.len) = .num n) :
    (arrSetLength A d s).1 = (if !specIsCompatible s.o.ext d' (some (lenCur s)) then .ok false
      else .ok (decide (n ≥ s.len) || (maxBlocker A n s.o.props).isNone)) ∧
    (arrSetLength A d s).2.lenW = (if !specIsCompatible s.o.ext d' (some (lenCur s)) then s.lenW
      else d'.writable.getD s.lenW) := by
  rw [arrSetLength_eq A d d' s n hd hn]
  split
  · exact ⟨rfl, rfl⟩
  · split
    · rename_i hlt
      have : decide (n ≥ s.len) = false := by simpa using hlt
      rw [this]
      cases maxBlocker A n s.o.props <;> exact ⟨rfl, rfl⟩
    · rename_i hge
      have : decide (n ≥ s.len) = true := by simpa using hge
      rw [this]
      exact ⟨rfl, rfl⟩

theorem arrSetLength_inv (A : AEnv) (d : PD) (hwf : d.WF) (s s' : AState)
    (hadm : ∀ v, d.value = some v → ∃ n : Nat, v = .num n ∧ A.toLen v = some n)
    (h : arrSetLength A d s = (.ok true, s')) :
    specDefineCheck (some (lenCur s')) s'.o.ext d = .ok () := by
  -- the canonicalised descriptor is the descriptor itself
  have hd' : lenDesc A d = some d := by
    unfold lenDesc
    cases hv : d.value with
    | none => rfl
    | some v =>
      obtain ⟨n, rfl, hn⟩ := hadm v hv
      simp only [hn]
      rcases d with ⟨dv, dw, dg, ds, de, dc⟩
      simp only at hv
      subst hv
      rfl
  obtain ⟨m, hm⟩ : ∃ m : Nat, d.value.getD (.num s.len) = .num m := by
    cases hv : d.value with
    | none => exact ⟨s.len, rfl⟩
    | some v => obtain ⟨n, rfl, _⟩ := hadm v hv; exact ⟨n, rfl⟩
  rw [arrSetLength_eq A d d s m hd' hm] at h
  split at h
  · simp at h
  · rename_i hcomp
    have hok := applyDesc_ok d hwf s.o.ext (lenCur s)
    rw [lenCur, length_post d s.o.ext s.len s.lenW (by simpa [lenCur] using hcomp), hm] at hok
    split at h
    · split at h
      · simp at h
      · injection h with _ h2
        subst h2
        exact hok
    · injection h with _ h2
      subst h2
      exact hok


theorem AState.eta (s : AState) : ({ s with o := s.o } : AState) = s := by cases s; rfl

theorem arr_own_ne (A : AEnv) {k : Key} (h : k ≠ A.lenKey) (s : AState) :
    (arrQueries A).own k s = oLookup s.o.props k := by simp [arrQueries, h]

theorem arrSetLength_value_lenW (A : AEnv) (v : Val) (s s' : AState) (hw : s.lenW = true)
    (h : arrSetLength A { value := some v, writable := none, get := none, set := none, enumerable := none, configurable := none } s
          = (.ok true, s')) : s'.lenW = true := by
  cases hn : A.toLen v with
  | none => simp [arrSetLength, hn] at h
  | some n =>
    -- a descriptor without `writable` leaves the writability as it was, validated or not
    have := (arrSetLength_outcome A ⟨some v, none, none, none, none, none⟩ _ s n (by simp only [lenDesc, hn]; rfl) rfl).2
    rw [h] at this
    simpa [hw] using this

theorem ord_define_absent (E : Env) (k : Key) (d : PD) (o o' : OState) (hl : oLookup o.props k = none)
    (h : (ordOps E).define k d o = (.ok true, o')) : oLookup o'.props k = some (createFrom d) := by
  simp only [ordOps, hl] at h
  split at h
  · simp at h
  · split at h
    · simp at h
    · injection h with _ h2; subst h2; simp [oLookup_upsert]

theorem arrDefine_ord {A : AEnv} {k : Key} {d : PD} {s s' : AState} (hk : k ≠ A.lenKey)
    (h : arrDefine A k d s = (.ok true, s')) : (ordOps A.E).define k d s.o = (.ok true, s'.o) := by
  simp only [arrDefine, if_neg hk] at h
  split at h
  · cases h
  · split at h
    · split at h
      · cases h
      · split at h
        · rename_i hr
          cases h
          exact Prod.ext hr rfl
        · rename_i hne
          exact (hne (congrArg Prod.fst h)).elim
    · exact ordPart AState.o h

theorem arr_lawfulOn (A : AEnv) : LawfulOn (arrAdm A) (arrQueries A) (arrOps A) where
  isExt_eq := fun _ => rfl
  getOwn_eq := by
    intro k s
    simp only [arrOps, arrQueries]
    split <;> rfl
  getProto_eq := fun _ => rfl
  ownKeys_eq := fun _ => rfl
  keys_nodup := fun _ => eraseDups_nodup _
  setProto_inv := fun p s s' h =>
    (ord_lawful A.E).setProto_inv p s.o s'.o (ordPart AState.o h)
  prevExt_inv := fun s s' h =>
    (ord_lawful A.E).prevExt_inv s.o s'.o (ordPart AState.o h)
  define_wf := by
    intro k d s hwf
    simp only [arrOps, arrDefine, PD.not_wf hwf, ↓reduceIte]
  has_inv := by
    intro k s s' h
    by_cases hk : k = A.lenKey
    · simp [arrOps, hk] at h
    · rw [arr_own_ne A hk]
      exact (ord_lawful A.E).has_inv k s.o s'.o (ordPart AState.o ((if_neg hk).symm.trans h))
  get_inv := by
    intro k r s v s' h
    by_cases hk : k = A.lenKey
    · simp only [arrOps, hk, if_true] at h
      injection h with h1 h2
      subst h2
      injection h1 with h1
      subst h1
      cases hw : s.lenW <;> simp [arrQueries, hk, lenCur, specGetCheck, hw]
    · rw [arr_own_ne A hk]
      exact (ord_lawful A.E).get_inv k r s.o v s'.o (ordPart AState.o ((if_neg hk).symm.trans h))
  set_inv := by
    intro k v r s s' h
    by_cases hk : k = A.lenKey
    · simp only [arrOps, hk, if_true] at h
      cases hw : s.lenW
      · simp [hw] at h
      · simp only [hw, Bool.not_true, Bool.false_eq_true, if_false] at h
        split at h
        · have := arrSetLength_value_lenW A v s s' hw h
          simp [arrQueries, hk, lenCur, specSetCheck, this]
        · injection h with _ h2; subst h2
          simp [arrQueries, hk, lenCur, specSetCheck, hw]
    · simp only [arrOps, hk, if_false] at h
      rw [arr_own_ne A hk]
      split at h
      · rename_i i hl hi
        split at h
        · injection h with _ h2; subst h2
          simp [hl, specSetCheck]
        · split at h
          · have := ord_define_absent A.E k _ s.o _ hl (arrDefine_ord hk h)
            simp [this, createFrom, PD.isAccessorDescriptor, specSetCheck]
          · injection h with _ h2; subst h2
            simp [hl, specSetCheck]
      · exact (ord_lawful A.E).set_inv k v r s.o s'.o (ordPart AState.o h)
  delete_inv := by
    intro k s s' h
    by_cases hk : k = A.lenKey
    · simp [arrOps, hk] at h
    · rw [arr_own_ne A hk]
      exact (ord_lawful A.E).delete_inv k s.o s'.o (ordPart AState.o ((if_neg hk).symm.trans h))
  call_nc := fun _ _ _ _ => rfl
  construct_nc := fun _ _ _ _ => rfl
  define_inv_on := by
    intro k d s s' hadm h
    by_cases hk : k = A.lenKey
    · simp only [arrOps, arrDefine] at h
      split at h
      · simp at h
      · rename_i hbad
        have := arrSetLength_inv A d (.of_not hbad) s s' (hadm hk) h
        simpa [arrQueries, hk] using this
    · rw [arr_own_ne A hk]
      exact (ord_lawful A.E).define_inv k d s.o s'.o (arrDefine_ord hk h)


structure TState where
  o : OState
  elems : List Val
  deriving DecidableEq, Repr

structure TEnv where
  E : Env
  numOf : Key → Option Nat        -- CanonicalNumericIndexString of the key as an integer index (none: not numeric)
  conv : Val → Val                -- the element type's conversion (ToNumber / ToBigInt, modulo, clamp)

def taElem (s : TState) (i : Nat) : Option Cur :=
  match s.elems[i]? with
  | some v => some (.data v true true true)
  | none => none

def liftT {α : Type} (s : TState) (r : R α × OState) : R α × TState := (r.1, { s with o := r.2 })

def taOps (T : TEnv) : Ops TState where
  getProto := fun s => liftT s ((ordOps T.E).getProto s.o)
  setProto := fun p s => liftT s ((ordOps T.E).setProto p s.o)
  isExt := fun s => liftT s ((ordOps T.E).isExt s.o)
  prevExt := fun s => liftT s ((ordOps T.E).prevExt s.o)
  getOwn := fun k s =>                                                     -- §10.4.5.1
    match T.numOf k with
    | some i => (.ok (taElem s i), s)
    | none => liftT s ((ordOps T.E).getOwn k s.o)
  define := fun k d s =>                                                   -- §10.4.5.3
    if d.isAccessorDescriptor && d.isDataDescriptor then (.typeError, s)
    else match T.numOf k with
      | some i =>
        if i ≥ s.elems.length then (.ok false, s)                          -- not a valid integer index
        else if d.configurable == some false then (.ok false, s)
        else if d.enumerable == some false then (.ok false, s)
        else if d.isAccessorDescriptor then (.ok false, s)
        else if d.writable == some false then (.ok false, s)
        else match d.value with
          | some v => (.ok true, { s with elems := s.elems.set i (T.conv v) })
          | none => (.ok true, s)
      | none => liftT s ((ordOps T.E).define k d s.o)
  has := fun k s =>                                                        -- §10.4.5.2
    match T.numOf k with
    | some i => (.ok (decide (i < s.elems.length)), s)
    | none => liftT s ((ordOps T.E).has k s.o)
  get := fun k rcv s =>                                                    -- §10.4.5.4
    match T.numOf k with
    | some i => (.ok (s.elems[i]?.getD .undef), s)
    | none => liftT s ((ordOps T.E).get k rcv s.o)
  set := fun k v rcv s =>                                                  -- §10.4.5.5
    match T.numOf k with
    | some i =>
      if rcv = .obj T.E.self then
        (.ok true, if i < s.elems.length then { s with elems := s.elems.set i (T.conv v) } else s)
      else if i < s.elems.length then (.ok true, s)     -- OrdinarySet with a foreign receiver: effects on the receiver
      else (.ok true, s)
    | none => liftT s ((ordOps T.E).set k v rcv s.o)
  delete := fun k s =>                                                     -- §10.4.5.6
    match T.numOf k with
    | some i => (.ok (decide (¬ i < s.elems.length)), s)
    | none => liftT s ((ordOps T.E).delete k s.o)
  ownKeys := fun s => (.ok ((s.o.props.map (·.1)).eraseDups), s)           -- (index keys are listed by the harness; here: the ordinary part)
  callable := false
  constructor := false
  call := fun _ _ s => (.typeError, s)
  construct := fun _ _ s => (.typeError, s)

def taQueries (T : TEnv) : Queries TState where
  ext := fun s => s.o.ext
  own := fun k s => match T.numOf k with
    | some i => taElem s i
    | none => oLookup s.o.props k
  proto := fun s => s.o.proto
  keys := fun s => (s.o.props.map (·.1)).eraseDups

theorem specDefineCheck_configurable (c : Cur) (ext : Bool) (d : PD) (hc : c.configurable = true)
    (hd : d.configurable ≠ some false) : specDefineCheck (some c) ext d = .ok () := by
  cases c <;> simp_all [specDefineCheck, specIsCompatible, Cur.configurable]

theorem ta_own_ord {T : TEnv} {k : Key} (hn : T.numOf k = none) (s : TState) :
    (taQueries T).own k s = oLookup s.o.props k := by simp [taQueries, hn]

theorem taOps_define_num {T : TEnv} {k : Key} {i : Nat} (hn : T.numOf k = some i) {d : PD} {s s' : TState}
    (h : (taOps T).define k d s = (.ok true, s')) :
    i < s.elems.length ∧ d.configurable ≠ some false ∧ s'.elems.length = s.elems.length := by
  simp only [taOps, hn] at h
  by_cases hw : (d.isAccessorDescriptor && d.isDataDescriptor) = true
  · rw [if_pos hw] at h; cases h
  rw [if_neg hw] at h
  by_cases hi : i ≥ s.elems.length
  · rw [if_pos hi] at h; cases h
  rw [if_neg hi] at h
  by_cases hc : (d.configurable == some false) = true
  · rw [if_pos hc] at h; cases h
  rw [if_neg hc] at h
  refine ⟨Nat.lt_of_not_le hi, by simpa using hc, ?_⟩
  -- every remaining exit leaves `s` or sets one element
  rw [← show _ = s'.elems.length from congrArg (·.2.elems.length) h]
  repeat' split
  all_goals simp

theorem ta_lawful (T : TEnv) : Lawful (taQueries T) (taOps T) where
  isExt_eq := fun _ => rfl
  getOwn_eq := by
    intro k s
    simp only [taOps, taQueries]
    cases T.numOf k <;> rfl
  getProto_eq := fun _ => rfl
  ownKeys_eq := fun _ => rfl
  keys_nodup := fun _ => eraseDups_nodup _
  setProto_inv := fun p s s' h =>
    (ord_lawful T.E).setProto_inv p s.o s'.o (ordPart TState.o h)
  prevExt_inv := fun s s' h =>
    (ord_lawful T.E).prevExt_inv s.o s'.o (ordPart TState.o h)
  define_wf := by
    intro k d s hwf
    simp only [taOps, PD.not_wf hwf, ↓reduceIte]
  define_inv := by
    intro k d s s' h
    cases hn : T.numOf k with
    | some i =>
      -- an element is configurable: only `configurable: false` could fail the check, and that was refused
      obtain ⟨hi, hc, hlen⟩ := taOps_define_num hn h
      obtain ⟨v, hv⟩ : ∃ v, s'.elems[i]? = some v := ⟨s'.elems[i]'(hlen ▸ hi), List.getElem?_eq_getElem _⟩
      have hown : (taQueries T).own k s' = some (.data v true true true) := by simp [taQueries, hn, taElem, hv]
      rw [hown]
      exact specDefineCheck_configurable _ _ d rfl hc
    | none =>
      simp only [taOps, hn] at h
      split at h
      · cases h
      · rw [ta_own_ord hn]
        exact (ord_lawful T.E).define_inv k d s.o s'.o (ordPart TState.o h)
  has_inv := by
    intro k s s' h
    simp only [taOps] at h
    cases hn : T.numOf k with
    | some i =>
      simp only [hn] at h
      injection h with h1 h2
      subst h2
      have : ¬ i < s.elems.length := by simpa using h1
      simp [taQueries, hn, taElem, List.getElem?_eq_none_iff.mpr (by omega : s.elems.length ≤ i), specHasCheck]
    | none =>
      simp only [hn] at h
      rw [ta_own_ord hn]
      exact (ord_lawful T.E).has_inv k s.o s'.o (ordPart TState.o h)
  get_inv := by
    intro k r s v s' h
    simp only [taOps] at h
    cases hn : T.numOf k with
    | some i =>
      simp only [hn] at h
      injection h with h1 h2
      subst h2
      simp only [taQueries, hn, taElem]
      cases s.elems[i]? <;> simp [specGetCheck]
    | none =>
      simp only [hn] at h
      rw [ta_own_ord hn]
      exact (ord_lawful T.E).get_inv k r s.o v s'.o (ordPart TState.o h)
  set_inv := by
    intro k v r s s' h
    simp only [taOps] at h
    cases hn : T.numOf k with
    | some i =>
      simp only [hn] at h
      simp only [taQueries, hn, taElem]
      cases s'.elems[i]? <;> simp [specSetCheck]
    | none =>
      simp only [hn] at h
      rw [ta_own_ord hn]
      exact (ord_lawful T.E).set_inv k v r s.o s'.o (ordPart TState.o h)
  delete_inv := by
    intro k s s' h
    simp only [taOps] at h
    cases hn : T.numOf k with
    | some i =>
      simp only [hn] at h
      injection h with h1 h2
      subst h2
      have : ¬ i < s.elems.length := by simpa using h1
      simp [taQueries, hn, taElem, List.getElem?_eq_none_iff.mpr (by omega : s.elems.length ≤ i), specDeleteCheck]
    | none =>
      simp only [hn] at h
      rw [ta_own_ord hn]
      exact (ord_lawful T.E).delete_inv k s.o s'.o (ordPart TState.o h)
  call_nc := fun _ _ _ _ => rfl
  construct_nc := fun _ _ _ _ => rfl


structure MState where
  o : OState
  map : List (Key × Nat)        -- [[ParameterMap]]: key ↦ parameter slot
  params : List Val             -- the current values of the formal parameters
  deriving DecidableEq, Repr

def mSlot (m : List (Key × Nat)) (k : Key) : Option Nat :=
  match m with
  | [] => none
  | (k', i) :: rest => if k' = k then some i else mSlot rest k

def mUnmap (m : List (Key × Nat)) (k : Key) : List (Key × Nat) :=
  match m with
  | [] => []
  | (k', i) :: rest => if k' = k then mUnmap rest k else (k', i) :: mUnmap rest k

theorem mSlot_unmap (m : List (Key × Nat)) (k : Key) : mSlot (mUnmap m k) k = none := by
  induction m with
  | nil => rfl
  | cons a rest ih =>
    obtain ⟨k', i⟩ := a
    by_cases h : k' = k <;> simp [mUnmap, mSlot, h, ih]

/-- the value a mapped key currently has (Get(map, P)).  A key counts as mapped only while its own property is a WRITABLE
data property and its slot exists: §10.4.4.2 removes the mapping as soon as the property becomes an accessor or
non-writable, and §10.4.4.5 when it is deleted, so reachable states never have other mapped keys. -/
def mVal (s : MState) (k : Key) : Option Val :=
  match oLookup s.o.props k with
  | some (.data _ true _ _) =>
    match mSlot s.map k with
    | some i => s.params[i]?
    | none => none
  | _ => none

def withValue (c : Cur) (v : Val) : Cur :=
  match c with
  | .data _ w e cf => .data v w e cf
  | a => a

/-- §10.4.4.1 [[GetOwnProperty]] -/
def argOwn (s : MState) (k : Key) : Option Cur :=
  match oLookup s.o.props k with
  | none => none
  | some c => match mVal s k with
    | some v => some (withValue c v)
    | none => some c

def liftM {α : Type} (s : MState) (r : R α × OState) : R α × MState := (r.1, { s with o := r.2 })

def argOps (E : Env) : Ops MState where
  getProto := fun s => liftM s ((ordOps E).getProto s.o)
  setProto := fun p s => liftM s ((ordOps E).setProto p s.o)
  isExt := fun s => liftM s ((ordOps E).isExt s.o)
  prevExt := fun s => liftM s ((ordOps E).prevExt s.o)
  getOwn := fun k s => (.ok (argOwn s k), s)
  define := fun k d s =>                                                   -- §10.4.4.2
    if d.isAccessorDescriptor && d.isDataDescriptor then (.typeError, s)
    else match mVal s k with
      | none => liftM s ((ordOps E).define k d s.o)
      | some mv =>
        -- step 3: a data descriptor without value that makes the property non-writable freezes the CURRENT mapped value
        let nd : PD := if d.isDataDescriptor && d.value.isNone && d.writable == some false then { d with value := some mv } else d
        let r := (ordOps E).define k nd s.o
        match r.1 with
        | .ok true =>
          if d.isAccessorDescriptor then (.ok true, { s with o := r.2, map := mUnmap s.map k })        -- 6.a
          else
            let params := match d.value, mSlot s.map k with                                             -- 6.b.i
              | some v, some i => s.params.set i v
              | _, _ => s.params
            if d.writable == some false then (.ok true, { o := r.2, map := mUnmap s.map k, params := params })  -- 6.b.ii
            else (.ok true, { o := r.2, map := s.map, params := params })
        | _ => liftM s r
  has := fun k s => liftM s ((ordOps E).has k s.o)
  get := fun k rcv s =>                                                    -- §10.4.4.3
    match mVal s k with
    | some v => (.ok v, s)
    | none => liftM s ((ordOps E).get k rcv s.o)
  set := fun k v rcv s =>                                                  -- §10.4.4.4
    let r := (ordOps E).set k v rcv s.o
    match mVal s k, mSlot s.map k with
    | some _, some i => if rcv = .obj E.self then (r.1, { o := r.2, map := s.map, params := s.params.set i v }) else liftM s r
    | _, _ => liftM s r
  delete := fun k s =>                                                     -- §10.4.4.5
    let r := (ordOps E).delete k s.o
    match r.1 with
    | .ok true => (.ok true, { s with o := r.2, map := mUnmap s.map k })
    | _ => liftM s r
  ownKeys := fun s => liftM s ((ordOps E).ownKeys s.o)
  callable := false
  constructor := false
  call := fun _ _ s => (.typeError, s)
  construct := fun _ _ s => (.typeError, s)

def argQueries : Queries MState where
  ext := fun s => s.o.ext
  own := fun k s => argOwn s k
  proto := fun s => s.o.proto
  keys := fun s => (s.o.props.map (·.1)).eraseDups

theorem defineCheck_withValue (x v : Val) (e cf ext : Bool) (d : PD) :
    specDefineCheck (some (.data v true e cf)) ext d = specDefineCheck (some (.data x true e cf)) ext d := by
  cases cf <;> rfl


theorem mVal_none_of_unmapped (s : MState) (k : Key) (h : mSlot s.map k = none) : mVal s k = none := by
  simp only [mVal, h]
  cases oLookup s.o.props k with
  | none => rfl
  | some c =>
    cases c with
    | acc g st e cf => rfl
    | data x w e cf => cases w <;> rfl

theorem argOwn_of_mVal_none (s : MState) (k : Key) (h : mVal s k = none) : argOwn s k = oLookup s.o.props k := by
  simp only [argOwn, h]
  cases oLookup s.o.props k <;> rfl

theorem argOwn_of_mVal_some (s : MState) (k : Key) {pv : Val} (hm : mVal s k = some pv) :
    ∃ x e cf, oLookup s.o.props k = some (.data x true e cf) ∧ argOwn s k = some (.data pv true e cf) := by
  have hm' := hm
  simp only [mVal] at hm'
  split at hm'
  · rename_i x e cf hl
    exact ⟨x, e, cf, hl, by simp [argOwn, hl, hm, withValue]⟩
  · cases hm'

/-- `P` does not look at the value of a writable data property — true of every §10.5 check, which compare values only
where the property is non-writable -/
def ValueBlind (P : Option Cur → Prop) : Prop := ∀ x v e cf, P (some (.data x true e cf)) → P (some (.data v true e cf))

theorem arg_transfer {P : Option Cur → Prop} (hP : ValueBlind P) (s : MState) (k : Key)
    (h : P (oLookup s.o.props k)) : P (argOwn s k) := by
  cases hm : mVal s k with
  | none => rw [argOwn_of_mVal_none s k hm]; exact h
  | some v =>
    obtain ⟨x, e, cf, hl, ha⟩ := argOwn_of_mVal_some s k hm
    rw [ha]; exact hP x v e cf (hl ▸ h)

theorem ValueBlind.has (ext : Bool) : ValueBlind (specHasCheck · ext = .ok ()) := fun _ _ _ _ h => h
theorem ValueBlind.delete (ext : Bool) : ValueBlind (specDeleteCheck true · ext false = .ok ()) := fun _ _ _ _ h => h
theorem ValueBlind.set (v : Val) : ValueBlind (specSetCheck · v = .ok ()) := fun _ _ _ _ h => h
theorem ValueBlind.get (v : Val) : ValueBlind (specGetCheck · v = .ok ()) := fun _ _ _ _ h => h
theorem ValueBlind.define (ext : Bool) (d : PD) : ValueBlind (specDefineCheck · ext d = .ok ()) :=
  fun x v e cf h => (defineCheck_withValue x v e cf ext d).trans h

theorem arg_lawful (E : Env) : Lawful argQueries (argOps E) where
  isExt_eq := fun _ => rfl
  getOwn_eq := fun _ _ => rfl
  getProto_eq := fun _ => rfl
  ownKeys_eq := fun _ => rfl
  keys_nodup := fun _ => eraseDups_nodup _
  setProto_inv := fun p s s' h =>
    (ord_lawful E).setProto_inv p s.o s'.o (ordPart MState.o h)
  prevExt_inv := fun s s' h =>
    (ord_lawful E).prevExt_inv s.o s'.o (ordPart MState.o h)
  define_wf := by
    intro k d s hwf
    simp only [argOps, PD.not_wf hwf, ↓reduceIte]
  has_inv := fun k s s' h =>
    arg_transfer (ValueBlind.has _) s' k ((ord_lawful E).has_inv k s.o s'.o (ordPart MState.o h))
  get_inv := by
    intro k r s v s' h
    simp only [argOps] at h
    cases hm : mVal s k with
    | some pv =>
      simp only [hm] at h
      injection h with h1 h2
      subst h2
      injection h1 with h1
      subst h1
      obtain ⟨_, e, cf, _, ha⟩ := argOwn_of_mVal_some s k hm
      simp [argQueries, ha, specGetCheck]
    | none =>
      simp only [hm] at h
      exact arg_transfer (ValueBlind.get v) s' k ((ord_lawful E).get_inv k r s.o v s'.o (ordPart MState.o h))
  set_inv := by
    intro k v r s s' h
    simp only [argOps] at h
    -- whatever happens to the parameter map, the ordinary part makes an ordinary [[Set]] step
    have : ((ordOps E).set k v r s.o) = (.ok true, s'.o) := by
      split at h
      · split at h <;> exact ordPart MState.o h
      · exact ordPart MState.o h
    exact arg_transfer (ValueBlind.set v) s' k ((ord_lawful E).set_inv k v r s.o s'.o this)
  delete_inv := by
    intro k s s' h
    simp only [argOps] at h
    split at h
    · rename_i hr
      injection h with _ h2
      subst h2
      exact arg_transfer (ValueBlind.delete _) _ k ((ord_lawful E).delete_inv k s.o _ (Prod.ext hr rfl))
    · rename_i hne
      exact (hne (congrArg Prod.fst h)).elim
  call_nc := fun _ _ _ _ => rfl
  construct_nc := fun _ _ _ _ => rfl
  define_inv := by
    intro k d s s' h
    simp only [argOps] at h
    by_cases hbad : (d.isAccessorDescriptor && d.isDataDescriptor) = true
    · simp [hbad] at h
    · simp only [if_neg hbad] at h
      cases hm : mVal s k with
      | none =>
        simp only [hm] at h
        exact arg_transfer (ValueBlind.define _ d) s' k ((ord_lawful E).define_inv k d s.o s'.o (ordPart MState.o h))
      | some mv =>
        simp only [hm] at h
        split at h
        · rename_i hr
          -- step 3's descriptor `nd` describes what the ordinary define left, hence so does `d`
          obtain ⟨c, hl, hdesc⟩ := ord_define_describes E k _ s.o _ (Prod.ext hr rfl)
          have hd : d.Describes c := by
            split at hdesc
            · rename_i hc
              simp only [Bool.and_eq_true, Option.isNone_iff_eq_none] at hc
              exact hdesc.drop_value hc.1.2
            · exact hdesc
          -- whether or not 6.a / 6.b.ii unmap the key, the ordinary part now holds `c`
          have hok : ∀ s'' : MState, s''.o = ((ordOps E).define k _ s.o).2 →
              specDefineCheck (argQueries.own k s'') (argQueries.ext s'') d = .ok () := fun s'' hs =>
            arg_transfer (ValueBlind.define _ d) s'' k (by rw [hs, hl]; exact hd.ok _)
          split at h
          · injection h with _ h2; subst h2; exact hok _ rfl
          · split at h <;> (injection h with _ h2; subst h2; exact hok _ rfl)
        · rename_i hne
          exact (hne (congrArg Prod.fst h)).elim
end GojaModel.C11
