/-
  C11 property theorems and the lemmas next to them.  The check counts every `theorem` here, lemmas included, as one
  obligation and audits its axioms.

  Naming: `X_eq_spec` = the mechanism function transcribed from proxy.go (tied to the source by Tie.lean)
  equals the ECMA-262 §10.5 function for ALL inputs: it rejects every trap result the spec rejects
  (soundness: a lying handler is caught) and accepts every result the spec accepts (completeness: an honest
  handler is never rejected).  `_prefix_witness` = a proved counter-example showing that the statement is false for the code as it was before a
  fix (the old variant is kept in Model.lean for this purpose only).
-/
import GojaModel.C11.Exotic

namespace GojaModel.C11

/-- proxy.go:922 `__isCompatibleDescriptor` IS §10.1.6.2 IsCompatiblePropertyDescriptor, for every extensibility,
every descriptor that passed ToPropertyDescriptor and every (well-formed) existing property. -/
theorem isCompatible_eq_spec (ext : Bool) (d : Desc) (cur : Option VProp)
    (hd : d.Valid) (hc : ∀ p, cur = some p → p.WF) :
    isCompatible ext d cur = specIsCompatible ext d.toPD (cur.map VProp.toCur) := by
  cases cur with
  | none => simp [isCompatible, specIsCompatible]
  | some p => simpa using isCompatible_some ext d p hd.not_both (hc p rfl)

def witnessDesc : Desc :=
  { value := none, writable := .notSet, configurable := .notSet, enumerable := .notSet,
    getter := some (.obj 1), setter := none }
def witnessProp : VProp :=
  { value := some (.num 1), writable := false, configurable := false, enumerable := false, accessor := false,
    getterFunc := none, setterFunc := none }

/-- REGRESSION (commit 7553bcd): the kind-mismatch branch as it was is NOT the spec function — `{get: f}` against a
non-configurable data property was reported compatible.  Reverting the commit makes `Tie.tie_isCompatible` fail. -/
theorem isCompatible_kindMismatch_prefix_witness :
    ¬ ∀ (ext : Bool) (d : Desc) (cur : Option VProp), d.Valid → (∀ p, cur = some p → p.WF) →
      isCompatibleKindPreFix ext d cur = specIsCompatible ext d.toPD (cur.map VProp.toCur) := by
  intro h
  have := h true witnessDesc (some witnessProp) (by decide) (by intro p hp; cases hp; decide)
  revert this
  decide

def witnessAccProp : VProp :=
  { value := none, writable := false, configurable := false, enumerable := false, accessor := true,
    getterFunc := some 1, setterFunc := none }

/-- REGRESSION (commit cc2cbee): the accessor branch as it was (inverted SameAs) is NOT the spec function: the
honest descriptor of a non-configurable accessor was rejected.  Reverting the commit makes `Tie.tie_isCompatible` fail. -/
theorem isCompatible_accessor_prefix_witness :
    ¬ ∀ (ext : Bool) (d : Desc) (cur : Option VProp), d.Valid → (∀ p, cur = some p → p.WF) →
      isCompatiblePreFix ext d cur = specIsCompatible ext d.toPD (cur.map VProp.toCur) := by
  intro h
  have := h true witnessDesc (some witnessAccProp) (by decide) (by intro p hp; cases hp; decide)
  revert this
  decide

/-- non-vacuity: the hypotheses of the theorems above hold for a concrete non-trivial input -/
example : witnessDesc.Valid ∧ witnessProp.WF ∧ witnessAccProp.WF := by decide

theorem propToValueProp_wf {prop : TProp} {td : VProp} (hp : prop.WF) (h : propToValueProp prop = some td) : td.WF := by
  cases prop with
  | absent => simp [propToValueProp] at h
  | plain v => simp [propToValueProp] at h; subst h; simp [VProp.WF]
  | vp p => simp [propToValueProp] at h; subst h; exact hp

/-- proxy.go:386 proxyDefineOwnPropertyPostCheck is the check of §10.5.6 steps 10–15 -/
theorem definePostCheck_eq_spec (prop : TProp) (ext : Bool) (d : Desc) (hd : d.Valid) (hp : prop.WF) :
    definePostCheckWith isCompatible prop ext d = specDefineCheck prop.toCur ext d.toPD := by
  simp only [definePostCheckWith, specDefineCheck, TProp.toCur]
  cases h : propToValueProp prop with
  | none => simp only [Option.map_none, Desc.toPD, Flag.toOpt_eq_false]
  | some td =>
    -- the same three tests on both sides: compatibility, `configurable: false`, `writable: false` on a writable
    -- non-configurable data property — which the mechanism recognises by `value != nil`
    have hw := propToValueProp_wf hp h
    simp only [Option.map_some, isCompatible_some ext d td hd.not_both hw, Desc.toPD, Flag.toOpt_eq_false]
    obtain ⟨v, cw, cc, ce, rfl⟩ | ⟨cc, ce, cg, cs, rfl⟩ := td.wf_shape hw
    · cases cw <;> cases cc <;> simp [VProp.toCur, Cur.configurable]
    · simp [VProp.toCur, Cur.configurable]

/-- §10.5.6 [[DefineOwnProperty]] (trap result, pre-check and post-check) -/
theorem define_eq_spec (prop : TProp) (ext : Bool) (d : Desc) (b thr : Bool) (hd : d.Valid) (hp : prop.WF) :
    mechDefine isCompatible prop ext d b thr = specDefine prop.toCur ext d.toPD b thr := by
  simp only [mechDefine, specDefine, definePostCheck_eq_spec prop ext d hd hp]

/-- REGRESSION (commit 7553bcd): with the old compatibility function a defineProperty trap that reports success for
`{get: f}` on a non-configurable data property was accepted -/
theorem define_kindMismatch_prefix_witness :
    ¬ ∀ (prop : TProp) (ext : Bool) (d : Desc) (b thr : Bool), d.Valid → prop.WF →
      mechDefine isCompatibleKindPreFix prop ext d b thr = specDefine prop.toCur ext d.toPD b thr := by
  intro h
  have := h (.vp witnessProp) true witnessDesc true false (by decide) (by decide)
  revert this
  decide

/-- proxy.go:450 proxyHasChecks is the check of §10.5.7 step 8 -/
theorem hasCheck_eq_spec (prop : TProp) (ext : Bool) : hasCheck prop ext = specHasCheck prop.toCur ext := by
  simp only [hasCheck, specHasCheck, TProp.toCur]
  cases propToValueProp prop with
  | none => rfl
  | some td =>
    rcases td with ⟨cv, cw, cc, ce, ca, cg, cs⟩
    cases ca <;> rfl

/-- after a truthy trap result, proxy.go:718 proxyDeleteCheck is proxyHasChecks, and so it is in the spec (§10.5.10 / §10.5.7) -/
theorem deleteCheck_true (prop : TProp) (ext thr : Bool) : deleteCheck true prop ext thr = hasCheck prop ext := by
  cases prop <;> rfl

theorem specDeleteCheck_true (c : Option Cur) (ext thr : Bool) : specDeleteCheck true c ext thr = specHasCheck c ext := by
  cases c <;> rfl

/-- §10.5.7 [[HasProperty]]: the tail after the trap call is the spec's, for every trap result -/
theorem has_eq_spec (prop : TProp) (ext b : Bool) :
    mechHas prop ext b = specHas prop.toCur ext b := by
  simp only [mechHas, specHas, hasCheck_eq_spec]
  cases b <;> rfl

/-- proxy.go:588 proxyGetChecks is the check of §10.5.8 step 10 -/
theorem getCheck_eq_spec (prop : TProp) (v : Val) (hp : prop.WF) : getCheck prop v = specGetCheck prop.toCur v := by
  simp only [getCheck, specGetCheck, TProp.toCur]
  rcases prop with _ | x | p
  · rfl
  · rfl
  · obtain ⟨x, cw, cc, ce, rfl⟩ | ⟨cc, ce, cg, cs, rfl⟩ := p.wf_shape hp
    · cases cc <;> cases cw <;> simp [asValueProperty, propToValueProp, VProp.toCur, sameAs]
    · cases cc <;> cases cg <;> simp [asValueProperty, propToValueProp, VProp.toCur]

/-- §10.5.8 [[Get]]: the tail after the trap call is the spec's, for every trap result -/
theorem get_eq_spec (prop : TProp) (v : Val) (hp : prop.WF) :
    mechGet prop v = specGet prop.toCur v := by
  simp only [mechGet, specGet, getCheck_eq_spec prop v hp]

/-- proxy.go:646 proxySetPostCheck is the check of §10.5.9 step 11 -/
theorem setPostCheck_eq_spec (prop : TProp) (v : Val) (hp : prop.WF) : setPostCheck prop v = specSetCheck prop.toCur v := by
  simp only [setPostCheck, specSetCheck, TProp.toCur]
  rcases prop with _ | x | p
  · rfl
  · rfl
  · obtain ⟨x, cw, cc, ce, rfl⟩ | ⟨cc, ce, cg, cs, rfl⟩ := p.wf_shape hp
    · cases cc <;> cases cw <;>
        simp [asValueProperty, propToValueProp, VProp.toCur, sameValueNil, sameAs, @eq_comm _ v x]
    · cases cc <;> cases cs <;> simp [asValueProperty, propToValueProp, VProp.toCur]

/-- §10.5.9 [[Set]]: the tail after the trap call is the spec's, for every trap result -/
theorem set_eq_spec (prop : TProp) (v : Val) (b thr : Bool) (hp : prop.WF) :
    mechSet prop v b thr = specSet prop.toCur v b thr := by
  simp only [mechSet, specSet, setPostCheck_eq_spec prop v hp]

/-- §10.5.10 [[Delete]]: the tail after the trap call is the spec's, for every trap result -/
theorem delete_eq_spec (prop : TProp) (ext b thr : Bool) :
    mechDelete prop ext b thr = specDelete prop.toCur ext b thr := by
  cases b
  · cases thr <;> rfl
  · simp only [mechDelete, specDelete, deleteCheck_true, specDeleteCheck_true, hasCheck_eq_spec]

/-- §10.5.1 [[GetPrototypeOf]]: proxy.go:302 `proto()` after the trap is steps 7–13 -/
theorem getProto_eq_spec (ext : Bool) (tp : Option Nat) (v : Val) :
    mechGetProto ext tp (some v) = specGetProto ext tp v := by
  cases v <;> cases ext <;> simp [mechGetProto, specGetProto, toObject?, sameObj] <;> grind

/-- §10.5.2 [[SetPrototypeOf]]: proxy.go:318 after the trap is steps 8–14 -/
theorem setProto_eq_spec (ext : Bool) (tp v : Option Nat) (b thr : Bool) :
    mechSetProto ext tp v b thr = specSetProto ext tp v b thr := by
  cases b <;> cases ext <;> cases thr <;> simp [mechSetProto, specSetProto, sameObj] <;> split <;> simp_all

/-- §10.5.3 [[IsExtensible]]: the trap's answer must be the target's -/
theorem isExtensible_eq_spec (ext b : Bool) : mechIsExtensible ext b = specIsExtensible ext b := by
  cases b <;> cases ext <;> simp [mechIsExtensible, specIsExtensible]

/-- §10.5.4 [[PreventExtensions]]: success is accepted only for a target that is non-extensible afterwards -/
theorem preventExtensions_eq_spec (ext b thr : Bool) :
    mechPreventExtensions ext b thr = specPreventExtensions ext b thr := by
  cases b <;> cases ext <;> cases thr <;> simp [mechPreventExtensions, specPreventExtensions]

/-- §10.5.13 [[Construct]]: the trap result is accepted iff it is an object -/
theorem construct_eq_spec (v : Val) : mechConstruct v = specConstruct v := by
  cases v <;> rfl

/-- §10.5.11 [[OwnPropertyKeys]]: the mechanism equals the spec for every extensibility, every duplicate-free list of
target keys with their configurability, and every trap result -/
theorem ownKeys_eq_spec (ext : Bool) (tk : List (Key × Bool)) (items : List KItem) (hT : (tk.map (·.1)).Nodup) :
    mechOwnKeys ext tk items = specOwnKeys ext tk items := by
  simp only [mechOwnKeys, ownKeysWith, specOwnKeys, loop1_char items [] []]
  cases keysOfItems items with
  | none => rfl
  | some ks =>
    simp only [List.not_mem_nil, not_false_eq_true, implies_true, and_true, List.nil_append, List.append_nil,
      loop2_char ext tk _ hT, specOwnKeysAccept_iff ext tk (List.reverse_perm ks)]
    by_cases hnd : ks.Nodup <;> by_cases hok : okCond ext tk ks.reverse <;>
      simp only [hnd, hok, if_true, if_false, true_and, false_and]
    -- both loops passed; the tail (proxy.go:829) refuses a key left over from a non-extensible target, and its test on
    -- `keyList` adds nothing: a key left over is one of the trap's keys
    cases ext
    · by_cases hs : strike tk ks.reverse = []
      · simp [ownKeysFinish, hs]
      · obtain ⟨x, hx⟩ := List.exists_mem_of_ne_nil _ hs
        have : ks ≠ [] := fun e => by
          rw [mem_strike tk ((List.reverse_perm ks).nodup_iff.mpr hnd), e] at hx; simp at hx
        simp [ownKeysFinish, hs, List.length_pos_iff.mpr this, List.length_pos_iff.mpr hs]
    · simp [ownKeysFinish]

theorem keysOfItems_map_key (ks : List Key) : keysOfItems (ks.map KItem.key) = some ks := by
  induction ks with
  | nil => rfl
  | cons k rest ih => simp [keysOfItems, ih]

/-- COMPLETENESS of [[OwnPropertyKeys]]: every trap result the spec admits — any duplicate-free key list that contains
the target's non-configurable keys and, for a non-extensible target, is a permutation of its keys — is accepted
unchanged (not only the target's own list in its own order). -/
theorem ownKeys_complete (ext : Bool) (tk : List (Key × Bool)) (ks : List Key) (hT : (tk.map (·.1)).Nodup)
    (h : specOwnKeysAccept ext tk ks = true) : mechOwnKeys ext tk (ks.map KItem.key) = .ok ks := by
  rw [ownKeys_eq_spec ext tk _ hT]
  simp [specOwnKeys, keysOfItems_map_key, h]

/-- §10.5.11 [[OwnPropertyKeys]], completeness for the honest answer: the target's own duplicate-free key list is
accepted unchanged whatever the extensibility (used by `layer_ownKeys`). -/
theorem ownKeys_honest_accepted (ext : Bool) (ks : List Key) (h : ks.Nodup) :
    mechOwnKeys ext (ks.map (fun k => (k, true))) (ks.map KItem.key) = .ok ks := by
  have hm : (ks.map fun k => (k, true)).map (·.1) = ks := by simp [List.map_map, Function.comp_def]
  refine ownKeys_complete ext _ ks (by rw [hm]; exact h) ?_
  simp [specOwnKeysAccept, h]

/-- SOUNDNESS of [[OwnPropertyKeys]]: whatever the mechanism accepts is a list of property keys the spec admits -/
theorem ownKeys_sound (ext : Bool) (tk : List (Key × Bool)) (items : List KItem) (ks : List Key)
    (hT : (tk.map (·.1)).Nodup) (h : mechOwnKeys ext tk items = .ok ks) :
    keysOfItems items = some ks ∧ specOwnKeysAccept ext tk ks = true := by
  rw [ownKeys_eq_spec ext tk items hT] at h
  simp only [specOwnKeys] at h
  cases hk : keysOfItems items with
  | none => simp [hk] at h
  | some ks' =>
    simp only [hk] at h
    split at h
    · rename_i hacc
      injection h with h; subst h
      exact ⟨rfl, hacc⟩
    · simp at h

/-- §10.5.11 soundness, first loop: a trap result with an element that is neither String nor Symbol is rejected (by the
mechanism and by the spec) -/
theorem ownKeys_rejects_invalid (ext : Bool) (tk : List (Key × Bool)) (pre post : List KItem) :
    mechOwnKeys ext tk (pre ++ KItem.invalid :: post) = .typeError ∧
    specOwnKeys ext tk (pre ++ KItem.invalid :: post) = .typeError := by
  have : keysOfItems (pre ++ KItem.invalid :: post) = none := by
    induction pre with
    | nil => simp [keysOfItems]
    | cons a rest ih => cases a <;> simp [keysOfItems, ih]
  exact ⟨by simp only [mechOwnKeys, ownKeysWith, loop1_char, this], by simp only [specOwnKeys, this]⟩

/-- the condition of §10.5.5 step 9, §10.5.7 step 8 and §10.5.10 step 11 for reporting a property absent -/
theorem specHasCheck_ok {c : Option Cur} {ext : Bool} (h : specHasCheck c ext = .ok ()) :
    c = none ∨ ∃ c', c = some c' ∧ c'.configurable = true ∧ ext = true := by
  cases c with
  | none => exact .inl rfl
  | some c' =>
    refine .inr ⟨c', rfl, ?_⟩
    simp only [specHasCheck] at h
    cases hcf : c'.configurable <;> cases ext <;> simp_all

theorem specGopd_undef (c : Option Cur) (ext : Bool) :
    specGopd c ext .undef = match specHasCheck c ext with | .ok _ => .ok none | .typeError => .typeError := by
  cases c with
  | none => rfl
  | some td => simp only [specGopd, specHasCheck]; cases td.configurable <;> cases ext <;> rfl

/-- proxy.go:521-531 makes the tests of proxyHasChecks (:450) on a trap that answers `undefined` -/
theorem gopdCheckWith_undef (compat : CompatFn) (tvp : Desc → VProp) (prop : TProp) (ext : Bool) :
    gopdCheckWith compat tvp prop ext .undef =
      match hasCheck prop ext with | .ok _ => .ok .absent | .typeError => .typeError := by
  simp only [gopdCheckWith, hasCheck]
  cases propToValueProp prop with
  | none => rfl
  | some td => cases h : td.configurable <;> cases ext <;> simp [h]

theorem specGopd_exact (c : Cur) (ext : Bool) : specGopd (some c) ext (.desc c.toPD) = .ok (some c) := by
  cases c with
  | data v w e cf =>
    cases w <;> cases cf <;>
      simp [Cur.toPD, specGopd, PD.complete, PD.isGenericDescriptor, PD.isDataDescriptor, PD.isAccessorDescriptor,
        specIsCompatible, Cur.configurable, Cur.enumerable, Cur.isAccessor, PD.toCur]
  | acc g s e cf =>
    cases cf <;>
      simp [Cur.toPD, specGopd, PD.complete, PD.isGenericDescriptor, PD.isDataDescriptor, PD.isAccessorDescriptor,
        specIsCompatible, Cur.configurable, Cur.enumerable, Cur.isAccessor, PD.toCur]

/-- §10.5.5 [[GetOwnProperty]], the branch where the trap returned undefined or a non-object: sound and complete -/
theorem gopd_undefined_eq_spec (compat : CompatFn) (tvp : Desc → VProp) (prop : TProp) (ext : Bool) (trap : TrapDesc)
    (ht : trap = .undef ∨ trap = .nonObject) :
    (match mechGopd compat tvp prop ext trap with | .ok r => Out.ok r.toCur | .typeError => .typeError) =
      specGopd prop.toCur ext trap.toSpec := by
  rcases ht with rfl | rfl
  · simp only [mechGopd, TrapDesc.toSpec, gopdCheckWith_undef, specGopd_undef, hasCheck_eq_spec]
    cases specHasCheck prop.toCur ext <;> rfl
  · rfl

/-- §10.5.5 [[GetOwnProperty]]: for every existing property, every
extensibility and every trap result, the mechanism's outcome — TypeError, undefined, or the reported property — is
the spec's -/
theorem gopd_eq_spec (prop : TProp) (ext : Bool) (trap : TrapDesc)
    (ht : ∀ d, trap = .obj d → d.Valid) (hp : prop.WF) :
    (match mechGopd isCompatible toValueProp prop ext trap with
      | .ok r => Out.ok r.toCur
      | .typeError => .typeError) = specGopd prop.toCur ext trap.toSpec := by
  cases trap with
  | undef => exact gopd_undefined_eq_spec isCompatible toValueProp prop ext .undef (Or.inl rfl)
  | nonObject => exact gopd_undefined_eq_spec isCompatible toValueProp prop ext .nonObject (Or.inr rfl)
  | obj d =>
    have hd := ht d rfl
    have e1 := complete_toPD d hd
    have e2 := gopdTail_toCur d hd
    rw [← e1] at e2
    simp only [mechGopd, hd.wellFormed, Bool.not_true, Bool.false_eq_true, if_false, specGopd, TrapDesc.toSpec, ← e1]
    have hwf : ∀ p, propToValueProp prop = some p → p.WF := fun p hp' => propToValueProp_wf hp hp'
    rw [gopdCheckWith_obj, isCompatible_eq_spec ext d.complete (propToValueProp prop) (complete_valid d hd) hwf]
    -- `delta`: the decidability instances of the spec side mention `prop.toCur` as well
    delta TProp.toCur at e2 ⊢
    have hc : (d.complete.toPD.configurable == some false) = (d.complete.configurable == .fals) := Flag.toOpt_eq_false _
    have hw : (d.complete.toPD.writable == some false) = (d.complete.writable == .fals) := Flag.toOpt_eq_false _
    rw [hc, hw]
    -- what is left is the `configurable: false` / `writable: false` tail (proxy.go:540-558, §10.5.5 steps 15–17): a
    -- well-formed target property fixes the shape, after which both sides are tables over these two tests on the completed
    -- descriptor and the target's two flags
    generalize specIsCompatible ext d.complete.toPD _ = b
    generalize gopdTail toValueProp d = T at e2 ⊢
    generalize d.complete = R at e2 ⊢
    generalize propToValueProp prop = td at hwf ⊢
    cases b
    · simp
    · cases hc : (R.configurable == Flag.fals) <;> cases hw : (R.writable == Flag.fals) <;> cases td with
      | none => simp [e2]
      | some p =>
        obtain ⟨v, cw, cc, ce, rfl⟩ | ⟨cc, ce, cg, cs, rfl⟩ := p.wf_shape (hwf p rfl)
        · cases cc <;> cases cw <;> simp [e2, VProp.toCur, Cur.configurable]
        · cases cc <;> simp [e2, VProp.toCur, Cur.configurable]

/-- §10.5.5, completeness for the honest answer (any existing property, any extensibility): the exact descriptor of the
property is accepted, and the reported property is the target's (used by `layer_getOwn`). -/
theorem gopd_honest_accepted (c : Cur) (ext : Bool) :
    ∃ r, gopdCheckWith isCompatible toValueProp c.toTProp ext (.obj c.toDesc) = .ok r ∧ r.toCur = some c := by
  -- the mechanism is the spec (`gopd_eq_spec`), and the spec accepts the exact descriptor (`specGopd_exact`)
  rw [Cur.toDesc_eq]
  have hv := PD.toDesc_valid _ (Cur.toPD_wf c)
  have h := gopd_eq_spec c.toTProp ext (.obj c.toPD.toDesc) (fun d hd => by cases hd; exact hv) (Cur.toTProp_wf c)
  simp only [mechGopd, hv.wellFormed, Bool.not_true, Bool.false_eq_true, if_false, Cur.toTProp_toCur, TrapDesc.toSpec,
    PD.toDesc_toPD, specGopd_exact] at h
  cases hm : gopdCheckWith isCompatible toValueProp c.toTProp ext (.obj c.toPD.toDesc) with
  | typeError => rw [hm] at h; cases h
  | ok r => rw [hm] at h; exact ⟨r, rfl, by injection h⟩

/-- REGRESSION (commit 43d21ca, builtin_object.go:156): with the old toValueProp the honest descriptor of an accessor
property that has neither a getter nor a setter function did not come back as that property -/
theorem gopd_accessor_prefix_witness :
    ¬ ∀ (c : Cur) (ext : Bool), ∃ r, gopdCheckWith isCompatible toValuePropPreFix c.toTProp ext (.obj c.toDesc) = .ok r ∧
        r.toCur = some c := by
  intro h
  obtain ⟨r, hr, hc⟩ := h (.acc none none true true) true
  revert hr hc
  simp [gopdCheckWith, Cur.toTProp, Cur.toDesc, Desc.complete, isCompatible, propToValueProp, Flag.ofBool,
    toValuePropPreFix, toValuePropWith, asObj]
  intro hr
  subst hr
  simp [TProp.toCur, propToValueProp, VProp.toCur]

/-! ## forwarding transparency

`Lawful q T` (Forward.lean): the four query methods of `T` are total and pure, and every other internal
method leaves a state against which its own result passes the §10.5 check — the essential invariants of
§6.1.7.3.  `proxyLayer compat tvp logf T` (Model.lean): a Proxy over `T` whose handler forwards every trap
to Reflect (= the internal method of `T`), built from the mechanism checks of proxy.go.  Trap logging is switched
off (`logf = fun _ s => s`): the log is instrumentation, compared with the implementation by the lock-step
correspondence, not part of what the property calls observable. -/

section
variable {σ : Type} {q : Queries σ} {T : Ops σ}

local notation "L" => proxyLayer isCompatible toValueProp (fun (_ : Trap) (s : σ) => s)

theorem layer_getProto (h : LawfulCore q T) : (L T).getProto = T.getProto := by
  funext s
  show bindR (T.getProto s) _ = _
  simp only [h.getProto_eq, h.isExt_eq, bindR_ok]
  cases q.ext s
  · cases q.proto s <;> simp [mechGetProto, toObject?, sameObj]
  · simp

theorem layer_setProto (h : LawfulCore q T) : (L T).setProto = T.setProto := by
  funext p s
  show bindR (T.setProto p s) _ = _
  rcases hr : T.setProto p s with ⟨r, s'⟩
  cases r with
  | typeError => simp
  | ok b =>
    cases b
    · simp
    · simp only [bindR_ok, if_true, h.isExt_eq, h.getProto_eq]
      rcases h.setProto_inv p s s' hr with he | hp
      · simp [he]
      · cases q.ext s' <;> simp [mechSetProto, sameObj, hp]

theorem layer_isExt (h : LawfulCore q T) : (L T).isExt = T.isExt := by
  funext s
  show bindR (T.isExt s) _ = _
  simp only [h.isExt_eq, bindR_ok]
  cases q.ext s <;> simp [mechIsExtensible]

theorem layer_prevExt (h : LawfulCore q T) : (L T).prevExt = T.prevExt := by
  funext s
  show bindR (T.prevExt s) _ = _
  rcases hr : T.prevExt s with ⟨r, s'⟩
  cases r with
  | typeError => simp
  | ok b =>
    cases b
    · simp
    · simp [h.isExt_eq, h.prevExt_inv s s' hr, mechPreventExtensions]

theorem layer_getOwn (h : LawfulCore q T) : (L T).getOwn = T.getOwn := by
  funext k s
  show bindR (T.getOwn k s) _ = _
  simp only [h.getOwn_eq, h.isExt_eq, bindR_ok]
  cases hc : q.own k s with
  | none => simp [gopdCheckWith, optCurToTProp, propToValueProp, TProp.toOptCur, TProp.toCur]
  | some c =>
    obtain ⟨r, hr, hrc⟩ := gopd_honest_accepted c (q.ext s)
    simp [optCurToTProp, hr, TProp.toOptCur, hrc]

theorem layer_define_at (h : LawfulCore q T) (k : Key) (d : PD) (s : σ)
    (hinv : ∀ s', T.define k d s = (.ok true, s') → specDefineCheck (q.own k s') (q.ext s') d = .ok ()) :
    (L T).define k d s = T.define k d s := by
  show bindR (T.define k d s) _ = _
  by_cases hwf : d.WF
  · rcases hr : T.define k d s with ⟨r, s'⟩
    cases r with
    | typeError => simp
    | ok b =>
      cases b
      · simp
      · simp only [bindR_ok, h.getOwn_eq, h.isExt_eq]
        rw [definePostCheck_eq_spec _ _ _ (PD.toDesc_valid d hwf) (optCur_wf _), optCur_toCur, PD.toDesc_toPD, hinv s' hr]
        rfl
  · simp [h.define_wf k d s hwf]

theorem layer_define (h : Lawful q T) : (L T).define = T.define := by
  funext k d s
  exact layer_define_at h.toLawfulCore k d s (fun s' hr => h.define_inv k d s s' hr)

/-- the has / delete post-check as the layer runs it — `isExtensible` is consulted only for a configurable property —
passes when the spec's check does -/
theorem hasCheck_run {α : Type} (h : LawfulCore q T) (c : Option Cur) (a : α) (s : σ) :
    specHasCheck c (q.ext s) = .ok () →
    (if (match c with | some td => td.configurable | none => false) = true then
        bindR (T.isExt s) fun ext s => chk (hasCheck (optCurToTProp c) ext) a s
      else chk (hasCheck (optCurToTProp c) true) a s) = (.ok a, s) := by
  intro hs
  rw [h.isExt_eq, bindR_ok]
  rcases c with _ | td
  · rfl
  · cases hcf : td.configurable
    · simp [specHasCheck, hcf] at hs
    · rw [if_pos hcf, hasCheck_eq_spec, optCur_toCur, hs]; rfl

theorem layer_has (h : LawfulCore q T) : (L T).has = T.has := by
  funext k s
  show bindR (T.has k s) _ = _
  rcases hr : T.has k s with ⟨r, s'⟩
  rcases r with (_ | _) | _
  · simp only [bindR_ok, h.getOwn_eq]
    exact hasCheck_run h _ false s' (h.has_inv k s s' hr)
  · rfl
  · rfl

theorem layer_get (h : LawfulCore q T) : (L T).get = T.get := by
  funext k rcv s
  show bindR (T.get k rcv s) _ = _
  rcases hr : T.get k rcv s with ⟨r, s'⟩
  cases r with
  | typeError => rfl
  | ok v =>
    simp only [bindR_ok, h.getOwn_eq]
    rw [getCheck_eq_spec _ _ (optCur_wf _), optCur_toCur, h.get_inv k rcv s v s' hr]
    rfl

theorem layer_set (h : LawfulCore q T) : (L T).set = T.set := by
  funext k v rcv s
  show bindR (T.set k v rcv s) _ = _
  rcases hr : T.set k v rcv s with ⟨r, s'⟩
  rcases r with (_ | _) | _
  · rfl
  · simp only [bindR_ok, h.getOwn_eq]
    rw [setPostCheck_eq_spec _ _ (optCur_wf _), optCur_toCur, h.set_inv k v rcv s s' hr]
    rfl
  · rfl

theorem layer_delete (h : LawfulCore q T) : (L T).delete = T.delete := by
  funext k s
  show bindR (T.delete k s) _ = _
  rcases hr : T.delete k s with ⟨r, s'⟩
  rcases r with (_ | _) | _
  · simp [h.getOwn_eq, deleteCheck]
  · simp only [bindR_ok, h.getOwn_eq, Bool.true_and, deleteCheck_true]
    exact hasCheck_run h _ true s' (by rw [← specDeleteCheck_true _ _ false]; exact h.delete_inv k s s' hr)
  · rfl

theorem layer_ownKeys (h : LawfulCore q T) : (L T).ownKeys = T.ownKeys := by
  funext s
  show bindR (T.ownKeys s) _ = _
  simp only [h.ownKeys_eq, h.isExt_eq, bindR_ok, ownKeys_honest_accepted (q.ext s) (q.keys s) (h.keys_nodup s)]

theorem layer_call (h : LawfulCore q T) : (L T).call = T.call := by
  funext this args s
  show (if _ then _ else _) = _
  cases hc : T.callable
  · simp [h.call_nc hc]
  · simp [bindR_pure]

theorem layer_construct (h : LawfulCore q T) : (L T).construct = T.construct := by
  funext args nt s
  show (if _ then _ else _) = _
  cases hc : T.constructor
  · simp [h.construct_nc hc]
  · simp only [Bool.not_true, Bool.false_eq_true, if_false]
    rcases T.construct args nt s with ⟨r, s'⟩
    cases r <;> rfl

theorem layer_but_define (h : LawfulCore q T) : L T = { T with define := (L T).define } :=
  Ops.ext' (layer_getProto h) (layer_setProto h) (layer_isExt h) (layer_prevExt h) (layer_getOwn h) rfl (layer_has h)
    (layer_get h) (layer_set h) (layer_delete h) (layer_ownKeys h) rfl rfl (layer_call h) (layer_construct h)

/-- FORWARDING TRANSPARENCY, one layer: over a lawful object, the forwarding proxy's internal methods — the eleven
invariant-carrying ones, [[Call]], [[Construct]] — and its callability flags (typeof, IsCallable, IsConstructor)
are the object's own — same result (value, boolean, descriptor, key list or TypeError) and same resulting
state, for every argument and every state. -/
theorem forwarding_transparent (h : Lawful q T) : L T = T := by
  rw [layer_but_define h.toLawfulCore, layer_define h]  -- leaves `{ T with define := T.define } = T`

/-- forwarding transparency for any number of nested layers -/
theorem forwarding_transparent_layers (h : Lawful q T) (n : Nat) :
    stack isCompatible toValueProp (fun _ _ s => s) T n = T := by
  induction n with
  | zero => rfl
  | succ n ih => simp only [stack, ih]; exact forwarding_transparent h

/-- forwarding transparency for whole operation histories: the observations and the final state of any history applied to
`n` forwarding layers are those of the history applied to the target -/
theorem forwarding_transparent_histories (h : Lawful q T) (n : Nat) (ops : List Op) (s : σ) :
    (stack isCompatible toValueProp (fun _ _ s => s) T n).runAll ops s = T.runAll ops s := by
  rw [forwarding_transparent_layers h n]

/-- a proxy layer over a lawful object is lawful again (with the same queries): the invariants are preserved,
so proxies may be used as targets -/
theorem forwarding_lawful (h : Lawful q T) : Lawful q (L T) := by
  rw [forwarding_transparent h]; exact h

def Op.adm {σ : Type} (adm : Key → PD → σ → Prop) : Op → σ → Prop
  | .define k d, s => adm k d s
  | _, _ => True

/-- every operation of the history is admissible in the state the TARGET is in when it is applied -/
def admHist {σ : Type} (T : Ops σ) (adm : Key → PD → σ → Prop) : List Op → σ → Prop
  | [], _ => True
  | op :: rest, s => op.adm adm s ∧ admHist T adm rest (T.run op s).2

variable {adm : Key → PD → σ → Prop}

theorem layer_run_on (h : LawfulOn adm q T) (op : Op) (s : σ) (ha : op.adm adm s) : (L T).run op s = T.run op s := by
  rw [layer_but_define h.toLawfulCore]
  cases op with
  | define k d =>
    simp only [Ops.run, layer_define_at h.toLawfulCore k d s (fun s' hr => h.define_inv_on k d s s' ha hr)]
  | _ => rfl

theorem lawfulOn_layer (h : LawfulOn adm q T) : LawfulOn adm q (L T) := by
  have c := h.toLawfulCore
  rw [layer_but_define c]
  -- the other fields speak of methods the layer has from `T`
  exact { c with
    define_wf := fun k d s hwf => by
      show (L T).define k d s = _
      rw [layer_define_at c k d s (fun s' hr => by rw [c.define_wf k d s hwf] at hr; cases hr)]
      exact c.define_wf k d s hwf
    define_inv_on := fun k d s s' ha hr => by
      have hd := layer_define_at c k d s (fun s' hr => h.define_inv_on k d s s' ha hr)
      exact h.define_inv_on k d s s' ha (hd ▸ hr) }

theorem lawfulOn_stack (h : LawfulOn adm q T) (n : Nat) :
    LawfulOn adm q (stack isCompatible toValueProp (fun _ _ s => s) T n) := by
  induction n with
  | zero => exact h
  | succ n ih => exact lawfulOn_layer ih

theorem forwarding_transparent_on (h : LawfulOn adm q T) (n : Nat) (op : Op) (s : σ) (ha : op.adm adm s) :
    (stack isCompatible toValueProp (fun _ _ s => s) T n).run op s = T.run op s := by
  induction n with
  | zero => rfl
  | succ n ih => rw [stack, layer_run_on (lawfulOn_stack h n) op s ha, ih]

theorem forwarding_transparent_on_histories (h : LawfulOn adm q T) (n : Nat) (ops : List Op) :
    ∀ (s : σ), admHist T adm ops s →
      (stack isCompatible toValueProp (fun _ _ s => s) T n).runAll ops s = T.runAll ops s := by
  induction ops with
  | nil => intro s _; rfl
  | cons op rest ih =>
    intro s ha
    simp only [Ops.runAll, forwarding_transparent_on h n op s ha.1]
    rw [ih _ ha.2]

end

/-- REVOKED: every internal method of a revoked proxy throws TypeError — the eleven, [[Call]] and [[Construct]] —
whatever the operation, the state and the (former) target; the state is untouched.  (`typeof` is not an internal
method call: it reads the [[Call]] slot fixed at creation and never throws.) -/
theorem revoked_throws_all {σ : Type} (compat : CompatFn) (tvp : Desc → VProp) (logf : Trap → σ → σ) (T : Ops σ)
    (op : Op) (s : σ) (hop : op ≠ .typeof) :
    ((proxyObj compat tvp logf T true).run op s).1.isTypeError = true ∧
    ((proxyObj compat tvp logf T true).run op s).2 = s := by
  cases op <;> simp [proxyObj, revokedOps, Ops.run, Obs.isTypeError] at hop ⊢

/-- a history of internal-method calls on a revoked proxy is a list of TypeErrors -/
theorem revoked_history_all_throw {σ : Type} (compat : CompatFn) (tvp : Desc → VProp) (logf : Trap → σ → σ) (T : Ops σ)
    (ops : List Op) (hops : ∀ op ∈ ops, op ≠ .typeof) (s : σ) :
    ∀ o ∈ ((proxyObj compat tvp logf T true).runAll ops s).1, o.isTypeError = true := by
  induction ops generalizing s with
  | nil => simp [Ops.runAll]
  | cons op rest ih =>
    intro o ho
    have hop : op ≠ .typeof := hops op (by simp)
    simp only [Ops.runAll, List.mem_cons] at ho
    rcases ho with ho | ho
    · rw [ho]; exact (revoked_throws_all compat tvp logf T op s hop).1
    · rw [(revoked_throws_all compat tvp logf T op s hop).2] at ho
      exact ih (fun op' h' => hops op' (by simp [h'])) s o ho

/-- typeof / IsCallable / IsConstructor of a proxy are those of its target, also after revocation (proxy.go:55-60, :1065) -/
theorem callable_forwarded {σ : Type} (compat : CompatFn) (tvp : Desc → VProp) (logf : Trap → σ → σ) (T : Ops σ) (revoked : Bool) :
    (proxyObj compat tvp logf T revoked).callable = T.callable ∧
    (proxyObj compat tvp logf T revoked).constructor = T.constructor := by
  cases revoked <;> exact ⟨rfl, rfl⟩

/-- typeof / IsCallable / IsConstructor are the target's through any number of proxy layers -/
theorem callable_forwarded_layers {σ : Type} (compat : CompatFn) (tvp : Desc → VProp) (logf : Nat → Trap → σ → σ) (T : Ops σ) (n : Nat) :
    (stack compat tvp logf T n).callable = T.callable ∧ (stack compat tvp logf T n).constructor = T.constructor := by
  induction n with
  | zero => exact ⟨rfl, rfl⟩
  | succ n ih => exact ih

/-- non-vacuity of `Lawful` and of the forwarding theorems: an object with two frozen data properties, mutable
prototype and extensibility is lawful, hence three forwarding layers over it are transparent for every history -/
example (ops : List Op) (s : FState) :
    (stack isCompatible toValueProp (fun _ _ s => s) (frozenOps [(.str 1, .num 7), (.sym 1, .undef)]) 3).runAll ops s =
      (frozenOps [(.str 1, .num 7), (.sym 1, .undef)]).runAll ops s :=
  forwarding_transparent_histories (frozen_lawful _) 3 ops s


/-! ## the enforced invariants, as a user of ANY proxy sees them

The `…_eq_spec` theorems say the checks are the spec's checks.  The theorems below spell out what that buys for an
ARBITRARY handler (the trap result is universally quantified): whenever the proxy operation completes normally, its result
is consistent with the facts the target guarantees — the list of "invariants enforced" in the NOTEs of ECMA-262 §10.5.1 –
§10.5.11 — on the mechanism functions transcribed from proxy.go. -/

/-- [[GetPrototypeOf]]: for a non-extensible target the proxy reports the target's prototype -/
theorem inv_getPrototypeOf (tp : Option Nat) (v : Val) (r : Option Nat)
    (h : mechGetProto false tp (some v) = .ok r) : r = tp := by
  rw [getProto_eq_spec] at h
  cases v <;> simp [specGetProto] at h <;> (try split at h) <;> simp_all

/-- [[SetPrototypeOf]]: success on a non-extensible target only for the target's own prototype -/
theorem inv_setPrototypeOf (tp p : Option Nat) (b thr : Bool)
    (h : mechSetProto false tp p b thr = .ok true) : p = tp := by
  rw [setProto_eq_spec] at h
  cases b <;> cases thr <;> simp [specSetProto] at h <;> (try split at h) <;> simp_all

/-- [[IsExtensible]]: the proxy reports the target's extensibility -/
theorem inv_isExtensible (ext b r : Bool) (h : mechIsExtensible ext b = .ok r) : r = ext := by
  cases ext <;> cases b <;> simp [mechIsExtensible] at h <;> simp_all

/-- [[PreventExtensions]]: reported success means the target is non-extensible -/
theorem inv_preventExtensions (ext b thr : Bool) (h : mechPreventExtensions ext b thr = .ok true) : ext = false := by
  cases ext <;> cases b <;> cases thr <;> simp [mechPreventExtensions] at h <;> rfl

/-- [[HasProperty]]: a property cannot be reported absent if it is non-configurable, or if it exists and the target is
non-extensible -/
theorem inv_has (prop : TProp) (ext b : Bool) (h : mechHas prop ext b = .ok false) :
    prop.toCur = none ∨ (∃ c, prop.toCur = some c ∧ c.configurable = true ∧ ext = true) := by
  rw [has_eq_spec] at h
  cases b
  · apply specHasCheck_ok
    simp only [specHas] at h
    cases hc : specHasCheck prop.toCur ext <;> simp_all
  · simp [specHas] at h

/-- [[Get]]: the value of a non-writable, non-configurable data property is reported exactly; a non-configurable accessor
without getter reads as undefined -/
theorem inv_get (prop : TProp) (hp : prop.WF) (v r : Val) (h : mechGet prop v = .ok r) :
    (∀ x e, prop.toCur = some (.data x false e false) → r = x) ∧
    (∀ s e, prop.toCur = some (.acc none s e false) → r = .undef) := by
  rw [get_eq_spec prop v hp] at h
  constructor
  · intro x e hc
    simp only [specGet, hc, specGetCheck] at h
    split at h <;> simp_all
  · intro s e hc
    simp only [specGet, hc, specGetCheck] at h
    split at h <;> simp_all

/-- [[Set]]: success cannot be reported for a different value of a non-writable, non-configurable data property, nor for
a non-configurable accessor without setter -/
theorem inv_set (prop : TProp) (hp : prop.WF) (v : Val) (b thr : Bool) (h : mechSet prop v b thr = .ok true) :
    (∀ x e, prop.toCur = some (.data x false e false) → v = x) ∧
    (∀ g e, prop.toCur ≠ some (.acc g none e false)) := by
  rw [set_eq_spec prop v b thr hp] at h
  cases b
  · cases thr <;> simp [specSet] at h
  · constructor
    · intro x e hc
      simp only [specSet, hc, specSetCheck] at h
      by_cases hv : v = x
      · exact hv
      · simp [hv] at h
    · intro g e hc
      simp [specSet, hc, specSetCheck] at h

/-- [[Delete]]: success cannot be reported for a non-configurable property, nor for an existing property of a
non-extensible target -/
theorem inv_delete (prop : TProp) (ext b thr : Bool) (h : mechDelete prop ext b thr = .ok true) :
    prop.toCur = none ∨ (∃ c, prop.toCur = some c ∧ c.configurable = true ∧ ext = true) := by
  cases b
  · cases thr <;> simp [mechDelete, deleteCheck] at h
  · -- a successful delete passed the check a negative has passes
    refine inv_has prop ext false ?_
    simp only [mechDelete, deleteCheck_true] at h
    simp only [mechHas]
    cases hh : hasCheck prop ext <;> simp_all

/-- [[DefineOwnProperty]]: a property cannot be added to a non-extensible target, and cannot be made (or reported)
non-configurable unless a non-configurable property exists on the target -/
theorem inv_define (prop : TProp) (hp : prop.WF) (ext : Bool) (d : Desc) (hd : d.Valid) (b thr : Bool)
    (h : mechDefine isCompatible prop ext d b thr = .ok true) :
    (ext = false → prop.toCur ≠ none) ∧
    (d.configurable = .fals → ∃ c, prop.toCur = some c ∧ c.configurable = false) := by
  rw [define_eq_spec prop ext d b thr hd hp] at h
  cases b
  · cases thr <;> simp [specDefine] at h
  · simp only [specDefine, specDefineCheck] at h
    cases hc : prop.toCur with
    | none =>
      simp only [hc] at h
      constructor
      · intro he; subst he; simp at h
      · intro hcf
        cases ext <;> simp_all [Desc.toPD, Flag.toOpt]
    | some c =>
      simp only [hc] at h
      refine ⟨fun _ => by simp, ?_⟩
      intro hcf
      refine ⟨c, rfl, ?_⟩
      cases hcc : c.configurable
      · rfl
      · exfalso
        have hscf : (d.toPD.configurable == some false) = true := by simp [Desc.toPD, hcf, Flag.toOpt]
        simp only [Bool.not_true, Bool.false_eq_true, if_false, hscf, hcc, Bool.and_self, if_true] at h
        cases hcomp : specIsCompatible ext d.toPD (some c) <;> simp [hcomp] at h

/-- [[GetOwnProperty]], arbitrary handler: a non-configurable property cannot be reported absent, nor an existing one on a
non-extensible target; a property absent from a non-extensible target is reported absent; a property cannot be reported
non-configurable unless the target has it non-configurable -/
theorem inv_getOwnProperty (prop : TProp) (hp : prop.WF) (ext : Bool) (trap : TrapDesc)
    (ht : ∀ d, trap = .obj d → d.Valid) (r : TProp) (h : mechGopd isCompatible toValueProp prop ext trap = .ok r) :
    (r.toCur = none → prop.toCur = none ∨ ∃ c, prop.toCur = some c ∧ c.configurable = true ∧ ext = true) ∧
    (prop.toCur = none → ext = false → r.toCur = none) ∧
    (∀ c', r.toCur = some c' → c'.configurable = false → ∃ c, prop.toCur = some c ∧ c.configurable = false) := by
  have hs := gopd_eq_spec prop ext trap ht hp
  rw [h] at hs
  simp only at hs
  cases trap with
  | nonObject => simp [specGopd, TrapDesc.toSpec] at hs
  | undef =>
    -- reporting the property absent passed the check a negative has passes
    rw [TrapDesc.toSpec, specGopd_undef] at hs
    cases hk : specHasCheck prop.toCur ext with
    | typeError => rw [hk] at hs; cases hs
    | ok u =>
      rw [hk] at hs
      injection hs with hs
      exact ⟨fun _ => specHasCheck_ok hk, fun _ _ => hs, fun c' hc' _ => by rw [hs] at hc'; cases hc'⟩
  | obj d =>
    simp only [TrapDesc.toSpec] at hs
    obtain ⟨hr, hcomp, hnc⟩ := specGopd_desc_result prop.toCur ext d.toPD r.toCur hs.symm
    refine ⟨(fun hn => by rw [hn] at hr; cases hr), ?_, ?_⟩
    · intro hn he
      rw [hn, he] at hcomp
      simp [specIsCompatible] at hcomp
    · intro c' hc' hcf'
      rw [hr] at hc'
      injection hc' with hc'
      exact hnc (hc' ▸ hcf')

/-- [[OwnPropertyKeys]]: the result has no duplicates, contains every non-configurable own key of the target, and for a
non-extensible target is exactly the target's key set -/
theorem inv_ownKeys (ext : Bool) (tk : List (Key × Bool)) (items : List KItem) (ks : List Key)
    (hT : (tk.map (·.1)).Nodup) (h : mechOwnKeys ext tk items = .ok ks) :
    ks.Nodup ∧ (∀ kc ∈ tk, kc.2 = false → kc.1 ∈ ks) ∧
    (ext = false → (∀ kc ∈ tk, kc.1 ∈ ks) ∧ ∀ k ∈ ks, k ∈ tk.map (·.1)) := by
  have := (ownKeys_sound ext tk items ks hT h).2
  simp only [specOwnKeysAccept, decide_eq_true_eq] at this
  exact ⟨this.1, fun kc hkc hf => this.2.1 kc hkc hf, fun he => ⟨(this.2.2 he).1, (this.2.2 he).2⟩⟩

/-- the ordinary object (§10.1; Ordinary.lean `ordOps`: mutable own properties with full
ValidateAndApplyPropertyDescriptor, prototype, extensibility; prototype chain and getter/setter calls as opaque pure
oracles) satisfies the essential invariants -/
theorem ordObj_lawful (E : Env) : Lawful ordQueries (ordOps E) := ord_lawful E

theorem forwarding_transparent_ordinary (E : Env) (n : Nat) (ops : List Op) (s : OState) :
    (stack isCompatible toValueProp (fun _ _ s => s) (ordOps E) n).runAll ops s = (ordOps E).runAll ops s :=
  forwarding_transparent_histories (ordObj_lawful E) n ops s

def demoEnv : Env :=
  { self := 1, inhHas := fun _ _ => false, inhGet := fun _ _ _ => .undef, inhSet := fun _ _ _ _ => none,
    callGetter := fun _ _ => .num 1, cyc := fun _ => false, callable := true, constructor := true,
    callF := fun _ args s => (.ok (args.headD .undef), s), consF := fun _ _ s => (.ok 9, s) }

/-- non-vacuity, and the model really mutates: through two forwarding layers, define a non-configurable
property, fail to delete it, redefine it incompatibly (refused), read it, prevent extensions, fail to add -/
example :
    ((stack isCompatible toValueProp (fun _ _ s => s) (ordOps demoEnv) 2).runAll
      [.define (.str 1) { value := some (.num 7), writable := some false, get := none, set := none,
                          enumerable := some true, configurable := some false },
       .delete (.str 1),
       .define (.str 1) { value := some (.num 8), writable := none, get := none, set := none, enumerable := none, configurable := none },
       .get (.str 1) (.obj 1), .prevExt, .set (.str 2) (.num 1) (.obj 1), .ownKeys]
      { ext := true, proto := none, props := [] }).1 =
    [.bool (.ok true), .bool (.ok false), .bool (.ok false), .val (.ok (.num 7)), .bool (.ok true), .bool (.ok false),
     .keys (.ok [.str 1])] := by
  rw [forwarding_transparent_ordinary]
  decide


/-- typeof / call / construct through two layers over a function object -/
example :
    ((stack isCompatible toValueProp (fun _ _ s => s) (ordOps demoEnv) 2).runAll
      [.typeof, .call .undef [.num 5], .construct [] (.obj 1)] { ext := true, proto := none, props := [] }).1 =
    [.kind true true, .val (.ok (.num 5)), .obj (.ok 9)] := by
  rw [forwarding_transparent_ordinary]
  decide

/-- the String wrapper, and any ordinary object extended by a fixed block of non-writable, non-configurable data
properties synthesised by an exotic [[GetOwnProperty]] (§10.4.3), is lawful -/
theorem string_wrapper_lawful (E : Env) (fx : Fixed) : Lawful (fixedQueries fx) (fixedOps E fx) := fixed_lawful E fx

/-- n forwarding layers over `new String(units)` are transparent for every history -/
theorem forwarding_transparent_string (E : Env) (idx : Nat → Key) (lenKey : Key) (units : List Val) (n : Nat)
    (ops : List Op) (s : OState) :
    (stack isCompatible toValueProp (fun _ _ s => s) (fixedOps E (stringFixed idx lenKey units)) n).runAll ops s =
      (fixedOps E (stringFixed idx lenKey units)).runAll ops s :=
  forwarding_transparent_histories (string_wrapper_lawful E _) n ops s

/-- a function object is an ordinary object with [[Call]] / [[Construct]] (`Env.callable`, `Env.constructor`): n layers
over it forward `typeof`, calls and constructions as well as the eleven other methods -/
theorem forwarding_transparent_function (E : Env) (n : Nat) (ops : List Op) (s : OState) :
    (stack isCompatible toValueProp (fun _ _ s => s) (ordOps E) n).runAll ops s = (ordOps E).runAll ops s ∧
    (stack isCompatible toValueProp (fun _ _ s => s) (ordOps E) n).callable = E.callable ∧
    (stack isCompatible toValueProp (fun _ _ s => s) (ordOps E) n).constructor = E.constructor :=
  ⟨forwarding_transparent_ordinary E n ops s,
    callable_forwarded_layers isCompatible toValueProp (fun (_ : Nat) (_ : Trap) (s : OState) => s) (ordOps E) n⟩

/-- the Integer-Indexed exotic object (typed array, §10.4.5: element block addressed by numeric keys, stored values
converted, out-of-range numeric keys inexistent) is lawful -/
theorem typedarray_lawful (T : TEnv) : Lawful (taQueries T) (taOps T) := ta_lawful T

theorem forwarding_transparent_typedarray (T : TEnv) (n : Nat) (ops : List Op) (s : TState) :
    (stack isCompatible toValueProp (fun _ _ s => s) (taOps T) n).runAll ops s = (taOps T).runAll ops s :=
  forwarding_transparent_histories (typedarray_lawful T) n ops s

/-- the mapped arguments exotic object (§10.4.4: index properties aliased to the formal parameters through the parameter
map, unmapped by accessor / non-writable redefinition and by delete) is lawful; a strict (unmapped) arguments object is an
ordinary object (`ordObj_lawful`) -/
theorem arguments_lawful (E : Env) : Lawful argQueries (argOps E) := arg_lawful E

theorem forwarding_transparent_arguments (E : Env) (n : Nat) (ops : List Op) (s : MState) :
    (stack isCompatible toValueProp (fun _ _ s => s) (argOps E) n).runAll ops s = (argOps E).runAll ops s :=
  forwarding_transparent_histories (arguments_lawful E) n ops s

/-- through two layers over `arguments` of f(a=10, b=20): read the mapped value, write it (the parameter changes),
redefine index 0 non-writable (mapping removed, value frozen), fail to write, delete index 1 -/
example :
    ((stack isCompatible toValueProp (fun _ _ s => s) (argOps demoEnv) 2).runAll
      [.get (.str 1) (.obj 1), .set (.str 1) (.num 11) (.obj 1), .get (.str 1) (.obj 1),
       .define (.str 1) { value := none, writable := some false, get := none, set := none, enumerable := none, configurable := none },
       .set (.str 1) (.num 12) (.obj 1), .getOwn (.str 1), .delete (.str 2), .has (.str 2)]
      { o := { ext := true, proto := none, props := [(.str 1, .data (.num 10) true true true), (.str 2, .data (.num 20) true true true)] },
        map := [(.str 1, 0), (.str 2, 1)], params := [.num 10, .num 20] }).1 =
    [.val (.ok (.num 10)), .bool (.ok true), .val (.ok (.num 11)), .bool (.ok true), .bool (.ok false),
     .desc (.ok (some (.data (.num 11) false true true))), .bool (.ok true), .bool (.ok false)] := by
  rw [forwarding_transparent_arguments]
  decide

/-- the Array exotic object (§10.4.2: ArraySetLength with conversion and truncation, index definitions bumping `length`)
is lawful on its admissible inputs: `length` descriptors whose value is already the canonical uint32 number -/
theorem array_lawfulOn (A : AEnv) : LawfulOn (arrAdm A) (arrQueries A) (arrOps A) := arr_lawfulOn A

/-- n forwarding layers over an array are transparent for every history whose `length` definitions are canonical -/
theorem forwarding_transparent_array (A : AEnv) (n : Nat) (ops : List Op) (s : AState)
    (ha : admHist (arrOps A) (arrAdm A) ops s) :
    (stack isCompatible toValueProp (fun _ _ s => s) (arrOps A) n).runAll ops s = (arrOps A).runAll ops s :=
  forwarding_transparent_on_histories (array_lawfulOn A) n ops s ha

def demoArr : AEnv :=
  { E := demoEnv, lenKey := .str 0, idxOf := fun k => match k with | .str (n + 1) => some n | _ => none,
    toLen := fun v => match v with
      | .num n => if 0 ≤ n then some n.toNat else none
      | .str 33 => some 3                     -- the string "3": ToUint32("3") = ToNumber("3") = 3
      | _ => none }

/-- SPEC-MANDATED NON-TRANSPARENCY (why `LawfulOn` and not `Lawful` for arrays): defining `length` with a value that
ArraySetLength CONVERTS (here the string "3") together with `writable: false` succeeds on the array but leaves
`length = 3`, which is not SameValue to "3": the essential invariant phrased through §10.5.6 fails, and by §10.5.6 step
16.a a forwarding proxy throws TypeError where the array answers true. -/
theorem arr_noncanonical_length_witness : ¬ Lawful (arrQueries demoArr) (arrOps demoArr) := by
  intro h
  have := h.define_inv (.str 0)
    { value := some (.str 33), writable := some false, get := none, set := none, enumerable := none, configurable := none }
    { o := { ext := true, proto := none, props := [] }, len := 5, lenW := true }
    { o := { ext := true, proto := none, props := [] }, len := 3, lenW := false } (by decide)
  revert this
  decide

/-- an admissible history on an array through two layers — define index 4 (length becomes 5), shrink `length` to
2 with a non-configurable element at index 3 in the way (fails, stops at 4), freeze `length`, fail to append -/
example :
    ((stack isCompatible toValueProp (fun _ _ s => s) (arrOps demoArr) 2).runAll
      [.define (.str 5) { value := some (.num 7), writable := some true, get := none, set := none, enumerable := some true, configurable := some true },
       .define (.str 4) { value := some (.num 8), writable := some true, get := none, set := none, enumerable := some true, configurable := some false },
       .get (.str 0) .undef,
       .define (.str 0) { value := some (.num 2), writable := none, get := none, set := none, enumerable := none, configurable := none },
       .get (.str 0) .undef,
       .define (.str 0) { value := none, writable := some false, get := none, set := none, enumerable := none, configurable := none },
       .set (.str 9) (.num 1) (.obj 1)]
      { o := { ext := true, proto := none, props := [] }, len := 0, lenW := true }).1 =
    [.bool (.ok true), .bool (.ok true), .val (.ok (.num 5)), .bool (.ok false), .val (.ok (.num 4)), .bool (.ok true),
     .bool (.ok false)] := by
  rw [forwarding_transparent_array demoArr 2 _ _ (by simp [admHist, Op.adm, arrAdm, demoArr])]
  decide

/-! ## forwarding transparency WITH trap logging

The theorems above switch the trap log off.  Here every layer `i` appends `(i, trap)` to a log kept next to the base
state (`logAt`), as the instrumented handlers of the lock-step correspondence do (Seq.lean runs `stack` over a
scripted base whose whole state is the log, with its own appending function).  Two independent halves: the log is invisible — a logging layer over `A` behaves as the PLAIN
layer over `B` whenever `A` behaves as `B` (`SimLog`), which asks nothing of `B` and so is stated for every input of
[[DefineOwnProperty]]; and n plain layers over a lawful object are that object (`forwarding_transparent_on_histories`). -/

def SimC {α β : Type} (x : R α × (β × TLog)) (y : R α × β) : Prop := ∃ l', x = (y.1, (y.2, l'))

theorem SimC.ret {α β : Type} (r : R α) (b : β) (l : TLog) : SimC (r, (b, l)) (r, b) := ⟨l, rfl⟩

theorem SimC.run {α β : Type} {x : R α × (β × TLog)} {y : R α × β} (h : SimC x y) (f : R α → Obs) :
    f x.1 = f y.1 ∧ x.2.1 = y.2 := by
  obtain ⟨l, rfl⟩ := h
  exact ⟨rfl, rfl⟩

theorem SimC.chk {α β : Type} (c : Out Unit) (a : α) (b : β) (l : TLog) : SimC (chk c a (b, l)) (chk c a b) := by
  rcases c with ⟨⟨⟩⟩ | _ <;> exact ⟨l, rfl⟩

theorem SimC.bind {α γ β : Type} {x : R α × (β × TLog)} {y : R α × β} {f : α → β × TLog → R γ × (β × TLog)}
    {g : α → β → R γ × β} (hx : SimC x y) (hf : ∀ a b l, SimC (f a (b, l)) (g a b)) : SimC (bindR x f) (bindR y g) := by
  obtain ⟨l', rfl⟩ := hx
  rcases y with ⟨r, b⟩
  cases r with
  | typeError => exact ⟨l', rfl⟩
  | ok a => exact hf a b l'

theorem SimC.ite {α β : Type} {c : Prop} [Decidable c] {x x' : R α × (β × TLog)} {y y' : R α × β}
    (h1 : c → SimC x y) (h2 : ¬ c → SimC x' y') : SimC (if c then x else x') (if c then y else y') := by
  split
  · exact h1 ‹_›
  · exact h2 ‹_›

section logged
variable {β : Type} {q : Queries β} {B : Ops β} {A : Ops (β × TLog)} {adm : Key → PD → β → Prop}

theorem simLog_layer (compat : CompatFn) (tvp : Desc → VProp) (hs : SimLog (fun _ _ _ => True) A B) (i : Nat) :
    SimLog (fun _ _ _ => True) (proxyLayer compat tvp (logAt i) A) (proxyLayer compat tvp (fun _ s => s) B) where
  getProto := fun b l =>
    SimC.bind (hs.getProto b _) fun v b l => SimC.bind (hs.isExt b l) fun e b l =>
      .ite (fun _ => .ret ..) fun _ => SimC.bind (hs.getProto b l) fun tp b l => by split <;> exact .ret ..
  setProto := fun p b l =>
    SimC.bind (hs.setProto p b _) fun r b l => .ite (fun _ =>
      SimC.bind (hs.isExt b l) fun e b l => .ite (fun _ => .ret ..) fun _ => SimC.bind (hs.getProto b l) fun tp b l => by
        split <;> exact .ret ..) fun _ => .ret ..
  isExt := fun b l =>
    SimC.bind (hs.isExt b _) fun r b l => SimC.bind (hs.isExt b l) fun te b l => by split <;> exact .ret ..
  prevExt := fun b l =>
    SimC.bind (hs.prevExt b _) fun r b l => .ite (fun _ => .ret ..) fun _ => SimC.bind (hs.isExt b l) fun te b l => by
      split <;> exact .ret ..
  getOwn := fun k b l => by
    simp only [proxyLayer, logAt]
    refine SimC.bind (hs.getOwn k b _) fun r b l => SimC.bind (hs.getOwn k b l) fun tp b l =>
      .ite (fun _ => SimC.bind (hs.isExt b l) fun e b l => ?_) fun _ => ?_
    all_goals split <;> exact .ret ..
  define := fun k d b l _ =>
    SimC.bind (hs.define k d b _ trivial) fun r b l => .ite (fun _ => .ret ..) fun _ =>
      SimC.bind (hs.getOwn k b l) fun tp b l => SimC.bind (hs.isExt b l) fun e b l => .chk ..
  has := fun k b l =>
    SimC.bind (hs.has k b _) fun r b l => .ite (fun _ => .ret ..) fun _ =>
      SimC.bind (hs.getOwn k b l) fun tp b l =>
        .ite (fun _ => SimC.bind (hs.isExt b l) fun e b l => .chk ..) fun _ => .chk ..
  get := fun k rcv b l =>
    SimC.bind (hs.get k rcv b _) fun v b l => SimC.bind (hs.getOwn k b l) fun tp b l => .chk ..
  set := fun k v rcv b l =>
    SimC.bind (hs.set k v rcv b _) fun r b l => .ite (fun _ => .ret ..) fun _ =>
      SimC.bind (hs.getOwn k b l) fun tp b l => .chk ..
  delete := fun k b l =>
    SimC.bind (hs.delete k b _) fun r b l => SimC.bind (hs.getOwn k b l) fun tp b l =>
      .ite (fun _ => SimC.bind (hs.isExt b l) fun e b l => .chk ..) fun _ => .chk ..
  ownKeys := fun b l =>
    SimC.bind (hs.ownKeys b _) fun ks b l => SimC.bind (hs.isExt b l) fun e b l =>
      SimC.bind (hs.ownKeys b l) fun tk b l => by split <;> exact .ret ..
  callable := hs.callable
  constructor := hs.constructor
  call := fun this args b l => by
    show SimC (if _ then _ else _) (if _ then _ else _)
    rw [hs.callable]
    exact SimC.ite (fun _ => .ret ..) fun _ => SimC.bind (hs.call this args b _) fun v b l => .ret ..
  construct := fun args nt b l => by
    show SimC (if _ then _ else _) (if _ then _ else _)
    rw [hs.constructor]
    refine SimC.ite (fun _ => .ret ..) fun _ => SimC.bind (hs.construct args nt b _) fun o b l => ?_
    split <;> exact .ret ..

theorem simLog_lift (B : Ops β) : SimLog adm (liftOps B) B where
  getProto := fun _ l => ⟨l, rfl⟩
  setProto := fun _ _ l => ⟨l, rfl⟩
  isExt := fun _ l => ⟨l, rfl⟩
  prevExt := fun _ l => ⟨l, rfl⟩
  getOwn := fun _ _ l => ⟨l, rfl⟩
  define := fun _ _ _ l _ => ⟨l, rfl⟩
  has := fun _ _ l => ⟨l, rfl⟩
  get := fun _ _ _ l => ⟨l, rfl⟩
  set := fun _ _ _ _ l => ⟨l, rfl⟩
  delete := fun _ _ l => ⟨l, rfl⟩
  ownKeys := fun _ l => ⟨l, rfl⟩
  callable := rfl
  constructor := rfl
  call := fun _ _ _ l => ⟨l, rfl⟩
  construct := fun _ _ _ l => ⟨l, rfl⟩

theorem simLog_stack (compat : CompatFn) (tvp : Desc → VProp) (B : Ops β) (n : Nat) :
    SimLog (fun _ _ _ => True) (stack compat tvp (fun i => logAt i) (liftOps B) n) (stack compat tvp (fun _ _ s => s) B n) := by
  induction n with
  | zero => exact simLog_lift B
  | succ n ih => exact simLog_layer compat tvp ih (n + 1)

theorem simLog_run (hs : SimLog (fun _ _ _ => True) A B) (op : Op) (b : β) (l : TLog) :
    (A.run op (b, l)).1 = (B.run op b).1 ∧ (A.run op (b, l)).2.1 = (B.run op b).2 := by
  cases op with
  | getProto => exact SimC.run (hs.getProto b l) .proto
  | setProto p => exact SimC.run (hs.setProto p b l) .bool
  | isExt => exact SimC.run (hs.isExt b l) .bool
  | prevExt => exact SimC.run (hs.prevExt b l) .bool
  | getOwn k => exact SimC.run (hs.getOwn k b l) .desc
  | define k d => exact SimC.run (hs.define k d b l trivial) .bool
  | has k => exact SimC.run (hs.has k b l) .bool
  | get k r => exact SimC.run (hs.get k r b l) .val
  | set k v r => exact SimC.run (hs.set k v r b l) .bool
  | delete k => exact SimC.run (hs.delete k b l) .bool
  | ownKeys => exact SimC.run (hs.ownKeys b l) .keys
  | call this args =>
    simp only [Ops.run, hs.callable]
    split
    · exact SimC.run (hs.call this args b l) .val
    · exact ⟨rfl, rfl⟩
  | construct args nt =>
    simp only [Ops.run, hs.constructor]
    split
    · exact SimC.run (hs.construct args nt b l) .obj
    · exact ⟨rfl, rfl⟩
  | typeof => simp [Ops.run, hs.callable, hs.constructor]

theorem simLog_runAll (hs : SimLog (fun _ _ _ => True) A B) (ops : List Op) : ∀ (b : β) (l : TLog),
    (A.runAll ops (b, l)).1 = (B.runAll ops b).1 ∧ (A.runAll ops (b, l)).2.1 = (B.runAll ops b).2 := by
  induction ops with
  | nil => intro b l; exact ⟨rfl, rfl⟩
  | cons op rest ih =>
    intro b l
    obtain ⟨h1, h2⟩ := simLog_run hs op b l
    rw [Ops.runAll_cons, Ops.runAll_cons, h1]
    -- the rest of the history starts from the base state `B` is in (`h2`) and some log
    rcases hA : (A.run op (b, l)).2 with ⟨b1, l1⟩
    rw [hA] at h2
    subst h2
    obtain ⟨h3, h4⟩ := ih _ l1
    exact ⟨congrArg _ h3, h4⟩

theorem admHist_true (T : Ops β) (ops : List Op) : ∀ b, admHist T (fun _ _ _ => True) ops b := by
  induction ops with
  | nil => intro b; trivial
  | cons op rest ih => intro b; exact ⟨by cases op <;> trivial, ih _⟩

theorem forwarding_transparent_logged_on (h : LawfulOn adm q B) (n : Nat) (ops : List Op) (b : β) (l : TLog)
    (ha : admHist B adm ops b) :
    ((stack isCompatible toValueProp (fun i => logAt i) (liftOps B) n).runAll ops (b, l)).1 = (B.runAll ops b).1 ∧
    ((stack isCompatible toValueProp (fun i => logAt i) (liftOps B) n).runAll ops (b, l)).2.1 = (B.runAll ops b).2 := by
  rw [← forwarding_transparent_on_histories h n ops b ha]
  exact simLog_runAll (simLog_stack isCompatible toValueProp B n) ops b l

/-- FORWARDING TRANSPARENCY of the instrumented system: n logging forwarding layers over a lawful object, any history,
any initial log — the observations and the final base state are those of the history applied to the object itself -/
theorem forwarding_transparent_logged (h : Lawful q B) (n : Nat) (ops : List Op) (b : β) (l : TLog) :
    ((stack isCompatible toValueProp (fun i => logAt i) (liftOps B) n).runAll ops (b, l)).1 = (B.runAll ops b).1 ∧
    ((stack isCompatible toValueProp (fun i => logAt i) (liftOps B) n).runAll ops (b, l)).2.1 = (B.runAll ops b).2 :=
  forwarding_transparent_logged_on (h.toOn (fun _ _ _ => True)) n ops b l (admHist_true B ops b)

end logged

/-- the instrumented system over an array, on histories whose `length` definitions are canonical -/
theorem forwarding_transparent_logged_array (A : AEnv) (n : Nat) (ops : List Op) (s : AState) (l : TLog)
    (ha : admHist (arrOps A) (arrAdm A) ops s) :
    ((stack isCompatible toValueProp (fun i => logAt i) (liftOps (arrOps A)) n).runAll ops (s, l)).1 = ((arrOps A).runAll ops s).1 ∧
    ((stack isCompatible toValueProp (fun i => logAt i) (liftOps (arrOps A)) n).runAll ops (s, l)).2.1 = ((arrOps A).runAll ops s).2 :=
  forwarding_transparent_logged_on (array_lawfulOn A) n ops s l ha

/-- the instrumented system over the ordinary object -/
theorem forwarding_transparent_logged_ordinary (E : Env) (n : Nat) (ops : List Op) (s : OState) (l : TLog) :
    ((stack isCompatible toValueProp (fun i => logAt i) (liftOps (ordOps E)) n).runAll ops (s, l)).1 = ((ordOps E).runAll ops s).1 ∧
    ((stack isCompatible toValueProp (fun i => logAt i) (liftOps (ordOps E)) n).runAll ops (s, l)).2.1 = ((ordOps E).runAll ops s).2 :=
  forwarding_transparent_logged (ordObj_lawful E) n ops s l

end GojaModel.C11
