/-
  C11 Tie: array.go defineArrayLength regenerated = hand transcription.
-/
import GojaModel.C11.ArrayMech
import GojaModel.Generated.C11_Array

namespace GojaModel.C11.Tie3
open GojaModel.C11 GojaModel.Generated.C11

theorem tie_defineArrayLength : gen_defineArrayLength = defineArrayLengthMech := by
  funext prop oldLen d newLenOf setter throw
  unfold gen_defineArrayLength defineArrayLengthMech lenFinish
  -- the regenerated text branches where the hand model computes `ret`: on the value, its conversion, whether the
  -- length changes, and what the setter answers; below that the two are the same text
  cases d.value <;> cases newLenOf
  case some.some v n =>
    by_cases h : (oldLen != n) = true
    · cases hr : setter n <;> simp [h, hr]
    · simp [h]
  all_goals simp

end GojaModel.C11.Tie3
