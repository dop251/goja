/-
  C11 Tie: the functions regenerated from /repo/proxy.go (GojaModel.Generated.C11) equal the hand model the
  property theorems are about — exactly the current code, no alternatives.
-/
import GojaModel.Generated.C11_Checks

namespace GojaModel.C11.Tie
open GojaModel.C11 GojaModel.Generated.C11

/-- object.go:118 complete() -/
theorem tie_complete : gen_complete = Desc.complete := by
  funext p
  rcases p with ⟨v, w, c, e, g, s⟩
  -- an accessor descriptor's `value` and `writable` are not looked at, and a flag only through the test `== FLAG_NOT_SET`
  cases g <;> cases s
  · cases v <;> cases hw : (w == Flag.notSet) <;> cases hc : (c == Flag.notSet) <;> cases he : (e == Flag.notSet) <;>
      simp [gen_complete, Desc.complete, *]
  all_goals cases hc : (c == Flag.notSet) <;> cases he : (e == Flag.notSet) <;> simp [gen_complete, Desc.complete, *]

/-- proxy.go:922 __isCompatibleDescriptor: the regenerated function is the hand model (exactly the current code; the
pre-7553bcd and pre-cc2cbee variants are different functions, Props.*_prefix_witness) -/
theorem tie_isCompatible : gen_isCompatibleDescriptor = isCompatible := by
  funext ext desc cur
  cases cur with
  | none => simp [gen_isCompatibleDescriptor, isCompatible]
  | some c =>
    rcases c with ⟨cv, cw, cc, ce, ca, cg, cs⟩
    rcases desc with ⟨dv, dw, dc, de, dg, ds⟩
    simp only [gen_isCompatibleDescriptor, isCompatible, OVProp.configurable, OVProp.enumerable, OVProp.writable,
      OVProp.accessor, OVProp.value, OVProp.setterFunc, OVProp.getterFunc, sameAsOpt, Option.isNone_some]
    cases cc <;> cases dv <;> simp
    all_goals (repeat' split)
    all_goals simp_all

/-- proxy.go:386 -/
theorem tie_definePostCheck :
    gen_proxyDefineOwnPropertyPostCheck = definePostCheckWith gen_isCompatibleDescriptor := by
  funext prop ext d
  simp only [gen_proxyDefineOwnPropertyPostCheck, definePostCheckWith]
  cases h : propToValueProp prop with
  | none => simp
  | some td =>
    simp only [OVProp.configurable, OVProp.value, OVProp.writable, Option.isNone_some]
    simp
    repeat' split
    all_goals simp_all

/-- proxy.go:450 -/
theorem tie_hasChecks : gen_proxyHasChecks = hasCheck := by
  funext prop ext
  simp only [gen_proxyHasChecks, hasCheck]
  cases h : propToValueProp prop with
  | none => simp
  | some td => simp [OVProp.configurable]

/-- proxy.go:510 -/
theorem tie_gopd (tvp : Desc → VProp) :
    gen_proxyGetOwnPropertyDescriptor tvp = gopdCheckWith gen_isCompatibleDescriptor tvp := by
  funext prop ext trap
  simp only [gen_proxyGetOwnPropertyDescriptor, gopdCheckWith, tie_complete]
  cases trap with
  | undef =>
    cases h : propToValueProp prop with
    | none => simp [TrapDesc.isUndef]
    | some td => simp [TrapDesc.isUndef, OVProp.configurable]
  | nonObject => simp [TrapDesc.isUndef, TrapDesc.asObject]
  | obj d =>
    -- the regenerated text repeats the tail (`return resultDesc.Value` / `toValueProp`) in both branches
    cases hv : d.complete.value <;> cases propToValueProp prop <;>
      simp [TrapDesc.isUndef, TrapDesc.asObject, OTrapObj.desc, hv, TProp.ofOptVal, OVProp.configurable, OVProp.writable]

/-- proxy.go:588 -/
theorem tie_getChecks : gen_proxyGetChecks = getCheck := by
  funext prop v
  simp only [gen_proxyGetChecks, getCheck]
  cases h : asValueProperty prop with
  | none => simp
  | some td =>
    simp
    repeat' split
    all_goals simp_all

/-- proxy.go:646 -/
theorem tie_setPostCheck : gen_proxySetPostCheck = setPostCheck := by
  funext prop v
  simp only [gen_proxySetPostCheck, setPostCheck]
  cases h : asValueProperty prop with
  | none => simp
  | some td =>
    simp
    repeat' split
    all_goals simp_all

/-- proxy.go:718 -/
theorem tie_deleteCheck : gen_proxyDeleteCheck = deleteCheck := by
  funext b prop ext thr
  simp only [gen_proxyDeleteCheck, deleteCheck]
  cases prop <;> cases b <;> simp [TProp.isAbsent, asValueProperty]

/-- proxy.go:302 proto(), trap present -/
theorem tie_proto : ∀ ext tp v, gen_proto ext tp v = mechGetProto ext tp (some v) := by
  intro ext tp v
  simp only [gen_proto, mechGetProto]
  cases v <;> simp [toObject?]

/-- proxy.go:318 -/
theorem tie_setProto : gen_setProto = mechSetProto := by
  funext ext tp p v thr
  simp only [gen_setProto, mechSetProto]

/-- proxy.go:335 -/
theorem tie_isExtensible : gen_isExtensible = mechIsExtensible := by
  funext ext b
  simp only [gen_isExtensible, mechIsExtensible]

/-- proxy.go:347 -/
theorem tie_preventExtensions : gen_preventExtensions = mechPreventExtensions := by
  funext ext b thr
  simp only [gen_preventExtensions, mechPreventExtensions]

/-- proxy.go:798-808 -/
theorem tie_ownKeysStep1 : gen_ownKeysStep1 = ownKeysStep1 := by
  funext item kl ks
  cases item with
  | invalid => simp [gen_ownKeysStep1, ownKeysStep1, KItem.isString, KItem.isSymbol]
  | key k => cases k <;> simp [gen_ownKeysStep1, ownKeysStep1, KItem.isString, KItem.isSymbol, ksHas, ksAdd, klAppend]

/-- proxy.go:812-827 -/
theorem tie_ownKeysStep2 : gen_ownKeysStep2 = ownKeysStep2 := by
  funext ext item ks
  -- the iterator's value counts as nil and the property looked up is a valueProperty: one path of the regenerated text is left
  simp only [gen_ownKeysStep2, ownKeysStep2, itemValueNil, itemProp, asValueProperty, if_true]

/-- proxy.go:829-833 -/
theorem tie_ownKeysFinish : gen_ownKeysFinish = ownKeysFinish := by
  funext ext kl ks
  simp only [gen_ownKeysFinish, ownKeysFinish]

/-- proxy.go:790 proxyOwnKeys assembled from the regenerated loop bodies -/
theorem tie_ownKeys : ownKeysWith gen_ownKeysStep1 gen_ownKeysStep2 gen_ownKeysFinish = mechOwnKeys := by
  simp only [tie_ownKeysStep1, tie_ownKeysStep2, tie_ownKeysFinish]
  rfl

/-- builtin_object.go:156 the accessor flag of toValueProp -/
theorem tie_toValueProp : toValuePropWith gen_toValuePropAccessor = toValueProp := by
  funext d
  simp [toValuePropWith, toValueProp, gen_toValuePropAccessor]

/-- the regenerated post-checks composed as the property theorems use them -/
theorem tie_definePostCheck_hand : gen_proxyDefineOwnPropertyPostCheck = definePostCheckWith isCompatible := by
  rw [tie_definePostCheck, tie_isCompatible]

theorem tie_gopd_hand :
    gen_proxyGetOwnPropertyDescriptor (toValuePropWith gen_toValuePropAccessor) = gopdCheckWith isCompatible toValueProp := by
  rw [tie_gopd, tie_isCompatible, tie_toValueProp]

/-- the Str / Idx / Sym copies of every triplicated proxyObject method are the same text up to the key-kind
suffix and the name of the key parameter -/
theorem tie_keyKindCopies_agree :
    ∀ e ∈ keyKindCopies, e.2.1 = e.2.2.1 ∧ e.2.2.1 = e.2.2.2 := by
  simp [keyKindCopies]

theorem tie_keyKindCopies_families :
    keyKindCopies.map (·.1) = ["defineOwnProperty", "hasProperty", "getOwnProp", "get", "proxySet", "delete",
      "hasOwnProperty", "setOwn", "setForeign"] := by rfl

/-- which methods of the handler and of the target each trap wrapper calls, in source order (Str copy; the Idx and Sym
copies are the same text by `tie_keyKindCopies_agree`).  This is the call structure `Model.proxyLayer` transcribes:
trap first (= Reflect.x = the target's internal method), then the post-check with `target.self.getOwnProp…` as its
argument, `target.self.isExtensible` / `target.self.proto` inside the simple traps; the last entry of each list is the
no-trap fall-through to the target.  (Whether `isExtensible` is consulted inside a post-check is decided by the
regenerated check functions; the resulting trap-call sequences are compared by the lock-step correspondence.) -/
theorem tie_callSequences : callSequences = [
  ("proto", ["p.checkHandler().getPrototypeOf", "p.checkHandler", "p.val.runtime.toObject", "target.self.isExtensible", "p.__sameValue", "target.self.proto", "target.self.proto"]),
  ("setProto", ["p.checkHandler().setPrototypeOf", "p.checkHandler", "target.self.isExtensible", "p.__sameValue", "target.self.proto", "p.val.runtime.typeErrorResult", "target.self.setProto"]),
  ("isExtensible", ["p.checkHandler().isExtensible", "p.checkHandler", "target.self.isExtensible", "target.self.isExtensible"]),
  ("preventExtensions", ["p.checkHandler().preventExtensions", "p.checkHandler", "p.val.runtime.typeErrorResult", "target.self.isExtensible", "target.self.preventExtensions"]),
  ("defineOwnPropertyStr", ["p.checkHandler().definePropertyStr", "p.checkHandler", "p.proxyDefineOwnPropertyPreCheck", "p.proxyDefineOwnPropertyPostCheck", "target.self.getOwnPropStr", "target.self.defineOwnPropertyStr"]),
  ("hasPropertyStr", ["p.checkHandler().hasStr", "p.checkHandler", "p.proxyHasChecks", "target.self.getOwnPropStr", "target.self.hasPropertyStr"]),
  ("getOwnPropStr", ["p.checkHandler().getOwnPropertyDescriptorStr", "p.checkHandler", "p.proxyGetOwnPropertyDescriptor", "target.self.getOwnPropStr", "target.self.getOwnPropStr"]),
  ("getStr", ["p.checkHandler().getStr", "p.checkHandler", "p.proxyGetChecks", "target.self.getOwnPropStr", "target.self.getStr"]),
  ("proxySetStr", ["p.checkHandler().setStr", "p.checkHandler", "p.proxySetPreCheck", "p.proxySetPostCheck", "target.self.getOwnPropStr", "target.setStr"]),
  ("deleteStr", ["p.checkHandler().deleteStr", "p.checkHandler", "p.proxyDeleteCheck", "target.self.getOwnPropStr", "target.self.deleteStr"]),
  ("proxyOwnKeys", ["p.checkHandler().ownKeys", "p.checkHandler", "p.val.runtime.toObject", "keys.self.getStr", "keys.self.getIdx", "keySet.has", "keySet.add", "target.self.isExtensible", "target.self.iterateKeys()", "target.self.iterateKeys", "next", "keySet.has", "keySet.delete", "target.getOwnProp", "keySet.size"]),
  ("apply", ["p.checkHandler().apply", "p.checkHandler", "p.call"]),
  ("construct", ["p.checkHandler().construct", "p.checkHandler", "p.val.runtime.toObject", "p.ctor"])
] := by rfl

/-- callability (Model.proxyLayer `callable` / `constructor` / `call` / `construct`): p.call / p.ctor are set once, at
creation, iff the target is callable / a constructor (proxy.go:55-60); `typeof`, IsCallable, IsConstructor read exactly those
slots; apply / construct first test the slot (TypeError), then the handler through checkHandler(), return the apply trap's result
unchecked and the construct trap's result through toObject, and fall through to the target's own call / construct -/
theorem tie_callability : callabilityTexts = [
  ("_newProxyObject", "if call , ok : = target . self . assertCallable ( ) ; ok { p . call = call } ;; if ctor : = target . self . assertConstructor ( ) ; ctor ! = nil { p . ctor = ctor }"),
  ("assertCallable", "{ if p . call ! = nil { return func ( call FunctionCall ) Value { return p . apply ( call ) } , true } return nil , false }"),
  ("assertConstructor", "{ if p . ctor ! = nil { return p . construct } return nil }"),
  ("typeOf", "{ if p . call = = nil { return stringObjectC } return stringFunction }"),
  ("apply", "{ if p . call = = nil { panic ( p . val . runtime . NewTypeError ( \"\" ) ) } if v , ok : = p . checkHandler ( ) . apply ( p . target , nilSafe ( call . This ) , call . Arguments ) ; ok { return v } return p . call ( call ) }"),
  ("construct", "{ if p . ctor = = nil { panic ( p . val . runtime . NewTypeError ( \"\" ) ) } if newTarget = = nil { newTarget = p . val } if v , ok : = p . checkHandler ( ) . construct ( p . target , args , newTarget ) ; ok { return p . val . runtime . toObject ( v ) } return p . ctor ( args , newTarget ) }")
] := by rfl

/-- Go-native handlers (builtin_proxy.go nativeProxyHandler): one rule for all six keyed trap families — the `…Str` method
consults the `…Idx` field only for an integer-like string key (`?int`) and then the string field, the `…Idx` method the
`…Idx` field and then the string field (with the index rendered as a string), the `…Sym` method only the `…Sym` field; every
other method exactly its own field.  (The lattice drives all four key kinds S / N / I / Y through Go handlers.) -/
theorem tie_nativeRouting : nativeRouting = [
  ("apply", ["Apply"]),
  ("construct", ["Construct"]),
  ("definePropertyIdx", ["DefinePropertyIdx", "DefineProperty"]),
  ("definePropertyStr", ["DefinePropertyIdx?int", "DefineProperty"]),
  ("definePropertySym", ["DefinePropertySym"]),
  ("deleteIdx", ["DeletePropertyIdx", "DeleteProperty"]),
  ("deleteStr", ["DeletePropertyIdx?int", "DeleteProperty"]),
  ("deleteSym", ["DeletePropertySym"]),
  ("getIdx", ["GetIdx", "Get"]),
  ("getOwnPropertyDescriptorIdx", ["GetOwnPropertyDescriptorIdx", "GetOwnPropertyDescriptor"]),
  ("getOwnPropertyDescriptorStr", ["GetOwnPropertyDescriptorIdx?int", "GetOwnPropertyDescriptor"]),
  ("getOwnPropertyDescriptorSym", ["GetOwnPropertyDescriptorSym"]),
  ("getPrototypeOf", ["GetPrototypeOf"]),
  ("getStr", ["GetIdx?int", "Get"]),
  ("getSym", ["GetSym"]),
  ("hasIdx", ["HasIdx", "Has"]),
  ("hasStr", ["HasIdx?int", "Has"]),
  ("hasSym", ["HasSym"]),
  ("isExtensible", ["IsExtensible"]),
  ("ownKeys", ["OwnKeys"]),
  ("preventExtensions", ["PreventExtensions"]),
  ("setIdx", ["SetIdx", "Set"]),
  ("setPrototypeOf", ["SetPrototypeOf"]),
  ("setStr", ["SetIdx?int", "Set"]),
  ("setSym", ["SetSym"])
] := by rfl

/-- every internal-method implementation of proxyObject reaches the handler only through checkHandler(),
calls it, and dereferences the target only afterwards -/
theorem tie_revocation_shape :
    ∀ e ∈ revocationShape, e.2.1 = 0 ∧ e.2.2.1 ≥ 1 ∧ e.2.2.2 = 0 := by decide

theorem tie_revocation_methods :
    revocationShape.map (·.1) = ["apply", "construct", "defineOwnPropertyIdx", "defineOwnPropertyStr",
      "defineOwnPropertySym", "deleteIdx", "deleteStr", "deleteSym", "getIdx", "getOwnPropIdx", "getOwnPropStr",
      "getOwnPropSym", "getStr", "getSym", "hasPropertyIdx", "hasPropertyStr", "hasPropertySym", "isExtensible",
      "preventExtensions", "proto", "proxyOwnKeys", "proxySetIdx", "proxySetStr", "proxySetSym", "setProto"] := by rfl

/-- proxy.go:294 checkHandler throws iff the handler is nil; :1083 revoke sets it to nil -/
theorem tie_checkHandler_text :
    checkHandlerText = "{ r : = p . val . runtime if handler : = p . handler ; handler ! = nil { return handler } panic ( r . NewTypeError ( \" Proxy already revoked \" ) ) }" := by rfl

theorem tie_revoke_text :
    revokeText = "{ p . handler = nil p . target = nil }" := by rfl

end GojaModel.C11.Tie
