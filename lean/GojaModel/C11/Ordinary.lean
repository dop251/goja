/-
  C11: the ORDINARY object (ECMA-262 §10.1) as an `Ops` table, and the proof that it is `Lawful` — so that the
  forwarding-transparency theorems apply to a concrete, mutable target.

  State: extensibility, prototype, own properties (association list, first match wins).  The prototype CHAIN is not
  a heap here: what the chain answers for [[HasProperty]] / [[Get]] / [[Set]] of a key that is not an own property,
  what a getter call returns and whether a prototype assignment would create a cycle are opaque pure oracles
  (`Env`) — the invariants of §6.1.7.3 constrain an operation only through the object's OWN properties.
-/
import GojaModel.C11.Forward

namespace GojaModel.C11

structure OState where
  ext : Bool
  proto : Option Nat
  props : List (Key × Cur)
  deriving DecidableEq, Repr

/-- everything outside the object that its internal methods consult -/
structure Env where
  self : Nat                                   -- identity of the object (to recognise itself as receiver)
  inhHas : Option Nat → Key → Bool             -- parent.[[HasProperty]](k)
  inhGet : Option Nat → Key → Val → Val        -- parent.[[Get]](k, receiver)
  inhSet : Option Nat → Key → Val → Val → Option Bool   -- parent.[[Set]] decided it (setter / read-only); none = no such property
  callGetter : Nat → Val → Val                 -- Call(getter, receiver)
  cyc : Option Nat → Bool                      -- would this prototype create a cycle?
  callable : Bool                              -- a function object is an ordinary object with [[Call]] (and [[Construct]])
  constructor : Bool
  callF : Val → List Val → OState → R Val × OState     -- the function body: any state transformer
  consF : List Val → Val → OState → R Nat × OState

def oLookup (props : List (Key × Cur)) (k : Key) : Option Cur :=
  match props with
  | [] => none
  | (k', c) :: rest => if k' = k then some c else oLookup rest k

def oUpsert (props : List (Key × Cur)) (k : Key) (c : Cur) : List (Key × Cur) :=
  match props with
  | [] => [(k, c)]
  | (k', c') :: rest => if k' = k then (k, c) :: rest else (k', c') :: oUpsert rest k c

def oRemove (props : List (Key × Cur)) (k : Key) : List (Key × Cur) :=
  match props with
  | [] => []
  | (k', c) :: rest => if k' = k then oRemove rest k else (k', c) :: oRemove rest k

theorem oLookup_upsert (props : List (Key × Cur)) (k : Key) (c : Cur) : oLookup (oUpsert props k c) k = some c := by
  induction props with
  | nil => simp [oUpsert, oLookup]
  | cons kc rest ih =>
    obtain ⟨k', c'⟩ := kc
    by_cases h : k' = k
    · simp [oUpsert, oLookup, h]
    · simp [oUpsert, oLookup, h, ih]

theorem oLookup_remove (props : List (Key × Cur)) (k : Key) : oLookup (oRemove props k) k = none := by
  induction props with
  | nil => simp [oRemove, oLookup]
  | cons kc rest ih =>
    obtain ⟨k', c'⟩ := kc
    by_cases h : k' = k
    · simp [oRemove, h, ih]
    · simp [oRemove, oLookup, h, ih]

/-- §10.1.6.3 ValidateAndApplyPropertyDescriptor step 6: the property that results from applying `d` to `cur` -/
def applyDesc (d : PD) (cur : Cur) : Cur :=
  match cur with
  | .data v w e c =>
    if d.isAccessorDescriptor then                                              -- 6.a data -> accessor
      .acc (d.get.getD none) (d.set.getD none) (d.enumerable.getD e) (d.configurable.getD c)
    else .data (d.value.getD v) (d.writable.getD w) (d.enumerable.getD e) (d.configurable.getD c)   -- 6.c
  | .acc g s e c =>
    if d.isDataDescriptor then                                                  -- 6.b accessor -> data
      .data (d.value.getD .undef) (d.writable.getD false) (d.enumerable.getD e) (d.configurable.getD c)
    else .acc (d.get.getD g) (d.set.getD s) (d.enumerable.getD e) (d.configurable.getD c)           -- 6.c

/-- §10.1.6.3 step 2.c/2.d: the property created from `d` when there is none -/
def createFrom (d : PD) : Cur :=
  if d.isAccessorDescriptor then
    .acc (d.get.getD none) (d.set.getD none) (d.enumerable.getD false) (d.configurable.getD false)
  else .data (d.value.getD .undef) (d.writable.getD false) (d.enumerable.getD false) (d.configurable.getD false)

def ordOps (E : Env) : Ops OState where
  getProto := fun s => (.ok s.proto, s)                                          -- §10.1.1
  setProto := fun p s =>                                                         -- §10.1.2
    if p = s.proto then (.ok true, s)
    else if !s.ext then (.ok false, s)
    else if E.cyc p then (.ok false, s)
    else (.ok true, { s with proto := p })
  isExt := fun s => (.ok s.ext, s)                                               -- §10.1.3
  prevExt := fun s => (.ok true, { s with ext := false })                        -- §10.1.4
  getOwn := fun k s => (.ok (oLookup s.props k), s)                              -- §10.1.5
  define := fun k d s =>                                                         -- §10.1.6 (+ ToPropertyDescriptor's rejection)
    if d.isAccessorDescriptor && d.isDataDescriptor then (.typeError, s)
    else match oLookup s.props k with
      | none => if !s.ext then (.ok false, s) else (.ok true, { s with props := oUpsert s.props k (createFrom d) })
      | some cur =>
        if !specIsCompatible s.ext d (some cur) then (.ok false, s)
        else (.ok true, { s with props := oUpsert s.props k (applyDesc d cur) })
  has := fun k s =>                                                              -- §10.1.7
    match oLookup s.props k with
    | some _ => (.ok true, s)
    | none => (.ok (E.inhHas s.proto k), s)
  get := fun k rcv s =>                                                          -- §10.1.8
    match oLookup s.props k with
    | some (.data v _ _ _) => (.ok v, s)
    | some (.acc (some g) _ _ _) => (.ok (E.callGetter g rcv), s)
    | some (.acc none _ _ _) => (.ok .undef, s)
    | none => (.ok (E.inhGet s.proto k rcv), s)
  set := fun k v rcv s =>                                                        -- §10.1.9 OrdinarySetWithOwnDescriptor
    match oLookup s.props k with
    | some (.data _ w e c) =>
      if !w then (.ok false, s)
      else if rcv = .obj E.self then (.ok true, { s with props := oUpsert s.props k (.data v w e c) })
      else (.ok true, s)                          -- the receiver is another object: its state is not this state
    | some (.acc _ (some _) _ _) => (.ok true, s) -- Call(setter, receiver, v): effects outside this state
    | some (.acc _ none _ _) => (.ok false, s)
    | none =>
      match E.inhSet s.proto k v rcv with
      | some b => (.ok b, s)
      | none =>
        if rcv = .obj E.self then
          if !s.ext then (.ok false, s)
          else (.ok true, { s with props := oUpsert s.props k (.data v true true true) })
        else (.ok true, s)
  delete := fun k s =>                                                           -- §10.1.10
    match oLookup s.props k with
    | none => (.ok true, s)
    | some cur => if cur.configurable then (.ok true, { s with props := oRemove s.props k }) else (.ok false, s)
  ownKeys := fun s => (.ok ((s.props.map (·.1)).eraseDups), s)                   -- §10.1.11 (order of creation)
  callable := E.callable
  constructor := E.constructor
  call := fun this args s => if E.callable then E.callF this args s else (.typeError, s)       -- §10.2.1
  construct := fun args nt s => if E.constructor then E.consF args nt s else (.typeError, s)   -- §10.2.2

def ordQueries : Queries OState where
  ext := fun s => s.ext
  own := fun k s => oLookup s.props k
  proto := fun s => s.proto
  keys := fun s => (s.props.map (·.1)).eraseDups

/-- `c` has every field `d` carries, with the value `d` gives it -/
def PD.Describes (d : PD) : Cur → Prop
  | .data v w e c => d.isAccessorDescriptor = false ∧
      d.value.getD v = v ∧ d.writable.getD w = w ∧ d.enumerable.getD e = e ∧ d.configurable.getD c = c
  | .acc g s e c => d.isDataDescriptor = false ∧
      d.get.getD g = g ∧ d.set.getD s = s ∧ d.enumerable.getD e = e ∧ d.configurable.getD c = c

theorem PD.describes_data {d : PD} (h : d.isAccessorDescriptor = false) (v : Val) (w e c : Bool) :
    d.Describes (.data (d.value.getD v) (d.writable.getD w) (d.enumerable.getD e) (d.configurable.getD c)) :=
  ⟨h, getD_getD .., getD_getD .., getD_getD .., getD_getD ..⟩

theorem PD.describes_acc {d : PD} (h : d.isDataDescriptor = false) (g s : Option Nat) (e c : Bool) :
    d.Describes (.acc (d.get.getD g) (d.set.getD s) (d.enumerable.getD e) (d.configurable.getD c)) :=
  ⟨h, getD_getD .., getD_getD .., getD_getD .., getD_getD ..⟩

theorem PD.Describes.ok {d : PD} {c : Cur} (h : d.Describes c) (ext : Bool) : specDefineCheck (some c) ext d = .ok () := by
  cases c with
  | data v w e c =>
    obtain ⟨ha, hv, hw, he, hc⟩ := h
    have := getD_ne.mpr hc
    have := getD_ne.mpr hw
    cases c <;> cases w <;>
      simp_all [specDefineCheck, specIsCompatible, PD.isGenericDescriptor, Cur.configurable, Cur.enumerable, Cur.isAccessor,
        getD_mismatch.mpr hv, getD_mismatch.mpr he]
  | acc g s e c =>
    obtain ⟨hd, hg, hs, he, hc⟩ := h
    have := getD_ne.mpr hc
    cases c <;>
      simp_all [specDefineCheck, specIsCompatible, PD.isGenericDescriptor, Cur.configurable, Cur.enumerable, Cur.isAccessor,
        getD_mismatch.mpr hg, getD_mismatch.mpr hs, getD_mismatch.mpr he]

theorem applyDesc_describes (d : PD) (hwf : d.WF) (cur : Cur) : d.Describes (applyDesc d cur) := by
  cases cur with
  | data v w e c =>
    by_cases h : d.isAccessorDescriptor = true
    · rw [applyDesc, if_pos h]; exact PD.describes_acc (hwf.not_data h) ..
    · rw [applyDesc, if_neg h]; exact PD.describes_data (Bool.eq_false_iff.mpr h) ..
  | acc g s e c =>
    by_cases h : d.isDataDescriptor = true
    · rw [applyDesc, if_pos h]; exact PD.describes_data (hwf.not_accessor h) ..
    · rw [applyDesc, if_neg h]; exact PD.describes_acc (Bool.eq_false_iff.mpr h) ..

theorem applyDesc_ok (d : PD) (hwf : d.WF) (ext : Bool) (cur : Cur) :
    specDefineCheck (some (applyDesc d cur)) ext d = .ok () :=
  (applyDesc_describes d hwf cur).ok ext

theorem createFrom_describes (d : PD) (hwf : d.WF) : d.Describes (createFrom d) :=
  applyDesc_describes d hwf (.data .undef false false false)

theorem PD.Describes.drop_value {d : PD} {c : Cur} {mv : Val} (hv : d.value = none)
    (h : ({ d with value := some mv } : PD).Describes c) : d.Describes c := by
  cases c with
  | data v w e cf => exact ⟨h.1, by rw [hv]; rfl, h.2.2⟩
  | acc g s e cf => simp [PD.Describes, PD.isDataDescriptor] at h

theorem ord_define_describes (E : Env) (k : Key) (d : PD) (o o' : OState) (h : (ordOps E).define k d o = (.ok true, o')) :
    ∃ c, oLookup o'.props k = some c ∧ d.Describes c := by
  simp only [ordOps] at h
  split at h
  · simp at h
  · rename_i hbad
    have hwf : d.WF := .of_not hbad
    split at h
    · split at h
      · simp at h
      · injection h with _ h2; subst h2
        exact ⟨_, oLookup_upsert .., createFrom_describes d hwf⟩
    · split at h
      · simp at h
      · injection h with _ h2; subst h2
        exact ⟨_, oLookup_upsert .., applyDesc_describes d hwf _⟩

theorem ord_lawful (E : Env) : Lawful ordQueries (ordOps E) where
  isExt_eq := fun _ => rfl
  getOwn_eq := fun _ _ => rfl
  getProto_eq := fun _ => rfl
  ownKeys_eq := fun _ => rfl
  keys_nodup := fun _ => eraseDups_nodup _
  setProto_inv := by
    intro p s s' h
    simp only [ordOps] at h
    split at h
    · injection h with _ h2; subst h2; right; simp [ordQueries, *]
    · split at h
      · simp at h
      · split at h
        · simp at h
        · injection h with _ h2; subst h2; right; rfl
  prevExt_inv := by
    intro s s' h
    simp only [ordOps] at h
    injection h with _ h2; subst h2; rfl
  define_wf := by
    intro k d s hwf
    simp only [ordOps, PD.not_wf hwf, ↓reduceIte]
  define_inv := by
    intro k d s s' h
    obtain ⟨c, hc, hd⟩ := ord_define_describes E k d s s' h
    simp only [ordQueries, hc]
    exact hd.ok _
  has_inv := by
    intro k s s' h
    simp only [ordOps] at h
    split at h
    · simp at h
    · rename_i hl
      injection h with _ h2; subst h2
      simp [ordQueries, hl, specHasCheck]
  get_inv := by
    intro k r s v s' h
    simp only [ordOps] at h
    split at h <;> cases h <;> rename_i hl <;> simp only [ordQueries, hl, specGetCheck]
    -- left: a data property, whose value is what was returned, and an accessor without getter, which reads `undefined`
    all_goals split <;> simp_all
  set_inv := by
    intro k v r s s' h
    simp only [ordOps] at h
    split at h
    · rename_i v0 w e c hl
      split at h
      · simp at h
      · rename_i hw
        have hw' : w = true := by simpa using hw
        subst hw'
        split at h
        · injection h with _ h2; subst h2
          simp only [ordQueries, oLookup_upsert, specSetCheck]
        · injection h with _ h2; subst h2
          simp only [ordQueries, hl, specSetCheck]
    · rename_i hl
      injection h with _ h2; subst h2
      simp only [ordQueries, hl, specSetCheck]
    · simp at h
    · rename_i hl
      split at h
      · injection h with _ h2; subst h2
        simp only [ordQueries, hl, specSetCheck]
      · split at h
        · split at h
          · simp at h
          · injection h with _ h2; subst h2
            simp only [ordQueries, oLookup_upsert, specSetCheck]
        · injection h with _ h2; subst h2
          simp only [ordQueries, hl, specSetCheck]
  delete_inv := by
    intro k s s' h
    simp only [ordOps] at h
    split at h
    · rename_i hl
      injection h with _ h2; subst h2
      simp [ordQueries, hl, specDeleteCheck]
    · split at h
      · injection h with _ h2; subst h2
        simp [ordQueries, oLookup_remove, specDeleteCheck]
      · simp at h
  call_nc := fun hc _ _ _ => if_neg (Bool.eq_false_iff.mp hc)
  construct_nc := fun hc _ _ _ => if_neg (Bool.eq_false_iff.mp hc)

end GojaModel.C11
