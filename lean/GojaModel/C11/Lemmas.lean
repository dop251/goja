/-
  C11: the two representations of descriptors and properties — Go's `Desc` / `VProp` / `TProp`, the spec's `PD` / `Cur` —
  and the facts that carry a check of proxy.go across `Desc.toPD`, `VProp.toCur`, `TProp.toCur` (and back: `PD.toDesc`,
  `Cur.toTProp`) to the check §10.5 makes: flags and optional fields, `__isCompatibleDescriptor` against §10.1.6.3,
  `complete()` against CompletePropertyDescriptor, what proxyGetOwnPropertyDescriptor reports, the two loops of
  proxyOwnKeys.  The `…_eq_spec` theorems of Props.lean are put together from these.
-/
import GojaModel.C11.Model

namespace GojaModel.C11

theorem Flag.toOpt_eq_true (f : Flag) : (f.toOpt == some true) = (f == .tru) := by cases f <;> rfl
theorem Flag.toOpt_eq_false (f : Flag) : (f.toOpt == some false) = (f == .fals) := by cases f <;> rfl
theorem Flag.toOpt_isSome (f : Flag) : f.toOpt.isSome = (f != .notSet) := by cases f <;> rfl

theorem Flag.toOpt_getD (f : Flag) : f.toOpt.getD false = f.bool := by cases f <;> rfl
theorem Flag.ofBool_toOpt (b : Bool) : (Flag.ofBool b).toOpt = some b := by cases b <;> rfl
theorem Flag.ofBool_eq_tru (b : Bool) : (Flag.ofBool b == .tru) = b := by cases b <;> rfl

/-- "present and different from `b`", the form of steps 5.b of §10.1.6.3 and of proxy.go:932 -/
theorem Flag.toOpt_mismatch (f : Flag) (b : Bool) :
    (f.toOpt.isSome && f.toOpt != some b) = (f != .notSet && f.bool != b) := by cases f <;> cases b <;> rfl

theorem accField_mismatch (g : Option Val) (c : Option Nat) :
    ((g.map fun v => asObj (some v)).isSome && (g.map fun v => asObj (some v)) != some c) = (g.isSome && c != asObj g) := by
  cases g
  · rfl
  · exact bne_comm

theorem accField_getD (g : Option Val) : asObj (some (g.getD .undef)) = (g.map fun v => asObj (some v)).getD none := by
  cases g <;> rfl

theorem accField_asObj (g : Option Val) : (g.map fun v => asObj (some v)).getD none = asObj g := by
  cases g <;> rfl

theorem Desc.toPD_isAccessor (d : Desc) : d.toPD.isAccessorDescriptor = d.isAccessor := by
  simp only [Desc.toPD, PD.isAccessorDescriptor, Desc.isAccessor, Option.isSome_map, Bool.or_comm]

theorem Desc.toPD_isData (d : Desc) : d.toPD.isDataDescriptor = d.isData := by
  simp only [Desc.toPD, PD.isDataDescriptor, Desc.isData, Flag.toOpt_isSome]

theorem Desc.toPD_isGeneric (d : Desc) : d.toPD.isGenericDescriptor = d.isGeneric := by
  simp only [PD.isGenericDescriptor, Desc.isGeneric, Desc.toPD_isAccessor, Desc.toPD_isData]

theorem Desc.isAccessor_eq_false {d : Desc} : d.isAccessor = false ↔ d.getter = none ∧ d.setter = none := by
  simp only [Desc.isAccessor, Bool.or_eq_false_iff, Option.isSome_eq_false_iff, Option.isNone_iff_eq_none, and_comm]

theorem Desc.isData_eq_false {d : Desc} : d.isData = false ↔ d.value = none ∧ d.writable = .notSet := by
  simp only [Desc.isData, Bool.or_eq_false_iff, Option.isSome_eq_false_iff, Option.isNone_iff_eq_none, bne_eq_false_iff_eq]

theorem Desc.Valid.not_both {d : Desc} (h : d.Valid) : ¬ (d.isAccessor = true ∧ d.isData = true) := by
  simpa [Desc.isAccessor, Desc.isData, or_comm] using h.2.2

theorem Desc.Valid.no_data {d : Desc} (h : d.Valid) (hA : d.isAccessor = true) : d.value = none ∧ d.writable = .notSet :=
  Desc.isData_eq_false.mp (Bool.eq_false_iff.mpr fun hD => h.not_both ⟨hA, hD⟩)

theorem Desc.Valid.wellFormed {d : Desc} (h : d.Valid) : descWellFormed d = true := by
  have := h.2.2
  simp only [descWellFormed, Bool.not_eq_true', Bool.and_eq_false_iff]
  by_cases ha : d.getter.isSome ∨ d.setter.isSome
  · exact .inr (by simpa using fun hd => this ⟨ha, hd⟩)
  · exact .inl (by simpa using ha)

/-! Optional fields: `o.getD a = a` says "absent, or present with value `a`" -/

theorem getD_getD {α : Type} (o : Option α) (a : α) : o.getD (o.getD a) = o.getD a := by cases o <;> rfl

theorem getD_mismatch {α : Type} [BEq α] [LawfulBEq α] {o : Option α} {a : α} :
    (o.isSome && o != some a) = false ↔ o.getD a = a := by
  cases o <;> simp

theorem getD_ne {o : Option Bool} {a : Bool} : (o == some !a) = false ↔ o.getD a = a := by
  rcases o with _ | _ | _ <;> cases a <;> decide

/-! `__isCompatibleDescriptor` against an existing data / accessor property.
After the rewriting both sides make the same tests on `configurable` and `enumerable`; they differ in how they get to the
kind of the descriptor (generic / data / accessor), so that is what the proofs split on. -/

theorem compat_data (ext : Bool) (d : Desc) (v : Val) (cw cc ce : Bool) (hk : ¬ (d.isAccessor = true ∧ d.isData = true)) :
    isCompatible ext d (some ⟨some v, cw, cc, ce, false, none, none⟩) =
      specIsCompatible ext d.toPD (some (.data v cw ce cc)) := by
  rcases d with ⟨dv, dw, dc, de, dg, ds⟩
  simp only [isCompatible, specIsCompatible, Cur.configurable, Cur.enumerable, Cur.isAccessor, Desc.toPD_isAccessor,
    Desc.toPD_isGeneric]
  simp only [Desc.toPD, Flag.toOpt_eq_true, Flag.toOpt_mismatch]
  cases hA : Desc.isAccessor _ <;> cases hD : Desc.isData _
  · obtain ⟨rfl, rfl⟩ : dv = none ∧ dw = .notSet := Desc.isData_eq_false.mp hD
    simp [Desc.isGeneric, hA, hD]
  · cases cw <;> cases dv <;> simp [Desc.isGeneric, hA, hD, sameAs]
  · simp [Desc.isGeneric, hA, hD]
  · exact (hk ⟨hA, hD⟩).elim

theorem compat_acc (ext : Bool) (d : Desc) (cg cs : Option Nat) (cc ce : Bool)
    (hk : ¬ (d.isAccessor = true ∧ d.isData = true)) :
    isCompatible ext d (some ⟨none, false, cc, ce, true, cg, cs⟩) =
      specIsCompatible ext d.toPD (some (.acc cg cs ce cc)) := by
  simp only [isCompatible, specIsCompatible, Cur.configurable, Cur.enumerable, Cur.isAccessor, Desc.toPD_isAccessor,
    Desc.toPD_isGeneric]
  simp only [Desc.toPD, Flag.toOpt_eq_true, Flag.toOpt_mismatch, accField_mismatch]
  cases hA : d.isAccessor <;> cases hD : d.isData
  · obtain ⟨hg, hs⟩ := Desc.isAccessor_eq_false.mp hA
    simp [Desc.isGeneric, hA, hD, hg, hs]
  · simp [Desc.isGeneric, hA, hD]
  · -- the mechanism compares the setter first, the spec the getter
    cases (d.setter.isSome && cs != asObj d.setter) <;> simp [Desc.isGeneric, hA, hD]
  · exact (hk ⟨hA, hD⟩).elim

theorem VProp.wf_shape (p : VProp) (h : p.WF) :
    (∃ v w c e, p = ⟨some v, w, c, e, false, none, none⟩) ∨ (∃ c e g s, p = ⟨none, false, c, e, true, g, s⟩) := by
  rcases p with ⟨cv, cw, cc, ce, _ | _, cg, cs⟩
  · obtain ⟨hv, rfl, rfl⟩ := h.2 rfl
    obtain ⟨v, rfl⟩ := Option.isSome_iff_exists.mp hv
    exact .inl ⟨v, cw, cc, ce, rfl⟩
  · obtain ⟨rfl, rfl⟩ := h.1 rfl
    exact .inr ⟨cc, ce, cg, cs, rfl⟩

theorem isCompatible_some (ext : Bool) (d : Desc) (p : VProp) (hk : ¬ (d.isAccessor = true ∧ d.isData = true)) (hw : p.WF) :
    isCompatible ext d (some p) = specIsCompatible ext d.toPD (some p.toCur) := by
  obtain ⟨v, w, c, e, rfl⟩ | ⟨c, e, g, s, rfl⟩ := p.wf_shape hw
  · exact compat_data ext d v w c e hk
  · exact compat_acc ext d g s c e hk

/-- a caller-supplied descriptor that passed ToPropertyDescriptor -/
def PD.WF (d : PD) : Prop := ¬ (d.isAccessorDescriptor = true ∧ d.isDataDescriptor = true)

instance (d : PD) : Decidable d.WF := by unfold PD.WF; exact inferInstance

/-- every [[DefineOwnProperty]] of the models tests well-formedness in this form first -/
theorem PD.WF.of_not {d : PD} (h : ¬ (d.isAccessorDescriptor && d.isDataDescriptor) = true) : d.WF :=
  fun hh => h (by rw [hh.1, hh.2]; rfl)

theorem PD.not_wf {d : PD} (h : ¬ d.WF) : (d.isAccessorDescriptor && d.isDataDescriptor) = true := by
  simp only [PD.WF, Classical.not_not] at h
  rw [h.1, h.2]; rfl

theorem PD.WF.not_data {d : PD} (h : d.WF) (ha : d.isAccessorDescriptor = true) : d.isDataDescriptor = false :=
  Bool.eq_false_iff.mpr fun hd => h ⟨ha, hd⟩

theorem PD.WF.not_accessor {d : PD} (h : d.WF) (hd : d.isDataDescriptor = true) : d.isAccessorDescriptor = false :=
  Bool.eq_false_iff.mpr fun ha => h ⟨ha, hd⟩

theorem Cur.toTProp_wf (c : Cur) : c.toTProp.WF := by
  cases c with
  | data v w e c => cases w <;> cases e <;> cases c <;> simp [Cur.toTProp, TProp.WF, VProp.WF]
  | acc g s e c => simp [Cur.toTProp, TProp.WF, VProp.WF]

theorem Cur.toTProp_toCur (c : Cur) : c.toTProp.toCur = some c := by
  cases c with
  | data v w e c => cases w <;> cases e <;> cases c <;> simp [Cur.toTProp, TProp.toCur, propToValueProp, VProp.toCur]
  | acc g s e c => simp [Cur.toTProp, TProp.toCur, propToValueProp, VProp.toCur]

theorem optCur_wf (c : Option Cur) : (optCurToTProp c).WF := by
  cases c with
  | none => simp [optCurToTProp, TProp.WF]
  | some c => exact Cur.toTProp_wf c

theorem optCur_toCur (c : Option Cur) : (optCurToTProp c).toCur = c := by
  cases c with
  | none => simp [optCurToTProp, TProp.toCur, propToValueProp]
  | some c => exact Cur.toTProp_toCur c

theorem asObj_roundtrip (g : Option Nat) :
    asObj (some (match g with | some f => Val.obj f | none => Val.undef)) = g := by
  cases g <;> simp [asObj]

theorem flag_roundtrip (w : Option Bool) :
    (match w with | none => Flag.notSet | some b => Flag.ofBool b).toOpt = w := by
  cases w with
  | none => rfl
  | some b => cases b <;> rfl

theorem accMap_roundtrip (g : Option (Option Nat)) :
    (g.map (fun g => match g with | some f => Val.obj f | none => Val.undef)).map (fun v => asObj (some v)) = g := by
  cases g with
  | none => rfl
  | some g => exact congrArg some (asObj_roundtrip g)

theorem PD.toDesc_toPD (d : PD) : d.toDesc.toPD = d := by
  rcases d with ⟨v, w, g, s, e, c⟩
  simp only [PD.toDesc, Desc.toPD, PD.mk.injEq]
  exact ⟨trivial, flag_roundtrip w, accMap_roundtrip g, accMap_roundtrip s, flag_roundtrip e, flag_roundtrip c⟩

theorem accessorFieldValid_ofPD (g : Option (Option Nat)) :
    accessorFieldValid (g.map fun g => match g with | some f => Val.obj f | none => Val.undef) = true := by
  rcases g with _ | _ | _ <;> rfl

theorem PD.toDesc_valid (d : PD) (h : d.WF) : d.toDesc.Valid := by
  refine ⟨accessorFieldValid_ofPD d.get, accessorFieldValid_ofPD d.set, ?_⟩
  have : ¬ (d.toDesc.isAccessor = true ∧ d.toDesc.isData = true) := by
    rw [← Desc.toPD_isAccessor, ← Desc.toPD_isData, PD.toDesc_toPD]; exact h
  simpa [Desc.isAccessor, Desc.isData, or_comm] using this

/-- the descriptor record of an existing property, every field of its kind present: what a forwarding
getOwnPropertyDescriptor trap hands back (`Cur.toDesc_eq`) -/
def Cur.toPD : Cur → PD
  | .data v w e cf => ⟨some v, some w, none, none, some e, some cf⟩
  | .acc g s e cf => ⟨none, none, some g, some s, some e, some cf⟩

theorem Cur.toDesc_eq (c : Cur) : c.toDesc = c.toPD.toDesc := by cases c <;> rfl

theorem Cur.toPD_wf (c : Cur) : c.toPD.WF := by
  cases c <;> simp [Cur.toPD, PD.WF, PD.isAccessorDescriptor, PD.isDataDescriptor]

theorem PD.complete_configurable (d : PD) : d.complete.configurable = some (d.configurable.getD false) := by
  unfold PD.complete; split <;> rfl

theorem PD.toCur_configurable (d : PD) : d.toCur.configurable = d.configurable.getD false := by
  unfold PD.toCur; split <;> rfl

theorem PD.complete_toCur (p : PD) : p.complete.toCur = p.toCur := by
  unfold PD.complete
  split
  · rfl
  · rename_i h
    have : p.isAccessorDescriptor = true := by
      cases ha : p.isAccessorDescriptor
      · simp [PD.isGenericDescriptor, ha] at h
      · rfl
    rw [PD.toCur, PD.toCur, if_pos this]
    rfl

theorem specGopd_desc_result (c : Option Cur) (ext : Bool) (d : PD) (r : Option Cur)
    (h : specGopd c ext (.desc d) = .ok r) :
    r = some d.complete.toCur ∧ specIsCompatible ext d.complete c = true ∧
    (d.complete.toCur.configurable = false → ∃ c0, c = some c0 ∧ c0.configurable = false) := by
  simp only [specGopd] at h
  split at h
  · simp at h
  · rename_i hcomp
    have hcomp' : specIsCompatible ext d.complete c = true := by simpa using hcomp
    split at h
    · rename_i hcf
      have hcf' : d.complete.configurable = some false := by simpa using hcf
      cases c with
      | none => simp at h
      | some c0 =>
        simp only at h
        split at h
        · simp at h
        · rename_i hc0
          have hc0' : c0.configurable = false := by simpa using hc0
          refine ⟨?_, hcomp', fun _ => ⟨c0, rfl, hc0'⟩⟩
          split at h
          · split at h
            · simp at h
            · injection h with h; exact h.symm
          · injection h with h; exact h.symm
    · rename_i hcf
      injection h with h
      refine ⟨h.symm, hcomp', fun hx => ?_⟩
      rw [PD.toCur_configurable, PD.complete_configurable] at hx
      rw [PD.complete_configurable] at hcf
      exact absurd (congrArg some hx) (by simpa using hcf)

/-! `complete()` (object.go:118) fills one field at a time; each step in closed form.  `Flag.ofBool f.bool` is `f` with
FLAG_NOT_SET turned into FLAG_FALSE. -/
section
variable (p : Desc)
theorem fillValue : (if p.value.isNone then { p with value := some .undef } else p) = { p with value := some (p.value.getD .undef) } := by
  rcases p with ⟨_ | _, _, _, _, _, _⟩ <;> rfl
theorem fillGetter : (if p.getter.isNone then { p with getter := some .undef } else p) = { p with getter := some (p.getter.getD .undef) } := by
  rcases p with ⟨_, _, _, _, _ | _, _⟩ <;> rfl
theorem fillSetter : (if p.setter.isNone then { p with setter := some .undef } else p) = { p with setter := some (p.setter.getD .undef) } := by
  rcases p with ⟨_, _, _, _, _, _ | _⟩ <;> rfl
theorem fillWritable : (if p.writable == .notSet then { p with writable := .fals } else p) = { p with writable := .ofBool p.writable.bool } := by
  rcases p with ⟨_, _ | _ | _, _, _, _, _⟩ <;> rfl
theorem fillEnumerable : (if p.enumerable == .notSet then { p with enumerable := .fals } else p) = { p with enumerable := .ofBool p.enumerable.bool } := by
  rcases p with ⟨_, _, _, _ | _ | _, _, _⟩ <;> rfl
theorem fillConfigurable : (if p.configurable == .notSet then { p with configurable := .fals } else p) = { p with configurable := .ofBool p.configurable.bool } := by
  rcases p with ⟨_, _, _ | _ | _, _, _, _⟩ <;> rfl
end

theorem Desc.complete_of_not_accessor {d : Desc} (h : d.isAccessor = false) : d.complete =
    { d with value := some (d.value.getD .undef), writable := .ofBool d.writable.bool,
             enumerable := .ofBool d.enumerable.bool, configurable := .ofBool d.configurable.bool } := by
  have : (d.getter.isNone && d.setter.isNone) = true := by
    rcases d with ⟨_, _, _, _, _ | _, _ | _⟩ <;> first | rfl | cases h
  -- `-zeta`: the steps are `let`s; kept, each is an instance of its closed form
  simp -zeta only [Desc.complete, this, fillValue, fillWritable, fillEnumerable, fillConfigurable]
  rfl

theorem Desc.complete_of_accessor {d : Desc} (h : d.isAccessor = true) : d.complete =
    { d with getter := some (d.getter.getD .undef), setter := some (d.setter.getD .undef),
             enumerable := .ofBool d.enumerable.bool, configurable := .ofBool d.configurable.bool } := by
  have : (d.getter.isNone && d.setter.isNone) = false := by
    rcases d with ⟨_, _, _, _, _ | _, _ | _⟩ <;> first | rfl | cases h
  simp -zeta only [Desc.complete, this, fillGetter, fillSetter, fillEnumerable, fillConfigurable]
  rfl

theorem complete_toPD (d : Desc) (h : d.Valid) : d.complete.toPD = d.toPD.complete := by
  cases hA : d.isAccessor
  · have : (d.toPD.isGenericDescriptor || d.toPD.isDataDescriptor) = true := by
      rw [Desc.toPD_isGeneric, Desc.toPD_isData, Desc.isGeneric, hA]; cases d.isData <;> rfl
    rw [Desc.complete_of_not_accessor hA, PD.complete, if_pos this]
    simp only [Desc.toPD, Flag.ofBool_toOpt, Flag.toOpt_getD]
  · have : (d.toPD.isGenericDescriptor || d.toPD.isDataDescriptor) = false := by
      rw [Desc.toPD_isGeneric, Desc.toPD_isData, Desc.isGeneric, hA, Desc.isData, (h.no_data hA).1, (h.no_data hA).2]; rfl
    rw [Desc.complete_of_accessor hA, PD.complete, if_neg (by simp [this])]
    simp only [Desc.toPD, Flag.ofBool_toOpt, Flag.toOpt_getD, Option.map_some, accField_getD]

theorem accessorFieldValid_fill {g : Option Val} (h : accessorFieldValid g = true) :
    accessorFieldValid (some (g.getD .undef)) = true := by
  cases g
  · rfl
  · exact h

theorem complete_valid (d : Desc) (h : d.Valid) : d.complete.Valid := by
  cases hA : d.isAccessor
  · obtain ⟨hg, hs⟩ := Desc.isAccessor_eq_false.mp hA
    rw [Desc.complete_of_not_accessor hA]
    simp [Desc.Valid, hg, hs, accessorFieldValid]
  · obtain ⟨hv, hw⟩ := h.no_data hA
    rw [Desc.complete_of_accessor hA]
    exact ⟨accessorFieldValid_fill h.1, accessorFieldValid_fill h.2.1, by simp [hv, hw]⟩

/-- the value proxyGetOwnPropertyDescriptor returns once every check has passed (proxy.go:554-558) -/
def gopdTail (tvp : Desc → VProp) (d : Desc) : TProp :=
  let r := d.complete
  if r.writable == .tru && r.configurable == .tru && r.enumerable == .tru then
    match r.value with
    | some v => .plain v
    | none => .absent
  else .vp (tvp d)

theorem toValueProp_toCur (d : Desc) : (toValueProp d).toCur = d.toPD.toCur := by
  simp only [toValueProp, toValuePropWith, VProp.toCur, PD.toCur, Desc.toPD_isAccessor]
  simp only [Desc.toPD, Flag.toOpt_getD, Desc.isAccessor, Bool.or_comm, accField_asObj]
  rfl

theorem gopdTail_toCur (d : Desc) (h : d.Valid) :
    (gopdTail toValueProp d).toCur = some d.toPD.complete.toCur := by
  rw [PD.complete_toCur, ← toValueProp_toCur]
  cases hA : d.isAccessor
  · simp only [gopdTail, Desc.complete_of_not_accessor hA, Flag.ofBool_eq_tru]
    split
    · -- writable, configurable, enumerable: goja hands the bare value back
      rename_i hc
      simp only [Bool.and_eq_true] at hc
      obtain ⟨hg, hs⟩ := Desc.isAccessor_eq_false.mp hA
      simp [hc, TProp.toCur, propToValueProp, VProp.toCur, toValueProp, toValuePropWith, hg, hs]
    · rfl
  · simp only [gopdTail, Desc.complete_of_accessor hA, (h.no_data hA).2]
    rfl


theorem gopdCheckWith_obj (compat : CompatFn) (tvp : Desc → VProp) (prop : TProp) (ext : Bool) (d : Desc) :
    gopdCheckWith compat tvp prop ext (.obj d) =
      if !compat ext d.complete (propToValueProp prop) then .typeError
      else if d.complete.configurable == .fals then
        match propToValueProp prop with
        | none => .typeError
        | some td =>
          if td.configurable then .typeError
          else if d.complete.writable == .fals && td.writable then .typeError
          else .ok (gopdTail tvp d)
      else .ok (gopdTail tvp d) := by
  simp only [gopdCheckWith, gopdTail]
  generalize d.complete = R
  cases hv : R.value <;>
    cases hf : (R.writable == Flag.tru && R.configurable == Flag.tru && R.enumerable == Flag.tru) <;>
    simp <;> (cases propToValueProp prop <;> rfl)

theorem loop1_char (items : List KItem) : ∀ (kl set : List Key),
    loop1With ownKeysStep1 items kl set =
      match keysOfItems items with
      | none => .typeError
      | some ks => if ks.Nodup ∧ (∀ k ∈ ks, k ∉ set) then .ok (kl ++ ks, ks.reverse ++ set) else .typeError := by
  induction items with
  | nil => intro kl set; simp [loop1With, keysOfItems]
  | cons it rest ih =>
    intro kl set
    cases it with
    | invalid => simp [loop1With, ownKeysStep1, keysOfItems]
    | key k =>
      simp only [loop1With, ownKeysStep1, keysOfItems]
      by_cases hk : k ∈ set
      · have : set.contains k = true := by simpa using hk
        simp only [this, if_true]
        cases keysOfItems rest with
        | none => simp
        | some ks =>
          simp only [Option.map_some]
          rw [if_neg]
          intro h
          exact h.2 k (by simp) hk
      · have : set.contains k = false := by simpa using hk
        simp only [this]
        rw [show (if false = true then (Out.typeError : Out (List Key × List Key)) else Out.ok (kl ++ [k], k :: set)) =
              Out.ok (kl ++ [k], k :: set) from rfl]
        simp only []
        rw [ih]
        cases keysOfItems rest with
        | none => simp
        | some ks =>
          simp only [Option.map_some]
          by_cases hc : ks.Nodup ∧ ∀ x ∈ ks, x ∉ k :: set
          · rw [if_pos hc, if_pos]
            · simp
            · refine ⟨List.nodup_cons.mpr ⟨?_, hc.1⟩, ?_⟩
              · intro hmem; exact hc.2 k hmem (by simp)
              · intro x hx
                rcases List.mem_cons.mp hx with rfl | hx
                · exact hk
                · intro hs; exact hc.2 x hx (by simp [hs])
          · rw [if_neg hc, if_neg]
            intro h
            apply hc
            refine ⟨(List.nodup_cons.mp h.1).2, ?_⟩
            intro x hx hmem
            rcases List.mem_cons.mp hmem with rfl | hs
            · exact (List.nodup_cons.mp h.1).1 hx
            · exact h.2 x (by simp [hx]) hs

/-- what the second loop of proxyOwnKeys demands of the trap's key set `S`: every own key of the target is in it, or may be
left out (extensible target, configurable property) -/
def okCond (ext : Bool) (tk : List (Key × Bool)) (S : List Key) : Prop :=
  ∀ kc ∈ tk, kc.1 ∈ S ∨ (ext = true ∧ kc.2 = true)

instance (ext : Bool) (tk : List (Key × Bool)) (S : List Key) : Decidable (okCond ext tk S) := by
  unfold okCond; exact inferInstance

theorem okCond_cons {ext : Bool} {k : Key} {c : Bool} {tk : List (Key × Bool)} {S : List Key} :
    okCond ext ((k, c) :: tk) S ↔ (k ∈ S ∨ ext = true ∧ c = true) ∧ okCond ext tk S := List.forall_mem_cons

/-- what the second loop leaves of `S`: the target's keys struck off -/
def strike (tk : List (Key × Bool)) (S : List Key) : List Key := tk.foldl (fun S kc => S.erase kc.1) S

theorem mem_strike {x : Key} (tk : List (Key × Bool)) : ∀ {S : List Key}, S.Nodup →
    (x ∈ strike tk S ↔ x ∈ S ∧ x ∉ tk.map (·.1)) := by
  induction tk with
  | nil => intro S _; simp [strike]
  | cons kc rest ih =>
    intro S hS
    rw [strike, List.foldl_cons, ← strike, ih (hS.erase _), hS.mem_erase_iff]
    simp only [List.map_cons, List.mem_cons, not_or, and_assoc, and_left_comm]

theorem loop2_char (ext : Bool) (tk : List (Key × Bool)) : ∀ (S : List Key), (tk.map (·.1)).Nodup →
    loop2With (ownKeysStep2 ext) tk S = if okCond ext tk S then .ok (strike tk S) else .typeError := by
  induction tk with
  | nil => intro S _; exact (if_pos (fun _ h => nomatch h)).symm
  | cons kc rest ih =>
    intro S hT
    obtain ⟨k, c⟩ := kc
    simp only [List.map_cons, List.nodup_cons] at hT
    simp only [loop2With, ownKeysStep2, okCond_cons]
    by_cases hm : k ∈ S
    · -- a listed key is struck off; the keys still to come are other keys, so for them nothing changes
      have hrest : okCond ext rest (S.erase k) ↔ okCond ext rest S :=
        forall₂_congr fun kc h => by
          have hne : kc.1 ≠ k := fun e => hT.1 (e ▸ List.mem_map_of_mem (f := (·.1)) h)
          rw [List.mem_erase_of_ne hne]
      have hc : S.contains k = true := by simpa using hm
      simp only [hc, if_true, ih _ hT.2, hrest, hm, true_or, true_and]
      rfl
    · -- a key the trap left out: refused unless the target is extensible and the property configurable
      have : strike ((k, c) :: rest) S = strike rest S := by
        rw [strike, List.foldl_cons, List.erase_of_not_mem hm]; rfl
      cases ext <;> cases c <;> simp [hm, ih S hT.2, this]

/-- §10.5.11 steps 9–23 in the terms of the two loops: the trap's keys are duplicate-free, pass the second loop, and for a
non-extensible target none of them is left over.  `S` holds the trap's keys in any order (proxyOwnKeys collects them reversed). -/
theorem specOwnKeysAccept_iff (ext : Bool) (tk : List (Key × Bool)) {ks S : List Key} (hp : S.Perm ks) :
    specOwnKeysAccept ext tk ks = true ↔ ks.Nodup ∧ okCond ext tk S ∧ (ext = false → strike tk S = []) := by
  simp only [specOwnKeysAccept, decide_eq_true_eq, okCond, hp.mem_iff]
  refine and_congr_right fun hnd => ?_
  have hs : strike tk S = [] ↔ ∀ k ∈ ks, k ∈ tk.map (·.1) := by
    simp only [List.eq_nil_iff_forall_not_mem, mem_strike tk (hp.nodup_iff.mpr hnd), hp.mem_iff, not_and, Classical.not_not]
  rw [hs]
  constructor
  · rintro ⟨hA, hB⟩
    refine ⟨fun kc h => ?_, fun he => (hB he).2⟩
    -- a key of the target that is missing: the spec's two demands leave only "extensible and configurable"
    by_cases hm : kc.1 ∈ ks
    · exact .inl hm
    · refine .inr ⟨?_, ?_⟩
      · cases he : ext
        · exact absurd ((hB he).1 kc h) hm
        · rfl
      · cases hc : kc.2
        · exact absurd (hA kc h hc) hm
        · rfl
  · rintro ⟨hok, hC⟩
    exact ⟨fun kc h hf => (hok kc h).resolve_right (by simp [hf]),
      fun he => ⟨fun kc h => (hok kc h).resolve_right (by simp [he]), hC he⟩⟩

end GojaModel.C11
