/-
  C11: proxies with ARBITRARY handlers whose traps may MUTATE the target (and anything else in the
  state) before returning.  `proxyWith H q T` transcribes the trap-present / trap-absent structure of proxy.go for a handler
  `H` given as arbitrary state transformers; the post-check reads the target AFTER the trap ran (proxy.go evaluates
  `target.self.getOwnProp…` / `isExtensible()` / `proto()` as arguments of the post-check, i.e. at check time), through the
  target's pure query methods `q`.

  `handler_inv_*` (Props2.lean): whenever an operation of such a proxy completes normally, its result is consistent with the target AS IT
  IS WHEN THE OPERATION RETURNS — whatever the trap did to it in between.  These lift Props.inv_* (which quantify over the
  trap result only) to handlers with effects.
-/
import GojaModel.C11.Forward

namespace GojaModel.C11

structure Handler (σ : Type) where
  getPrototypeOf : Option (σ → R Val × σ)
  setPrototypeOf : Option (Option Nat → σ → R Bool × σ)
  isExtensible : Option (σ → R Bool × σ)
  preventExtensions : Option (σ → R Bool × σ)
  getOwnPropertyDescriptor : Option (Key → σ → R TrapDesc × σ)
  defineProperty : Option (Key → PD → σ → R Bool × σ)
  has : Option (Key → σ → R Bool × σ)
  get : Option (Key → Val → σ → R Val × σ)
  set : Option (Key → Val → Val → σ → R Bool × σ)
  deleteProperty : Option (Key → σ → R Bool × σ)
  ownKeys : Option (σ → R (List KItem) × σ)

def liftOut {σ α : Type} (o : Out α) (s : σ) : R α × σ :=
  match o with
  | .ok a => (.ok a, s)
  | .typeError => (.typeError, s)

/-- toPropertyDescriptor accepts the trap's result (builtin_object.go:162 throws otherwise) -/
def tdValid : TrapDesc → Bool
  | .obj d => decide d.Valid
  | _ => true

/-- the target's own keys with their configurability, read at check time (proxy.go:811-826) -/
def targetKeys {σ : Type} (q : Queries σ) (s : σ) : List (Key × Bool) :=
  (q.keys s).map (fun k => (k, match q.own k s with | some c => c.configurable | none => true))

def proxyWith {σ : Type} (H : Handler σ) (q : Queries σ) (T : Ops σ) : Ops σ where
  getProto := fun s => match H.getPrototypeOf with
    | none => T.getProto s
    | some t => bindR (t s) fun v s1 => liftOut (mechGetProto (q.ext s1) (q.proto s1) (some v)) s1
  setProto := fun p s => match H.setPrototypeOf with
    | none => T.setProto p s
    | some t => bindR (t p s) fun b s1 => liftOut (mechSetProto (q.ext s1) (q.proto s1) p b false) s1
  isExt := fun s => match H.isExtensible with
    | none => T.isExt s
    | some t => bindR (t s) fun b s1 => liftOut (mechIsExtensible (q.ext s1) b) s1
  prevExt := fun s => match H.preventExtensions with
    | none => T.prevExt s
    | some t => bindR (t s) fun b s1 => liftOut (mechPreventExtensions (q.ext s1) b false) s1
  getOwn := fun k s => match H.getOwnPropertyDescriptor with
    | none => T.getOwn k s
    | some t => bindR (t k s) fun td s1 =>
      if tdValid td then
        match mechGopd isCompatible toValueProp (optCurToTProp (q.own k s1)) (q.ext s1) td with
        | .ok r => (.ok r.toCur, s1)
        | .typeError => (.typeError, s1)
      else (.typeError, s1)
  define := fun k d s =>
    if d.isAccessorDescriptor && d.isDataDescriptor then (.typeError, s)
    else match H.defineProperty with
      | none => T.define k d s
      | some t => bindR (t k d s) fun b s1 =>
        liftOut (mechDefine isCompatible (optCurToTProp (q.own k s1)) (q.ext s1) d.toDesc b false) s1
  has := fun k s => match H.has with
    | none => T.has k s
    | some t => bindR (t k s) fun b s1 => liftOut (mechHas (optCurToTProp (q.own k s1)) (q.ext s1) b) s1
  get := fun k rcv s => match H.get with
    | none => T.get k rcv s
    | some t => bindR (t k rcv s) fun v s1 => liftOut (mechGet (optCurToTProp (q.own k s1)) v) s1
  set := fun k v rcv s => match H.set with
    | none => T.set k v rcv s
    | some t => bindR (t k v rcv s) fun b s1 => liftOut (mechSet (optCurToTProp (q.own k s1)) v b false) s1
  delete := fun k s => match H.deleteProperty with
    | none => T.delete k s
    | some t => bindR (t k s) fun b s1 => liftOut (mechDelete (optCurToTProp (q.own k s1)) (q.ext s1) b false) s1
  ownKeys := fun s => match H.ownKeys with
    | none => T.ownKeys s
    | some t => bindR (t s) fun items s1 => liftOut (mechOwnKeys (q.ext s1) (targetKeys q s1) items) s1
  callable := T.callable
  constructor := T.constructor
  call := T.call
  construct := T.construct

theorem liftOut_ok {σ α : Type} {o : Out α} {s s' : σ} {r : α} (h : liftOut o s = (.ok r, s')) : o = .ok r ∧ s' = s := by
  cases o with
  | ok a => simp only [liftOut] at h; injection h with h1 h2; injection h1 with h1; exact ⟨by rw [h1], h2.symm⟩
  | typeError => simp [liftOut] at h

theorem checked_ok {σ α β : Type} {m : R α × σ} {f : α → σ → Out β} {r : β} {s' : σ}
    (h : bindR m (fun a s1 => liftOut (f a s1) s1) = (.ok r, s')) : ∃ a, f a s' = .ok r := by
  obtain ⟨a, s1, _, h2⟩ := bindR_ok_inv h
  obtain ⟨h3, rfl⟩ := liftOut_ok h2
  exact ⟨a, h3⟩

theorem targetKeys_keys {σ : Type} (q : Queries σ) (s : σ) : (targetKeys q s).map (·.1) = q.keys s := by
  rw [targetKeys, List.map_map]
  exact (List.map_congr_left fun _ _ => rfl).trans (List.map_id _)

theorem targetKeys_nodup {σ : Type} (q : Queries σ) (h : ∀ s, (q.keys s).Nodup) (s : σ) : ((targetKeys q s).map (·.1)).Nodup :=
  targetKeys_keys q s ▸ h s

end GojaModel.C11
