/-
  C11: a REGENERATED tie for one exotic target — array.go:391 `defineArrayLength`, the decision function
  behind Object.defineProperty(array, "length", …) (shared by arrayObject and sparseArrayObject).  Hand transcription here;
  the regenerated function is GojaModel/Generated/C11_Array.lean (`gen_defineArrayLength`), Tie3.lean proves them equal, and
  Props2.lean relates the mechanism to the spec-level `arrSetLength` of Exotic.lean.
-/
import GojaModel.C11.Exotic

namespace GojaModel.C11

/-- the `*valueProperty` of the length property, as far as defineArrayLength touches it -/
structure LenProp where
  writable : Bool
  deriving DecidableEq, Repr

/-- array.go:424-429 `Reject:` tail -/
def lenFinish (ret w throw : Bool) : Out (Bool × Bool) :=
  if !ret then (if throw then .typeError else .ok (false, w)) else .ok (true, w)

/-- array.go:391 defineArrayLength(prop, descr, setter, throw).  `newLenOf` = toLengthUint32(descr.Value) (none: RangeError),
`setter n` = the result of `a.setLength(n, false)`.  Result: (returned bool, prop.writable afterwards). -/
def defineArrayLengthMech (prop : LenProp) (oldLen : Nat) (d : Desc) (newLenOf : Option Nat) (setter : Nat → Bool)
    (throw : Bool) : Out (Bool × Bool) :=
  if d.value.isSome && newLenOf.isNone then .typeError                                   -- :395 conversion first
  else if d.configurable == .tru || d.enumerable == .tru || d.getter.isSome || d.setter.isSome then
    lenFinish false prop.writable throw                                                  -- :398-401
  else
    let ret := if d.value.isSome then
        (if oldLen != newLenOf.getD 0 then setter (newLenOf.getD 0) else true)           -- :403-407
      else true                                                                          -- :409
    if d.writable != .notSet then                                                        -- :412
      if prop.writable then lenFinish ret d.writable.bool throw                          -- :415 prop.writable = w
      else if d.writable.bool then lenFinish false prop.writable throw                   -- :417-420
      else lenFinish ret prop.writable throw
    else lenFinish ret prop.writable throw

/-- what `a.setLength(n, false)` answers in state `s` (array.go:134 + _setLengthInt): needs a writable length; growing always
succeeds, shrinking succeeds iff no non-configurable element is in the way -/
def setterSpec (A : AEnv) (s : AState) (n : Nat) : Bool :=
  s.lenW && (decide (n ≥ s.len) || (maxBlocker A n s.o.props).isNone)

end GojaModel.C11
