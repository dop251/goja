/-
  C11 — Proxy invariant checks and forwarding transparency: executable model.  CORE LEAN ONLY.

  Part 1  descriptor / property model (object.go:55 PropertyDescriptor, value.go:132 valueProperty)
  Part 2  MECHANISM: hand transcription of /repo/proxy.go's checks (file:line cited per def)
  Part 3  SPEC: ECMA-262 §10.5 ([[…]] of Proxy exotic objects) and §10.1.6.2/3
          (IsCompatiblePropertyDescriptor / ValidateAndApplyPropertyDescriptor with O = undefined)
  Part 4  abstract object interface, forwarding proxy layer with trap log, op histories
  (concrete lawful base objects: Forward.lean `frozenOps`, Ordinary.lean `ordOps`, Exotic.lean)
-/
namespace GojaModel.C11

/-! ## Part 1 — values, flags, descriptors -/

/-- JS values up to SameValue: Lean `=` on `Val` IS SameValue (NaN one constructor, ±0 two). -/
inductive Val where
  | undef | null | tru | fls
  | num (n : Int)          -- any number other than NaN / -0
  | nan | negZero
  | str (s : Nat)          -- string identified by content id
  | sym (n : Nat)
  | obj (id : Nat)         -- object identity
  deriving DecidableEq, Repr, Inhabited

/-- object.go Flag: FLAG_NOT_SET, FLAG_FALSE, FLAG_TRUE -/
inductive Flag where
  | notSet | fals | tru
  deriving DecidableEq, Repr, Inhabited

/-- object.go Flag.Bool() -/
def Flag.bool : Flag → Bool
  | .tru => true
  | _ => false

def Flag.ofBool (b : Bool) : Flag := if b then .tru else .fals

/-- object.go:55 PropertyDescriptor (jsDescriptor omitted).  `none` = Go nil = field absent. -/
structure Desc where
  value : Option Val
  writable : Flag
  configurable : Flag
  enumerable : Flag
  getter : Option Val
  setter : Option Val
  deriving DecidableEq, Repr, Inhabited

/-- object.go:70 -/
def Desc.isAccessor (p : Desc) : Bool := p.setter.isSome || p.getter.isSome
/-- object.go:74 -/
def Desc.isData (p : Desc) : Bool := p.value.isSome || p.writable != .notSet
/-- object.go:78 -/
def Desc.isGeneric (p : Desc) : Bool := !p.isAccessor && !p.isData

/-- object.go:118 complete() -/
def Desc.complete (p : Desc) : Desc :=
  let p := if p.getter.isNone && p.setter.isNone then
      let p := if p.value.isNone then { p with value := some .undef } else p
      if p.writable == .notSet then { p with writable := .fals } else p
    else
      let p := if p.getter.isNone then { p with getter := some .undef } else p
      if p.setter.isNone then { p with setter := some .undef } else p
  let p := if p.enumerable == .notSet then { p with enumerable := .fals } else p
  if p.configurable == .notSet then { p with configurable := .fals } else p

/-- value.go:132 valueProperty.  getterFunc/setterFunc: `*Object` or nil. -/
structure VProp where
  value : Option Val
  writable : Bool
  configurable : Bool
  enumerable : Bool
  accessor : Bool
  getterFunc : Option Nat
  setterFunc : Option Nat
  deriving DecidableEq, Repr, Inhabited

/-- What an own-property lookup returns in goja (`Value`): nil | a plain value (= writable,
enumerable, configurable data property) | *valueProperty. -/
inductive TProp where
  | absent
  | plain (v : Val)
  | vp (p : VProp)
  deriving DecidableEq, Repr, Inhabited

/-- proxy.go:363 propToValueProp -/
def propToValueProp : TProp → Option VProp
  | .absent => none
  | .vp p => some p
  | .plain v => some { value := some v, writable := true, configurable := true, enumerable := true,
                       accessor := false, getterFunc := none, setterFunc := none }

/-- Go `x, ok := targetProp.(*valueProperty)` -/
def asValueProperty : TProp → Option VProp
  | .vp p => some p
  | _ => none

/-- Go `o, _ := v.(*Object)` on a possibly-nil interface. -/
def asObj : Option Val → Option Nat
  | some (.obj id) => some id
  | _ => none

/-- `a.SameAs(b)` with `a` non-nil, `b` possibly nil (a nil `other` fails every type switch). -/
def sameAs (a : Val) (b : Option Val) : Bool :=
  match b with
  | some b => a == b
  | none => false

/-- proxy.go:973 __sameValue (both sides possibly nil). -/
def sameValueNil (a b : Option Val) : Bool :=
  match a, b with
  | none, none => true
  | some a, b => sameAs a b
  | none, some _ => false

/-- proxy.go:973 __sameValue as used with two `*Object` arguments (proto comparisons): pointer equality;
a nil `*Object` in a `Value` interface is a non-nil interface, `Object.SameAs` then compares pointers. -/
def sameObj (a b : Option Nat) : Bool := a == b

/-- runtime.go:2687 toObject: identity on objects, TypeError otherwise. -/
def toObject? : Val → Option Nat
  | .obj id => some id
  | _ => none

/-- result of a check or operation: normal completion or `panic(TypeError)` -/
inductive Out (α : Type) where
  | ok (a : α)
  | typeError
  deriving DecidableEq, Repr, Inhabited

/-! ## Part 2 — mechanism (proxy.go), hand transcription -/

/-- proxy.go:922 __isCompatibleDescriptor (the code as it is, after commits cc2cbee and 7553bcd). -/
def isCompatible (extensible : Bool) (desc : Desc) (current : Option VProp) : Bool :=
  match current with
  | none => extensible                                                     -- :923
  | some cur =>
    if !cur.configurable then                                              -- :927
      if desc.configurable == .tru then false                              -- :928
      else if desc.enumerable != .notSet && desc.enumerable.bool != cur.enumerable then false  -- :932
      else if desc.isGeneric then true                                     -- :936
      else if desc.isData != !cur.accessor then false                      -- :940-941
      else if desc.isData && !cur.accessor then                            -- :944
        if desc.writable == .tru && !cur.writable then false               -- :946
        else if !cur.writable then
          match desc.value with                                            -- :950
          | some v => if !sameAs v cur.value then false else true
          | none => true
        else true
      else if desc.isAccessor && cur.accessor then                         -- :957
        if desc.setter.isSome && cur.setterFunc != asObj desc.setter then false      -- :961
        else if desc.getter.isSome && cur.getterFunc != asObj desc.getter then false -- :964
        else true
      else true
    else true

/-- REGRESSION ONLY: the kind-mismatch branch as it was before commit 7553bcd
(`return desc.Configurable != FLAG_FALSE`); see Props.isCompatible_kindMismatch_prefix_witness. -/
def isCompatibleKindPreFix (extensible : Bool) (desc : Desc) (current : Option VProp) : Bool :=
  match current with
  | none => extensible
  | some cur =>
    if !cur.configurable then
      if desc.configurable == .tru then false
      else if desc.enumerable != .notSet && desc.enumerable.bool != cur.enumerable then false
      else if desc.isGeneric then true
      else if desc.isData != !cur.accessor then desc.configurable != .fals
      else isCompatible extensible desc current
    else true

/-- REGRESSION ONLY: the accessor branch as it was before commit cc2cbee (`==` where `!=` is right); see
Props.isCompatible_accessor_prefix_witness. -/
def isCompatiblePreFix (extensible : Bool) (desc : Desc) (current : Option VProp) : Bool :=
  match current with
  | none => extensible
  | some cur =>
    if !cur.configurable then
      if desc.configurable == .tru then false
      else if desc.enumerable != .notSet && desc.enumerable.bool != cur.enumerable then false
      else if desc.isGeneric then true
      else if desc.isData != !cur.accessor then false
      else if desc.isData && !cur.accessor then
        if desc.writable == .tru && !cur.writable then false
        else if !cur.writable then
          match desc.value with
          | some v => if !sameAs v cur.value then false else true
          | none => true
        else true
      else if desc.isAccessor && cur.accessor then
        if desc.setter.isSome && cur.setterFunc == asObj desc.setter then false
        else if desc.getter.isSome && cur.getterFunc == asObj desc.getter then false
        else true
      else true
    else true

abbrev CompatFn := Bool → Desc → Option VProp → Bool

/-- proxy.go:386 proxyDefineOwnPropertyPostCheck (after a truthy trap result). -/
def definePostCheckWith (compat : CompatFn) (prop : TProp) (targetExt : Bool) (descr : Desc) : Out Unit :=
  let settingConfigFalse := descr.configurable == .fals                    -- :389
  match propToValueProp prop with
  | none =>
    if !targetExt then .typeError                                          -- :391
    else if settingConfigFalse then .typeError                             -- :394
    else .ok ()
  | some td =>
    if !compat targetExt descr (some td) then .typeError                   -- :398
    else if settingConfigFalse && td.configurable then .typeError          -- :401
    else if td.value.isSome && !td.configurable && td.writable then        -- :404
      if descr.writable == .fals then .typeError else .ok ()               -- :405
    else .ok ()

/-- proxy.go:450 proxyHasChecks (called only after a falsy trap result). -/
def hasCheck (prop : TProp) (targetExt : Bool) : Out Unit :=
  match propToValueProp prop with
  | some td =>
    if !td.configurable then .typeError                                    -- :453
    else if !targetExt then .typeError                                     -- :456
    else .ok ()
  | none => .ok ()

/-- what the getOwnPropertyDescriptor trap returned -/
inductive TrapDesc where
  | undef                 -- nil or undefined
  | nonObject             -- any other primitive
  | obj (d : Desc)        -- an object; `d` = what toPropertyDescriptor reads from it
  deriving DecidableEq, Repr, Inhabited

/-- builtin_object.go:114 toValueProp on the trap's result object, expressed on the fields that
toPropertyDescriptor read (same object, same reads).  `accCond getterFunc setterFunc getter setter` is the
condition of the final `if … { ret.accessor = true }` (:156). -/
def toValuePropWith (accCond : Option Nat → Option Nat → Option Val → Option Val → Bool) (d : Desc) : VProp :=
  let g := asObj d.getter
  let s := asObj d.setter
  { value := d.value
    writable := d.writable.bool
    enumerable := d.enumerable.bool
    configurable := d.configurable.bool
    getterFunc := g
    setterFunc := s
    accessor := accCond g s d.getter d.setter }

/-- builtin_object.go:114 toValueProp, the code as it is (after commit 43d21ca): `accessor` whenever a `get` or
`set` field is present -/
def toValueProp (d : Desc) : VProp :=
  toValuePropWith (fun _ _ g s => g.isSome || s.isSome) d

/-- REGRESSION ONLY: before commit 43d21ca `accessor` was set only when a getter or setter FUNCTION was present -/
def toValuePropPreFix (d : Desc) : VProp :=
  toValuePropWith (fun g s _ _ => g.isSome || s.isSome) d

/-- proxy.go:510 proxyGetOwnPropertyDescriptor. -/
def gopdCheckWith (compat : CompatFn) (tvp : Desc → VProp) (prop : TProp) (targetExt : Bool)
    (trap : TrapDesc) : Out TProp :=
  let targetDesc := propToValueProp prop
  match trap with
  | .nonObject => .typeError                                               -- :518
  | .undef =>                                                              -- :521
    match targetDesc with
    | none => .ok .absent
    | some td =>
      if !td.configurable then .typeError                                  -- :525
      else if !targetExt then .typeError                                   -- :528
      else .ok .absent
  | .obj d =>
    let resultDesc := d.complete                                           -- :534-535
    if !compat targetExt resultDesc targetDesc then .typeError             -- :536
    else
      let tail : Out TProp :=
        if resultDesc.writable == .tru && resultDesc.configurable == .tru && resultDesc.enumerable == .tru then
          match resultDesc.value with                                      -- :554-556
          | some v => .ok (.plain v)
          | none => .ok .absent
        else .ok (.vp (tvp d))                                             -- :558
      if resultDesc.configurable == .fals then                             -- :540
        match targetDesc with
        | none => .typeError                                               -- :541
        | some td =>
          if td.configurable then .typeError                               -- :545
          else if resultDesc.writable == .fals && td.writable then .typeError  -- :549
          else tail
      else tail

/-- proxy.go:588 proxyGetChecks -/
def getCheck (prop : TProp) (trapResult : Val) : Out Unit :=
  match asValueProperty prop with
  | some td =>
    if !td.accessor then
      if !td.writable && !td.configurable && !sameAs trapResult td.value then .typeError   -- :591
      else .ok ()
    else
      if !td.configurable && td.getterFunc.isNone && trapResult != .undef then .typeError  -- :595
      else .ok ()
  | none => .ok ()

/-- proxy.go:646 proxySetPostCheck (after a truthy trap result) -/
def setPostCheck (prop : TProp) (value : Val) : Out Unit :=
  match asValueProperty prop with
  | some p =>
    if p.accessor then
      if !p.configurable && p.setterFunc.isNone then .typeError            -- :649
      else .ok ()
    else if !p.configurable && !p.writable && !sameValueNil p.value (some value) then .typeError  -- :652
    else .ok ()
  | none => .ok ()

/-- proxy.go:718 proxyDeleteCheck; `throw` = strict-mode flag -/
def deleteCheck (trapResult : Bool) (prop : TProp) (targetExt : Bool) (throw : Bool) : Out Unit :=
  if trapResult then
    match prop with
    | .absent => .ok ()                                                    -- :720
    | _ =>
      match asValueProperty prop with
      | some td =>
        if !td.configurable then .typeError                                -- :724
        else if !targetExt then .typeError                                 -- :728
        else .ok ()
      | none => if !targetExt then .typeError else .ok ()
  else if throw then .typeError else .ok ()                                -- :732

/-- proxy.go:302 proto().  `trap = none`: handler has no such trap. -/
def mechGetProto (targetExt : Bool) (targetProto : Option Nat) (trap : Option Val) : Out (Option Nat) :=
  match trap with
  | some v =>
    let hp : Out (Option Nat) :=
      if v != .null then
        match toObject? v with                                             -- :307
        | some o => .ok (some o)
        | none => .typeError
      else .ok none
    match hp with
    | .typeError => .typeError
    | .ok handlerProto =>
      if !targetExt && !sameObj handlerProto targetProto then .typeError   -- :309
      else .ok handlerProto
  | none => .ok targetProto                                                -- :315

/-- proxy.go:318 setProto (trap present) -/
def mechSetProto (targetExt : Bool) (targetProto proto : Option Nat) (trapResult throw : Bool) : Out Bool :=
  if trapResult then
    if !targetExt && !sameObj proto targetProto then .typeError            -- :322
    else .ok true
  else if throw then .typeError else .ok false                             -- :327

/-- proxy.go:335 isExtensible (trap present) -/
def mechIsExtensible (targetExt trapResult : Bool) : Out Bool :=
  if trapResult != targetExt then .typeError else .ok trapResult           -- :338

/-- proxy.go:347 preventExtensions (trap present); `targetExt` read AFTER the trap ran -/
def mechPreventExtensions (targetExt trapResult throw : Bool) : Out Bool :=
  if !trapResult then (if throw then .typeError else .ok false)            -- :350
  else if targetExt then .typeError                                        -- :354
  else .ok true

/-! ### trap-level wrappers (the `…Str/Idx/Sym` methods around the checks) -/

/-- proxy.go:412 defineOwnPropertyStr/Idx/Sym with :378 proxyDefineOwnPropertyPreCheck (trap present) -/
def mechDefine (compat : CompatFn) (prop : TProp) (targetExt : Bool) (d : Desc) (trapResult throw : Bool) : Out Bool :=
  if !trapResult then (if throw then .typeError else .ok false)            -- :379
  else match definePostCheckWith compat prop targetExt d with
    | .ok _ => .ok true
    | .typeError => .typeError

/-- proxy.go:462 hasPropertyStr/Idx/Sym (trap present) -/
def mechHas (prop : TProp) (targetExt trapResult : Bool) : Out Bool :=
  if !trapResult then
    match hasCheck prop targetExt with
    | .ok _ => .ok trapResult
    | .typeError => .typeError
  else .ok trapResult

/-- builtin_object.go:162 toPropertyDescriptor throws on a descriptor with both accessor and data fields
(:196) before proxyGetOwnPropertyDescriptor goes on (proxy.go:534) -/
def descWellFormed (d : Desc) : Bool :=
  !((d.getter.isSome || d.setter.isSome) && (d.value.isSome || d.writable != .notSet))

/-- proxy.go:561 getOwnPropStr/Idx/Sym (trap present) -/
def mechGopd (compat : CompatFn) (tvp : Desc → VProp) (prop : TProp) (targetExt : Bool) (trap : TrapDesc) : Out TProp :=
  match trap with
  | .obj d => if !descWellFormed d then .typeError else gopdCheckWith compat tvp prop targetExt trap
  | _ => gopdCheckWith compat tvp prop targetExt trap

/-- proxy.go:602 getStr/Idx/Sym (trap present) -/
def mechGet (prop : TProp) (trapResult : Val) : Out Val :=
  match getCheck prop trapResult with
  | .ok _ => .ok trapResult
  | .typeError => .typeError

/-- proxy.go:658 proxySetStr/Idx/Sym with :639 proxySetPreCheck (trap present) -/
def mechSet (prop : TProp) (value : Val) (trapResult throw : Bool) : Out Bool :=
  if !trapResult then (if throw then .typeError else .ok false)
  else match setPostCheck prop value with
    | .ok _ => .ok true
    | .typeError => .typeError

/-- proxy.go:736 deleteStr/Idx/Sym (trap present) -/
def mechDelete (prop : TProp) (targetExt trapResult throw : Bool) : Out Bool :=
  match deleteCheck trapResult prop targetExt throw with
  | .ok _ => .ok trapResult
  | .typeError => .typeError

/-- proxy.go:909 construct (trap present): `return p.val.runtime.toObject(v)` — a non-object result is a TypeError.
For a Go ProxyTrapConfig handler the result is a `*Object`; nil is a non-object (builtin_proxy.go construct). -/
def mechConstruct (trapResult : Val) : Out Nat :=
  match toObject? trapResult with
  | some o => .ok o
  | none => .typeError

/-- property keys; an integer index and its canonical string are one key (propNameSet compares
`prop.string()`), symbols by identity. -/
inductive Key where
  | str (s : Nat)
  | sym (n : Nat)
  deriving DecidableEq, Repr, Inhabited

/-- an element of the array-like the ownKeys trap returned -/
inductive KItem where
  | key (k : Key)
  | invalid            -- neither String nor Symbol
  deriving DecidableEq, Repr, Inhabited

/-- generic shape of proxy.go:797-809: fold a step over the elements of the trap result -/
def loop1With (step : KItem → List Key → List Key → Out (List Key × List Key)) :
    List KItem → List Key → List Key → Out (List Key × List Key)
  | [], keyList, keySet => .ok (keyList, keySet)
  | it :: rest, keyList, keySet =>
    match step it keyList keySet with
    | .typeError => .typeError
    | .ok (kl, ks) => loop1With step rest kl ks

/-- generic shape of proxy.go:811-828: fold a step over the own keys of the target -/
def loop2With (step : Key × Bool → List Key → Out (List Key)) : List (Key × Bool) → List Key → Out (List Key)
  | [], keySet => .ok keySet
  | it :: rest, keySet =>
    match step it keySet with
    | .typeError => .typeError
    | .ok ks => loop2With step rest ks

/-- proxy.go:790 proxyOwnKeys (trap present) assembled from its two loop bodies and its tail -/
def ownKeysWith (step1 : KItem → List Key → List Key → Out (List Key × List Key))
    (step2 : Bool → Key × Bool → List Key → Out (List Key))
    (fin : Bool → List Key → List Key → Out (List Key))
    (ext : Bool) (targetKeys : List (Key × Bool)) (items : List KItem) : Out (List Key) :=
  match loop1With step1 items [] [] with
  | .typeError => .typeError
  | .ok (keyList, keySet) =>
    match loop2With (step2 ext) targetKeys keySet with
    | .typeError => .typeError
    | .ok keySet' => fin ext keyList keySet'

/-- proxy.go:798-808 body of the first loop: type check, duplicate check, accumulate.
`keySet` (propNameSet) is modelled as a duplicate-free list. -/
def ownKeysStep1 (item : KItem) (keyList keySet : List Key) : Out (List Key × List Key) :=
  match item with
  | .invalid => .typeError                                                 -- :801
  | .key k =>
    if keySet.contains k then .typeError                                   -- :804
    else .ok (keyList ++ [k], k :: keySet)

/-- proxy.go:812-827 body of the second loop; the item is (own key of the target, configurable) -/
def ownKeysStep2 (ext : Bool) (item : Key × Bool) (keySet : List Key) : Out (List Key) :=
  if keySet.contains item.1 then .ok (keySet.erase item.1)                 -- :812
  else if !ext then .typeError                                             -- :815
  else if !item.2 then .typeError                                          -- :824
  else .ok keySet

/-- proxy.go:829-833 -/
def ownKeysFinish (ext : Bool) (keyList keySet : List Key) : Out (List Key) :=
  if !ext && keyList.length > 0 && keySet.length > 0 then .typeError       -- :829
  else .ok keyList

/-- proxy.go:790 proxyOwnKeys (trap present) -/
def mechOwnKeys (ext : Bool) (targetKeys : List (Key × Bool)) (items : List KItem) : Out (List Key) :=
  ownKeysWith ownKeysStep1 ownKeysStep2 ownKeysFinish ext targetKeys items

/-! ## Part 3 — spec (ECMA-262, 14th ed.) -/

/-- a Property Descriptor record with optional fields (§6.2.6) -/
structure PD where
  value : Option Val
  writable : Option Bool
  get : Option (Option Nat)      -- present: undefined (none) or a function object
  set : Option (Option Nat)
  enumerable : Option Bool
  configurable : Option Bool
  deriving DecidableEq, Repr, Inhabited

/-- a fully populated descriptor of an existing property -/
inductive Cur where
  | data (value : Val) (writable enumerable configurable : Bool)
  | acc (get set : Option Nat) (enumerable configurable : Bool)
  deriving DecidableEq, Repr, Inhabited

def Cur.configurable : Cur → Bool
  | .data _ _ _ c => c
  | .acc _ _ _ c => c
def Cur.enumerable : Cur → Bool
  | .data _ _ e _ => e
  | .acc _ _ e _ => e
def Cur.isAccessor : Cur → Bool
  | .acc .. => true
  | _ => false

def PD.isAccessorDescriptor (d : PD) : Bool := d.get.isSome || d.set.isSome     -- §6.2.6.1
def PD.isDataDescriptor (d : PD) : Bool := d.value.isSome || d.writable.isSome  -- §6.2.6.2
def PD.isGenericDescriptor (d : PD) : Bool := !d.isAccessorDescriptor && !d.isDataDescriptor  -- §6.2.6.3

/-- §10.1.6.3 ValidateAndApplyPropertyDescriptor with O = undefined, i.e.
§10.1.6.2 IsCompatiblePropertyDescriptor(Extensible, Desc, Current). -/
def specIsCompatible (extensible : Bool) (desc : PD) (current : Option Cur) : Bool :=
  match current with
  | none => extensible                                                        -- step 2
  | some cur =>
    if !cur.configurable then                                                 -- step 5
      if desc.configurable == some true then false                            -- 5.a
      else if desc.enumerable.isSome && desc.enumerable != some cur.enumerable then false  -- 5.b
      else if !desc.isGenericDescriptor && desc.isAccessorDescriptor != cur.isAccessor then false -- 5.c
      else
        match cur with
        | .acc g s _ _ =>                                                     -- 5.d
          if desc.get.isSome && desc.get != some g then false
          else if desc.set.isSome && desc.set != some s then false
          else true
        | .data v w _ _ =>                                                    -- 5.e
          if !w then
            if desc.writable == some true then false
            else if desc.value.isSome && desc.value != some v then false
            else true
          else true
    else true

/-- §6.2.6.6 CompletePropertyDescriptor -/
def PD.complete (d : PD) : PD :=
  if d.isGenericDescriptor || d.isDataDescriptor then
    { d with value := some (d.value.getD .undef), writable := some (d.writable.getD false),
             enumerable := some (d.enumerable.getD false), configurable := some (d.configurable.getD false) }
  else
    { d with get := some (d.get.getD none), set := some (d.set.getD none),
             enumerable := some (d.enumerable.getD false), configurable := some (d.configurable.getD false) }

/-- a completed descriptor read as the property it describes -/
def PD.toCur (d : PD) : Cur :=
  if d.isAccessorDescriptor then
    .acc (d.get.getD none) (d.set.getD none) (d.enumerable.getD false) (d.configurable.getD false)
  else
    .data (d.value.getD .undef) (d.writable.getD false) (d.enumerable.getD false) (d.configurable.getD false)

/-- §10.5.6 [[DefineOwnProperty]] steps 10–15 (trap returned true) -/
def specDefineCheck (targetDesc : Option Cur) (extensibleTarget : Bool) (desc : PD) : Out Unit :=
  let settingConfigFalse := desc.configurable == some false
  match targetDesc with
  | none =>
    if !extensibleTarget then .typeError
    else if settingConfigFalse then .typeError
    else .ok ()
  | some td =>
    if !specIsCompatible extensibleTarget desc (some td) then .typeError
    else if settingConfigFalse && td.configurable then .typeError
    else
      match td with
      | .data _ true _ false => if desc.writable == some false then .typeError else .ok ()
      | _ => .ok ()

/-- §10.5.7 [[HasProperty]] step 8 (trap returned false) -/
def specHasCheck (targetDesc : Option Cur) (extensibleTarget : Bool) : Out Unit :=
  match targetDesc with
  | none => .ok ()
  | some td => if !td.configurable then .typeError else if !extensibleTarget then .typeError else .ok ()

/-- what the trap returned, spec view -/
inductive STrapDesc where
  | undef | nonObject | desc (d : PD)
  deriving DecidableEq, Repr, Inhabited

/-- §10.5.5 [[GetOwnProperty]] steps 8–17 -/
def specGopd (targetDesc : Option Cur) (extensibleTarget : Bool) (trap : STrapDesc) : Out (Option Cur) :=
  match trap with
  | .nonObject => .typeError
  | .undef =>
    match targetDesc with
    | none => .ok none
    | some td => if !td.configurable then .typeError else if !extensibleTarget then .typeError else .ok none
  | .desc d =>
    let resultDesc := d.complete
    if !specIsCompatible extensibleTarget resultDesc targetDesc then .typeError
    else if resultDesc.configurable == some false then
      match targetDesc with
      | none => .typeError
      | some td =>
        if td.configurable then .typeError
        else if resultDesc.writable == some false then
          match td with
          | .data _ true _ _ => .typeError
          | _ => .ok (some resultDesc.toCur)
        else .ok (some resultDesc.toCur)
    else .ok (some resultDesc.toCur)

/-- §10.5.8 [[Get]] step 10 -/
def specGetCheck (targetDesc : Option Cur) (trapResult : Val) : Out Unit :=
  match targetDesc with
  | some (.data v false _ false) => if trapResult != v then .typeError else .ok ()
  | some (.acc none _ _ false) => if trapResult != .undef then .typeError else .ok ()
  | _ => .ok ()

/-- §10.5.9 [[Set]] step 11 (trap returned true) -/
def specSetCheck (targetDesc : Option Cur) (v : Val) : Out Unit :=
  match targetDesc with
  | some (.data tv false _ false) => if v != tv then .typeError else .ok ()
  | some (.acc _ none _ false) => .typeError
  | _ => .ok ()

/-- §10.5.10 [[Delete]] steps 8–14 (result false ⇒ `false`, a TypeError only through the strict caller) -/
def specDeleteCheck (trapResult : Bool) (targetDesc : Option Cur) (extensibleTarget throw : Bool) : Out Unit :=
  if !trapResult then (if throw then .typeError else .ok ())
  else match targetDesc with
    | none => .ok ()
    | some td => if !td.configurable then .typeError else if !extensibleTarget then .typeError else .ok ()

/-- §10.5.1 [[GetPrototypeOf]] steps 7–13 -/
def specGetProto (extensibleTarget : Bool) (targetProto : Option Nat) (trapResult : Val) : Out (Option Nat) :=
  match trapResult with
  | .null => if extensibleTarget then .ok none else if targetProto = none then .ok none else .typeError
  | .obj id => if extensibleTarget then .ok (some id) else if targetProto = some id then .ok (some id) else .typeError
  | _ => .typeError

/-- §10.5.2 [[SetPrototypeOf]] steps 8–14 -/
def specSetProto (extensibleTarget : Bool) (targetProto v : Option Nat) (trapResult throw : Bool) : Out Bool :=
  if !trapResult then (if throw then .typeError else .ok false)
  else if extensibleTarget then .ok true
  else if v = targetProto then .ok true else .typeError

/-- §10.5.3 [[IsExtensible]] -/
def specIsExtensible (targetResult trapResult : Bool) : Out Bool :=
  if trapResult = targetResult then .ok trapResult else .typeError

/-- §10.5.4 [[PreventExtensions]] -/
def specPreventExtensions (extensibleTarget trapResult throw : Bool) : Out Bool :=
  if trapResult then (if extensibleTarget then .typeError else .ok true)
  else if throw then .typeError else .ok false

/-- §10.5.13 [[Construct]] step 9–10: the trap's result must be an Object -/
def specConstruct (trapResult : Val) : Out Nat :=
  match trapResult with
  | .obj o => .ok o
  | _ => .typeError

/-- the valid keys of a trap result, in order; `none` if some element is neither String nor Symbol
(§7.3.19 CreateListFromArrayLike with «String, Symbol») -/
def keysOfItems : List KItem → Option (List Key)
  | [] => some []
  | .invalid :: _ => none
  | .key k :: rest => (keysOfItems rest).map (k :: ·)

/-- §10.5.11 [[OwnPropertyKeys]] steps 8–23, declarative reading: the trap result is accepted iff it is a
duplicate-free list of property keys that contains every non-configurable own key of the target and, when
the target is non-extensible, is exactly a permutation of the target's own keys. -/
def specOwnKeysAccept (ext : Bool) (targetKeys : List (Key × Bool)) (ks : List Key) : Bool :=
  ks.Nodup ∧
  (∀ kc ∈ targetKeys, kc.2 = false → kc.1 ∈ ks) ∧
  (ext = false → (∀ kc ∈ targetKeys, kc.1 ∈ ks) ∧ (∀ k ∈ ks, k ∈ targetKeys.map (·.1)))

def specOwnKeys (ext : Bool) (targetKeys : List (Key × Bool)) (items : List KItem) : Out (List Key) :=
  match keysOfItems items with
  | none => .typeError
  | some ks => if specOwnKeysAccept ext targetKeys ks then .ok ks else .typeError

/-! ### trap-level spec functions: the whole tail of each §10.5 method after the trap call -/

/-- §10.5.6 steps 9–15 -/
def specDefine (targetDesc : Option Cur) (ext : Bool) (desc : PD) (trapResult throw : Bool) : Out Bool :=
  if !trapResult then (if throw then .typeError else .ok false)
  else match specDefineCheck targetDesc ext desc with
    | .ok _ => .ok true
    | .typeError => .typeError

/-- §10.5.7 steps 8–9 -/
def specHas (targetDesc : Option Cur) (ext trapResult : Bool) : Out Bool :=
  if trapResult then .ok true
  else match specHasCheck targetDesc ext with
    | .ok _ => .ok false
    | .typeError => .typeError

/-- §10.5.8 steps 9–11 -/
def specGet (targetDesc : Option Cur) (trapResult : Val) : Out Val :=
  match specGetCheck targetDesc trapResult with
  | .ok _ => .ok trapResult
  | .typeError => .typeError

/-- §10.5.9 steps 9–12 -/
def specSet (targetDesc : Option Cur) (v : Val) (trapResult throw : Bool) : Out Bool :=
  if !trapResult then (if throw then .typeError else .ok false)
  else match specSetCheck targetDesc v with
    | .ok _ => .ok true
    | .typeError => .typeError

/-- §10.5.10 steps 8–14 -/
def specDelete (targetDesc : Option Cur) (ext trapResult throw : Bool) : Out Bool :=
  match specDeleteCheck trapResult targetDesc ext throw with
  | .ok _ => .ok trapResult
  | .typeError => .typeError

/-! ### abstraction from the implementation's representation to the spec's -/

/-- representation invariant of a `valueProperty` (accessor ⇒ no value, not writable; data ⇒ value
present, no getter/setter) -/
def VProp.WF (p : VProp) : Prop :=
  (p.accessor = true → p.value = none ∧ p.writable = false) ∧
  (p.accessor = false → p.value.isSome ∧ p.getterFunc = none ∧ p.setterFunc = none)

instance (p : VProp) : Decidable p.WF := by unfold VProp.WF; exact inferInstance

def VProp.toCur (p : VProp) : Cur :=
  if p.accessor then .acc p.getterFunc p.setterFunc p.enumerable p.configurable
  else .data (p.value.getD .undef) p.writable p.enumerable p.configurable

def TProp.WF : TProp → Prop
  | .vp p => p.WF
  | _ => True

instance (t : TProp) : Decidable t.WF := by cases t <;> unfold TProp.WF <;> exact inferInstance

def TProp.toCur (t : TProp) : Option Cur := (propToValueProp t).map VProp.toCur

/-- a getter/setter field that passed toPropertyDescriptor: absent, undefined, or a (callable) object -/
def accessorFieldValid : Option Val → Bool
  | none => true
  | some .undef => true
  | some (.obj _) => true
  | _ => false

/-- what builtin_object.go:162 toPropertyDescriptor guarantees (it throws otherwise) -/
def Desc.Valid (d : Desc) : Prop :=
  accessorFieldValid d.getter = true ∧ accessorFieldValid d.setter = true ∧
  ¬ ((d.getter.isSome ∨ d.setter.isSome) ∧ (d.value.isSome ∨ d.writable ≠ .notSet))

instance (d : Desc) : Decidable d.Valid := by unfold Desc.Valid; exact inferInstance

def Flag.toOpt : Flag → Option Bool
  | .notSet => none
  | .fals => some false
  | .tru => some true

def Desc.toPD (d : Desc) : PD :=
  { value := d.value, writable := d.writable.toOpt,
    get := d.getter.map (fun v => asObj (some v)), set := d.setter.map (fun v => asObj (some v)),
    enumerable := d.enumerable.toOpt, configurable := d.configurable.toOpt }

def TrapDesc.toSpec : TrapDesc → STrapDesc
  | .undef => .undef
  | .nonObject => .nonObject
  | .obj d => .desc d.toPD

/-! ## Part 4 — objects as internal-method tables; the forwarding proxy layer -/

/-- an operation result: normal completion or a thrown TypeError (other throw kinds do not occur in the model) -/
abbrev R (α : Type) := Out α

/-- The internal methods of an object as state transformers over a world `σ`: the 11 that carry invariants, plus
[[Call]] / [[Construct]] with the flags that say whether the object has them.
`get`/`set` take the receiver as an opaque value. -/
structure Ops (σ : Type) where
  getProto : σ → R (Option Nat) × σ
  setProto : Option Nat → σ → R Bool × σ
  isExt : σ → R Bool × σ
  prevExt : σ → R Bool × σ
  getOwn : Key → σ → R (Option Cur) × σ
  define : Key → PD → σ → R Bool × σ
  has : Key → σ → R Bool × σ
  get : Key → Val → σ → R Val × σ
  set : Key → Val → Val → σ → R Bool × σ
  delete : Key → σ → R Bool × σ
  ownKeys : σ → R (List Key) × σ
  /-- the object has a [[Call]] / [[Construct]] internal method (IsCallable / IsConstructor; `typeof` = "function" iff callable) -/
  callable : Bool
  constructor : Bool
  /-- [[Call]](this, args) and [[Construct]](args, newTarget); only meaningful when `callable` / `constructor` -/
  call : Val → List Val → σ → R Val × σ
  construct : List Val → Val → σ → R Nat × σ

/-- trap names (proxy.go:92) -/
inductive Trap where
  | getPrototypeOf | setPrototypeOf | isExtensible | preventExtensions | getOwnPropertyDescriptor
  | defineProperty | has | get | set | deleteProperty | ownKeys | apply | construct
  deriving DecidableEq, Repr, Inhabited

/-- sequencing helper: run `m`, on TypeError stop, else continue -/
@[inline] def bindR {σ α β : Type} (m : R α × σ) (k : α → σ → R β × σ) : R β × σ :=
  match m with
  | (.typeError, s) => (.typeError, s)
  | (.ok a, s) => k a s

/-- lift a pure check -/
@[inline] def chk {σ α : Type} (c : Out Unit) (a : α) (s : σ) : R α × σ :=
  match c with
  | .ok () => (.ok a, s)
  | .typeError => (.typeError, s)

/-- cur → the implementation-side view used by the mechanism checks -/
def Cur.toTProp : Cur → TProp
  | .data v true true true => .plain v
  | .data v w e c => .vp { value := some v, writable := w, configurable := c, enumerable := e, accessor := false,
                            getterFunc := none, setterFunc := none }
  | .acc g s e c => .vp { value := none, writable := false, configurable := c, enumerable := e, accessor := true,
                           getterFunc := g, setterFunc := s }

def optCurToTProp : Option Cur → TProp
  | none => .absent
  | some c => c.toTProp

/-- builtin_object.go:31 valuePropToDescriptorObject followed by toPropertyDescriptor: the descriptor a
forwarding getOwnPropertyDescriptor trap hands back -/
def Cur.toDesc : Cur → Desc
  | .data v w e c => { value := some v, writable := .ofBool w, enumerable := .ofBool e, configurable := .ofBool c,
                        getter := none, setter := none }
  | .acc g s e c => { value := none, writable := .notSet, enumerable := .ofBool e, configurable := .ofBool c,
                       getter := some (match g with | some f => .obj f | none => .undef),
                       setter := some (match s with | some f => .obj f | none => .undef) }

def PD.toDesc (d : PD) : Desc :=
  { value := d.value,
    writable := match d.writable with | none => .notSet | some b => .ofBool b,
    enumerable := match d.enumerable with | none => .notSet | some b => .ofBool b,
    configurable := match d.configurable with | none => .notSet | some b => .ofBool b,
    getter := d.get.map (fun g => match g with | some f => .obj f | none => .undef),
    setter := d.set.map (fun g => match g with | some f => .obj f | none => .undef) }

def TProp.toOptCur : TProp → Option Cur := TProp.toCur

/-- A proxy (proxy.go proxyObject) whose handler forwards every trap to the corresponding Reflect
function of its target `T`, written with the MECHANISM checks of Part 2 (parameterised by the
compatibility function and by toValueProp, so that the regenerated ones can be plugged in).  `logf t` records that trap `t` of this layer
ran.  `throw` is false throughout (Reflect.* call the internal methods with throw=false). -/
def proxyLayer {σ : Type} (compat : CompatFn) (tvp : Desc → VProp) (logf : Trap → σ → σ) (T : Ops σ) : Ops σ where
  getProto := fun s =>                                                     -- proxy.go:302
    bindR (T.getProto (logf .getPrototypeOf s)) fun v s =>
      bindR (T.isExt s) fun ext s =>
        if ext then (.ok v, s) else                                        -- :309 evaluates isExtensible first
        bindR (T.getProto s) fun tp s =>
          match mechGetProto false tp (some (match v with | some o => .obj o | none => .null)) with
          | .ok r => (.ok r, s)
          | .typeError => (.typeError, s)
  setProto := fun proto s =>                                               -- proxy.go:318
    bindR (T.setProto proto (logf .setPrototypeOf s)) fun b s =>
      if b then
        bindR (T.isExt s) fun ext s =>
          if ext then (.ok true, s) else
          bindR (T.getProto s) fun tp s =>
            match mechSetProto false tp proto true false with
            | .ok r => (.ok r, s)
            | .typeError => (.typeError, s)
      else (.ok false, s)
  isExt := fun s =>                                                        -- proxy.go:335
    bindR (T.isExt (logf .isExtensible s)) fun b s =>
      bindR (T.isExt s) fun te s =>
        match mechIsExtensible te b with
        | .ok r => (.ok r, s)
        | .typeError => (.typeError, s)
  prevExt := fun s =>                                                      -- proxy.go:347
    bindR (T.prevExt (logf .preventExtensions s)) fun b s =>
      if !b then (.ok false, s) else
      bindR (T.isExt s) fun te s =>
        match mechPreventExtensions te true false with
        | .ok r => (.ok r, s)
        | .typeError => (.typeError, s)
  getOwn := fun k s =>                                                     -- proxy.go:561 / :510
    bindR (T.getOwn k (logf .getOwnPropertyDescriptor s)) fun trapRes s =>
      bindR (T.getOwn k s) fun targetProp s =>                             -- argument of :564
        let trap : TrapDesc := match trapRes with
          | none => .undef
          | some d => .obj d.toDesc
        -- isExtensible is consulted at :528 (after the nil / non-configurable exits) or at :533
        let needExt := trapRes.isSome || (match targetProp with | some td => td.configurable | none => false)
        let fin := fun (ext : Bool) (s : σ) =>
          match gopdCheckWith compat tvp (optCurToTProp targetProp) ext trap with
          | .ok r => ((.ok r.toOptCur : R (Option Cur)), s)
          | .typeError => (.typeError, s)
        if needExt then bindR (T.isExt s) fin else fin true s
  define := fun k d s =>                                                   -- proxy.go:412
    bindR (T.define k d (logf .defineProperty s)) fun b s =>
      if !b then (.ok false, s) else
      bindR (T.getOwn k s) fun targetProp s =>
        bindR (T.isExt s) fun ext s =>
          chk (definePostCheckWith compat (optCurToTProp targetProp) ext d.toDesc) true s
  has := fun k s =>                                                        -- proxy.go:462
    bindR (T.has k (logf .has s)) fun b s =>
      if b then (.ok true, s) else
      bindR (T.getOwn k s) fun targetProp s =>
        -- :453 non-configurable exit comes before the isExtensible call at :456
        let needExt := match targetProp with | some td => td.configurable | none => false
        if needExt then bindR (T.isExt s) fun ext s => chk (hasCheck (optCurToTProp targetProp) ext) false s
        else chk (hasCheck (optCurToTProp targetProp) true) false s
  get := fun k rcv s =>                                                    -- proxy.go:602
    bindR (T.get k rcv (logf .get s)) fun v s =>
      bindR (T.getOwn k s) fun targetProp s =>
        chk (getCheck (optCurToTProp targetProp) v) v s
  set := fun k v rcv s =>                                                  -- proxy.go:658
    bindR (T.set k v rcv (logf .set s)) fun b s =>
      if !b then (.ok false, s) else
      bindR (T.getOwn k s) fun targetProp s =>
        chk (setPostCheck (optCurToTProp targetProp) v) true s
  delete := fun k s =>                                                     -- proxy.go:736
    bindR (T.delete k (logf .deleteProperty s)) fun b s =>
      bindR (T.getOwn k s) fun targetProp s =>                             -- evaluated as an argument, always
        let needExt := b && (match targetProp with | some td => td.configurable | none => false)
        if needExt then bindR (T.isExt s) fun ext s => chk (deleteCheck b (optCurToTProp targetProp) ext false) b s
        else chk (deleteCheck b (optCurToTProp targetProp) true false) b s
  ownKeys := fun s =>                                                      -- proxy.go:790
    bindR (T.ownKeys (logf .ownKeys s)) fun trapKeys s =>
      bindR (T.isExt s) fun ext s =>                                       -- :810
        bindR (T.ownKeys s) fun targetKeys s =>                            -- :811 iterateKeys
          -- a key of the target missing from the trap result would be looked up (:820); for the list
          -- handed to mechOwnKeys its configurability is irrelevant when present, so `true` is passed
          -- for present keys and the check below only decides on membership
          match mechOwnKeys ext (targetKeys.map (fun k => (k, true))) (trapKeys.map KItem.key) with
          | .ok r => (.ok r, s)
          | .typeError => (.typeError, s)
  -- proxy.go:55-60 _newProxyObject: p.call / p.ctor are set iff the target is callable / a constructor, once, at creation
  callable := T.callable
  constructor := T.constructor
  call := fun this args s =>                                               -- proxy.go:899 apply
    if !T.callable then (.typeError, s) else                               -- :900 "proxy target is not a function"
    bindR (T.call this args (logf .apply s)) fun v s => (.ok v, s)         -- :903 the trap's result is returned unchecked
  construct := fun args nt s =>                                            -- proxy.go:909 construct
    if !T.constructor then (.typeError, s) else                            -- :910 "proxy target is not a constructor"
    bindR (T.construct args nt (logf .construct s)) fun o s =>
      match mechConstruct (.obj o) with                                    -- :917 toObject(v)
      | .ok r => (.ok r, s)
      | .typeError => (.typeError, s)

/-- one operation of a history -/
inductive Op where
  | getProto | setProto (p : Option Nat) | isExt | prevExt | getOwn (k : Key) | define (k : Key) (d : PD)
  | has (k : Key) | get (k : Key) (rcv : Val) | set (k : Key) (v rcv : Val) | delete (k : Key) | ownKeys
  | call (this : Val) (args : List Val) | construct (args : List Val) (newTarget : Val) | typeof
  deriving DecidableEq, Repr, Inhabited

/-- observable result of one operation -/
inductive Obs where
  | proto (r : R (Option Nat)) | bool (r : R Bool) | desc (r : R (Option Cur)) | val (r : R Val)
  | keys (r : R (List Key))
  | obj (r : R Nat)
  | kind (callable constructor : Bool)        -- what `typeof`, IsCallable, IsConstructor see
  deriving DecidableEq, Repr, Inhabited

def Ops.run {σ : Type} (T : Ops σ) : Op → σ → Obs × σ
  | .getProto, s => let (r, s) := T.getProto s; (.proto r, s)
  | .setProto p, s => let (r, s) := T.setProto p s; (.bool r, s)
  | .isExt, s => let (r, s) := T.isExt s; (.bool r, s)
  | .prevExt, s => let (r, s) := T.prevExt s; (.bool r, s)
  | .getOwn k, s => let (r, s) := T.getOwn k s; (.desc r, s)
  | .define k d, s => let (r, s) := T.define k d s; (.bool r, s)
  | .has k, s => let (r, s) := T.has k s; (.bool r, s)
  | .get k rcv, s => let (r, s) := T.get k rcv s; (.val r, s)
  | .set k v rcv, s => let (r, s) := T.set k v rcv s; (.bool r, s)
  | .delete k, s => let (r, s) := T.delete k s; (.bool r, s)
  | .ownKeys, s => let (r, s) := T.ownKeys s; (.keys r, s)
  | .call this args, s =>                      -- calling a value without [[Call]] is a TypeError at the call site (§13.3.6.2)
    if T.callable then (let (r, s) := T.call this args s; (.val r, s)) else (.val .typeError, s)
  | .construct args nt, s =>
    if T.constructor then (let (r, s) := T.construct args nt s; (.obj r, s)) else (.obj .typeError, s)
  | .typeof, s => (.kind T.callable T.constructor, s)

/-- run a history, collecting the observations -/
def Ops.runAll {σ : Type} (T : Ops σ) : List Op → σ → List Obs × σ
  | [], s => ([], s)
  | op :: rest, s =>
    let (o, s1) := T.run op s
    let (os, s2) := T.runAll rest s1
    (o :: os, s2)

/-- `n` forwarding proxy layers over `T`; layer `i` (1 = innermost) logs through `logf i` -/
def stack {σ : Type} (compat : CompatFn) (tvp : Desc → VProp) (logf : Nat → Trap → σ → σ) (T : Ops σ) : Nat → Ops σ
  | 0 => T
  | n + 1 => proxyLayer compat tvp (logf (n + 1)) (stack compat tvp logf T n)

/-- proxy.go:294 checkHandler + :1083 revoke: every internal method of a revoked proxy throws; `typeof` and
callability were fixed at creation (p.call / p.ctor survive revoke) -/
def revokedOps {σ : Type} (T : Ops σ) : Ops σ where
  getProto := fun s => (.typeError, s)
  setProto := fun _ s => (.typeError, s)
  isExt := fun s => (.typeError, s)
  prevExt := fun s => (.typeError, s)
  getOwn := fun _ s => (.typeError, s)
  define := fun _ _ s => (.typeError, s)
  has := fun _ s => (.typeError, s)
  get := fun _ _ s => (.typeError, s)
  set := fun _ _ _ s => (.typeError, s)
  delete := fun _ s => (.typeError, s)
  ownKeys := fun s => (.typeError, s)
  callable := T.callable
  constructor := T.constructor
  call := fun _ _ s => (.typeError, s)
  construct := fun _ _ s => (.typeError, s)

/-- a proxy object: handler present (forwarding) or revoked (handler = nil) -/
def proxyObj {σ : Type} (compat : CompatFn) (tvp : Desc → VProp) (logf : Trap → σ → σ) (T : Ops σ) (revoked : Bool) : Ops σ :=
  if revoked then revokedOps T else proxyLayer compat tvp logf T

def Obs.isTypeError : Obs → Bool
  | .proto .typeError | .bool .typeError | .desc .typeError | .val .typeError | .keys .typeError | .obj .typeError => true
  | _ => false

end GojaModel.C11
