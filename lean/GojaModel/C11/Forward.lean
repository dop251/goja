/-
  C11 forwarding transparency: what is asked of a target.  A forwarding proxy layer over a LAWFUL object (one whose
  internal methods satisfy the essential invariants of ECMA-262 §6.1.7.3, phrased through the §10.5 checks, and whose query
  methods are pure) is that object.  Here: `LawfulCore` / `Lawful` / `LawfulOn`, the rewriting rules for the sequencing of
  `proxyLayer`, a frozen object as a first instance, and `SimLog` / `liftOps` for layers that keep a trap log.
-/
import GojaModel.C11.Lemmas

namespace GojaModel.C11

structure Queries (σ : Type) where
  ext : σ → Bool
  own : Key → σ → Option Cur
  proto : σ → Option Nat
  keys : σ → List Key

/-- Essential internal-method invariants (§6.1.7.3), each phrased as "the result passes the §10.5 check against
the state the method leaves behind", plus purity and totality of the four query methods — everything except the
invariant of [[DefineOwnProperty]], which comes in two strengths below. -/
structure LawfulCore {σ : Type} (q : Queries σ) (T : Ops σ) : Prop where
  isExt_eq : ∀ s, T.isExt s = (.ok (q.ext s), s)
  getOwn_eq : ∀ k s, T.getOwn k s = (.ok (q.own k s), s)
  getProto_eq : ∀ s, T.getProto s = (.ok (q.proto s), s)
  ownKeys_eq : ∀ s, T.ownKeys s = (.ok (q.keys s), s)
  keys_nodup : ∀ s, (q.keys s).Nodup
  setProto_inv : ∀ p s s', T.setProto p s = (.ok true, s') → q.ext s' = true ∨ q.proto s' = p
  prevExt_inv : ∀ s s', T.prevExt s = (.ok true, s') → q.ext s' = false
  define_wf : ∀ k d s, ¬ d.WF → T.define k d s = (.typeError, s)
  has_inv : ∀ k s s', T.has k s = (.ok false, s') → specHasCheck (q.own k s') (q.ext s') = .ok ()
  get_inv : ∀ k r s v s', T.get k r s = (.ok v, s') → specGetCheck (q.own k s') v = .ok ()
  set_inv : ∀ k v r s s', T.set k v r s = (.ok true, s') → specSetCheck (q.own k s') v = .ok ()
  delete_inv : ∀ k s s', T.delete k s = (.ok true, s') → specDeleteCheck true (q.own k s') (q.ext s') false = .ok ()
  /-- the fields `call` / `construct` are only meaningful under the flags; this pins the convention -/
  call_nc : T.callable = false → ∀ this args s, T.call this args s = (.typeError, s)
  construct_nc : T.constructor = false → ∀ args nt s, T.construct args nt s = (.typeError, s)

structure Lawful {σ : Type} (q : Queries σ) (T : Ops σ) : Prop extends LawfulCore q T where
  define_inv : ∀ k d s s', T.define k d s = (.ok true, s') → specDefineCheck (q.own k s') (q.ext s') d = .ok ()

/-- The [[DefineOwnProperty]] invariant only on `adm`: needed for objects whose define CONVERTS the value it stores
(Array `length`: ToUint32), for which ECMA-262 itself makes a forwarding proxy non-transparent on the non-canonical values. -/
structure LawfulOn {σ : Type} (adm : Key → PD → σ → Prop) (q : Queries σ) (T : Ops σ) : Prop extends LawfulCore q T where
  define_inv_on : ∀ k d s s', adm k d s → T.define k d s = (.ok true, s') →
    specDefineCheck (q.own k s') (q.ext s') d = .ok ()

theorem Lawful.toOn {σ : Type} {q : Queries σ} {T : Ops σ} (h : Lawful q T) (adm : Key → PD → σ → Prop) : LawfulOn adm q T :=
  { h.toLawfulCore with define_inv_on := fun k d s s' _ hd => h.define_inv k d s s' hd }

@[simp] theorem bindR_ok {σ α β : Type} (a : α) (s : σ) (k : α → σ → R β × σ) : bindR (.ok a, s) k = k a s := rfl
@[simp] theorem bindR_te {σ α β : Type} (s : σ) (k : α → σ → R β × σ) :
    bindR ((.typeError : R α), s) k = (.typeError, s) := rfl
@[simp] theorem chk_ok {σ α : Type} (a : α) (s : σ) : chk (.ok ()) a s = (.ok a, s) := rfl

theorem bindR_pure {σ α : Type} (m : R α × σ) : bindR m (fun a s => ((.ok a : R α), s)) = m := by
  rcases m with ⟨r, s⟩
  cases r <;> rfl

theorem bindR_ok_inv {σ α β : Type} {m : R α × σ} {k : α → σ → R β × σ} {r : β} {s' : σ}
    (h : bindR m k = (.ok r, s')) : ∃ a s1, m = (.ok a, s1) ∧ k a s1 = (.ok r, s') := by
  rcases m with ⟨ma, s1⟩
  cases ma with
  | ok a => exact ⟨a, s1, rfl, h⟩
  | typeError => simp [bindR] at h

theorem Ops.ext' {σ : Type} {A B : Ops σ}
    (h1 : A.getProto = B.getProto) (h2 : A.setProto = B.setProto) (h3 : A.isExt = B.isExt) (h4 : A.prevExt = B.prevExt)
    (h5 : A.getOwn = B.getOwn) (h6 : A.define = B.define) (h7 : A.has = B.has) (h8 : A.get = B.get)
    (h9 : A.set = B.set) (h10 : A.delete = B.delete) (h11 : A.ownKeys = B.ownKeys)
    (h12 : A.callable = B.callable) (h13 : A.constructor = B.constructor) (h14 : A.call = B.call)
    (h15 : A.construct = B.construct) : A = B := by
  cases A; cases B; simp_all

theorem Ops.runAll_cons {σ : Type} (T : Ops σ) (op : Op) (rest : List Op) (s : σ) :
    T.runAll (op :: rest) s =
      ((T.run op s).1 :: (T.runAll rest (T.run op s).2).1, (T.runAll rest (T.run op s).2).2) := rfl

-- the own-key list of every object model of this development is an `eraseDups`: this is their `keys_nodup`
theorem eraseDups_nodup {α : Type} [DecidableEq α] (l : List α) : l.eraseDups.Nodup := by
  have : ∀ n (l : List α), l.length ≤ n → l.eraseDups.Nodup := by
    intro n
    induction n with
    | zero => intro l hl; have : l = [] := List.eq_nil_of_length_eq_zero (by omega); subst this; simp
    | succ n ih =>
      intro l hl
      cases l with
      | nil => simp
      | cons a rest =>
        rw [List.eraseDups_cons, List.nodup_cons]
        constructor
        · intro hmem
          have := List.mem_eraseDups.mp hmem
          simp at this
        · apply ih
          have := List.length_filter_le (fun b => !b == a) rest
          simp at hl; omega
  exact this l.length l (Nat.le_refl _)

/-! a concrete lawful object (non-vacuity of `Lawful`): fixed non-configurable, non-writable data
properties; prototype and extensibility are mutable state -/

structure FState where
  ext : Bool
  proto : Option Nat
  deriving DecidableEq, Repr

def fLookup (props : List (Key × Val)) (k : Key) : Option Cur :=
  match props.find? (fun kv => kv.1 == k) with
  | some kv => some (.data kv.2 false true false)
  | none => none

def frozenOps (props : List (Key × Val)) : Ops FState where
  getProto := fun s => (.ok s.proto, s)
  setProto := fun p s => if s.ext then (.ok true, { s with proto := p }) else (.ok (decide (p = s.proto)), s)
  isExt := fun s => (.ok s.ext, s)
  prevExt := fun s => (.ok true, { s with ext := false })
  getOwn := fun k s => (.ok (fLookup props k), s)
  define := fun _ d s => if d.isAccessorDescriptor && d.isDataDescriptor then (.typeError, s) else (.ok false, s)
  has := fun k s => (.ok (fLookup props k).isSome, s)
  get := fun k _ s => (.ok (match fLookup props k with | some (.data v _ _ _) => v | _ => .undef), s)
  set := fun _ _ _ s => (.ok false, s)
  delete := fun k s => (.ok (fLookup props k).isNone, s)
  ownKeys := fun s => (.ok ((props.map (·.1)).eraseDups), s)
  callable := false
  constructor := false
  call := fun _ _ s => (.typeError, s)
  construct := fun _ _ s => (.typeError, s)

def frozenQueries (props : List (Key × Val)) : Queries FState where
  ext := fun s => s.ext
  own := fun k _ => fLookup props k
  proto := fun s => s.proto
  keys := fun _ => (props.map (·.1)).eraseDups

theorem frozen_lawful (props : List (Key × Val)) : Lawful (frozenQueries props) (frozenOps props) where
  isExt_eq := fun _ => rfl
  getOwn_eq := fun _ _ => rfl
  getProto_eq := fun _ => rfl
  ownKeys_eq := fun _ => rfl
  keys_nodup := fun _ => eraseDups_nodup _
  setProto_inv := by
    intro p s s' h
    simp only [frozenOps] at h
    cases he : s.ext <;> simp [he] at h
    · obtain ⟨h1, h2⟩ := h; subst h2; right; simp [frozenQueries, h1]
    · subst h; right; rfl
  prevExt_inv := by
    intro s s' h
    simp only [frozenOps] at h
    injection h with _ h2; subst h2; rfl
  define_wf := by
    intro k d s hwf
    simp only [frozenOps, PD.not_wf hwf, ↓reduceIte]
  define_inv := by
    intro k d s s' h
    simp only [frozenOps] at h
    split at h <;> simp at h
  has_inv := by
    intro k s s' h
    simp only [frozenOps] at h
    injection h with h1 _
    simp only [frozenQueries]
    cases hl : fLookup props k <;> simp_all [specHasCheck]
  get_inv := by
    intro k r s v s' h
    simp only [frozenOps] at h
    injection h with h1 _
    simp only [frozenQueries]
    unfold fLookup at h1 ⊢
    cases hf : props.find? (fun kv => kv.1 == k) <;> simp_all [specGetCheck]
  set_inv := by
    intro k v r s s' h
    simp [frozenOps] at h
  delete_inv := by
    intro k s s' h
    simp only [frozenOps] at h
    injection h with h1 _
    simp only [frozenQueries]
    cases hl : fLookup props k <;> simp_all [specDeleteCheck]
  call_nc := fun _ _ _ _ => rfl
  construct_nc := fun _ _ _ _ => rfl

-- the trap log of the instrumented system: (layer, trap) in call order
abbrev TLog := List (Nat × Trap)

def logAt {β : Type} (i : Nat) : Trap → β × TLog → β × TLog := fun t s => (s.1, s.2 ++ [(i, t)])

/-- `A` (over base state × trap log) behaves as `B` (over the base state) on results and on the base state; the log
component is unconstrained -/
structure SimLog {β : Type} (adm : Key → PD → β → Prop) (A : Ops (β × TLog)) (B : Ops β) : Prop where
  getProto : ∀ b l, ∃ l', A.getProto (b, l) = ((B.getProto b).1, ((B.getProto b).2, l'))
  setProto : ∀ p b l, ∃ l', A.setProto p (b, l) = ((B.setProto p b).1, ((B.setProto p b).2, l'))
  isExt : ∀ b l, ∃ l', A.isExt (b, l) = ((B.isExt b).1, ((B.isExt b).2, l'))
  prevExt : ∀ b l, ∃ l', A.prevExt (b, l) = ((B.prevExt b).1, ((B.prevExt b).2, l'))
  getOwn : ∀ k b l, ∃ l', A.getOwn k (b, l) = ((B.getOwn k b).1, ((B.getOwn k b).2, l'))
  define : ∀ k d b l, adm k d b → ∃ l', A.define k d (b, l) = ((B.define k d b).1, ((B.define k d b).2, l'))
  has : ∀ k b l, ∃ l', A.has k (b, l) = ((B.has k b).1, ((B.has k b).2, l'))
  get : ∀ k r b l, ∃ l', A.get k r (b, l) = ((B.get k r b).1, ((B.get k r b).2, l'))
  set : ∀ k v r b l, ∃ l', A.set k v r (b, l) = ((B.set k v r b).1, ((B.set k v r b).2, l'))
  delete : ∀ k b l, ∃ l', A.delete k (b, l) = ((B.delete k b).1, ((B.delete k b).2, l'))
  ownKeys : ∀ b l, ∃ l', A.ownKeys (b, l) = ((B.ownKeys b).1, ((B.ownKeys b).2, l'))
  callable : A.callable = B.callable
  constructor : A.constructor = B.constructor
  call : ∀ this args b l, ∃ l', A.call this args (b, l) = ((B.call this args b).1, ((B.call this args b).2, l'))
  construct : ∀ args nt b l, ∃ l', A.construct args nt (b, l) = ((B.construct args nt b).1, ((B.construct args nt b).2, l'))

def liftOps {β : Type} (B : Ops β) : Ops (β × TLog) where
  getProto := fun s => ((B.getProto s.1).1, ((B.getProto s.1).2, s.2))
  setProto := fun p s => ((B.setProto p s.1).1, ((B.setProto p s.1).2, s.2))
  isExt := fun s => ((B.isExt s.1).1, ((B.isExt s.1).2, s.2))
  prevExt := fun s => ((B.prevExt s.1).1, ((B.prevExt s.1).2, s.2))
  getOwn := fun k s => ((B.getOwn k s.1).1, ((B.getOwn k s.1).2, s.2))
  define := fun k d s => ((B.define k d s.1).1, ((B.define k d s.1).2, s.2))
  has := fun k s => ((B.has k s.1).1, ((B.has k s.1).2, s.2))
  get := fun k r s => ((B.get k r s.1).1, ((B.get k r s.1).2, s.2))
  set := fun k v r s => ((B.set k v r s.1).1, ((B.set k v r s.1).2, s.2))
  delete := fun k s => ((B.delete k s.1).1, ((B.delete k s.1).2, s.2))
  ownKeys := fun s => ((B.ownKeys s.1).1, ((B.ownKeys s.1).2, s.2))
  callable := B.callable
  constructor := B.constructor
  call := fun this args s => ((B.call this args s.1).1, ((B.call this args s.1).2, s.2))
  construct := fun args nt s => ((B.construct args nt s.1).1, ((B.construct args nt s.1).2, s.2))

end GojaModel.C11
