/-
  C11: the enumeration helpers of proxyObject — `keys(all)`, `filterKeys(vals, all, symbols)`,
  `stringKeys`, `symbols` (proxy.go:766, :983, :1029, :1040) — i.e. what Object.keys / Object.getOwnPropertyNames /
  Object.getOwnPropertySymbols / Object.entries / JSON.stringify / Object.assign see of a proxy.

  Mechanism: the in-place compaction loops of proxy.go (index `k` of kept elements, `continue` on skipped ones), as recursions
  with the kept prefix as accumulator, over the proxy `P` given as an `Ops` table (so every `p.getOwnProp…` is a
  [[GetOwnProperty]] of the proxy — trap, post-check, possible TypeError, state change).
  Spec: §7.3.23 EnumerableOwnProperties (kind key) / §20.1.2.11.1 GetOwnPropertyKeys.
  Theorems: mechanism = spec as STATE TRANSFORMERS — same key list in the same order, same sequence of [[GetOwnProperty]]
  calls (hence same trap sequence and same final state), same abrupt exit at the first throwing lookup.
-/
import GojaModel.C11.Forward

namespace GojaModel.C11

def Key.isSym : Key → Bool
  | .sym _ => true
  | .str _ => false

variable {σ : Type}

/-- proxy.go:984-1012 filterKeys, `!all` branch: loop over `vals`, `kept` = vals[:k] -/
def filterKeysEnum (P : Ops σ) (symbols : Bool) : List Key → List Key → σ → R (List Key) × σ
  | [], kept, s => (.ok kept, s)                                           -- :1012 vals = vals[:k]
  | v :: rest, kept, s =>
    if v.isSym != symbols then filterKeysEnum P symbols rest kept s        -- :992 / :998 continue
    else
      match P.getOwn v s with                                              -- :990 getOwnPropSym / :996 getOwnPropStr
      | (.typeError, s1) => (.typeError, s1)                               -- a throwing trap / failed post-check propagates
      | (.ok none, s1) => filterKeysEnum P symbols rest kept s1            -- :1001 prop == nil
      | (.ok (some c), s1) =>
        if !c.enumerable then filterKeysEnum P symbols rest kept s1        -- :1004
        else filterKeysEnum P symbols rest (kept ++ [v]) s1                -- :1007-1010 vals[k] = vals[i]; k++

/-- proxy.go:1013-1025 filterKeys, `all` branch: by key type only, no lookups -/
def filterKeysAll (symbols : Bool) : List Key → List Key → List Key
  | [], kept => kept
  | v :: rest, kept => if v.isSym != symbols then filterKeysAll symbols rest kept else filterKeysAll symbols rest (kept ++ [v])

/-- proxy.go:1029 stringKeys / :1040 symbols: own keys of the proxy (proxyOwnKeys or, without trap, the target's), filtered -/
def proxyTypedKeys (P : Ops σ) (all symbols : Bool) (s : σ) : R (List Key) × σ :=
  match P.ownKeys s with
  | (.typeError, s1) => (.typeError, s1)
  | (.ok ks, s1) => if all then (.ok (filterKeysAll symbols ks []), s1) else filterKeysEnum P symbols ks [] s1

/-- proxy.go:769-783 keys(all=false): every key type, enumerable only -/
def keysEnum (P : Ops σ) : List Key → List Key → σ → R (List Key) × σ
  | [], kept, s => (.ok kept, s)
  | v :: rest, kept, s =>
    match P.getOwn v s with                                                -- :771 p.val.getOwnProp(key)
    | (.typeError, s1) => (.typeError, s1)
    | (.ok none, s1) => keysEnum P rest kept s1                            -- :772 nil / undefined
    | (.ok (some c), s1) =>
      if !c.enumerable then keysEnum P rest kept s1                        -- :775
      else keysEnum P rest (kept ++ [v]) s1

/-- §7.3.23 EnumerableOwnProperties(O, key), steps 2–4 over the list `ownKeys`, restricted to keys of one type
(String for Object.keys; the same loop over Symbols is what proxy.go offers to getOwnPropertySymbols-with-filter callers) -/
def specEnumerable (P : Ops σ) (symbols : Bool) : List Key → σ → R (List Key) × σ
  | [], s => (.ok [], s)
  | k :: rest, s =>
    if k.isSym != symbols then specEnumerable P symbols rest s             -- step 3.a: only keys of the requested type
    else
      bindR (P.getOwn k s) fun desc s1 =>                                  -- 3.a.i  desc = ? O.[[GetOwnProperty]](key)
        bindR (specEnumerable P symbols rest s1) fun ks s2 =>
          match desc with                                                  -- 3.a.ii desc not undefined and enumerable
          | some c => if c.enumerable then (.ok (k :: ks), s2) else (.ok ks, s2)
          | none => (.ok ks, s2)

/-- §20.1.2.11.1 GetOwnPropertyKeys(O, type): the keys of one type, in order, no lookups -/
def specTyped (symbols : Bool) (ks : List Key) : List Key := ks.filter (fun k => k.isSym == symbols)

def specTypedKeys (P : Ops σ) (all symbols : Bool) (s : σ) : R (List Key) × σ :=
  bindR (P.ownKeys s) fun ks s1 => if all then (.ok (specTyped symbols ks), s1) else specEnumerable P symbols ks s1

/-- every key type, enumerable only (CopyDataProperties / for the `keys(false)` callers) -/
def specEnumerableAny (P : Ops σ) : List Key → σ → R (List Key) × σ
  | [], s => (.ok [], s)
  | k :: rest, s =>
    bindR (P.getOwn k s) fun desc s1 =>
      bindR (specEnumerableAny P rest s1) fun ks s2 =>
        match desc with
        | some c => if c.enumerable then (.ok (k :: ks), s2) else (.ok ks, s2)
        | none => (.ok ks, s2)

def mapOk (f : List Key → List Key) (m : R (List Key) × σ) : R (List Key) × σ :=
  match m with
  | (.ok ks, s) => (.ok (f ks), s)
  | (.typeError, s) => (.typeError, s)

theorem mapOk_mapOk (f g : List Key → List Key) (m : R (List Key) × σ) : mapOk f (mapOk g m) = mapOk (f ∘ g) m := by
  rcases m with ⟨r, s⟩; cases r <;> rfl

theorem bindR_ok_map (g : List Key → List Key) (m : R (List Key) × σ) :
    bindR m (fun ks s => (.ok (g ks), s)) = mapOk g m := by
  rcases m with ⟨r, s⟩; cases r <;> rfl

theorem filterKeysEnum_eq (P : Ops σ) (symbols : Bool) (vals : List Key) : ∀ (kept : List Key) (s : σ),
    filterKeysEnum P symbols vals kept s = mapOk (kept ++ ·) (specEnumerable P symbols vals s) := by
  induction vals with
  | nil => intro kept s; simp [filterKeysEnum, specEnumerable, mapOk]
  | cons v rest ih =>
    intro kept s
    simp only [filterKeysEnum, specEnumerable]
    by_cases ht : (v.isSym != symbols) = true
    · simp only [ht, if_true]; exact ih kept s
    · simp only [ht, Bool.false_eq_true, if_false]
      rcases P.getOwn v s with ⟨(_ | c) | _, s1⟩
      · simp [ih, bindR_pure]
      · cases he : c.enumerable
        · simp [he, ih, bindR_pure]
        · simp [he, ih, bindR_ok_map, mapOk_mapOk, Function.comp_def]
      · rfl

theorem filterKeysAll_eq (symbols : Bool) (vals : List Key) : ∀ kept,
    filterKeysAll symbols vals kept = kept ++ specTyped symbols vals := by
  induction vals with
  | nil => intro kept; simp [filterKeysAll, specTyped]
  | cons v rest ih =>
    intro kept
    simp only [filterKeysAll, specTyped, List.filter]
    cases hv : v.isSym <;> cases symbols <;> simp [ih, specTyped]

theorem keysEnum_eq (P : Ops σ) (vals : List Key) : ∀ (kept : List Key) (s : σ),
    keysEnum P vals kept s = mapOk (kept ++ ·) (specEnumerableAny P vals s) := by
  induction vals with
  | nil => intro kept s; simp [keysEnum, specEnumerableAny, mapOk]
  | cons v rest ih =>
    intro kept s
    simp only [keysEnum, specEnumerableAny]
    rcases P.getOwn v s with ⟨(_ | c) | _, s1⟩
    · simp [ih, bindR_pure]
    · cases he : c.enumerable
      · simp [he, ih, bindR_pure]
      · simp [he, ih, bindR_ok_map, mapOk_mapOk, Function.comp_def]
    · rfl

theorem mapOk_nil_append (m : R (List Key) × σ) : mapOk (([] : List Key) ++ ·) m = m := by
  rcases m with ⟨r, s⟩; cases r <;> simp [mapOk]

end GojaModel.C11
