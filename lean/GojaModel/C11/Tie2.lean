/-
  C11 Tie: the regenerated skeleton of the enumeration helpers that Enumerate.lean transcribes.
-/
import GojaModel.C11.Enumerate
import GojaModel.Generated.C11_Checks

namespace GojaModel.C11.Tie2
open GojaModel.C11 GojaModel.Generated.C11

/-- proxy.go keys / filterKeys / stringKeys / symbols, token for token (string literals blanked): the loops
`Enumerate.keysEnum`, `filterKeysEnum`, `filterKeysAll`, `proxyTypedKeys` transcribe — own keys from proxyOwnKeys (or the
target's string keys / symbols without trap), then per key: type test, own-property lookup THROUGH THE PROXY
(`p.getOwnPropSym` / `p.getOwnPropStr` / `p.val.getOwnProp`), skip if nil, skip if a non-enumerable valueProperty, compact in
place (`vals[k] = vals[i]; k++`), truncate to `vals[:k]` -/
theorem tie_enumTexts : enumTexts = [
  ("keys", "{ if v , ok : = p . proxyOwnKeys ( ) ; ok { if ! all { k : = 0 for i , key : = range v { prop : = p . val . getOwnProp ( key ) if prop = = nil | | prop = = _undefined { continue } if prop , ok : = prop . ( * valueProperty ) ; ok & & ! prop . enumerable { continue } if k ! = i { v [ k ] = v [ i ] } k + + } v = v [ : k ] } return v } return p . target . self . keys ( all , nil ) }"),
  ("filterKeys", "{ if ! all { k : = 0 for i , val : = range vals { var prop Value if symbols { if s , ok : = val . ( * Symbol ) ; ok { prop = p . getOwnPropSym ( s ) } else { continue } } else { if _ , ok : = val . ( * Symbol ) ; ! ok { prop = p . getOwnPropStr ( val . string ( ) ) } else { continue } } if prop = = nil { continue } if prop , ok : = prop . ( * valueProperty ) ; ok & & ! prop . enumerable { continue } if k ! = i { vals [ k ] = vals [ i ] } k + + } vals = vals [ : k ] } else { k : = 0 for i , val : = range vals { if _ , ok : = val . ( * Symbol ) ; ok ! = symbols { continue } if k ! = i { vals [ k ] = vals [ i ] } k + + } vals = vals [ : k ] } return vals }"),
  ("stringKeys", "{ var keys [ ] Value if vals , ok : = p . proxyOwnKeys ( ) ; ok { keys = vals } else { keys = p . target . self . stringKeys ( true , nil ) } return p . filterKeys ( keys , all , false ) }"),
  ("symbols", "{ var symbols [ ] Value if vals , ok : = p . proxyOwnKeys ( ) ; ok { symbols = vals } else { symbols = p . target . self . symbols ( true , nil ) } symbols = p . filterKeys ( symbols , all , true ) if accum = = nil { return symbols } accum = append ( accum , symbols . . . ) return accum }")
] := by rfl

end GojaModel.C11.Tie2
