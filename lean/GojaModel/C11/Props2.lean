/-
  C11 property theorems about proxies whose handler is more than a forwarder (it may mutate the target before answering,
  `Handler.lean proxyWith`), about the enumeration helpers of proxy.go, and about array.go `defineArrayLength`.
-/
import GojaModel.C11.Enumerate
import GojaModel.C11.Handler
import GojaModel.C11.Props
import GojaModel.C11.ArrayMech

namespace GojaModel.C11

/-! the enforced invariants for handlers with effects: the target is re-read when the check runs -/

section handlers
variable {σ : Type} (H : Handler σ) (q : Queries σ) (T : Ops σ)

/-- [[GetPrototypeOf]] with any handler: if the target is non-extensible WHEN THE OPERATION RETURNS, the result is the
prototype it has then -/
theorem handler_inv_getPrototypeOf (t : σ → R Val × σ) (ht : H.getPrototypeOf = some t) (s s' : σ) (r : Option Nat)
    (h : (proxyWith H q T).getProto s = (.ok r, s')) (hne : q.ext s' = false) : r = q.proto s' := by
  simp only [proxyWith, ht] at h
  obtain ⟨v, h3⟩ := checked_ok h
  rw [hne] at h3
  exact inv_getPrototypeOf _ v r h3

theorem handler_inv_setPrototypeOf (t : Option Nat → σ → R Bool × σ) (ht : H.setPrototypeOf = some t) (p : Option Nat)
    (s s' : σ) (h : (proxyWith H q T).setProto p s = (.ok true, s')) (hne : q.ext s' = false) : p = q.proto s' := by
  simp only [proxyWith, ht] at h
  obtain ⟨b, h3⟩ := checked_ok h
  rw [hne] at h3
  exact inv_setPrototypeOf _ p b false h3

theorem handler_inv_isExtensible (t : σ → R Bool × σ) (ht : H.isExtensible = some t) (s s' : σ) (r : Bool)
    (h : (proxyWith H q T).isExt s = (.ok r, s')) : r = q.ext s' := by
  simp only [proxyWith, ht] at h
  obtain ⟨b, h3⟩ := checked_ok h
  exact inv_isExtensible _ b r h3

theorem handler_inv_preventExtensions (t : σ → R Bool × σ) (ht : H.preventExtensions = some t) (s s' : σ)
    (h : (proxyWith H q T).prevExt s = (.ok true, s')) : q.ext s' = false := by
  simp only [proxyWith, ht] at h
  obtain ⟨b, h3⟩ := checked_ok h
  exact inv_preventExtensions _ b false h3

theorem handler_inv_has (t : Key → σ → R Bool × σ) (ht : H.has = some t) (k : Key) (s s' : σ)
    (h : (proxyWith H q T).has k s = (.ok false, s')) :
    q.own k s' = none ∨ ∃ c, q.own k s' = some c ∧ c.configurable = true ∧ q.ext s' = true := by
  simp only [proxyWith, ht] at h
  obtain ⟨b, h3⟩ := checked_ok h
  simpa [optCur_toCur] using inv_has _ _ b h3

theorem handler_inv_get (t : Key → Val → σ → R Val × σ) (ht : H.get = some t) (k : Key) (rcv : Val) (s s' : σ) (r : Val)
    (h : (proxyWith H q T).get k rcv s = (.ok r, s')) :
    (∀ x e, q.own k s' = some (.data x false e false) → r = x) ∧
    (∀ st e, q.own k s' = some (.acc none st e false) → r = .undef) := by
  simp only [proxyWith, ht] at h
  obtain ⟨v, h3⟩ := checked_ok h
  simpa [optCur_toCur] using inv_get _ (optCur_wf _) v r h3

theorem handler_inv_set (t : Key → Val → Val → σ → R Bool × σ) (ht : H.set = some t) (k : Key) (v rcv : Val) (s s' : σ)
    (h : (proxyWith H q T).set k v rcv s = (.ok true, s')) :
    (∀ x e, q.own k s' = some (.data x false e false) → v = x) ∧
    (∀ g e, q.own k s' ≠ some (.acc g none e false)) := by
  simp only [proxyWith, ht] at h
  obtain ⟨b, h3⟩ := checked_ok h
  simpa [optCur_toCur] using inv_set _ (optCur_wf _) v b false h3

theorem handler_inv_delete (t : Key → σ → R Bool × σ) (ht : H.deleteProperty = some t) (k : Key) (s s' : σ)
    (h : (proxyWith H q T).delete k s = (.ok true, s')) :
    q.own k s' = none ∨ ∃ c, q.own k s' = some c ∧ c.configurable = true ∧ q.ext s' = true := by
  simp only [proxyWith, ht] at h
  obtain ⟨b, h3⟩ := checked_ok h
  simpa [optCur_toCur] using inv_delete _ _ b false h3

theorem handler_inv_define (t : Key → PD → σ → R Bool × σ) (ht : H.defineProperty = some t) (k : Key) (d : PD) (s s' : σ)
    (h : (proxyWith H q T).define k d s = (.ok true, s')) :
    (q.ext s' = false → q.own k s' ≠ none) ∧
    (d.configurable = some false → ∃ c, q.own k s' = some c ∧ c.configurable = false) := by
  simp only [proxyWith] at h
  split at h
  · simp at h
  · rename_i hbad
    have hwf : d.WF := .of_not hbad
    simp only [ht] at h
    obtain ⟨b, h3⟩ := checked_ok h
    have := inv_define _ (optCur_wf _) _ d.toDesc (PD.toDesc_valid d hwf) b false h3
    rw [optCur_toCur] at this
    exact ⟨this.1, fun hc => this.2 (by simp [PD.toDesc, hc, Flag.ofBool])⟩

theorem handler_inv_getOwnProperty (t : Key → σ → R TrapDesc × σ) (ht : H.getOwnPropertyDescriptor = some t) (k : Key)
    (s s' : σ) (r : Option Cur) (h : (proxyWith H q T).getOwn k s = (.ok r, s')) :
    (r = none → q.own k s' = none ∨ ∃ c, q.own k s' = some c ∧ c.configurable = true ∧ q.ext s' = true) ∧
    (q.own k s' = none → q.ext s' = false → r = none) ∧
    (∀ c', r = some c' → c'.configurable = false → ∃ c, q.own k s' = some c ∧ c.configurable = false) := by
  simp only [proxyWith, ht] at h
  obtain ⟨td, s1, _, h2⟩ := bindR_ok_inv h
  by_cases hval : tdValid td = true
  · simp only [hval, if_true] at h2
    cases hm : mechGopd isCompatible toValueProp (optCurToTProp (q.own k s1)) (q.ext s1) td with
    | typeError => simp [hm] at h2
    | ok rr =>
      simp only [hm] at h2
      injection h2 with h21 h22
      injection h21 with h21
      subst h22; subst h21
      have hv : ∀ d, td = .obj d → d.Valid := by
        intro d hd; subst hd; simpa [tdValid] using hval
      have := inv_getOwnProperty _ (optCur_wf _) _ td hv rr hm
      simpa [optCur_toCur] using this
  · simp [hval] at h2

theorem handler_inv_ownKeys (hq : ∀ s, (q.keys s).Nodup) (t : σ → R (List KItem) × σ) (ht : H.ownKeys = some t) (s s' : σ)
    (ks : List Key) (h : (proxyWith H q T).ownKeys s = (.ok ks, s')) :
    ks.Nodup ∧
    (∀ k ∈ q.keys s', (∃ c, q.own k s' = some c ∧ c.configurable = false) → k ∈ ks) ∧
    (q.ext s' = false → (∀ k ∈ q.keys s', k ∈ ks) ∧ ∀ k ∈ ks, k ∈ q.keys s') := by
  simp only [proxyWith, ht] at h
  obtain ⟨items, h3⟩ := checked_ok h
  have := inv_ownKeys _ _ items ks (targetKeys_nodup q hq _) h3
  refine ⟨this.1, ?_, ?_⟩
  · intro k hk ⟨c, hc, hcf⟩
    apply this.2.1 (k, false)
    · simp only [targetKeys, List.mem_map]
      exact ⟨k, hk, by simp [hc, hcf]⟩
    · rfl
  · intro he
    have h2 := this.2.2 he
    constructor
    · intro k hk
      apply h2.1 (k, match q.own k _ with | some c => c.configurable | none => true)
      simp only [targetKeys, List.mem_map]
      exact ⟨k, hk, rfl⟩
    · exact fun k hk => targetKeys_keys q _ ▸ h2.2 k hk

end handlers

variable {σ : Type}

/-- proxy.go stringKeys / symbols (+ filterKeys) IS §7.3.23 EnumerableOwnProperties(kind key) resp. GetOwnPropertyKeys, for ANY
proxy `P` (any handler, any target): same key list in the same order, same sequence of [[GetOwnProperty]] calls on the proxy
(same trap sequence), same final state, and the same abrupt exit when the ownKeys trap or any lookup throws -/
theorem proxyTypedKeys_eq_spec (P : Ops σ) (all symbols : Bool) (s : σ) :
    proxyTypedKeys P all symbols s = specTypedKeys P all symbols s := by
  simp only [proxyTypedKeys, specTypedKeys]
  rcases P.ownKeys s with ⟨r, s1⟩
  cases r with
  | typeError => rfl
  | ok ks =>
    simp only [bindR_ok]
    cases all
    · simp only [Bool.false_eq_true, if_false, filterKeysEnum_eq P symbols ks [] s1, mapOk_nil_append]
    · simp [filterKeysAll_eq]

/-- proxy.go keys(all = false): every key type, enumerable only -/
theorem keysEnum_eq_spec (P : Ops σ) (ks : List Key) (s : σ) : keysEnum P ks [] s = specEnumerableAny P ks s := by
  rw [keysEnum_eq P ks [] s, mapOk_nil_append]

theorem specEnumerable_sublist (P : Ops σ) (symbols : Bool) (ks : List Key) : ∀ (s s' : σ) (out : List Key),
    specEnumerable P symbols ks s = (.ok out, s') → out.Sublist ks := by
  induction ks with
  | nil => intro s s' out h; simp only [specEnumerable] at h; injection h with h1 _; injection h1 with h1; subst h1; exact List.Sublist.refl _
  | cons k rest ih =>
    intro s s' out h
    simp only [specEnumerable] at h
    split at h
    · exact (ih s s' out h).cons k
    · obtain ⟨d, s1, _, h⟩ := bindR_ok_inv h
      obtain ⟨ks', s2, hr, h⟩ := bindR_ok_inv h
      have hsub := ih s1 s2 ks' hr
      -- `k` goes in front of what the remaining keys yield, or is left out
      split at h
      · split at h <;> cases h
        · exact hsub.cons_cons k
        · exact hsub.cons k
      · cases h; exact hsub.cons k

/-- forwarding transparency of enumeration: over a lawful target, Object.keys & co. of n forwarding layers are the target's -/
theorem enumeration_transparent {q : Queries σ} {T : Ops σ} (h : Lawful q T) (n : Nat) (all symbols : Bool) (s : σ) :
    proxyTypedKeys (stack isCompatible toValueProp (fun _ _ s => s) T n) all symbols s = proxyTypedKeys T all symbols s := by
  rw [forwarding_transparent_layers h n]

/-- enumeration through a proxy with an ARBITRARY (mutating) handler reports only keys the ownKeys check accepted: for a
target that is non-extensible when the key list is produced, only keys the target has at that moment -/
theorem handler_enumeration_keys_of_target (H : Handler σ) (q : Queries σ) (T : Ops σ) (hq : ∀ s, (q.keys s).Nodup)
    (t : σ → R (List KItem) × σ) (ht : H.ownKeys = some t) (all symbols : Bool) (s s' : σ) (out : List Key)
    (h : proxyTypedKeys (proxyWith H q T) all symbols s = (.ok out, s')) :
    ∃ s1 ks, (proxyWith H q T).ownKeys s = (.ok ks, s1) ∧ out.Sublist ks ∧ (q.ext s1 = false → ∀ k ∈ out, k ∈ q.keys s1) := by
  rw [proxyTypedKeys_eq_spec, specTypedKeys] at h
  obtain ⟨ks, s1, hk, h⟩ := bindR_ok_inv h
  have hinv := handler_inv_ownKeys H q T hq t ht s s1 ks hk
  have hsub : out.Sublist ks := by
    cases all
    · exact specEnumerable_sublist _ symbols ks s1 s' out h
    · cases h; exact List.filter_sublist
  exact ⟨s1, ks, hk, hsub, fun he k hk' => (hinv.2.2 he).2 k (hsub.subset hk')⟩

/-- array.go:398 rejects exactly the descriptors that fail the `configurable` / `enumerable` / kind tests of
IsCompatiblePropertyDescriptor against `length` -/
theorem lengthReject_iff (d : Desc) :
    (!(d.configurable == Flag.tru) && !(d.enumerable != Flag.notSet && d.enumerable.bool != false) && !d.isAccessor) =
      !(d.configurable == Flag.tru || d.enumerable == Flag.tru || d.getter.isSome || d.setter.isSome) := by
  have : (d.enumerable != Flag.notSet && d.enumerable.bool != false) = (d.enumerable == Flag.tru) := by
    cases d.enumerable <;> rfl
  simp only [this, Desc.isAccessor, Bool.not_or, Bool.and_assoc, Bool.and_comm]

/-- ToUint32 conversion of the descriptor's value, as ArraySetLength and defineArrayLength both compute it -/
def newLenOfDesc (A : AEnv) (d : Desc) : Option Nat := d.value.bind A.toLen

/-- array.go:391 defineArrayLength (regenerated: Tie3.tie_defineArrayLength) REFINES the spec-level ArraySetLength of Exotic.lean:
for every state of the array, every descriptor that passed ToPropertyDescriptor, with the conversion and `setLength` behaving
as specified (`newLenOfDesc`, `setterSpec`): same outcome — RangeError / false / true — and the same writability of `length`
afterwards (conversion before validation, rejection of configurable / enumerable / accessor fields, no `setLength` call when
the value is unchanged, deferred `writable: false` also on a failed truncation, `writable: true` on a non-writable length) -/
theorem defineArrayLength_refines (A : AEnv) (s : AState) (d : Desc) (hd : d.Valid) :
    defineArrayLengthMech ⟨s.lenW⟩ s.len d (newLenOfDesc A d) (setterSpec A s) false =
      match (arrSetLength A d.toPD s).1 with
      | .typeError => .typeError
      | .ok b => .ok (b, (arrSetLength A d.toPD s).2.lenW) := by
  cases hv : d.value with
  | none =>
    obtain ⟨h1, h2⟩ := arrSetLength_outcome A d.toPD d.toPD s s.len (by simp only [lenDesc, Desc.toPD, hv])
      (by simp only [Desc.toPD, hv]; rfl)
    rw [h1, h2]
    simp only [defineArrayLengthMech, newLenOfDesc, hv, lenCur, compat_nonconfigurable_data, lenFinish, setterSpec,
      Desc.toPD_isAccessor]
    simp only [Desc.toPD, hv, Flag.toOpt_eq_true, Flag.toOpt_mismatch]
    rw [lengthReject_iff]
    generalize (d.configurable == Flag.tru || d.enumerable == Flag.tru || d.getter.isSome || d.setter.isSome) = r
    cases r
    · cases d.writable <;> cases s.lenW <;> simp [Flag.toOpt, Flag.bool]
    · simp
  | some v =>
    cases hn : A.toLen v with
    | none => simp [defineArrayLengthMech, newLenOfDesc, arrSetLength, Desc.toPD, hv, hn]
    | some n =>
      obtain ⟨h1, h2⟩ := arrSetLength_outcome A d.toPD { d.toPD with value := some (.num n) } s n
        (by simp only [lenDesc, Desc.toPD, hv, hn]; rfl) rfl
      have hacc : ({ d.toPD with value := some (.num n) } : PD).isAccessorDescriptor = d.isAccessor :=
        Desc.toPD_isAccessor d
      rw [h1, h2]
      simp only [defineArrayLengthMech, newLenOfDesc, hv, hn, Option.bind_some, Option.getD_some, Option.isSome_some,
        lenCur, compat_nonconfigurable_data, lenFinish, setterSpec, hacc]
      simp only [Desc.toPD, Flag.toOpt_eq_true, Flag.toOpt_mismatch]
      rw [lengthReject_iff]
      generalize (d.configurable == Flag.tru || d.enumerable == Flag.tru || d.getter.isSome || d.setter.isSome) = r
      cases r
      · -- both sides are tables over `writable`, the old writability and how `n` compares with the length
        have hnum : (Val.num (n : Int) = Val.num (s.len : Int)) ↔ n = s.len := by
          rw [Val.num.injEq, Int.natCast_inj]
        by_cases hnl : n = s.len
        · cases d.writable <;> cases s.lenW <;> simp [Flag.toOpt, Flag.bool, hnl]
        · have hnl' : ¬ s.len = n := fun h => hnl h.symm
          by_cases hlt : n < s.len
          · have hle : ¬ s.len ≤ n := Nat.not_le.mpr hlt
            cases d.writable <;> cases s.lenW <;> cases maxBlocker A n s.o.props <;>
              simp [Flag.toOpt, Flag.bool, hnum, hnl, hnl', hle]
          · have hle : s.len ≤ n := Nat.le_of_not_lt hlt
            cases d.writable <;> cases s.lenW <;> simp [Flag.toOpt, Flag.bool, hnum, hnl, hnl', hle]
      · simp

end GojaModel.C11
