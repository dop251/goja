/-
  C13 — wrapReflectFunc's `in` slice (Gateway.lean): its allocation and zero filling in closed form, and what the
  argument loop writes on any slice.
-/
import GojaModel.C13.Gateway

namespace GojaModel.C13

/-- The two branches of the allocation (runtime.go:2047-2064, `l < nargs` or not) give one length. -/
theorem initIn_len (nargs : Nat) (variadic : Bool) (l : Nat) :
    (initIn nargs variadic l).len = if variadic = true then max l (nargs - 1) else nargs := by
  rw [initIn]
  cases variadic <;> by_cases h : l < nargs <;> simp [h] <;> omega

theorem initIn_slot (nargs : Nat) (variadic : Bool) (l j : Nat) : (initIn nargs variadic l).slot j =
    if l ≤ j ∧ j < (initIn nargs variadic l).len then .zero j else .unset := by
  by_cases h : l < nargs
  · rw [initIn, if_pos h]
  · -- without zero filling the slice ends at or before `l`
    have := initIn_len nargs variadic l
    rw [if_neg (fun hj => by cases variadic <;> simp at this <;> omega), initIn, if_neg h]

theorem initIn_oob (nargs : Nat) (variadic : Bool) (l : Nat) : (initIn nargs variadic l).oob = false := by
  rw [initIn]; split <;> rfl

/-- The argument loop from position `i` up to `l` on any slice long enough for what it writes: every position it
    reaches gets what the documentation names for it, nothing else is touched.  A non-variadic func reaches only the
    positions below `nargs` (the `break`). -/
theorem loopIn_slots (nargs : Nat) (variadic : Bool) (l : Nat) : ∀ (todo i : Nat) (g : GIn), i + todo = l →
    (∀ j, i ≤ j → j < l → (variadic = true ∨ j < nargs) → j < g.len) →
    (loopIn nargs variadic i todo g).len = g.len ∧ (loopIn nargs variadic i todo g).oob = g.oob ∧
    ∀ j, (loopIn nargs variadic i todo g).slot j =
      if i ≤ j ∧ j < l ∧ (variadic = true ∨ j < nargs) then specSlot nargs variadic l j else g.slot j
  | 0, i, g, hi, _ => ⟨rfl, rfl, fun j => by rw [loopIn, if_neg (by omega)]⟩
  | todo + 1, i, g, hi, hin => by
    rw [loopIn]
    by_cases hgo : variadic = true ∨ i < nargs
    · -- both assigning branches write `specSlot … i` and go on
      have hs : specSlot nargs variadic l i =
          if nargs ≤ i + 1 ∧ variadic = true then .arg i (nargs - 1) true else .arg i i false := if_pos (by omega)
      have hbody : (if nargs ≤ i + 1 ∧ variadic = true then
            loopIn nargs variadic (i + 1) todo (g.assign i (.arg i (nargs - 1) true))
          else if nargs < i + 1 then g else loopIn nargs variadic (i + 1) todo (g.assign i (.arg i i false))) =
          loopIn nargs variadic (i + 1) todo (g.assign i (specSlot nargs variadic l i)) := by
        rw [hs]
        by_cases hv : nargs ≤ i + 1 ∧ variadic = true
        · rw [if_pos hv, if_pos hv]
        · rw [if_neg hv, if_neg hv, if_neg (fun hb => hgo.elim (fun h => hv ⟨by omega, h⟩) (by omega))]
      rw [hbody, GIn.assign, if_pos (hin i (Nat.le_refl _) (by omega) hgo)]
      obtain ⟨h1, h2, h3⟩ := loopIn_slots nargs variadic l todo (i + 1)
        { g with slot := fun j => if j = i then specSlot nargs variadic l i else g.slot j } (by omega)
        (fun j h1 h2 h3 => hin j (by omega) h2 h3)
      refine ⟨h1, h2, fun j => ?_⟩
      rw [h3]
      by_cases hj : j = i
      · rw [hj, if_neg (by omega), if_pos ⟨Nat.le_refl _, by omega, hgo⟩]; exact if_pos rfl
      · exact ite_congr (propext ⟨fun h => ⟨by omega, h.2⟩, fun h => ⟨by omega, h.2⟩⟩) (fun _ => rfl) (fun _ => if_neg hj)
    · -- not variadic and `nargs ≤ i`: the `break`
      rw [if_neg (fun h => hgo (.inl h.2)), if_pos (by omega)]
      exact ⟨rfl, rfl, fun j => by rw [if_neg (fun h => hgo (h.2.2.imp_right (by omega)))]⟩

theorem loopIn_inv (nargs : Nat) (variadic : Bool) (l : Nat) :
    ∀ (todo i : Nat) (g : GIn), i + todo = l → g.len = (initIn nargs variadic l).len → g.oob = false →
      (∀ j, j < i → j < g.len → g.slot j = specSlot nargs variadic l j) →
      (∀ j, i ≤ j → g.slot j = (initIn nargs variadic l).slot j) →
      (loopIn nargs variadic i todo g).len = g.len ∧ (loopIn nargs variadic i todo g).oob = false ∧
      ∀ j, j < g.len → (loopIn nargs variadic i todo g).slot j = specSlot nargs variadic l j := by
  intro todo i g hi hlen hoob hdone hrest
  have hL := hlen.trans (initIn_len nargs variadic l)
  obtain ⟨h1, h2, h3⟩ := loopIn_slots nargs variadic l todo i g hi (fun j _ hj hb => by
    rw [hL]; split
    · omega
    · exact hb.resolve_left ‹_›)
  refine ⟨h1, h2.trans hoob, fun j hj => ?_⟩
  rw [h3]
  by_cases hji : j < i
  · rw [if_neg (by omega)]; exact hdone j hji hj
  · by_cases hjl : j < l
    · refine if_pos ⟨by omega, hjl, ?_⟩
      rw [hL] at hj; split at hj
      · exact .inl ‹_›
      · exact .inr hj
    · rw [if_neg (fun h => hjl h.2.1), hrest j (by omega), initIn_slot, if_pos ⟨by omega, hlen ▸ hj⟩, specSlot, if_neg hjl]

/-- What `reflect.Value.Call` is handed: nothing was written out of bounds, the slice has the allocated length, every
    position holds the documented slot. -/
theorem gatewayIn_spec (nargs : Nat) (variadic : Bool) (l : Nat) :
    (gatewayIn nargs variadic l).oob = false ∧
    (gatewayIn nargs variadic l).len = (if variadic = true then max l (nargs - 1) else nargs) ∧
    ∀ j, j < (gatewayIn nargs variadic l).len → (gatewayIn nargs variadic l).slot j = specSlot nargs variadic l j := by
  have hL := initIn_len nargs variadic l
  obtain ⟨hlen, hoob, hslot⟩ := loopIn_slots nargs variadic l l 0 (initIn nargs variadic l) (Nat.zero_add l)
    (fun j _ hj hb => by
      rw [hL]; split
      · omega
      · exact hb.resolve_left ‹_›)
  refine ⟨hoob.trans (initIn_oob nargs variadic l), hlen.trans hL, fun j hj => ?_⟩
  rw [gatewayIn, hslot]
  by_cases hjl : j < l
  · -- an argument: inside the slice of a non-variadic func it is below `nargs`, so the loop reached it
    refine if_pos ⟨Nat.zero_le _, hjl, ?_⟩
    rw [gatewayIn, hlen, hL] at hj; split at hj
    · exact .inl ‹_›
    · exact .inr hj
  · rw [if_neg (fun h => hjl h.2.1), initIn_slot, if_pos ⟨by omega, hlen ▸ hj⟩, specSlot, if_neg hjl]

end GojaModel.C13
