/-
  C13 — the two-level identity cache of one export (object.go:142-146 objectExportCacheItem / objectExportCtx,
  object.go:1700 get, 1712 getTyped, 1726 put, 1737 putTyped).

  cache[key] is either a raw value — what the default, untyped export of the object produced, its Go type is the
  object's exportType() — or an `objectExportCacheItem`: a per-Go-type table (which then holds the untyped value
  under exportType()).  Objects are Nat ids, Go types are Nat codes (`et id` = key.self.exportType()), values are Go
  addresses.  Core Lean only.
-/
namespace GojaModel.C13

inductive CEntry where
  | raw (v : Nat)                          -- cache[key] = value
  | items (tbl : List (Nat × Nat))         -- cache[key] = objectExportCacheItem{typ: value, …}; latest binding first
deriving DecidableEq, Repr

structure C2 where
  et : Nat → Nat                           -- exportType of each object
  cache : Nat → Option CEntry

def tblGet (tbl : List (Nat × Nat)) (ty : Nat) : Option Nat :=
  (tbl.find? (fun e => e.1 = ty)).map (·.2)

/-- objectExportCtx.get (object.go:1700) -/
def C2.get (c : C2) (key : Nat) : Option Nat :=
  match c.cache key with
  | some (.items tbl) => tblGet tbl (c.et key)
  | some (.raw v) => some v
  | none => none

/-- objectExportCtx.getTyped (object.go:1712): a raw value answers only for its own type -/
def C2.getTyped (c : C2) (key ty : Nat) : Option Nat :=
  match c.cache key with
  | some (.items tbl) => tblGet tbl ty
  | some (.raw v) => if c.et key = ty then some v else none
  | none => none

def setCache (c : C2) (key : Nat) (e : CEntry) : C2 :=
  { c with cache := fun k => if k = key then some e else c.cache k }

/-- objectExportCtx.put (object.go:1726) -/
def C2.put (c : C2) (key v : Nat) : C2 :=
  match c.cache key with
  | some (.items tbl) => setCache c key (.items ((c.et key, v) :: tbl))
  | _ => setCache c key (.raw v)

/-- objectExportCtx.putTyped (object.go:1737): an existing raw value is carried over into the new per-type table
    under exportType() — `m[key.self.exportType()] = v; m[typ] = value`. -/
def C2.putTyped (c : C2) (key ty v : Nat) : C2 :=
  match c.cache key with
  | some (.items tbl) => setCache c key (.items ((ty, v) :: tbl))
  | some (.raw old) => setCache c key (.items [(ty, v), (c.et key, old)])
  | none => setCache c key (.items [(ty, v)])

/-- The seeded mutant C13-m2: the "raw value exists" branch merged with the "no entry" branch. -/
def C2.putTypedDropsRaw (c : C2) (key ty v : Nat) : C2 :=
  match c.cache key with
  | some (.items tbl) => setCache c key (.items ((ty, v) :: tbl))
  | _ => setCache c key (.items [(ty, v)])

/-- cache writes during one export -/
inductive COp where
  | put (key v : Nat)
  | putTyped (key ty v : Nat)
deriving DecidableEq, Repr

def C2.step (c : C2) : COp → C2
  | .put k v => c.put k v
  | .putTyped k ty v => c.putTyped k ty v

def C2.run (c : C2) : List COp → C2
  | [] => c
  | op :: ops => (c.step op).run ops

/-- An operation that does not re-bind (key, ty): the export code only writes a binding after the corresponding
    get / getTyped missed, so within one export every (object, type) pair is bound at most once. -/
def COp.leaves (key ty : Nat) (et : Nat → Nat) : COp → Bool
  | .put k _ => !(k == key && et k == ty)
  | .putTyped k t _ => !(k == key && t == ty)

end GojaModel.C13
