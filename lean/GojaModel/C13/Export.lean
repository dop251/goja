/-
  C13 — Part 3 of the model: Export of a script-built object graph with the identity cache
  (value.go:791 Object.Export, object.go:969 baseObject.export, array.go:511 arrayObject.export,
   object.go:1700 objectExportCtx.get / 1726 put).

  Both export methods have the same shape:
        if v, exists := ctx.get(o.val); exists { return v }
        m := make(...); ctx.put(o.val, m)
        for each own key: m[key] = exportValue(child, ctx)        -- recursion, same ctx
        return m
  The Go object is allocated and entered into the cache BEFORE the children are exported, which is what makes
  cycles terminate and shared children come out shared.

  Model: a script heap `js : Nat → List (Nat × JVal)` (object id ↦ its own data properties in key order; an array
  is an object whose keys are its indices), the cache as the list of object ids in allocation order — the Go
  address of the exported object IS its position in that list — and the finished Go objects `out`.
  Core Lean only.
-/
namespace GojaModel.C13

inductive JVal where
  | prim (p : Int)      -- a primitive, or an opaque leaf object exported without recursion (typed array / ArrayBuffer:
                        -- a slice backed by the buffer; Date; function) — also what a getter returns, if primitive
  | ref (id : Nat)      -- an object / array (own enumerable data property, array element, or the value a getter returns)
  | hole                -- an array hole (arrayObject.export leaves the slot nil)
deriving DecidableEq, Repr

inductive GVal where
  | prim (p : Int)
  | addr (a : Nat)
  | nil
deriving DecidableEq, Repr

abbrev JFields := List (Nat × JVal)
abbrev GFields := List (Nat × GVal)

structure ECtx where
  cache : List Nat                 -- objectExportCtx.cache: object id at position a  <->  Go address a
  out : List (Nat × GFields)       -- completed Go objects (address, contents)
  ok : Bool                        -- false once the recursion fuel ran out (never with fuel > number of objects)
deriving DecidableEq, Repr

/-- objectExportCtx.get: position of `id` in the cache. -/
def findAddr (id : Nat) : List Nat → Option Nat
  | [] => none
  | x :: xs => if x = id then some 0 else (findAddr id xs).map (· + 1)

/-- the `for … keys` loop, parameterised by the exporter for values -/
def expFields (ev : ECtx → JVal → ECtx × GVal) : ECtx → JFields → ECtx × GFields
  | c, [] => (c, [])
  | c, (k, v) :: rest =>
    let (c1, g) := ev c v
    let (c2, gs) := expFields ev c1 rest
    (c2, (k, g) :: gs)

/-- exportValue (value.go:1136) → Object.self.export(ctx). -/
def expVal (js : Nat → JFields) : Nat → ECtx → JVal → ECtx × GVal
  | _, c, .prim p => (c, .prim p)
  | _, c, .hole => (c, .nil)
  | 0, c, .ref _ => ({ c with ok := false }, .prim 0)
  | fuel + 1, c, .ref id =>
    match findAddr id c.cache with
    | some a => (c, .addr a)                                  -- ctx.get hit: the same Go object again
    | none =>
      let a := c.cache.length                                 -- m := make(...)
      let c1 : ECtx := { c with cache := c.cache ++ [id] }    -- ctx.put(o.val, m)
      let (c2, fs) := expFields (expVal js fuel) c1 (js id)
      ({ c2 with out := c2.out ++ [(a, fs)] }, .addr a)

def ECtx.empty : ECtx := { cache := [], out := [], ok := true }

/-- Object.Export(): a fresh ctx per call. -/
def exportRoot (js : Nat → JFields) (fuel : Nat) (root : Nat) : ECtx × GVal :=
  expVal js fuel ECtx.empty (.ref root)

/-! ### what "the exported graph is the image of the script graph" means -/

/-- value correspondence under the object↦address map `cache` -/
def Img (cache : List Nat) : JVal → GVal → Prop
  | .prim p, .prim q => p = q
  | .hole, .nil => True
  | .ref id, .addr a => cache[a]? = some id
  | _, _ => False

def ImgFields (cache : List Nat) : JFields → GFields → Prop
  | [], [] => True
  | (k, v) :: fs, (k', g) :: gs => k = k' ∧ Img cache v g ∧ ImgFields cache fs gs
  | _, _ => False

/-- a finished Go object is the image of the script object cached at its address -/
def OutGood (js : Nat → JFields) (cache : List Nat) (e : Nat × GFields) : Prop :=
  ∃ id, cache[e.1]? = some id ∧ ImgFields cache (js id) e.2

/-! ### Map and Set objects (builtin_map.go:53 mapObject.export, builtin_set.go:52 setObject.export)

  Since fix 29d16ec they start with `if v, exists := ctx.get(…); exists { return v }` like baseObject.export and
  arrayObject.export, so a Map (entries `<key, value>`) or a Set (elements) is an ordinary node of `expVal`.
  BEFORE the fix they did not consult the cache on entry — `m := make(…); ctx.put(mo.val, m)` straight away — and every
  visit of a Map / Set allocated a new Go slice: `expValK` with `isMapSet id` marking such objects (for them the old code
  never looked the id up) is kept as the regression model of that mechanism. -/

def expValK (js : Nat → JFields) (isMapSet : Nat → Bool) : Nat → ECtx → JVal → ECtx × GVal
  | _, c, .prim p => (c, .prim p)
  | _, c, .hole => (c, .nil)
  | 0, c, .ref _ => ({ c with ok := false }, .prim 0)
  | fuel + 1, c, .ref id =>
    match (if isMapSet id then none else findAddr id c.cache) with
    | some a => (c, .addr a)
    | none =>
      let a := c.cache.length
      let c1 : ECtx := { c with cache := c.cache ++ [id] }
      let (c2, fs) := expFields (expValK js isMapSet fuel) c1 (js id)
      ({ c2 with out := c2.out ++ [(a, fs)] }, .addr a)

end GojaModel.C13
