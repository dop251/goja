/-
  C13 — Go<->JS bridge.  Part 1 of the model: `WrapCache`, the copy-on-change tracking of nested
  non-pointer values (object_goarray_reflect.go, object_goslice_reflect.go, object_goreflect.go).

  Mechanism-level: one wrapped Go slice `*[]S` / array `*[N]S` of a non-pointer container element type
  (S = struct{Field int}; an element is abstracted to the contents of its field, `Val`).  The state has
  exactly the pieces the Go code has:

    * the Go heap of backing arrays (`mem b i`, capacity `cap b`), the slice header the wrapper sees through
      the pointer (`cur`, `len`)                                  -- o.fieldsValue (addressable, live)
    * `valueCache` (object_goarray_reflect.go:14,19): index -> element wrapper, with its length `clen`
    * every element wrapper ever handed out (`ws w`): the reflect.Value it holds — either a cell of a
      backing array (`Loc.cell`, "attached") or a private copy made by copyReflectValueWrapper
      (object_goreflect.go:97) (`Loc.own`, "detached")
    * `panic`: a Go run-time panic (reflect "index out of range") was raised by the operation.

  Core Lean only; total computable defs over functions Nat -> _ (updates are `fun j => if j = i then .. else ..`).
-/
namespace GojaModel.C13

abbrev Val := Int

/-- What an element wrapper's `fieldsValue` (a reflect.Value) refers to. -/
inductive Loc where
  | cell (b i : Nat)     -- slot i of backing array b
  | own (v : Val)        -- a private copy (after copyReflectValueWrapper)
deriving DecidableEq, Repr, Inhabited

structure St where
  fixed : Bool                 -- true: Go array (objectGoArrayReflect); false: slice (objectGoSliceReflect)
  mem : Nat → Nat → Val        -- Go heap: backing array b, index i
  cap : Nat → Nat              -- capacity of backing b
  nb : Nat                     -- backings allocated so far
  cur : Nat                    -- backing the Go slice header currently points to
  len : Nat                    -- current length of the Go slice
  clen : Nat                   -- len(o.valueCache)
  cache : Nat → Option Nat     -- o.valueCache[i] (wrapper id) for i < clen
  ws : Nat → Loc               -- wrapper id -> its reflect.Value
  nw : Nat                     -- wrappers created so far
  panic : Bool

/-- Initial state: slice/array with `n` elements `init i`, capacity `c ≥ n`, nothing cached. -/
def St.init (fixed : Bool) (n c : Nat) (init : Nat → Val) : St :=
  -- cells [n, cap) are the SPARE CAPACITY: whatever Go left there (a slice built as buf[:n])
  { fixed := fixed, mem := fun b i => if b = 0 ∧ i < max n c then init i else 0, cap := fun b => if b = 0 then max n c else 0,
    nb := 1, cur := 0, len := n, clen := 0, cache := fun _ => none, ws := fun _ => .own 0, nw := 0, panic := false }

def St.slot (s : St) (i : Nat) : Val := s.mem s.cur i

def St.readLoc (s : St) : Loc → Val
  | .cell b i => s.mem b i
  | .own v => v

/-- Reading `tmp.Field` through wrapper `w`. -/
def St.readW (s : St) (w : Nat) : Val := s.readLoc (s.ws w)

def updMem (m : Nat → Nat → Val) (b i : Nat) (x : Val) : Nat → Nat → Val :=
  fun b' i' => if b' = b ∧ i' = i then x else m b' i'

def updN {α : Type} (f : Nat → α) (i : Nat) (x : α) : Nat → α :=
  fun j => if j = i then x else f j

/-- valueArrayCache.get (object_goarray_reflect.go:21). -/
def St.cacheGet (s : St) (i : Nat) : Option Nat := if i < s.clen then s.cache i else none

/-- valueArrayCache.put (object_goarray_reflect.go:39): grows (nil-filled) then stores. -/
def St.cachePut (s : St) (i w : Nat) : St :=
  { s with clen := max s.clen (i + 1),
           cache := fun j => if j = i then some w else if j < s.clen then s.cache j else none }

/-- `o.valueCache[i] = nil` (only executed when i < clen). -/
def St.cacheClear (s : St) (i : Nat) : St :=
  { s with cache := fun j => if j = i then none else s.cache j }

/-- copyReflectValueWrapper (object_goreflect.go:97): the wrapper now refers to a fresh copy of what it
    referred to. -/
def St.detach (s : St) (w : Nat) : St :=
  { s with ws := updN s.ws w (.own (s.readW w)) }

def St.detachOpt (s : St) : Option Nat → St
  | some w => s.detach w
  | none => s

/-- Write `x` through wrapper `w` (`tmp.Field = x`, objectGoReflect._put on the element wrapper). -/
def St.writeW (s : St) (w : Nat) (x : Val) : St :=
  match s.ws w with
  | .cell b i => { s with mem := updMem s.mem b i x }
  | .own _ => { s with ws := updN s.ws w (.own x) }

/-- growCap (runtime.go:2985), the branch for oldSize < 1024 only is reachable in the generated histories (lengths far below 1024);
    the ≥1024 branch is transcribed with fuel. -/
def growCapLoop : Nat → Nat → Nat → Nat
  | 0, c, _ => c
  | fuel + 1, c, newSize => if 0 < c ∧ c < newSize then growCapLoop fuel (c + c / 4) newSize else c

def growCap (newSize oldSize oldCap : Nat) : Nat :=
  let doublecap := oldCap + oldCap
  if newSize > doublecap then newSize
  else if oldSize < 1024 then doublecap
  else
    let c := growCapLoop 200 oldCap newSize
    if c = 0 then newSize else c

/-- first index i < bound with cache i = some w (the loops over valueCache are searches in the model) -/
def St.findCached (s : St) (w : Nat) (lo hi : Nat) : Option Nat :=
  (List.range hi).find? (fun i => decide (lo ≤ i) && (s.cacheGet i == some w))

/-- objectGoSliceReflect.grow (object_goslice_reflect.go:28). -/
def St.grow (s : St) (size : Nat) : St :=
  if s.cap s.cur < size then
    -- reflect.MakeSlice(size, growCap) ; reflect.Copy ; fieldsValue.Set(n) ; re-point cached wrappers [0, min(clen,size))
    let nbk := s.nb
    let newcap := growCap size s.len (s.cap s.cur)
    let l := min s.clen size
    { s with
      mem := fun b i => if b = nbk then (if i < s.len then s.mem s.cur i else 0) else s.mem b i,
      cap := fun b => if b = nbk then newcap else s.cap b,
      nb := s.nb + 1, cur := nbk, len := size,
      ws := fun w => match s.findCached w 0 l with
                     | some i => .cell nbk i
                     | none => s.ws w }
  else
    -- zero the tail [len, size) and SetLen(size)
    { s with mem := fun b i => if b = s.cur ∧ s.len ≤ i ∧ i < size then 0 else s.mem b i, len := size }

/-- valueArrayCache.shrink (object_goarray_reflect.go:46) + objectGoSliceReflect.shrink
    (object_goslice_reflect.go:53). -/
def St.shrink (s : St) (size : Nat) : St :=
  let s1 : St :=
    if s.clen > size then
      { s with ws := fun w => match s.findCached w size s.clen with
                              | some _ => .own (s.readW w)
                              | none => s.ws w,
               cache := fun j => if j < size then s.cache j else none,
               clen := size }
    else s
  { s1 with mem := fun b i => if b = s1.cur ∧ size ≤ i ∧ i < s1.len then 0 else s1.mem b i, len := size }

/-- objectGoArrayReflect._putIdx (object_goarray_reflect.go:171, with the bounds test of fix 1c31366);
    `ok` = the Go type conversion succeeds. -/
def St.putIdxArr (s : St) (i : Nat) (x : Val) (ok : Bool) : St :=
  -- if idx >= o.fieldsValue.Len() { typeErrorResult(throw, "Cannot extend a Go array"); return false }
  if s.len ≤ i then s else
  let cached := s.cacheGet i
  let s1 := s.detachOpt cached
  -- rv := o.fieldsValue.Index(idx): reflect would panic when idx ≥ Len() (unreachable behind the test above)
  if s1.len ≤ i then { s1 with panic := true } else
  if ok then
    let s2 := { s1 with mem := updMem s1.mem s1.cur i x }
    match cached with
    | some _ => s2.cacheClear i
    | none => s2
  else
    -- conversion error: cached.setReflectValue(rv) re-attaches the wrapper
    match cached with
    | some w => { s1 with ws := updN s1.ws w (.cell s1.cur i) }
    | none => s1

/-- setOwnIdx/defineOwnPropertyIdx -> o.putIdx: objectGoSliceReflect._putIdx grows first
    (object_goslice_reflect.go:21); for a Go array the same call reaches objectGoArrayReflect._putIdx directly. -/
def St.putIdx (s : St) (i : Nat) (x : Val) (ok : Bool) : St :=
  if s.fixed then s.putIdxArr i x ok
  else
    let s1 := if s.len ≤ i then s.grow (i + 1) else s
    s1.putIdxArr i x ok

/-- _getIdx (object_goarray_reflect.go:103) behind the bounds check of getIdx (l.118). Returns the handle. -/
def St.getIdx (s : St) (i : Nat) : St × Option Nat :=
  if s.len ≤ i then (s, none) else
  match s.cacheGet i with
  | some w => (s, some w)
  | none =>
    let w := s.nw
    (({ s with ws := updN s.ws w (.cell s.cur i), nw := s.nw + 1 } : St).cachePut i w, some w)

/-- _deleteIdx (object_goarray_reflect.go:282). -/
def St.delIdx (s : St) (i : Nat) : St :=
  if s.len ≤ i then s else
  let s1 := match s.cacheGet i with
    | some w => (s.detach w).cacheClear i
    | none => s
  { s1 with mem := updMem s1.mem s1.cur i 0 }

/-- putLength (object_goslice_reflect.go:63); on a Go array `length` is not writable (no state change). -/
def St.setLen (s : St) (n : Nat) : St :=
  if s.fixed then s
  else if n > s.len then s.grow n
  else if n < s.len then s.shrink n
  else s

/-- `if i < len(o.valueCache) { o.valueCache[i] = nil }` -/
def St.condClear (s : St) (i : Nat) : St := if i < s.clen then s.cacheClear i else s

/-- One half of swap's cache adjustment (object_goarray_reflect.go:360-378): the wrapper that was cached for
    the other index (`c`) is re-pointed to slot `i` and cached there; if there was none, slot `i`'s entry is
    cleared. -/
def St.moveCache (s : St) (c : Option Nat) (i : Nat) : St :=
  match c with
  | some w => ({ s with ws := updN s.ws w (.cell s.cur i) } : St).cachePut i w
  | none => s.condClear i

/-- swap (object_goarray_reflect.go:348, with the guard of fix 60ad8ae): one Swap call of sort.Stable on the
    wrapper (in-place sort). -/
def St.swap (s : St) (i j : Nat) : St :=
  -- if n := o.fieldsValue.Len(); i >= n || j >= n { return }  (the comparator has shrunk the slice)
  if s.len ≤ i ∨ s.len ≤ j then s else
  let vi := s.slot i
  let vj := s.slot j
  let s1 := { s with mem := updMem (updMem s.mem s.cur i vj) s.cur j vi }
  let ci := s.cacheGet i
  let cj := s.cacheGet j
  (s1.moveCache ci j).moveCache cj i

inductive Op where
  | get (i : Nat)               -- script: h = a[i]
  | set (i : Nat) (x : Val)     -- script: a[i] = {Field: x}
  | setBad (i : Nat)            -- script: a[i] = <value the Go type conversion rejects>
  | del (i : Nat)               -- script: delete a[i]
  | setLen (n : Nat)            -- script: a.length = n
  | swap (i j : Nat)            -- one swap of Array.prototype.sort (in place on Go wrappers)
  | wwrite (w : Nat) (x : Val)  -- script: h_w.Field = x
  | goWrite (i : Nat) (x : Val) -- Go: (*p)[i].Field = x
  | goAppend (x : Val)          -- Go: *p = append(*p, S{x}) while len < cap
  | goRealloc (c : Nat)         -- Go: n := make([]S, len, c); copy(n, *p); *p = n  (append beyond cap)
deriving Repr, DecidableEq

def St.step (s : St) : Op → St
  | .get i => (s.getIdx i).1
  | .set i x => s.putIdx i x true
  | .setBad i => s.putIdx i 0 false
  | .del i => s.delIdx i
  | .setLen n => s.setLen n
  | .swap i j => s.swap i j
  | .wwrite w x => if w < s.nw then s.writeW w x else s
  | .goWrite i x => if i < s.len then { s with mem := updMem s.mem s.cur i x } else s
  | .goAppend x =>
      if s.fixed then s else
      if s.len < s.cap s.cur then { s with mem := updMem s.mem s.cur s.len x, len := s.len + 1 } else s
  | .goRealloc c =>
      if s.fixed then s else
      if s.len ≤ c then
        { s with mem := fun b i => if b = s.nb then (if i < s.len then s.mem s.cur i else 0) else s.mem b i,
                 cap := fun b => if b = s.nb then c else s.cap b, nb := s.nb + 1, cur := s.nb }
      else s

def St.run (s : St) : List Op → St
  | [] => s
  | op :: ops => (s.step op).run ops

/-- Operations whose effect goja can see (everything except a Go-side re-allocation, after which the cached
    element wrappers still point into the old backing array: known finding stale-elem-wrapper-after-go-realloc). -/
def Op.tracked : Op → Bool
  | .goRealloc _ => false
  | _ => true

end GojaModel.C13
