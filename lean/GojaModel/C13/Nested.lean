/-
  C13 — nested wrappers (object_goreflect.go: objectGoReflect.valueCache, _getFieldValue l.250, setReflectValue l.537
  with the repair a40b0ef; object_goarray_reflect.go setReflectValue for array values).

  A wrapper for a struct value hands out wrappers for its container-typed fields and caches them by field name; those
  do the same, to any depth: the wrappers form a TREE (each nested wrapper is created for exactly one cache entry).
  `fld a n` is the address of field `n` inside the struct value at address `a` (reflect's Field(i) of an addressable
  value).  setReflectValue(v) re-points a wrapper to another value — a private copy (copyReflectValueWrapper: detach),
  another slot (sort swap), the same slot in a re-allocated backing array (grow) — and, since a40b0ef, re-points every
  cached nested wrapper to the corresponding field of the new value, recursively.
-/
import GojaModel.C13.Model

namespace GojaModel.C13

/-- a wrapper with the nested wrappers it has handed out (valueCache: field name ↦ wrapper) -/
inductive WT where
  | node (loc : Nat) (kids : List (Nat × WT))

def WT.loc : WT → Nat
  | .node l _ => l

def WT.kids : WT → List (Nat × WT)
  | .node _ ks => ks

/-- objectGoReflect.setReflectValue as repaired by a40b0ef:
      o.fieldsValue = v; …; for name, w := range o.valueCache { w.setReflectValue(o._getField(name)) } -/
def WT.setRV (fld : Nat → Nat → Nat) : WT → Nat → WT
  | .node _ kids, a => .node a (kids.attach.map (fun (x : { p : Nat × WT // p ∈ kids }) =>
      have : sizeOf x.1.2 < 1 + sizeOf kids := by
        have h1 := List.sizeOf_lt_of_mem x.2
        have h2 : sizeOf x.1 = 1 + sizeOf x.1.1 + sizeOf x.1.2 := by cases x.1; simp
        omega
      (x.1.1, x.1.2.setRV fld (fld a x.1.1))))
termination_by t => sizeOf t
decreasing_by
  simp only [WT.node.sizeOf_spec]
  omega

/-- setReflectValue before a40b0ef: only the wrapper itself moves -/
def WT.setRVShallow : WT → Nat → WT
  | .node _ kids, a => .node a kids

def pathAddr (fld : Nat → Nat → Nat) (a : Nat) : List Nat → Nat
  | [] => a
  | n :: σ => pathAddr fld (fld a n) σ

def lookupKid : List (Nat × WT) → Nat → Option WT
  | [], _ => none
  | (m, k) :: rest, n => if m = n then some k else lookupKid rest n

def WT.sub : WT → List Nat → Option WT
  | t, [] => some t
  | t, n :: σ => match lookupKid t.kids n with
    | some k => k.sub σ
    | none => none

theorem WT.setRV_node (fld : Nat → Nat → Nat) (l : Nat) (kids : List (Nat × WT)) (a : Nat) :
    WT.setRV fld (.node l kids) a = .node a (kids.map (fun p => (p.1, p.2.setRV fld (fld a p.1)))) := by
  rw [WT.setRV]
  congr 1
  exact List.attach_map_val (l := kids) (f := fun p => (p.1, p.2.setRV fld (fld a p.1)))

theorem lookupKid_map (g : Nat → WT → WT) : ∀ (kids : List (Nat × WT)) (n : Nat),
    lookupKid (kids.map (fun p => (p.1, g p.1 p.2))) n = (lookupKid kids n).map (g n)
  | [], _ => rfl
  | (m, k) :: rest, n => by
    simp only [List.map, lookupKid]
    by_cases h : m = n
    · subst h; simp
    · simp [h, lookupKid_map g rest n]

theorem WT.sub_cons (t : WT) (m : Nat) (σ : List Nat) :
    t.sub (m :: σ) = (lookupKid t.kids m).bind (fun k => k.sub σ) := by
  rw [WT.sub]; cases lookupKid t.kids m <;> rfl

theorem WT.setRV_loc (fld : Nat → Nat → Nat) (t : WT) (a : Nat) : (t.setRV fld a).loc = a := by
  cases t; rw [WT.setRV_node]; rfl

theorem WT.sub_setRV (fld : Nat → Nat → Nat) : ∀ (σ : List Nat) (t : WT) (a : Nat),
    (t.setRV fld a).sub σ = (t.sub σ).map (fun k => k.setRV fld (pathAddr fld a σ))
  | [], _, _ => rfl
  | n :: σ, .node l kids, a => by
    rw [WT.setRV_node]
    simp only [WT.sub, WT.kids]
    rw [lookupKid_map (fun m k => k.setRV fld (fld a m))]
    cases lookupKid kids n with
    | none => rfl
    | some k0 => exact WT.sub_setRV fld σ k0 (fld a n)

theorem WT.setRV_sub (fld : Nat → Nat → Nat) (σ : List Nat) (t : WT) (a : Nat) (k : WT)
    (h : (t.setRV fld a).sub σ = some k) : k.loc = pathAddr fld a σ := by
  rw [WT.sub_setRV] at h
  cases hs : t.sub σ with
  | none => rw [hs] at h; cases h
  | some k0 => rw [hs] at h; cases h; exact WT.setRV_loc fld k0 _

theorem WT.setRV_sub_isSome (fld : Nat → Nat → Nat) (σ : List Nat) (t : WT) (a : Nat) :
    ((t.setRV fld a).sub σ).isSome = (t.sub σ).isSome := by
  rw [WT.sub_setRV, Option.isSome_map]

def setKid : List (Nat × WT) → Nat → WT → List (Nat × WT)
  | [], _, _ => []
  | (m, k) :: rest, n, k' => if m = n then (m, k') :: rest else (m, k) :: setKid rest n k'

/-- `_getFieldValue` on the wrapper at path σ for field n -/
def WT.addKid (fld : Nat → Nat → Nat) : WT → List Nat → Nat → WT
  | .node l kids, [], n =>
    match lookupKid kids n with
    | some _ => .node l kids
    | none => .node l ((n, .node (fld l n) []) :: kids)
  | .node l kids, m :: σ, n =>
    match lookupKid kids m with
    | some k => .node l (setKid kids m (k.addKid fld σ n))
    | none => .node l kids

def WT.Pointed (fld : Nat → Nat → Nat) (t : WT) : Prop :=
  ∀ σ k, t.sub σ = some k → k.loc = pathAddr fld t.loc σ

theorem WT.pointed_iff {fld : Nat → Nat → Nat} {t : WT} :
    t.Pointed fld ↔ ∀ m k, lookupKid t.kids m = some k → k.loc = fld t.loc m ∧ k.Pointed fld := by
  constructor
  · intro h m k hk
    have hloc : k.loc = fld t.loc m := h [m] k (by rw [WT.sub_cons, hk]; rfl)
    exact ⟨hloc, fun σ k2 hs => by rw [hloc]; exact h (m :: σ) k2 (by rw [WT.sub_cons, hk]; exact hs)⟩
  · intro h σ k hs
    cases σ with
    | nil => cases hs; rfl
    | cons m τ =>
      rw [WT.sub_cons] at hs
      cases hk : lookupKid t.kids m with
      | none => rw [hk] at hs; cases hs
      | some k0 =>
        rw [hk] at hs
        obtain ⟨hloc, hp⟩ := h m k0 hk
        exact (hp τ k hs).trans (by rw [hloc]; rfl)

theorem WT.pointed_leaf (fld : Nat → Nat → Nat) (a : Nat) : (WT.node a []).Pointed fld :=
  WT.pointed_iff.mpr fun _ _ h => nomatch h

theorem WT.addKid_loc (fld : Nat → Nat → Nat) : ∀ (t : WT) (σ : List Nat) (n : Nat), (t.addKid fld σ n).loc = t.loc
  | .node l kids, [], n => by simp only [WT.addKid]; split <;> rfl
  | .node l kids, m :: σ, n => by simp only [WT.addKid]; split <;> rfl

theorem lookupKid_setKid : ∀ (kids : List (Nat × WT)) (m : Nat) (k' : WT) (m' : Nat),
    lookupKid (setKid kids m k') m' =
      if m' = m then (lookupKid kids m).map (fun _ => k') else lookupKid kids m'
  | [], m, k', m' => by simp [setKid, lookupKid]
  | (a, k) :: rest, m, k', m' => by
    simp only [setKid]
    by_cases ham : a = m
    · subst ham
      by_cases h : m' = a
      · subst h; simp [lookupKid]
      · have h' : ¬ a = m' := fun e => h e.symm
        simp [lookupKid, h, h']
    · simp only [ham, if_false, lookupKid]
      by_cases h : a = m'
      · subst h
        have : ¬ a = m := ham
        simp [this]
      · simp only [h, if_false]
        exact lookupKid_setKid rest m k' m'

theorem WT.addKid_pointed (fld : Nat → Nat → Nat) : ∀ (σ : List Nat) (t : WT) (n : Nat),
    t.Pointed fld → (t.addKid fld σ n).Pointed fld
  | [], .node l kids, n, h => by
    rw [WT.addKid]
    cases hl : lookupKid kids n with
    | some _ => exact h
    | none =>
      refine WT.pointed_iff.mpr fun m k hk => ?_
      rw [show (WT.node l ((n, .node (fld l n) []) :: kids)).kids = (n, .node (fld l n) []) :: kids from rfl,
        lookupKid] at hk
      by_cases hnm : n = m
      · rw [if_pos hnm] at hk; cases hk; exact ⟨hnm ▸ rfl, WT.pointed_leaf fld _⟩
      · rw [if_neg hnm] at hk; exact WT.pointed_iff.mp h m k hk
  | m :: σ, .node l kids, n, h => by
    rw [WT.addKid]
    cases hl : lookupKid kids m with
    | none => exact h
    | some k0 =>
      obtain ⟨hloc, hp⟩ := WT.pointed_iff.mp h m k0 hl
      refine WT.pointed_iff.mpr fun m' k hk => ?_
      rw [show (WT.node l (setKid kids m (k0.addKid fld σ n))).kids = setKid kids m (k0.addKid fld σ n) from rfl,
        lookupKid_setKid] at hk
      by_cases hmm : m' = m
      · rw [if_pos hmm, hl] at hk; cases hk
        exact ⟨by rw [WT.addKid_loc, hmm]; exact hloc, WT.addKid_pointed fld σ k0 n hp⟩
      · rw [if_neg hmm] at hk; exact WT.pointed_iff.mp h m' k hk

theorem WT.setRV_pointed (fld : Nat → Nat → Nat) (t : WT) (a : Nat) : (t.setRV fld a).Pointed fld := by
  intro σ k hs
  rw [WT.setRV_loc]
  exact WT.setRV_sub fld σ t a k hs

inductive WOp where
  | hand (σ : List Nat) (n : Nat)    -- script: read field n of the (nested) wrapper at path σ
  | repoint (a : Nat)                -- detach (a = address of the fresh copy) / sort swap / re-allocation
deriving Repr

def WT.stepW (fld : Nat → Nat → Nat) (t : WT) : WOp → WT
  | .hand σ n => t.addKid fld σ n
  | .repoint a => t.setRV fld a

def WT.runW (fld : Nat → Nat → Nat) (t : WT) : List WOp → WT
  | [] => t
  | op :: ops => (t.stepW fld op).runW fld ops

theorem WT.runW_pointed (fld : Nat → Nat → Nat) : ∀ (ops : List WOp) (t : WT), t.Pointed fld → (t.runW fld ops).Pointed fld
  | [], _, h => h
  | .hand σ n :: ops, t, h => WT.runW_pointed fld ops _ (WT.addKid_pointed fld σ t n h)
  | .repoint a :: ops, t, _ => WT.runW_pointed fld ops _ (WT.setRV_pointed fld t a)

/-!
  Every element wrapper w of the WrapCache model (Model.lean) carries the tree of nested wrappers it has handed out.
  In the Go code the ONLY way an element wrapper's reflect.Value changes is setReflectValue (copyReflectValueWrapper →
  w.setReflectValue(copy); swap / grow / the conversion-error path call it directly), which since a40b0ef re-points the
  whole subtree; so the history semantics is the WrapCache step plus: "where the wrapper's location changed, its tree
  went through setRV to the new location's address". -/
/-- address of what an element wrapper refers to: a cell of a backing array, or the wrapper's current private copy -/
def addrOf (w : Nat) : Loc → Nat
  | .cell b i => 2 * (b * 1000003 + i)
  | .own _ => 2 * w + 1

structure NSt where
  s : St
  trees : Nat → WT

inductive NOp where
  | base (op : Op)                              -- any operation of the WrapCache model (script or Go side)
  | hand (w : Nat) (σ : List Nat) (n : Nat)     -- script: read field n of the nested wrapper at path σ under handle w

def NSt.init (s : St) : NSt := { s := s, trees := fun _ => .node 0 [] }

def NSt.step (fld : Nat → Nat → Nat) (t : NSt) : NOp → NSt
  | .base op =>
    let s' := t.s.step op
    { s := s',
      trees := fun w =>
        if w < s'.nw then
          if w < t.s.nw ∧ s'.ws w = t.s.ws w then t.trees w
          else (if w < t.s.nw then t.trees w else WT.node 0 []).setRV fld (addrOf w (s'.ws w))
        else t.trees w }
  | .hand w σ n =>
    if w < t.s.nw then { t with trees := fun w' => if w' = w then (t.trees w).addKid fld σ n else t.trees w' } else t

def NSt.run (fld : Nat → Nat → Nat) (t : NSt) : List NOp → NSt
  | [] => t
  | op :: ops => (t.step fld op).run fld ops

def NInv (fld : Nat → Nat → Nat) (t : NSt) : Prop :=
  ∀ w, w < t.s.nw → (t.trees w).Pointed fld ∧ (t.trees w).loc = addrOf w (t.s.ws w)

theorem NInv_step (fld : Nat → Nat → Nat) (t : NSt) (h : NInv fld t) (op : NOp) : NInv fld (t.step fld op) := by
  cases op with
  | base op =>
    intro w hw
    simp only [NSt.step] at hw ⊢
    simp only [hw, if_true]
    by_cases hsame : w < t.s.nw ∧ (t.s.step op).ws w = t.s.ws w
    · simp only [hsame, and_self, if_true]
      exact h w hsame.1
    · simp only [hsame, if_false]
      exact ⟨WT.setRV_pointed fld _ _, WT.setRV_loc fld _ _⟩
  | hand w σ n =>
    simp only [NSt.step]
    by_cases hw : w < t.s.nw
    · simp only [hw, if_true]
      intro w' hw'
      by_cases e : w' = w
      · subst e
        simp only [if_true]
        have := h w' hw
        exact ⟨WT.addKid_pointed fld σ _ n this.1, by rw [WT.addKid_loc]; exact this.2⟩
      · simp only [e, if_false]; exact h w' hw'
    · simp only [hw, if_false]; exact h

theorem NInv_run (fld : Nat → Nat → Nat) : ∀ (ops : List NOp) (t : NSt), NInv fld t → NInv fld (t.run fld ops)
  | [], _, h => h
  | op :: ops, t, h => NInv_run fld ops _ (NInv_step fld t h op)

end GojaModel.C13
