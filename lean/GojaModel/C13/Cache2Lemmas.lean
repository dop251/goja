/-
  C13 — the two-level cache as coded (Cache2.lean): `getTyped` after each write, stability of a binding, and the keyed
  view `C2.lookupK` / `C2.writeK` (defined here, beside the comparison with an association list `assocLookup`).
-/
import GojaModel.C13.Cache2

namespace GojaModel.C13

theorem tblGet_cons (t v : Nat) (tbl : List (Nat × Nat)) (ty : Nat) :
    tblGet ((t, v) :: tbl) ty = if t = ty then some v else tblGet tbl ty := by
  unfold tblGet
  simp only [List.find?]
  by_cases h : t = ty <;> simp [h]

theorem tblGet_nil (ty : Nat) : tblGet [] ty = none := rfl

theorem C2.get_eq_getTyped (c : C2) (key : Nat) : c.get key = c.getTyped key (c.et key) := by
  unfold C2.get C2.getTyped
  cases c.cache key with
  | none => rfl
  | some e => cases e <;> simp

theorem getTyped_setCache (c : C2) (k : Nat) (e : CEntry) (key ty : Nat) :
    (setCache c k e).getTyped key ty =
      if key = k then (match e with
        | .items tbl => tblGet tbl ty
        | .raw v => if c.et key = ty then some v else none)
      else c.getTyped key ty := by
  unfold C2.getTyped setCache
  by_cases h : key = k
  · subst h; cases e <;> simp
  · simp [h]

theorem getTyped_put (c : C2) (k v key ty : Nat) :
    (c.put k v).getTyped key ty = if key = k ∧ c.et k = ty then some v else c.getTyped key ty := by
  unfold C2.put
  by_cases hk : key = k
  · subst hk
    cases hc : c.cache key with
    | none => rw [getTyped_setCache]; simp [C2.getTyped, hc]
    | some e =>
      cases e with
      | raw old => rw [getTyped_setCache]; by_cases ht : c.et key = ty <;> simp [C2.getTyped, hc, ht]
      | items tbl => rw [getTyped_setCache]; simp [C2.getTyped, hc, tblGet_cons]
  · split <;> simp [getTyped_setCache, hk]

theorem getTyped_putTyped (c : C2) (k t v key ty : Nat) :
    (c.putTyped k t v).getTyped key ty = if key = k ∧ t = ty then some v else c.getTyped key ty := by
  unfold C2.putTyped
  by_cases hk : key = k
  · subst hk
    cases hc : c.cache key with
    | none => rw [getTyped_setCache]; simp [C2.getTyped, hc, tblGet_cons, tblGet_nil]
    | some e => cases e <;> rw [getTyped_setCache] <;> simp [C2.getTyped, hc, tblGet_cons, tblGet_nil]
  · split <;> simp [getTyped_setCache, hk]

theorem step_et (c : C2) (op : COp) : (c.step op).et = c.et := by
  cases op with
  | put k v => simp only [C2.step, C2.put]; split <;> rfl
  | putTyped k t v => simp only [C2.step, C2.putTyped]; split <;> rfl

theorem getTyped_step_other (c : C2) (key ty : Nat) (op : COp) (hl : op.leaves key ty c.et = true) :
    (c.step op).getTyped key ty = c.getTyped key ty := by
  cases op with
  | put k x =>
    simp only [COp.leaves, Bool.not_eq_true', Bool.and_eq_false_iff, beq_eq_false_iff_ne] at hl
    have : ¬ (key = k ∧ c.et k = ty) := fun ⟨e1, e2⟩ => hl.elim (fun h => h e1.symm) (fun h => h e2)
    exact (getTyped_put c k x key ty).trans (if_neg this)
  | putTyped k t x =>
    simp only [COp.leaves, Bool.not_eq_true', Bool.and_eq_false_iff, beq_eq_false_iff_ne] at hl
    have : ¬ (key = k ∧ t = ty) := fun ⟨e1, e2⟩ => hl.elim (fun h => h e1.symm) (fun h => h e2)
    exact (getTyped_putTyped c k t x key ty).trans (if_neg this)

theorem run_et : ∀ (ops : List COp) (c : C2), (c.run ops).et = c.et
  | [], _ => rfl
  | op :: ops, c => (run_et ops (c.step op)).trans (step_et c op)

theorem binding_stable_run (key ty v : Nat) : ∀ (ops : List COp) (c : C2), c.getTyped key ty = some v →
    (∀ op ∈ ops, op.leaves key ty c.et = true) → (c.run ops).getTyped key ty = some v
  | [], _, h, _ => h
  | op :: ops, c, h, hl => by
    apply binding_stable_run key ty v ops (c.step op)
    · rw [getTyped_step_other c key ty op (hl op (by simp))]; exact h
    · intro o ho
      rw [step_et]
      exact hl o (by simp [ho])

/-! Keys are (object, type code): code 0 = the untyped export (ctx.get / ctx.put, bound under the object's exportType), code t+1 = destination type
  `tyOf t` (ctx.getTyped / ctx.putTyped).  A typed destination whose type IS the object's exportType never occurs as a
  typed code: toReflectValue takes the AssignableTo path for it (ExportTo.lean `normTy`). -/

def C2.lookupK (c : C2) (tyOf : Nat → Nat) (k : Nat × Nat) : Option Nat :=
  if k.2 = 0 then c.get k.1 else c.getTyped k.1 (tyOf (k.2 - 1))

def C2.writeK (c : C2) (tyOf : Nat → Nat) (k : Nat × Nat) (a : Nat) : C2 :=
  if k.2 = 0 then c.put k.1 a else c.putTyped k.1 (tyOf (k.2 - 1)) a

def assocLookup (k : Nat × Nat) : List ((Nat × Nat) × Nat) → Option Nat
  | [] => none
  | (k', a) :: rest => if k' = k then some a else assocLookup k rest

theorem writeK_et (c : C2) (tyOf : Nat → Nat) (k : Nat × Nat) (a : Nat) : (c.writeK tyOf k a).et = c.et := by
  unfold C2.writeK
  split
  · exact step_et c (.put k.1 a)
  · exact step_et c (.putTyped k.1 (tyOf (k.2 - 1)) a)

theorem lookupK_writeK (c : C2) (tyOf : Nat → Nat) (hinj : ∀ s t, tyOf s = tyOf t → s = t)
    (hty : ∀ id t, tyOf t ≠ c.et id) (k : Nat × Nat) (a : Nat) (k' : Nat × Nat) :
    (c.writeK tyOf k a).lookupK tyOf k' = if k = k' then some a else c.lookupK tyOf k' := by
  obtain ⟨id, cd⟩ := k
  obtain ⟨id', cd'⟩ := k'
  have het := writeK_et c tyOf (id, cd) a
  simp only [C2.lookupK, C2.get_eq_getTyped, het, Prod.mk.injEq]
  by_cases h0 : cd = 0 <;> by_cases h0' : cd' = 0 <;>
    simp only [C2.writeK, h0, h0', if_true, if_false, getTyped_put, getTyped_putTyped]
  · by_cases e : id' = id
    · subst e; simp
    · simp [e, Ne.symm e]
  · have := hty id (cd' - 1)
    simp [Ne.symm this, Ne.symm h0']
  · have := hty id' (cd - 1)
    simp [this]
  · have : (id' = id ∧ tyOf (cd - 1) = tyOf (cd' - 1)) ↔ (id = id' ∧ cd = cd') :=
      ⟨fun ⟨e1, e2⟩ => ⟨e1.symm, by have := hinj _ _ e2; omega⟩, fun ⟨e1, e2⟩ => ⟨e1.symm, by rw [e2]⟩⟩
    simp only [this]

theorem c2_implements_keyed_map (tyOf : Nat → Nat) (hinj : ∀ s t, tyOf s = tyOf t → s = t) :
    ∀ (ws : List ((Nat × Nat) × Nat)) (c : C2), (∀ id t, tyOf t ≠ c.et id) →
      ∀ (A : List ((Nat × Nat) × Nat)), (∀ k, c.lookupK tyOf k = assocLookup k A) →
      ∀ k, (ws.foldl (fun c w => c.writeK tyOf w.1 w.2) c).lookupK tyOf k =
           assocLookup k (ws.reverse ++ A)
  | [], _, _, _, hR, k => hR k
  | (key, a) :: ws, c, hty, A, hR, k => by
    rw [List.foldl, List.reverse_cons, List.append_assoc]
    apply c2_implements_keyed_map tyOf hinj ws (c.writeK tyOf key a)
      (by intro id t; rw [writeK_et]; exact hty id t) ((key, a) :: A)
    intro k'
    rw [lookupK_writeK c tyOf hinj hty key a k']
    simp only [assocLookup]
    split
    · rfl
    · exact hR k'

end GojaModel.C13
