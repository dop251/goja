/-
  C13 — Part 2 of the model: `Bridge`.  Runtime.toValue (runtime.go:1849) case order, what Export returns for
  each wrapper class, and the numeric-kind table (intToValue vm.go:396, floatToValue vm.go:414, the numeric
  switch of toReflectValue runtime.go:2203-2238 via toInt8..toUint64 runtime.go:1063-1250).
  Core Lean only.
-/
namespace GojaModel.C13

/-! ### numeric kinds -/

inductive IntKind where
  | int | int8 | int16 | int32 | int64 | uint | uint8 | uint16 | uint32 | uint64
deriving DecidableEq, Repr

def IntKind.lo : IntKind → Int
  | .int => -9223372036854775808 | .int8 => -128 | .int16 => -32768 | .int32 => -2147483648
  | .int64 => -9223372036854775808 | _ => 0

def IntKind.hi : IntKind → Int
  | .int => 9223372036854775807 | .int8 => 127 | .int16 => 32767 | .int32 => 2147483647
  | .int64 => 9223372036854775807 | .uint => 18446744073709551615 | .uint8 => 255 | .uint16 => 65535
  | .uint32 => 4294967295 | .uint64 => 18446744073709551615

def IntKind.InRange (k : IntKind) (v : Int) : Prop := k.lo ≤ v ∧ v ≤ k.hi

/-- maxInt = 1 << 53 (vm.go:17). -/
def maxSafe : Int := 9007199254740992

def Safe (v : Int) : Prop := -maxSafe ≤ v ∧ v ≤ maxSafe

instance (v : Int) : Decidable (Safe v) := by unfold Safe; infer_instance

/-- A float64, classified.  `intval i`: finite with integral value i (i exactly representable; +0 is intval 0);
    `frac bits`: finite non-integral, carried by its bit pattern. -/
inductive Flt where
  | intval (i : Int) | negZero | nan | posInf | negInf | frac (bits : Nat)
deriving DecidableEq, Repr

inductive JsNum where
  | int (i : Int)     -- valueInt
  | flt (f : Flt)     -- valueFloat
deriving DecidableEq, Repr

inductive GoNum where
  | i64 (v : Int) | f64 (f : Flt)
deriving DecidableEq, Repr

/-- float64(n) for a natural number: round to 53 significant bits, ties to even. -/
def round53Nat (n : Nat) : Nat :=
  let bits := if n = 0 then 0 else Nat.log2 n + 1
  if bits ≤ 53 then n else
  let sh := bits - 53
  let q := n / 2 ^ sh
  let r := n % 2 ^ sh
  let half := 2 ^ (sh - 1)
  let q' := if r > half ∨ (r = half ∧ q % 2 = 1) then q + 1 else q
  q' * 2 ^ sh

def round53 (v : Int) : Int :=
  if v < 0 then - Int.ofNat (round53Nat v.natAbs) else Int.ofNat (round53Nat v.natAbs)

/-- floatToValue (vm.go:414) with floatToInt (vm.go:407). -/
def floatToValue : Flt → JsNum
  | .intval i => if Safe i then .int i else .flt (.intval i)
  | f => .flt f

/-- intToValue (vm.go:396): valueInt inside ±2^53, else floatToValue(float64(i)) — the nearest double may again be
    a safe integer (2^53+1 rounds to 2^53). -/
def intToValue (i : Int) : JsNum :=
  if Safe i then .int i else floatToValue (.intval (round53 i))

/-- the numeric cases of the type switch of Runtime.toValue (runtime.go:1895-1921). -/
def toValueInt (k : IntKind) (v : Int) : JsNum :=
  match k with
  | .uint | .uint64 =>
      if v ≤ 9223372036854775807 then intToValue v else floatToValue (.intval (round53 v))
  | _ => intToValue v

/-- valueInt.Export / valueFloat.Export (value.go:253, 683). -/
def exportNum : JsNum → GoNum
  | .int i => .i64 i
  | .flt f => .f64 f

/-- Go's conversion of an int64 to kind k (two's complement truncation). -/
def wrapTo (k : IntKind) (i : Int) : Int :=
  match k with
  | .int | .int64 => (i + 9223372036854775808) % 18446744073709551616 - 9223372036854775808
  | .int8 => (i + 128) % 256 - 128
  | .int16 => (i + 32768) % 65536 - 32768
  | .int32 => (i + 2147483648) % 4294967296 - 2147483648
  | .uint | .uint64 => i % 18446744073709551616
  | .uint8 => i % 256
  | .uint16 => i % 65536
  | .uint32 => i % 4294967296

/-- int64(f) for an integral double (amd64: out of range gives MinInt64). -/
def f64ToI64 (i : Int) : Int :=
  if -9223372036854775808 ≤ i ∧ i ≤ 9223372036854775807 then i else -9223372036854775808

/-- int64(f) for a finite NON-integral double given by its bit pattern: truncation toward zero
    (sign, 11-bit exponent, 52-bit fraction; value = sig · 2^(e-1075)). -/
def truncFrac (bits : Nat) : Int :=
  let neg := bits / 2 ^ 63 % 2 = 1
  let e := bits / 2 ^ 52 % 2048
  let m := bits % 2 ^ 52
  let sig : Nat := if e = 0 then m else m + 2 ^ 52
  let mag : Nat := if e < 1023 then 0 else if e ≤ 1075 then sig / 2 ^ (1075 - e) else sig * 2 ^ (e - 1075)
  if neg then - Int.ofNat mag else Int.ofNat mag

/-- toReflectValue's numeric switch for an integer target kind: toInt8 … toUint64 (runtime.go:1063-1250):
    valueInt → Go conversion (two's complement truncation); valueFloat → int64(f) first (NaN / ±Inf → 0).  Since c5b41a6
    the 8 / 16 / 32-bit kinds go through float64ToInt64Mod (runtime.go:1049), which reduces modulo 2^64 beyond ±2^63
    instead of saturating; `f64ToI64` below does not follow that. -/
def exportToInt (k : IntKind) : JsNum → Option Int
  | .int i => some (wrapTo k i)
  | .flt (.intval i) => some (wrapTo k (f64ToI64 i))
  | .flt .negZero => some 0
  | .flt .nan => some 0
  | .flt .posInf => some 0
  | .flt .negInf => some 0
  | .flt (.frac b) => some (wrapTo k (f64ToI64 (truncFrac b)))

/-- v.ToFloat() (target kind float64). -/
def exportToF64 : JsNum → Flt
  | .int i => .intval i
  | .flt f => f

/-! ### shapes: the case order of Runtime.toValue (runtime.go:1849) -/

/-- Dynamic-type classes of the argument of ToValue (one constructor per class the code distinguishes). -/
inductive Shape where
  | nilIface                      -- interface{}(nil)
  | objectPtr (nil : Bool)        -- *goja.Object (nil pointer / nil self)
  | jsValue                       -- any other goja.Value
  | str | bool
  | nativeFunc                    -- func(FunctionCall) Value, func(FunctionCall,*Runtime) Value
  | nativeCtor                    -- func(ConstructorCall) *Object, (…,*Runtime)
  | intKind (k : IntKind)
  | float32 | float64
  | bigInt (nil : Bool)           -- *big.Int
  | mapStrIface (nil : Bool)      -- map[string]interface{}
  | sliceIface                    -- []interface{}   (nil or not)
  | ptrSliceIface (nil : Bool)    -- *[]interface{}
  -- reflect path: `depth` pointer indirections around a base; `nilPtr`: some pointer in the chain is nil
  | rMap (depth : Nat) (nilPtr : Bool) (keyOk : Bool) (hasMethods : Bool)
  | rArray (depth : Nat) (nilPtr : Bool)
  | rSlice (depth : Nat) (nilPtr : Bool)
  | rFunc (depth : Nat) (nilPtr : Bool)
  | rOther (depth : Nat) (nilPtr : Bool)    -- struct, named scalar, chan, interface-typed, …
deriving DecidableEq, Repr

/-- The implementation class of the resulting value (`%T` of Object.self, or the primitive). -/
inductive Wrap where
  | null | passthrough | string | bool | nativeFunc | nativeCtor | number | bigint
  | goMapSimple | goSlice (origIsPtr : Bool)
  | goMapReflect | goArrayReflect | goSliceReflect | wrappedFunc | goReflect
deriving DecidableEq, Repr

/-- Runtime.toValue: the type switch in source order, then the pointer-stripping loop, the IsValid test and
    the reflect.Kind switch (runtime.go:1850-2037). -/
def toValueCase : Shape → Wrap
  | .nilIface => .null                                   -- case nil
  | .objectPtr true => .null                             -- case *Object: nil / self == nil
  | .objectPtr false => .passthrough
  | .jsValue => .passthrough                             -- case valueContainer / Value
  | .str => .string
  | .bool => .bool
  | .nativeFunc => .nativeFunc
  | .nativeCtor => .nativeCtor
  | .intKind _ => .number
  | .float32 => .number
  | .float64 => .number
  | .bigInt _ => .bigint                                 -- copies, nil -> 0n
  | .mapStrIface true => .null
  | .mapStrIface false => .goMapSimple
  | .sliceIface => .goSlice false
  | .ptrSliceIface true => .null
  | .ptrSliceIface false => .goSlice true
  | .rMap _ true _ _ => .null                            -- !value.IsValid()
  | .rMap _ false keyOk hasMethods => if !hasMethods && keyOk then .goMapReflect else .goReflect
  | .rArray _ true => .null
  | .rArray _ false => .goArrayReflect
  | .rSlice _ true => .null
  | .rSlice _ false => .goSliceReflect
  | .rFunc _ true => .null
  | .rFunc _ false => .wrappedFunc
  | .rOther _ true => .null
  | .rOther _ false => .goReflect

/-- How Export() of the result relates to the Go value that was passed in. -/
inductive Rel where
  | identical      -- same dynamic type and ==-equal; the same pointer / map / slice header for reference kinds
  | valueCopy      -- same dynamic type, deep-equal copy (non-addressable struct / array / slice header passed by value)
  | widened        -- numeric kind collapses to int64 / float64 (numeric table below)
  | bigCopy        -- *big.Int: a fresh *big.Int with the same value (nil -> 0)
  | untypedNil     -- a typed nil comes back as interface{}(nil)
  | jsExport       -- a goja.Value passes through; Export is that value's own Export
  | nativeWrapped  -- native func signatures: Export returns a func(FunctionCall) Value (wrapped for the *Runtime forms)
  | ptrStripped    -- pointer(s) to a func: Export returns the func value itself (wrappedFuncObject keeps only the func)
deriving DecidableEq, Repr

/-- Export of each wrapper class (objectGoReflect.export object_goreflect.go:512, objectGoSlice.export
    object_goslice.go:304, objectGoMapSimple.export object_gomap.go:158, wrappedFuncObject.export func.go:169,
    valueNull.Export value.go:461, …), relative to the input. -/
def roundTrip (sh : Shape) : Rel :=
  match toValueCase sh, sh with
  | .null, .nilIface => .identical
  | .null, _ => .untypedNil
  | .passthrough, _ => .jsExport
  | .string, _ => .identical
  | .bool, _ => .identical
  | .nativeFunc, _ => .nativeWrapped
  | .nativeCtor, _ => .nativeWrapped
  | .number, .intKind .int64 => .identical        -- within ±2^53, see numeric table
  | .number, .float64 => .identical               -- non-integral or beyond ±2^53; integral doubles come back as int64
  | .number, _ => .widened
  | .bigint, _ => .bigCopy
  | .goMapSimple, _ => .identical
  | .goSlice _, _ => .identical
  | .goMapReflect, _ => .identical                -- a map header is a reference: origValue.Interface()
  | .goReflect, .rOther 0 _ => .valueCopy         -- non-pointer: the wrapper owns an addressable copy when it needs one
  | .goReflect, _ => .identical
  | .goArrayReflect, .rArray 0 _ => .valueCopy
  | .goArrayReflect, _ => .identical
  | .goSliceReflect, _ => .identical              -- the slice header shares the backing array
  | .wrappedFunc, .rFunc 0 _ => .identical
  | .wrappedFunc, _ => .ptrStripped

/-- The exact exceptions to "Export(ToValue(g)) is g itself". -/
def Exception : Shape → Bool
  | .objectPtr _ | .jsValue => true                          -- not Go data
  | .nativeFunc | .nativeCtor => true
  | .intKind k => k != .int64                                -- widened to int64
  | .float32 => true                                         -- widened to float64
  | .bigInt _ => true                                        -- copied (documented)
  | .mapStrIface nil => nil                                  -- typed nil -> untyped nil
  | .ptrSliceIface nil => nil
  | .rMap _ nilPtr _ _ => nilPtr
  | .rArray d nilPtr => nilPtr || d == 0                     -- array by value: copy
  | .rSlice _ nilPtr => nilPtr
  | .rFunc d nilPtr => nilPtr || d != 0                      -- *func: the pointer is dropped
  | .rOther d nilPtr => nilPtr || d == 0                     -- struct / named scalar by value: copy (==-equal)
  | _ => false

/-! ### ExportTo into a variable of the value's own Go type (Runtime.toReflectValue, runtime.go:2125) -/

/-- The branch of toReflectValue that decides, in source order: `typ == typeObject` with an Object (l.2133),
    ExportType nil → zero value (l.2148), the AssignableTo / ConvertibleTo / pointer-stripping loop (l.2154-2177),
    then the Kind switch (numeric cases l.2203-2238, Ptr l.2293 which allocates and recurses, Func l.2288). -/
inductive ToPath where
  | objectDirect | zeroOfType | assignable | numericSwitch | ptrRecurse | funcGateway | passthroughValue
deriving DecidableEq, Repr

/-- `hasStarRuntime`-style distinctions are not needed: the native signatures either are assignable or go through the
    Func gateway; both are functions. -/
def toReflectOwn (sh : Shape) : ToPath :=
  match toValueCase sh, sh with
  | .passthrough, .objectPtr false => .objectDirect          -- typ == typeObject, v is an *Object
  | .passthrough, _ => .passthroughValue                      -- a goja.Value: not Go data
  | .null, _ => .zeroOfType                                   -- et == reflectTypeNil: dst.Set(reflect.Zero(typ))
  | .number, .intKind .int64 => .assignable                   -- et int64 == typ
  | .number, .float64 => .assignable                          -- (or the Float64 case when the value became a valueInt)
  | .number, _ => .numericSwitch
  | .nativeFunc, _ => .funcGateway                            -- assignable for func(FunctionCall) Value, MakeFunc otherwise
  | .nativeCtor, _ => .funcGateway
  | .wrappedFunc, .rFunc 0 _ => .assignable
  | .wrappedFunc, _ => .ptrRecurse                            -- *func: not assignable, Kind Ptr: reflect.New + recurse
  | _, _ => .assignable                                       -- every wrapper: ExportType() is the Go type itself

/-- How the result of ExportTo(ToValue(g), &x) with x of g's own type relates to g. -/
inductive RelTo where
  | deepEqual          -- reflect.DeepEqual(x, g) (for numeric kinds: values within ±2^53, see the numeric theorems)
  | func               -- a func value (never DeepEqual unless nil): the same func, or a gateway for it
  | bigNilZero         -- nil *big.Int comes back as 0
  | nilChainCollapsed  -- **T… with a nil inner pointer: the whole chain comes back as a nil outer pointer
  | notGoData
deriving DecidableEq, Repr

def relTo (sh : Shape) : RelTo :=
  match toReflectOwn sh, sh with
  | .passthroughValue, _ => .notGoData
  | .objectDirect, _ => .deepEqual
  | .funcGateway, _ => .func
  | .ptrRecurse, _ => .func
  | .assignable, .rFunc _ _ => .func
  | .assignable, .bigInt true => .bigNilZero
  | .zeroOfType, .bigInt true => .bigNilZero
  | .zeroOfType, .rMap (_ + 2) _ _ _ => .nilChainCollapsed
  | .zeroOfType, .rArray (_ + 2) _ => .nilChainCollapsed
  | .zeroOfType, .rSlice (_ + 2) _ => .nilChainCollapsed
  | .zeroOfType, .rFunc _ _ => .func
  | .zeroOfType, .rOther (_ + 2) _ => .nilChainCollapsed
  | _, _ => .deepEqual

/-- The exact exceptions to "ExportTo into the value's own type yields a deep-equal value". -/
def ExceptionTo : Shape → Bool
  | .jsValue => true
  | .nativeFunc | .nativeCtor => true
  | .rFunc _ _ => true
  | .bigInt nil => nil
  | .rMap d nilPtr _ _ => nilPtr && decide (2 ≤ d)
  | .rArray d nilPtr => nilPtr && decide (2 ≤ d)
  | .rSlice d nilPtr => nilPtr && decide (2 ≤ d)
  | .rOther d nilPtr => nilPtr && decide (2 ≤ d)
  | _ => false

end GojaModel.C13
