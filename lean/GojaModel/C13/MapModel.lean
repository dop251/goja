/-
  C13 — map wrappers (object_gomap_reflect.go).  A wrapped Go map has NO element cache: `_getKey` (l.39) calls
  toValue on `fieldsValue.MapIndex(key)`, which is not addressable, so a container value (struct S) gets wrapped as a
  COPY (objectGoReflect.init, object_goreflect.go:166).  Every read hands out a fresh, detached wrapper; writes go
  through `_put` (l.109) = SetMapIndex.
-/
import GojaModel.C13.Model

namespace GojaModel.C13

structure MSt where
  m : Nat → Option Val        -- the Go map: key ↦ element (struct{Field int} abstracted to its field)
  ws : Nat → Val              -- element wrappers handed out: each owns a copy
  nw : Nat

def MSt.init (f : Nat → Option Val) : MSt := { m := f, ws := fun _ => 0, nw := 0 }

inductive MOp where
  | get (k : Nat)               -- script: h = a[k]
  | set (k : Nat) (x : Val)     -- script: a[k] = {Field: x}
  | del (k : Nat)               -- script: delete a[k]
  | wwrite (w : Nat) (x : Val)  -- script: h_w.Field = x
  | goSet (k : Nat) (x : Val)   -- Go: m[k] = S{x}
  | goDel (k : Nat)             -- Go: delete(m, k)
deriving DecidableEq, Repr

def MSt.getKey (s : MSt) (k : Nat) : MSt × Option Nat :=
  match s.m k with
  | some v => ({ s with ws := updN s.ws s.nw v, nw := s.nw + 1 }, some s.nw)
  | none => (s, none)

def MSt.step (s : MSt) : MOp → MSt
  | .get k => (s.getKey k).1
  | .set k x => { s with m := updN s.m k (some x) }
  | .del k => { s with m := updN s.m k none }
  | .wwrite w x => if w < s.nw then { s with ws := updN s.ws w x } else s
  | .goSet k x => { s with m := updN s.m k (some x) }
  | .goDel k => { s with m := updN s.m k none }

def MSt.run (s : MSt) : List MOp → MSt
  | [] => s
  | op :: ops => (s.step op).run ops

def MOp.isWrapperWrite : MOp → Bool
  | .wwrite _ _ => true
  | _ => false

theorem mstep_m_congr {s t : MSt} (h : s.m = t.m) (op : MOp) : (s.step op).m = (t.step op).m := by
  cases op with
  | get k =>
    simp only [MSt.step, MSt.getKey]
    rw [h]; cases t.m k <;> simp [h]
  | wwrite w x => simp only [MSt.step]; split <;> split <;> simp [h]
  | _ => simp [MSt.step, h]

end GojaModel.C13
