/-
  C13 — refinement: the WrapCache mechanism (Model.lean) implements the documented semantics (Spec.lean).
  For every state satisfying the invariant and every tracked operation, abstracting after the mechanism step is the
  same as taking the spec step on the abstraction; hence for every admissible history.
-/
import GojaModel.C13.Invariant
import GojaModel.C13.Spec

namespace GojaModel.C13

theorem Sp.eq_of {a b : Sp} (h1 : a.fixed = b.fixed) (h2 : a.len = b.len) (h3 : a.val = b.val) (h4 : a.cap = b.cap)
    (h5 : a.h = b.h) (h6 : a.nh = b.nh) : a = b := by
  cases a; cases b; simp_all

theorem abs_val (s : St) (i : Nat) : s.abs.val i = if i < s.len then s.slot i else 0 := rfl

theorem abs_h (s : St) (w : Nat) :
    s.abs.h w = if w < s.nw then (match s.ws w with | .cell _ i => .att i | .own v => .det v) else .det 0 := rfl

theorem abs_h_att {s : St} (I : Inv s) (w i : Nat) : (s.abs.h w = .att i) ↔ s.cacheGet i = some w := by
  simp only [St.abs]
  constructor
  · intro h
    by_cases hw : w < s.nw
    · simp only [hw, if_true] at h
      cases hws : s.ws w with
      | own v => simp [hws] at h
      | cell b j =>
        simp only [hws] at h
        have hji : j = i := by cases h; rfl
        subst hji
        exact (I.attached_cached w b j hws).2
    · simp [hw] at h
  · intro h
    have hw := I.cached_lt_nw h
    simp [hw, I.cached_attached i w h]

theorem findAtt_abs {s : St} (I : Inv s) (i : Nat) : s.abs.findAtt i = s.cacheGet i := by
  unfold Sp.findAtt
  cases hf : (List.range s.abs.nh).find? (fun w => s.abs.h w == .att i) with
  | some w' =>
    have hp := List.find?_some hf
    simp at hp
    exact ((abs_h_att I w' i).mp hp).symm
  | none =>
    cases hc : s.cacheGet i with
    | none => rfl
    | some w =>
      exfalso
      have hw := I.cached_lt_nw hc
      have := List.find?_eq_none.mp hf w (by simp [St.abs]; exact hw)
      simp [(abs_h_att I w i).mpr hc] at this

theorem readH_abs {s : St} (I : Inv s) (w : Nat) (hw : w < s.nw) : s.abs.readH w = s.readW w := by
  unfold Sp.readH St.readW
  cases hws : s.ws w with
  | own v => simp [St.abs, hw, hws, St.readLoc]
  | cell b i =>
    have ⟨hb, hc⟩ := I.attached_cached w b i hws
    have hi : i < s.len := I.cached_lt_len hc
    simp [St.abs, hw, hws, St.readLoc, hi, St.slot, hb]

theorem refine_get {s : St} (I : Inv s) (i : Nat) : (s.getIdx i).1.abs = (s.abs.getIdx i).1 ∧
    (s.getIdx i).2 = (s.abs.getIdx i).2 := by
  unfold St.getIdx Sp.getIdx
  have hlen : s.abs.len = s.len := rfl
  rw [hlen, findAtt_abs I]
  by_cases hl : s.len ≤ i
  · simp [hl]
  · simp only [hl, if_false]
    cases hc : s.cacheGet i with
    | some w => simp
    | none =>
      simp only
      refine ⟨?_, rfl⟩
      apply Sp.eq_of <;> try rfl
      · funext w
        simp only [St.abs, St.cachePut, updN]
        by_cases hw : w = s.nw
        · subst hw; simp
        · simp only [hw, if_false]
          by_cases h2 : w < s.nw
          · have : w < s.nw + 1 := by omega
            simp [h2, this]
          · have : ¬ w < s.nw + 1 := by omega
            simp [h2, this]

theorem abs_setSlot (s : St) {i : Nat} (hi : i < s.len) (x : Val) :
    ({ s with mem := updMem s.mem s.cur i x } : St).abs = { s.abs with val := updN s.abs.val i x } := by
  apply Sp.eq_of <;> try rfl
  funext j
  show (if j < s.len then updMem s.mem s.cur i x s.cur j else 0) = updN s.abs.val i x j
  rw [updN, abs_val, updMem]
  by_cases e : j = i
  · rw [e, if_pos hi, if_pos ⟨rfl, rfl⟩, if_pos rfl]
  · rw [if_neg e, if_neg (show ¬ (s.cur = s.cur ∧ j = i) from fun h => e h.2)]; rfl

theorem refine_wwrite {s : St} (I : Inv s) (w : Nat) (x : Val) :
    (s.step (.wwrite w x)).abs = s.abs.step (.wwrite w x) := by
  simp only [St.step, Sp.step]
  rw [show s.abs.nh = s.nw from rfl]
  by_cases hw : w < s.nw
  · rw [if_pos hw, if_pos hw, St.writeW]
    cases hws : s.ws w with
    | own v =>
      rw [abs_h, if_pos hw, hws]
      apply Sp.eq_of <;> try rfl
      funext w'
      show (if w' < s.nw then (match updN s.ws w (.own x) w' with | .cell _ i => HSt.att i | .own v => .det v) else _) =
        updN s.abs.h w (.det x) w'
      rw [updN, updN]
      by_cases e : w' = w
      · rw [e, if_pos hw, if_pos rfl, if_pos rfl]
      · rw [if_neg e, if_neg e]; rfl
    | cell b i =>
      have ⟨hb, hc⟩ := I.attached_cached w b i hws
      rw [(abs_h_att I w i).mpr hc, hb]
      exact abs_setSlot s (I.cached_lt_len hc) x
  · rw [if_neg hw, if_neg hw]

theorem refine_goWrite {s : St} (i : Nat) (x : Val) :
    (s.step (.goWrite i x)).abs = s.abs.step (.goWrite i x) := by
  simp only [St.step, Sp.step]
  rw [show s.abs.len = s.len from rfl]
  by_cases hi : i < s.len
  · rw [if_pos hi, if_pos hi]; exact abs_setSlot s hi x
  · rw [if_neg hi, if_neg hi]

theorem refine_goAppend {s : St} (x : Val) :
    (s.step (.goAppend x)).abs = s.abs.step (.goAppend x) := by
  simp only [St.step, Sp.step]
  rw [show s.abs.fixed = s.fixed from rfl, show s.abs.len = s.len from rfl, show s.abs.cap = s.cap s.cur from rfl]
  by_cases hf : s.fixed = true
  · rw [if_pos hf, if_pos hf]
  rw [if_neg hf, if_neg hf]
  by_cases hc : s.len < s.cap s.cur
  · rw [if_pos hc, if_pos hc]
    apply Sp.eq_of <;> try rfl
    funext j
    show (if j < s.len + 1 then updMem s.mem s.cur s.len x s.cur j else 0) = updN s.abs.val s.len x j
    rw [updN, abs_val, updMem]
    by_cases e : j = s.len
    · rw [e, if_pos (Nat.lt_succ_self _), if_pos ⟨rfl, rfl⟩, if_pos rfl]
    · rw [if_neg e, if_neg (show ¬ (s.cur = s.cur ∧ j = s.len) from fun h => e h.2)]
      by_cases hj : j < s.len
      · rw [if_pos hj, if_pos (by omega)]; rfl
      · rw [if_neg hj, if_neg (by omega)]
  · rw [if_neg hc, if_neg hc]

theorem abs_detachOpt {s : St} (I : Inv s) {i : Nat} (hi : i < s.len) :
    (s.detachOpt (s.cacheGet i)).abs = s.abs.detachAt i := by
  have hsame : ∀ o, (s.detachOpt o).nw = s.nw := fun o => by cases o <;> rfl
  apply Sp.eq_of <;> try (cases s.cacheGet i <;> rfl)
  funext w
  show (s.detachOpt (s.cacheGet i)).abs.h w = if s.abs.h w = .att i then .det (s.abs.val i) else s.abs.h w
  rw [abs_h, hsame]
  by_cases hatt : s.abs.h w = .att i
  · have hc := (abs_h_att I w i).mp hatt
    rw [if_pos hatt, hc, if_pos (I.cached_lt_nw hc), abs_val, if_pos hi]
    show (match updN s.ws w (.own (s.readW w)) w with | .cell _ j => HSt.att j | .own v => .det v) = _
    rw [updN, if_pos rfl, St.readW, I.cached_attached i w hc]; rfl
  · rw [if_neg hatt, abs_h]
    cases hc : s.cacheGet i with
    | none => rfl
    | some c =>
      have : w ≠ c := fun e => hatt ((abs_h_att I w i).mpr (e ▸ hc))
      show (if w < s.nw then (match updN s.ws c _ w with | .cell _ j => HSt.att j | .own v => .det v) else _) = _
      rw [updN, if_neg this]

theorem refine_grow {s : St} (I : Inv s) {size : Nat} (h : s.len < size) : (s.grow size).abs = s.abs.extend size := by
  obtain ⟨_, hn, _, _, hlen, hfix⟩ := grow_fields s size
  apply Sp.eq_of
  · exact hfix
  · exact hlen
  · funext j
    show (s.grow size).abs.val j = s.abs.val j
    rw [abs_val, abs_val, hlen]
    by_cases hj : j < size
    · rw [if_pos hj, grow_slot s hj]
    · rw [if_neg hj, if_neg (by omega)]
  · exact grow_cap s size
  · funext w
    show (s.grow size).abs.h w = s.abs.h w
    rw [abs_h, abs_h, hn, grow_ws I h]
    cases s.ws w <;> rfl
  · exact hn

theorem refine_shrink {s : St} (I : Inv s) {size : Nat} (h : size < s.len) : (s.shrink size).abs = s.abs.cut size := by
  obtain ⟨_, hn, hcur, hlen, _, hfix, hcap⟩ := shrink_fields s size
  apply Sp.eq_of
  · exact hfix
  · exact hlen
  · funext j
    show (s.shrink size).abs.val j = if j < size then s.abs.val j else 0
    rw [abs_val, abs_val, hlen]
    by_cases hj : j < size
    · rw [if_pos hj, if_pos hj, shrink_slot s hj, if_pos (by omega)]
    · rw [if_neg hj, if_neg hj]
  · show (s.shrink size).cap (s.shrink size).cur = s.cap s.cur
    rw [hcap, hcur]
  · funext w
    show (s.shrink size).abs.h w =
      match s.abs.h w with | .att j => if size ≤ j then .det (s.abs.val j) else .att j | .det v => .det v
    rw [abs_h, abs_h, hn, shrink_ws I]
    by_cases hw : w < s.nw
    · rw [if_pos hw, if_pos hw]
      cases hws : s.ws w with
      | own v => rfl
      | cell b j =>
        have ⟨hb, hcj⟩ := I.attached_cached w b j hws
        have hjl : j < s.len := I.cached_lt_len hcj
        dsimp only
        by_cases hsj : size ≤ j
        · rw [if_pos hsj, if_pos hsj, abs_val, if_pos hjl, hb]; rfl
        · rw [if_neg hsj, if_neg hsj]
    · rw [if_neg hw, if_neg hw]
  · exact hn

theorem refine_putIdxArr {s : St} (I : Inv s) {i : Nat} (hi : i < s.len) (x : Val) (ok : Bool) :
    (s.putIdxArr i x ok).abs =
      (if ok then { (s.abs.detachAt i) with val := updN s.abs.val i x } else s.abs) := by
  cases ok
  · rw [putIdxArr_false I]; rfl
  have hlen : ∀ o, (s.detachOpt o).len = s.len := fun o => by cases o <;> rfl
  rw [putIdxArr_of_lt hi, if_pos rfl]
  -- clearing the cache entry is invisible in the abstraction; the store is one slot write after the detach
  have := abs_setSlot _ (hlen (s.cacheGet i) ▸ hi) x
  rw [abs_detachOpt I hi] at this
  cases hc : s.cacheGet i <;> rw [hc] at this <;> exact this

theorem refine_del {s : St} (I : Inv s) (i : Nat) : (s.step (.del i)).abs = s.abs.step (.del i) := by
  show (s.delIdx i).abs = if s.len ≤ i then s.abs else { (s.abs.detachAt i) with val := updN s.abs.val i 0 }
  rw [delIdx_eq_putIdxArr]
  by_cases hl : s.len ≤ i
  · rw [putIdxArr_of_le hl, if_pos hl]
  · rw [refine_putIdxArr I (by omega), if_neg hl]; rfl

theorem refine_store {s : St} (I : Inv s) (i : Nat) (x : Val) (ok : Bool) :
    (s.putIdx i x ok).abs = s.abs.store i x ok := by
  rw [Sp.store, show s.abs.fixed = s.fixed from rfl, show s.abs.len = s.len from rfl]
  rcases putIdx_cases s i x ok with ⟨hfi, h⟩ | ⟨hf, hl, h⟩ <;> rw [h]
  · by_cases hl : s.len ≤ i
    · have hf : s.fixed = true := hfi.resolve_right (by omega)
      rw [putIdxArr_of_le hl, if_pos ⟨hf, hl⟩]
    · rw [refine_putIdxArr I (by omega), if_neg (show ¬ (s.fixed = true ∧ s.len ≤ i) from fun h => hl h.2)]
      dsimp only
      rw [if_neg hl]
  · have hlt : s.len < i + 1 := by omega
    rw [refine_putIdxArr (inv_grow I hlt) (by rw [(grow_fields s (i + 1)).2.2.2.2.1]; omega), refine_grow I hlt,
      if_neg (show ¬ (s.fixed = true ∧ s.len ≤ i) from fun h => by rw [hf] at h; cases h.1)]
    dsimp only
    rw [if_pos hl]

theorem refine_setLen {s : St} (I : Inv s) (n : Nat) : (s.step (.setLen n)).abs = s.abs.step (.setLen n) := by
  simp only [St.step, Sp.step, St.setLen]
  rw [show s.abs.fixed = s.fixed from rfl, show s.abs.len = s.len from rfl]
  by_cases hf : s.fixed = true
  · rw [if_pos hf, if_pos hf]
  rw [if_neg hf, if_neg hf]
  by_cases hg : s.len < n
  · rw [if_pos hg, if_pos hg]; exact refine_grow I hg
  rw [if_neg hg, if_neg hg]
  by_cases hs : n < s.len
  · rw [if_pos hs, if_pos hs]; exact refine_shrink I hs
  · rw [if_neg hs, if_neg hs]

theorem att_swapIdx (i j k : Nat) :
    HSt.att (swapIdx i j k) = if k = j then .att i else if k = i then .att j else .att k := by
  rw [swapIdx, apply_ite HSt.att, apply_ite HSt.att]

theorem refine_swap {s : St} (I : Inv s) (i j : Nat) : (s.step (.swap i j)).abs = s.abs.step (.swap i j) := by
  simp only [St.step, Sp.step]
  rw [show s.abs.len = s.len from rfl]
  by_cases hoob : s.len ≤ i ∨ s.len ≤ j
  · rw [if_pos hoob, St.swap, if_pos hoob]
  rw [if_neg hoob]
  have hi : i < s.len := by omega
  have hj : j < s.len := by omega
  obtain ⟨_, hl, hc, hn, _, hcap, hfix, _, hsl, hws⟩ := swap_shape I hi hj
  apply Sp.eq_of
  · exact hfix
  · exact hl
  · funext k
    show (s.swap i j).abs.val k = updN (updN s.abs.val i (s.abs.val j)) j (s.abs.val i) k
    rw [abs_val, hl, hsl, updN, updN, swapIdx, abs_val, abs_val, abs_val, if_pos hi, if_pos hj]
    by_cases h1 : k = j
    · rw [if_pos h1, if_pos h1, h1, if_pos hj]
    · rw [if_neg h1, if_neg h1]
      by_cases h2 : k = i
      · rw [if_pos h2, if_pos h2, h2, if_pos hi]
      · rw [if_neg h2, if_neg h2]
  · show (s.swap i j).cap (s.swap i j).cur = s.cap s.cur
    rw [hcap, hc]
  · funext w
    show (s.swap i j).abs.h w = match s.abs.h w with
      | .att k => if k = j then .att i else if k = i then .att j else .att k
      | .det v => .det v
    rw [abs_h, abs_h, hn, hws]
    by_cases hw : w < s.nw
    · rw [if_pos hw, if_pos hw]
      cases s.ws w with
      | own v => rfl
      | cell b k => exact att_swapIdx i j k
    · rw [if_neg hw, if_neg hw]
  · exact hn

theorem refine_step {s : St} (I : Inv s) (op : Op) (ht : op.tracked = true) : (s.step op).abs = s.abs.step op := by
  cases op with
  | get i => exact (refine_get I i).1
  | set i x => exact refine_store I i x true
  | setBad i => exact refine_store I i 0 false
  | del i => exact refine_del I i
  | setLen n => exact refine_setLen I n
  | swap i j => exact refine_swap I i j
  | wwrite w x => exact refine_wwrite I w x
  | goWrite i x => exact refine_goWrite i x
  | goAppend x => exact refine_goAppend x
  | goRealloc c => simp [Op.tracked] at ht

theorem refine_run : ∀ (h : List Op) (s : St), Inv s → Admissible s h → (s.run h).abs = s.abs.run h
  | [], _, _, _ => rfl
  | op :: ops, s, I, ha => by
    obtain ⟨ht, hr⟩ := ha
    simp only [St.run, Sp.run]
    rw [refine_run ops (s.step op) (inv_step I op ht) hr, refine_step I op ht]

theorem abs_init (fixed : Bool) (n c : Nat) (f : Nat → Val) : (St.init fixed n c f).abs = Sp.init fixed n c f := by
  apply Sp.eq_of
  · rfl
  · rfl
  · funext i
    simp only [St.abs, St.init, St.slot, Sp.init]
    by_cases hi : i < n
    · have : i < max n c := by omega
      simp [hi, this]
    · simp [hi]
  · simp [St.abs, St.init, Sp.init]
  · funext w; simp [St.abs, St.init, Sp.init]
  · rfl

end GojaModel.C13
