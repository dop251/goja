/-
  C13 — the call gateways.
  wrapReflectFunc (runtime.go:2040): a Go func called from script — how the script arguments are laid out into the
  `in []reflect.Value` handed to reflect.Value.Call (missing ones zero-filled, extra ones dropped, variadic tail),
  and how the results become a script value (runtime.go:2090-2121).
  wrapJSFunc (runtime.go:2309): a script function exported to a Go func type — how the Go arguments become the
  script argument list (variadic tail flattened) and how results / exceptions map back.
  Core Lean only.
-/
import GojaModel.C13.Bridge

namespace GojaModel.C13

inductive Slot where
  | unset                                   -- invalid reflect.Value: reflect.Call would panic
  | zero (param : Nat)                      -- reflect.Zero(typ.In(param))
  | arg (j : Nat) (param : Nat) (elem : Bool)   -- script argument j converted to In(param) (or In(param).Elem())
deriving DecidableEq, Repr

structure GIn where
  len : Nat
  slot : Nat → Slot
  oob : Bool            -- an `in[i] = v` beyond len(in) (would be a Go index-out-of-range panic)

/-- the allocation of `in` and the zero filling (runtime.go:2047-2064) -/
def initIn (nargs : Nat) (variadic : Bool) (l : Nat) : GIn :=
  if l < nargs then
    let n := if variadic then nargs - 1 else nargs
    { len := n, slot := fun i => if l ≤ i ∧ i < n then .zero i else .unset, oob := false }
  else
    { len := if nargs < l ∧ variadic = false then nargs else l, slot := fun _ => .unset, oob := false }

def GIn.assign (g : GIn) (i : Nat) (s : Slot) : GIn :=
  if i < g.len then { g with slot := fun j => if j = i then s else g.slot j } else { g with oob := true }

/-- `for i, a := range call.Arguments` (runtime.go:2066-2088); `todo` arguments left, next index `i`.
    Go's `n >= nargs-1` / `n > nargs-1` on ints are written without subtraction. -/
def loopIn (nargs : Nat) (variadic : Bool) : Nat → Nat → GIn → GIn
  | _, 0, g => g
  | i, todo + 1, g =>
    if nargs ≤ i + 1 ∧ variadic = true then
      loopIn nargs variadic (i + 1) todo (g.assign i (.arg i (nargs - 1) true))
    else if nargs < i + 1 then g                      -- break: ignore extra arguments
    else loopIn nargs variadic (i + 1) todo (g.assign i (.arg i i false))

def gatewayIn (nargs : Nat) (variadic : Bool) (l : Nat) : GIn :=
  loopIn nargs variadic 0 l (initIn nargs variadic l)

/-- what the documentation promises for position i of the call -/
def specSlot (nargs : Nat) (variadic : Bool) (l i : Nat) : Slot :=
  if i < l then (if nargs ≤ i + 1 ∧ variadic = true then .arg i (nargs - 1) true else .arg i i false)
  else .zero i

/-! conversion of the script arguments (toReflectValue into the parameter type, runtime.go:2125): primitives into
    integer parameters -/

inductive JArg where
  | num (v : JsNum) | bool (b : Bool) | undef | null
deriving DecidableEq, Repr

/-- toReflectValue(a, v) for an integer parameter of kind k: undefined / null have no export type → reflect.Zero;
    a boolean goes through ToNumber; a number through toInt8 … toUint64. -/
def convArgInt (k : IntKind) : JArg → Int
  | .num v => (exportToInt k v).getD 0
  | .bool b => if b then 1 else 0
  | .undef => 0
  | .null => 0

/-- toReflectValue into a `bool` parameter: undefined / null → zero value; otherwise ToBoolean -/
def convArgBool : JArg → Bool
  | .num (.int i) => i ≠ 0
  | .num (.flt .nan) => false
  | .num (.flt .negZero) => false
  | .num (.flt _) => true          -- non-zero finite (an integral 0 is a valueInt) or ±Infinity
  | .bool b => b
  | .undef => false
  | .null => false

/-- toReflectValue into a `float64` parameter: undefined / null → zero value; otherwise ToFloat -/
def convArgF64 : JArg → Flt
  | .num v => exportToF64 v
  | .bool b => .intval (if b then 1 else 0)
  | .undef => .intval 0
  | .null => .intval 0

/-- parameter kinds the model converts into -/
inductive PKind where
  | int (k : IntKind) | bool | f64
deriving DecidableEq, Repr

inductive GoArg where
  | int (v : Int) | bool (b : Bool) | f64 (f : Flt)
deriving DecidableEq, Repr

def convArg : PKind → JArg → GoArg
  | .int k, a => .int (convArgInt k a)
  | .bool, a => .bool (convArgBool a)
  | .f64, a => .f64 (convArgF64 a)

def zeroArg : PKind → GoArg
  | .int _ => .int 0
  | .bool => .bool false
  | .f64 => .f64 (.intval 0)

/-- what a Go func with parameters of mixed kinds receives -/
def gatewayCallP (kinds : List PKind) (variadic : Bool) (args : List JArg) : List GoArg :=
  let g := gatewayIn kinds.length variadic args.length
  (List.range g.len).map (fun i => match g.slot i with
    | .arg j p _ => convArg (kinds.getD p (.int .int)) (args.getD j .undef)
    | .zero p => zeroArg (kinds.getD p (.int .int))
    | .unset => .int 0)

/-- what the Go func receives: position i of `in`, converted for its parameter kind -/
def gatewayCall (kinds : List IntKind) (variadic : Bool) (args : List JArg) : List Int :=
  let g := gatewayIn kinds.length variadic args.length
  (List.range g.len).map (fun i => match g.slot i with
    | .arg j p _ => convArgInt (kinds.getD p .int) (args.getD j .undef)
    | .zero _ => 0
    | .unset => 0)

/-! results of a Go call (runtime.go:2090-2121) -/

inductive CallResult where
  | undefined                 -- no results (or only a nil error)
  | value (i : Nat)           -- ToValue(out[i])
  | array (n : Nat)           -- ToValue([]interface{}{out[0..n-1]})
  | throw                     -- last result is a non-nil error
deriving DecidableEq, Repr

/-- nout results, the last one of type error iff `lastIsErr`, and non-nil iff `errNonNil`. -/
def gatewayOut (nout : Nat) (lastIsErr errNonNil : Bool) : CallResult :=
  if nout = 0 then .undefined
  else if lastIsErr then
    if errNonNil then .throw
    else match nout - 1 with
      | 0 => .undefined
      | 1 => .value 0
      | n => .array n
  else match nout with
    | 1 => .value 0
    | n => .array n

/-! wrapJSFunc: Go arguments -> script arguments (runtime.go:2311-2329) -/

/-- number of script arguments for a Go call with `nfixed` non-variadic parameters and (if variadic) a tail of
    `tail` elements: the tail is flattened. -/
def jsArgCount (nfixed : Nat) (variadic : Bool) (tail : Nat) : Nat :=
  if variadic then nfixed + tail else nfixed

/-- which Go value script argument j is: fixed parameter j, or element j - nfixed of the variadic tail -/
inductive JsArg where
  | fixed (p : Nat) | tailElem (k : Nat)
deriving DecidableEq, Repr

def jsArg (nfixed : Nat) (j : Nat) : JsArg := if j < nfixed then .fixed j else .tailElem (j - nfixed)

/-- results of the Go func built by wrapJSFunc (runtime.go:2331-2368): `threw` = the script function threw,
    `convFail` = the result could not be converted to Out(0). -/
inductive JsCallOutcome where
  | results (firstFromJs : Bool) (errSet : Bool)   -- results[0] from the script value (else zero), results[last] = error or nil
  | goPanic                                        -- no error result to carry the exception: panic(err)
deriving DecidableEq, Repr

def jsFuncOutcome (nout : Nat) (lastIsErr threw convFail : Bool) : JsCallOutcome :=
  let failed := threw || (decide (0 < nout) && convFail)
  if failed then
    if decide (0 < nout) && lastIsErr then .results false true else .goPanic
  else .results (decide (0 < nout)) false

end GojaModel.C13
