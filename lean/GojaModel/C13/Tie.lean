/-
  C13 — regenerated facts: lists of strings extracted from /repo's current source must equal the lists written here.
  The case order of Runtime.toValue (type switch, Kind switch, map key kinds) as `toValueCase` (Bridge.lean) transcribes
  it; the guards and structural facts of the bodies the mechanism models transcribe; the decision order of
  toReflectValue; the conditions of wrapReflectFunc's argument loop; the export-dispatch facts.  A reordered / added /
  removed line breaks the equality.
-/
import GojaModel.Generated.C13_ToValue

namespace GojaModel.C13.Tie
open GojaModel.Generated.C13

def expectedTypeCases : List String :=
  ["nil", "*Object", "valueContainer", "Value", "string", "bool", "func(FunctionCall) Value",
   "func(FunctionCall, *Runtime) Value", "func(ConstructorCall) *Object", "func(ConstructorCall, *Runtime) *Object",
   "int", "int8", "int16", "int32", "int64", "uint", "uint8", "uint16", "uint32", "uint64", "float32", "float64",
   "*big.Int", "map[string]interface{}", "[]interface{}", "*[]interface{}"]

def expectedKindCases : List String := ["reflect.Map", "reflect.Array", "reflect.Slice", "reflect.Func"]

def expectedMapKeyKinds : List String :=
  ["reflect.String", "reflect.Int", "reflect.Int8", "reflect.Int16", "reflect.Int32", "reflect.Int64", "reflect.Uint",
   "reflect.Uint8", "reflect.Uint16", "reflect.Uint32", "reflect.Uint64", "reflect.Float64", "reflect.Float32"]

/-- The guards the mechanism model transcribes (Model.lean `putIdxArr`, `swap`; Gateway/Bridge notes): the leading `if`
    of each function as it stands in the current source.  Dropping or changing one of them (e.g. reverting fix
    1c31366 / 60ad8ae / ab07c10 / e4f4687) breaks this equality. -/
def expectedGuards : List String :=
  ["objectGoArrayReflect._putIdx: idx >= o.fieldsValue.Len()",
   "objectGoArrayReflect.swap: n := o.fieldsValue.Len(); i >= n || j >= n",
   "objectGoSlice.swap: n := len(*o.data); i >= n || j >= n",
   "Runtime.wrapReflectFunc.closure: value.IsNil()",
   "argumentsObject.exportType: present",
   "objectGoReflect.setReflectValue: re-points the cached field wrappers",
   "objectGoArrayReflect.setReflectValue: re-points the cached element wrappers",
   "valueArrayCache.shrink: detaches the cut-off wrappers",
   "valueArrayCache.shrink: clears the cut-off slots",
   "objectGoArrayReflect._putIdx: detaches the cached wrapper",
   "objectGoArrayReflect._deleteIdx: detaches the cached wrapper",
   "objectGoSliceReflect.grow: re-points the cached wrappers after re-allocation",
   "objectGoSlice.grow: clears the re-exposed tail",
   "objectGoSlice.shrink: clears the cut-off tail",
   "objectExportCtx.putTyped: carries an earlier untyped entry into the per-type table",
   "objectGoArrayReflect._putIdx: re-attaches the wrapper when the conversion fails",
   "objectGoArrayReflect._putIdx: drops the cache entry after a successful store",
   "objectGoReflect._put: detaches the cached field wrapper",
   "objectGoReflect._put: re-attaches the wrapper when the conversion fails",
   "objectGoReflect._put: drops the cache entry after a successful store",
   "copyReflectValueWrapper: re-points the wrapper through setReflectValue",
   "objectGoArrayReflect.swap: moves the cached wrappers with the elements",
   "mapObject.export: consults the identity cache on entry",
   "setObject.export: consults the identity cache on entry",
   "baseObject.export: caches before exporting the children",
   "arrayObject.export: caches before exporting the children"]

theorem guards_ok : guards = expectedGuards := by rfl

/-- decision order of Runtime.toReflectValue that `toReflectOwn` (Bridge.lean) and `expTo` (ExportTo.lean) transcribe -/
def expectedToReflectOrder : List String :=
  ["if typ == typeValue", "if typ == typeObject", "if typ == typeCallable", "if et == nil || et == reflectTypeNil",
   "for: AssignableTo / ConvertibleTo / pointer-stripping loop", "if typ == typeTime",
   "case reflect.String", "case reflect.Bool", "case reflect.Int", "case reflect.Int64", "case reflect.Int32",
   "case reflect.Int16", "case reflect.Int8", "case reflect.Uint", "case reflect.Uint64", "case reflect.Uint32",
   "case reflect.Uint16", "case reflect.Uint8", "case reflect.Float64", "case reflect.Float32",
   "case reflect.Slice|reflect.Array", "case reflect.Map", "case reflect.Struct", "case reflect.Func", "case reflect.Ptr"]

/-- the conditions of wrapReflectFunc's allocation and argument loop that `initIn` / `loopIn` (Gateway.lean) transcribe -/
def expectedArgLoopConds : List String :=
  ["alloc: l < nargs", "n >= nargs - 1 && typ.IsVariadic()", "n > nargs - 1", "n > nargs - 1"]

/-- typed export dispatch (ExportDispatch.lean): the implementation classes with their own exportToArrayOrSlice /
    exportToMap (every other class inherits baseObject's, i.e. the generic functions), which methods enter their
    container into the identity cache (`cachesTyped`: all of them since 6fa4053; before, setObject.exportToMap did not — finding
    set-exportToMap-not-cached, fixed by that commit), and the order of the generic tests
    (iterable first, array-like only for non-callables). -/
def expectedExportDispatch : List String :=
  ["exportToArrayOrSlice@arrayBufferObject", "exportToArrayOrSlice@arrayObject", "exportToArrayOrSlice@baseDynamicObject",
   "exportToArrayOrSlice@baseObject", "exportToArrayOrSlice@dataViewObject", "exportToArrayOrSlice@destructKeyedSource",
   "exportToArrayOrSlice@setObject", "exportToArrayOrSlice@sparseArrayObject", "exportToArrayOrSlice@typedArrayObject",
   "exportToMap@baseDynamicObject", "exportToMap@baseObject", "exportToMap@destructKeyedSource", "exportToMap@mapObject",
   "exportToMap@setObject",
   "arrayObject.exportToArrayOrSlice: caches",
   "sparseArrayObject.exportToArrayOrSlice: caches",
   "setObject.exportToArrayOrSlice: caches",
   "mapObject.exportToMap: caches",
   "setObject.exportToMap: caches",
   "genericExportToArrayOrSlice: caches",
   "genericExportToMap: caches",
   "genericExportToArrayOrSlice: array-like only for non-callables",
   "arrayObject.exportToArrayOrSlice: generic path when Symbol.iterator is overridden",
   "genericExportToArrayOrSlice: iterable test first"]

theorem export_dispatch_ok : exportDispatch = expectedExportDispatch := by rfl

theorem toReflect_order_ok : toReflectOrder = expectedToReflectOrder := by rfl
theorem arg_loop_conds_ok : argLoopConds = expectedArgLoopConds := by rfl

theorem toValue_type_cases_ok : toValueTypeCases = expectedTypeCases := by rfl
theorem toValue_kind_cases_ok : toValueKindCases = expectedKindCases := by rfl
theorem toValue_map_key_kinds_ok : toValueMapKeyKinds = expectedMapKeyKinds := by rfl

end GojaModel.C13.Tie
