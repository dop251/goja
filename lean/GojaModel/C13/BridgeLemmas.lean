/-
  C13 — the numeric kinds and shape tables of Bridge.lean: two's complement truncation inside the range, the exception
  predicates as Boolean equations.
-/
import GojaModel.C13.Bridge

namespace GojaModel.C13

theorem wrap_signed (m v : Int) (h1 : -m ≤ v) (h2 : v ≤ m - 1) : (v + m) % (2 * m) - m = v := by
  rw [Int.emod_eq_of_lt (by omega) (by omega)]; omega

theorem wrap_unsigned (m v : Int) (h1 : 0 ≤ v) (h2 : v ≤ m - 1) : v % m = v :=
  Int.emod_eq_of_lt h1 (by omega)

theorem wrapTo_id {k : IntKind} {v : Int} (h : k.InRange v) : wrapTo k v = v := by
  cases k
  · exact wrap_signed 9223372036854775808 v h.1 h.2
  · exact wrap_signed 128 v h.1 h.2
  · exact wrap_signed 32768 v h.1 h.2
  · exact wrap_signed 2147483648 v h.1 h.2
  · exact wrap_signed 9223372036854775808 v h.1 h.2
  · exact wrap_unsigned 18446744073709551616 v h.1 h.2
  · exact wrap_unsigned 256 v h.1 h.2
  · exact wrap_unsigned 65536 v h.1 h.2
  · exact wrap_unsigned 4294967296 v h.1 h.2
  · exact wrap_unsigned 18446744073709551616 v h.1 h.2

/-- The unsigned cases of the type switch test `v ≤ MaxInt64` (runtime.go:1906, 1918) only because Go's `int64(v)` would
    overflow; beyond it no value is safe, so the answer is `intToValue`'s for every kind. -/
theorem toValueInt_eq (k : IntKind) (v : Int) : toValueInt k v = intToValue v := by
  have hbig : ¬ v ≤ 9223372036854775807 → floatToValue (.intval (round53 v)) = intToValue v := fun h => by
    rw [intToValue, if_neg (fun hs => h (by unfold Safe maxSafe at hs; omega))]
  cases k
  case uint | uint64 =>
    show (if v ≤ 9223372036854775807 then intToValue v else _) = _
    split
    · rfl
    · exact hbig ‹_›
  all_goals rfl

/-
  `Exception` / `ExceptionTo` are decision tables over the constructor, a few flags and — for the reflect shapes — whether
  the pointer depth is 0 (1, more); once the depth is split that far every row is a closed computation. -/

theorem exception_eq (sh : Shape) : Exception sh = !decide (roundTrip sh = .identical) := by
  cases sh with
  | intKind k => cases k <;> rfl
  | rMap d n k m => cases n <;> cases k <;> cases m <;> rfl
  | rArray d n => cases d <;> cases n <;> rfl
  | rSlice d n => cases n <;> rfl
  | rFunc d n => cases d <;> cases n <;> rfl
  | rOther d n => cases d <;> cases n <;> rfl
  | objectPtr n | bigInt n | mapStrIface n | ptrSliceIface n => cases n <;> rfl
  | _ => rfl

theorem exceptionTo_eq (sh : Shape) : ExceptionTo sh = !decide (relTo sh = .deepEqual) := by
  cases sh with
  | intKind k => cases k <;> rfl
  | rMap d n k m => rcases d with _ | _ | d <;> cases n <;> cases k <;> cases m <;> rfl
  | rArray d n => rcases d with _ | _ | d <;> cases n <;> rfl
  | rSlice d n => rcases d with _ | _ | d <;> cases n <;> rfl
  | rFunc d n => cases d <;> cases n <;> rfl
  | rOther d n => rcases d with _ | _ | d <;> cases n <;> rfl
  | objectPtr n | bigInt n | mapStrIface n | ptrSliceIface n => cases n <;> rfl
  | _ => rfl

end GojaModel.C13
