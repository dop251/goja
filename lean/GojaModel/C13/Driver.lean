/-
  C13 model driver.  Line protocol (one case per line):
    W <fixed:0|1> <cap> <v0,v1,..> | <op> <op> ...   wrap-cache history; answer: one state dump per op, joined by " ; "
    N <kind> <int>                                    integer kind round trip
    F <class…>                                        float64 / float32 round trip (class: intval i | negzero | nan | pinf | ninf | frac hex)
    S <shape tokens…>                                 toValue case + Export relation
  The other line kinds (WS, X, XOLD, XS, M, C, A, D, DS, Y, B, KS, I, J) are described at their sections below; `handle`
  at the end of the file lists them all.
-/
import GojaModel.Base.Proto
import GojaModel.C13.Model
import GojaModel.C13.Bridge
import GojaModel.C13.Export
import GojaModel.C13.MapModel
import GojaModel.C13.Gateway
import GojaModel.C13.GoSlice
import GojaModel.C13.Spec
import GojaModel.C13.ExportTo
import GojaModel.C13.NestedSpec
import GojaModel.C13.DispatchDriver
import GojaModel.C13.GatewayComposite

namespace GojaModel.C13.Driver
open GojaModel.C13 GojaModel.Proto

/-- driver bookkeeping: which wrapper ids the script has observed (handle number = position) -/
structure DSt where
  s : St
  seen : List Nat

def showInt (i : Int) : String := toString i

def handleNo (seen : List Nat) (w : Nat) : Option Nat :=
  let rec go : List Nat → Nat → Option Nat
    | [], _ => none
    | x :: xs, n => if x = w then some n else go xs (n + 1)
  go seen 0

def dump (d : DSt) (pre : String) : String :=
  if d.s.panic then "PANIC" else
  let sl := (List.range d.s.len).map (fun i => showInt (d.s.slot i))
  let hs := d.seen.map (fun w => showInt (d.s.readW w))
  let cs := (List.range d.s.len).map (fun i =>
    match d.s.cacheGet i with
    | none => "-"
    | some w => match handleNo d.seen w with
                | some n => toString n
                | none => "?")
  pre ++ "len=" ++ toString d.s.len ++ " s=[" ++ ",".intercalate sl ++ "] h=[" ++ ",".intercalate hs ++
    "] c=[" ++ ",".intercalate cs ++ "]"

/-- stable insertion sort expressed as adjacent swaps on the mechanism state (ascending by value). -/
def sortSwaps (s : St) : St :=
  let n := s.len
  -- every element is read (and so wrapped and cached) by the comparisons
  let s0 := (List.range n).foldl (fun st i => st.step (.get i)) s
  -- the comparator reads x.Field through the element wrappers sortGet returns (the cached ones)
  let key (st : St) (j : Nat) : Val := match st.cacheGet j with
    | some w => st.readW w
    | none => st.slot j
  let rec bubble (fuel : Nat) (st : St) (j : Nat) : St :=
    match fuel with
    | 0 => st
    | fuel + 1 =>
      if j = 0 then st
      else if key st j < key st (j - 1) then bubble fuel (st.step (.swap (j - 1) j)) (j - 1)
      else st
  if n < 2 then s else
  (List.range n).foldl (fun st i => bubble (i + 1) st i) s0

def observe (d : DSt) (i : Nat) : DSt × String :=
  let (s', r) := d.s.getIdx i
  match r with
  | none => ({ d with s := s' }, "g=- ")
  | some w =>
    match handleNo d.seen w with
    | some n => ({ d with s := s' }, "g=" ++ toString n ++ " ")
    | none => ({ s := s', seen := d.seen ++ [w] }, "g=" ++ toString d.seen.length ++ " ")

def nat! (s : String) : Nat := s.toNat?.getD 0
def int! (s : String) : Int := s.toInt?.getD 0

/-- Array.prototype.splice(start, del, …items) on a wrapper takes the generic path (builtin_array.go:495-536):
    read the deleted elements, shift the tail with `a[to] = a[from]` (a value copy through the element wrapper),
    delete what is left over, store the items, set the length.  Expressed with the primitive steps. -/
def spliceSteps (len start del : Nat) (items : List Int) : List (String × Nat × Nat × Int) :=
  let s := min start len
  let d := min del (len - s)
  let k := items.length
  let reads := (List.range d).map (fun t => ("get", s + t, 0, (0 : Int)))
  let moves :=
    if k < d then
      ((List.range (len - d - s)).map (fun t => ("mv", s + t + k, s + t + d, (0 : Int)))) ++
      ((List.range (d - k)).map (fun t => ("del", len - 1 - t, 0, (0 : Int))))
    else if d < k then
      (List.range (len - d - s)).map (fun t => ("mv", len - d - t + k - 1, len - t - 1, (0 : Int)))
    else []
  let sets := (List.range k).map (fun i => ("set", s + i, 0, items.getD i 0))
  reads ++ moves ++ sets ++ [("len", len - d + k, 0, (0 : Int))]

def mechPrim (s : St) (p : String × Nat × Nat × Int) : St :=
  match p with
  | ("get", i, _, _) => s.step (.get i)
  | ("del", i, _, _) => s.step (.del i)
  | ("set", i, _, x) => s.step (.set i x)
  | ("len", n, _, _) => s.step (.setLen n)
  | ("mv", to, frm, _) =>
      if s.len ≤ frm then s.step (.del to) else
      let s1 := s.step (.get frm)
      -- objectGoSliceReflect._putIdx grows BEFORE the source wrapper's value is converted (only visible in a stale
      -- state after a Go-side re-allocation, where the grow re-points the stale wrapper)
      let s2 := if !s1.fixed && decide (s1.len ≤ to) then s1.grow (to + 1) else s1
      let v := match s2.cacheGet frm with
        | some w => s2.readW w
        | none => s2.slot frm
      s2.step (.set to v)
  | ("rv", lo, up, _) =>
      -- arrayproto_reverse_generic_step (builtin_array.go:968): both values are read (as wrappers) first, then stored
      let s1 := (s.step (.get lo)).step (.get up)
      match s1.cacheGet lo, s1.cacheGet up with
      | some wl, some wu =>
        let s2 := s1.step (.set lo (s1.readW wu))
        s2.step (.set up (s2.readW wl))
      | _, _ => s1
  | _ => s

def specPrim (s : Sp) (p : String × Nat × Nat × Int) : Sp :=
  match p with
  | ("get", i, _, _) => s.step (.get i)
  | ("del", i, _, _) => s.step (.del i)
  | ("set", i, _, x) => s.step (.set i x)
  | ("len", n, _, _) => s.step (.setLen n)
  | ("mv", to, frm, _) =>
      if s.len ≤ frm then s.step (.del to) else
      let s1 := s.step (.get frm)
      s1.step (.set to (s1.val frm))
  | ("rv", lo, up, _) =>
      let s1 := (s.step (.get lo)).step (.get up)
      match s1.findAtt lo, s1.findAtt up with
      | some wl, some wu =>
        let s2 := s1.step (.set lo (s1.readH wu))
        s2.step (.set up (s2.readH wl))
      | _, _ => s1
  | _ => s

def runOp (d : DSt) (tok : String) : DSt × String :=
  if d.s.panic then (d, "") else
  match tok.splitOn ":" with
  | ["get", i] => observe d (nat! i)
  | ["set", i, x] => ({ d with s := d.s.step (.set (nat! i) (int! x)) }, "")
  | ["bad", i] => ({ d with s := d.s.step (.setBad (nat! i)) }, "")
  | ["del", i] => ({ d with s := d.s.step (.del (nat! i)) }, "")
  | ["len", n] => ({ d with s := d.s.step (.setLen (nat! n)) }, "")
  | ["swap", i, j] => ({ d with s := d.s.step (.swap (nat! i) (nat! j)) }, "")
  | ["ww", w, x] =>
      match d.seen[nat! w]? with
      | some wid => ({ d with s := d.s.step (.wwrite wid (int! x)) }, "")
      | none => (d, "")
  | ["gw", i, x] => ({ d with s := d.s.step (.goWrite (nat! i) (int! x)) }, "")
  | ["ga", x] => ({ d with s := d.s.step (.goAppend (int! x)) }, "")
  | ["gr", c] => ({ d with s := d.s.step (.goRealloc (nat! c)) }, "")
  | ["ra", _] => ({ d with s := (List.range d.s.len).foldl (fun st i => st.step (.get i)) d.s }, "")
  | ["nop", _] => (d, "")
  | ["sort"] => ({ d with s := sortSwaps d.s }, "")
  | ["def", i, x] => ({ d with s := d.s.step (.set (nat! i) (int! x)) }, "")
  | ["splice", st, dl, k] =>
      if d.s.fixed then (d, "") else
      let items := (List.range (nat! k)).map (fun i => (900 : Int) + Int.ofNat i)
      ({ d with s := (spliceSteps d.s.len (nat! st) (nat! dl) items).foldl mechPrim d.s }, "")
  | ["reverse"] =>
      let n := d.s.len
      ({ d with s := ((List.range (n / 2)).map (fun lo => ("rv", lo, n - 1 - lo, (0 : Int)))).foldl mechPrim d.s }, "")
  | ["shift"] =>
      let n := d.s.len
      if n = 0 then (d, "g=- ") else
      let steps := ((List.range (n - 1)).map (fun i => ("mv", i, i + 1, (0 : Int)))) ++ [("del", n - 1, 0, 0), ("len", n - 1, 0, 0)]
      if d.s.fixed then ({ d with s := steps.foldl mechPrim (d.s.step (.get 0)) }, "g=- ") else
      let (d1, pre) := observe d 0
      ({ d1 with s := steps.foldl mechPrim d1.s }, pre)
  | ["unshift", x] =>
      let n := d.s.len
      if d.s.fixed then ({ d with s := if n = 0 then d.s else d.s.step (.get (n - 1)) }, "") else
      let steps := ((List.range n).map (fun t => ("mv", n - t, n - 1 - t, (0 : Int)))) ++ [("set", 0, 0, int! x), ("len", n + 1, 0, 0)]
      ({ d with s := steps.foldl mechPrim d.s }, "")
  | ["push", x] =>
      if d.s.fixed then ({ d with s := d.s.step (.set d.s.len (int! x)) }, "")
      else ({ d with s := d.s.step (.set d.s.len (int! x)) }, "")
  | ["pop"] =>
      if d.s.len = 0 then (d, "g=- ") else
      let i := d.s.len - 1
      -- on a Go array the final `length = i` throws (length is not writable): the popped value never reaches script
      if d.s.fixed then ({ d with s := ((d.s.step (.get i)).step (.del i)) }, "g=- ") else
      let (d1, pre) := observe d i
      let s2 := (d1.s.step (.del i)).step (.setLen i)
      ({ d1 with s := s2 }, pre)
  | _ => (d, "BADOP ")

def runW (ws : List String) : String :=
  match ws with
  | fixed :: cap :: vals :: "|" :: ops =>
    -- `1,2,3/9,8`: three elements and two stale items left in the spare capacity
    let (live, spare) := match vals.splitOn "/" with
      | [a, b] => (a, b)
      | _ => (vals, "")
    let vs : List Int := if live = "-" || live = "" then [] else (live.splitOn ",").map int!
    let sp : List Int := if spare = "" then [] else (spare.splitOn ",").map int!
    let all := vs ++ sp
    let init := St.init (fixed = "1") vs.length (max (nat! cap) all.length) (fun i => all.getD i 0)
    let (_, outs) := ops.foldl (fun (acc : DSt × List String) tok =>
        let (d, outs) := acc
        let (d', pre) := runOp d tok
        (d', dump d' pre :: outs)) (({ s := init, seen := [] } : DSt), [])
    " ; ".intercalate outs.reverse
  | _ => "BADLINE"

/-! ### WS / VS: the same histories through the SPEC model (documented semantics, Spec.lean) -/

structure DSp where
  s : Sp
  seen : List Nat

def dumpSp (d : DSp) (pre : String) : String :=
  let sl := (List.range d.s.len).map (fun i => showInt (d.s.val i))
  let hs := d.seen.map (fun w => showInt (d.s.readH w))
  pre ++ "len=" ++ toString d.s.len ++ " s=[" ++ ",".intercalate sl ++ "] h=[" ++ ",".intercalate hs ++ "]"

def observeSp (d : DSp) (i : Nat) : DSp × String :=
  let (s', r) := d.s.getIdx i
  match r with
  | none => ({ d with s := s' }, "g=- ")
  | some w =>
    match handleNo d.seen w with
    | some n => ({ d with s := s' }, "g=" ++ toString n ++ " ")
    | none => ({ s := s', seen := d.seen ++ [w] }, "g=" ++ toString d.seen.length ++ " ")

/-- documented sort: stable, ascending by value, wrappers move with their elements -/
def sortSp (s : Sp) : Sp :=
  let n := s.len
  let rec bubble (fuel : Nat) (st : Sp) (j : Nat) : Sp :=
    match fuel with
    | 0 => st
    | fuel + 1 =>
      if j = 0 then st
      else if st.val j < st.val (j - 1) then bubble fuel (st.step (.swap (j - 1) j)) (j - 1)
      else st
  if n < 2 then s else (List.range n).foldl (fun st i => bubble (i + 1) st i) s

def runOpSp (d : DSp) (tok : String) : DSp × String :=
  match tok.splitOn ":" with
  | ["get", i] => observeSp d (nat! i)
  | ["set", i, x] => ({ d with s := d.s.step (.set (nat! i) (int! x)) }, "")
  | ["bad", i] => ({ d with s := d.s.step (.setBad (nat! i)) }, "")
  | ["del", i] => ({ d with s := d.s.step (.del (nat! i)) }, "")
  | ["len", n] => ({ d with s := d.s.step (.setLen (nat! n)) }, "")
  | ["swap", i, j] => ({ d with s := d.s.step (.swap (nat! i) (nat! j)) }, "")
  | ["ww", w, x] =>
      match d.seen[nat! w]? with
      | some wid => ({ d with s := d.s.step (.wwrite wid (int! x)) }, "")
      | none => (d, "")
  | ["gw", i, x] => ({ d with s := d.s.step (.goWrite (nat! i) (int! x)) }, "")
  | ["ga", x] => ({ d with s := d.s.step (.goAppend (int! x)) }, "")
  | ["gr", c] => ({ d with s := d.s.step (.goRealloc (nat! c)) }, "")
  | ["ra", _] => (d, "")
  | ["nop", _] => (d, "")
  | ["sort"] => ({ d with s := sortSp d.s }, "")
  | ["def", i, x] => ({ d with s := d.s.step (.set (nat! i) (int! x)) }, "")
  | ["splice", st, dl, k] =>
      if d.s.fixed then (d, "") else
      let items := (List.range (nat! k)).map (fun i => (900 : Int) + Int.ofNat i)
      ({ d with s := (spliceSteps d.s.len (nat! st) (nat! dl) items).foldl specPrim d.s }, "")
  | ["reverse"] =>
      let n := d.s.len
      ({ d with s := ((List.range (n / 2)).map (fun lo => ("rv", lo, n - 1 - lo, (0 : Int)))).foldl specPrim d.s }, "")
  | ["shift"] =>
      let n := d.s.len
      if n = 0 then (d, "g=- ") else
      let steps := ((List.range (n - 1)).map (fun i => ("mv", i, i + 1, (0 : Int)))) ++ [("del", n - 1, 0, 0), ("len", n - 1, 0, 0)]
      if d.s.fixed then ({ d with s := steps.foldl specPrim (d.s.step (.get 0)) }, "g=- ") else
      let (d1, pre) := observeSp d 0
      ({ d1 with s := steps.foldl specPrim d1.s }, pre)
  | ["unshift", x] =>
      let n := d.s.len
      if d.s.fixed then ({ d with s := if n = 0 then d.s else d.s.step (.get (n - 1)) }, "") else
      let steps := ((List.range n).map (fun t => ("mv", n - t, n - 1 - t, (0 : Int)))) ++ [("set", 0, 0, int! x), ("len", n + 1, 0, 0)]
      ({ d with s := steps.foldl specPrim d.s }, "")
  | ["push", x] => ({ d with s := d.s.step (.set d.s.len (int! x)) }, "")
  | ["pop"] =>
      if d.s.len = 0 then (d, "g=- ") else
      let i := d.s.len - 1
      if d.s.fixed then ({ d with s := d.s.step (.del i) }, "g=- ") else
      let (d1, pre) := observeSp d i
      ({ d1 with s := (d1.s.step (.del i)).step (.setLen i) }, pre)
  | _ => (d, "BADOP ")

def runWS (ws : List String) : String :=
  match ws with
  | fixed :: cap :: vals :: "|" :: ops =>
    let (live, spare) := match vals.splitOn "/" with
      | [a, b] => (a, b)
      | _ => (vals, "")
    let vs : List Int := if live = "-" || live = "" then [] else (live.splitOn ",").map int!
    let nsp : Nat := if spare = "" then 0 else (spare.splitOn ",").length
    let init := Sp.init (fixed = "1") vs.length (max (nat! cap) (vs.length + nsp)) (fun i => vs.getD i 0)
    let (_, outs) := ops.foldl (fun (acc : DSp × List String) tok =>
        let (d, outs) := acc
        let (d', pre) := runOpSp d tok
        (d', dumpSp d' pre :: outs)) (({ s := init, seen := [] } : DSp), [])
    " ; ".intercalate outs.reverse
  | _ => "BADLINE"

def kindOf : String → Option IntKind
  | "int" => some .int | "int8" => some .int8 | "int16" => some .int16 | "int32" => some .int32
  | "int64" => some .int64 | "uint" => some .uint | "uint8" => some .uint8 | "uint16" => some .uint16
  | "uint32" => some .uint32 | "uint64" => some .uint64 | _ => none

def showFlt : Flt → String
  | .intval i => "intval " ++ showInt i
  | .negZero => "negzero" | .nan => "nan" | .posInf => "pinf" | .negInf => "ninf"
  | .frac b => "frac " ++ toHexW 16 b

def showGoNum : GoNum → String
  | .i64 v => "i64 " ++ showInt v
  | .f64 f => "f64 " ++ showFlt f

def runN (ws : List String) : String :=
  match ws with
  | [k, v] =>
    match kindOf k with
    | some kk =>
      let j := toValueInt kk (int! v)
      showGoNum (exportNum j) ++ " to=" ++ (match exportToInt kk j with | some r => showInt r | none => "none")
    | none => "BADKIND"
  | _ => "BADLINE"

def parseFlt : List String → Option Flt
  | ["intval", i] => some (.intval (int! i))
  | ["negzero"] => some .negZero | ["nan"] => some .nan | ["pinf"] => some .posInf | ["ninf"] => some .negInf
  | ["frac", h] => (parseHex? h).map .frac
  | _ => none

def runF (ws : List String) : String :=
  match parseFlt ws with
  | some f =>
    let j := floatToValue f
    showGoNum (exportNum j) ++ " to=" ++ showFlt (exportToF64 j)
  | none => "BADLINE"

def b! (s : String) : Bool := s = "1"

def parseShape : List String → Option Shape
  | ["nilIface"] => some .nilIface
  | ["objectPtr", n] => some (.objectPtr (b! n))
  | ["jsValue"] => some .jsValue
  | ["str"] => some .str | ["bool"] => some .bool
  | ["nativeFunc"] => some .nativeFunc | ["nativeCtor"] => some .nativeCtor
  | ["intKind", k] => (kindOf k).map .intKind
  | ["float32"] => some .float32 | ["float64"] => some .float64
  | ["bigInt", n] => some (.bigInt (b! n))
  | ["mapStrIface", n] => some (.mapStrIface (b! n))
  | ["sliceIface"] => some .sliceIface
  | ["ptrSliceIface", n] => some (.ptrSliceIface (b! n))
  | ["rMap", d, n, k, m] => some (.rMap (nat! d) (b! n) (b! k) (b! m))
  | ["rArray", d, n] => some (.rArray (nat! d) (b! n))
  | ["rSlice", d, n] => some (.rSlice (nat! d) (b! n))
  | ["rFunc", d, n] => some (.rFunc (nat! d) (b! n))
  | ["rOther", d, n] => some (.rOther (nat! d) (b! n))
  | _ => none

def showWrap : Wrap → String
  | .null => "null" | .passthrough => "passthrough" | .string => "string" | .bool => "bool"
  | .nativeFunc => "nativeFunc" | .nativeCtor => "nativeCtor" | .number => "number" | .bigint => "bigint"
  | .goMapSimple => "goMapSimple" | .goSlice p => "goSlice" ++ (if p then "Ptr" else "")
  | .goMapReflect => "goMapReflect" | .goArrayReflect => "goArrayReflect" | .goSliceReflect => "goSliceReflect"
  | .wrappedFunc => "wrappedFunc" | .goReflect => "goReflect"

def showRel : Rel → String
  | .identical => "identical" | .valueCopy => "valueCopy" | .widened => "widened" | .bigCopy => "bigCopy"
  | .untypedNil => "untypedNil" | .jsExport => "jsExport" | .nativeWrapped => "nativeWrapped"
  | .ptrStripped => "ptrStripped"

def showRelTo : RelTo → String
  | .deepEqual => "deepEqual" | .func => "func" | .bigNilZero => "bigNilZero"
  | .nilChainCollapsed => "nilChainCollapsed" | .notGoData => "notGoData"

def runS (ws : List String) : String :=
  -- trailing "v=<n>" token selects the concrete Go type in the harness; the model ignores it
  let ws' := ws.filter (fun t => !t.startsWith "v=")
  match parseShape ws' with
  | some sh => showWrap (toValueCase sh) ++ " " ++ showRel (roundTrip sh) ++ " to=" ++ showRelTo (relTo sh)
  | none => "BADSHAPE"

/-! ### X: export of a script-built graph.  `X o:0=5,1=r1 a:0=r0 …` — node i is an object (keys k<n>) or an array -/

def parseField (s : String) : Option (Nat × JVal) :=
  match s.splitOn "=" with
  | [k, v0] =>
    -- a leading 'g' marks an accessor property whose getter returns the rest: exported like a data property
    let v := if v0.startsWith "g" then String.ofList (v0.toList.drop 1) else v0
    if v = "h" then some (nat! k, .hole)
    else if v.startsWith "r" then some (nat! k, .ref (nat! (String.ofList (v.toList.drop 1)))) else some (nat! k, .prim (int! v))
  | _ => none

/-- node kinds: o object, a array, m Map, s Set -/
def parseNode (s : String) : String × JFields :=
  match s.splitOn ":" with
  | [kind, fs] => (kind, if fs = "" then [] else (fs.splitOn ",").filterMap parseField)
  | _ => ("o", [])

/-- canonical print: depth-first from the root, fields in key order, numbering objects by first visit -/
def canonG (kindOf : Nat → String) (cache : List Nat) (out : List (Nat × GFields)) :
    Nat → List Nat → GVal → List Nat × String
  | _, vis, .prim p => (vis, showInt p)
  | _, vis, .nil => (vis, "nil")
  | 0, vis, .addr _ => (vis, "…")
  | fuel + 1, vis, .addr a =>
    match handleNo vis a with
    | some n => (vis, "#" ++ toString n)
    | none =>
      let fs := match out.find? (fun e => e.1 = a) with
        | some e => e.2
        | none => []
      let kind := kindOf (cache.getD a 0)
      let listLike := kind != "o"
      if listLike && fs.isEmpty then (vis, "[]") else
      let n := vis.length
      let (vis', parts) := fs.foldl (fun (acc : List Nat × List String) (kg : Nat × GVal) =>
          let (v1, s) := canonG kindOf cache out fuel acc.1 kg.2
          (v1, acc.2 ++ [if kind == "o" then "k" ++ toString kg.1 ++ ":" ++ s
                         else if kind == "m" then "<" ++ toString kg.1 ++ "," ++ s ++ ">" else s])) (vis ++ [a], [])
      (vis', "#" ++ toString n ++ (if listLike then "[" else "{") ++ ",".intercalate parts ++ (if listLike then "]" else "}"))

/-- `asCoded`: Map / Set objects skip the cache lookup (mapObject.export / setObject.export before 29d16ec);
    otherwise every object goes through get-then-put (the property: one Go value per script object). -/
def runX (asCoded : Bool) (ws : List String) : String :=
  let nodes := ws.map parseNode
  let js : Nat → JFields := fun id => (nodes.getD id ("o", [])).2
  let kindOf : Nat → String := fun id => (nodes.getD id ("o", [])).1
  let isMS : Nat → Bool := fun id => asCoded && (kindOf id == "m" || kindOf id == "s")
  let fuel := 4 * nodes.length + 8
  let (c, g) := expValK js isMS fuel ECtx.empty (.ref 0)
  if !c.ok then "FUEL" else
  (canonG kindOf c.cache c.out fuel [] g).2

/-! ### M: map wrapper histories.  `M <s|i> k=v,k=v | get:k set:k:x del:k ww:w:x gw:k:x gd:k` (keys 0..9) -/

def dumpM (s : MSt) (pre : String) : String :=
  let ents := (List.range 10).filterMap (fun k => (s.m k).map (fun v => toString k ++ ":" ++ showInt v))
  let hs := (List.range s.nw).map (fun w => showInt (s.ws w))
  pre ++ "m={" ++ ",".intercalate ents ++ "} h=[" ++ ",".intercalate hs ++ "]"

def runMOp (s : MSt) (tok : String) : MSt × String :=
  match tok.splitOn ":" with
  | ["get", k] =>
      let (s', r) := s.getKey (nat! k)
      (s', match r with | some w => "g=" ++ toString w ++ " " | none => "g=- ")
  | ["set", k, x] => (s.step (.set (nat! k) (int! x)), "")
  | ["del", k] => (s.step (.del (nat! k)), "")
  | ["ww", w, x] => (s.step (.wwrite (nat! w) (int! x)), "")
  | ["gw", k, x] => (s.step (.goSet (nat! k) (int! x)), "")
  | ["gd", k] => (s.step (.goDel (nat! k)), "")
  | _ => (s, "BADOP ")

def runM (ws : List String) : String :=
  match ws with
  | _ :: ents :: "|" :: ops =>
    let kvs : List (Nat × Int) := if ents = "-" then [] else (ents.splitOn ",").filterMap (fun e =>
      match e.splitOn "=" with | [k, v] => some (nat! k, int! v) | _ => none)
    let init := MSt.init (fun k => (kvs.find? (fun kv => kv.1 = k)).map (·.2))
    let (_, outs) := ops.foldl (fun (acc : MSt × List String) tok =>
        let (s', pre) := runMOp acc.1 tok
        (s', dumpM s' pre :: acc.2)) (init, [])
    " ; ".intercalate outs.reverse
  | _ => "BADLINE"

/-! ### C / J: the call gateways
    `C nargs variadic l nout lastIsErr errNonNil`: a Go func of `nargs` int parameters (the last `...int` if variadic)
    called from script with arguments 10, 11, …; answer: what the func received and what the script got back.
    `J nfixed variadic tail nout lastIsErr threw`: a script function exported to a Go func type and called from Go. -/

def slotVal : Slot → String
  | .arg j _ _ => toString (10 + j)
  | .zero _ => "0"
  | .unset => "UNSET"

def showCallResult (nout : Nat) : CallResult → String
  | .undefined => "undefined"
  | .value i => "value " ++ toString (70 + i)
  | .array n => "array " ++ ",".intercalate ((List.range n).map (fun i => toString (70 + i)))
  | .throw => "throw"

def runC (ws : List String) : String :=
  match ws with
  | [na, va, l, no, le, en] =>
    let nargs := nat! na
    let variadic := b! va
    let g := gatewayIn nargs variadic (nat! l)
    if g.oob then "OOB" else
    let nfixed := if variadic then nargs - 1 else nargs
    let vals := (List.range g.len).map (fun i => slotVal (g.slot i))
    "fixed=[" ++ ",".intercalate (vals.take nfixed) ++ "] tail=[" ++ ",".intercalate (vals.drop nfixed) ++ "] -> " ++
      showCallResult (nat! no) (gatewayOut (nat! no) (b! le) (b! en))
  | _ => "BADLINE"

def runJ (ws : List String) : String :=
  match ws with
  | [nf, va, tl, no, le, th] =>
    let nfixed := nat! nf
    let n := jsArgCount nfixed (b! va) (nat! tl)
    let args := (List.range n).map (fun j => match jsArg nfixed j with
      | .fixed p => toString (10 + p)
      | .tailElem k => toString (100 + k))
    "args=[" ++ ",".intercalate args ++ "] -> " ++
      -- the script function returns the number 7: not convertible when the only result type is `error`
      (match jsFuncOutcome (nat! no) (b! le) (b! th) (nat! no == 1 && b! le) with
       | .goPanic => "gopanic"
       | .results first err => "first=" ++ (if first then "js" else "zero") ++ " err=" ++ (if err then "set" else "nil"))
  | _ => "BADLINE"

/-! ### I: the plain []interface{} wrapper.  `I <p|v> <len0> <cells ('-' = nil)> | ops` -/

def showCell : Option Val → String
  | some v => showInt v
  | none => "-"

def dumpI (s : GS) (pre : String) : String :=
  pre ++ "len=" ++ toString s.len ++ " s=[" ++ ",".intercalate ((List.range s.len).map (fun i => showCell (s.mem i))) ++ "]"

def cell! (x : String) : Option Val := if x = "n" || x = "-" then none else some (int! x)

def showGot (s : GS) (i : Nat) : String :=
  if s.len ≤ i then "g=undefined " else match s.mem i with
    | some v => "g=" ++ showInt v ++ " "
    | none => "g=null "

def runIOp (s : GS) (tok : String) : GS × String :=
  match tok.splitOn ":" with
  | ["get", i] => (s, showGot s (nat! i))
  | ["set", i, x] => (s.step (.set (nat! i) (cell! x)), "")
  | ["len", n] => (s.step (.setLen (nat! n)), "")
  | ["del", i] => (s.step (.del (nat! i)), "")
  | ["push", x] => (s.step (.set s.len (cell! x)), "")
  | ["pop"] =>
      if s.len = 0 then (s, "g=undefined ") else
      let i := s.len - 1
      ((s.step (.del i)).step (.setLen i), showGot s i)
  | ["gt", n] => (s.step (.goTrunc (nat! n)), "")
  | ["gs", n] => (s.step (.goReslice (nat! n)), "")
  | ["ga", x] => (s.step (.goAppend (int! x)), "")
  | ["gr", c] => (s.step (.goRealloc (nat! c)), "")
  | ["gw", i, x] => (s.step (.goWrite (nat! i) (cell! x)), "")
  | _ => (s, "BADOP ")

def runI (ws : List String) : String :=
  match ws with
  | _ :: len0 :: cells :: "|" :: ops =>
    let cs : List (Option Val) := if cells = "." then [] else (cells.splitOn ",").map cell!
    let init : GS := { mem := fun i => (cs.getD i none), cap := cs.length, len := min (nat! len0) cs.length }
    let (_, outs) := ops.foldl (fun (acc : GS × List String) tok =>
        let (s', pre) := runIOp acc.1 tok
        (s', dumpI s' pre :: acc.2)) (init, [])
    " ; ".intercalate outs.reverse
  | _ => "BADLINE"

/-! ### A: argument conversion through the Go-func gateway.  `A <variadic> <kind,kind,…> | <arg> …`
    args: i<int> | f<hex bits of a non-integral double> | fn (NaN) | fp (+Inf) | fm (-Inf) | fz (-0) | t | F | u | n -/

def parseJArg (s : String) : JArg :=
  let rest := String.ofList (s.toList.drop 1)
  if s = "t" then .bool true else if s = "F" then .bool false else if s = "u" then .undef else if s = "n" then .null
  else if s = "fn" then .num (.flt .nan) else if s = "fp" then .num (.flt .posInf)
  else if s = "fm" then .num (.flt .negInf) else if s = "fz" then .num (.flt .negZero)
  else if s.startsWith "i" then .num (.int (int! rest))
  else if s.startsWith "f" then .num (.flt (.frac ((parseHex? rest).getD 0)))
  else .undef

def pkindOf (s : String) : Option PKind :=
  if s = "bool" then some .bool else if s = "float64" then some .f64 else (kindOf s).map .int

def showGoArg : GoArg → String
  | .int v => showInt v
  | .bool b => if b then "true" else "false"
  | .f64 f => showFlt f

def runA (ws : List String) : String :=
  match ws with
  | va :: ks :: "|" :: args =>
    let kinds := (ks.splitOn ",").filterMap pkindOf
    let variadic := b! va
    let vals := (gatewayCallP kinds variadic (args.map parseJArg)).map showGoArg
    let nfixed := if variadic then kinds.length - 1 else kinds.length
    "fixed=[" ++ ",".intercalate (vals.take nfixed) ++ "] tail=[" ++ ",".intercalate (vals.drop nfixed) ++ "]"
  | _ => "BADLINE"

/-! ### Y: one ExportTo into *YNode / *ZNode over a script graph (`Y <Y|Z> n:Any=r1,Next=r2,V=5 m:k0=r1 l:r1,r2 …`) -/

def yNames : List String := ["Any", "Next", "M", "L", "Any2", "Kids", "Next2", "V"]

def yNameOf (k : Nat) : String := if k < 100 then yNames.getD k "?" else "k" ++ toString (k - 100)

def yCodeOf (s : String) : Nat :=
  match handleNoStr yNames s with
  | some n => n
  | none => 100 + nat! (String.ofList (s.toList.drop 1))
where
  handleNoStr (l : List String) (s : String) : Option Nat :=
    let rec go : List String → Nat → Option Nat
      | [], _ => none
      | x :: xs, n => if x = s then some n else go xs (n + 1)
    go l 0

/-- type table: 0 = *Node, 1 = map[string]*Node (named), 2 = []*Node, 3 = []interface{} -/
def yTys (z : Bool) : Nat → TyDef
  | 0 => if z
      then .structPtr [(1, .named 0), (0, .iface), (3, .named 2), (2, .named 1), (4, .iface), (6, .named 0), (5, .named 3), (7, .iface)]
      else .structPtr [(0, .iface), (1, .named 0), (2, .named 1), (3, .named 2), (4, .iface), (5, .named 3), (6, .named 0), (7, .iface)]
  | 1 => .mapOf (.named 0)
  | 2 => .sliceOf (.named 0)
  | _ => .sliceOf .iface

def parseYNode (s : String) : String × JFields :=
  match s.splitOn ":" with
  | [kind, body] =>
    let parts := if body = "" then [] else body.splitOn ","
    if kind = "l" then
      (kind, (List.range parts.length).map (fun i =>
        let v := parts.getD i ""
        (i, if v.startsWith "r" then JVal.ref (nat! (String.ofList (v.toList.drop 1))) else JVal.prim (int! v))))
    else
      (kind, parts.filterMap (fun p => match p.splitOn "=" with
        | [k, v] => some (yCodeOf k, if v.startsWith "r" then JVal.ref (nat! (String.ofList (v.toList.drop 1))) else JVal.prim (int! v))
        | _ => none))
  | _ => ("n", [])

def insertByName (x : Nat × GVal) : GFields → GFields
  | [] => [x]
  | y :: ys => if yNameOf x.1 < yNameOf y.1 then x :: y :: ys else y :: insertByName x ys

/-- Go maps have no order: both sides visit and print map entries sorted by key -/
def sortByName (fs : GFields) : GFields := fs.foldl (fun acc x => insertByName x acc) []

def canonY (kindOf : Nat → String) (tys : Nat → TyDef) (cache : List (Nat × Nat)) (out : List (Nat × GFields)) :
    Nat → List Nat → GVal → List Nat × String
  | _, vis, .prim p => (vis, showInt p)
  | _, vis, .nil => (vis, "nil")
  | 0, vis, .addr _ => (vis, "…")
  | fuel + 1, vis, .addr a =>
    match handleNo vis a with
    | some n => (vis, "#" ++ toString n)
    | none =>
      let fs := match out.find? (fun e => e.1 = a) with
        | some e => e.2
        | none => []
      let (id, cd) := cache.getD a (0, 0)
      -- shape of the Go value: untyped export of an array / typed slice → list; typed struct → *{…}; otherwise a map
      let shape : String :=
        if cd = 0 then (if kindOf id == "l" then "list" else "map")
        else match tys (cd - 1) with
          | .structPtr _ => "struct"
          | .mapOf _ => "map"
          | .sliceOf _ => "list"
      if shape == "list" && fs.isEmpty then (vis, "[]") else
      let n := vis.length
      let fs' := if shape == "map" then sortByName fs else fs
      let (vis', parts) := fs'.foldl (fun (acc : List Nat × List (String × String)) (kg : Nat × GVal) =>
          let (v1, s) := canonY kindOf tys cache out fuel acc.1 kg.2
          (v1, acc.2 ++ [(yNameOf kg.1, s)])) (vis ++ [a], [])
      let body :=
        if shape == "list" then ",".intercalate (parts.map (·.2))
        else if shape == "struct" then ",".intercalate (parts.map (fun p => p.1 ++ ":" ++ p.2))
        else ",".intercalate (parts.map (fun p => p.1 ++ ":" ++ p.2))
      (vis', "#" ++ toString n ++ (if shape == "list" then "[" else if shape == "struct" then "*{" else "{") ++ body ++
        (if shape == "list" then "]" else "}"))

def runY (ws : List String) : String :=
  match ws with
  | tz :: nodeToks =>
    let nodes := nodeToks.map parseYNode
    let js : Nat → JFields := fun id => (nodes.getD id ("n", [])).2
    let kindOf : Nat → String := fun id => (nodes.getD id ("n", [])).1
    let tys := yTys (tz = "Z")
    let asU : Nat → Nat → Bool := fun id t => t == 3 && kindOf id == "l"
    let fuel := 6 * nodes.length + 10
    let (c, g) := expTo js tys asU fuel TCtx.empty (.ref 0) (.named 0)
    if !c.ok then "FUEL" else
    (canonY kindOf tys c.cache c.out fuel [] g).2
  | _ => "BADLINE"

/-! ### B: composite and string parameters of a Go func (`B <Y|Z> <ra> <rb> <sarg> <nodes…>`, GatewayComposite.lean) -/

def runB (ws : List String) : String :=
  match ws with
  | tz :: ra :: rb :: sarg :: nodeToks =>
    let nodes := nodeToks.map parseYNode
    let js : Nat → JFields := fun id => (nodes.getD id ("n", [])).2
    let kindOf : Nat → String := fun id => (nodes.getD id ("n", [])).1
    let tys := yTys (tz = "Z")
    let asU : Nat → Nat → Bool := fun id t => t == 3 && kindOf id == "l"
    let fuel := 6 * nodes.length + 10
    let rs := gatewayArgsT js tys asU fuel [(.ref (nat! ra), .named 0), (.ref (nat! rb), .named 0)]
    let shown := rs.map (fun (cg : TCtx × GVal) =>
      if !cg.1.ok then "FUEL" else (canonY kindOf tys cg.1.cache cg.1.out fuel [] cg.2).2)
    -- two parameters never share a Go value: each has its own identity cache
    " | ".intercalate shown ++ " | same=false | str=" ++
      (match convArgStr (parseJArg sarg) with | some s => s | none => "?")
  | _ => "BADLINE"

/-! ### KS: nested-wrapper histories through the documented semantics (NestedSpec.lean) -/

def dumpK (s : KSp) (pre : String) : String :=
  let sl := (List.range s.len).map (fun i => showInt (s.x i) ++ "/" ++ showInt (s.y i))
  let hs := (List.range s.nh).map (fun w => showInt (s.curX w) ++ "/" ++ showInt (s.curY w))
  let ns := s.par.map (fun p => showInt (s.curX p))
  pre ++ "len=" ++ toString s.len ++ " s=[" ++ ",".intercalate sl ++ "] h=[" ++ ",".intercalate hs ++ "] n=[" ++
    ",".intercalate ns ++ "]"

/-- `none`: the operation was skipped by the harness guard (copy from beyond the end): nothing is promised after it -/
def runKOp (s : KSp) (tok : String) : Option (KSp × String) :=
  match tok.splitOn ":" with
  | ["get", i] =>
      let i := nat! i
      if s.len ≤ i then some (s, "g=- ") else
      match s.findAtt i with
      | some w => some (s, "g=" ++ toString w ++ " ")
      | none => some ({ s with h := updN s.h s.nh (.att i), nh := s.nh + 1 }, "g=" ++ toString s.nh ++ " ")
  | ["in", hh] =>
      let p := nat! hh
      if s.nh ≤ p then some (s, "") else
      match handleNo s.par p with
      | some k => some (s, "n=" ++ toString k ++ " ")
      | none => some ({ s with par := s.par ++ [p] }, "n=" ++ toString s.par.length ++ " ")
  | ["set", i, x] => some (s.assign (nat! i) (int! x) 0, "")
  | ["cp", i, j] =>
      let j := nat! j
      if s.len ≤ j then none else some (s.assign (nat! i) (s.x j) (s.y j), "")
  | ["wx", k, x] =>
      match s.par[nat! k]? with
      | some p => some (s.writeX p (int! x), "")
      | none => some (s, "")
  | ["wpx", hh, x] => some (s.writeX (nat! hh) (int! x), "")
  | ["gw", i, x] => some (if nat! i < s.len then { s with x := updN s.x (nat! i) (int! x) } else s, "")
  | ["len", n] => some (s.setLen (nat! n), "")
  | ["sort"] => some (s.sort, "")
  | _ => some (s, "BADOP ")

def runKS (ws : List String) : String :=
  match ws with
  | _ :: vals :: "|" :: ops =>
    let vs : List Int := if vals = "-" then [] else (vals.splitOn ",").map int!
    let init : KSp := { len := vs.length, x := fun i => vs.getD i 0, y := fun i => if i < vs.length then 100 + i else 0,
                        h := fun _ => .det 0 0, nh := 0, par := [] }
    let (_, outs, _) := ops.foldl (fun (acc : KSp × List String × Bool) tok =>
        let (s, outs, dead) := acc
        if dead then (s, "?" :: outs, true) else
        match runKOp s tok with
        | some (s', pre) => (s', dumpK s' pre :: outs, false)
        | none => (s, "?" :: outs, true)) (init, [], false)
    " ; ".intercalate outs.reverse
  | _ => "BADLINE"

def handle (line : String) : String :=
  match words line with
  | "W" :: rest => runW rest
  | "WS" :: rest => runWS rest
  | "N" :: rest => runN rest
  | "F" :: rest => runF rest
  | "S" :: rest => runS rest
  | "X" :: rest => runX false rest      -- since 29d16ec Map / Set objects go through get-then-put like every object
  | "XOLD" :: rest => runX true rest   -- the mechanism before 29d16ec (regression model)
  | "XS" :: rest => runX false rest
  | "M" :: rest => runM rest
  | "C" :: rest => runC rest
  | "A" :: rest => runA rest
  | "D" :: rest => GojaModel.C13.DispatchDriver.runD rest
  | "DS" :: rest => GojaModel.C13.DispatchDriver.runDS rest
  | "Y" :: rest => runY rest
  | "B" :: rest => runB rest
  | "KS" :: rest => runKS rest
  | "I" :: rest => runI rest
  | "J" :: rest => runJ rest
  | _ => "BADLINE"

def main : IO Unit := lineMap handle

end GojaModel.C13.Driver
