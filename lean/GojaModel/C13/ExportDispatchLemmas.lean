/-
  C13 — typed export dispatch (ExportDispatch.lean): the mechanism against the sentences of the documentation, and the
  catalogue of the D stream against the well-formedness hypothesis of that comparison (the catalogue itself is data of
  the driver, DispatchDriver.lean, hence that import; `catalogueNames` and `wfB` are defined here).
-/
import GojaModel.C13.DispatchDriver

namespace GojaModel.C13

/-- "the mechanism's outcome `m` is what the documentation says for the element list `doc`" — the statement of
    `exportTo_containers_as_documented` with the documented elements and the outcome as parameters -/
def SeqAgrees (s : JSrc) (d : Dest) (doc : Option (List DV)) (m : Outcome) : Prop :=
  (∀ l, doc = some l →
      (fits d l.length = true → m = .seq l) ∧
      (fits d l.length = false → ∃ e, m = .err e ∧ e ≠ .notArrayOrIterable)) ∧
  (doc = none →
      (s.kind = .bytes ∧ d = .bytes → m = .bytesView s.byteLen) ∧
      (¬ (s.kind = .bytes ∧ d = .bytes) → m = .err .notArrayOrIterable))

theorem SeqAgrees.elems (s : JSrc) (d : Dest) (l : List DV) {e : DErr} (he : e ≠ .notArrayOrIterable) :
    SeqAgrees s d (some l) (if fits d l.length then .seq l else .err e) := by
  refine ⟨fun l' hl => ?_, fun h => nomatch h⟩
  cases hl
  refine ⟨fun hf => if_pos hf, fun hf => ?_⟩
  exact ⟨e, if_neg (by simp [hf]), he⟩

theorem SeqAgrees.notSeq (s : JSrc) (d : Dest) (h : ¬ (s.kind = .bytes ∧ d = .bytes)) :
    SeqAgrees s d none (.err .notArrayOrIterable) :=
  ⟨fun _ hl => (nomatch hl), fun _ => ⟨fun hb => absurd hb h, fun _ => rfl⟩⟩

theorem genericSeq_doc (s : JSrc) (d : Dest) (hwf : s.WF) (hb : ¬ (s.kind = .bytes ∧ d = .bytes)) :
    SeqAgrees s d (if s.hasIter then some s.iter
      else if !s.callable ∧ s.length.isSome then some (s.idx.take (s.length.getD 0)) else none) (genericSeq s d) := by
  unfold genericSeq
  cases s.hasIter with
  | true => exact .elems s d s.iter (by decide)
  | false =>
    cases hc : s.callable with
    | true => exact .notSeq s d hb
    | false =>
      cases hlen : s.length with
      | none => exact .notSeq s d hb
      | some n =>
        have htake : (s.idx.take n).length = n := by
          rw [List.length_take]; exact Nat.min_eq_left (hwf.idxLen n hlen)
        have := SeqAgrees.elems s d (s.idx.take n) (e := .lenArrayLike) (by decide)
        rw [htake] at this
        simpa using this

theorem typed_export_seq (s : JSrc) (d : Dest) (hwf : s.WF) (hd : d ≠ .map) :
    SeqAgrees s d (docSeqElems s d) (mech s d) := by
  have hmech : mech s d = mechSeq s d := by cases d <;> first | rfl | exact absurd rfl hd
  rw [hmech, mechSeq, docSeqElems]
  -- the AssignableTo shortcut: an Array / Set into []interface{} is its plain Export
  by_cases hsc : d = .slice ∧ (s.kind = .array ∨ s.kind = .set)
  · have := SeqAgrees.elems s d s.values (e := .lenSet) (by decide)
    rw [hsc.1] at this ⊢
    rcases hsc.2 with hk | hk <;> simpa [hk, fits] using this
  rw [if_neg hsc, if_neg (fun h => hsc ⟨h.1, .inl h.2⟩), classSeq]
  cases hk : s.kind with
  | set => exact .elems s d s.values (by decide)
  | array =>
    cases hid : s.iterDefault with
    | true =>
      have ⟨h1, h2⟩ := hwf.arrIter hk hid
      simpa [h1, h2] using SeqAgrees.elems s d s.values (e := .lenArray) (by decide)
    | false => simpa [hk] using genericSeq_doc s d hwf (by simp [hk])
  | map => simpa [hk] using genericSeq_doc s d hwf (by simp [hk])
  | other => simpa [hk] using genericSeq_doc s d hwf (by simp [hk])
  | bytes =>
    by_cases hb : d = .bytes
    · simpa [hb, SeqAgrees] using hk
    · simpa [hk, hb] using genericSeq_doc s d hwf (by simp [hb])

/-- REGRESSION RECORD (before 6fa4053): a Set reached twice through a map-typed destination within one ExportTo
    (`var s = new Set([1]); [s, s]` into `[]map[interface{}]interface{}`) gave two different Go maps. -/
theorem set_into_map_not_cached_prefix_witness : cachesTypedOld .set .map = false := rfl

end GojaModel.C13

namespace GojaModel.C13.DispatchDriver
open GojaModel.C13

def catalogueNames : List String :=
  ["arr", "arrHole", "arrEmpty", "arr2", "arrIter", "arrIterGone", "set", "setEmpty", "map", "u8", "i16", "dv", "ab", "alike",
   "alikeHole", "fn", "plain", "gen", "iterObj", "proxyArr"]

def wfB (s : JSrc) : Bool :=
  (!(s.kind == .array && s.iterDefault) || (s.hasIter && s.iter == s.values)) &&
  (s.kind == .other || !s.callable) &&
  (match s.length with | some l => decide (l ≤ s.idx.length) | none => true)

theorem wfB_sound (s : JSrc) (h : wfB s = true) : s.WF := by
  simp only [wfB, Bool.and_eq_true, Bool.or_eq_true, Bool.not_eq_true', beq_iff_eq, Bool.and_eq_false_iff] at h
  obtain ⟨⟨h1, h2⟩, h3⟩ := h
  refine ⟨?_, ?_, ?_⟩
  · intro hk hid
    rcases h1 with h1 | h1
    · rcases h1 with h1 | h1
      · simp [hk] at h1
      · rw [hid] at h1; cases h1
    · exact ⟨h1.1, by simpa using h1.2⟩
  · intro hk
    rcases h2 with h2 | h2
    · exact absurd (by simpa using h2) hk
    · exact h2
  · intro l hl
    rw [hl] at h3
    simpa using h3

theorem catalogue_wf (n : String) (s : JSrc) (hs : catalogue n = some s) : s.WF := by
  apply wfB_sound
  unfold catalogue at hs
  split at hs <;> first | (cases hs; decide) | cases hs

end GojaModel.C13.DispatchDriver
