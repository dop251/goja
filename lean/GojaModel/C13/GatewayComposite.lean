/-
  C13 — composite and string parameters of the Go-func gateway (wrapReflectFunc, runtime.go:2066-2088):
  every script argument is converted with `r.toReflectValue(a, v, &objectExportCtx{})` — the typed traversal of
  ExportTo.lean with a FRESH identity cache per argument; a `string` parameter receives `v.String()` (the zero value for
  undefined / null).
-/
import GojaModel.C13.Gateway
import GojaModel.C13.ExportTo

namespace GojaModel.C13

/-- toReflectValue into a `string` parameter, for the argument classes whose text this model fixes: integer Numbers
    (decimal), booleans, undefined / null (export type nil → zero value "").  `none`: a non-integral or special Number,
    whose text is the number-to-string algorithm (property C12). -/
def convArgStr : JArg → Option String
  | .num (.int i) => some (toString i)
  | .num (.flt _) => none
  | .bool b => some (if b then "true" else "false")
  | .undef => some ""
  | .null => some ""

/-- a struct-pointer / map / slice / interface{} parameter: the typed traversal, started with an empty cache -/
def gatewayArgT (js : Nat → JFields) (tys : Nat → TyDef) (asU : Nat → Nat → Bool) (fuel : Nat) (a : JVal) (ty : Ty) :
    TCtx × GVal :=
  expTo js tys asU fuel TCtx.empty a ty

def gatewayArgsT (js : Nat → JFields) (tys : Nat → TyDef) (asU : Nat → Nat → Bool) (fuel : Nat) :
    List (JVal × Ty) → List (TCtx × GVal)
  | [] => []
  | (a, ty) :: rest => gatewayArgT js tys asU fuel a ty :: gatewayArgsT js tys asU fuel rest

theorem gatewayArgsT_eq_map (js : Nat → JFields) (tys : Nat → TyDef) (asU : Nat → Nat → Bool) (fuel : Nat) :
    ∀ args, gatewayArgsT js tys asU fuel args = args.map fun p => gatewayArgT js tys asU fuel p.1 p.2
  | [] => rfl
  | (_, _) :: rest => by rw [gatewayArgsT, gatewayArgsT_eq_map js tys asU fuel rest]; rfl

theorem gatewayArgsT_length (js : Nat → JFields) (tys : Nat → TyDef) (asU : Nat → Nat → Bool) (fuel : Nat) :
    ∀ args, (gatewayArgsT js tys asU fuel args).length = args.length :=
  fun args => by rw [gatewayArgsT_eq_map, List.length_map]

theorem gatewayArgsT_get (js : Nat → JFields) (tys : Nat → TyDef) (asU : Nat → Nat → Bool) (fuel : Nat)
    (args : List (JVal × Ty)) (i : Nat) (a : JVal) (ty : Ty) (h : args[i]? = some (a, ty)) :
    (gatewayArgsT js tys asU fuel args)[i]? = some (gatewayArgT js tys asU fuel a ty) := by
  rw [gatewayArgsT_eq_map, List.getElem?_map, h]; rfl

end GojaModel.C13
