/-
  C13 — which Go container each script object exports into, and with which elements in which order
  (ExportTo into slice / array / map destinations): the per-class `exportToArrayOrSlice` / `exportToMap` methods
  (array.go:538, array_sparse.go:482, builtin_set.go:69 / 94, builtin_map.go:73, typedarrays.go:990 / 1014 / 1297,
  object.go:1037 genericExportToArrayOrSlice / 993 genericExportToMap) as a mechanism model, and the documented
  behaviour (the "Slice types / Array types / Map types" sections of the ExportTo doc comment, runtime.go) as a spec.
  Core Lean only.
-/
namespace GojaModel.C13

/-- an exported element, as far as this model looks: a number, nil (hole / undefined), or a [k, v] pair -/
inductive DV where
  | int (i : Int) | nil | pair (k v : Int)
deriving DecidableEq, Repr

/-- implementation class of the source object = which method runs -/
inductive SrcKind where
  | array        -- arrayObject / sparseArrayObject
  | set | map
  | bytes        -- typed array / DataView / ArrayBuffer
  | other        -- baseObject and everything that delegates to the generic functions
deriving DecidableEq, Repr

structure JSrc where
  kind : SrcKind
  iterDefault : Bool              -- arrays: Symbol.iterator is %Array.prototype.values% (or absent)
  hasIter : Bool                  -- GetMethod(o, Symbol.iterator) is a function
  callable : Bool
  length : Option Nat             -- ToLength(o.length) if there is a `length` property
  values : List DV                -- arrays: the element storage; Sets: elements in insertion order
  iter : List DV                  -- what iterating o yields
  idx : List DV                   -- o[0], o[1], … (as many as `length` says)
  entries : List (Int × Int)      -- Maps: entries in insertion order
  props : List (String × DV)      -- own enumerable string-keyed properties, in key order
  byteLen : Nat                   -- bytes-backed objects: length of the viewed byte range

inductive Dest where
  | slice            -- []interface{}: an Array's / Set's own export type
  | sliceT           -- any other slice type ([]int, …)
  | bytes | arr (n : Nat) | map
deriving DecidableEq, Repr

inductive DErr where
  | lenArray | lenIterable | lenArrayLike | lenSet | notArrayOrIterable
deriving DecidableEq, Repr

inductive Outcome where
  | seq (l : List DV)             -- a slice / array holding these elements in this order
  | bytesView (n : Nat)           -- a []byte backed by the buffer
  | entries (l : List (Int × Int))
  | keysZero (l : List DV)        -- Set into a map: element ↦ zero value
  | props (l : List (String × DV))
  | err (e : DErr)
deriving DecidableEq, Repr

def fits (d : Dest) (n : Nat) : Bool :=
  match d with
  | .arr m => m == n
  | _ => true

/-- genericExportToArrayOrSlice (object.go): iterable first, then array-like (not for callables), else error -/
def genericSeq (s : JSrc) (d : Dest) : Outcome :=
  if s.hasIter then
    if fits d s.iter.length then .seq s.iter else .err .lenIterable
  else
    match (if s.callable then none else s.length) with
    | none => .err .notArrayOrIterable
    | some l => if fits d l then .seq (s.idx.take l) else .err .lenArrayLike

/-- o.self.exportToArrayOrSlice, per implementation class -/
def classSeq (s : JSrc) (d : Dest) : Outcome :=
  match s.kind with
  | .array =>
      if s.iterDefault then
        (if fits d s.values.length then .seq s.values else .err .lenArray)     -- fast path over the storage
      else genericSeq s d
  | .set => if fits d s.values.length then .seq s.values else .err .lenSet
  | .bytes => if d = .bytes then .bytesView s.byteLen else genericSeq s d
  | .map => genericSeq s d
  | .other => genericSeq s d

/-- toReflectValue Slice/Array case; BEFORE the per-class method, the AssignableTo loop (runtime.go:2154): an Array or
    Set exported into []interface{} — its own export type — is its plain Export(), i.e. the element storage / the
    elements, whatever its Symbol.iterator is. -/
def mechSeq (s : JSrc) (d : Dest) : Outcome :=
  if d = .slice ∧ (s.kind = .array ∨ s.kind = .set) then .seq s.values else classSeq s d

/-- toReflectValue Map case → o.self.exportToMap, per class -/
def mechMap (s : JSrc) : Outcome :=
  match s.kind with
  | .map => .entries s.entries
  | .set => .keysZero s.values
  | _ => .props s.props

def mech (s : JSrc) (d : Dest) : Outcome :=
  match d with
  | .map => mechMap s
  | _ => mechSeq s d

/-- Does the per-class method enter the container it builds into the identity cache (`ctx.putTyped`, or `ctx.put` on
    the AssignableTo path) — so that the same object reached again through a destination of the same type is the same
    Go value?  As coded since 6fa4053: every method does. -/
def cachesTyped (_k : SrcKind) (_d : Dest) : Bool := true

/-- the code BEFORE 6fa4053 (regression model): every method did, except setObject.exportToMap. -/
def cachesTypedOld (k : SrcKind) (d : Dest) : Bool :=
  !(k == .set && d == .map)

/-! ### the documentation (ExportTo doc comment), clause by clause -/

/-- "Exporting an ES Set into a slice type results in its elements being exported.  Exporting any Object that
    implements the iterable protocol into a slice type results in the slice being populated with the results of the
    iteration.  Array is treated as iterable (i.e. overwriting Symbol.iterator affects the result).  If an object has a
    'length' property and is not a function it is treated as array-like […] obj[0], ... obj[length-1].  ArrayBuffer
    and ArrayBuffer-backed types can be exported into []byte […] no copy.  For any other Object an error is returned.
    Array types: anything that can be exported to a slice type can also be exported to an array type, as long as the
    lengths match." -/
def docSeqElems (s : JSrc) (d : Dest) : Option (List DV) :=
  -- "Exporting to an interface{} results in a value of the same type as Value.Export() would produce": a destination
  -- of exactly the object's export type takes that path too (Array / Set into []interface{})
  if d = .slice ∧ s.kind = .array then some s.values
  else if s.kind = .set then some s.values
  else if s.kind = .bytes ∧ d = .bytes then none                       -- handled separately (a view, not elements)
  else if s.hasIter then some s.iter
  else if !s.callable ∧ s.length.isSome then some (s.idx.take (s.length.getD 0))
  else none

/-- "An ES Map can be exported into a Go map type.  Exporting an ES Set into a map type results in the map being
    populated with (element) -> (zero value) pairs.  Any other Object populates the map with own enumerable non-symbol
    properties." -/
def docMap (s : JSrc) : Outcome :=
  if s.kind = .map then .entries s.entries
  else if s.kind = .set then .keysZero s.values
  else .props s.props

/-- A well-formed description: an array whose iterator is the default one yields its storage when iterated, it has
    an iterator, and arrays / Sets / Maps / bytes-backed objects are not callable. -/
structure JSrc.WF (s : JSrc) : Prop where
  arrIter : s.kind = .array → s.iterDefault = true → s.hasIter = true ∧ s.iter = s.values
  notCallable : s.kind ≠ .other → s.callable = false
  idxLen : ∀ l, s.length = some l → l ≤ s.idx.length

end GojaModel.C13
