/-
  C13 — the export traversals (ExportTo.lean, Export.lean) preserve sharing and cycles.  `ExtT`: across any call the
  cache and the list of finished values only grow at the end, new values are images of their objects, the cache stays
  duplicate-free, every allocation is completed; fuel sufficiency by pigeonhole on the duplicate-free cache.  All of
  it is proved for the typed traversal `expTo`; the untyped `expVal` is its instance at destination type `interface{}`.
-/
import GojaModel.C13.ExportTo

namespace GojaModel.C13

theorem findKey_eq (key : Nat × Nat) : ∀ l, findKey key l = l.idxOf? key
  | [] => rfl
  | x :: xs => by
    rw [findKey, findKey_eq key xs, List.idxOf?_cons]
    by_cases h : x = key <;> simp [h]

theorem findKey_some {key : Nat × Nat} {l : List (Nat × Nat)} {a : Nat} (h : findKey key l = some a) :
    l[a]? = some key := by
  rw [findKey_eq] at h
  obtain ⟨hlt, he, _⟩ := List.idxOf?_eq_some_iff.mp h
  rw [List.getElem?_eq_getElem hlt, he]

theorem findKey_none {key : Nat × Nat} {l : List (Nat × Nat)} (h : findKey key l = none) : key ∉ l := by
  rw [findKey_eq] at h
  exact List.idxOf?_eq_none_iff.mp h

theorem nodup_snoc {key : Nat × Nat} {l : List (Nat × Nat)} (hn : l.Nodup) (h : findKey key l = none) :
    (l ++ [key]).Nodup := by
  rw [List.nodup_append]
  refine ⟨hn, by simp, ?_⟩
  intro x hx y hy
  simp at hy; subst hy
  intro e; subst e
  exact findKey_none h hx

theorem getElem?_append_mono {α : Type} {l suf : List α} {a : Nat} {x : α} (h : l[a]? = some x) :
    (l ++ suf)[a]? = some x := by
  rw [List.getElem?_append_left (List.getElem?_eq_some_iff.mp h).1]; exact h

theorem ImgT.mono {asU : Nat → Nat → Bool} {cache suf : List (Nat × Nat)} {v : JVal} {ty : Ty} {g : GVal}
    (h : ImgT asU cache v ty g) : ImgT asU (cache ++ suf) v ty g := by
  cases v <;> cases g <;> simp only [ImgT] at h ⊢
  · exact h
  · exact getElem?_append_mono h

theorem ImgKids.mono {asU : Nat → Nat → Bool} {cache suf : List (Nat × Nat)} :
    ∀ {ks : List (Nat × JVal × Ty)} {gs : GFields}, ImgKids asU cache ks gs → ImgKids asU (cache ++ suf) ks gs
  | [], [], _ => trivial
  | (_, _, _) :: _, (_, _) :: _, h => ⟨h.1, h.2.1.mono, ImgKids.mono h.2.2⟩
  | [], _ :: _, h => h.elim
  | _ :: _, [], h => h.elim

theorem OutGoodT.mono {js : Nat → JFields} {tys : Nat → TyDef} {asU : Nat → Nat → Bool}
    {cache suf : List (Nat × Nat)} {e : Nat × GFields} (h : OutGoodT js tys asU cache e) :
    OutGoodT js tys asU (cache ++ suf) e := by
  obtain ⟨id, ty, h1, h2⟩ := h
  exact ⟨id, ty, getElem?_append_mono h1, h2.mono⟩

structure ExtT (js : Nat → JFields) (tys : Nat → TyDef) (asU : Nat → Nat → Bool) (c c' : TCtx) : Prop where
  okmono : c'.ok = true → c.ok = true
  cachePre : ∃ suf, c'.cache = c.cache ++ suf
  outPre : ∃ osuf, c'.out = c.out ++ osuf ∧ (c'.ok = true → ∀ e ∈ osuf, OutGoodT js tys asU c'.cache e)
  nodup : c.cache.Nodup → c'.cache.Nodup
  count : c'.out.length + c.cache.length = c.out.length + c'.cache.length

theorem ExtT.refl (js : Nat → JFields) (tys : Nat → TyDef) (asU : Nat → Nat → Bool) (c : TCtx) : ExtT js tys asU c c :=
  ⟨fun h => h, ⟨[], by simp⟩, ⟨[], by simp, fun _ _ h => by cases h⟩, fun h => h, rfl⟩

theorem ExtT.trans {js : Nat → JFields} {tys : Nat → TyDef} {asU : Nat → Nat → Bool} {a b c : TCtx}
    (h1 : ExtT js tys asU a b) (h2 : ExtT js tys asU b c) : ExtT js tys asU a c := by
  obtain ⟨s1, hs1⟩ := h1.cachePre
  obtain ⟨s2, hs2⟩ := h2.cachePre
  obtain ⟨o1, ho1, hg1⟩ := h1.outPre
  obtain ⟨o2, ho2, hg2⟩ := h2.outPre
  refine ⟨fun h => h1.okmono (h2.okmono h), ⟨s1 ++ s2, by rw [hs2, hs1, List.append_assoc]⟩,
    ⟨o1 ++ o2, by rw [ho2, ho1, List.append_assoc], ?_⟩, fun h => h2.nodup (h1.nodup h), ?_⟩
  · intro hok e he
    rcases List.mem_append.mp he with he | he
    · have := hg1 (h2.okmono hok) e he
      rw [hs2]; exact this.mono
    · exact hg2 hok e he
  · have := h1.count; have := h2.count; omega

def ValSpecT (js : Nat → JFields) (tys : Nat → TyDef) (asU : Nat → Nat → Bool) (c : TCtx) (v : JVal) (ty : Ty)
    (r : TCtx × GVal) : Prop :=
  ExtT js tys asU c r.1 ∧ (r.1.ok = true → ImgT asU r.1.cache v ty r.2)

theorem expToFields_spec {js : Nat → JFields} {tys : Nat → TyDef} {asU : Nat → Nat → Bool}
    {ev : TCtx → JVal → Ty → TCtx × GVal} (hev : ∀ c v ty, ValSpecT js tys asU c v ty (ev c v ty)) :
    ∀ (ks : List (Nat × JVal × Ty)) (c : TCtx),
      ExtT js tys asU c (expToFields ev c ks).1 ∧
      ((expToFields ev c ks).1.ok = true → ImgKids asU (expToFields ev c ks).1.cache ks (expToFields ev c ks).2)
  | [], c => ⟨ExtT.refl js tys asU c, fun _ => trivial⟩
  | (k, v, ty) :: rest, c => by
    simp only [expToFields]
    have h1 := hev c v ty
    have h2 := expToFields_spec hev rest (ev c v ty).1
    refine ⟨h1.1.trans h2.1, ?_⟩
    intro hok
    obtain ⟨suf, hsuf⟩ := h2.1.cachePre
    refine ⟨rfl, ?_, h2.2 hok⟩
    have := h1.2 (h2.1.okmono hok)
    rw [hsuf]; exact this.mono

theorem expTo_spec (js : Nat → JFields) (tys : Nat → TyDef) (asU : Nat → Nat → Bool) :
    ∀ (fuel : Nat) (c : TCtx) (v : JVal) (ty : Ty), ValSpecT js tys asU c v ty (expTo js tys asU fuel c v ty)
  | _, c, .prim p, ty => by
    cases ‹Nat› <;> exact ⟨ExtT.refl js tys asU c, fun _ => rfl⟩
  | _, c, .hole, ty => by
    cases ‹Nat› <;> exact ⟨ExtT.refl js tys asU c, fun _ => trivial⟩
  | 0, c, .ref id, ty => by
    refine ⟨⟨fun h => by simp [expTo] at h, ⟨[], by simp [expTo]⟩, ⟨[], by simp [expTo], fun _ _ h => by cases h⟩,
      fun h => h, rfl⟩, fun h => by simp [expTo] at h⟩
  | fuel + 1, c, .ref id, ty => by
    simp only [expTo]
    cases hf : findKey (id, (normTy asU id ty).code) c.cache with
    | some a => exact ⟨ExtT.refl js tys asU c, fun _ => findKey_some hf⟩
    | none =>
      simp only
      have hfs := expToFields_spec (expTo_spec js tys asU fuel) (kidsOf js tys id (normTy asU id ty))
        { c with cache := c.cache ++ [(id, (normTy asU id ty).code)] }
      generalize expToFields (expTo js tys asU fuel) { c with cache := c.cache ++ [(id, (normTy asU id ty).code)] }
        (kidsOf js tys id (normTy asU id ty)) = r at hfs
      obtain ⟨hext, himg⟩ := hfs
      obtain ⟨suf, hsuf⟩ := hext.cachePre
      obtain ⟨osuf, hosuf, hgood⟩ := hext.outPre
      have hidx : r.1.cache[c.cache.length]? = some (id, (normTy asU id ty).code) := by
        rw [hsuf]; simp
      refine ⟨⟨?_, ⟨[(id, (normTy asU id ty).code)] ++ suf, by simp [hsuf]⟩,
        ⟨osuf ++ [(c.cache.length, r.2)], by simp [hosuf], ?_⟩, ?_, ?_⟩, ?_⟩
      · intro h; exact hext.okmono h
      · intro hok e he
        rcases List.mem_append.mp he with he | he
        · exact hgood hok e he
        · simp at he; subst he
          exact ⟨id, normTy asU id ty, hidx, himg hok⟩
      · intro hnd
        exact hext.nodup (nodup_snoc hnd hf)
      · have := hext.count
        simp only [List.length_append, List.length_cons, List.length_nil] at this ⊢
        omega
      · intro _; exact hidx

def TyIn (T : Nat) : Ty → Prop
  | .iface => True
  | .named t => t < T

def TyClosed (tys : Nat → TyDef) (T : Nat) : Prop :=
  ∀ t, t < T → match tys t with
    | .structPtr fs => ∀ kf ∈ fs, TyIn T kf.2
    | .mapOf e => TyIn T e
    | .sliceOf e => TyIn T e

def ClosedJ (js : Nat → JFields) (N : Nat) : Prop :=
  ∀ id, id < N → ∀ kv ∈ js id, ∀ r, kv.2 = .ref r → r < N

def ValInN (N : Nat) : JVal → Prop
  | .ref r => r < N
  | _ => True

theorem lookupField_mem : ∀ {fs : JFields} {k : Nat} {v : JVal}, lookupField fs k = some v → (k, v) ∈ fs
  | [], _, _, h => by simp [lookupField] at h
  | (k', v') :: rest, k, v, h => by
    simp only [lookupField] at h
    split at h
    · rename_i hk; cases h; subst hk; simp
    · exact List.mem_cons_of_mem _ (lookupField_mem h)

theorem TyIn_code {T : Nat} {ty : Ty} (h : TyIn T ty) : ty.code ≤ T := by
  cases ty with
  | iface => simp [Ty.code]
  | named t => simp only [TyIn] at h; simp only [Ty.code]; omega

theorem normTy_in {asU : Nat → Nat → Bool} {id T : Nat} {ty : Ty} (h : TyIn T ty) : TyIn T (normTy asU id ty) := by
  cases ty with
  | iface => exact h
  | named t => simp only [normTy]; split <;> first | trivial | exact h

theorem nodup_pairs_length {l : List (Nat × Nat)} {N T : Nat} (hn : l.Nodup)
    (hb : ∀ x ∈ l, x.1 < N ∧ x.2 ≤ T) : l.length ≤ N * (T + 1) := by
  have hmap : (l.map (fun x => x.1 * (T + 1) + x.2)).Nodup := by
    unfold List.Nodup
    rw [List.pairwise_map]
    refine List.Pairwise.imp_of_mem ?_ hn
    intro a b ha hb' hne heq
    apply hne
    have h1 := hb a ha
    have h2 := hb b hb'
    have e1 : a.1 = b.1 := by
      have ha' : (a.1 * (T + 1) + a.2) / (T + 1) = a.1 := by
        rw [Nat.mul_comm, Nat.mul_add_div (by omega), Nat.div_eq_of_lt (by omega)]; simp
      have hb'' : (b.1 * (T + 1) + b.2) / (T + 1) = b.1 := by
        rw [Nat.mul_comm, Nat.mul_add_div (by omega), Nat.div_eq_of_lt (by omega)]; simp
      rw [← ha', ← hb'', heq]
    have e2 : a.2 = b.2 := by rw [e1] at heq; omega
    exact Prod.ext e1 e2
  have hsub : l.map (fun x => x.1 * (T + 1) + x.2) ⊆ List.range (N * (T + 1)) := by
    intro y hy
    obtain ⟨x, hx, rfl⟩ := List.mem_map.mp hy
    have := hb x hx
    rw [List.mem_range]
    calc x.1 * (T + 1) + x.2 < x.1 * (T + 1) + (T + 1) := by omega
      _ = (x.1 + 1) * (T + 1) := by rw [Nat.add_mul]; simp
      _ ≤ N * (T + 1) := Nat.mul_le_mul_right _ (by omega)
  have := hmap.length_le_of_subset hsub
  simpa using this

/-- The fuel measure: the fuel left plus the number of pairs already cached stays above `N * (T + 1)`, the number of
    pairs there are — a nested call has one unit less and one pair more — so a reference never meets fuel 0
    (`nodup_pairs_length`). -/
def FuelSpecT (N T f : Nat) (c : TCtx) (v : JVal) (ty : Ty) (r : TCtx × GVal) : Prop :=
  c.cache.Nodup → (∀ x ∈ c.cache, x.1 < N ∧ x.2 ≤ T) → ValInN N v → TyIn T ty → N * (T + 1) + 1 ≤ f + c.cache.length →
    r.1.ok = c.ok ∧ (∀ x ∈ r.1.cache, x.1 < N ∧ x.2 ≤ T)

theorem expToFields_fuel {js : Nat → JFields} {tys : Nat → TyDef} {asU : Nat → Nat → Bool} {N T f : Nat}
    {ev : TCtx → JVal → Ty → TCtx × GVal}
    (hspec : ∀ c v ty, ValSpecT js tys asU c v ty (ev c v ty)) (hfuel : ∀ c v ty, FuelSpecT N T f c v ty (ev c v ty)) :
    ∀ (ks : List (Nat × JVal × Ty)) (c : TCtx), c.cache.Nodup → (∀ x ∈ c.cache, x.1 < N ∧ x.2 ≤ T) →
      (∀ k ∈ ks, ValInN N k.2.1 ∧ TyIn T k.2.2) → N * (T + 1) + 1 ≤ f + c.cache.length →
      (expToFields ev c ks).1.ok = c.ok ∧ (∀ x ∈ (expToFields ev c ks).1.cache, x.1 < N ∧ x.2 ≤ T)
  | [], c, _, hb, _, _ => ⟨rfl, hb⟩
  | (k, v, ty) :: rest, c, hn, hb, hin, hf => by
    simp only [expToFields]
    have hk := hin (k, v, ty) (by simp)
    have h1 := hfuel c v ty hn hb hk.1 hk.2 hf
    have e1 := (hspec c v ty).1
    obtain ⟨suf, hsuf⟩ := e1.cachePre
    have hlen : c.cache.length ≤ (ev c v ty).1.cache.length := by rw [hsuf]; simp
    have h2 := expToFields_fuel hspec hfuel rest (ev c v ty).1 (e1.nodup hn) h1.2
      (fun k hk' => hin k (by simp [hk'])) (by omega)
    exact ⟨h2.1.trans h1.1, h2.2⟩

theorem kidsOf_in {js : Nat → JFields} {tys : Nat → TyDef} {N T id : Nat} {ty : Ty}
    (hcl : ClosedJ js N) (htc : TyClosed tys T) (hid : id < N) (hty : TyIn T ty) :
    ∀ k ∈ kidsOf js tys id ty, ValInN N k.2.1 ∧ TyIn T k.2.2 := by
  have hval : ∀ kv ∈ js id, ValInN N kv.2 := by
    intro kv hkv
    cases hv : kv.2 with
    | ref r => exact hcl id hid kv hkv r hv
    | prim p => trivial
    | hole => trivial
  intro k hk
  cases ty with
  | iface =>
    simp only [kidsOf, List.mem_map] at hk
    obtain ⟨kv, hkv, rfl⟩ := hk
    exact ⟨hval kv hkv, trivial⟩
  | named t =>
    have ht : t < T := hty
    have hc := htc t ht
    simp only [kidsOf] at hk
    cases hd : tys t with
    | structPtr fs =>
      rw [hd] at hk hc
      simp only [List.mem_filterMap] at hk
      obtain ⟨kf, hkf, hsome⟩ := hk
      cases hl : lookupField (js id) kf.1 with
      | none => simp [hl] at hsome
      | some v =>
        simp [hl] at hsome
        subst hsome
        exact ⟨hval (kf.1, v) (lookupField_mem hl), hc kf hkf⟩
    | mapOf e | sliceOf e =>
      rw [hd] at hk hc
      simp only [List.mem_map] at hk
      obtain ⟨kv, hkv, rfl⟩ := hk
      exact ⟨hval kv hkv, hc⟩

theorem expTo_fuel (js : Nat → JFields) (tys : Nat → TyDef) (asU : Nat → Nat → Bool) (N T : Nat)
    (hcl : ClosedJ js N) (htc : TyClosed tys T) :
    ∀ (fuel : Nat) (c : TCtx) (v : JVal) (ty : Ty), FuelSpecT N T fuel c v ty (expTo js tys asU fuel c v ty)
  | fuel, c, .prim p, ty => by
    intro _ hb _ _ _
    cases fuel <;> exact ⟨rfl, hb⟩
  | fuel, c, .hole, ty => by
    intro _ hb _ _ _
    cases fuel <;> exact ⟨rfl, hb⟩
  | 0, c, .ref id, ty => by
    intro hn hb _ _ hf
    have := nodup_pairs_length hn hb
    omega
  | fuel + 1, c, .ref id, ty => by
    intro hn hb hin hty hf
    simp only [expTo]
    cases hfa : findKey (id, (normTy asU id ty).code) c.cache with
    | some a => exact ⟨rfl, hb⟩
    | none =>
      simp only
      have hid : id < N := hin
      have hty' : TyIn T (normTy asU id ty) := normTy_in hty
      have hnd1 := nodup_snoc hn hfa
      have hb1 : ∀ x ∈ c.cache ++ [(id, (normTy asU id ty).code)], x.1 < N ∧ x.2 ≤ T := by
        intro x hx
        rcases List.mem_append.mp hx with hx | hx
        · exact hb x hx
        · simp at hx; subst hx; exact ⟨hid, TyIn_code hty'⟩
      have hfs := expToFields_fuel (N := N) (T := T) (f := fuel) (expTo_spec js tys asU fuel)
        (expTo_fuel js tys asU N T hcl htc fuel)
        (kidsOf js tys id (normTy asU id ty)) { c with cache := c.cache ++ [(id, (normTy asU id ty).code)] } hnd1 hb1
        (kidsOf_in hcl htc hid hty')
        (by simp only [List.length_append, List.length_cons, List.length_nil]; omega)
      exact ⟨hfs.1, hfs.2⟩

theorem expTo_root_ok (js : Nat → JFields) (tys : Nat → TyDef) (asU : Nat → Nat → Bool) (N T root fuel : Nat) (ty : Ty)
    (hcl : ClosedJ js N) (htc : TyClosed tys T) (hr : root < N) (hty : TyIn T ty) (hf : N * (T + 1) + 1 ≤ fuel) :
    (expTo js tys asU fuel TCtx.empty (.ref root) ty).1.ok = true := by
  have := expTo_fuel js tys asU N T hcl htc fuel TCtx.empty (.ref root) ty (by simp [TCtx.empty])
    (by simp [TCtx.empty]) hr hty (by simp [TCtx.empty]; omega)
  exact this.1

/-! `expVal` (Export.lean) and `expTo` at destination type `iface` run the same code on the same cache, the untyped
  cache entry `id` standing for the typed entry `(id, 0)`; what is proved about `expTo` therefore holds of `expVal`. -/

def ECtx.typed (c : ECtx) : TCtx := { cache := c.cache.map (·, 0), out := c.out, ok := c.ok }

theorem findKey_typed (id : Nat) : ∀ l : List Nat, findKey (id, 0) (l.map (·, 0)) = findAddr id l
  | [] => rfl
  | x :: xs => by simp [findKey, findAddr, findKey_typed id xs]

theorem expToFields_iface {ev : ECtx → JVal → ECtx × GVal} {evT : TCtx → JVal → Ty → TCtx × GVal}
    (h : ∀ c v, evT c.typed v .iface = ((ev c v).1.typed, (ev c v).2)) : ∀ (fs : JFields) (c : ECtx),
    expToFields evT c.typed (fs.map fun kv => (kv.1, kv.2, Ty.iface)) = ((expFields ev c fs).1.typed, (expFields ev c fs).2)
  | [], _ => rfl
  | (k, v) :: rest, c => by
    simp only [List.map, expToFields, expFields, h, expToFields_iface h rest]

theorem expTo_iface (js : Nat → JFields) (tys : Nat → TyDef) (asU : Nat → Nat → Bool) :
    ∀ (fuel : Nat) (c : ECtx) (v : JVal),
      expTo js tys asU fuel c.typed v .iface = ((expVal js fuel c v).1.typed, (expVal js fuel c v).2)
  | fuel, c, .prim p => by cases fuel <;> rfl
  | fuel, c, .hole => by cases fuel <;> rfl
  | 0, c, .ref id => rfl
  | fuel + 1, c, .ref id => by
    have hput : ({ c.typed with cache := c.typed.cache ++ [(id, 0)] } : TCtx) =
        ({ c with cache := c.cache ++ [id] } : ECtx).typed := by simp [ECtx.typed]
    simp only [expTo, expVal, normTy, Ty.code, kidsOf]
    rw [show c.typed.cache = c.cache.map (·, 0) from rfl, findKey_typed]
    cases findAddr id c.cache with
    | some a => rfl
    | none =>
      simp only [List.length_map]
      rw [show ({ c.typed with cache := c.cache.map (·, 0) ++ [(id, 0)] } : TCtx) = _ from hput,
        expToFields_iface (expTo_iface js tys asU fuel)]
      rfl

theorem typed_getElem? {l : List Nat} {a id : Nat} : (l.map (·, 0))[a]? = some (id, 0) ↔ l[a]? = some id := by
  simp [List.getElem?_map]

theorem ImgT_iface {asU : Nat → Nat → Bool} {l : List Nat} {v : JVal} {g : GVal} :
    ImgT asU (l.map (·, 0)) v .iface g ↔ Img l v g := by
  cases v <;> cases g <;> simp only [ImgT, Img, normTy, Ty.code, typed_getElem?]

theorem ImgKids_iface {asU : Nat → Nat → Bool} {l : List Nat} : ∀ {fs : JFields} {gs : GFields},
    ImgKids asU (l.map (·, 0)) (fs.map fun kv => (kv.1, kv.2, Ty.iface)) gs ↔ ImgFields l fs gs
  | [], [] => Iff.rfl
  | [], _ :: _ => Iff.rfl
  | _ :: _, [] => Iff.rfl
  | (_, _) :: _, (_, _) :: _ => by simp only [List.map, ImgKids, ImgFields, ImgT_iface, ImgKids_iface]

theorem OutGoodT_iface {js : Nat → JFields} {tys : Nat → TyDef} {asU : Nat → Nat → Bool} {l : List Nat}
    {e : Nat × GFields} (h : OutGoodT js tys asU (l.map (·, 0)) e) : OutGood js l e := by
  obtain ⟨id, ty, hc, hk⟩ := h
  cases ty with
  | iface => exact ⟨id, typed_getElem?.mp hc, ImgKids_iface.mp hk⟩
  | named t => simp [List.getElem?_map, Ty.code] at hc

theorem exportRoot_typed (js : Nat → JFields) (tys : Nat → TyDef) (asU : Nat → Nat → Bool) (fuel root : Nat) :
    expTo js tys asU fuel TCtx.empty (.ref root) .iface =
      ((exportRoot js fuel root).1.typed, (exportRoot js fuel root).2) :=
  expTo_iface js tys asU fuel ECtx.empty (.ref root)

def Closed (js : Nat → JFields) (N : Nat) : Prop :=
  ∀ id, id < N → ∀ kv ∈ js id, ∀ r, kv.2 = .ref r → r < N

theorem exportRoot_ok (js : Nat → JFields) (N root fuel : Nat) (hcl : Closed js N) (hr : root < N)
    (hf : N + 1 ≤ fuel) : (exportRoot js fuel root).1.ok = true := by
  have h := expTo_root_ok js (fun _ => .sliceOf .iface) (fun _ _ => false) N 0 root fuel .iface hcl
    (fun t ht => absurd ht (Nat.not_lt_zero t)) hr trivial (by omega)
  rw [exportRoot_typed] at h
  exact h

end GojaModel.C13
