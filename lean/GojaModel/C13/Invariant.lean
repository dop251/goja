/-
  C13 — the WrapCache mechanism (Model.lean) operation by operation: the coherence invariant `Inv`; what each operation
  does to the cache, the wrappers and the slots, from which the preservation of `Inv` by every tracked operation is read
  off; the frame facts that need no invariant (`Frame`).
-/
import GojaModel.C13.Model

namespace GojaModel.C13

/-- The coherence invariant between `valueCache`, the wrappers and the Go slice header. -/
structure Inv (s : St) : Prop where
  noPanic : s.panic = false
  clen_le : s.clen ≤ s.len
  fresh : ∀ w, s.nw ≤ w → ∃ v, s.ws w = .own v
  cached_attached : ∀ i w, s.cacheGet i = some w → s.ws w = .cell s.cur i
  attached_cached : ∀ w b i, s.ws w = .cell b i → b = s.cur ∧ s.cacheGet i = some w

theorem cacheGet_lt {s : St} {i w : Nat} (h : s.cacheGet i = some w) : i < s.clen := by
  unfold St.cacheGet at h
  split at h
  · assumption
  · cases h

theorem Inv.cached_lt_nw {s : St} (I : Inv s) {i w : Nat} (h : s.cacheGet i = some w) : w < s.nw :=
  Nat.lt_of_not_le fun hn => by
    have ⟨v, hv⟩ := I.fresh w hn
    rw [I.cached_attached i w h] at hv
    cases hv

theorem Inv.cached_lt_len {s : St} (I : Inv s) {i w : Nat} (h : s.cacheGet i = some w) : i < s.len :=
  Nat.lt_of_lt_of_le (cacheGet_lt h) I.clen_le

theorem Inv.readW_cached {s : St} (I : Inv s) {i w : Nat} (h : s.cacheGet i = some w) : s.readW w = s.slot i := by
  rw [St.readW, I.cached_attached i w h]; rfl

theorem Inv.cached_inj {s : St} (I : Inv s) {i j w : Nat} (hi : s.cacheGet i = some w) (hj : s.cacheGet j = some w) :
    i = j := by
  have h1 := I.cached_attached i w hi
  have h2 := I.cached_attached j w hj
  rw [h1] at h2
  cases h2
  rfl

theorem Inv.not_cached_of_own {s : St} (I : Inv s) {w : Nat} {v : Val} (h : s.ws w = .own v) (i : Nat) :
    s.cacheGet i ≠ some w := fun hc => by
  have := I.cached_attached i w hc; rw [h] at this; cases this

theorem findCached_some {s : St} {w lo hi i : Nat} (h : s.findCached w lo hi = some i) :
    lo ≤ i ∧ i < hi ∧ s.cacheGet i = some w := by
  unfold St.findCached at h
  have hp := List.find?_some h
  have hm := List.mem_of_find?_eq_some h
  simp at hp
  simp at hm
  exact ⟨hp.1, hm, hp.2⟩

theorem findCached_none {s : St} {w lo hi : Nat} (h : s.findCached w lo hi = none) :
    ∀ i, lo ≤ i → i < hi → s.cacheGet i ≠ some w := by
  unfold St.findCached at h
  intro i hlo hhi hc
  have := List.find?_eq_none.mp h i (by simp; exact hhi)
  simp [hlo, hc] at this

theorem findCached_notCached {s : St} {w : Nat} (hn : ∀ i, s.cacheGet i ≠ some w) (lo hi : Nat) :
    s.findCached w lo hi = none := by
  cases hf : s.findCached w lo hi with
  | none => rfl
  | some j => exact absurd (findCached_some hf).2.2 (hn j)

theorem Inv.findCached_eq {s : St} (I : Inv s) (w lo : Nat) :
    s.findCached w lo s.clen = match s.ws w with
      | .cell _ j => if lo ≤ j then some j else none
      | .own _ => none := by
  cases hws : s.ws w with
  | own v => exact findCached_notCached (I.not_cached_of_own hws) lo s.clen
  | cell b j =>
    have hcj := (I.attached_cached w b j hws).2
    cases hf : s.findCached w lo s.clen with
    | none =>
      have : ¬ lo ≤ j := fun hlo => findCached_none hf j hlo (cacheGet_lt hcj) hcj
      simp [this]
    | some k =>
      have hk := findCached_some hf
      have := I.cached_inj hk.2.2 hcj
      subst this
      simp [hk.1]

theorem cacheGet_cachePut (s : St) (i w j : Nat) :
    (s.cachePut i w).cacheGet j = if j = i then some w else s.cacheGet j := by
  unfold St.cachePut St.cacheGet
  simp only
  by_cases hji : j = i
  · subst hji
    simp
    omega
  · simp only [hji, if_false]
    by_cases hj : j < s.clen
    · have : j < max s.clen (i + 1) := by omega
      simp [this, hj]
    · simp only [hj, if_false]
      split <;> rfl

theorem cacheGet_cacheClear (s : St) (i j : Nat) :
    (s.cacheClear i).cacheGet j = if j = i then none else s.cacheGet j := by
  unfold St.cacheClear St.cacheGet
  simp only
  by_cases hji : j = i
  · simp [hji]
  · simp [hji]

theorem inv_setMem {s : St} (I : Inv s) (m : Nat → Nat → Val) (l : Nat) (hl : s.clen ≤ l) :
    Inv { s with mem := m, len := l } :=
  ⟨I.noPanic, hl, I.fresh, I.cached_attached, I.attached_cached⟩

theorem inv_getIdx {s : St} (I : Inv s) (i : Nat) : Inv (s.getIdx i).1 := by
  by_cases hlen : s.len ≤ i
  · rw [St.getIdx, if_pos hlen]; exact I
  rw [St.getIdx, if_neg hlen]
  cases hc : s.cacheGet i with
  | some w => exact I
  | none =>
    have hws : ∀ w, (({ s with ws := updN s.ws s.nw (.cell s.cur i), nw := s.nw + 1 } : St).cachePut i s.nw).ws w =
        if w = s.nw then .cell s.cur i else s.ws w := fun _ => rfl
    refine ⟨I.noPanic, ?_, ?_, ?_, ?_⟩
    · have := I.clen_le; show max s.clen (i + 1) ≤ s.len; omega
    · intro w hw
      rw [hws, if_neg (show w ≠ s.nw from Nat.ne_of_gt (Nat.lt_of_succ_le hw))]
      exact I.fresh w (Nat.le_of_succ_le hw)
    · intro j w hj
      rw [cacheGet_cachePut] at hj
      rw [hws]
      by_cases hji : j = i
      · rw [if_pos hji] at hj; cases hj; rw [if_pos rfl, hji]; rfl
      · rw [if_neg hji] at hj
        rw [if_neg (Nat.ne_of_lt (I.cached_lt_nw hj))]
        exact I.cached_attached j w hj
    · intro w b j h
      rw [hws] at h
      rw [cacheGet_cachePut]
      by_cases hw : w = s.nw
      · rw [if_pos hw] at h; cases h; exact ⟨rfl, by rw [if_pos rfl, hw]⟩
      · rw [if_neg hw] at h
        have ⟨hb, hcj⟩ := I.attached_cached w b j h
        exact ⟨hb, by rw [if_neg (fun e => by rw [e, hc] at hcj; cases hcj)]; exact hcj⟩

theorem getIdx_cached {s : St} {i w : Nat} (hg : (s.getIdx i).2 = some w) :
    (s.getIdx i).1.cacheGet i = some w := by
  unfold St.getIdx at hg ⊢
  by_cases hl : s.len ≤ i
  · simp [hl] at hg
  · simp only [hl, if_false] at hg ⊢
    cases hcs : s.cacheGet i with
    | some w0 => simp only [hcs] at hg ⊢; cases hg; rfl
    | none => simp only [hcs] at hg ⊢; cases hg; rw [cacheGet_cachePut]; simp

theorem inv_writeW {s : St} (I : Inv s) (w : Nat) (x : Val) : Inv (s.writeW w x) := by
  unfold St.writeW
  split
  · exact inv_setMem I _ _ I.clen_le
  · rename_i v hv
    refine ⟨I.noPanic, I.clen_le, ?_, ?_, ?_⟩
    · intro w' hw'
      simp only [updN]
      split
      · exact ⟨x, rfl⟩
      · exact I.fresh w' hw'
    · intro i w' h
      have h' : s.cacheGet i = some w' := h
      have ha := I.cached_attached i w' h'
      simp only [updN]
      split
      · rename_i heq; subst heq; rw [hv] at ha; cases ha
      · exact ha
    · intro w' b i h
      simp only [updN] at h
      split at h
      · cases h
      · exact I.attached_cached w' b i h

theorem inv_detach_clear {s : St} (I : Inv s) {i w : Nat} (hc : s.cacheGet i = some w) :
    Inv ((s.detach w).cacheClear i) := by
  refine ⟨I.noPanic, I.clen_le, ?_, ?_, ?_⟩
  · intro w' hw'
    simp only [St.cacheClear, St.detach, updN]
    split
    · exact ⟨_, rfl⟩
    · exact I.fresh w' hw'
  · intro j w' h
    rw [cacheGet_cacheClear] at h
    split at h
    · cases h
    · rename_i hji
      have h' : s.cacheGet j = some w' := h
      simp only [St.cacheClear, St.detach, updN]
      split
      · rename_i heq; subst heq; exact absurd (I.cached_inj h' hc) hji
      · exact I.cached_attached j w' h'
  · intro w' b j h
    simp only [St.cacheClear, St.detach, updN] at h
    split at h
    · cases h
    · rename_i hne
      have ⟨hb, hcj⟩ := I.attached_cached w' b j h
      refine ⟨hb, ?_⟩
      rw [cacheGet_cacheClear]
      split
      · rename_i hji; subst hji; rw [hc] at hcj; cases hcj; exact absurd rfl hne
      · exact hcj

theorem putIdxArr_of_le {s : St} {i : Nat} (hi : s.len ≤ i) (x : Val) (ok : Bool) : s.putIdxArr i x ok = s := by
  rw [St.putIdxArr, if_pos hi]

/-- `_putIdx` inside the length, without the reflect bounds test that cannot fail there. -/
theorem putIdxArr_of_lt {s : St} {i : Nat} (hi : i < s.len) (x : Val) (ok : Bool) :
    s.putIdxArr i x ok = match s.cacheGet i with
      | none => if ok then { s with mem := updMem s.mem s.cur i x } else s
      | some w => if ok then ({ s.detach w with mem := updMem s.mem s.cur i x } : St).cacheClear i
                  else { s.detach w with ws := updN (s.detach w).ws w (.cell s.cur i) } := by
  rw [St.putIdxArr, if_neg (Nat.not_le.mpr hi)]
  cases s.cacheGet i with
  | none => dsimp only [St.detachOpt]; rw [if_neg (Nat.not_le.mpr hi)]
  | some w => dsimp only [St.detachOpt]; rw [if_neg (show ¬ (s.detach w).len ≤ i from Nat.not_le.mpr hi)]; rfl

/-- The two functions differ only in the order of clearing the cache entry and writing the slot. -/
theorem delIdx_eq_putIdxArr (s : St) (i : Nat) : s.delIdx i = s.putIdxArr i 0 true := by
  by_cases hi : s.len ≤ i
  · rw [St.delIdx, if_pos hi, putIdxArr_of_le hi]
  · rw [St.delIdx, if_neg hi, putIdxArr_of_lt (Nat.lt_of_not_le hi)]
    cases s.cacheGet i <;> rfl

theorem grow_fields (s : St) (size : Nat) :
    (s.grow size).panic = s.panic ∧ (s.grow size).nw = s.nw ∧ (s.grow size).clen = s.clen ∧
    (s.grow size).cache = s.cache ∧ (s.grow size).len = size ∧ (s.grow size).fixed = s.fixed := by
  by_cases h : s.cap s.cur < size
  · rw [St.grow, if_pos h]; exact ⟨rfl, rfl, rfl, rfl, rfl, rfl⟩
  · rw [St.grow, if_neg h]; exact ⟨rfl, rfl, rfl, rfl, rfl, rfl⟩

theorem grow_cacheGet (s : St) (size i : Nat) : (s.grow size).cacheGet i = s.cacheGet i := by
  obtain ⟨_, _, hcl, hca, _, _⟩ := grow_fields s size
  unfold St.cacheGet; rw [hcl, hca]

theorem grow_slot (s : St) {size j : Nat} (hj : j < size) :
    (s.grow size).slot j = if j < s.len then s.slot j else 0 := by
  by_cases hcap : s.cap s.cur < size
  · rw [St.grow, if_pos hcap]
    show (if s.nb = s.nb then (if j < s.len then s.mem s.cur j else 0) else _) = _
    rw [if_pos rfl]; rfl
  · rw [St.grow, if_neg hcap]
    show (if s.cur = s.cur ∧ s.len ≤ j ∧ j < size then 0 else s.mem s.cur j) = if j < s.len then s.mem s.cur j else 0
    by_cases hl : j < s.len
    · rw [if_pos hl, if_neg (by omega)]
    · rw [if_neg hl, if_pos ⟨rfl, by omega, hj⟩]

theorem grow_cap (s : St) (size : Nat) : (s.grow size).cap (s.grow size).cur =
    if s.cap s.cur < size then growCap size s.len (s.cap s.cur) else s.cap s.cur := by
  by_cases hcap : s.cap s.cur < size
  · rw [St.grow, if_pos hcap, if_pos hcap]; exact if_pos rfl
  · rw [St.grow, if_neg hcap, if_neg hcap]

theorem grow_ws {s : St} (I : Inv s) {size : Nat} (h : s.len < size) (w : Nat) :
    (s.grow size).ws w = match s.ws w with
      | .cell _ j => .cell (s.grow size).cur j
      | .own v => .own v := by
  have hl : min s.clen size = s.clen := by have := I.clen_le; omega
  by_cases hcap : s.cap s.cur < size
  · rw [St.grow, if_pos hcap]
    dsimp only
    rw [hl, I.findCached_eq]
    cases s.ws w <;> rfl
  · rw [St.grow, if_neg hcap]
    cases hws : s.ws w with
    | own v => rfl
    | cell b j => rw [(I.attached_cached w b j hws).1]

theorem inv_grow {s : St} (I : Inv s) {size : Nat} (h : s.len < size) : Inv (s.grow size) := by
  obtain ⟨hp, hn, hcl, hca, hlen, _⟩ := grow_fields s size
  have hg := grow_cacheGet s size
  have hws := grow_ws I h
  refine ⟨hp.trans I.noPanic, by have := I.clen_le; omega, ?_, ?_, ?_⟩
  · intro w hw
    obtain ⟨v, hv⟩ := I.fresh w (hn ▸ hw)
    exact ⟨v, by rw [hws, hv]⟩
  · intro i w hc
    rw [hws, I.cached_attached i w ((hg i).symm.trans hc)]
  · intro w b i hw
    rw [hws] at hw
    cases hs : s.ws w with
    | own v => rw [hs] at hw; cases hw
    | cell b' j =>
      rw [hs] at hw
      obtain ⟨hb, hji⟩ := Loc.cell.inj hw
      subst hji
      exact ⟨hb.symm, (hg j).trans (I.attached_cached w b' j hs).2⟩

theorem shrink_fields (s : St) (size : Nat) :
    (s.shrink size).panic = s.panic ∧ (s.shrink size).nw = s.nw ∧ (s.shrink size).cur = s.cur ∧
    (s.shrink size).len = size ∧ (s.shrink size).clen ≤ size ∧ (s.shrink size).fixed = s.fixed ∧
    (s.shrink size).cap = s.cap := by
  by_cases h : s.clen > size
  · rw [St.shrink, if_pos h]; exact ⟨rfl, rfl, rfl, rfl, Nat.le_refl _, rfl, rfl⟩
  · rw [St.shrink, if_neg h]; exact ⟨rfl, rfl, rfl, rfl, Nat.le_of_not_gt h, rfl, rfl⟩

theorem shrink_cacheGet (s : St) (size i : Nat) :
    (s.shrink size).cacheGet i = if i < size then s.cacheGet i else none := by
  unfold St.cacheGet
  by_cases hc : s.clen > size
  · rw [St.shrink, if_pos hc]
    dsimp only
    by_cases hi : i < size
    · simp only [hi, if_true, show i < s.clen by omega]
    · simp only [hi, if_false]
  · rw [St.shrink, if_neg hc]
    dsimp only
    by_cases hi : i < s.clen
    · simp only [hi, if_true, show i < size by omega]
    · simp only [hi, if_false, ite_self]

theorem shrink_slot (s : St) {size j : Nat} (hj : j < size) : (s.shrink size).slot j = s.slot j := by
  by_cases hc : s.clen > size
  · rw [St.shrink, if_pos hc]; exact if_neg (by omega)
  · rw [St.shrink, if_neg hc]; exact if_neg (by omega)

theorem shrink_ws {s : St} (I : Inv s) (size w : Nat) :
    (s.shrink size).ws w = match s.ws w with
      | .cell b j => if size ≤ j then .own (s.mem b j) else .cell b j
      | .own v => .own v := by
  by_cases hc : s.clen > size
  · rw [St.shrink, if_pos hc]
    dsimp only
    rw [I.findCached_eq, St.readW]
    cases hws : s.ws w with
    | own v => rfl
    | cell b j => by_cases hj : size ≤ j <;> simp only [hj, if_true, if_false, St.readLoc]
  · rw [St.shrink, if_neg hc]
    cases hws : s.ws w with
    | own v => rfl
    | cell b j =>
      have := cacheGet_lt (I.attached_cached w b j hws).2
      dsimp only
      rw [if_neg (by omega)]

theorem inv_shrink {s : St} (I : Inv s) (size : Nat) : Inv (s.shrink size) := by
  obtain ⟨hp, hn, hcur, hlen, hcl, _, _⟩ := shrink_fields s size
  have hws := shrink_ws I size
  refine ⟨hp.trans I.noPanic, hlen ▸ hcl, ?_, ?_, ?_⟩
  · intro w hw
    obtain ⟨v, hv⟩ := I.fresh w (hn ▸ hw)
    exact ⟨v, by rw [hws, hv]⟩
  · intro i w hc
    rw [shrink_cacheGet] at hc
    by_cases hi : i < size
    · rw [if_pos hi] at hc
      rw [hws, I.cached_attached i w hc, hcur]
      exact if_neg (by omega)
    · rw [if_neg hi] at hc; cases hc
  · intro w b i hw
    rw [hws] at hw
    cases hs : s.ws w with
    | own v => rw [hs] at hw; cases hw
    | cell b' j =>
      rw [hs] at hw
      dsimp only at hw
      by_cases hj : size ≤ j
      · rw [if_pos hj] at hw; cases hw
      · rw [if_neg hj] at hw
        obtain ⟨hb, hji⟩ := Loc.cell.inj hw
        subst hji hb
        have := I.attached_cached w b' j hs
        exact ⟨hcur ▸ this.1, by rw [shrink_cacheGet, if_pos (by omega)]; exact this.2⟩

theorem setLen_cases (s : St) (n : Nat) :
    s.setLen n = s ∨ (s.len < n ∧ s.setLen n = s.grow n) ∨ (n < s.len ∧ s.setLen n = s.shrink n) := by
  rw [St.setLen]
  by_cases hf : s.fixed = true
  · rw [if_pos hf]; exact .inl rfl
  rw [if_neg hf]
  by_cases hg : n > s.len
  · rw [if_pos hg]; exact .inr (.inl ⟨hg, rfl⟩)
  rw [if_neg hg]
  by_cases hs : n < s.len
  · rw [if_pos hs]; exact .inr (.inr ⟨hs, rfl⟩)
  · rw [if_neg hs]; exact .inl rfl

theorem inv_setLen {s : St} (I : Inv s) (n : Nat) : Inv (s.setLen n) := by
  rcases setLen_cases s n with h | ⟨hl, h⟩ | ⟨hl, h⟩ <;> rw [h]
  · exact I
  · exact inv_grow I hl
  · exact inv_shrink I n

theorem putIdxArr_false {s : St} (I : Inv s) (i : Nat) (x : Val) : s.putIdxArr i x false = s := by
  by_cases hi : s.len ≤ i
  · exact putIdxArr_of_le hi x false
  rw [putIdxArr_of_lt (Nat.lt_of_not_le hi)]
  cases hc : s.cacheGet i with
  | none => rfl
  | some w =>
    have hws : updN (s.detach w).ws w (Loc.cell s.cur i) = s.ws := by
      funext w'
      by_cases e : w' = w
      · rw [e, updN, if_pos rfl]; exact (I.cached_attached i w hc).symm
      · rw [updN, if_neg e]; exact if_neg e
    show ({ s.detach w with ws := updN (s.detach w).ws w (Loc.cell s.cur i) } : St) = s
    rw [hws]; rfl

theorem inv_putIdxArr {s : St} (I : Inv s) (i : Nat) (x : Val) (ok : Bool) :
    Inv (s.putIdxArr i x ok) := by
  cases ok
  · rw [putIdxArr_false I]; exact I
  by_cases hi : s.len ≤ i
  · rw [putIdxArr_of_le hi]; exact I
  rw [putIdxArr_of_lt (Nat.lt_of_not_le hi)]
  cases hc : s.cacheGet i with
  | none => exact inv_setMem I _ _ I.clen_le
  | some w => exact inv_setMem (inv_detach_clear I hc) _ _ I.clen_le

theorem putIdx_cases (s : St) (i : Nat) (x : Val) (ok : Bool) :
    ((s.fixed = true ∨ i < s.len) ∧ s.putIdx i x ok = s.putIdxArr i x ok) ∨
    (s.fixed = false ∧ s.len ≤ i ∧ s.putIdx i x ok = (s.grow (i + 1)).putIdxArr i x ok) := by
  rw [St.putIdx]
  cases hf : s.fixed with
  | true => exact .inl ⟨.inl rfl, rfl⟩
  | false =>
    by_cases hl : s.len ≤ i
    · exact .inr ⟨rfl, hl, by simp only [Bool.false_eq_true, if_false, if_pos hl]⟩
    · exact .inl ⟨.inr (Nat.lt_of_not_le hl), by simp only [Bool.false_eq_true, if_false, if_neg hl]⟩

theorem inv_putIdx {s : St} (I : Inv s) (i : Nat) (x : Val) (ok : Bool) :
    Inv (s.putIdx i x ok) := by
  rcases putIdx_cases s i x ok with ⟨_, h⟩ | ⟨_, hl, h⟩ <;> rw [h]
  · exact inv_putIdxArr I i x ok
  · exact inv_putIdxArr (inv_grow I (by omega)) i x ok

theorem cacheGet_condClear (u : St) (i k : Nat) :
    (u.condClear i).cacheGet k = if k = i then none else u.cacheGet k := by
  by_cases h : i < u.clen
  · rw [St.condClear, if_pos h]; exact cacheGet_cacheClear u i k
  · rw [St.condClear, if_neg h]
    by_cases hk : k = i
    · rw [if_pos hk, hk]; exact if_neg h
    · rw [if_neg hk]

theorem moveCache_shape (u : St) (c : Option Nat) (i : Nat) :
    (u.moveCache c i).panic = u.panic ∧ (u.moveCache c i).len = u.len ∧ (u.moveCache c i).cur = u.cur ∧
    (u.moveCache c i).nw = u.nw ∧ (u.moveCache c i).clen ≤ max u.clen (i + 1) ∧
    (∀ k, (u.moveCache c i).cacheGet k = if k = i then c else u.cacheGet k) ∧
    (∀ w, (u.moveCache c i).ws w = if c = some w then .cell u.cur i else u.ws w) ∧
    (u.moveCache c i).mem = u.mem ∧ (u.moveCache c i).cap = u.cap ∧ (u.moveCache c i).fixed = u.fixed := by
  cases c with
  | none =>
    have hsame : u.condClear i = u.cacheClear i ∨ u.condClear i = u := by
      by_cases h : i < u.clen
      · rw [St.condClear, if_pos h]; exact .inl rfl
      · rw [St.condClear, if_neg h]; exact .inr rfl
    rw [show u.moveCache none i = u.condClear i from rfl]
    refine ⟨?_, ?_, ?_, ?_, ?_, cacheGet_condClear u i, ?_, ?_, ?_, ?_⟩ <;> rcases hsame with h | h <;> rw [h]
    all_goals first | rfl | exact fun _ => rfl | exact Nat.le_max_left _ _
  | some w0 =>
    refine ⟨rfl, rfl, rfl, rfl, Nat.le_refl _, ?_, ?_, rfl, rfl, rfl⟩
    · intro k; rw [St.moveCache, cacheGet_cachePut]; rfl
    · intro w
      show updN u.ws w0 (.cell u.cur i) w = _
      by_cases hw : w = w0
      · rw [hw, updN, if_pos rfl, if_pos rfl]
      · rw [updN, if_neg hw, if_neg (fun h => hw (Option.some.inj h).symm)]

def swapIdx (i j k : Nat) : Nat := if k = j then i else if k = i then j else k

theorem swapIdx_invol (i j k : Nat) : swapIdx i j (swapIdx i j k) = k := by
  unfold swapIdx
  by_cases h1 : k = j
  · rw [if_pos h1]; by_cases h2 : i = j
    · rw [if_pos h2, h1, h2]
    · rw [if_neg h2, if_pos rfl, h1]
  · rw [if_neg h1]; by_cases h2 : k = i
    · rw [if_pos h2, if_pos rfl, h2]
    · rw [if_neg h2, if_neg h1, if_neg h2]

theorem swap_shape {s : St} (I : Inv s) {i j : Nat} (hi : i < s.len) (hj : j < s.len) :
    (s.swap i j).panic = s.panic ∧ (s.swap i j).len = s.len ∧ (s.swap i j).cur = s.cur ∧
    (s.swap i j).nw = s.nw ∧ (s.swap i j).clen ≤ s.len ∧ (s.swap i j).cap = s.cap ∧ (s.swap i j).fixed = s.fixed ∧
    (∀ k, (s.swap i j).cacheGet k = s.cacheGet (swapIdx i j k)) ∧
    (∀ k, (s.swap i j).slot k = s.slot (swapIdx i j k)) ∧
    (∀ w, (s.swap i j).ws w = match s.ws w with
      | .cell b k => .cell b (swapIdx i j k)
      | .own v => .own v) := by
  have hcl := I.clen_le
  rw [St.swap, if_neg (show ¬ (s.len ≤ i ∨ s.len ≤ j) by omega)]
  dsimp only
  generalize hs1 : ({ s with mem := updMem (updMem s.mem s.cur i (s.slot j)) s.cur j (s.slot i) } : St) = s1
  have g1 : ∀ k, s1.cacheGet k = s.cacheGet k := by subst hs1; exact fun _ => rfl
  have hclen : s1.clen = s.clen := by subst hs1; rfl
  obtain ⟨p2, l2, c2, n2, cl2, g2, w2, m2, a2, f2⟩ := moveCache_shape s1 (s.cacheGet i) j
  obtain ⟨p3, l3, c3, n3, cl3, g3, w3, m3, a3, f3⟩ := moveCache_shape (s1.moveCache (s.cacheGet i) j) (s.cacheGet j) i
  refine ⟨by rw [p3, p2, ← hs1], by rw [l3, l2, ← hs1], by rw [c3, c2, ← hs1], by rw [n3, n2, ← hs1], by omega,
    by rw [a3, a2, ← hs1], by rw [f3, f2, ← hs1], fun k => ?_, fun k => ?_, fun w => ?_⟩
  · rw [g3, g2, g1, swapIdx]
    by_cases h2 : k = i
    · rw [if_pos h2]; by_cases h1 : k = j
      · rw [if_pos h1, ← h2, h1]
      · rw [if_neg h1, if_pos h2]
    · rw [if_neg h2]; by_cases h1 : k = j
      · rw [if_pos h1, if_pos h1]
      · rw [if_neg h1, if_neg h1, if_neg h2]
  · rw [St.slot, m3, m2, c3, c2, ← hs1]
    dsimp only
    rw [updMem, updMem, swapIdx]
    by_cases h1 : k = j
    · rw [if_pos ⟨rfl, h1⟩, if_pos h1]
    · rw [if_neg (fun h => h1 h.2), if_neg h1]
      by_cases h2 : k = i
      · rw [if_pos ⟨rfl, h2⟩, if_pos h2]
      · rw [if_neg (fun h => h2 h.2), if_neg h2]; rfl
  · rw [w3, w2, c2, ← hs1]
    cases hs : s.ws w with
    | own v =>
      rw [if_neg (I.not_cached_of_own hs j), if_neg (I.not_cached_of_own hs i)]
    | cell b k =>
      have ⟨hb, hk⟩ := I.attached_cached w b k hs
      have hiff : ∀ m, s.cacheGet m = some w ↔ k = m := fun m => ⟨I.cached_inj hk, fun e => e ▸ hk⟩
      simp only [hiff, swapIdx, hb]
      by_cases h1 : k = j
      · rw [if_pos h1, if_pos h1]
      · rw [if_neg h1, if_neg h1]
        by_cases h2 : k = i
        · rw [if_pos h2, if_pos h2]
        · rw [if_neg h2, if_neg h2]

theorem inv_swap {s : St} (I : Inv s) (i j : Nat) : Inv (s.swap i j) := by
  by_cases hoob : s.len ≤ i ∨ s.len ≤ j
  · rw [St.swap, if_pos hoob]; exact I
  obtain ⟨hp, hl, hc, hn, hcl, _, _, hg, _, hws⟩ := swap_shape I (i := i) (j := j) (by omega) (by omega)
  refine ⟨hp.trans I.noPanic, hl ▸ hcl, ?_, ?_, ?_⟩
  · intro w hge
    obtain ⟨v, hv⟩ := I.fresh w (hn ▸ hge)
    exact ⟨v, by rw [hws, hv]⟩
  · intro k w h
    rw [hg] at h
    rw [hws, I.cached_attached _ w h]
    dsimp only
    rw [swapIdx_invol, hc]
  · intro w b k h
    rw [hws] at h
    cases hs : s.ws w with
    | own v => rw [hs] at h; cases h
    | cell b' k' =>
      rw [hs] at h
      obtain ⟨hb, hk⟩ := Loc.cell.inj h
      subst hb hk
      have := I.attached_cached w b' k' hs
      exact ⟨hc ▸ this.1, by rw [hg, swapIdx_invol]; exact this.2⟩

theorem swap_preserves_readings {s : St} (I : Inv s) (i j w : Nat) : (s.swap i j).readW w = s.readW w := by
  by_cases hoob : s.len ≤ i ∨ s.len ≤ j
  · rw [St.swap, if_pos hoob]
  obtain ⟨_, _, hc, _, _, _, _, _, hsl, hws⟩ := swap_shape I (i := i) (j := j) (by omega) (by omega)
  rw [St.readW, St.readW, hws]
  cases hs : s.ws w with
  | own v => rfl
  | cell b k =>
    have hb := (I.attached_cached w b k hs).1
    subst hb
    show (s.swap i j).mem s.cur (swapIdx i j k) = s.slot k
    rw [← hc]
    exact (hsl _).trans (congrArg s.slot (swapIdx_invol i j k))

theorem Inv.ite {a b : St} {c : Prop} [Decidable c] (ha : Inv a) (hb : Inv b) : Inv (if c then a else b) := by
  by_cases h : c
  · rw [if_pos h]; exact ha
  · rw [if_neg h]; exact hb

theorem inv_step {s : St} (I : Inv s) (op : Op) (ht : op.tracked = true) :
    Inv (s.step op) := by
  cases op with
  | get i => exact inv_getIdx I i
  | set i x => exact inv_putIdx I i x true
  | setBad i => exact inv_putIdx I i 0 false
  | del i =>
    show Inv (s.delIdx i)
    rw [delIdx_eq_putIdxArr]; exact inv_putIdxArr I i 0 true
  | setLen n => exact inv_setLen I n
  | swap i j => exact inv_swap I i j
  | wwrite w x => exact .ite (inv_writeW I w x) I
  | goWrite i x => exact .ite (inv_setMem I _ _ I.clen_le) I
  | goAppend x => exact .ite I (.ite (inv_setMem I _ _ (Nat.le_succ_of_le I.clen_le)) I)
  | goRealloc c => cases ht

/-- Histories all of whose operations are tracked (no Go-side re-allocation). -/
def Admissible : St → List Op → Prop
  | _, [] => True
  | s, op :: ops => op.tracked = true ∧ Admissible (s.step op) ops

instance decAdmissible : (s : St) → (h : List Op) → Decidable (Admissible s h)
  | _, [] => isTrue trivial
  | s, op :: ops =>
    have := decAdmissible (s.step op) ops
    by unfold Admissible; exact inferInstance

theorem inv_run {s : St} (I : Inv s) (h : List Op) (ha : Admissible s h) : Inv (s.run h) := by
  induction h generalizing s with
  | nil => exact I
  | cons op ops ih =>
    obtain ⟨ht, hr⟩ := ha
    exact ih (inv_step I op ht) hr

theorem inv_init (fixed : Bool) (n c : Nat) (f : Nat → Val) : Inv (St.init fixed n c f) := by
  refine ⟨rfl, Nat.zero_le _, fun _ _ => ⟨0, rfl⟩, ?_, ?_⟩
  · intro i w h; simp [St.init, St.cacheGet] at h
  · intro w b i h; simp [St.init] at h

/-- Holds of every operation without invariant or admissibility, so it also covers Go-side re-allocations and
    out-of-range operations. -/
structure Frame (P : Nat → Prop) (s t : St) : Prop where
  panic : t.panic = s.panic
  nw : s.nw ≤ t.nw
  ws : ∀ w, ¬ P w → w < s.nw → (∀ i, s.cacheGet i ≠ some w) → t.ws w = s.ws w

variable {P : Nat → Prop}

theorem Frame.of_same {s t : St} (hp : t.panic = s.panic) (hn : t.nw = s.nw) (hw : t.ws = s.ws) : Frame P s t :=
  ⟨hp, Nat.le_of_eq hn.symm, fun w _ _ _ => congrFun hw w⟩

theorem Frame.trans {s t u : St} (h1 : Frame P s t) (h2 : Frame P t u)
    (hc : ∀ w, (∀ i, s.cacheGet i ≠ some w) → ∀ i, t.cacheGet i ≠ some w) : Frame P s u :=
  ⟨h2.panic.trans h1.panic, Nat.le_trans h1.nw h2.nw, fun w hP hw hn =>
    (h2.ws w hP (Nat.lt_of_lt_of_le hw h1.nw) (hc w hn)).trans (h1.ws w hP hw hn)⟩

theorem Frame.refl {s : St} : Frame P s s := .of_same rfl rfl rfl

theorem Frame.ite {s a b : St} {c : Prop} [Decidable c] (ha : Frame P s a) (hb : Frame P s b) :
    Frame P s (if c then a else b) := by
  by_cases h : c
  · rw [if_pos h]; exact ha
  · rw [if_neg h]; exact hb

theorem grow_frame (s : St) (size : Nat) : Frame P s (s.grow size) := by
  rw [St.grow]
  refine .ite ⟨rfl, Nat.le_refl _, fun w _ _ hn => ?_⟩ (.of_same rfl rfl rfl)
  dsimp only
  rw [findCached_notCached hn]

theorem shrink_frame (s : St) (size : Nat) : Frame P s (s.shrink size) := by
  by_cases h : s.clen > size
  · rw [St.shrink, if_pos h]
    refine ⟨rfl, Nat.le_refl _, fun w _ _ hn => ?_⟩
    dsimp only
    rw [findCached_notCached hn]
  · rw [St.shrink, if_neg h]; exact .of_same rfl rfl rfl

theorem setLen_frame (s : St) (n : Nat) : Frame P s (s.setLen n) := by
  rcases setLen_cases s n with h | ⟨_, h⟩ | ⟨_, h⟩ <;> rw [h]
  · exact .refl
  · exact grow_frame s n
  · exact shrink_frame s n

theorem putIdxArr_frame (s : St) (i : Nat) (x : Val) (ok : Bool) : Frame P s (s.putIdxArr i x ok) := by
  by_cases h1 : s.len ≤ i
  · rw [putIdxArr_of_le h1]; exact .refl
  rw [putIdxArr_of_lt (Nat.lt_of_not_le h1)]
  cases hc : s.cacheGet i with
  | none => cases ok <;> exact .of_same rfl rfl rfl
  | some c =>
    refine ⟨by cases ok <;> rfl, by cases ok <;> exact Nat.le_refl _, fun w _ _ hn => ?_⟩
    have hcw : w ≠ c := fun e => hn i (e ▸ hc)
    cases ok
    · show updN (updN s.ws c _) c _ w = s.ws w
      rw [updN, if_neg hcw, updN, if_neg hcw]
    · show updN s.ws c _ w = s.ws w
      rw [updN, if_neg hcw]

theorem putIdx_frame (s : St) (i : Nat) (x : Val) (ok : Bool) : Frame P s (s.putIdx i x ok) := by
  rcases putIdx_cases s i x ok with ⟨_, h⟩ | ⟨_, _, h⟩ <;> rw [h]
  · exact putIdxArr_frame s i x ok
  · exact (grow_frame s (i + 1)).trans (putIdxArr_frame _ i x ok) (fun w hn k => by rw [grow_cacheGet]; exact hn k)

theorem getIdx_frame (s : St) (i : Nat) : Frame P s (s.getIdx i).1 := by
  by_cases hl : s.len ≤ i
  · rw [St.getIdx, if_pos hl]; exact .refl
  rw [St.getIdx, if_neg hl]
  cases s.cacheGet i with
  | some w => exact .refl
  | none =>
    refine ⟨rfl, Nat.le_succ _, fun w _ hw _ => ?_⟩
    show updN s.ws s.nw _ w = s.ws w
    rw [updN, if_neg (Nat.ne_of_lt hw)]

theorem swap_frame (s : St) (i j : Nat) : Frame P s (s.swap i j) := by
  rw [St.swap]
  refine .ite .refl ⟨?_, Nat.le_of_eq ?_, fun w _ _ hn => ?_⟩ <;> dsimp only
  · rw [(moveCache_shape _ _ _).1, (moveCache_shape _ _ _).1]
  · rw [(moveCache_shape _ _ _).2.2.2.1, (moveCache_shape _ _ _).2.2.2.1]
  · rw [(moveCache_shape _ _ _).2.2.2.2.2.2.1 w, (moveCache_shape _ _ _).2.2.2.2.2.2.1 w,
      if_neg (hn j), if_neg (hn i)]

theorem step_frame (s : St) (op : Op) : Frame (fun w => ∃ x, op = .wwrite w x) s (s.step op) := by
  cases op with
  | get i => exact getIdx_frame s i
  | set i x => exact putIdx_frame s i x true
  | setBad i => exact putIdx_frame s i 0 false
  | del i =>
    show Frame _ s (s.delIdx i)
    rw [delIdx_eq_putIdxArr]; exact putIdxArr_frame s i 0 true
  | setLen n => exact setLen_frame s n
  | swap i j => exact swap_frame s i j
  | wwrite w' x =>
    refine .ite ?_ .refl
    rw [St.writeW]
    cases s.ws w' with
    | cell b i => exact .of_same rfl rfl rfl
    | own v =>
      refine ⟨rfl, Nat.le_refl _, fun w hP _ _ => ?_⟩
      have : w ≠ w' := fun e => hP ⟨x, e ▸ rfl⟩
      show updN s.ws w' _ w = s.ws w
      rw [updN, if_neg this]
  | goWrite i x => exact .ite (.of_same rfl rfl rfl) .refl
  | goAppend x => exact .ite .refl (.ite (.of_same rfl rfl rfl) .refl)
  | goRealloc c => exact .ite .refl (.ite (.of_same rfl rfl rfl) .refl)

theorem run_panic (s : St) (h : List Op) : (s.run h).panic = s.panic := by
  induction h generalizing s with
  | nil => rfl
  | cons op ops ih => simp only [St.run]; rw [ih, (step_frame s op).panic]

end GojaModel.C13
