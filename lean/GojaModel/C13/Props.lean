/-
  C13 — property theorems.  Every `theorem` here is one audited proof obligation.
  The WrapCache statements quantify over ALL admissible histories (induction over the history, no length bound).
  "Admissible" = every operation is tracked (not a Go-side re-allocation, which goja cannot see: after it the cached
  element wrappers point into the old backing array — `go_realloc_breaks_live_view_witness`, known finding stale-elem-wrapper-after-go-realloc).
  Sort swaps beyond the current length (comparator shrank the slice, fix 60ad8ae) and stores beyond the end of a Go
  array (fix 1c31366) are defined behaviour and inside the admissible region; the `_prefix_witness` lemmas keep
  the old mechanism's failure as a regression record.
-/
import GojaModel.C13.Invariant
import GojaModel.C13.BridgeLemmas
import GojaModel.C13.GatewayLemmas
import GojaModel.C13.ExportLemmas
import GojaModel.C13.Cache2Lemmas
import GojaModel.C13.MapModel
import GojaModel.C13.GoSlice
import GojaModel.C13.Refine
import GojaModel.C13.Nested
import GojaModel.C13.ExportDispatchLemmas
import GojaModel.C13.GatewayComposite

namespace GojaModel.C13

/-- The invariant holds after every admissible history from every initial wrapped slice/array. -/
theorem wrapcache_inv_all_histories (fixed : Bool) (n c : Nat) (f : Nat → Val) (h : List Op)
    (ha : Admissible (St.init fixed n c f) h) : Inv ((St.init fixed n c f).run h) :=
  inv_run (inv_init fixed n c f) h ha

/-- No operation on a wrapper reaches a reflect index-out-of-range (host panic) — for ALL histories, including
    sort swaps at arbitrary indices, stores beyond the end of a Go array and Go-side re-allocations. -/
theorem script_ops_no_panic (fixed : Bool) (n c : Nat) (f : Nat → Val) (h : List Op) :
    ((St.init fixed n c f).run h).panic = false := by
  rw [run_panic]; rfl

/-- 60ad8ae: a sort swap at an index beyond the current length (the comparator shrank the slice) is ignored;
    1c31366: a store beyond the end of a Go array fails without touching anything. -/
theorem out_of_range_swap_and_array_store_are_noops (s : St) (i j : Nat) (x : Val) (ok : Bool) :
    (s.len ≤ i ∨ s.len ≤ j → s.swap i j = s) ∧
    (s.fixed = true → s.len ≤ i → s.putIdx i x ok = s) := by
  refine ⟨fun h => by simp [St.swap, h], fun hf hi => by rw [St.putIdx, if_pos hf]; exact putIdxArr_of_le hi x ok⟩

/-- In-place sort: every swap (at any indices, after any admissible history) moves each wrapper together with its
    element — no wrapper's denotation changes, the invariant is kept. -/
theorem sort_swap_keeps_wrappers (fixed : Bool) (n c : Nat) (f : Nat → Val) (h : List Op)
    (ha : Admissible (St.init fixed n c f) h) (i j w : Nat) :
    let s := (St.init fixed n c f).run h
    (s.swap i j).readW w = s.readW w ∧ Inv (s.swap i j) := by
  intro s
  have I : Inv s := wrapcache_inv_all_histories fixed n c f h ha
  exact ⟨swap_preserves_readings I i j w, inv_swap I i j⟩

/-- REFINEMENT.  The WrapCache mechanism (backing arrays, valueCache, attach / detach / re-point) implements the
    documented copy-on-change semantics (Spec.lean: a list of values and wrappers that are either live references to
    a slot or references to a private copy): for every initial slice / array / struct and EVERY admissible history,
    forgetting heap, backing arrays and cache after running the mechanism gives exactly the state the spec model
    reaches on the same history. -/
theorem wrapcache_refines_documented_semantics (fixed : Bool) (n c : Nat) (f : Nat → Val) (h : List Op)
    (ha : Admissible (St.init fixed n c f) h) :
    ((St.init fixed n c f).run h).abs = (Sp.init fixed n c f).run h := by
  rw [refine_run h _ (inv_init fixed n c f) ha, abs_init]

/-- …in observable terms: after every admissible history the Go-visible length and elements, and what every
    handed-out wrapper reads, are what the documented semantics says. -/
theorem wrapcache_observations_as_documented (fixed : Bool) (n c : Nat) (f : Nat → Val) (h : List Op)
    (ha : Admissible (St.init fixed n c f) h) :
    let s := (St.init fixed n c f).run h
    let sp := (Sp.init fixed n c f).run h
    s.len = sp.len ∧ (∀ i, i < s.len → s.slot i = sp.val i) ∧ (∀ w, w < s.nw → s.readW w = sp.readH w) ∧ s.nw = sp.nh := by
  intro s sp
  have hr : s.abs = sp := wrapcache_refines_documented_semantics fixed n c f h ha
  have I : Inv s := inv_run (inv_init fixed n c f) h ha
  refine ⟨by rw [← hr]; rfl, ?_, ?_, by rw [← hr]; rfl⟩
  · intro i hi
    rw [← hr]; simp [St.abs, hi]
  · intro w hw
    rw [← hr]; exact (readH_abs I w hw).symm

/-- LIVE VIEW.  After any admissible history, if `w` is the wrapper script obtains for `a[i]`
    (it is the cached one), then (1) reading through `w` gives the current Go slot value, (2) a write through
    `w` lands in the Go slot, (3) a Go-side write to the slot is what a read through `w` returns. -/
theorem wrapper_live_view (fixed : Bool) (n c : Nat) (f : Nat → Val) (h : List Op)
    (ha : Admissible (St.init fixed n c f) h) (i w : Nat)
    (hc : ((St.init fixed n c f).run h).cacheGet i = some w) :
    let s := (St.init fixed n c f).run h
    i < s.len ∧ s.readW w = s.slot i ∧
    (∀ x, (s.step (.wwrite w x)).slot i = x) ∧
    (∀ x, (s.step (.goWrite i x)).readW w = x) := by
  intro s
  have I : Inv s := wrapcache_inv_all_histories fixed n c f h ha
  have hat := I.cached_attached i w hc
  have hlt : i < s.len := I.cached_lt_len hc
  have hnw := I.cached_lt_nw hc
  refine ⟨hlt, I.readW_cached hc, ?_, ?_⟩
  · intro x
    simp [St.step, hnw, St.writeW, hat, St.slot, updMem]
  · intro x
    simp [St.step, hlt, St.readW, hat, St.readLoc, updMem]

/-- LIVE VIEW, as script sees it: `a[i]` (getIdx) always yields a wrapper whose reading is the Go slot. -/
theorem getIdx_reads_slot (fixed : Bool) (n c : Nat) (f : Nat → Val) (h : List Op)
    (ha : Admissible (St.init fixed n c f) h) (i w : Nat)
    (hg : (((St.init fixed n c f).run h).getIdx i).2 = some w) :
    let s := (St.init fixed n c f).run h
    (s.getIdx i).1.readW w = (s.getIdx i).1.slot i := by
  intro s
  have I : Inv s := wrapcache_inv_all_histories fixed n c f h ha
  have I' := inv_getIdx I i
  exact I'.readW_cached (getIdx_cached hg)

/-- DETACH: when slot `i` is overwritten (assignment or delete) through script, the wrapper `w` that was
    handed out for it becomes a reference to a copy holding the slot value at that moment. -/
theorem wrapper_detach_on_overwrite {s : St} (I : Inv s) {i w : Nat} (hc : s.cacheGet i = some w) (x : Val) :
    (s.step (.set i x)).ws w = .own (s.slot i) ∧ (s.step (.del i)).ws w = .own (s.slot i) ∧
    (s.step (.set i x)).slot i = x ∧ (s.step (.set i x)).cacheGet i = none := by
  have hlt : i < s.len := I.cached_lt_len hc
  have hrd := I.readW_cached hc
  have key : ∀ y, s.putIdxArr i y true = ({ s.detach w with mem := updMem s.mem s.cur i y } : St).cacheClear i := by
    intro y
    rw [putIdxArr_of_lt hlt, hc]; rfl
  have hset : s.step (.set i x) = s.putIdxArr i x true := by
    rcases putIdx_cases s i x true with ⟨_, h⟩ | ⟨_, hl, _⟩
    · exact h
    · exact absurd hl (Nat.not_le.mpr hlt)
  have hdel : s.step (.del i) = s.putIdxArr i 0 true := delIdx_eq_putIdxArr s i
  rw [hset, hdel, key, key]
  have hown : updN s.ws w (.own (s.readW w)) w = .own (s.slot i) := by rw [updN, if_pos rfl, hrd]
  refine ⟨hown, hown, ?_, ?_⟩
  · show updMem s.mem s.cur i x s.cur i = x
    rw [updMem, if_pos ⟨rfl, rfl⟩]
  · rw [cacheGet_cacheClear, if_pos rfl]

/-- DETACH by shrinking: `a.length = n` with n ≤ i detaches the wrapper of slot i with the slot's value. -/
theorem wrapper_detach_on_shrink {s : St} (I : Inv s) (hs : s.fixed = false) {i w n : Nat}
    (hc : s.cacheGet i = some w) (hn : n ≤ i) :
    (s.step (.setLen n)).ws w = .own (s.slot i) := by
  have hlt : i < s.len := I.cached_lt_len hc
  have hsh : s.setLen n = s.shrink n := by
    rw [St.setLen, hs, if_neg Bool.false_ne_true, if_neg (by omega), if_pos (by omega)]
  show (s.setLen n).ws w = _
  rw [hsh, shrink_ws I, I.cached_attached i w hc]
  exact if_pos hn

/-- The value a detached wrapper holds after a history: the last value written through the wrapper itself. -/
def lastOwn (w : Nat) : Val → List Op → Val
  | v, [] => v
  | v, .wwrite w' x :: ops => lastOwn w (if w' = w then x else v) ops
  | v, _ :: ops => lastOwn w v ops

/-- DETACH SNAPSHOT, all later histories.  Once a handed-out wrapper `w` is detached with value `v` (by
    overwrite / delete / shrink, see the two theorems above), then after ANY later history `h` of script and Go-side
    operations (admissible, so that the invariant keeps holding) it is still detached, it denotes the value at
    detach time unless written through `w` itself (then the last such value), and a write through it changes
    nothing in Go memory, the slice header or the cache: it does not reach the slot. -/
theorem wrapper_detach_snapshot {s : St} (I : Inv s) {w : Nat} {v : Val} (hw : s.ws w = .own v) (hlt : w < s.nw)
    (h : List Op) (ha : Admissible s h) :
    (s.run h).ws w = .own (lastOwn w v h) ∧
    (s.run h).readW w = lastOwn w v h ∧
    (∀ x, ((s.run h).step (.wwrite w x)).mem = (s.run h).mem ∧
          ((s.run h).step (.wwrite w x)).len = (s.run h).len ∧
          ((s.run h).step (.wwrite w x)).cur = (s.run h).cur ∧
          ((s.run h).step (.wwrite w x)).cache = (s.run h).cache) := by
  induction h generalizing s v with
  | nil =>
    refine ⟨hw, by simp [St.run, St.readW, hw, St.readLoc, lastOwn], ?_⟩
    intro x
    simp [St.run, St.step, hlt, St.writeW, hw]
  | cons op ops ih =>
    obtain ⟨ht, hr⟩ := ha
    have J := inv_step I op ht
    have hlt' : w < (s.step op).nw := Nat.lt_of_lt_of_le hlt (step_frame s op).nw
    by_cases hop : ∃ x, op = .wwrite w x
    · obtain ⟨x, rfl⟩ := hop
      have hw' : (s.step (.wwrite w x)).ws w = .own x := by
        simp [St.step, hlt, St.writeW, hw, updN]
      have := ih J hw' hlt' hr
      simpa [St.run, lastOwn] using this
    · have hop' : ∀ x, op ≠ .wwrite w x := fun x e => hop ⟨x, e⟩
      have hw' : (s.step op).ws w = .own v := by rw [(step_frame s op).ws w hop hlt (I.not_cached_of_own hw)]; exact hw
      have := ih J hw' hlt' hr
      have hl : lastOwn w v (op :: ops) = lastOwn w v ops := by
        cases op with
        | wwrite w' x =>
          have : w' ≠ w := by intro e; subst e; exact hop' x rfl
          simp [lastOwn, this]
        | _ => rfl
      rw [hl]
      simpa [St.run] using this

/-- The swap of the mechanism before fix 60ad8ae (no bounds guard). -/
def St.swapPre (s : St) (i j : Nat) : St :=
  if s.len ≤ i ∨ s.len ≤ j then { s with panic := true } else s.swap i j

/-- _putIdx of the mechanism before fix 1c31366 (reflect.Index after the detach, no bounds test). -/
def St.putIdxArrPre (s : St) (i : Nat) (x : Val) (ok : Bool) : St :=
  if s.len ≤ i then { (s.detachOpt (s.cacheGet i)) with panic := true } else s.putIdxArr i x ok

/-- Before 60ad8ae: sorting in place with a comparator that shrinks the slice indexed out of range
    (`a := []S{..}; a.sort((x,y)=>{a.length=0; return -1})`). -/
theorem sort_shrinking_comparator_prefix_witness :
    (((St.init false 2 2 (fun i => Int.ofNat i)).run [.setLen 0]).swapPre 0 1).panic = true ∧
    (((St.init false 2 2 (fun i => Int.ofNat i)).run [.setLen 0]).swap 0 1).panic = false := by
  decide

/-- Before 1c31366: storing beyond the end of a wrapped Go array (`a := [2]S{}; a[5] = x`) reached
    reflect.Value.Index out of range. -/
theorem goarray_store_out_of_range_prefix_witness :
    ((St.init true 2 2 (fun i => Int.ofNat i)).putIdxArrPre 5 1 true).panic = true ∧
    ((St.init true 2 2 (fun i => Int.ofNat i)).putIdxArr 5 1 true).panic = false := by
  decide

/-- After a Go-side re-allocation (append beyond capacity) a previously handed out element wrapper is still
    cached but refers to the old backing array: the live view is broken (a read through `a[0]` misses a Go
    write, and a script write through it misses the Go slot). -/
theorem go_realloc_breaks_live_view_witness :
    let s := (St.init false 2 2 (fun i => Int.ofNat i)).run [.get 0, .goRealloc 4, .goWrite 0 42]
    s.cacheGet 0 = some 0 ∧ s.readW 0 ≠ s.slot 0 ∧ (s.step (.wwrite 0 7)).slot 0 ≠ 7 := by
  decide

/-- Numeric round trip, exact part: every integer kind, every value of the kind within ±2^53 comes back from
    Export(ToValue(v)) as int64 with the same value. -/
theorem export_toValue_int_exact (k : IntKind) (v : Int) (_hr : k.InRange v) (hs : Safe v) :
    exportNum (toValueInt k v) = .i64 v := by
  rw [toValueInt_eq, intToValue, if_pos hs]; rfl

/-- Numeric round trip, the exact exception: beyond ±2^53 every integer kind (signed, unsigned, also uint64 beyond
    MaxInt64) comes back as the nearest double float64(v) — as int64 again in the one case where that double is
    ±2^53 (documented: Export of a number is int64 for integer Numbers and float64 otherwise). -/
theorem export_toValue_int_lossy (k : IntKind) (v : Int) (hs : ¬ Safe v) :
    exportNum (toValueInt k v) =
      (if Safe (round53 v) then GoNum.i64 (round53 v) else GoNum.f64 (.intval (round53 v))) := by
  rw [toValueInt_eq, intToValue, if_neg hs]
  by_cases h : Safe (round53 v) <;> simp [floatToValue, exportNum, h]

/-- ExportTo into the value's own integer kind gives the value back (within ±2^53), for all kinds and values. -/
theorem exportTo_own_kind_int (k : IntKind) (v : Int) (hr : k.InRange v) (hs : Safe v) :
    exportToInt k (toValueInt k v) = some v := by
  rw [toValueInt_eq, intToValue, if_pos hs]; simp [exportToInt, wrapTo_id hr]

/-- ExportTo into float64 gives every float64 back (NaN as the canonical NaN). -/
theorem exportTo_own_kind_f64 (f : Flt) : exportToF64 (floatToValue f) = f := by
  cases f with
  | intval i => by_cases hs : Safe i <;> simp [floatToValue, exportToF64, hs]
  | _ => simp [floatToValue, exportToF64]

/-- Export(ToValue(f)) for a float64: integral values within ±2^53 (except −0) come back as int64, everything
    else as the same float64. -/
theorem export_toValue_float (f : Flt) :
    exportNum (floatToValue f) = (match f with
      | .intval i => if Safe i then GoNum.i64 i else GoNum.f64 (.intval i)
      | f => GoNum.f64 f) := by
  cases f with
  | intval i => by_cases hs : Safe i <;> simp [floatToValue, exportNum, hs]
  | _ => simp [floatToValue, exportNum]

/-- Export(ToValue(g)) = g — same dynamic type and, for pointer / map / slice / func kinds, the same reference —
    for every shape outside the explicit `Exception` predicate; i.e. the listed exceptions are all there are. -/
theorem export_toValue_id (sh : Shape) (h : Exception sh = false) : roundTrip sh = .identical := by
  simpa [exception_eq] using h

/-- …and each exception is a real one: no shape in `Exception` round-trips identically, except that typed-nil
    and by-value cases are classified by what they become. -/
theorem exception_is_exact (sh : Shape) (h : Exception sh = true) : roundTrip sh ≠ .identical := by
  simpa [exception_eq] using h

/-- EXPORTTO OWN TYPE.  ExportTo(ToValue(g), &x) with x of g's own Go type yields a value deep-equal to g, for every
    shape (scalar, composite, pointer chains, typed nils, maps, slices, arrays, structs) outside the explicit
    `ExceptionTo` predicate (funcs — not comparable —, goja Values, nil *big.Int, a nil pointer below an outer
    pointer).  For the numeric kinds "deep-equal" is the value statement of `exportTo_own_kind_int/_f64`. -/
theorem exportTo_own_type_deepEq (sh : Shape) (h : ExceptionTo sh = false) : relTo sh = .deepEqual := by
  simpa [exceptionTo_eq] using h

/-- …and the exceptions are exact: no shape in `ExceptionTo` comes back deep-equal. -/
theorem exceptionTo_is_exact (sh : Shape) (h : ExceptionTo sh = true) : relTo sh ≠ .deepEqual := by
  simpa [exceptionTo_eq] using h

/-- NESTED WRAPPERS FOLLOW THEIR PARENT.  For every tree of handed-out wrappers (any width, any depth) and every new
    location `a` — a private copy (detach), another slot (sort swap), the same slot of a re-allocated backing array —
    after setReflectValue(a) every nested wrapper refers to the corresponding field of the NEW value
    (`p.In.Deep…` at path σ ↦ address of field path σ inside `a`), and no wrapper is lost or invented. -/
theorem nested_wrappers_follow_parent (fld : Nat → Nat → Nat) (t : WT) (a : Nat) (σ : List Nat) :
    ((t.setRV fld a).sub σ).isSome = (t.sub σ).isSome ∧
    (∀ k, (t.setRV fld a).sub σ = some k → k.loc = pathAddr fld a σ) :=
  ⟨WT.setRV_sub_isSome fld σ t a, fun k h => WT.setRV_sub fld σ t a k h⟩

/-- NESTED WRAPPERS DETACH WITH THEIR PARENT.  copyReflectValueWrapper copies the value to a fresh location `c`
    (`mem'` holds at every field path of `c` what `mem` held at the same path of the old location) and re-points the
    wrapper: every nested wrapper then reads exactly what the corresponding field of the OLD value held at detach
    time — it is a reference into the copy, and stays one whatever is later written to the old slot. -/
theorem nested_wrappers_detach_with_parent (fld : Nat → Nat → Nat) (t : WT) (c : Nat) (mem mem' : Nat → Int)
    (hcopy : ∀ σ, mem' (pathAddr fld c σ) = mem (pathAddr fld t.loc σ)) (σ : List Nat) (k : WT)
    (h : (t.setRV fld c).sub σ = some k) : mem' k.loc = mem (pathAddr fld t.loc σ) := by
  rw [WT.setRV_sub fld σ t c k h]; exact hcopy σ

/-- NESTED WRAPPERS, ALL HISTORIES.  Starting from a freshly created element wrapper, after ANY sequence of handing out
    nested wrappers (at any depth, for any fields, in any order) and re-pointing the element wrapper (detach to a
    copy, sort swaps, re-allocations), every nested wrapper that exists refers to the corresponding field of the
    value the element wrapper refers to NOW: it follows its parent on every swap / re-allocation and detaches with
    it into the same copy. -/
theorem nested_wrappers_pointed_all_histories (fld : Nat → Nat → Nat) (a0 : Nat) (ops : List WOp) (σ : List Nat) (k : WT)
    (h : ((WT.node a0 []).runW fld ops).sub σ = some k) :
    k.loc = pathAddr fld ((WT.node a0 []).runW fld ops).loc σ := by
  exact WT.runW_pointed fld ops _ (WT.pointed_leaf fld a0) σ k h

/-- NESTED WRAPPERS INSIDE SLICE / ARRAY / STRUCT HISTORIES.  Run ANY history of the WrapCache model (script operations,
    Go-side operations, re-allocations, out-of-range operations — no admissibility needed) interleaved with script
    handing out nested wrappers below any element handle: at every moment, for every element handle `w`, the tree of
    nested wrappers hangs on the address `w` currently refers to (its slot, or its private copy once detached) and every
    nested wrapper refers to the corresponding field of THAT value — nested wrappers follow their parent through
    detach, sort swaps and re-allocations. -/
theorem nested_wrappers_in_histories (fld : Nat → Nat → Nat) (fixed : Bool) (n c : Nat) (f : Nat → Val) (ops : List NOp)
    (w : Nat) (σ : List Nat) (k : WT) :
    let t := (NSt.init (St.init fixed n c f)).run fld ops
    w < t.s.nw → (t.trees w).sub σ = some k → k.loc = pathAddr fld (addrOf w (t.s.ws w)) σ := by
  intro t hw hs
  have h0 : NInv fld (NSt.init (St.init fixed n c f)) := by
    intro w' hw'; simp [NSt.init, St.init] at hw'
  have h := NInv_run fld ops _ h0 w hw
  rw [← h.2]
  exact h.1 σ k hs

/-- Regression record of the mechanism before a40b0ef (setReflectValue moved only the wrapper itself): the nested
    wrapper keeps pointing into the old location. -/
theorem nested_wrapper_shallow_prefix_witness :
    let fld : Nat → Nat → Nat := fun a n => 100 * a + n + 1
    let t : WT := .node 10 [(0, .node (fld 10 0) [])]
    ((t.setRVShallow 20).sub [0]).map WT.loc = some (fld 10 0) ∧
    ((t.setRV fld 20).sub [0]).map WT.loc = some (fld 20 0) := by
  intro fld t
  refine ⟨rfl, ?_⟩
  -- `setRV` is defined by well-founded recursion and does not compute: it is unfolded with its equation
  simp only [t, WT.setRV_node, List.map]
  rfl

/-- wrapReflectFunc, ALL arities / argument counts: the `in` slice handed to reflect.Value.Call is written only inside
    its bounds, every position holds exactly what the documentation promises (script argument j converted to the type
    of parameter j, or to the element type of the variadic parameter; missing arguments are zero values of their
    parameter type; extra arguments are dropped), no position is left invalid, and its length is one reflect.Call
    accepts (= NumIn, or ≥ NumIn-1 for a variadic func). -/
theorem gateway_call_args_total (nargs : Nat) (variadic : Bool) (l : Nat) :
    let r := gatewayIn nargs variadic l
    r.oob = false ∧
    (∀ j, j < r.len → r.slot j = specSlot nargs variadic l j ∧ r.slot j ≠ .unset) ∧
    (variadic = false → r.len = nargs) ∧ (variadic = true → nargs ≤ r.len + 1 ∧ (nargs ≤ l → r.len = l)) := by
  intro r
  obtain ⟨hoob, hrl, hsp⟩ : r.oob = false ∧ r.len = (if variadic = true then max l (nargs - 1) else nargs) ∧
      ∀ j, j < r.len → r.slot j = specSlot nargs variadic l j := gatewayIn_spec nargs variadic l
  refine ⟨hoob, fun j hj => ⟨hsp j hj, ?_⟩, fun hv => ?_, fun hv => ?_⟩
  · rw [hsp j hj, specSlot]
    split
    · split <;> exact Slot.noConfusion
    · exact Slot.noConfusion
  · rw [hrl, if_neg (by rw [hv]; exact Bool.false_ne_true)]
  · rw [hrl, if_pos hv]; omega

/-- ARGUMENT CONVERSION inside the gateway: converting a script primitive into an integer parameter is total (never
    an error), `undefined` / `null` give the zero value, booleans 0 / 1, an integer Number the Go conversion of its
    int64 value (so every value of the parameter's own kind within ±2^53 arrives unchanged), NaN / ±Infinity / −0
    give 0, a non-integral Number is truncated toward zero first. -/
theorem gateway_arg_conversion (k : IntKind) :
    (∀ v, (exportToInt k v).isSome) ∧
    convArgInt k .undef = 0 ∧ convArgInt k .null = 0 ∧ convArgInt k (.bool true) = 1 ∧ convArgInt k (.bool false) = 0 ∧
    (∀ i, convArgInt k (.num (.int i)) = wrapTo k i) ∧
    (∀ i, k.InRange i → convArgInt k (.num (.int i)) = i) ∧
    (∀ b, convArgInt k (.num (.flt (.frac b))) = wrapTo k (f64ToI64 (truncFrac b))) ∧
    convArgInt k (.num (.flt .nan)) = 0 ∧ convArgInt k (.num (.flt .posInf)) = 0 ∧
    convArgInt k (.num (.flt .negInf)) = 0 ∧ convArgInt k (.num (.flt .negZero)) = 0 := by
  refine ⟨?_, rfl, rfl, rfl, rfl, fun i => rfl, fun i h => by simp [convArgInt, exportToInt, wrapTo_id h],
    fun b => rfl, rfl, rfl, rfl, rfl⟩
  intro v
  cases v with
  | int i => rfl
  | flt f => cases f <;> rfl

/-- …into `bool` and `float64` parameters: total, undefined / null give the zero value, ToBoolean / ToFloat otherwise;
    a missing argument is the zero value of its parameter's kind, and undefined converts to exactly that. -/
theorem gateway_arg_conversion_bool_float (a : JArg) :
    convArgBool .undef = false ∧ convArgBool .null = false ∧ (∀ b, convArgBool (.bool b) = b) ∧
    (∀ i, convArgBool (.num (.int i)) = decide (i ≠ 0)) ∧ convArgBool (.num (.flt .nan)) = false ∧
    convArgBool (.num (.flt .negZero)) = false ∧
    convArgF64 .undef = .intval 0 ∧ convArgF64 .null = .intval 0 ∧
    (∀ f, convArgF64 (.num (floatToValue f)) = f) ∧ (∀ i, convArgF64 (.num (.int i)) = .intval i) ∧
    (∀ k, convArg k .undef = zeroArg k) := by
  refine ⟨rfl, rfl, fun b => rfl, fun i => by simp [convArgBool], rfl, rfl, rfl, rfl, ?_, fun i => rfl, ?_⟩
  · intro f; exact exportTo_own_kind_f64 f
  · intro k; cases k <;> rfl

/-- …and the whole call: what the Go func receives at position i is the conversion, for the kind of the parameter that
    position belongs to, of the script argument the documentation assigns to it (or 0 where it is missing). -/
theorem gateway_call_values (kinds : List IntKind) (variadic : Bool) (args : List JArg) (i : Nat)
    (hi : i < (gatewayIn kinds.length variadic args.length).len) :
    (gatewayCall kinds variadic args)[i]? =
      some (match specSlot kinds.length variadic args.length i with
            | .arg j p _ => convArgInt (kinds.getD p .int) (args.getD j .undef)
            | _ => 0) := by
  have h := (gateway_call_args_total kinds.length variadic args.length).2.1 i hi
  simp only [gatewayCall, List.getElem?_map, List.getElem?_range hi, Option.map]
  rw [h.1]
  cases specSlot kinds.length variadic args.length i <;> rfl

/-- Results of a Go call as documented: nothing → undefined; a trailing non-nil `error` → exception; otherwise the
    error is dropped and one remaining value is returned as is, several as an Array ("if there are exactly two
    return values and the last is an error, the function returns the first value as is, not an Array"). -/
theorem gateway_results_as_documented (nout : Nat) (lastIsErr errNonNil : Bool) :
    gatewayOut nout lastIsErr errNonNil =
      (if 0 < nout ∧ lastIsErr = true ∧ errNonNil = true then CallResult.throw
       else match (if lastIsErr = true then nout - 1 else nout) with
         | 0 => .undefined
         | 1 => .value 0
         | n => .array n) := by
  -- the result count matters only as 0 / 1 / 2 / more; every row is then a closed computation
  rcases nout with _ | _ | _ | n <;> cases lastIsErr <;> cases errNonNil <;> rfl

/-- wrapJSFunc: the script function receives exactly the Go arguments, the variadic tail flattened, in order; an
    exception or conversion failure is returned through a trailing `error` result if there is one and is a Go panic
    otherwise (as documented for ExportTo into a func). -/
theorem jsfunc_gateway (nfixed tail j : Nat) (variadic : Bool) (hj : j < jsArgCount nfixed variadic tail) :
    (j < nfixed → jsArg nfixed j = .fixed j) ∧
    (nfixed ≤ j → variadic = true ∧ ∃ k, k < tail ∧ jsArg nfixed j = .tailElem k ∧ j = nfixed + k) ∧
    (∀ nout lastIsErr, jsFuncOutcome nout lastIsErr false false = .results (decide (0 < nout)) false) ∧
    (∀ nout, jsFuncOutcome nout false true false = .goPanic) ∧
    (∀ nout, 0 < nout → jsFuncOutcome nout true true false = .results false true) := by
  refine ⟨fun h => by simp [jsArg, h], ?_, by intro n e; simp [jsFuncOutcome], by intro n; simp [jsFuncOutcome], ?_⟩
  · intro h
    cases variadic with
    | false => simp [jsArgCount] at hj; omega
    | true =>
      simp [jsArgCount] at hj
      exact ⟨rfl, j - nfixed, by omega, by simp [jsArg]; omega, by omega⟩
  · intro n hn; simp [jsFuncOutcome, hn]

/-- MAP LIVE VIEW.  A script write to an entry is what Go sees, a Go write is what the next script read returns
    (the new wrapper holds the current element), a delete from either side removes the entry. -/
theorem map_entries_live (s : MSt) (k : Nat) (x : Val) :
    (s.step (.set k x)).m k = some x ∧
    (∃ w, ((s.step (.goSet k x)).getKey k).2 = some w ∧ ((s.step (.goSet k x)).getKey k).1.ws w = x) ∧
    (s.step (.del k)).m k = none ∧ (s.step (.goDel k)).m k = none := by
  refine ⟨by simp [MSt.step, updN], ⟨s.nw, ?_, ?_⟩, by simp [MSt.step, updN], by simp [MSt.step, updN]⟩ <;>
    simp [MSt.step, MSt.getKey, updN]

/-- MAP ELEMENT WRAPPERS ARE COPIES (documented caveat 3 of ToValue: non-addressable values get copied): for ALL
    histories, the Go map after the history equals the Go map after the same history with every write through an
    element wrapper removed — such writes never reach the map. -/
theorem map_wrapper_writes_never_reach_map (s : MSt) (h : List MOp) :
    (s.run h).m = (s.run (h.filter (fun op => !op.isWrapperWrite))).m := by
  suffices H : ∀ (h : List MOp) (s t : MSt), s.m = t.m →
      (s.run h).m = (t.run (h.filter (fun op => !op.isWrapperWrite))).m from H h s s rfl
  intro h
  induction h with
  | nil => intro s t e; exact e
  | cons op ops ih =>
    intro s t e
    cases op with
    | wwrite w x =>
      simp only [List.filter, MOp.isWrapperWrite, Bool.not_true, MSt.run]
      apply ih
      rw [← e]; simp only [MSt.step]; split <;> rfl
    | _ => simp only [List.filter, MOp.isWrapperWrite, Bool.not_false, MSt.run]; exact ih _ _ (mstep_m_congr e _)

/-- For EVERY state of the backing array (arbitrary stale items beyond len: Go-side truncation, a slice built as
    buf[:n], earlier script shrinks) growing through script (`a.length = n`) keeps the old elements and makes every
    new slot nil — within capacity and with re-allocation alike. -/
theorem goslice_grow_exposes_only_nil (s : GS) (size : Nat) (h : s.len < size) :
    (s.grow size).len = size ∧ (∀ i, i < s.len → (s.grow size).mem i = s.mem i) ∧
    (∀ i, s.len ≤ i → i < size → (s.grow size).mem i = none) := by
  by_cases hc : s.cap < size
  · rw [GS.grow, if_pos hc]
    exact ⟨rfl, fun i hi => if_pos hi, fun i hi _ => if_neg (by omega)⟩
  · rw [GS.grow, if_neg hc]
    exact ⟨rfl, fun i hi => if_neg (by omega), fun i h1 h2 => if_pos ⟨h1, h2⟩⟩

/-- the same for an assignment beyond the end (`a[len+k] = v`): the gap is nil, the element is v -/
theorem goslice_put_beyond_end_gap_is_nil (s : GS) (i : Nat) (x : Option Val) (h : s.len ≤ i) :
    (s.putIdx i x).len = i + 1 ∧ (s.putIdx i x).mem i = x ∧
    (∀ j, s.len ≤ j → j < i → (s.putIdx i x).mem j = none) ∧
    (∀ j, j < s.len → (s.putIdx i x).mem j = s.mem j) := by
  have hg := goslice_grow_exposes_only_nil s (i + 1) (by omega)
  simp only [GS.putIdx, h, if_true]
  refine ⟨hg.1, by simp [updN], ?_, ?_⟩
  · intro j h1 h2
    have : j ≠ i := by omega
    simp only [updN, this, if_false]
    exact hg.2.2 j h1 (by omega)
  · intro j hj
    have : j ≠ i := by omega
    simp only [updN, this, if_false]
    exact hg.2.1 j hj

/-- a script-side shrink clears what it cuts off (so the wrapper itself never leaves stale items behind) -/
theorem goslice_shrink_clears (s : GS) (n i : Nat) (h1 : n ≤ i) (h2 : i < s.len) : (s.shrink n).mem i = none := by
  simp [GS.shrink, h1, h2]

/-- Regression record of the seeded mutant C13-m4 (grow within capacity without clearing): after a Go-side
    truncation the stale item reappears; the coded grow shows nil. -/
theorem goslice_grow_no_clear_prefix_witness :
    let s : GS := { mem := fun i => if i < 3 then some (Int.ofNat i + 5) else none, cap := 3, len := 3 }
    (((s.step (.goTrunc 1)).growNoClear 3).mem 2 = some 7) ∧ (((s.step (.goTrunc 1)).grow 3).mem 2 = none) := by
  decide

/-- EXPORTTO PRESERVES SHARING AND CYCLES PER DESTINATION TYPE.  For every script heap, every table of destination
    types (struct pointers with interface{} and typed fields in any order, named maps, typed slices, recursive types),
    every root and root type: within one ExportTo
    (1) the cache (object, destination type) ↦ Go address is injective — the same object reached again through a
        destination of the same type, in ANY order of untyped and typed visits, is the same Go value, different
        objects or different destination types give different values;
    (2) every Go value built is the image of its script object at its type: the declared fields the object has /
        all properties / all elements, each converted for its own destination type and pointing at the cached value
        of (child, that type);
    (3) every allocated value is completed; (4) the result is the value cached for (root, root type). -/
theorem exportTo_one_identity_per_object_and_type_of_ok (js : Nat → JFields) (tys : Nat → TyDef) (asU : Nat → Nat → Bool)
    (fuel root : Nat) (ty : Ty)
    (hok : (expTo js tys asU fuel TCtx.empty (.ref root) ty).1.ok = true) :
    let r := expTo js tys asU fuel TCtx.empty (.ref root) ty
    (∀ (a b : Nat) (key : Nat × Nat), r.1.cache[a]? = some key → r.1.cache[b]? = some key → a = b) ∧
    (∀ e ∈ r.1.out, OutGoodT js tys asU r.1.cache e) ∧
    r.1.out.length = r.1.cache.length ∧
    ImgT asU r.1.cache (.ref root) ty r.2 := by
  intro r
  obtain ⟨hext, himg⟩ := expTo_spec js tys asU fuel TCtx.empty (.ref root) ty
  obtain ⟨osuf, hout, hgood⟩ := hext.outPre
  have hnd : r.1.cache.Nodup := hext.nodup List.nodup_nil
  refine ⟨?_, ?_, ?_, himg hok⟩
  · intro a b key ha hb
    exact (List.getElem?_inj (List.getElem?_eq_some_iff.mp ha).1 hnd).mp (ha.trans hb.symm)
  · intro e he
    have h2 : r.1.out = osuf := hout
    exact hgood hok e (h2 ▸ he)
  · have h3 : r.1.out.length + 0 = 0 + r.1.cache.length := hext.count
    omega

/-- The same with no hypothesis about the recursion: on a heap of N objects and a closed table of T destination types,
    N·(T+1) + 1 units of fuel always suffice (every nested call has put a new (object, type) pair into the cache). -/
theorem exportTo_one_identity_per_object_and_type (js : Nat → JFields) (tys : Nat → TyDef) (asU : Nat → Nat → Bool)
    (N T root fuel : Nat) (ty : Ty) (hcl : ClosedJ js N) (htc : TyClosed tys T) (hr : root < N) (hty : TyIn T ty)
    (hf : N * (T + 1) + 1 ≤ fuel) :
    let r := expTo js tys asU fuel TCtx.empty (.ref root) ty
    r.1.ok = true ∧
    (∀ (a b : Nat) (key : Nat × Nat), r.1.cache[a]? = some key → r.1.cache[b]? = some key → a = b) ∧
    (∀ e ∈ r.1.out, OutGoodT js tys asU r.1.cache e) ∧
    r.1.out.length = r.1.cache.length ∧
    ImgT asU r.1.cache (.ref root) ty r.2 := by
  have hok := expTo_root_ok js tys asU N T root fuel ty hcl htc hr hty hf
  exact ⟨hok, exportTo_one_identity_per_object_and_type_of_ok js tys asU fuel root ty hok⟩

/-- EXPORT PRESERVES SHARING AND CYCLES.  For every script heap `js` (any shape: shared children, cycles,
    self-references) and every root, `Object.Export()` (one fresh identity cache per call; enough recursion fuel,
    i.e. `ok`) produces Go objects such that
    (1) the cache — script object ↦ Go address — is injective: one Go object per script object, so a child reachable
        along two paths (or along a cycle) is the SAME Go map/slice, and distinct script objects stay distinct;
    (2) every exported Go object is the image of the script object cached at its address: same keys in the same
        order, primitives equal, every reference field pointing at the Go object of the referenced script object
        (edges preserved ⇒ the exported graph is isomorphic to the reachable script graph);
    (3) every object that was allocated has been completed (as many finished objects as cache entries);
    (4) the result is the Go object of the root. -/
theorem export_preserves_sharing_and_cycles_of_ok (js : Nat → JFields) (fuel root : Nat)
    (hok : (exportRoot js fuel root).1.ok = true) :
    let r := exportRoot js fuel root
    (∀ a b id : Nat, r.1.cache[a]? = some id → r.1.cache[b]? = some id → a = b) ∧
    (∀ e ∈ r.1.out, OutGood js r.1.cache e) ∧
    r.1.out.length = r.1.cache.length ∧
    Img r.1.cache (.ref root) r.2 := by
  intro r
  -- the instance "destination type interface{}" of the typed theorem, read back through `ECtx.typed`
  have hT := exportTo_one_identity_per_object_and_type_of_ok js (fun _ => .sliceOf .iface) (fun _ _ => false) fuel root
    .iface (by rw [exportRoot_typed]; exact hok)
  rw [exportRoot_typed] at hT
  obtain ⟨hinj, hgood, hlen, himg⟩ := hT
  exact ⟨fun a b id ha hb => hinj a b (id, 0) (typed_getElem?.mpr ha) (typed_getElem?.mpr hb),
    fun e he => OutGoodT_iface (hgood e he), by simpa [ECtx.typed] using hlen, ImgT_iface.mp himg⟩

/-- The same without any hypothesis about the recursion: on a heap of `N` objects (all references inside the heap)
    `N + 1` units of fuel always suffice — the nesting depth of the export is bounded by the number of distinct
    objects because every nested call has put a new object into the cache. -/
theorem export_preserves_sharing_and_cycles (js : Nat → JFields) (N root fuel : Nat)
    (hcl : Closed js N) (hr : root < N) (hf : N + 1 ≤ fuel) :
    let r := exportRoot js fuel root
    r.1.ok = true ∧
    (∀ a b id : Nat, r.1.cache[a]? = some id → r.1.cache[b]? = some id → a = b) ∧
    (∀ e ∈ r.1.out, OutGood js r.1.cache e) ∧
    r.1.out.length = r.1.cache.length ∧
    Img r.1.cache (.ref root) r.2 := by
  have hok := exportRoot_ok js N root fuel hcl hr hf
  exact ⟨hok, export_preserves_sharing_and_cycles_of_ok js fuel root hok⟩

/-- The export code of plain objects and arrays is the instance "no Map / Set" of the general model. -/
theorem expValK_plain (js : Nat → JFields) : ∀ (fuel : Nat) (c : ECtx) (v : JVal),
    expValK js (fun _ => false) fuel c v = expVal js fuel c v
  | 0, c, v => by cases v <;> rfl
  | fuel + 1, c, v => by
    cases v with
    | prim p => rfl
    | hole => rfl
    | ref id =>
      have ih : expValK js (fun _ => false) fuel = expVal js fuel :=
        funext fun c => funext fun v => expValK_plain js fuel c v
      simp only [expValK, expVal, Bool.false_eq_true, if_false, ih]

/-- Regression record of the mechanism before 29d16ec: Map and Set objects were exported without consulting the identity
    cache (mapObject.export / setObject.export started with `make` + `ctx.put`), so a Map reached twice within one
    export came out as two different Go slices: `var m = new Map(); [m, m]`.  Since the fix Map / Set objects are
    ordinary nodes of `expVal` and `export_preserves_sharing_and_cycles` covers them. -/
theorem mapset_export_loses_sharing_prefix_witness :
    let js : Nat → JFields := fun id => if id = 0 then [(0, .ref 1), (1, .ref 1)] else []
    (expValK js (fun id => id == 1) 5 ECtx.empty (.ref 0)).1.out =
      [(1, []), (2, []), (0, [(0, .addr 1), (1, .addr 2)])] := by
  decide

/-- Regression record of the mechanism before 29d16ec: a Map that contains itself (`m.set('self', m)`) made the export
    recurse without end — whatever the fuel, the old model runs out of it (in Go: a fatal, unrecoverable stack overflow
    of the host). -/
theorem cyclic_map_export_never_terminates_prefix_witness (fuel : Nat) (c : ECtx) :
    (expValK (fun _ => [(0, .ref 0)]) (fun _ => true) fuel c (.ref 0)).1.ok = false := by
  induction fuel generalizing c with
  | zero => simp [expValK]
  | succ f ih =>
    simp only [expValK, if_true, expFields]
    exact ih _

/-- the cache is monotone during an export (a partial injective map that only grows): exporting a further value with
    the same ctx keeps every earlier object ↦ address binding. -/
theorem export_cache_monotone (js : Nat → JFields) (fuel : Nat) (c : ECtx) (v : JVal) (a id : Nat)
    (h : c.cache[a]? = some id) : (expVal js fuel c v).1.cache[a]? = some id := by
  obtain ⟨suf, hsuf⟩ :=
    (expTo_spec js (fun _ => .sliceOf .iface) (fun _ _ => false) fuel c.typed v .iface).1.cachePre
  rw [expTo_iface] at hsuf
  apply typed_getElem?.mp
  show (expVal js fuel c v).1.typed.cache[a]? = _
  rw [hsuf]; exact getElem?_append_mono (typed_getElem?.mpr h)

/-- EXPORTTO INTO SLICES / ARRAYS / []byte = THE DOCUMENTATION, for every well-formed source object (any implementation
    class, with or without / with an overridden Symbol.iterator, callable or not, with or without `length`) and every
    such destination: the documented elements in the documented order (an Array or Set into []interface{}: its plain
    Export(); a Set: its elements; an iterable — Arrays included, their iterator may be overridden —: the iteration
    results; an array-like non-function: obj[0..length-1]); a Go array destination succeeds iff the lengths match;
    a bytes-backed object into []byte is a view of its buffer; anything else is "not an array or iterable". -/
theorem exportTo_containers_as_documented (s : JSrc) (d : Dest) (hwf : s.WF) (hd : d ≠ .map) :
    (∀ l, docSeqElems s d = some l →
        (fits d l.length = true → mech s d = .seq l) ∧
        (fits d l.length = false → ∃ e, mech s d = .err e ∧ e ≠ .notArrayOrIterable)) ∧
    (docSeqElems s d = none →
        (s.kind = .bytes ∧ d = .bytes → mech s d = .bytesView s.byteLen) ∧
        (¬ (s.kind = .bytes ∧ d = .bytes) → mech s d = .err .notArrayOrIterable)) :=
  typed_export_seq s d hwf hd

/-- EXPORTTO INTO MAPS = THE DOCUMENTATION: a Map its entries, a Set its elements with zero values, every other object
    its own enumerable string-keyed properties. -/
theorem exportTo_maps_as_documented (s : JSrc) : mech s .map = docMap s := by
  cases hk : s.kind <;> simp [mech, mechMap, docMap, hk]

/-- identity cache of the typed export methods, as of 6fa4053 without exception: every implementation class, into
    every destination type, enters the container it builds into the identity cache.  (The content is carried by the
    regenerated facts of `Tie.export_dispatch_ok` — every per-class body calls putTyped — and by the exhaustive DS
    stream; the old mechanism differed exactly at Set-into-map.) -/
theorem exportTo_containers_cached (k : SrcKind) (d : Dest) :
    cachesTyped k d = true ∧ (¬ (k = .set ∧ d = .map) → cachesTypedOld k d = cachesTyped k d) :=
  ⟨rfl, fun h => by cases k <;> cases d <;> first | rfl | exact absurd ⟨rfl, rfl⟩ h⟩

/-- REGRESSION RECORD (before 6fa4053): setObject.exportToMap never entered its map into the identity cache:
    `var s = new Set([1]); [s, s]` into `[]map[interface{}]interface{}` gave two different Go maps. -/
theorem set_exportToMap_not_cached_prefix_witness : cachesTypedOld .set .map = false :=
  set_into_map_not_cached_prefix_witness

/-- every source object of the exhaustive D / DS correspondence catalogue (20 named sources × 7 destinations) satisfies the
    well-formedness hypothesis of `exportTo_containers_as_documented`: the theorem applies to every compared line. -/
theorem dispatch_catalogue_wellformed :
    ∀ n ∈ DispatchDriver.catalogueNames, ∀ s, DispatchDriver.catalogue n = some s → s.WF :=
  fun n _ => DispatchDriver.catalogue_wf n

/-- EVERY STRUCT / MAP / SLICE ARGUMENT OF A GO FUNCTION IS ONE COMPLETE TYPED EXPORT OF ITS OWN: the i-th converted
    argument is exactly the typed traversal of that script value started with an empty identity cache, hence (closed
    heap, enough fuel) has all the guarantees of `exportTo_one_identity_per_object_and_type` — sharing and cycles inside
    one argument are preserved; nothing is shared between two arguments (`wrapReflectFunc` makes a new context each). -/
theorem gateway_composite_arg_is_own_export (js : Nat → JFields) (tys : Nat → TyDef) (asU : Nat → Nat → Bool)
    (N T fuel : Nat) (args : List (JVal × Ty)) (i root : Nat) (ty : Ty)
    (hcl : ClosedJ js N) (htc : TyClosed tys T) (hr : root < N) (hty : TyIn T ty) (hf : N * (T + 1) + 1 ≤ fuel)
    (hi : args[i]? = some (.ref root, ty)) :
    ∃ r, (gatewayArgsT js tys asU fuel args)[i]? = some r ∧
      r = expTo js tys asU fuel TCtx.empty (.ref root) ty ∧
      r.1.ok = true ∧
      (∀ (a b : Nat) (key : Nat × Nat), r.1.cache[a]? = some key → r.1.cache[b]? = some key → a = b) ∧
      (∀ e ∈ r.1.out, OutGoodT js tys asU r.1.cache e) ∧
      r.1.out.length = r.1.cache.length ∧
      ImgT asU r.1.cache (.ref root) ty r.2 :=
  ⟨_, gatewayArgsT_get js tys asU fuel args i (.ref root) ty hi, rfl,
    exportTo_one_identity_per_object_and_type js tys asU N T root fuel ty hcl htc hr hty hf⟩

/-- ONE IDENTITY PER (OBJECT, DESTINATION TYPE), whatever the visit order.  Once an object has been exported through
    some path — untyped (`put`: get afterwards answers it) or to a Go type `ty` (`putTyped`) — that binding survives
    ANY later sequence of cache writes of the same export (untyped and typed visits of this and of other objects, for
    any other types, in any order and number): every later visit through the same kind of destination gets the same
    Go value.  The hypothesis `leaves` is what the export code guarantees: a binding is written only after the
    corresponding get / getTyped missed, so (key, ty) is never bound twice. -/
theorem cache_binding_survives_all_visits (c : C2) (key ty v : Nat) (ops : List COp)
    (h : c.getTyped key ty = some v) (hl : ∀ op ∈ ops, op.leaves key ty c.et = true) :
    (c.run ops).getTyped key ty = some v :=
  binding_stable_run key ty v ops c h hl

/-- the untyped path: after `put key v`, `get key` is `v`, and stays `v` however many typed visits (putTyped of any
    other type, on any object) and untyped visits of other objects intervene — untyped → typed → … → untyped reaches
    the SAME Go map/slice. -/
theorem untyped_identity_survives_typed_visits (c : C2) (key v : Nat) (ops : List COp)
    (hfresh : c.get key = none)
    (hl : ∀ op ∈ ops, op.leaves key (c.et key) c.et = true) :
    ((c.put key v).run ops).get key = some v := by
  have het : (c.put key v).et = c.et := step_et c (.put key v)
  have h0 : (c.put key v).getTyped key (c.et key) = some v := by rw [getTyped_put]; simp
  rw [C2.get_eq_getTyped, run_et, het]
  exact binding_stable_run key (c.et key) v ops (c.put key v) h0 (by rw [het]; exact hl)

/-- and the typed path symmetrically: typed → untyped → typed -/
theorem typed_identity_survives_untyped_visits (c : C2) (key ty v : Nat) (ops : List COp)
    (hl : ∀ op ∈ ops, op.leaves key ty c.et = true) :
    ((c.putTyped key ty v).run ops).getTyped key ty = some v := by
  have het : (c.putTyped key ty v).et = c.et := step_et c (.putTyped key ty v)
  have h0 : (c.putTyped key ty v).getTyped key ty = some v := by rw [getTyped_putTyped]; simp
  exact binding_stable_run key ty v ops (c.putTyped key ty v) h0 (by rw [het]; exact hl)

/-- THE TWO-LEVEL TABLE IS A MAP KEYED BY (OBJECT, TYPE CODE).  Whatever sequence of cache writes one export performs
    (code 0 = ctx.put of the untyped export, code t+1 = ctx.putTyped for destination type `tyOf t`; typed destinations
    equal to the object's own export type never occur as typed codes, they take the AssignableTo path), every lookup
    ctx.get / ctx.getTyped answers exactly what an association list of those writes would: this is the abstract cache
    `ExportTo.lean` and `Export.lean` compute with. -/
theorem two_level_cache_is_keyed_map (tyOf : Nat → Nat) (hinj : ∀ s t, tyOf s = tyOf t → s = t)
    (et : Nat → Nat) (hty : ∀ id t, tyOf t ≠ et id) (ws : List ((Nat × Nat) × Nat)) (k : Nat × Nat) :
    (ws.foldl (fun c w => c.writeK tyOf w.1 w.2) ({ et := et, cache := fun _ => none } : C2)).lookupK tyOf k =
      assocLookup k ws.reverse := by
  have h := c2_implements_keyed_map tyOf hinj ws ({ et := et, cache := fun _ => none } : C2) hty []
    (by intro k'; simp [C2.lookupK, C2.get, C2.getTyped, assocLookup]) k
  rw [h, List.append_nil]

/-- Regression record of the seeded mutant C13-m2 (putTyped drops an earlier untyped entry when upgrading it to a
    per-type table): untyped → typed → untyped loses the identity, the coded putTyped keeps it. -/
theorem putTyped_dropping_raw_prefix_witness :
    let c0 : C2 := { et := fun _ => 0, cache := fun _ => none }
    ((c0.put 7 5).putTypedDropsRaw 7 1 6).get 7 = none ∧ ((c0.put 7 5).putTyped 7 1 6).get 7 = some 5 := by
  decide

/-! Non-vacuity: tests on literals, not proofs of the property. -/

/-- a cycle with a shared child: o0 = {k0: o1, k1: o1, k2: o0}, o1 = [7, o0] -/
example : (exportRoot (fun id => if id = 0 then [(0, .ref 1), (1, .ref 1), (2, .ref 0)] else if id = 1 then [(0, .prim 7), (1, .ref 0)] else []) 5 0)
    = ({ cache := [0, 1], out := [(1, [(0, .prim 7), (1, .addr 0)]), (0, [(0, .addr 1), (1, .addr 1), (2, .addr 0)])], ok := true }, .addr 0) := by
  decide


example : Admissible (St.init false 3 4 (fun i => Int.ofNat i))
    [.get 0, .get 1, .wwrite 0 9, .set 0 5, .wwrite 0 8, .setLen 6, .swap 1 2, .del 1, .goWrite 2 7, .goAppend 3] := by
  decide

example : ((St.init false 3 4 (fun i => Int.ofNat i)).run [.get 0, .wwrite 0 9, .set 0 5, .wwrite 0 8]).slot 0 = 5 := by
  decide

end GojaModel.C13
