/-
  C13 — ExportTo of a script-built graph into typed Go destinations (Runtime.toReflectValue, runtime.go:2125:
  the Ptr / Struct case l.2255-2303, the Map case l.2247 → genericExportToMap object.go:993, the Slice case l.2239 →
  arrayObject.exportToArrayOrSlice array.go:538 / genericExportToArrayOrSlice object.go:1037, and the interface{}
  destination l.2155 → exportValue → the untyped export of Export.lean) with the identity cache keyed by
  (script object, destination type): ctx.get / ctx.put for the untyped export (type = exportType()),
  ctx.getTyped / ctx.putTyped for typed destinations (Cache2Lemmas.lean shows that the two-level table of Cache2.lean behaves as a map on
  such pairs).  In every case the Go value is allocated and cached BEFORE the children are converted.
  The Go address of an exported value is its position in the cache.  Core Lean only.
-/
import GojaModel.C13.Export

namespace GojaModel.C13

inductive Ty where
  | iface                 -- interface{}: the untyped export
  | named (t : Nat)       -- a composite destination type, index into the type table
deriving DecidableEq, Repr

inductive TyDef where
  | structPtr (fields : List (Nat × Ty))   -- *struct{ field k : type }, fields in declaration order
  | mapOf (elem : Ty)                       -- (named) map[string]T
  | sliceOf (elem : Ty)                     -- []T

def Ty.code : Ty → Nat
  | .iface => 0
  | .named t => t + 1

structure TCtx where
  cache : List (Nat × Nat)        -- (object id, type code) at position a  <->  Go address a
  out : List (Nat × GFields)
  ok : Bool
deriving DecidableEq, Repr

def TCtx.empty : TCtx := { cache := [], out := [], ok := true }

def findKey (key : Nat × Nat) : List (Nat × Nat) → Option Nat
  | [] => none
  | x :: xs => if x = key then some 0 else (findKey key xs).map (· + 1)

def lookupField : JFields → Nat → Option JVal
  | [], _ => none
  | (k, v) :: rest, n => if k = n then some v else lookupField rest n

/-- `et.AssignableTo(typ)`: an object whose own export type IS the destination type (an Array into []interface{},
    a plain object into map[string]interface{}) takes the untyped path (runtime.go:2155) -/
def normTy (asU : Nat → Nat → Bool) (id : Nat) : Ty → Ty
  | .iface => .iface
  | .named t => if asU id t then .iface else .named t

/-- the children that get converted, with their destination types:
    untyped: every own property as interface{}; struct: the declared fields the object has (getStr ≠ nil), in
    declaration order; map / slice: every property / element into the element type -/
def kidsOf (js : Nat → JFields) (tys : Nat → TyDef) (id : Nat) : Ty → List (Nat × JVal × Ty)
  | .iface => (js id).map (fun kv => (kv.1, kv.2, Ty.iface))
  | .named t => match tys t with
    | .structPtr fields => fields.filterMap (fun kf => (lookupField (js id) kf.1).map (fun v => (kf.1, v, kf.2)))
    | .mapOf e => (js id).map (fun kv => (kv.1, kv.2, e))
    | .sliceOf e => (js id).map (fun kv => (kv.1, kv.2, e))

def expToFields (ev : TCtx → JVal → Ty → TCtx × GVal) : TCtx → List (Nat × JVal × Ty) → TCtx × GFields
  | c, [] => (c, [])
  | c, (k, v, ty) :: rest =>
    let (c1, g) := ev c v ty
    let (c2, gs) := expToFields ev c1 rest
    (c2, (k, g) :: gs)

def expTo (js : Nat → JFields) (tys : Nat → TyDef) (asU : Nat → Nat → Bool) : Nat → TCtx → JVal → Ty → TCtx × GVal
  | _, c, .prim p, _ => (c, .prim p)
  | _, c, .hole, _ => (c, .nil)
  | 0, c, .ref _, _ => ({ c with ok := false }, .prim 0)
  | fuel + 1, c, .ref id, ty =>
    let ty' := normTy asU id ty
    match findKey (id, ty'.code) c.cache with
    | some a => (c, .addr a)                                        -- ctx.get / ctx.getTyped hit
    | none =>
      let a := c.cache.length                                       -- make / reflect.New / MakeMap / MakeSlice
      let c1 : TCtx := { c with cache := c.cache ++ [(id, ty'.code)] }   -- ctx.put / ctx.putTyped
      let (c2, fs) := expToFields (expTo js tys asU fuel) c1 (kidsOf js tys id ty')
      ({ c2 with out := c2.out ++ [(a, fs)] }, .addr a)

/-- value correspondence: a reference converted for destination type ty is the Go value cached for
    (object, normalised type) -/
def ImgT (asU : Nat → Nat → Bool) (cache : List (Nat × Nat)) : JVal → Ty → GVal → Prop
  | .prim p, _, .prim q => p = q
  | .hole, _, .nil => True
  | .ref id, ty, .addr a => cache[a]? = some (id, (normTy asU id ty).code)
  | _, _, _ => False

def ImgKids (asU : Nat → Nat → Bool) (cache : List (Nat × Nat)) : List (Nat × JVal × Ty) → GFields → Prop
  | [], [] => True
  | (k, v, ty) :: ks, (k', g) :: gs => k = k' ∧ ImgT asU cache v ty g ∧ ImgKids asU cache ks gs
  | _, _ => False

/-- a finished Go value is the image of the script object it was built for, at its destination type -/
def OutGoodT (js : Nat → JFields) (tys : Nat → TyDef) (asU : Nat → Nat → Bool) (cache : List (Nat × Nat))
    (e : Nat × GFields) : Prop :=
  ∃ id ty, cache[e.1]? = some (id, ty.code) ∧ ImgKids asU cache (kidsOf js tys id ty) e.2

end GojaModel.C13
