/-
  C10 — Part 2: the promise-operation language and its interpreter over the kernel of Model.lean.

  Handler behaviour is DATA (`Act`/`Body`), so a program is a finite object that the Go harness
  compiles to JavaScript for goja and this interpreter executes against the kernel.  The interpreter
  transcribes the control flow of builtin_promise.go around user-code calls (reaction job :199,
  thenable job :175, Promise constructor :246, performPromiseThen :313, promiseResolve :342,
  finally :354, all/allSettled/any/race :402-538, Runtime.NewPromise :628) and asyncRunner
  (func.go:699-765), and the drain loop of Runtime.leave()/leaveAbrupt() (runtime.go:2911-2931).

  The kernel state is held as `BK k0 = {k // Reach k ∧ BodyReach k0 k}` and modified only through `BK.apply` (body code)
  and `BK.sched` (the scheduler).
  Core Lean only.
-/
import GojaModel.C10.Model
import GojaModel.C10.Comb

namespace GojaModel.C10

inductive VExpr
  | u | n (k : Nat) | p (k : Nat) | t (id : Nat) | arg
  | b (tid : Nat)      -- a fresh native (fulfilled) promise whose own `then` is overridden by thenable descriptor tid
  deriving Inhabited, Repr

inductive CombKind | all | allSettled | race | any
  deriving Inhabited, Repr, DecidableEq

inductive Act
  | log (n : Nat)
  | new (k s : Nat) (f : Option Nat)            -- P[k] = new Promise((x,y)=>{RS[s]=[x,y]; H[f]()})
  | res (s : Nat) (v : VExpr)                   -- RS[s][0](v)
  | rej (s : Nat) (v : VExpr)                   -- RS[s][1](v)
  | then_ (k : Nat) (f g : Option Nat) (d : Nat)   -- P[d] = P[k].then(H[f], H[g])
  | catch_ (k : Nat) (g : Option Nat) (d : Nat)
  | fin (k : Nat) (f : Option Nat) (d : Nat)
  | pres (v : VExpr) (d : Nat)                  -- P[d] = Promise.resolve(v)
  | prej (v : VExpr) (d : Nat)
  | comb (kind : CombKind) (ctor : Option Nat) (d : Nat) (vs : List VExpr)   -- Promise.all.call(C[ctor] ?? Promise, [vs])
  | call (a d : Nat)                            -- P[d] = A[a]()
  | interrupt                                   -- INT(): Runtime.Interrupt from a Go callback
  | await (v : VExpr) (isTry : Bool)            -- async bodies only
  deriving Inhabited, Repr

inductive Compl | ret (v : VExpr) | throw (v : VExpr)
  deriving Inhabited, Repr

structure Body where
  acts : List Act := []
  compl : Compl := .ret .u
  deriving Inhabited, Repr

structure TDesc where
  slot : Nat := 0
  getterThrows : Option VExpr := none
  body : Body := {}
  deriving Inhabited

/-- A user-defined constructor for the combinators: `plain` = ordinary function returning a plain object (its
resolve/reject functions only log), otherwise `class extends Promise`; static `resolve(v)` logs and returns a fresh
thenable of descriptor `tid`. -/
structure CDesc where
  plain : Bool := false
  tid : Nat := 0
  deriving Inhabited

inductive GoOp
  | gnew (k g : Nat) | gres (g : Nat) (v : VExpr) | grej (g : Nat) (v : VExpr)
  deriving Inhabited, Repr

inductive Seg | run (b : Body) | go (op : GoOp)
  deriving Inhabited

structure Prog where
  funs : List (Nat × Body) := []
  thens : List (Nat × TDesc) := []
  asyncs : List (Nat × Body) := []
  ctors : List (Nat × CDesc) := []
  segs : List Seg := []
  deriving Inhabited

def lookupId {α : Type} (l : List (Nat × α)) (i : Nat) : Option α :=
  match l with
  | [] => none
  | (j, x) :: rest => if j == i then some x else lookupId rest i

/-! ## Interpreter state -/

/-- One running all/allSettled/any: bookkeeping record (reachable by construction) + aggregate capability. -/
structure Comb where
  crec : CRK := default
  cap : Cap := default
  deriving Inhabited

structure ARun where
  rest : List Act := []
  compl : Compl := .ret .u
  inTry : Bool := false
  cap : Cap := default
  deriving Inhabited

/-- Interpreter state of code running since the scheduler last acted at kernel state `k0`: the kernel state is
reachable, and reachable from `k0` by body ops only (so, by typing, such code never starts a job or empties the queue). -/
structure St (k0 : K) where
  rk : BK k0
  slots : List (Option Nat) := []
  rslots : List (Option (Option Fn × Option Fn)) := []
  bad : List (Nat × Nat) := []       -- native promises with an overridden own `then`: promise id ↦ thenable descriptor
  gslots : List (Option (Fn × Fn)) := []
  combs : List Comb := []
  asyncs : List ARun := []
  events : List String := []     -- newest first
  oof : Bool := false

abbrev M (k0 : K) := StateM (St k0)

variable {k0 : K}

inductive Arg | v (x : Val) | f (fn : Fn)
  deriving Inhabited

/-- Completion of a call: normal / throw / abort (uncatchable: interrupt, or model fuel). -/
inductive Res | normal (v : Val) | throw (v : Val) | abort
  deriving Inhabited

inductive ActsOut | done | abort | await (v : Val) (isTry : Bool) (rest : List Act)

def setExt {α : Type} (l : List α) (i : Nat) (x : α) (dflt : α) : List α :=
  if i < l.length then l.set i x else l ++ List.replicate (i - l.length) dflt ++ [x]

def kget : M k0 K := do return (← get).rk.val
def op (o : BOp) : M k0 Unit := modify fun st => { st with rk := st.rk.apply o }
def emit (s : String) : M k0 Unit := modify fun st => { st with events := s :: st.events }
def outOfFuel : M k0 Unit := modify fun st => { st with oof := true }

def slotOf (slots : List (Option Nat)) (q : Nat) : Option Nat :=
  let rec go : List (Option Nat) → Nat → Option Nat
    | [], _ => none
    | x :: xs, i => if x == some q then some i else go xs (i + 1)
  go slots 0

mutual
def reprVal (slots : List (Option Nat)) : Val → String
  | .undef => "u"
  | .num n => "n" ++ toString n
  | .prom q => match slotOf slots q with
    | some i => "p@" ++ toString i
    | none => "p?"
  | .thenable t => "t" ++ toString t
  | .typeErr => "TE"
  | .arr vs => "[" ++ reprVals slots vs ++ "]"
  | .settledObj true v => "{F:" ++ reprVal slots v ++ "}"
  | .settledObj false v => "{R:" ++ reprVal slots v ++ "}"
  | .aggErr vs => "AE[" ++ reprVals slots vs ++ "]"
def reprVals (slots : List (Option Nat)) : List Val → String
  | [] => ""
  | [v] => reprVal slots v
  | v :: vs => reprVal slots v ++ "," ++ reprVals slots vs
end

def reprM (v : Val) : M k0 String := do return reprVal (← get).slots v

def argVal : List Arg → Nat → Val
  | [], _ => .undef
  | .v x :: _, 0 => x
  | .f _ :: _, 0 => .undef      -- functions are never observed as plain values
  | _ :: rest, n + 1 => argVal rest n

def argFn : List Arg → Nat → Option Fn
  | [], _ => none
  | .f fn :: _, 0 => some fn
  | .v _ :: _, 0 => none         -- assertCallable fails
  | _ :: rest, n + 1 => argFn rest n

def doReject (l : Nat) (v : Val) : M k0 Unit := op (.callReject l v)

/-- newPromiseCapability(%Promise%) (builtin_promise.go:281-286). -/
def newCapM : M k0 Cap := do
  let k ← kget
  let p := k.proms.length
  let l := k.latches.length
  op .newCap
  return { promise := p, res := .resolve l, rej := .reject l }

def evalV (e : VExpr) (arg : Val) : M k0 Val := do
  match e with
  | .u => return .undef
  | .n k => return .num k
  | .p k => match (← get).slots.getD k none with
    | some q => return .prom q
    | none => return .undef
  | .t id => return .thenable id
  | .arg => return arg
  | .b tid =>
    -- `var q = Promise.resolve(undefined); Object.defineProperty(q, "then", …)`
    let cap ← newCapM
    match cap.res with
    | .resolve l => op (.callResolve l .undef .notCallable)
    | _ => pure ()
    modify fun st => { st with bad := (cap.promise, tid) :: st.bad }
    return .prom cap.promise

def evalVs (es : List VExpr) (arg : Val) : M k0 (List Val) := do
  match es with
  | [] => return []
  | e :: rest =>
    let v ← evalV e arg
    let vs ← evalVs rest arg
    return v :: vs

def badTid (st : St k0) (q : Nat) : Option Nat := lookupId st.bad q

/-- The user-defined `then` accessor of a thenable / of a promise with an overridden own `then`: logs, then throws or
yields the descriptor's function. -/
def userThenLook (prog : Prog) (tid : Nat) : M k0 ThenLook := do
  emit ("g" ++ toString tid)
  match lookupId prog.thens tid with
  | none => return .notCallable
  | some d => match d.getterThrows with
    | some e => return .throws (← evalV e .undef)
    | none => return .callable (.thenableThen tid)

/-- `obj.self.getStr("then")` + assertCallable on the resolution (builtin_promise.go:96-104). -/
def thenLookM (prog : Prog) (v : Val) : M k0 ThenLook := do
  match v with
  | .prom q =>
    match badTid (← get) q with
    | some tid => userThenLook prog tid
    | none => return .callable .promThen
  | .thenable tid => userThenLook prog tid
  | _ => return .notCallable

/-- Calling a resolve function (builtin_promise.go:87-111): latch check, self check, then-lookup. -/
def doResolve (prog : Prog) (l : Nat) (v : Val) : M k0 Unit := do
  let k ← kget
  match k.latches[l]? with
  | none => return ()
  | some (p, already) =>
    if already then return ()
    if isSelf v p then op (.callResolve l v .notCallable)
    else
      let look ← thenLookM prog v
      op (.callResolve l v look)

/-- promiseCapability.resolve / .reject (builtin_promise.go:385-391): the capability's own functions. -/
def capResolve (prog : Prog) (cap : Cap) (v : Val) : M k0 Unit := do
  match cap.res with
  | .resolve l => doResolve prog l v
  | .logRes c => emit ("R" ++ toString c ++ ":" ++ (← reprM v))
  | _ => pure ()

def capReject (cap : Cap) (v : Val) : M k0 Unit := do
  match cap.rej with
  | .reject l => doReject l v
  | .logRej c => emit ("J" ++ toString c ++ ":" ++ (← reprM v))
  | _ => pure ()

/-- promiseProto_then + performPromiseThen (builtin_promise.go:271-336) on native promise `p`. -/
def performThen (p : Nat) (onF onR : Option Fn) : M k0 Nat := do
  let cap ← newCapM
  op (.addReactions p (some cap) onF onR)
  return cap.promise

/-- Promise.prototype.then itself, called on v. -/
def invokeThen (v : Val) (args : List Arg) : M k0 Res := do
  match v with
  | .prom p => return .normal (.prom (← performThen p (argFn args 0) (argFn args 1)))
  | _ => return .throw .typeErr

/-- promiseResolve(%Promise%, x) (builtin_promise.go:342-352). -/
def promiseResolveM (prog : Prog) (x : Val) : M k0 Nat := do
  match x with
  | .prom q => return q           -- x.constructor === %Promise%
  | _ =>
    let cap ← newCapM
    capResolve prog cap x
    return cap.promise

/-- `setP(d, r)`: promises with an overridden own `then` are never stored in a slot (keeps every program terminating:
a thenable's body can then never get hold of a promise whose `then` is itself). -/
def setSlot (d : Nat) (q : Nat) : M k0 Unit :=
  modify fun st => if (lookupId st.bad q).isSome then st else { st with slots := setExt st.slots d (some q) none }

def hfn (f : Option Nat) : Option Fn := f.map Fn.user

def fopt (f : Option Fn) : Arg :=
  match f with
  | some fn => .f fn
  | none => .v .undef

/-- An element function of all/allSettled/any is called: alreadyCalled check, store, count down, maybe settle the
aggregate (builtin_promise.go:416-427, :453-468, :497-510). -/
def combElem (prog : Prog) (c idx : Nat) (x : Val) (asErrors : Bool) : M k0 Unit := do
  let st ← get
  let cb := st.combs.getD c default
  let (r', fired) := cb.crec.elemCall idx x
  set { st with combs := st.combs.set c { cb with crec := r' } }
  if fired then
    if asErrors then capReject cb.cap (.aggErr r'.val.values)
    else capResolve prog cb.cap (.arr r'.val.values)

mutual

/-- Call a callable value. -/
def callFn (prog : Prog) : Nat → Fn → Val → List Arg → M k0 Res
  | 0, _, _, _ => do outOfFuel; return .abort
  | n + 1, fn, this, args => do
    match fn with
    | .user f =>
      let a := argVal args 0
      emit ("f" ++ toString f ++ ":" ++ (← reprM a))
      match lookupId prog.funs f with
      | none => return .normal .undef
      | some b => execBody prog n b a
    | .resolve l => doResolve prog l (argVal args 0); return .normal .undef
    | .reject l => doReject l (argVal args 0); return .normal .undef
    | .promThen => invokeThen this args
    | .logRes c => emit ("R" ++ toString c ++ ":" ++ (← reprM (argVal args 0))); return .normal .undef
    | .logRej c => emit ("J" ++ toString c ++ ":" ++ (← reprM (argVal args 0))); return .normal .undef
    | .thenableThen tid =>
      match lookupId prog.thens tid with
      | none => return .normal .undef
      | some d =>
        modify fun st => { st with rslots := setExt st.rslots d.slot (some (argFn args 0, argFn args 1)) none }
        emit ("t" ++ toString tid)
        execBody prog n d.body .undef
    | .thenFinally f =>                               -- builtin_promise.go:362-370
      let value := argVal args 0
      match ← callFn prog n (.user f) .undef [] with
      | .normal result =>
        let q ← promiseResolveM prog result
        invokeThenR prog n (.prom q) [.f (.valueThunk value)]
      | other => return other
    | .catchFinally f =>                              -- builtin_promise.go:372-380
      let reason := argVal args 0
      match ← callFn prog n (.user f) .undef [] with
      | .normal result =>
        let q ← promiseResolveM prog result
        invokeThenR prog n (.prom q) [.f (.thrower reason)]
      | other => return other
    | .valueThunk v => return .normal v
    | .thrower v => return .throw v
    | .allElem c idx _ =>                             -- builtin_promise.go:416-427
      combElem prog c idx (argVal args 0) false
      return .normal .undef
    | .settledElem c idx _ rej =>                     -- builtin_promise.go:453-468
      combElem prog c idx (.settledObj (!rej) (argVal args 0)) false
      return .normal .undef
    | .anyElem c idx _ =>                             -- builtin_promise.go:497-510
      combElem prog c idx (argVal args 0) true
      return .normal .undef
    | .asyncFul ar =>                                 -- func.go:699
      let x := argVal args 0
      emit ("w:" ++ (← reprM x))
      let r := (← get).asyncs.getD ar default
      runAsync prog n ar r.rest
    | .asyncRej ar =>                                 -- func.go:710
      let e := argVal args 0
      let r := (← get).asyncs.getD ar default
      if r.inTry then
        emit ("c:" ++ (← reprM e))
        runAsync prog n ar r.rest
      else
        capReject r.cap e                             -- func.go:727
        op (.asyncDone ar)
        return .normal .undef

/-- `r.invoke(v, "then", args…)` / JavaScript `v.then(args…)`: look `then` up on v (own overridden accessor of a
"bad" promise or of a thenable: user code), then call it. -/
def invokeThenR (prog : Prog) : Nat → Val → List Arg → M k0 Res
  | 0, _, _ => do outOfFuel; return .abort
  | n + 1, v, args => do
    let user (tid : Nat) : M k0 Res := do
      match ← userThenLook prog tid with
      | .throws e => return .throw e
      | .callable f => callFn prog n f v args
      | .notCallable => return .throw .typeErr
    match v with
    | .prom p =>
      match badTid (← get) p with
      | some tid => user tid
      | none => invokeThen v args
    | .thenable tid => user tid
    | _ => return .throw .typeErr

/-- A `P[d] = P[k].then(f, g)`-like statement of the op language:
`try { var r = P[k].then(f, g); if (r instanceof Promise) P[d] = r } catch (e) { E.push("e:" + repr(e)) }`.
Returns true on abort. -/
def jsThen (prog : Prog) : Nat → Nat → Nat → Option Fn → Option Fn → M k0 Bool
  | 0, _, _, _, _ => do outOfFuel; return true
  | n + 1, p, d, onF, onR => do
    match ← invokeThenR prog n (.prom p) [fopt onF, fopt onR] with
    | .abort => return true
    | .throw e => emit ("e:" ++ (← reprM e)); return false
    | .normal (.prom q) => setSlot d q; return false
    | .normal _ => return false

/-- The body of iter.iterate in promise_all / allSettled / any / race (builtin_promise.go:411-430 etc.) over the
already evaluated input values.  `none` = loop completed; `some r` = abrupt completion r (throw / abort). -/
def combLoop (prog : Prog) : Nat → CombKind → Nat → Cap → Option (Nat × CDesc) → List Val → Nat → M k0 (Option Res)
  | 0, _, _, _, _, _, _ => do outOfFuel; return some .abort
  | _ + 1, _, _, _, _, [], _ => return none
  | n + 1, kind, c, pcap, ctor, val :: rest, idx => do
    -- nextPromise := promiseResolve(c, nextValue): %Promise%'s own resolve or the user-defined static
    let next : Val ← match ctor with
      | none => pure (Val.prom (← promiseResolveM prog val))
      | some (cid, cd) =>
        emit ("cr" ++ toString cid ++ ":" ++ (← reprM val))
        pure (Val.thenable cd.tid)
    let r ← match kind with
      | .race => invokeThenR prog n next [.f pcap.res, .f pcap.rej]
      | _ =>
        modify fun st =>
          let cb := st.combs.getD c default
          { st with combs := st.combs.set c { cb with crec := cb.crec.addElem } }
        match kind with
        | .all => invokeThenR prog n next [.f (.allElem c idx idx), .f pcap.rej]
        | .allSettled => invokeThenR prog n next [.f (.settledElem c idx idx false), .f (.settledElem c idx idx true)]
        | _ => invokeThenR prog n next [.f pcap.res, .f (.anyElem c idx idx)]
    match r with
    | .normal _ => combLoop prog n kind c pcap ctor rest (idx + 1)
    | other => return some other

/-- Run a function body: actions, then completion. -/
def execBody (prog : Prog) : Nat → Body → Val → M k0 Res
  | 0, _, _ => do outOfFuel; return .abort
  | n + 1, b, a => do
    match ← execActs prog n b.acts a with
    | .abort => return .abort
    | .await _ _ _ => return .normal .undef      -- await outside async: not generated
    | .done =>
      match b.compl with
      | .ret v => return .normal (← evalV v a)
      | .throw v => return .throw (← evalV v a)

/-- Resume/start async runner `ar` on the remaining actions (asyncRunner.step, func.go:721-743). -/
def runAsync (prog : Prog) : Nat → Nat → List Act → M k0 Res
  | 0, _, _ => do outOfFuel; return .abort
  | n + 1, ar, acts => do
    match ← execActs prog n acts .undef with
    | .abort => return .abort
    | .done =>
      let r := (← get).asyncs.getD ar default
      match r.compl with
      | .ret v => capResolve prog r.cap (← evalV v .undef)     -- func.go:725
      | .throw v => capReject r.cap (← evalV v .undef)         -- func.go:727
      op (.asyncDone ar)
      return .normal .undef
    | .await v isTry rest =>
      let q ← promiseResolveM prog v                           -- func.go:733
      modify fun st =>
        let r := st.asyncs.getD ar default
        { st with asyncs := st.asyncs.set ar { r with rest := rest, inTry := isTry } }
      op (.await ar q)                                         -- func.go:734-743: the activation is suspended
      return .normal .undef

/-- Execute actions in order. -/
def execActs (prog : Prog) : Nat → List Act → Val → M k0 ActsOut
  | 0, _, _ => do outOfFuel; return .abort
  | _ + 1, [], _ => return .done
  | n + 1, act :: rest, a => do
    let cont : M k0 ActsOut := execActs prog n rest a
    match act with
    | .log k => emit ("l" ++ toString k); cont
    | .new k s f =>                                   -- builtin_newPromise, builtin_promise.go:246-269
      let cap ← newCapM
      modify fun st => { st with rslots := setExt st.rslots s (some (some cap.res, some cap.rej)) none }
      emit ("x" ++ toString k)
      let r ← match f with
        | none => pure (Res.normal .undef)
        | some f => callFn prog n (.user f) .undef []
      match r with
      | .abort => return .abort
      | .throw e => capReject cap e; setSlot k cap.promise; cont     -- :263-267
      | .normal _ => setSlot k cap.promise; cont
    | .res s v =>      -- try { if (typeof RS[s][0] === "function") RS[s][0](v) } catch (e) { E.push("e:"+repr(e)) }
      match (← get).rslots.getD s none with
      | some (some x, _) =>
        let val ← evalV v a
        match ← callFn prog n x .undef [.v val] with
        | .abort => return .abort
        | .throw e => emit ("e:" ++ (← reprM e)); cont
        | .normal _ => cont
      | _ => cont
    | .rej s v =>
      match (← get).rslots.getD s none with
      | some (_, some y) =>
        let val ← evalV v a
        match ← callFn prog n y .undef [.v val] with
        | .abort => return .abort
        | .throw e => emit ("e:" ++ (← reprM e)); cont
        | .normal _ => cont
      | _ => cont
    | .then_ k f g d =>
      match (← get).slots.getD k none with
      | none => cont
      | some p => if ← jsThen prog n p d (hfn f) (hfn g) then return .abort else cont
    | .catch_ k g d =>                                -- promiseProto_catch: this.then(undefined, g)
      match (← get).slots.getD k none with
      | none => cont
      | some p => if ← jsThen prog n p d none (hfn g) then return .abort else cont
    | .fin k f d =>                                   -- promiseProto_finally, builtin_promise.go:354-383
      match (← get).slots.getD k none with
      | none => cont
      | some p =>
        match f with
        | none => if ← jsThen prog n p d none none then return .abort else cont
        | some f =>
          if ← jsThen prog n p d (some (.thenFinally f)) (some (.catchFinally f)) then return .abort else cont
    | .pres v d =>                                    -- promise_resolve :546
      let val ← evalV v a
      setSlot d (← promiseResolveM prog val); cont
    | .prej v d =>                                    -- promise_reject :540
      let val ← evalV v a
      let cap ← newCapM
      capReject cap val
      setSlot d cap.promise; cont
    | .comb kind ctor d vs =>                         -- promise_all/allSettled/any/race :402-538
      let vals ← evalVs vs a                          -- the array literal is evaluated first
      let cinfo : Option (Nat × CDesc) := match ctor with
        | none => none
        | some cid => (lookupId prog.ctors cid).map (fun cd => (cid, cd))
      -- newPromiseCapability(c)
      let plain := match cinfo with
        | some (_, cd) => cd.plain
        | none => false
      let pcap ← match cinfo with
        | some (cid, cd) =>
          if cd.plain then do
            emit ("C" ++ toString cid)
            pure ({ promise := 0, res := .logRes cid, rej := .logRej cid } : Cap)
          else newCapM
        | none => newCapM
      let c := (← get).combs.length
      modify fun st => { st with combs := st.combs ++ [{ cap := pcap }] }
      match ← combLoop prog n kind c pcap cinfo vals 0 with       -- inside pcap.try
      | some .abort => return .abort
      | some (.throw e) => capReject pcap e                       -- builtin_promise.go:393-399
      | _ =>
        if kind != .race then
          let st ← get
          let cb := st.combs.getD c default
          let (r', fired) := cb.crec.finish
          set { st with combs := st.combs.set c { cb with crec := r' } }
          if fired then
            if kind == .any then capReject pcap (.aggErr r'.val.values)
            else capResolve prog pcap (.arr r'.val.values)
      if !plain then setSlot d pcap.promise
      cont
    | .call aid d =>                                  -- asyncRunner.start, func.go:745
      match lookupId prog.asyncs aid with
      | none => cont
      | some b =>
        let cap ← newCapM
        let ar := (← kget).runners.length
        op .asyncStart
        modify fun st => { st with asyncs := setExt st.asyncs ar { rest := b.acts, compl := b.compl, cap := cap } default }
        emit ("a" ++ toString aid)
        match ← runAsync prog n ar b.acts with
        | .abort => return .abort
        | _ => setSlot d cap.promise; cont
    | .interrupt => emit "int"; return .abort
    | .await v isTry => return .await (← evalV v a) isTry rest

end

/-- The body of a job (after the scheduler has started it).  `l` = index of the latch that popJob allocated for a
thenable job.  Returns true on abort. -/
def jobBody (prog : Prog) (fuel : Nat) (j : Job) (l : Nat) : M k0 Bool := do
  match j with
  | .reaction _ _ r arg =>                          -- newPromiseReactionJob, builtin_promise.go:199-231
    let (res, fulfill, aborted) ← match r.handler with
      | none => pure (arg, r.isFul, false)          -- :203-207
      | some h =>
        match ← callFn prog fuel h .undef [.v arg] with   -- :212-215
        | .normal v => pure (v, true, false)
        | .throw e => pure (e, false, false)
        | .abort => pure (Val.undef, false, true)
    if aborted then return true
    match r.cap with                                -- :223-229
    | none => return false
    | some cap =>
      if fulfill then capResolve prog cap res else capReject cap res
      return false
  | .thenable _ _ thenableV thenFn =>               -- newPromiseResolveThenableJob, :175-187
    match ← callFn prog fuel thenFn thenableV [.f (.resolve l), .f (.reject l)] with
    | .normal _ => return false
    | .throw e => doReject l e; return false        -- :181-185
    | .abort => return true

/-! ## The scheduler: states between body runs -/

/-- Interpreter state as the scheduler sees it: some base together with a state over it. -/
structure StU where
  base : K
  st : St base

def StU.k (u : StU) : K := u.st.rk.val

def St.withRk {k1 : K} (st : St k0) (b : BK k1) : St k1 :=
  { rk := b, slots := st.slots, rslots := st.rslots, bad := st.bad, gslots := st.gslots, combs := st.combs,
    asyncs := st.asyncs, events := st.events, oof := st.oof }

/-- The scheduler applies a kernel op (popJob / leaveAbrupt); the result is the new base. -/
def StU.sched (u : StU) (o : KOp) : StU := ⟨applyOp o u.k, u.st.withRk (u.st.rk.sched o)⟩

/-- Forget how the current kernel state was reached from the old base. -/
def StU.rebase (u : StU) : StU := ⟨u.k, u.st.withRk u.st.rk.rebase⟩

def StU.init : StU := ⟨{}, { rk := BK.init }⟩

def StU.setOof (u : StU) : StU := ⟨u.base, { u.st with oof := true }⟩

/-- Run the oldest job (runtime.go:2915-2917): the scheduler starts it (popJob), then its body runs as body code
over the new base.  Returns true on abort. -/
def runJob (prog : Prog) (fuel : Nat) (u : StU) : Bool × StU :=
  match u.k.jobs with
  | [] => (false, u)
  | j :: _ =>
    let l := u.k.latches.length
    let u1 := u.sched .popJob
    let (ab, st2) := (jobBody prog fuel j l).run u1.st
    (ab, ⟨u1.base, st2⟩)

/-- Runtime.leave() (runtime.go:2911-2921).  `c` is the double buffer: the number of oldest jobs that form the batch
being iterated (`jobs[i:]` of the inner `range` loop).  `c = 0` is the outer loop: test `for len(r.jobQueue) > 0`
(the ONLY place where the loop can end) and swap `jobs, r.jobQueue = r.jobQueue, jobs[:0]` (batch := everything queued
now); `c > 0` is the inner loop, which starts the next job of the batch without looking at the queue.  On abort the panic
reaches the recover of RunProgram/runWrapped which calls leaveAbrupt.  Returns true iff aborted. -/
def drainS (prog : Prog) : Nat → Nat → StU → Bool × StU
  | 0, _, u => (true, u.setOof)
  | n + 1, c, u =>
    if c = 0 ∧ u.k.jobs.isEmpty then (false, u)
    else
      let c := if c = 0 then u.k.jobs.length else c               -- swap
      match runJob prog 100000 u with                              -- job()
      | (true, u1) => (true, u1.sched .leaveAbrupt)
      | (false, u1) => drainS prog n (c - 1) u1

/-- SPECIFICATION of the drain (ECMA-262 job queue): one FIFO queue; while it is not empty run its oldest job. -/
def drainF (prog : Prog) : Nat → StU → Bool × StU
  | 0, u => (true, u.setOof)
  | n + 1, u =>
    if u.k.jobs.isEmpty then (false, u)
    else
      match runJob prog 100000 u with
      | (true, u1) => (true, u1.sched .leaveAbrupt)
      | (false, u1) => drainF prog n u1

def drain (prog : Prog) (n : Nat) (u : StU) : Bool × StU := drainS prog n 0 u

/-! ## Outermost calls (RunString / Go-side resolver), parametric in the drain loop -/

/-- After the synchronous part of an outermost call: leave() or, after an abort, leaveAbrupt(). -/
def finishCall (dr : Prog → Nat → StU → Bool × StU) (prog : Prog) (u : StU) (r : Res) : String × StU :=
  match r with
  | .abort => ("int", u.sched .leaveAbrupt)
  | .throw _ => match dr prog 100000 u with
    | (true, u1) => ("int", u1)
    | (false, u1) => ("exc", u1)
  | .normal _ => match dr prog 100000 u with
    | (true, u1) => ("int", u1)
    | (false, u1) => ("none", u1)

/-- The synchronous part of an outermost call, as body code. `none` = the call does not enter the VM loop
(Runtime.NewPromise), so no leave(). -/
def segBody (prog : Prog) (seg : Seg) : M k0 (Option Res) := do
  match seg with
  | .run b => return some (← execBody prog 100000 b .undef)
  | .go (.gnew k g) =>
    let cap ← newCapM                                  -- Runtime.NewPromise, builtin_promise.go:628
    setSlot k cap.promise
    modify fun st => { st with gslots := setExt st.gslots g (some (cap.res, cap.rej)) none }
    return none
  | .go (.gres g v) =>
    match (← get).gslots.getD g none with
    | none => return none
    | some (x, _) =>
      let val ← evalV v .undef
      match ← callFn prog 100000 x .undef [.v val] with     -- wrapPromiseReaction → runWrapped
      | .abort => return some .abort
      | _ => return some (.normal .undef)
  | .go (.grej g v) =>
    match (← get).gslots.getD g none with
    | none => return none
    | some (_, y) =>
      let val ← evalV v .undef
      match ← callFn prog 100000 y .undef [.v val] with
      | .abort => return some .abort
      | _ => return some (.normal .undef)

/-- One outermost call into the runtime: run, then leave() / leaveAbrupt().  Returns the error kind. -/
def runSegWith (dr : Prog → Nat → StU → Bool × StU) (prog : Prog) (seg : Seg) (u : StU) : String × StU :=
  let (r, st1) := (segBody prog seg).run u.st
  let u1 : StU := ⟨u.base, st1⟩
  match r with
  | none => ("none", u1)
  | some r => finishCall dr prog u1 r

/-- Whole program: all outermost calls in order; result = error kind of every call + final state. -/
def runSegsWith (dr : Prog → Nat → StU → Bool × StU) (prog : Prog) : List Seg → StU → List String × StU
  | [], u => ([], u)
  | s :: rest, u =>
    let (e, u1) := runSegWith dr prog s u
    let (es, u2) := runSegsWith dr prog rest u1
    (e :: es, u2)

end GojaModel.C10
