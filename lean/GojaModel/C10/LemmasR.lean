/-
  C10, reactions.  Four invariants about the reactions stored in promise records and carried by jobs:
  RInv (what is stored while pending, nothing once settled), EInv (the reaction jobs ever enqueued for a promise are
  determined by its state, result and attachments), AInv (attachment ids strictly increasing, below the counter),
  RidInv (every reaction that exists anywhere has an attachment id below the counter).
-/
import GojaModel.C10.LemmasQ
import GojaModel.C10.LemmasT

namespace GojaModel.C10

def RecOk (r : PRec) : Prop :=
  (r.state ≠ .pending → r.fulR = [] ∧ r.rejR = []) ∧
  (r.state = .pending →
    r.fulR.map (·.rid) = r.attached ∧ r.rejR.map (·.rid) = r.attached ∧
    (∀ x ∈ r.fulR, x.isFul = true) ∧ (∀ x ∈ r.rejR, x.isFul = false))

def RInv (k : K) : Prop := ∀ p, RecOk (k.getP p)

theorem recOk_default : RecOk {} := ⟨fun h => absurd rfl h, fun _ => ⟨rfl, rfl, by simp, by simp⟩⟩

theorem rinv_congr {k k' : K} (h : RInv k) (hp : k'.proms = k.proms) : RInv k' := by
  intro q; rw [getP_of_proms_eq hp]; exact h q

theorem recOk_attach (r : PRec) (fr rr : Reaction) (rid : Nat) (h : RecOk r)
    (h1 : fr.rid = rid) (h2 : rr.rid = rid) (h3 : fr.isFul = true) (h4 : rr.isFul = false) :
    RecOk (if r.state = .pending then
        { r with fulR := r.fulR ++ [fr], rejR := r.rejR ++ [rr], handled := true, attached := r.attached ++ [rid] }
      else { r with handled := true, attached := r.attached ++ [rid] }) := by
  split
  · rename_i hs
    obtain ⟨a, b, c, d⟩ := h.2 hs
    refine ⟨fun x => absurd hs x, fun _ => ⟨by simp [a, h1], by simp [b, h2], ?_, ?_⟩⟩
    · intro x hx; simp only [List.mem_append, List.mem_singleton] at hx
      rcases hx with hx | hx
      · exact c x hx
      · subst hx; exact h3
    · intro x hx; simp only [List.mem_append, List.mem_singleton] at hx
      rcases hx with hx | hx
      · exact d x hx
      · subst hx; exact h4
  · rename_i hs
    exact ⟨fun _ => h.1 hs, fun x => absurd x hs⟩

theorem rinv_attachP {k : K} (h : RInv k) (p : Nat) (cap : Option Cap) (f g : Option Fn) : RInv (attachP k p cap f g) :=
  forall_getP_of_proms_set rfl (recOk_attach (k.getP p) _ _ k.nextRid (h p) rfl rfl rfl rfl) h

theorem rinv_step {k k' : K} (h : RInv k) (s : Step k k') : RInv k' := by
  cases s with
  | body hb =>
    cases hb with
    | newCap => exact forall_getP_newCap recOk_default h
    | settle l p isF v hl =>
      refine forall_getP_of_proms_set rfl ⟨fun _ => ⟨rfl, rfl⟩, fun hs => ?_⟩ h
      cases isF <;> cases hs
    | attach p cap f g hp hf hg => exact rinv_attachP h p cap f g
    | await ar p hrun har hp => exact rinv_congr (rinv_attachP h p _ _ _) rfl
    | _ => exact rinv_congr h rfl
  | _ => exact rinv_congr h rfl

theorem rinv_reach {k : K} (h : Reach k) : RInv k := by
  induction h with
  | init => intro p; rw [getP_default _ _ (by simp)]; exact recOk_default
  | step op _ ih => exact rinv_step ih (step_applyOp op _)

def Job.reaction? : Job → Option Reaction
  | .reaction _ _ r _ => some r
  | .thenable _ _ _ _ => none

theorem trigJobs_reactions (owner : Nat) (arg : Val) : ∀ (rs : List Reaction) (sid : Nat),
    (trigJobs sid owner rs arg).filterMap Job.reaction? = rs := by
  intro rs
  induction rs with
  | nil => intro sid; simp [trigJobs]
  | cons r rs ih => intro sid; simp only [trigJobs, List.filterMap_cons, Job.reaction?]; rw [ih]

def rentry (p : Nat) : Job → Option (Nat × Bool × Val)
  | .reaction _ owner r arg => if owner = p then some (r.rid, r.isFul, arg) else none
  | .thenable _ _ _ _ => none

/-- Reaction jobs ever enqueued on behalf of promise `p`, in enqueue order. -/
def rlog (p : Nat) (js : List Job) : List (Nat × Bool × Val) := js.filterMap (rentry p)

def expectedLog (r : PRec) : List (Nat × Bool × Val) :=
  match r.state with
  | .pending => []
  | .fulfilled => r.attached.map (fun rid => (rid, true, r.result))
  | .rejected => r.attached.map (fun rid => (rid, false, r.result))

def EInv (k : K) : Prop := ∀ p, rlog p k.enqEver = expectedLog (k.getP p)

theorem rlog_append (p : Nat) (a b : List Job) : rlog p (a ++ b) = rlog p a ++ rlog p b := by
  simp [rlog, List.filterMap_append]

theorem rlog_trigJobs (q p : Nat) (v : Val) : ∀ (rs : List Reaction) (sid : Nat),
    rlog q (trigJobs sid p rs v) = if p = q then rs.map (fun r => (r.rid, r.isFul, v)) else [] := by
  intro rs
  induction rs with
  | nil => intro sid; simp [trigJobs, rlog]
  | cons r rs ih =>
    intro sid
    have := ih (sid + 1)
    unfold rlog at this ⊢
    simp only [trigJobs, List.filterMap_cons, rentry]
    by_cases e : p = q
    · simp [e] at this ⊢; exact this
    · simp [e] at this ⊢; exact this

theorem map_triple (v : Val) (b : Bool) : ∀ (rs : List Reaction) (A : List Nat),
    rs.map (·.rid) = A → (∀ x ∈ rs, x.isFul = b) →
    rs.map (fun r => (r.rid, r.isFul, v)) = A.map (fun rid => (rid, b, v)) := by
  intro rs
  induction rs with
  | nil => intro A h _; simp at h; subst h; rfl
  | cons r rs ih =>
    intro A h hb
    cases A with
    | nil => simp at h
    | cons a A =>
      simp only [List.map_cons, List.cons.injEq] at h
      simp only [List.map_cons]
      rw [ih A h.2 (fun x hx => hb x (List.mem_cons_of_mem _ hx)), hb r (List.mem_cons_self), h.1]

theorem einv_congr {k k' : K} (h : EInv k) (he : k'.enqEver = k.enqEver) (hp : k'.proms = k.proms) : EInv k' := by
  intro q; rw [he, getP_of_proms_eq hp]; exact h q

theorem einv_update {k k' : K} (he : EInv k) (p : Nat) (r : PRec) (rs : List Reaction) (sid : Nat) (v : Val)
    (hlt : p < k.proms.length) (hpr : k'.proms = k.proms.set p r) (hen : k'.enqEver = k.enqEver ++ trigJobs sid p rs v)
    (hp : expectedLog (k.getP p) ++ rs.map (fun x => (x.rid, x.isFul, v)) = expectedLog r) : EInv k' := by
  intro q
  rw [hen, rlog_append, rlog_trigJobs, he q, getP_of_proms_set k k' p q r hpr]
  by_cases e : q = p
  · subst e; simpa [hlt] using hp
  · simp [e, Ne.symm e]

theorem einv_settleP {k : K} (he : EInv k) (hr : RInv k) (p : Nat) (isF : Bool) (v : Val)
    (hp : (k.getP p).state = .pending) (hlt : p < k.proms.length) : EInv (settleP k p isF v) := by
  refine einv_update he p _ _ _ v hlt rfl rfl ?_
  obtain ⟨a, b, c, d⟩ := (hr p).2 hp
  unfold expectedLog
  rw [hp]
  cases isF with
  | true => exact map_triple v true _ _ a c
  | false => exact map_triple v false _ _ b d

theorem einv_attachP {k : K} (he : EInv k) (p : Nat) (cap : Option Cap) (f g : Option Fn) (hlt : p < k.proms.length) :
    EInv (attachP k p cap f g) := by
  refine einv_update he p _ _ _ _ hlt rfl rfl ?_
  cases hs : (k.getP p).state <;> simp [expectedLog, hs, lateR]

theorem einv_step {k k' : K} (ht : TInv k) (hr : RInv k) (he : EInv k) (s : Step k k') : EInv k' := by
  cases s with
  | body hb =>
    cases hb with
    | newCap =>
      intro q
      show rlog q k.enqEver = _
      rw [getP_newCap]
      split
      · exact he q
      · rename_i hq; rw [he q, getP_default k q (by omega)]
    | settle l p isF v hl =>
      obtain ⟨hq, hlt⟩ := pending_of_unlatched ht hl
      exact einv_congr (einv_settleP he hr p isF v hq hlt) rfl rfl
    | thenable l p v f hl =>
      intro x
      show rlog x (k.enqEver ++ [Job.thenable k.nextSid p v f]) = expectedLog (k.getP x)
      have h2 := he x
      simp only [rlog, List.filterMap_append, List.filterMap_cons, rentry, List.filterMap_nil, List.append_nil] at h2 ⊢
      exact h2
    | attach p cap f g hp hf hg => exact einv_attachP he p cap f g hp
    | await ar p hrun har hp => exact einv_congr (einv_attachP he p _ _ _ hp) rfl rfl
    | _ => exact einv_congr he rfl rfl
  | _ => exact einv_congr he rfl rfl

theorem einv_reach {k : K} (h : Reach k) : EInv k := by
  induction h with
  | init => intro p; rw [getP_default _ _ (by simp)]; rfl
  | step op hr ih => exact einv_step (tinv_reach hr) (rinv_reach hr) ih (step_applyOp op _)

def AInv (k : K) : Prop :=
  ∀ p, (k.getP p).attached.Pairwise (· < ·) ∧ ∀ rid ∈ (k.getP p).attached, rid < k.nextRid

theorem ainv_of {k k' : K} (h : AInv k) (hn : k'.nextRid = k.nextRid)
    (ha : ∀ q, (k'.getP q).attached = (k.getP q).attached) : AInv k' := by
  intro q
  rw [ha q, hn]
  exact h q

theorem ainv_attachP {k : K} (h : AInv k) (p : Nat) (cap : Option Cap) (f g : Option Fn) : AInv (attachP k p cap f g) := by
  obtain ⟨a, b⟩ := h p
  -- the record of `p` gets the counter's value as one more attachment id, above all it has
  have hatt : ∀ r : PRec, r.attached = (k.getP p).attached ++ [k.nextRid] →
      r.attached.Pairwise (· < ·) ∧ ∀ rid ∈ r.attached, rid < k.nextRid + 1 := by
    intro r e
    rw [e]
    constructor
    · rw [List.pairwise_append]
      exact ⟨a, List.pairwise_singleton _ _, fun x hx y hy => by simp at hy; subst hy; exact b x hx⟩
    · intro rid hr
      rw [List.mem_append] at hr
      rcases hr with hr | hr
      · have := b rid hr; omega
      · simp at hr; omega
  exact forall_getP_of_proms_set (P := fun r => r.attached.Pairwise (· < ·) ∧ ∀ rid ∈ r.attached, rid < k.nextRid + 1)
    rfl (by split <;> exact hatt _ rfl) (fun q => ⟨(h q).1, fun rid hr => Nat.lt_succ_of_lt ((h q).2 rid hr)⟩)

theorem ainv_step {k k' : K} (h : AInv k) (s : Step k k') : AInv k' := by
  cases s with
  | body hb =>
    cases hb with
    | newCap =>
      exact forall_getP_newCap (P := fun r => r.attached.Pairwise (· < ·) ∧ ∀ rid ∈ r.attached, rid < k.nextRid)
        ⟨List.Pairwise.nil, fun rid hr => by simp at hr⟩ h
    | settle l p isF v hl =>
      refine ainv_of h rfl (fun q => ?_)
      rw [getP_of_proms_set k _ p q _ rfl]
      split
      · rename_i hh; rw [hh.1]
      · rfl
    | attach p cap f g hp hf hg => exact ainv_attachP h p cap f g
    | await ar p hrun har hp => exact ainv_of (ainv_attachP h p _ _ _) rfl (fun q => rfl)
    | _ => exact ainv_of h rfl (fun q => rfl)
  | _ => exact ainv_of h rfl (fun q => rfl)

theorem ainv_reach {k : K} (h : Reach k) : AInv k := by
  induction h with
  | init =>
    intro p; rw [getP_default _ _ (by simp)]
    exact ⟨List.Pairwise.nil, fun rid hr => by simp at hr⟩
  | step op _ ih => exact ainv_step ih (step_applyOp op _)

/-! RidInv: every reaction that exists was attached before (used for the AsyncContextTracker, ActProps2).  For stored
reactions this follows from RInv and AInv; for the reactions carried by queued jobs from EInv and AInv, since a queued job
is in the live log (QInv) and the live log is part of the log of all jobs ever enqueued (EnqSub). -/

def Job.rid? : Job → Option Nat
  | .reaction _ _ r _ => some r.rid
  | .thenable _ _ _ _ => none

structure RidInv (k : K) : Prop where
  jobs : ∀ j ∈ k.jobs, ∀ rid, j.rid? = some rid → rid < k.nextRid
  ful : ∀ q, ∀ r ∈ (k.getP q).fulR, r.rid < k.nextRid
  rej : ∀ q, ∀ r ∈ (k.getP q).rejR, r.rid < k.nextRid

theorem stored_rid_lt {k : K} (hr : RInv k) (ha : AInv k) (q : Nat) :
    (∀ r ∈ (k.getP q).fulR, r.rid < k.nextRid) ∧ (∀ r ∈ (k.getP q).rejR, r.rid < k.nextRid) := by
  by_cases hs : (k.getP q).state = .pending
  · obtain ⟨a, b, _, _⟩ := (hr q).2 hs
    constructor
    · intro r hm; exact (ha q).2 r.rid (by rw [← a]; exact List.mem_map_of_mem hm)
    · intro r hm; exact (ha q).2 r.rid (by rw [← b]; exact List.mem_map_of_mem hm)
  · obtain ⟨a, b⟩ := (hr q).1 hs
    rw [a, b]; simp

theorem jobRids_of {k : K} (hq : QInv k) (hs : EnqSub k) (he : EInv k) (ha : AInv k) :
    ∀ j ∈ k.jobs, ∀ rid, j.rid? = some rid → rid < k.nextRid := by
  intro j hm rid hr
  have hE : j ∈ k.enqEver := hs.subset (by rw [← hq.fifo]; exact List.mem_append_right _ hm)
  cases j with
  | thenable sid p tv tf => simp [Job.rid?] at hr
  | reaction sid owner r arg =>
    simp only [Job.rid?, Option.some.injEq] at hr
    have hlog : (r.rid, r.isFul, arg) ∈ rlog owner k.enqEver :=
      List.mem_filterMap.mpr ⟨_, hE, by simp [rentry]⟩
    rw [he owner] at hlog
    have hatt : r.rid ∈ (k.getP owner).attached := by
      unfold expectedLog at hlog
      cases hst : (k.getP owner).state <;> simp [hst] at hlog
      · obtain ⟨a, ha1, ha2, _⟩ := hlog; exact ha2 ▸ ha1
      · obtain ⟨a, ha1, ha2, _⟩ := hlog; exact ha2 ▸ ha1
    exact hr ▸ (ha owner).2 _ hatt

theorem ridinv_reach {k : K} (h : Reach k) : RidInv k :=
  ⟨jobRids_of (qinv_reach h) (enqSub_reach h) (einv_reach h) (ainv_reach h),
   fun q => (stored_rid_lt (rinv_reach h) (ainv_reach h) q).1,
   fun q => (stored_rid_lt (rinv_reach h) (ainv_reach h) q).2⟩

theorem nextRid_step (op : KOp) (k : K) :
    (applyOp op k).nextRid = k.nextRid ∨ (applyOp op k).nextRid = k.nextRid + 1 := by
  have s := step_applyOp op k
  generalize applyOp op k = k' at s ⊢
  cases s with
  | body hb =>
    cases hb with
    | attach p cap f g hp hf hg => exact Or.inr rfl
    | await ar p hrun har hp => exact Or.inr rfl
    | _ => exact Or.inl rfl
  | pop j rest hj => exact Or.inl rfl
  | leaveAbrupt => exact Or.inl rfl

end GojaModel.C10
