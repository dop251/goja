/-
  C10 Tie: the decision structure of the Go functions that Model.lean / Comb.lean / Interp.lean transcribe
  (extract/c10.go regenerates `GojaModel.Generated.C10.skeleton` from /repo on every run) must be exactly the
  structure the transcription was made from.  Per function: guards, loops, switch cases, function literals, every
  call (callee only) and every assignment to a field or to a latch/flag/counter variable, in source order.
-/
import GojaModel.Generated.C10_Skeleton

namespace GojaModel.C10.Expected

def skeleton : List (String × List String) := [
  ("Promise.createResolvingFunctions", ["set alreadyResolved := false", "func {", "if alreadyResolved {", "return", "}", "set alreadyResolved = true", "call call.Argument", "call resolution.SameAs", "if resolution.SameAs(p.val) {", "call r.NewTypeError", "call p.reject", "return", "}", "if ok {", "func {", "call obj.self.getStr", "}", "call r.vm.try", "if ex != nil {", "call p.reject", "return", "}", "call assertCallable", "if ok {", "call r.newPromiseResolveThenableJob", "call r.enqueuePromiseJob", "return", "}", "}", "call p.fulfill", "return", "}", "call p.val.runtime.newNativeFunc", "func {", "if alreadyResolved {", "return", "}", "set alreadyResolved = true", "call call.Argument", "call p.reject", "return", "}", "call p.val.runtime.newNativeFunc", "return"]),
  ("Promise.reject", ["set p.result = reason", "set p.fulfillReactions = nil", "set p.rejectReactions = nil", "set p.state = PromiseStateRejected", "if !p.handled {", "call r.trackPromiseRejection", "}", "call r.triggerPromiseReactions", "return"]),
  ("Promise.fulfill", ["set p.result = value", "set p.fulfillReactions = nil", "set p.rejectReactions = nil", "set p.state = PromiseStateFulfilled", "call p.val.runtime.triggerPromiseReactions", "return"]),
  ("Promise.addReactions", ["if tracker != nil {", "call tracker.Grab", "set fulfillReaction.asyncCtx = ctx", "set rejectReaction.asyncCtx = ctx", "}", "switch p.state {", "case PromiseStatePending:", "call append", "set p.fulfillReactions = append(p.fulfillReactions, fulfillReaction)", "call append", "set p.rejectReactions = append(p.rejectReactions, rejectReaction)", "case PromiseStateFulfilled:", "call r.newPromiseReactionJob", "call r.enqueuePromiseJob", "default:", "if !p.handled {", "call r.trackPromiseRejection", "}", "call r.newPromiseReactionJob", "call r.enqueuePromiseJob", "}", "set p.handled = true"]),
  ("Runtime.newPromiseResolveThenableJob", ["func {", "call p.createResolvingFunctions", "func {", "call r.callJobCallback", "}", "call r.vm.try", "if ex != nil {", "call reject.self.assertCallable", "if ok {", "call fn", "}", "}", "}", "return"]),
  ("Runtime.enqueuePromiseJob", ["call append", "set r.jobQueue = append(r.jobQueue, job)"]),
  ("Runtime.triggerPromiseReactions", ["range reactions {", "call r.newPromiseReactionJob", "call r.enqueuePromiseJob", "}"]),
  ("Runtime.newPromiseReactionJob", ["func {", "set fulfill := false", "if reaction.handler == nil {", "set handlerResult = argument", "if reaction.typ == promiseReactionFulfill {", "set fulfill = true", "}", "} else {", "if tracker != nil {", "call tracker.Resumed", "}", "func {", "call r.callJobCallback", "set handlerResult = r.callJobCallback(reaction.handler, _undefined, argument)", "set fulfill = true", "}", "call r.vm.try", "if ex != nil {", "set handlerResult = ex.val", "}", "if tracker != nil {", "call tracker.Exited", "}", "}", "if reaction.capability != nil {", "if fulfill {", "call reaction.capability.resolve", "} else {", "call reaction.capability.reject", "}", "}", "}", "return"]),
  ("Runtime.performPromiseThen", ["call assertCallable", "if ok {", "}", "call assertCallable", "if ok {", "}", "call p.addReactions", "if resultCapability == nil {", "return", "}", "return"]),
  ("Runtime.promiseResolve", ["if ok {", "call obj.self.getStr", "call nilSafe", "call xConstructor.SameAs", "if xConstructor.SameAs(c) {", "return", "}", "}", "call r.newPromiseCapability", "call pcap.resolve", "return"]),
  ("Runtime.promiseProto_finally", ["call r.toObject", "call r.getPromise", "call r.speciesConstructorObj", "call call.Argument", "call assertCallable", "if !ok {", "} else {", "func {", "call call.Argument", "call onFinallyFn", "call r.promiseResolve", "func {", "return", "}", "call r.newNativeFunc", "call r.invoke", "return", "}", "call r.newNativeFunc", "func {", "call call.Argument", "call onFinallyFn", "call r.promiseResolve", "func {", "call panic", "}", "call r.newNativeFunc", "call r.invoke", "return", "}", "call r.newNativeFunc", "}", "call r.invoke", "return"]),
  ("Runtime.promise_all", ["call r.toObject", "call r.newPromiseCapability", "func {", "call c.self.getStr", "call r.toCallable", "call call.Argument", "call r.getIterator", "set remainingElementsCount := 1", "func {", "call len", "call append", "call promiseResolve", "set alreadyCalled := false", "func {", "if alreadyCalled {", "return", "}", "set alreadyCalled = true", "call call.Argument", "set values[index] = call.Argument(0)", "set remainingElementsCount--", "if remainingElementsCount == 0 {", "call r.newArrayValues", "call pcap.resolve", "}", "return", "}", "call r.newNativeFunc", "set remainingElementsCount++", "call r.invoke", "}", "call iter.iterate", "set remainingElementsCount--", "if remainingElementsCount == 0 {", "call r.newArrayValues", "call pcap.resolve", "}", "}", "call pcap.try", "return"]),
  ("Runtime.promise_allSettled", ["call r.toObject", "call r.newPromiseCapability", "func {", "call c.self.getStr", "call r.toCallable", "call call.Argument", "call r.getIterator", "set remainingElementsCount := 1", "func {", "call len", "call append", "call promiseResolve", "set alreadyCalled := false", "func {", "func {", "if alreadyCalled {", "return", "}", "set alreadyCalled = true", "call r.NewObject", "call obj.self._putProp", "call call.Argument", "call obj.self._putProp", "set values[index] = obj", "set remainingElementsCount--", "if remainingElementsCount == 0 {", "call r.newArrayValues", "call pcap.resolve", "}", "return", "}", "call r.newNativeFunc", "return", "}", "call asciiString", "call reaction", "call asciiString", "call reaction", "set remainingElementsCount++", "call r.invoke", "}", "call iter.iterate", "set remainingElementsCount--", "if remainingElementsCount == 0 {", "call r.newArrayValues", "call pcap.resolve", "}", "}", "call pcap.try", "return"]),
  ("Runtime.promise_any", ["call r.toObject", "call r.newPromiseCapability", "func {", "call c.self.getStr", "call r.toCallable", "call call.Argument", "call r.getIterator", "set remainingElementsCount := 1", "func {", "call len", "call append", "call promiseResolve", "set alreadyCalled := false", "func {", "if alreadyCalled {", "return", "}", "set alreadyCalled = true", "call call.Argument", "set errors[index] = call.Argument(0)", "set remainingElementsCount--", "if remainingElementsCount == 0 {", "call r.getAggregateError", "call r.builtin_new", "call r.newArrayValues", "call _error.self._putProp", "call pcap.reject", "}", "return", "}", "call r.newNativeFunc", "set remainingElementsCount++", "call r.invoke", "}", "call iter.iterate", "set remainingElementsCount--", "if remainingElementsCount == 0 {", "call r.getAggregateError", "call r.builtin_new", "call r.newArrayValues", "call _error.self._putProp", "call pcap.reject", "}", "}", "call pcap.try", "return"]),
  ("Runtime.promise_race", ["call r.toObject", "call r.newPromiseCapability", "func {", "call c.self.getStr", "call r.toCallable", "call call.Argument", "call r.getIterator", "func {", "call promiseResolve", "call r.invoke", "}", "call iter.iterate", "}", "call pcap.try", "return"]),
  ("Runtime.NewPromise", ["call r.getPromisePrototype", "call r.newPromise", "call p.createResolvingFunctions", "call r.wrapPromiseReaction", "call r.wrapPromiseReaction", "return"]),
  ("Runtime.leave", ["for len(r.jobQueue) > 0 {", "set jobs = r.jobQueue", "set r.jobQueue = jobs[:0]", "range jobs {", "call job", "}", "}", "set r.jobQueue = nil"]),
  ("Runtime.leaveAbrupt", ["set r.jobQueue = nil"]),
  ("asyncRunner.step", ["if done || ex != nil {", "if ex == nil {", "call ar.promiseCap.resolve", "} else {", "call ar.promiseCap.reject", "}", "return", "}", "call r.getPromise", "call r.promiseResolve", "call promise.self.(*Promise).addReactions"]),
  ("asyncRunner.onFulfilled", ["defer {", "func {", "}", "}", "call call.Argument", "call ar.gen.next", "call ar.step", "return"]),
  ("asyncRunner.onRejected", ["defer {", "func {", "}", "}", "call call.Argument", "call ar.gen.nextThrow", "call ar.step", "return"]),
  ("asyncRunner.start", ["set ar.gen.vm = r.vm", "call r.getPromise", "call r.newPromiseCapability", "set ar.promiseCap = r.newPromiseCapability(r.getPromise())", "call ar.gen.enter", "set entered := false", "defer {", "call ar.gen.dropMarkerOnPanic", "}", "call ar.vmCall", "call ar.gen.step", "call ar.step", "set entered = true", "if ex != nil {", "}", "call r.vm.popTryFrame", "call r.vm.popCtx"])
]

end GojaModel.C10.Expected

namespace GojaModel.C10

/-- The regenerated decision skeleton of builtin_promise.go / runtime.go leave+leaveAbrupt / func.go asyncRunner equals
the one the model transcribes. -/
theorem skeleton_tie : GojaModel.Generated.C10.skeleton = Expected.skeleton := by rfl

/-- The regenerated skeleton lists the expected functions, in the expected order. -/
theorem skeleton_functions : GojaModel.Generated.C10.skeleton.map (·.1) = Expected.skeleton.map (·.1) :=
  congrArg (List.map (·.1)) skeleton_tie

end GojaModel.C10
