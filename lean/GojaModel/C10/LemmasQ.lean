/-
  C10, queue discipline.  On (jobs, enq, ran, nextSid) an op does one of three things: body code appends freshly
  numbered jobs, the scheduler starts the oldest job, an interrupt empties the job list and truncates the live log to
  the started jobs.  From this follow the queue invariant `QInv` (ran ++ jobs = enq, serials strictly increasing),
  `EnqSub` (enq is a sublist of enqEver), the serial bound after an interrupt, and that body code only appends to the
  job list.
-/
import GojaModel.C10.Lemmas

namespace GojaModel.C10

def SidsOk (k : K) : Prop :=
  (k.enq.map Job.sid).Pairwise (· < ·) ∧ ∀ s ∈ k.enq.map Job.sid, s < k.nextSid

structure QInv (k : K) : Prop where
  fifo : k.ran ++ k.jobs = k.enq
  sids : SidsOk k

def Appends (k k' : K) : Prop :=
  ∃ js n, k'.jobs = k.jobs ++ js ∧ k'.enq = k.enq ++ js ∧ k'.enqEver = k.enqEver ++ js ∧
    js.map Job.sid = List.range' k.nextSid n ∧ k'.nextSid = k.nextSid + n ∧ k'.ran = k.ran

theorem appends_bstep {k k' : K} (h : BStep k k') : Appends k k' := by
  cases h with
  | settle | attach | await => exact ⟨_, _, rfl, rfl, rfl, trigJobs_sids _ _ _ _, rfl, rfl⟩
  | thenable l p v f hl => exact ⟨[_], 1, rfl, rfl, rfl, by simp [Job.sid, List.range'_one], rfl, rfl⟩
  | _ => exact ⟨[], 0, (List.append_nil _).symm, (List.append_nil _).symm, (List.append_nil _).symm, rfl, rfl, rfl⟩

theorem sidsOk_append {k : K} (h : SidsOk k) (js : List Job) (n : Nat)
    (hj : js.map Job.sid = List.range' k.nextSid n) :
    ((k.enq ++ js).map Job.sid).Pairwise (· < ·) ∧ ∀ s ∈ (k.enq ++ js).map Job.sid, s < k.nextSid + n := by
  obtain ⟨h1, h2⟩ := h
  constructor
  · rw [List.map_append, List.pairwise_append]
    refine ⟨h1, ?_, ?_⟩
    · rw [hj]; exact List.pairwise_lt_range'
    · intro a ha b hb
      rw [hj, List.mem_range'_1] at hb
      have := h2 a ha
      omega
  · intro s hs
    rw [List.map_append, List.mem_append] at hs
    rcases hs with hs | hs
    · have := h2 s hs; omega
    · rw [hj, List.mem_range'_1] at hs; omega

theorem qinv_step {k k' : K} (h : QInv k) (s : Step k k') : QInv k' := by
  cases s with
  | body hb =>
    obtain ⟨js, n, h0, h1, _, h2, h3, h4⟩ := appends_bstep hb
    refine ⟨by rw [h4, h0, h1, ← List.append_assoc, h.fifo], ?_⟩
    unfold SidsOk
    rw [h1, h3]
    exact sidsOk_append h.sids js n h2
  | pop j rest hj =>
    refine ⟨?_, h.sids⟩
    show (k.ran ++ [j]) ++ rest = k.enq
    rw [List.append_assoc, List.singleton_append, ← hj, h.fifo]
  | leaveAbrupt =>
    refine ⟨List.append_nil _, ?_⟩
    -- the started jobs are a prefix of the live log
    obtain ⟨s1, s2⟩ := h.sids
    rw [← h.fifo, List.map_append] at s1 s2
    exact ⟨(List.pairwise_append.mp s1).1, fun s hs => s2 s (List.mem_append_left _ hs)⟩

theorem qinv_reach {k : K} (h : Reach k) : QInv k := by
  induction h with
  | init => exact ⟨rfl, by simp [SidsOk]⟩
  | step op _ ih => exact qinv_step ih (step_applyOp op _)

def EnqSub (k : K) : Prop := k.enq.Sublist k.enqEver

theorem enqSub_step {k k' : K} (hq : QInv k) (h : EnqSub k) (s : Step k k') : EnqSub k' := by
  cases s with
  | body hb =>
    obtain ⟨js, _, _, h1, h2, _⟩ := appends_bstep hb
    show List.Sublist _ _
    rw [h1, h2]
    exact List.Sublist.append h (List.Sublist.refl js)
  | pop j rest hj => exact h
  | leaveAbrupt =>
    exact List.Sublist.trans (by rw [← hq.fifo]; exact List.sublist_append_left _ _) h

theorem enqSub_reach {k : K} (h : Reach k) : EnqSub k := by
  induction h with
  | init => exact List.Sublist.refl _
  | step op hr ih => exact enqSub_step (qinv_reach hr) ih (step_applyOp op _)

/-- Relative to a baseline taken at an interrupt: the jobs `R0` started so far and the serial counter `N`. -/
structure After (R0 : List Job) (N : Nat) (k : K) : Prop where
  later : ∃ l, k.enq = R0 ++ l ∧ ∀ j ∈ l, N ≤ j.sid
  next : N ≤ k.nextSid
  pre : ∃ x, k.ran = R0 ++ x

theorem After.started {R0 : List Job} {N : Nat} {k : K} (hq : QInv k) (h : After R0 N k) :
    ∃ x, k.ran = R0 ++ x ∧ ∀ j ∈ x, N ≤ j.sid := by
  obtain ⟨l, hl, hlb⟩ := h.later
  obtain ⟨x, hx⟩ := h.pre
  have hf := hq.fifo
  rw [hx, hl, List.append_assoc] at hf
  have hl2 : x ++ k.jobs = l := List.append_cancel_left hf
  exact ⟨x, hx, fun j hj => hlb j (by rw [← hl2]; exact List.mem_append_left _ hj)⟩

theorem after_step {R0 : List Job} {N : Nat} {k k' : K} (hq : QInv k) (h : After R0 N k) (s : Step k k') :
    After R0 N k' := by
  obtain ⟨l, hl, hlb⟩ := h.later
  obtain ⟨x, hx⟩ := h.pre
  cases s with
  | body hb =>
    obtain ⟨js, n, _, a, _, b, c, d⟩ := appends_bstep hb
    refine ⟨⟨l ++ js, by rw [a, hl, List.append_assoc], ?_⟩, by have := h.next; omega, ⟨x, by rw [d, hx]⟩⟩
    intro j hj
    rw [List.mem_append] at hj
    rcases hj with hj | hj
    · exact hlb j hj
    · have : j.sid ∈ js.map Job.sid := List.mem_map_of_mem hj
      rw [b, List.mem_range'_1] at this
      have := h.next; omega
  | pop j rest hj =>
    exact ⟨⟨l, hl, hlb⟩, h.next, ⟨x ++ [j], by show k.ran ++ [j] = _; rw [hx, List.append_assoc]⟩⟩
  | leaveAbrupt =>
    obtain ⟨y, hy, hyb⟩ := h.started hq
    exact ⟨⟨y, hy, hyb⟩, h.next, ⟨y, hy⟩⟩

theorem bodyReach_mono {k0 k : K} (h : BodyReach k0 k) : (∃ js, k.jobs = k0.jobs ++ js) ∧ k.ran = k0.ran := by
  induction h with
  | refl => exact ⟨⟨[], by simp⟩, rfl⟩
  | step o _ ih =>
    obtain ⟨⟨js, h1⟩, h2⟩ := ih
    obtain ⟨js2, _, h3, _, _, _, _, h4⟩ := appends_bstep (bstep_applyOp o _)
    exact ⟨⟨js ++ js2, by rw [h3, h1, List.append_assoc]⟩, by rw [h4, h2]⟩

end GojaModel.C10
