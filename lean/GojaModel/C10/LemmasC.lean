/-
  C10: remainingElementsCount protocol of all/allSettled/any.
-/
import GojaModel.C10.Comb
import GojaModel.C10.LemmasList

namespace GojaModel.C10

def openCells (c : CombRec) : Nat := c.cells.countP (fun b => !b)

structure CInv (c : CombRec) : Prop where
  count : c.remaining = (if c.iterating then 1 else 0) + (openCells c : Int)
  len : c.values.length = c.cells.length
  fires : c.fires = if c.iterating = false ∧ openCells c = 0 then 1 else 0

theorem countP_not_set_true (l : List Bool) (i : Nat) (h : l[i]? = some false) :
    (l.set i true).countP (fun b => !b) + 1 = l.countP (fun b => !b) := by
  simpa using countP_set (fun b => !b) l i false true h

theorem dec_fire (c : CombRec) (h : c.remaining - 1 = 0) :
    c.dec = ({ c with remaining := c.remaining - 1, fires := c.fires + 1 }, true) := by
  unfold CombRec.dec; simp [h]

theorem dec_nofire (c : CombRec) (h : c.remaining - 1 ≠ 0) :
    c.dec = ({ c with remaining := c.remaining - 1 }, false) := by
  unfold CombRec.dec; simp [h]

theorem dec_frame (c : CombRec) : c.dec.1.cells = c.cells ∧ c.dec.1.values = c.values := by
  by_cases h : c.remaining - 1 = 0
  · rw [dec_fire c h]; exact ⟨rfl, rfl⟩
  · rw [dec_nofire c h]; exact ⟨rfl, rfl⟩

theorem cinv_dec {c : CombRec} (hc : c.remaining = (if c.iterating then 1 else 0) + (openCells c : Int) + 1)
    (hl : c.values.length = c.cells.length) (hf : c.fires = 0) :
    CInv c.dec.1 ∧ (c.dec.2 = true ↔ (c.iterating = false ∧ openCells c = 0)) := by
  have key : c.remaining - 1 = 0 ↔ (c.iterating = false ∧ openCells c = 0) := by
    cases hi : c.iterating <;> simp [hi] at hc ⊢ <;> omega
  by_cases h0 : c.remaining - 1 = 0
  · rw [dec_fire c h0]
    have hit := key.1 h0
    refine ⟨⟨?_, hl, ?_⟩, by simp [hit]⟩
    · show c.remaining - 1 = (if c.iterating then 1 else 0) + (openCells c : Int)
      rw [h0, hit.1, hit.2]; rfl
    · show c.fires + 1 = if c.iterating = false ∧ openCells c = 0 then 1 else 0
      rw [hf, if_pos hit]
  · rw [dec_nofire c h0]
    have hit := mt key.2 h0
    refine ⟨⟨?_, hl, ?_⟩, by simp [hit]⟩
    · show c.remaining - 1 = (if c.iterating then 1 else 0) + (openCells c : Int)
      omega
    · show c.fires = if c.iterating = false ∧ openCells c = 0 then 1 else 0
      rw [hf, if_neg hit]

theorem cinv_applyC {c : CombRec} (h : CInv c) (op : COp) : CInv (applyC op c) := by
  cases op with
  | addElem =>
    simp only [applyC, CombRec.addElem]
    split
    · rename_i hi
      have hc := h.count
      have hf := h.fires
      constructor
      · simp only [openCells, List.countP_append] at hc ⊢
        simp at hc ⊢; omega
      · simp [h.len]
      · simp only [openCells, List.countP_append] at hf ⊢
        simp [hi] at hf ⊢; exact hf
    · exact h
  | finish =>
    simp only [applyC, CombRec.finish]
    split
    · rename_i hi
      have hc := h.count
      rw [hi] at hc
      have hf : c.fires = 0 := by have := h.fires; simp [hi] at this; exact this
      exact (cinv_dec (c := { c with iterating := false }) (by simp [openCells] at hc ⊢; omega) h.len hf).1
    · exact h
  | elemCall idx v =>
    simp only [applyC, CombRec.elemCall]
    split
    · exact h
    · exact h
    · rename_i hcell
      have hcnt := countP_not_set_true c.cells idx hcell
      have hf : c.fires = 0 := by
        have hpos : 0 < openCells c := by unfold openCells; omega
        have : ¬ (c.iterating = false ∧ openCells c = 0) := by intro ⟨_, b⟩; omega
        rw [h.fires]; simp [this]
      refine (cinv_dec (c := { c with cells := c.cells.set idx true, values := c.values.set idx v }) ?_ ?_ hf).1
      · have := h.count
        simp only [openCells] at this ⊢
        omega
      · simp [h.len]

theorem cinv_reach {c : CombRec} (h : CReach c) : CInv c := by
  induction h with
  | init => exact ⟨by simp [openCells], rfl, by simp⟩
  | step op _ ih => exact cinv_applyC ih op

end GojaModel.C10
