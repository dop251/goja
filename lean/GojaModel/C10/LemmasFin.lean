/-
  C10: Promise.prototype.finally — what the thenFinally / catchFinally closures of the interpreter do after onFinally
  returned.
-/
import GojaModel.C10.Lemmas
import GojaModel.C10.Interp
namespace GojaModel.C10
variable {k0 : K}

/-- Values that promiseResolve wraps and whose `then` lookup finds nothing callable. -/
def Val.plain : Val → Bool
  | .prom _ => false
  | .thenable _ => false
  | _ => true

def St.ops (st : St k0) (os : List BOp) : St k0 := { st with rk := os.foldl BK.apply st.rk }

theorem promiseResolve_plain (prog : Prog) (x : Val) (hx : x.plain = true) (st : St k0) :
    (promiseResolveM prog x).run st =
      (st.rk.val.proms.length,
       st.ops [.newCap, .callResolve st.rk.val.latches.length x .notCallable]) := by
  have hl := newCap_latch st.rk.val
  have h1 : promiseResolveM prog x =
      (do let cap ← newCapM; capResolve prog cap x; return cap.promise : M k0 Nat) := by
    cases x <;> simp [Val.plain] at hx <;> rfl
  have h2 : ∀ s : St k0, thenLookM prog x s = (.notCallable, s) := by
    intro s; cases x <;> simp [Val.plain] at hx <;> rfl
  have h3 : isSelf x st.rk.val.proms.length = false := by
    cases x <;> simp [Val.plain] at hx <;> rfl
  rw [h1]
  -- unfolds the state monad: what is left is a straight-line sequence of `op`s, i.e. of `BK.apply`
  simp [newCapM, capResolve, doResolve, kget, op, bind, StateT.bind, get, getThe,
      MonadStateOf.get, StateT.get, modify, modifyGet, MonadStateOf.modifyGet, StateT.modifyGet, pure, StateT.pure,
      StateT.run, BK.apply, applyOp, BOp.toK, hl, St.ops, h2, h3]

theorem ops_ops (st : St k0) (a b : List BOp) : (st.ops a).ops b = st.ops (a ++ b) := by
  simp [St.ops, List.foldl_append]

theorem ops2_lens (st : St k0) (l : Nat) (x : Val) (look : ThenLook) :
    (st.ops [.newCap, .callResolve l x look]).rk.val.proms.length = st.rk.val.proms.length + 1 ∧
    (st.ops [.newCap, .callResolve l x look]).rk.val.latches.length = st.rk.val.latches.length + 1 := by
  simp only [St.ops, List.foldl_cons, List.foldl_nil, BK.apply, BOp.toK, applyOp]
  obtain ⟨a, b⟩ := callResolve_lens (newCap st.rk.val) l x look
  rw [a, b]
  simp [newCap, createResolvingFunctions, newPromise]

theorem invokeThen_native (prog : Prog) (n : Nat) (q : Nat) (onF : Fn) (st : St k0) (hbad : badTid st q = none) :
    (invokeThenR prog (n + 1) (.prom q) [.f onF]).run st =
      (.normal (.prom st.rk.val.proms.length),
       st.ops [.newCap, .addReactions q (some (Cap.mk st.rk.val.proms.length (.resolve st.rk.val.latches.length) (.reject st.rk.val.latches.length)))
         (some onF) none]) := by
  -- unfolds the state monad as above; `hbad` selects the native `then`
  simp [invokeThenR, invokeThen, performThen, newCapM, kget, op, hbad, argFn, bind, StateT.bind, get, getThe,
      MonadStateOf.get, StateT.get, modify, modifyGet, MonadStateOf.modifyGet, StateT.modifyGet, pure, StateT.pure,
      StateT.run, BK.apply, St.ops]

/-- The common tail of the two closures of `finally` (builtin_promise.go:362-380) once onFinally has returned a plain
value `x`: promiseResolve(x) makes a promise q resolved with x, and `q.then(th)` attaches the thunk through a fresh
capability d and returns d — exactly these four kernel ops. -/
theorem finally_tail (prog : Prog) (n : Nat) (x : Val) (th : Fn) (st1 : St k0)
    (hx : x.plain = true) (hbad : badTid st1 st1.rk.val.proms.length = none) :
    (do let q ← promiseResolveM prog x
        invokeThenR prog (n + 1) (.prom q) [.f th] : M k0 Res).run st1 =
      (.normal (.prom (st1.rk.val.proms.length + 1)),
       st1.ops [.newCap, .callResolve st1.rk.val.latches.length x .notCallable, .newCap,
         .addReactions st1.rk.val.proms.length
           (some (Cap.mk (st1.rk.val.proms.length + 1) (.resolve (st1.rk.val.latches.length + 1))
                   (.reject (st1.rk.val.latches.length + 1))))
           (some th) none]) := by
  have h1 := promiseResolve_plain prog x hx st1
  have hb : badTid (st1.ops [.newCap, .callResolve st1.rk.val.latches.length x .notCallable]) st1.rk.val.proms.length = none := hbad
  have h2 := invokeThen_native prog n st1.rk.val.proms.length th _ hb
  simp only [StateT.run, bind, StateT.bind] at h1 h2 ⊢
  rw [h1]
  simp only []
  rw [h2, ops_ops]
  obtain ⟨e1, e2⟩ := ops2_lens st1 st1.rk.val.latches.length x .notCallable
  rw [e1, e2]
  rfl

theorem thenFinally_spec (prog : Prog) (n f : Nat) (this value x : Val) (st st1 : St k0)
    (hcall : (callFn prog (n + 1) (.user f) .undef []).run st = (.normal x, st1))
    (hx : x.plain = true) (hbad : badTid st1 st1.rk.val.proms.length = none) :
    (callFn prog (n + 2) (.thenFinally f) this [.v value]).run st =
      (.normal (.prom (st1.rk.val.proms.length + 1)),
       st1.ops [.newCap, .callResolve st1.rk.val.latches.length x .notCallable, .newCap,
         .addReactions st1.rk.val.proms.length
           (some (Cap.mk (st1.rk.val.proms.length + 1) (.resolve (st1.rk.val.latches.length + 1))
                   (.reject (st1.rk.val.latches.length + 1))))
           (some (.valueThunk value)) none]) := by
  have ht := finally_tail prog n x (.valueThunk value) st1 hx hbad
  rw [callFn]
  simp only [StateT.run, bind, StateT.bind] at hcall ht ⊢
  rw [hcall]
  exact ht

theorem catchFinally_spec (prog : Prog) (n f : Nat) (this reason x : Val) (st st1 : St k0)
    (hcall : (callFn prog (n + 1) (.user f) .undef []).run st = (.normal x, st1))
    (hx : x.plain = true) (hbad : badTid st1 st1.rk.val.proms.length = none) :
    (callFn prog (n + 2) (.catchFinally f) this [.v reason]).run st =
      (.normal (.prom (st1.rk.val.proms.length + 1)),
       st1.ops [.newCap, .callResolve st1.rk.val.latches.length x .notCallable, .newCap,
         .addReactions st1.rk.val.proms.length
           (some (Cap.mk (st1.rk.val.proms.length + 1) (.resolve (st1.rk.val.latches.length + 1))
                   (.reject (st1.rk.val.latches.length + 1))))
           (some (.thrower reason)) none]) := by
  have ht := finally_tail prog n x (.thrower reason) st1 hx hbad
  rw [callFn]
  simp only [StateT.run, bind, StateT.bind] at hcall ht ⊢
  rw [hcall]
  exact ht

theorem thenFinally_abrupt (prog : Prog) (n f : Nat) (this value : Val) (st st1 : St k0) (r : Res)
    (hcall : (callFn prog (n + 1) (.user f) .undef []).run st = (r, st1)) (hr : ∀ x, r ≠ .normal x) :
    (callFn prog (n + 2) (.thenFinally f) this [.v value]).run st = (r, st1) := by
  simp only [callFn, StateT.run, bind, StateT.bind] at hcall ⊢
  rw [hcall]
  cases r with
  | normal x => exact absurd rfl (hr x)
  | throw e => rfl
  | abort => rfl

end GojaModel.C10
