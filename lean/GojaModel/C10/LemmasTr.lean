/-
  C10, the rejection tracker.  `TrOk` is the table of what the tracker may have heard about one promise, given its state
  and handled flag ([], [reject] or [reject, handle]); the lemmas `TrOk.*` read it and move it along a settlement and an
  attachment.  `TrInv`: the tracker log is what `TrOk` allows, for every promise.
-/
import GojaModel.C10.LemmasT

namespace GojaModel.C10

def trkL (t : List (Nat × TrackOp)) (p : Nat) : List TrackOp := (t.filter (fun e => e.1 == p)).map (·.2)

theorem trkL_append_map (t : List (Nat × TrackOp)) (p : Nat) (ops : List TrackOp) (q : Nat) :
    trkL (t ++ ops.map (fun o => (p, o))) q = trkL t q ++ (if p = q then ops else []) := by
  unfold trkL
  by_cases e : p = q <;> simp [List.filter_append, List.filter_map, e, Function.comp_def]

theorem trkL_append (t : List (Nat × TrackOp)) (q : Nat) (op : TrackOp) (p : Nat) :
    trkL (t ++ [(q, op)]) p = trkL t p ++ (if q = p then [op] else []) :=
  trkL_append_map t q [op] p

/-- What the tracker may have been told about a promise with state `st` and handled flag `handled`; a rejected, handled
promise of which it has heard nothing was handled before it was rejected. -/
def TrOk (st : PState) (handled : Bool) (t : List TrackOp) : Prop :=
  (st ≠ .rejected → t = []) ∧
  (st = .rejected → handled = false → t = [.reject]) ∧
  (st = .rejected → handled = true → t = [] ∨ t = [.reject, .handle])

theorem trOk_default : TrOk .pending false [] := ⟨fun _ => rfl, fun x => by simp at x, fun x => by simp at x⟩

theorem TrOk.reject_iff {st : PState} {hd : Bool} {t : List TrackOp} (h : TrOk st hd t) :
    t = [.reject] ↔ st = .rejected ∧ hd = false := by
  constructor
  · intro e
    have hs : st = .rejected := by
      false_or_by_contra
      rename_i hne
      rw [h.1 hne] at e; cases e
    refine ⟨hs, ?_⟩
    cases hd with
    | false => rfl
    | true => rcases h.2.2 hs rfl with x | x <;> rw [x] at e <;> cases e
  · exact fun ⟨hs, hh⟩ => h.2.1 hs hh

theorem TrOk.shape {st : PState} {hd : Bool} {t : List TrackOp} (h : TrOk st hd t) :
    t = [] ∨ t = [.reject] ∨ t = [.reject, .handle] := by
  by_cases hs : st = .rejected
  · cases hd with
    | false => exact Or.inr (Or.inl (h.2.1 hs rfl))
    | true => exact (h.2.2 hs rfl).imp id Or.inr
  · exact Or.inl (h.1 hs)

theorem TrOk.handle_mem {st : PState} {hd : Bool} {t : List TrackOp} (h : TrOk st hd t) (hm : TrackOp.handle ∈ t) :
    hd = true ∧ t = [.reject, .handle] := by
  by_cases hs : st = .rejected
  · cases hd with
    | false => rw [h.2.1 hs rfl] at hm; simp at hm
    | true =>
      rcases h.2.2 hs rfl with e | e
      · rw [e] at hm; simp at hm
      · exact ⟨rfl, e⟩
  · rw [h.1 hs] at hm; simp at hm

theorem TrOk.settle {hd : Bool} {t : List TrackOp} (h : TrOk .pending hd t) (isF : Bool) :
    TrOk (if isF then .fulfilled else .rejected) hd (t ++ if isF || hd then [] else [.reject]) := by
  rw [h.1 (by simp)]
  cases isF <;> cases hd <;> simp [TrOk]

theorem TrOk.attach {st : PState} {hd : Bool} {t : List TrackOp} (h : TrOk st hd t) :
    TrOk st true (t ++ if st = .rejected ∧ hd = false then [.handle] else []) := by
  refine ⟨fun hn => ?_, fun _ x => by simp at x, fun hs _ => ?_⟩
  · simp [hn, h.1 hn]
  · cases hd with
    | false => rw [h.2.1 hs rfl]; simp [hs]
    | true => simpa using h.2.2 hs rfl

structure TrInv (k : K) : Prop where
  wf : ∀ e ∈ k.tracker, e.1 < k.proms.length
  ok : ∀ p, TrOk (k.getP p).state (k.getP p).handled (trkL k.tracker p)

theorem trkL_nil_of_ge {k : K} (h : TrInv k) (p : Nat) (hp : k.proms.length ≤ p) : trkL k.tracker p = [] := by
  unfold trkL
  rw [List.map_eq_nil_iff, List.filter_eq_nil_iff]
  intro e he
  have := h.wf e he
  simp; omega

theorem trinv_congr {k k' : K} (h : TrInv k) (ht : k'.tracker = k.tracker) (hp : k'.proms = k.proms) : TrInv k' := by
  constructor
  · rw [ht, hp]; exact h.wf
  · intro p; rw [ht, getP_of_proms_eq hp]; exact h.ok p

theorem trinv_update {k k' : K} (h : TrInv k) (p : Nat) (r : PRec) (t : List TrackOp) (hlt : p < k.proms.length)
    (hpr : k'.proms = k.proms.set p r) (htr : k'.tracker = k.tracker ++ t.map (fun o => (p, o)))
    (hok : TrOk r.state r.handled (trkL k.tracker p ++ t)) : TrInv k' := by
  constructor
  · intro e he
    rw [hpr, List.length_set]
    rw [htr, List.mem_append, List.mem_map] at he
    rcases he with he | ⟨o, _, rfl⟩
    · exact h.wf e he
    · exact hlt
  · intro q
    rw [getP_of_proms_set k k' p q r hpr, htr, trkL_append_map]
    by_cases e : q = p
    · subst e; simpa [hlt] using hok
    · have e' : ¬ (p = q) := fun x => e x.symm
      simpa [e, e'] using h.ok q

theorem trinv_settleP {k : K} (h : TrInv k) (p : Nat) (isF : Bool) (v : Val) (hp : (k.getP p).state = .pending)
    (hlt : p < k.proms.length) : TrInv (settleP k p isF v) := by
  refine trinv_update h p _ (if isF || (k.getP p).handled then [] else [.reject]) hlt rfl ?_ ((hp ▸ h.ok p).settle isF)
  show (if (isF || (k.getP p).handled) = true then k.tracker else k.tracker ++ [(p, .reject)]) = _
  split <;> simp

theorem trinv_attachP {k : K} (h : TrInv k) (p : Nat) (cap : Option Cap) (f g : Option Fn) (hlt : p < k.proms.length) :
    TrInv (attachP k p cap f g) := by
  refine trinv_update h p _ (if (k.getP p).state = .rejected ∧ (k.getP p).handled = false then [.handle] else [])
    hlt rfl ?_ ?_
  · show (if (k.getP p).state = .rejected ∧ (k.getP p).handled = false then k.tracker ++ [(p, .handle)]
      else k.tracker) = _
    split <;> simp
  · split <;> exact (h.ok p).attach

theorem trinv_addReactions {k : K} (h : TrInv k) (p : Nat) (cap : Option Cap) (f g : Option Fn) :
    TrInv (addReactions k p cap f g) := by
  by_cases hlt : p < k.proms.length
  · rw [addReactions_eq k p cap f g hlt]; exact trinv_attachP h p cap f g hlt
  · rw [addReactions_outside k p cap f g hlt]; exact h

theorem trinv_newCap {k : K} (h : TrInv k) : TrInv (newCap k) := by
  constructor
  · intro e he
    have := h.wf e he
    simp only [newCap, createResolvingFunctions, newPromise, List.length_append, List.length_cons, List.length_nil]
    omega
  · intro q
    show TrOk ((newCap k).getP q).state ((newCap k).getP q).handled (trkL k.tracker q)
    rw [getP_newCap]
    split
    · exact h.ok q
    · rw [trkL_nil_of_ge h q (by omega)]
      exact trOk_default

theorem trinv_step {k k' : K} (ht : TInv k) (h : TrInv k) (s : Step k k') : TrInv k' := by
  cases s with
  | body hb =>
    cases hb with
    | newCap => exact trinv_newCap h
    | settle l p isF v hl =>
      obtain ⟨hq, hlt⟩ := pending_of_unlatched ht hl
      exact trinv_congr (trinv_settleP h p isF v hq hlt) rfl rfl
    | attach p cap f g hp hf hg => exact trinv_attachP h p cap f g hp
    | await ar p hrun har hp => exact trinv_congr (trinv_attachP h p _ _ _ hp) rfl rfl
    | _ => exact trinv_congr h rfl rfl
  | _ => exact trinv_congr h rfl rfl

theorem trinv_reach {k : K} (h : Reach k) : TrInv k := by
  induction h with
  | init =>
    constructor
    · intro e he; simp at he
    · intro p
      rw [getP_default _ _ (by simp)]
      exact trOk_default
  | step op hr ih => exact trinv_step (tinv_reach hr) ih (step_applyOp op _)

end GojaModel.C10
