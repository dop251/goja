/-
  C10 — property theorems.  Every theorem here, the few helpers included, is audited.

  `Reach k` = k is reachable from the initial kernel state of a fresh Runtime by ANY finite sequence
  of kernel ops with ANY parameters (Model.lean).  This over-approximates every program: user code can
  only create capabilities, call resolving functions (any number of times, any value, any time), attach
  reactions, and return to the drain loop.  The executable interpreter (Interp.lean) carries its kernel
  state in `BK k0 = {k // Reach k ∧ BodyReach k0 k}`, so all of this holds for every state the model driver visits.
-/
import GojaModel.C10.LemmasDrain
import GojaModel.C10.LemmasQ
import GojaModel.C10.LemmasTr
import GojaModel.C10.LemmasAs
import GojaModel.C10.LemmasC
import GojaModel.C10.LemmasFin

namespace GojaModel.C10

def applyOps (ops : List KOp) (k : K) : K := ops.foldl (fun k o => applyOp o k) k

theorem reach_applyOps {k : K} (h : Reach k) (ops : List KOp) : Reach (applyOps ops k) := by
  induction ops generalizing k with
  | nil => exact h
  | cons o os ih => exact ih (Reach.step o h)

/-- Runtime.leave() (nested loops over two buffers, jobs may enqueue jobs, a job may abort) computes exactly
what ONE FIFO queue computes, for every job behaviour: same final state, same jobs run in the same order,
same abort status; one terminates iff the other does. -/
theorem drain_double_buffer_eq_fifo {σ J : Type} (run : JobQueue.Run σ J) (s : σ) (ran q : List J)
    (out : JobQueue.Out σ J) :
    (∃ n, JobQueue.leave run n s ran q = some out) ↔ (∃ m, JobQueue.fifo run m s ran q = some out) :=
  ⟨fun ⟨n, h⟩ => JobQueue.leave_imp_fifo run n s ran q out h,
   fun ⟨m, h⟩ => JobQueue.fifo_imp_leave run m s ran q out h⟩

/-- Whenever leave() returns (normally or by an interrupt) nothing is left queued. -/
theorem leave_leaves_nothing {σ J : Type} (run : JobQueue.Run σ J) :
    ∀ (n : Nat) (s : σ) (ran q : List J) (out : JobQueue.Out σ J),
      JobQueue.leave run n s ran q = some out → out.left = [] := by
  intro n
  induction n with
  | zero => intro s ran q out h; simp only [JobQueue.leave] at h; split at h <;> simp at h; rw [← h]
  | succ n ih =>
    intro s ran q out h
    simp only [JobQueue.leave] at h
    split at h
    · simp at h; rw [← h]
    · split at h
      · simp at h; rw [← h]
      · exact ih _ _ _ _ h

/-- Jobs started ++ jobs not yet started = jobs enqueued (and not discarded by an interrupt), in enqueue order:
nothing skipped, nothing reordered, nothing invented. -/
theorem ran_is_prefix_of_enqueued {k : K} (h : Reach k) : k.ran ++ k.jobs = k.enq :=
  (qinv_reach h).fifo

theorem ran_prefix {k : K} (h : Reach k) : k.ran <+: k.enq :=
  ⟨k.jobs, ran_is_prefix_of_enqueued h⟩

/-- Step-wise simulation of the spec scheduler: the job the mechanism starts next (head of `jobs`) is the OLDEST
enqueued job that has not been started — exactly the choice of the specification's single FIFO queue. -/
theorem popJob_starts_oldest {k : K} (h : Reach k) (j : Job) (rest : List Job) (hj : k.jobs = j :: rest) :
    (k.enq.drop k.ran.length).head? = some j ∧ (popJob k).ran = k.ran ++ [j] := by
  constructor
  · rw [← ran_is_prefix_of_enqueued h, hj]; simp
  · exact (popJob_cons k j rest hj).2

/-- Every job is started at most once (serials of started jobs are pairwise distinct). -/
theorem job_runs_at_most_once {k : K} (h : Reach k) : (k.ran.map Job.sid).Nodup := by
  have hq := qinv_reach h
  have h1 := hq.sids.1
  rw [← hq.fifo, List.map_append, List.pairwise_append] at h1
  exact h1.1.imp (fun hlt => Nat.ne_of_lt hlt)

/-- When the drain loop finds no job left (the only way leave() returns normally), every job enqueued
has been started: exactly once, by `job_runs_at_most_once`. -/
theorem queue_empty_on_normal_return {k : K} (h : Reach k) (hq : k.jobs = []) : k.ran = k.enq := by
  have := ran_is_prefix_of_enqueued h
  rw [hq] at this
  simpa using this

/-- The interpreter's drain (mechanism, with the batch counter) returns "not aborted" only with no job left. -/
theorem drain_normal_return_empty (prog : Prog) : ∀ (n c : Nat) (u u' : StU),
    drainS prog n c u = (false, u') → u'.k.jobs = [] := by
  intro n
  induction n with
  | zero => intro c u u' h; simp [drainS] at h
  | succ n ih =>
    intro c u u' h
    simp only [drainS] at h
    split at h
    · rename_i hq
      simp only [Prod.mk.injEq, true_and] at h
      rw [← h]
      exact List.isEmpty_iff.mp hq.2
    · split at h
      · simp at h
      · exact ih _ _ _ h

/-- A job body is body code: by typing (`St k0` carries `BodyReach k0`), running the oldest job removes exactly that
job from the front of the job list and otherwise only appends to it. -/
theorem runJob_only_appends (prog : Prog) (fuel : Nat) (u : StU) (j : Job) (rest : List Job)
    (hj : u.k.jobs = j :: rest) : ∃ new, (runJob prog fuel u).2.k.jobs = rest ++ new := by
  simp only [runJob, hj]
  -- the body runs over the base `popJob u.k`, whose job list is `rest`, and `bodyReach_mono` speaks of that base
  obtain ⟨js, hjs⟩ := (bodyReach_mono
    ((jobBody prog fuel j u.k.latches.length).run (u.sched .popJob).st).2.rk.property.2).1
  exact ⟨js, hjs.trans (congrArg (· ++ js) (popJob_cons u.k j rest hj).1)⟩

/-- WHOLE-PROGRAM REFINEMENT, drain loop.  The mechanism (Runtime.leave(): the loop may END only between batches, inside
a batch it starts the next job without looking at the queue) and the specification (one FIFO queue, "while not empty run
the oldest job") are the same function of the interpreter state whenever the batch counter does not exceed the number of
queued jobs — in particular at every entry of leave() (counter 0): same jobs run in the same order from the same states,
same abort behaviour, same final state.  The proof needs that job bodies only append to the job list
(`runJob_only_appends`), which is exactly why the double buffer is sound. -/
theorem drain_mech_eq_spec (prog : Prog) : ∀ (n c : Nat) (u : StU), c ≤ u.k.jobs.length →
    drainS prog n c u = drainF prog n u := by
  intro n
  induction n with
  | zero => intro c u _; rfl
  | succ n ih =>
    intro c u hc
    simp only [drainS, drainF]
    cases hjobs : u.k.jobs with
    | nil =>
      have : c = 0 := by rw [hjobs] at hc; simpa using hc
      simp [this]
    | cons j rest =>
      obtain ⟨new, hnew⟩ := runJob_only_appends prog 100000 u j rest hjobs
      simp only [List.isEmpty_cons, and_false, Bool.false_eq_true, if_false]
      rcases hr : runJob prog 100000 u with ⟨ab, u1⟩
      rw [hr] at hnew
      cases ab with
      | true => rfl
      | false =>
        simp only []
        apply ih
        simp only [] at hnew
        rw [hnew, List.length_append]
        rw [hjobs] at hc
        simp only [List.length_cons] at hc ⊢
        split <;> omega

/-- WHOLE-PROGRAM REFINEMENT (trace equivalence): running any program — every outermost call (RunString, Go-side
resolve/reject) followed by its drain — with the mechanism-level drain loop yields exactly the result of running
it against the specification's single FIFO job queue: identical error kinds and identical final state, hence
identical global event log, tracker log, promise states/results and kernel logs. -/
theorem whole_program_mech_eq_spec (prog : Prog) (segs : List Seg) (u : StU) :
    runSegsWith drain prog segs u = runSegsWith drainF prog segs u := by
  have : drain = drainF := by
    funext p n u
    exact drain_mech_eq_spec p n 0 u (Nat.zero_le _)
  rw [this]

/-- leaveAbrupt: all queued jobs are discarded without starting anything; the discarded jobs leave the live log. -/
theorem interrupt_drops_queue (k : K) :
    (leaveAbrupt k).jobs = [] ∧ (leaveAbrupt k).ran = k.ran ∧
    (leaveAbrupt k).enq = k.ran := ⟨rfl, rfl, rfl⟩

/-- After an interrupt, whatever happens next, only jobs enqueued later are ever started: the jobs started before
the interrupt stay a prefix of the started log, and every job started afterwards carries a serial ≥ the serial
counter at the moment of the interrupt — whereas every discarded job has a serial below it. -/
theorem after_interrupt_only_new_jobs {k : K} (h : Reach k) (ops : List KOp) :
    let k' := applyOps ops (leaveAbrupt k)
    (∃ x, k'.ran = k.ran ++ x ∧ ∀ j ∈ x, k.nextSid ≤ j.sid) ∧
    (∀ j ∈ k.jobs, j.sid < k.nextSid) := by
  have hdrop : ∀ j ∈ k.jobs, j.sid < k.nextSid := by
    intro j hj
    have hq := qinv_reach h
    apply hq.sids.2
    rw [← hq.fifo]
    exact List.mem_map_of_mem (List.mem_append_right _ hj)
  refine ⟨?_, hdrop⟩
  have key : ∀ (ops : List KOp) (k1 : K), Reach k1 → After k.ran k.nextSid k1 →
      After k.ran k.nextSid (applyOps ops k1) ∧ Reach (applyOps ops k1) := by
    intro ops
    induction ops with
    | nil => intro k1 hr ha; exact ⟨ha, hr⟩
    | cons o os ih =>
      intro k1 hr ha
      exact ih _ (Reach.step o hr) (after_step (qinv_reach hr) ha (step_applyOp o k1))
  have h0 : After k.ran k.nextSid (leaveAbrupt k) :=
    ⟨⟨[], by simp [leaveAbrupt], by simp⟩, Nat.le_refl _, ⟨[], by simp [leaveAbrupt]⟩⟩
  obtain ⟨ha, hr⟩ := key ops _ (Reach.step .leaveAbrupt h) h0
  exact ha.started (qinv_reach hr)

/-- Token invariant: per promise at most ONE live way to settle it (an unlatched resolving pair or a queued
thenable job that will create one); none once it is settled. -/
theorem token_invariant {k : K} (h : Reach k) (p : Nat) :
    live k p ≤ 1 ∧ ((k.getP p).state ≠ .pending → live k p = 0) :=
  ⟨(tinv_reach h).tok p, (tinv_reach h).settled p⟩

/-- Resolving functions that are still unlatched belong to a pending promise. -/
theorem unlatched_implies_pending {k : K} (h : Reach k) {l p : Nat} (hl : k.latches[l]? = some (p, false)) :
    (k.getP p).state = .pending :=
  (pending_of_unlatched (tinv_reach h) hl).1

/-- Once a promise is fulfilled or rejected, no sequence of operations whatsoever changes its
state or its result. -/
theorem settle_once {k : K} (h : Reach k) (p : Nat) (hp : (k.getP p).state ≠ .pending) (ops : List KOp) :
    ((applyOps ops k).getP p).state = (k.getP p).state ∧ ((applyOps ops k).getP p).result = (k.getP p).result := by
  induction ops generalizing k with
  | nil => exact ⟨rfl, rfl⟩
  | cons o os ih =>
    have hf := frozen_applyOp (tinv_reach h) o p hp
    have hp' : ((applyOp o k).getP p).state ≠ .pending := by rw [hf.1]; exact hp
    have := ih (Reach.step o h) hp'
    exact ⟨by rw [← hf.1]; exact this.1, by rw [← hf.2]; exact this.2⟩

/-- Calling either function of a resolving pair whose latch is set is a no-op. -/
theorem resolve_reject_idempotent (k : K) (l p : Nat) (hl : k.latches[l]? = some (p, true)) (v : Val)
    (look : ThenLook) : callResolve k l v look = k ∧ callReject k l v = k := by
  constructor
  · unfold callResolve; rw [hl]; simp
  · unfold callReject; rw [hl]; simp

/-- Whatever the latch was, after a call of either function of a resolving pair it is set. -/
theorem first_call_sets_latch (k : K) (l p : Nat) (b : Bool) (hl : k.latches[l]? = some (p, b)) (v : Val)
    (look : ThenLook) :
    (callResolve k l v look).latches[l]? = some (p, true) ∧ (callReject k l v).latches[l]? = some (p, true) := by
  have hlt : l < k.latches.length := (List.getElem?_eq_some_iff.mp hl).1
  cases b with
  | true => rw [(resolve_reject_idempotent k l p hl v look).1, (resolve_reject_idempotent k l p hl v look).2]; exact ⟨hl, hl⟩
  | false =>
    have hset : (k.latches.set l (p, true))[l]? = some (p, true) := by simp [hlt]
    constructor
    · unfold callResolve; rw [hl]
      simp only [Bool.false_eq_true, if_false]
      split
      · rw [rejectP_eq]; exact hset
      · split
        · rw [rejectP_eq]; exact hset
        · exact hset
        · rw [fulfillP_eq]; exact hset
    · unfold callReject; rw [hl]
      simp only [Bool.false_eq_true, if_false]
      rw [rejectP_eq]; exact hset

inductive PairCall | res (v : Val) (look : ThenLook) | rej (v : Val)

def PairCall.op (l : Nat) : PairCall → KOp
  | .res v look => .callResolve l v look
  | .rej v => .callReject l v

/-- Promise.race (and every other place where ONE capability's functions are handed to many reactions,
builtin_promise.go:534): whichever element's reaction job runs first decides; every later call of the capability's
resolve or reject function — any number, any values — leaves the whole kernel state unchanged. -/
theorem race_first_call_wins (k : K) (l p : Nat) (b : Bool) (hl : k.latches[l]? = some (p, b))
    (first : PairCall) (later : List PairCall) :
    applyOps (later.map (PairCall.op l)) (applyOp (first.op l) k) = applyOp (first.op l) k := by
  have hset : (applyOp (first.op l) k).latches[l]? = some (p, true) := by
    cases first with
    | res v look => exact (first_call_sets_latch k l p b hl v look).1
    | rej v => exact (first_call_sets_latch k l p b hl v .notCallable).2
  generalize applyOp (first.op l) k = k1 at hset
  induction later with
  | nil => rfl
  | cons c cs ih =>
    simp only [List.map_cons, applyOps, List.foldl_cons]
    have : applyOp (c.op l) k1 = k1 := by
      cases c with
      | res v look => exact (resolve_reject_idempotent k1 l p hset v look).1
      | rej v => exact (resolve_reject_idempotent k1 l p hset v .notCallable).2
    rw [this]
    exact ih

/-- Per promise the tracker sees a prefix of [reject, handle]. -/
theorem tracker_reject_then_handle {k : K} (h : Reach k) (p : Nat) :
    trkL k.tracker p = [] ∨ trkL k.tracker p = [.reject] ∨ trkL k.tracker p = [.reject, .handle] :=
  ((trinv_reach h).ok p).shape

/-- The tracker has heard of a promise only if it is rejected. -/
theorem tracker_only_rejected {k : K} (h : Reach k) (p : Nat) (ht : trkL k.tracker p ≠ []) :
    (k.getP p).state = .rejected := by
  false_or_by_contra
  rename_i hne
  exact ht (((trinv_reach h).ok p).1 hne)

/-- The tracker has heard exactly one "reject" about a promise iff it is rejected and has never had a reaction attached. -/
theorem tracker_reject_iff {k : K} (h : Reach k) (p : Nat) :
    trkL k.tracker p = [.reject] ↔ (k.getP p).state = .rejected ∧ (k.getP p).handled = false :=
  TrOk.reject_iff ((trinv_reach h).ok p)

/-- A promise that is rejected and has never had a reaction attached has been reported: exactly one "reject". -/
theorem tracker_reject_iff_unhandled {k : K} (h : Reach k) (p : Nat) (hs : (k.getP p).state = .rejected)
    (hh : (k.getP p).handled = false) : trkL k.tracker p = [.reject] :=
  (tracker_reject_iff h p).2 ⟨hs, hh⟩

/-- "handle" is reported only for a promise that has a reaction attached, and only after "reject". -/
theorem tracker_handle_only_after_attach {k : K} (h : Reach k) (p : Nat) (hm : TrackOp.handle ∈ trkL k.tracker p) :
    (k.getP p).handled = true ∧ trkL k.tracker p = [.reject, .handle] :=
  ((trinv_reach h).ok p).handle_mem hm

/-- Attaching a reaction to a rejected, so far unhandled promise reports "handle" at once. -/
theorem attach_to_unhandled_rejection_reports_handle {k : K} (h : Reach k) (p : Nat) (cap : Option Cap)
    (f g : Option Fn) (hs : (k.getP p).state = .rejected) (hh : (k.getP p).handled = false) :
    trkL (addReactions k p cap f g).tracker p = [.reject, .handle] := by
  have hlt : p < k.proms.length := lt_of_not_pending (by rw [hs]; simp)
  unfold addReactions
  rw [if_pos hlt]
  -- `markHandled` does not report
  show trkL (addReactionsCore _ p _ _).tracker p = _
  rw [addReactionsCore_tracker, if_pos ⟨hs, hh⟩, trkL_append, tracker_reject_iff_unhandled h p hs hh]
  simp

theorem countP_eq_one_of_sorted : ∀ (l : List Nat) (a : Nat), l.Pairwise (· < ·) → a ∈ l →
    l.countP (fun x => x == a) = 1 := by
  intro l
  induction l with
  | nil => intro a _ h; simp at h
  | cons x xs ih =>
    intro a hp hm
    rw [List.pairwise_cons] at hp
    by_cases e : x = a
    · subst e
      have : xs.countP (fun y => y == x) = 0 := by
        rw [List.countP_eq_zero]
        intro y hy
        have := hp.1 y hy
        simp; omega
      simp [this]
    · have hm' : a ∈ xs := by
        rcases List.mem_cons.mp hm with h | h
        · exact absurd h.symm e
        · exact h
      simp [e, ih a hp.2 hm']

/-- One trace statement for every reachable state.  For every promise `p`, the reaction jobs EVER enqueued on its behalf are, in enqueue order, exactly:
nothing while `p` is pending; once `p` is settled, one job per attachment (`then`/await/…), in attachment order, of the
kind matching the settlement (fulfil-type iff fulfilled) and carrying `p`'s result.  Attachment ids are pairwise
distinct, so each attachment has exactly one job iff `p` is settled and none otherwise — never both members of a pair,
never twice.  (That each enqueued job then runs at most once, in order, and has run when the queue is found empty is
`ran_is_prefix_of_enqueued` / `job_runs_at_most_once` / `queue_empty_on_normal_return`.) -/
theorem reaction_enqueued_iff_settled_exactly_once {k : K} (h : Reach k) (p : Nat) :
    rlog p k.enqEver = expectedLog (k.getP p) ∧
    (k.getP p).attached.Pairwise (· < ·) ∧
    (∀ rid ∈ (k.getP p).attached,
        (rlog p k.enqEver).countP (fun e => e.1 == rid) = if (k.getP p).state = .pending then 0 else 1) := by
  have he := einv_reach h p
  have ha := (ainv_reach h p).1
  refine ⟨he, ha, ?_⟩
  intro rid hr
  rw [he]
  unfold expectedLog
  cases hs : (k.getP p).state with
  | pending => simp
  | fulfilled | rejected =>
    -- one log entry per attachment id, and the ids are pairwise different
    simp only [List.countP_map]
    simpa [Function.comp_def] using countP_eq_one_of_sorted _ rid ha hr

/-- An await (or any other attachment) is resumed through at most one of its two handlers, at most once: the log never
contains two jobs for one attachment. -/
theorem attachment_fires_at_most_one_job {k : K} (h : Reach k) (p rid : Nat) (hr : rid ∈ (k.getP p).attached) :
    (rlog p k.enqEver).countP (fun e => e.1 == rid) ≤ 1 := by
  rw [(reaction_enqueued_iff_settled_exactly_once h p).2.2 rid hr]
  split <;> omega

/-- While a promise is pending its fulfil list and its reject list hold exactly the attached pairs — once each, in
attachment order, in lock-step, with the right types; once it is settled nothing is stored any more. -/
theorem stored_reactions_while_pending {k : K} (h : Reach k) (p : Nat) : RecOk (k.getP p) := rinv_reach h p

/-- Settlement hands exactly the stored reactions of the matching kind to the job queue: one job per stored
reaction, in order, each carrying that reaction and the settlement value. -/
theorem settlement_enqueues_stored_reactions_once (k : K) (p : Nat) (v : Val) :
    (rejectP k p v).enqEver = k.enqEver ++ trigJobs k.nextSid p (k.getP p).rejR v ∧
    (fulfillP k p v).enqEver = k.enqEver ++ trigJobs k.nextSid p (k.getP p).fulR v ∧
    (∀ (rs : List Reaction) (sid : Nat), (trigJobs sid p rs v).filterMap Job.reaction? = rs) :=
  ⟨rejectP_enqEver k p v, fulfillP_enqEver k p v, trigJobs_reactions p v⟩

/-- Attaching to a settled promise enqueues exactly one job, of the matching kind, with the promise's result;
attaching to a pending promise enqueues nothing. -/
theorem late_attach_enqueues_one_job (k : K) (p : Nat) (cap : Option Cap) (f g : Option Fn) :
    ((k.getP p).state = .fulfilled → (addReactions k p cap f g).enqEver =
        k.enqEver ++ [Job.reaction k.nextSid p { cap := cap, isFul := true, handler := f, rid := k.nextRid } (k.getP p).result]) ∧
    ((k.getP p).state = .rejected → (addReactions k p cap f g).enqEver =
        k.enqEver ++ [Job.reaction k.nextSid p { cap := cap, isFul := false, handler := g, rid := k.nextRid } (k.getP p).result]) ∧
    ((k.getP p).state = .pending → (addReactions k p cap f g).enqEver = k.enqEver) :=
  addReactions_enqEver k p cap f g

/-- Control state of the async function activations (asyncRunner, func.go:692-765).
A SUSPENDED activation has exactly one pending way to be resumed (its reaction pair stored in a pending promise, or
one queued reaction job whose handler is its onFulfilled/onRejected); a running, finished or abandoned one has none.
So a continuation is never resumed twice, never after completion, and never while it is running. -/
theorem async_one_pending_resumption_iff_suspended {k : K} (h : Reach k) (ar : Nat) :
    acount k ar = if (k.getR ar).phase = .suspended then 1 else 0 :=
  (asinv_reach h).count ar

/-- Which continuation: the activation has executed exactly one more await than it has been resumed while it waits,
and exactly as many otherwise — the n-th resumption continues after the n-th await (the interpreter keeps only that
continuation). -/
theorem async_nth_resume_follows_nth_await {k : K} (h : Reach k) (ar : Nat) :
    (k.getR ar).awaits = (k.getR ar).resumes + waiting (k.getR ar) :=
  (asinv_reach h).ctr ar

/-- In job order: when the scheduler starts a job that resumes activation `ar`, that activation is suspended; starting
the job makes it running again with `resumes = awaits`; and no other way to resume it is left anywhere. -/
theorem async_resumed_exactly_when_its_job_starts {k : K} (h : Reach k) (j : Job) (rest : List Job) (ar : Nat)
    (hj : k.jobs = j :: rest) (hr : j.runner? = some ar) :
    (k.getR ar).phase = .suspended ∧ ((popJob k).getR ar).phase = .running ∧
    ((popJob k).getR ar).resumes = ((popJob k).getR ar).awaits ∧ acount (popJob k) ar = 0 := by
  have hpos : 0 < acount k ar := by
    unfold acount; rw [hj, List.countP_cons]
    simp [jRun, hr]; omega
  obtain ⟨hs, hlt⟩ := suspended_of_acount (asinv_reach h) hpos
  have hrun : (popJob k).runners = k.runners.set ar { k.getR ar with phase := .running, resumes := (k.getR ar).resumes + 1 } := by
    rw [popJob_eq k j rest hj]; exact resumeRunner_some k j ar hr hlt
  have hg := getR_set k ar _ ar hlt (popJob k) hrun
  have hr' : Reach (popJob k) := Reach.step .popJob h
  have hphase : ((popJob k).getR ar).phase = .running := by rw [hg]; simp
  refine ⟨hs, hphase, ?_, ?_⟩
  · have := async_nth_resume_follows_nth_await hr' ar
    simp [waiting, hphase] at this
    exact this.symm
  · rw [async_one_pending_resumption_iff_suspended hr' ar]; simp [hphase]

/-- `await v`, v neither promise nor thenable: the resumption job, carrying v, is enqueued at once. -/
theorem await_nonthenable_resumes_next_job (k : K) (ar : Nat) (v : Val) (hv : isSelf v k.proms.length = false)
    (hrun : (k.getR ar).phase = .running) (hlt : ar < k.runners.length) :
    (awaitOp (callResolve (newCap k) k.latches.length v .notCallable) ar k.proms.length).jobs =
      k.jobs ++ [Job.reaction k.nextSid k.proms.length
        { cap := none, isFul := true, handler := some (.asyncFul ar), rid := k.nextRid } v] :=
  (await_nonthenable k ar v hv hrun hlt).1

/-- `await v`, v a thenable: only the thenable job is enqueued, the resumption is not (the fresh promise stays pending
behind that job). -/
theorem await_thenable_waits_for_thenable_job (k : K) (ar : Nat) (v : Val) (f : Fn) (hv : isSelf v k.proms.length = false)
    (hrun : (k.getR ar).phase = .running) (hlt : ar < k.runners.length) :
    (awaitOp (callResolve (newCap k) k.latches.length v (.callable f)) ar k.proms.length).jobs =
      k.jobs ++ [Job.thenable k.nextSid k.proms.length v f] :=
  (await_thenable k ar v f hv hrun hlt).1

/-- `await p`, p a native promise: PerformPromiseThen directly on p (no `then` lookup, no wrapper promise): if p is
already settled exactly one resumption job is enqueued carrying p's result, of the kind matching p's state; if p is
pending nothing is enqueued. -/
theorem await_promise_attaches_directly (k : K) (ar p : Nat) (hrun : (k.getR ar).phase = .running)
    (hlt : ar < k.runners.length) (hp : p < k.proms.length) :
    (awaitOp k ar p).jobs =
      match (k.getP p).state with
      | .pending => k.jobs
      | .fulfilled => k.jobs ++ [.reaction k.nextSid p { cap := none, isFul := true, handler := some (.asyncFul ar), rid := k.nextRid } (k.getP p).result]
      | .rejected => k.jobs ++ [.reaction k.nextSid p { cap := none, isFul := false, handler := some (.asyncRej ar), rid := k.nextRid } (k.getP p).result] := by
  unfold awaitOp
  rw [if_pos ⟨hrun, hlt, hp⟩]
  exact (addReactions_jobs k p none _ _ hp).2

/-- After an interrupt the pairing still holds: an activation has one pending resumption iff it is (still) suspended.
(`leaveAbrupt` marks the activations whose resumption was queued as abandoned.) -/
theorem async_after_interrupt {k : K} (h : Reach k) (ar : Nat) :
    acount (leaveAbrupt k) ar = if ((leaveAbrupt k).getR ar).phase = .suspended then 1 else 0 :=
  async_one_pending_resumption_iff_suspended (Reach.step .leaveAbrupt h) ar

/-- The thenFinally closure of `p.finally(f)` (builtin_promise.go:362-370), f returning a plain value x, performs
EXACTLY: a new promise q resolved with x; a new capability d; `q.then(valueThunk)` attached through d; and it returns
the PROMISE d — never `value` itself.  (So the reaction job that ran it resolves the result promise with a promise.) -/
theorem finally_thenFinally_structure {k0 : K} (prog : Prog) (n f : Nat) (this value x : Val) (st st1 : St k0)
    (hcall : (callFn prog (n + 1) (.user f) .undef []).run st = (.normal x, st1))
    (hx : x.plain = true) (hbad : badTid st1 st1.rk.val.proms.length = none) :
    (callFn prog (n + 2) (.thenFinally f) this [.v value]).run st =
      (.normal (.prom (st1.rk.val.proms.length + 1)),
       st1.ops [.newCap, .callResolve st1.rk.val.latches.length x .notCallable, .newCap,
         .addReactions st1.rk.val.proms.length
           (some (Cap.mk (st1.rk.val.proms.length + 1) (.resolve (st1.rk.val.latches.length + 1))
                   (.reject (st1.rk.val.latches.length + 1))))
           (some (.valueThunk value)) none]) :=
  thenFinally_spec prog n f this value x st st1 hcall hx hbad

/-- Same for the catchFinally closure (builtin_promise.go:372-380) with a thrower of the original reason. -/
theorem finally_catchFinally_structure {k0 : K} (prog : Prog) (n f : Nat) (this reason x : Val) (st st1 : St k0)
    (hcall : (callFn prog (n + 1) (.user f) .undef []).run st = (.normal x, st1))
    (hx : x.plain = true) (hbad : badTid st1 st1.rk.val.proms.length = none) :
    (callFn prog (n + 2) (.catchFinally f) this [.v reason]).run st =
      (.normal (.prom (st1.rk.val.proms.length + 1)),
       st1.ops [.newCap, .callResolve st1.rk.val.latches.length x .notCallable, .newCap,
         .addReactions st1.rk.val.proms.length
           (some (Cap.mk (st1.rk.val.proms.length + 1) (.resolve (st1.rk.val.latches.length + 1))
                   (.reject (st1.rk.val.latches.length + 1))))
           (some (.thrower reason)) none]) :=
  catchFinally_spec prog n f this reason x st st1 hcall hx hbad

/-- If onFinally throws or is interrupted, that completion replaces the original one and nothing else happens. -/
theorem finally_onFinally_abrupt {k0 : K} (prog : Prog) (n f : Nat) (this value : Val) (st st1 : St k0) (r : Res)
    (hcall : (callFn prog (n + 1) (.user f) .undef []).run st = (r, st1)) (hr : ∀ x, r ≠ .normal x) :
    (callFn prog (n + 2) (.thenFinally f) this [.v value]).run st = (r, st1) :=
  thenFinally_abrupt prog n f this value st st1 r hcall hr

/-- One tick per level of promise nesting: resolving a pending promise with a thenable or a promise (what the reaction
job does with thenFinally's result) only appends ONE thenable job and leaves every promise as it is — it cannot settle
in the same job. -/
theorem resolve_with_thenable_defers (k : K) (l p : Nat) (v : Val) (f : Fn)
    (hl : k.latches[l]? = some (p, false)) (hv : isSelf v p = false) :
    (callResolve k l v (.callable f)).jobs = k.jobs ++ [Job.thenable k.nextSid p v f] ∧
    (callResolve k l v (.callable f)).proms = k.proms :=
  resolve_with_thenable_defers_k k l p v f hl hv

/-- In every reachable bookkeeping record: remainingElementsCount = (1 while iterating) + number of elements whose
function has not fired; `values` has one slot per element. -/
theorem comb_remaining_protocol {c : CombRec} (h : CReach c) :
    c.remaining = (if c.iterating then 1 else 0) + (openCells c : Int) ∧ c.values.length = c.cells.length :=
  ⟨(cinv_reach h).count, (cinv_reach h).len⟩

/-- The aggregate capability is resolved/rejected by the counter at most once, and exactly when the iteration is
over and every element function has fired. -/
theorem comb_fires_once_iff_complete {c : CombRec} (h : CReach c) :
    c.fires ≤ 1 ∧ (c.fires = 1 ↔ (c.iterating = false ∧ openCells c = 0)) := by
  rw [(cinv_reach h).fires]
  by_cases hc : c.iterating = false ∧ openCells c = 0
  · rw [if_pos hc]; exact ⟨Nat.le_refl _, ⟨fun _ => hc, fun _ => rfl⟩⟩
  · rw [if_neg hc]; exact ⟨Nat.zero_le _, ⟨fun e => absurd e (by decide), fun e => absurd e hc⟩⟩

/-- Each element's function takes effect at most once: a second call changes nothing and fires nothing. -/
theorem comb_elem_at_most_once (c : CombRec) (idx : Nat) (v : Val) (h : c.cells[idx]? = some true) :
    c.elemCall idx v = (c, false) := by
  unfold CombRec.elemCall; rw [h]

/-- The first call of an element function marks the element and writes its slot of `values`. -/
theorem comb_elem_first_call_marks (c : CombRec) (idx : Nat) (v : Val) (h : c.cells[idx]? = some false) :
    (c.elemCall idx v).1.cells[idx]? = some true ∧ (c.elemCall idx v).1.values = c.values.set idx v := by
  have hlt : idx < c.cells.length := (List.getElem?_eq_some_iff.mp h).1
  unfold CombRec.elemCall
  rw [h]
  simp only []
  rw [(dec_frame _).1, (dec_frame _).2]
  simp [hlt]

/-- Once an element has fired, no operation changes its slot of `values` or un-marks it. -/
theorem comb_value_written_once {c : CombRec} (hc : CReach c) (idx : Nat) (h : c.cells[idx]? = some true) (op : COp) :
    (applyC op c).cells[idx]? = some true ∧ (applyC op c).values[idx]? = c.values[idx]? := by
  have hlt : idx < c.cells.length := (List.getElem?_eq_some_iff.mp h).1
  have hlv : idx < c.values.length := by rw [(cinv_reach hc).len]; exact hlt
  cases op with
  | addElem =>
    simp only [applyC, CombRec.addElem]
    split
    · simp [List.getElem?_append_left hlt, List.getElem?_append_left hlv, h]
    · exact ⟨h, rfl⟩
  | finish =>
    simp only [applyC, CombRec.finish]
    split
    · rw [(dec_frame _).1, (dec_frame _).2]; exact ⟨h, rfl⟩
    · exact ⟨h, rfl⟩
  | elemCall j v =>
    simp only [applyC, CombRec.elemCall]
    split
    · exact ⟨h, rfl⟩
    · exact ⟨h, rfl⟩
    · rename_i hj
      have hne : j ≠ idx := by intro e; subst e; rw [h] at hj; simp at hj
      rw [(dec_frame _).1, (dec_frame _).2]
      simp [hne, h]

/-- Every state of the interpreter satisfies all kernel invariants (by typing: `St.rk : {k // Reach k ∧ BodyReach k0 k}`). -/
theorem interpreter_state_invariants {k0 : K} (st : St k0) :
    QInv st.rk.val ∧ TInv st.rk.val ∧ TrInv st.rk.val ∧ RInv st.rk.val ∧ EInv st.rk.val ∧ AInv st.rk.val ∧
    AsInv st.rk.val ∧ (∀ cb ∈ st.combs, CInv cb.crec.val) :=
  have h : Reach st.rk.val := st.rk.property.1
  ⟨qinv_reach h, tinv_reach h, trinv_reach h, rinv_reach h, einv_reach h, ainv_reach h, asinv_reach h,
   fun cb _ => cinv_reach cb.crec.property⟩

/-- A reachable state with a rejected unhandled promise, then handled; its one reaction job started. -/
example :
    let k := applyOps [.newCap, .callReject 0 (.num 1), .addReactions 0 none none none, .popJob] {}
    Reach k ∧ k.ran.length = 1 ∧ k.jobs.length = 0 ∧ trkL k.tracker 0 = [.reject, .handle] ∧
    (k.getP 0).state = .rejected :=
  ⟨reach_applyOps .init _, by decide⟩

/-- Resolving with a thenable keeps the promise pending with exactly one live token. -/
example :
    let k := applyOps [.newCap, .callResolve 0 (.thenable 0) (.callable (.thenableThen 0)), .callResolve 0 (.num 2) .notCallable] {}
    (k.getP 0).state = .pending ∧ live k 0 = 1 ∧ k.jobs.length = 1 :=
  by decide

end GojaModel.C10
