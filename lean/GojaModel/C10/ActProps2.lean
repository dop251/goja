/-
  C10 — AsyncContextTracker: "the same context will be supplied to the Resumed method" (func.go:40-41), for every
  program: every Resumed(c) is preceded by the Grab that returned c.
-/
import GojaModel.C10.LemmasR
import GojaModel.C10.ActProps

namespace GojaModel.C10

def grabsOf : List TEv → List Nat
  | [] => []
  | .grab c :: rest => c :: grabsOf rest
  | _ :: rest => grabsOf rest

/-- `g`: the contexts grabbed before the log starts. -/
def resumedGrabbed : List Nat → List TEv → Bool
  | _, [] => true
  | g, .grab c :: rest => resumedGrabbed (c :: g) rest
  | g, .resumed c :: rest => g.contains c && resumedGrabbed g rest
  | g, .exited :: rest => resumedGrabbed g rest
  | g, .interrupt :: rest => resumedGrabbed g rest

theorem grabsOf_snoc (l : List TEv) (e : TEv) :
    grabsOf (l ++ [e]) = grabsOf l ++ (match e with | .grab c => [c] | _ => []) := by
  induction l with
  | nil => cases e <;> rfl
  | cons x xs ih => cases x <;> simp [grabsOf, ih]

theorem resumedGrabbed_snoc : ∀ (l : List TEv) (g : List Nat) (e : TEv),
    resumedGrabbed g (l ++ [e]) =
      (resumedGrabbed g l && (match e with | .resumed c => (g ++ grabsOf l).contains c | _ => true)) := by
  intro l
  induction l with
  | nil => intro g e; cases e <;> simp [resumedGrabbed, grabsOf]
  | cons x xs ih =>
    intro g e
    cases x with
    | grab c =>
      simp only [List.cons_append, resumedGrabbed, grabsOf, ih]
      -- the same contexts, listed in another order
      cases e <;> simp [or_left_comm]
    | resumed c => simp only [List.cons_append, resumedGrabbed, grabsOf, ih, Bool.and_assoc]
    | exited => simp only [List.cons_append, resumedGrabbed, grabsOf, ih]
    | interrupt => simp only [List.cons_append, resumedGrabbed, grabsOf, ih]

theorem areach_kernel {a : AK} (h : AReach a) : Reach a.k := by
  induction h with
  | init => exact .init
  | @step o a0 _ ih =>
    cases o with
    | body b =>
      simp only [applyA]
      split <;> exact Reach.step b.toK ih
    | startJob =>
      simp only [applyA]
      split
      · exact ih
      · split
        · exact ih
        · split <;> exact Reach.step .popJob ih
    | endHandler =>
      simp only [applyA]
      split <;> exact ih
    | abrupt =>
      simp only [applyA]
      split <;> exact Reach.step .leaveAbrupt ih

/-- Every attachment made so far has a context on record, one the tracker handed out (`dom`); every context handed out
is in the log as a Grab (`grabbed`); every Resumed in the log follows the Grab of its context (`ok`). -/
structure ActInv (a : AK) : Prop where
  dom : ∀ rid, rid < a.k.nextRid → ∃ c, lookupCtx a.ctxOf rid = some c ∧ c < a.next
  grabbed : ∀ c, c < a.next → c ∈ grabsOf a.log
  ok : resumedGrabbed [] a.log = true

theorem popJob_nextRid (k : K) : (popJob k).nextRid = k.nextRid := by
  unfold popJob
  split
  · rfl
  · exact popJobQ_nextRid k

theorem actinv_reach {a : AK} (h : AReach a) : ActInv a := by
  induction h with
  | init =>
    exact ⟨fun rid hr => by simp at hr, fun c hc => by simp at hc, rfl⟩
  | @step o a0 hr0 ih =>
    have hk := areach_kernel hr0
    cases o with
    | body b =>
      simp only [applyA]
      split
      · rename_i hn
        exact ⟨fun rid hr => by simp only [] at hr; rw [hn] at hr; exact ih.dom rid hr, ih.grabbed, ih.ok⟩
      · rename_i hn
        have hstep : (applyOp b.toK a0.k).nextRid = a0.k.nextRid + 1 := by
          rcases nextRid_step b.toK a0.k with e | e
          · exact absurd e hn
          · exact e
        refine ⟨?_, ?_, ?_⟩
        · intro rid hr
          simp only [] at hr ⊢
          rw [hstep] at hr
          by_cases e : rid = a0.k.nextRid
          · subst e; exact ⟨a0.next, by simp [lookupCtx], by omega⟩
          · obtain ⟨c, hc1, hc2⟩ := ih.dom rid (by omega)
            refine ⟨c, ?_, by omega⟩
            have : (a0.k.nextRid == rid) = false := by simp; exact fun x => e x.symm
            simp [lookupCtx, this, hc1]
        · intro c hc
          simp only [] at hc ⊢
          rw [grabsOf_snoc]
          by_cases e : c = a0.next
          · subst e; simp
          · exact List.mem_append_left _ (ih.grabbed c (by omega))
        · simp only []
          rw [resumedGrabbed_snoc, ih.ok]; rfl
    | startJob =>
      simp only [applyA]
      split
      · exact ih
      · split
        · exact ih
        · rename_i j rest hj
          split
          · exact ⟨fun rid hr => by simp only [] at hr; rw [popJob_nextRid] at hr; exact ih.dom rid hr, ih.grabbed, ih.ok⟩
          · rename_i c hc
            refine ⟨fun rid hr => by simp only [] at hr; rw [popJob_nextRid] at hr; exact ih.dom rid hr, ?_, ?_⟩
            · intro x hx
              simp only [] at hx ⊢
              rw [grabsOf_snoc]; simp; exact ih.grabbed x hx
            · simp only []
              rw [resumedGrabbed_snoc, ih.ok]
              simp only [Bool.true_and, List.nil_append]
              -- c is the context stored for the job's attachment id, which is below the counter
              cases j with
              | thenable s p tv tf => simp [Job.resumeCtx?] at hc
              | reaction s owner r arg =>
                simp only [Job.resumeCtx?] at hc
                cases hh : r.handler with
                | none => rw [hh] at hc; simp at hc
                | some fn =>
                  rw [hh] at hc
                  simp only [Option.some.injEq] at hc
                  have hrid : r.rid < a0.k.nextRid :=
                    (ridinv_reach hk).jobs (.reaction s owner r arg) (by rw [hj]; exact List.mem_cons_self) r.rid rfl
                  obtain ⟨c', hc1, hc2⟩ := ih.dom r.rid hrid
                  rw [hc1] at hc
                  simp only [Option.getD_some] at hc
                  subst hc
                  simpa using ih.grabbed c' hc2
    | endHandler | abrupt =>
      -- `leaveAbrupt` keeps the attachment counter
      simp only [applyA]
      split
      · exact ⟨ih.dom, ih.grabbed, ih.ok⟩
      · refine ⟨ih.dom, ?_, ?_⟩
        · intro x hx; simp only [] at hx ⊢; rw [grabsOf_snoc]; simp; exact ih.grabbed x hx
        · simp only []; rw [resumedGrabbed_snoc, ih.ok]; rfl

/-- "The same context will be supplied to the Resumed method" (func.go:40-41), for every program: in every reachable
state, every Resumed(c) in the tracker's log is preceded by the Grab call that returned c — the context stored in the
reaction pair at its attachment is the one resumed; no job ever resumes a context that was not handed out. -/
theorem act_resumed_context_was_grabbed {a : AK} (h : AReach a) : resumedGrabbed [] a.log = true :=
  (actinv_reach h).ok

/-- Every attachment made so far has its context on record, and that context is in the log as a Grab. -/
theorem act_every_attachment_has_a_grabbed_context {a : AK} (h : AReach a) (rid : Nat) (hr : rid < a.k.nextRid) :
    ∃ c, lookupCtx a.ctxOf rid = some c ∧ c ∈ grabsOf a.log := by
  obtain ⟨c, h1, h2⟩ := (actinv_reach h).dom rid hr
  exact ⟨c, h1, (actinv_reach h).grabbed c h2⟩

end GojaModel.C10
