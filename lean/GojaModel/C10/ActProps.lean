/-
  C10 — AsyncContextTracker protocol: theorems about every state reachable by the extended ops of Act.lean (`AReach`);
  every `theorem` here, the helper `bracketFrom_snoc` included, is audited.
-/
import GojaModel.C10.Act

namespace GojaModel.C10

theorem bracketFrom_snoc : ∀ (l : List TEv) (s : Option Nat) (e : TEv),
    bracketFrom s (l ++ [e]) = (bracketFrom s l).bind (fun s' => bracketFrom s' [e]) := by
  intro l
  induction l with
  | nil => intro s e; simp [bracketFrom]
  | cons x xs ih =>
    intro s e
    cases x <;> cases s <;> simp [bracketFrom, ih]

/-- Invariant: the log is well bracketed and its bracket state is the machine's `cur`. -/
theorem act_bracket_inv {a : AK} (h : AReach a) : bracket a.log = some a.cur := by
  induction h with
  | init => rfl
  | @step o a0 _ ih =>
    unfold bracket at ih ⊢
    cases o with
    | body b =>
      simp only [applyA]
      split
      · exact ih
      · simp only []
        rw [bracketFrom_snoc, ih]
        cases a0.cur <;> rfl
    | startJob =>
      simp only [applyA]
      split
      · exact ih
      · rename_i hc
        split
        · exact ih
        · split
          · exact ih
          · simp only []
            rw [bracketFrom_snoc, ih, hc]
            rfl
    | endHandler | abrupt =>
      simp only [applyA]
      split
      · exact ih
      · rename_i c hc
        simp only []
        rw [bracketFrom_snoc, ih, hc]
        rfl

/-- "The Resumed/Exited calls cannot be nested" (func.go:43-44), for every program: in every reachable state the
tracker's log is well bracketed — Resumed only when closed, Exited only when open, strictly alternating; an open
Resumed is closed by Exited or abandoned by an interrupt, never followed by another Resumed. -/
theorem act_resumed_exited_never_nested {a : AK} (h : AReach a) : (bracket a.log).isSome = true := by
  rw [act_bracket_inv h]; rfl

/-- Outside a handler the log is closed: when control is back in the scheduler (`cur = none`) every Resumed has had
its Exited (or was abandoned by an interrupt). -/
theorem act_closed_between_jobs {a : AK} (h : AReach a) (hc : a.cur = none) : bracket a.log = some none := by
  rw [act_bracket_inv h, hc]

/-- Grab (builtin_promise.go:154-158): an attachment logs one Grab of a fresh context and stores that context for the
new reaction pair (both reactions share it). -/
theorem act_attach_grabs_once (a : AK) (o : BOp) (hatt : (applyOp o.toK a.k).nextRid ≠ a.k.nextRid) :
    (applyA (.body o) a).log = a.log ++ [.grab a.next] ∧
    lookupCtx (applyA (.body o) a).ctxOf a.k.nextRid = some a.next ∧
    (applyA (.body o) a).next = a.next + 1 := by
  simp only [applyA, hatt, if_false]
  simp [lookupCtx]

/-- An op that attaches nothing does not call the tracker. -/
theorem act_no_attach_no_grab (a : AK) (o : BOp) (hatt : (applyOp o.toK a.k).nextRid = a.k.nextRid) :
    (applyA (.body o) a).log = a.log := by
  simp only [applyA, hatt, if_true]

/-- `_partial` (the documented contract "for each Grab exactly one subsequent Resumed and then Exited" restricted to
what the code does): a started reaction job WITH a handler is bracketed by Resumed(ctx stored at its attachment) and,
when the handler completes without an uncatchable error, Exited.  What is missing: reaction jobs whose selected
reaction has no handler (pass-through) call neither — see `act_contract_witness`. -/
theorem act_handler_job_resumed_then_exited_partial (a : AK) (sid owner : Nat) (r : Reaction) (arg : Val) (h : Fn)
    (rest : List Job) (hcur : a.cur = none) (hj : a.k.jobs = .reaction sid owner r arg :: rest)
    (hh : r.handler = some h) :
    (applyA .startJob a).log = a.log ++ [.resumed ((lookupCtx a.ctxOf r.rid).getD 0)] ∧
    (applyA .endHandler (applyA .startJob a)).log =
      a.log ++ [.resumed ((lookupCtx a.ctxOf r.rid).getD 0), .exited] ∧
    (applyA .endHandler (applyA .startJob a)).cur = none := by
  have h1 : applyA .startJob a =
      { a with k := popJob a.k, log := a.log ++ [.resumed ((lookupCtx a.ctxOf r.rid).getD 0)],
               cur := some ((lookupCtx a.ctxOf r.rid).getD 0) } := by
    simp only [applyA, hcur, hj, Job.resumeCtx?, hh]
  rw [h1]
  refine ⟨rfl, ?_, ?_⟩ <;> simp [applyA]

/-- A pass-through reaction job (selected reaction without handler, builtin_promise.go:203-207) starts without any
tracker call. -/
theorem act_passthrough_job_silent (a : AK) (sid owner : Nat) (r : Reaction) (arg : Val) (rest : List Job)
    (hcur : a.cur = none) (hj : a.k.jobs = .reaction sid owner r arg :: rest) (hh : r.handler = none) :
    (applyA .startJob a).log = a.log ∧ (applyA .startJob a).cur = none := by
  simp [applyA, hcur, hj, Job.resumeCtx?, hh]

/-- The documented contract (func.go:42-43) "for each invocation of the Grab method there will be exactly one
subsequent invocation of Resumed and then Exited (assuming the Promise is fulfilled or rejected)" does NOT hold for
the code: `Promise.resolve(1).catch(f)` — the promise is fulfilled, the reaction job runs (pass-through, the fulfil
reaction of `catch` has no handler), the queue is empty, and the context grabbed at the attachment is never resumed.
Reproduced against goja: tracker log `[Grab]` only (known finding c10:act:passthrough-reaction-never-resumed). -/
theorem act_contract_witness :
    let a := applyAs [.body .newCap, .body (.callResolve 0 (.num 1) .notCallable),   -- Promise.resolve(1)
                      .body .newCap, .body (.addReactions 0 (some ⟨1, .resolve 1, .reject 1⟩) none (some (.user 0))),
                      .startJob, .endHandler] {}                                       -- drain
    (a.k.getP 0).state = .fulfilled ∧ a.k.jobs.length = 0 ∧ a.k.ran.length = 1 ∧
    a.log = [.grab 0] ∧ ¬ (TEv.resumed 0 ∈ a.log) := by
  decide

end GojaModel.C10
