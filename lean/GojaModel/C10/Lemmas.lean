/-
  C10: the kernel primitives of Model.lean as explicit states (what trigger / reject / fulfill / addReactions / popJob /
  await leave behind, as one record each, followed by what they do to single fields), and the case analysis of the
  kernel ops into state changes, done once (`BStep`, `Step`).
-/
import GojaModel.C10.Model
import GojaModel.C10.LemmasList

namespace GojaModel.C10

/-- The jobs triggerPromiseReactions enqueues, with their serials. -/
def trigJobs (sid owner : Nat) : List Reaction → Val → List Job
  | [], _ => []
  | r :: rs, arg => .reaction sid owner r arg :: trigJobs (sid + 1) owner rs arg

theorem trigger_eq (owner : Nat) (arg : Val) : ∀ (rs : List Reaction) (k : K),
    trigger k owner rs arg =
      { k with jobs := k.jobs ++ trigJobs k.nextSid owner rs arg,
               enq := k.enq ++ trigJobs k.nextSid owner rs arg,
               enqEver := k.enqEver ++ trigJobs k.nextSid owner rs arg,
               nextSid := k.nextSid + rs.length } := by
  intro rs
  induction rs with
  | nil => intro k; simp [trigger, trigJobs]
  | cons r rs ih =>
    intro k
    simp only [trigger, ih, enqueue, trigJobs, List.length_cons, List.append_assoc, List.singleton_append]
    congr 1
    omega

theorem jobs_trigger (k : K) (owner : Nat) (rs : List Reaction) (arg : Val) :
    (∃ js, (trigger k owner rs arg).jobs = k.jobs ++ js) ∧ (trigger k owner rs arg).ran = k.ran := by
  rw [trigger_eq]; exact ⟨⟨_, rfl⟩, rfl⟩

theorem trigJobs_sids (owner : Nat) (arg : Val) : ∀ (rs : List Reaction) (sid : Nat),
    (trigJobs sid owner rs arg).map Job.sid = List.range' sid rs.length := by
  intro rs
  induction rs with
  | nil => intro sid; simp [trigJobs]
  | cons r rs ih => intro sid; simp [trigJobs, ih, Job.sid, List.range'_succ]

theorem trigJobs_thenFor (owner : Nat) (arg : Val) (p : Nat) : ∀ (rs : List Reaction) (sid : Nat),
    (trigJobs sid owner rs arg).countP (Job.thenFor p) = 0 := by
  intro rs
  induction rs with
  | nil => intro sid; simp [trigJobs]
  | cons r rs ih => intro sid; simp [trigJobs, ih, Job.thenFor]

theorem getP_setP (k : K) (p q : Nat) (r : PRec) :
    (k.setP p r).getP q = if q = p ∧ p < k.proms.length then r else k.getP q := by
  unfold K.getP K.setP
  simp only [List.getD_eq_getElem?_getD, List.getElem?_set]
  by_cases h : p = q
  · subst h
    by_cases h2 : p < k.proms.length <;> simp [h2]
  · have : ¬ (q = p) := fun e => h e.symm
    simp [h, this]

theorem getP_default (k : K) (p : Nat) (h : k.proms.length ≤ p) : k.getP p = {} := by
  unfold K.getP
  simp [List.getD_eq_getElem?_getD, List.getElem?_eq_none h]

theorem getP_of_proms_eq {k k' : K} (h : k'.proms = k.proms) (p : Nat) : k'.getP p = k.getP p := by
  unfold K.getP; rw [h]

theorem getP_of_proms_set (k k' : K) (p q : Nat) (r : PRec) (h : k'.proms = k.proms.set p r) :
    k'.getP q = if q = p ∧ p < k.proms.length then r else k.getP q := by
  rw [← getP_setP]; exact getP_of_proms_eq h q

theorem forall_getP_of_proms_set {P : PRec → Prop} {k k' : K} {p : Nat} {r : PRec} (h : k'.proms = k.proms.set p r)
    (hr : P r) (hk : ∀ q, P (k.getP q)) (q : Nat) : P (k'.getP q) := by
  rw [getP_of_proms_set k k' p q r h]
  split
  · exact hr
  · exact hk q

theorem getP_eq_getElem (k : K) (q : Nat) (h : q < k.proms.length) : k.proms[q]? = some (k.getP q) := by
  unfold K.getP
  simp [List.getD_eq_getElem?_getD, List.getElem?_eq_getElem h]

theorem lt_of_not_pending {k : K} {p : Nat} (h : (k.getP p).state ≠ .pending) : p < k.proms.length := by
  false_or_by_contra
  rename_i hh
  rw [getP_default k p (by omega)] at h
  exact h rfl

theorem getP_newCap (k : K) (q : Nat) : (newCap k).getP q = if q < k.proms.length then k.getP q else {} := by
  unfold K.getP newCap createResolvingFunctions newPromise
  simp only [List.getD_eq_getElem?_getD]
  split
  · rename_i hq; rw [List.getElem?_append_left hq]
  · rename_i hq
    by_cases e : q = k.proms.length
    · subst e; simp
    · rw [List.getElem?_eq_none (by simp; omega)]; rfl

theorem forall_getP_newCap {P : PRec → Prop} {k : K} (hd : P {}) (hk : ∀ q, P (k.getP q)) (q : Nat) :
    P ((newCap k).getP q) := by
  rw [getP_newCap]
  split
  · exact hk q
  · exact hd

theorem getP_newCap_lt (k : K) (q : Nat) (hq : q < k.proms.length) : (newCap k).getP q = k.getP q := by
  rw [getP_newCap, if_pos hq]

theorem newCap_latch (k : K) : (newCap k).latches[k.latches.length]? = some (k.proms.length, false) := by
  unfold newCap createResolvingFunctions newPromise
  simp

/-- Promise.reject / Promise.fulfill as one explicit state. -/
def settleP (k : K) (p : Nat) (isF : Bool) (v : Val) : K :=
  let r := k.getP p
  let rs := if isF then r.fulR else r.rejR
  { k with proms := k.proms.set p
             { r with result := v, fulR := [], rejR := [], state := if isF then .fulfilled else .rejected },
           tracker := if isF || r.handled then k.tracker else k.tracker ++ [(p, .reject)],
           jobs := k.jobs ++ trigJobs k.nextSid p rs v,
           enq := k.enq ++ trigJobs k.nextSid p rs v,
           enqEver := k.enqEver ++ trigJobs k.nextSid p rs v,
           nextSid := k.nextSid + rs.length }

theorem rejectP_eq (k : K) (p : Nat) (v : Val) : rejectP k p v = settleP k p false v := by
  unfold rejectP settleP
  simp only []
  rw [trigger_eq]
  cases (k.getP p).handled <;> rfl

theorem fulfillP_eq (k : K) (p : Nat) (v : Val) : fulfillP k p v = settleP k p true v := by
  unfold fulfillP settleP
  simp only []
  rw [trigger_eq]
  rfl

theorem settleP_latches (k : K) (ls : List (Nat × Bool)) (p : Nat) (isF : Bool) (v : Val) :
    settleP { k with latches := ls } p isF v = { settleP k p isF v with latches := ls } := rfl

theorem rejectP_jobs (k : K) (p : Nat) (v : Val) :
    (rejectP k p v).jobs = k.jobs ++ trigJobs k.nextSid p (k.getP p).rejR v ∧ (rejectP k p v).runners = k.runners := by
  rw [rejectP_eq]; exact ⟨rfl, rfl⟩

theorem fulfillP_jobs (k : K) (p : Nat) (v : Val) :
    (fulfillP k p v).jobs = k.jobs ++ trigJobs k.nextSid p (k.getP p).fulR v ∧ (fulfillP k p v).runners = k.runners := by
  rw [fulfillP_eq]; exact ⟨rfl, rfl⟩

theorem rejectP_nextRid (k : K) (p : Nat) (v : Val) : (rejectP k p v).nextRid = k.nextRid := by
  rw [rejectP_eq]; rfl

theorem fulfillP_nextRid (k : K) (p : Nat) (v : Val) : (fulfillP k p v).nextRid = k.nextRid := by
  rw [fulfillP_eq]; rfl

theorem rejectP_enqEver (k : K) (p : Nat) (v : Val) :
    (rejectP k p v).enqEver = k.enqEver ++ trigJobs k.nextSid p (k.getP p).rejR v := by
  rw [rejectP_eq]; rfl

theorem fulfillP_enqEver (k : K) (p : Nat) (v : Val) :
    (fulfillP k p v).enqEver = k.enqEver ++ trigJobs k.nextSid p (k.getP p).fulR v := by
  rw [fulfillP_eq]; rfl

theorem callResolve_lens (k : K) (l : Nat) (v : Val) (look : ThenLook) :
    (callResolve k l v look).proms.length = k.proms.length ∧ (callResolve k l v look).latches.length = k.latches.length := by
  unfold callResolve
  split
  · exact ⟨rfl, rfl⟩
  · split
    · exact ⟨rfl, rfl⟩
    · split
      · simp [rejectP_eq, settleP]
      · split <;> simp [rejectP_eq, fulfillP_eq, settleP, enqueue]

theorem resolve_with_thenable_defers_k (k : K) (l p : Nat) (v : Val) (f : Fn)
    (hl : k.latches[l]? = some (p, false)) (hv : isSelf v p = false) :
    (callResolve k l v (.callable f)).jobs = k.jobs ++ [Job.thenable k.nextSid p v f] ∧
    (callResolve k l v (.callable f)).proms = k.proms := by
  unfold callResolve
  rw [hl]
  simp [hv, enqueue]

/-- The reactions of the pair `fr`, `rr` that are triggered at once when it is attached to a promise in state `st`
(builtin_promise.go:164, :170 enqueue the same job as triggerPromiseReactions does for a stored reaction). -/
def lateR (st : PState) (fr rr : Reaction) : List Reaction :=
  match st with
  | .pending => []
  | .fulfilled => [fr]
  | .rejected => [rr]

/-- The `switch p.state` of Promise.addReactions as one explicit state, for any pair of reactions and any `p` (outside
the table `getP` yields the pending default record and `set` changes nothing). -/
def coreP (k : K) (p : Nat) (fr rr : Reaction) : K :=
  let r := k.getP p
  let rs := lateR r.state fr rr
  let js := trigJobs k.nextSid p rs r.result
  { k with proms := if r.state = .pending then k.proms.set p { r with fulR := r.fulR ++ [fr], rejR := r.rejR ++ [rr] }
                    else k.proms,
           tracker := if r.state = .rejected ∧ r.handled = false then k.tracker ++ [(p, .handle)] else k.tracker,
           jobs := k.jobs ++ js, enq := k.enq ++ js, enqEver := k.enqEver ++ js, nextSid := k.nextSid + rs.length }

theorem addReactionsCore_eq (k : K) (p : Nat) (fr rr : Reaction) : addReactionsCore k p fr rr = coreP k p fr rr := by
  unfold addReactionsCore coreP lateR
  cases hs : (k.getP p).state
  · simp [hs, K.setP, trigJobs]
  · simp [hs, enqueue, trigJobs]
  · cases hh : (k.getP p).handled <;> simp [hs, hh, enqueue, track, trigJobs]

theorem core_pending (k : K) (p : Nat) (fr rr : Reaction) (hs : (k.getP p).state = .pending) (q : Nat) :
    (addReactionsCore k p fr rr).getP q =
      if q = p ∧ p < k.proms.length then
        { k.getP p with fulR := (k.getP p).fulR ++ [fr], rejR := (k.getP p).rejR ++ [rr] }
      else k.getP q := by
  rw [addReactionsCore_eq]
  exact getP_of_proms_set k _ p q _ (by simp [coreP, hs])

theorem core_settled (k : K) (p : Nat) (fr rr : Reaction) (hs : (k.getP p).state ≠ .pending) (q : Nat) :
    (addReactionsCore k p fr rr).getP q = k.getP q := by
  rw [addReactionsCore_eq]
  exact getP_of_proms_eq (by simp [coreP, hs]) q

theorem addReactionsCore_tracker (k : K) (p : Nat) (fr rr : Reaction) :
    (addReactionsCore k p fr rr).tracker =
      if (k.getP p).state = .rejected ∧ (k.getP p).handled = false then k.tracker ++ [(p, .handle)] else k.tracker := by
  rw [addReactionsCore_eq]; rfl

theorem addReactionsCore_getP (k : K) (p : Nat) (fr rr : Reaction) (q : Nat) :
    ((addReactionsCore k p fr rr).getP q).state = (k.getP q).state ∧
    ((addReactionsCore k p fr rr).getP q).result = (k.getP q).result ∧
    ((addReactionsCore k p fr rr).getP q).handled = (k.getP q).handled := by
  by_cases hs : (k.getP p).state = .pending
  · rw [core_pending k p fr rr hs]
    split
    · rename_i hh; rw [hh.1]; exact ⟨rfl, rfl, rfl⟩
    · exact ⟨rfl, rfl, rfl⟩
  · rw [core_settled k p fr rr hs]; exact ⟨rfl, rfl, rfl⟩

theorem markHandled_rec (k : K) (p rid : Nat) (q : Nat) :
    (markHandled k p rid).getP q =
      if q = p ∧ p < k.proms.length then
        { k.getP p with handled := true, attached := (k.getP p).attached ++ [rid] }
      else k.getP q :=
  getP_setP k p q _

theorem markHandled_getP (k : K) (p rid : Nat) (q : Nat) :
    ((markHandled k p rid).getP q).state = (k.getP q).state ∧
    ((markHandled k p rid).getP q).result = (k.getP q).result ∧
    ((markHandled k p rid).getP q).handled = (if q = p ∧ p < k.proms.length then true else (k.getP q).handled) := by
  rw [markHandled_rec]
  split
  · rename_i hh; rw [hh.1]; exact ⟨rfl, rfl, rfl⟩
  · exact ⟨rfl, rfl, rfl⟩

/-- Promise.addReactions on a promise inside the table, as one explicit state. -/
def attachP (k : K) (p : Nat) (cap : Option Cap) (f g : Option Fn) : K :=
  let r := k.getP p
  let fr : Reaction := { cap := cap, isFul := true, handler := f, rid := k.nextRid }
  let rr : Reaction := { cap := cap, isFul := false, handler := g, rid := k.nextRid }
  let rs := lateR r.state fr rr
  let js := trigJobs k.nextSid p rs r.result
  { k with proms := k.proms.set p
             (if r.state = .pending then
                { r with fulR := r.fulR ++ [fr], rejR := r.rejR ++ [rr], handled := true, attached := r.attached ++ [k.nextRid] }
              else { r with handled := true, attached := r.attached ++ [k.nextRid] }),
           tracker := if r.state = .rejected ∧ r.handled = false then k.tracker ++ [(p, .handle)] else k.tracker,
           jobs := k.jobs ++ js, enq := k.enq ++ js, enqEver := k.enqEver ++ js,
           nextSid := k.nextSid + rs.length, nextRid := k.nextRid + 1 }

theorem addReactions_eq (k : K) (p : Nat) (cap : Option Cap) (f g : Option Fn) (hlt : p < k.proms.length) :
    addReactions k p cap f g = attachP k p cap f g := by
  have e1 : (({ k with nextRid := k.nextRid + 1 } : K).getP p) = k.getP p := rfl
  unfold addReactions attachP markHandled addReactionsCore lateR
  simp only [hlt, if_true, e1]
  -- name the record of `p` and split it into its fields, so that each of the three states computes; `hr` keeps the
  -- link to the table entry that `getP` unfolds to
  have hr : k.proms[p]?.getD {} = k.getP p := by simp [K.getP]
  generalize k.getP p = r at hr ⊢
  rcases r with ⟨st, res, fu, re, hd, att⟩
  cases st
  · simp [K.setP, K.getP, hlt, trigJobs]
  · simp [K.setP, K.getP, enqueue, hr, trigJobs]
  · cases hd <;> simp [K.setP, K.getP, enqueue, track, hr, trigJobs]

theorem addReactions_outside (k : K) (p : Nat) (cap : Option Cap) (f g : Option Fn) (h : ¬ p < k.proms.length) :
    addReactions k p cap f g = k :=
  if_neg h

theorem addReactions_rec (k : K) (p : Nat) (cap : Option Cap) (f g : Option Fn) (hlt : p < k.proms.length) (q : Nat) :
    (addReactions k p cap f g).getP q =
      if q = p then
        (if (k.getP p).state = .pending then
          { k.getP p with
            fulR := (k.getP p).fulR ++ [{ cap := cap, isFul := true, handler := f, rid := k.nextRid }],
            rejR := (k.getP p).rejR ++ [{ cap := cap, isFul := false, handler := g, rid := k.nextRid }],
            handled := true, attached := (k.getP p).attached ++ [k.nextRid] }
        else { k.getP p with handled := true, attached := (k.getP p).attached ++ [k.nextRid] })
      else k.getP q := by
  rw [addReactions_eq k p cap f g hlt, getP_of_proms_set k _ p q _ rfl]
  simp [hlt]

theorem addReactions_getP (k : K) (p : Nat) (cap : Option Cap) (f g : Option Fn) (hlt : p < k.proms.length) (q : Nat) :
    ((addReactions k p cap f g).getP q).state = (k.getP q).state ∧
    ((addReactions k p cap f g).getP q).result = (k.getP q).result ∧
    ((addReactions k p cap f g).getP q).attached =
      (if q = p then (k.getP p).attached ++ [k.nextRid] else (k.getP q).attached) := by
  rw [addReactions_rec k p cap f g hlt]
  by_cases e : q = p
  · subst e; rw [if_pos rfl, if_pos rfl]; split <;> exact ⟨rfl, rfl, rfl⟩
  · rw [if_neg e, if_neg e]; exact ⟨rfl, rfl, rfl⟩

theorem addReactions_nextRid (k : K) (p : Nat) (cap : Option Cap) (f g : Option Fn) (hlt : p < k.proms.length) :
    (addReactions k p cap f g).nextRid = k.nextRid + 1 := by
  rw [addReactions_eq k p cap f g hlt]; rfl

theorem addReactions_jobs (k : K) (p : Nat) (cap : Option Cap) (f g : Option Fn) (hlt : p < k.proms.length) :
    (addReactions k p cap f g).runners = k.runners ∧
    (addReactions k p cap f g).jobs =
      match (k.getP p).state with
      | .pending => k.jobs
      | .fulfilled => k.jobs ++ [.reaction k.nextSid p { cap := cap, isFul := true, handler := f, rid := k.nextRid } (k.getP p).result]
      | .rejected => k.jobs ++ [.reaction k.nextSid p { cap := cap, isFul := false, handler := g, rid := k.nextRid } (k.getP p).result] := by
  rw [addReactions_eq k p cap f g hlt]
  refine ⟨rfl, ?_⟩
  show k.jobs ++ trigJobs _ p (lateR _ _ _) _ = _
  cases (k.getP p).state <;> simp [lateR, trigJobs]

theorem addReactions_enqEver (k : K) (p : Nat) (cap : Option Cap) (f g : Option Fn) :
    ((k.getP p).state = .fulfilled → (addReactions k p cap f g).enqEver =
        k.enqEver ++ [Job.reaction k.nextSid p { cap := cap, isFul := true, handler := f, rid := k.nextRid } (k.getP p).result]) ∧
    ((k.getP p).state = .rejected → (addReactions k p cap f g).enqEver =
        k.enqEver ++ [Job.reaction k.nextSid p { cap := cap, isFul := false, handler := g, rid := k.nextRid } (k.getP p).result]) ∧
    ((k.getP p).state = .pending → (addReactions k p cap f g).enqEver = k.enqEver) := by
  by_cases hlt : p < k.proms.length
  · rw [addReactions_eq k p cap f g hlt]
    refine ⟨fun hs => ?_, fun hs => ?_, fun hs => ?_⟩ <;> simp [attachP, lateR, trigJobs, hs]
  · rw [addReactions_outside k p cap f g hlt, getP_default k p (by omega)]
    exact ⟨fun hs => by simp at hs, fun hs => by simp at hs, fun _ => rfl⟩

theorem awaitOp_eq (k : K) (ar p : Nat) (hrun : (k.getR ar).phase = .running) (hlt : ar < k.runners.length)
    (hp : p < k.proms.length) :
    awaitOp k ar p = { attachP k p none (some (.asyncFul ar)) (some (.asyncRej ar)) with
      runners := k.runners.set ar { k.getR ar with phase := .suspended, awaits := (k.getR ar).awaits + 1 } } := by
  unfold awaitOp
  rw [if_pos ⟨hrun, hlt, hp⟩, addReactions_eq k p _ _ _ hp]
  rfl

/-- The resolving pair that a thenable job creates when it starts (builtin_promise.go:177). -/
def Job.newLatch : Job → List (Nat × Bool)
  | .thenable _ p _ _ => [(p, false)]
  | .reaction _ _ _ _ => []

theorem popJobQ_eq (k : K) (j : Job) (rest : List Job) (hj : k.jobs = j :: rest) :
    popJobQ k = { k with jobs := rest, ran := k.ran ++ [j], latches := k.latches ++ j.newLatch } := by
  unfold popJobQ
  rw [hj]
  cases j <;> simp [createResolvingFunctions, Job.newLatch]

theorem popJobQ_frame (k : K) : (popJobQ k).proms = k.proms ∧ (popJobQ k).tracker = k.tracker ∧
    (popJobQ k).enqEver = k.enqEver ∧ (popJobQ k).nextRid = k.nextRid := by
  cases hj : k.jobs with
  | nil => simp [popJobQ, hj]
  | cons j rest => rw [popJobQ_eq k j rest hj]; exact ⟨rfl, rfl, rfl, rfl⟩

theorem popJobQ_proms (k : K) : (popJobQ k).proms = k.proms := (popJobQ_frame k).1
theorem popJobQ_tracker (k : K) : (popJobQ k).tracker = k.tracker := (popJobQ_frame k).2.1
theorem popJobQ_enqEver (k : K) : (popJobQ k).enqEver = k.enqEver := (popJobQ_frame k).2.2.1
theorem popJobQ_nextRid (k : K) : (popJobQ k).nextRid = k.nextRid := (popJobQ_frame k).2.2.2

theorem popJob_eq (k : K) (j : Job) (rest : List Job) (hj : k.jobs = j :: rest) :
    popJob k = { k with jobs := rest, ran := k.ran ++ [j], latches := k.latches ++ j.newLatch,
                        runners := resumeRunner k.runners j } := by
  unfold popJob
  rw [hj]
  simp only []
  rw [popJobQ_eq k j rest hj]

theorem popJob_cons (k : K) (j : Job) (rest : List Job) (hj : k.jobs = j :: rest) :
    (popJob k).jobs = rest ∧ (popJob k).ran = k.ran ++ [j] := by
  rw [popJob_eq k j rest hj]; exact ⟨rfl, rfl⟩

/-- State changes made by the ops available to code inside a call or a job.  `await` is one change, not an attachment
followed by a runner update: between the two the activation is running with a pending resumption (`AsInv.count` fails). -/
inductive BStep (k : K) : K → Prop
  | same : BStep k k
  | newCap : BStep k (newCap k)
  | settle (l p : Nat) (isF : Bool) (v : Val) (hl : k.latches[l]? = some (p, false)) :
      BStep k { settleP k p isF v with latches := k.latches.set l (p, true) }
  | thenable (l p : Nat) (v : Val) (f : Fn) (hl : k.latches[l]? = some (p, false)) :
      BStep k { enqueue k (fun sid => .thenable sid p v f) with latches := k.latches.set l (p, true) }
  | attach (p : Nat) (cap : Option Cap) (f g : Option Fn) (hp : p < k.proms.length)
      (hf : noAsync f = true) (hg : noAsync g = true) : BStep k (attachP k p cap f g)
  | asyncStart : BStep k (asyncStart k)
  | await (ar p : Nat) (hrun : (k.getR ar).phase = .running) (har : ar < k.runners.length) (hp : p < k.proms.length) :
      BStep k { attachP k p none (some (.asyncFul ar)) (some (.asyncRej ar)) with
        runners := k.runners.set ar { k.getR ar with phase := .suspended, awaits := (k.getR ar).awaits + 1 } }
  | asyncDone (ar : Nat) (hrun : (k.getR ar).phase = .running) (har : ar < k.runners.length) :
      BStep k { k with runners := k.runners.set ar { k.getR ar with phase := .done } }

inductive Step (k : K) : K → Prop
  | body {k' : K} (h : BStep k k') : Step k k'
  | pop (j : Job) (rest : List Job) (hj : k.jobs = j :: rest) :
      Step k { k with jobs := rest, ran := k.ran ++ [j], latches := k.latches ++ j.newLatch,
                      runners := resumeRunner k.runners j }
  | leaveAbrupt : Step k (leaveAbrupt k)

theorem bstep_applyOp (o : BOp) (k : K) : BStep k (applyOp o.toK k) := by
  cases o with
  | newCap => exact .newCap
  | callResolve l v look =>
    simp only [BOp.toK, applyOp, callResolve]
    split
    · exact .same
    · rename_i p already hl
      cases already with
      | true => exact .same
      | false =>
        simp only [Bool.false_eq_true, if_false]
        split
        · rw [rejectP_eq, settleP_latches]; exact .settle l p false _ hl
        · split
          · rw [rejectP_eq, settleP_latches]; exact .settle l p false _ hl
          · exact .thenable l p v _ hl
          · rw [fulfillP_eq, settleP_latches]; exact .settle l p true v hl
  | callReject l v =>
    simp only [BOp.toK, applyOp, callReject]
    split
    · exact .same
    · rename_i p already hl
      cases already with
      | true => exact .same
      | false =>
        simp only [Bool.false_eq_true, if_false]
        rw [rejectP_eq, settleP_latches]; exact .settle l p false v hl
  | addReactions p cap f g =>
    simp only [BOp.toK, applyOp]
    split
    · rename_i hn
      rw [Bool.and_eq_true] at hn
      by_cases hp : p < k.proms.length
      · rw [addReactions_eq k p cap f g hp]; exact .attach p cap f g hp hn.1 hn.2
      · rw [addReactions_outside k p cap f g hp]; exact .same
    · exact .same
  | asyncStart => exact .asyncStart
  | await ar p =>
    simp only [BOp.toK, applyOp]
    by_cases hg : (k.getR ar).phase = .running ∧ ar < k.runners.length ∧ p < k.proms.length
    · rw [awaitOp_eq k ar p hg.1 hg.2.1 hg.2.2]; exact .await ar p hg.1 hg.2.1 hg.2.2
    · simp only [awaitOp, hg, if_false]; exact .same
  | asyncDone ar =>
    simp only [BOp.toK, applyOp, asyncDone]
    split
    · rename_i hg
      exact .asyncDone ar hg.1 hg.2
    · exact .same

theorem step_applyOp (op : KOp) (k : K) : Step k (applyOp op k) := by
  cases op with
  | newCap => exact .body (bstep_applyOp .newCap k)
  | callResolve l v look => exact .body (bstep_applyOp (.callResolve l v look) k)
  | callReject l v => exact .body (bstep_applyOp (.callReject l v) k)
  | addReactions p cap f g => exact .body (bstep_applyOp (.addReactions p cap f g) k)
  | asyncStart => exact .body (bstep_applyOp .asyncStart k)
  | await ar p => exact .body (bstep_applyOp (.await ar p) k)
  | asyncDone ar => exact .body (bstep_applyOp (.asyncDone ar) k)
  | popJob =>
    simp only [applyOp]
    cases hj : k.jobs with
    | nil => simp only [popJob, hj]; exact .body .same
    | cons j rest => rw [popJob_eq k j rest hj]; exact .pop j rest hj
  | leaveAbrupt => exact .leaveAbrupt

end GojaModel.C10
