/-
  C10 — promise jobs: exactly once, FIFO, drained before control returns to Go.

  Part 1 (this file): mechanism-level KERNEL, a transcription of /repo/builtin_promise.go
  (promise records, resolving functions with the shared `alreadyResolved` latch, thenable job,
  addReactions with the handled flag and the tracker calls, triggerPromiseReactions, the job
  queue) and of the double-buffered drain loop of Runtime.leave()/leaveAbrupt() (runtime.go:2911-2931),
  plus a GENERIC model of that loop over an arbitrary job behaviour (namespace JobQueue).

  The kernel state is changed only through `KOp`s; `Reach` is the set of kernel states
  reachable by ANY sequence of ops with ANY parameters (this over-approximates every program:
  whatever user code does, it can only create capabilities, call resolving functions any number
  of times with any value, attach reactions, and return to the drain loop).  The op-language
  interpreter of Interp.lean carries its kernel state in the subtype `BK k0 = {k // Reach k ∧ BodyReach k0 k}`, so every
  theorem of Props.lean about `Reach` holds for every state the executable model ever visits,
  by typing.

  Core Lean only (linked into the driver exe).
-/
namespace GojaModel.C10

/-! ## Values, callables, records -/

inductive PState | pending | fulfilled | rejected
  deriving DecidableEq, Repr, Inhabited

/-- PromiseRejectionOperation (builtin_promise.go:19-22). -/
inductive TrackOp | reject | handle
  deriving DecidableEq, Repr, Inhabited

/-- JS values as far as the promise machinery can tell them apart. -/
inductive Val
  | undef
  | num (n : Nat)
  | prom (id : Nat)                 -- a native promise (index into `K.proms`)
  | thenable (tid : Nat)            -- an object with a user-defined `then` (descriptor id)
  | typeErr                         -- TypeError("Promise self-resolution")
  | arr (vs : List Val)             -- result array of all/allSettled
  | settledObj (ful : Bool) (v : Val)
  | aggErr (vs : List Val)          -- AggregateError of Promise.any
  deriving Inhabited

/-- Callable values (defunctionalised closures of builtin_promise.go / func.go). -/
inductive Fn
  | user (f : Nat)                          -- program function H[f]
  | resolve (l : Nat)                       -- builtin_promise.go:87  (latch l)
  | reject (l : Nat)                        -- builtin_promise.go:112 (same latch l)
  | promThen                                -- Promise.prototype.then
  | thenableThen (tid : Nat)                -- user `then` of thenable descriptor tid
  | thenFinally (f : Nat) | catchFinally (f : Nat)   -- builtin_promise.go:362 / 372
  | valueThunk (v : Val) | thrower (v : Val)         -- builtin_promise.go:366 / 376
  | allElem (c idx cell : Nat)                       -- builtin_promise.go:416
  | settledElem (c idx cell : Nat) (rej : Bool)      -- builtin_promise.go:453
  | anyElem (c idx cell : Nat)                       -- builtin_promise.go:497
  | asyncFul (ar : Nat) | asyncRej (ar : Nat)        -- func.go:699 / 710
  | logRes (c : Nat) | logRej (c : Nat)              -- resolve/reject functions of a user-defined (plain) constructor
  deriving Inhabited

/-- promiseCapability (builtin_promise.go:35). -/
structure Cap where
  promise : Nat
  res : Fn
  rej : Fn
  deriving Inhabited

/-- promiseReaction (builtin_promise.go:40). `rid` is a ghost serial shared by the
fulfil/reject pair created by one addReactions call. -/
structure Reaction where
  cap : Option Cap
  isFul : Bool
  handler : Option Fn
  rid : Nat
  deriving Inhabited

/-- A queued job. `sid` = ghost enqueue serial; `owner` = promise whose settlement/attachment
produced the reaction job (ghost). -/
inductive Job
  | reaction (sid owner : Nat) (r : Reaction) (arg : Val)        -- newPromiseReactionJob :199
  | thenable (sid p : Nat) (thenable : Val) (thenFn : Fn)        -- newPromiseResolveThenableJob :175
  deriving Inhabited

def Job.sid : Job → Nat
  | .reaction s _ _ _ => s
  | .thenable s _ _ _ => s

/-- Is this a thenable job that will create resolving functions for promise `p`? -/
def Job.thenFor (p : Nat) : Job → Bool
  | .thenable _ q _ _ => q == p
  | _ => false

/-- Control state of one async function activation (asyncRunner + its generator, func.go:692-765). -/
inductive RPhase | running | suspended | done | abandoned   -- abandoned: its queued resumption was discarded by an interrupt
  deriving DecidableEq, Repr, Inhabited

structure Runner where
  phase : RPhase := .running
  awaits : Nat := 0        -- awaits executed so far; the continuation stored by the n-th await is "continuation n"
  resumes : Nat := 0       -- resumptions so far (onFulfilled / onRejected calls)
  deriving Inhabited

/-- Promise record (builtin_promise.go:56). `attached` is ghost: rids attached so far. -/
structure PRec where
  state : PState := .pending
  result : Val := .undef
  fulR : List Reaction := []
  rejR : List Reaction := []
  handled : Bool := false
  attached : List Nat := []
  deriving Inhabited

/-- Kernel state.  `jobs` = the promise jobs not yet started, oldest first: the not yet started rest of the batch
that Runtime.leave() is iterating (its local `jobs`), followed by Runtime.jobQueue.  WHICH prefix of `jobs` is the
current batch is local state of the drain loop (Interp.drainS), exactly as `jobs` is a local variable of leave() in
Go: nothing outside the loop can see the split.  `enq`, `ran`, `enqEver` are ghost logs. -/
structure K where
  proms : List PRec := []
  latches : List (Nat × Bool) := []       -- (owner promise, alreadyResolved)
  jobs : List Job := []
  tracker : List (Nat × TrackOp) := []
  nextRid : Nat := 0
  nextSid : Nat := 0
  enq : List Job := []        -- ghost: jobs enqueued and not discarded by an interrupt, in order
  ran : List Job := []        -- ghost: jobs started, in order
  enqEver : List Job := []    -- ghost: every job ever enqueued, in order
  runners : List Runner := [] -- control state of the async function activations (asyncRunner, func.go:692)
  deriving Inhabited

def K.getP (k : K) (p : Nat) : PRec := k.proms.getD p {}
def K.setP (k : K) (p : Nat) (r : PRec) : K := { k with proms := k.proms.set p r }

/-! ## builtin_promise.go, function by function -/

/-- enqueuePromiseJob (builtin_promise.go:189): append to Runtime.jobQueue. -/
def enqueue (k : K) (mk : Nat → Job) : K :=
  let j := mk k.nextSid
  { k with jobs := k.jobs ++ [j], enq := k.enq ++ [j], enqEver := k.enqEver ++ [j],
           nextSid := k.nextSid + 1 }

/-- triggerPromiseReactions (builtin_promise.go:193). -/
def trigger (k : K) (owner : Nat) : List Reaction → Val → K
  | [], _ => k
  | r :: rs, arg => trigger (enqueue k (fun sid => .reaction sid owner r arg)) owner rs arg

/-- trackPromiseRejection (runtime.go:3027). -/
def track (k : K) (p : Nat) (op : TrackOp) : K := { k with tracker := k.tracker ++ [(p, op)] }

/-- Promise.reject (builtin_promise.go:122). NB: no state check — relies on the latch. -/
def rejectP (k : K) (p : Nat) (reason : Val) : K :=
  let r := k.getP p
  let reactions := r.rejR
  let k1 := k.setP p { r with result := reason, fulR := [], rejR := [], state := .rejected }
  let k2 := if r.handled then k1 else track k1 p .reject
  trigger k2 p reactions reason

/-- Promise.fulfill (builtin_promise.go:135). -/
def fulfillP (k : K) (p : Nat) (value : Val) : K :=
  let r := k.getP p
  let reactions := r.fulR
  let k1 := k.setP p { r with result := value, fulR := [], rejR := [], state := .fulfilled }
  trigger k1 p reactions value

/-- Result of looking up `then` on the resolution (builtin_promise.go:96-104); computed by the
caller because it may run user code (a getter). -/
inductive ThenLook
  | notCallable
  | throws (e : Val)
  | callable (f : Fn)
  deriving Inhabited

def isSelf (v : Val) (p : Nat) : Bool :=
  match v with
  | .prom q => q == p
  | _ => false

/-- The resolve function of createResolvingFunctions (builtin_promise.go:87-111). -/
def callResolve (k : K) (l : Nat) (resolution : Val) (look : ThenLook) : K :=
  match k.latches[l]? with
  | none => k
  | some (p, already) =>
    if already then k else                                         -- :88
    let k := { k with latches := k.latches.set l (p, true) }       -- :91
    if isSelf resolution p then rejectP k p .typeErr else          -- :93
    match look with
    | .throws e => rejectP k p e                                    -- :101
    | .callable f => enqueue k (fun sid => .thenable sid p resolution f)   -- :105
    | .notCallable => fulfillP k p resolution                       -- :110

/-- The reject function of createResolvingFunctions (builtin_promise.go:112-119). -/
def callReject (k : K) (l : Nat) (reason : Val) : K :=
  match k.latches[l]? with
  | none => k
  | some (p, already) =>
    if already then k else
    let k := { k with latches := k.latches.set l (p, true) }
    rejectP k p reason

/-- The `switch p.state` of Promise.addReactions (builtin_promise.go:159-171). -/
def addReactionsCore (k : K) (p : Nat) (fr rr : Reaction) : K :=
  let r := k.getP p
  match r.state with
  | .pending => k.setP p { r with fulR := r.fulR ++ [fr], rejR := r.rejR ++ [rr] }          -- :161
  | .fulfilled => enqueue k (fun sid => .reaction sid p fr r.result)                         -- :164
  | .rejected =>
    enqueue (if r.handled then k else track k p .handle)                                     -- :167
      (fun sid => .reaction sid p rr r.result)                                               -- :170

/-- `p.handled = true` (builtin_promise.go:172) (+ ghost: remember the attachment). -/
def markHandled (k : K) (p rid : Nat) : K :=
  let r := k.getP p
  k.setP p { r with handled := true, attached := r.attached ++ [rid] }

/-- Promise.addReactions (builtin_promise.go:152-173) with the two reactions built as in
performPromiseThen (:321-330) / asyncRunner.step (func.go:735-743). -/
def addReactions (k : K) (p : Nat) (cap : Option Cap) (onF onR : Option Fn) : K :=
  if p < k.proms.length then
    let rid := k.nextRid
    markHandled
      (addReactionsCore { k with nextRid := rid + 1 } p
        { cap := cap, isFul := true, handler := onF, rid := rid }
        { cap := cap, isFul := false, handler := onR, rid := rid })
      p rid
  else k

/-- newPromise (builtin_promise.go:233). -/
def newPromise (k : K) : K := { k with proms := k.proms ++ [{}] }

/-- createResolvingFunctions (builtin_promise.go:84): allocate the shared latch. -/
def createResolvingFunctions (k : K) (p : Nat) : K := { k with latches := k.latches ++ [(p, false)] }

/-- newPromiseCapability for %Promise% (builtin_promise.go:283-286), the Promise constructor (:257-259),
Runtime.NewPromise (:629-630): a new promise (id = old `proms.length`) with its latch (id = old
`latches.length`). -/
def newCap (k : K) : K := createResolvingFunctions (newPromise k) k.proms.length

/-- Queue part of starting the oldest job (`for _, job := range jobs { job() }`, runtime.go:2915).  A thenable
job begins with createResolvingFunctions (builtin_promise.go:177). -/
def popJobQ (k : K) : K :=
  match k.jobs with
  | [] => k
  | j :: rest =>
    let k := { k with jobs := rest, ran := k.ran ++ [j] }
    match j with
    | .reaction _ _ _ _ => k
    | .thenable _ p _ _ => createResolvingFunctions k p

def isAsyncFn : Fn → Bool
  | .asyncFul _ => true
  | .asyncRej _ => true
  | _ => false

/-- The async activation a reaction job resumes (its handler is asyncRunner.onFulfilled / onRejected), if any. -/
def Reaction.runner? (r : Reaction) : Option Nat :=
  match r.handler with
  | some (.asyncFul a) => some a
  | some (.asyncRej a) => some a
  | _ => none

def Job.runner? : Job → Option Nat
  | .reaction _ _ r _ => r.runner?
  | .thenable _ _ _ _ => none

/-- asyncRunner.onFulfilled / onRejected is entered (func.go:699 / 710): the activation runs again. -/
def resumeRunner (rs : List Runner) (j : Job) : List Runner :=
  match j.runner? with
  | none => rs
  | some ar =>
    match rs[ar]? with
    | none => rs
    | some r => rs.set ar { r with phase := .running, resumes := r.resumes + 1 }

/-- Start the oldest job; if it is the resumption of an async activation, that activation is running again. -/
def popJob (k : K) : K :=
  match k.jobs with
  | [] => k
  | j :: _ => { popJobQ k with runners := resumeRunner k.runners j }

def K.getR (k : K) (ar : Nat) : Runner := k.runners.getD ar { phase := .done }

/-- asyncRunner.start (func.go:745): a new activation, running. -/
def asyncStart (k : K) : K := { k with runners := k.runners ++ [{}] }

/-- `await` in a running activation (asyncRunner.step, func.go:732-743) on the promise `p` that promiseResolve
returned: PerformPromiseThen(p, onFulfilled, onRejected) without a capability; the activation is suspended. -/
def awaitOp (k : K) (ar p : Nat) : K :=
  if (k.getR ar).phase = .running ∧ ar < k.runners.length ∧ p < k.proms.length then
    let k1 := addReactions k p none (some (.asyncFul ar)) (some (.asyncRej ar))
    let r := k.getR ar
    { k1 with runners := k1.runners.set ar { r with phase := .suspended, awaits := r.awaits + 1 } }
  else k

/-- The activation completes (func.go:723-729). -/
def asyncDone (k : K) (ar : Nat) : K :=
  if (k.getR ar).phase = .running ∧ ar < k.runners.length then
    { k with runners := k.runners.set ar { k.getR ar with phase := .done } }
  else k

/-- The activations whose queued resumption is among the discarded jobs will never run again. -/
def abandonRunners (rs : List Runner) : List Job → List Runner
  | [] => rs
  | j :: js =>
    match j.runner? with
    | none => abandonRunners rs js
    | some ar =>
      match rs[ar]? with
      | none => abandonRunners rs js
      | some r => abandonRunners (rs.set ar { r with phase := .abandoned }) js

/-- leaveAbrupt (runtime.go:2924): the queue is discarded.  (The batch being iterated is abandoned with the
unwinding Go stack.) -/
def leaveAbrupt (k : K) : K :=
  { k with jobs := [], enq := k.ran, runners := abandonRunners k.runners k.jobs }

inductive KOp
  | newCap
  | callResolve (l : Nat) (v : Val) (look : ThenLook)
  | callReject (l : Nat) (v : Val)
  | addReactions (p : Nat) (cap : Option Cap) (onF onR : Option Fn)
  | popJob
  | leaveAbrupt
  | asyncStart
  | await (ar p : Nat)
  | asyncDone (ar : Nat)
  deriving Inhabited

/-- asyncRunner.onFulfilled / onRejected are Go method values that exist only inside the reactions built by
asyncRunner.step; they are not JavaScript values, so no `then` call can ever pass them. -/
def noAsync (f : Option Fn) : Bool :=
  match f with
  | some fn => !isAsyncFn fn
  | none => true

def applyOp : KOp → K → K
  | .newCap, k => newCap k
  | .callResolve l v look, k => callResolve k l v look
  | .callReject l v, k => callReject k l v
  | .addReactions p cap f g, k => if noAsync f && noAsync g then addReactions k p cap f g else k
  | .popJob, k => popJob k
  | .leaveAbrupt, k => leaveAbrupt k
  | .asyncStart, k => asyncStart k
  | .await ar p, k => awaitOp k ar p
  | .asyncDone ar, k => asyncDone k ar

/-- Kernel states reachable from the initial state of a fresh Runtime by any op sequence. -/
inductive Reach : K → Prop
  | init : Reach {}
  | step (op : KOp) {k : K} : Reach k → Reach (applyOp op k)

/-- A kernel state together with the evidence that it is reachable (erased at run time). -/
abbrev RK := { k : K // Reach k }

def RK.init : RK := ⟨{}, .init⟩
def RK.apply (rk : RK) (op : KOp) : RK := ⟨applyOp op rk.val, .step op rk.property⟩

/-! ## Ops available to code that runs INSIDE an outermost call or a job

User code, built-ins and reaction/thenable job bodies can create capabilities, call resolving functions and
attach reactions; only the scheduler (Runtime.leave / leaveAbrupt) starts jobs or discards the queue. -/

inductive BOp
  | newCap
  | callResolve (l : Nat) (v : Val) (look : ThenLook)
  | callReject (l : Nat) (v : Val)
  | addReactions (p : Nat) (cap : Option Cap) (onF onR : Option Fn)
  | asyncStart
  | await (ar p : Nat)
  | asyncDone (ar : Nat)
  deriving Inhabited

def BOp.toK : BOp → KOp
  | .newCap => .newCap
  | .callResolve l v look => .callResolve l v look
  | .callReject l v => .callReject l v
  | .addReactions p cap f g => .addReactions p cap f g
  | .asyncStart => .asyncStart
  | .await ar p => .await ar p
  | .asyncDone ar => .asyncDone ar

/-- `k` is reachable from `k0` by body ops only. -/
inductive BodyReach (k0 : K) : K → Prop
  | refl : BodyReach k0 k0
  | step (o : BOp) {k : K} : BodyReach k0 k → BodyReach k0 (applyOp o.toK k)

/-- Kernel state of code running since the scheduler last acted (at kernel state `k0`). -/
abbrev BK (k0 : K) := { k : K // Reach k ∧ BodyReach k0 k }

def BK.apply {k0 : K} (b : BK k0) (o : BOp) : BK k0 :=
  ⟨applyOp o.toK b.val, .step o.toK b.property.1, .step o b.property.2⟩

/-- The scheduler acts: the result is the new base. -/
def BK.sched {k0 : K} (b : BK k0) (o : KOp) : BK (applyOp o b.val) :=
  ⟨applyOp o b.val, .step o b.property.1, .refl⟩

def BK.rebase {k0 : K} (b : BK k0) : BK b.val := ⟨b.val, b.property.1, .refl⟩

def BK.init : BK {} := ⟨{}, .init, .refl⟩

/-! ## Generic model of the drain loop (any job behaviour) -/
namespace JobQueue

variable {σ J : Type}

/-- A job's behaviour: new state, jobs it enqueued (in order), and whether it ended with an
uncatchable panic (interrupt). -/
abbrev Run (σ J : Type) := J → σ → σ × List J × Bool

/-- Outcome of a drain: final state, the jobs run (in order), what is left queued, aborted?. -/
structure Out (σ J : Type) where
  st : σ
  ran : List J
  left : List J
  aborted : Bool

/-- Inner loop of leave(): `for _, job := range jobs { job() }` with jobs appending to r.jobQueue.
Structural on the batch.  Returns (state, ran, jobQueue, aborted). -/
def batch (run : Run σ J) : List J → σ → List J → List J → σ × List J × List J × Bool
  | [], s, ran, q => (s, ran, q, false)
  | j :: js, s, ran, q =>
    match run j s with
    | (s', new, true) => (s', ran ++ [j], q ++ new, true)
    | (s', new, false) => batch run js s' (ran ++ [j]) (q ++ new)

/-- Runtime.leave() (runtime.go:2911) with `fuel` bounding the number of batches; on an abort the
panic propagates to RunProgram/runWrapped whose recover calls leaveAbrupt (queue := nil).
`none` = fuel exhausted (drain does not terminate within `fuel` batches). -/
def leave (run : Run σ J) : Nat → σ → List J → List J → Option (Out σ J)
  | 0, s, ran, q => if q.isEmpty then some ⟨s, ran, [], false⟩ else none
  | n + 1, s, ran, q =>
    if q.isEmpty then some ⟨s, ran, [], false⟩ else      -- `for len(r.jobQueue) > 0`
    match batch run q s ran [] with                       -- jobs, r.jobQueue = r.jobQueue, jobs[:0]
    | (s', ran', _, true) => some ⟨s', ran', [], true⟩   -- leaveAbrupt: r.jobQueue = nil
    | (s', ran', q', false) => leave run n s' ran' q'

/-- Specification: ONE FIFO queue; `fuel` bounds the number of jobs run. -/
def fifo (run : Run σ J) : Nat → σ → List J → List J → Option (Out σ J)
  | 0, s, ran, q => if q.isEmpty then some ⟨s, ran, [], false⟩ else none
  | n + 1, s, ran, q =>
    match q with
    | [] => some ⟨s, ran, [], false⟩
    | j :: rest =>
      match run j s with
      | (s', _, true) => some ⟨s', ran ++ [j], [], true⟩
      | (s', new, false) => fifo run n s' (ran ++ [j]) (rest ++ new)

end JobQueue

end GojaModel.C10
