/-
  C10: two facts about `List.set` (what replacing one element does to a count and to a sum), used by the kernel lemmas
  and by the combinator counter.
-/
namespace GojaModel.C10

theorem countP_set {α : Type} (f : α → Bool) : ∀ (l : List α) (i : Nat) (a b : α), l[i]? = some a →
    (l.set i b).countP f + (if f a then 1 else 0) = l.countP f + (if f b then 1 else 0) := by
  intro l i a b h
  obtain ⟨hlt, rfl⟩ := List.getElem?_eq_some_iff.mp h
  have := List.boole_getElem_le_countP (p := f) hlt
  rw [List.countP_set hlt]
  omega

theorem sum_map_set {α : Type} (f : α → Nat) : ∀ (l : List α) (i : Nat) (a b : α), l[i]? = some a →
    ((l.set i b).map f).sum + f a = (l.map f).sum + f b := by
  intro l
  induction l with
  | nil => intro i a b h; simp at h
  | cons x xs ih =>
    intro i a b h
    cases i with
    | zero => simp at h; subst h; simp; omega
    | succ i =>
      simp only [List.getElem?_cons_succ] at h
      have := ih i a b h
      simp only [List.set_cons_succ, List.map_cons, List.sum_cons]
      omega

end GojaModel.C10
