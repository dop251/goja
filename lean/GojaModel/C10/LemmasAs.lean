/-
  C10, async function activations (asyncRunner): a suspended activation has exactly one pending resumption (a pair
  stored in a pending promise or one queued job), any other activation none; the n-th resumption follows the n-th
  await.  Then: what `await v` does to the job list, by kind of v.
-/
import GojaModel.C10.LemmasR

namespace GojaModel.C10

def rRun (ar : Nat) (r : Reaction) : Bool := r.runner? == some ar
def jRun (ar : Nat) (j : Job) : Bool := j.runner? == some ar

/-- Stored (not yet triggered) resumptions of `ar`: pairs in the lists of pending promises (counted on the fulfil side). -/
def listCount (k : K) (ar : Nat) : Nat := (k.proms.map (fun pr => pr.fulR.countP (rRun ar))).sum

def acount (k : K) (ar : Nat) : Nat := listCount k ar + k.jobs.countP (jRun ar)

def susp (r : Runner) : Nat := if r.phase = .suspended then 1 else 0

/-- 1 while the activation has executed an await that has not resumed it (suspended, or abandoned by an interrupt). -/
def waiting (r : Runner) : Nat := if r.phase = .suspended ∨ r.phase = .abandoned then 1 else 0

structure AsInv (k : K) : Prop where
  pair : ∀ q ar, (k.getP q).rejR.countP (rRun ar) = (k.getP q).fulR.countP (rRun ar)
  count : ∀ ar, acount k ar = susp (k.getR ar)
  ctr : ∀ ar, (k.getR ar).awaits = (k.getR ar).resumes + waiting (k.getR ar)

theorem listCount_of_proms_set (k k' : K) (q : Nat) (r : PRec) (hp : k'.proms = k.proms.set q r)
    (hlt : q < k.proms.length) (ar : Nat) :
    listCount k' ar + (k.getP q).fulR.countP (rRun ar) = listCount k ar + r.fulR.countP (rRun ar) := by
  unfold listCount
  rw [hp]
  exact sum_map_set _ k.proms q (k.getP q) r (getP_eq_getElem k q hlt)

theorem listCount_of_proms_eq (k k' : K) (hp : k'.proms = k.proms) (ar : Nat) : listCount k' ar = listCount k ar := by
  unfold listCount; rw [hp]

theorem trigJobs_count (owner : Nat) (arg : Val) (ar : Nat) : ∀ (rs : List Reaction) (sid : Nat),
    (trigJobs sid owner rs arg).countP (jRun ar) = rs.countP (rRun ar) := by
  intro rs
  induction rs with
  | nil => intro sid; simp [trigJobs]
  | cons r rs ih =>
    intro sid
    simp only [trigJobs, List.countP_cons, ih]
    rfl

theorem getR_of_runners_eq {k k' : K} (h : k'.runners = k.runners) (ar : Nat) : k'.getR ar = k.getR ar := by
  unfold K.getR; rw [h]

theorem getR_set (k : K) (a : Nat) (r : Runner) (ar : Nat) (hlt : a < k.runners.length)
    (k' : K) (h : k'.runners = k.runners.set a r) : k'.getR ar = if ar = a then r else k.getR ar := by
  unfold K.getR
  rw [h]
  simp only [List.getD_eq_getElem?_getD, List.getElem?_set]
  by_cases e : a = ar
  · subst e; simp [hlt]
  · have : ¬ (ar = a) := fun x => e x.symm
    simp [e, this]

theorem getR_default (k : K) (ar : Nat) (h : k.runners.length ≤ ar) : k.getR ar = { phase := .done } := by
  unfold K.getR
  simp [List.getD_eq_getElem?_getD, List.getElem?_eq_none h]

theorem lt_of_susp {k : K} {ar : Nat} (h : susp (k.getR ar) = 1) : ar < k.runners.length := by
  false_or_by_contra
  rename_i hh
  rw [getR_default k ar (by omega)] at h
  simp [susp] at h

theorem suspended_of_acount {k : K} (h : AsInv k) {ar : Nat} (hpos : 0 < acount k ar) :
    (k.getR ar).phase = .suspended ∧ ar < k.runners.length := by
  have hc := h.count ar
  by_cases hs : (k.getR ar).phase = .suspended
  · exact ⟨hs, lt_of_susp (by simp [susp, hs])⟩
  · rw [susp, if_neg hs] at hc
    omega

/-- Settling moves the stored resumptions of `p` from its lists into the job list. -/
theorem asinv_settleP {k : K} (h : AsInv k) (p : Nat) (isF : Bool) (v : Val) : AsInv (settleP k p isF v) := by
  have hcnt : ∀ ar, (if isF then (k.getP p).fulR else (k.getP p).rejR).countP (rRun ar) =
      (k.getP p).fulR.countP (rRun ar) := by
    intro ar
    cases isF
    · exact h.pair p ar
    · rfl
  constructor
  · exact fun x ar => forall_getP_of_proms_set (P := fun r => r.rejR.countP (rRun ar) = r.fulR.countP (rRun ar))
      rfl rfl (fun q => h.pair q ar) x
  · intro ar
    show acount (settleP k p isF v) ar = susp (k.getR ar)
    rw [← h.count ar]
    unfold acount
    show _ + (k.jobs ++ trigJobs k.nextSid p _ v).countP (jRun ar) = _
    rw [List.countP_append, trigJobs_count, hcnt]
    by_cases hlt : p < k.proms.length
    · have := listCount_of_proms_set k (settleP k p isF v) p _ rfl hlt ar
      simp at this
      omega
    · have e1 : (settleP k p isF v).proms = k.proms := List.set_eq_of_length_le (by omega)
      rw [listCount_of_proms_eq k _ e1, getP_default k p (by omega)]
      simp
  · exact h.ctr

theorem asinv_congr {k k' : K} (h : AsInv k) (hp : k'.proms = k.proms) (hj : k'.jobs = k.jobs)
    (hr : k'.runners = k.runners) : AsInv k' := by
  constructor
  · intro q ar; rw [getP_of_proms_eq hp]; exact h.pair q ar
  · intro ar
    rw [getR_of_runners_eq hr, ← h.count ar]
    unfold acount
    rw [hj, listCount_of_proms_eq k k' hp]
  · intro ar; rw [getR_of_runners_eq hr]; exact h.ctr ar

theorem runner?_noAsync (r : Reaction) (h : noAsync r.handler = true) : r.runner? = none := by
  unfold Reaction.runner?
  cases hh : r.handler with
  | none => rfl
  | some fn => rw [hh] at h; cases fn <;> simp [noAsync, isAsyncFn] at h ⊢

theorem attachP_acount {k : K} (h : AsInv k) (p : Nat) (cap : Option Cap) (f g : Option Fn)
    (hlt : p < k.proms.length) (t : Option Nat)
    (hf : Reaction.runner? ⟨cap, true, f, k.nextRid⟩ = t) (hg : Reaction.runner? ⟨cap, false, g, k.nextRid⟩ = t) :
    (∀ q ar, ((attachP k p cap f g).getP q).rejR.countP (rRun ar) =
              ((attachP k p cap f g).getP q).fulR.countP (rRun ar)) ∧
    (∀ ar, acount (attachP k p cap f g) ar = acount k ar + (if t = some ar then 1 else 0)) := by
  have hfr : ∀ ar, rRun ar { cap := cap, isFul := true, handler := f, rid := k.nextRid } = (t == some ar) := by
    intro ar; unfold rRun; rw [hf]
  have hrr : ∀ ar, rRun ar { cap := cap, isFul := false, handler := g, rid := k.nextRid } = (t == some ar) := by
    intro ar; unfold rRun; rw [hg]
  constructor
  · refine fun q ar => forall_getP_of_proms_set (P := fun r => r.rejR.countP (rRun ar) = r.fulR.countP (rRun ar))
      rfl ?_ (fun q => h.pair q ar) q
    split
    · simp only [List.countP_append, List.countP_cons, List.countP_nil, hfr, hrr]
      have := h.pair p ar; omega
    · exact h.pair p ar
  · intro ar
    have hl := listCount_of_proms_set k (attachP k p cap f g) p _ rfl hlt ar
    unfold acount
    show _ + (k.jobs ++ _).countP (jRun ar) = _
    rw [List.countP_append, trigJobs_count]
    -- in each state the pair adds one pending resumption of `t`: stored if pending, queued otherwise
    cases hs : (k.getP p).state <;>
      simp only [lateR, hs, reduceCtorEq, if_true, if_false, List.countP_append, List.countP_cons, List.countP_nil, hfr, hrr,
        beq_iff_eq] at hl ⊢ <;>
      omega

theorem asinv_setRunner {k k' : K} (h : AsInv k) (a : Nat) (r : Runner) (hlt : a < k.runners.length)
    (hru : k'.runners = k.runners.set a r)
    (hpair : ∀ q ar, (k'.getP q).rejR.countP (rRun ar) = (k'.getP q).fulR.countP (rRun ar))
    (hcnt : ∀ ar, ar ≠ a → acount k' ar = acount k ar) (hcnta : acount k' a = susp r)
    (hctr : r.awaits = r.resumes + waiting r) : AsInv k' := by
  have hgr := fun x => getR_set k a r x hlt k' hru
  refine ⟨hpair, fun ar => ?_, fun ar => ?_⟩ <;> rw [hgr ar] <;> by_cases e : ar = a
  · subst e; simpa using hcnta
  · simp only [e, if_false]; rw [hcnt ar e]; exact h.count ar
  · subst e; simpa using hctr
  · simp only [e, if_false]; exact h.ctr ar

theorem asinv_await {k : K} (h : AsInv k) (ar p : Nat) (hrun : (k.getR ar).phase = .running)
    (hlt : ar < k.runners.length) (hplt : p < k.proms.length) :
    AsInv { attachP k p none (some (.asyncFul ar)) (some (.asyncRej ar)) with
      runners := k.runners.set ar { k.getR ar with phase := .suspended, awaits := (k.getR ar).awaits + 1 } } := by
  obtain ⟨a, b⟩ := attachP_acount h p none (some (.asyncFul ar)) (some (.asyncRej ar)) hplt (some ar) rfl rfl
  have h0 : acount k ar = 0 := by rw [h.count ar]; simp [susp, hrun]
  refine asinv_setRunner h ar _ hlt rfl a (fun x e => ?_) ?_ ?_
  · have e' : ¬ (ar = x) := fun y => e y.symm
    exact (b x).trans (by simp [e'])
  · exact (b ar).trans (by simp [h0, susp])
  · have := h.ctr ar
    simp [waiting, hrun] at this ⊢
    omega

theorem getR_asyncStart (k : K) (ar : Nat) :
    (asyncStart k).getR ar = if ar = k.runners.length then {} else k.getR ar := by
  unfold K.getR asyncStart
  simp only [List.getD_eq_getElem?_getD]
  by_cases e : ar = k.runners.length
  · subst e; simp
  · simp only [e, if_false]
    by_cases hl : ar < k.runners.length
    · rw [List.getElem?_append_left hl]
    · rw [List.getElem?_eq_none (by simp; omega), List.getElem?_eq_none (by omega)]

theorem asinv_asyncStart {k : K} (h : AsInv k) : AsInv (asyncStart k) := by
  constructor
  · exact h.pair
  · intro ar
    have hc := h.count ar
    have : acount (asyncStart k) ar = acount k ar := rfl
    rw [this, getR_asyncStart k ar]
    by_cases e : ar = k.runners.length
    · subst e
      rw [getR_default k _ (Nat.le_refl _)] at hc
      simp [susp] at hc ⊢
      exact hc
    · simp only [e, if_false]; exact hc
  · intro ar
    rw [getR_asyncStart k ar]
    by_cases e : ar = k.runners.length
    · simp [e, waiting]
    · simp only [e, if_false]; exact h.ctr ar

theorem asinv_asyncDone {k : K} (h : AsInv k) (ar : Nat) (hrun : (k.getR ar).phase = .running)
    (hlt : ar < k.runners.length) :
    AsInv { k with runners := k.runners.set ar { k.getR ar with phase := .done } } := by
  refine asinv_setRunner h ar _ hlt rfl h.pair (fun _ _ => rfl) ?_ ?_
  · exact (h.count ar).trans (by simp [susp, hrun])
  · have := h.ctr ar
    simp [waiting, hrun] at this ⊢
    exact this

theorem asinv_newCap {k : K} (h : AsInv k) : AsInv (newCap k) := by
  constructor
  · exact fun q ar => forall_getP_newCap (P := fun r => r.rejR.countP (rRun ar) = r.fulR.countP (rRun ar))
      rfl (fun q => h.pair q ar) q
  · intro ar
    show acount (newCap k) ar = susp (k.getR ar)
    rw [← h.count ar]
    unfold acount listCount newCap createResolvingFunctions newPromise
    simp
  · exact h.ctr

theorem asinv_enqueue_plain {k : K} (h : AsInv k) (mk : Nat → Job) (hmk : (mk k.nextSid).runner? = none) :
    AsInv (enqueue k mk) := by
  constructor
  · exact h.pair
  · intro ar
    have hr : (enqueue k mk).getR ar = k.getR ar := rfl
    rw [hr, ← h.count ar]
    unfold acount
    have : listCount (enqueue k mk) ar = listCount k ar := rfl
    rw [this]
    simp only [enqueue, List.countP_append, List.countP_cons, List.countP_nil, jRun, hmk]
    simp
  · exact h.ctr

/-- asyncRunner.onFulfilled / onRejected, func.go:699 / 710. -/
theorem resumeRunner_some (k : K) (j : Job) (a : Nat) (hrj : j.runner? = some a) (hlt : a < k.runners.length) :
    resumeRunner k.runners j =
      k.runners.set a { k.getR a with phase := .running, resumes := (k.getR a).resumes + 1 } := by
  have hra : k.runners[a]? = some (k.getR a) := by
    unfold K.getR; simp [List.getD_eq_getElem?_getD, List.getElem?_eq_getElem hlt]
  unfold resumeRunner
  rw [hrj]
  simp only []
  rw [hra]

theorem asinv_popJob {k k' : K} (h : AsInv k) (j : Job) (rest : List Job) (hj : k.jobs = j :: rest)
    (hjobs : k'.jobs = rest) (hproms : k'.proms = k.proms) (hrunners : k'.runners = resumeRunner k.runners j) :
    AsInv k' := by
  have hac : ∀ ar, acount k' ar + (if jRun ar j then 1 else 0) = acount k ar := by
    intro ar
    unfold acount
    rw [listCount_of_proms_eq k _ hproms, hjobs, hj, List.countP_cons]
    omega
  cases hrj : j.runner? with
  | none =>
    have hr : k'.runners = k.runners := by rw [hrunners]; unfold resumeRunner; rw [hrj]
    constructor
    · intro q ar; rw [getP_of_proms_eq hproms]; exact h.pair q ar
    · intro ar
      have := hac ar
      simp only [jRun, hrj] at this
      rw [getR_of_runners_eq hr, ← h.count ar]; simpa using this
    · intro ar; rw [getR_of_runners_eq hr]; exact h.ctr ar
  | some a =>
    have hja : jRun a j = true := by simp [jRun, hrj]
    obtain ⟨hphase, hlt⟩ := suspended_of_acount h (ar := a) (by have := hac a; rw [hja] at this; simp at this; omega)
    have hr := hrunners.trans (resumeRunner_some k j a hrj hlt)
    refine asinv_setRunner h a _ hlt hr (fun q ar => by rw [getP_of_proms_eq hproms]; exact h.pair q ar)
      (fun ar e => ?_) ?_ ?_
    · have : jRun ar j = false := by
        simp only [jRun, hrj]
        simp; exact fun x => e x.symm
      have h2 := hac ar
      rw [this] at h2
      simpa using h2
    · have h2 := hac a
      have hc := h.count a
      rw [hja] at h2
      simp [susp, hphase] at hc h2 ⊢
      omega
    · have := h.ctr a
      simp [waiting, hphase] at this ⊢
      omega

theorem abandon_getD : ∀ (js : List Job) (rs : List Runner) (ar : Nat) (d : Runner),
    (abandonRunners rs js).getD ar d =
      if 0 < js.countP (jRun ar) ∧ ar < rs.length then { rs.getD ar d with phase := .abandoned } else rs.getD ar d := by
  intro js
  induction js with
  | nil => intro rs ar d; simp [abandonRunners]
  | cons j js ih =>
    intro rs ar d
    unfold abandonRunners
    cases hrj : j.runner? with
    | none =>
      simp only []
      rw [ih]
      have : jRun ar j = false := by simp [jRun, hrj]
      simp [this]
    | some a =>
      simp only []
      cases hra : rs[a]? with
      | none =>
        simp only []
        rw [ih]
        have hge : rs.length ≤ a := List.getElem?_eq_none_iff.mp hra
        by_cases e : ar = a
        · subst e
          have : ¬ (ar < rs.length) := by omega
          simp [this]
        · have : jRun ar j = false := by simp [jRun, hrj]; exact fun x => e x.symm
          simp [this]
      | some r =>
        simp only []
        rw [ih]
        obtain ⟨hlt, hr2⟩ := List.getElem?_eq_some_iff.mp hra
        simp only [List.length_set, List.getD_eq_getElem?_getD, List.getElem?_set]
        by_cases e : ar = a
        · subst e
          have hja : jRun ar j = true := by simp [jRun, hrj]
          simp [hlt, hja, hr2]
        · have e' : ¬ (a = ar) := fun x => e x.symm
          have : jRun ar j = false := by simp [jRun, hrj]; exact e'
          simp [e', this]

theorem getR_leaveAbrupt (k : K) (ar : Nat) :
    (leaveAbrupt k).getR ar =
      if 0 < k.jobs.countP (jRun ar) ∧ ar < k.runners.length then { k.getR ar with phase := .abandoned } else k.getR ar :=
  abandon_getD k.jobs k.runners ar _

theorem asinv_leaveAbrupt {k : K} (h : AsInv k) : AsInv (leaveAbrupt k) := by
  have hq : ∀ ar, 0 < k.jobs.countP (jRun ar) → (k.getR ar).phase = .suspended ∧ ar < k.runners.length :=
    fun ar hz => suspended_of_acount h (by unfold acount; omega)
  constructor
  · exact h.pair
  · intro ar
    rw [getR_leaveAbrupt k ar]
    have hc := h.count ar
    unfold acount at hc
    have hl : acount (leaveAbrupt k) ar = listCount k ar := by
      unfold acount leaveAbrupt listCount; simp
    rw [hl]
    by_cases hz : 0 < k.jobs.countP (jRun ar)
    · obtain ⟨hph, hlt⟩ := hq ar hz
      simp only [hz, hlt, and_self, if_true]
      simp [susp, hph] at hc ⊢
      omega
    · simp only [hz, false_and, if_false]
      omega
  · intro ar
    rw [getR_leaveAbrupt k ar]
    by_cases hz : 0 < k.jobs.countP (jRun ar) ∧ ar < k.runners.length
    · simp only [hz, and_self, if_true]
      have := h.ctr ar
      simp [waiting, (hq ar hz.1).1] at this ⊢
      exact this
    · simp only [hz, if_false]; exact h.ctr ar

theorem asinv_step {k k' : K} (h : AsInv k) (s : Step k k') : AsInv k' := by
  cases s with
  | body hb =>
    cases hb with
    | same => exact h
    | newCap => exact asinv_newCap h
    | settle l p isF v hl =>
      exact asinv_congr (asinv_settleP h p isF v) rfl rfl rfl
    | thenable l p v f hl =>
      exact asinv_congr (asinv_enqueue_plain h (fun sid => .thenable sid p v f) rfl) rfl rfl rfl
    | attach p cap f g hp hf hg =>
      obtain ⟨a, b⟩ := attachP_acount h p cap f g hp none (runner?_noAsync _ hf) (runner?_noAsync _ hg)
      exact ⟨a, fun ar => (b ar).trans (h.count ar), h.ctr⟩
    | asyncStart => exact asinv_asyncStart h
    | await ar p hrun har hp => exact asinv_await h ar p hrun har hp
    | asyncDone ar hrun har => exact asinv_asyncDone h ar hrun har
  | pop j rest hj => exact asinv_popJob h j rest hj rfl rfl rfl
  | leaveAbrupt => exact asinv_leaveAbrupt h

theorem asinv_reach {k : K} (h : Reach k) : AsInv k := by
  induction h with
  | init =>
    constructor
    · intro q ar; rw [getP_default _ _ (by simp)]
    · intro ar; rw [getR_default _ _ (by simp)]; rfl
    · intro ar; rw [getR_default _ _ (by simp)]; rfl
  | step op _ ih => exact asinv_step ih (step_applyOp op _)

/-- `await v` for a value that is neither a promise nor a thenable: promiseResolve makes a fresh promise already
fulfilled with v, so the await enqueues the resumption, carrying v, at once; the activation is suspended. -/
theorem await_nonthenable (k : K) (ar : Nat) (v : Val) (hv : isSelf v k.proms.length = false)
    (hrun : (k.getR ar).phase = .running) (hlt : ar < k.runners.length) :
    (awaitOp (callResolve (newCap k) k.latches.length v .notCallable) ar k.proms.length).jobs =
      k.jobs ++ [Job.reaction k.nextSid k.proms.length
        { cap := none, isFul := true, handler := some (.asyncFul ar), rid := k.nextRid } v] ∧
    ((awaitOp (callResolve (newCap k) k.latches.length v .notCallable) ar k.proms.length).getR ar).phase = .suspended := by
  obtain ⟨k2, hk2⟩ : ∃ k2, k2 = settleP
      { newCap k with latches := (newCap k).latches.set k.latches.length (k.proms.length, true) } k.proms.length true v :=
    ⟨_, rfl⟩
  have h2 : callResolve (newCap k) k.latches.length v .notCallable = k2 := by
    unfold callResolve; rw [newCap_latch, hk2]; simp [hv, fulfillP_eq]
  rw [h2, awaitOp_eq k2 ar _ (by rw [hk2]; exact hrun) (by rw [hk2]; exact hlt)
    (by simp [hk2, settleP, newCap, createResolvingFunctions, newPromise]), hk2]
  constructor
  · simp [settleP, attachP, lateR, K.getP, newCap, createResolvingFunctions, newPromise, trigJobs]
  · simp [K.getR, hlt, settleP, newCap, createResolvingFunctions, newPromise]

/-- `await v` for a thenable: promiseResolve's fresh promise stays pending behind a thenable job, the await only stores
the resumption; the activation is suspended. -/
theorem await_thenable (k : K) (ar : Nat) (v : Val) (f : Fn) (hv : isSelf v k.proms.length = false)
    (hrun : (k.getR ar).phase = .running) (hlt : ar < k.runners.length) :
    (awaitOp (callResolve (newCap k) k.latches.length v (.callable f)) ar k.proms.length).jobs =
      k.jobs ++ [Job.thenable k.nextSid k.proms.length v f] ∧
    ((awaitOp (callResolve (newCap k) k.latches.length v (.callable f)) ar k.proms.length).getR ar).phase = .suspended := by
  obtain ⟨k2, hk2⟩ : ∃ k2, k2 = enqueue
      { newCap k with latches := (newCap k).latches.set k.latches.length (k.proms.length, true) }
      (fun sid => Job.thenable sid k.proms.length v f) := ⟨_, rfl⟩
  have h2 : callResolve (newCap k) k.latches.length v (.callable f) = k2 := by
    unfold callResolve; rw [newCap_latch, hk2]; simp [hv]
  rw [h2, awaitOp_eq k2 ar _ (by rw [hk2]; exact hrun) (by rw [hk2]; exact hlt)
    (by simp [hk2, enqueue, newCap, createResolvingFunctions, newPromise]), hk2]
  constructor
  · simp [enqueue, attachP, lateR, K.getP, newCap, createResolvingFunctions, newPromise, trigJobs]
  · simp [K.getR, hlt, enqueue, newCap, createResolvingFunctions, newPromise]
end GojaModel.C10
