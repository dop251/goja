/-
  C10: the generic double-buffered drain loop (`JobQueue.leave`) computes what one FIFO queue computes: a whole batch is
  as many steps of the FIFO machine (`fifo_batch`, and back: `fifo_batch_inv`).
-/
import GojaModel.C10.Model

namespace GojaModel.C10

namespace JobQueue
variable {σ J : Type}

theorem fifo_batch (run : Run σ J) : ∀ (js : List J) (m : Nat) (s : σ) (ran q : List J),
    fifo run (m + js.length) s ran (js ++ q) =
      match batch run js s ran q with
      | (s', ran', _, true) => some ⟨s', ran', [], true⟩
      | (s', ran', q', false) => fifo run m s' ran' q' := by
  intro js
  induction js with
  | nil => intro m s ran q; simp [batch]
  | cons j js ih =>
    intro m s ran q
    have hlen : m + (j :: js).length = (m + js.length) + 1 := by simp [Nat.add_assoc]
    rw [hlen]
    simp only [List.cons_append, fifo, batch]
    rcases hr : run j s with ⟨s', new, ab⟩
    cases ab with
    | true => simp
    | false =>
      simp only []
      have := ih m s' (ran ++ [j]) (q ++ new)
      rw [← List.append_assoc] at this
      exact this

theorem fifo_batch_inv (run : Run σ J) : ∀ (js : List J) (m : Nat) (s : σ) (ran q : List J) (out : Out σ J),
    fifo run m s ran (js ++ q) = some out →
      match batch run js s ran q with
      | (s', ran', _, true) => out = ⟨s', ran', [], true⟩
      | (s', ran', q', false) => ∃ m', m = m' + js.length ∧ fifo run m' s' ran' q' = some out := by
  intro js
  induction js with
  | nil => intro m s ran q out h; simpa [batch] using h
  | cons j js ih =>
    intro m s ran q out h
    cases m with
    | zero => simp [fifo] at h
    | succ m =>
      simp only [List.cons_append, fifo] at h
      simp only [batch]
      rcases hr : run j s with ⟨s', new, ab⟩
      rw [hr] at h
      cases ab with
      | true => simp only [] at h ⊢; cases h; rfl
      | false =>
        simp only [] at h ⊢
        rw [List.append_assoc] at h
        have := ih m s' (ran ++ [j]) (q ++ new) out h
        revert this
        rcases batch run js s' (ran ++ [j]) (q ++ new) with ⟨s2, ran2, q2, ab2⟩
        cases ab2 with
        | true => simp
        | false =>
          intro ⟨m', h1, h2⟩
          exact ⟨m', by rw [h1, List.length_cons, Nat.add_assoc], h2⟩

theorem leave_imp_fifo (run : Run σ J) : ∀ (n : Nat) (s : σ) (ran q : List J) (out : Out σ J),
    leave run n s ran q = some out → ∃ m, fifo run m s ran q = some out := by
  intro n
  induction n with
  | zero =>
    intro s ran q out h
    refine ⟨0, ?_⟩
    simpa [leave, fifo] using h
  | succ n ih =>
    intro s ran q out h
    simp only [leave] at h
    by_cases hq : q.isEmpty = true
    · simp only [hq, if_true] at h
      refine ⟨0, ?_⟩
      simp [fifo, hq, h]
    · simp only [hq] at h
      have key := fun m => fifo_batch run q m s ran []
      simp only [List.append_nil] at key
      rcases hb : batch run q s ran [] with ⟨s', ran', q', ab⟩
      rw [hb] at h
      cases ab with
      | true =>
        simp only [] at h
        refine ⟨0 + q.length, ?_⟩
        rw [key 0, hb]; exact h
      | false =>
        simp only [] at h
        obtain ⟨m, hm⟩ := ih s' ran' q' out h
        refine ⟨m + q.length, ?_⟩
        rw [key m, hb]; exact hm

theorem fifo_imp_leave (run : Run σ J) : ∀ (m : Nat) (s : σ) (ran q : List J) (out : Out σ J),
    fifo run m s ran q = some out → ∃ n, leave run n s ran q = some out := by
  intro m
  induction m using Nat.strongRecOn with
  | _ m ih =>
    intro s ran q out h
    by_cases hq : q.isEmpty = true
    · refine ⟨0, ?_⟩
      have : q = [] := List.isEmpty_iff.mp hq
      subst this
      cases m <;> simpa [leave, fifo] using h
    · have hne : q ≠ [] := fun e => hq (by simp [e])
      have hlen : 0 < q.length := List.length_pos_iff.mpr hne
      have key := fifo_batch_inv run q m s ran [] out (by simpa using h)
      rcases hb : batch run q s ran [] with ⟨s', ran', q', ab⟩
      rw [hb] at key
      cases ab with
      | true =>
        simp only [] at key
        refine ⟨1, ?_⟩
        simp [leave, hq, hb, key]
      | false =>
        simp only [] at key
        obtain ⟨m', h1, h2⟩ := key
        obtain ⟨n, hn⟩ := ih m' (by omega) s' ran' q' out h2
        refine ⟨n + 1, ?_⟩
        simp [leave, hq, hb, hn]

end JobQueue

end GojaModel.C10
