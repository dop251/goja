/-
  C10, settling.  The token invariant `TInv`: per promise at most one live way to settle it (an unlatched pair of
  resolving functions, or a queued thenable job that will create one), none once it is settled.  Consequence: a settled
  promise is frozen under every op (`Frozen`, `frozen_step`).
-/
import GojaModel.C10.Lemmas

namespace GojaModel.C10

def Job.thenP? : Job → Option Nat
  | .thenable _ p _ _ => some p
  | .reaction _ _ _ _ => none

def thenJobs (k : K) : List Nat := k.jobs.filterMap Job.thenP?

def latchLive (p : Nat) (l : Nat × Bool) : Bool := l.1 == p && !l.2

def live (k : K) (p : Nat) : Nat := k.latches.countP (latchLive p) + (thenJobs k).count p

structure TInv (k : K) : Prop where
  wfL : ∀ l ∈ k.latches, l.1 < k.proms.length
  wfJ : ∀ p ∈ thenJobs k, p < k.proms.length
  tok : ∀ p, live k p ≤ 1
  settled : ∀ p, (k.getP p).state ≠ .pending → live k p = 0

theorem trigJobs_thenP (owner : Nat) (arg : Val) : ∀ (rs : List Reaction) (sid : Nat),
    (trigJobs sid owner rs arg).filterMap Job.thenP? = [] := by
  intro rs
  induction rs with
  | nil => intro sid; simp [trigJobs]
  | cons r rs ih => intro sid; simp only [trigJobs, List.filterMap_cons, Job.thenP?]; exact ih _

theorem thenJobs_settleP (k : K) (p : Nat) (isF : Bool) (v : Val) : thenJobs (settleP k p isF v) = thenJobs k := by
  simp [thenJobs, settleP, List.filterMap_append, trigJobs_thenP]

theorem trigger_frame (k : K) (owner : Nat) (rs : List Reaction) (arg : Val) :
    (trigger k owner rs arg).proms = k.proms ∧ (trigger k owner rs arg).latches = k.latches ∧
    thenJobs (trigger k owner rs arg) = thenJobs k ∧ (trigger k owner rs arg).tracker = k.tracker := by
  rw [trigger_eq]
  exact ⟨rfl, rfl, by simp [thenJobs, List.filterMap_append, trigJobs_thenP], rfl⟩

theorem rejectP_frame (k : K) (p : Nat) (v : Val) :
    (rejectP k p v).proms = k.proms.set p { k.getP p with result := v, fulR := [], rejR := [], state := .rejected } ∧
    (rejectP k p v).latches = k.latches ∧ thenJobs (rejectP k p v) = thenJobs k := by
  rw [rejectP_eq]; exact ⟨rfl, rfl, thenJobs_settleP k p false v⟩

theorem fulfillP_frame (k : K) (p : Nat) (v : Val) :
    (fulfillP k p v).proms = k.proms.set p { k.getP p with result := v, fulR := [], rejR := [], state := .fulfilled } ∧
    (fulfillP k p v).latches = k.latches ∧ thenJobs (fulfillP k p v) = thenJobs k := by
  rw [fulfillP_eq]; exact ⟨rfl, rfl, thenJobs_settleP k p true v⟩

theorem thenJobs_coreP (k : K) (p : Nat) (fr rr : Reaction) : thenJobs (coreP k p fr rr) = thenJobs k := by
  simp [thenJobs, coreP, List.filterMap_append, trigJobs_thenP]

theorem addReactionsCore_frame (k : K) (p : Nat) (fr rr : Reaction) :
    (addReactionsCore k p fr rr).latches = k.latches ∧ thenJobs (addReactionsCore k p fr rr) = thenJobs k ∧
    (addReactionsCore k p fr rr).proms.length = k.proms.length ∧
    ∀ q, ((addReactionsCore k p fr rr).getP q).state = (k.getP q).state := by
  refine ⟨by rw [addReactionsCore_eq]; rfl, by rw [addReactionsCore_eq]; exact thenJobs_coreP k p fr rr, ?_,
    fun q => (addReactionsCore_getP k p fr rr q).1⟩
  rw [addReactionsCore_eq]
  show (if _ then _ else _ : List PRec).length = _
  split <;> simp

theorem markHandled_frame (k : K) (p rid : Nat) :
    (markHandled k p rid).latches = k.latches ∧ thenJobs (markHandled k p rid) = thenJobs k ∧
    (markHandled k p rid).proms.length = k.proms.length ∧
    ∀ q, ((markHandled k p rid).getP q).state = (k.getP q).state :=
  ⟨rfl, rfl, by simp [markHandled, K.setP], fun q => (markHandled_getP k p rid q).1⟩

theorem thenJobs_attachP (k : K) (p : Nat) (cap : Option Cap) (f g : Option Fn) :
    thenJobs (attachP k p cap f g) = thenJobs k := by
  simp [thenJobs, attachP, List.filterMap_append, trigJobs_thenP]

theorem attachP_getP (k : K) (p : Nat) (cap : Option Cap) (f g : Option Fn) (q : Nat) :
    ((attachP k p cap f g).getP q).state = (k.getP q).state ∧
    ((attachP k p cap f g).getP q).result = (k.getP q).result := by
  rw [getP_of_proms_set k _ p q _ rfl]
  split
  · rename_i hh; rw [hh.1]; split <;> exact ⟨rfl, rfl⟩
  · exact ⟨rfl, rfl⟩

theorem latch_count_set {k : K} {l p : Nat} (hl : k.latches[l]? = some (p, false)) (q : Nat) :
    (k.latches.set l (p, true)).countP (latchLive q) + (if q = p then 1 else 0) = k.latches.countP (latchLive q) := by
  have := countP_set (latchLive q) k.latches l (p, false) (p, true) hl
  by_cases h : q = p
  · subst h; simp [latchLive] at this ⊢; omega
  · have h' : ¬ (p = q) := fun e => h e.symm
    simp [latchLive, h, h'] at this ⊢; omega

/-- `TInv` carries over when no promise gains a live way to be settled and a promise that is settled now was settled
before or has no live way left; every state change but `newCap` is an instance. -/
theorem tinv_of_le {k k' : K} (h : TInv k) (hL : ∀ l ∈ k'.latches, l.1 < k'.proms.length)
    (hJ : ∀ p ∈ thenJobs k', p < k'.proms.length) (hle : ∀ q, live k' q ≤ live k q)
    (hst : ∀ q, (k'.getP q).state ≠ .pending → (k.getP q).state ≠ .pending ∨ live k' q = 0) : TInv k' := by
  refine ⟨hL, hJ, fun q => Nat.le_trans (hle q) (h.tok q), fun q hq => ?_⟩
  rcases hst q hq with hq' | h0
  · have := h.settled q hq'; have := hle q; omega
  · exact h0

theorem wfL_set {k : K} (h : TInv k) {l p : Nat} (hl : k.latches[l]? = some (p, false)) :
    ∀ x ∈ k.latches.set l (p, true), x.1 < k.proms.length := by
  intro x hx
  rcases List.mem_or_eq_of_mem_set hx with hx | hx
  · exact h.wfL x hx
  · subst hx; exact h.wfL (p, false) (List.mem_of_getElem? hl)

theorem tinv_consume_settle {k k' : K} (h : TInv k) {l p : Nat} (hl : k.latches[l]? = some (p, false))
    (hlat : k'.latches = k.latches.set l (p, true)) (hjobs : thenJobs k' = thenJobs k)
    (hlen : k'.proms.length = k.proms.length)
    (hst : ∀ q, q ≠ p → (k'.getP q).state = (k.getP q).state) : TInv k' := by
  have hlive : ∀ q, live k' q + (if q = p then 1 else 0) = live k q := by
    intro q; unfold live; rw [hlat, hjobs]; have := latch_count_set hl q; omega
  refine tinv_of_le h (by rw [hlat, hlen]; exact wfL_set h hl) (by rw [hjobs, hlen]; exact h.wfJ)
    (fun q => by have := hlive q; omega) (fun q hq => ?_)
  by_cases e : q = p
  · -- the one live way `p` had is the pair just consumed
    subst e
    have h1 := hlive q
    have := h.tok q
    rw [if_pos rfl] at h1
    exact Or.inr (by omega)
  · exact Or.inl (hst q e ▸ hq)

theorem tinv_consume_thenable {k k' : K} (h : TInv k) {l p : Nat} (hl : k.latches[l]? = some (p, false))
    (hlat : k'.latches = k.latches.set l (p, true)) (hjobs : thenJobs k' = thenJobs k ++ [p])
    (hlen : k'.proms.length = k.proms.length)
    (hst : ∀ q, (k'.getP q).state = (k.getP q).state) : TInv k' := by
  have hlive : ∀ q, live k' q = live k q := by
    intro q; unfold live; rw [hlat, hjobs, List.count_append]; have := latch_count_set hl q
    by_cases e : q = p
    · subst e; simp at *; omega
    · have e' : ¬ (p = q) := fun x => e x.symm
      simp [e, e'] at *; omega
  refine tinv_of_le h (by rw [hlat, hlen]; exact wfL_set h hl) ?_ (fun q => Nat.le_of_eq (hlive q))
    (fun q hq => Or.inl (hst q ▸ hq))
  intro q hq
  rw [hjobs, List.mem_append, List.mem_singleton] at hq
  rw [hlen]
  rcases hq with hq | hq
  · exact h.wfJ q hq
  · subst hq; exact h.wfL _ (List.mem_of_getElem? hl)

theorem tinv_start_thenable {k k' : K} (h : TInv k) {p : Nat} (hjobs : thenJobs k = p :: thenJobs k')
    (hlat : k'.latches = k.latches ++ [(p, false)]) (hpr : k'.proms = k.proms) : TInv k' := by
  have hlive : ∀ q, live k' q = live k q := by
    intro q
    unfold live
    rw [hjobs, hlat]
    simp only [List.countP_append, List.countP_cons, List.countP_nil, latchLive, List.count_cons]
    by_cases e : p = q
    · subst e; simp; omega
    · simp [e]
  refine tinv_of_le h ?_ (fun q hq => ?_) (fun q => Nat.le_of_eq (hlive q))
    (fun q hq => Or.inl (getP_of_proms_eq hpr q ▸ hq))
  · intro l hl
    rw [hlat, List.mem_append, List.mem_singleton] at hl
    rw [hpr]
    rcases hl with hl | hl
    · exact h.wfL l hl
    · subst hl; exact h.wfJ p (by rw [hjobs]; simp)
  · rw [hpr]
    exact h.wfJ q (by rw [hjobs]; exact List.mem_cons_of_mem _ hq)

theorem tinv_congr {k k' : K} (h : TInv k) (hlat : k'.latches = k.latches) (hjobs : thenJobs k' = thenJobs k)
    (hlen : k'.proms.length = k.proms.length)
    (hst : ∀ q, (k'.getP q).state = (k.getP q).state) : TInv k' :=
  tinv_of_le h (by rw [hlat, hlen]; exact h.wfL) (by rw [hjobs, hlen]; exact h.wfJ)
    (fun q => by unfold live; rw [hlat, hjobs]; exact Nat.le_refl _) (fun q hq => Or.inl (hst q ▸ hq))

theorem pending_of_unlatched {k : K} (h : TInv k) {l p : Nat} (hl : k.latches[l]? = some (p, false)) :
    (k.getP p).state = .pending ∧ p < k.proms.length := by
  have hcount := latch_count_set hl p
  refine ⟨?_, h.wfL _ (List.mem_of_getElem? hl)⟩
  false_or_by_contra
  rename_i hne
  have := h.settled p hne
  unfold live at this
  simp at hcount
  omega

theorem state_of_proms_set_same (k k' : K) (p : Nat) (r : PRec) (h : k'.proms = k.proms.set p r)
    (hs : r.state = (k.getP p).state) (q : Nat) : (k'.getP q).state = (k.getP q).state := by
  rw [getP_of_proms_set k k' p q r h]
  split
  · rename_i hh; rw [hh.1]; exact hs
  · rfl

theorem tinv_newCap {k : K} (h : TInv k) : TInv (newCap k) := by
  have hzero : k.latches.countP (latchLive k.proms.length) = 0 := by
    rw [List.countP_eq_zero]
    intro l hl
    have := h.wfL l hl
    simp [latchLive]; omega
  have hzero2 : (thenJobs k).count k.proms.length = 0 := by
    rw [List.count_eq_zero]
    intro hm
    have := h.wfJ _ hm
    omega
  have hlive : ∀ q, live (newCap k) q = live k q + (if q = k.proms.length then 1 else 0) := by
    intro q
    unfold live newCap createResolvingFunctions newPromise thenJobs
    simp only [List.countP_append, List.countP_cons, List.countP_nil, latchLive]
    by_cases e : q = k.proms.length
    · simp [e]; omega
    · have e' : ¬ (k.proms.length = q) := fun x => e x.symm
      simp [e, e']
  have hlen : (newCap k).proms.length = k.proms.length + 1 := by
    simp [newCap, createResolvingFunctions, newPromise]
  constructor
  · intro l hl
    rw [hlen]
    simp only [newCap, createResolvingFunctions, newPromise, List.mem_append, List.mem_singleton] at hl
    rcases hl with hl | hl
    · have := h.wfL l hl; omega
    · subst hl; simp
  · intro q hq
    have := h.wfJ q hq
    omega
  · intro q
    rw [hlive]
    by_cases e : q = k.proms.length
    · subst e; unfold live; simp [hzero, hzero2]
    · simp [e]; exact h.tok q
  · intro q hq
    rw [getP_newCap] at hq
    split at hq
    · rename_i e
      rw [hlive]
      have : q ≠ k.proms.length := by omega
      simp [this]; exact h.settled q hq
    · exact absurd rfl hq

theorem tinv_step {k k' : K} (h : TInv k) (s : Step k k') : TInv k' := by
  cases s with
  | body hb =>
    cases hb with
    | newCap => exact tinv_newCap h
    | settle l p isF v hl =>
      refine tinv_consume_settle h hl rfl (thenJobs_settleP _ p isF v) (by simp [settleP]) ?_
      intro q hq
      rw [getP_of_proms_set k _ p q _ rfl]
      simp [hq]
    | thenable l p v f hl =>
      refine tinv_consume_thenable h hl rfl ?_ rfl (fun q => rfl)
      simp [thenJobs, enqueue, List.filterMap_append, Job.thenP?]
    | attach p cap f g hp hf hg =>
      exact tinv_congr h rfl (thenJobs_attachP k p cap f g) (by simp [attachP])
        (fun q => (attachP_getP k p cap f g q).1)
    | await ar p hrun har hp =>
      exact tinv_congr h rfl (thenJobs_attachP k p _ _ _) (by simp [attachP])
        (fun q => (attachP_getP k p _ _ _ q).1)
    | _ => exact tinv_congr h rfl rfl rfl (fun q => rfl)
  | pop j rest hj =>
    cases j with
    | reaction sid owner r arg =>
      exact tinv_congr h (by simp [Job.newLatch]) (by unfold thenJobs; rw [hj]; rfl) rfl (fun q => rfl)
    | thenable sid p tv tf =>
      exact tinv_start_thenable h (by unfold thenJobs; rw [hj]; rfl) rfl rfl
  | leaveAbrupt =>
    refine tinv_of_le h h.wfL (fun q hq => ?_) (fun q => ?_) (fun q hq => Or.inl hq)
    · simp [thenJobs, leaveAbrupt] at hq
    · unfold live leaveAbrupt thenJobs; simp

theorem tinv_reach {k : K} (h : Reach k) : TInv k := by
  induction h with
  | init =>
    constructor
    · intro l hl; simp at hl
    · intro p hp; simp [thenJobs] at hp
    · intro p; simp [live, thenJobs]
    · intro p hp; simp [live, thenJobs]
  | step op _ ih => exact tinv_step ih (step_applyOp op _)

def Frozen (k k' : K) (p : Nat) : Prop :=
  (k'.getP p).state = (k.getP p).state ∧ (k'.getP p).result = (k.getP p).result

theorem frozen_addReactions (k : K) (q : Nat) (cap : Option Cap) (f g : Option Fn) (p : Nat) :
    Frozen k (addReactions k q cap f g) p := by
  by_cases hlt : q < k.proms.length
  · rw [addReactions_eq k q cap f g hlt]; exact attachP_getP k q cap f g p
  · rw [addReactions_outside k q cap f g hlt]; exact ⟨rfl, rfl⟩

theorem frozen_step {k k' : K} (h : TInv k) (s : Step k k') (p : Nat) (hp : (k.getP p).state ≠ .pending) :
    Frozen k k' p := by
  cases s with
  | body hb =>
    cases hb with
    | newCap => unfold Frozen; rw [getP_newCap_lt k p (lt_of_not_pending hp)]; exact ⟨rfl, rfl⟩
    | settle l q isF v hl =>
      have hne : p ≠ q := by intro e; subst e; exact hp (pending_of_unlatched h hl).1
      unfold Frozen
      rw [getP_of_proms_set k _ q p _ rfl]
      simp [hne]
    | attach q cap f g hq hf hg => exact attachP_getP k q cap f g p
    | await ar q hrun har hq => exact attachP_getP k q _ _ _ p
    | _ => exact ⟨rfl, rfl⟩
  | _ => exact ⟨rfl, rfl⟩

theorem frozen_applyOp {k : K} (h : TInv k) (op : KOp) (p : Nat) (hp : (k.getP p).state ≠ .pending) :
    Frozen k (applyOp op k) p :=
  frozen_step h (step_applyOp op k) p hp

end GojaModel.C10
