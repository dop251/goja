/-
  C15 — data-race freedom of the access table of vm.interrupted / vm.interruptVal.

  The table is DATA (regenerated from the Go source into Generated/C15_Facts.lean).  The discipline `tableOK`
  is decidable; `Props.intr_drf_partial` shows, in a happens-before model of executions (program order, mutex
  release → later acquire; two atomic operations never race), that a table satisfying it admits no data race:
  two accesses to the same cell by different goroutines are both atomic or are ordered by  po ; unlock→lock ; po.
-/
namespace GojaModel.C15.Drf

inductive Cell where
  | flag      -- vm.interrupted
  | val       -- vm.interruptVal
  deriving DecidableEq, Repr

/-- One syntactic access in the source. -/
structure Access where
  fn : String
  cell : Cell
  write : Bool
  atomic : Bool     -- argument of a sync/atomic operation
  locked : Bool     -- between interruptLock.Lock() and .Unlock() in the same function
  deriving DecidableEq, Repr

def cellOK (t : List Access) (c : Cell) : Bool :=
  t.all (fun a => a.cell != c || a.atomic) || t.all (fun a => a.cell != c || a.locked)

def tableOK (t : List Access) : Bool := cellOK t .flag && cellOK t .val

inductive Op where
  | acq
  | rel
  | acc (cell : Cell) (write atomic : Bool)
  deriving DecidableEq, Repr

structure Ev where
  tid : Nat
  op : Op
  deriving DecidableEq, Repr

/-- Mutex semantics: `none` = the step is impossible. -/
def holderStep (h : Option Nat) (e : Ev) : Option (Option Nat) :=
  match e.op with
  | .acq => if h = none then some (some e.tid) else none
  | .rel => if h = some e.tid then some none else none
  | .acc _ _ _ => some h

def runHolder : Option Nat → List Ev → Option (Option Nat)
  | h, [] => some h
  | h, e :: es => match holderStep h e with
    | some h' => runHolder h' es
    | none => none

theorem runHolder_append (h : Option Nat) (a b : List Ev) :
    runHolder h (a ++ b) = (runHolder h a).bind (fun h' => runHolder h' b) := by
  induction a generalizing h with
  | nil => simp [runHolder]
  | cons e es ih =>
    simp only [List.cons_append, runHolder]
    cases holderStep h e with
    | none => simp
    | some h' => simpa using ih h'

theorem acquired_in (seg : List Ev) : ∀ (h : Option Nat) (b : Nat), runHolder h seg = some (some b) →
    h = some b ∨ ∃ m1 m2, seg = m1 ++ ⟨b, .acq⟩ :: m2 := by
  induction seg with
  | nil => intro h b hr; simp [runHolder] at hr; exact Or.inl hr
  | cons e es ih =>
    intro h b hr
    simp only [runHolder] at hr
    cases hs : holderStep h e with
    | none => simp [hs] at hr
    | some h' =>
      simp only [hs] at hr
      rcases ih h' b hr with h1 | ⟨m1, m2, h2⟩
      · obtain ⟨tid, op⟩ := e
        cases op with
        | acq =>
          simp only [holderStep] at hs
          split at hs
          · simp at hs; subst hs; simp at h1; subst h1
            exact Or.inr ⟨[], es, rfl⟩
          · simp at hs
        | rel =>
          simp only [holderStep] at hs
          split at hs
          · simp at hs; subst hs; simp at h1
          · simp at hs
        | acc c w a => simp [holderStep] at hs; subst hs; exact Or.inl h1
      · exact Or.inr ⟨e :: m1, m2, by simp [h2]⟩

theorem released_then_acquired (mid : List Ev) (a b : Nat) (hne : a ≠ b)
    (hr : runHolder (some a) mid = some (some b)) :
    ∃ m1 m2 m3, mid = m1 ++ ⟨a, .rel⟩ :: (m2 ++ ⟨b, .acq⟩ :: m3) := by
  induction mid with
  | nil => simp [runHolder] at hr; exact absurd hr hne
  | cons e es ih =>
    simp only [runHolder] at hr
    obtain ⟨tid, op⟩ := e
    cases op with
    | acq => simp [holderStep] at hr
    | rel =>
      simp only [holderStep] at hr
      split at hr
      · rename_i h0
        simp at h0; obtain ⟨h01, h02⟩ := h0; subst h01; subst h02
        rcases acquired_in es none b hr with h1 | ⟨m2, m3, h2⟩
        · simp at h1
        · exact ⟨[], m2, m3, by simp [h2]⟩
      · simp at hr
    | acc c w at_ =>
      simp only [holderStep] at hr
      obtain ⟨m1, m2, m3, h⟩ := ih hr
      exact ⟨⟨tid, .acc c w at_⟩ :: m1, m2, m3, by simp [h]⟩

/-- An access event at the position after `pre` is an instance of a row of the table. -/
def Conforms (t : List Access) (pre : List Ev) (e : Ev) : Prop :=
  ∃ a ∈ t, e.op = .acc a.cell a.write a.atomic ∧ (a.locked = true → runHolder none pre = some (some e.tid))

theorem cellOK_cases {t : List Access} {c : Cell} (h : cellOK t c = true) :
    (∀ a ∈ t, a.cell = c → a.atomic = true) ∨ (∀ a ∈ t, a.cell = c → a.locked = true) := by
  simp only [cellOK, Bool.or_eq_true, List.all_eq_true] at h
  rcases h with h | h
  · left; intro a ha hc; have := h a ha; simp [hc] at this; exact this
  · right; intro a ha hc; have := h a ha; simp [hc] at this; exact this

end GojaModel.C15.Drf
