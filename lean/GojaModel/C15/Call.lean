/-
  C15 — one outermost API call: what stack balance, interrupt invariant, async-runner discipline and simulation
  together say of its result (`Returned`), for each of the ways the call can end.
-/
import GojaModel.C15.Balance
import GojaModel.C15.Invariant
import GojaModel.C15.Sim

namespace GojaModel.C15
open GojaModel.C15.Conc

def Returned (s0 : S) (c : Cfg) (r : Outcome × St) : Prop :=
  r.2.cs = 0 ∧ r.2.ts = [] ∧ r.2.car = false ∧ At s0 r.2 .idle ∧
    ∀ v, r.1 = .intr v → v = c.v ∧ r.2.log = r.2.frozen ∧ r.2.flag = false ∧ r.2.queue = []

theorem returned_recover {s0 : S} {c : Cfg} {w : Nat} {st : St} (hcs : st.cs = 0) (hts : st.ts = []) (hcar : st.car = false)
    (hg : Good c (.intr w, st)) (hd : Dead s0 st w) : Returned s0 c (apiRecover w st) := by
  have f := hg.2 w rfl
  have i := hg.1 f.1
  simp only [apiRecover, hcs, if_true]
  refine ⟨hcs, hts, hcar, dead_return hd rfl rfl rfl, fun v hv => ?_⟩
  cases hv
  exact ⟨by rw [← f.2]; exact i.2, i.1, rfl, rfl⟩

theorem returned_exit {s0 : S} {c : Cfg} {o : Outcome} {st st' : St} (ho : o = .normal ∨ o = .thrown) (hcs : st'.cs = 0)
    (hts : st'.ts = []) (hcar : st'.car = false) (hl : Live s0 st) (htr : st'.tr = st.tr ++ [.rExit])
    (hf : st'.flag = st.flag) (hv : st'.val = st.val) : Returned s0 c (o, st') :=
  ⟨hcs, hts, hcar, live_exit hl htr hf hv, fun v hv => by rcases ho with rfl | rfl <;> cases hv⟩

theorem returned_leave {s0 : S} {c : Cfg} {o : Outcome} {st : St} {rj : Outcome × St} (ho : o = .normal ∨ o = .thrown)
    (hcs : st.cs = 0) (hts : st.ts = []) (hcar : st.car = false) (hj : BalStrong st rj) (hg : Good c rj)
    (hc : CarOk st rj) (hs : Sim s0 rj) (res : Outcome × St)
    (hres : res = match rj.1 with
      | .intr v => apiRecover v rj.2
      | .oof => rj
      | _ => (o, emit [.rExit] rj.2))
    (hne : res.1 ≠ .oof) : Returned s0 c res := by
  subst hres
  obtain ⟨oj, stj⟩ := rj
  have hcarj : stj.car = false := hc.elim (fun h => h.trans hcar) id
  cases oj with
  | oof => exact absurd rfl hne
  | intr w =>
    have e := hj (fun h => nomatch h)
    exact returned_recover (e.2.trans hcs) (e.1.trans hts) hcarj hg (hs.2 w rfl)
  | normal =>
    have e := hj (fun h => nomatch h)
    exact returned_exit ho (e.2.trans hcs) (e.1.trans hts) hcarj (hs.1 (Or.inl rfl)) rfl rfl rfl
  | thrown =>
    have e := hj (fun h => nomatch h)
    exact returned_exit ho (e.2.trans hcs) (e.1.trans hts) hcarj (hs.1 (Or.inr rfl)) rfl rfl rfl

end GojaModel.C15
