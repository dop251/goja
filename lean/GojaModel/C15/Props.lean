/-
  C15 — property theorems about model `Intr` (Conc = interleaving semantics, Model = sequential VM-control
  mechanism, Drf = happens-before model over the access table).  Every `theorem` here is one proof obligation.

  Deliberately partial (see design/C15.md):
    * `prompt…` bound the number of VM INSTRUCTIONS; a native call that runs long without re-entering the VM is
      outside the model;
    * `intr_drf_partial` is about an access table (instantiated with the regenerated one in Tie.lean), not about the Go binary;
  The lemmas `…_prefix_witness` are about former mechanisms (`unwindFrameOld`, `asyncResumeNoDefer`), not the current code.
-/
import GojaModel.C15.Balance
import GojaModel.C15.Invariant
import GojaModel.C15.Sim
import GojaModel.C15.Quiet
import GojaModel.C15.Call
import GojaModel.C15.Observe
import GojaModel.C15.Deliver
import GojaModel.C15.Commute
import GojaModel.C15.Race
import GojaModel.C15.Drf

namespace GojaModel.C15.Props
open GojaModel.C15 GojaModel.C15.Conc GojaModel.C15.Drf

/-- Once the store to `interrupted` is visible, and for as long as nobody clears it and the pending call has not
    returned, the runner completes at most ONE more instruction (the one that had already passed its poll) and
    starts none — over all interleavings with any number of interrupting goroutines, at any nesting depth. -/
theorem prompt_partial {s s' : S} {ls : List Label} (h : run s ls = some s') (hq : allQuiet ls = true)
    (hf : s.flag = true) :
    s'.flag = true ∧ s'.execs ≤ s.execs + 1 ∧ (s.rpc ≠ .exec → s'.execs = s.execs ∧ s'.rpc ≠ .exec) := by
  have a := run_quiet h hq hf
  have m := run_execs_mono h
  have hs : allowance s.rpc ≤ 1 := by unfold allowance; split <;> omega
  refine ⟨a.1, by omega, ?_⟩
  intro hne
  have h0 : allowance s.rpc = 0 := if_neg hne
  refine ⟨by omega, ?_⟩
  intro he
  have : allowance s'.rpc = 1 := if_pos he
  omega

/-- While the InterruptedError propagates (through any number of enclosing native frames, including Go functions
    that swallow the error and let the outer script continue) no further VM instruction is executed. -/
theorem prompt_nested_partial {s s' : S} {ls : List Label} {v : Nat} (h : run s ls = some s') (hq : allQuiet ls = true)
    (hf : s.flag = true) (hr : s.rpc = .raised v) : s'.execs = s.execs ∧ s'.rpc ≠ .exec :=
  (prompt_partial h hq hf).2.2 (by simp [hr])

/-- The value the runner reads under the lock is the argument of the latest Interrupt (in critical-section
    order), and there is one: the flag can only be seen set after a value was written. -/
theorem value_is_last_set {s : S} {ls : List Label} (h : run init ls = some s) (hr : s.rpc = .haveLock) :
    step s .rRead = some { s with rpc := .gotVal s.val } ∧ s.hist ≠ [] ∧ s.hist.getLast? = some s.val := by
  have I := (run_raceInv h raceInv_init).val
  have hne := I.runnerNE (Or.inr hr)
  exact ⟨by simp [step, hr], hne, I.last hne⟩

/-- Interrupt while idle: the next call executes no instruction at all (whatever the interleaving) … -/
theorem idle_interrupt_next_call_fails_unless_cleared {s s' : S} {ls : List Label} (hi : s.rpc = .idle)
    (hf : s.flag = true) (h : run s (.rCall :: ls) = some s') (hq : allQuiet ls = true) :
    s'.execs = s.execs ∧ s'.rpc ≠ .exec := by
  have e : step s .rCall = some { s with rpc := .poll, depth := 0, inLeave := false, result := none } := if_pos hi
  rw [run_cons, e] at h
  exact (prompt_partial h hq hf).2.2 nofun

/-- … unless the flag was cleared: then the first poll lets the call start executing. -/
theorem idle_cleared_call_proceeds {s : S} (hi : s.rpc = .idle) (hf : s.flag = false) :
    ∃ s', run s [.rCall, .rPoll] = some s' ∧ s'.rpc = .exec := by
  simp [run, step, hi, hf]

/-- The outermost recover (leaveAbrupt): idle, queue dropped, flag cleared, error value delivered. -/
theorem after_interrupt_idle_and_queue_empty {s s' : S} (h : step s .rReturn = some s') :
    s'.rpc = .idle ∧ s'.queue = 0 ∧ s'.flag = false ∧ s'.depth = 0 ∧ ∃ v, s.rpc = .raised v ∧ s'.result = some v := by
  simp only [step] at h
  split at h
  · rename_i v hv
    split at h <;> simp at h
    subst h; rename_i hd
    exact ⟨rfl, rfl, rfl, hd, v, hv, rfl⟩
  · simp at h

/-- interruptLock is exclusive: at most one Interrupt call is inside its critical section, and none while the runner
    holds the lock to read the value. -/
theorem interrupt_lock_is_exclusive {s : S} {ls : List Label} (h : run init ls = some s) :
    (∀ t t', s.ipc t ≠ .idle → s.ipc t' ≠ .idle → t = t') ∧
    ((s.rpc = .haveLock ∨ ∃ v, s.rpc = .gotVal v) → ∀ t, s.ipc t = .idle) := by
  have M := (run_raceInv h raceInv_init).mutex
  exact ⟨fun t t' a b => M.unique a b, M.runner_excludes⟩

/-- ClearInterrupt (an unlocked atomic store of 0) racing with any number of Interrupt calls: in EVERY reachable state
    the runtime is either clean (flag clear) or interrupted with a value, and that value is the LAST one written — a set
    flag without a value, or with an older value than the latest write, is impossible. -/
theorem flag_never_without_last_value {s : S} {ls : List Label} (h : run init ls = some s) :
    s.flag = false ∨ (s.flag = true ∧ s.hist ≠ [] ∧ s.hist.getLast? = some s.val) := by
  have I := (run_raceInv h raceInv_init).val
  cases hf : s.flag with
  | false => exact Or.inl rfl
  | true => exact Or.inr ⟨rfl, I.flagNE hf, I.last (I.flagNE hf)⟩

/-- The flag cell is sequentially consistent: in every reachable state its value is the LAST write to it in interleaving
    order — 1 by an Interrupt's store, 0 by ClearInterrupt or by the outermost recover (leaveAbrupt).  Together with
    `flag_never_without_last_value` this decides every Interrupt/ClearInterrupt race: the execution ends clean iff the last
    such write is a clearing one, and otherwise interrupted with the last written value. -/
theorem flag_is_the_last_write {s : S} {ls : List Label} (h : run init ls = some s) :
    s.flag = (lastFlagWrite ls).getD false ∧
    (lastFlagWrite ls = some true → s.hist ≠ [] ∧ s.hist.getLast? = some s.val) := by
  have f : s.flag = (lastFlagWrite ls).getD false := run_flag h
  refine ⟨f, ?_⟩
  intro hl
  have ht : s.flag = true := by rw [f, hl]; rfl
  have I := (run_raceInv h raceInv_init).val
  exact ⟨I.flagNE ht, I.last (I.flagNE ht)⟩

/-- NORMAL FORM for several interrupting goroutines.  Cut any execution at the moment the runner has the lock: every
    Interrupt call that took the lock before has completed (written, stored, unlocked), the history is exactly the list of
    their arguments in lock order, and the runner reads the argument of the LAST of them. -/
theorem reported_value_is_last_interrupt_in_lock_order {s : S} {pre : List Label} (h : run init pre = some s)
    (hr : s.rpc = .haveLock) :
    (∀ t, s.ipc t = .idle) ∧ s.hist = lockArgs pre ∧
    step s .rRead = some { s with rpc := .gotVal s.val } ∧ (lockArgs pre).getLast? = some s.val := by
  have M := (run_raceInv h raceInv_init).mutex
  -- the runner has the lock, so no call is between its lock and its write
  have hh : s.hist = lockArgs pre := by
    have e := run_rep h mutex_init
    rw [pending_free (Or.inr (M.m2 (Or.inl hr)))] at e
    simpa [init, pending] using e
  obtain ⟨read, _, last⟩ := value_is_last_set h hr
  exact ⟨M.runner_excludes (Or.inl hr), hh, read, by rw [← hh]; exact last⟩

/-- A value the runner is raising, or that an API call has returned in its InterruptedError, was passed to Interrupt by
    some goroutine in this execution — whatever ClearInterrupt calls raced with it. -/
theorem returned_value_was_passed_to_interrupt {s : S} {ls : List Label} (h : run init ls = some s) (v : Nat)
    (hv : s.rpc = .raised v ∨ s.rpc = .gotVal v ∨ s.result = some v) : ∃ t, Label.iLock t v ∈ ls := by
  have P := (run_raceInv h raceInv_init).prov
  have hm : v ∈ s.hist := by
    rcases hv with a | a | a
    · exact P.got v (Or.inr a)
    · exact P.got v (Or.inl a)
    · exact P.res v a
  exact (run_hist_sub h mutex_init hm).resolve_left List.not_mem_nil

/-- handleThrow with an uncatchable payload (ex == nil) never transfers control to a catch or finally block,
    whatever the try stack. -/
theorem no_catch_no_finally_after_interrupt (ts : List TF) (cs : Nat) :
    ∀ c ts' cs', handleThrow true ts cs ≠ .resumed c ts' cs' := by
  intro c ts' cs' h
  obtain ⟨a, b, hp⟩ := handleThrow_none_propagates ts cs
  rw [hp] at h; cases h

/-- and, independently, any block (a catch block, a finally block, an iterator's return method, the rest of a
    loop) entered once the flag is visible leaves every observable part of the state — event log, queue, stacks,
    count of executed statements — untouched (only the ghosts `polls` and `tr` advance). -/
theorem no_script_code_once_flag_visible (fuel : Nat) (c : Cfg) (b : List Stmt) (st : St) (h : st.flag = true) :
    SameObs st (execBlock fuel c b st).2 := by
  rcases execBlock_flag fuel c b st h with e | e
  · rw [e]; exact sameObs_raise_poll h
  · rw [e]; constructor <;> rfl

/-- A nested native frame entered while the flag is visible re-raises without executing a statement or logging. -/
theorem nested_frame_reraises (fuel : Nat) (c : Cfg) (g swI swT : Bool) (b : List Stmt) (st : St)
    (h : st.flag = true) :
    (execFrame fuel c g swI swT b st).2.log = st.log ∧ (execFrame fuel c g swI swT b st).2.flag = true ∧
    (execFrame fuel c g swI swT b st).2.execs = st.execs := by
  cases fuel with
  | zero => rw [execFrame]; exact ⟨rfl, h, rfl⟩
  | succ n =>
    have o := no_script_code_once_flag_visible n c b (enterFrame g st) (by cases g <;> exact h)
    obtain ⟨e1, e2, e3⟩ := frameExit_obs g swI swT st (execBlock n c b (enterFrame g st))
    rw [execFrame_succ, e1, e2, e3, o.log, o.flag, o.execs]
    cases g <;> exact ⟨rfl, h, rfl⟩

/-- A frame whose marker is popped in a `defer` (vm.try, runTry, __call, nested RunProgram, Callable) leaves try stack
    and call stack exactly as it found them — for EVERY body and every outcome (normal, JS exception, uncatchable
    error propagated or swallowed), whatever generator frames, handlers or nested frames the body went through. -/
theorem frame_restores_stacks (fuel : Nat) (c : Cfg) (swI swT : Bool) (b : List Stmt) (st : St)
    (h : (execFrame fuel c false swI swT b st).1 ≠ .oof) :
    (execFrame fuel c false swI swT b st).2.ts = st.ts ∧ (execFrame fuel c false swI swT b st).2.cs = st.cs :=
  (bal_all fuel).frameS c swI swT b st h

/-- A generator / async-function frame: when an uncatchable error leaves it, its marker frame
    and everything above are gone from the try stack; exactly the one context pushed by enter() is left for the
    enclosing frame's handleThrow to truncate. -/
theorem generator_frame_pops_marker (fuel : Nat) (c : Cfg) (swI swT : Bool) (b : List Stmt) (st : St) (v : Nat)
    (h : (execFrame fuel c true swI swT b st).1 = .intr v) :
    (execFrame fuel c true swI swT b st).2.ts = st.ts ∧ (execFrame fuel c true swI swT b st).2.cs = st.cs + 1 := by
  cases fuel with
  | zero => rw [execFrame] at h; cases h
  | succ n => rw [execFrame_succ] at h ⊢; exact frameExit_gen_intr ((bal_all n).block c b _) h

/-- Every statement is stack-balanced: normal and JS-exception outcomes restore both stacks; an uncatchable outcome
    leaves only script-level handler frames above the entry try stack (which the enclosing handleThrow skips) and
    never fewer contexts than at entry. -/
theorem statements_stack_balanced (fuel : Nat) (c : Cfg) (s : Stmt) (st : St) :
    (((exec fuel c s st).1 = .normal ∨ (exec fuel c s st).1 = .thrown) →
        (exec fuel c s st).2.ts = st.ts ∧ (exec fuel c s st).2.cs = st.cs) ∧
    (∀ v, (exec fuel c s st).1 = .intr v →
        ∃ hs, allHandlers hs ∧ (exec fuel c s st).2.ts = hs ++ st.ts ∧ st.cs ≤ (exec fuel c s st).2.cs) :=
  (bal_all fuel).exec c s st

/-- vm.curAsyncRunner: every statement leaves it as it found it, or nil (the reset in onFulfilled/onRejected is
    deferred, so it also runs when an uncatchable error leaves the continuation). -/
theorem statements_keep_asyncRunner (fuel : Nat) (c : Cfg) (s : Stmt) (st : St) :
    (exec fuel c s st).2.car = st.car ∨ (exec fuel c s st).2.car = false :=
  (carOk_all fuel).exec c s st

/-- Every statement's emitted trace extends an execution of the interleaving model to an execution of the interleaving
    model, with the shared cells in agreement and the runner where the outcome says (at a poll / raising v). -/
theorem statements_simulated (s0 : S) (fuel : Nat) (c : Cfg) (s : Stmt) (st : St) (h : Live s0 st) :
    Sim s0 (exec fuel c s st) :=
  (sim_all s0 fuel).exec c s st h

/-- What "the runtime is idle and nothing of an earlier run is left" means in the model: flag, queued jobs, call
    stack, try stack, and the async runner the VM points at (vm.go captureStack appends the frames of the awaiting
    async functions to EVERY later stack trace iff vm.curAsyncRunner != nil). -/
structure Idle (st : St) : Prop where
  flag : st.flag = false
  queue : st.queue = []
  cs : st.cs = 0
  ts : st.ts = []
  car : st.car = false

/-- Everything the four inductions (stack balance, interrupt invariant, async-runner discipline, simulation) say about
    ONE outermost API call, for every program, entry point (`jobs`), fuel, probe index, external delivery point and
    value.  `At s0 st .idle`: the trace emitted so far is an execution of the interleaving model `Conc` from `s0`
    that ends, in agreement on the shared cells, with the runner idle. -/
theorem apiCallJ_master (s0 : S) (jobs : Bool) (fuel : Nat) (c : Cfg) (prog : List Stmt) (st : St)
    (hcs : st.cs = 0) (hts : st.ts = []) (hI : Inv c st) (hcar : st.car = false) (hAt : At s0 st .idle)
    (hne : (apiCallJ jobs fuel c prog st).1 ≠ .oof) :
    (apiCallJ jobs fuel c prog st).2.cs = 0 ∧ (apiCallJ jobs fuel c prog st).2.ts = [] ∧
    (apiCallJ jobs fuel c prog st).2.car = false ∧ At s0 (apiCallJ jobs fuel c prog st).2 .idle ∧
    (∀ v, (apiCallJ jobs fuel c prog st).1 = .intr v →
      v = c.v ∧ (apiCallJ jobs fuel c prog st).2.log = (apiCallJ jobs fuel c prog st).2.frozen ∧
      (apiCallJ jobs fuel c prog st).2.flag = false ∧ (apiCallJ jobs fuel c prog st).2.queue = []) := by
  show Returned s0 c (apiCallJ jobs fuel c prog st)
  generalize hres : apiCallJ jobs fuel c prog st = res at hne ⊢
  simp only [apiCallJ] at hres
  have hb := (bal_all fuel).block c prog (emit [.rCall] { st with cs := st.cs + 1, ts := markerTF (st.cs + 1) :: st.ts })
  have hg := (good_all fuel).block c prog (emit [.rCall] { st with cs := st.cs + 1, ts := markerTF (st.cs + 1) :: st.ts })
    (hI.of_eq rfl rfl rfl rfl)
  have hc := (carOk_all fuel).block c prog (emit [.rCall] { st with cs := st.cs + 1, ts := markerTF (st.cs + 1) :: st.ts })
  have hs := (sim_all s0 fuel).block c prog (emit [.rCall] { st with cs := st.cs + 1, ts := markerTF (st.cs + 1) :: st.ts })
    (idle_call hAt rfl rfl rfl)
  generalize execBlock fuel c prog (emit [.rCall] { st with cs := st.cs + 1, ts := markerTF (st.cs + 1) :: st.ts }) = r
    at hb hg hc hs hres
  obtain ⟨o, st1⟩ := r
  have hcar1 : st1.car = false := hc.elim (fun h => h.trans hcar) id
  cases o
  case oof => subst hres; exact absurd rfl hne
  case intr w =>
    -- the recover finds the call's own marker; dropping the call's context leaves the call stack as it was: empty
    rw [hb.unwind (v := w) rfl rfl (Nat.le_refl _)] at hres
    subst hres
    exact returned_recover (by show st.cs + 1 - 1 = 0; rw [hcs]) hts hcar1 (hg.restack _ _ (fun _ h => h) rfl rfl rfl rfl)
      ((hs.2 w rfl).congr rfl rfl rfl)
  -- the normal way out (the program completed or threw a script exception): leave() drains the jobs
  all_goals
    have hl1 : Live s0 st1 := hs.1 (by first | exact Or.inl rfl | exact Or.inr rfl)
    simp only [hcs, true_and] at hres
    cases jobs with
    | false =>
      subst hres
      exact returned_exit (by first | exact Or.inl rfl | exact Or.inr rfl) rfl hts hcar1 hl1 rfl rfl rfl
    | true =>
      simp only [if_true] at hres
      exact returned_leave (st := { st1 with ts := st.ts, cs := 0 }) (by first | exact Or.inl rfl | exact Or.inr rfl) rfl hts
        hcar1 (runJobs_balStrong fuel c [] _) (runJobs_good fuel c [] _ (hg.1.of_eq rfl rfl rfl rfl)) (runJobs_carOk fuel c [] _)
        (runJobs_sim s0 fuel c [] _ (hl1.congr rfl rfl rfl)) _ hres.symm hne

/-- a fresh runtime: nothing emitted yet, the interleaving model in its initial state -/
theorem fresh_at_idle : At Conc.init ({} : St) .idle :=
  ⟨Conc.init, rfl, ⟨rfl, rfl, rfl, fun _ => rfl, rfl⟩, rfl⟩

/-- Any outermost call (RunProgram / Callable / Runtime.Try / Exception.Error() at depth 0) on an idle runtime, for EVERY
    program, probe index, external delivery point and value: if it returns an InterruptedError the runtime is `Idle`
    again — flag cleared, queue dropped, both VM stacks empty, and the VM points at no async runner (so later stack
    traces cannot show frames of the aborted run) — with no assumption about the frames the error passed through. -/
theorem after_interrupt_clean (s0 : S) (jobs : Bool) (fuel : Nat) (c : Cfg) (prog : List Stmt) (st : St) (v : Nat)
    (hcs : st.cs = 0) (hts : st.ts = []) (hI : Inv c st) (hcar : st.car = false) (hAt : At s0 st .idle)
    (h : (apiCallJ jobs fuel c prog st).1 = .intr v) : Idle (apiCallJ jobs fuel c prog st).2 := by
  have m := apiCallJ_master s0 jobs fuel c prog st hcs hts hI hcar hAt (by rw [h]; simp)
  have k := m.2.2.2.2 v h
  exact ⟨k.2.2.1, k.2.2.2, m.1, m.2.1, m.2.2.1⟩

/-- Whatever the outcome, the VM stacks are empty and the VM points at no async runner when the call has returned, and
    the runtime is again in a state the interleaving model calls idle: the next call may start from it. -/
theorem call_returns_to_reusable_state (s0 : S) (jobs : Bool) (fuel : Nat) (c : Cfg) (prog : List Stmt) (st : St)
    (hcs : st.cs = 0) (hts : st.ts = []) (hI : Inv c st) (hcar : st.car = false) (hAt : At s0 st .idle)
    (hne : (apiCallJ jobs fuel c prog st).1 ≠ .oof) :
    (apiCallJ jobs fuel c prog st).2.cs = 0 ∧ (apiCallJ jobs fuel c prog st).2.ts = [] ∧
    (apiCallJ jobs fuel c prog st).2.car = false ∧ At s0 (apiCallJ jobs fuel c prog st).2 .idle :=
  let m := apiCallJ_master s0 jobs fuel c prog st hcs hts hI hcar hAt hne
  ⟨m.1, m.2.1, m.2.2.1, m.2.2.2.1⟩

/-- For EVERY program, entry point, probe index k, external delivery point and value: if the call returns an
    InterruptedError, (1) it carries exactly the value passed to Interrupt, and (2) the event log at return is the event
    log at the instant Interrupt was called (ghost `frozen`): no catch block, finally block, iterator return(),
    generator body, promise job or any other script statement added an event afterwards. -/
theorem interrupted_call_value_and_log (s0 : S) (jobs : Bool) (fuel : Nat) (c : Cfg) (prog : List Stmt) (st : St)
    (v : Nat) (hcs : st.cs = 0) (hts : st.ts = []) (hI : Inv c st) (hcar : st.car = false) (hAt : At s0 st .idle)
    (h : (apiCallJ jobs fuel c prog st).1 = .intr v) :
    v = c.v ∧ (apiCallJ jobs fuel c prog st).2.log = (apiCallJ jobs fuel c prog st).2.frozen := by
  have k := (apiCallJ_master s0 jobs fuel c prog st hcs hts hI hcar hAt (by rw [h]; simp)).2.2.2.2 v h
  exact ⟨k.1, k.2.1⟩

/-- THE REFINEMENT.  The list of actions an outermost call emits (its polls, instructions, lock/read/unlock, control
    steps, and the four atomic actions of each Interrupt — by the runner itself inside probe(), or by another goroutine
    just before ANY chosen poll `c.ext`) is an execution of the interleaving model `Conc`; the execution
    ends with the runner idle and the shared cells (flag, value, lock, interrupters) as the interpreter says. -/
theorem interpreter_run_is_interleaved_execution (s0 : S) (jobs : Bool) (fuel : Nat) (c : Cfg) (prog : List Stmt)
    (st : St) (hcs : st.cs = 0) (hts : st.ts = []) (hI : Inv c st) (hcar : st.car = false) (hAt : At s0 st .idle)
    (hne : (apiCallJ jobs fuel c prog st).1 ≠ .oof) :
    ∃ s', run s0 (apiCallJ jobs fuel c prog st).2.tr = some s' ∧ s'.rpc = .idle ∧
      s'.flag = (apiCallJ jobs fuel c prog st).2.flag ∧ s'.val = (apiCallJ jobs fuel c prog st).2.val ∧
      s'.lock = none ∧ (∀ t, s'.ipc t = .idle) := by
  obtain ⟨s', h1, ⟨a, b, c', d, _⟩, h3⟩ := (apiCallJ_master s0 jobs fuel c prog st hcs hts hI hcar hAt hne).2.2.2.1
  exact ⟨s', h1, h3, a, b, c', d⟩

/-- the script part of a call emits an execution of `Conc`, all of whose actions are quiet -/
theorem script_trace_valid_and_quiet (s0 : S) (fuel : Nat) (c : Cfg) (prog : List Stmt) (st : St) (hL : Live s0 st)
    (hQ : TrQuiet st) (hne : (execBlock fuel c prog st).1 ≠ .oof) :
    (∃ s', run s0 (execBlock fuel c prog st).2.tr = some s') ∧ allQuiet (execBlock fuel c prog st).2.tr = true := by
  have hs := (sim_all s0 fuel).block c prog st hL
  refine ⟨?_, (trQuiet_all fuel).block c prog st hQ⟩
  cases ho : (execBlock fuel c prog st).1 with
  | oof => exact absurd ho hne
  | normal => obtain ⟨s', h, _⟩ := hs.1 (Or.inl ho); exact ⟨s', h⟩
  | thrown => obtain ⟨s', h, _⟩ := hs.1 (Or.inr ho); exact ⟨s', h⟩
  | intr v => obtain ⟨s', h, _⟩ := hs.2 v ho; exact ⟨s', h⟩

/-- Hence the promptness theorem of the interleaving model speaks about interpreter runs: cut the trace emitted by the
    script part of a call (`execBlock`, i.e. up to the outermost recover) at ANY point where the store to `interrupted`
    is visible; in the rest at most one more instruction is executed, and none if the runner was not between a poll and
    its instruction — for every program, every placement of the Interrupt (k-th probe, or any poll `ext`), no side
    condition on the rest of the trace. -/
theorem interpreter_trace_prompt (s0 : S) (fuel : Nat) (c : Cfg) (prog : List Stmt) (st : St) (hL : Live s0 st)
    (hQ : TrQuiet st) (pre post : List Label) (hsplit : (execBlock fuel c prog st).2.tr = pre ++ post)
    (hne : (execBlock fuel c prog st).1 ≠ .oof) (s : S) (hpre : run s0 pre = some s) (hf : s.flag = true) :
    ∃ s', run s post = some s' ∧ s'.execs ≤ s.execs + 1 ∧ (s.rpc ≠ .exec → s'.execs = s.execs ∧ s'.rpc ≠ .exec) := by
  obtain ⟨⟨s', hr⟩, hq⟩ := script_trace_valid_and_quiet s0 fuel c prog st hL hQ hne
  rw [hsplit, run_append, hpre] at hr
  have hr' : run s post = some s' := hr
  rw [hsplit, allQuiet_append, Bool.and_eq_true] at hq
  have p := prompt_partial hr' hq.2 hf
  exact ⟨s', hr', p.2.1, p.2.2⟩

/-- THE PROJECTION (interleaving model → interpreter interface).  In EVERY execution of the interleaving model that starts
    with the flag clear (any number of interrupting goroutines, their actions interleaved anywhere, no ClearInterrupt,
    call not yet returned) the runner's polls observe `false` exactly n times and `true` ever after, n = the number of
    polls taken before the first store to `interrupted`.  The runner depends on the other goroutines only through
    these observations (and the value read under the lock, `value_is_last_set`), so every interleaving is, to the runner,
    "Interrupt delivered at poll point n" — the executions the interpreter implements with `Cfg.ext = some n`. -/
theorem interleaved_executions_project {s s' : S} {ls : List Label} (h : run s ls = some s') (hq : allQuiet ls = true)
    (hf : s.flag = false) :
    obs s ls = List.replicate (pollCount (beforeStore ls)) false ++ List.replicate (pollCount (fromStore ls)) true :=
  obs_delivered_at h hq hf

/-- LABEL-LEVEL form of the projection, within a poll-free stretch: wherever the four atomic actions of an Interrupt(v) by
    goroutine t fall among runner actions that touch no shared cell, the execution has the same result (same final
    state, or equally impossible) as the canonical one in which all four are taken together immediately before the
    runner's next poll — the placement the interpreter emits for `Cfg.ext`. -/
theorem interrupt_placement_irrelevant (s : S) (t v : Nat) (b1 b2 b3 b4 rest : List Label)
    (h1 : ∀ b ∈ b1, runnerLocal b = true) (h2 : ∀ b ∈ b2, runnerLocal b = true)
    (h3 : ∀ b ∈ b3, runnerLocal b = true) (h4 : ∀ b ∈ b4, runnerLocal b = true) :
    run s (Label.iLock t v :: b1 ++ Label.iWrite t :: b2 ++ Label.iStore t :: b3 ++ Label.iUnlock t :: b4 ++ rest) =
    run s (b1 ++ b2 ++ b3 ++ b4 ++ [Label.iLock t v, Label.iWrite t, Label.iStore t, Label.iUnlock t] ++ rest) := by
  -- each of the four actions moves right past all the blocks after it (`move_right`), the last one first
  have s1 := move_right s (Label.iLock t v :: b1 ++ Label.iWrite t :: b2 ++ Label.iStore t :: b3) (Label.iUnlock t) b4 rest rfl h4
  have s2 := move_right s (Label.iLock t v :: b1 ++ Label.iWrite t :: b2) (Label.iStore t) (b3 ++ b4) (Label.iUnlock t :: rest) rfl
    (List.forall_mem_append.mpr ⟨h3, h4⟩)
  have s3 := move_right s (Label.iLock t v :: b1) (Label.iWrite t) (b2 ++ b3 ++ b4) (Label.iStore t :: Label.iUnlock t :: rest) rfl
    (List.forall_mem_append.mpr ⟨List.forall_mem_append.mpr ⟨h2, h3⟩, h4⟩)
  have s4 := move_right s [] (Label.iLock t v) (b1 ++ b2 ++ b3 ++ b4) (Label.iWrite t :: Label.iStore t :: Label.iUnlock t :: rest) rfl
    (List.forall_mem_append.mpr ⟨List.forall_mem_append.mpr ⟨List.forall_mem_append.mpr ⟨h1, h2⟩, h3⟩, h4⟩)
  simp only [List.append_assoc, List.cons_append, List.nil_append] at s1 s2 s3 s4 ⊢
  rw [s1, s2, s3, s4]

/-- … and across polls: taking the lock, writing the value and releasing the lock commute with the runner's poll (only
    the store to `interrupted` does not), so what decides the delivery point is the position of the store alone. -/
theorem non_store_actions_commute_with_poll (s : S) (a : Label) (ha : isI a = true) (hns : isStoreL a = false) :
    run s [a, .rPoll] = run s [.rPoll, a] :=
  comm_i_poll s a ha hns

/-- … and the interpreter's own runs are among them: what the polls of an interpreter run observe is `false` n times,
    then `true`, with n read off its emitted trace. -/
theorem interpreter_observations (s0 : S) (fuel : Nat) (c : Cfg) (prog : List Stmt) (st : St) (hL : Live s0 st)
    (hQ : TrQuiet st) (hne : (execBlock fuel c prog st).1 ≠ .oof) (hf : s0.flag = false) :
    obs s0 (execBlock fuel c prog st).2.tr =
      List.replicate (pollCount (beforeStore (execBlock fuel c prog st).2.tr)) false ++
      List.replicate (pollCount (fromStore (execBlock fuel c prog st).2.tr)) true := by
  obtain ⟨⟨s', hr⟩, hq⟩ := script_trace_valid_and_quiet s0 fuel c prog st hL hQ hne
  exact obs_delivered_at hr hq hf

/-- `Cfg.ext = some n` IS "delivered at poll point n" in the sense of the projection theorem: when another goroutine's
    Interrupt is placed before the interpreter's poll number n (no probe-interrupt), the polls of the emitted execution
    observe `false` exactly n times, then `true` — for every program. (`Dlv n 0 st`: so far the trace has as many polls as
    the poll counter says and no store; true of a fresh call, `fresh_call_dlv`.) -/
theorem ext_is_the_delivery_point (s0 : S) (fuel : Nat) (c : Cfg) (prog : List Stmt) (st : St) (n : Nat)
    (hk : c.k = 0) (he : c.ext = some n) (hD : Dlv n 0 st) (hL : Live s0 st) (hQ : TrQuiet st)
    (hne : (execBlock fuel c prog st).1 ≠ .oof) (hf0 : s0.flag = false)
    (hfl : (execBlock fuel c prog st).2.flag = true) :
    obs s0 (execBlock fuel c prog st).2.tr =
      List.replicate n false ++ List.replicate (pollCount (fromStore (execBlock fuel c prog st).2.tr)) true := by
  have o := interpreter_observations s0 fuel c prog st hL hQ hne hf0
  have d := (dlv_all n fuel).block c prog st hk he hD
  rw [(d.2.2 hfl).2] at o
  exact o

theorem fresh_call_dlv (n : Nat) : Dlv n 0 (emit [Label.rCall] ({} : St)) :=
  ⟨rfl, fun _ => rfl, fun h => by cases h⟩

theorem apiRecover_keeps (v : Nat) (st : St) :
    (apiRecover v st).1 = .intr v ∧ (apiRecover v st).2.log = st.log ∧ (apiRecover v st).2.frozen = st.frozen := by
  unfold apiRecover; split <;> simp [leaveAbrupt, emit]

/-- Interrupt while idle, sequential mechanism: the next call (any program) returns the pending value at its first
    poll, logs nothing, executes nothing, and returns with the flag cleared and the queue dropped. -/
theorem idle_interrupt_immediate (jobs : Bool) (fuel : Nat) (c : Cfg) (prog : List Stmt) (st : St)
    (hf : st.flag = true) (hcs : st.cs = 0) (hts : st.ts = []) :
    (apiCallJ jobs (fuel + 2) c prog st).1 = .intr st.val ∧ (apiCallJ jobs (fuel + 2) c prog st).2.log = st.log ∧
    (apiCallJ jobs (fuel + 2) c prog st).2.execs = st.execs ∧ (apiCallJ jobs (fuel + 2) c prog st).2.flag = false ∧
    (apiCallJ jobs (fuel + 2) c prog st).2.queue = [] := by
  have hf0 : (emit [Label.rCall] { st with cs := st.cs + 1, ts := markerTF (st.cs + 1) :: st.ts }).flag = true := hf
  -- the first poll raises; the recover finds the call's own marker directly on top, so it sees the call stack empty after
  -- dropping the call's context and runs leaveAbrupt
  have hu : unwindNone (markerTF (st.cs + 1) :: st.ts) (st.cs + 1) = (markerTF (st.cs + 1) :: st.ts, st.cs + 1) :=
    unwindNone_marker (hs := []) allHandlers_nil (Nat.le_refl _)
  simp only [apiCallJ, execBlock_flag_succ fuel c prog _ hf0, pollStep_flag hf0]
  simp only [raise, emit, hu, List.tail_cons, Nat.add_sub_cancel, apiRecover]
  rw [if_pos hcs]
  exact ⟨rfl, rfl, rfl, rfl, rfl⟩

section
attribute [local simp] apiCall apiCallJ execBlock exec execNative execFrame enterFrame doProbe unwindNone handleThrow
  frameAction skipFrame apiRecover leaveAbrupt runJobs markerTF tryPanicMarker truncCs Outcome.isAbort pollStep raise pass
  instr emit interruptLabels

/-- TEST on literals: the minimised failing input of the repaired defect e8f901b (interrupt inside a generator body, a
    job queued) ends clean in the model. -/
theorem generator_frame_clean_example :
    (apiCall 8 ⟨1, 7, none⟩ [Stmt.enqueue [Stmt.log 5], Stmt.native true false false 1 [Stmt.probe, Stmt.log 2]] {}).2.flag = false := by
  simp

/-- TEST on literals: an Interrupt by another goroutine delivered at the runner's 3rd poll (not at a probe). -/
theorem external_delivery_example :
    (apiCall 8 ⟨0, 7, some 2⟩ [Stmt.log 1, Stmt.log 2, Stmt.log 3] {}).1 = .intr 7 ∧
    (apiCall 8 ⟨0, 7, some 2⟩ [Stmt.log 1, Stmt.log 2, Stmt.log 3] {}).2.log = [Ev.n 1, Ev.n 2] := by
  constructor <;> simp

end

/-- REGRESSION lemma about the OLD mechanism (before e8f901b), not about the current code: a generator frame that
    does not pop its marker on the panic path leaves it on the try stack … -/
theorem leaky_frame_keeps_marker_prefix_witness (st : St) (hs rest : List TF) (c0 : Nat) (hh : allHandlers hs)
    (hts : st.ts = hs ++ markerTF c0 :: rest) :
    (unwindFrameOld true st).ts = markerTF c0 :: rest := by
  have e := handleThrow_none_handlers hs rest (markerTF c0) st.cs hh rfl
  simp [unwindFrameOld, unwindNone, hts, e]

/-- … and then the outermost recover (which unwinds to the FIRST marker and drops one context) does not see an empty
    call stack, so leaveAbrupt is skipped and the flag stays set: RunProgram(cs 1, marker 1) → generator frame
    (context, marker 2, extra frame: cs 3). -/
theorem after_interrupt_not_idle_prefix_witness :
    let inner : St := { flag := true, val := 7, cs := 3, ts := [markerTF 2, markerTF 1] }
    let afterGen := unwindFrameOld true inner
    let u := unwindNone afterGen.ts afterGen.cs
    (apiRecover 7 { afterGen with ts := u.1.tail, cs := u.2 - 1 }).2.flag = true := by
  simp [unwindFrameOld, unwindNone, handleThrow, frameAction, skipFrame, markerTF, tryPanicMarker, truncCs, apiRecover]

/-- REGRESSION lemma about a variant in which the reset of vm.curAsyncRunner is not deferred, not about the current code:
    when the continuation is left by an uncatchable error the VM keeps pointing at the async runner. -/
theorem async_runner_leak_prefix_witness (st : St) (v : Nat) (h : st.car = true) :
    (asyncResumeNoDefer (.intr v, st)).2.car = true ∧ (asyncResumeNoDefer (.normal, st)).2.car = false := by
  simp [asyncResumeNoDefer, h]

/-- For ANY access table satisfying the discipline `tableOK` and any lock-respecting execution whose accesses are
    instances of table rows: two accesses to the same cell by different goroutines are both atomic, or the earlier
    one happens-before the later one via  program order ; unlock → lock ; program order. -/
theorem intr_drf_partial (t : List Access) (ht : tableOK t = true) (pre mid : List Drf.Ev) (ei ej : Drf.Ev)
    (ci : Conforms t pre ei) (cj : Conforms t (pre ++ ei :: mid) ej)
    (cell : Cell) (wi ai wj aj : Bool) (hi : ei.op = .acc cell wi ai) (hj : ej.op = .acc cell wj aj)
    (hne : ei.tid ≠ ej.tid) :
    (ai = true ∧ aj = true) ∨
    ∃ m1 m2 m3, mid = m1 ++ ⟨ei.tid, .rel⟩ :: (m2 ++ ⟨ej.tid, .acq⟩ :: m3) := by
  obtain ⟨ri, hri, hopi, hli⟩ := ci
  obtain ⟨rj, hrj, hopj, hlj⟩ := cj
  rw [hi] at hopi; rw [hj] at hopj
  injection hopi with hci _ hai
  injection hopj with hcj _ haj
  have hc : cellOK t cell = true := by
    simp only [tableOK, Bool.and_eq_true] at ht
    cases cell
    · exact ht.1
    · exact ht.2
  rcases cellOK_cases hc with hall | hall
  · left
    exact ⟨by rw [hai]; exact hall ri hri hci.symm, by rw [haj]; exact hall rj hrj hcj.symm⟩
  · right
    have h1 := hli (hall ri hri hci.symm)
    have h2 := hlj (hall rj hrj hcj.symm)
    rw [runHolder_append] at h2
    simp only [h1, Option.bind_some, runHolder, holderStep, hi] at h2
    exact released_then_acquired mid ei.tid ej.tid hne h2

/-! ### hypotheses are satisfiable (tests on literals) -/

/-- an interleaving in which a 2nd goroutine interrupts a running script at depth 1 and the call returns the value -/
example : ∃ s, run init [.rCall, .rPoll, .rInstrEnter, .rPoll, .iLock 3 42, .iWrite 3, .iStore 3, .rInstr true,
    .iUnlock 3, .rPoll, .rLock, .rRead, .rUnlock, .rUnwind, .rReturn] = some s ∧ s.result = some 42 ∧ s.execs = 2 ∧
    s.queue = 0 ∧ s.flag = false := by
  refine ⟨_, rfl, ?_⟩
  decide

end GojaModel.C15.Props
