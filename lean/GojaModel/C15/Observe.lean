/-
  C15 — the runner's view of an interleaved execution.  The runner interacts with the interrupting goroutines only
  through what its polls of `interrupted` observe (and the value it then reads under the lock, theorem
  value_is_last_set).  This file proves the PROJECTION: in every execution of the interleaving model `Conc` that starts
  with the flag clear and contains no ClearInterrupt / outermost recover, the polls observe `false` exactly n times and
  `true` ever after, where n = number of polls taken before the first `iStore` — i.e. every interleaving, whatever the
  number of interrupting goroutines and wherever their actions fall, looks to the runner like "Interrupt delivered at
  poll point n", which is what the sequential interpreter implements for `Cfg.ext = some n`.
-/
import GojaModel.C15.Race

namespace GojaModel.C15.Conc

def obs : S → List Label → List Bool
  | _, [] => []
  | s, l :: ls =>
    match step s l with
    | some s' => (if l = .rPoll then [s.flag] else []) ++ obs s' ls
    | none => []

def isStore : Label → Bool
  | .iStore _ => true
  | _ => false

def pollCount : List Label → Nat
  | [] => 0
  | l :: ls => (if l = .rPoll then 1 else 0) + pollCount ls

def beforeStore : List Label → List Label
  | [] => []
  | l :: ls => if isStore l then [] else l :: beforeStore ls

def fromStore : List Label → List Label
  | [] => []
  | l :: ls => if isStore l then l :: ls else fromStore ls

theorem before_from (ls : List Label) : beforeStore ls ++ fromStore ls = ls := by
  induction ls with
  | nil => rfl
  | cons l ls ih => simp only [beforeStore, fromStore]; split <;> simp [ih]

theorem step_keeps_flag_clear {s s' : S} {l : Label} (h : step s l = some s') (hf : s.flag = false)
    (hl : isStore l = false) : s'.flag = false := by
  cases Step.of_step h with
  | iStore _ => cases hl
  | clear => rfl
  | rReturn _ _ => rfl
  | _ => exact hf

theorem obs_flag_set {ls : List Label} : ∀ {s s' : S}, run s ls = some s' → allQuiet ls = true → s.flag = true →
    obs s ls = List.replicate (pollCount ls) true := by
  induction ls with
  | nil => intro s s' _ _ _; rfl
  | cons l ls ih =>
    intro s s' h hq hf
    obtain ⟨s1, hs, h⟩ := run_cons_some h
    rw [allQuiet_cons, Bool.and_eq_true] at hq
    have a := step_quiet hs hq.1 hf
    have r := ih h hq.2 a.1
    simp only [obs, hs, pollCount, r]
    by_cases hp : l = .rPoll
    · simp only [hp, if_true, hf, Nat.add_comm 1, List.replicate_succ]; rfl
    · simp [hp]

theorem obs_delivered_at {ls : List Label} : ∀ {s s' : S}, run s ls = some s' → allQuiet ls = true → s.flag = false →
    obs s ls = List.replicate (pollCount (beforeStore ls)) false ++ List.replicate (pollCount (fromStore ls)) true := by
  induction ls with
  | nil => intro s s' _ _ _; rfl
  | cons l ls ih =>
    intro s s' h hq hf
    obtain ⟨s1, hs, h⟩ := run_cons_some h
    rw [allQuiet_cons, Bool.and_eq_true] at hq
    by_cases hst : isStore l = true
    · have hnp : l ≠ .rPoll := by intro e; subst e; simp [isStore] at hst
      have hf1 : s1.flag = true := by
        cases l <;> simp [isStore] at hst
        cases Step.of_step hs with
        | iStore _ => rfl
        | loc hb _ => cases hb
      have r := obs_flag_set h hq.2 hf1
      simp only [obs, hs, beforeStore, fromStore, hst, if_true, pollCount, hnp, if_false, r]
      simp
    · have hst' : isStore l = false := by simpa using hst
      have hf1 := step_keeps_flag_clear hs hf hst'
      have r := ih h hq.2 hf1
      simp only [obs, hs, beforeStore, fromStore, hst', r]
      by_cases hp : l = .rPoll
      · simp only [hp, if_true, hf, Bool.false_eq_true, if_false, pollCount, Nat.add_comm 1, List.replicate_succ]; rfl
      · simp [hp, pollCount]

end GojaModel.C15.Conc
