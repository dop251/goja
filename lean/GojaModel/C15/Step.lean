/-
  C15 — the interleaving model's `step`, taken apart once.  A state factors into SHARED CELLS (flag, value, lock,
  interrupter program counters, history) and RUNNER CONTROL (runner pc, depth, queue, counters, result); the runner's
  local actions (everything except its poll, its lock/read/unlock and the outermost recover) read and write the control
  part alone (`step_ctl`), and all an invariant needs to know of them is `Local` (`step_local`).  `Step` lists the
  ways `step` can succeed; the invariants of Race and Observe are proved by cases on it.  `step_flag`: which actions
  write the flag.  At the end: the general facts about `run` (`run_cons`, `run_cons_some`, `run_invariant`,
  `run_append`, `run_pair`) and `allQuiet`.
-/
import GojaModel.C15.Conc

namespace GojaModel.C15.Conc

structure Cells where
  flag : Bool
  val : Nat
  lock : Option Nat
  ipc : Nat → IPc
  hist : List Nat

structure Ctl where
  rpc : RPc
  depth : Nat
  inLeave : Bool
  queue : Nat
  execs : Nat
  result : Option Nat

def cells (s : S) : Cells := ⟨s.flag, s.val, s.lock, s.ipc, s.hist⟩
def ctl (s : S) : Ctl := ⟨s.rpc, s.depth, s.inLeave, s.queue, s.execs, s.result⟩
def mk (c : Cells) (k : Ctl) : S :=
  { flag := c.flag, val := c.val, lock := c.lock, ipc := c.ipc, hist := c.hist,
    rpc := k.rpc, depth := k.depth, inLeave := k.inLeave, queue := k.queue, execs := k.execs, result := k.result }

theorem mk_cells_ctl (s : S) : mk (cells s) (ctl s) = s := rfl
theorem cells_mk (c : Cells) (k : Ctl) : cells (mk c k) = c := rfl
theorem ctl_mk (c : Cells) (k : Ctl) : ctl (mk c k) = k := rfl

def runnerLocal : Label → Bool
  | .rCall => true
  | .rInstr _ => true
  | .rInstrEnter => true
  | .rHalt => true
  | .rReenter => true
  | .rNativeRet => true
  | .rJob => true
  | .rLeaveDone => true
  | .rUnwind => true
  | .rSwallow => true
  | .rCtl => true
  | .rExit => true
  | _ => false

/-- a runner-local action neither reads nor writes the cells: beside any cells `c` it does to the control what it does
    at `s` -/
theorem step_ctl (b : Label) (hb : runnerLocal b = true) (s : S) (c : Cells) :
    step (mk c (ctl s)) b = (step s b).map fun s' => mk c (ctl s') := by
  cases b <;> first | exact Bool.noConfusion hb | simp only [step]
  case rUnwind | rSwallow | rCtl =>
    rw [show (mk c (ctl s)).rpc = s.rpc from rfl]
    generalize s.rpc = p
    cases p <;> first | rfl | (simp only [apply_ite (Option.map _), Option.map_some, Option.map_none]; rfl)
  all_goals simp only [apply_ite (Option.map _), Option.map_some, Option.map_none]; rfl

/-- how many more instructions the runner may still complete at this pc: the one in flight, if any -/
def allowance (p : RPc) : Nat := if p = .exec then 1 else 0

structure Local (k k' : Ctl) : Prop where
  noLock : k'.rpc ≠ .wantLock ∧ k'.rpc ≠ .haveLock ∧ ∀ v, k'.rpc ≠ .gotVal v
  raised : ∀ v, k'.rpc = .raised v → k.rpc = .raised v
  result : ∀ v, k'.result = some v → k.result = some v
  mono : k.execs ≤ k'.execs
  allow : k'.execs + allowance k'.rpc ≤ k.execs + allowance k.rpc

/-- the pcs of a run loop or frame that hold neither the lock nor a value, other than `exec` -/
def RPc.calm : RPc → Bool
  | .poll | .leaving | .native | .idle => true
  | _ => false

theorem Local.calm {k k' : Ctl} (hp : k'.rpc.calm = true) (hr : ∀ v, k'.result = some v → k.result = some v)
    (he : k'.execs = k.execs) : Local k k' := by
  have no : ∀ p : RPc, p.calm = false → k'.rpc ≠ p := fun p hn e => by rw [e, hn] at hp; cases hp
  have a : allowance k'.rpc = 0 := if_neg (no _ rfl)
  exact ⟨⟨no _ rfl, no _ rfl, fun _ => no _ rfl⟩, fun _ e => absurd e (no _ rfl), hr, Nat.le_of_eq he.symm,
    by rw [a, he]; exact Nat.le_add_right _ _⟩

theorem step_local {s s' : S} {b : Label} (hb : runnerLocal b = true) (h : step s b = some s') :
    Local (ctl s) (ctl s') := by
  cases b <;> first | exact Bool.noConfusion hb |
    simp only [step, Option.ite_none_right_eq_some, Option.some.injEq] at h
  -- the call forgets the result
  case rCall => obtain ⟨_, rfl⟩ := h; exact .calm rfl nofun rfl
  -- the instruction in flight completes
  case rInstr | rInstrEnter =>
    obtain ⟨hp, rfl⟩ := h
    exact ⟨⟨nofun, nofun, nofun⟩, nofun, fun _ h => h, Nat.le_succ _,
      by rw [show (ctl s).rpc = s.rpc from rfl, hp]; exact Nat.le_refl _⟩
  -- the value stays raised
  case rUnwind =>
    split at h
    · rename_i v hp
      simp only [Option.ite_none_right_eq_some, Option.some.injEq] at h
      obtain ⟨_, rfl⟩ := h
      exact ⟨⟨nofun, nofun, nofun⟩, fun _ e => by cases e; exact hp, fun _ h => h, Nat.le_refl _,
        by rw [show (ctl s).rpc = s.rpc from rfl, hp]; exact Nat.le_refl _⟩
    · cases h
  -- all others end at a calm pc, with counters and result as they were
  case rSwallow =>
    split at h
    · simp only [Option.ite_none_right_eq_some, Option.some.injEq] at h
      obtain ⟨_, rfl⟩ := h
      exact .calm rfl (fun _ h => h) rfl
    · cases h
  case rHalt | rNativeRet =>
    obtain ⟨_, h⟩ := h
    split at h <;> cases h <;> exact .calm rfl (fun _ h => h) rfl
  case rCtl => split at h <;> cases h <;> exact .calm rfl (fun _ h => h) rfl
  all_goals obtain ⟨_, rfl⟩ := h; exact .calm rfl (fun _ h => h) rfl

theorem setI_ne (f : Nat → IPc) (t t' : Nat) (x : IPc) (h : t' ≠ t) : setI f t x t' = f t' := by simp [setI, h]
theorem setI_eq (f : Nat → IPc) (t : Nat) (x : IPc) : setI f t x t = x := by simp [setI]

inductive Step (s : S) : Label → S → Prop
  | iLock {t v} : s.ipc t = .idle → s.lock = none →
      Step s (.iLock t v) { s with lock := some (t + 1), ipc := setI s.ipc t (.locked v) }
  | iWrite {t v} : s.ipc t = .locked v →
      Step s (.iWrite t) { s with val := v, hist := s.hist ++ [v], ipc := setI s.ipc t (.wrote v) }
  | iStore {t v} : s.ipc t = .wrote v → Step s (.iStore t) { s with flag := true, ipc := setI s.ipc t .stored }
  | iUnlock {t} : s.ipc t = .stored → Step s (.iUnlock t) { s with lock := none, ipc := setI s.ipc t .idle }
  | clear : Step s .clear { s with flag := false }
  | rPoll : s.rpc = .poll → Step s .rPoll { s with rpc := if s.flag then .wantLock else .exec }
  | rLock : s.rpc = .wantLock → s.lock = none → Step s .rLock { s with rpc := .haveLock, lock := some 0 }
  | rRead : s.rpc = .haveLock → Step s .rRead { s with rpc := .gotVal s.val }
  | rUnlock {v} : s.rpc = .gotVal v → Step s .rUnlock { s with rpc := .raised v, lock := none }
  | rReturn {v} : s.rpc = .raised v → s.depth = 0 →
      Step s .rReturn { s with rpc := .idle, flag := false, queue := 0, inLeave := false, result := some v }
  | loc {b k'} : runnerLocal b = true → Local (ctl s) k' → Step s b (mk (cells s) k')

theorem Step.of_step {s s' : S} {l : Label} (h : step s l = some s') : Step s l s' := by
  by_cases hl : runnerLocal l = true
  · -- beside its own cells: `s' = mk (cells s) (ctl s')`
    have e := step_ctl l hl s (cells s)
    rw [mk_cells_ctl, h] at e
    rw [Option.some.inj e]
    exact .loc hl (step_local hl h)
  · cases l <;> first | exact absurd rfl hl | simp only [step, Option.ite_none_right_eq_some, Option.some.injEq] at h
    case iLock t v => obtain ⟨hc, rfl⟩ := h; exact .iLock hc.1 hc.2
    case iWrite t => split at h <;> cases h; rename_i hv; exact .iWrite hv
    case iStore t => split at h <;> cases h; rename_i hv; exact .iStore hv
    case iUnlock t => split at h <;> cases h; rename_i hv; exact .iUnlock hv
    case clear => cases h; exact .clear
    case rPoll => obtain ⟨hp, rfl⟩ := h; exact .rPoll hp
    case rLock => obtain ⟨hc, rfl⟩ := h; exact .rLock hc.1 hc.2
    case rRead => obtain ⟨hp, rfl⟩ := h; exact .rRead hp
    case rUnlock => split at h <;> cases h; rename_i hp; exact .rUnlock hp
    case rReturn =>
      split at h
      · split at h <;> cases h; rename_i hp hd; exact .rReturn hp hd
      · cases h

/-- what an action writes to `interrupted`, if anything: Interrupt's store 1; ClearInterrupt and leaveAbrupt 0 -/
def flagWrite : Label → Option Bool
  | .iStore _ => some true
  | .clear => some false
  | .rReturn => some false
  | _ => none

theorem flagWrite_local {b : Label} (hb : runnerLocal b = true) : flagWrite b = none := by
  cases b <;> first | rfl | cases hb

theorem step_flag {s s' : S} {l : Label} (h : step s l = some s') : s'.flag = (flagWrite l).getD s.flag := by
  cases Step.of_step h with
  | loc hb _ => rw [flagWrite_local hb]; rfl
  | _ => rfl

theorem run_cons (s : S) (l : Label) (ls : List Label) : run s (l :: ls) = (step s l).bind (fun s' => run s' ls) := by
  simp only [run]; cases step s l <;> rfl

theorem run_cons_some {s s' : S} {l : Label} {ls : List Label} (h : run s (l :: ls) = some s') :
    ∃ s1, step s l = some s1 ∧ run s1 ls = some s' := by
  rw [run_cons] at h
  cases hs : step s l with
  | none => rw [hs] at h; cases h
  | some s1 => rw [hs] at h; exact ⟨s1, rfl, h⟩

theorem run_invariant {I : S → Prop} (hstep : ∀ {s s' l}, step s l = some s' → I s → I s') {ls : List Label} :
    ∀ {s s' : S}, run s ls = some s' → I s → I s' := by
  induction ls with
  | nil => intro s s' h hI; cases h; exact hI
  | cons l ls ih =>
    intro s s' h hI
    obtain ⟨s1, h1, h⟩ := run_cons_some h
    exact ih h (hstep h1 hI)

theorem run_append (s : S) (a b : List Label) : run s (a ++ b) = (run s a).bind (fun s' => run s' b) := by
  induction a generalizing s with
  | nil => simp [run]
  | cons l ls ih =>
    simp only [List.cons_append, run]
    cases step s l with
    | none => simp
    | some s1 => simpa using ih s1

theorem run_pair (s : S) (a b : Label) (ls : List Label) :
    run s (a :: b :: ls) = (run s [a, b]).bind (fun s' => run s' ls) := by
  have := run_append s [a, b] ls
  simpa using this

def allQuiet (ls : List Label) : Bool := ls.all quiet

theorem allQuiet_cons (l : Label) (ls : List Label) : allQuiet (l :: ls) = (quiet l && allQuiet ls) := rfl

theorem allQuiet_append (a b : List Label) : allQuiet (a ++ b) = (allQuiet a && allQuiet b) := by
  simp [allQuiet, List.all_append]

end GojaModel.C15.Conc
