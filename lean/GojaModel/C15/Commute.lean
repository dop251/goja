/-
  C15 — commutation in the interleaving model.  With the factoring of Step.lean: the four actions of an Interrupt
  call read and write only the cells (`step_cells`), the runner's local actions only the control part (`step_ctl`), the
  poll the control part and the flag (`step_poll`).  Two actions with such footprints commute when the first leaves
  alone what the second reads of the cells (`comm_of_footprints`).  Hence an interrupter action can be moved right past
  any block of runner-local actions at any place of an execution: four such moves bring the four actions of an
  Interrupt, wherever they fall in a poll-free stretch, to the placement the sequential interpreter emits, all four
  together immediately before the next poll (`Props.interrupt_placement_irrelevant`); and all but the store commute with
  the poll too.
-/
import GojaModel.C15.Step

namespace GojaModel.C15.Conc

def isI : Label → Bool
  | .iLock _ _ => true
  | .iWrite _ => true
  | .iStore _ => true
  | .iUnlock _ => true
  | _ => false

/-- the four actions of an Interrupt call neither read nor write the runner's control -/
theorem step_cells (a : Label) (ha : isI a = true) (s : S) (k : Ctl) :
    step (mk (cells s) k) a = (step s a).map fun s' => mk (cells s') k := by
  cases a <;> first | exact Bool.noConfusion ha | simp only [step]
  case iLock t v => simp only [apply_ite (Option.map _), Option.map_some, Option.map_none]; rfl
  all_goals
    rw [show (mk (cells s) k).ipc = s.ipc from rfl]
    generalize s.ipc _ = p
    cases p <;> rfl

def isStoreL : Label → Bool
  | .iStore _ => true
  | _ => false

/-- `a` acts on the cells alone; `b` acts on the control alone and reads of the cells at most something (`C`) that
    `a` does not change -/
theorem comm_of_footprints {a b : Label} {s : S} (C : Cells → Prop)
    (ha : ∀ k, step (mk (cells s) k) a = (step s a).map fun s' => mk (cells s') k)
    (hb : ∀ c, C c → step (mk c (ctl s)) b = (step s b).map fun s' => mk c (ctl s'))
    (h0 : C (cells s)) (h1 : ∀ s1, step s a = some s1 → C (cells s1)) : run s [a, b] = run s [b, a] := by
  have two : ∀ (s : S) (x y : Label), run s [x, y] = (step s x).bind fun s1 => step s1 y := fun s x y => by
    rw [run_cons]; congr; funext s1; rw [run_cons]; cases step s1 y <;> rfl
  -- after `a` the control is as it was, so `b` does there what it does at `s`; and the other way round
  have A : ∀ s1, step s a = some s1 → step s1 b = (step s b).map fun s2 => mk (cells s1) (ctl s2) := fun s1 h => by
    have e := ha (ctl s); rw [mk_cells_ctl, h] at e
    exact (congrArg (step · b) (Option.some.inj e)).trans (hb _ (h1 s1 h))
  have B : ∀ s2, step s b = some s2 → step s2 a = (step s a).map fun s1 => mk (cells s1) (ctl s2) := fun s2 h => by
    have e := hb _ h0; rw [mk_cells_ctl, h] at e
    exact (congrArg (step · a) (Option.some.inj e)).trans (ha _)
  rw [two, two]
  cases ha' : step s a with
  | none =>
    cases hb' : step s b with
    | none => rfl
    | some s2 => rw [Option.bind_some, B s2 hb', ha']; rfl
  | some s1 =>
    rw [Option.bind_some, A s1 ha']
    cases hb' : step s b with
    | none => rfl
    | some s2 => rw [Option.bind_some, B s2 hb', ha']; rfl

theorem comm_i_r (s : S) (a b : Label) (ha : isI a = true) (hb : runnerLocal b = true) :
    run s [a, b] = run s [b, a] :=
  comm_of_footprints (fun _ => True) (step_cells a ha s) (fun c _ => step_ctl b hb s c) trivial (fun _ _ => trivial)

theorem bubble_right (a : Label) (ha : isI a = true) (bs : List Label) (hbs : ∀ b ∈ bs, runnerLocal b = true)
    (post : List Label) : ∀ s : S, run s (a :: bs ++ post) = run s (bs ++ a :: post) := by
  induction bs with
  | nil => intro s; rfl
  | cons b bs ih =>
    intro s
    have hb : runnerLocal b = true := hbs b (by simp)
    simp only [List.cons_append]
    rw [run_pair, comm_i_r s a b ha hb, ← run_pair, run_cons s b, run_cons s b]
    cases step s b with
    | none => rfl
    | some s1 => exact ih (fun x hx => hbs x (by simp [hx])) s1

theorem move_right (s : S) (pre : List Label) (a : Label) (bs post : List Label) (ha : isI a = true)
    (hbs : ∀ b ∈ bs, runnerLocal b = true) : run s (pre ++ a :: bs ++ post) = run s (pre ++ bs ++ a :: post) := by
  rw [List.append_assoc, List.append_assoc, run_append, run_append s pre]
  cases run s pre with
  | none => rfl
  | some s1 => exact bubble_right a ha bs hbs post s1

/-- the poll acts on the control alone and reads the flag -/
theorem step_poll (s : S) (c : Cells) (hc : c.flag = s.flag) :
    step (mk c (ctl s)) .rPoll = (step s .rPoll).map fun s' => mk c (ctl s') := by
  obtain ⟨f, v, l, i, hi⟩ := c
  subst hc
  simp only [step, apply_ite (Option.map _), Option.map_some, Option.map_none]; rfl

theorem comm_i_poll (s : S) (a : Label) (ha : isI a = true) (hns : isStoreL a = false) :
    run s [a, .rPoll] = run s [.rPoll, a] :=
  comm_of_footprints (fun c => c.flag = s.flag) (step_cells a ha s) (step_poll s) rfl fun s1 h => by
    rw [show (cells s1).flag = s1.flag from rfl, step_flag h]
    cases a <;> first | rfl | exact Bool.noConfusion ha | exact Bool.noConfusion hns

end GojaModel.C15.Conc
