/-
  C15 — concurrent part of model `Intr`: interleaving semantics of the runner goroutine and any number of
  interrupting goroutines over the shared cells of vm.go:383–385

      interrupted   uint32        (accessed with sync/atomic only)        → `flag`
      interruptVal  interface{}   (accessed under interruptLock only)     → `val`
      interruptLock sync.Mutex                                            → `lock`

  One label = one atomic action; sequentially consistent atomics (Go memory model).  The instruction executed by
  `rInstr*` is opaque: nothing below depends on what an instruction does, only on WHEN the loop may start one.
  Core Lean only.
-/
namespace GojaModel.C15.Conc

/-- An interrupting goroutine inside `vm.Interrupt(v)` (vm.go:690–695). -/
inductive IPc where
  | idle
  | locked (v : Nat)     -- after interruptLock.Lock()
  | wrote (v : Nat)      -- after interruptVal = v
  | stored               -- after atomic.StoreUint32(&interrupted, 1); about to Unlock()
  deriving DecidableEq, Repr

/-- The runner goroutine (vm.go:624–651 plus the frames around it). -/
inductive RPc where
  | idle                 -- no API call pending
  | poll                 -- top of a run loop iteration: about to atomic.LoadUint32(&interrupted)
  | exec                 -- loaded 0: will do the halt test and, if not halted, execute ONE instruction
  | native               -- in a native frame (built-in / Go function) whose nested run loop is not running
  | leaving              -- in Runtime.leave(): running queued promise jobs
  | wantLock             -- loaded 1, left the loop: about to interruptLock.Lock()
  | haveLock             -- about to read interruptVal
  | gotVal (v : Nat)     -- about to Unlock() and panic
  | raised (v : Nat)     -- panic(&InterruptedError{iface: v}) propagating through frames
  deriving DecidableEq, Repr

structure S where
  flag : Bool := false
  val : Nat := 0
  lock : Option Nat := none        -- holder: 0 = runner, t+1 = interrupter t
  ipc : Nat → IPc := fun _ => .idle
  rpc : RPc := .idle
  depth : Nat := 0                 -- native frames between the outermost API call and the innermost run loop
  inLeave : Bool := false
  queue : Nat := 0                 -- len(r.jobQueue)
  execs : Nat := 0                 -- ghost: VM instructions executed so far
  hist : List Nat := []            -- ghost: arguments of Interrupt in the order of their critical sections
  result : Option Nat := none      -- value carried by the InterruptedError the last API call returned

inductive Label where
  | iLock (t v : Nat)    -- goroutine t calls Interrupt(v) and acquires the lock
  | iWrite (t : Nat)
  | iStore (t : Nat)
  | iUnlock (t : Nat)
  | clear                -- ClearInterrupt() by anybody: atomic store 0 (vm.go:698)
  | rCall                -- Go calls RunProgram / a Callable while idle
  | rPoll
  | rInstr (enq : Bool)  -- execute one instruction (it may enqueue a promise job)
  | rInstrEnter          -- execute one instruction that is a call into a native which re-enters the VM
  | rHalt                -- loop ends normally (pc out of range)
  | rReenter             -- native frame starts (another) nested run loop
  | rNativeRet           -- native frame returns to its caller's run loop
  | rJob                 -- leave(): start the next queued job
  | rLeaveDone           -- leave(): queue empty, API call returns normally
  | rLock
  | rRead
  | rUnlock
  | rUnwind              -- the panic leaves one native frame (recover → handleThrow(ex = nil) → re-panic)
  | rSwallow             -- a Go function between two run loops ignores the error it got from the nested call
  | rReturn              -- outermost recover: err = InterruptedError; leaveAbrupt()
  | rCtl                 -- runner-side control that executes NO instruction and touches no shared cell: leaving a run loop
                         -- (halt, JS exception), a native frame returning or re-entering, a Go frame swallowing the
                         -- error it got (raised → back to its run loop).  Coarser than rHalt/rNativeRet/rSwallow/…:
                         -- it forgets depth and queue; used by the traces the sequential interpreter emits.
  | rExit                -- the API call returns without an error
  deriving DecidableEq, Repr

def setI (f : Nat → IPc) (t : Nat) (x : IPc) : Nat → IPc := fun t' => if t' = t then x else f t'

def step (s : S) : Label → Option S
  | .iLock t v =>
    if s.ipc t = .idle ∧ s.lock = none then some { s with lock := some (t + 1), ipc := setI s.ipc t (.locked v) } else none
  | .iWrite t =>
    match s.ipc t with
    | .locked v => some { s with val := v, hist := s.hist ++ [v], ipc := setI s.ipc t (.wrote v) }
    | _ => none
  | .iStore t =>
    match s.ipc t with
    | .wrote _ => some { s with flag := true, ipc := setI s.ipc t .stored }
    | _ => none
  | .iUnlock t =>
    match s.ipc t with
    | .stored => some { s with lock := none, ipc := setI s.ipc t .idle }
    | _ => none
  | .clear => some { s with flag := false }
  | .rCall => if s.rpc = .idle then some { s with rpc := .poll, depth := 0, inLeave := false, result := none } else none
  | .rPoll => if s.rpc = .poll then some { s with rpc := if s.flag then .wantLock else .exec } else none
  | .rInstr enq =>
    if s.rpc = .exec then some { s with rpc := .poll, execs := s.execs + 1, queue := if enq then s.queue + 1 else s.queue } else none
  | .rInstrEnter => if s.rpc = .exec then some { s with rpc := .poll, execs := s.execs + 1, depth := s.depth + 1 } else none
  | .rHalt =>
    if s.rpc = .exec then
      if s.depth = 0 then some { s with rpc := .leaving, inLeave := true } else some { s with rpc := .native }
    else none
  | .rReenter => if s.rpc = .native then some { s with rpc := .poll } else none
  | .rNativeRet =>
    if s.rpc = .native ∧ 0 < s.depth then
      if s.inLeave ∧ s.depth = 1 then some { s with rpc := .leaving, depth := 0 }
      else some { s with rpc := .poll, depth := s.depth - 1 }
    else none
  | .rJob => if s.rpc = .leaving ∧ 0 < s.queue then some { s with rpc := .poll, depth := 1, queue := s.queue - 1 } else none
  | .rLeaveDone => if s.rpc = .leaving ∧ s.queue = 0 then some { s with rpc := .idle, inLeave := false } else none
  | .rLock => if s.rpc = .wantLock ∧ s.lock = none then some { s with rpc := .haveLock, lock := some 0 } else none
  | .rRead => if s.rpc = .haveLock then some { s with rpc := .gotVal s.val } else none
  | .rUnlock =>
    match s.rpc with
    | .gotVal v => some { s with rpc := .raised v, lock := none }
    | _ => none
  | .rUnwind =>
    match s.rpc with
    | .raised v => if 0 < s.depth then some { s with rpc := .raised v, depth := s.depth - 1 } else none
    | _ => none
  | .rSwallow =>
    match s.rpc with
    | .raised _ => if 0 < s.depth then some { s with rpc := .native } else none
    | _ => none
  | .rReturn =>
    match s.rpc with
    | .raised v =>
      if s.depth = 0 then some { s with rpc := .idle, flag := false, queue := 0, inLeave := false, result := some v } else none
    | _ => none
  | .rCtl =>
    match s.rpc with
    | .poll => some { s with rpc := .poll }
    | .exec => some { s with rpc := .poll }
    | .native => some { s with rpc := .poll }
    | .raised _ => some { s with rpc := .poll }
    | _ => none
  | .rExit => if s.rpc = .poll then some { s with rpc := .idle } else none

def run : S → List Label → Option S
  | s, [] => some s
  | s, l :: ls => match step s l with
    | some s' => run s' ls
    | none => none

/-- False exactly on the labels that end the window the promptness theorems talk about (ClearInterrupt, outermost recover). -/
def quiet : Label → Bool
  | .clear => false
  | .rReturn => false
  | _ => true

def isInstr : Label → Bool
  | .rInstr _ => true
  | .rInstrEnter => true
  | _ => false

def init : S := {}

end GojaModel.C15.Conc
