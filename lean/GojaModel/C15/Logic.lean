/-
  C15 — a program logic for the sequential interpreter.  A specification (`P` on the state a construct starts in,
  `Q` between that state and the result) that is met by every primitive move and passed on by every way of composing
  constructs (`Spec`) is met by all six mutually recursive functions at every fuel (`Spec.sound`) and by the job loop
  (`Spec.runJobs`).  A specification that is a predicate on the result alone goes through `StateSpec`, which asks for the
  primitive moves only.
-/
import GojaModel.C15.Lemmas

namespace GojaModel.C15

/-- the second half of `execFrame` as a function of an arbitrary result `r`, so that the frame rule of `Spec` and the
    lemmas about frames need no fuel -/
def frameExit (g swI swT : Bool) (st : St) (r : Outcome × St) : Outcome × St :=
  match r.1 with
  | .normal => (.normal, { r.2 with ts := st.ts, cs := st.cs })
  | .thrown => (if swT then .normal else .thrown, { r.2 with ts := st.ts, cs := st.cs })
  | .oof => r
  | .intr v =>
    let u := unwindNone r.2.ts r.2.cs
    if g then (.intr v, { r.2 with ts := st.ts, cs := u.2 })
    else if swI then (.normal, emit [.rCtl] { r.2 with ts := u.1.tail, cs := u.2 })
    else (.intr v, { r.2 with ts := u.1.tail, cs := u.2 })

theorem execFrame_succ (n : Nat) (c : Cfg) (g i t : Bool) (b : List Stmt) (st : St) :
    execFrame (n + 1) c g i t b st = frameExit g i t st (execBlock n c b (enterFrame g st)) := by
  rw [execFrame]; rfl

theorem frameExit_obs (g swI swT : Bool) (st : St) (r : Outcome × St) :
    (frameExit g swI swT st r).2.log = r.2.log ∧ (frameExit g swI swT st r).2.flag = r.2.flag ∧
    (frameExit g swI swT st r).2.execs = r.2.execs := by
  obtain ⟨o, st1⟩ := r
  cases o with
  | intr v => cases g <;> cases swI <;> exact ⟨rfl, rfl, rfl⟩
  | _ => exact ⟨rfl, rfl, rfl⟩

theorem normal_or_thrown_of_not_abort {o : Outcome} (h : ¬o.isAbort = true) : o = .normal ∨ o = .thrown := by
  cases o with
  | normal => exact Or.inl rfl
  | thrown => exact Or.inr rfl
  | intr v => exact absurd rfl h
  | oof => exact absurd rfl h

/-- A field of the shape `P st → P st' ∧ ∀ r, Q st' r → Q st (f r)` reads: a construct may start by moving from `st` to
    `st'` and end by turning the result `r` of what it runs there into `f r`. -/
structure Spec (c : Cfg) (P : St → Prop) (Q : St → Outcome × St → Prop) : Prop where
  oof : ∀ {st}, P st → Q st (.oof, st)
  skip : ∀ {st}, P st → Q st (.normal, st)
  raise : ∀ {st}, P st → (pollStep c st).flag = true → Q st (.intr (pollStep c st).val, raise (pollStep c st))
  blockEnd : ∀ {st}, P st → (pollStep c st).flag = false → Q st (.normal, emit [.rPoll, .rCtl] (pollStep c st))
  enter : ∀ {st}, P st → (pollStep c st).flag = false →
    P (instr (pass (pollStep c st))) ∧ ∀ r, Q (instr (pass (pollStep c st))) r → Q st r
  probe : ∀ {st}, P st → (pollStep c st).flag = false → Q st (.normal, instr (doProbe c (pass (pollStep c st))))
  /-- script code writes the event log and the job queue only while the flag is clear -/
  touch : ∀ {st o st'} (l : List Ev) (q : List (List Stmt)), Q st (o, st') → st'.flag = false →
    Q st (o, { st' with log := l, queue := q })
  seq : ∀ {st r}, Q st r → (r.1 = .normal ∨ r.1 = .thrown) → P r.2 ∧ ∀ r', Q r.2 r' → Q st r'
  retag : ∀ {st o o' st'}, Q st (o, st') → (o = .normal ∨ o = .thrown) → (o' = .normal ∨ o' = .thrown) → Q st (o', st')
  frame : ∀ (g i t : Bool) {st}, P st → P (enterFrame g st) ∧ ∀ r, Q (enterFrame g st) r → Q st (frameExit g i t st r)
  /-- asyncRunner.onFulfilled / onRejected: vm.curAsyncRunner is set around the frame, the reset is deferred -/
  async : ∀ {st}, P st → P { st with car := true } ∧ ∀ r, Q { st with car := true } r → Q st (r.1, { r.2 with car := false })
  handler : ∀ (hc hf : Bool) {st}, P st → P { st with ts := handlerTF st.cs hc hf :: st.ts } ∧
    ∀ r, Q { st with ts := handlerTF st.cs hc hf :: st.ts } r →
      (r.1.isAbort = true → Q st r) ∧ (¬r.1.isAbort = true → Q st (r.1, { r.2 with ts := st.ts, cs := st.cs }))
  drain : ∀ {st}, P st → P { st with queue := [] } ∧ ∀ r, Q { st with queue := [] } r → Q st r

structure Meets (c : Cfg) (P : St → Prop) (Q : St → Outcome × St → Prop) (n : Nat) : Prop where
  exec : ∀ s st, P st → Q st (exec n c s st)
  block : ∀ b st, P st → Q st (execBlock n c b st)
  loop : ∀ k b st, P st → Q st (execLoop n c k b st)
  frame : ∀ g i t b st, P st → Q st (execFrame n c g i t b st)
  native : ∀ g i t k b st, P st → Q st (execNative n c g i t k b st)
  forOf : ∀ i k brk nx b rt st, P st → Q st (execForOf n c i k brk nx b rt st)

-- `pollStep` stays folded below: no rule looks inside it, and the unifier would otherwise unfold it first
attribute [local irreducible] pollStep

namespace Spec
variable {c : Cfg} {P : St → Prop} {Q : St → Outcome × St → Prop}

theorem andThen (R : Spec c P Q) {st : St} {r r' : Outcome × St} (h : Q st r) (hf : P r.2 → Q r.2 r') :
    Q st (if r.1 = .normal then r' else r) := by
  by_cases hn : r.1 = .normal
  · rw [if_pos hn]
    obtain ⟨hP, back⟩ := R.seq h (Or.inl hn)
    exact back _ (hf hP)
  · rw [if_neg hn]; exact h

theorem zero (R : Spec c P Q) : Meets c P Q 0 where
  exec := fun _ _ hP => by rw [exec]; exact R.oof hP
  block := fun _ _ hP => by rw [execBlock]; exact R.oof hP
  loop := fun _ _ _ hP => by rw [execLoop]; exact R.oof hP
  frame := fun _ _ _ _ _ hP => by rw [execFrame]; exact R.oof hP
  native := fun _ _ _ _ _ _ hP => by rw [execNative]; exact R.oof hP
  forOf := fun _ _ _ _ _ _ _ hP => by rw [execForOf]; exact R.oof hP

theorem exec_succ (R : Spec c P Q) {n : Nat} (ih : Meets c P Q n) (s : Stmt) (st : St) (hP : P st) :
    Q st (exec (n + 1) c s st) := by
  rw [exec]
  by_cases hf : (pollStep c st).flag = true
  · rw [if_pos hf]; exact R.raise hP hf
  · rw [if_neg hf]
    have hff := (Bool.not_eq_true _).mp hf
    obtain ⟨hP', back⟩ := R.enter hP hff
    cases s with
    | log k => exact back _ (R.touch _ _ (R.skip hP') hff)
    | probe => exact R.probe hP hff
    | throw => exact back _ (R.retag (R.skip hP') (Or.inl rfl) (Or.inr rfl))
    | enqueue j => exact back _ (R.touch _ _ (R.skip hP') hff)
    | loop k b => exact back _ (ih.loop k b _ hP')
    | native g i t k b => exact back _ (ih.native g i t k b _ hP')
    | forOf k brk nx b rt => exact back _ (ih.forOf 0 k brk nx b rt _ hP')
    | asyncResume b =>
      obtain ⟨hPa, backa⟩ := R.async hP'
      exact back _ (backa _ (ih.frame true false true b _ hPa))
    | tryc hc hf body cat fin =>
      refine back _ ?_
      obtain ⟨hPh, backh⟩ := R.handler hc hf hP'
      have h1 := backh _ (ih.block body _ hPh)
      simp only []
      generalize execBlock n c body _ = r1 at h1 ⊢
      by_cases ha1 : r1.1.isAbort = true
      · rw [if_pos ha1]; exact h1.1 ha1
      · rw [if_neg ha1]
        have hn1 := normal_or_thrown_of_not_abort ha1
        obtain ⟨hP1, back1⟩ := R.seq (h1.2 ha1) hn1
        generalize hr2 : (if r1.1 = Outcome.thrown ∧ hc = true then execBlock n c cat _ else (r1.1, _)) = r2
        have h2 : Q (instr (pass (pollStep c st))) r2 := by
          subst hr2
          by_cases hcat : r1.1 = Outcome.thrown ∧ hc = true
          · rw [if_pos hcat]; exact back1 _ (ih.block cat _ hP1)
          · rw [if_neg hcat]; exact h1.2 ha1
        by_cases ha2 : r2.1.isAbort = true
        · rw [if_pos ha2]; exact h2
        · rw [if_neg ha2]
          have hn2 := normal_or_thrown_of_not_abort ha2
          cases hf with
          | false => exact h2
          | true =>
            obtain ⟨hP2, back2⟩ := R.seq h2 hn2
            have h3 := back2 _ (ih.block fin _ hP2)
            rw [if_pos rfl]
            by_cases hn3 : (execBlock n c fin r2.2).1 = .normal
            · rw [if_pos hn3]
              exact R.retag (o := .normal) (by rw [← hn3]; exact h3) (Or.inl rfl) hn2
            · rw [if_neg hn3]; exact h3

theorem block_succ (R : Spec c P Q) {n : Nat} (ih : Meets c P Q n) (b : List Stmt) (st : St) (hP : P st) :
    Q st (execBlock (n + 1) c b st) := by
  cases b with
  | nil =>
    rw [execBlock]
    by_cases hf : (pollStep c st).flag = true
    · rw [if_pos hf]; exact R.raise hP hf
    · rw [if_neg hf]; exact R.blockEnd hP ((Bool.not_eq_true _).mp hf)
  | cons s rest => rw [execBlock]; exact R.andThen (ih.exec s st hP) (ih.block rest _)

theorem loop_succ (R : Spec c P Q) {n : Nat} (ih : Meets c P Q n) (k : Nat) (b : List Stmt) (st : St) (hP : P st) :
    Q st (execLoop (n + 1) c k b st) := by
  cases k with
  | zero => rw [execLoop]; exact R.skip hP
  | succ k => rw [execLoop]; exact R.andThen (ih.block b st hP) (ih.loop k b _)

theorem native_succ (R : Spec c P Q) {n : Nat} (ih : Meets c P Q n) (g i t : Bool) (k : Nat) (b : List Stmt) (st : St)
    (hP : P st) : Q st (execNative (n + 1) c g i t k b st) := by
  cases k with
  | zero => rw [execNative]; exact R.skip hP
  | succ k => rw [execNative]; exact R.andThen (ih.frame g i t b st hP) (ih.native g i t k b _)

theorem forOf_succ (R : Spec c P Q) {n : Nat} (ih : Meets c P Q n) (i k : Nat) (brk : Bool) (nx b rt : List Stmt)
    (st : St) (hP : P st) : Q st (execForOf (n + 1) c i k brk nx b rt st) := by
  rw [execForOf]
  have h1 := ih.frame false false false nx st hP
  generalize execFrame n c false false false nx st = r1 at h1 ⊢
  by_cases hn1 : r1.1 = .normal
  · rw [if_pos hn1]
    obtain ⟨hP1, back1⟩ := R.seq h1 (Or.inl hn1)
    by_cases hik : i < k
    · rw [if_pos hik]
      refine back1 _ ?_
      have h2 := ih.block b _ hP1
      generalize execBlock n c b r1.2 = r2 at h2 ⊢
      by_cases hn2 : r2.1 = .normal
      · rw [if_pos hn2]
        obtain ⟨hP2, back2⟩ := R.seq h2 (Or.inl hn2)
        cases brk with
        | true => exact back2 _ (ih.frame false false false rt _ hP2)
        | false => exact back2 _ (ih.forOf (i + 1) k false nx b rt _ hP2)
      · rw [if_neg hn2]
        by_cases ht2 : r2.1 = .thrown
        · -- the body threw: the iterator's `return` runs; its own exception is dropped, an uncatchable one is not
          rw [if_pos ht2]
          obtain ⟨hP2, back2⟩ := R.seq h2 (Or.inr ht2)
          have h3 := back2 _ (ih.frame false false false rt _ hP2)
          generalize execFrame n c false false false rt r2.2 = r3 at h3 ⊢
          by_cases ha3 : r3.1.isAbort = true
          · rw [if_pos ha3]; exact h3
          · rw [if_neg ha3]; exact R.retag h3 (normal_or_thrown_of_not_abort ha3) (Or.inr rfl)
        · rw [if_neg ht2]; exact h2
    · rw [if_neg hik]; exact h1
  · rw [if_neg hn1]; exact h1

theorem succ (R : Spec c P Q) {n : Nat} (ih : Meets c P Q n) : Meets c P Q (n + 1) where
  exec := R.exec_succ ih
  block := R.block_succ ih
  loop := R.loop_succ ih
  frame := fun g i t b st hP => by
    rw [execFrame_succ]
    obtain ⟨hPf, back⟩ := R.frame g i t hP
    exact back _ (ih.block b _ hPf)
  native := R.native_succ ih
  forOf := R.forOf_succ ih

theorem sound (R : Spec c P Q) (n : Nat) : Meets c P Q n := by
  induction n with
  | zero => exact R.zero
  | succ n ih => exact R.succ ih

theorem runJobs (R : Spec c P Q) (n : Nat) : ∀ (batch : List (List Stmt)) (st : St), P st → Q st (runJobs n c batch st) := by
  induction n with
  | zero => intro batch st hP; rw [GojaModel.C15.runJobs]; exact R.oof hP
  | succ n ih =>
    intro batch st hP
    cases batch with
    | nil =>
      rw [GojaModel.C15.runJobs]
      split
      · exact R.skip hP
      · obtain ⟨hPd, back⟩ := R.drain hP
        exact back _ (ih _ _ hPd)
    | cons job batch =>
      rw [GojaModel.C15.runJobs]
      exact R.andThen ((R.sound n).frame false false true job st hP) (ih batch _)

end Spec

/-- `J o st`: what holds of the state `st` a construct ends in with outcome `o`; a construct starts in a state with
    `J .normal`.  Only the moves that touch what `J` may read (`congr`) are asked for. -/
structure StateSpec (c : Cfg) (J : Outcome → St → Prop) : Prop where
  congr : ∀ {o st st'}, J o st → st'.flag = st.flag → st'.val = st.val → st'.log = st.log → st'.frozen = st.frozen →
    st'.polls = st.polls → st'.tr = st.tr → J o st'
  oof : ∀ {st}, J .normal st → J .oof st
  thrown : ∀ {st}, J .thrown st ↔ J .normal st
  raise : ∀ {st}, J .normal st → (pollStep c st).flag = true → J (.intr (pollStep c st).val) (raise (pollStep c st))
  blockEnd : ∀ {st}, J .normal st → (pollStep c st).flag = false → J .normal (emit [.rPoll, .rCtl] (pollStep c st))
  step : ∀ {st}, J .normal st → (pollStep c st).flag = false → J .normal (instr (pass (pollStep c st)))
  probe : ∀ {st}, J .normal st → (pollStep c st).flag = false → J .normal (instr (doProbe c (pass (pollStep c st))))
  log : ∀ {o st} (l : List Ev), J o st → st.flag = false → J o { st with log := l }
  swallow : ∀ {v st}, J (.intr v) st → J .normal (emit [.rCtl] st)

namespace StateSpec
variable {c : Cfg} {J : Outcome → St → Prop}

theorem retag (R : StateSpec c J) {o o' : Outcome} {st : St} (h : J o st) (ho : o = .normal ∨ o = .thrown)
    (ho' : o' = .normal ∨ o' = .thrown) : J o' st := by
  have hn : J .normal st := by
    rcases ho with rfl | rfl
    · exact h
    · exact R.thrown.mp h
  rcases ho' with rfl | rfl
  · exact hn
  · exact R.thrown.mpr hn

theorem toSpec (R : StateSpec c J) : Spec c (J .normal) (fun _ r => J r.1 r.2) where
  oof := R.oof
  skip := id
  raise := R.raise
  blockEnd := R.blockEnd
  enter := fun hP hf => ⟨R.step hP hf, fun _ h => h⟩
  probe := R.probe
  touch := fun l _ h hf => R.congr (R.log l h hf) rfl rfl rfl rfl rfl rfl
  seq := fun h ho => ⟨R.retag h ho (Or.inl rfl), fun _ h' => h'⟩
  retag := R.retag
  frame := fun g i t st hP => by
    refine ⟨by cases g <;> exact R.congr hP rfl rfl rfl rfl rfl rfl, fun r h => ?_⟩
    obtain ⟨o, st1⟩ := r
    cases o with
    | normal => exact R.congr h rfl rfl rfl rfl rfl rfl
    | thrown =>
      cases t with
      | true => exact R.congr (R.thrown.mp h) rfl rfl rfl rfl rfl rfl
      | false => exact R.congr h rfl rfl rfl rfl rfl rfl
    | oof => exact h
    | intr v =>
      cases g with
      | true => exact R.congr h rfl rfl rfl rfl rfl rfl
      | false =>
        cases i with
        | true => exact R.swallow (R.congr (st' := { st1 with ts := _, cs := _ }) h rfl rfl rfl rfl rfl rfl)
        | false => exact R.congr h rfl rfl rfl rfl rfl rfl
  async := fun hP => ⟨R.congr hP rfl rfl rfl rfl rfl rfl, fun _ h => R.congr h rfl rfl rfl rfl rfl rfl⟩
  handler := fun _ _ _ hP => ⟨R.congr hP rfl rfl rfl rfl rfl rfl,
    fun _ h => ⟨fun _ => h, fun _ => R.congr h rfl rfl rfl rfl rfl rfl⟩⟩
  drain := fun hP => ⟨R.congr hP rfl rfl rfl rfl rfl rfl, fun _ h => h⟩

end StateSpec

end GojaModel.C15
