/-
  C15 — ties between the model and the facts regenerated from /repo by extract/c15.go on every run
  (lean/GojaModel/Generated/C15_Facts.lean).  If the source changes shape these stop checking.
-/
import GojaModel.C15.Props
import GojaModel.Generated.C15_Facts

namespace GojaModel.C15.Tie
open GojaModel.C15 GojaModel.C15.Drf
open GojaModel.Generated.C15

/-- every access in the source obeys the discipline: `interrupted` only through sync/atomic, `interruptVal` only
    under interruptLock.  A plain access added anywhere in the package falsifies this. -/
theorem table_ok : tableOK accessTable = true := by decide

/-- the extractor saw the accesses the model talks about (the table is not vacuous) -/
theorem table_shape :
    2 ≤ (accessTable.filter (fun a => a.cell == .flag && !a.write)).length ∧
    2 ≤ (accessTable.filter (fun a => a.cell == .flag && a.write)).length ∧
    1 ≤ (accessTable.filter (fun a => a.cell == .val && !a.write)).length ∧
    1 ≤ (accessTable.filter (fun a => a.cell == .val && a.write)).length := by decide

/-- `intr_drf_partial` instantiated with the regenerated table. -/
theorem intr_drf_generated (pre mid : List Drf.Ev) (ei ej : Drf.Ev)
    (ci : Conforms accessTable pre ei) (cj : Conforms accessTable (pre ++ ei :: mid) ej)
    (cell : Cell) (wi ai wj aj : Bool) (hi : ei.op = .acc cell wi ai) (hj : ej.op = .acc cell wj aj)
    (hne : ei.tid ≠ ej.tid) :
    (ai = true ∧ aj = true) ∨ ∃ m1 m2 m3, mid = m1 ++ ⟨ei.tid, .rel⟩ :: (m2 ++ ⟨ej.tid, .acq⟩ :: m3) :=
  Props.intr_drf_partial accessTable table_ok pre mid ei ej ci cj cell wi ai wj aj hi hj hne

/-- the frame-skipping condition of handleThrow, translated from the source, is the model's -/
theorem skipCond_eq (c f : Int) (e : Bool) : skipCond c f e = skipFrame c f e := by
  simp [skipCond, skipFrame, tryPanicMarker]

/-! The following ties pin DECISION STRUCTURE (which classified statements occur, in which order, under which guards),
    not statement text: unrelated statements added to the same functions do not affect them. -/

/-- run() and runWithProfiler(): the poll is a top-level statement of the loop body (not under the `count == 0`
    profiler test), before the halt test, before the instruction is executed (model: `pollStep` first in `exec`) -/
theorem runOrder_eq : runOrder = ["poll", "halt", "exec"] := rfl
theorem runWithProfilerOrder_eq : runWithProfilerOrder = ["poll", "halt", "exec"] := rfl

/-- run(): Lock, build the error from interruptVal, Unlock, panic — and nothing else touches interruptVal or the flag
    there (model `raise`; a write of interruptVal in this block would change the list) -/
theorem raiseOrder_eq : raiseOrder = ["lock", "err=interruptVal", "unlock", "panic"] := rfl

/-- Interrupt(): Lock; interruptVal = v; store 1; Unlock (model `interruptLabels`) -/
theorem interruptOrder_eq : interruptOrder = ["lock", "val", "store", "unlock"] := rfl

/-- ClearInterrupt(): one atomic store of 0, no lock, no access to interruptVal (model label `clear`) -/
theorem clearOrder_eq : clearOrder = ["store0"] := rfl

theorem val_written_by_interrupt_only :
    ((accessTable.filter (fun a => a.cell == .val && a.write)).map (·.fn)) = ["Interrupt"] := rfl

/-- leaveAbrupt(): drops the job queue and clears the flag UNCONDITIONALLY, and takes no parameter on which that could
    depend (model `leaveAbrupt`; a ClearInterrupt conditional on the error's dynamic type would change this) -/
theorem leaveAbruptEffects_eq : leaveAbruptEffects = (true, true, 0) := rfl

/-- leaveAbrupt is called from exactly the four outermost recover sites, each time only if the call stack is empty
    and the payload is uncatchable (model `apiRecover`: `if st.cs = 0`; dropping the guard in valueString would change the next theorem) -/
theorem leaveAbruptSites_eq : leaveAbruptSites.map (·.1) = ["valueString", "RunProgram", "runWrapped", "Try"] := rfl

theorem leaveAbruptSites_guarded : leaveAbruptSites.all (fun s => s.2.1 && s.2.2.1 && s.2.2.2 == 0) = true := by decide

/-- handleThrow closes open iterators exactly for catchable payloads (model `execForOf`) -/
theorem handleThrowClosesItersIff_eq : handleThrowClosesItersIff = "ex != nil" := rfl

/-- generator.step: on the panic path the try stack is cut to just below the activation's marker frame
    (model `execFrame` with gen = true: `ts := st.ts`) -/
theorem generatorStepDefer_eq : generatorStepDefer =
    "defer func() { if !completed { if l := int(g.tryStackLen) - 1; l >= 0 && l < len(g.vm.tryStack) { g.vm.tryStack = g.vm.tryStack[:l] } } }()" := rfl

/-- vm.curAsyncRunner is assigned only by the two continuation entry points, and every function that sets it to a runner
    resets it to nil inside a `defer` (model: `Stmt.asyncResume` resets `car` on every way out) -/
theorem curAsyncRunner_writers_eq : curAsyncRunnerWriters.map (·.1) = ["onFulfilled", "onRejected"] := rfl

theorem curAsyncRunner_reset_deferred : curAsyncRunnerWriters.all (fun w => !w.2.1 || w.2.2.1) = true := by decide

/-- captureStack appends the awaiting async functions' frames exactly when the VM points at a runner (model: `car`) -/
theorem captureStackAsyncCond_eq : captureStackAsyncCond = "ctxOffset == 0 && vm.curAsyncRunner != nil" := rfl

end GojaModel.C15.Tie
