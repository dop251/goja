/-
  C15 — the interpreter's external delivery point IS the delivery point of the projection theorem:
  for `Cfg.ext = some n` (and no probe-interrupt, `k = 0`) the trace the interpreter emits contains exactly n polls
  before the first store to `interrupted`, and no store at all while the flag is clear (an instance of `Spec.sound`).
-/
import GojaModel.C15.Logic
import GojaModel.C15.Observe

namespace GojaModel.C15
open GojaModel.C15.Conc

def hasStore (ls : List Label) : Bool := ls.any isStore

theorem pollCount_append (a b : List Label) : pollCount (a ++ b) = pollCount a + pollCount b := by
  induction a with
  | nil => simp [pollCount]
  | cons l ls ih => simp only [List.cons_append, pollCount, ih]; omega

theorem hasStore_append (a b : List Label) : hasStore (a ++ b) = (hasStore a || hasStore b) := by
  simp [hasStore, List.any_append]

theorem beforeStore_append_noStore (a b : List Label) (h : hasStore a = false) :
    beforeStore (a ++ b) = a ++ beforeStore b := by
  induction a with
  | nil => rfl
  | cons l ls ih =>
    simp only [hasStore, List.any_cons, Bool.or_eq_false_iff] at h
    simp only [List.cons_append, beforeStore, h.1, Bool.false_eq_true, if_false]
    rw [ih (by simpa [hasStore] using h.2)]

theorem beforeStore_append_store (a b : List Label) (h : hasStore a = true) : beforeStore (a ++ b) = beforeStore a := by
  induction a with
  | nil => simp [hasStore] at h
  | cons l ls ih =>
    simp only [List.cons_append, beforeStore]
    by_cases hl : isStore l = true
    · simp [hl]
    · have hl' : isStore l = false := by simpa using hl
      simp only [hl', Bool.false_eq_true, if_false]
      rw [ih (by simpa [hasStore, hl'] using h)]

/-- `pend = 1` between `pollStep` (which counts the poll) and the emission of its `rPoll` -/
def Dlv (n pend : Nat) (st : St) : Prop :=
  pollCount st.tr + pend = st.polls ∧
  (st.flag = false → hasStore st.tr = false) ∧
  (st.flag = true → hasStore st.tr = true ∧ pollCount (beforeStore st.tr) = n)

theorem Dlv.ext {n p p' : Nat} {st st' : St} {ls : List Label} (h : Dlv n p st) (htr : st'.tr = st.tr ++ ls)
    (hns : hasStore ls = false) (hp : st'.polls + p = st.polls + pollCount ls + p') (hf : st'.flag = st.flag) :
    Dlv n p' st' := by
  obtain ⟨h1, h2, h3⟩ := h
  refine ⟨?_, ?_, ?_⟩
  · rw [htr, pollCount_append]; omega
  · intro hff; rw [hf] at hff; rw [htr, hasStore_append, h2 hff, hns]; rfl
  · intro hft; rw [hf] at hft
    have := h3 hft
    rw [htr, hasStore_append, this.1, beforeStore_append_store _ _ this.1]
    exact ⟨rfl, this.2⟩

theorem Dlv.congr {n p : Nat} {st st' : St} (h : Dlv n p st) (htr : st'.tr = st.tr) (hp : st'.polls = st.polls)
    (hf : st'.flag = st.flag) : Dlv n p st' := by
  unfold Dlv at *; rw [htr, hp, hf]; exact h

theorem dlv_pollStep {n : Nat} {c : Cfg} {st : St} (hext : c.ext = some n) (h : Dlv n 0 st) : Dlv n 1 (pollStep c st) := by
  obtain ⟨h1, h2, h3⟩ := h
  unfold pollStep
  split
  · rename_i hc
    have hn : n = st.polls := by rw [hext] at hc; exact Option.some.inj hc.2
    have hnos := h2 hc.1
    refine ⟨?_, ?_, ?_⟩
    · show pollCount (st.tr ++ interruptLabels 1 c.v) + 1 = st.polls + 1
      rw [pollCount_append]; simp [interruptLabels, pollCount]; omega
    · intro hff; cases hff
    · intro _
      show hasStore (st.tr ++ interruptLabels 1 c.v) = true ∧ pollCount (beforeStore (st.tr ++ interruptLabels 1 c.v)) = n
      rw [hasStore_append, beforeStore_append_noStore _ _ hnos, pollCount_append]
      refine ⟨by simp [interruptLabels, hasStore, isStore], ?_⟩
      simp [interruptLabels, beforeStore, isStore, pollCount]; omega
  · exact ⟨by show pollCount st.tr + 1 = st.polls + 1; omega, h2, h3⟩

theorem dlv_raise {n : Nat} {st : St} (h : Dlv n 1 st) : Dlv n 0 (raise st) :=
  h.ext (ls := [.rPoll, .rLock, .rRead, .rUnlock]) rfl (by rfl) (by simp [raise, emit, pollCount]) rfl

theorem dlv_pass {n : Nat} {st : St} (h : Dlv n 1 st) : Dlv n 0 (pass st) :=
  h.ext (ls := [.rPoll]) rfl (by rfl) (by simp [pass, emit, pollCount]) rfl

theorem dlv_instr {n : Nat} {st : St} (h : Dlv n 0 st) : Dlv n 0 (instr st) :=
  h.ext (ls := [.rInstr false]) rfl (by rfl) (by simp [instr, emit, pollCount]) rfl

theorem dlv_doProbe {n : Nat} {c : Cfg} {st : St} (hk : c.k = 0) (h : Dlv n 0 st) : Dlv n 0 (doProbe c st) := by
  simp only [doProbe, hk]
  simp only [ne_eq, not_true_eq_false, false_and, if_false]
  exact h.congr rfl rfl rfl

structure IH6 (n : Nat) (m : Nat) : Prop where
  exec : ∀ c s st, c.k = 0 → c.ext = some n → Dlv n 0 st → Dlv n 0 (exec m c s st).2
  block : ∀ c b st, c.k = 0 → c.ext = some n → Dlv n 0 st → Dlv n 0 (execBlock m c b st).2
  loop : ∀ c k b st, c.k = 0 → c.ext = some n → Dlv n 0 st → Dlv n 0 (execLoop m c k b st).2
  frame : ∀ c g i t b st, c.k = 0 → c.ext = some n → Dlv n 0 st → Dlv n 0 (execFrame m c g i t b st).2
  native : ∀ c g i t k b st, c.k = 0 → c.ext = some n → Dlv n 0 st → Dlv n 0 (execNative m c g i t k b st).2
  forOf : ∀ c i k brk nx b rt st, c.k = 0 → c.ext = some n → Dlv n 0 st → Dlv n 0 (execForOf m c i k brk nx b rt st).2

theorem dlvSpec {n : Nat} {c : Cfg} (hk : c.k = 0) (he : c.ext = some n) : StateSpec c (fun _ st => Dlv n 0 st) where
  congr := fun h hf _ _ _ hp htr => h.congr htr hp hf
  oof := id
  thrown := Iff.rfl
  raise := fun h _ => dlv_raise (dlv_pollStep he h)
  blockEnd := fun h _ => (dlv_pollStep he h).ext (ls := [.rPoll, .rCtl]) rfl (by rfl) (by simp [emit, pollCount]) rfl
  step := fun h _ => dlv_instr (dlv_pass (dlv_pollStep he h))
  probe := fun h _ => dlv_instr (dlv_doProbe hk (dlv_pass (dlv_pollStep he h)))
  log := fun _ h _ => h.congr rfl rfl rfl
  swallow := fun h => h.ext (ls := [.rCtl]) rfl (by rfl) (by simp [emit, pollCount]) rfl

theorem dlv_all (n m : Nat) : IH6 n m where
  exec := fun _ s st hk he => ((dlvSpec hk he).toSpec.sound m).exec s st
  block := fun _ b st hk he => ((dlvSpec hk he).toSpec.sound m).block b st
  loop := fun _ k b st hk he => ((dlvSpec hk he).toSpec.sound m).loop k b st
  frame := fun _ g i t b st hk he => ((dlvSpec hk he).toSpec.sound m).frame g i t b st
  native := fun _ g i t k b st hk he => ((dlvSpec hk he).toSpec.sound m).native g i t k b st
  forOf := fun _ i k brk nx b rt st hk he => ((dlvSpec hk he).toSpec.sound m).forOf i k brk nx b rt st

end GojaModel.C15
