/-
  C15 — stack balance of the sequential interpreter (an instance of `Spec.sound`).
-/
import GojaModel.C15.Logic

namespace GojaModel.C15

/-! When an uncatchable error passes through, only script-level handler frames may remain above the entry try stack,
    for the enclosing handleThrow to skip, and contexts above the entry call stack, for it to truncate. -/

def Bal (st : St) (r : Outcome × St) : Prop :=
  ((r.1 = .normal ∨ r.1 = .thrown) → r.2.ts = st.ts ∧ r.2.cs = st.cs) ∧
  (∀ v, r.1 = .intr v → ∃ hs, allHandlers hs ∧ r.2.ts = hs ++ st.ts ∧ st.cs ≤ r.2.cs)

/-- frames whose marker is popped in a `defer` (and generator frames inside them) restore exactly -/
def BalStrong (st : St) (r : Outcome × St) : Prop :=
  r.1 ≠ .oof → r.2.ts = st.ts ∧ r.2.cs = st.cs

theorem BalStrong.toBal {st : St} {r : Outcome × St} (h : BalStrong st r) : Bal st r := by
  constructor
  · intro ho; apply h; rcases ho with ho | ho <;> simp [ho]
  · intro v hv
    have := h (by simp [hv])
    exact ⟨[], allHandlers_nil, by simp [this.1], by omega⟩

theorem Bal.of_eq {st st0 : St} {r : Outcome × St} (hts : st.ts = st0.ts) (hcs : st.cs = st0.cs) (h : Bal st r) :
    Bal st0 r := by
  unfold Bal at *; rw [hts, hcs] at h; exact h

theorem Bal.intr_self (st : St) (v : Nat) : Bal st (.intr v, st) := by
  constructor
  · intro h; simp at h
  · intro _ _; exact ⟨[], allHandlers_nil, by simp, Nat.le_refl _⟩

theorem Bal.oof (st st' : St) : Bal st (.oof, st') := by
  constructor
  · intro h; rcases h with h | h <;> simp at h
  · intro v h; simp at h

theorem Bal.same {st st' : St} (o : Outcome) (hts : st'.ts = st.ts) (hcs : st'.cs = st.cs) : Bal st (o, st') := by
  constructor
  · intro _; exact ⟨hts, hcs⟩
  · intro v _; exact ⟨[], allHandlers_nil, by simp [hts], Nat.le_of_eq hcs.symm⟩

theorem BalStrong.andThen {st : St} {r r' : Outcome × St} (h : BalStrong st r) (hn : r.1 = .normal)
    (h' : BalStrong r.2 r') : BalStrong st r' := by
  intro ho
  have a := h (by simp [hn])
  have b := h' ho
  exact ⟨by rw [b.1, a.1], by rw [b.2, a.2]⟩

structure IH (n : Nat) : Prop where
  exec : ∀ c s st, Bal st (exec n c s st)
  block : ∀ c b st, Bal st (execBlock n c b st)
  loop : ∀ c k b st, Bal st (execLoop n c k b st)
  frame : ∀ c g i t b st, Bal st (execFrame n c g i t b st)
  frameS : ∀ c i t b st, BalStrong st (execFrame n c false i t b st)
  native : ∀ c g i t k b st, Bal st (execNative n c g i t k b st)
  forOf : ∀ c i k brk nx b rt st, Bal st (execForOf n c i k brk nx b rt st)

theorem Bal.unwind {st : St} {r : Outcome × St} {v k : Nat} {rest : List TF} (hb : Bal st r) (hv : r.1 = .intr v)
    (hts : st.ts = markerTF k :: rest) (hk : k ≤ st.cs) :
    unwindNone r.2.ts r.2.cs = (markerTF k :: rest, k) := by
  obtain ⟨hs, hh, e, hcs⟩ := hb.2 v hv
  rw [e, hts]; exact unwindNone_marker hh (Nat.le_trans hk hcs)

theorem frame_unwind {g : Bool} {st : St} {r : Outcome × St} {v : Nat} (hb : Bal (enterFrame g st) r) (hv : r.1 = .intr v) :
    (unwindNone r.2.ts r.2.cs).1.tail = st.ts ∧
    (unwindNone r.2.ts r.2.cs).2 = (if g then st.cs + 1 else st.cs) := by
  cases g with
  | false => rw [hb.unwind hv (k := st.cs) rfl (Nat.le_succ _)]; exact ⟨rfl, rfl⟩
  | true => rw [hb.unwind hv (k := st.cs + 1) rfl (Nat.le_succ _)]; exact ⟨rfl, rfl⟩

theorem frameExit_balStrong {i t : Bool} {st : St} {r : Outcome × St} (hb : Bal (enterFrame false st) r) :
    BalStrong st (frameExit false i t st r) := by
  obtain ⟨o, st1⟩ := r
  cases o with
  | normal => exact fun _ => ⟨rfl, rfl⟩
  | thrown => exact fun _ => ⟨rfl, rfl⟩
  | oof => exact fun h => absurd rfl h
  | intr v =>
    have hu := frame_unwind hb (v := v) rfl
    cases i <;> exact fun _ => hu

theorem frameExit_gen_intr {i t : Bool} {st : St} {r : Outcome × St} {v : Nat} (hb : Bal (enterFrame true st) r)
    (hv : (frameExit true i t st r).1 = .intr v) :
    (frameExit true i t st r).2.ts = st.ts ∧ (frameExit true i t st r).2.cs = st.cs + 1 := by
  obtain ⟨o, st1⟩ := r
  cases o with
  | normal => cases hv
  | thrown => cases t <;> cases hv
  | oof => cases hv
  | intr w => exact ⟨rfl, (frame_unwind hb (v := w) rfl).2⟩

-- as in Logic.lean
attribute [local irreducible] pollStep

theorem balSpec (c : Cfg) : Spec c (fun _ => True) Bal where
  oof := fun _ => Bal.oof _ _
  skip := fun _ => Bal.same _ rfl rfl
  raise := fun _ _ => Bal.same _ (pollStep_ts c _) (pollStep_cs c _)
  blockEnd := fun _ _ => Bal.same _ (pollStep_ts c _) (pollStep_cs c _)
  enter := fun _ _ => ⟨trivial, fun _ h => Bal.of_eq (pollStep_ts c _) (pollStep_cs c _) h⟩
  probe := fun _ _ => Bal.same _ ((doProbe_ts c _).trans (pollStep_ts c _)) ((doProbe_cs c _).trans (pollStep_cs c _))
  touch := fun _ _ h _ => h
  seq := fun h ho => ⟨trivial, fun _ h' => Bal.of_eq (h.1 ho).1 (h.1 ho).2 h'⟩
  retag := fun h ho _ => Bal.same _ (h.1 ho).1 (h.1 ho).2
  frame := fun g i t st _ => by
    refine ⟨trivial, fun r hb => ?_⟩
    cases g with
    | false => exact (frameExit_balStrong hb).toBal
    | true =>
      refine ⟨fun ho => ?_, fun v hv => ?_⟩
      · obtain ⟨o, st1⟩ := r
        cases o with
        | normal => exact ⟨rfl, rfl⟩
        | thrown => exact ⟨rfl, rfl⟩
        | oof => rcases ho with ho | ho <;> cases ho
        | intr w => rcases ho with ho | ho <;> cases ho
      · have e := frameExit_gen_intr hb hv
        exact ⟨[], allHandlers_nil, e.1, by rw [e.2]; exact Nat.le_succ _⟩
  async := fun _ => ⟨trivial, fun _ h => h⟩
  handler := fun hc hf st _ => by
    refine ⟨trivial, fun r hb => ⟨fun ha => ⟨fun ho => ?_, fun v hv => ?_⟩, fun _ => Bal.same _ rfl rfl⟩⟩
    · rcases ho with ho | ho <;> rw [ho] at ha <;> cases ha
    · -- uncatchable from the body: the handler frame stays on the try stack
      obtain ⟨hs, hh, hts, hcs⟩ := hb.2 v hv
      refine ⟨hs ++ [handlerTF st.cs hc hf], ?_, by rw [hts, List.append_assoc]; rfl, hcs⟩
      intro tf htf
      rcases List.mem_append.mp htf with h | h
      · exact hh tf h
      · rw [List.mem_singleton.mp h]; exact handlerTF_isHandler _ _ _
  drain := fun _ => ⟨trivial, fun _ h => h⟩

theorem bal_all (n : Nat) : IH n :=
  have m (c : Cfg) := (balSpec c).sound n
  { exec := fun c s st => (m c).exec s st trivial
    block := fun c b st => (m c).block b st trivial
    loop := fun c k b st => (m c).loop k b st trivial
    frame := fun c g i t b st => (m c).frame g i t b st trivial
    frameS := fun c i t b st => by
      cases n with
      | zero => rw [execFrame]; exact fun h => absurd rfl h
      | succ n => rw [execFrame_succ]; exact frameExit_balStrong (((balSpec c).sound n).block b _ trivial)
    native := fun c g i t k b st => (m c).native g i t k b st trivial
    forOf := fun c i k brk nx b rt st => (m c).forOf i k brk nx b rt st trivial }

theorem runJobs_balStrong (n : Nat) : ∀ (c : Cfg) (batch : List (List Stmt)) (st : St), BalStrong st (runJobs n c batch st) := by
  induction n with
  | zero => intro c batch st h; simp [runJobs] at h
  | succ n ih =>
    intro c batch st
    cases batch with
    | nil =>
      simp only [runJobs]
      split
      · intro _; exact ⟨rfl, rfl⟩
      · exact fun h => ih c _ _ h
    | cons job batch =>
      simp only [runJobs]
      have h1 := (bal_all n).frameS c false true job st
      split
      · rename_i hn; exact h1.andThen hn (ih c batch _)
      · exact h1

end GojaModel.C15
