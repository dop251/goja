/-
  C15 — the script part of a call emits no ClearInterrupt and no outermost recover: every label the interpreter
  appends to its trace is `quiet` (an instance of `Spec.sound`).
-/
import GojaModel.C15.Logic
import GojaModel.C15.Step

namespace GojaModel.C15
open GojaModel.C15.Conc

def TrQuiet (st : St) : Prop := allQuiet st.tr = true

theorem TrQuiet.ext {st st' : St} {ls : List Label} (h : TrQuiet st) (htr : st'.tr = st.tr ++ ls)
    (hl : allQuiet ls = true) : TrQuiet st' := by
  unfold TrQuiet at *; rw [htr, allQuiet_append, h, hl]; rfl

theorem TrQuiet.emit {st : St} {ls : List Label} (h : TrQuiet st) (hl : allQuiet ls = true) :
    TrQuiet (GojaModel.C15.emit ls st) := h.ext rfl hl

theorem TrQuiet.congr {st st' : St} (h : TrQuiet st) (htr : st'.tr = st.tr) : TrQuiet st' := by
  unfold TrQuiet at *; rw [htr]; exact h

theorem trQuiet_pollStep {c : Cfg} {st : St} (h : TrQuiet st) : TrQuiet (pollStep c st) := by
  unfold pollStep
  split
  · exact h.ext rfl (by rfl)
  · exact h.congr rfl

theorem trQuiet_doProbe {c : Cfg} {st : St} (h : TrQuiet st) : TrQuiet (doProbe c st) := by
  simp only [doProbe]
  split
  · exact h.ext rfl (by rfl)
  · exact h.congr rfl

theorem trQuiet_pass {st : St} (h : TrQuiet st) : TrQuiet (pass st) := h.ext rfl (by rfl)

structure IH5 (n : Nat) : Prop where
  exec : ∀ c s st, TrQuiet st → TrQuiet (exec n c s st).2
  block : ∀ c b st, TrQuiet st → TrQuiet (execBlock n c b st).2
  loop : ∀ c k b st, TrQuiet st → TrQuiet (execLoop n c k b st).2
  frame : ∀ c g i t b st, TrQuiet st → TrQuiet (execFrame n c g i t b st).2
  native : ∀ c g i t k b st, TrQuiet st → TrQuiet (execNative n c g i t k b st).2
  forOf : ∀ c i k brk nx b rt st, TrQuiet st → TrQuiet (execForOf n c i k brk nx b rt st).2

theorem quietSpec (c : Cfg) : StateSpec c (fun _ st => TrQuiet st) where
  congr := fun h _ _ _ _ _ htr => h.congr htr
  oof := id
  thrown := Iff.rfl
  raise := fun h _ => (trQuiet_pollStep h).emit (by rfl)
  blockEnd := fun h _ => (trQuiet_pollStep h).emit (by rfl)
  step := fun h _ => (trQuiet_pass (trQuiet_pollStep h)).emit (by rfl)
  probe := fun h _ => (trQuiet_doProbe (trQuiet_pass (trQuiet_pollStep h))).emit (by rfl)
  log := fun _ h _ => h
  swallow := fun h => h.emit (by rfl)

theorem trQuiet_all (n : Nat) : IH5 n :=
  have m (c : Cfg) := (quietSpec c).toSpec.sound n
  { exec := fun c => (m c).exec
    block := fun c => (m c).block
    loop := fun c => (m c).loop
    frame := fun c => (m c).frame
    native := fun c => (m c).native
    forOf := fun c => (m c).forOf }

end GojaModel.C15
