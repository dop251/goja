/-
  C15 — elementary facts about the sequential model: handleThrow with an uncatchable payload, the state transformers, the
  interpreter once the flag is visible.
-/
import GojaModel.C15.Model

namespace GojaModel.C15

theorem frameAction_none (tf : TF) :
    (tf.catchPos ≠ tryPanicMarker ∧ frameAction tf true = .skip) ∨ (tf.catchPos = tryPanicMarker ∧ frameAction tf true = .stop) := by
  by_cases h : tf.catchPos = tryPanicMarker
  · right; refine ⟨h, ?_⟩; simp [frameAction, skipFrame, h, tryPanicMarker]
  · left; refine ⟨h, ?_⟩; simp [frameAction, skipFrame, h]

theorem handleThrow_none_propagates (ts : List TF) (cs : Nat) :
    ∃ ts' cs', handleThrow true ts cs = .propagate ts' cs' := by
  induction ts with
  | nil => exact ⟨[], cs, rfl⟩
  | cons tf rest ih =>
    rcases frameAction_none tf with ⟨_, h⟩ | ⟨_, h⟩
    · simp only [handleThrow, h]; exact ih
    · simp only [handleThrow, h]; exact ⟨_, _, rfl⟩

/-- script-level handler frames: what handleThrow(ex = nil) skips -/
def allHandlers (hs : List TF) : Prop := ∀ tf ∈ hs, tf.catchPos ≠ tryPanicMarker

theorem allHandlers_nil : allHandlers [] := by intro tf h; cases h

theorem handlerTF_isHandler (cs : Nat) (hc hf : Bool) : (handlerTF cs hc hf).catchPos ≠ tryPanicMarker := by
  cases hc <;> simp [handlerTF, tryPanicMarker]

theorem handleThrow_none_handlers (hs rest : List TF) (m : TF) (cs : Nat) (hh : allHandlers hs)
    (hm : m.catchPos = tryPanicMarker) :
    handleThrow true (hs ++ m :: rest) cs = .propagate (m :: rest) (truncCs m cs) := by
  induction hs with
  | nil =>
    rcases frameAction_none m with ⟨h, _⟩ | ⟨_, h⟩
    · exact absurd hm h
    · simp [handleThrow, h]
  | cons tf hs ih =>
    have htf : tf.catchPos ≠ tryPanicMarker := hh tf (by simp)
    rcases frameAction_none tf with ⟨_, h⟩ | ⟨h, _⟩
    · simp only [List.cons_append, handleThrow, h]
      exact ih (fun x hx => hh x (by simp [hx]))
    · exact absurd h htf

theorem unwindNone_marker {hs rest : List TF} {k cs : Nat} (hh : allHandlers hs) (hk : k ≤ cs) :
    unwindNone (hs ++ markerTF k :: rest) cs = (markerTF k :: rest, k) := by
  have e : truncCs (markerTF k) cs = k := by
    unfold truncCs
    by_cases h : (markerTF k).csLen < cs
    · rw [if_pos h]; rfl
    · rw [if_neg h]; exact Nat.le_antisymm (Nat.le_of_not_lt h) hk
  rw [unwindNone, handleThrow_none_handlers hs rest (markerTF k) cs hh rfl, e]

theorem pollStep_flag {c : Cfg} {st : St} (h : st.flag = true) : pollStep c st = { st with polls := st.polls + 1 } := by
  simp [pollStep, h]

theorem pollStep_ts (c : Cfg) (st : St) : (pollStep c st).ts = st.ts := by unfold pollStep; split <;> rfl
theorem pollStep_cs (c : Cfg) (st : St) : (pollStep c st).cs = st.cs := by unfold pollStep; split <;> rfl
theorem pollStep_car (c : Cfg) (st : St) : (pollStep c st).car = st.car := by unfold pollStep; split <;> rfl
theorem pollStep_log (c : Cfg) (st : St) : (pollStep c st).log = st.log := by unfold pollStep; split <;> rfl
theorem pollStep_queue (c : Cfg) (st : St) : (pollStep c st).queue = st.queue := by unfold pollStep; split <;> rfl
theorem pollStep_execs (c : Cfg) (st : St) : (pollStep c st).execs = st.execs := by unfold pollStep; split <;> rfl
theorem doProbe_ts (c : Cfg) (st : St) : (doProbe c st).ts = st.ts := by simp only [doProbe]; split <;> rfl
theorem doProbe_cs (c : Cfg) (st : St) : (doProbe c st).cs = st.cs := by simp only [doProbe]; split <;> rfl
theorem doProbe_car (c : Cfg) (st : St) : (doProbe c st).car = st.car := by simp only [doProbe]; split <;> rfl

theorem enterFrame_ts_cs (g : Bool) (st : St) :
    (enterFrame g st).ts = markerTF (if g then st.cs + 1 else st.cs) :: st.ts ∧
    (enterFrame g st).cs = (if g then st.cs + 2 else st.cs + 1) := by
  cases g <;> simp [enterFrame]

/-- what two states share when no script code ran between them: every field but the ghosts `polls`, `tr` (and the
    harness's probe counter `probes`, which is left out) -/
structure SameObs (st st' : St) : Prop where
  flag : st'.flag = st.flag
  val : st'.val = st.val
  log : st'.log = st.log
  queue : st'.queue = st.queue
  cs : st'.cs = st.cs
  ts : st'.ts = st.ts
  car : st'.car = st.car
  execs : st'.execs = st.execs
  frozen : st'.frozen = st.frozen

theorem sameObs_raise_poll {c : Cfg} {st : St} (h : st.flag = true) : SameObs st (raise (pollStep c st)) := by
  rw [pollStep_flag h]; constructor <;> rfl

theorem exec_flag_succ (n : Nat) (c : Cfg) (s : Stmt) (st : St) (h : st.flag = true) :
    exec (n + 1) c s st = (.intr st.val, raise (pollStep c st)) := by
  have hf : (pollStep c st).flag = true := by rw [pollStep_flag h]; exact h
  rw [exec, if_pos hf, pollStep_flag h]

/-- `n + 2`: a non-empty block hands `n + 1` to its first statement, which needs one unit to poll -/
theorem execBlock_flag_succ (n : Nat) (c : Cfg) (b : List Stmt) (st : St) (h : st.flag = true) :
    execBlock (n + 2) c b st = (.intr st.val, raise (pollStep c st)) := by
  have hf : (pollStep c st).flag = true := by rw [pollStep_flag h]; exact h
  cases b with
  | nil => rw [execBlock, if_pos hf, pollStep_flag h]
  | cons s rest => rw [execBlock, exec_flag_succ n c s st h, if_neg (by simp)]

theorem execBlock_flag (fuel : Nat) (c : Cfg) (b : List Stmt) (st : St) (h : st.flag = true) :
    execBlock fuel c b st = (.intr st.val, raise (pollStep c st)) ∨ execBlock fuel c b st = (.oof, st) := by
  have hf : (pollStep c st).flag = true := by rw [pollStep_flag h]; exact h
  match fuel, b with
  | 0, _ => right; rw [execBlock]
  | 1, [] => left; rw [execBlock, if_pos hf, pollStep_flag h]
  | 1, s :: rest => right; rw [execBlock, exec, if_neg (by simp)]
  | n + 2, b => exact Or.inl (execBlock_flag_succ n c b st h)

end GojaModel.C15
