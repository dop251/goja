/-
  C15 — the formal join of the two models: the sequential interpreter (Model.lean) emits, as a ghost, the list of
  actions of the interleaving model (Conc.lean) that it performs — its own polls, instructions, lock/read/unlock,
  control steps, and the four atomic actions of every Interrupt call (goroutine 0 = the runner inside probe(),
  goroutine 1 = another goroutine whose Interrupt completes just before a given poll).  This file proves, for
  the whole interpreter (an instance of `Spec.sound`: one fact per primitive action), that this list IS an execution of
  `Conc` (every action is enabled when it is taken) and that the two states agree on the shared cells and on where the
  runner is.
-/
import GojaModel.C15.Logic
import GojaModel.C15.Step

namespace GojaModel.C15
open GojaModel.C15.Conc

/-- `s.depth = 0`: the interpreter does not trace nesting; a native frame is the coarse label `rCtl`, and `rInstrEnter`,
    `rHalt`, `rReenter`, `rNativeRet`, `rJob`, `rLeaveDone`, `rUnwind`, `rSwallow` are never emitted, so its traces do not
    exercise the `depth` / `inLeave` / `queue` part of `Conc` -/
def Rel (s : S) (st : St) : Prop :=
  s.flag = st.flag ∧ s.val = st.val ∧ s.lock = none ∧ (∀ t, s.ipc t = .idle) ∧ s.depth = 0

def At (s0 : S) (st : St) (p : RPc) : Prop := ∃ s, run s0 st.tr = some s ∧ Rel s st ∧ s.rpc = p

abbrev Live (s0 : S) (st : St) : Prop := At s0 st .poll
abbrev Armed (s0 : S) (st : St) : Prop := At s0 st .exec
abbrev Dead (s0 : S) (st : St) (v : Nat) : Prop := At s0 st (.raised v)

def Sim (s0 : S) (r : Outcome × St) : Prop :=
  ((r.1 = .normal ∨ r.1 = .thrown) → Live s0 r.2) ∧ (∀ v, r.1 = .intr v → Dead s0 r.2 v)

theorem At.congr {s0 : S} {st st' : St} {p : RPc} (h : At s0 st p) (htr : st'.tr = st.tr) (hf : st'.flag = st.flag)
    (hv : st'.val = st.val) : At s0 st' p := by
  obtain ⟨s, hr, ⟨a, b, c, d, e⟩, hp⟩ := h
  exact ⟨s, by rw [htr]; exact hr, ⟨by rw [hf]; exact a, by rw [hv]; exact b, c, d, e⟩, hp⟩

theorem At.steps {s0 : S} {st st' : St} {p p' : RPc} {ls : List Label} (h : At s0 st p) (htr : st'.tr = st.tr ++ ls)
    (hs : ∀ s, Rel s st → s.rpc = p → ∃ s', run s ls = some s' ∧ Rel s' st' ∧ s'.rpc = p') : At s0 st' p' := by
  obtain ⟨s, hr, hrel, hp⟩ := h
  obtain ⟨s', h1, h2, h3⟩ := hs s hrel hp
  exact ⟨s', by rw [htr, run_append, hr]; exact h1, h2, h3⟩

theorem Sim.oof (s0 : S) (st : St) : Sim s0 (.oof, st) := by
  unfold Sim
  constructor
  · intro h; rcases h with h | h <;> simp at h
  · intro v h; simp at h

theorem Sim.live {s0 : S} {o : Outcome} {st : St} (h : Live s0 st) (ho : o = .normal ∨ o = .thrown) : Sim s0 (o, st) :=
  ⟨fun _ => h, fun v hv => by rcases ho with rfl | rfl <;> cases hv⟩

theorem Sim.dead {s0 : S} {st : St} {v : Nat} (h : Dead s0 st v) : Sim s0 (.intr v, st) := by
  unfold Sim
  constructor
  · intro h; rcases h with h | h <;> simp at h
  · intro w hw; simp at hw; subst hw; exact h

theorem Sim.restack {s0 : S} {r : Outcome × St} (h : Sim s0 r) (o : Outcome) (st' : St)
    (ho : (o = .normal ∨ o = .thrown) → (r.1 = .normal ∨ r.1 = .thrown)) (hi : ∀ v, o = .intr v → r.1 = .intr v)
    (htr : st'.tr = r.2.tr) (hf : st'.flag = r.2.flag) (hv : st'.val = r.2.val) : Sim s0 (o, st') := by
  unfold Sim at *
  exact ⟨fun h1 => (h.1 (ho h1)).congr htr hf hv, fun v h1 => (h.2 v (hi v h1)).congr htr hf hv⟩

theorem run_interrupt (s : S) (t v : Nat) (hi : ∀ t, s.ipc t = .idle) (hl : s.lock = none) :
    ∃ s', run s (interruptLabels t v) = some s' ∧ s'.flag = true ∧ s'.val = v ∧ s'.lock = none ∧
      (∀ t, s'.ipc t = .idle) ∧ s'.depth = s.depth ∧ s'.rpc = s.rpc := by
  let ipc' : Nat → IPc := setI (setI (setI (setI s.ipc t (.locked v)) t (.wrote v)) t .stored) t .idle
  refine ⟨{ s with flag := true, val := v, hist := s.hist ++ [v], lock := none, ipc := ipc' }, ?_, rfl, rfl, rfl, ?_, rfl, rfl⟩
  · simp [interruptLabels, run, step, hi t, hl, setI_eq, ipc']
  · intro t'
    by_cases h : t' = t
    · subst h; exact setI_eq _ _ _
    · simp [ipc', setI, h, hi t']

theorem at_interrupt {s0 : S} {st st' : St} {p : RPc} (t v : Nat) (h : At s0 st p)
    (htr : st'.tr = st.tr ++ interruptLabels t v) (hf : st'.flag = true) (hv : st'.val = v) : At s0 st' p := by
  refine h.steps htr ?_
  intro s ⟨_, _, c, d, e⟩ hp
  obtain ⟨s', h1, h2, h3, h4, h5, h6, h7⟩ := run_interrupt s t v d c
  exact ⟨s', h1, ⟨by rw [h2, hf], by rw [h3, hv], h4, h5, by rw [h6, e]⟩, by rw [h7, hp]⟩

theorem live_pollStep {s0 : S} {c : Cfg} {st : St} (h : Live s0 st) : Live s0 (pollStep c st) := by
  unfold pollStep
  split
  · exact at_interrupt 1 c.v h rfl rfl rfl
  · exact h.congr rfl rfl rfl

theorem live_raise {s0 : S} {st : St} (h : Live s0 st) (hf : st.flag = true) : Dead s0 (raise st) st.val := by
  refine h.steps (p' := .raised st.val) rfl ?_
  intro s ⟨a, b, c, d, e⟩ hp
  refine ⟨{ s with rpc := .raised s.val, lock := none }, ?_, ⟨a, b, rfl, d, e⟩, by simp [b]⟩
  simp [run, step, hp, a, hf, c]

theorem live_pass {s0 : S} {st : St} (h : Live s0 st) (hf : st.flag = false) : Armed s0 (pass st) := by
  refine h.steps (ls := [.rPoll]) rfl ?_
  intro s ⟨a, b, c, d, e⟩ hp
  exact ⟨{ s with rpc := .exec }, by simp [run, step, hp, a, hf], ⟨a, b, c, d, e⟩, rfl⟩

theorem armed_instr {s0 : S} {st : St} (h : Armed s0 st) : Live s0 (instr st) := by
  refine h.steps (ls := [.rInstr false]) rfl ?_
  intro s ⟨a, b, c, d, e⟩ hp
  exact ⟨{ s with rpc := .poll, execs := s.execs + 1 }, by simp [run, step, hp], ⟨a, b, c, d, e⟩, rfl⟩

theorem armed_doProbe {s0 : S} {c : Cfg} {st : St} (h : Armed s0 st) : Armed s0 (doProbe c st) := by
  simp only [doProbe]
  split
  · exact at_interrupt 0 c.v (h.congr (st' := { st with log := st.log ++ [Ev.p], probes := st.probes + 1 }) rfl rfl rfl)
      rfl rfl rfl
  · exact h.congr rfl rfl rfl

theorem live_blockEnd {s0 : S} {st : St} (h : Live s0 st) (hf : st.flag = false) : Live s0 (emit [.rPoll, .rCtl] st) := by
  refine h.steps (ls := [.rPoll, .rCtl]) rfl ?_
  intro s ⟨a, b, c, d, e⟩ hp
  exact ⟨{ s with rpc := .poll }, by simp [run, step, hp, a, hf], ⟨a, b, c, d, e⟩, rfl⟩

theorem dead_ctl {s0 : S} {st : St} {v : Nat} (h : Dead s0 st v) : Live s0 (emit [.rCtl] st) := by
  refine h.steps (ls := [.rCtl]) rfl ?_
  intro s ⟨a, b, c, d, e⟩ hp
  exact ⟨{ s with rpc := .poll }, by simp [run, step, hp], ⟨a, b, c, d, e⟩, rfl⟩

structure IH3 (s0 : S) (n : Nat) : Prop where
  exec : ∀ c s st, Live s0 st → Sim s0 (exec n c s st)
  block : ∀ c b st, Live s0 st → Sim s0 (execBlock n c b st)
  loop : ∀ c k b st, Live s0 st → Sim s0 (execLoop n c k b st)
  frame : ∀ c g i t b st, Live s0 st → Sim s0 (execFrame n c g i t b st)
  native : ∀ c g i t k b st, Live s0 st → Sim s0 (execNative n c g i t k b st)
  forOf : ∀ c i k brk nx b rt st, Live s0 st → Sim s0 (execForOf n c i k brk nx b rt st)

theorem simSpec (s0 : S) (c : Cfg) : StateSpec c (fun o st => Sim s0 (o, st)) where
  congr := fun h hf hv _ _ _ htr => h.restack _ _ id (fun _ h => h) htr hf hv
  oof := fun _ => Sim.oof _ _
  thrown := ⟨fun h => Sim.live (h.1 (Or.inr rfl)) (Or.inl rfl), fun h => Sim.live (h.1 (Or.inl rfl)) (Or.inr rfl)⟩
  raise := fun h hf => Sim.dead (live_raise (live_pollStep (h.1 (Or.inl rfl))) hf)
  blockEnd := fun h hf => Sim.live (live_blockEnd (live_pollStep (h.1 (Or.inl rfl))) hf) (Or.inl rfl)
  step := fun h hf => Sim.live (armed_instr (live_pass (live_pollStep (h.1 (Or.inl rfl))) hf)) (Or.inl rfl)
  probe := fun h hf =>
    Sim.live (armed_instr (armed_doProbe (live_pass (live_pollStep (h.1 (Or.inl rfl))) hf))) (Or.inl rfl)
  log := fun _ h _ => h.restack _ _ id (fun _ h => h) rfl rfl rfl
  swallow := fun h => Sim.live (dead_ctl (h.2 _ rfl)) (Or.inl rfl)

theorem sim_all (s0 : S) (n : Nat) : IH3 s0 n :=
  have m (c : Cfg) := (simSpec s0 c).toSpec.sound n
  { exec := fun c s st h => (m c).exec s st (Sim.live h (Or.inl rfl))
    block := fun c b st h => (m c).block b st (Sim.live h (Or.inl rfl))
    loop := fun c k b st h => (m c).loop k b st (Sim.live h (Or.inl rfl))
    frame := fun c g i t b st h => (m c).frame g i t b st (Sim.live h (Or.inl rfl))
    native := fun c g i t k b st h => (m c).native g i t k b st (Sim.live h (Or.inl rfl))
    forOf := fun c i k brk nx b rt st h => (m c).forOf i k brk nx b rt st (Sim.live h (Or.inl rfl)) }

theorem runJobs_sim (s0 : S) (n : Nat) (c : Cfg) (batch : List (List Stmt)) (st : St) (h : Live s0 st) :
    Sim s0 (runJobs n c batch st) :=
  (simSpec s0 c).toSpec.runJobs n batch st (Sim.live h (Or.inl rfl))

theorem idle_call {s0 : S} {st st' : St} (h : At s0 st .idle) (htr : st'.tr = st.tr ++ [.rCall])
    (hf : st'.flag = st.flag) (hv : st'.val = st.val) : Live s0 st' := by
  refine h.steps htr ?_
  intro s ⟨a, b, c, d, _⟩ hp
  exact ⟨{ s with rpc := .poll, depth := 0, inLeave := false, result := none }, by simp [run, step, hp],
    ⟨by rw [hf]; exact a, by rw [hv]; exact b, c, d, rfl⟩, rfl⟩

theorem dead_return {s0 : S} {st st' : St} {v : Nat} (h : Dead s0 st v) (htr : st'.tr = st.tr ++ [.rReturn])
    (hf : st'.flag = false) (hv : st'.val = st.val) : At s0 st' .idle := by
  refine h.steps htr ?_
  intro s ⟨_, b, c, d, e⟩ hp
  exact ⟨{ s with rpc := .idle, flag := false, queue := 0, inLeave := false, result := some v }, by simp [run, step, hp, e],
    ⟨by rw [hf], by rw [hv]; exact b, c, d, e⟩, rfl⟩

theorem live_exit {s0 : S} {st st' : St} (h : Live s0 st) (htr : st'.tr = st.tr ++ [.rExit])
    (hf : st'.flag = st.flag) (hv : st'.val = st.val) : At s0 st' .idle := by
  refine h.steps htr ?_
  intro s ⟨a, b, c, d, e⟩ hp
  exact ⟨{ s with rpc := .idle }, by simp [run, step, hp], ⟨by rw [hf]; exact a, by rw [hv]; exact b, c, d, e⟩, rfl⟩

end GojaModel.C15
