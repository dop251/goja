/-
  C15 — two specifications the sequential interpreter meets (instances of `Spec.sound`):
  the interrupt invariant (value and frozen event log) and the vm.curAsyncRunner discipline.
-/
import GojaModel.C15.Logic

namespace GojaModel.C15

/-! The interrupt invariant: from the instant Interrupt(v) is called the event log never grows again and the value cell
    holds v; an uncatchable outcome is only ever produced with the flag visible and carries the cell. -/

def Inv (c : Cfg) (st : St) : Prop := st.flag = true → st.log = st.frozen ∧ st.val = c.v

def Good (c : Cfg) (r : Outcome × St) : Prop :=
  Inv c r.2 ∧ (∀ v, r.1 = .intr v → r.2.flag = true ∧ r.2.val = v)

theorem Inv.of_eq {c : Cfg} {st st' : St} (h : Inv c st) (hf : st'.flag = st.flag) (hl : st'.log = st.log)
    (hz : st'.frozen = st.frozen) (hv : st'.val = st.val) : Inv c st' := by
  intro hflag; rw [hf] at hflag; rw [hl, hz, hv]; exact h hflag

theorem Inv.of_false {c : Cfg} {st : St} (h : st.flag = false) : Inv c st := by
  intro hf; rw [h] at hf; cases hf

theorem inv_pollStep {c : Cfg} {st : St} (h : Inv c st) : Inv c (pollStep c st) := by
  unfold pollStep
  split
  · intro _; exact ⟨rfl, rfl⟩
  · exact h.of_eq rfl rfl rfl rfl

theorem inv_doProbe {c : Cfg} {st : St} (hf : st.flag = false) : Inv c (doProbe c st) := by
  simp only [doProbe]
  split
  · intro _; exact ⟨rfl, rfl⟩
  · exact Inv.of_false hf

theorem Good.poll {c : Cfg} {st : St} (h : Inv c st) (hf : st.flag = true) : Good c (.intr st.val, raise st) :=
  ⟨h.of_eq rfl rfl rfl rfl, fun _ hv => by cases hv; exact ⟨hf, rfl⟩⟩

theorem Good.plain {c : Cfg} {o : Outcome} {st : St} (h : Inv c st) (ho : ∀ v, o ≠ .intr v) : Good c (o, st) :=
  ⟨h, fun v hv => absurd hv (ho v)⟩

theorem Good.normal {c : Cfg} {st : St} (h : Inv c st) : Good c (.normal, st) := Good.plain h (fun _ h => nomatch h)

theorem Good.restack {c : Cfg} {r : Outcome × St} (h : Good c r) (o : Outcome) (st' : St)
    (ho : ∀ v, o = .intr v → r.1 = .intr v)
    (hf : st'.flag = r.2.flag) (hl : st'.log = r.2.log) (hz : st'.frozen = r.2.frozen) (hv : st'.val = r.2.val) :
    Good c (o, st') := by
  refine ⟨h.1.of_eq hf hl hz hv, fun v hvv => ?_⟩
  have := h.2 v (ho v hvv)
  exact ⟨by rw [hf]; exact this.1, by rw [hv]; exact this.2⟩

structure IH2 (n : Nat) : Prop where
  exec : ∀ c s st, Inv c st → Good c (exec n c s st)
  block : ∀ c b st, Inv c st → Good c (execBlock n c b st)
  loop : ∀ c k b st, Inv c st → Good c (execLoop n c k b st)
  frame : ∀ c g i t b st, Inv c st → Good c (execFrame n c g i t b st)
  native : ∀ c g i t k b st, Inv c st → Good c (execNative n c g i t k b st)
  forOf : ∀ c i k brk nx b rt st, Inv c st → Good c (execForOf n c i k brk nx b rt st)

-- as in Logic.lean
attribute [local irreducible] pollStep

theorem goodSpec (c : Cfg) : StateSpec c (fun o st => Good c (o, st)) where
  congr := fun h hf hv hl hz _ _ => h.restack _ _ (fun _ h => h) hf hl hz hv
  oof := fun h => Good.plain h.1 (fun _ h => nomatch h)
  thrown := ⟨fun h => Good.normal h.1, fun h => Good.plain h.1 (fun _ h => nomatch h)⟩
  raise := fun h hf => Good.poll (inv_pollStep h.1) hf
  blockEnd := fun _ hf => Good.normal (Inv.of_false hf)
  step := fun _ hf => Good.normal (Inv.of_false hf)
  probe := fun _ hf => Good.normal ((inv_doProbe (st := pass (pollStep c _)) hf).of_eq rfl rfl rfl rfl)
  log := fun _ h hf => ⟨Inv.of_false hf, h.2⟩
  swallow := fun h => Good.normal (h.1.of_eq rfl rfl rfl rfl)

theorem good_all (n : Nat) : IH2 n :=
  have m (c : Cfg) := (goodSpec c).toSpec.sound n
  { exec := fun c s st h => (m c).exec s st (Good.normal h)
    block := fun c b st h => (m c).block b st (Good.normal h)
    loop := fun c k b st h => (m c).loop k b st (Good.normal h)
    frame := fun c g i t b st h => (m c).frame g i t b st (Good.normal h)
    native := fun c g i t k b st h => (m c).native g i t k b st (Good.normal h)
    forOf := fun c i k brk nx b rt st h => (m c).forOf i k brk nx b rt st (Good.normal h) }

theorem runJobs_good (n : Nat) (c : Cfg) (batch : List (List Stmt)) (st : St) (h : Inv c st) :
    Good c (runJobs n c batch st) :=
  (goodSpec c).toSpec.runJobs n batch st (Good.normal h)

def CarOk (st : St) (r : Outcome × St) : Prop := r.2.car = st.car ∨ r.2.car = false

theorem CarOk.same {st st' : St} (o : Outcome) (h : st'.car = st.car) : CarOk st (o, st') := Or.inl h

theorem CarOk.of_eq {st st0 : St} {r : Outcome × St} (h0 : st.car = st0.car) (h : CarOk st r) : CarOk st0 r := by
  unfold CarOk at *; rw [h0] at h; exact h

theorem CarOk.andThen {st : St} {r r' : Outcome × St} (h : CarOk st r) (h' : CarOk r.2 r') : CarOk st r' := by
  unfold CarOk at *
  rcases h' with h' | h'
  · rcases h with h | h
    · left; rw [h', h]
    · right; rw [h', h]
  · right; exact h'

structure IH4 (n : Nat) : Prop where
  exec : ∀ c s st, CarOk st (exec n c s st)
  block : ∀ c b st, CarOk st (execBlock n c b st)
  loop : ∀ c k b st, CarOk st (execLoop n c k b st)
  frame : ∀ c g i t b st, CarOk st (execFrame n c g i t b st)
  native : ∀ c g i t k b st, CarOk st (execNative n c g i t k b st)
  forOf : ∀ c i k brk nx b rt st, CarOk st (execForOf n c i k brk nx b rt st)

theorem carSpec (c : Cfg) : Spec c (fun _ => True) CarOk where
  oof := fun _ => Or.inl rfl
  skip := fun _ => Or.inl rfl
  raise := fun _ _ => CarOk.same _ (pollStep_car c _)
  blockEnd := fun _ _ => CarOk.same _ (pollStep_car c _)
  enter := fun _ _ => ⟨trivial, fun _ h => CarOk.of_eq (pollStep_car c _) h⟩
  probe := fun _ _ => CarOk.same _ ((doProbe_car c _).trans (pollStep_car c _))
  touch := fun _ _ h _ => h
  seq := fun h _ => ⟨trivial, fun _ h' => h.andThen h'⟩
  retag := fun h _ _ => h
  frame := fun g i t st _ => by
    refine ⟨trivial, fun r h => ?_⟩
    have hb : CarOk st r := CarOk.of_eq (by cases g <;> rfl) h
    obtain ⟨o, st1⟩ := r
    cases o with
    | normal => exact hb
    | thrown => exact hb
    | oof => exact hb
    | intr v => cases g <;> cases i <;> exact hb
  async := fun _ => ⟨trivial, fun _ _ => Or.inr rfl⟩
  handler := fun _ _ _ _ => ⟨trivial, fun _ h => ⟨fun _ => h, fun _ => h⟩⟩
  drain := fun _ => ⟨trivial, fun _ h => h⟩

theorem carOk_all (n : Nat) : IH4 n :=
  have m (c : Cfg) := (carSpec c).sound n
  { exec := fun c s st => (m c).exec s st trivial
    block := fun c b st => (m c).block b st trivial
    loop := fun c k b st => (m c).loop k b st trivial
    frame := fun c g i t b st => (m c).frame g i t b st trivial
    native := fun c g i t k b st => (m c).native g i t k b st trivial
    forOf := fun c i k brk nx b rt st => (m c).forOf i k brk nx b rt st trivial }

theorem runJobs_carOk (n : Nat) (c : Cfg) (batch : List (List Stmt)) (st : St) : CarOk st (runJobs n c batch st) :=
  (carSpec c).runJobs n batch st trivial

end GojaModel.C15
