/-
  C15 model driver.  Input lines (same as harness/cmd/c15):
      case <api> <k> <v> <mode> <pre> <w> | <program>
  Output: res=<ok|exc|intr:V> log=<events> st=<flag>/<jobs>/<call>/<try>/<asyncRunner> after=<..> log2=<..> st2=<..>
  `soak` lines are implementation-only (the model's statement about them is theorem `Props.prompt_partial`); answered "soak".
-/
import GojaModel.Base.Proto
import GojaModel.C15.Model

namespace GojaModel.C15.Driver
open GojaModel.C15

mutual
def parseBlockItems : Nat → List String → Option (List Stmt × List String)
  | 0, _ => none
  | _ + 1, [] => none
  | _ + 1, ")" :: rest => some ([], rest)
  | fuel + 1, toks =>
    match parseStmt fuel toks with
    | some (s, rest) =>
      match parseBlockItems fuel rest with
      | some (ss, rest') => some (s :: ss, rest')
      | none => none
    | none => none

def parseBlock : Nat → List String → Option (List Stmt × List String)
  | 0, _ => none
  | fuel + 1, "(" :: rest => parseBlockItems fuel rest
  | _ + 1, _ => none

def parseStmt : Nat → List String → Option (Stmt × List String)
  | 0, _ => none
  | _ + 1, "L" :: n :: rest => n.toNat?.map fun k => (Stmt.log k, rest)
  | _ + 1, "P" :: rest => some (Stmt.probe, rest)
  | _ + 1, "T" :: rest => some (Stmt.throw, rest)
  | fuel + 1, "W" :: n :: rest =>
    match n.toNat?, parseBlock fuel rest with
    | some k, some (b, rest') => some (Stmt.loop k b, rest')
    | _, _ => none
  | fuel + 1, "Y" :: c :: f :: rest =>
    match parseBlock fuel rest with
    | some (b1, r1) =>
      match parseBlock fuel r1 with
      | some (b2, r2) =>
        match parseBlock fuel r2 with
        | some (b3, r3) =>
          -- the renderer emits `finally` whenever there is no catch (a bare `try{}` is not JavaScript)
          let hc := c != "0"
          some (Stmt.tryc hc (f != "0" || !hc) b1 b2 b3, r3)
        | none => none
      | none => none
    | none => none
  | fuel + 1, "N" :: kind :: reps :: rest =>
    match kind.toNat?, reps.toNat?, parseBlock fuel rest with
    | some k, some r, some (b, rest') =>
      let a := kindAttrs k
      -- kinds whose native calls the body exactly once whatever `reps` says
      let r' := if k % nKinds == 1 then r else 1
      some (Stmt.native a.1 a.2.1 a.2.2 r' b, rest')
    | _, _, _ => none
  | fuel + 1, "Q" :: rest =>
    match parseBlock fuel rest with
    | some (b, rest') => some (Stmt.enqueue b, rest')
    | none => none
  | fuel + 1, "H" :: rest =>
    -- Promise.resolve({then(r){ BODY; r() }}): one job (newPromiseResolveThenableJob) whose body is the user's then()
    match parseBlock fuel rest with
    | some (b, rest') => some (Stmt.enqueue b, rest')
    | none => none
  | fuel + 1, "A" :: rest =>
    -- (async function(){ PRE; await 1; POST })():  body up to the await runs in a generator frame (asyncRunner.start),
    -- the continuation is a promise job that re-enters through generator.next (generator frame again)
    match parseBlock fuel rest with
    | some (pre, r1) =>
      match parseBlock fuel r1 with
      | some (post, r2) =>
        some (Stmt.native true false true 1 (pre ++ [Stmt.enqueue [Stmt.asyncResume post]]), r2)
      | none => none
    | none => none
  | fuel + 1, "B" :: rest =>
    -- (async function outer(){ await (async function inner(){ PRE; await 1; POST })(); POST2 })()
    -- inner's continuation J1 is queued at `await 1`; outer's continuation is queued when inner's promise settles:
    -- J2 (runs POST2) at the end of J1, or a continuation that only re-throws (no events) if PRE or POST threw.
    match parseBlock fuel rest with
    | some (pre, r1) =>
      match parseBlock fuel r1 with
      | some (post, r2) =>
        match parseBlock fuel r2 with
        | some (post2, r3) =>
          let gen (b : List Stmt) : Stmt := Stmt.native true false true 1 b
          -- continuations run through asyncRunner.onFulfilled / onRejected (vm.curAsyncRunner set, reset deferred)
          let jFail : List Stmt := [Stmt.asyncResume [Stmt.throw]]
          let j2 : List Stmt := [Stmt.asyncResume post2]
          let j1 : List Stmt := [Stmt.asyncResume [Stmt.tryc true false (post ++ [Stmt.enqueue j2]) [Stmt.enqueue jFail] []]]
          let inner : Stmt := gen [Stmt.tryc true false (pre ++ [Stmt.enqueue j1]) [Stmt.enqueue jFail] []]
          some (gen [inner], r3)
        | none => none
      | none => none
    | none => none
  | fuel + 1, "F" :: n :: brk :: rest =>
    match n.toNat?, parseBlock fuel rest with
    | some k, some (b1, r1) =>
      match parseBlock fuel r1 with
      | some (b2, r2) =>
        match parseBlock fuel r2 with
        | some (b3, r3) => some (Stmt.forOf k (brk != "0") b1 b2 b3, r3)
        | none => none
      | none => none
    | _, _ => none
  | _ + 1, _ => none
end

def evStr : Ev → String
  | .n k => toString k
  | .p => "P"

def logStr (l : List Ev) : String := ",".intercalate (l.map evStr)

def outStr : Outcome → String
  | .normal => "ok"
  | .thrown => "exc"
  | .intr v => s!"intr:{v}"
  | .oof => "OOF"

def stStr (st : St) : String :=
  s!"{if st.flag then 1 else 0}/{st.queue.length}/{st.cs}/{st.ts.length}/{if st.car then 1 else 0}"

def modelFuel : Nat := 1000000

def runCase (hdr : List String) (prog : List Stmt) : String :=
  match hdr with
  | [api, k, v, _mode, pre, w] =>
    match k.toNat?, v.toNat?, w.toNat? with
    | some k, some v, some w =>
      let st0 : St := {}
      let st0 := if pre == "intr" then { st0 with flag := true, val := w }
                 else if pre == "intrclear" then { st0 with flag := false, val := w }   -- Interrupt(w); ClearInterrupt()
                 else st0
      let fmt (res : String) (st1 : St) : String :=
        let (o2, st2) := apiCall modelFuel { k := 0, v := 0 } [Stmt.log 999] { st1 with log := [] }
        s!"res={res} log={logStr st1.log} st={stStr st1} after={outStr o2} log2={logStr st2.log} st2={stStr st2}"
      if api == "errstr" then
        -- RunString("throw {toString(){PROG}}"), then the host calls err.Error() while idle: valueString runs the
        -- toString under vm.try, swallows an uncatchable and (depth 0) calls leaveAbrupt; leave() is not called
        let (o0, s0) := apiCall modelFuel { k := k, v := v } [Stmt.throw] st0
        match o0 with
        | .thrown =>
          let (o1, s1) := apiCallJ false modelFuel { k := k, v := v } prog s0
          match o1 with
          | .normal => fmt "errstr:boom" s1
          | .oof => fmt "OOF" s1
          | _ => fmt "errstr:placeholder" s1
        | o => fmt (outStr o) s0
      else
        -- api `try` = Runtime.Try: same frames, but leave() is not called (queued jobs wait for the next call)
        let (o1, st1) := apiCallJ (api != "try") modelFuel { k := k, v := v } prog st0
        fmt (outStr o1) st1
    | _, _, _ => "ERR bad numbers"
  | _ => "ERR bad case header"

def handle (line : String) : String :=
  let line := line.trimAscii.toString
  if line == "profile on" || line == "profile off" then line   -- which of the two run loops executes is invisible to the model
  else if line.startsWith "soak " then "soak (implementation only; the model's statement is theorem prompt_partial)"
  else if line.startsWith "tickcase " then "tickcase (implementation only; judged against the spec: no tick after the n-th, clean state)"
  else if line.startsWith "case " then
    match (line.drop 5).toString.splitOn "|" with
    | [h, p] =>
      let toks := GojaModel.Proto.words p
      match parseBlock (toks.length + 2) toks with
      | some (prog, []) => runCase (GojaModel.Proto.words h) prog
      | _ => "ERR parse"
    | _ => "ERR no program"
  else "ERR unknown line"

def main : IO Unit := GojaModel.Proto.lineMap handle

end GojaModel.C15.Driver
