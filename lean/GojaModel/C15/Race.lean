/-
  C15 — invariants of executions of the interleaving model `Conc`, each by cases on `Step`.
  Along quiet labels with the store visible: the potential `execs + allowance` never grows.
  For ARBITRARY executions from the initial state — any number of interrupting goroutines, their four atomic actions
  interleaved anywhere, ClearInterrupt (`clear`, an unlocked atomic store of 0) at any moment, the runner anywhere:
    * the value cell (`ValInv`): a set flag always has a value, and that value is the LAST one written;
    * mutual exclusion of interruptLock (`Mutex`);
    * provenance (`Prov`): a value the runner has read, is raising, or has returned was written by some Interrupt;
    * the history, with the argument of a call that has the lock and has not written yet (`pending`), is the list of
      Interrupt arguments in lock order (`run_rep`), so every written value is the argument of an `iLock` of the
      execution, and the flag is the last write to it.
-/
import GojaModel.C15.Step

namespace GojaModel.C15.Conc

theorem step_quiet {s s' : S} {l : Label} (h : step s l = some s') (hq : quiet l = true) (hf : s.flag = true) :
    s'.flag = true ∧ s'.execs + allowance s'.rpc ≤ s.execs + allowance s.rpc := by
  cases Step.of_step h with
  | iStore _ => exact ⟨rfl, Nat.le_refl _⟩
  | clear => cases hq
  | rReturn _ _ => cases hq
  | rPoll hp => exact ⟨hf, by simp [allowance, hf]⟩
  | rLock hp _ => exact ⟨hf, by simp [allowance, hp]⟩
  | rRead hp => exact ⟨hf, by simp [allowance, hp]⟩
  | rUnlock hp => exact ⟨hf, by simp [allowance, hp]⟩
  | loc _ hk => exact ⟨hf, hk.allow⟩
  | _ => exact ⟨hf, Nat.le_refl _⟩

theorem run_quiet {ls : List Label} : ∀ {s s' : S}, run s ls = some s' → allQuiet ls = true → s.flag = true →
    s'.flag = true ∧ s'.execs + allowance s'.rpc ≤ s.execs + allowance s.rpc := by
  induction ls with
  | nil => intro s s' h _ hf; cases h; exact ⟨hf, Nat.le_refl _⟩
  | cons l ls ih =>
    intro s s' h hq hf
    obtain ⟨s1, h1, h⟩ := run_cons_some h
    rw [allQuiet_cons, Bool.and_eq_true] at hq
    have a := step_quiet h1 hq.1 hf
    have b := ih h hq.2 a.1
    exact ⟨b.1, Nat.le_trans b.2 a.2⟩

theorem step_execs_mono {s s' : S} {l : Label} (h : step s l = some s') : s.execs ≤ s'.execs := by
  cases Step.of_step h with
  | loc _ hk => exact hk.mono
  | _ => exact Nat.le_refl _

theorem run_execs_mono {ls : List Label} {s s' : S} (h : run s ls = some s') : s.execs ≤ s'.execs :=
  run_invariant (I := fun x => s.execs ≤ x.execs) (fun h1 hI => Nat.le_trans hI (step_execs_mono h1)) h (Nat.le_refl _)

structure ValInv (s : S) : Prop where
  last : s.hist ≠ [] → s.hist.getLast? = some s.val
  flagNE : s.flag = true → s.hist ≠ []
  wroteNE : ∀ t v, s.ipc t = .wrote v → s.hist ≠ []
  runnerNE : (s.rpc = .wantLock ∨ s.rpc = .haveLock) → s.hist ≠ []

theorem valInv_init : ValInv init := by
  constructor <;> simp [init]

theorem setI_wrote {f : Nat → IPc} {t t' : Nat} {x : IPc} {v : Nat} (hx : ∀ v, x ≠ .wrote v)
    (h : setI f t x t' = .wrote v) : f t' = .wrote v := by
  simp only [setI] at h
  split at h
  · exact absurd h (hx v)
  · exact h

theorem step_valInv {s s' : S} {l : Label} (h : step s l = some s') (I : ValInv s) : ValInv s' := by
  obtain ⟨i1, i2, i3, i4⟩ := I
  cases Step.of_step h with
  | iLock _ _ => exact ⟨i1, i2, fun t' v' hw => i3 t' v' (setI_wrote (by intro _ h; cases h) hw), i4⟩
  | iWrite _ => refine ⟨?_, ?_, ?_, ?_⟩ <;> simp
  | iStore hv => exact ⟨i1, fun _ => i3 _ _ hv, fun _ _ _ => i3 _ _ hv, i4⟩
  | iUnlock _ => exact ⟨i1, i2, fun t' v' hw => i3 t' v' (setI_wrote (by intro _ h; cases h) hw), i4⟩
  | clear => exact ⟨i1, nofun, i3, i4⟩
  | rPoll _ =>
    refine ⟨i1, i2, i3, fun hh => ?_⟩
    cases hf : s.flag with
    | true => exact i2 hf
    | false => rw [hf] at hh; rcases hh with hh | hh <;> cases hh
  | rLock hp _ => exact ⟨i1, i2, i3, fun _ => i4 (Or.inl hp)⟩
  | rRead _ => exact ⟨i1, i2, i3, fun hh => by rcases hh with hh | hh <;> cases hh⟩
  | rUnlock _ => exact ⟨i1, i2, i3, fun hh => by rcases hh with hh | hh <;> cases hh⟩
  | rReturn _ _ => exact ⟨i1, nofun, i3, fun hh => by rcases hh with hh | hh <;> cases hh⟩
  | loc _ hk =>
    exact ⟨i1, i2, i3, fun hh => by rcases hh with hh | hh; exact absurd hh hk.noLock.1; exact absurd hh hk.noLock.2.1⟩

structure Mutex (s : S) : Prop where
  m1 : ∀ t, s.ipc t ≠ .idle → s.lock = some (t + 1)
  m2 : (s.rpc = .haveLock ∨ ∃ v, s.rpc = .gotVal v) → s.lock = some 0

theorem Mutex.free {s : S} (h : Mutex s) (hl : s.lock = none) : ∀ t, s.ipc t = .idle := by
  intro t
  by_cases hi : s.ipc t = .idle
  · exact hi
  · have := h.m1 t hi; rw [hl] at this; cases this

theorem Mutex.runner_excludes {s : S} (h : Mutex s) (hr : s.rpc = .haveLock ∨ ∃ v, s.rpc = .gotVal v) :
    ∀ t, s.ipc t = .idle := by
  intro t
  by_cases hi : s.ipc t = .idle
  · exact hi
  · have a := h.m1 t hi; have b := h.m2 hr; rw [b] at a; cases a

/-- at most one Interrupt call is inside its critical section -/
theorem Mutex.unique {s : S} (h : Mutex s) {t t' : Nat} (ht : s.ipc t ≠ .idle) (ht' : s.ipc t' ≠ .idle) : t = t' := by
  have a := h.m1 t ht; have b := h.m1 t' ht'; rw [a] at b; simpa using b

theorem mutex_init : Mutex init := ⟨fun t h => absurd rfl h, by intro h; rcases h with h | ⟨v, h⟩ <;> cases h⟩

theorem setI_active {f : Nat → IPc} {t t' : Nat} {x : IPc} (ht : f t ≠ .idle) (h : setI f t x t' ≠ .idle) : f t' ≠ .idle := by
  by_cases e : t' = t
  · rw [e]; exact ht
  · rwa [setI_ne _ _ _ _ e] at h

theorem Mutex.keep {s s' : S} (h : Mutex s) (hl : s'.lock = s.lock) (hi : ∀ t, s'.ipc t ≠ .idle → s.ipc t ≠ .idle)
    (hr : (s'.rpc = .haveLock ∨ ∃ v, s'.rpc = .gotVal v) → (s.rpc = .haveLock ∨ ∃ v, s.rpc = .gotVal v)) : Mutex s' :=
  ⟨fun t ht => by rw [hl]; exact h.m1 t (hi t ht), fun hh => by rw [hl]; exact h.m2 (hr hh)⟩

theorem step_mutex {s s' : S} {l : Label} (h : step s l = some s') (M : Mutex s) : Mutex s' := by
  have same : ∀ t, s.ipc t ≠ .idle → s.ipc t ≠ .idle := fun _ h => h
  cases Step.of_step h with
  | @iLock t v _ hl =>
    -- the lock was free, so nobody was inside; now t is
    have fr := M.free hl
    refine ⟨fun t' ht' => ?_, fun hh => by have := M.m2 hh; rw [hl] at this; cases this⟩
    by_cases e : t' = t
    · rw [e]
    · exact absurd (by show setI s.ipc t (IPc.locked v) t' = IPc.idle; rw [setI_ne _ _ _ _ e]; exact fr t') ht'
  | iWrite hv => exact M.keep rfl (fun _ h => setI_active (by rw [hv]; nofun) h) id
  | iStore hv => exact M.keep rfl (fun _ h => setI_active (by rw [hv]; nofun) h) id
  | @iUnlock t hv =>
    -- t held the lock, so nobody else is inside, nor is the runner
    have ht : s.ipc t ≠ .idle := by rw [hv]; nofun
    have lt := M.m1 t ht
    refine ⟨fun t' ht' => ?_, fun hh => by have := M.m2 hh; rw [lt] at this; cases this⟩
    have e : t' = t := M.unique (setI_active ht ht') ht
    rw [e] at ht'; exact absurd (setI_eq _ _ _) ht'
  | clear => exact M.keep rfl same id
  | rPoll _ => exact M.keep rfl same (fun hh => by rcases hh with hh | ⟨v, hh⟩ <;> (split at hh <;> cases hh))
  | rLock _ hl => exact ⟨fun t ht => absurd (M.free hl t) ht, fun _ => rfl⟩
  | rRead hp => exact ⟨M.m1, fun _ => M.m2 (Or.inl hp)⟩
  | rUnlock hp =>
    exact ⟨fun t ht => absurd (M.runner_excludes (Or.inr ⟨_, hp⟩) t) ht, fun hh => by rcases hh with hh | ⟨v, hh⟩ <;> cases hh⟩
  | rReturn _ _ => exact M.keep rfl same (fun hh => by rcases hh with hh | ⟨v, hh⟩ <;> cases hh)
  | loc _ hk =>
    exact M.keep rfl same (fun hh => hh.elim (fun e => absurd e hk.noLock.2.1) (fun ⟨v, e⟩ => absurd e (hk.noLock.2.2 v)))

theorem run_mutex {ls : List Label} : ∀ {s s' : S}, run s ls = some s' → Mutex s → Mutex s' :=
  run_invariant step_mutex

structure Prov (s : S) : Prop where
  got : ∀ v, (s.rpc = .gotVal v ∨ s.rpc = .raised v) → v ∈ s.hist
  res : ∀ v, s.result = some v → v ∈ s.hist

theorem prov_init : Prov init := by
  constructor
  · intro v h; rcases h with h | h <;> simp [init] at h
  · intro v h; simp [init] at h

theorem Prov.keep {s s' : S} (P : Prov s) (hh : ∃ ws, s'.hist = s.hist ++ ws)
    (hr : ∀ v, (s'.rpc = .gotVal v ∨ s'.rpc = .raised v) → (s.rpc = .gotVal v ∨ s.rpc = .raised v))
    (hres : ∀ v, s'.result = some v → s.result = some v) : Prov s' := by
  obtain ⟨ws, hw⟩ := hh
  exact ⟨fun v h => by rw [hw]; exact List.mem_append_left _ (P.got v (hr v h)),
         fun v h => by rw [hw]; exact List.mem_append_left _ (P.res v (hres v h))⟩

theorem step_prov {s s' : S} {l : Label} (h : step s l = some s') (I : ValInv s) (P : Prov s) : Prov s' := by
  have same : ∃ ws, s.hist = s.hist ++ ws := ⟨[], (List.append_nil _).symm⟩
  cases Step.of_step h with
  | iWrite _ => exact P.keep ⟨_, rfl⟩ (fun _ h => h) (fun _ h => h)
  | rPoll _ => exact P.keep same (fun v hh => by rcases hh with hh | hh <;> (split at hh <;> cases hh)) (fun _ h => h)
  | rLock _ _ => exact P.keep same (fun v hh => by rcases hh with hh | hh <;> cases hh) (fun _ h => h)
  | rRead hp =>
    -- the value read is the last one written
    have hne := I.runnerNE (Or.inr hp)
    refine ⟨fun v hh => ?_, P.res⟩
    rcases hh with hh | hh <;> cases hh
    exact List.mem_of_getLast? (I.last hne)
  | rUnlock hp =>
    refine ⟨fun w hh => ?_, P.res⟩
    rcases hh with hh | hh <;> cases hh
    exact P.got _ (Or.inl hp)
  | rReturn hp _ =>
    refine ⟨fun w hh => (by rcases hh with hh | hh <;> cases hh), fun w hh => ?_⟩
    cases hh; exact P.got _ (Or.inr hp)
  | loc _ hk =>
    exact P.keep same (fun v hh => hh.elim (fun e => absurd e (hk.noLock.2.2 v)) (fun e => Or.inr (hk.raised v e))) hk.result
  | _ => exact P.keep same (fun _ h => h) (fun _ h => h)

structure RaceInv (s : S) : Prop where
  val : ValInv s
  mutex : Mutex s
  prov : Prov s

theorem raceInv_init : RaceInv init := ⟨valInv_init, mutex_init, prov_init⟩

theorem run_raceInv {ls : List Label} : ∀ {s s' : S}, run s ls = some s' → RaceInv s → RaceInv s' :=
  run_invariant fun h R => ⟨step_valInv h R.val, step_mutex h R.mutex, step_prov h R.val R.prov⟩

def lockArgs : List Label → List Nat
  | [] => []
  | .iLock _ v :: ls => v :: lockArgs ls
  | _ :: ls => lockArgs ls

theorem lockArgs_local {b : Label} (hb : runnerLocal b = true) : lockArgs [b] = [] := by
  cases b <;> first | rfl | cases hb

/-- the argument of the call that holds the lock and has not written it yet -/
def pending (s : S) : List Nat :=
  match s.lock with
  | some (t + 1) => match s.ipc t with
    | .locked v => [v]
    | _ => []
  | _ => []

theorem pending_of_lock {s : S} {t : Nat} (hl : s.lock = some (t + 1)) :
    pending s = match s.ipc t with | .locked v => [v] | _ => [] := by
  simp only [pending, hl]

theorem pending_free {s : S} (hl : s.lock = none ∨ s.lock = some 0) : pending s = [] := by
  rcases hl with hl | hl <;> simp only [pending, hl]

/-- by `Mutex` the lock says who is inside, so `pending` reads the one interrupter that matters -/
theorem step_rep {s s' : S} {l : Label} (h : step s l = some s') (M : Mutex s) :
    s'.hist ++ pending s' = s.hist ++ pending s ++ lockArgs [l] := by
  cases Step.of_step h with
  | @iLock t v _ hl =>
    -- `pending` goes from `[]` to `[v]`
    rw [pending_free (Or.inl hl), pending_of_lock (t := t) rfl]
    simp [lockArgs, setI_eq]
  | @iWrite t v hv =>
    -- `v` moves from `pending` to `hist`
    have hl := M.m1 t (by rw [hv]; nofun)
    rw [pending_of_lock hl, pending_of_lock (s := { s with val := v, hist := s.hist ++ [v], ipc := setI s.ipc t (.wrote v) }) hl, hv]
    simp [lockArgs, setI_eq]
  | @iStore t v hv =>
    have hl := M.m1 t (by rw [hv]; nofun)
    rw [pending_of_lock hl, pending_of_lock (s := { s with flag := true, ipc := setI s.ipc t .stored }) hl, hv]
    simp [lockArgs, setI_eq]
  | @iUnlock t hv =>
    have hl := M.m1 t (by rw [hv]; nofun)
    rw [pending_of_lock hl, pending_free (s := { s with lock := none, ipc := setI s.ipc t .idle }) (Or.inl rfl), hv]
    simp [lockArgs]
  | rLock _ hl => rw [pending_free (Or.inl hl), pending_free (Or.inr rfl)]; simp [lockArgs]
  | rUnlock hp => rw [pending_free (Or.inr (M.m2 (Or.inr ⟨_, hp⟩))), pending_free (Or.inl rfl)]; simp [lockArgs]
  | loc hb _ => rw [lockArgs_local hb, List.append_nil]; rfl
  | _ => simp only [lockArgs, List.append_nil]; rfl

theorem lockArgs_cons (l : Label) (ls : List Label) : lockArgs (l :: ls) = lockArgs [l] ++ lockArgs ls := by
  cases l <;> rfl

theorem run_rep {ls : List Label} : ∀ {s s' : S}, run s ls = some s' → Mutex s →
    s'.hist ++ pending s' = s.hist ++ pending s ++ lockArgs ls := by
  induction ls with
  | nil => intro s s' h _; cases h; simp [lockArgs]
  | cons l ls ih =>
    intro s s' h M
    obtain ⟨s1, hs, h⟩ := run_cons_some h
    rw [ih h (step_mutex hs M), step_rep hs M, lockArgs_cons l ls, List.append_assoc]

theorem mem_lockArgs {v : Nat} {ls : List Label} (h : v ∈ lockArgs ls) : ∃ t, Label.iLock t v ∈ ls := by
  induction ls with
  | nil => cases h
  | cons l ls ih =>
    have next : v ∈ lockArgs ls → ∃ t, Label.iLock t v ∈ l :: ls := fun h =>
      (ih h).imp fun _ h => List.mem_cons_of_mem _ h
    cases l with
    | iLock t w =>
      rcases List.mem_cons.mp h with e | h
      · exact ⟨t, by rw [e]; exact List.mem_cons_self⟩
      · exact next h
    | _ => exact next h

theorem run_hist_sub {ls : List Label} {s s' : S} (h : run s ls = some s') (M : Mutex s) {v : Nat} (hv : v ∈ s'.hist) :
    v ∈ s.hist ++ pending s ∨ ∃ t, Label.iLock t v ∈ ls := by
  have e : v ∈ s'.hist ++ pending s' := List.mem_append_left _ hv
  rw [run_rep h M] at e
  exact (List.mem_append.mp e).imp_right mem_lockArgs

def lastFlagWrite : List Label → Option Bool
  | [] => none
  | l :: ls =>
    match lastFlagWrite ls with
    | some b => some b
    | none => flagWrite l

theorem run_flag {ls : List Label} : ∀ {s s' : S}, run s ls = some s' → s'.flag = (lastFlagWrite ls).getD s.flag := by
  induction ls with
  | nil => intro s s' h; simp [run] at h; subst h; rfl
  | cons l ls ih =>
    intro s s' h
    obtain ⟨s1, hs, h⟩ := run_cons_some h
    have a := step_flag hs
    have b := ih h
    simp only [lastFlagWrite]
    cases hl : lastFlagWrite ls with
    | some v => rw [hl] at b; simpa using b
    | none => rw [hl] at b; simp only [Option.getD_none] at b; rw [b, a]

end GojaModel.C15.Conc
