/-
  C15 — sequential part of model `Intr`: what the RUNNER goroutine does with the interrupt flag.

  Mechanism modelled (all in /repo):
    vm.go:618  run()             every loop iteration polls `interrupted` BEFORE the halt test and before
                                 executing one instruction; if set: lock, read interruptVal, unlock, panic(*InterruptedError)
    vm.go:828  handleThrow(arg)  ex == nil for an uncatchable payload: every try frame that is not a
                                 tryPanicMarker frame is popped without running catch or finally; at the first marker
                                 frame the call stack is truncated to tf.callStackLen and the payload is re-panicked
    vm.go:896  try / 910 runTry / func.go:408 __call     marker frame pushed, `defer vm.popTryFrame()`
    func.go:779 generator.enter / enterNext            pushCtx, marker frame, extra frame; the callers' popTryFrame()/popCtx()
                                 are not deferred, but generator.step (func.go:834, fix e8f901b) drops, on the panic path,
                                 the activation's try frames down to and including its marker (tryStack[:tryStackLen-1]);
                                 the context pushed by enter() is left to the enclosing frame's handleThrow (`gen` frames below)
    vm.go handleThrow → _restoreStacks(…, ex != nil)   (fix 5d979ec) iterators are NOT closed when the payload is uncatchable
    runtime.go:1485 RunProgram / 2562 runWrapped         recover: uncatchable → err; `len(callStack)==0` → leaveAbrupt()
    runtime.go leave (double-buffered job loop) / leaveAbrupt (jobQueue = nil; ClearInterrupt(); vm.prg = nil; vm.sb = -1)
    runtime.go Runtime.Try (fix 9e5aa04): an uncatchable passing through at depth 0 runs leaveAbrupt, then re-panics

  Programs are structured abstract scripts; the Go harness renders the same program to JavaScript.
  Core Lean only.
-/
import GojaModel.C15.Conc

namespace GojaModel.C15
open GojaModel.C15.Conc (Label)

/-- Abstract script statements (prefix syntax in the line protocol, see `Driver.lean`). -/
inductive Stmt where
  | log (n : Nat)                                   -- `L n`   ev(n)
  | probe                                           -- `P`     native probe(); the k-th one calls Interrupt(v)
  | throw                                           -- `T`     throw new Error
  | loop (n : Nat) (body : List Stmt)               -- `W n (body)`
  | tryc (hasCatch hasFin : Bool) (body cat fin : List Stmt)     -- `Y c f (body) (catch) (finally)`
  | native (gen swIntr swThrow : Bool) (reps : Nat) (body : List Stmt)
      -- a built-in / Go function that re-enters the VM `reps` times, each time running `body` in a nested run loop
  | enqueue (job : List Stmt)                       -- `Q (job)`  Promise.resolve().then(job)
  | forOf (n : Nat) (brk : Bool) (next body ret : List Stmt)     -- `F n brk (next) (body) (return)`
  | asyncResume (body : List Stmt)
      -- asyncRunner.onFulfilled / onRejected (func.go): vm.curAsyncRunner = ar; defer { vm.curAsyncRunner = nil };
      -- ar.gen.next(arg) — the continuation of an async function after an await, run as a promise job

inductive Ev where
  | n (k : Nat)
  | p
  deriving DecidableEq, Repr

inductive Outcome where
  | normal
  | thrown
  | intr (v : Nat)
  | oof                      -- model ran out of fuel (never reported as a prediction)
  deriving DecidableEq, Repr

/-- tryFrame (vm.go:47): only the fields that decide unwinding. `catchPos = -2` is tryPanicMarker. -/
structure TF where
  csLen : Nat
  catchPos : Int
  finallyPos : Int
  deriving DecidableEq, Repr

def tryPanicMarker : Int := -2

/-- vm.go:844 — the condition under which handleThrow pops a frame and continues (`exNil` ⇔ `ex == nil`).
    Regenerated from the source and compared in Tie.lean. -/
def skipFrame (catchPos finallyPos : Int) (exNil : Bool) : Bool :=
  (catchPos == -1 && finallyPos == -1) || (exNil && catchPos != tryPanicMarker)

/-- What handleThrow does with the frame on top of the try stack (vm.go:843–880). -/
inductive FrameAction where
  | skip          -- popTryFrame; continue
  | stop          -- marker frame: break (caller re-panics / returns ex)
  | toCatch       -- vm.pc = catchPos
  | toFinally     -- vm.pc = finallyPos
  deriving DecidableEq, Repr

def frameAction (tf : TF) (exNil : Bool) : FrameAction :=
  if skipFrame tf.catchPos tf.finallyPos exNil then .skip
  else if tf.catchPos == tryPanicMarker then .stop
  else if tf.catchPos ≥ 0 then .toCatch
  else if tf.finallyPos ≥ 0 then .toFinally
  else .skip

/-- Result of a whole handleThrow pass. -/
inductive Unwound where
  | resumed (catch_ : Bool) (ts : List TF) (cs : Nat)   -- script code resumes in a catch (true) or finally (false) block
  | propagate (ts : List TF) (cs : Nat)                 -- nothing handled it here: re-panic (ex = nil) / return ex
  deriving DecidableEq, Repr

def truncCs (tf : TF) (cs : Nat) : Nat := if tf.csLen < cs then tf.csLen else cs

/-- handleThrow, vm.go:828–886, on the try stack (top = head) and the call-stack length. -/
def handleThrow (exNil : Bool) : List TF → Nat → Unwound
  | [], cs => .propagate [] cs
  | tf :: rest, cs =>
    match frameAction tf exNil with
    | .skip => handleThrow exNil rest cs
    | .stop => .propagate (tf :: rest) (truncCs tf cs)
    | .toCatch => .resumed true (tf :: rest) (truncCs tf cs)
    | .toFinally => .resumed false (tf :: rest) (truncCs tf cs)

/-- The pass for an uncatchable payload, as a function to (try stack, call-stack length). -/
def unwindNone (ts : List TF) (cs : Nat) : List TF × Nat :=
  match handleThrow true ts cs with
  | .resumed _ ts' cs' => (ts', cs')      -- unreachable (theorem handleThrow_none_propagates)
  | .propagate ts' cs' => (ts', cs')

def markerTF (csLen : Nat) : TF := ⟨csLen, tryPanicMarker, -1⟩
def handlerTF (csLen : Nat) (hasCatch hasFin : Bool) : TF :=
  ⟨csLen, if hasCatch then 1 else -1, if hasFin then 1 else -1⟩

/-- Runner-side state. -/
structure St where
  flag : Bool := false            -- vm.interrupted
  val : Nat := 0                  -- vm.interruptVal
  log : List Ev := []             -- observable events (ev(n) / probe())
  probes : Nat := 0
  queue : List (List Stmt) := []  -- r.jobQueue
  cs : Nat := 0                   -- len(vm.callStack)
  ts : List TF := []              -- vm.tryStack, top first
  car : Bool := false             -- vm.curAsyncRunner != nil (vm.go captureStack appends the awaiting async frames iff set)
  execs : Nat := 0                -- ghost: statements executed (polls passed)
  polls : Nat := 0                -- ghost: polls of the interrupt flag performed so far
  frozen : List Ev := []          -- ghost: the event log at the instant Interrupt(v) was called
  tr : List Label := []           -- ghost: the actions of the interleaving model `Conc` this run has performed so far

/-- k-th probe interrupts with value v (k = 0: never); `ext = some n`: another goroutine's Interrupt(v) completes
    just before the runner's poll number n (any poll point, not only probes). -/
structure Cfg where
  k : Nat
  v : Nat
  ext : Option Nat := none

def emit (ls : List Label) (st : St) : St := { st with tr := st.tr ++ ls }

/-- the four atomic actions of vm.Interrupt(v) performed by goroutine t (vm.go Interrupt) -/
def interruptLabels (t v : Nat) : List Label := [.iLock t v, .iWrite t, .iStore t, .iUnlock t]

def doProbe (c : Cfg) (st : St) : St :=
  let st1 := { st with log := st.log ++ [Ev.p], probes := st.probes + 1 }
  if c.k ≠ 0 ∧ st1.probes = c.k then
    -- the runner goroutine itself (t = 0) calls Interrupt(v) from inside the native probe()
    emit (interruptLabels 0 c.v) { st1 with flag := true, val := c.v, frozen := st1.log }
  else st1

/-- What has happened in the shared cells by the time of the runner's next poll. -/
def pollStep (c : Cfg) (st : St) : St :=
  let st1 := { st with polls := st.polls + 1 }
  if st.flag = false ∧ c.ext = some st.polls then
    emit (interruptLabels 1 c.v) { st1 with flag := true, val := c.v, frozen := st.log }
  else st1

/-- the poll saw 1: leave the loop, Lock, read interruptVal, Unlock, panic (vm.go run) -/
def raise (st : St) : St := emit [.rPoll, .rLock, .rRead, .rUnlock] st
/-- the poll saw 0 -/
def pass (st : St) : St := emit [.rPoll] { st with execs := st.execs + 1 }
/-- the instruction itself -/
def instr (st : St) : St := emit [.rInstr false] st

/-- Entering a native frame that re-enters the VM.  `gen` = generator.enter/enterNext (pushCtx, marker, extra
    frame); otherwise __call / vm.try / runTry (marker, then one context). -/
def enterFrame (gen : Bool) (st : St) : St :=
  if gen then { st with cs := st.cs + 2, ts := markerTF (st.cs + 1) :: st.ts }
  else { st with cs := st.cs + 1, ts := markerTF st.cs :: st.ts }

def Outcome.isAbort : Outcome → Bool
  | .intr _ => true
  | .oof => true
  | _ => false

mutual
/-- One statement = poll, then execute (vm.go run loop). -/
def exec : Nat → Cfg → Stmt → St → Outcome × St
  | 0, _, _, st => (.oof, st)
  | fuel + 1, c, s, st =>
    let st := pollStep c st
    if st.flag then (.intr st.val, raise st) else
    let st := pass st
    match s with
    | .log n => (.normal, instr { st with log := st.log ++ [Ev.n n] })
    | .probe => (.normal, instr (doProbe c st))
    | .throw => (.thrown, instr st)
    | .enqueue job => (.normal, instr { st with queue := st.queue ++ [job] })
    | .loop n body => execLoop fuel c n body (instr st)
    | .native g swI swT reps body => execNative fuel c g swI swT reps body (instr st)
    | .forOf n brk next body ret => execForOf fuel c 0 n brk next body ret (instr st)
    | .asyncResume body =>
      let r := execFrame fuel c true false true body { instr st with car := true }
      (r.1, { r.2 with car := false })          -- the reset is deferred: it runs on every way out
    | .tryc hc hf body cat fin =>
      let st := instr st
      let r1 := execBlock fuel c body { st with ts := handlerTF st.cs hc hf :: st.ts }
      -- uncatchable: no Go frame here; the try frame stays for the enclosing handleThrow, which skips it
      if r1.1.isAbort then r1 else
      let st1 := { r1.2 with ts := st.ts, cs := st.cs }
      let r2 := if r1.1 = .thrown ∧ hc = true then execBlock fuel c cat st1 else (r1.1, st1)
      if r2.1.isAbort then r2 else
      if hf then
        -- enterFinally clears catchPos (fix 379f30d): a throw from here is not caught by this statement
        let r3 := execBlock fuel c fin r2.2
        if r3.1 = .normal then (r2.1, r3.2) else r3
      else r2

/-- A block; the run loop polls once more after the last statement (there is always a following
    instruction: jump, ret, or the halt test which comes after the poll). -/
def execBlock : Nat → Cfg → List Stmt → St → Outcome × St
  | 0, _, _, st => (.oof, st)
  | _ + 1, c, [], st =>
    let st := pollStep c st
    if st.flag then (.intr st.val, raise st) else (.normal, emit [.rPoll, .rCtl] st)
  | fuel + 1, c, s :: rest, st =>
    let r := exec fuel c s st
    if r.1 = .normal then execBlock fuel c rest r.2 else r

def execLoop : Nat → Cfg → Nat → List Stmt → St → Outcome × St
  | 0, _, _, _, st => (.oof, st)
  | _ + 1, _, 0, _, st => (.normal, st)
  | fuel + 1, c, n + 1, body, st =>
    let r := execBlock fuel c body st
    if r.1 = .normal then execLoop fuel c n body r.2 else r

/-- A native frame that re-enters the VM: nested run loop over `body`. -/
def execFrame : Nat → Cfg → Bool → Bool → Bool → List Stmt → St → Outcome × St
  | 0, _, _, _, _, _, st => (.oof, st)
  | fuel + 1, c, g, swI, swT, body, st =>
    let r := execBlock fuel c body (enterFrame g st)
    match r.1 with
    | .normal => (.normal, { r.2 with ts := st.ts, cs := st.cs })
    | .thrown => (if swT then .normal else .thrown, { r.2 with ts := st.ts, cs := st.cs })
    | .oof => r
    | .intr v =>
      -- the frame's own recover runs handleThrow(ex = nil) and re-panics
      let u := unwindNone r.2.ts r.2.cs
      if g then
        -- generator.step: tryStack = tryStack[:tryStackLen-1]; popCtx() is skipped; generator.next re-panics always
        (.intr v, { r.2 with ts := st.ts, cs := u.2 })
      else if swI then (.normal, emit [.rCtl] { r.2 with ts := u.1.tail, cs := u.2 })   -- deferred pop; Go caller ignores err
      else (.intr v, { r.2 with ts := u.1.tail, cs := u.2 })

def execNative : Nat → Cfg → Bool → Bool → Bool → Nat → List Stmt → St → Outcome × St
  | 0, _, _, _, _, _, _, st => (.oof, st)
  | _ + 1, _, _, _, _, 0, _, st => (.normal, st)
  | fuel + 1, c, g, swI, swT, reps + 1, body, st =>
    let r := execFrame fuel c g swI swT body st
    if r.1 = .normal then execNative fuel c g swI swT reps body r.2 else r

def execForOf : Nat → Cfg → Nat → Nat → Bool → List Stmt → List Stmt → List Stmt → St → Outcome × St
  | 0, _, _, _, _, _, _, _, st => (.oof, st)
  | fuel + 1, c, i, n, brk, next, body, ret, st =>
    let r1 := execFrame fuel c false false false next st
    if r1.1 = .normal then
      if i < n then
        let r2 := execBlock fuel c body r1.2
        if r2.1 = .normal then
          if brk then execFrame fuel c false false false ret r2.2
          else execForOf fuel c (i + 1) n brk next body ret r2.2
        else if r2.1 = .thrown then
          -- ex != nil: _restoreStacks closes the iterator; its own exception is dropped, an uncatchable one is not
          let r3 := execFrame fuel c false false false ret r2.2
          if r3.1.isAbort then r3 else (.thrown, r3.2)
        else r2       -- uncatchable: iterators are NOT closed (fix 5d979ec)
      else r1
    else r1
end

/-- runtime.go leave(): `for len(q)>0 { jobs, q = q, jobs[:0]; for job in jobs { job() } }`.
    `batch` is the local slice; it is lost when a job panics. -/
def runJobs : Nat → Cfg → List (List Stmt) → St → Outcome × St
  | 0, _, _, st => (.oof, st)
  | fuel + 1, c, [], st =>
    match st.queue with
    | [] => (.normal, st)
    | j :: q => runJobs fuel c (j :: q) { st with queue := [] }
  | fuel + 1, c, job :: batch, st =>
    let r := execFrame fuel c false false true job st
    if r.1 = .normal then runJobs fuel c batch r.2 else r

/-- runtime.go leaveAbrupt -/
def leaveAbrupt (st : St) : St := { st with queue := [], flag := false }

/-- The deferred function of RunProgram / runWrapped / Runtime.Try after an uncatchable error. -/
def apiRecover (v : Nat) (st : St) : Outcome × St :=
  if st.cs = 0 then (.intr v, emit [.rReturn] (leaveAbrupt st)) else (.intr v, st)

/-- An outermost-or-nested API call (RunProgram or a Callable): context + marker frame, run, leave.
    `jobs = false`: Runtime.Try, which does not call leave() (queued jobs stay for the next call). -/
def apiCallJ (jobs : Bool) (fuel : Nat) (c : Cfg) (prog : List Stmt) (st : St) : Outcome × St :=
  let r := execBlock fuel c prog (emit [.rCall] { st with cs := st.cs + 1, ts := markerTF (st.cs + 1) :: st.ts })
  match r.1 with
  | .oof => r
  | .intr v =>
    let u := unwindNone r.2.ts r.2.cs
    apiRecover v { r.2 with ts := u.1.tail, cs := u.2 - 1 }
  | o =>
    let st2 := { r.2 with ts := st.ts, cs := st.cs }
    if st.cs = 0 ∧ jobs = true then
      let rj := runJobs fuel c [] st2
      match rj.1 with
      | .intr v => apiRecover v rj.2
      | .oof => rj
      | _ => (o, emit [.rExit] rj.2)
    else (o, if st.cs = 0 then emit [.rExit] st2 else st2)

def apiCall := apiCallJ true

def nKinds : Nat := 21

/-- Harness kinds of `N kind reps (body)` → (gen, swallowInterrupt, swallowThrow). Kind 3 is a generator
    body; 6 and 7 are Go functions that ignore the error of the nested call; 13–18 are Go host functions that pass the
    nested call's error on WRAPPED (fmt.Errorf %w, errors.Join, both nested, or returned from a reflected func): a
    wrapper is still uncatchable (isUncatchableException uses errors.As) and errors.As still reaches the value, so
    for the model they are plain propagating frames. -/
def kindAttrs (kind : Nat) : Bool × Bool × Bool :=
  match kind % nKinds with
  | 3 => (true, false, false)
  | 6 => (false, true, true)
  | 7 => (false, true, true)
  -- 19/20: a Go function calls Error()/String() on the *Exception a callback threw; the thrown object's toString() is the
  -- body.  Exception.valueString (runtime.go) recovers an uncatchable raised in there and, NESTED (call stack not
  -- empty), does nothing else: the flag stays set and the outer run loop raises at its next poll.
  | 19 => (false, true, true)
  | 20 => (false, true, true)
  | _ => (false, false, false)

/-- OLD mechanism (before fix e8f901b), kept only for the regression lemmas `…_prefix_witness`: a generator frame
    did not pop its marker on the panic path. -/
def unwindFrameOld (leaky : Bool) (st : St) : St :=
  let r := unwindNone st.ts st.cs
  if leaky then { st with ts := r.1, cs := r.2 } else { st with ts := r.1.tail, cs := r.2 }

/-- OLD shape of asyncRunner.onFulfilled (red-team m4), kept only for a regression lemma: the reset of
    vm.curAsyncRunner is a plain statement after gen.next(), so a panic skips it. -/
def asyncResumeNoDefer (r : Outcome × St) : Outcome × St :=
  match r.1 with
  | .intr _ => r
  | _ => (r.1, { r.2 with car := false })

end GojaModel.C15
